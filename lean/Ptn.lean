import Ptn.Common.Analysis
import Ptn.C01.Props
import Ptn.C01.Driver
import Ptn.C02.Props
import Ptn.C02.Driver
import Ptn.C03.Props
import Ptn.C03.Driver
import Ptn.C04.Props
import Ptn.C04.Driver
import Ptn.C05.Props
import Ptn.C05.Driver
import Ptn.C06.Props
import Ptn.C06.Driver
import Ptn.C07.Props
import Ptn.C07.Driver
import Ptn.C08.Props
import Ptn.C08.Driver
import Ptn.C09.Props
import Ptn.C09.Driver
import Ptn.C10.Props
import Ptn.C10.Driver
import Ptn.C11.Props
import Ptn.C11.Driver
import Ptn.C12.Props
import Ptn.C12.Driver
import Ptn.C13.Props
import Ptn.C13.Driver
import Ptn.C14.Props
import Ptn.C14.Driver
import Ptn.C15.Props
import Ptn.C15.Driver
import Ptn.C16.Props
import Ptn.C16.Driver
import Ptn.C17.Props
import Ptn.C17.Driver
import Ptn.C18.Props
import Ptn.C18.Driver
import Ptn.C19.Props
import Ptn.C19.Driver
import Ptn.C20.Props
import Ptn.C20.Driver
/-! Root of the library: per property the theorems (`Props`) and the driver.  `Ptn.Common.Analysis` is imported so that
the theorems of `Ptn/Common/Analysis*.lean` that no property imports are built and checked as well. -/
