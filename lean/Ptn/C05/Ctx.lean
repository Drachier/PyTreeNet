import Ptn.C04.GraphSO
import Ptn.C05.HeffModel
/-! The parent-direction environment block.  `Ctx` is the part of a tree above a hole (a path of frames up to the root:
parent, left siblings, right siblings).  The cached block from the parent `p` toward the hole `i` is the sandwich of the
COMPLEMENT of the hole's subtree; the code (`update_tree_cache(p, i)` / `contract_any(p, i, …)`, C04
`opContractAnyNodeEnvironmentButOne` with `next = i`) contracts `p`'s three tensors with the leaf-to-root blocks of `p`'s
other children and the block from `p`'s own parent, built the same way one level higher.  `Ctx.blockBinds` is the record
defined by that recursion; the model returns it and it is the sandwich record of the component behind `p`. -/
namespace Ptn.C05.Heff
open Ptn.C04 Ptn.Ein

theorem idsL_insert_perm (ls rs : List Tree) (t : Tree) :
    (Tree.idsL (ls ++ t :: rs)).Perm (Tree.idsL (ls ++ rs) ++ t.ids) := by
  rw [Tree.idsL_append, Tree.idsL_append]
  simp only [Tree.idsL]
  rw [List.append_assoc]
  exact List.Perm.append_left _ List.perm_append_comm

theorem edgesL_insert_perm (p : Nat) (ls rs : List Tree) (t : Tree) :
    (Tree.edgesL p (ls ++ t :: rs)).Perm ((p, t.id) :: (Tree.edgesL p (ls ++ rs) ++ t.edges)) := by
  refine (edgesL_perm p _).trans ?_
  refine List.Perm.trans ?_ ((List.Perm.append_right _ (edgesL_perm p (ls ++ rs)).symm).cons _)
  rw [List.perm_iff_count]
  intro x
  simp only [List.map_append, List.map_cons, List.flatMap_append, List.flatMap_cons, List.count_append,
    List.count_cons]
  omega

/-- the part of a tree above a hole: `frame p ls rs up` — the hole is the child of `p` between the subtrees `ls` and
`rs`, and `up` is what lies above `p` -/
inductive Ctx where
  | root
  | frame (p : Nat) (ls rs : List Tree) (up : Ctx)

namespace Ctx

/-- the parent of the hole -/
def parent : Ctx → Option Nat
  | root => none
  | frame p _ _ _ => some p

/-- the whole tree, with `t` in the hole -/
def plug : Ctx → Tree → Tree
  | root, t => t
  | frame p ls rs up, t => up.plug (Tree.node p (ls ++ t :: rs))

/-- the identifiers of the component above the hole (everything but the subtree in the hole) -/
def ids : Ctx → List Nat
  | root => []
  | frame p ls rs up => p :: (Tree.idsL (ls ++ rs) ++ up.ids)

/-- the edges `(parent, child)` inside the component above the hole -/
def compEdges : Ctx → List (Nat × Nat)
  | root => []
  | frame p ls rs up => Tree.edgesL p (ls ++ rs) ++ (up.parent.toList.map (fun q => (q, p)) ++ up.compEdges)

/-- all edges of the tree outside the subtree in the hole `h`: the edge to the hole, then the component's -/
def edges (c : Ctx) (h : Nat) : List (Nat × Nat) := c.parent.toList.map (fun p => (p, h)) ++ c.compEdges

/-- the record of the block from the parent toward the hole, as the model builds it: the parent's neighbours other
than the hole are its own parent (block: one level higher) and the siblings `ls ++ rs` (blocks: `soBlockBinds`), in
the parent's neighbour order -/
def blockBinds : Ctx → List (Leg × Leg)
  | root => []
  | frame p ls rs up =>
    ((up.parent.toList ++ (ls ++ rs).map Tree.id).flatMap
        (fun n => (if up.parent = some n then blockBinds up else soBbOf (ls ++ rs) n) ++ [(Leg.gKet p n, Leg.gKet n p)]) ++
      ((up.parent.toList ++ (ls ++ rs).map Tree.id).map (fun n => (Leg.gOp n p, Leg.gOp p n)) ++ [physIn p])) ++
    ((up.parent.toList ++ (ls ++ rs).map Tree.id).map (fun n => (Leg.gBra n p, Leg.gBra p n)) ++ [physOut p])

/-- the sandwich record of the component above the hole -/
def compSpec (c : Ctx) : List (Leg × Leg) :=
  c.ids.map physOut ++ (c.ids.map physIn ++ ((c.compEdges.map fun e => ketEdge e.1 e.2) ++
    ((c.compEdges.map fun e => opEdge e.1 e.2) ++ (c.compEdges.map fun e => braEdge e.1 e.2))))

/-- structural form of the record (distinct identifiers) -/
theorem blockBinds_frame (p : Nat) (ls rs : List Tree) (up : Ctx) (hk : ((ls ++ rs).map Tree.id).Nodup)
    (hq : ∀ q, up.parent = some q → q ∉ (ls ++ rs).map Tree.id) :
    blockBinds (frame p ls rs up) =
      (((up.blockBinds ++ up.parent.toList.map (fun q => (ketEdge q p).swap)) ++ soKidsBinds p (ls ++ rs)) ++
        ((up.parent.toList.map (fun q => (opEdge q p).swap) ++ (ls ++ rs).map (fun c => opEdge p c.id)) ++
          [physIn p])) ++
      ((up.parent.toList.map (fun q => (braEdge q p).swap) ++ (ls ++ rs).map (fun c => braEdge p c.id)) ++
        [physOut p]) := by
  simp only [blockBinds]
  generalize ls ++ rs = sibs at *
  have hkids : (sibs.map Tree.id).flatMap
      (fun n => (if up.parent = some n then blockBinds up else soBbOf sibs n) ++ [(Leg.gKet p n, Leg.gKet n p)])
      = soKidsBinds p sibs := by
    rw [← soKidsBinds_eq p sibs hk]
    apply flatMap_congr
    intro n hn
    have : ¬ up.parent = some n := fun h => hq n h hn
    simp [this, ketEdge]
  have hpar : up.parent.toList.flatMap
      (fun n => (if up.parent = some n then blockBinds up else soBbOf sibs n) ++ [(Leg.gKet p n, Leg.gKet n p)])
      = up.blockBinds ++ up.parent.toList.map (fun q => (ketEdge q p).swap) := by
    cases up with
    | root => simp [parent, blockBinds]
    | frame q ls' rs' up' => simp [parent, ketEdge]
  have hop : up.parent.toList.map (fun n => (Leg.gOp n p, Leg.gOp p n)) =
      up.parent.toList.map (fun q => (opEdge q p).swap) := by
    apply List.map_congr_left; intro q _; rfl
  have hbra : up.parent.toList.map (fun n => (Leg.gBra n p, Leg.gBra p n)) =
      up.parent.toList.map (fun q => (braEdge q p).swap) := by
    apply List.map_congr_left; intro q _; rfl
  rw [List.flatMap_append, List.map_append, List.map_append, hkids, hpar, hop, hbra, List.map_map, List.map_map]
  rfl

theorem parent_mem_ids {c : Ctx} {q : Nat} (h : c.parent = some q) : q ∈ c.ids := by
  cases c with
  | root => simp [parent] at h
  | frame p ls rs up =>
    simp only [parent, Option.some.injEq] at h
    subst h
    simp [ids]

theorem ids_of_root {c : Ctx} (h : c.parent = none) : c.ids = [] := by
  cases c with
  | root => rfl
  | frame p ls rs up => simp [parent] at h

theorem compEdges_of_root {c : Ctx} (h : c.parent = none) : c.compEdges = [] := by
  cases c with
  | root => rfl
  | frame p ls rs up => simp [parent] at h

/-- the record of the parent-direction block and the sandwich record of the component contain every unordered pair
equally often -/
theorem ucount_blockBinds : ∀ (c : Ctx), c.ids.Nodup → ∀ x : Leg × Leg,
    (unordL c.blockBinds).count x = (unordL c.compSpec).count x
  | root, _, x => rfl
  | frame p ls rs up, hnd, x => by
    simp only [ids, List.nodup_cons, List.nodup_append] at hnd
    have hk : ((ls ++ rs).map Tree.id).Nodup := Tree.nodup_kid_ids _ hnd.2.1
    have hq : ∀ q, up.parent = some q → q ∉ (ls ++ rs).map Tree.id := fun q hq hm =>
      hnd.2.2.2 q (Tree.kid_id_mem _ q hm) q (parent_mem_ids hq) rfl
    rw [blockBinds_frame p ls rs up hk hq]
    have ih := ucount_blockBinds up hnd.2.2.1 x
    -- the blocks of the siblings carry the sandwich records of their subtrees
    have h1 : (unordL (soKidsBinds p (ls ++ rs))).count x + (unordL ((ls ++ rs).map fun c => opEdge p c.id)).count x +
        (unordL ((ls ++ rs).map fun c => braEdge p c.id)).count x =
        (unordL ((Tree.idsL (ls ++ rs)).map physOut)).count x + (unordL ((Tree.idsL (ls ++ rs)).map physIn)).count x +
        (unordL ((Tree.edgesL p (ls ++ rs)).map fun e => ketEdge e.1 e.2)).count x +
        (unordL ((Tree.edgesL p (ls ++ rs)).map fun e => opEdge e.1 e.2)).count x +
        (unordL ((Tree.edgesL p (ls ++ rs)).map fun e => braEdge e.1 e.2)).count x := by
      simp only [count_unordL]
      have a := count_soKidsBinds x p (ls ++ rs)
      have a' := count_soKidsBinds x.swap p (ls ++ rs)
      have b := count_soSpecL_split x p (ls ++ rs)
      have b' := count_soSpecL_split x.swap p (ls ++ rs)
      omega
    simp only [compSpec, ids, compEdges] at ih ⊢
    generalize ls ++ rs = sibs at *
    simp only [List.map_append, List.map_cons, List.map_map, Function.comp_def, ucount_append, ucount_cons, ucount_nil,
      ucount_map_swap] at ih ⊢
    omega

/-- **The parent-direction block carries the sandwich record of the component behind the parent.**  For every
context with pairwise distinct identifiers — a parent at any depth, any numbers of siblings and ancestors — the record
of the block from the parent toward the hole, built as the model builds it (the parent's three tensors, the
leaf-to-root blocks of the siblings, and the block from the grandparent built the same way), is, as a multiset of
unordered pairs, the sandwich record of the component: the physical pairs of all nodes outside the hole's subtree
and the ket / operator / bra bonds of all edges among them.  Induction over the distance from the hole. -/
theorem block_record_is_component_sandwich (c : Ctx) (hnd : c.ids.Nodup) :
    (unordL c.blockBinds).Perm (unordL c.compSpec) := by
  rw [List.perm_iff_count]
  exact ucount_blockBinds c hnd

theorem plug_ids_perm : ∀ (c : Ctx) (t : Tree), (c.plug t).ids.Perm (c.ids ++ t.ids)
  | root, t => by simp [plug, ids]
  | frame p ls rs up, t => by
    refine (plug_ids_perm up _).trans ?_
    simp only [ids, Tree.ids]
    refine List.perm_append_comm.trans ?_
    simp only [List.cons_append]
    refine List.Perm.cons _ ?_
    refine (List.Perm.append_right _ (idsL_insert_perm ls rs t)).trans ?_
    rw [List.append_assoc, List.append_assoc]
    exact List.Perm.append_left _ List.perm_append_comm

theorem plug_edges_perm : ∀ (c : Ctx) (t : Tree), (c.plug t).edges.Perm (c.edges t.id ++ t.edges)
  | root, t => by simp [plug, edges, compEdges, parent]
  | frame p ls rs up, t => by
    refine (plug_edges_perm up _).trans ?_
    have h := edgesL_insert_perm p ls rs t
    have hid : (Tree.node p (ls ++ t :: rs)).id = p := rfl
    simp only [edges, compEdges, parent, Tree.edges, hid, Option.toList_some, List.map_cons, List.map_nil]
    refine (List.Perm.append_left _ h).trans ?_
    rw [List.perm_iff_count]
    intro x
    simp only [List.count_append, List.count_cons, List.count_nil]
    omega

/-- `c` with `top` put above its topmost frame -/
def atop : Ctx → Ctx → Ctx
  | root, top => top
  | frame p ls rs up, top => frame p ls rs (atop up top)

theorem plug_atop : ∀ (c top : Ctx) (t : Tree), (atop c top).plug t = top.plug (c.plug t)
  | root, _, _ => rfl
  | frame p ls rs up, top, t => by simp only [atop, plug]; exact plug_atop up top _

/-- **every site of every tree** is a hole of a context: the tree is the context with the site's subtree plugged in -/
theorem exists_ctx : ∀ (t : Tree) (i : Nat), i ∈ t.ids → ∃ (c : Ctx) (ks : List Tree), t = c.plug (Tree.node i ks)
  | t, i => by
    induction t using Tree.induct with
    | node r kids ih =>
      intro h
      by_cases hir : i = r
      · subst hir; exact ⟨root, kids, rfl⟩
      · rw [Tree.ids, Tree.idsL_eq, List.mem_cons, List.mem_flatMap] at h
        obtain ⟨k, hk, hik⟩ := h.resolve_left hir
        obtain ⟨c, ks, hc⟩ := ih k hk hik
        obtain ⟨ls, rs, rfl⟩ := List.append_of_mem hk
        exact ⟨atop c (frame r ls rs root), ks, by rw [plug_atop, ← hc]; rfl⟩

theorem frame_nbrs_filter (up : Ctx) (ls rs : List Tree) (i : Nat)
    (hnd : (up.parent.toList ++ (ls.map Tree.id ++ i :: rs.map Tree.id)).Nodup) :
    (Node.mk up.parent (ls.map Tree.id ++ i :: rs.map Tree.id)).nbrs.filter (· ≠ i) =
      up.parent.toList ++ (ls ++ rs).map Tree.id := by
  have hnd' : ((up.parent.toList ++ ls.map Tree.id) ++ i :: rs.map Tree.id).Nodup := by
    rw [List.append_assoc]; exact hnd
  have hA : i ∉ up.parent.toList ++ ls.map Tree.id := fun h =>
    (List.nodup_append.1 hnd').2.2 i h i (by simp) rfl
  have hB : i ∉ rs.map Tree.id := (List.nodup_cons.1 (List.nodup_append.1 hnd').2.1).1
  have := filter_ne_mid (up.parent.toList ++ ls.map Tree.id) (rs.map Tree.id) i hA hB
  simp only [Node.nbrs, List.map_append]
  rw [← List.append_assoc, this, List.append_assoc]

/-- **The model builds the parent-direction block with the record `blockBinds`.**  `p` has the parent `up.parent`
(if any) and the children `ls, i, rs` (state node) / `opKids` (operator node, any order).  If the cache of `p` holds,
for `p`'s own parent, a block with the record of one level higher and, for the siblings of `i`, the leaf-to-root
blocks `soKidBlock`, then `contract_any(p, i, …)` — `opContractAnyNodeEnvironmentButOne` with `next = i` — returns
the block `(ket, operator, bra leg of p toward i)` with the record `(frame p ls rs up).blockBinds`. -/
theorem ctx_block_is_model (p i : Nat) (ls rs : List Tree) (up : Ctx) (opKids : List Nat) (cache : Cache)
    (hnd : (up.parent.toList ++ (ls.map Tree.id ++ i :: rs.map Tree.id)).Nodup)
    (hperm : opKids.Perm (ls.map Tree.id ++ i :: rs.map Tree.id))
    (hup : ∀ q, up.parent = some q → cache q = some (gBlock q p up.blockBinds))
    (hkids : ∀ n ∈ (ls ++ rs).map Tree.id, cache n = soKidBlock (ls ++ rs) p (n, p)) :
    opContractAnyNodeEnvironmentButOne i ⟨up.parent, ls.map Tree.id ++ i :: rs.map Tree.id⟩
        (gKetT p ⟨up.parent, ls.map Tree.id ++ i :: rs.map Tree.id⟩) ⟨up.parent, opKids⟩
        (gOpT p ⟨up.parent, opKids⟩) cache ⟨up.parent, ls.map Tree.id ++ i :: rs.map Tree.id⟩
        (gBraT p ⟨up.parent, ls.map Tree.id ++ i :: rs.map Tree.id⟩) id id =
      some (gBlock p i (frame p ls rs up).blockBinds) := by
  have hfilter := frame_nbrs_filter up ls rs i hnd
  have hpermN : (Node.mk up.parent opKids).nbrs.Perm
      ((Node.mk up.parent (ls.map Tree.id ++ i :: rs.map Tree.id)).nbrs.map id) := by
    simp only [Node.nbrs, List.map_id]
    exact List.Perm.append_left _ hperm
  have hK : (Node.mk up.parent (ls.map Tree.id ++ i :: rs.map Tree.id)).nbrs.Nodup := hnd
  have hO : (Node.mk up.parent opKids).nbrs.Nodup := by
    have := hpermN
    simp only [List.map_id] at this
    exact this.nodup_iff.2 hK
  -- C04's theorem about `contract_any` with, as record of the block from neighbour `n`, that of the level above for
  -- `p`'s parent and the leaf-to-root record for a sibling; operator and bra node carry the state's identifiers (`id id`)
  have hany := op_any_general (Leg.gKet p) (Leg.gOp p) (Leg.gBra p) (fun n => Leg.gKet n p) (fun n => Leg.gOp n p)
    (fun n => Leg.gBra n p) (Leg.gKetPhys p) (Leg.gOpOut p) (Leg.gOpIn p) (Leg.gBraPhys p)
    (fun n => if up.parent = some n then up.blockBinds else soBbOf (ls ++ rs) n) cache
    ⟨up.parent, ls.map Tree.id ++ i :: rs.map Tree.id⟩ ⟨up.parent, opKids⟩
    ⟨up.parent, ls.map Tree.id ++ i :: rs.map Tree.id⟩ i id id hK hO hK (by simp [Node.nbrs]) hpermN
    (by simp) (by simp) (by simp)
    (fun n hn hne => by
      simp only [Node.nbrs, List.mem_append, Option.mem_toList] at hn
      rcases hn with hn | hn
      · rw [hup n hn, if_pos hn]; rfl
      · have hn' : n ∈ (ls ++ rs).map Tree.id := by
          simp only [List.mem_append, List.mem_cons, List.map_append] at hn ⊢
          rcases hn with hn | hn | hn
          · exact Or.inl hn
          · exact absurd hn hne
          · exact Or.inr hn
        have hq : ¬ up.parent = some n := by
          intro h
          have h1 : n ∈ up.parent.toList := by simp [h]
          have h2 : n ∈ ls.map Tree.id ++ i :: rs.map Tree.id := by
            simpa [List.mem_append] using hn
          exact (List.nodup_append.1 hnd).2.2 n h1 n h2 rfl
        rw [hkids n hn', soKidBlock_of_mem _ p n hn', if_neg hq])
  simp only [gKetT, gOpT, gBraT]
  rw [hany, hfilter]
  have hleaf : (Node.mk up.parent (ls.map Tree.id ++ i :: rs.map Tree.id)).isLeaf = false := by
    simp [Node.isLeaf]
  rw [hleaf]
  simp only [Bool.false_eq_true, if_false, id, gBlock, blockBinds, physIn, physOut]

end Ctx
end Ptn.C05.Heff
