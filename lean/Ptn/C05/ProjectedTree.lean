import Ptn.C04.GraphSO
import Ptn.C05.Projected
/-! From the record level to the tree level of `H_eff = E† H E`: what is read off the child subtrees (`ofKid`), the record
of the cached block of a child subtree (`soBlockBinds`, C04: the entries `soKidBlock` that the leaf-to-root loop leaves
in the dictionary) as the sandwich record of the subtree, and the transport `treeForm_of_recForm` from the conclusion of
the record-level theorems (`RecForm`) to that of the tree-level theorems (`TreeForm`: sums over the physical legs of a
list of distinct nodes). -/
namespace Ptn.C05.Heff
open Ptn.C04 Ptn.Ein

set_option linter.unusedSectionVars false
variable {R : Type} [CommSemiring R]

/-- `f` of the kid with identifier `n` (`[]` if there is none) -/
def ofKid {β : Type} (ts : List Tree) (f : Tree → List β) (n : Nat) : List β :=
  ((ts.find? (fun c => c.id == n)).map f).getD []

theorem soBbOf_eq_ofKid (ts : List Tree) (n : Nat) : soBbOf ts n = ofKid ts soBlockBinds n := rfl

theorem ofKid_of_mem {β : Type} (ts : List Tree) (n : Nat) (hn : n ∈ ts.map Tree.id) :
    ∃ c ∈ ts, c.id = n ∧ ∀ f : Tree → List β, ofKid ts f n = f c := by
  obtain ⟨c, hc, hcn⟩ := List.mem_map.1 hn
  have hsome : (ts.find? (fun c => c.id == n)).isSome := by
    rw [List.find?_isSome]; exact ⟨c, hc, by simp [hcn]⟩
  obtain ⟨c', hc'⟩ := Option.isSome_iff_exists.1 hsome
  have hid : c'.id = n := by simpa using List.find?_some hc'
  exact ⟨c', List.mem_of_find?_eq_some hc', hid, fun f => by simp [ofKid, hc']⟩

theorem flatMap_ofKid {β : Type} (f : Tree → List β) : ∀ ts : List Tree, (ts.map Tree.id).Nodup →
    (ts.map Tree.id).flatMap (ofKid ts f) = ts.flatMap f :=
  flatMap_kids f (fun _ l => l)

/-- the block of a child subtree carries, up to order, the sandwich record of the subtree -/
theorem soBlockBinds_perm_comp (c : Tree) :
    (soBlockBinds c).Perm (c.ids.map physOut ++ (c.ids.map physIn ++ ((c.edges.map fun e => ketEdge e.1 e.2) ++
      ((c.edges.map fun e => opEdge e.1 e.2) ++ (c.edges.map fun e => braEdge e.1 e.2))))) := by
  rw [List.perm_iff_count]
  intro x
  rw [count_soBlockBinds x c, count_soSpec_split x c]
  simp only [List.count_append]
  omega

theorem pairLegs_map_nodup (l : List Nat) (h : l.Nodup) (g : Nat → Leg × Leg)
    (h1 : ∀ x y, (g x).1 = (g y).1 → x = y) (h2 : ∀ x y, (g x).2 = (g y).2 → x = y)
    (h12 : ∀ x y, (g x).1 ≠ (g y).2) : (Expr.pairLegs (l.map g)).Nodup := by
  simp only [Expr.pairLegs, List.map_map, List.nodup_append]
  refine ⟨nodup_map_of_inj_on _ h fun x _ y _ e => h1 x y e, nodup_map_of_inj_on _ h fun x _ y _ e => h2 x y e, ?_⟩
  intro x hx y hy hxy
  subst hxy
  obtain ⟨a, _, rfl⟩ := List.mem_map.1 hx
  obtain ⟨b, _, hb⟩ := List.mem_map.1 hy
  exact h12 a b hb.symm

theorem pairLegs_physOut_nodup (l : List Nat) (h : l.Nodup) : (Expr.pairLegs (l.map physOut)).Nodup :=
  pairLegs_map_nodup l h physOut (fun _ _ e => by simpa [physOut] using e) (fun _ _ e => by simpa [physOut] using e)
    (fun _ _ e => by simp [physOut] at e)

theorem pairLegs_physIn_nodup (l : List Nat) (h : l.Nodup) : (Expr.pairLegs (l.map physIn)).Nodup :=
  pairLegs_map_nodup l h physIn (fun _ _ e => by simpa [physIn] using e) (fun _ _ e => by simpa [physIn] using e)
    (fun _ _ e => by simp [physIn] at e)

/-- The value clause of the tree-level theorems (`site_heff_projected_tree`, `link_heff_projected_tree`,
`two_site_heff_projected_tree`), which write it out: as `RecForm`, with the sums over the physical legs of the nodes `ids`. -/
def TreeForm (R : Type) [CommSemiring R] (mb : List (Leg × Leg)) (ids : List Nat) (kb ob brb : List (Leg × Leg)) :
    Prop :=
  ∀ (dim : Leg → Nat) (e E H B : Expr Leg R), e.SWF → E.WF → H.WF → B.WF →
    (∀ l ∈ E.labels, l ∉ H.labels) → (∀ l ∈ E.labels, l ∉ B.labels) → (∀ l ∈ H.labels, l ∉ B.labels) →
    e.binds.Perm mb →
    (unordL E.binds).Perm (unordL kb) → (unordL H.binds).Perm (unordL ob) → (unordL B.binds).Perm (unordL brb) →
    (∀ n ∈ ids, Leg.gKetPhys n ∈ E.free ∧ Leg.gOpIn n ∈ H.free ∧ Leg.gOpOut n ∈ H.free ∧ Leg.gBraPhys n ∈ B.free) →
    (∀ p ∈ projSpec (ids.map physOut) (ids.map physIn) E.binds H.binds B.binds, dim p.1 = dim p.2) →
    (∀ σ, e.leafProd σ = E.leafProd σ * H.leafProd σ * B.leafProd σ) →
    ∀ σ, e.eval dim σ =
      sumPairs dim (ids.map physOut)
        (fun τ => sumPairs dim (ids.map physIn) (fun ρ => E.eval dim ρ * H.eval dim ρ) τ * B.eval dim τ) σ

/-- A `RecForm` whose physical pairs are, up to order, those of the distinct nodes `ids` and whose bond records agree with
`KB`, `OB`, `BRB` as unordered pairs is the `TreeForm` over `ids`.  The two sums are brought into the order of `ids` by
`sumPairs_perm`, which needs the physical legs pairwise distinct: that is where `ids.Nodup` enters. -/
theorem treeForm_of_recForm {mb po pi kb ob brb KB OB BRB : List (Leg × Leg)} {ids : List Nat} (hids : ids.Nodup)
    (hPout : po.Perm (ids.map physOut)) (hPin : pi.Perm (ids.map physIn))
    (hKb : (unordL KB).Perm (unordL kb)) (hOb : (unordL OB).Perm (unordL ob))
    (hBrb : (unordL BRB).Perm (unordL brb)) (h : RecForm R mb po pi kb ob brb) : TreeForm R mb ids KB OB BRB := by
  intro dim e E H B he hE hH hB hEH hEB hHB heb hEb hHb hBb hfree hdim hleaf σ
  have hres := h dim e E H B he hE hH hB hEH hEB hHB heb (hEb.trans hKb) (hHb.trans hOb) (hBb.trans hBrb)
    (by
      intro p hp
      obtain ⟨n, hn, rfl⟩ := List.mem_map.1 (hPin.mem_iff.1 hp)
      exact ⟨(hfree n hn).1, (hfree n hn).2.1⟩)
    (by
      intro p hp
      obtain ⟨n, hn, rfl⟩ := List.mem_map.1 (hPout.mem_iff.1 hp)
      refine ⟨⟨(hfree n hn).2.2.1, ?_⟩, (hfree n hn).2.2.2⟩
      intro hmem
      obtain ⟨q, hq, hq2⟩ := List.mem_map.1 hmem
      obtain ⟨n', _, rfl⟩ := List.mem_map.1 (hPin.mem_iff.1 hq)
      simp [physIn, physOut] at hq2)
    (by
      intro p hp
      apply hdim p
      simp only [projSpec, List.mem_append] at hp ⊢
      rcases hp with hp | (hp | hp) | hp
      · exact Or.inl (hPout.mem_iff.1 hp)
      · exact Or.inr (Or.inl (Or.inl (hPin.mem_iff.1 hp)))
      · exact Or.inr (Or.inl (Or.inr hp))
      · exact Or.inr (Or.inr hp))
    hleaf σ
  rw [hres]
  rw [sumPairs_perm dim hPout ((pairLegs_perm hPout.symm).nodup_iff.1 (pairLegs_physOut_nodup _ hids))]
  apply sumPairs_congr
  intro τ
  rw [sumPairs_perm dim hPin ((pairLegs_perm hPin.symm).nodup_iff.1 (pairLegs_physIn_nodup _ hids))]

end Ptn.C05.Heff
