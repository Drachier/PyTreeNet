import Ptn.C05.WholeProgram
import Ptn.C05.EnvExpr
/-! `H_eff = E† H E` with the CANONICAL `E`, `H`, `B` — no quantified split.  `canonical_core` is the statement for the network
around any open part of any tree (`Opened`): each of the ket and the bra layer without the open part is contracted leaf
after leaf (`seqExpr`, admissible by `partEnv_facts`), the operator layer is the whole TTNO (`opAll`, C04 `opExpr`), and
`canonical_value` turns the tree-level value (`TreeForm`) of a matrix into `Σ_{phys'} (Σ_{phys} E · H) · B` with these
three programs.  The site (here), the link (`LinkProjected`) and the pair (`TwoSiteProjected`) are its instances. -/
namespace Ptn.C05.Heff
open Ptn.C04 Ptn.Ein

set_option linter.unusedSectionVars false
variable {R : Type} [CommSemiring R]

/-- the canonical ket environment of the site `i` (hole of `c`, child subtrees `ks`) -/
def envKet (kv : Nat → Asg Leg → R) (c : Ctx) (i : Nat) (ks : List Tree) : Expr Leg R := envExpr (ketLayer kv) c i ks
/-- the canonical bra environment of the site -/
def envBra (bv : Nat → Asg Leg → R) (c : Ctx) (i : Nat) (ks : List Tree) : Expr Leg R := envExpr (braLayerK bv) c i ks
/-- the canonical contraction of the whole TTNO -/
def opAll (ov : Nat → Asg Leg → R) (opKids : Nat → List Nat) (t : Tree) : Expr Leg R := opExpr ov opKids t

/-- **the three layers of a tree.**  The ket and the bra layer satisfy the hypotheses of `seqEnv_facts`; the canonical
contraction of the operator layer (`opExpr`) is strongly well-formed, reads the operator tensors, binds exactly the
operator bonds and leaves both physical legs of every node free. -/
theorem layers_facts (T0 : Tree) (hnd : T0.ids.Nodup) (opKids : Nat → List Nat)
    (hperm : ∀ e ∈ Tree.info none T0, (opKids e.1).Perm e.2.2) (kv ov bv : Nat → Asg Leg → R)
    (hov : OpLocalK ov opKids T0) :
    (∀ e ∈ Tree.info none T0, (ketLayer kv).Has e) ∧
    (∀ e ∈ Tree.info none T0, NodeOK (ketLayer kv).nodeLeaves e) ∧
    (braLayerK bv).Inj ∧ (∀ e ∈ Tree.info none T0, (braLayerK bv).Has e) ∧
    (∀ e ∈ Tree.info none T0, NodeOK (braLayerK bv).nodeLeaves e) ∧
    (opExpr ov opKids T0).SWF ∧
    (opExpr ov opKids T0).leaves.Perm (treeLeaves (opLayer ov opKids).nodeLeaves none T0) ∧
    (opExpr ov opKids T0).binds.Perm (T0.edges.map fun e => opEdge e.1 e.2) ∧
    ∀ x ∈ Tree.info none T0, Leg.gOpIn x.1 ∈ (opExpr ov opKids T0).free ∧ Leg.gOpOut x.1 ∈ (opExpr ov opKids T0).free := by
  have hnone : ∀ q, (none : Option Nat) = some q → q ∉ T0.ids := fun q hq => by simp at hq
  have hnb := info_nbrs_nodup T0 none hnd hnone
  have hok : ∀ e ∈ Tree.info none T0, NodeOK (soNodeLeaves opKids kv ov bv) e :=
    fun e he => so_nodeOK kv ov bv opKids e (hnb e he) (hperm e he)
  -- the node tensors are ket ++ (operator ++ bra): `NodeOK` of the three together splits off each layer's
  let ΛO := opLayer ov opKids
  let ΛB := braLayerK bv
  have hokOB : ∀ e ∈ Tree.info none T0, NodeOK (fun i p k => ΛO.nodeLeaves i p k ++ ΛB.nodeLeaves i p k) e :=
    fun e he => nodeOK_right (f := (ketLayer kv).nodeLeaves)
      (g := fun i p k => ΛO.nodeLeaves i p k ++ ΛB.nodeLeaves i p k) (hok e he)
  have hokO : ∀ e ∈ Tree.info none T0, NodeOK ΛO.nodeLeaves e := fun e he =>
    nodeOK_left (f := ΛO.nodeLeaves) (g := ΛB.nodeLeaves) (hokOB e he)
  have hO : (opExpr ov opKids T0).SWF := layExpr_swf ΛO
    (fun a b a' b' h => by simp only [ΛO, opLayer] at h; injection h with h1 h2; exact ⟨h1, h2⟩)
    T0 none hnd hnone
    (fun e he n hn => by
      simp only [ΛO, opLayer, gOpT, T.fresh, Node.nbrs, List.mem_append, List.mem_map]
      refine Or.inl ⟨n, ?_, rfl⟩
      rcases List.mem_append.1 hn with h | h
      · exact Or.inl h
      · exact Or.inr ((hperm e he).mem_iff.2 h))
    hokO hov
  refine ⟨?_, fun e he => nodeOK_left (f := (ketLayer kv).nodeLeaves)
      (g := fun i p k => ΛO.nodeLeaves i p k ++ ΛB.nodeLeaves i p k) (hok e he), ?_, ?_,
    fun e he => nodeOK_right (f := ΛO.nodeLeaves) (g := ΛB.nodeLeaves) (hokOB e he), hO,
    layExpr_leaves ΛO T0 none, ?_, ?_⟩
  · intro e _ n hn
    simp only [ketLayer, gKetT, T.fresh, Node.nbrs, List.mem_append, List.mem_map]
    exact Or.inl ⟨n, List.mem_append.1 hn, rfl⟩
  · intro a b a' b' h
    simp only [braLayerK] at h
    injection h with h1 h2
    exact ⟨h1, h2⟩
  · intro e _ n hn
    simp only [braLayerK, gBraT, T.fresh, Node.nbrs, List.mem_append, List.mem_map]
    exact Or.inl ⟨n, List.mem_append.1 hn, rfl⟩
  · have := layExpr_binds ΛO T0 none
    simpa [Layer.edge, ΛO, opLayer, opEdge, opExpr] using this
  · intro x hx
    constructor
    · apply layExpr_free_phys ΛO _ (fun a b => by simp [ΛO, opLayer]) _ none
      simp only [labelsOf, List.mem_flatMap]
      exact ⟨_, nodeLeaves_sub _ _ none x hx _ (List.mem_singleton.2 rfl), by simp [ΛO, opLayer, gOpT, T.fresh]⟩
    · apply layExpr_free_phys ΛO _ (fun a b => by simp [ΛO, opLayer]) _ none
      simp only [labelsOf, List.mem_flatMap]
      exact ⟨_, nodeLeaves_sub _ _ none x hx _ (List.mem_singleton.2 rfl), by simp [ΛO, opLayer, gOpT, T.fresh]⟩

theorem soLeaves_perm_layers (opKids : Nat → List Nat) (kv ov bv : Nat → Asg Leg → R) (T0 : Tree) :
    (soLeaves opKids kv ov bv none T0).Perm
      (treeLeaves (ketLayer kv).nodeLeaves none T0 ++
        (treeLeaves (opLayer ov opKids).nodeLeaves none T0 ++ treeLeaves (braLayerK bv).nodeLeaves none T0)) :=
  (treeLeaves_append (ketLayer kv).nodeLeaves
    (fun i p k => (opLayer ov opKids).nodeLeaves i p k ++ (braLayerK bv).nodeLeaves i p k) T0 none).trans
    (List.Perm.append_left _ (treeLeaves_append (opLayer ov opKids).nodeLeaves (braLayerK bv).nodeLeaves T0 none))

/-- the tensors of a tree (`Sall`, layer by layer `TK`, `TO`, `TB`) without those of some nodes (`X`: kets `XK`, bras
`XB`) are what the two environments `EK`, `EB` and the operator program read -/
theorem split_cancel {α : Type} {X XK XB W Sall TK TO TB EK EB O : List α} (hX : X.Perm (XK ++ XB))
    (hwl : (X ++ W).Perm Sall) (hS : Sall.Perm (TK ++ (TO ++ TB))) (pK : (XK ++ EK).Perm TK)
    (pB : (XB ++ EB).Perm TB) (hO : O.Perm TO) : (EK ++ (O ++ EB)).Perm W := by
  refine (List.perm_append_left_iff X).1 (List.Perm.trans ?_ (hwl.trans hS).symm)
  refine List.Perm.trans ?_ (pK.append (hO.append pB))
  refine (List.Perm.append_right _ hX).trans ?_
  classical
  rw [List.perm_iff_count]
  intro z
  simp only [List.count_append]
  omega

theorem ket_phys_mem (kv : Nat → Asg Leg → R) (T0 : Tree) (x : Nat × Option Nat × List Nat)
    (hx : x ∈ Tree.info none T0) : Leg.gKetPhys x.1 ∈ labelsOf (treeLeaves (ketLayer kv).nodeLeaves none T0) :=
  List.mem_flatMap.2
    ⟨_, nodeLeaves_sub _ _ none x hx _ (List.mem_singleton.2 rfl), by simp [ketLayer, gKetT, T.fresh]⟩

theorem bra_phys_mem (bv : Nat → Asg Leg → R) (T0 : Tree) (x : Nat × Option Nat × List Nat)
    (hx : x ∈ Tree.info none T0) : Leg.gBraPhys x.1 ∈ labelsOf (treeLeaves (braLayerK bv).nodeLeaves none T0) :=
  List.mem_flatMap.2
    ⟨_, nodeLeaves_sub _ _ none x hx _ (List.mem_singleton.2 rfl), by simp [braLayerK, gBraT, T.fresh]⟩

/-- **from the tree-level value to the value with the canonical programs**: `E`, `B` canonical programs (`seqExpr`)
over the records `KB`, `BRB`, `H` any strongly well-formed program with the record `OB`, the three reading together
exactly the tensors `W` (distinct labels) that the program `e` reads -/
theorem canonical_value {mb KB OB BRB : List (Leg × Leg)} {ids : List Nat} (hval : TreeForm R mb ids KB OB BRB)
    (LK LB W : List (LeafT R)) (H e : Expr Leg R)
    (hK : (seqExpr KB LK).SWF) (hO : H.SWF) (hB : (seqExpr BRB LB).SWF)
    (hKb : (unordL (seqExpr KB LK).binds).Perm (unordL KB)) (hOb : H.binds.Perm OB)
    (hBb : (unordL (seqExpr BRB LB).binds).Perm (unordL BRB))
    (hfree : ∀ n ∈ ids, Leg.gKetPhys n ∈ (seqExpr KB LK).free ∧ Leg.gOpIn n ∈ H.free ∧ Leg.gOpOut n ∈ H.free ∧
      Leg.gBraPhys n ∈ (seqExpr BRB LB).free)
    (hsplit : (LK ++ (H.leaves ++ LB)).Perm W) (hndW : (labelsOf W).Nodup)
    (hswf : e.SWF) (hbinds : e.binds.Perm mb) (hleaves : e.leaves.Perm W) (dim : Leg → Nat)
    (hdim : ∀ p ∈ projSpec (ids.map physOut) (ids.map physIn) KB OB BRB, dim p.1 = dim p.2) (σ : Asg Leg) :
    e.eval dim σ =
      sumPairs dim (ids.map physOut)
        (fun τ => sumPairs dim (ids.map physIn) (fun ρ => (seqExpr KB LK).eval dim ρ * H.eval dim ρ) τ *
          (seqExpr BRB LB).eval dim τ) σ := by
  have hndAll : ((seqExpr KB LK).labels ++ (H.labels ++ (seqExpr BRB LB).labels)).Nodup := by
    have h1 := (hsplit.flatMap_right (·.1)).nodup_iff.2 hndW
    simpa only [seqExpr_labels, labelsOf, List.flatMap_append, ← Expr.labels_eq_leaves] using h1
  rw [List.nodup_append] at hndAll
  obtain ⟨_, hndOB, hdisK⟩ := hndAll
  rw [List.nodup_append] at hndOB
  have hsym : ∀ (P : List (Leg × Leg)), (∀ p ∈ P, dim p.1 = dim p.2) → ∀ q, (q ∈ P ∨ q.swap ∈ P) → dim q.1 = dim q.2 := by
    intro P hP q hq
    rcases hq with h | h
    · exact hP q h
    · exact (hP q.swap h).symm
  refine hval dim e (seqExpr KB LK) H (seqExpr BRB LB) hswf hK.wf hO.wf hB.wf
    (fun l hl hl' => hdisK l hl l (List.mem_append.2 (Or.inl hl')) rfl)
    (fun l hl hl' => hdisK l hl l (List.mem_append.2 (Or.inr hl')) rfl)
    (fun l hl hl' => hndOB.2.2 l hl l hl' rfl)
    hbinds hKb (unordL_perm hOb) hBb hfree ?_ ?_ σ
  · intro p hp
    simp only [projSpec, List.mem_append] at hp hdim
    rcases hp with h | ((h | h | h) | h)
    · exact hdim p (Or.inl h)
    · exact hdim p (Or.inr (Or.inl (Or.inl h)))
    · exact hsym _ (fun q hq => hdim q (Or.inr (Or.inl (Or.inr (Or.inl hq))))) p (seqExpr_binds_sub KB LK p h)
    · exact hdim p (Or.inr (Or.inl (Or.inr (Or.inr (hOb.mem_iff.1 h)))))
    · exact hsym _ (fun q hq => hdim q (Or.inr (Or.inr hq))) p (seqExpr_binds_sub BRB LB p h)
  · intro τ
    rw [Expr.leafProd_of_leaves e _ (hleaves.trans hsplit.symm) τ, List.map_append, List.map_append, prodL_append,
      prodL_append, mul_assoc]
    simp only [seqExpr_leafProd]
    rfl

/-- **`H_eff = E† H E` with the canonical `E`, `H`, `B` for the network around any open part of any tree.**  The open part are
the nodes `xs` taken out of the tree `T0` (`O`); `W` are the tensors the program reads: all of the tree except the ket and
bra tensors of the open part.  Then the canonical ket environment `E` (`seqExpr` over the ket bonds of `Ed`), the whole
TTNO `opAll` and the canonical bra environment `B` are strongly well-formed, read together exactly `W` (besides the unit
scalars `seqExpr` starts from), have as records — as multisets of unordered pairs — the ket bonds of `Ed`, ALL operator
bonds, the bra bonds of `Ed`, leave the physical legs of `ids` free, and every matrix whose record has the tree-level value
(`TreeForm`) has the value `H_eff[r; c] = Σ_{phys'} (Σ_{phys} E[phys; c] · opAll[phys', out; phys, in]) · B[phys'; r]` on
every expression it is built from, for all dimensions that agree on both legs of every pair of the projected record.
`site_heff_eq_projected`, `link_heff_eq_projected` (`xs` empty) and `two_site_heff_eq_projected(_up)` are this statement
for `site_opened`, `link_opened`, `pair_opened`, together with the model's matrix from the whole-program theorem. -/
theorem canonical_core (T0 : Tree) (hnd : T0.ids.Nodup) (opKids : Nat → List Nat)
    (hperm : ∀ e ∈ Tree.info none T0, (opKids e.1).Perm e.2.2)
    (kv ov bv : Nat → Asg Leg → R) (hkv : KetLocal kv T0) (hov : OpLocalK ov opKids T0) (hbv : BraLocalK bv T0)
    {xs : List (Nat × Option Nat × List Nat)}
    {X part : (R : Type) → (Nat → Option Nat → List Nat → List (LeafT R)) → List (LeafT R)} {ids : List Nat}
    {rest Ed : List (Nat × Nat)} (O : Opened T0 xs X part ids rest Ed)
    (XW W : List (LeafT R)) (hXW : XW.Perm (X R (ketLayer kv).nodeLeaves ++ X R (braLayerK bv).nodeLeaves))
    (hwl : (XW ++ W).Perm (soLeaves opKids kv ov bv none T0))
    (E B : Expr Leg R) (hE : E = seqExpr (Ed.map fun e => ketEdge e.1 e.2) (part R (ketLayer kv).nodeLeaves))
    (hB : B = seqExpr (Ed.map fun e => braEdge e.1 e.2) (part R (braLayerK bv).nodeLeaves)) :
    E.SWF ∧ (opAll ov opKids T0).SWF ∧ B.SWF ∧
    (part R (ketLayer kv).nodeLeaves ++ ((opAll ov opKids T0).leaves ++ part R (braLayerK bv).nodeLeaves)).Perm W ∧
    E.leaves = ([], fun _ => 1) :: part R (ketLayer kv).nodeLeaves ∧
    B.leaves = ([], fun _ => 1) :: part R (braLayerK bv).nodeLeaves ∧
    (unordL E.binds).Perm (unordL (Ed.map fun e => ketEdge e.1 e.2)) ∧
    (opAll ov opKids T0).binds.Perm (T0.edges.map fun e => opEdge e.1 e.2) ∧
    (unordL B.binds).Perm (unordL (Ed.map fun e => braEdge e.1 e.2)) ∧
    (∀ n ∈ ids, Leg.gKetPhys n ∈ E.free ∧ Leg.gOpIn n ∈ (opAll ov opKids T0).free ∧
      Leg.gOpOut n ∈ (opAll ov opKids T0).free ∧ Leg.gBraPhys n ∈ B.free) ∧
    ∀ m : Mat, TreeForm R m.binds ids (Ed.map fun e => ketEdge e.1 e.2) (T0.edges.map fun e => opEdge e.1 e.2)
        (Ed.map fun e => braEdge e.1 e.2) →
      ∀ e : Expr Leg R, Built m.toT e → e.leaves.Perm W →
        e.SWF ∧ e.binds.Perm m.binds ∧ e.free.Perm (m.rows ++ m.cols) ∧
        ∀ (dim : Leg → Nat),
          (∀ q ∈ projSpec (ids.map physOut) (ids.map physIn) (Ed.map fun e => ketEdge e.1 e.2)
            (T0.edges.map fun e => opEdge e.1 e.2) (Ed.map fun e => braEdge e.1 e.2), dim q.1 = dim q.2) →
          ∀ σ, e.eval dim σ =
            sumPairs dim (ids.map physOut)
              (fun τ => sumPairs dim (ids.map physIn) (fun ρ => E.eval dim ρ * (opAll ov opKids T0).eval dim ρ) τ *
                B.eval dim τ) σ := by
  subst hE hB
  obtain ⟨hhK, hokK, hsB, hhB, hokB, hO, hLO, hOb, hOfree⟩ := layers_facts T0 hnd opKids hperm kv ov bv hov
  obtain ⟨hK, hKl, hKb, hKmem, hKfree⟩ := partEnv_facts (ketLayer kv) (ketLayer_inj kv) (fun _ _ => rfl) T0 hnd
    hhK hokK hkv O (Ed.map fun e => ketEdge e.1 e.2) rfl
  obtain ⟨hB, hBl, hBb, hBmem, hBfree⟩ := partEnv_facts (braLayerK bv) hsB (fun _ _ => rfl) T0 hnd
    hhB hokB hbv O (Ed.map fun e => braEdge e.1 e.2) rfl
  -- the leaves: the three programs read exactly `W`
  have hsplit := split_cancel hXW hwl (soLeaves_perm_layers opKids kv ov bv T0) (O.leaves _ _) (O.leaves _ _) hLO
  obtain ⟨hndS, hlocS⟩ := soLeaves_clean opKids kv ov bv T0 hnd hperm hkv hov hbv
  have hndW : (labelsOf W).Nodup := by
    have h1 := (hwl.flatMap_right (·.1)).nodup_iff.2 hndS
    rw [List.flatMap_append] at h1
    exact (List.nodup_append.1 h1).2.1
  have hlocW : ∀ lf ∈ W, DependsOn (· ∈ lf.1) lf.2 := fun lf hlf =>
    hlocS lf (hwl.mem_iff.1 (List.mem_append.2 (Or.inr hlf)))
  -- free physical legs: a node of `ids` is a node of the tree and none of `xs`
  have hfree : ∀ n ∈ ids, Leg.gKetPhys n ∈ (seqExpr (Ed.map fun e => ketEdge e.1 e.2) (part R (ketLayer kv).nodeLeaves)).free ∧
      Leg.gOpIn n ∈ (opExpr ov opKids T0).free ∧ Leg.gOpOut n ∈ (opExpr ov opKids T0).free ∧
      Leg.gBraPhys n ∈ (seqExpr (Ed.map fun e => braEdge e.1 e.2) (part R (braLayerK bv).nodeLeaves)).free := by
    intro n hn
    have hnT : n ∈ T0.ids := O.ids_perm.mem_iff.2 (List.mem_append.2 (Or.inr hn))
    rw [← Tree.info_keys none T0] at hnT
    obtain ⟨x, hx, rfl⟩ := List.mem_map.1 hnT
    have hne : ∀ y ∈ xs, some x.1 ≠ some y.1 := fun y hy h =>
      O.ids_disjoint hnd y hy _ hn (Option.some.inj h).symm
    exact ⟨hKfree _ (fun a b => by simp [ketLayer]) (hKmem _ (ket_phys_mem kv _ x hx) hne),
      (hOfree x hx).1, (hOfree x hx).2,
      hBfree _ (fun a b => by simp [braLayerK]) (hBmem _ (bra_phys_mem bv _ x hx) hne)⟩
  refine ⟨hK, hO, hB, hsplit, hKl, hBl, hKb, hOb, hBb, hfree, ?_⟩
  intro m hval e hbe hleaves
  obtain ⟨hswf, hbinds, hfr⟩ := whole_built_facts hndW hlocW hbe hleaves
  exact ⟨hswf, hbinds, hfr, fun dim hdim σ =>
    canonical_value hval _ _ _ _ e hK hO hB hKb hOb hBb hfree hsplit hndW hswf hbinds hleaves dim hdim σ⟩

/-- **`H_eff = E† H E` with the canonical `E`, `H`, `B`: every site of every tree** — `canonical_core` in the setting of
`site_heff_whole_program`: `envKet`, `opAll`, `envBra` read exactly `wholeLeaves`, bind the ket bonds not at `i`, all
operator bonds, the bra bonds not at `i`, and the matrix `m` of `site_heff_graph`, built from `wholeLeaves`, has the value
`Σ_{phys'} (Σ_{phys} envKet · opAll) · envBra`. -/
theorem site_heff_eq_projected (c : Ctx) (i : Nat) (ks : List Tree)
    (hnd : (c.plug (Tree.node i ks)).ids.Nodup) (opKids : Nat → List Nat)
    (hperm : ∀ e ∈ Tree.info none (c.plug (Tree.node i ks)), (opKids e.1).Perm e.2.2)
    (kv ov bv : Nat → Asg Leg → R) (hkv : KetLocal kv (c.plug (Tree.node i ks)))
    (hov : OpLocalK ov opKids (c.plug (Tree.node i ks))) (hbv : BraLocalK bv (c.plug (Tree.node i ks))) :
    (envKet kv c i ks).SWF ∧ (opAll ov opKids (c.plug (Tree.node i ks))).SWF ∧ (envBra bv c i ks).SWF ∧
    (envLeaves (ketLayer kv) c i ks ++ ((opAll ov opKids (c.plug (Tree.node i ks))).leaves ++
      envLeaves (braLayerK bv) c i ks)).Perm (wholeLeaves opKids kv ov bv c i ks) ∧
    (envKet kv c i ks).leaves = ([], fun _ => 1) :: envLeaves (ketLayer kv) c i ks ∧
    (envBra bv c i ks).leaves = ([], fun _ => 1) :: envLeaves (braLayerK bv) c i ks ∧
    (unordL (envKet kv c i ks).binds).Perm
      (unordL ((c.compEdges ++ ks.flatMap Tree.edges).map fun e => ketEdge e.1 e.2)) ∧
    (opAll ov opKids (c.plug (Tree.node i ks))).binds.Perm
      ((c.plug (Tree.node i ks)).edges.map fun e => opEdge e.1 e.2) ∧
    (unordL (envBra bv c i ks).binds).Perm
      (unordL ((c.compEdges ++ ks.flatMap Tree.edges).map fun e => braEdge e.1 e.2)) ∧
    (∀ n ∈ c.ids ++ Tree.idsL ks, Leg.gKetPhys n ∈ (envKet kv c i ks).free ∧
      Leg.gOpIn n ∈ (opAll ov opKids (c.plug (Tree.node i ks))).free ∧
      Leg.gOpOut n ∈ (opAll ov opKids (c.plug (Tree.node i ks))).free ∧ Leg.gBraPhys n ∈ (envBra bv c i ks).free) ∧
    ∃ m : Mat, getEffectiveSingleSiteHamiltonianNodes ⟨c.parent, ks.map Tree.id⟩ ⟨c.parent, opKids i⟩
        (gOpT i ⟨c.parent, opKids i⟩) (siteCache c ks i) = some m ∧
      m.rows = (c.parent.toList ++ ks.map Tree.id).map (fun n => Leg.gBra n i) ++ [Leg.gOpOut i] ∧
      m.cols = (c.parent.toList ++ ks.map Tree.id).map (fun n => Leg.gKet n i) ++ [Leg.gOpIn i] ∧
      BuiltL m.toT (wholeLeaves opKids kv ov bv c i ks) ∧
      ∀ e : Expr Leg R, Built m.toT e → e.leaves.Perm (wholeLeaves opKids kv ov bv c i ks) →
        e.SWF ∧ e.binds.Perm m.binds ∧ e.free.Perm (m.rows ++ m.cols) ∧
        ∀ (dim : Leg → Nat),
          (∀ p ∈ projSpec ((c.ids ++ Tree.idsL ks).map physOut) ((c.ids ++ Tree.idsL ks).map physIn)
            ((c.compEdges ++ ks.flatMap Tree.edges).map fun e => ketEdge e.1 e.2)
            ((c.plug (Tree.node i ks)).edges.map fun e => opEdge e.1 e.2)
            ((c.compEdges ++ ks.flatMap Tree.edges).map fun e => braEdge e.1 e.2), dim p.1 = dim p.2) →
          ∀ σ, e.eval dim σ =
            sumPairs dim ((c.ids ++ Tree.idsL ks).map physOut)
              (fun τ => sumPairs dim ((c.ids ++ Tree.idsL ks).map physIn)
                (fun ρ => (envKet kv c i ks).eval dim ρ * (opAll ov opKids (c.plug (Tree.node i ks))).eval dim ρ) τ *
                (envBra bv c i ks).eval dim τ) σ := by
  obtain ⟨f1, f2, f3, f4, f5, f6, f7, f8, f9, f10, hcore⟩ :=
    canonical_core (c.plug (Tree.node i ks)) hnd opKids hperm kv ov bv hkv hov hbv (site_opened c i ks) _ _
      (List.Perm.refl _) (wholeLeaves_perm opKids kv ov bv c i ks) (envKet kv c i ks) (envBra bv c i ks) rfl rfl
  refine ⟨f1, f2, f3, f4, f5, f6, f7, f8, f9, f10, ?_⟩
  obtain ⟨m, hm, hr, hc, hbuilt, _, _⟩ := site_heff_whole_program c i ks hnd opKids hperm kv ov bv hkv hov hbv
  obtain ⟨m', hm', _, _, hval⟩ := site_heff_projected_tree (R := R) c i ks hnd (opKids i)
    (hperm _ (site_mem_info c i ks))
  have hmm : m' = m := Option.some.inj (hm'.symm.trans hm)
  subst hmm
  exact ⟨m', hm, hr, hc, hbuilt, hcore m' hval⟩

end Ptn.C05.Heff
