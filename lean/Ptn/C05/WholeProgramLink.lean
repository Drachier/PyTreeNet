import Ptn.C05.WholeProgram
import Ptn.C05.ProjectedTreeLink
/-! One program from the node tensors to the matrix handed to `time_evolve`, for the link function
`_get_effective_link_hamiltonian`, both sweep orientations. -/
namespace Ptn.C05.Heff
open Ptn.C04 Ptn.Ein

set_option linter.unusedSectionVars false
variable {R : Type} [CommSemiring R]

/-- the leaf tensors of the whole program of the link Hamiltonian on the edge into the hole: the ket, operator and
bra tensors of every node of the component above the hole and of the subtree in the hole -/
def linkLeaves (opKids : Nat → List Nat) (kv ov bv : Nat → Asg Leg → R) (c : Ctx) (t : Tree) : List (LeafT R) :=
  c.leavesG (soNodeLeaves opKids kv ov bv) t.id ++ soLeaves opKids kv ov bv c.parent t

theorem linkLeaves_perm (opKids : Nat → List Nat) (kv ov bv : Nat → Asg Leg → R) (c : Ctx) (t : Tree) :
    (linkLeaves opKids kv ov bv c t).Perm (soLeaves opKids kv ov bv none (c.plug t)) :=
  (Ctx.plug_leaves_perm (soNodeLeaves opKids kv ov bv) c t).symm

/-- **One program for the link**: as `site_heff_whole_program`, in the setting of `link_heff_projected_tree` with arbitrary
local node tensors `kv`, `ov`, `bv`.  In both sweep orientations the matrix `m` is built — `contract_any` recursion
(`Ctx.ctx_block_built`), leaf-to-root loop (`soBlock_built_free`), the `tensordot` of the two blocks and the transposition
(`link_heff_built`) — from `linkLeaves`, a permutation of the node tensors of the WHOLE tree (the bond `p — t.id` stays
open), and every expression it is built from evaluates to `E† H E` for any split of the leaves into `E` (all kets over all
ket bonds except `p — t.id`), `H` (the whole TTNO), `B`. -/
theorem link_heff_whole_program (c : Ctx) (p : Nat) (hpar : c.parent = some p) (t : Tree)
    (hnd : (c.plug t).ids.Nodup) (opKids : Nat → List Nat)
    (hperm : ∀ e ∈ Tree.info none (c.plug t), (opKids e.1).Perm e.2.2)
    (kv ov bv : Nat → Asg Leg → R) (hkv : KetLocal kv (c.plug t))
    (hov : OpLocalK ov opKids (c.plug t)) (hbv : BraLocalK bv (c.plug t))
    (cache : Dict)
    (hp : cache (p, t.id) = some (gBlock p t.id c.blockBinds)) (hc : cache (t.id, p) = some (soBlock t p)) :
    ∃ m : Mat, getEffectiveLinkHamiltonian ⟨some p, [t.id]⟩ t.id p cache = some m ∧
      getEffectiveLinkHamiltonian ⟨some p, [t.id]⟩ p t.id cache = some m ∧
      m.rows = [Leg.gBra p t.id, Leg.gBra t.id p] ∧ m.cols = [Leg.gKet p t.id, Leg.gKet t.id p] ∧
      BuiltL m.toT (linkLeaves opKids kv ov bv c t) ∧
      (linkLeaves opKids kv ov bv c t).Perm (soLeaves opKids kv ov bv none (c.plug t)) ∧
      ∀ e : Expr Leg R, Built m.toT e → e.leaves.Perm (linkLeaves opKids kv ov bv c t) →
        e.SWF ∧ e.binds.Perm m.binds ∧ e.free.Perm (m.rows ++ m.cols) ∧
        ∀ (dim : Leg → Nat) (E H B : Expr Leg R), E.WF → H.WF → B.WF →
          (E.leaves ++ (H.leaves ++ B.leaves)).Perm (linkLeaves opKids kv ov bv c t) →
          (unordL E.binds).Perm (unordL ((c.compEdges ++ t.edges).map fun e => ketEdge e.1 e.2)) →
          (unordL H.binds).Perm (unordL ((c.plug t).edges.map fun e => opEdge e.1 e.2)) →
          (unordL B.binds).Perm (unordL ((c.compEdges ++ t.edges).map fun e => braEdge e.1 e.2)) →
          (∀ n ∈ c.ids ++ t.ids, Leg.gKetPhys n ∈ E.free ∧ Leg.gOpIn n ∈ H.free ∧ Leg.gOpOut n ∈ H.free ∧
            Leg.gBraPhys n ∈ B.free) →
          (∀ q ∈ projSpec ((c.ids ++ t.ids).map physOut) ((c.ids ++ t.ids).map physIn) E.binds H.binds B.binds,
            dim q.1 = dim q.2) →
          ∀ σ, e.eval dim σ =
            sumPairs dim ((c.ids ++ t.ids).map physOut)
              (fun τ => sumPairs dim ((c.ids ++ t.ids).map physIn) (fun ρ => E.eval dim ρ * H.eval dim ρ) τ *
                B.eval dim τ) σ := by
  have hnd' : (c.ids ++ t.ids).Nodup := (Ctx.plug_ids_perm c t).nodup_iff.1 hnd
  have hcn : c.ids.Nodup := (List.nodup_append.1 hnd').1
  have htn : t.ids.Nodup := (List.nodup_append.1 hnd').2.1
  have hdisj : ∀ a ∈ c.ids, ∀ b ∈ t.ids, a ≠ b := (List.nodup_append.1 hnd').2.2
  have hpt : p ∉ t.ids := fun h => hdisj p (Ctx.parent_mem_ids hpar) p h rfl
  have hic : (t.id :: c.ids).Nodup := by
    rw [List.nodup_cons]
    exact ⟨fun h => hdisj t.id h t.id (Tree.id_mem_ids t) rfl, hcn⟩
  have hinfoC : ∀ e ∈ c.info t.id, (opKids e.1).Perm e.2.2 := fun e he =>
    hperm e (Ctx.mem_info_plug c t e (Or.inl he))
  have hinfoT : ∀ e ∈ Tree.info (some p) t, (opKids e.1).Perm e.2.2 := fun e he =>
    hperm e (Ctx.mem_info_plug c t e (Or.inr (by rw [hpar]; exact he)))
  obtain ⟨m, h1, h2, hr, hcols, hval⟩ := link_heff_projected_tree (R := R) c p hpar t hnd cache hp hc
  have hwl := linkLeaves_perm opKids kv ov bv c t
  have hbuilt : BuiltL m.toT (linkLeaves opKids kv ov bv c t) := by
    have hb := link_heff_built (R := R) (l1 := c.leavesG (soNodeLeaves opKids kv ov bv) t.id)
      (l2 := soLeaves opKids kv ov bv (some p) t) h2
      (fun blk hblk => by
        rw [hp, Option.some.injEq] at hblk
        subst hblk
        exact Ctx.ctx_block_built opKids kv ov bv c t.id p hpar hic hinfoC)
      (fun blk hblk => by
        rw [hc, Option.some.injEq] at hblk
        subst hblk
        exact soBlock_built_free opKids kv ov bv t p htn hpt hinfoT)
    simpa [linkLeaves, hpar] using hb
  refine ⟨m, h1, h2, hr, hcols, hbuilt, hwl, ?_⟩
  obtain ⟨hndS, hlocS⟩ := soLeaves_clean opKids kv ov bv (c.plug t) hnd hperm hkv hov hbv
  exact whole_core (X := []) hwl hndS hlocS hval

end Ptn.C05.Heff
