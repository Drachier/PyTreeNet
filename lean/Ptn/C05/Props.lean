import Ptn.C05.Core
import Ptn.C05.Tree
import Ptn.C05.Discipline
import Ptn.C05.Heff
import Ptn.C05.Value
import Ptn.C05.Projected
import Ptn.C05.ProjectedTree
import Ptn.C05.HeffBuilt
import Ptn.C05.HeffLoopValue
import Ptn.C05.ProjectedLinkTwo
import Ptn.C05.Ctx
import Ptn.C05.ProjectedTreeAll
import Ptn.C05.ProjectedTreeLink
import Ptn.C05.ProjectedTreeTwo
import Ptn.C05.WholeProgram
import Ptn.C05.WholeProgramLink
import Ptn.C05.WholeProgramTwo
import Ptn.C05.SiteProjected
import Ptn.C05.LinkProjected
import Ptn.C05.TwoSiteProjected
/-! The property theorems of C05 are in the modules imported here: signed durations of the three schedules (`Core`,
`Tree`), the cache-freshness discipline (`Discipline`), the effective Hamiltonians as leg graphs, their value
`H_eff = E† H E` and the whole program from the node tensors to the matrix handed to `time_evolve` (`Heff` and the
modules after it).

Below: non-vacuity examples for the value-level theorems, concrete programs that satisfy every hypothesis.  Every
tensor is `demoT` of its own legs, so each program is determined by its leg lists and the side conditions are closed
computations. -/
namespace Ptn.C05.Heff
open Ptn.C04 Ptn.Ein

/-- an integer tensor that reads all of its legs -/
def demoT (legs : List Leg) : Asg Leg → Int := fun σ => (legs.map fun l => (σ l : Int)).sum + 1

theorem demoT_local (legs : List Leg) : DependsOn (· ∈ legs) (demoT legs) := by
  intro σ τ h
  simp only [demoT]
  congr 2
  apply List.map_congr_left
  intro l hl
  rw [h l hl]

def demoLeaf (legs : List Leg) : Expr Leg Int := Expr.leaf legs (demoT legs)

theorem demoLeaf_leafProd (legs : List Leg) (σ : Asg Leg) : (demoLeaf legs).leafProd σ = demoT legs σ := mul_one _

/-- the side conditions of `SWF` other than the locality of the leaf tensors, as one Boolean: on a concrete program it
is evaluated, where the `Decidable` instances of the bounded quantifiers would have to be searched for at every
contraction -/
def swfB : Expr Leg Int → Bool
  | .leaf legs _ => decide legs.Nodup
  | .dot a b ps => swfB a && swfB b && a.labels.all (fun l => !b.labels.contains l) &&
      ps.all (fun p => a.free.contains p.1 && b.free.contains p.2) &&
      decide (ps.map Prod.fst).Nodup && decide (ps.map Prod.snd).Nodup

def demo : Expr Leg Int → Expr Leg Int
  | .leaf legs _ => demoLeaf legs
  | .dot a b ps => .dot (demo a) (demo b) ps

theorem demo_swf : ∀ e : Expr Leg Int, demo e = e → swfB e = true → e.SWF
  | .leaf legs _, hd, h => ⟨of_decide_eq_true h, (Expr.leaf.inj hd).2 ▸ demoT_local legs⟩
  | .dot a b ps, hd, h => by
    simp only [swfB, Bool.and_eq_true, List.all_eq_true, Bool.not_eq_eq_eq_not, Bool.not_true, List.contains_eq_mem,
      decide_eq_false_iff_not, decide_eq_true_eq] at h
    exact ⟨demo_swf a (Expr.dot.inj hd).1 h.1.1.1.1.1, demo_swf b (Expr.dot.inj hd).2.1 h.1.1.1.1.2, h.1.1.1.2,
      h.1.1.2, h.1.2, h.2⟩

theorem disjoint_of_all {xs ys : List Leg} (h : xs.all (fun l => !ys.contains l) = true) : ∀ l ∈ xs, l ∉ ys := by
  simpa only [List.all_eq_true, Bool.not_eq_eq_eq_not, Bool.not_true, List.contains_eq_mem, decide_eq_false_iff_not]
    using h

/-- the block of a node `c` with the single neighbour `n`, the program of `contract_leaf`: (ket · operator) · bra -/
theorem oneNbrBlk_swf (c n : Nat) (nd : Node) (h : nd.nbrs = [n]) :
    (Expr.dot (Expr.dot (demoLeaf (gKetT c nd).legs) (demoLeaf (gOpT c nd).legs) [physIn c])
      (demoLeaf (gBraT c nd).legs) [physOut c]).SWF := by
  have hk : (gKetT c nd).legs = [Leg.gKet c n, Leg.gKetPhys c] := by rw [gKetT, h]; rfl
  have ho : (gOpT c nd).legs = [Leg.gOp c n, Leg.gOpOut c, Leg.gOpIn c] := by rw [gOpT, h]; rfl
  have hb : (gBraT c nd).legs = [Leg.gBra c n, Leg.gBraPhys c] := by rw [gBraT, h]; rfl
  rw [hk, ho, hb]
  exact demo_swf _ rfl (by simp [swfB, demoLeaf, Expr.labels, Expr.free, physIn, physOut])

/-! ### `site_heff_value`: node 9 with parent 5 and child 1, operator node with the same neighbours -/

def demoHam : Node := ⟨some 5, [1]⟩
/-- the program the code runs: `tensordot(tensordot(W, block 5), block 1)` -/
def demoSite : Expr Leg Int :=
  Expr.dot (Expr.dot (demoLeaf (gOpT 9 demoHam).legs) (demoLeaf (blockLegs 5 9)) [(Leg.gOp 9 5, Leg.gOp 5 9)])
    (demoLeaf (blockLegs 1 9)) [(Leg.gOp 9 1, Leg.gOp 1 9)]

example : getEffectiveSingleSiteHamiltonianNodes demoHam demoHam (gOpT 9 demoHam) (fun n => some (gBlock n 9 [])) =
    some ⟨[.gBra 5 9, .gBra 1 9, .gOpOut 9], [.gKet 5 9, .gKet 1 9, .gOpIn 9],
      [(.gOp 9 5, .gOp 5 9), (.gOp 9 1, .gOp 1 9)]⟩ := by decide +kernel

example : demoHam.nbrs.Nodup ∧ 9 ∉ demoHam.nbrs ∧ demoSite.SWF ∧
    DependsOn (· ∈ (gOpT 9 demoHam).legs) (demoT (gOpT 9 demoHam).legs) ∧
    (∀ n ∈ demoHam.nbrs, DependsOn (· ∈ blockLegs n 9) (demoT (blockLegs n 9))) ∧
    demoSite.binds.Perm [(.gOp 9 5, .gOp 5 9), (.gOp 9 1, .gOp 1 9)] ∧
    (∀ σ, demoSite.leafProd σ =
      demoT (gOpT 9 demoHam).legs σ * prodL (demoHam.nbrs.map fun n => demoT (blockLegs n 9) σ)) := by
  refine ⟨by decide +kernel, by decide +kernel, demo_swf _ rfl (by decide +kernel), demoT_local _,
    fun n _ => demoT_local _, by decide +kernel, ?_⟩
  intro σ
  simp [demoSite, demoLeaf, Expr.leafProd, Expr.leaves, prodL, demoHam, Node.nbrs]

/-! ### `link_heff_value`: the link between parent 7 and child 4 -/

def demoLink : Expr Leg Int :=
  Expr.dot (demoLeaf (blockLegs 7 4)) (demoLeaf (blockLegs 4 7)) [(Leg.gOp 7 4, Leg.gOp 4 7)]

example : (7 : Nat) ≠ 4 ∧ demoLink.SWF ∧ DependsOn (· ∈ blockLegs 7 4) (demoT (blockLegs 7 4)) ∧
    DependsOn (· ∈ blockLegs 4 7) (demoT (blockLegs 4 7)) ∧
    demoLink.binds.Perm ([] ++ [] ++ [(Leg.gOp 7 4, Leg.gOp 4 7)]) ∧
    (∀ σ, demoLink.leafProd σ = demoT (blockLegs 7 4) σ * demoT (blockLegs 4 7) σ) := by
  refine ⟨by decide +kernel, demo_swf _ rfl (by decide +kernel), demoT_local _, demoT_local _, by decide +kernel, ?_⟩
  intro σ
  simp only [demoLink, Expr.leafProd_dot, demoLeaf_leafProd]

/-! ### `two_site_heff_value`: target 1 (parent 0, children 2 and 3), next 2 (parent 1, children 4 and 5) -/

def demoHamT : Node := ⟨some 0, [2, 3]⟩
def demoHamX : Node := ⟨some 1, [4, 5]⟩
def demoTwoNode : Node := ⟨some 0, [3, 5, 4]⟩
/-- target block (operator of 1 with the blocks of 0 and 3), next block (operator of 2 with the blocks of 4 and 5),
joined along the bond 1 — 2 -/
def demoTwo : Expr Leg Int :=
  Expr.dot
    (Expr.dot (Expr.dot (demoLeaf (gOpT 1 demoHamT).legs) (demoLeaf (blockLegs 0 1)) [(Leg.gOp 1 0, Leg.gOp 0 1)])
      (demoLeaf (blockLegs 3 1)) [(Leg.gOp 1 3, Leg.gOp 3 1)])
    (Expr.dot (Expr.dot (demoLeaf (gOpT 2 demoHamX).legs) (demoLeaf (blockLegs 4 2)) [(Leg.gOp 2 4, Leg.gOp 4 2)])
      (demoLeaf (blockLegs 5 2)) [(Leg.gOp 2 5, Leg.gOp 5 2)])
    [(Leg.gOp 1 2, Leg.gOp 2 1)]

example : getEffectiveTwoSiteHamiltonian demoHamT demoHamX demoTwoNode (gOpT 1 demoHamT) (gOpT 2 demoHamX) 1 2
    (fun k => if (k.2 = 1 ∧ k.1 ∈ [0, 3]) ∨ (k.2 = 2 ∧ k.1 ∈ [4, 5]) then some (gBlock k.1 k.2 []) else none) =
    some ⟨[.gBra 0 1, .gBra 3 1, .gBra 5 2, .gBra 4 2, .gOpOut 1, .gOpOut 2],
          [.gKet 0 1, .gKet 3 1, .gKet 5 2, .gKet 4 2, .gOpIn 1, .gOpIn 2],
          [(.gOp 1 0, .gOp 0 1), (.gOp 1 3, .gOp 3 1), (.gOp 2 4, .gOp 4 2), (.gOp 2 5, .gOp 5 2), (.gOp 1 2, .gOp 2 1)]⟩ := by
  decide +kernel

example : demoHamT.nbrs.Nodup ∧ demoHamX.nbrs.Nodup ∧ 2 ∈ demoHamT.nbrs ∧ 1 ∈ demoHamX.nbrs ∧
    (∀ n ∈ demoHamX.nbrs, n ∉ demoHamT.nbrs) ∧
    demoTwoNode.nbrs.Perm (demoHamT.nbrs.filter (· ≠ 2) ++ demoHamX.nbrs.filter (· ≠ 1)) ∧
    demoTwo.SWF ∧
    demoTwo.binds.Perm [(.gOp 1 0, .gOp 0 1), (.gOp 1 3, .gOp 3 1), (.gOp 2 4, .gOp 4 2), (.gOp 2 5, .gOp 5 2),
      (.gOp 1 2, .gOp 2 1)] ∧
    (∀ σ, demoTwo.leafProd σ = demoT (gOpT 1 demoHamT).legs σ * (demoT (gOpT 2 demoHamX).legs σ *
      (prodL ((demoHamT.nbrs.filter (· ≠ 2)).map fun n => demoT (blockLegs n 1) σ) *
       prodL ((demoHamX.nbrs.filter (· ≠ 1)).map fun n => demoT (blockLegs n 2) σ)))) := by
  refine ⟨by decide +kernel, by decide +kernel, by decide +kernel, by decide +kernel, by decide +kernel,
    by decide +kernel, demo_swf _ rfl (by decide +kernel), by decide +kernel, ?_⟩
  intro σ
  have hf1 : demoHamT.nbrs.filter (· ≠ 2) = [0, 3] := by decide +kernel
  have hf2 : demoHamX.nbrs.filter (· ≠ 1) = [4, 5] := by decide +kernel
  simp only [hf1, hf2, demoTwo, Expr.leafProd_dot, demoLeaf_leafProd, prodL, List.map_cons, List.map_nil, mul_one]
  ring

/-! ### `site_heff_value_blocks`, `site_heff_is_projected_hamiltonian`, `site_heff_projected_tree_root_partial`:
root 0 with the leaf children 1 and 2; the operator node lists the children as (2, 1) -/

def demoKids : List Tree := [Tree.node 1 [], Tree.node 2 []]
def demoKet (c : Nat) : Expr Leg Int := demoLeaf (gKetT c ⟨some 0, []⟩).legs
def demoOp (c : Nat) : Expr Leg Int := demoLeaf (gOpT c ⟨some 0, []⟩).legs
def demoBra (c : Nat) : Expr Leg Int := demoLeaf (gBraT c ⟨some 0, []⟩).legs
def demoW0 : Expr Leg Int := demoLeaf (gOpT 0 ⟨none, [2, 1]⟩).legs
/-- the cached block of the leaf `c`: (ket · operator) · bra, the program of `contract_leaf` -/
def demoBlk (c : Nat) : Expr Leg Int :=
  Expr.dot (Expr.dot (demoKet c) (demoOp c) [physIn c]) (demoBra c) [physOut c]
/-- the program of `contract_all_except_node` on top of the block programs -/
def demoHeff : Expr Leg Int :=
  Expr.dot (Expr.dot demoW0 (demoBlk 2) [(Leg.gOp 0 2, Leg.gOp 2 0)]) (demoBlk 1) [(Leg.gOp 0 1, Leg.gOp 1 0)]
/-- ket environment, dense TTNO, bra environment -/
def demoE : Expr Leg Int := Expr.dot (demoKet 1) (demoKet 2) []
def demoH : Expr Leg Int :=
  Expr.dot (Expr.dot demoW0 (demoOp 1) [(Leg.gOp 0 1, Leg.gOp 1 0)]) (demoOp 2) [(Leg.gOp 0 2, Leg.gOp 2 0)]
def demoB : Expr Leg Int := Expr.dot (demoBra 1) (demoBra 2) []

example : getEffectiveSingleSiteHamiltonianNodes ⟨none, demoKids.map Tree.id⟩ ⟨none, [2, 1]⟩ (gOpT 0 ⟨none, [2, 1]⟩)
    (fun n => soKidBlock demoKids 0 (n, 0)) =
    some ⟨[.gBra 1 0, .gBra 2 0, .gOpOut 0], [.gKet 1 0, .gKet 2 0, .gOpIn 0],
      [physOut 2, physIn 2, (.gOp 0 2, .gOp 2 0), physOut 1, physIn 1, (.gOp 0 1, .gOp 1 0)]⟩ := by decide +kernel

theorem demoBlk_swf (c : Nat) : (demoBlk c).SWF := oneNbrBlk_swf c 0 _ rfl

/-- every hypothesis of `site_heff_projected_tree_root_partial` (hence of the record-level theorem
`site_heff_is_projected_hamiltonian` it instantiates), all dimensions 2 -/
example : (Tree.node 0 demoKids).ids.Nodup ∧ ([2, 1] : List Nat).Perm (demoKids.map Tree.id) ∧
    demoHeff.SWF ∧ demoE.WF ∧ demoH.WF ∧ demoB.WF ∧
    (∀ l ∈ demoE.labels, l ∉ demoH.labels) ∧ (∀ l ∈ demoE.labels, l ∉ demoB.labels) ∧
    (∀ l ∈ demoH.labels, l ∉ demoB.labels) ∧
    demoHeff.binds.Perm
      [physOut 2, physIn 2, (.gOp 0 2, .gOp 2 0), physOut 1, physIn 1, (.gOp 0 1, .gOp 1 0)] ∧
    (unordL demoE.binds).Perm (unordL ((demoKids.flatMap Tree.edges).map fun e => ketEdge e.1 e.2)) ∧
    (unordL demoH.binds).Perm (unordL ((Tree.node 0 demoKids).edges.map fun e => opEdge e.1 e.2)) ∧
    (unordL demoB.binds).Perm (unordL ((demoKids.flatMap Tree.edges).map fun e => braEdge e.1 e.2)) ∧
    (∀ n ∈ Tree.idsL demoKids, Leg.gKetPhys n ∈ demoE.free ∧ Leg.gOpIn n ∈ demoH.free ∧
      Leg.gOpOut n ∈ demoH.free ∧ Leg.gBraPhys n ∈ demoB.free) ∧
    (∀ p ∈ projSpec ((Tree.idsL demoKids).map physOut) ((Tree.idsL demoKids).map physIn) demoE.binds demoH.binds
      demoB.binds, (fun _ : Leg => 2) p.1 = (fun _ : Leg => 2) p.2) ∧
    (∀ σ, demoHeff.leafProd σ = demoE.leafProd σ * demoH.leafProd σ * demoB.leafProd σ) := by
  have hE : demoE.SWF := demo_swf _ rfl (by decide +kernel)
  have hH : demoH.SWF := demo_swf _ rfl (by decide +kernel)
  have hB : demoB.SWF := demo_swf _ rfl (by decide +kernel)
  refine ⟨by decide +kernel, by decide +kernel, demo_swf _ rfl (by decide +kernel), hE.wf, hH.wf, hB.wf,
    disjoint_of_all (by decide +kernel),
    disjoint_of_all (by decide +kernel), disjoint_of_all (by decide +kernel), by decide +kernel, by decide +kernel,
    by decide +kernel, by decide +kernel, by decide +kernel, fun _ _ => rfl, ?_⟩
  intro σ
  simp only [demoHeff, demoBlk, demoE, demoH, demoB, Expr.leafProd_dot]
  ring

/-- the hypotheses of `site_heff_value_blocks` for the same program: the blocks are the programs `demoBlk` -/
example : Expr.LabelsDisjoint (demoW0 :: [2, 1].map demoBlk) ∧ (∀ n ∈ [2, 1], (demoBlk n).WF) ∧
    (∀ n ∈ [2, 1], (demoBlk n).binds.Perm (soBbOf demoKids n)) ∧
    (∀ σ, demoHeff.leafProd σ = demoT (gOpT 0 ⟨none, [2, 1]⟩).legs σ * Expr.leafProdL ([2, 1].map demoBlk) σ) := by
  refine ⟨?_, fun n _ => (demoBlk_swf n).wf, by decide +kernel, ?_⟩
  · simp only [Expr.LabelsDisjoint, List.map_cons, List.map_nil, List.pairwise_cons, List.mem_cons,
      List.not_mem_nil, or_false, forall_eq_or_imp, forall_eq, false_imp_iff, implies_true, List.Pairwise.nil,
      and_true]
    exact ⟨⟨disjoint_of_all (by decide +kernel), disjoint_of_all (by decide +kernel)⟩,
      disjoint_of_all (by decide +kernel)⟩
  · intro σ
    simp only [demoHeff, demoW0, Expr.leafProd_dot, demoLeaf_leafProd, List.map_cons, List.map_nil,
      Expr.leafProdL, prodL, mul_one, mul_assoc]

/-! ### provenance: `site_heff_built`, `link_heff_built`, `two_site_heff_built` and the `…_loop_value` theorems -/

def demoSiteMat : Mat := ⟨[.gBra 5 9, .gBra 1 9, .gOpOut 9], [.gKet 5 9, .gKet 1 9, .gOpIn 9],
  [(.gOp 9 5, .gOp 5 9), (.gOp 9 1, .gOp 1 9)]⟩

/-- the hypotheses of `site_heff_built` on the demo node: the call succeeds, the operator tensor and both blocks
are fresh tensors with arbitrary integer values -/
example : ∃ m, m = demoSiteMat ∧ getEffectiveSingleSiteHamiltonianNodes demoHam demoHam (gOpT 9 demoHam)
      (fun n => some (gBlock n 9 [])) = some m ∧
    BuiltL (R := Int) (gOpT 9 demoHam) [((gOpT 9 demoHam).legs, demoT (gOpT 9 demoHam).legs)] ∧
    (∀ n ∈ demoHam.nbrs, ∀ blk, (fun n => some (gBlock n 9 [])) n = some blk →
      BuiltL (R := Int) blk ((fun n => [(blockLegs n 9, demoT (blockLegs n 9))]) n)) ∧
    BuiltL (R := Int) m.toT ([((gOpT 9 demoHam).legs, demoT (gOpT 9 demoHam).legs)] ++
      demoHam.nbrs.flatMap fun n => [(blockLegs n 9, demoT (blockLegs n 9))]) := by
  have hc : ∀ n ∈ demoHam.nbrs, ∀ blk, (fun n => some (gBlock n 9 [])) n = some blk →
      BuiltL (R := Int) blk ((fun n => [(blockLegs n 9, demoT (blockLegs n 9))]) n) := by
    intro n _ blk h
    simp only [Option.some.injEq] at h
    subst h
    exact BuiltL.fresh _ _
  have hm : getEffectiveSingleSiteHamiltonianNodes demoHam demoHam (gOpT 9 demoHam)
      (fun n => some (gBlock n 9 [])) = some demoSiteMat := by decide +kernel
  exact ⟨demoSiteMat, rfl, hm, BuiltL.fresh _ _, hc,
    site_heff_built (lv := fun n => [(blockLegs n 9, demoT (blockLegs n 9))]) hm (BuiltL.fresh _ _) hc⟩

/-- every hypothesis of `site_heff_loop_value` (node 9, parent 5, child 1) -/
example : demoHam.nbrs.Nodup ∧ demoHam.nbrs.Perm demoHam.nbrs ∧ 9 ∉ demoHam.nbrs ∧
    (∀ n ∈ demoHam.nbrs, (fun n => some (gBlock n 9 [])) n = some (gBlock n 9 [])) ∧
    DependsOn (· ∈ (gOpT 9 demoHam).legs) (demoT (gOpT 9 demoHam).legs) ∧
    (∀ n ∈ demoHam.nbrs, DependsOn (· ∈ blockLegs n 9) (demoT (blockLegs n 9))) :=
  ⟨by decide +kernel, List.Perm.refl _, by decide +kernel, fun _ _ => rfl, demoT_local _, fun _ _ => demoT_local _⟩

/-- every hypothesis of `link_heff_built` / `link_heff_loop_value` (link between parent 7 and child 4) -/
example : (7 : Nat) ≠ 4 ∧
    (fun k => if k = (4, 7) then some (gBlock 4 7 []) else if k = (7, 4) then some (gBlock 7 4 []) else none :
      Dict) (7, 4) = some (gBlock 7 4 []) ∧
    (fun k => if k = (4, 7) then some (gBlock 4 7 []) else if k = (7, 4) then some (gBlock 7 4 []) else none :
      Dict) (4, 7) = some (gBlock 4 7 []) ∧
    DependsOn (· ∈ blockLegs 7 4) (demoT (blockLegs 7 4)) ∧ DependsOn (· ∈ blockLegs 4 7) (demoT (blockLegs 4 7)) :=
  ⟨by decide +kernel, by decide +kernel, by decide +kernel, demoT_local _, demoT_local _⟩

/-- the hypotheses of `two_site_heff_built` / `two_site_heff_loop_value` beyond those of `two_site_heff_value`
(shown above): the tensors read only their own legs -/
example : DependsOn (· ∈ (gOpT 1 demoHamT).legs) (demoT (gOpT 1 demoHamT).legs) ∧
    DependsOn (· ∈ (gOpT 2 demoHamX).legs) (demoT (gOpT 2 demoHamX).legs) ∧
    (∀ n ∈ demoHamT.nbrs.filter (· ≠ 2), DependsOn (· ∈ blockLegs n 1) (demoT (blockLegs n 1))) ∧
    (∀ n ∈ demoHamX.nbrs.filter (· ≠ 1), DependsOn (· ∈ blockLegs n 2) (demoT (blockLegs n 2))) :=
  ⟨demoT_local _, demoT_local _, fun _ _ => demoT_local _, fun _ _ => demoT_local _⟩

/-! ### the chain 0 — 1 — 2 (root 0): `link_heff_is_projected_hamiltonian` on the bond 0 — 1 of the two-node chain,
`Ctx.ctx_block_is_model`, `Ctx.block_record_is_component_sandwich` and `site_heff_projected_tree` for the site 2
(a leaf at depth 2: its parent block contains the block from the grandparent) -/

def chKet (i : Nat) (nd : Node) : Expr Leg Int := demoLeaf (gKetT i nd).legs
def chOp (i : Nat) (nd : Node) : Expr Leg Int := demoLeaf (gOpT i nd).legs
def chBra (i : Nat) (nd : Node) : Expr Leg Int := demoLeaf (gBraT i nd).legs

/-- the two-node chain 0 — 1: blocks of the one-node components, link on the bond -/
def lkBlk0 : Expr Leg Int :=
  Expr.dot (Expr.dot (chKet 0 ⟨none, [1]⟩) (chOp 0 ⟨none, [1]⟩) [physIn 0]) (chBra 0 ⟨none, [1]⟩) [physOut 0]
def lkBlk1 : Expr Leg Int :=
  Expr.dot (Expr.dot (chKet 1 ⟨some 0, []⟩) (chOp 1 ⟨some 0, []⟩) [physIn 1]) (chBra 1 ⟨some 0, []⟩) [physOut 1]
def lkHeff : Expr Leg Int := Expr.dot lkBlk0 lkBlk1 [(Leg.gOp 0 1, Leg.gOp 1 0)]
def lkE : Expr Leg Int := Expr.dot (chKet 0 ⟨none, [1]⟩) (chKet 1 ⟨some 0, []⟩) []
def lkH : Expr Leg Int := Expr.dot (chOp 0 ⟨none, [1]⟩) (chOp 1 ⟨some 0, []⟩) [(Leg.gOp 0 1, Leg.gOp 1 0)]
def lkB : Expr Leg Int := Expr.dot (chBra 0 ⟨none, [1]⟩) (chBra 1 ⟨some 0, []⟩) []

theorem lkBlk1_swf : lkBlk1.SWF := oneNbrBlk_swf 1 0 _ rfl

/-- every hypothesis of `link_heff_is_projected_hamiltonian` (`p = 0`, `c = 1`; components = single nodes; the
blocks carry the records the model produces: `[physIn 0, physOut 0]` from `contract_any(0, 1)`, `[physOut 1, physIn 1]`
from `contract_leaf`), all dimensions 2 -/
example : (0 : Nat) ≠ 1 ∧
    (unordL [physIn 0, physOut 0]).Perm (unordL (compRecord (fun n => [physOut n]) (fun n => [physIn n])
      (fun _ => []) (fun _ => []) (fun _ => []) 0)) ∧
    (unordL [physOut 1, physIn 1]).Perm (unordL (compRecord (fun n => [physOut n]) (fun n => [physIn n])
      (fun _ => []) (fun _ => []) (fun _ => []) 1)) ∧
    lkHeff.SWF ∧ lkE.WF ∧ lkH.WF ∧ lkB.WF ∧
    (∀ l ∈ lkE.labels, l ∉ lkH.labels) ∧ (∀ l ∈ lkE.labels, l ∉ lkB.labels) ∧ (∀ l ∈ lkH.labels, l ∉ lkB.labels) ∧
    lkHeff.binds.Perm ([physIn 0, physOut 0] ++ [physOut 1, physIn 1] ++ [(Leg.gOp 0 1, Leg.gOp 1 0)]) ∧
    (unordL lkE.binds).Perm (unordL ([] ++ [])) ∧
    (unordL lkH.binds).Perm (unordL ([(Leg.gOp 0 1, Leg.gOp 1 0)] ++ ([] ++ []))) ∧
    (unordL lkB.binds).Perm (unordL ([] ++ [])) ∧
    (∀ q ∈ [physIn 0] ++ [physIn 1], q.1 ∈ lkE.free ∧ q.2 ∈ lkH.free) ∧
    (∀ q ∈ [physOut 0] ++ [physOut 1],
      (q.1 ∈ lkH.free ∧ q.1 ∉ ([physIn 0] ++ [physIn 1]).map Prod.snd) ∧ q.2 ∈ lkB.free) ∧
    (∀ σ, lkHeff.leafProd σ = lkE.leafProd σ * lkH.leafProd σ * lkB.leafProd σ) := by
  have hE : lkE.SWF := demo_swf _ rfl (by decide +kernel)
  have hH : lkH.SWF := demo_swf _ rfl (by decide +kernel)
  have hB : lkB.SWF := demo_swf _ rfl (by decide +kernel)
  refine ⟨by decide +kernel, by decide +kernel, by decide +kernel, demo_swf _ rfl (by decide +kernel), hE.wf, hH.wf,
    hB.wf,
    disjoint_of_all (by decide +kernel), disjoint_of_all (by decide +kernel), disjoint_of_all (by decide +kernel),
    by decide +kernel,
    by decide +kernel, by decide +kernel, by decide +kernel, by decide +kernel, by decide +kernel, ?_⟩
  intro σ
  simp only [lkHeff, lkBlk0, lkBlk1, lkE, lkH, lkB, Expr.leafProd_dot]
  ring

/-- the context of the site 2 in the chain 0 — 1 — 2 -/
def chCtx : Ctx := .frame 1 [] [] (.frame 0 [] [] .root)

example : chCtx.plug (Tree.node 2 []) = Tree.node 0 [Tree.node 1 [Tree.node 2 []]] := rfl

/-- `Ctx.ctx_block_is_model` on the chain: `contract_any(0, 1)` with an empty cache, then `contract_any(1, 2)` with
the block just built, return the blocks with the records `blockBinds`; hypotheses by `decide` -/
example : opContractAnyNodeEnvironmentButOne 1 ⟨none, [1]⟩ (gKetT 0 ⟨none, [1]⟩) ⟨none, [1]⟩ (gOpT 0 ⟨none, [1]⟩)
      (fun _ => none) ⟨none, [1]⟩ (gBraT 0 ⟨none, [1]⟩) id id =
      some (gBlock 0 1 (Ctx.frame 0 [] [] .root).blockBinds) ∧
    opContractAnyNodeEnvironmentButOne 2 ⟨some 0, [2]⟩ (gKetT 1 ⟨some 0, [2]⟩) ⟨some 0, [2]⟩ (gOpT 1 ⟨some 0, [2]⟩)
      (fun n => if n = 0 then some (gBlock 0 1 (Ctx.frame 0 [] [] .root).blockBinds) else none) ⟨some 0, [2]⟩
      (gBraT 1 ⟨some 0, [2]⟩) id id = some (gBlock 1 2 chCtx.blockBinds) ∧
    chCtx.ids.Nodup ∧
    chCtx.blockBinds = [physIn 0, physOut 0, (.gKet 1 0, .gKet 0 1), (.gOp 0 1, .gOp 1 0), physIn 1,
      (.gBra 0 1, .gBra 1 0), physOut 1] := by
  refine ⟨?_, ?_, by decide +kernel⟩
  · exact Ctx.ctx_block_is_model 0 1 [] [] .root [1] _ (by decide +kernel) (by decide +kernel) (by simp [Ctx.parent])
      (by simp)
  · exact Ctx.ctx_block_is_model 1 2 [] [] (.frame 0 [] [] .root) [2] _ (by decide +kernel) (by decide +kernel)
      (by intro q hq; simp only [Ctx.parent, Option.some.injEq] at hq; subst hq; rfl) (by simp)

def chBlk0 : Expr Leg Int := lkBlk0
/-- the program of `contract_any(1, 2)`: ket tensor with the block of 0, then the operator, then the bra -/
def chBlk1 : Expr Leg Int :=
  Expr.dot
    (Expr.dot (Expr.dot (chKet 1 ⟨some 0, [2]⟩) chBlk0 [(Leg.gKet 1 0, Leg.gKet 0 1)]) (chOp 1 ⟨some 0, [2]⟩)
      [(Leg.gOp 0 1, Leg.gOp 1 0), physIn 1])
    (chBra 1 ⟨some 0, [2]⟩) [(Leg.gBra 0 1, Leg.gBra 1 0), physOut 1]
def chW2 : Expr Leg Int := chOp 2 ⟨some 1, []⟩
/-- the program of `contract_all_except_node` for the leaf 2 -/
def chHeff : Expr Leg Int := Expr.dot chW2 chBlk1 [(Leg.gOp 2 1, Leg.gOp 1 2)]
def chE : Expr Leg Int := Expr.dot (chKet 0 ⟨none, [1]⟩) (chKet 1 ⟨some 0, [2]⟩) [(Leg.gKet 0 1, Leg.gKet 1 0)]
def chH : Expr Leg Int :=
  Expr.dot (Expr.dot (chOp 0 ⟨none, [1]⟩) (chOp 1 ⟨some 0, [2]⟩) [(Leg.gOp 0 1, Leg.gOp 1 0)]) chW2
    [(Leg.gOp 1 2, Leg.gOp 2 1)]
def chB : Expr Leg Int := Expr.dot (chBra 0 ⟨none, [1]⟩) (chBra 1 ⟨some 0, [2]⟩) [(Leg.gBra 0 1, Leg.gBra 1 0)]

theorem chBlk1_swf : chBlk1.SWF := demo_swf _ rfl (by decide +kernel)

theorem chE_swf : chE.SWF := demo_swf _ rfl (by decide +kernel)
theorem chB_swf : chB.SWF := demo_swf _ rfl (by decide +kernel)
theorem chH_swf : chH.SWF := demo_swf _ rfl (by decide +kernel)

/-- the model's answer for the leaf 2 of the chain: the parent block carries `chCtx.blockBinds` -/
example : getEffectiveSingleSiteHamiltonianNodes ⟨chCtx.parent, []⟩ ⟨chCtx.parent, []⟩ (gOpT 2 ⟨chCtx.parent, []⟩)
    (siteCache chCtx [] 2) =
    some ⟨[.gBra 1 2, .gOpOut 2], [.gKet 1 2, .gOpIn 2], chCtx.blockBinds ++ [(.gOp 2 1, .gOp 1 2)]⟩ := by
  decide +kernel

/-- every hypothesis of `site_heff_projected_tree` for the site 2 of the chain 0 — 1 — 2 (depth 2), all
dimensions 2 -/
example : (chCtx.plug (Tree.node 2 [])).ids.Nodup ∧ ([] : List Nat).Perm (([] : List Tree).map Tree.id) ∧
    chHeff.SWF ∧ chE.WF ∧ chH.WF ∧ chB.WF ∧
    (∀ l ∈ chE.labels, l ∉ chH.labels) ∧ (∀ l ∈ chE.labels, l ∉ chB.labels) ∧ (∀ l ∈ chH.labels, l ∉ chB.labels) ∧
    chHeff.binds.Perm (chCtx.blockBinds ++ [(.gOp 2 1, .gOp 1 2)]) ∧
    (unordL chE.binds).Perm
      (unordL ((chCtx.compEdges ++ ([] : List Tree).flatMap Tree.edges).map fun e => ketEdge e.1 e.2)) ∧
    (unordL chH.binds).Perm (unordL ((chCtx.plug (Tree.node 2 [])).edges.map fun e => opEdge e.1 e.2)) ∧
    (unordL chB.binds).Perm
      (unordL ((chCtx.compEdges ++ ([] : List Tree).flatMap Tree.edges).map fun e => braEdge e.1 e.2)) ∧
    (∀ n ∈ chCtx.ids ++ Tree.idsL [], Leg.gKetPhys n ∈ chE.free ∧ Leg.gOpIn n ∈ chH.free ∧
      Leg.gOpOut n ∈ chH.free ∧ Leg.gBraPhys n ∈ chB.free) ∧
    (∀ σ, chHeff.leafProd σ = chE.leafProd σ * chH.leafProd σ * chB.leafProd σ) := by
  refine ⟨by decide +kernel, by decide +kernel, demo_swf _ rfl (by decide +kernel), chE_swf.wf, chH_swf.wf, chB_swf.wf,
    disjoint_of_all (by decide +kernel), disjoint_of_all (by decide +kernel), disjoint_of_all (by decide +kernel),
    by decide +kernel, by decide +kernel,
    by decide +kernel, by decide +kernel, by decide +kernel, ?_⟩
  intro σ
  simp only [chHeff, chBlk1, chBlk0, lkBlk0, chE, chH, chB, Expr.leafProd_dot]
  ring

/-- `Ctx.exists_ctx`: the site 2 of the chain is a hole -/
example : ∃ (c : Ctx) (ks : List Tree), Tree.node 0 [Tree.node 1 [Tree.node 2 []]] = c.plug (Tree.node 2 ks) :=
  Ctx.exists_ctx _ 2 (by decide +kernel)

/-! ### `two_site_heff_is_projected_hamiltonian`: the chain 0 — 1 — 2 — 3 (root 0), target 1, next 2 -/

def tsT : Node := ⟨some 0, [2]⟩
def tsX : Node := ⟨some 1, [3]⟩
def tsBlk3 : Expr Leg Int :=
  Expr.dot (Expr.dot (chKet 3 ⟨some 2, []⟩) (chOp 3 ⟨some 2, []⟩) [physIn 3]) (chBra 3 ⟨some 2, []⟩) [physOut 3]
/-- the program of `_contract_all_except_two_nodes` on top of the block programs -/
def tsHeff : Expr Leg Int :=
  Expr.dot (Expr.dot (chOp 1 tsT) lkBlk0 [(Leg.gOp 1 0, Leg.gOp 0 1)])
    (Expr.dot (chOp 2 tsX) tsBlk3 [(Leg.gOp 2 3, Leg.gOp 3 2)]) [(Leg.gOp 1 2, Leg.gOp 2 1)]
def tsE : Expr Leg Int := Expr.dot (chKet 0 ⟨none, [1]⟩) (chKet 3 ⟨some 2, []⟩) []
def tsH : Expr Leg Int :=
  Expr.dot (Expr.dot (Expr.dot (chOp 0 ⟨none, [1]⟩) (chOp 1 tsT) [(Leg.gOp 0 1, Leg.gOp 1 0)]) (chOp 2 tsX)
    [(Leg.gOp 1 2, Leg.gOp 2 1)]) (chOp 3 ⟨some 2, []⟩) [(Leg.gOp 2 3, Leg.gOp 3 2)]
def tsB : Expr Leg Int := Expr.dot (chBra 0 ⟨none, [1]⟩) (chBra 3 ⟨some 2, []⟩) []

theorem tsBlk3_swf : tsBlk3.SWF := oneNbrBlk_swf 3 2 _ rfl

theorem tsE_swf : tsE.SWF := demo_swf _ rfl (by decide +kernel)
theorem tsB_swf : tsB.SWF := demo_swf _ rfl (by decide +kernel)
theorem tsH_swf : tsH.SWF := demo_swf _ rfl (by decide +kernel)
theorem tsHeff_swf : tsHeff.SWF := demo_swf _ rfl (by decide +kernel)

/-- every hypothesis of `two_site_heff_is_projected_hamiltonian`: the structural ones, the block records the model
produces (`[physIn 0, physOut 0]` from `contract_any(0, 1)`, `[physOut 3, physIn 3]` from `contract_leaf`) are the
sandwich records of the one-node components, and the programs `tsHeff`, `tsE`, `tsH`, `tsB` -/
example : tsT.nbrs.Nodup ∧ tsX.nbrs.Nodup ∧ 2 ∈ tsT.nbrs ∧ 1 ∈ tsX.nbrs ∧ (∀ n ∈ tsX.nbrs, n ∉ tsT.nbrs) ∧
    (Node.mk (some 0) [3]).nbrs.Perm (tsT.nbrs.filter (· ≠ 2) ++ tsX.nbrs.filter (· ≠ 1)) ∧
    (∀ n ∈ tsT.nbrs.filter (· ≠ 2), (unordL ((fun _ => [physIn 0, physOut 0]) n)).Perm
      (unordL (compRecord (fun n => [physOut n]) (fun n => [physIn n]) (fun _ => []) (fun _ => []) (fun _ => []) n))) ∧
    (∀ n ∈ tsX.nbrs.filter (· ≠ 1), (unordL ((fun _ => [physOut 3, physIn 3]) n)).Perm
      (unordL (compRecord (fun n => [physOut n]) (fun n => [physIn n]) (fun _ => []) (fun _ => []) (fun _ => []) n))) ∧
    tsHeff.SWF ∧ tsE.WF ∧ tsH.WF ∧ tsB.WF ∧
    (∀ l ∈ tsE.labels, l ∉ tsH.labels) ∧ (∀ l ∈ tsE.labels, l ∉ tsB.labels) ∧ (∀ l ∈ tsH.labels, l ∉ tsB.labels) ∧
    tsHeff.binds.Perm [physIn 0, physOut 0, (.gOp 1 0, .gOp 0 1), physOut 3, physIn 3, (.gOp 2 3, .gOp 3 2),
      (.gOp 1 2, .gOp 2 1)] ∧
    (unordL tsE.binds).Perm (unordL ([] ++ [])) ∧
    (unordL tsH.binds).Perm (unordL (twoOpPairs 1 2 [0] [3] ++ ([] ++ []))) ∧
    (unordL tsB.binds).Perm (unordL ([] ++ [])) ∧
    (∀ q ∈ [physIn 0] ++ [physIn 3], q.1 ∈ tsE.free ∧ q.2 ∈ tsH.free) ∧
    (∀ q ∈ [physOut 0] ++ [physOut 3],
      (q.1 ∈ tsH.free ∧ q.1 ∉ ([physIn 0] ++ [physIn 3]).map Prod.snd) ∧ q.2 ∈ tsB.free) ∧
    (∀ σ, tsHeff.leafProd σ = tsE.leafProd σ * tsH.leafProd σ * tsB.leafProd σ) := by
  refine ⟨by decide +kernel, by decide +kernel, by decide +kernel, by decide +kernel, by decide +kernel,
    by decide +kernel, by decide +kernel, by decide +kernel, tsHeff_swf, tsE_swf.wf, tsH_swf.wf, tsB_swf.wf,
    disjoint_of_all (by decide +kernel), disjoint_of_all (by decide +kernel), disjoint_of_all (by decide +kernel),
    by decide +kernel, by decide +kernel, by decide +kernel, by decide +kernel, by decide +kernel, by decide +kernel,
    ?_⟩
  intro σ
  simp only [tsHeff, tsBlk3, lkBlk0, tsE, tsH, tsB, Expr.leafProd_dot]
  ring

/-! ### `link_heff_projected_tree`: the chain 0 — 1 — 2 (root 0), link on the LOWER edge 1 — 2: the block from 1 is the
top-down block `contract_any(1, 2)` (it contains the block from 0), the block from 2 is `contract_leaf` -/

def lk2Blk2 : Expr Leg Int :=
  Expr.dot (Expr.dot (chKet 2 ⟨some 1, []⟩) (chOp 2 ⟨some 1, []⟩) [physIn 2]) (chBra 2 ⟨some 1, []⟩) [physOut 2]
/-- the program of `_get_effective_link_hamiltonian` on top of the two block programs -/
def lk2Heff : Expr Leg Int := Expr.dot chBlk1 lk2Blk2 [(Leg.gOp 1 2, Leg.gOp 2 1)]
/-- the whole ket / bra network with the bond 1 — 2 opened -/
def lk2E : Expr Leg Int := Expr.dot chE (chKet 2 ⟨some 1, []⟩) []
def lk2B : Expr Leg Int := Expr.dot chB (chBra 2 ⟨some 1, []⟩) []
def lk2Cache : Dict := fun k =>
  if k = (1, 2) then some (gBlock 1 2 chCtx.blockBinds)
  else if k = (2, 1) then some (soBlock (Tree.node 2 []) 1) else none

theorem lk2Blk2_swf : lk2Blk2.SWF := oneNbrBlk_swf 2 1 _ rfl

theorem lk2E_swf : lk2E.SWF := demo_swf _ rfl (by decide +kernel)
theorem lk2B_swf : lk2B.SWF := demo_swf _ rfl (by decide +kernel)

/-- `Ctx.exists_ctx_edge`: the edge 1 — 2 of the chain is the edge into the hole of a frame -/
example : ∃ (ls rs : List Tree) (up : Ctx) (ks : List Tree),
    Tree.node 0 [Tree.node 1 [Tree.node 2 []]] = (Ctx.frame 1 ls rs up).plug (Tree.node 2 ks) :=
  Ctx.exists_ctx_edge _ 1 2 (by decide +kernel)

/-- every hypothesis of `link_heff_projected_tree` (`c = chCtx`, `p = 1`, `t = node 2 []`), all dimensions 2 -/
example : chCtx.parent = some 1 ∧ (chCtx.plug (Tree.node 2 [])).ids.Nodup ∧
    lk2Cache (1, (Tree.node 2 []).id) = some (gBlock 1 (Tree.node 2 []).id chCtx.blockBinds) ∧
    lk2Cache ((Tree.node 2 []).id, 1) = some (soBlock (Tree.node 2 []) 1) ∧
    lk2Heff.SWF ∧ lk2E.WF ∧ chH.WF ∧ lk2B.WF ∧
    (∀ l ∈ lk2E.labels, l ∉ chH.labels) ∧ (∀ l ∈ lk2E.labels, l ∉ lk2B.labels) ∧
    (∀ l ∈ chH.labels, l ∉ lk2B.labels) ∧
    lk2Heff.binds.Perm (chCtx.blockBinds ++ soBlockBinds (Tree.node 2 []) ++ [(Leg.gOp 1 2, Leg.gOp 2 1)]) ∧
    (unordL lk2E.binds).Perm
      (unordL ((chCtx.compEdges ++ (Tree.node 2 []).edges).map fun e => ketEdge e.1 e.2)) ∧
    (unordL chH.binds).Perm (unordL ((chCtx.plug (Tree.node 2 [])).edges.map fun e => opEdge e.1 e.2)) ∧
    (unordL lk2B.binds).Perm
      (unordL ((chCtx.compEdges ++ (Tree.node 2 []).edges).map fun e => braEdge e.1 e.2)) ∧
    (∀ n ∈ chCtx.ids ++ (Tree.node 2 []).ids, Leg.gKetPhys n ∈ lk2E.free ∧ Leg.gOpIn n ∈ chH.free ∧
      Leg.gOpOut n ∈ chH.free ∧ Leg.gBraPhys n ∈ lk2B.free) ∧
    (∀ σ, lk2Heff.leafProd σ = lk2E.leafProd σ * chH.leafProd σ * lk2B.leafProd σ) := by
  refine ⟨rfl, by decide +kernel, by decide +kernel, by decide +kernel, demo_swf _ rfl (by decide +kernel), lk2E_swf.wf, chH_swf.wf, lk2B_swf.wf,
    disjoint_of_all (by decide +kernel), disjoint_of_all (by decide +kernel), disjoint_of_all (by decide +kernel),
    by decide +kernel,
    by decide +kernel, by decide +kernel, by decide +kernel, by decide +kernel, ?_⟩
  intro σ
  simp only [lk2Heff, lk2Blk2, lk2E, lk2B, chBlk1, chBlk0, lkBlk0, chW2, chE, chH, chB, Expr.leafProd_dot]
  ring

/-! ### `two_site_heff_projected_tree` / `two_site_heff_projected_tree_up`: the chain 0 — 1 — 2 — 3, pair 1 — 2
(`up = frame 0 [] [] root`, `a = 1`, `b = 2`, `ks = [node 3 []]`); the programs `tsHeff`, `tsE`, `tsH`, `tsB` above -/

def tsUp : Ctx := .frame 0 [] [] .root
def tsCache : Dict := fun k =>
  if k = (0, 1) then some (gBlock 0 1 tsUp.blockBinds) else soKidBlock [Tree.node 3 []] 2 k

theorem tsCache_up (q : Nat) (hq : tsUp.parent = some q) : tsCache (q, 1) = some (gBlock q 1 tsUp.blockBinds) := by
  have : q = 0 := by simpa [tsUp, Ctx.parent] using hq.symm
  subst this
  rfl

theorem tsCache_kid (n : Nat) (hn : n ∈ [Tree.node 3 []].map Tree.id) :
    tsCache (n, 2) = soKidBlock [Tree.node 3 []] 2 (n, 2) := by
  have : n = 3 := by simpa [Tree.id] using hn
  subst this
  rfl

/-- the model's answers for both orders of the pair -/
example : getEffectiveTwoSiteHamiltonian ⟨tsUp.parent, [2]⟩ ⟨some 1, [3]⟩ ⟨some 0, [3]⟩ (gOpT 1 ⟨tsUp.parent, [2]⟩)
      (gOpT 2 ⟨some 1, [3]⟩) 1 2 tsCache =
      some ⟨[.gBra 0 1, .gBra 3 2, .gOpOut 1, .gOpOut 2], [.gKet 0 1, .gKet 3 2, .gOpIn 1, .gOpIn 2],
        [physIn 0, physOut 0, (.gOp 1 0, .gOp 0 1), physOut 3, physIn 3, (.gOp 2 3, .gOp 3 2), (.gOp 1 2, .gOp 2 1)]⟩ ∧
    getEffectiveTwoSiteHamiltonian ⟨some 1, [3]⟩ ⟨tsUp.parent, [2]⟩ ⟨some 0, [3]⟩ (gOpT 2 ⟨some 1, [3]⟩)
      (gOpT 1 ⟨tsUp.parent, [2]⟩) 2 1 tsCache =
      some ⟨[.gBra 0 1, .gBra 3 2, .gOpOut 2, .gOpOut 1], [.gKet 0 1, .gKet 3 2, .gOpIn 2, .gOpIn 1],
        [physOut 3, physIn 3, (.gOp 2 3, .gOp 3 2), physIn 0, physOut 0, (.gOp 1 0, .gOp 0 1), (.gOp 2 1, .gOp 1 2)]⟩ := by
  decide +kernel

/-- every hypothesis of `two_site_heff_projected_tree` (and of `…_up`: the same list), all dimensions 2 -/
example : ((Ctx.frame 1 [] [] tsUp).plug (Tree.node 2 [Tree.node 3 []])).ids.Nodup ∧
    ([2] : List Nat).Perm (([] : List Tree).map Tree.id ++ 2 :: ([] : List Tree).map Tree.id) ∧
    ([3] : List Nat).Perm ([Tree.node 3 []].map Tree.id) ∧
    (Node.mk (some 0) [3]).nbrs.Perm (tsUp.parent.toList ++ ((([] : List Tree) ++ []) ++ [Tree.node 3 []]).map Tree.id) ∧
    (∀ q, tsUp.parent = some q → tsCache (q, 1) = some (gBlock q 1 tsUp.blockBinds)) ∧
    (∀ n ∈ (([] : List Tree) ++ []).map Tree.id, tsCache (n, 1) = soKidBlock ([] ++ []) 1 (n, 1)) ∧
    (∀ n ∈ [Tree.node 3 []].map Tree.id, tsCache (n, 2) = soKidBlock [Tree.node 3 []] 2 (n, 2)) ∧
    tsHeff.SWF ∧ tsE.WF ∧ tsH.WF ∧ tsB.WF ∧
    (∀ l ∈ tsE.labels, l ∉ tsH.labels) ∧ (∀ l ∈ tsE.labels, l ∉ tsB.labels) ∧ (∀ l ∈ tsH.labels, l ∉ tsB.labels) ∧
    tsHeff.binds.Perm [physIn 0, physOut 0, (.gOp 1 0, .gOp 0 1), physOut 3, physIn 3, (.gOp 2 3, .gOp 3 2),
      (.gOp 1 2, .gOp 2 1)] ∧
    (unordL tsE.binds).Perm (unordL ((tsUp.compEdges ++ ((([] : List Tree) ++ []) ++ [Tree.node 3 []]).flatMap
      Tree.edges).map fun e => ketEdge e.1 e.2)) ∧
    (unordL tsH.binds).Perm (unordL (((Ctx.frame 1 [] [] tsUp).plug (Tree.node 2 [Tree.node 3 []])).edges.map
      fun e => opEdge e.1 e.2)) ∧
    (unordL tsB.binds).Perm (unordL ((tsUp.compEdges ++ ((([] : List Tree) ++ []) ++ [Tree.node 3 []]).flatMap
      Tree.edges).map fun e => braEdge e.1 e.2)) ∧
    (∀ n ∈ tsUp.ids ++ Tree.idsL ((([] : List Tree) ++ []) ++ [Tree.node 3 []]), Leg.gKetPhys n ∈ tsE.free ∧
      Leg.gOpIn n ∈ tsH.free ∧ Leg.gOpOut n ∈ tsH.free ∧ Leg.gBraPhys n ∈ tsB.free) := by
  refine ⟨by decide +kernel, by decide +kernel, by decide +kernel, by decide +kernel, tsCache_up, by simp, tsCache_kid, tsHeff_swf,
    tsE_swf.wf, tsH_swf.wf, tsB_swf.wf, disjoint_of_all (by decide +kernel), disjoint_of_all (by decide +kernel),
    disjoint_of_all (by decide +kernel), by decide +kernel⟩

/-! ### `site_heff_whole_program` (with `Ctx.ctx_block_built`, `soBlock_built_free`): the chain 0 — 1 — 2, site 2;
the node tensors are `demoT` of their own legs, the operator nodes use the state's child orders -/

def chNode (n : Nat) : Node := if n = 0 then ⟨none, [1]⟩ else if n = 1 then ⟨some 0, [2]⟩ else ⟨some 1, []⟩
def chOpKids (n : Nat) : List Nat := (chNode n).children
def chKv (n : Nat) : Asg Leg → Int := demoT (gKetT n (chNode n)).legs
def chOv (n : Nat) : Asg Leg → Int := demoT (gOpT n (chNode n)).legs
def chBv (n : Nat) : Asg Leg → Int := demoT (gBraT n (chNode n)).legs

/-- the tensor of node `k.2` in a state with the nodes `nd`, tagged `k.1`: 0 ket, 1 operator, 2 bra -/
def tagLeaf (nd : Nat → Node) (k : Nat × Nat) : LeafT Int :=
  let t := if k.1 = 0 then gKetT k.2 (nd k.2) else if k.1 = 1 then gOpT k.2 (nd k.2) else gBraT k.2 (nd k.2)
  (t.legs, demoT t.legs)

/-- two lists of tensors are compared through lists of tags, which are data -/
theorem perm_of_tags {α β : Type} (f : α → β) (s t : List α) {xs ys : List β} (hx : xs = s.map f) (hy : ys = t.map f)
    (h : s.Perm t) : xs.Perm ys := by
  subst hx hy
  exact h.map f

theorem chInfo (e : Nat × Option Nat × List Nat) (he : e ∈ Tree.info none (chCtx.plug (Tree.node 2 []))) :
    e = (0, none, [1]) ∨ e = (1, some 0, [2]) ∨ e = (2, some 1, []) := by
  simpa [chCtx, Ctx.plug, Tree.info, Tree.infoL, Tree.id] using he

theorem chOpKids_perm : ∀ e ∈ Tree.info none (chCtx.plug (Tree.node 2 [])), (chOpKids e.1).Perm e.2.2 := fun e he => by
  rcases chInfo e he with rfl | rfl | rfl <;> exact List.Perm.refl _
theorem chKv_local : KetLocal chKv (chCtx.plug (Tree.node 2 [])) := fun e he => by
  rcases chInfo e he with rfl | rfl | rfl <;> exact demoT_local _
theorem chOv_local : OpLocalK chOv chOpKids (chCtx.plug (Tree.node 2 [])) := fun e he => by
  rcases chInfo e he with rfl | rfl | rfl <;> exact demoT_local _
theorem chBv_local : BraLocalK chBv (chCtx.plug (Tree.node 2 [])) := fun e he => by
  rcases chInfo e he with rfl | rfl | rfl <;> exact demoT_local _

/-- every hypothesis of `site_heff_whole_program` for the leaf 2 of the chain (the theorem then provides the built
program itself), and a split `chE`, `chH`, `chB` of its leaves with the hypotheses of the value clause -/
example : (chCtx.plug (Tree.node 2 [])).ids.Nodup ∧
    (∀ e ∈ Tree.info none (chCtx.plug (Tree.node 2 [])), (chOpKids e.1).Perm e.2.2) ∧
    KetLocal chKv (chCtx.plug (Tree.node 2 [])) ∧ OpLocalK chOv chOpKids (chCtx.plug (Tree.node 2 [])) ∧
    BraLocalK chBv (chCtx.plug (Tree.node 2 [])) ∧
    chE.WF ∧ chH.WF ∧ chB.WF ∧
    (chE.leaves ++ (chH.leaves ++ chB.leaves)).Perm (wholeLeaves chOpKids chKv chOv chBv chCtx 2 []) ∧
    (unordL chE.binds).Perm
      (unordL ((chCtx.compEdges ++ ([] : List Tree).flatMap Tree.edges).map fun e => ketEdge e.1 e.2)) ∧
    (unordL chH.binds).Perm (unordL ((chCtx.plug (Tree.node 2 [])).edges.map fun e => opEdge e.1 e.2)) ∧
    (unordL chB.binds).Perm
      (unordL ((chCtx.compEdges ++ ([] : List Tree).flatMap Tree.edges).map fun e => braEdge e.1 e.2)) ∧
    (∀ n ∈ chCtx.ids ++ Tree.idsL [], Leg.gKetPhys n ∈ chE.free ∧ Leg.gOpIn n ∈ chH.free ∧
      Leg.gOpOut n ∈ chH.free ∧ Leg.gBraPhys n ∈ chB.free) := by
  refine ⟨by decide +kernel, chOpKids_perm, chKv_local, chOv_local, chBv_local, chE_swf.wf, chH_swf.wf, chB_swf.wf,
    perm_of_tags (tagLeaf chNode) [(0, 0), (0, 1), (1, 0), (1, 1), (1, 2), (2, 0), (2, 1)]
      [(1, 2), (0, 1), (1, 1), (2, 1), (0, 0), (1, 0), (2, 0)] rfl rfl (by decide +kernel),
    by decide +kernel⟩

/-! ### `site_heff_eq_projected`: the chain 0 — 1 — 2 with the node tensors above; the theorem is APPLIED —
all its hypotheses hold — once for the leaf 2 (context of depth 2) and once for the inner node 1 (one ancestor, one
child subtree); the dimensions are 2 on every leg.  `E`, `H`, `B` are the canonical `envKet`, `opAll`, `envBra`. -/

example : ∃ m : Mat, getEffectiveSingleSiteHamiltonianNodes ⟨chCtx.parent, ([] : List Tree).map Tree.id⟩
      ⟨chCtx.parent, chOpKids 2⟩ (gOpT 2 ⟨chCtx.parent, chOpKids 2⟩) (siteCache chCtx [] 2) = some m ∧
    ∀ e : Expr Leg Int, Built m.toT e → e.leaves.Perm (wholeLeaves chOpKids chKv chOv chBv chCtx 2 []) →
      ∀ σ, e.eval (fun _ => 2) σ =
        sumPairs (fun _ => 2) ((chCtx.ids ++ Tree.idsL []).map physOut)
          (fun τ => sumPairs (fun _ => 2) ((chCtx.ids ++ Tree.idsL []).map physIn)
            (fun ρ => (envKet chKv chCtx 2 []).eval (fun _ => 2) ρ *
              (opAll chOv chOpKids (chCtx.plug (Tree.node 2 []))).eval (fun _ => 2) ρ) τ *
            (envBra chBv chCtx 2 []).eval (fun _ => 2) τ) σ := by
  obtain ⟨_, _, _, _, _, _, _, _, _, _, m, hm, _, _, _, hall⟩ := site_heff_eq_projected chCtx 2 []
    (by decide +kernel) chOpKids chOpKids_perm chKv chOv chBv chKv_local chOv_local chBv_local
  exact ⟨m, hm, fun e hbe hl σ => (hall e hbe hl).2.2.2 (fun _ => 2) (fun _ _ => rfl) σ⟩

example : ∃ m : Mat, getEffectiveSingleSiteHamiltonianNodes
      ⟨(Ctx.frame 0 [] [] Ctx.root).parent, [Tree.node 2 []].map Tree.id⟩
      ⟨(Ctx.frame 0 [] [] Ctx.root).parent, chOpKids 1⟩ (gOpT 1 ⟨(Ctx.frame 0 [] [] Ctx.root).parent, chOpKids 1⟩)
      (siteCache (Ctx.frame 0 [] [] Ctx.root) [Tree.node 2 []] 1) = some m ∧
    ∀ e : Expr Leg Int, Built m.toT e →
      e.leaves.Perm (wholeLeaves chOpKids chKv chOv chBv (Ctx.frame 0 [] [] Ctx.root) 1 [Tree.node 2 []]) →
      ∀ σ, e.eval (fun _ => 2) σ =
        sumPairs (fun _ => 2) (((Ctx.frame 0 [] [] Ctx.root).ids ++ Tree.idsL [Tree.node 2 []]).map physOut)
          (fun τ => sumPairs (fun _ => 2)
            (((Ctx.frame 0 [] [] Ctx.root).ids ++ Tree.idsL [Tree.node 2 []]).map physIn)
            (fun ρ => (envKet chKv (Ctx.frame 0 [] [] Ctx.root) 1 [Tree.node 2 []]).eval (fun _ => 2) ρ *
              (opAll chOv chOpKids ((Ctx.frame 0 [] [] Ctx.root).plug (Tree.node 1 [Tree.node 2 []]))).eval
                (fun _ => 2) ρ) τ *
            (envBra chBv (Ctx.frame 0 [] [] Ctx.root) 1 [Tree.node 2 []]).eval (fun _ => 2) τ) σ := by
  obtain ⟨_, _, _, _, _, _, _, _, _, _, m, hm, _, _, _, hall⟩ := site_heff_eq_projected (Ctx.frame 0 [] [] Ctx.root) 1
    [Tree.node 2 []] (by decide +kernel) chOpKids chOpKids_perm chKv chOv chBv chKv_local chOv_local chBv_local
  exact ⟨m, hm, fun e hbe hl σ => (hall e hbe hl).2.2.2 (fun _ => 2) (fun _ _ => rfl) σ⟩

/-! ### `link_heff_whole_program`: the chain 0 — 1 — 2, link on the LOWER edge 1 — 2; node tensors, cache and
the split `lk2E`, `chH`, `lk2B` as above — the leaves of the split are exactly `linkLeaves` (ALL node tensors) -/

/-- every hypothesis of `link_heff_whole_program` (`c = chCtx`, `p = 1`, `t = node 2 []`) and of its value clause -/
example : chCtx.parent = some 1 ∧ (chCtx.plug (Tree.node 2 [])).ids.Nodup ∧
    (∀ e ∈ Tree.info none (chCtx.plug (Tree.node 2 [])), (chOpKids e.1).Perm e.2.2) ∧
    KetLocal chKv (chCtx.plug (Tree.node 2 [])) ∧ OpLocalK chOv chOpKids (chCtx.plug (Tree.node 2 [])) ∧
    BraLocalK chBv (chCtx.plug (Tree.node 2 [])) ∧
    lk2Cache (1, (Tree.node 2 []).id) = some (gBlock 1 (Tree.node 2 []).id chCtx.blockBinds) ∧
    lk2Cache ((Tree.node 2 []).id, 1) = some (soBlock (Tree.node 2 []) 1) ∧
    lk2E.WF ∧ chH.WF ∧ lk2B.WF ∧
    (lk2E.leaves ++ (chH.leaves ++ lk2B.leaves)).Perm (linkLeaves chOpKids chKv chOv chBv chCtx (Tree.node 2 [])) ∧
    (unordL lk2E.binds).Perm
      (unordL ((chCtx.compEdges ++ (Tree.node 2 []).edges).map fun e => ketEdge e.1 e.2)) ∧
    (unordL chH.binds).Perm (unordL ((chCtx.plug (Tree.node 2 [])).edges.map fun e => opEdge e.1 e.2)) ∧
    (unordL lk2B.binds).Perm
      (unordL ((chCtx.compEdges ++ (Tree.node 2 []).edges).map fun e => braEdge e.1 e.2)) ∧
    (∀ n ∈ chCtx.ids ++ (Tree.node 2 []).ids, Leg.gKetPhys n ∈ lk2E.free ∧ Leg.gOpIn n ∈ chH.free ∧
      Leg.gOpOut n ∈ chH.free ∧ Leg.gBraPhys n ∈ lk2B.free) := by
  refine ⟨rfl, by decide +kernel, chOpKids_perm, chKv_local, chOv_local, chBv_local, by decide +kernel,
    by decide +kernel, lk2E_swf.wf, chH_swf.wf, lk2B_swf.wf,
    perm_of_tags (tagLeaf chNode) [(0, 0), (0, 1), (0, 2), (1, 0), (1, 1), (1, 2), (2, 0), (2, 1), (2, 2)]
      [(0, 1), (1, 1), (2, 1), (0, 0), (1, 0), (2, 0), (0, 2), (1, 2), (2, 2)] rfl rfl (by decide +kernel),
    by decide +kernel⟩

/-! ### `two_site_heff_whole_program` / `…_up`: the chain 0 — 1 — 2 — 3, pair 1 — 2, cache `tsCache`; the split
`tsE`, `tsH`, `tsB` consists of exactly `pairLeaves` (all operator tensors, ket / bra tensors of the nodes 0 and 3) -/

def ts4Node (n : Nat) : Node :=
  if n = 0 then ⟨none, [1]⟩ else if n = 1 then ⟨some 0, [2]⟩ else if n = 2 then ⟨some 1, [3]⟩ else ⟨some 2, []⟩
def ts4OpKids (n : Nat) : List Nat := (ts4Node n).children
def ts4Kv (n : Nat) : Asg Leg → Int := demoT (gKetT n (ts4Node n)).legs
def ts4Ov (n : Nat) : Asg Leg → Int := demoT (gOpT n (ts4Node n)).legs
def ts4Bv (n : Nat) : Asg Leg → Int := demoT (gBraT n (ts4Node n)).legs

theorem ts4Info (e : Nat × Option Nat × List Nat)
    (he : e ∈ Tree.info none ((Ctx.frame 1 [] [] tsUp).plug (Tree.node 2 [Tree.node 3 []]))) :
    e = (0, none, [1]) ∨ e = (1, some 0, [2]) ∨ e = (2, some 1, [3]) ∨ e = (3, some 2, []) := by
  simpa [tsUp, Ctx.plug, Tree.info, Tree.infoL, Tree.id] using he

theorem ts4OpKids_perm : ∀ e ∈ Tree.info none ((Ctx.frame 1 [] [] tsUp).plug (Tree.node 2 [Tree.node 3 []])),
    (ts4OpKids e.1).Perm e.2.2 := fun e he => by
  rcases ts4Info e he with rfl | rfl | rfl | rfl <;> exact List.Perm.refl _
theorem ts4Kv_local : KetLocal ts4Kv ((Ctx.frame 1 [] [] tsUp).plug (Tree.node 2 [Tree.node 3 []])) := fun e he => by
  rcases ts4Info e he with rfl | rfl | rfl | rfl <;> exact demoT_local _
theorem ts4Ov_local : OpLocalK ts4Ov ts4OpKids ((Ctx.frame 1 [] [] tsUp).plug (Tree.node 2 [Tree.node 3 []])) :=
  fun e he => by rcases ts4Info e he with rfl | rfl | rfl | rfl <;> exact demoT_local _
theorem ts4Bv_local : BraLocalK ts4Bv ((Ctx.frame 1 [] [] tsUp).plug (Tree.node 2 [Tree.node 3 []])) := fun e he => by
  rcases ts4Info e he with rfl | rfl | rfl | rfl <;> exact demoT_local _

/-- the hypotheses of `two_site_heff_whole_program` (and of `…_up`) beyond those of
`two_site_heff_projected_tree` (shown above), and the split of the value clause -/
example : (∀ e ∈ Tree.info none ((Ctx.frame 1 [] [] tsUp).plug (Tree.node 2 [Tree.node 3 []])),
      (ts4OpKids e.1).Perm e.2.2) ∧
    KetLocal ts4Kv ((Ctx.frame 1 [] [] tsUp).plug (Tree.node 2 [Tree.node 3 []])) ∧
    OpLocalK ts4Ov ts4OpKids ((Ctx.frame 1 [] [] tsUp).plug (Tree.node 2 [Tree.node 3 []])) ∧
    BraLocalK ts4Bv ((Ctx.frame 1 [] [] tsUp).plug (Tree.node 2 [Tree.node 3 []])) ∧
    ts4OpKids 1 = [2] ∧ ts4OpKids 2 = [3] ∧
    (tsE.leaves ++ (tsH.leaves ++ tsB.leaves)).Perm
      (pairLeaves ts4OpKids ts4Kv ts4Ov ts4Bv tsUp 1 2 [] [] [Tree.node 3 []]) := by
  exact ⟨ts4OpKids_perm, ts4Kv_local, ts4Ov_local, ts4Bv_local, rfl, rfl,
    perm_of_tags (tagLeaf ts4Node) [(0, 0), (0, 3), (1, 0), (1, 1), (1, 2), (1, 3), (2, 0), (2, 3)]
      [(1, 1), (1, 2), (0, 0), (1, 0), (2, 0), (0, 3), (1, 3), (2, 3)] rfl rfl (by decide +kernel)⟩

/-! ### `link_heff_eq_projected`: the chain 0 — 1 — 2, link on the LOWER edge 1 — 2, node tensors and cache
`lk2Cache` as above; the theorem is APPLIED — all its hypotheses hold — with the canonical `linkEnvKet`, `opAll`,
`linkEnvBra` for `E`, `H`, `B`; the dimensions are 2 on every leg. -/

example : ∃ m : Mat, getEffectiveLinkHamiltonian ⟨some 1, [(Tree.node 2 []).id]⟩ (Tree.node 2 []).id 1 lk2Cache = some m ∧
    getEffectiveLinkHamiltonian ⟨some 1, [(Tree.node 2 []).id]⟩ 1 (Tree.node 2 []).id lk2Cache = some m ∧
    ∀ e : Expr Leg Int, Built m.toT e →
      e.leaves.Perm (linkLeaves chOpKids chKv chOv chBv chCtx (Tree.node 2 [])) →
      ∀ σ, e.eval (fun _ => 2) σ =
        sumPairs (fun _ => 2) ((chCtx.ids ++ (Tree.node 2 []).ids).map physOut)
          (fun τ => sumPairs (fun _ => 2) ((chCtx.ids ++ (Tree.node 2 []).ids).map physIn)
            (fun ρ => (linkEnvKet chKv chCtx (Tree.node 2 [])).eval (fun _ => 2) ρ *
              (opAll chOv chOpKids (chCtx.plug (Tree.node 2 []))).eval (fun _ => 2) ρ) τ *
            (linkEnvBra chBv chCtx (Tree.node 2 [])).eval (fun _ => 2) τ) σ := by
  obtain ⟨_, _, _, _, _, _, _, _, _, _, m, hm1, hm2, _, _, _, hall⟩ := link_heff_eq_projected chCtx 1 rfl (Tree.node 2 [])
    (by decide +kernel) chOpKids chOpKids_perm chKv chOv chBv chKv_local chOv_local chBv_local
    lk2Cache (by decide +kernel) (by decide +kernel)
  exact ⟨m, hm1, hm2, fun e hbe hl σ => (hall e hbe hl).2.2.2 (fun _ => 2) (fun _ _ => rfl) σ⟩

/-! ### `two_site_heff_eq_projected` / `…_up`: the chain 0 — 1 — 2 — 3, pair 1 — 2, node tensors `ts4Kv/Ov/Bv`,
cache `tsCache`; both theorems are APPLIED — all hypotheses hold — with the canonical `pairEnvKet`, `opAll`, `pairEnvBra`
for `E`, `H`, `B`; the dimensions are 2 on every leg. -/

example : ∃ m : Mat, getEffectiveTwoSiteHamiltonian ⟨tsUp.parent, ts4OpKids 1⟩ ⟨some 1, ts4OpKids 2⟩ ⟨some 0, [3]⟩
      (gOpT 1 ⟨tsUp.parent, ts4OpKids 1⟩) (gOpT 2 ⟨some 1, ts4OpKids 2⟩) 1 2 tsCache = some m ∧
    ∀ e : Expr Leg Int, Built m.toT e →
      e.leaves.Perm (pairLeaves ts4OpKids ts4Kv ts4Ov ts4Bv tsUp 1 2 [] [] [Tree.node 3 []]) →
      ∀ σ, e.eval (fun _ => 2) σ =
        sumPairs (fun _ => 2) ((tsUp.ids ++ Tree.idsL ((([] : List Tree) ++ []) ++ [Tree.node 3 []])).map physOut)
          (fun τ => sumPairs (fun _ => 2) ((tsUp.ids ++ Tree.idsL ((([] : List Tree) ++ []) ++ [Tree.node 3 []])).map physIn)
            (fun ρ => (pairEnvKet ts4Kv tsUp 1 2 [] [] [Tree.node 3 []]).eval (fun _ => 2) ρ *
              (opAll ts4Ov ts4OpKids ((Ctx.frame 1 [] [] tsUp).plug (Tree.node 2 [Tree.node 3 []]))).eval (fun _ => 2) ρ) τ *
            (pairEnvBra ts4Bv tsUp 1 2 [] [] [Tree.node 3 []]).eval (fun _ => 2) τ) σ := by
  obtain ⟨_, _, _, _, _, _, _, _, _, _, m, hm, _, _, _, hall⟩ := two_site_heff_eq_projected tsUp 1 2 [] [] [Tree.node 3 []]
    (by decide +kernel) ts4OpKids ts4OpKids_perm ts4Kv ts4Ov ts4Bv ts4Kv_local ts4Ov_local ts4Bv_local
    ⟨some 0, [3]⟩ (by decide +kernel) tsCache
    tsCache_up (by simp) tsCache_kid
  exact ⟨m, hm, fun e hbe hl σ => (hall e hbe hl).2.2.2 (fun _ => 2) (fun _ _ => rfl) σ⟩

example : ∃ m : Mat, getEffectiveTwoSiteHamiltonian ⟨some 1, ts4OpKids 2⟩ ⟨tsUp.parent, ts4OpKids 1⟩ ⟨some 0, [3]⟩
      (gOpT 2 ⟨some 1, ts4OpKids 2⟩) (gOpT 1 ⟨tsUp.parent, ts4OpKids 1⟩) 2 1 tsCache = some m ∧
    ∀ e : Expr Leg Int, Built m.toT e →
      e.leaves.Perm (pairLeaves ts4OpKids ts4Kv ts4Ov ts4Bv tsUp 1 2 [] [] [Tree.node 3 []]) →
      ∀ σ, e.eval (fun _ => 2) σ =
        sumPairs (fun _ => 2) ((tsUp.ids ++ Tree.idsL ((([] : List Tree) ++ []) ++ [Tree.node 3 []])).map physOut)
          (fun τ => sumPairs (fun _ => 2) ((tsUp.ids ++ Tree.idsL ((([] : List Tree) ++ []) ++ [Tree.node 3 []])).map physIn)
            (fun ρ => (pairEnvKet ts4Kv tsUp 1 2 [] [] [Tree.node 3 []]).eval (fun _ => 2) ρ *
              (opAll ts4Ov ts4OpKids ((Ctx.frame 1 [] [] tsUp).plug (Tree.node 2 [Tree.node 3 []]))).eval (fun _ => 2) ρ) τ *
            (pairEnvBra ts4Bv tsUp 1 2 [] [] [Tree.node 3 []]).eval (fun _ => 2) τ) σ := by
  obtain ⟨_, _, _, _, _, _, _, _, _, _, m, hm, _, _, _, hall⟩ := two_site_heff_eq_projected_up tsUp 1 2 [] [] [Tree.node 3 []]
    (by decide +kernel) ts4OpKids ts4OpKids_perm ts4Kv ts4Ov ts4Bv ts4Kv_local ts4Ov_local ts4Bv_local
    ⟨some 0, [3]⟩ (by decide +kernel) tsCache
    tsCache_up (by simp) tsCache_kid
  exact ⟨m, hm, fun e hbe hl σ => (hall e hbe hl).2.2.2 (fun _ => 2) (fun _ _ => rfl) σ⟩

end Ptn.C05.Heff
