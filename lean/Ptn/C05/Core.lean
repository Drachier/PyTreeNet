import Ptn.C05.Model
import Ptn.C05.Lemmas
/-! Property theorems for C05: signed durations of the TDVP schedules.

Units: durations are integers in half steps (`2` = `+dt`).  `segs = [(uᵢ, hᵢ)]`, `last = u_{m-1}`.
Hypotheses used:
* `hnd : (nodes segs last).Nodup` — the update path visits every node once (C17);
* `hadj : s.2 = last` for the last segment `s` — the last two nodes of the path are adjacent (C17).
The totals are stated per segment edge via `edgeCount`; `Tree.lean` instantiates them with the segments of a tree. -/
namespace Ptn.C05

/-- the update path `u₀ … u_{m-1}` read off the segments -/
def nodes (segs : List Seg) (last : Nat) : List Nat := segs.map Prod.fst ++ [last]

/-- Exactly one node of a duplicate-free sweep is `v`. -/
theorem nodes_indicator (segs : List Seg) (last v : Nat) (c : Int) (hnd : (nodes segs last).Nodup)
    (hv : v ∈ nodes segs last) :
    (segs.map fun s => if s.1 = v then c else 0).sum + (if last = v then c else 0) = c := by
  have h := sum_indicator_mem _ v c hnd hv
  simpa [nodes, List.sum_append, Function.comp_def] using h

/-! Each total below is unfolded to sums of indicators over the segments; `sum_map_ite` relates the
sums that differ in the constant, and what is left is linear arithmetic. -/

/-- Every node of the sweep is evolved for `+dt` in total. -/
theorem first_site_total (segs : List Seg) (last v : Nat) (hnd : (nodes segs last).Nodup)
    (hv : v ∈ nodes segs last) : siteTotal v (first segs last) = 2 := by
  simp only [siteTotal, first, tot_append, tot_flatMap, tot_cons, tot_nil, siteW, Int.add_zero]
  exact nodes_indicator segs last v 2 hnd hv

/-- Every segment edge is evolved for `-dt` in total (per occurrence among the segments). -/
theorem first_link_total (segs : List Seg) (last a b : Nat) :
    linkTotal a b (first segs last) = -2 * edgeCount a b segs := by
  simp only [linkTotal, first, tot_append, tot_flatMap, tot_cons, tot_nil, linkW, edgeCount,
    Int.add_zero, Int.zero_add]
  exact sum_map_ite _ (-2) segs

/-- The signed durations of one step sum to `dt`. -/
theorem first_sum (segs : List Seg) (last : Nat) : durTotal (first segs last) = 2 := by
  simp only [durTotal, first, tot_append, tot_flatMap_zero, tot_cons, tot_nil, Ev.dur, Int.reduceAdd,
    Int.reduceNeg, Int.add_zero, Int.zero_add, implies_true]

/-- The second-order schedule of a sweep over at least two nodes, written out. -/
theorem second_defined (init : List Seg) (s : Seg) (last : Nat) :
    second (init ++ [s]) last = some
      ((init ++ [s]).flatMap (fun s => [Ev.site s.1 1, Ev.link s.1 s.2 (-1)])
        ++ [Ev.site last 2]
        ++ [Ev.link last s.1 (-1), Ev.site s.1 1]
        ++ init.reverse.flatMap (fun t => [Ev.link t.2 t.1 (-1), Ev.site t.1 1])) := by
  simp [second]

/-- Second order: every node of the sweep is evolved for `+dt` in total (two half steps; the last node one full step). -/
theorem second_site_total (init : List Seg) (s : Seg) (last v : Nat)
    (hnd : (nodes (init ++ [s]) last).Nodup) (hv : v ∈ nodes (init ++ [s]) last) :
    ∃ tr, second (init ++ [s]) last = some tr ∧ siteTotal v tr = 2 := by
  refine ⟨_, second_defined init s last, ?_⟩
  have h := nodes_indicator _ last v 1 hnd hv
  simp only [siteTotal, tot_append, tot_flatMap, tot_cons, tot_nil, siteW, sum_map_reverse,
    List.map_append, List.sum_append, List.map_cons, List.map_nil, List.sum_cons, List.sum_nil,
    Int.add_zero, Int.zero_add] at h ⊢
  omega

/-- Second order: every segment edge is evolved for `-dt` in total (a backward half step on the way out and one on the
    way back). -/
theorem second_link_total (init : List Seg) (s : Seg) (last a b : Nat) (hadj : s.2 = last) :
    ∃ tr, second (init ++ [s]) last = some tr ∧
      linkTotal a b tr = -2 * edgeCount a b (init ++ [s]) := by
  refine ⟨_, second_defined init s last, ?_⟩
  subst hadj
  have e := sum_map_ite (fun t => sameEdge a b t.1 t.2 = true) (-1) init
  simp only [linkTotal, tot_append, tot_flatMap, tot_cons, tot_nil, linkW, edgeCount, sum_map_reverse,
    sameEdge_swap, List.map_append, List.sum_append, List.map_cons, List.map_nil, List.sum_cons,
    List.sum_nil, Int.add_zero, Int.zero_add]
  split <;> omega

/-- Second order: the signed durations of one step sum to `dt`. -/
theorem second_sum (init : List Seg) (s : Seg) (last : Nat) :
    ∃ tr, second (init ++ [s]) last = some tr ∧ durTotal tr = 2 := by
  refine ⟨_, second_defined init s last, ?_⟩
  simp only [durTotal, tot_append, tot_flatMap_zero, tot_cons, tot_nil, Ev.dur, Int.reduceAdd,
    Int.reduceNeg, Int.add_zero, Int.zero_add, implies_true]

/-- The second-order schedule is a palindrome in (kind, position, duration) once the full step on
    the last node is read as two adjacent half steps: the backward sweep is the mirror image of
    the forward sweep. -/
theorem second_palindromic (init : List Seg) (s : Seg) (last : Nat) (hadj : s.2 = last) :
    let fwd := (init ++ [s]).flatMap (fun s => [Ev.site s.1 1, Ev.link s.1 s.2 (-1)])
    let bwd := [Ev.link last s.1 (-1), Ev.site s.1 1]
        ++ init.reverse.flatMap (fun t => [Ev.link t.2 t.1 (-1), Ev.site t.1 1])
    bwd = fwd.reverse.map (fun e => match e with
      | .link a b d => .link b a d
      | e => e) := by
  intro fwd bwd
  subst hadj
  rw [List.reverse_flatMap, List.map_flatMap, List.reverse_append]
  rfl

/-- The two-site schedule of a sweep over at least two nodes, written out. -/
theorem twoSite_defined (init : List Seg) (s : Seg) (last : Nat) :
    twoSite (init ++ [s]) last = some
      (init.flatMap (fun t => [Ev.two t.1 t.2 1, Ev.site t.2 (-1)])
        ++ [Ev.two s.1 last 1]
        ++ [Ev.two last s.1 1]
        ++ init.reverse.flatMap (fun t => [Ev.site t.2 (-1), Ev.two t.2 t.1 1])) := by
  simp [twoSite]

/-- Every segment edge is evolved for `+dt` in total. -/
theorem twoSite_edge_total (init : List Seg) (s : Seg) (last a b : Nat) (hadj : s.2 = last) :
    ∃ tr, twoSite (init ++ [s]) last = some tr ∧
      twoTotal a b tr = 2 * edgeCount a b (init ++ [s]) := by
  refine ⟨_, twoSite_defined init s last, ?_⟩
  subst hadj
  simp only [twoTotal, tot_append, tot_flatMap, tot_cons, tot_nil, twoW, edgeCount, sum_map_reverse,
    sameEdge_swap, List.map_append, List.sum_append, List.map_cons, List.map_nil, List.sum_cons,
    List.sum_nil, Int.add_zero, Int.zero_add]
  split <;> omega

/-- Every node is evolved for `-(degree - 1)·dt` in total, the degree being taken in the edge
    list of the segments (the tree). -/
theorem twoSite_site_total (init : List Seg) (s : Seg) (last v : Nat) (hadj : s.2 = last)
    (hnd : (nodes (init ++ [s]) last).Nodup) (hv : v ∈ nodes (init ++ [s]) last) :
    ∃ tr, twoSite (init ++ [s]) last = some tr ∧
      siteTotal v tr = -2 * (degree v (init ++ [s]) - 1) := by
  refine ⟨_, twoSite_defined init s last, ?_⟩
  subst hadj
  have h := nodes_indicator _ s.2 v 1 hnd hv
  have e := sum_map_ite (fun t => t.2 = v) (-1) init
  have hdeg := sum_map_add (fun t : Seg => if t.1 = v then (1 : Int) else 0)
    (fun t : Seg => if t.2 = v then (1 : Int) else 0) init
  simp only [siteTotal, tot_append, tot_flatMap, tot_cons, tot_nil, siteW, degree, sum_map_reverse,
    List.map_append, List.sum_append, List.map_cons, List.map_nil, List.sum_cons, List.sum_nil,
    Int.add_zero, Int.zero_add] at h ⊢
  omega

/-- Two-site: the signed durations of one step sum to `dt`. -/
theorem twoSite_sum (init : List Seg) (s : Seg) (last : Nat) :
    ∃ tr, twoSite (init ++ [s]) last = some tr ∧ durTotal tr = 2 := by
  refine ⟨_, twoSite_defined init s last, ?_⟩
  simp only [durTotal, tot_append, tot_flatMap_zero, tot_cons, tot_nil, Ev.dur, Int.reduceAdd,
    Int.reduceNeg, Int.add_zero, Int.zero_add, implies_true]

/-! Non-vacuity: a star with centre 0 and leaves 1,2,3 swept 1, 2, 0, 3 -/

example : (nodes [(1, 0), (2, 0), (0, 3)] 3).Nodup ∧ ((0, 3) : Seg).2 = 3 := by decide +kernel
example : siteTotal 0 (first [(1, 0), (2, 0), (0, 3)] 3) = 2 := by decide +kernel
example : (second [(1, 0), (2, 0), (0, 3)] 3).map (linkTotal 0 2) = some (-2) := by decide +kernel
example : (twoSite [(1, 0), (2, 0), (0, 3)] 3).map (siteTotal 0) = some (-4) := by decide +kernel
example : degree 0 [(1, 0), (2, 0), (0, 3)] = 3 := by decide +kernel

end Ptn.C05
