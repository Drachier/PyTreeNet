import Ptn.C05.Core
import Ptn.C17.Segments
import Ptn.C17.Examples
/-! C05 on trees: with the segments of the TDVP sweep of a well-formed tree (C17: `segsOf`,
`lastOf`) the hypotheses of the schedule theorems hold, so the signed durations are stated for
every node and every edge *of the tree*.  No hypothesis about the segments is left. -/
namespace Ptn.C05
open Ptn.C17 Ptn.C17.RTree

theorem sameEdge_iff_unord (a b x y : Nat) :
    sameEdge a b x y = true ↔ unord (a, b) = unord (x, y) := by
  rw [unord_eq_iff]
  simp [sameEdge]

theorem edgeCount_eq_count (a b : Nat) : ∀ segs : List Seg,
    edgeCount a b segs = ((segs.map unord).count (unord (a, b)) : Nat)
  | [] => by simp [edgeCount]
  | s :: segs => by
    have ih := edgeCount_eq_count a b segs
    simp only [edgeCount, List.map_cons, List.sum_cons, List.count_cons] at ih ⊢
    rw [ih]
    by_cases h : sameEdge a b s.1 s.2 = true
    · have := (sameEdge_iff_unord a b s.1 s.2).mp h
      simp [h, this]; omega
    · have : ¬ unord (a, b) = unord (s.1, s.2) := fun e => h ((sameEdge_iff_unord a b s.1 s.2).mpr e)
      have h' : ¬ unord s = unord (a, b) := fun e => this e.symm
      simp [h, h']

theorem mem_edges_unord {t : RTree} {a b : Nat} : unord (a, b) ∈ (edges t).map unord ↔ Adj t a b := by
  constructor
  · intro hm
    obtain ⟨⟨c, d⟩, he, hu⟩ := List.mem_map.mp hm
    rcases (unord_eq_iff c d a b).mp hu with ⟨rfl, rfl⟩ | ⟨rfl, rfl⟩
    · exact Or.inl he
    · exact Or.inr he
  · rintro (h | h)
    · exact List.mem_map.mpr ⟨(a, b), h, rfl⟩
    · exact List.mem_map.mpr ⟨(b, a), h, unord_swap b a⟩

/-- Every edge of the tree is a segment of the sweep exactly once. -/
theorem tree_edgeCount (t : RTree) (hwf : t.WF) {a b : Nat} (h : Adj t a b) :
    edgeCount a b (segsOf t) = 1 := by
  rw [edgeCount_eq_count, (segs_edges_perm t hwf).count_eq, (edges_unord_nodup t hwf).count,
    if_pos (mem_edges_unord.mpr h)]
  rfl

/-- No segment joins two nodes that are not neighbours. -/
theorem tree_edgeCount_non_edge (t : RTree) (hwf : t.WF) {a b : Nat} (h : ¬ Adj t a b) :
    edgeCount a b (segsOf t) = 0 := by
  rw [edgeCount_eq_count, (segs_edges_perm t hwf).count_eq, (edges_unord_nodup t hwf).count,
    if_neg (mt mem_edges_unord.mp h)]
  rfl

/-- The nodes of the segments are the update path of C17: every node of the tree once. -/
theorem tree_nodes (t : RTree) (hwf : t.WF) :
    updatePath t = some (nodes (segsOf t) (lastOf t)) ∧
      (nodes (segsOf t) (lastOf t)).Nodup ∧ (nodes (segsOf t) (lastOf t)).Perm (ids t) := by
  obtain ⟨p, hp, _, _, hpe, hperm, hnd⟩ := segs_nodes t hwf
  have : nodes (segsOf t) (lastOf t) = p := by rw [← hpe]; simp [nodes]
  rw [this]; exact ⟨hp, hnd, hperm⟩

theorem segs_no_loop (t : RTree) (hwf : t.WF) : ∀ s ∈ segsOf t, s.1 ≠ s.2 := by
  intro s hs
  rcases mem_edges_unord.mp ((segs_edges_perm t hwf).subset (List.mem_map.mpr ⟨s, hs, rfl⟩)) with h | h
  · exact edge_ne hwf h
  · exact fun e => edge_ne hwf h e.symm

/-- The degree counted in the segments is the degree in the tree. -/
theorem tree_degree (t : RTree) (hwf : t.WF) (v : Nat) :
    degree v (segsOf t) = (RTree.degree t v : Nat) := by
  rw [← segs_degree t hwf v]
  have hl := segs_no_loop t hwf
  generalize segsOf t = segs at hl
  induction segs with
  | nil => simp [degree]
  | cons s rest ih =>
    have ih' := ih (fun s hs => hl s (by simp [hs]))
    have hs := hl s (by simp)
    simp only [degree, List.map_cons, List.sum_cons] at ih' ⊢
    rw [ih']
    by_cases h1 : s.1 = v <;> by_cases h2 : s.2 = v
    · exact absurd (h1.trans h2.symm) hs
    · simp [h1, h2]; omega
    · simp [h1, h2]; omega
    · simp [h1, h2]

theorem of_some {α : Type} {o : Option α} {a : α} {P : α → Prop} (ha : o = some a)
    (h : ∃ b, o = some b ∧ P b) : P a := by
  obtain ⟨b, hb, hp⟩ := h
  cases ha.symm.trans hb
  exact hp

/-- First-order one-site TDVP on any well-formed tree: every node of the tree is evolved for `+dt`
    in total, every edge of the tree for `-dt`, and the signed durations sum to `dt`. -/
theorem first_order_tree (t : RTree) (hwf : t.WF) :
    (∀ v ∈ ids t, siteTotal v (first (segsOf t) (lastOf t)) = 2) ∧
    (∀ a b, Adj t a b → linkTotal a b (first (segsOf t) (lastOf t)) = -2) ∧
    durTotal (first (segsOf t) (lastOf t)) = 2 := by
  obtain ⟨_, hnd, hperm⟩ := tree_nodes t hwf
  refine ⟨?_, ?_, first_sum _ _⟩
  · intro v hv
    exact first_site_total _ _ v hnd (hperm.symm.subset hv)
  · intro a b hab
    rw [first_link_total, tree_edgeCount t hwf hab]; rfl

/-- Second-order one-site TDVP on any well-formed tree with at least two nodes: the schedule is
    defined, every node gets `+dt`, every edge `-dt`, total `dt`. -/
theorem second_order_tree (t : RTree) (hwf : t.WF) (hkids : t.kids ≠ []) :
    ∃ tr, second (segsOf t) (lastOf t) = some tr ∧
      (∀ v ∈ ids t, siteTotal v tr = 2) ∧
      (∀ a b, Adj t a b → linkTotal a b tr = -2) ∧
      durTotal tr = 2 := by
  obtain ⟨_, hnd, hperm⟩ := tree_nodes t hwf
  obtain ⟨init, s, hseg, hadj⟩ := segs_last_adjacent t hwf hkids
  have hec := fun {a b : Nat} (h : Adj t a b) => tree_edgeCount t hwf h
  rw [hseg] at hnd hperm hec ⊢
  obtain ⟨tr, htr, hsum⟩ := second_sum init s (lastOf t)
  refine ⟨tr, htr, fun v hv => (of_some htr (second_site_total init s _ v hnd (hperm.symm.subset hv)) :),
    fun a b hab => ?_, hsum⟩
  rw [of_some htr (second_link_total init s _ a b hadj), hec hab]
  rfl

/-- Second-order two-site TDVP on any well-formed tree with at least two nodes: the schedule is
    defined, every edge of the tree gets `+dt`, every node `v` gets `-(deg v - 1)·dt` with `deg`
    the degree in the tree, total `dt`. -/
theorem two_site_tree (t : RTree) (hwf : t.WF) (hkids : t.kids ≠ []) :
    ∃ tr, twoSite (segsOf t) (lastOf t) = some tr ∧
      (∀ a b, Adj t a b → twoTotal a b tr = 2) ∧
      (∀ v ∈ ids t, siteTotal v tr = -2 * ((RTree.degree t v : Nat) - 1)) ∧
      durTotal tr = 2 := by
  obtain ⟨_, hnd, hperm⟩ := tree_nodes t hwf
  obtain ⟨init, s, hseg, hadj⟩ := segs_last_adjacent t hwf hkids
  have hec := fun {a b : Nat} (h : Adj t a b) => tree_edgeCount t hwf h
  have hdeg := tree_degree t hwf
  rw [hseg] at hnd hperm hec hdeg ⊢
  obtain ⟨tr, htr, hsum⟩ := twoSite_sum init s (lastOf t)
  refine ⟨tr, htr, fun a b hab => ?_, fun v hv => ?_, hsum⟩
  · rw [of_some htr (twoSite_edge_total init s _ a b hadj), hec hab]
    rfl
  · rw [of_some htr (twoSite_site_total init s _ v hadj hnd (hperm.symm.subset hv)), hdeg v]

/-! Non-vacuity: the tree of the C17 examples (8 nodes) -/

example : exTree.WF ∧ exTree.kids ≠ [] := by decide +kernel
example : segsOf exTree = [(7, 6), (6, 5), (5, 0), (2, 0), (0, 1), (4, 1), (1, 3)] ∧
    lastOf exTree = 3 := by decide +kernel
example : (twoSite (segsOf exTree) (lastOf exTree)).map (siteTotal 0) = some (-4) := by decide +kernel
example : RTree.degree exTree 0 = 3 := by decide +kernel

end Ptn.C05
