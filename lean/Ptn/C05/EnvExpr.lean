import Ptn.C05.Opened
import Ptn.C05.SeqRecord
/-! The canonical environments.  `seqEnv_facts`: the canonical program `seqExpr` over ANY part `L` of the tensors of a layer of
a tree and ANY part `Ed` of its edges whose virtual legs are labels of `L` is strongly well-formed, has the leaves `L`, the
record `Ed` (as unordered pairs), and leaves every non-virtual label free.  `partEnv_facts` is the form used, over a tree
with some nodes taken out (`Opened`); `envExpr Λ c i ks` is that program for the site `i` in the hole of `c`. -/
namespace Ptn.C05.Heff
open Ptn.C04 Ptn.Ein

set_option linter.unusedSectionVars false
variable {R : Type} [CommSemiring R]

/-- the tensors of the layer `Λ` at all nodes except the site `i`: component above the site, then the child subtrees -/
def envLeaves (Λ : Layer R) (c : Ctx) (i : Nat) (ks : List Tree) : List (LeafT R) :=
  c.leavesG Λ.nodeLeaves i ++ treeLeavesL Λ.nodeLeaves i ks

/-- the bonds of the layer that do not touch the site -/
def envRecord (Λ : Layer R) (c : Ctx) (ks : List Tree) : List (Leg × Leg) :=
  (envEdges c ks).map fun e => Λ.edge e.1 e.2

def envExpr (Λ : Layer R) (c : Ctx) (i : Nat) (ks : List Tree) : Expr Leg R :=
  seqExpr (envRecord Λ c ks) (envLeaves Λ c i ks)

theorem layer_edge_legs (Λ : Layer R) (a b : Nat) :
    ((Λ.edge a b).1 = Λ.vleg a b ∧ (Λ.edge a b).2 = Λ.vleg b a) ∨
      ((Λ.edge a b).1 = Λ.vleg b a ∧ (Λ.edge a b).2 = Λ.vleg a b) := by
  unfold Layer.edge
  cases Λ.rev <;> simp

/-- **the canonical program over a part of a layer is admissible** (generic form of `envExpr_facts`): `L` tensors of
the layer `Λ` of the tree `T0` with pairwise distinct labels, `Ed` a part of the edges of `T0` (`T0.edges ~ rest ++ Ed`)
whose virtual legs are all labels of `L`. -/
theorem seqEnv_facts (Λ : Layer R) (hs : Λ.Inj) (hnode : ∀ a b, legNode (Λ.vleg a b) = some a)
    (T0 : Tree) (hnd : T0.ids.Nodup)
    (hh : ∀ e ∈ Tree.info none T0, Λ.Has e)
    (hok : ∀ e ∈ Tree.info none T0, NodeOK Λ.nodeLeaves e)
    (hloc : ∀ e ∈ Tree.info none T0, DependsOn (· ∈ Λ.legs e.1 e.2.1 e.2.2) (Λ.val e.1))
    (L : List (LeafT R)) (Ed rest : List (Nat × Nat))
    (hndE : (labelsOf L).Nodup)
    (hsub : ∀ lf ∈ L, lf ∈ treeLeaves Λ.nodeLeaves none T0)
    (hedges : T0.edges.Perm (rest ++ Ed))
    (hlegsIn : ∀ l ∈ Expr.pairLegs (Ed.map fun e => Λ.edge e.1 e.2), l ∈ labelsOf L) :
    (seqExpr (Ed.map fun e => Λ.edge e.1 e.2) L).SWF ∧
      (seqExpr (Ed.map fun e => Λ.edge e.1 e.2) L).leaves = ([], fun _ => 1) :: L ∧
      (unordL (seqExpr (Ed.map fun e => Λ.edge e.1 e.2) L).binds).Perm (unordL (Ed.map fun e => Λ.edge e.1 e.2)) ∧
      (∀ l, (∀ a b, l ≠ Λ.vleg a b) → l ∈ labelsOf L → l ∈ (seqExpr (Ed.map fun e => Λ.edge e.1 e.2) L).free) := by
  have hnone : ∀ q, (none : Option Nat) = some q → q ∉ T0.ids := fun q hq => by simp at hq
  have hlocE : ∀ lf ∈ L, DependsOn (· ∈ lf.1) lf.2 := by
    intro lf hlf
    obtain ⟨x, hx, h⟩ := treeLeaves_sub _ _ none lf (hsub lf hlf)
    simp only [Layer.nodeLeaves, List.mem_singleton] at h
    subst h
    exact hloc x hx
  -- no leg twice in the record: it is part of the record of the whole-tree program `layExpr`, which is strongly well-formed
  have hswfT := layExpr_swf Λ hs T0 none hnd hnone hh hok hloc
  have hbT := layExpr_binds Λ T0 none
  have hPT : (Expr.pairLegs (T0.edges.map fun e => Λ.edge e.1 e.2)).Nodup :=
    (pairLegs_perm hbT).nodup_iff.1 (Expr.binds_nodup _ hswfT)
  have hPTe := (pairLegs_perm (hedges.map fun e => Λ.edge e.1 e.2)).nodup_iff.1 hPT
  have hsubl : (Expr.pairLegs (Ed.map fun e => Λ.edge e.1 e.2)).Sublist
      (Expr.pairLegs ((rest ++ Ed).map fun e => Λ.edge e.1 e.2)) := by
    have h0 : (Ed.map fun e => Λ.edge e.1 e.2).Sublist ((rest ++ Ed).map fun e => Λ.edge e.1 e.2) := by
      rw [List.map_append]
      exact List.sublist_append_right _ _
    exact (h0.map Prod.fst).append (h0.map Prod.snd)
  have hP : (Expr.pairLegs (Ed.map fun e => Λ.edge e.1 e.2)).Nodup := List.Nodup.sublist hsubl hPTe
  -- no pair inside one leaf: the two legs of a bond belong to different nodes (`legNode`)
  have hsame : ∀ p ∈ Ed.map (fun e => Λ.edge e.1 e.2), ∀ lf ∈ L, ¬ (p.1 ∈ lf.1 ∧ p.2 ∈ lf.1) := by
    intro p hp lf hlf hboth
    obtain ⟨x, hx, h⟩ := treeLeaves_sub _ _ none lf (hsub lf hlf)
    have hl1 := (hok x hx).2 p.1 (List.mem_flatMap.2 ⟨lf, h, hboth.1⟩)
    have hl2 := (hok x hx).2 p.2 (List.mem_flatMap.2 ⟨lf, h, hboth.2⟩)
    have hne := (pairLegs_unique _ hP p hp p hp p.1 (Or.inl rfl) (Or.inl rfl)).2
    obtain ⟨e, he, rfl⟩ := List.mem_map.1 hp
    rcases layer_edge_legs Λ e.1 e.2 with ⟨h1, h2⟩ | ⟨h1, h2⟩
    · rw [h1, hnode] at hl1
      rw [h2, hnode] at hl2
      have hab : e.1 = e.2 := Option.some.inj (hl1.trans hl2.symm)
      apply hne
      rw [h1, h2, hab]
    · rw [h1, hnode] at hl1
      rw [h2, hnode] at hl2
      have hab : e.2 = e.1 := Option.some.inj (hl1.trans hl2.symm)
      apply hne
      rw [h1, h2, hab]
  refine ⟨seqExpr_swf _ hP _ hndE hlocE, seqExpr_leaves _ _,
    seqExpr_record _ hP _ hndE hlocE hlegsIn hsame, ?_⟩
  intro l hl hmem
  apply seqExpr_free _ _ l _ hmem
  intro hpl
  obtain ⟨q, hq, hql⟩ := mem_pairLegs.1 hpl
  obtain ⟨e, he, rfl⟩ := List.mem_map.1 hq
  rcases layer_edge_legs Λ e.1 e.2 with ⟨h1, h2⟩ | ⟨h1, h2⟩ <;> rcases hql with h | h
  · exact hl _ _ (h.symm.trans h1)
  · exact hl _ _ (h.symm.trans h2)
  · exact hl _ _ (h.symm.trans h1)
  · exact hl _ _ (h.symm.trans h2)

/-- every virtual leg of an edge of the tree is a label of the tensors of the layer -/
theorem layer_pairLegs_labels (Λ : Layer R) (hs : Λ.Inj) (T0 : Tree) (hnd : T0.ids.Nodup)
    (hh : ∀ e ∈ Tree.info none T0, Λ.Has e)
    (hok : ∀ e ∈ Tree.info none T0, NodeOK Λ.nodeLeaves e)
    (hloc : ∀ e ∈ Tree.info none T0, DependsOn (· ∈ Λ.legs e.1 e.2.1 e.2.2) (Λ.val e.1))
    (l : Leg) (hl : l ∈ Expr.pairLegs (T0.edges.map fun e => Λ.edge e.1 e.2)) :
    l ∈ labelsOf (treeLeaves Λ.nodeLeaves none T0) := by
  have hnone : ∀ q, (none : Option Nat) = some q → q ∉ T0.ids := fun q hq => by simp at hq
  have hswfT := layExpr_swf Λ hs T0 none hnd hnone hh hok hloc
  have hbT := layExpr_binds Λ T0 none
  have h2 : l ∈ (layExpr Λ none T0).labels :=
    Expr.binds_sub_labels _ hswfT.wf l ((pairLegs_perm hbT).mem_iff.2 hl)
  rw [Expr.labels_eq_leaves] at h2
  exact ((layExpr_leaves Λ T0 none).flatMap_right (·.1)).mem_iff.1 h2

/-- the virtual legs of edges that touch no excluded node (`Excl`) are labels of any part `L` of the tensors that has
all labels not at an excluded node -/
theorem seqEnv_legs_mem (Λ : Layer R) (hs : Λ.Inj) (hnode : ∀ a b, legNode (Λ.vleg a b) = some a)
    (T0 : Tree) (hnd : T0.ids.Nodup)
    (hh : ∀ e ∈ Tree.info none T0, Λ.Has e)
    (hok : ∀ e ∈ Tree.info none T0, NodeOK Λ.nodeLeaves e)
    (hloc : ∀ e ∈ Tree.info none T0, DependsOn (· ∈ Λ.legs e.1 e.2.1 e.2.2) (Λ.val e.1))
    (L : List (LeafT R)) (Ed rest : List (Nat × Nat)) (hedges : T0.edges.Perm (rest ++ Ed)) (Excl : Nat → Prop)
    (hmem : ∀ l ∈ labelsOf (treeLeaves Λ.nodeLeaves none T0), (∀ n, legNode l = some n → ¬ Excl n) → l ∈ labelsOf L)
    (hends : ∀ e ∈ Ed, ¬ Excl e.1 ∧ ¬ Excl e.2) :
    ∀ l ∈ Expr.pairLegs (Ed.map fun e => Λ.edge e.1 e.2), l ∈ labelsOf L := by
  intro l hl
  obtain ⟨q, hq, hql⟩ := mem_pairLegs.1 hl
  have hT : l ∈ labelsOf (treeLeaves Λ.nodeLeaves none T0) := by
    apply layer_pairLegs_labels Λ hs T0 hnd hh hok hloc l
    apply (pairLegs_perm (hedges.map fun e => Λ.edge e.1 e.2)).mem_iff.2
    exact mem_pairLegs.2 ⟨q, by rw [List.map_append]; exact List.mem_append.2 (Or.inr hq), hql⟩
  obtain ⟨e, he, rfl⟩ := List.mem_map.1 hq
  have hne := hends e he
  refine hmem l hT fun n hn => ?_
  rcases layer_edge_legs Λ e.1 e.2 with ⟨h1, h2⟩ | ⟨h1, h2⟩ <;> rcases hql with h | h
  · rw [← h, h1, hnode] at hn; exact Option.some.inj hn ▸ hne.1
  · rw [← h, h2, hnode] at hn; exact Option.some.inj hn ▸ hne.2
  · rw [← h, h1, hnode] at hn; exact Option.some.inj hn ▸ hne.2
  · rw [← h, h2, hnode] at hn; exact Option.some.inj hn ▸ hne.1

/-- **the canonical program over a layer without some nodes is admissible**: the tree `T0` with the nodes `xs` taken out
(`O`), `bonds` the bonds of the layer along the edges `Ed` among the other nodes.  Besides the facts of `seqEnv_facts`: a
label of the layer that sits at no node of `xs` is a label of the other tensors. -/
theorem partEnv_facts (Λ : Layer R) (hs : Λ.Inj) (hnode : ∀ a b, legNode (Λ.vleg a b) = some a)
    (T0 : Tree) (hnd : T0.ids.Nodup)
    (hh : ∀ e ∈ Tree.info none T0, Λ.Has e)
    (hok : ∀ e ∈ Tree.info none T0, NodeOK Λ.nodeLeaves e)
    (hloc : ∀ e ∈ Tree.info none T0, DependsOn (· ∈ Λ.legs e.1 e.2.1 e.2.2) (Λ.val e.1))
    {xs : List (Nat × Option Nat × List Nat)}
    {X part : (R : Type) → (Nat → Option Nat → List Nat → List (LeafT R)) → List (LeafT R)} {ids : List Nat}
    {rest Ed : List (Nat × Nat)} (O : Opened T0 xs X part ids rest Ed)
    (bonds : List (Leg × Leg)) (hbonds : bonds = Ed.map fun e => Λ.edge e.1 e.2) :
    (seqExpr bonds (part R Λ.nodeLeaves)).SWF ∧
      (seqExpr bonds (part R Λ.nodeLeaves)).leaves = ([], fun _ => 1) :: part R Λ.nodeLeaves ∧
      (unordL (seqExpr bonds (part R Λ.nodeLeaves)).binds).Perm (unordL bonds) ∧
      (∀ l ∈ labelsOf (treeLeaves Λ.nodeLeaves none T0), (∀ x ∈ xs, legNode l ≠ some x.1) →
        l ∈ labelsOf (part R Λ.nodeLeaves)) ∧
      (∀ l, (∀ a b, l ≠ Λ.vleg a b) → l ∈ labelsOf (part R Λ.nodeLeaves) →
        l ∈ (seqExpr bonds (part R Λ.nodeLeaves)).free) := by
  subst hbonds
  have hL := O.leaves R Λ.nodeLeaves
  generalize part R Λ.nodeLeaves = L at hL ⊢
  have hlab := hL.flatMap_right (·.1)
  rw [List.flatMap_append] at hlab
  have hndL : (labelsOf L).Nodup :=
    (List.nodup_append.1 (hlab.nodup_iff.2 (treeLeaves_labels Λ.nodeLeaves T0 none hnd hok).1)).2.1
  have hmem : ∀ l ∈ labelsOf (treeLeaves Λ.nodeLeaves none T0), (∀ x ∈ xs, legNode l ≠ some x.1) → l ∈ labelsOf L := by
    intro l hl hne
    rcases List.mem_append.1 (hlab.mem_iff.2 hl) with h | h
    · obtain ⟨lf, hlf, hl⟩ := List.mem_flatMap.1 h
      obtain ⟨x, hx, hlfx⟩ := O.sub _ _ lf hlf
      exact absurd ((hok x (O.mem x hx)).2 l (List.mem_flatMap.2 ⟨lf, hlfx, hl⟩)) (hne x hx)
    · exact h
  have hends' : ∀ e ∈ Ed, (¬ ∃ x ∈ xs, x.1 = e.1) ∧ ¬ ∃ x ∈ xs, x.1 = e.2 := fun e he =>
    ⟨fun ⟨x, hx, h⟩ => O.ids_disjoint hnd x hx _ (O.ends e he).1 h,
      fun ⟨x, hx, h⟩ => O.ids_disjoint hnd x hx _ (O.ends e he).2 h⟩
  obtain ⟨f1, f2, f3, f4⟩ := seqEnv_facts Λ hs hnode T0 hnd hh hok hloc L Ed rest hndL
    (fun lf hlf => hL.mem_iff.1 (List.mem_append.2 (Or.inr hlf))) O.edges_perm
    (seqEnv_legs_mem Λ hs hnode T0 hnd hh hok hloc L Ed rest O.edges_perm (fun n => ∃ x ∈ xs, x.1 = n)
      (fun l hl h => hmem l hl fun x hx e => h x.1 e ⟨x, hx, rfl⟩) hends')
  exact ⟨f1, f2, f3, hmem, f4⟩

theorem envExpr_facts (Λ : Layer R) (hs : Λ.Inj) (hnode : ∀ a b, legNode (Λ.vleg a b) = some a)
    (c : Ctx) (i : Nat) (ks : List Tree) (hnd : (c.plug (Tree.node i ks)).ids.Nodup)
    (hh : ∀ e ∈ Tree.info none (c.plug (Tree.node i ks)), Λ.Has e)
    (hok : ∀ e ∈ Tree.info none (c.plug (Tree.node i ks)), NodeOK Λ.nodeLeaves e)
    (hloc : ∀ e ∈ Tree.info none (c.plug (Tree.node i ks)), DependsOn (· ∈ Λ.legs e.1 e.2.1 e.2.2) (Λ.val e.1)) :
    (envExpr Λ c i ks).SWF ∧
      (envExpr Λ c i ks).leaves = ([], fun _ => 1) :: envLeaves Λ c i ks ∧
      (unordL (envExpr Λ c i ks).binds).Perm (unordL (envRecord Λ c ks)) ∧
      (∀ l ∈ labelsOf (treeLeaves Λ.nodeLeaves none (c.plug (Tree.node i ks))),
        legNode l ≠ some i → l ∈ labelsOf (envLeaves Λ c i ks)) ∧
      (∀ l, (∀ a b, l ≠ Λ.vleg a b) → l ∈ labelsOf (envLeaves Λ c i ks) → l ∈ (envExpr Λ c i ks).free) :=
  have h := partEnv_facts Λ hs hnode _ hnd hh hok hloc (site_opened c i ks) _ rfl
  ⟨h.1, h.2.1, h.2.2.1, fun l hl hne => h.2.2.2.1 l hl fun _ hx => List.mem_singleton.1 hx ▸ hne, h.2.2.2.2⟩

end Ptn.C05.Heff
