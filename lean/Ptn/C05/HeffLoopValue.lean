import Ptn.C05.HeffBuilt
import Ptn.C05.Value
/-! The model's own call sequence has the proved value: for all values of the operator tensor(s) and of the cached
blocks, the matrix each of the three functions returns is built from exactly these tensors (`HeffBuilt`), and every
expression it is built from has the record and the value of `Value.lean`.  No hypothesis about a program is left. -/
namespace Ptn.C05.Heff
open Ptn.C04 Ptn.Ein

set_option linter.unusedSectionVars false
variable {R : Type} [CommSemiring R]

def leafExprs (ls : List (LeafT R)) : List (Expr Leg R) := ls.map fun lf => Expr.leaf lf.1 lf.2

theorem nodup_labelsL : ∀ (xs : List (Expr Leg R)), Expr.LabelsDisjoint xs → (∀ x ∈ xs, x.labels.Nodup) →
    (Expr.labelsL xs).Nodup
  | [], _, _ => by simp [Expr.labelsL]
  | x :: xs, hd, hn => by
    simp only [Expr.labelsL, List.flatMap_cons, List.nodup_append]
    refine ⟨hn x (by simp), nodup_labelsL xs (List.pairwise_cons.1 hd).2 (fun y hy => hn y (by simp [hy])), ?_⟩
    intro a ha b hb hab
    subst hab
    exact Expr.labelsL_disjoint_head hd a ha hb

theorem labelsL_leafExprs (ls : List (LeafT R)) : Expr.labelsL (leafExprs ls) = ls.flatMap (·.1) := by
  simp [Expr.labelsL, leafExprs, List.flatMap_map, Expr.labels]

theorem leaves_labels_nodup {ls : List (LeafT R)} (hd : Expr.LabelsDisjoint (leafExprs ls))
    (hn : ∀ lf ∈ ls, lf.1.Nodup) : (ls.flatMap (·.1)).Nodup := by
  rw [← labelsL_leafExprs]
  refine nodup_labelsL _ hd fun x hx => ?_
  obtain ⟨lf, hlf, rfl⟩ := List.mem_map.1 hx
  exact hn lf hlf

theorem gOpT_legs_nodup (i : Nat) (nd : Node) (h : nd.nbrs.Nodup) : (gOpT i nd).legs.Nodup := by
  simp only [gOpT, T.fresh, List.nodup_append]
  refine ⟨nodup_map_of_inj_on _ h (fun x _ y _ e => by injection e), by simp, ?_⟩
  intro a ha b hb hab
  subst hab
  obtain ⟨n, _, rfl⟩ := List.mem_map.1 ha
  simp at hb

theorem blockLegs_nodup (n i : Nat) : (blockLegs n i).Nodup := by simp [blockLegs]

/-- an expression built over leaf tensors with pairwise distinct labels, each reading only its own legs, is strongly
well-formed, its record is the record of the built tensor and its free legs are the legs of the built tensor -/
theorem whole_built_facts {t : T} {ls : List (LeafT R)} (hnd : (ls.flatMap (·.1)).Nodup)
    (hloc : ∀ lf ∈ ls, DependsOn (· ∈ lf.1) lf.2) {e : Expr Leg R} (hb : Built t e) (hl : e.leaves.Perm ls) :
    e.SWF ∧ e.binds.Perm t.binds ∧ e.free.Perm t.legs :=
  let ⟨h1, h2, h3⟩ := hb.facts hl hnd hloc
  ⟨h1, h2.symm, h3.symm⟩

/-- a cached block without a record of its own is a leaf tensor -/
theorem builtL_of_cached {c : Option T} {n i : Nat} (h : c = some (gBlock n i [])) (B : Asg Leg → R) (blk : T)
    (hblk : c = some blk) : BuiltL blk [(blockLegs n i, B)] := by
  cases h.symm.trans hblk
  exact BuiltL.fresh (blockLegs n i) B

/-- the leaf tensors of the single-site effective Hamiltonian: the operator tensor and one block per neighbour -/
def siteLeaves (i : Nat) (hamNode : Node) (W : Asg Leg → R) (Blk : Nat → Asg Leg → R) : List (LeafT R) :=
  ((gOpT i hamNode).legs, W) :: hamNode.nbrs.map fun n => (blockLegs n i, Blk n)

/-- **Single-site effective Hamiltonian: the model's own call sequence has the proved value.**  Hypotheses of
`site_heff_value`.  For every commutative semiring, every operator tensor `W` and all block tensors `Blk n` (each
reading only its own legs): the matrix `m` that `get_effective_single_site_hamiltonian_nodes` returns is built by
its own `tensordot` calls from exactly `W` and the blocks, and every expression it is built from over these leaves
is strongly well-formed, has the record of `m`, the free legs `rows ++ cols`, and the value
`Σ_{operator legs} W · Π_n Blk_n` for all dimensions. -/
theorem site_heff_loop_value (i : Nat) (stateNode hamNode : Node) (cache : Cache)
    (hK : stateNode.nbrs.Nodup) (hperm : hamNode.nbrs.Perm stateNode.nbrs) (hi : i ∉ hamNode.nbrs)
    (hcache : ∀ n ∈ hamNode.nbrs, cache n = some (gBlock n i []))
    (W : Asg Leg → R) (Blk : Nat → Asg Leg → R) (hW : DependsOn (· ∈ (gOpT i hamNode).legs) W)
    (hBlk : ∀ n ∈ hamNode.nbrs, DependsOn (· ∈ blockLegs n i) (Blk n)) :
    ∃ m : Mat, getEffectiveSingleSiteHamiltonianNodes stateNode hamNode (gOpT i hamNode) cache = some m ∧
      m.rows = stateNode.nbrs.map (fun n => Leg.gBra n i) ++ [Leg.gOpOut i] ∧
      m.cols = stateNode.nbrs.map (fun n => Leg.gKet n i) ++ [Leg.gOpIn i] ∧
      (∃ e : Expr Leg R, Built m.toT e ∧ e.leaves.Perm (siteLeaves i hamNode W Blk)) ∧
      ∀ e : Expr Leg R, Built m.toT e → e.leaves.Perm (siteLeaves i hamNode W Blk) →
        e.SWF ∧ e.binds.Perm m.binds ∧ e.free.Perm (m.rows ++ m.cols) ∧
        ∀ (dim : Leg → Nat) (σ : Asg Leg), e.eval dim σ =
          sumPairs dim (opPairs i hamNode.nbrs) (fun τ => W τ * prodL (hamNode.nbrs.map fun n => Blk n τ)) σ := by
  obtain ⟨m, hm, hr, hc, hval⟩ := site_heff_value (R := R) i stateNode hamNode cache hK hperm hi hcache
  have hnd : hamNode.nbrs.Nodup := hperm.nodup_iff.2 hK
  refine ⟨m, hm, hr, hc, ?_, ?_⟩
  · have hb := site_heff_built (R := R) (lo := [((gOpT i hamNode).legs, W)])
      (lv := fun n => [(blockLegs n i, Blk n)]) hm (BuiltL.fresh _ W)
      (fun n hn => builtL_of_cached (hcache n hn) (Blk n))
    rw [← List.map_eq_flatMap] at hb
    exact hb
  · intro e hbuilt hleaves
    have hdis : Expr.LabelsDisjoint (leafExprs (siteLeaves i hamNode W Blk)) := by
      have := site_leaves_disjoint i hamNode W Blk hamNode.nbrs hnd hi
      simpa [leafExprs, siteLeaves, blockLeaves, List.map_map, Function.comp_def] using this
    have hlf : ∀ lf ∈ siteLeaves i hamNode W Blk, lf.1.Nodup ∧ DependsOn (· ∈ lf.1) lf.2 := fun lf hlf => by
      simp only [siteLeaves, List.mem_cons, List.mem_map] at hlf
      rcases hlf with rfl | ⟨n, hn, rfl⟩
      · exact ⟨gOpT_legs_nodup i hamNode hnd, hW⟩
      · exact ⟨blockLegs_nodup n i, hBlk n hn⟩
    obtain ⟨hswf, hbinds, hfree⟩ := whole_built_facts (leaves_labels_nodup hdis fun lf h => (hlf lf h).1)
      (fun lf h => (hlf lf h).2) hbuilt hleaves
    refine ⟨hswf, hbinds, hfree, fun dim σ => ?_⟩
    exact hval dim e W Blk hswf hW hBlk hbinds
      (fun σ => by
        rw [Expr.leafProd_of_leaves e _ hleaves]
        simp [siteLeaves, prodL, List.map_map, Function.comp_def]) σ

/-- **Link effective Hamiltonian: the model's own call sequence has the proved value**, in both orientations of the
sweep (both return the same matrix, each built by its own `tensordot` from exactly the two blocks). -/
theorem link_heff_loop_value (p c : Nat) (hne : p ≠ c) (cache : Dict)
    (hp : cache (p, c) = some (gBlock p c [])) (hc : cache (c, p) = some (gBlock c p []))
    (Bp Bc : Asg Leg → R) (hBp : DependsOn (· ∈ blockLegs p c) Bp) (hBc : DependsOn (· ∈ blockLegs c p) Bc) :
    ∃ m : Mat, getEffectiveLinkHamiltonian ⟨some p, [c]⟩ c p cache = some m ∧
      getEffectiveLinkHamiltonian ⟨some p, [c]⟩ p c cache = some m ∧
      m.rows = [Leg.gBra p c, Leg.gBra c p] ∧ m.cols = [Leg.gKet p c, Leg.gKet c p] ∧
      (∃ e : Expr Leg R, Built m.toT e ∧ e.leaves.Perm [(blockLegs p c, Bp), (blockLegs c p, Bc)]) ∧
      ∀ e : Expr Leg R, Built m.toT e → e.leaves.Perm [(blockLegs p c, Bp), (blockLegs c p, Bc)] →
        e.SWF ∧ e.binds.Perm m.binds ∧ e.free.Perm (m.rows ++ m.cols) ∧
        ∀ (dim : Leg → Nat) (σ : Asg Leg), e.eval dim σ =
          sumPairs dim [(Leg.gOp p c, Leg.gOp c p)] (fun τ => Bp τ * Bc τ) σ := by
  obtain ⟨m, h1, h2, hr, hcl, hval⟩ := link_heff_value (R := R) p c hne cache hp hc
  refine ⟨m, h1, h2, hr, hcl, ?_, ?_⟩
  · exact link_heff_built (R := R) h2 (builtL_of_cached hp Bp) (builtL_of_cached hc Bc)
  · intro e hbuilt hleaves
    have hdis : Expr.LabelsDisjoint (leafExprs [((blockLegs p c, Bp) : LeafT R), (blockLegs c p, Bc)]) := by
      simp only [leafExprs, List.map_cons, List.map_nil, Expr.LabelsDisjoint, List.pairwise_cons, List.mem_cons,
        List.not_mem_nil, or_false, forall_eq, false_imp_iff, implies_true, List.Pairwise.nil, and_true]
      exact block_block_disjoint p c c p Bp Bc (fun h => absurd h hne)
    have hlf : ∀ lf ∈ [((blockLegs p c, Bp) : LeafT R), (blockLegs c p, Bc)],
        lf.1.Nodup ∧ DependsOn (· ∈ lf.1) lf.2 := fun lf hlf => by
      simp only [List.mem_cons, List.not_mem_nil, or_false] at hlf
      rcases hlf with rfl | rfl
      · exact ⟨blockLegs_nodup _ _, hBp⟩
      · exact ⟨blockLegs_nodup _ _, hBc⟩
    obtain ⟨hswf, hbinds, hfree⟩ := whole_built_facts (leaves_labels_nodup hdis fun lf h => (hlf lf h).1)
      (fun lf h => (hlf lf h).2) hbuilt hleaves
    refine ⟨hswf, hbinds, hfree, fun dim σ => ?_⟩
    exact hval dim e Bp Bc hswf hBp hBc hbinds
      (fun σ => by
        rw [Expr.leafProd_of_leaves e _ hleaves]
        simp [prodL]) σ

def twoSiteLeaves (t x : Nat) (hamT hamX : Node) (Wt Wx : Asg Leg → R) (BT BX : Nat → Asg Leg → R) :
    List (LeafT R) :=
  ((gOpT t hamT).legs, Wt) :: ((gOpT x hamX).legs, Wx) ::
    (((hamT.nbrs.filter (· ≠ x)).map fun n => (blockLegs n t, BT n)) ++
     ((hamX.nbrs.filter (· ≠ t)).map fun n => (blockLegs n x, BX n)))

/-- **Two-site effective Hamiltonian: the model's own call sequence has the proved value.**  Hypotheses of
`two_site_heff_value`; for all values of the two operator tensors and of the blocks around the two sites. -/
theorem two_site_heff_loop_value (t x : Nat) (hamT hamX twoSite : Node) (cache : Dict)
    (hT : hamT.nbrs.Nodup) (hX : hamX.nbrs.Nodup) (hxT : x ∈ hamT.nbrs) (htX : t ∈ hamX.nbrs)
    (hdisj : ∀ n ∈ hamX.nbrs, n ∉ hamT.nbrs)
    (hS : twoSite.nbrs.Perm (hamT.nbrs.filter (· ≠ x) ++ hamX.nbrs.filter (· ≠ t)))
    (hcT : ∀ n ∈ hamT.nbrs, n ≠ x → cache (n, t) = some (gBlock n t []))
    (hcX : ∀ n ∈ hamX.nbrs, n ≠ t → cache (n, x) = some (gBlock n x []))
    (Wt Wx : Asg Leg → R) (BT BX : Nat → Asg Leg → R)
    (hWt : DependsOn (· ∈ (gOpT t hamT).legs) Wt) (hWx : DependsOn (· ∈ (gOpT x hamX).legs) Wx)
    (hBT : ∀ n ∈ hamT.nbrs.filter (· ≠ x), DependsOn (· ∈ blockLegs n t) (BT n))
    (hBX : ∀ n ∈ hamX.nbrs.filter (· ≠ t), DependsOn (· ∈ blockLegs n x) (BX n)) :
    ∃ m : Mat, getEffectiveTwoSiteHamiltonian hamT hamX twoSite (gOpT t hamT) (gOpT x hamX) t x cache = some m ∧
      m.rows = twoSite.nbrs.map (fun n => if n ∈ hamT.nbrs then Leg.gBra n t else Leg.gBra n x) ++
                [Leg.gOpOut t, Leg.gOpOut x] ∧
      m.cols = twoSite.nbrs.map (fun n => if n ∈ hamT.nbrs then Leg.gKet n t else Leg.gKet n x) ++
                [Leg.gOpIn t, Leg.gOpIn x] ∧
      (∃ e : Expr Leg R, Built m.toT e ∧ e.leaves.Perm (twoSiteLeaves t x hamT hamX Wt Wx BT BX)) ∧
      ∀ e : Expr Leg R, Built m.toT e → e.leaves.Perm (twoSiteLeaves t x hamT hamX Wt Wx BT BX) →
        e.SWF ∧ e.binds.Perm m.binds ∧ e.free.Perm (m.rows ++ m.cols) ∧
        ∀ (dim : Leg → Nat) (σ : Asg Leg), e.eval dim σ =
          sumPairs dim ((opPairs t (hamT.nbrs.filter (· ≠ x)) ++ opPairs x (hamX.nbrs.filter (· ≠ t))) ++
              [(Leg.gOp t x, Leg.gOp x t)])
            (fun τ => Wt τ * (Wx τ * (prodL ((hamT.nbrs.filter (· ≠ x)).map fun n => BT n τ) *
              prodL ((hamX.nbrs.filter (· ≠ t)).map fun n => BX n τ)))) σ := by
  obtain ⟨m, hm, hr, hc, hval⟩ := two_site_heff_value (R := R) t x hamT hamX twoSite cache hT hX hxT htX hdisj hS
    hcT hcX
  refine ⟨m, hm, hr, hc, ?_, ?_⟩
  · have hb := two_site_heff_built (R := R) (lT := [((gOpT t hamT).legs, Wt)]) (lX := [((gOpT x hamX).legs, Wx)])
      (lvT := fun n => [(blockLegs n t, BT n)]) (lvX := fun n => [(blockLegs n x, BX n)]) hm
      (BuiltL.fresh _ Wt) (BuiltL.fresh _ Wx)
      (fun n hn hne => builtL_of_cached (hcT n hn hne) (BT n))
      (fun n hn hne => builtL_of_cached (hcX n hn hne) (BX n))
    rw [← List.map_eq_flatMap, ← List.map_eq_flatMap] at hb
    refine hb.perm ?_
    simp only [twoSiteLeaves, List.cons_append]
    refine List.Perm.cons _ ?_
    exact List.perm_middle
  · intro e hbuilt hleaves
    have hdis : Expr.LabelsDisjoint (leafExprs (twoSiteLeaves t x hamT hamX Wt Wx BT BX)) := by
      have := two_site_leaves_disjoint t x hamT hamX Wt Wx BT BX hT hX hxT htX hdisj
      simpa [leafExprs, twoSiteLeaves, blockLeaves, List.map_map, Function.comp_def] using this
    have hlf : ∀ lf ∈ twoSiteLeaves t x hamT hamX Wt Wx BT BX, lf.1.Nodup ∧ DependsOn (· ∈ lf.1) lf.2 :=
      fun lf hlf => by
        simp only [twoSiteLeaves, List.mem_cons, List.mem_append, List.mem_map] at hlf
        rcases hlf with rfl | rfl | ⟨n, hn, rfl⟩ | ⟨n, hn, rfl⟩
        · exact ⟨gOpT_legs_nodup t hamT hT, hWt⟩
        · exact ⟨gOpT_legs_nodup x hamX hX, hWx⟩
        · exact ⟨blockLegs_nodup n t, hBT n hn⟩
        · exact ⟨blockLegs_nodup n x, hBX n hn⟩
    obtain ⟨hswf, hbinds, hfree⟩ := whole_built_facts (leaves_labels_nodup hdis fun lf h => (hlf lf h).1)
      (fun lf h => (hlf lf h).2) hbuilt hleaves
    refine ⟨hswf, hbinds, hfree, fun dim σ => ?_⟩
    exact hval dim e Wt Wx BT BX hswf hWt hWx hBT hBX hbinds
      (fun σ => by
        rw [Expr.leafProd_of_leaves e _ hleaves]
        simp [twoSiteLeaves, prodL, prodL_append, List.map_map, Function.comp_def]) σ

end Ptn.C05.Heff
