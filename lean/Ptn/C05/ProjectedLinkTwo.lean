import Ptn.C05.Projected
/-! `H_eff = E† H E` at the record level for the LINK and the TWO-SITE effective Hamiltonians (C05, value level):
the analogues of `site_heff_is_projected_hamiltonian`.  Each cached block carries — as a multiset of unordered
pairs — the sandwich record of the component of the tree behind it (`compRecord`); then the record of the effective
Hamiltonian, with the blocks expanded, is the record of "bra network without the updated tensor · TTNO · ket network
without the updated tensor", and every program with that record evaluates to the projected Hamiltonian. -/
namespace Ptn.C05.Heff
open Ptn.C04 Ptn.Ein

set_option linter.unusedSectionVars false
variable {R : Type} [CommSemiring R]

/-- **record identity, link**: the two sandwich records and the operator bond `p — c` are the record of the
projected Hamiltonian of the link -/
theorem link_record_is_projected (p c : Nat) (pout pin kb ob brb : Nat → List (Leg × Leg))
    (eb hb bbr : List (Leg × Leg)) (hE : (unordL eb).Perm (unordL (kb p ++ kb c)))
    (hH : (unordL hb).Perm (unordL ([(Leg.gOp p c, Leg.gOp c p)] ++ (ob p ++ ob c))))
    (hB : (unordL bbr).Perm (unordL (brb p ++ brb c))) :
    (unordL (compRecord pout pin kb ob brb p ++ compRecord pout pin kb ob brb c ++
        [(Leg.gOp p c, Leg.gOp c p)])).Perm
      (unordL (projSpec (pout p ++ pout c) (pin p ++ pin c) eb hb bbr)) :=
  (unordL_perm ((((compRecord_perm pout pin kb ob brb p).append (compRecord_perm pout pin kb ob brb c)).append_right
    _).trans (projSpec_join _ _ _ _ _ _ _ _ _ _ _))).trans (projSpec_congr _ _ hE hH hB)

/-- **The link effective Hamiltonian is the projected Hamiltonian `E† H E` (record level).**  The link tensor sits
on the bond `p — c`.  Let the record `bp` of the block of the component behind `p` (seen from `c`) and the record
`bc` of the block behind `c` be — as multisets of unordered pairs — the sandwich records of these two components
(physical pairs `pout` / `pin`, ket / operator / bra bonds `kb` / `ob` / `brb`).  Let `E` be ANY well-formed
contraction of the ket tensors of ALL nodes over the ket bonds inside the two components (the ket bond `p — c`, where
the link tensor sits, is cut: its two legs are the columns), `H` ANY well-formed contraction of the WHOLE operator
network (bonds of both components and the bond `p — c`), `B` ANY well-formed contraction of all bra tensors.  Then in
both sweep orientations the model returns the same matrix and every strongly well-formed program with its record
(blocks expanded) evaluates, for dimensions equal on both legs of every bound pair, to
`H_link[r; c] = Σ_{phys'} (Σ_{phys} E[phys; c] · H[phys'; phys]) · B[phys'; r]`. -/
theorem link_heff_is_projected_hamiltonian (p c : Nat) (hne : p ≠ c) (cache : Dict) (bp bc : List (Leg × Leg))
    (hp : cache (p, c) = some (gBlock p c bp)) (hc : cache (c, p) = some (gBlock c p bc))
    (pout pin kb ob brb : Nat → List (Leg × Leg))
    (hbp : (unordL bp).Perm (unordL (compRecord pout pin kb ob brb p)))
    (hbc : (unordL bc).Perm (unordL (compRecord pout pin kb ob brb c))) :
    ∃ m : Mat, getEffectiveLinkHamiltonian ⟨some p, [c]⟩ c p cache = some m ∧
      getEffectiveLinkHamiltonian ⟨some p, [c]⟩ p c cache = some m ∧
      m.rows = [Leg.gBra p c, Leg.gBra c p] ∧ m.cols = [Leg.gKet p c, Leg.gKet c p] ∧
      ∀ (dim : Leg → Nat) (e E H B : Expr Leg R), e.SWF → E.WF → H.WF → B.WF →
        (∀ l ∈ E.labels, l ∉ H.labels) → (∀ l ∈ E.labels, l ∉ B.labels) → (∀ l ∈ H.labels, l ∉ B.labels) →
        e.binds.Perm m.binds →
        (unordL E.binds).Perm (unordL (kb p ++ kb c)) →
        (unordL H.binds).Perm (unordL ([(Leg.gOp p c, Leg.gOp c p)] ++ (ob p ++ ob c))) →
        (unordL B.binds).Perm (unordL (brb p ++ brb c)) →
        (∀ q ∈ pin p ++ pin c, q.1 ∈ E.free ∧ q.2 ∈ H.free) →
        (∀ q ∈ pout p ++ pout c, (q.1 ∈ H.free ∧ q.1 ∉ (pin p ++ pin c).map Prod.snd) ∧ q.2 ∈ B.free) →
        (∀ q ∈ projSpec (pout p ++ pout c) (pin p ++ pin c) E.binds H.binds B.binds, dim q.1 = dim q.2) →
        (∀ σ, e.leafProd σ = E.leafProd σ * H.leafProd σ * B.leafProd σ) →
        ∀ σ, e.eval dim σ =
          sumPairs dim (pout p ++ pout c)
            (fun τ => sumPairs dim (pin p ++ pin c) (fun ρ => E.eval dim ρ * H.eval dim ρ) τ * B.eval dim τ) σ := by
  obtain ⟨h1, h2⟩ := link_heff_graph p c hne cache bp bc hp hc
  refine ⟨_, h1, h2, rfl, rfl, recForm_of_record fun eb hb bbr hEb hHb hBb => ?_⟩
  exact (unordL_append_congr (unordL_append_congr hbp hbc) (List.Perm.refl _)).trans
    (link_record_is_projected p c pout pin kb ob brb _ _ _ hEb hHb hBb)

/-- the operator bonds at the two sites: toward the blocks and along `t — x` -/
def twoOpPairs (t x : Nat) (nsT nsX : List Nat) : List (Leg × Leg) :=
  (opPairs t nsT ++ opPairs x nsX) ++ [(Leg.gOp t x, Leg.gOp x t)]

theorem two_site_record_is_projected (t x : Nat) (nsT nsX : List Nat) (pout pin kb ob brb : Nat → List (Leg × Leg))
    (eb hb bbr : List (Leg × Leg)) (hE : (unordL eb).Perm (unordL (nsT.flatMap kb ++ nsX.flatMap kb)))
    (hH : (unordL hb).Perm (unordL (twoOpPairs t x nsT nsX ++ (nsT.flatMap ob ++ nsX.flatMap ob))))
    (hB : (unordL bbr).Perm (unordL (nsT.flatMap brb ++ nsX.flatMap brb))) :
    (unordL (((nsT.flatMap fun n => compRecord pout pin kb ob brb n ++ [(Leg.gOp t n, Leg.gOp n t)]) ++
        (nsX.flatMap fun n => compRecord pout pin kb ob brb n ++ [(Leg.gOp x n, Leg.gOp n x)])) ++
        [(Leg.gOp t x, Leg.gOp x t)])).Perm
      (unordL (projSpec (nsT.flatMap pout ++ nsX.flatMap pout) (nsT.flatMap pin ++ nsX.flatMap pin) eb hb bbr)) := by
  have h0 := ((site_record_perm t nsT pout pin kb ob brb).append (site_record_perm x nsX pout pin kb ob brb)).append_right
    [(Leg.gOp t x, Leg.gOp x t)]
  refine (unordL_perm (h0.trans (projSpec_join _ _ _ _ _ _ _ _ _ _ _))).trans (projSpec_congr _ _ hE ?_ hB)
  refine hH.trans (unordL_perm ?_)
  rw [List.perm_iff_count]
  intro z
  simp only [twoOpPairs, List.count_append]
  omega

/-- **The two-site effective Hamiltonian is the projected Hamiltonian `E† H E` (record level).**  Hypotheses of
`two_site_heff_graph`.  Let the record of every cached block around the target `t` (other than the one from `x`) and
around the next node `x` (other than the one from `t`) be — as a multiset of unordered pairs — the sandwich record of
the component behind that neighbour.  Let `E` be ANY well-formed contraction of the ket tensors of all nodes other than
`t`, `x` (record: the ket bonds inside all components), `H` ANY well-formed contraction of the WHOLE operator network
(the operator bonds at `t` and `x`, the bond `t — x`, and the bonds inside all components), `B` ANY well-formed
contraction of all other bra tensors.  Then every strongly well-formed program with the record of the returned matrix
(blocks expanded) evaluates, for dimensions equal on both legs of every bound pair, to
`H_eff[r; c] = Σ_{phys'} (Σ_{phys} E[phys; c] · H[phys', out_t, out_x; phys, in_t, in_x]) · B[phys'; r]`. -/
theorem two_site_heff_is_projected_hamiltonian (t x : Nat) (hamT hamX twoSite : Node)
    (bT bX : Nat → List (Leg × Leg)) (cache : Dict)
    (hT : hamT.nbrs.Nodup) (hX : hamX.nbrs.Nodup) (hxT : x ∈ hamT.nbrs) (htX : t ∈ hamX.nbrs)
    (hdisj : ∀ n ∈ hamX.nbrs, n ∉ hamT.nbrs)
    (hS : twoSite.nbrs.Perm (hamT.nbrs.filter (· ≠ x) ++ hamX.nbrs.filter (· ≠ t)))
    (hcT : ∀ n ∈ hamT.nbrs, n ≠ x → cache (n, t) = some (gBlock n t (bT n)))
    (hcX : ∀ n ∈ hamX.nbrs, n ≠ t → cache (n, x) = some (gBlock n x (bX n)))
    (pout pin kb ob brb : Nat → List (Leg × Leg))
    (hbT : ∀ n ∈ hamT.nbrs.filter (· ≠ x), (unordL (bT n)).Perm (unordL (compRecord pout pin kb ob brb n)))
    (hbX : ∀ n ∈ hamX.nbrs.filter (· ≠ t), (unordL (bX n)).Perm (unordL (compRecord pout pin kb ob brb n))) :
    ∃ m : Mat, getEffectiveTwoSiteHamiltonian hamT hamX twoSite (gOpT t hamT) (gOpT x hamX) t x cache = some m ∧
      m.rows = twoSite.nbrs.map (fun n => if n ∈ hamT.nbrs then Leg.gBra n t else Leg.gBra n x) ++
                [Leg.gOpOut t, Leg.gOpOut x] ∧
      m.cols = twoSite.nbrs.map (fun n => if n ∈ hamT.nbrs then Leg.gKet n t else Leg.gKet n x) ++
                [Leg.gOpIn t, Leg.gOpIn x] ∧
      ∀ (dim : Leg → Nat) (e E H B : Expr Leg R), e.SWF → E.WF → H.WF → B.WF →
        (∀ l ∈ E.labels, l ∉ H.labels) → (∀ l ∈ E.labels, l ∉ B.labels) → (∀ l ∈ H.labels, l ∉ B.labels) →
        e.binds.Perm m.binds →
        (unordL E.binds).Perm (unordL ((hamT.nbrs.filter (· ≠ x)).flatMap kb ++ (hamX.nbrs.filter (· ≠ t)).flatMap kb)) →
        (unordL H.binds).Perm (unordL (twoOpPairs t x (hamT.nbrs.filter (· ≠ x)) (hamX.nbrs.filter (· ≠ t)) ++
          ((hamT.nbrs.filter (· ≠ x)).flatMap ob ++ (hamX.nbrs.filter (· ≠ t)).flatMap ob))) →
        (unordL B.binds).Perm (unordL ((hamT.nbrs.filter (· ≠ x)).flatMap brb ++ (hamX.nbrs.filter (· ≠ t)).flatMap brb)) →
        (∀ q ∈ (hamT.nbrs.filter (· ≠ x)).flatMap pin ++ (hamX.nbrs.filter (· ≠ t)).flatMap pin,
          q.1 ∈ E.free ∧ q.2 ∈ H.free) →
        (∀ q ∈ (hamT.nbrs.filter (· ≠ x)).flatMap pout ++ (hamX.nbrs.filter (· ≠ t)).flatMap pout,
          (q.1 ∈ H.free ∧
            q.1 ∉ ((hamT.nbrs.filter (· ≠ x)).flatMap pin ++ (hamX.nbrs.filter (· ≠ t)).flatMap pin).map Prod.snd) ∧
          q.2 ∈ B.free) →
        (∀ q ∈ projSpec ((hamT.nbrs.filter (· ≠ x)).flatMap pout ++ (hamX.nbrs.filter (· ≠ t)).flatMap pout)
            ((hamT.nbrs.filter (· ≠ x)).flatMap pin ++ (hamX.nbrs.filter (· ≠ t)).flatMap pin)
            E.binds H.binds B.binds, dim q.1 = dim q.2) →
        (∀ σ, e.leafProd σ = E.leafProd σ * H.leafProd σ * B.leafProd σ) →
        ∀ σ, e.eval dim σ =
          sumPairs dim ((hamT.nbrs.filter (· ≠ x)).flatMap pout ++ (hamX.nbrs.filter (· ≠ t)).flatMap pout)
            (fun τ => sumPairs dim ((hamT.nbrs.filter (· ≠ x)).flatMap pin ++ (hamX.nbrs.filter (· ≠ t)).flatMap pin)
              (fun ρ => E.eval dim ρ * H.eval dim ρ) τ * B.eval dim τ) σ := by
  refine ⟨_, two_site_heff_graph t x hamT hamX twoSite bT bX cache hT hX hxT htX hdisj hS hcT hcX, rfl, rfl,
    recForm_of_record fun eb hb bbr hEb hHb hBb => ?_⟩
  refine (unordL_append_congr (unordL_append_congr
    (unordL_flatMap_perm _ _ (fun n => compRecord pout pin kb ob brb n ++ [(Leg.gOp t n, Leg.gOp n t)])
      (fun n hn => unordL_append_congr (hbT n hn) (List.Perm.refl _)))
    (unordL_flatMap_perm _ _ (fun n => compRecord pout pin kb ob brb n ++ [(Leg.gOp x n, Leg.gOp n x)])
      (fun n hn => unordL_append_congr (hbX n hn) (List.Perm.refl _)))) (List.Perm.refl _)).trans ?_
  exact two_site_record_is_projected t x _ _ pout pin kb ob brb _ _ _ hEb hHb hBb

end Ptn.C05.Heff
