import Ptn.C05.HeffModel
import Ptn.C04.Lemmas
/-! What the pieces of `HeffModel.lean` do, for the graph-level theorems of `Heff.lean`: the single-site loop is C04's
`allLoop`, where the two legs of a block sit in the contracted tensor (`getElem?_pairs`), and when the final transposition
and matricisation succeed (`transposeT_of_pick`, `matricisationHalf_append`). -/
namespace Ptn.C05.Heff
open Ptn.C04

theorem exceptNodeLoop_eq (nd : Node) (cache : Cache) : ∀ (l : List Nat) (h : T),
    exceptNodeLoop cache l h = allLoop 1 nd cache l h
  | [], h => rfl
  | n :: rest, h => by
    simp only [exceptNodeLoop, allLoop, contractNeighbourBlock]
    cases cache n with
    | none => rfl
    | some blk =>
      simp only
      cases tensordot h blk [0] [1] with
      | none => rfl
      | some h' => exact exceptNodeLoop_eq nd cache rest h'

theorem neighbourIndices_eq (nd : Node) (l : List Nat) (h : ∀ n ∈ l, n ∈ nd.nbrs) :
    neighbourIndices nd l = some (l.map (fun n => nd.nbrs.idxOf n)) := by
  induction l with
  | nil => rfl
  | cons n rest ih =>
    simp [neighbourIndices, Node.neighbourIndex_of_mem _ _ (h n (by simp)), ih (fun m hm => h m (by simp [hm]))]

/-- the two legs of the `k`-th group of two-leg groups -/
theorem getElem?_pairs0 (p q : Nat → Leg) : ∀ (F : List Nat) (k : Nat) (hk : k < F.length),
    (F.flatMap (fun n => [p n, q n]))[2 * k]? = some (p F[k]) ∧
    (F.flatMap (fun n => [p n, q n]))[2 * k + 1]? = some (q F[k])
  | [], k, hk => absurd hk (Nat.not_lt_zero k)
  | n :: rest, 0, _ => ⟨rfl, rfl⟩
  | n :: rest, k + 1, hk => by
    have h := getElem?_pairs0 p q rest k (Nat.lt_of_succ_lt_succ hk)
    rw [show 2 * (k + 1) = 2 * k + 1 + 1 by omega]
    simp only [List.flatMap_cons, List.cons_append, List.nil_append, List.getElem?_cons_succ,
      List.getElem_cons_succ]
    exact h

theorem getElem?_pairs (pre : List Leg) (F : List Nat) (p q : Nat → Leg) (suf : List Leg) (k : Nat)
    (hk : k < F.length) :
    (pre ++ F.flatMap (fun n => [p n, q n]) ++ suf)[pre.length + 2 * k]? = some (p F[k]) ∧
    (pre ++ F.flatMap (fun n => [p n, q n]) ++ suf)[pre.length + 2 * k + 1]? = some (q F[k]) := by
  have h := getElem?_pairs0 p q F k hk
  have hlen := length_pairs F p q
  rw [List.append_assoc, Nat.add_assoc, List.getElem?_append_right (Nat.le_add_right _ _),
    List.getElem?_append_right (Nat.le_add_right _ _), Nat.add_sub_cancel_left, Nat.add_sub_cancel_left,
    List.getElem?_append_left (by omega), List.getElem?_append_left (by omega)]
  exact h

theorem transposeT_eq_some {t r : T} {axes : List Nat} : transposeT t axes = some r ↔
    axes.length = t.legs.length ∧ axes.Nodup ∧ ∃ legs, pick t.legs axes = some legs ∧ r = ⟨legs, t.binds⟩ := by
  unfold transposeT
  by_cases hc : axes.length ≠ t.legs.length ∨ ¬ axes.Nodup
  · rw [if_pos hc]
    exact ⟨(fun h => nomatch h), fun h => hc.elim (absurd h.1) (absurd h.2.1)⟩
  · rw [if_neg hc]
    have hlen : axes.length = t.legs.length := Classical.not_not.1 fun h => hc (Or.inl h)
    have hnd : axes.Nodup := Classical.not_not.1 fun h => hc (Or.inr h)
    cases pick t.legs axes with
    | none => exact ⟨(fun h => nomatch h), fun ⟨_, _, _, h, _⟩ => nomatch h⟩
    | some legs =>
      exact ⟨fun h => ⟨hlen, hnd, legs, rfl, (Option.some.inj h).symm⟩,
        fun ⟨_, _, _, h, hr⟩ => by cases h; rw [hr]⟩

theorem matricisationHalf_append (rows cols : List Leg) (b : List (Leg × Leg)) (h : cols.length = rows.length) :
    matricisationHalf ⟨rows ++ cols, b⟩ = some ⟨rows, cols, b⟩ := by
  have hl : (rows ++ cols).length = 2 * rows.length := by rw [List.length_append, h]; omega
  simp only [matricisationHalf, hl, Nat.mul_mod_right, ne_eq, not_true_eq_false, if_false]
  rw [Nat.mul_div_cancel_left _ (by omega : 0 < 2), List.take_left' rfl, List.drop_left' rfl]

/-- The leg permutations of the effective Hamiltonians pick as many legs as the tensor has, all distinct: no axis
repeats because no picked leg does. -/
theorem transposeT_of_pick (t : T) (axes : List Nat) (legs : List Leg) (hp : pick t.legs axes = some legs)
    (hnd : legs.Nodup) (hlen : legs.length = t.legs.length) : transposeT t axes = some ⟨legs, t.binds⟩ :=
  have hp' := (pick_eq t.legs axes).symm.trans hp
  transposeT_eq_some.2 ⟨(pickL_length hp').symm.trans hlen, pickL_idx_nodup hp' hnd, legs, hp, rfl⟩

/-- rows and columns of an effective Hamiltonian: the bra / ket legs of distinct blocks, then the operators' own legs -/
theorem heff_legs_nodup (K : List Nat) (hK : K.Nodup) (bra ket : Nat → Leg) (outs ins : List Leg)
    (hb : ∀ x ∈ K, ∀ y ∈ K, bra x = bra y → x = y) (hk : ∀ x ∈ K, ∀ y ∈ K, ket x = ket y → x = y)
    (hrest : (outs ++ ins).Nodup) (hbk : ∀ x ∈ K, ∀ y ∈ K, bra x ≠ ket y)
    (hbo : ∀ x ∈ K, bra x ∉ outs ++ ins) (hko : ∀ x ∈ K, ket x ∉ outs ++ ins) :
    ((K.map bra ++ outs) ++ (K.map ket ++ ins)).Nodup := by
  have hperm : ((K.map bra ++ outs) ++ (K.map ket ++ ins)).Perm ((K.map bra ++ K.map ket) ++ (outs ++ ins)) := by
    rw [List.perm_iff_count]
    intro z
    simp only [List.count_append]
    omega
  rw [hperm.nodup_iff, List.nodup_append, List.nodup_append]
  refine ⟨⟨nodup_map_of_inj_on _ hK hb, nodup_map_of_inj_on _ hK hk, ?_⟩, hrest, ?_⟩
  · intro a ha b hb' e
    obtain ⟨x, hx, rfl⟩ := List.mem_map.1 ha
    obtain ⟨y, hy, rfl⟩ := List.mem_map.1 hb'
    exact hbk x hx y hy e
  · intro a ha b hb' e
    subst e
    rcases List.mem_append.1 ha with h | h
    · obtain ⟨x, hx, rfl⟩ := List.mem_map.1 h
      exact hbo x hx hb'
    · obtain ⟨x, hx, rfl⟩ := List.mem_map.1 h
      exact hko x hx hb'

theorem findTensorLegPermutation_eq (stateNode hamNode : Node) (h : ∀ n ∈ stateNode.nbrs, n ∈ hamNode.nbrs) :
    findTensorLegPermutation stateNode hamNode =
      some (((stateNode.nbrs.map fun n => 2 * hamNode.nbrs.idxOf n + 2).map (· + 1) ++ [0]) ++
        ((stateNode.nbrs.map fun n => 2 * hamNode.nbrs.idxOf n + 2) ++ [0].map (· + 1))) := by
  simp only [findTensorLegPermutation, neighbourIndices_eq hamNode stateNode.nbrs h, List.map_map]
  rfl

end Ptn.C05.Heff
