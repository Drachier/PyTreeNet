import Ptn.C05.Heff
import Ptn.C05.ValueLemmas
/-! What the leg graphs of `Heff.lean` evaluate to, over every commutative semiring, for all dimensions and any number of
neighbours: every strongly well-formed contraction program over the operator tensor(s) and the cached blocks whose binding
record is the one the code produces — in particular the code's own sequence of `tensordot` calls — evaluates to
`H_eff[rows; cols] = Σ_{operator legs} W[operator legs…, out, in] · Π_n Blk_n[ket_n, op_n, bra_n]`.  In the `_blocks` forms
the blocks are themselves arbitrary programs `K n` with the records `bb n` the blocks carry (`Expr.net_of_record`). -/
namespace Ptn.C05.Heff
open Ptn.C04 Ptn.Ein

set_option linter.unusedSectionVars false
variable {R : Type} [CommSemiring R]

/-- the pairs (operator leg of node `i` toward `n`, Hamiltonian leg of the block of `n` toward `i`) -/
def opPairs (i : Nat) (ns : List Nat) : List (Leg × Leg) := ns.map fun n => (Leg.gOp i n, Leg.gOp n i)

/-- the legs of the cached block of the subtree behind `n`, seen from `i` -/
def blockLegs (n i : Nat) : List Leg := [Leg.gKet n i, Leg.gOp n i, Leg.gBra n i]

def blockLeaves (i : Nat) (Blk : Nat → Asg Leg → R) (ns : List Nat) : List (Expr Leg R) :=
  ns.map fun n => Expr.leaf (blockLegs n i) (Blk n)

theorem op_block_disjoint (i : Nat) (nd : Node) (W : Asg Leg → R) (n j : Nat) (B : Asg Leg → R)
    (h : i = n → j ∉ nd.nbrs) :
    ∀ l ∈ (Expr.leaf (gOpT i nd).legs W).labels, l ∉ (Expr.leaf (blockLegs n j) B).labels := by
  intro l hl
  simp only [Expr.labels, gOpT, T.fresh, List.mem_append, List.mem_map, List.mem_cons, List.not_mem_nil,
    or_false] at hl
  simp only [Expr.labels, blockLegs, List.mem_cons, List.not_mem_nil, or_false]
  rcases hl with ⟨m, hm, rfl⟩ | rfl | rfl
  · intro h'
    rcases h' with h' | h' | h'
    · cases h'
    · injection h' with h1 h2
      exact h h1 (h2 ▸ hm)
    · cases h'
  · simp
  · simp

theorem block_block_disjoint (n j n' j' : Nat) (B B' : Asg Leg → R) (h : n = n' → j ≠ j') :
    ∀ l ∈ (Expr.leaf (blockLegs n j) B).labels, l ∉ (Expr.leaf (blockLegs n' j') B').labels := by
  intro l hl
  simp only [Expr.labels, blockLegs, List.mem_cons, List.not_mem_nil, or_false] at hl ⊢
  rcases hl with rfl | rfl | rfl <;> simp <;> exact h

theorem op_op_disjoint (t x : Nat) (ndT ndX : Node) (Wt Wx : Asg Leg → R) (h : t ≠ x) :
    ∀ l ∈ (Expr.leaf (gOpT t ndT).legs Wt).labels, l ∉ (Expr.leaf (gOpT x ndX).legs Wx).labels := by
  intro l hl
  simp only [Expr.labels, gOpT, T.fresh, List.mem_append, List.mem_map, List.mem_cons, List.not_mem_nil,
    or_false] at hl ⊢
  rcases hl with ⟨m, _, rfl⟩ | rfl | rfl <;> simp [h, Ne.symm h]

theorem blockLeaves_pairwise (i : Nat) (Blk : Nat → Asg Leg → R) (ns : List Nat) (hnd : ns.Nodup) :
    Expr.LabelsDisjoint (blockLeaves i Blk ns) := by
  simp only [Expr.LabelsDisjoint, blockLeaves]
  rw [List.pairwise_map]
  refine List.Pairwise.imp_of_mem ?_ (List.nodup_iff_pairwise_ne.1 hnd)
  intro a b _ _ hab
  exact block_block_disjoint a i b i _ _ (fun h => absurd h hab)

theorem site_leaves_disjoint (i : Nat) (hamNode : Node) (W : Asg Leg → R) (Blk : Nat → Asg Leg → R)
    (ns : List Nat) (hnd : ns.Nodup) (hi : i ∉ ns) :
    Expr.LabelsDisjoint (Expr.leaf (gOpT i hamNode).legs W :: blockLeaves i Blk ns) := by
  refine List.pairwise_cons.2 ⟨fun b hb => ?_, blockLeaves_pairwise i Blk ns hnd⟩
  obtain ⟨n, hn, rfl⟩ := List.mem_map.1 hb
  exact op_block_disjoint i hamNode W n i _ (fun h => absurd (h ▸ hn) hi)

/-- **Single-site effective Hamiltonian, value level, blocks given by arbitrary programs.**  Under the
hypotheses of `site_heff_graph` the model returns a matrix `m` with the proved rows / columns, and for every
commutative semiring, all dimensions, every operator tensor `W` (reading only its own legs) and any well-formed
contraction programs `K n` for the cached blocks (record `bb n`, the record the block carries) with pairwise
distinct labels: EVERY strongly well-formed program `e` over these leaf tensors whose binding record is, up to
order, the record of `m` evaluates to
`Σ_{operator legs} W · Π_{n} (value of K n)` — one common index per pair (operator leg toward `n`, Hamiltonian leg
of block `n`), for every assignment of the open legs (the rows and columns). -/
theorem site_heff_value_blocks (i : Nat) (stateNode hamNode : Node) (bb : Nat → List (Leg × Leg)) (cache : Cache)
    (hK : stateNode.nbrs.Nodup) (hperm : hamNode.nbrs.Perm stateNode.nbrs)
    (hcache : ∀ n ∈ hamNode.nbrs, cache n = some (gBlock n i (bb n))) :
    ∃ m : Mat, getEffectiveSingleSiteHamiltonianNodes stateNode hamNode (gOpT i hamNode) cache = some m ∧
      m.rows = stateNode.nbrs.map (fun n => Leg.gBra n i) ++ [Leg.gOpOut i] ∧
      m.cols = stateNode.nbrs.map (fun n => Leg.gKet n i) ++ [Leg.gOpIn i] ∧
      ∀ (dim : Leg → Nat) (e : Expr Leg R) (W : Asg Leg → R) (K : Nat → Expr Leg R),
        e.SWF → DependsOn (· ∈ (gOpT i hamNode).legs) W → (∀ n ∈ hamNode.nbrs, (K n).WF) →
        Expr.LabelsDisjoint (Expr.leaf (gOpT i hamNode).legs W :: hamNode.nbrs.map K) →
        (∀ n ∈ hamNode.nbrs, (K n).binds.Perm (bb n)) →
        e.binds.Perm m.binds →
        (∀ σ, e.leafProd σ = W σ * Expr.leafProdL (hamNode.nbrs.map K) σ) →
        ∀ σ, e.eval dim σ =
          sumPairs dim (opPairs i hamNode.nbrs) (fun τ => W τ * Expr.evalL dim (hamNode.nbrs.map K) τ) σ := by
  refine ⟨_, site_heff_graph i stateNode hamNode bb cache hK hperm hcache, rfl, rfl, ?_⟩
  intro dim e W K he hW hKwf hdis hKb heb hleaf σ
  have hwf : ∀ x ∈ Expr.leaf (gOpT i hamNode).legs W :: hamNode.nbrs.map K, x.WF := by
    intro x hx
    rcases List.mem_cons.1 hx with rfl | hx
    · exact hW
    · obtain ⟨n, hn, rfl⟩ := List.mem_map.1 hx
      exact hKwf n hn
  have hrec : e.binds.Perm (opPairs i hamNode.nbrs ++
      Expr.bindsL (Expr.leaf (gOpT i hamNode).legs W :: hamNode.nbrs.map K)) := by
    refine heb.trans ?_
    exact record_perm hamNode.nbrs bb K (fun n => (Leg.gOp i n, Leg.gOp n i)) hKb
  have := Expr.net_of_record dim e _ he hwf hdis (opPairs i hamNode.nbrs) hrec
    (fun σ => by rw [hleaf, Expr.leafProdL_cons]; simp [Expr.leafProd, Expr.leaves, prodL]) σ
  rw [this]
  exact sumPairs_congr dim _ (fun τ => by rw [Expr.evalL_cons]; rfl) σ

/-- **Single-site effective Hamiltonian, value level.**  The cached environment blocks are arbitrary tensors
`Blk n [ket leg, operator leg, bra leg]` and the operator tensor is `W` (each reading only its own legs).  Under the
hypotheses of `site_heff_graph` (with blocks that carry no record of their own) and `i` not its own neighbour:
every strongly well-formed program `e` over these tensors with the proved record evaluates, for every assignment
of the rows (bra legs, operator output) and columns (ket legs, operator input), to
`H_eff[rows; cols] = Σ_{operator legs} W[operator legs…, out, in] · Π_n Blk_n[ket_n, op_n, bra_n]`. -/
theorem site_heff_value (i : Nat) (stateNode hamNode : Node) (cache : Cache)
    (hK : stateNode.nbrs.Nodup) (hperm : hamNode.nbrs.Perm stateNode.nbrs) (hi : i ∉ hamNode.nbrs)
    (hcache : ∀ n ∈ hamNode.nbrs, cache n = some (gBlock n i [])) :
    ∃ m : Mat, getEffectiveSingleSiteHamiltonianNodes stateNode hamNode (gOpT i hamNode) cache = some m ∧
      m.rows = stateNode.nbrs.map (fun n => Leg.gBra n i) ++ [Leg.gOpOut i] ∧
      m.cols = stateNode.nbrs.map (fun n => Leg.gKet n i) ++ [Leg.gOpIn i] ∧
      ∀ (dim : Leg → Nat) (e : Expr Leg R) (W : Asg Leg → R) (Blk : Nat → Asg Leg → R),
        e.SWF → DependsOn (· ∈ (gOpT i hamNode).legs) W →
        (∀ n ∈ hamNode.nbrs, DependsOn (· ∈ blockLegs n i) (Blk n)) →
        e.binds.Perm m.binds →
        (∀ σ, e.leafProd σ = W σ * prodL (hamNode.nbrs.map fun n => Blk n σ)) →
        ∀ σ, e.eval dim σ =
          sumPairs dim (opPairs i hamNode.nbrs) (fun τ => W τ * prodL (hamNode.nbrs.map fun n => Blk n τ)) σ := by
  obtain ⟨m, hm, hr, hc, hval⟩ := site_heff_value_blocks (R := R) i stateNode hamNode (fun _ => []) cache hK hperm hcache
  refine ⟨m, hm, hr, hc, ?_⟩
  intro dim e W Blk he hW hBlk heb hleaf σ
  have hnd : hamNode.nbrs.Nodup := hperm.nodup_iff.2 hK
  have h := hval dim e W (fun n => Expr.leaf (blockLegs n i) (Blk n)) he hW (fun n hn => hBlk n hn)
    (site_leaves_disjoint i hamNode W Blk hamNode.nbrs hnd hi) (fun n _ => List.Perm.refl _) heb
    (fun σ => by rw [hleaf, Expr.leafProdL_map_leaf]) σ
  rw [h]
  exact sumPairs_congr dim _ (fun τ => by rw [Expr.evalL_map_leaf]) σ

/-- **Link effective Hamiltonian, value level, blocks given by arbitrary programs.**  Under the hypotheses of
`link_heff_graph` both orientations of the sweep return the same matrix `m` (rows = the two bra legs, columns =
the two ket legs, in the link tensor's own order), and for any well-formed programs `Kp`, `Kc` of the two
blocks (records `bp`, `bc`, disjoint labels) every strongly well-formed program over their leaves with the
record of `m` evaluates to `Σ_{operator leg} (value of Kp) · (value of Kc)`. -/
theorem link_heff_value_blocks (p c : Nat) (hne : p ≠ c) (cache : Dict) (bp bc : List (Leg × Leg))
    (hp : cache (p, c) = some (gBlock p c bp)) (hc : cache (c, p) = some (gBlock c p bc)) :
    ∃ m : Mat, getEffectiveLinkHamiltonian ⟨some p, [c]⟩ c p cache = some m ∧
      getEffectiveLinkHamiltonian ⟨some p, [c]⟩ p c cache = some m ∧
      m.rows = [Leg.gBra p c, Leg.gBra c p] ∧ m.cols = [Leg.gKet p c, Leg.gKet c p] ∧
      ∀ (dim : Leg → Nat) (e Kp Kc : Expr Leg R), e.SWF → Kp.WF → Kc.WF →
        (∀ l ∈ Kp.labels, l ∉ Kc.labels) → Kp.binds.Perm bp → Kc.binds.Perm bc →
        e.binds.Perm m.binds →
        (∀ σ, e.leafProd σ = Kp.leafProd σ * Kc.leafProd σ) →
        ∀ σ, e.eval dim σ =
          sumPairs dim [(Leg.gOp p c, Leg.gOp c p)] (fun τ => Kp.eval dim τ * Kc.eval dim τ) σ := by
  obtain ⟨h1, h2⟩ := link_heff_graph p c hne cache bp bc hp hc
  refine ⟨_, h1, h2, rfl, rfl, ?_⟩
  intro dim e Kp Kc he hKp hKc hdis hbp hbc heb hleaf σ
  have hwf : ∀ x ∈ [Kp, Kc], x.WF := by
    intro x hx
    simp only [List.mem_cons, List.not_mem_nil, or_false] at hx
    rcases hx with rfl | rfl <;> assumption
  have hd : Expr.LabelsDisjoint [Kp, Kc] := by
    simp only [Expr.LabelsDisjoint, List.pairwise_cons, List.mem_cons, List.not_mem_nil, or_false, forall_eq,
      false_imp_iff, implies_true, List.Pairwise.nil, and_true]
    exact hdis
  have hrec : e.binds.Perm ([(Leg.gOp p c, Leg.gOp c p)] ++ Expr.bindsL [Kp, Kc]) := by
    refine heb.trans (List.perm_append_comm.trans (List.Perm.append_left _ ?_))
    simp only [Expr.bindsL, List.flatMap_cons, List.flatMap_nil, List.append_nil]
    exact List.Perm.append hbp.symm hbc.symm
  have := Expr.net_of_record dim e [Kp, Kc] he hwf hd _ hrec
    (fun σ => by rw [hleaf]; simp [Expr.leafProdL, prodL]) σ
  rw [this]
  exact sumPairs_congr dim _ (fun τ => by simp [Expr.evalL, prodL]) σ

/-- **Link effective Hamiltonian, value level.**  With the two cached blocks arbitrary tensors
`Bp[ket, op, bra]` (subtree behind `p`, seen from `c`) and `Bc[ket, op, bra]`:
`H_link[bra_p, bra_c; ket_p, ket_c] = Σ_op Bp[ket_p, op, bra_p] · Bc[ket_c, op, bra_c]`, in both sweep orientations. -/
theorem link_heff_value (p c : Nat) (hne : p ≠ c) (cache : Dict)
    (hp : cache (p, c) = some (gBlock p c [])) (hc : cache (c, p) = some (gBlock c p [])) :
    ∃ m : Mat, getEffectiveLinkHamiltonian ⟨some p, [c]⟩ c p cache = some m ∧
      getEffectiveLinkHamiltonian ⟨some p, [c]⟩ p c cache = some m ∧
      m.rows = [Leg.gBra p c, Leg.gBra c p] ∧ m.cols = [Leg.gKet p c, Leg.gKet c p] ∧
      ∀ (dim : Leg → Nat) (e : Expr Leg R) (Bp Bc : Asg Leg → R), e.SWF →
        DependsOn (· ∈ blockLegs p c) Bp → DependsOn (· ∈ blockLegs c p) Bc →
        e.binds.Perm m.binds →
        (∀ σ, e.leafProd σ = Bp σ * Bc σ) →
        ∀ σ, e.eval dim σ = sumPairs dim [(Leg.gOp p c, Leg.gOp c p)] (fun τ => Bp τ * Bc τ) σ := by
  obtain ⟨m, h1, h2, hr, hcl, hval⟩ := link_heff_value_blocks (R := R) p c hne cache [] [] hp hc
  refine ⟨m, h1, h2, hr, hcl, ?_⟩
  intro dim e Bp Bc he hBp hBc heb hleaf σ
  exact hval dim e (Expr.leaf (blockLegs p c) Bp) (Expr.leaf (blockLegs c p) Bc) he hBp hBc
    (block_block_disjoint p c c p Bp Bc (fun h => absurd h hne)) (List.Perm.refl _) (List.Perm.refl _) heb
    (fun σ => by rw [hleaf]; simp [Expr.leafProd, Expr.leaves, prodL]) σ

/-- **Two-site effective Hamiltonian, value level, blocks given by arbitrary programs.**  Under the hypotheses of
`two_site_heff_graph` the model returns a matrix `m` with the proved rows / columns, and for the two operator
tensors `Wt`, `Wx` (each reading only its own legs) and any well-formed programs `KT n` / `KX n` of the cached
blocks around the target / the next node (records `bT n` / `bX n`), all with pairwise distinct labels: every
strongly well-formed program over these leaves with the record of `m` evaluates to
`Σ Wt · Wx · Π_n (value of KT n) · Π_n (value of KX n)`, the sum running over one common index per pair
(operator leg toward `n`, Hamiltonian leg of block `n`) and one for the operator bond `t — x`. -/
theorem two_site_heff_value_blocks (t x : Nat) (hamT hamX twoSite : Node) (bT bX : Nat → List (Leg × Leg))
    (cache : Dict)
    (hT : hamT.nbrs.Nodup) (hX : hamX.nbrs.Nodup) (hxT : x ∈ hamT.nbrs) (htX : t ∈ hamX.nbrs)
    (hdisj : ∀ n ∈ hamX.nbrs, n ∉ hamT.nbrs)
    (hS : twoSite.nbrs.Perm (hamT.nbrs.filter (· ≠ x) ++ hamX.nbrs.filter (· ≠ t)))
    (hcT : ∀ n ∈ hamT.nbrs, n ≠ x → cache (n, t) = some (gBlock n t (bT n)))
    (hcX : ∀ n ∈ hamX.nbrs, n ≠ t → cache (n, x) = some (gBlock n x (bX n))) :
    ∃ m : Mat, getEffectiveTwoSiteHamiltonian hamT hamX twoSite (gOpT t hamT) (gOpT x hamX) t x cache = some m ∧
      m.rows = twoSite.nbrs.map (fun n => if n ∈ hamT.nbrs then Leg.gBra n t else Leg.gBra n x) ++
                [Leg.gOpOut t, Leg.gOpOut x] ∧
      m.cols = twoSite.nbrs.map (fun n => if n ∈ hamT.nbrs then Leg.gKet n t else Leg.gKet n x) ++
                [Leg.gOpIn t, Leg.gOpIn x] ∧
      ∀ (dim : Leg → Nat) (e : Expr Leg R) (Wt Wx : Asg Leg → R) (KT KX : Nat → Expr Leg R),
        e.SWF → DependsOn (· ∈ (gOpT t hamT).legs) Wt → DependsOn (· ∈ (gOpT x hamX).legs) Wx →
        (∀ n ∈ hamT.nbrs.filter (· ≠ x), (KT n).WF) → (∀ n ∈ hamX.nbrs.filter (· ≠ t), (KX n).WF) →
        Expr.LabelsDisjoint (Expr.leaf (gOpT t hamT).legs Wt :: Expr.leaf (gOpT x hamX).legs Wx ::
          ((hamT.nbrs.filter (· ≠ x)).map KT ++ (hamX.nbrs.filter (· ≠ t)).map KX)) →
        (∀ n ∈ hamT.nbrs.filter (· ≠ x), (KT n).binds.Perm (bT n)) →
        (∀ n ∈ hamX.nbrs.filter (· ≠ t), (KX n).binds.Perm (bX n)) →
        e.binds.Perm m.binds →
        (∀ σ, e.leafProd σ = Wt σ * (Wx σ * (Expr.leafProdL ((hamT.nbrs.filter (· ≠ x)).map KT) σ *
          Expr.leafProdL ((hamX.nbrs.filter (· ≠ t)).map KX) σ))) →
        ∀ σ, e.eval dim σ =
          sumPairs dim ((opPairs t (hamT.nbrs.filter (· ≠ x)) ++ opPairs x (hamX.nbrs.filter (· ≠ t))) ++
              [(Leg.gOp t x, Leg.gOp x t)])
            (fun τ => Wt τ * (Wx τ * (Expr.evalL dim ((hamT.nbrs.filter (· ≠ x)).map KT) τ *
              Expr.evalL dim ((hamX.nbrs.filter (· ≠ t)).map KX) τ))) σ := by
  refine ⟨_, two_site_heff_graph t x hamT hamX twoSite bT bX cache hT hX hxT htX hdisj hS hcT hcX, rfl, rfl, ?_⟩
  intro dim e Wt Wx KT KX he hWt hWx hKT hKX hdis hbT hbX heb hleaf σ
  have hwf : ∀ y ∈ Expr.leaf (gOpT t hamT).legs Wt :: Expr.leaf (gOpT x hamX).legs Wx ::
      ((hamT.nbrs.filter (· ≠ x)).map KT ++ (hamX.nbrs.filter (· ≠ t)).map KX), y.WF := by
    intro y hy
    simp only [List.mem_cons, List.mem_append, List.mem_map] at hy
    rcases hy with rfl | rfl | ⟨n, hn, rfl⟩ | ⟨n, hn, rfl⟩
    · exact hWt
    · exact hWx
    · exact hKT n hn
    · exact hKX n hn
  have hrec : e.binds.Perm (((opPairs t (hamT.nbrs.filter (· ≠ x)) ++ opPairs x (hamX.nbrs.filter (· ≠ t))) ++
      [(Leg.gOp t x, Leg.gOp x t)]) ++
      Expr.bindsL (Expr.leaf (gOpT t hamT).legs Wt :: Expr.leaf (gOpT x hamX).legs Wx ::
        ((hamT.nbrs.filter (· ≠ x)).map KT ++ (hamX.nbrs.filter (· ≠ t)).map KX))) := by
    refine heb.trans ?_
    have h1 := record_perm (hamT.nbrs.filter (· ≠ x)) bT KT (fun n => (Leg.gOp t n, Leg.gOp n t)) hbT
    have h2 := record_perm (hamX.nbrs.filter (· ≠ t)) bX KX (fun n => (Leg.gOp x n, Leg.gOp n x)) hbX
    refine (List.Perm.append_right _ (List.Perm.append h1 h2)).trans ?_
    refine (perm_shuffle _ _ _ _ _).trans ?_
    refine List.Perm.append_left _ ?_
    simp only [Expr.bindsL, List.flatMap_cons, List.flatMap_append, Expr.binds, List.nil_append]
    exact List.Perm.refl _
  have := Expr.net_of_record dim e _ he hwf hdis _ hrec
    (fun σ => by
      rw [hleaf, Expr.leafProdL_cons, Expr.leafProdL_cons, Expr.leafProdL_append]
      simp [Expr.leafProd, Expr.leaves, prodL]) σ
  rw [this]
  exact sumPairs_congr dim _ (fun τ => by
    rw [Expr.evalL_cons, Expr.evalL_cons, Expr.evalL_append]; rfl) σ

theorem two_site_leaves_disjoint (t x : Nat) (hamT hamX : Node) (Wt Wx : Asg Leg → R) (BT BX : Nat → Asg Leg → R)
    (hT : hamT.nbrs.Nodup) (hX : hamX.nbrs.Nodup) (hxT : x ∈ hamT.nbrs) (htX : t ∈ hamX.nbrs)
    (hdisj : ∀ n ∈ hamX.nbrs, n ∉ hamT.nbrs) :
    Expr.LabelsDisjoint (Expr.leaf (gOpT t hamT).legs Wt :: Expr.leaf (gOpT x hamX).legs Wx ::
      (blockLeaves t BT (hamT.nbrs.filter (· ≠ x)) ++ blockLeaves x BX (hamX.nbrs.filter (· ≠ t)))) := by
  have htx : t ≠ x := fun h => hdisj t htX (h ▸ hxT)
  have htT : t ∉ hamT.nbrs := hdisj t htX
  have hxX : x ∉ hamX.nbrs := fun h => hdisj x h hxT
  unfold Expr.LabelsDisjoint
  rw [List.pairwise_cons, List.pairwise_cons, List.pairwise_append]
  refine ⟨?_, ?_, blockLeaves_pairwise t BT _ (hT.filter _), blockLeaves_pairwise x BX _ (hX.filter _), ?_⟩
  · intro b hb
    simp only [List.mem_cons, List.mem_append, blockLeaves, List.mem_map, List.mem_filter] at hb
    rcases hb with rfl | ⟨n, ⟨_, _⟩, rfl⟩ | ⟨n, ⟨_, hn⟩, rfl⟩
    · exact op_op_disjoint t x hamT hamX Wt Wx htx
    · exact op_block_disjoint t hamT Wt n t _ (fun _ => htT)
    · exact op_block_disjoint t hamT Wt n x _ (fun h => absurd h.symm (by simpa using hn))
  · intro b hb
    simp only [List.mem_append, blockLeaves, List.mem_map, List.mem_filter] at hb
    rcases hb with ⟨n, ⟨_, hn⟩, rfl⟩ | ⟨n, ⟨_, _⟩, rfl⟩
    · exact op_block_disjoint x hamX Wx n t _ (fun h => absurd h.symm (by simpa using hn))
    · exact op_block_disjoint x hamX Wx n x _ (fun _ => hxX)
  · intro a ha b hb
    simp only [blockLeaves, List.mem_map] at ha hb
    obtain ⟨n, _, rfl⟩ := ha
    obtain ⟨n', _, rfl⟩ := hb
    exact block_block_disjoint n t n' x _ _ (fun _ => htx)

/-- **Two-site effective Hamiltonian, value level.**  With the cached blocks arbitrary tensors
`BT n [ket, op, bra]` (around the target `t`) and `BX n [ket, op, bra]` (around the next node `x`) and the two
operator tensors `Wt`, `Wx`:
`H_eff[rows; cols] = Σ_{operator legs, bond t—x} Wt[…, out_t, in_t] · Wx[…, out_x, in_x] · Π_n BT_n · Π_n BX_n`
for every assignment of the rows (bra legs in the two-site node's order, `out_t`, `out_x`) and columns. -/
theorem two_site_heff_value (t x : Nat) (hamT hamX twoSite : Node) (cache : Dict)
    (hT : hamT.nbrs.Nodup) (hX : hamX.nbrs.Nodup) (hxT : x ∈ hamT.nbrs) (htX : t ∈ hamX.nbrs)
    (hdisj : ∀ n ∈ hamX.nbrs, n ∉ hamT.nbrs)
    (hS : twoSite.nbrs.Perm (hamT.nbrs.filter (· ≠ x) ++ hamX.nbrs.filter (· ≠ t)))
    (hcT : ∀ n ∈ hamT.nbrs, n ≠ x → cache (n, t) = some (gBlock n t []))
    (hcX : ∀ n ∈ hamX.nbrs, n ≠ t → cache (n, x) = some (gBlock n x [])) :
    ∃ m : Mat, getEffectiveTwoSiteHamiltonian hamT hamX twoSite (gOpT t hamT) (gOpT x hamX) t x cache = some m ∧
      m.rows = twoSite.nbrs.map (fun n => if n ∈ hamT.nbrs then Leg.gBra n t else Leg.gBra n x) ++
                [Leg.gOpOut t, Leg.gOpOut x] ∧
      m.cols = twoSite.nbrs.map (fun n => if n ∈ hamT.nbrs then Leg.gKet n t else Leg.gKet n x) ++
                [Leg.gOpIn t, Leg.gOpIn x] ∧
      ∀ (dim : Leg → Nat) (e : Expr Leg R) (Wt Wx : Asg Leg → R) (BT BX : Nat → Asg Leg → R),
        e.SWF → DependsOn (· ∈ (gOpT t hamT).legs) Wt → DependsOn (· ∈ (gOpT x hamX).legs) Wx →
        (∀ n ∈ hamT.nbrs.filter (· ≠ x), DependsOn (· ∈ blockLegs n t) (BT n)) →
        (∀ n ∈ hamX.nbrs.filter (· ≠ t), DependsOn (· ∈ blockLegs n x) (BX n)) →
        e.binds.Perm m.binds →
        (∀ σ, e.leafProd σ = Wt σ * (Wx σ * (prodL ((hamT.nbrs.filter (· ≠ x)).map fun n => BT n σ) *
          prodL ((hamX.nbrs.filter (· ≠ t)).map fun n => BX n σ)))) →
        ∀ σ, e.eval dim σ =
          sumPairs dim ((opPairs t (hamT.nbrs.filter (· ≠ x)) ++ opPairs x (hamX.nbrs.filter (· ≠ t))) ++
              [(Leg.gOp t x, Leg.gOp x t)])
            (fun τ => Wt τ * (Wx τ * (prodL ((hamT.nbrs.filter (· ≠ x)).map fun n => BT n τ) *
              prodL ((hamX.nbrs.filter (· ≠ t)).map fun n => BX n τ)))) σ := by
  obtain ⟨m, hm, hr, hc, hval⟩ := two_site_heff_value_blocks (R := R) t x hamT hamX twoSite (fun _ => [])
    (fun _ => []) cache hT hX hxT htX hdisj hS hcT hcX
  refine ⟨m, hm, hr, hc, ?_⟩
  intro dim e Wt Wx BT BX he hWt hWx hBT hBX heb hleaf σ
  have h := hval dim e Wt Wx (fun n => Expr.leaf (blockLegs n t) (BT n)) (fun n => Expr.leaf (blockLegs n x) (BX n))
    he hWt hWx (fun n hn => hBT n hn) (fun n hn => hBX n hn)
    (two_site_leaves_disjoint t x hamT hamX Wt Wx BT BX hT hX hxT htX hdisj)
    (fun n _ => List.Perm.refl _) (fun n _ => List.Perm.refl _) heb
    (fun σ => by rw [hleaf, Expr.leafProdL_map_leaf, Expr.leafProdL_map_leaf]) σ
  rw [h]
  exact sumPairs_congr dim _ (fun τ => by rw [Expr.evalL_map_leaf, Expr.evalL_map_leaf]) σ

end Ptn.C05.Heff
