import Ptn.C04.Layer
/-! A canonical contraction program for a list of leaf tensors and a binding record: `seqExpr P L` contracts the leaf tensors
`L` left to right, starting from the unit scalar; the step that adds a leaf binds exactly those pairs of the record `P`
(in either orientation) that join a leg still free in the accumulated tensor with a leg of the new leaf.  No choice is
left: the expression is a function of `P` and `L`. -/
namespace Ptn.C05.Heff
open Ptn.C04 Ptn.Ein

set_option linter.unusedSectionVars false
variable {R : Type} [CommSemiring R]

/-- the pairs of the record `P`, in either orientation, that join a leg of `fr` with a leg of `lg`; oriented `fr` first -/
def seqPairs (P : List (Leg × Leg)) (fr lg : List Leg) : List (Leg × Leg) :=
  P.filterMap (fun p => if p.1 ∈ fr ∧ p.2 ∈ lg then some p else if p.2 ∈ fr ∧ p.1 ∈ lg then some p.swap else none)

theorem seqPairs_mem {P : List (Leg × Leg)} {fr lg : List Leg} {p : Leg × Leg} (h : p ∈ seqPairs P fr lg) :
    p.1 ∈ fr ∧ p.2 ∈ lg ∧ (p ∈ P ∨ p.swap ∈ P) := by
  simp only [seqPairs, List.mem_filterMap] at h
  obtain ⟨q, hq, hp⟩ := h
  by_cases h1 : q.1 ∈ fr ∧ q.2 ∈ lg
  · rw [if_pos h1, Option.some.injEq] at hp
    subst hp
    exact ⟨h1.1, h1.2, Or.inl hq⟩
  · rw [if_neg h1] at hp
    by_cases h2 : q.2 ∈ fr ∧ q.1 ∈ lg
    · rw [if_pos h2, Option.some.injEq] at hp
      subst hp
      exact ⟨h2.1, h2.2, Or.inr (by simpa using hq)⟩
    · rw [if_neg h2] at hp
      exact absurd hp (by simp)

def seqFold (P : List (Leg × Leg)) : Expr Leg R → List (LeafT R) → Expr Leg R
  | acc, [] => acc
  | acc, lf :: rest => seqFold P (.dot acc (.leaf lf.1 lf.2) (seqPairs P acc.free lf.1)) rest

def seqExpr (P : List (Leg × Leg)) (L : List (LeafT R)) : Expr Leg R := seqFold P (.leaf [] (fun _ => 1)) L

theorem seqFold_leaves (P : List (Leg × Leg)) : ∀ (L : List (LeafT R)) (acc : Expr Leg R),
    (seqFold P acc L).leaves = acc.leaves ++ L
  | [], acc => by simp [seqFold]
  | lf :: rest, acc => by
    rw [seqFold, seqFold_leaves P rest]
    simp [Expr.leaves]

theorem seqExpr_leaves (P : List (Leg × Leg)) (L : List (LeafT R)) :
    (seqExpr P L).leaves = ([], fun _ => 1) :: L := by
  rw [seqExpr, seqFold_leaves]
  rfl

theorem seqExpr_labels (P : List (Leg × Leg)) (L : List (LeafT R)) : (seqExpr P L).labels = labelsOf L := by
  rw [Expr.labels_eq_leaves, seqExpr_leaves]
  simp [labelsOf]

theorem seqExpr_leafProd (P : List (Leg × Leg)) (L : List (LeafT R)) (σ : Asg Leg) :
    (seqExpr P L).leafProd σ = prodL (L.map (fun lf => lf.2 σ)) := by
  rw [Expr.leafProd, seqExpr_leaves, List.map_cons]
  change prodL ([(1 : R)] ++ _) = _
  rw [prodL_append]
  simp [prodL]

theorem seqFold_wf (P : List (Leg × Leg)) : ∀ (L : List (LeafT R)) (acc : Expr Leg R), acc.WF →
    (acc.labels ++ labelsOf L).Nodup → (∀ lf ∈ L, DependsOn (· ∈ lf.1) lf.2) → (seqFold P acc L).WF
  | [], acc, h, _, _ => h
  | lf :: rest, acc, h, hnd, hloc => by
    rw [seqFold]
    apply seqFold_wf P rest
    · refine ⟨h, hloc lf (by simp), ?_, ?_⟩
      · intro l hl hl'
        simp only [Expr.labels] at hl'
        rw [List.nodup_append] at hnd
        exact hnd.2.2 l hl l (List.mem_flatMap.2 ⟨lf, List.mem_cons_self, hl'⟩) rfl
      · intro p hp
        have := seqPairs_mem hp
        exact ⟨this.1, this.2.1⟩
    · simpa [Expr.labels, labelsOf, List.append_assoc] using hnd
    · intro lf' hlf'
      exact hloc lf' (by simp [hlf'])

theorem seqExpr_wf (P : List (Leg × Leg)) (L : List (LeafT R)) (hnd : (labelsOf L).Nodup)
    (hloc : ∀ lf ∈ L, DependsOn (· ∈ lf.1) lf.2) : (seqExpr P L).WF := by
  apply seqFold_wf P L _ _ (by simpa [Expr.labels] using hnd) hloc
  intro σ τ _
  rfl

theorem seqFold_binds_sub (P : List (Leg × Leg)) : ∀ (L : List (LeafT R)) (acc : Expr Leg R),
    (∀ p ∈ acc.binds, p ∈ P ∨ p.swap ∈ P) → ∀ p ∈ (seqFold P acc L).binds, p ∈ P ∨ p.swap ∈ P
  | [], acc, h => h
  | lf :: rest, acc, h => by
    rw [seqFold]
    apply seqFold_binds_sub P rest
    intro p hp
    simp only [Expr.binds, List.append_nil, List.mem_append] at hp
    rcases hp with hp | hp
    · exact (seqPairs_mem hp).2.2
    · exact h p hp

theorem seqExpr_binds_sub (P : List (Leg × Leg)) (L : List (LeafT R)) :
    ∀ p ∈ (seqExpr P L).binds, p ∈ P ∨ p.swap ∈ P :=
  seqFold_binds_sub P L _ (by simp [Expr.binds])

theorem seqFold_free (P : List (Leg × Leg)) (l : Leg) (hl : l ∉ Expr.pairLegs P) : ∀ (L : List (LeafT R))
    (acc : Expr Leg R), (l ∈ acc.free ∨ l ∈ labelsOf L) → l ∈ (seqFold P acc L).free
  | [], acc, h => by simpa [seqFold, labelsOf] using h
  | lf :: rest, acc, h => by
    rw [seqFold]
    apply seqFold_free P l hl rest
    have hnot : ∀ (fr lg : List Leg) (q : Leg × Leg), q ∈ seqPairs P fr lg → q.1 ≠ l ∧ q.2 ≠ l := by
      intro fr lg q hq
      have hm := (seqPairs_mem hq).2.2
      constructor
      · intro h1
        apply hl
        rcases hm with hm | hm
        · exact List.mem_append.2 (Or.inl (List.mem_map.2 ⟨q, hm, h1⟩))
        · exact List.mem_append.2 (Or.inr (List.mem_map.2 ⟨q.swap, hm, h1⟩))
      · intro h1
        apply hl
        rcases hm with hm | hm
        · exact List.mem_append.2 (Or.inr (List.mem_map.2 ⟨q, hm, h1⟩))
        · exact List.mem_append.2 (Or.inl (List.mem_map.2 ⟨q.swap, hm, h1⟩))
    simp only [labelsOf, List.flatMap_cons, List.mem_append] at h
    rcases h with h | h | h
    · left
      simp only [Expr.free, List.mem_append, List.mem_filter]
      left
      refine ⟨h, ?_⟩
      simp only [Bool.not_eq_true', List.contains_eq_mem, decide_eq_false_iff_not, List.mem_map, not_exists, not_and]
      intro q hq h1
      exact (hnot _ _ q hq).1 h1
    · left
      simp only [Expr.free, List.mem_append, List.mem_filter]
      right
      refine ⟨h, ?_⟩
      simp only [Bool.not_eq_true', List.contains_eq_mem, decide_eq_false_iff_not, List.mem_map, not_exists, not_and]
      intro q hq h1
      exact (hnot _ _ q hq).2 h1
    · right
      exact h

theorem seqExpr_free (P : List (Leg × Leg)) (L : List (LeafT R)) (l : Leg) (hl : l ∉ Expr.pairLegs P)
    (hmem : l ∈ labelsOf L) : l ∈ (seqExpr P L).free :=
  seqFold_free P l hl L _ (Or.inr hmem)

end Ptn.C05.Heff
