import Ptn.C05.ProjectedTreeTwo
import Ptn.C05.WholeProgram
/-! One program from the node tensors to the matrix handed to `time_evolve`, for the two-site function
`_get_effective_two_site_hamiltonian`, both orders of (target, next). -/
namespace Ptn.C05.Heff
open Ptn.C04 Ptn.Ein

set_option linter.unusedSectionVars false
variable {R : Type} [CommSemiring R]

/-- the leaf tensors of the whole program of the two-site effective Hamiltonian of the pair `a — b`: the operator
tensors of `a` and `b` and the ket, operator and bra tensors of every other node (component above `a`, subtrees of
`a`'s other children, subtrees of `b`'s children) -/
def pairLeaves (opKids : Nat → List Nat) (kv ov bv : Nat → Asg Leg → R) (up : Ctx) (a b : Nat)
    (ls rs ks : List Tree) : List (LeafT R) :=
  [((gOpT a ⟨up.parent, opKids a⟩).legs, ov a), ((gOpT b ⟨some a, opKids b⟩).legs, ov b)] ++
    (up.leavesG (soNodeLeaves opKids kv ov bv) a ++
      (treeLeavesL (soNodeLeaves opKids kv ov bv) a (ls ++ rs) ++ treeLeavesL (soNodeLeaves opKids kv ov bv) b ks))

def pairSiteLeaves (kv bv : Nat → Asg Leg → R) (up : Ctx) (a b : Nat) (ls rs ks : List Tree) : List (LeafT R) :=
  [((gKetT a ⟨up.parent, ls.map Tree.id ++ b :: rs.map Tree.id⟩).legs, kv a),
   ((gBraT a ⟨up.parent, ls.map Tree.id ++ b :: rs.map Tree.id⟩).legs, bv a),
   ((gKetT b ⟨some a, ks.map Tree.id⟩).legs, kv b), ((gBraT b ⟨some a, ks.map Tree.id⟩).legs, bv b)]

omit [CommSemiring R] in
theorem pairLeaves_perm (opKids : Nat → List Nat) (kv ov bv : Nat → Asg Leg → R) (up : Ctx) (a b : Nat)
    (ls rs ks : List Tree) :
    (pairSiteLeaves kv bv up a b ls rs ks ++ pairLeaves opKids kv ov bv up a b ls rs ks).Perm
      (soLeaves opKids kv ov bv none ((Ctx.frame a ls rs up).plug (Tree.node b ks))) := by
  refine List.Perm.trans ?_ ((pair_opened up a b ls rs ks).leaves _ (soNodeLeaves opKids kv ov bv))
  simp only [pairLeaves, pairSiteLeaves, soNodeLeaves]
  classical
  rw [List.perm_iff_count]
  intro z
  simp only [List.count_append, List.count_cons, List.count_nil]
  omega

omit [CommSemiring R] in
theorem pair_ids_facts (up : Ctx) (a b : Nat) (ls rs ks : List Tree)
    (hnd : ((Ctx.frame a ls rs up).plug (Tree.node b ks)).ids.Nodup) :
    (a :: up.ids).Nodup ∧ (Tree.idsL (ls ++ rs)).Nodup ∧ a ∉ Tree.idsL (ls ++ rs) ∧ (Tree.idsL ks).Nodup ∧
      b ∉ Tree.idsL ks := by
  have h0 := (Ctx.plug_ids_perm (Ctx.frame a ls rs up) (Tree.node b ks)).nodup_iff.1 hnd
  simp only [Ctx.ids, Tree.ids, List.cons_append, List.nodup_cons, List.nodup_append, List.mem_append, List.mem_cons,
    not_or] at h0
  obtain ⟨⟨⟨haS, haU⟩, _, _⟩, ⟨hS, hU, _⟩, ⟨hbK, hK⟩, _⟩ := h0
  exact ⟨List.nodup_cons.2 ⟨haU, hU⟩, hS, haS, hK, hbK⟩

omit [CommSemiring R] in
/-- **the blocks around the pair are built from the node tensors behind them** (top-down block above `a`:
`Ctx.ctx_block_built`; leaf-to-root blocks of the other children of `a` and of the children of `b`:
`soBlock_built_free`) and their leaves, taken over the neighbour lists the function runs through, are the node tensors
of the component above `a`, of the subtrees `ls ++ rs` and of the subtrees `ks` -/
theorem pair_blocks_built (up : Ctx) (a b : Nat) (ls rs ks : List Tree)
    (hnd : ((Ctx.frame a ls rs up).plug (Tree.node b ks)).ids.Nodup) (opKids : Nat → List Nat)
    (hperm : ∀ e ∈ Tree.info none ((Ctx.frame a ls rs up).plug (Tree.node b ks)), (opKids e.1).Perm e.2.2)
    (kv ov bv : Nat → Asg Leg → R) (cache : Dict)
    (hcU : ∀ q, up.parent = some q → cache (q, a) = some (gBlock q a up.blockBinds))
    (hcS : ∀ n ∈ (ls ++ rs).map Tree.id, cache (n, a) = soKidBlock (ls ++ rs) a (n, a))
    (hcK : ∀ n ∈ ks.map Tree.id, cache (n, b) = soKidBlock ks b (n, b))
    (F : TwoSiteFacts up a b ls rs ks (opKids a) (opKids b)) (hpermB : (opKids b).Perm (ks.map Tree.id)) :
    ∃ lvA lvB : Nat → List (LeafT R),
      (∀ n ∈ (Node.mk up.parent (opKids a)).nbrs, n ≠ b → ∀ blk, cache (n, a) = some blk → BuiltL blk (lvA n)) ∧
      (∀ n ∈ (Node.mk (some a) (opKids b)).nbrs, n ≠ a → ∀ blk, cache (n, b) = some blk → BuiltL blk (lvB n)) ∧
      (((Node.mk up.parent (opKids a)).nbrs.filter (· ≠ b)).flatMap lvA).Perm
        (up.leavesG (soNodeLeaves opKids kv ov bv) a ++ treeLeavesL (soNodeLeaves opKids kv ov bv) a (ls ++ rs)) ∧
      (((Node.mk (some a) (opKids b)).nbrs.filter (· ≠ a)).flatMap lvB).Perm
        (treeLeavesL (soNodeLeaves opKids kv ov bv) b ks) := by
  obtain ⟨haU, hS, haS, hK, hbK⟩ := pair_ids_facts up a b ls rs ks hnd
  have hinfoU : ∀ e ∈ up.info a, (opKids e.1).Perm e.2.2 := fun e he =>
    hperm e (Ctx.mem_info_plug _ (Tree.node b ks) e (Or.inl (by
      simp only [Ctx.info, List.mem_cons, List.mem_append]; exact Or.inr (Or.inr he))))
  have hinfoS : ∀ e ∈ Tree.infoL a (ls ++ rs), (opKids e.1).Perm e.2.2 := fun e he =>
    hperm e (Ctx.mem_info_plug _ (Tree.node b ks) e (Or.inl (by
      simp only [Ctx.info, List.mem_cons, List.mem_append]; exact Or.inr (Or.inl he))))
  have hinfoK : ∀ e ∈ Tree.infoL b ks, (opKids e.1).Perm e.2.2 := fun e he =>
    hperm e (Ctx.mem_info_plug _ (Tree.node b ks) e (Or.inr (by simp [Tree.info, he])))
  have hallA : (up.ids ++ Tree.idsL (ls ++ rs)).Nodup := by
    have := F.hall
    rw [Tree.idsL_append, ← List.append_assoc] at this
    exact (List.nodup_append.1 this).1
  -- the pair reads two holes: `(up, ls ++ rs)` seen from `a` and `(root, ks)` seen from `b`
  refine ⟨nbLeaves opKids kv ov bv up (ls ++ rs) a, nbLeaves opKids kv ov bv .root ks b, ?_, ?_, ?_, ?_⟩
  · intro n hn hne blk hblk
    refine nb_blocks_built opKids kv ov bv up (ls ++ rs) a haU hinfoU hS haS hinfoS n blk ?_
    by_cases hq : up.parent = some n
    · rw [← hblk, hcU n hq]; simp [siteCache, hq]
    · have hnS : n ∈ (ls ++ rs).map Tree.id := F.hA'.mem_iff.1 (List.mem_filter.2
        ⟨(List.mem_append.1 hn).resolve_left (by simpa using hq), by simpa using hne⟩)
      rw [← hblk, hcS n hnS]; simp [siteCache, hq]
  · intro n hn hne blk hblk
    have hnK : n ∈ ks.map Tree.id := hpermB.mem_iff.1 ((List.mem_append.1 hn).resolve_left (by simpa using hne))
    refine nb_blocks_built opKids kv ov bv .root ks b (by simp [Ctx.ids]) (by simp [Ctx.info]) hK hbK hinfoK n blk ?_
    rw [← hblk, hcK n hnK]; simp [siteCache, Ctx.parent]
  · rw [F.hfA]
    exact flatMap_nbLeaves opKids kv ov bv a hallA (List.Perm.append_left _ F.hA')
  · rw [F.hfB]
    have := flatMap_nbLeaves opKids kv ov bv (c := .root) (ks := ks) b (by simpa [Ctx.ids] using hK)
      (ns := opKids b) (by simpa [Ctx.parent] using hpermB)
    simpa [Ctx.leavesG] using this

omit [CommSemiring R] in
theorem pair_perm_a {α : Type} (oa ob : α) (A B C : List α) :
    (([oa] ++ (A ++ B)) ++ ([ob] ++ C)).Perm ([oa, ob] ++ (A ++ (B ++ C))) := by
  classical
  rw [List.perm_iff_count]
  intro z
  simp only [List.count_append, List.count_cons, List.count_nil]
  omega

omit [CommSemiring R] in
theorem pair_perm_b {α : Type} (oa ob : α) (A B C : List α) :
    (([ob] ++ C) ++ ([oa] ++ (A ++ B))).Perm ([oa, ob] ++ (A ++ (B ++ C))) := by
  classical
  rw [List.perm_iff_count]
  intro z
  simp only [List.count_append, List.count_cons, List.count_nil]
  omega

theorem pair_opKids_perm (up : Ctx) (a b : Nat) (ls rs ks : List Tree) (opKids : Nat → List Nat)
    (hperm : ∀ e ∈ Tree.info none ((Ctx.frame a ls rs up).plug (Tree.node b ks)), (opKids e.1).Perm e.2.2) :
    (opKids a).Perm (ls.map Tree.id ++ b :: rs.map Tree.id) ∧ (opKids b).Perm (ks.map Tree.id) :=
  ⟨hperm (a, up.parent, ls.map Tree.id ++ b :: rs.map Tree.id)
      (Ctx.mem_info_plug _ (Tree.node b ks) _ (Or.inl (by simp [Ctx.info, Tree.id]))),
    hperm (b, some a, ks.map Tree.id)
      (Ctx.mem_info_plug _ (Tree.node b ks) _ (Or.inr (by simp [Tree.info, Ctx.parent])))⟩

/-- **One program for the two-site effective Hamiltonian, target = the upper node**: as `site_heff_whole_program`, in the
setting of `two_site_heff_projected_tree` with arbitrary local node tensors `kv`, `ov`, `bv`.  The matrix `m` is built —
`contract_any` recursion above `a`, leaf-to-root loops below `a` and `b` (`pair_blocks_built`),
`_contract_all_except_two_nodes` with its transposition (`two_site_heff_built`) — from `pairLeaves`: the operator tensors
of ALL nodes and the ket / bra tensors of all nodes except `a`, `b`, each once (`pairLeaves_perm`), and every expression it
is built from evaluates to `E† H E` for any split of the leaves into `E` (kets over the ket bonds touching neither `a` nor
`b`), `H` (the whole TTNO), `B`. -/
theorem two_site_heff_whole_program (up : Ctx) (a b : Nat) (ls rs ks : List Tree)
    (hnd : ((Ctx.frame a ls rs up).plug (Tree.node b ks)).ids.Nodup) (opKids : Nat → List Nat)
    (hperm : ∀ e ∈ Tree.info none ((Ctx.frame a ls rs up).plug (Tree.node b ks)), (opKids e.1).Perm e.2.2)
    (kv ov bv : Nat → Asg Leg → R) (hkv : KetLocal kv ((Ctx.frame a ls rs up).plug (Tree.node b ks)))
    (hov : OpLocalK ov opKids ((Ctx.frame a ls rs up).plug (Tree.node b ks)))
    (hbv : BraLocalK bv ((Ctx.frame a ls rs up).plug (Tree.node b ks)))
    (twoSite : Node) (hS : twoSite.nbrs.Perm (up.parent.toList ++ ((ls ++ rs) ++ ks).map Tree.id)) (cache : Dict)
    (hcU : ∀ q, up.parent = some q → cache (q, a) = some (gBlock q a up.blockBinds))
    (hcS : ∀ n ∈ (ls ++ rs).map Tree.id, cache (n, a) = soKidBlock (ls ++ rs) a (n, a))
    (hcK : ∀ n ∈ ks.map Tree.id, cache (n, b) = soKidBlock ks b (n, b)) :
    ∃ m : Mat, getEffectiveTwoSiteHamiltonian ⟨up.parent, opKids a⟩ ⟨some a, opKids b⟩ twoSite
        (gOpT a ⟨up.parent, opKids a⟩) (gOpT b ⟨some a, opKids b⟩) a b cache = some m ∧
      m.rows = twoSite.nbrs.map (fun n => if n ∈ (Node.mk up.parent (opKids a)).nbrs then Leg.gBra n a
                  else Leg.gBra n b) ++ [Leg.gOpOut a, Leg.gOpOut b] ∧
      m.cols = twoSite.nbrs.map (fun n => if n ∈ (Node.mk up.parent (opKids a)).nbrs then Leg.gKet n a
                  else Leg.gKet n b) ++ [Leg.gOpIn a, Leg.gOpIn b] ∧
      BuiltL m.toT (pairLeaves opKids kv ov bv up a b ls rs ks) ∧
      (pairSiteLeaves kv bv up a b ls rs ks ++ pairLeaves opKids kv ov bv up a b ls rs ks).Perm
        (soLeaves opKids kv ov bv none ((Ctx.frame a ls rs up).plug (Tree.node b ks))) ∧
      ∀ e : Expr Leg R, Built m.toT e → e.leaves.Perm (pairLeaves opKids kv ov bv up a b ls rs ks) →
        e.SWF ∧ e.binds.Perm m.binds ∧ e.free.Perm (m.rows ++ m.cols) ∧
        ∀ (dim : Leg → Nat) (E H B : Expr Leg R), E.WF → H.WF → B.WF →
          (E.leaves ++ (H.leaves ++ B.leaves)).Perm (pairLeaves opKids kv ov bv up a b ls rs ks) →
          (unordL E.binds).Perm
            (unordL ((up.compEdges ++ ((ls ++ rs) ++ ks).flatMap Tree.edges).map fun e => ketEdge e.1 e.2)) →
          (unordL H.binds).Perm
            (unordL (((Ctx.frame a ls rs up).plug (Tree.node b ks)).edges.map fun e => opEdge e.1 e.2)) →
          (unordL B.binds).Perm
            (unordL ((up.compEdges ++ ((ls ++ rs) ++ ks).flatMap Tree.edges).map fun e => braEdge e.1 e.2)) →
          (∀ n ∈ up.ids ++ Tree.idsL ((ls ++ rs) ++ ks), Leg.gKetPhys n ∈ E.free ∧ Leg.gOpIn n ∈ H.free ∧
            Leg.gOpOut n ∈ H.free ∧ Leg.gBraPhys n ∈ B.free) →
          (∀ q ∈ projSpec ((up.ids ++ Tree.idsL ((ls ++ rs) ++ ks)).map physOut)
            ((up.ids ++ Tree.idsL ((ls ++ rs) ++ ks)).map physIn) E.binds H.binds B.binds, dim q.1 = dim q.2) →
          ∀ σ, e.eval dim σ =
            sumPairs dim ((up.ids ++ Tree.idsL ((ls ++ rs) ++ ks)).map physOut)
              (fun τ => sumPairs dim ((up.ids ++ Tree.idsL ((ls ++ rs) ++ ks)).map physIn)
                (fun ρ => E.eval dim ρ * H.eval dim ρ) τ * B.eval dim τ) σ := by
  obtain ⟨hpermA, hpermB⟩ := pair_opKids_perm up a b ls rs ks opKids hperm
  have F := two_site_facts up a b ls rs ks (opKids a) (opKids b) hnd hpermA hpermB
  obtain ⟨m, hm, hr, hc, hval⟩ := two_site_heff_projected_tree (R := R) up a b ls rs ks hnd (opKids a) (opKids b)
    hpermA hpermB twoSite hS cache hcU hcS hcK
  obtain ⟨lvA, lvB, hbA, hbB, hfA, hfB⟩ := pair_blocks_built up a b ls rs ks hnd opKids hperm kv ov bv cache hcU hcS
    hcK F hpermB
  have hwl := pairLeaves_perm opKids kv ov bv up a b ls rs ks
  have hbuilt : BuiltL m.toT (pairLeaves opKids kv ov bv up a b ls rs ks) := by
    have hb := two_site_heff_built (R := R) (lT := [((gOpT a ⟨up.parent, opKids a⟩).legs, ov a)])
      (lX := [((gOpT b ⟨some a, opKids b⟩).legs, ov b)]) hm (BuiltL.fresh _ _) (BuiltL.fresh _ _) hbA hbB
    refine hb.perm ?_
    refine ((List.Perm.append_left _ hfA).append (List.Perm.append_left _ hfB)).trans ?_
    exact pair_perm_a _ _ _ _ _
  obtain ⟨hndS, hlocS⟩ := soLeaves_clean opKids kv ov bv _ hnd hperm hkv hov hbv
  exact ⟨m, hm, hr, hc, hbuilt, hwl, whole_core hwl hndS hlocS hval⟩

/-- `two_site_heff_whole_program` with target = the LOWER node `b`, next = `a`: the matrix of the other sweep direction is
built from the same `pairLeaves`, with the same value. -/
theorem two_site_heff_whole_program_up (up : Ctx) (a b : Nat) (ls rs ks : List Tree)
    (hnd : ((Ctx.frame a ls rs up).plug (Tree.node b ks)).ids.Nodup) (opKids : Nat → List Nat)
    (hperm : ∀ e ∈ Tree.info none ((Ctx.frame a ls rs up).plug (Tree.node b ks)), (opKids e.1).Perm e.2.2)
    (kv ov bv : Nat → Asg Leg → R) (hkv : KetLocal kv ((Ctx.frame a ls rs up).plug (Tree.node b ks)))
    (hov : OpLocalK ov opKids ((Ctx.frame a ls rs up).plug (Tree.node b ks)))
    (hbv : BraLocalK bv ((Ctx.frame a ls rs up).plug (Tree.node b ks)))
    (twoSite : Node) (hS : twoSite.nbrs.Perm (up.parent.toList ++ ((ls ++ rs) ++ ks).map Tree.id)) (cache : Dict)
    (hcU : ∀ q, up.parent = some q → cache (q, a) = some (gBlock q a up.blockBinds))
    (hcS : ∀ n ∈ (ls ++ rs).map Tree.id, cache (n, a) = soKidBlock (ls ++ rs) a (n, a))
    (hcK : ∀ n ∈ ks.map Tree.id, cache (n, b) = soKidBlock ks b (n, b)) :
    ∃ m : Mat, getEffectiveTwoSiteHamiltonian ⟨some a, opKids b⟩ ⟨up.parent, opKids a⟩ twoSite
        (gOpT b ⟨some a, opKids b⟩) (gOpT a ⟨up.parent, opKids a⟩) b a cache = some m ∧
      m.rows = twoSite.nbrs.map (fun n => if n ∈ (Node.mk (some a) (opKids b)).nbrs then Leg.gBra n b
                  else Leg.gBra n a) ++ [Leg.gOpOut b, Leg.gOpOut a] ∧
      m.cols = twoSite.nbrs.map (fun n => if n ∈ (Node.mk (some a) (opKids b)).nbrs then Leg.gKet n b
                  else Leg.gKet n a) ++ [Leg.gOpIn b, Leg.gOpIn a] ∧
      BuiltL m.toT (pairLeaves opKids kv ov bv up a b ls rs ks) ∧
      (pairSiteLeaves kv bv up a b ls rs ks ++ pairLeaves opKids kv ov bv up a b ls rs ks).Perm
        (soLeaves opKids kv ov bv none ((Ctx.frame a ls rs up).plug (Tree.node b ks))) ∧
      ∀ e : Expr Leg R, Built m.toT e → e.leaves.Perm (pairLeaves opKids kv ov bv up a b ls rs ks) →
        e.SWF ∧ e.binds.Perm m.binds ∧ e.free.Perm (m.rows ++ m.cols) ∧
        ∀ (dim : Leg → Nat) (E H B : Expr Leg R), E.WF → H.WF → B.WF →
          (E.leaves ++ (H.leaves ++ B.leaves)).Perm (pairLeaves opKids kv ov bv up a b ls rs ks) →
          (unordL E.binds).Perm
            (unordL ((up.compEdges ++ ((ls ++ rs) ++ ks).flatMap Tree.edges).map fun e => ketEdge e.1 e.2)) →
          (unordL H.binds).Perm
            (unordL (((Ctx.frame a ls rs up).plug (Tree.node b ks)).edges.map fun e => opEdge e.1 e.2)) →
          (unordL B.binds).Perm
            (unordL ((up.compEdges ++ ((ls ++ rs) ++ ks).flatMap Tree.edges).map fun e => braEdge e.1 e.2)) →
          (∀ n ∈ up.ids ++ Tree.idsL ((ls ++ rs) ++ ks), Leg.gKetPhys n ∈ E.free ∧ Leg.gOpIn n ∈ H.free ∧
            Leg.gOpOut n ∈ H.free ∧ Leg.gBraPhys n ∈ B.free) →
          (∀ q ∈ projSpec ((up.ids ++ Tree.idsL ((ls ++ rs) ++ ks)).map physOut)
            ((up.ids ++ Tree.idsL ((ls ++ rs) ++ ks)).map physIn) E.binds H.binds B.binds, dim q.1 = dim q.2) →
          ∀ σ, e.eval dim σ =
            sumPairs dim ((up.ids ++ Tree.idsL ((ls ++ rs) ++ ks)).map physOut)
              (fun τ => sumPairs dim ((up.ids ++ Tree.idsL ((ls ++ rs) ++ ks)).map physIn)
                (fun ρ => E.eval dim ρ * H.eval dim ρ) τ * B.eval dim τ) σ := by
  obtain ⟨hpermA, hpermB⟩ := pair_opKids_perm up a b ls rs ks opKids hperm
  have F := two_site_facts up a b ls rs ks (opKids a) (opKids b) hnd hpermA hpermB
  obtain ⟨m, hm, hr, hc, hval⟩ := two_site_heff_projected_tree_up (R := R) up a b ls rs ks hnd (opKids a) (opKids b)
    hpermA hpermB twoSite hS cache hcU hcS hcK
  obtain ⟨lvA, lvB, hbA, hbB, hfA, hfB⟩ := pair_blocks_built up a b ls rs ks hnd opKids hperm kv ov bv cache hcU hcS
    hcK F hpermB
  have hwl := pairLeaves_perm opKids kv ov bv up a b ls rs ks
  have hbuilt : BuiltL m.toT (pairLeaves opKids kv ov bv up a b ls rs ks) := by
    have hb := two_site_heff_built (R := R) (lT := [((gOpT b ⟨some a, opKids b⟩).legs, ov b)])
      (lX := [((gOpT a ⟨up.parent, opKids a⟩).legs, ov a)]) hm (BuiltL.fresh _ _) (BuiltL.fresh _ _) hbB hbA
    refine hb.perm ?_
    refine ((List.Perm.append_left _ hfB).append (List.Perm.append_left _ hfA)).trans ?_
    exact pair_perm_b _ _ _ _ _
  obtain ⟨hndS, hlocS⟩ := soLeaves_clean opKids kv ov bv _ hnd hperm hkv hov hbv
  exact ⟨m, hm, hr, hc, hbuilt, hwl, whole_core hwl hndS hlocS hval⟩

end Ptn.C05.Heff
