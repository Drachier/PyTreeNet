import Ptn.C04.Op
import Ptn.C05.HeffLemmas
/-! Positions for the two-site effective Hamiltonian: `_determine_two_site_leg_permutation` returns, for a neighbour `n`
of the pair, the place `pos n` where the ket leg of its block sits in the tensor `twoLegs` that
`_contract_all_except_two_nodes` has contracted (`twoSiteInputLegs_eq`, `twoLegs_pos`, `twoLegs_op`). -/
namespace Ptn.C05.Heff
open Ptn.C04

/-- position of a neighbour after the ignored neighbour has been taken out -/
theorem idx_shift (L : List Nat) (x n : Nat) (hL : L.Nodup) (hx : x ∈ L) (hn : n ∈ L) (hne : n ≠ x) :
    L.idxOf n + (if L.idxOf n < L.idxOf x then 1 else 0) = (L.filter (· ≠ x)).idxOf n + 1 := by
  obtain ⟨A, B, rfl⟩ := List.append_of_mem hx
  obtain ⟨hxA, hxB, _, _, hd⟩ := nodup_mid hL
  rw [filter_ne_mid A B x hxA hxB, idxOf_append_mid A B x hxA]
  by_cases hA : n ∈ A
  · have hlt := List.idxOf_lt_length_of_mem hA
    simp only [List.idxOf_append, hA, if_true]
    simp [hlt]
  · have hB : n ∈ B := by
      simp only [List.mem_append, List.mem_cons] at hn
      rcases hn with h | h | h
      · exact absurd h hA
      · exact absurd h hne
      · exact h
    have hb : (x == n) = false := by simpa using fun e => hne e.symm
    simp only [List.idxOf_append, hA, if_false, List.idxOf_cons, hb, cond_false]
    have : ¬ (B.idxOf n + 1 + A.length < A.length) := by omega
    simp only [this, if_false]
    omega

section
variable (t x : Nat) (hamT hamX : Node)
variable (hT : hamT.nbrs.Nodup) (hX : hamX.nbrs.Nodup) (hxT : x ∈ hamT.nbrs) (htX : t ∈ hamX.nbrs)
variable (hdisj : ∀ n ∈ hamX.nbrs, n ∉ hamT.nbrs)

/-- the ket-leg position of the block of neighbour `n` in the contracted two-site tensor -/
def pos (n : Nat) : Nat :=
  if n ∈ hamT.nbrs then 2 * ((hamT.nbrs.filter (· ≠ x)).idxOf n + 1)
  else 2 * hamT.nn + 2 * ((hamX.nbrs.filter (· ≠ t)).idxOf n + 1)

include hT hX hxT htX hdisj in
theorem twoSiteInputLegs_eq (l : List Nat)
    (hl : ∀ n ∈ l, n ∈ hamT.nbrs.filter (· ≠ x) ∨ n ∈ hamX.nbrs.filter (· ≠ t)) :
    twoSiteInputLegs hamT hamX t x l = some (l.map (pos t x hamT hamX)) := by
  induction l with
  | nil => rfl
  | cons n rest ih =>
    have ih' := ih (fun m hm => hl m (by simp [hm]))
    simp only [twoSiteInputLegs, ih', List.map_cons]
    rcases hl n (by simp) with h | h
    · have hn := (List.mem_filter.1 h).1
      have hne : n ≠ x := by simpa using (List.mem_filter.1 h).2
      have := idx_shift hamT.nbrs x n hT hxT hn hne
      simp only [hn, if_true, findBlockLegTargetNode, Node.neighbourIndex_of_mem _ _ hxT,
        Node.neighbourIndex_of_mem _ _ hn, pos, this]
    · have hn := (List.mem_filter.1 h).1
      have hne : n ≠ t := by simpa using (List.mem_filter.1 h).2
      have hnT : n ∉ hamT.nbrs := hdisj n hn
      have := idx_shift hamX.nbrs t n hX htX hn hne
      simp only [hnT, hn, if_true, if_false, findBlockLegNextNode, findBlockLegTargetNode,
        Node.neighbourIndex_of_mem _ _ htX, Node.neighbourIndex_of_mem _ _ hn, pos, this]

theorem determineTwoSiteLegPermutation_eq (twoSite : Node) (inputLegs : List Nat)
    (h : twoSiteInputLegs hamT hamX t x twoSite.nbrs = some inputLegs) :
    determineTwoSiteLegPermutation hamT hamX twoSite t x =
      some ((inputLegs.map (· + 1) ++ [0, 2 * hamT.nn]) ++ (inputLegs ++ [0, 2 * hamT.nn].map (· + 1))) := by
  simp only [determineTwoSiteLegPermutation, h]
  rfl

/-- the legs of the two blocks contracted over the bond `t — x` -/
def twoLegs : List Leg := Leg.gOpOut t :: Leg.gOpIn t ::
  ((hamT.nbrs.filter (· ≠ x)).flatMap (fun n => [Leg.gKet n t, Leg.gBra n t]) ++
    Leg.gOpOut x :: Leg.gOpIn x :: (hamX.nbrs.filter (· ≠ t)).flatMap (fun n => [Leg.gKet n x, Leg.gBra n x]))

include hT hxT in
theorem nn_eq_filter : hamT.nn = (hamT.nbrs.filter (· ≠ x)).length + 1 := by
  rw [Node.nn_eq]
  exact length_filter_ne hamT.nbrs x hT hxT

include hT hxT in
theorem twoLegs_pos (n : Nat)
    (h : n ∈ hamT.nbrs.filter (· ≠ x) ∨ (n ∉ hamT.nbrs ∧ n ∈ hamX.nbrs.filter (· ≠ t))) :
    (twoLegs t x hamT hamX)[pos t x hamT hamX n]? = some (if n ∈ hamT.nbrs then Leg.gKet n t else Leg.gKet n x) ∧
    (twoLegs t x hamT hamX)[pos t x hamT hamX n + 1]? =
      some (if n ∈ hamT.nbrs then Leg.gBra n t else Leg.gBra n x) := by
  have hnn := nn_eq_filter x hamT hT hxT
  have hmemT : n ∈ hamT.nbrs.filter (· ≠ x) → n ∈ hamT.nbrs := fun h => (List.mem_filter.1 h).1
  unfold twoLegs pos
  generalize hamT.nbrs.filter (· ≠ x) = Ft at *
  generalize hamX.nbrs.filter (· ≠ t) = Fx at *
  have hlenT := length_pairs Ft (fun n => Leg.gKet n t) (fun n => Leg.gBra n t)
  rcases h with h | ⟨h1, h2⟩
  · have hlt := List.idxOf_lt_length_of_mem h
    have := getElem?_pairs [Leg.gOpOut t, Leg.gOpIn t] Ft (fun n => Leg.gKet n t) (fun n => Leg.gBra n t)
      (Leg.gOpOut x :: Leg.gOpIn x :: Fx.flatMap (fun n => [Leg.gKet n x, Leg.gBra n x])) (Ft.idxOf n) hlt
    simp only [List.getElem_idxOf hlt, List.length_cons, List.length_nil, List.cons_append, List.nil_append]
      at this
    rw [show 0 + 1 + 1 + 2 * Ft.idxOf n = 2 * (Ft.idxOf n + 1) by omega] at this
    simp only [hmemT h, if_true]
    exact this
  · have hlt := List.idxOf_lt_length_of_mem h2
    have := getElem?_pairs (Leg.gOpOut t :: Leg.gOpIn t ::
        (Ft.flatMap (fun n => [Leg.gKet n t, Leg.gBra n t]) ++ [Leg.gOpOut x, Leg.gOpIn x])) Fx
      (fun n => Leg.gKet n x) (fun n => Leg.gBra n x) [] (Fx.idxOf n) hlt
    simp only [List.getElem_idxOf hlt, List.length_cons, List.length_nil, List.cons_append, List.nil_append,
      List.append_assoc, List.append_nil, List.length_append, hlenT] at this
    rw [show 2 * Ft.length + (0 + 1 + 1) + 1 + 1 + 2 * Fx.idxOf n = 2 * (Ft.length + 1) + 2 * (Fx.idxOf n + 1) by
      omega] at this
    simp only [h1, if_false, hnn]
    exact this

include hT hxT in
theorem twoLegs_op : (twoLegs t x hamT hamX)[2 * hamT.nn]? = some (Leg.gOpOut x) ∧
    (twoLegs t x hamT hamX)[2 * hamT.nn + 1]? = some (Leg.gOpIn x) := by
  have hnn := nn_eq_filter x hamT hT hxT
  unfold twoLegs
  generalize hamT.nbrs.filter (· ≠ x) = Ft at *
  generalize hamX.nbrs.filter (· ≠ t) = Fx at *
  have hlenT := length_pairs Ft (fun n => Leg.gKet n t) (fun n => Leg.gBra n t)
  have h0 := getElem?_append_mid (Leg.gOpOut t :: Leg.gOpIn t :: Ft.flatMap (fun n => [Leg.gKet n t, Leg.gBra n t]))
    (Leg.gOpIn x :: Fx.flatMap (fun n => [Leg.gKet n x, Leg.gBra n x])) (Leg.gOpOut x)
  have h1 := getElem?_append_mid (Leg.gOpOut t :: Leg.gOpIn t ::
    (Ft.flatMap (fun n => [Leg.gKet n t, Leg.gBra n t]) ++ [Leg.gOpOut x]))
    (Fx.flatMap (fun n => [Leg.gKet n x, Leg.gBra n x])) (Leg.gOpIn x)
  simp only [List.length_cons, List.length_append, List.length_nil, hlenT, List.cons_append,
    List.append_assoc, List.nil_append] at h0 h1
  rw [show 2 * Ft.length + 1 + 1 = 2 * hamT.nn by omega] at h0
  rw [show 2 * Ft.length + (0 + 1) + 1 + 1 = 2 * hamT.nn + 1 by omega] at h1
  exact ⟨h0, h1⟩

theorem length_twoLegs : (twoLegs t x hamT hamX).length =
    2 * ((hamT.nbrs.filter (· ≠ x)).length + (hamX.nbrs.filter (· ≠ t)).length + 2) := by
  simp only [twoLegs, List.length_cons, List.length_append, length_pairs]
  omega

end

end Ptn.C05.Heff
