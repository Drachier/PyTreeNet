import Ptn.C05.ProjectedTreeAll
import Ptn.C05.ProjectedLinkTwo
/-! `H_link = E† H E` for EVERY edge of every tree: the block hypotheses of `link_heff_is_projected_hamiltonian` are
discharged for the two neighbours of the hole `(c, [t])` (`nbBlock_record`: the top-down block above the edge, the
leaf-to-root block below it).  `Ctx.exists_ctx_edge`: every edge of every tree is the edge into the hole of a frame. -/
namespace Ptn.C05.Heff
open Ptn.C04 Ptn.Ein

set_option linter.unusedSectionVars false
variable {R : Type} [CommSemiring R]

namespace Ctx

/-- **every edge of every tree** is the edge into the hole of a frame: the tree is the frame of the upper node `p`
(with `p`'s other children and everything above `p`) with the subtree of the lower node `h` plugged in -/
theorem exists_ctx_edge : ∀ (t : Tree) (p h : Nat), (p, h) ∈ t.edges →
    ∃ (ls rs : List Tree) (up : Ctx) (ks : List Tree), t = (frame p ls rs up).plug (Tree.node h ks)
  | t, p, h => by
    induction t using Tree.induct with
    | node r kids ih =>
      intro hm
      rw [Tree.edges, Tree.edgesL_eq, List.mem_flatMap] at hm
      obtain ⟨k, hk, hm⟩ := hm
      obtain ⟨ls, rs, rfl⟩ := List.append_of_mem hk
      rcases List.mem_cons.1 hm with heq | hm
      · cases heq
        obtain ⟨i, ks⟩ := k
        exact ⟨ls, rs, root, ks, rfl⟩
      · obtain ⟨ls', rs', up, ks, hk'⟩ := ih k hk hm
        refine ⟨ls', rs', atop up (frame r ls rs root), ks, ?_⟩
        have := plug_atop (frame p ls' rs' up) (frame r ls rs root) (Tree.node h ks)
        simp only [atop] at this
        rw [this, ← hk']
        rfl

theorem exists_ctx_edgeL : ∀ (ts : List Tree) (i p h : Nat), (p, h) ∈ Tree.edgesL i ts →
    ∃ (ls : List Tree) (k : Tree) (rs : List Tree), ts = ls ++ k :: rs ∧
      ((p = i ∧ k.id = h) ∨
        ∃ (ls' rs' : List Tree) (up : Ctx) (ks : List Tree), k = (frame p ls' rs' up).plug (Tree.node h ks))
  | ts, i, p, h, hm => by
    rw [Tree.edgesL_eq, List.mem_flatMap] at hm
    obtain ⟨k, hk, hm⟩ := hm
    obtain ⟨ls, rs, rfl⟩ := List.append_of_mem hk
    refine ⟨ls, k, rs, rfl, (List.mem_cons.1 hm).imp (fun heq => ?_) (exists_ctx_edge k p h)⟩
    cases heq
    exact ⟨rfl, rfl⟩

end Ctx

/-- **`H_link = E† H E` for every edge of every tree, both sweep orientations**: as `site_heff_projected_tree`, for the link
tensor on the edge `p — t.id` into the hole of `c` (`p` the parent of the hole, `t` the subtree in it; every edge:
`Ctx.exists_ctx_edge`).  The cache holds toward the link the block that `contract_any(p, t.id)` builds (record
`c.blockBinds`) and the leaf-to-root block `soBlock t p`.  Both orientations return the same matrix `m` (rows: the two bra
legs, columns: the two ket legs); `E`, `B` are contractions of the ket / bra tensors of ALL nodes over all bonds except
`p — t.id`, `H` the dense TTNO, and the sums run over the physical legs of all nodes. -/
theorem link_heff_projected_tree (c : Ctx) (p : Nat) (hpar : c.parent = some p) (t : Tree)
    (hnd : (c.plug t).ids.Nodup) (cache : Dict)
    (hp : cache (p, t.id) = some (gBlock p t.id c.blockBinds)) (hc : cache (t.id, p) = some (soBlock t p)) :
    ∃ m : Mat, getEffectiveLinkHamiltonian ⟨some p, [t.id]⟩ t.id p cache = some m ∧
      getEffectiveLinkHamiltonian ⟨some p, [t.id]⟩ p t.id cache = some m ∧
      m.rows = [Leg.gBra p t.id, Leg.gBra t.id p] ∧ m.cols = [Leg.gKet p t.id, Leg.gKet t.id p] ∧
      ∀ (dim : Leg → Nat) (e E H B : Expr Leg R), e.SWF → E.WF → H.WF → B.WF →
        (∀ l ∈ E.labels, l ∉ H.labels) → (∀ l ∈ E.labels, l ∉ B.labels) → (∀ l ∈ H.labels, l ∉ B.labels) →
        e.binds.Perm m.binds →
        (unordL E.binds).Perm (unordL ((c.compEdges ++ t.edges).map fun e => ketEdge e.1 e.2)) →
        (unordL H.binds).Perm (unordL ((c.plug t).edges.map fun e => opEdge e.1 e.2)) →
        (unordL B.binds).Perm (unordL ((c.compEdges ++ t.edges).map fun e => braEdge e.1 e.2)) →
        (∀ n ∈ c.ids ++ t.ids, Leg.gKetPhys n ∈ E.free ∧ Leg.gOpIn n ∈ H.free ∧ Leg.gOpOut n ∈ H.free ∧
          Leg.gBraPhys n ∈ B.free) →
        (∀ q ∈ projSpec ((c.ids ++ t.ids).map physOut) ((c.ids ++ t.ids).map physIn) E.binds H.binds B.binds,
          dim q.1 = dim q.2) →
        (∀ σ, e.leafProd σ = E.leafProd σ * H.leafProd σ * B.leafProd σ) →
        ∀ σ, e.eval dim σ =
          sumPairs dim ((c.ids ++ t.ids).map physOut)
            (fun τ => sumPairs dim ((c.ids ++ t.ids).map physIn) (fun ρ => E.eval dim ρ * H.eval dim ρ) τ *
              B.eval dim τ) σ := by
  -- the link is the hole `(c, [t])` with no node in it: its neighbours are `p` and `t.id`
  have hnd' : (c.ids ++ t.ids).Nodup := (link_opened c p hpar t).ids_nodup hnd
  have hne : p ≠ t.id := (List.nodup_append.1 hnd').2.2 p (Ctx.parent_mem_ids hpar) t.id (Tree.id_mem_ids t)
  have hall : (c.ids ++ Tree.idsL [t]).Nodup := by simpa [Tree.idsL] using hnd'
  have hN : [p, t.id].Perm (c.parent.toList ++ [t].map Tree.id) := by rw [hpar]; exact List.Perm.refl _
  have hbp : nbBlock c [t] p = c.blockBinds := by simp [nbBlock, selNb, hpar]
  have hbc : nbBlock c [t] t.id = soBlockBinds t := by simp [nbBlock, selNb, hpar, hne, ofKid]
  have hrec := fun n hn => nbBlock_record c [t] (List.nodup_append.1 hnd').1 n (hN.mem_iff.1 hn)
  obtain ⟨m, h1, h2, hr, hcols, hval⟩ := link_heff_is_projected_hamiltonian (R := R) p t.id hne cache
    (nbBlock c [t] p) (nbBlock c [t] t.id) (by rw [hbp]; exact hp) (by rw [hbc]; exact hc)
    (nbIds physOut c [t]) (nbIds physIn c [t]) (nbEdges (fun e => ketEdge e.1 e.2) c [t])
    (nbEdges (fun e => opEdge e.1 e.2) c [t]) (nbEdges (fun e => braEdge e.1 e.2) c [t])
    (hrec p (by simp)) (hrec t.id (by simp))
  refine ⟨m, h1, h2, hr, hcols, ?_⟩
  have hOb : (unordL ((c.plug t).edges.map fun e => opEdge e.1 e.2)).Perm
      (unordL ([(Leg.gOp p t.id, Leg.gOp t.id p)] ++ [p, t.id].flatMap (nbEdges (fun e => opEdge e.1 e.2) c [t]))) :=
    ((link_opened c p hpar t).bonds (fun e => opEdge e.1 e.2) (unordL_pair_swap _ _)).trans
      (unordL_append_congr (List.Perm.refl _) (unordL_perm (by
        simpa using (flatMap_nbEdges (fun e => opEdge e.1 e.2) hall hN).symm)))
  have h : TreeForm R m.binds (c.ids ++ t.ids) ((c.compEdges ++ t.edges).map fun e => ketEdge e.1 e.2)
      ((c.plug t).edges.map fun e => opEdge e.1 e.2) ((c.compEdges ++ t.edges).map fun e => braEdge e.1 e.2) := by
    have h := treeForm_of_nb (R := R) (mb := m.binds) hall hN hOb (by
      simp only [List.flatMap_cons, List.flatMap_nil, List.append_nil]
      exact hval)
    simpa [Tree.idsL] using h
  exact h

end Ptn.C05.Heff
