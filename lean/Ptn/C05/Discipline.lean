import Ptn.C05.DiscSweeps
import Ptn.C17.Last
import Ptn.C17.Examples
/-! **Cache-freshness discipline of the TDVP sweeps** (C05, clause "E is the embedding given all
other *current* tensors").  Machine and event sequences: `DiscModel.lean`.  For every well-formed
tree: the invariant "every block pointing toward the current centre is fresh" holds after the
constructor and after every event of the three sweeps (except between the plain QR hops of the
first-order reset, after which `init_cache_but_one` re-establishes it), every precondition on the
centre holds, and no event reads a stale block.  Each sweep is a route of the centre (`DiscSweeps.lean`), and the
discipline holds along every route (`Route.ok`, `DiscSeq.lean`), whatever its order.

Rests on C17's facts about first hops, paths between two nodes and the last nodes of the update path (`HopFacts.lean`,
`Path.lean`, `Last.lean`). -/
namespace Ptn.C05.Disc
open Ptn.C17 Ptn.C17.RTree

theorem updatePath_facts (t : RTree) (hwf : t.WF) :
    ∃ u s, updatePath t = some u ∧ u.head? = some s ∧ (∀ y ∈ u, y ∈ ids t) ∧ u.Nodup ∧
      (∀ l x y z, u = l ++ [x, y, z] → Adj t x y) ∧
      (t.kids ≠ [] → ∃ l y z, u = l ++ [y, z] ∧ Adj t y z) := by
  cases t with
  | node r ks =>
    obtain ⟨p, s, hp, _, hperm, hhead, _, _⟩ := updatePath_spec r ks hwf
    have hperm' : p.Perm (ids (node r ks)) := by simpa using hperm
    obtain ⟨p3, hp3, h3⟩ := updatePath_last_three r ks hwf
    rw [hp] at hp3; simp at hp3; subst hp3
    refine ⟨p, s, hp, hhead, fun y hy => hperm'.subset hy, hperm'.symm.nodup hwf, h3, ?_⟩
    intro hk
    obtain ⟨p2, l, y, z, hp2, e, hadj⟩ := updatePath_last_two r ks hwf hk
    rw [hp] at hp2; simp at hp2; subst hp2
    exact ⟨l, y, z, e, hadj⟩

/-- After the constructor (`canonical_form(u₀)`, `init_cache_but_one(u₀)`) the invariant holds. -/
theorem discipline_init (t : RTree) (hwf : t.WF) :
    ∃ u s st0, updatePath t = some u ∧ u.head? = some s ∧ initState t = some st0 ∧
      st0.centre = s ∧ Inv t st0 := by
  obtain ⟨u, s, hu, hs, hm, _, _, _⟩ := updatePath_facts t hwf
  have hsm : s ∈ ids t := hm s (List.mem_of_head? hs)
  refine ⟨u, s, ⟨s, (blocks t).filter (away t s)⟩, hu, hs, by simp [initState, hu, hs], rfl, ?_⟩
  exact inv_init hwf hsm

/-- plain QR hops along a chain of neighbours only need the centre to be at the start -/
theorem hops_run {t : RTree} : ∀ (p : List Nat) (a : Nat) {l : Nat}, Chain (Adj t) (a :: p) →
    (a :: p).getLast? = some l → ∀ st : DSt, st.centre = a →
    ∃ st', run t st (hopsAlong (a :: p)) = some st' ∧ st'.centre = l
  | [], a, l, _, hl, st, hc => by
    simp at hl; subst hl; exact ⟨st, by simp [hopsAlong, run], hc⟩
  | b :: p, a, l, hch, hl, st, hc => by
    have hch' := chain_cons_cons.mp hch
    rw [List.getLast?_cons_cons] at hl
    obtain ⟨s1, h1, c1⟩ := hop_ok (t := t) hc hch'.1
    obtain ⟨s2, h2, c2⟩ := hops_run p b hch'.2 hl s1 c1
    exact ⟨s2, by simp [hopsAlong, run, h1, h2], c2⟩

theorem eventsFirst_route (t : RTree) (hwf : t.WF) :
    ∃ u s body l r, updatePath t = some u ∧ u.head? = some s ∧ u.getLast? = some l ∧ s ∈ ids t ∧
      eventsFirst t = some (body ++ (hopsAlong (l :: r) ++ [.init s])) ∧ Route t s body l ∧
      Chain (Adj t) (l :: r) ∧ (l :: r).getLast? = some s := by
  obtain ⟨u, s, hu, hs, hm, hnd, _, _⟩ := updatePath_facts t hwf
  cases u with
  | nil => simp at hs
  | cons a rest =>
    cases hs
    obtain ⟨body, l, hbody, hlast, hr⟩ := firstBody_route hwf rest s hm hnd
    obtain ⟨r, hp, hch, hl, _⟩ := path_chain hwf (hm l (List.mem_of_getLast? hlast)) (hm s (by simp))
    exact ⟨_, s, body, l, r, hu, rfl, hlast, hm s (by simp),
      by simp [eventsFirst, hu, hbody, hlast, resetEvents, hp], hr, hch, hl⟩

/-- The frame of the second-order variants: a forward sweep over the update path and a backward sweep over the
    reversed path, each a route from the first node of its list to the last one, bring the centre back to the
    start. -/
theorem there_and_back {t : RTree} (hwf : t.WF) (hk : t.kids ≠ []) {fwd bwd : List Nat → Option (List DEv)}
    (hf : ∀ rest a b, (∀ y ∈ a :: b :: rest, y ∈ ids t) → (a :: b :: rest).Nodup →
      (∀ l y z, a :: b :: rest = l ++ [y, z] → Adj t y z) →
      (∀ l x y z, a :: b :: rest = l ++ [x, y, z] → Adj t x y) →
      Routes t fwd a (b :: rest))
    (hb : ∀ rest b0 b1, (∀ y ∈ b0 :: b1 :: rest, y ∈ ids t) → (b0 :: b1 :: rest).Nodup → Adj t b0 b1 →
      Routes t bwd b0 (b1 :: rest)) :
    ∃ u s evs, updatePath t = some u ∧ u.head? = some s ∧ s ∈ ids t ∧
      ((updatePath t).bind fun u => (fwd u).bind fun f => (bwd u.reverse).bind fun b => some (f ++ b)) = some evs ∧
      Route t s evs s := by
  obtain ⟨u, s, hu, hs, hm, hnd, h3, h2⟩ := updatePath_facts t hwf
  obtain ⟨l, y, z, e, hadj⟩ := h2 hk
  have hlast2 : ∀ l' y' z', u = l' ++ [y', z'] → Adj t y' z' := by
    intro l' y' z' e'
    rw [e] at e'
    have := List.append_inj' e' rfl
    simp at this
    obtain ⟨_, rfl, rfl⟩ := this
    exact hadj
  cases u with
  | nil => simp at hs
  | cons a rest =>
    cases hs
    cases rest with
    | nil =>
      have := congrArg List.length e
      simp at this
    | cons b rest' =>
      obtain ⟨f, lf, hfwd, hlf, hokf⟩ := hf rest' s b hm hnd hlast2 h3
      have hzl : lf = z := by rw [e] at hlf; simpa using hlf.symm
      subst hzl
      have hrev : (s :: b :: rest').reverse = lf :: y :: l.reverse := by rw [e]; simp
      obtain ⟨bw, lb, hbwd, hlb, hokb⟩ := hb l.reverse lf y
        (fun x hx => hm x (by rw [← List.mem_reverse, hrev]; exact hx))
        (by rw [← hrev]; exact nodup_reverse.mpr hnd) (adj_symm hadj)
      have hlb' : lb = s := by
        rw [← hrev, List.getLast?_reverse] at hlb; simpa using hlb.symm
      subst hlb'
      exact ⟨_, lb, f ++ bw, hu, rfl, hm lb (by simp),
        by rw [hu, Option.bind_some, hfwd, Option.bind_some, hrev, hbwd, Option.bind_some], hokf.append hokb⟩

theorem eventsSecond_route (t : RTree) (hwf : t.WF) (hk : t.kids ≠ []) :
    ∃ u s evs, updatePath t = some u ∧ u.head? = some s ∧ s ∈ ids t ∧ eventsSecond t = some evs ∧
      Route t s evs s :=
  there_and_back hwf hk (fun rest a b hm hnd h2 _ => secondFwd_route hwf (b :: rest) a hm hnd h2)
    (secondBwd_route hwf)

theorem eventsTwoSite_route (t : RTree) (hwf : t.WF) (hk : t.kids ≠ []) :
    ∃ u s evs, updatePath t = some u ∧ u.head? = some s ∧ s ∈ ids t ∧ eventsTwoSite t = some evs ∧
      Route t s evs s :=
  there_and_back hwf hk (twoFwd_route hwf) (twoBwd_route hwf)

/-- **First-order one-site TDVP.**  One whole time step, started in any state with the invariant
    and the centre at the start of the update path (in particular the state after the constructor):
    the sweep `body` never violates a precondition, never reads a stale block and keeps the
    invariant after every event; the reset (`_reset_for_next_time_step`) then leads back to exactly
    the state after the constructor - so the same holds for every later step. -/
theorem reads_fresh_first (t : RTree) (hwf : t.WF) :
    ∃ u s body reset l, updatePath t = some u ∧ u.head? = some s ∧ u.getLast? = some l ∧
      eventsFirst t = some (body ++ reset) ∧ OK t s body l ∧
      (∀ st : DSt, st.centre = l →
        run t st reset = some ⟨s, (blocks t).filter (away t s)⟩) ∧
      (∀ st, Inv t st → st.centre = s →
        run t st (body ++ reset) = some ⟨s, (blocks t).filter (away t s)⟩) := by
  obtain ⟨u, s, body, l, r, hu, hs, hlast, hsm, hev, hr, hch, hl⟩ := eventsFirst_route t hwf
  have hrun : ∀ st : DSt, st.centre = l →
      run t st (hopsAlong (l :: r) ++ [.init s]) = some ⟨s, (blocks t).filter (away t s)⟩ := by
    intro st hc
    obtain ⟨s1, h1, c1⟩ := hops_run r l hch hl st hc
    rw [run_append, h1]
    simp [run, init_ok c1 hsm]
  refine ⟨u, s, body, _, l, hu, hs, hlast, hev, hr.ok hwf, hrun, ?_⟩
  intro st hinv hc
  obtain ⟨s1, r1, _, c1⟩ := hr.ok hwf st hinv hc
  rw [run_append, stepsOK_run r1]
  exact hrun s1 c1

/-- **Second-order one-site TDVP** on a tree with at least two nodes: one whole time step (forward
    sweep, full step on the last node, backward sweep) started in any state with the invariant and
    the centre at the start of the update path never violates a precondition, never reads a stale
    block, keeps the invariant after every event and ends with the centre back at the start - so the
    same holds for every later step. -/
theorem reads_fresh_second (t : RTree) (hwf : t.WF) (hk : t.kids ≠ []) :
    ∃ u s evs, updatePath t = some u ∧ u.head? = some s ∧ eventsSecond t = some evs ∧
      OK t s evs s := by
  obtain ⟨u, s, evs, hu, hs, _, hev, hr⟩ := eventsSecond_route t hwf hk
  exact ⟨u, s, evs, hu, hs, hev, hr.ok hwf⟩

/-- **Second-order two-site TDVP** on a tree with at least two nodes: as `reads_fresh_second`. -/
theorem reads_fresh_two_site (t : RTree) (hwf : t.WF) (hk : t.kids ≠ []) :
    ∃ u s evs, updatePath t = some u ∧ u.head? = some s ∧ eventsTwoSite t = some evs ∧
      OK t s evs s := by
  obtain ⟨u, s, evs, hu, hs, _, hev, hr⟩ := eventsTwoSite_route t hwf hk
  exact ⟨u, s, evs, hu, hs, hev, hr.ok hwf⟩

/-- **The invariant.**  "Every block pointing toward the current centre is fresh" holds after the
    constructor and is preserved by every event of the sweeps of the three variants (`OK` asserts it
    after every single event); in the first-order variant it is re-established by the reset. -/
theorem discipline_invariant (t : RTree) (hwf : t.WF) :
    (∃ st0, initState t = some st0 ∧ Inv t st0) ∧
    (∃ u s body reset l, updatePath t = some u ∧ u.head? = some s ∧
      eventsFirst t = some (body ++ reset) ∧ OK t s body l ∧
      ∀ st : DSt, st.centre = l → ∃ st', run t st reset = some st' ∧ Inv t st' ∧ st'.centre = s) ∧
    (t.kids ≠ [] → ∃ s evs, eventsSecond t = some evs ∧ OK t s evs s) ∧
    (t.kids ≠ [] → ∃ s evs, eventsTwoSite t = some evs ∧ OK t s evs s) := by
  refine ⟨?_, ?_, ?_, ?_⟩
  · obtain ⟨_, _, st0, _, _, h, _, hinv⟩ := discipline_init t hwf
    exact ⟨st0, h, hinv⟩
  · obtain ⟨u, s, body, reset, l, hu, hs, _, hev, hok, hre, _⟩ := reads_fresh_first t hwf
    obtain ⟨_, _, hu', _, hm, _⟩ := updatePath_facts t hwf
    cases hu.symm.trans hu'
    exact ⟨u, s, body, reset, l, hu, hs, hev, hok, fun st hc =>
      ⟨_, hre st hc, inv_init hwf (hm s (List.mem_of_head? hs)), rfl⟩⟩
  · intro hk
    obtain ⟨_, s, evs, _, _, hev, hok⟩ := reads_fresh_second t hwf hk
    exact ⟨s, evs, hev, hok⟩
  · intro hk
    obtain ⟨_, s, evs, _, _, hev, hok⟩ := reads_fresh_two_site t hwf hk
    exact ⟨s, evs, hev, hok⟩

/-! Non-vacuity: the 8-node tree of the C17 examples -/

example : exTree.WF ∧ exTree.kids ≠ [] := by decide +kernel
example : (eventsSecond exTree).map List.length = some 33 := by decide +kernel
example : (eventsTwoSite exTree).map (fun l => l.take 5) =
    some [.two 7 6, .site 6, .two 6 5, .site 5, .two 5 0] := by decide +kernel
example : ((initState exTree).bind fun st => (eventsFirst exTree).bind (run exTree st)).isSome =
    true := by decide +kernel

end Ptn.C05.Disc
