import Ptn.C05.ProjectedLinkTwo
import Ptn.C05.ProjectedTreeAll
/-! `H_eff = E† H E` for the TWO-SITE effective Hamiltonian on every adjacent pair of every tree, both orders of (target,
next).  The pair is an edge `a — b` (`a` the upper node) of `(Ctx.frame a ls rs up).plug (node b ks)`; seen from outside it
is one node in the hole `(up, (ls ++ rs) ++ ks)`, so the block hypotheses of `two_site_heff_is_projected_hamiltonian` are
those of `nbBlock_record` for this hole (`two_site_cache`), for either order of the pair (`two_site_tree_core`). -/
namespace Ptn.C05.Heff
open Ptn.C04 Ptn.Ein

set_option linter.unusedSectionVars false
variable {R : Type} [CommSemiring R]

/-- `two_site_heff_is_projected_hamiltonian` with the block hypotheses discharged, for EITHER order `(t, x)` of the pair: seen
from outside the pair is one node in the hole `(up, kidsAll)`, and `NT`, `NX` are the neighbour lists the function runs through
around `t` and `x`.  They come with the equations `hfT`, `hfX` so that a caller states them in its own form and the filtered
lists of the model appear only here. -/
theorem two_site_tree_core (t x : Nat) (hamT hamX twoSite : Node) (cache : Dict) (up : Ctx) (kidsAll : List Tree)
    (NT NX : List Nat) (OB : List (Leg × Leg))
    (hT : hamT.nbrs.Nodup) (hX : hamX.nbrs.Nodup) (hxT : x ∈ hamT.nbrs) (htX : t ∈ hamX.nbrs)
    (hdisj : ∀ n ∈ hamX.nbrs, n ∉ hamT.nbrs)
    (hS : twoSite.nbrs.Perm (hamT.nbrs.filter (· ≠ x) ++ hamX.nbrs.filter (· ≠ t)))
    (hfT : hamT.nbrs.filter (· ≠ x) = NT) (hfX : hamX.nbrs.filter (· ≠ t) = NX)
    (hall : (up.ids ++ Tree.idsL kidsAll).Nodup)
    (hN : (NT ++ NX).Perm (up.parent.toList ++ kidsAll.map Tree.id))
    (hcT : ∀ n ∈ NT, cache (n, t) = some (gBlock n t (nbBlock up kidsAll n)))
    (hcX : ∀ n ∈ NX, cache (n, x) = some (gBlock n x (nbBlock up kidsAll n)))
    (hOb : (unordL OB).Perm (unordL (twoOpPairs t x NT NX ++
      (NT ++ NX).flatMap (nbEdges (fun e => opEdge e.1 e.2) up kidsAll)))) :
    ∃ m : Mat, getEffectiveTwoSiteHamiltonian hamT hamX twoSite (gOpT t hamT) (gOpT x hamX) t x cache = some m ∧
      m.rows = twoSite.nbrs.map (fun n => if n ∈ hamT.nbrs then Leg.gBra n t else Leg.gBra n x) ++
                [Leg.gOpOut t, Leg.gOpOut x] ∧
      m.cols = twoSite.nbrs.map (fun n => if n ∈ hamT.nbrs then Leg.gKet n t else Leg.gKet n x) ++
                [Leg.gOpIn t, Leg.gOpIn x] ∧
      TreeForm R m.binds (up.ids ++ Tree.idsL kidsAll)
        ((up.compEdges ++ kidsAll.flatMap Tree.edges).map fun e => ketEdge e.1 e.2) OB
        ((up.compEdges ++ kidsAll.flatMap Tree.edges).map fun e => braEdge e.1 e.2) := by
  subst hfT hfX
  have hrecord := fun n hn => nbBlock_record up kidsAll (List.nodup_append.1 hall).1 n (hN.mem_iff.1 hn)
  obtain ⟨m, hm, hr, hc, hval⟩ := two_site_heff_is_projected_hamiltonian (R := R) t x hamT hamX twoSite
    (nbBlock up kidsAll) (nbBlock up kidsAll) cache hT hX hxT htX hdisj hS
    (fun n hn hne => hcT n (List.mem_filter.2 ⟨hn, by simpa using hne⟩))
    (fun n hn hne => hcX n (List.mem_filter.2 ⟨hn, by simpa using hne⟩))
    (nbIds physOut up kidsAll) (nbIds physIn up kidsAll) (nbEdges (fun e => ketEdge e.1 e.2) up kidsAll)
    (nbEdges (fun e => opEdge e.1 e.2) up kidsAll) (nbEdges (fun e => braEdge e.1 e.2) up kidsAll)
    (fun n hn => hrecord n (List.mem_append.2 (Or.inl hn)))
    (fun n hn => hrecord n (List.mem_append.2 (Or.inr hn)))
  refine ⟨m, hm, hr, hc, treeForm_of_nb hall hN hOb ?_⟩
  simp only [List.flatMap_append]
  exact hval

theorem ofKid_append_left {β : Type} (A B : List Tree) (f : Tree → List β) (n : Nat) (h : n ∈ A.map Tree.id) :
    ofKid (A ++ B) f n = ofKid A f n := by
  obtain ⟨c, hc, hcn⟩ := List.mem_map.1 h
  have hsome : (A.find? (fun c => c.id == n)).isSome := by
    rw [List.find?_isSome]; exact ⟨c, hc, by simp [hcn]⟩
  obtain ⟨c', hc'⟩ := Option.isSome_iff_exists.1 hsome
  simp [ofKid, List.find?_append, hc']

theorem ofKid_append_right {β : Type} (A B : List Tree) (f : Tree → List β) (n : Nat) (h : n ∉ A.map Tree.id) :
    ofKid (A ++ B) f n = ofKid B f n := by
  have hnone : A.find? (fun c => c.id == n) = none := by
    rw [List.find?_eq_none]
    intro c hc hcn
    exact h (List.mem_map.2 ⟨c, hc, by simpa using hcn⟩)
  simp [ofKid, List.find?_append, hnone]

/-- The structural facts about the two operator nodes of an adjacent pair that the record-level theorem needs: `hA hB hbA haB
hdisj` are its hypotheses about the two neighbour lists, `hfA hfB` compute the lists without the partner, `hA'`, `hN` compare
them with the children of the tree, `hall` says that the nodes outside the pair are distinct. -/
structure TwoSiteFacts (up : Ctx) (a b : Nat) (ls rs ks : List Tree) (opKidsA opKidsB : List Nat) : Prop where
  hall : (up.ids ++ Tree.idsL ((ls ++ rs) ++ ks)).Nodup
  hA : (Node.mk up.parent opKidsA).nbrs.Nodup
  hB : (Node.mk (some a) opKidsB).nbrs.Nodup
  hbA : b ∈ (Node.mk up.parent opKidsA).nbrs
  haB : a ∈ (Node.mk (some a) opKidsB).nbrs
  hdisj : ∀ n ∈ (Node.mk (some a) opKidsB).nbrs, n ∉ (Node.mk up.parent opKidsA).nbrs
  hfA : (Node.mk up.parent opKidsA).nbrs.filter (· ≠ b) = up.parent.toList ++ opKidsA.filter (· ≠ b)
  hfB : (Node.mk (some a) opKidsB).nbrs.filter (· ≠ a) = opKidsB
  hA' : (opKidsA.filter (· ≠ b)).Perm ((ls ++ rs).map Tree.id)
  hN : ((up.parent.toList ++ opKidsA.filter (· ≠ b)) ++ opKidsB).Perm
    (up.parent.toList ++ ((ls ++ rs) ++ ks).map Tree.id)

theorem two_site_facts (up : Ctx) (a b : Nat) (ls rs ks : List Tree) (opKidsA opKidsB : List Nat)
    (hnd : ((Ctx.frame a ls rs up).plug (Tree.node b ks)).ids.Nodup)
    (hpermA : opKidsA.Perm (ls.map Tree.id ++ b :: rs.map Tree.id)) (hpermB : opKidsB.Perm (ks.map Tree.id)) :
    TwoSiteFacts up a b ls rs ks opKidsA opKidsB := by
  have h1 := (Ctx.pair_ids_perm up a b ls rs ks).nodup_iff.1 hnd
  rw [List.nodup_cons, List.nodup_cons] at h1
  obtain ⟨ha, hb, hall⟩ := h1
  obtain ⟨hnb, hsub⟩ := Ctx.nb_nodup hall
  have hb' : b ∉ up.parent.toList ++ ((ls ++ rs) ++ ks).map Tree.id := fun h => hb (hsub b h)
  have ha' : a ∉ b :: (up.parent.toList ++ ((ls ++ rs) ++ ks).map Tree.id) := fun h =>
    ha ((List.mem_cons.1 h).elim (fun e => e ▸ List.mem_cons_self) fun h => List.mem_cons_of_mem _ (hsub a h))
  -- the neighbours of `b` followed by those of `a` are the pair and its neighbours, each once
  have hAB : ((a :: opKidsB) ++ (up.parent.toList ++ opKidsA)).Nodup := by
    refine (List.Perm.nodup_iff ?_).2 (List.nodup_cons.2 ⟨ha', List.nodup_cons.2 ⟨hb', hnb⟩⟩)
    rw [List.perm_iff_count]
    intro z
    simp only [List.map_append, List.count_append, List.count_cons, hpermA.count_eq z, hpermB.count_eq z]
    omega
  obtain ⟨hB, hA, hd⟩ := List.nodup_append.1 hAB
  simp only [List.map_append, List.mem_append, not_or] at hb'
  obtain ⟨hbP, ⟨hbl, hbr⟩, -⟩ := hb'
  have hA' : (opKidsA.filter (· ≠ b)).Perm ((ls ++ rs).map Tree.id) := by
    rw [List.map_append, ← filter_ne_mid _ _ b hbl hbr]
    exact hpermA.filter _
  exact
    { hall := hall, hA := hA, hB := hB, hA' := hA'
      hbA := List.mem_append.2 (Or.inr (hpermA.mem_iff.2 (by simp)))
      haB := List.mem_cons_self
      hdisj := fun n hn hm => hd n hn n hm rfl
      hfA := by
        show (up.parent.toList ++ opKidsA).filter (· ≠ b) = _
        have hq : ∀ q ∈ up.parent.toList, q ≠ b := fun q hq e => hbP (e ▸ hq)
        rw [List.filter_append, List.filter_eq_self.2 fun q h => by simpa using hq q h]
      hfB := Node.nbrs_filter_parent a opKidsB (List.nodup_cons.1 hB).1
      hN := by
        rw [List.map_append, List.append_assoc]
        exact (hA'.append hpermB).append_left _ }

/-- the operator bonds of the whole tree, as unordered pairs: those at `a` and `b` toward the blocks, the bond `a — b`,
and those behind the neighbours of the pair -/
theorem two_site_op_perm (up : Ctx) (a b : Nat) (ls rs ks : List Tree) (opKidsA opKidsB : List Nat)
    (F : TwoSiteFacts up a b ls rs ks opKidsA opKidsB) (hpermB : opKidsB.Perm (ks.map Tree.id)) :
    (unordL (((Ctx.frame a ls rs up).plug (Tree.node b ks)).edges.map fun e => opEdge e.1 e.2)).Perm
      (unordL (twoOpPairs a b (up.parent.toList ++ opKidsA.filter (· ≠ b)) opKidsB ++
        ((up.parent.toList ++ opKidsA.filter (· ≠ b)) ++ opKidsB).flatMap
          (nbEdges (fun e => opEdge e.1 e.2) up ((ls ++ rs) ++ ks)))) := by
  refine ((pair_opened up a b ls rs ks).bonds (fun e => opEdge e.1 e.2) ?_).trans
    (unordL_append_congr (List.Perm.refl _)
      (unordL_perm (flatMap_nbEdges (fun e => opEdge e.1 e.2) F.hall F.hN).symm))
  -- the operator legs at `a` and `b` toward the blocks: the bond to the parent of `a`, the bonds to the children reversed
  rw [List.perm_iff_count]
  intro z
  have c4 := (unordL_perm (F.hA'.map fun n => (opEdge a n).swap)).count_eq z
  have c5 := (unordL_perm (hpermB.map fun n => (opEdge b n).swap)).count_eq z
  have c6 : (unordL [(opEdge a b).swap]).count z = (unordL [opEdge a b]).count z :=
    (unordL_pair_swap _ _).count_eq z
  have hop : twoOpPairs a b (up.parent.toList ++ opKidsA.filter (· ≠ b)) opKidsB =
      ((up.parent.toList.map (fun q => opEdge q a) ++ (opKidsA.filter (· ≠ b)).map fun n => (opEdge a n).swap) ++
        opKidsB.map fun n => (opEdge b n).swap) ++ [(opEdge a b).swap] := by
    simp only [twoOpPairs, opPairs, List.map_append]
    rfl
  rw [hop]
  generalize ls ++ rs = S at *
  simp only [List.map_append, List.map_cons, List.map_map, Function.comp_def,
    ucount_append, ucount_cons, ucount_nil, ucount_map_swap] at c4 c5 c6 ⊢
  omega

theorem twoOpPairs_comm (t x : Nat) (A B : List Nat) :
    (unordL (twoOpPairs t x A B)).Perm (unordL (twoOpPairs x t B A)) :=
  unordL_append_congr (unordL_perm List.perm_append_comm) (unordL_pair_swap _ _)

/-- the cache entries the two-site theorems take are those of the hole `(up, (ls ++ rs) ++ ks)` -/
theorem two_site_cache (up : Ctx) (a b : Nat) (ls rs ks : List Tree) (opKidsA opKidsB : List Nat)
    (hpermB : opKidsB.Perm (ks.map Tree.id)) (cache : Dict)
    (hcU : ∀ q, up.parent = some q → cache (q, a) = some (gBlock q a up.blockBinds))
    (hcS : ∀ n ∈ (ls ++ rs).map Tree.id, cache (n, a) = soKidBlock (ls ++ rs) a (n, a))
    (hcK : ∀ n ∈ ks.map Tree.id, cache (n, b) = soKidBlock ks b (n, b)) (F : TwoSiteFacts up a b ls rs ks opKidsA opKidsB) :
    (∀ n ∈ up.parent.toList ++ opKidsA.filter (· ≠ b),
      cache (n, a) = some (gBlock n a (nbBlock up ((ls ++ rs) ++ ks) n))) ∧
    (∀ n ∈ opKidsB, cache (n, b) = some (gBlock n b (nbBlock up ((ls ++ rs) ++ ks) n))) := by
  obtain ⟨-, hkid, hPK⟩ := List.nodup_append.1 (Ctx.nb_nodup F.hall).1
  rw [List.map_append] at hkid hPK
  have hSK := (List.nodup_append.1 hkid).2.2
  constructor
  · intro n hn
    rcases List.mem_append.1 hn with h | h
    · have hq : up.parent = some n := by simpa using h
      rw [hcU n hq]
      simp [nbBlock, selNb, hq]
    · have hnS : n ∈ (ls ++ rs).map Tree.id := F.hA'.mem_iff.1 h
      have hq : ¬ up.parent = some n := fun hq =>
        hPK n (by simp [hq]) n (List.mem_append.2 (Or.inl hnS)) rfl
      rw [hcS n hnS, soKidBlock_of_mem _ a n hnS]
      simp only [nbBlock, selNb, if_neg hq, ofKid_append_left _ _ _ n hnS]
      rfl
  · intro n hn
    have hnK : n ∈ ks.map Tree.id := hpermB.mem_iff.1 hn
    have hq : ¬ up.parent = some n := fun hq =>
      hPK n (by simp [hq]) n (List.mem_append.2 (Or.inr hnK)) rfl
    rw [hcK n hnK, soKidBlock_of_mem _ b n hnK]
    simp only [nbBlock, selNb, if_neg hq, ofKid_append_right _ _ _ n fun hm => hSK n hm n hnK rfl]
    rfl

/-- **Two-site `H_eff = E† H E` for every adjacent pair of every tree, target = the upper node**: as
`site_heff_projected_tree`, for the pair `a — b` in the tree `(Ctx.frame a ls rs up).plug (node b ks)` (`a` with the parent
`up.parent` and the other children `ls`, `rs`, its child `b` with the children `ks`; every edge: `Ctx.exists_ctx_edge`).
The operator nodes list their children in any orders `opKidsA`, `opKidsB`; `twoSite`, the state's contracted node, lists
the other neighbours of the pair in any arrangement.  The cache holds toward `a` the block that `contract_any` builds above
`a` (record `up.blockBinds`) and the leaf-to-root blocks of `ls ++ rs`, toward `b` those of `ks`.
`_get_effective_two_site_hamiltonian(target = a, next = b)` returns the matrix `m` of `two_site_heff_graph`; `E`, `B` are
contractions of the ket / bra tensors of all nodes other than `a`, `b` over the bonds touching neither, `H` the dense TTNO,
and the sums run over the physical legs of the other nodes. -/
theorem two_site_heff_projected_tree (up : Ctx) (a b : Nat) (ls rs ks : List Tree)
    (hnd : ((Ctx.frame a ls rs up).plug (Tree.node b ks)).ids.Nodup) (opKidsA opKidsB : List Nat)
    (hpermA : opKidsA.Perm (ls.map Tree.id ++ b :: rs.map Tree.id)) (hpermB : opKidsB.Perm (ks.map Tree.id))
    (twoSite : Node) (hS : twoSite.nbrs.Perm (up.parent.toList ++ ((ls ++ rs) ++ ks).map Tree.id)) (cache : Dict)
    (hcU : ∀ q, up.parent = some q → cache (q, a) = some (gBlock q a up.blockBinds))
    (hcS : ∀ n ∈ (ls ++ rs).map Tree.id, cache (n, a) = soKidBlock (ls ++ rs) a (n, a))
    (hcK : ∀ n ∈ ks.map Tree.id, cache (n, b) = soKidBlock ks b (n, b)) :
    ∃ m : Mat, getEffectiveTwoSiteHamiltonian ⟨up.parent, opKidsA⟩ ⟨some a, opKidsB⟩ twoSite
        (gOpT a ⟨up.parent, opKidsA⟩) (gOpT b ⟨some a, opKidsB⟩) a b cache = some m ∧
      m.rows = twoSite.nbrs.map (fun n => if n ∈ (Node.mk up.parent opKidsA).nbrs then Leg.gBra n a else Leg.gBra n b) ++
                [Leg.gOpOut a, Leg.gOpOut b] ∧
      m.cols = twoSite.nbrs.map (fun n => if n ∈ (Node.mk up.parent opKidsA).nbrs then Leg.gKet n a else Leg.gKet n b) ++
                [Leg.gOpIn a, Leg.gOpIn b] ∧
      ∀ (dim : Leg → Nat) (e E H B : Expr Leg R), e.SWF → E.WF → H.WF → B.WF →
        (∀ l ∈ E.labels, l ∉ H.labels) → (∀ l ∈ E.labels, l ∉ B.labels) → (∀ l ∈ H.labels, l ∉ B.labels) →
        e.binds.Perm m.binds →
        (unordL E.binds).Perm
          (unordL ((up.compEdges ++ ((ls ++ rs) ++ ks).flatMap Tree.edges).map fun e => ketEdge e.1 e.2)) →
        (unordL H.binds).Perm
          (unordL (((Ctx.frame a ls rs up).plug (Tree.node b ks)).edges.map fun e => opEdge e.1 e.2)) →
        (unordL B.binds).Perm
          (unordL ((up.compEdges ++ ((ls ++ rs) ++ ks).flatMap Tree.edges).map fun e => braEdge e.1 e.2)) →
        (∀ n ∈ up.ids ++ Tree.idsL ((ls ++ rs) ++ ks), Leg.gKetPhys n ∈ E.free ∧ Leg.gOpIn n ∈ H.free ∧
          Leg.gOpOut n ∈ H.free ∧ Leg.gBraPhys n ∈ B.free) →
        (∀ q ∈ projSpec ((up.ids ++ Tree.idsL ((ls ++ rs) ++ ks)).map physOut)
          ((up.ids ++ Tree.idsL ((ls ++ rs) ++ ks)).map physIn) E.binds H.binds B.binds, dim q.1 = dim q.2) →
        (∀ σ, e.leafProd σ = E.leafProd σ * H.leafProd σ * B.leafProd σ) →
        ∀ σ, e.eval dim σ =
          sumPairs dim ((up.ids ++ Tree.idsL ((ls ++ rs) ++ ks)).map physOut)
            (fun τ => sumPairs dim ((up.ids ++ Tree.idsL ((ls ++ rs) ++ ks)).map physIn)
              (fun ρ => E.eval dim ρ * H.eval dim ρ) τ * B.eval dim τ) σ := by
  have F := two_site_facts up a b ls rs ks opKidsA opKidsB hnd hpermA hpermB
  obtain ⟨hcA, hcB⟩ := two_site_cache up a b ls rs ks opKidsA opKidsB hpermB cache hcU hcS hcK F
  exact two_site_tree_core (R := R) a b ⟨up.parent, opKidsA⟩ ⟨some a, opKidsB⟩ twoSite cache up ((ls ++ rs) ++ ks)
    (up.parent.toList ++ opKidsA.filter (· ≠ b)) opKidsB _ F.hA F.hB F.hbA F.haB F.hdisj
    (by rw [F.hfA, F.hfB]; exact hS.trans F.hN.symm) F.hfA F.hfB F.hall F.hN hcA hcB
    (two_site_op_perm up a b ls rs ks opKidsA opKidsB F hpermB)

/-- `two_site_heff_projected_tree` with target = the LOWER node `b` and next = `a`, the other direction of the sweep along the
edge: same tree, same cache, rows / columns ending in `out_b, out_a` / `in_b, in_a`, same value. -/
theorem two_site_heff_projected_tree_up (up : Ctx) (a b : Nat) (ls rs ks : List Tree)
    (hnd : ((Ctx.frame a ls rs up).plug (Tree.node b ks)).ids.Nodup) (opKidsA opKidsB : List Nat)
    (hpermA : opKidsA.Perm (ls.map Tree.id ++ b :: rs.map Tree.id)) (hpermB : opKidsB.Perm (ks.map Tree.id))
    (twoSite : Node) (hS : twoSite.nbrs.Perm (up.parent.toList ++ ((ls ++ rs) ++ ks).map Tree.id)) (cache : Dict)
    (hcU : ∀ q, up.parent = some q → cache (q, a) = some (gBlock q a up.blockBinds))
    (hcS : ∀ n ∈ (ls ++ rs).map Tree.id, cache (n, a) = soKidBlock (ls ++ rs) a (n, a))
    (hcK : ∀ n ∈ ks.map Tree.id, cache (n, b) = soKidBlock ks b (n, b)) :
    ∃ m : Mat, getEffectiveTwoSiteHamiltonian ⟨some a, opKidsB⟩ ⟨up.parent, opKidsA⟩ twoSite
        (gOpT b ⟨some a, opKidsB⟩) (gOpT a ⟨up.parent, opKidsA⟩) b a cache = some m ∧
      m.rows = twoSite.nbrs.map (fun n => if n ∈ (Node.mk (some a) opKidsB).nbrs then Leg.gBra n b else Leg.gBra n a) ++
                [Leg.gOpOut b, Leg.gOpOut a] ∧
      m.cols = twoSite.nbrs.map (fun n => if n ∈ (Node.mk (some a) opKidsB).nbrs then Leg.gKet n b else Leg.gKet n a) ++
                [Leg.gOpIn b, Leg.gOpIn a] ∧
      ∀ (dim : Leg → Nat) (e E H B : Expr Leg R), e.SWF → E.WF → H.WF → B.WF →
        (∀ l ∈ E.labels, l ∉ H.labels) → (∀ l ∈ E.labels, l ∉ B.labels) → (∀ l ∈ H.labels, l ∉ B.labels) →
        e.binds.Perm m.binds →
        (unordL E.binds).Perm
          (unordL ((up.compEdges ++ ((ls ++ rs) ++ ks).flatMap Tree.edges).map fun e => ketEdge e.1 e.2)) →
        (unordL H.binds).Perm
          (unordL (((Ctx.frame a ls rs up).plug (Tree.node b ks)).edges.map fun e => opEdge e.1 e.2)) →
        (unordL B.binds).Perm
          (unordL ((up.compEdges ++ ((ls ++ rs) ++ ks).flatMap Tree.edges).map fun e => braEdge e.1 e.2)) →
        (∀ n ∈ up.ids ++ Tree.idsL ((ls ++ rs) ++ ks), Leg.gKetPhys n ∈ E.free ∧ Leg.gOpIn n ∈ H.free ∧
          Leg.gOpOut n ∈ H.free ∧ Leg.gBraPhys n ∈ B.free) →
        (∀ q ∈ projSpec ((up.ids ++ Tree.idsL ((ls ++ rs) ++ ks)).map physOut)
          ((up.ids ++ Tree.idsL ((ls ++ rs) ++ ks)).map physIn) E.binds H.binds B.binds, dim q.1 = dim q.2) →
        (∀ σ, e.leafProd σ = E.leafProd σ * H.leafProd σ * B.leafProd σ) →
        ∀ σ, e.eval dim σ =
          sumPairs dim ((up.ids ++ Tree.idsL ((ls ++ rs) ++ ks)).map physOut)
            (fun τ => sumPairs dim ((up.ids ++ Tree.idsL ((ls ++ rs) ++ ks)).map physIn)
              (fun ρ => E.eval dim ρ * H.eval dim ρ) τ * B.eval dim τ) σ := by
  have F := two_site_facts up a b ls rs ks opKidsA opKidsB hnd hpermA hpermB
  obtain ⟨hcA, hcB⟩ := two_site_cache up a b ls rs ks opKidsA opKidsB hpermB cache hcU hcS hcK F
  exact two_site_tree_core (R := R) b a ⟨some a, opKidsB⟩ ⟨up.parent, opKidsA⟩ twoSite cache up ((ls ++ rs) ++ ks)
    opKidsB (up.parent.toList ++ opKidsA.filter (· ≠ b)) _ F.hB F.hA F.haB F.hbA (fun n hn hm => F.hdisj n hm hn)
    (by rw [F.hfA, F.hfB]; exact hS.trans (List.perm_append_comm.trans F.hN).symm) F.hfB F.hfA F.hall
    (List.perm_append_comm.trans F.hN) hcB hcA
    ((two_site_op_perm up a b ls rs ks opKidsA opKidsB F hpermB).trans
      (unordL_append_congr (twoOpPairs_comm _ _ _ _) (unordL_perm (List.perm_append_comm.flatMap_right _))))

end Ptn.C05.Heff
