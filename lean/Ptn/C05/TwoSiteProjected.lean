import Ptn.C05.WholeProgramTwo
import Ptn.C05.SiteProjected
/-! Two-site `H_eff = E† H E` for every adjacent pair of every tree (both orders of the pair) with the canonical `E`,
`H`, `B` — no quantified split: `E`, `B` are the canonical contractions of the ket / bra tensors of all nodes except
the pair over all bonds touching neither of the two. -/
namespace Ptn.C05.Heff
open Ptn.C04 Ptn.Ein

set_option linter.unusedSectionVars false
variable {R : Type} [CommSemiring R]

/-- the tensors of the layer `Λ` at all nodes except the pair: component above `a`, the other subtrees of `a`, the
subtrees of `b` -/
def pairEnvLeaves (Λ : Layer R) (up : Ctx) (a b : Nat) (ls rs ks : List Tree) : List (LeafT R) :=
  up.leavesG Λ.nodeLeaves a ++ (treeLeavesL Λ.nodeLeaves a (ls ++ rs) ++ treeLeavesL Λ.nodeLeaves b ks)

/-- the bonds of the layer that touch neither `a` nor `b` -/
def pairEnvRecord (Λ : Layer R) (up : Ctx) (ls rs ks : List Tree) : List (Leg × Leg) :=
  (pairEnvEdges up ls rs ks).map fun e => Λ.edge e.1 e.2

def pairEnvExpr (Λ : Layer R) (up : Ctx) (a b : Nat) (ls rs ks : List Tree) : Expr Leg R :=
  seqExpr (pairEnvRecord Λ up ls rs ks) (pairEnvLeaves Λ up a b ls rs ks)

theorem pairEnvExpr_facts (Λ : Layer R) (hs : Λ.Inj) (hnode : ∀ a b, legNode (Λ.vleg a b) = some a)
    (up : Ctx) (a b : Nat) (ls rs ks : List Tree)
    (hnd : ((Ctx.frame a ls rs up).plug (Tree.node b ks)).ids.Nodup)
    (hh : ∀ e ∈ Tree.info none ((Ctx.frame a ls rs up).plug (Tree.node b ks)), Λ.Has e)
    (hok : ∀ e ∈ Tree.info none ((Ctx.frame a ls rs up).plug (Tree.node b ks)), NodeOK Λ.nodeLeaves e)
    (hloc : ∀ e ∈ Tree.info none ((Ctx.frame a ls rs up).plug (Tree.node b ks)),
      DependsOn (· ∈ Λ.legs e.1 e.2.1 e.2.2) (Λ.val e.1)) :
    (pairEnvExpr Λ up a b ls rs ks).SWF ∧
      (pairEnvExpr Λ up a b ls rs ks).leaves = ([], fun _ => 1) :: pairEnvLeaves Λ up a b ls rs ks ∧
      (unordL (pairEnvExpr Λ up a b ls rs ks).binds).Perm (unordL (pairEnvRecord Λ up ls rs ks)) ∧
      (∀ l ∈ labelsOf (treeLeaves Λ.nodeLeaves none ((Ctx.frame a ls rs up).plug (Tree.node b ks))),
        legNode l ≠ some a → legNode l ≠ some b → l ∈ labelsOf (pairEnvLeaves Λ up a b ls rs ks)) ∧
      (∀ l, (∀ x y, l ≠ Λ.vleg x y) → l ∈ labelsOf (pairEnvLeaves Λ up a b ls rs ks) →
        l ∈ (pairEnvExpr Λ up a b ls rs ks).free) :=
  have h := partEnv_facts Λ hs hnode _ hnd hh hok hloc (pair_opened up a b ls rs ks) _ rfl
  ⟨h.1, h.2.1, h.2.2.1, fun l hl ha hb => h.2.2.2.1 l hl fun x hx => by
    rcases List.mem_cons.1 hx with rfl | hx
    · exact ha
    · exact List.mem_singleton.1 hx ▸ hb, h.2.2.2.2⟩

/-- the canonical ket environment of the pair `a`, `b` -/
def pairEnvKet (kv : Nat → Asg Leg → R) (up : Ctx) (a b : Nat) (ls rs ks : List Tree) : Expr Leg R :=
  pairEnvExpr (ketLayer kv) up a b ls rs ks
/-- the canonical bra environment of the pair -/
def pairEnvBra (bv : Nat → Asg Leg → R) (up : Ctx) (a b : Nat) (ls rs ks : List Tree) : Expr Leg R :=
  pairEnvExpr (braLayerK bv) up a b ls rs ks

/-- the canonical `E`, `H`, `B` of an adjacent pair are admissible, read exactly `pairLeaves`, and every matrix whose
record has the tree-level value (`TreeForm`) has the value `E† H E` with these three programs -/
theorem pair_canonical_core (up : Ctx) (a b : Nat) (ls rs ks : List Tree)
    (hnd : ((Ctx.frame a ls rs up).plug (Tree.node b ks)).ids.Nodup) (opKids : Nat → List Nat)
    (hperm : ∀ e ∈ Tree.info none ((Ctx.frame a ls rs up).plug (Tree.node b ks)), (opKids e.1).Perm e.2.2)
    (kv ov bv : Nat → Asg Leg → R) (hkv : KetLocal kv ((Ctx.frame a ls rs up).plug (Tree.node b ks)))
    (hov : OpLocalK ov opKids ((Ctx.frame a ls rs up).plug (Tree.node b ks)))
    (hbv : BraLocalK bv ((Ctx.frame a ls rs up).plug (Tree.node b ks))) :
    (pairEnvKet kv up a b ls rs ks).SWF ∧ (opAll ov opKids ((Ctx.frame a ls rs up).plug (Tree.node b ks))).SWF ∧ (pairEnvBra bv up a b ls rs ks).SWF ∧
    (pairEnvLeaves (ketLayer kv) up a b ls rs ks ++ ((opAll ov opKids ((Ctx.frame a ls rs up).plug (Tree.node b ks))).leaves ++
      pairEnvLeaves (braLayerK bv) up a b ls rs ks)).Perm (pairLeaves opKids kv ov bv up a b ls rs ks) ∧
    (pairEnvKet kv up a b ls rs ks).leaves = ([], fun _ => 1) :: pairEnvLeaves (ketLayer kv) up a b ls rs ks ∧
    (pairEnvBra bv up a b ls rs ks).leaves = ([], fun _ => 1) :: pairEnvLeaves (braLayerK bv) up a b ls rs ks ∧
    (unordL (pairEnvKet kv up a b ls rs ks).binds).Perm (unordL ((up.compEdges ++ ((ls ++ rs) ++ ks).flatMap Tree.edges).map fun e => ketEdge e.1 e.2)) ∧
    (opAll ov opKids ((Ctx.frame a ls rs up).plug (Tree.node b ks))).binds.Perm (((Ctx.frame a ls rs up).plug (Tree.node b ks)).edges.map fun e => opEdge e.1 e.2) ∧
    (unordL (pairEnvBra bv up a b ls rs ks).binds).Perm (unordL ((up.compEdges ++ ((ls ++ rs) ++ ks).flatMap Tree.edges).map fun e => braEdge e.1 e.2)) ∧
    (∀ n ∈ (up.ids ++ Tree.idsL ((ls ++ rs) ++ ks)), Leg.gKetPhys n ∈ (pairEnvKet kv up a b ls rs ks).free ∧
      Leg.gOpIn n ∈ (opAll ov opKids ((Ctx.frame a ls rs up).plug (Tree.node b ks))).free ∧
      Leg.gOpOut n ∈ (opAll ov opKids ((Ctx.frame a ls rs up).plug (Tree.node b ks))).free ∧ Leg.gBraPhys n ∈ (pairEnvBra bv up a b ls rs ks).free) ∧
    ∀ m : Mat, TreeForm R m.binds (up.ids ++ Tree.idsL ((ls ++ rs) ++ ks))
        ((up.compEdges ++ ((ls ++ rs) ++ ks).flatMap Tree.edges).map fun e => ketEdge e.1 e.2)
        (((Ctx.frame a ls rs up).plug (Tree.node b ks)).edges.map fun e => opEdge e.1 e.2)
        ((up.compEdges ++ ((ls ++ rs) ++ ks).flatMap Tree.edges).map fun e => braEdge e.1 e.2) →
      ∀ e : Expr Leg R, Built m.toT e → e.leaves.Perm (pairLeaves opKids kv ov bv up a b ls rs ks) →
        e.SWF ∧ e.binds.Perm m.binds ∧ e.free.Perm (m.rows ++ m.cols) ∧
        ∀ (dim : Leg → Nat),
          (∀ q ∈ projSpec ((up.ids ++ Tree.idsL ((ls ++ rs) ++ ks)).map physOut) ((up.ids ++ Tree.idsL ((ls ++ rs) ++ ks)).map physIn)
            ((up.compEdges ++ ((ls ++ rs) ++ ks).flatMap Tree.edges).map fun e => ketEdge e.1 e.2)
            (((Ctx.frame a ls rs up).plug (Tree.node b ks)).edges.map fun e => opEdge e.1 e.2)
            ((up.compEdges ++ ((ls ++ rs) ++ ks).flatMap Tree.edges).map fun e => braEdge e.1 e.2), dim q.1 = dim q.2) →
          ∀ σ, e.eval dim σ =
            sumPairs dim ((up.ids ++ Tree.idsL ((ls ++ rs) ++ ks)).map physOut)
              (fun τ => sumPairs dim ((up.ids ++ Tree.idsL ((ls ++ rs) ++ ks)).map physIn)
                (fun ρ => (pairEnvKet kv up a b ls rs ks).eval dim ρ * (opAll ov opKids ((Ctx.frame a ls rs up).plug (Tree.node b ks))).eval dim ρ) τ *
                (pairEnvBra bv up a b ls rs ks).eval dim τ) σ :=
  canonical_core _ hnd opKids hperm kv ov bv hkv hov hbv (pair_opened up a b ls rs ks) _ _
    (List.Perm.cons _ (List.Perm.swap _ _ _)) (pairLeaves_perm opKids kv ov bv up a b ls rs ks)
    (pairEnvKet kv up a b ls rs ks) (pairEnvBra bv up a b ls rs ks) rfl rfl

/-- **Two-site `H_eff = E† H E` with the canonical `E`, `H`, `B`, target = the upper node** — `pair_canonical_core` in the
setting of `two_site_heff_whole_program`: `pairEnvKet`, `opAll`, `pairEnvBra` read exactly `pairLeaves`, bind the ket bonds
touching neither `a` nor `b`, all operator bonds, the bra bonds touching neither, and the matrix `m` of
`two_site_heff_graph` has the value `Σ_{phys'} (Σ_{phys} pairEnvKet · opAll) · pairEnvBra`. -/
theorem two_site_heff_eq_projected (up : Ctx) (a b : Nat) (ls rs ks : List Tree)
    (hnd : ((Ctx.frame a ls rs up).plug (Tree.node b ks)).ids.Nodup) (opKids : Nat → List Nat)
    (hperm : ∀ e ∈ Tree.info none ((Ctx.frame a ls rs up).plug (Tree.node b ks)), (opKids e.1).Perm e.2.2)
    (kv ov bv : Nat → Asg Leg → R) (hkv : KetLocal kv ((Ctx.frame a ls rs up).plug (Tree.node b ks)))
    (hov : OpLocalK ov opKids ((Ctx.frame a ls rs up).plug (Tree.node b ks)))
    (hbv : BraLocalK bv ((Ctx.frame a ls rs up).plug (Tree.node b ks)))
    (twoSite : Node) (hS : twoSite.nbrs.Perm (up.parent.toList ++ ((ls ++ rs) ++ ks).map Tree.id)) (cache : Dict)
    (hcU : ∀ q, up.parent = some q → cache (q, a) = some (gBlock q a up.blockBinds))
    (hcS : ∀ n ∈ (ls ++ rs).map Tree.id, cache (n, a) = soKidBlock (ls ++ rs) a (n, a))
    (hcK : ∀ n ∈ ks.map Tree.id, cache (n, b) = soKidBlock ks b (n, b)) :
    (pairEnvKet kv up a b ls rs ks).SWF ∧ (opAll ov opKids ((Ctx.frame a ls rs up).plug (Tree.node b ks))).SWF ∧ (pairEnvBra bv up a b ls rs ks).SWF ∧
    (pairEnvLeaves (ketLayer kv) up a b ls rs ks ++ ((opAll ov opKids ((Ctx.frame a ls rs up).plug (Tree.node b ks))).leaves ++
      pairEnvLeaves (braLayerK bv) up a b ls rs ks)).Perm (pairLeaves opKids kv ov bv up a b ls rs ks) ∧
    (pairEnvKet kv up a b ls rs ks).leaves = ([], fun _ => 1) :: pairEnvLeaves (ketLayer kv) up a b ls rs ks ∧
    (pairEnvBra bv up a b ls rs ks).leaves = ([], fun _ => 1) :: pairEnvLeaves (braLayerK bv) up a b ls rs ks ∧
    (unordL (pairEnvKet kv up a b ls rs ks).binds).Perm (unordL ((up.compEdges ++ ((ls ++ rs) ++ ks).flatMap Tree.edges).map fun e => ketEdge e.1 e.2)) ∧
    (opAll ov opKids ((Ctx.frame a ls rs up).plug (Tree.node b ks))).binds.Perm (((Ctx.frame a ls rs up).plug (Tree.node b ks)).edges.map fun e => opEdge e.1 e.2) ∧
    (unordL (pairEnvBra bv up a b ls rs ks).binds).Perm (unordL ((up.compEdges ++ ((ls ++ rs) ++ ks).flatMap Tree.edges).map fun e => braEdge e.1 e.2)) ∧
    (∀ n ∈ (up.ids ++ Tree.idsL ((ls ++ rs) ++ ks)), Leg.gKetPhys n ∈ (pairEnvKet kv up a b ls rs ks).free ∧
      Leg.gOpIn n ∈ (opAll ov opKids ((Ctx.frame a ls rs up).plug (Tree.node b ks))).free ∧
      Leg.gOpOut n ∈ (opAll ov opKids ((Ctx.frame a ls rs up).plug (Tree.node b ks))).free ∧ Leg.gBraPhys n ∈ (pairEnvBra bv up a b ls rs ks).free) ∧
    ∃ m : Mat, getEffectiveTwoSiteHamiltonian ⟨up.parent, opKids a⟩ ⟨some a, opKids b⟩ twoSite
        (gOpT a ⟨up.parent, opKids a⟩) (gOpT b ⟨some a, opKids b⟩) a b cache = some m ∧
      m.rows = twoSite.nbrs.map (fun n => if n ∈ (Node.mk up.parent (opKids a)).nbrs then Leg.gBra n a
                  else Leg.gBra n b) ++ [Leg.gOpOut a, Leg.gOpOut b] ∧
      m.cols = twoSite.nbrs.map (fun n => if n ∈ (Node.mk up.parent (opKids a)).nbrs then Leg.gKet n a
                  else Leg.gKet n b) ++ [Leg.gOpIn a, Leg.gOpIn b] ∧
      BuiltL m.toT (pairLeaves opKids kv ov bv up a b ls rs ks) ∧
      ∀ e : Expr Leg R, Built m.toT e → e.leaves.Perm (pairLeaves opKids kv ov bv up a b ls rs ks) →
        e.SWF ∧ e.binds.Perm m.binds ∧ e.free.Perm (m.rows ++ m.cols) ∧
        ∀ (dim : Leg → Nat),
          (∀ q ∈ projSpec ((up.ids ++ Tree.idsL ((ls ++ rs) ++ ks)).map physOut) ((up.ids ++ Tree.idsL ((ls ++ rs) ++ ks)).map physIn)
            ((up.compEdges ++ ((ls ++ rs) ++ ks).flatMap Tree.edges).map fun e => ketEdge e.1 e.2)
            (((Ctx.frame a ls rs up).plug (Tree.node b ks)).edges.map fun e => opEdge e.1 e.2)
            ((up.compEdges ++ ((ls ++ rs) ++ ks).flatMap Tree.edges).map fun e => braEdge e.1 e.2), dim q.1 = dim q.2) →
          ∀ σ, e.eval dim σ =
            sumPairs dim ((up.ids ++ Tree.idsL ((ls ++ rs) ++ ks)).map physOut)
              (fun τ => sumPairs dim ((up.ids ++ Tree.idsL ((ls ++ rs) ++ ks)).map physIn)
                (fun ρ => (pairEnvKet kv up a b ls rs ks).eval dim ρ * (opAll ov opKids ((Ctx.frame a ls rs up).plug (Tree.node b ks))).eval dim ρ) τ *
                (pairEnvBra bv up a b ls rs ks).eval dim τ) σ := by
  obtain ⟨f1, f2, f3, f4, f5, f6, f7, f8, f9, f10, hcore⟩ :=
    pair_canonical_core up a b ls rs ks hnd opKids hperm kv ov bv hkv hov hbv
  refine ⟨f1, f2, f3, f4, f5, f6, f7, f8, f9, f10, ?_⟩
  obtain ⟨hpermA, hpermB⟩ := pair_opKids_perm up a b ls rs ks opKids hperm
  obtain ⟨m, hm, hr, hc, hbuilt, _, _⟩ := two_site_heff_whole_program up a b ls rs ks hnd opKids hperm kv ov bv hkv hov hbv
    twoSite hS cache hcU hcS hcK
  obtain ⟨m', hm', _, _, hval⟩ := two_site_heff_projected_tree (R := R) up a b ls rs ks hnd (opKids a) (opKids b)
    hpermA hpermB twoSite hS cache hcU hcS hcK
  have hmm : m' = m := Option.some.inj (hm'.symm.trans hm)
  subst hmm
  exact ⟨m', hm, hr, hc, hbuilt, hcore m' hval⟩

/-- `two_site_heff_eq_projected` with target = the LOWER node `b`, next = `a` (rows / columns end with `out_b, out_a` /
`in_b, in_a`): same canonical programs, same value. -/
theorem two_site_heff_eq_projected_up (up : Ctx) (a b : Nat) (ls rs ks : List Tree)
    (hnd : ((Ctx.frame a ls rs up).plug (Tree.node b ks)).ids.Nodup) (opKids : Nat → List Nat)
    (hperm : ∀ e ∈ Tree.info none ((Ctx.frame a ls rs up).plug (Tree.node b ks)), (opKids e.1).Perm e.2.2)
    (kv ov bv : Nat → Asg Leg → R) (hkv : KetLocal kv ((Ctx.frame a ls rs up).plug (Tree.node b ks)))
    (hov : OpLocalK ov opKids ((Ctx.frame a ls rs up).plug (Tree.node b ks)))
    (hbv : BraLocalK bv ((Ctx.frame a ls rs up).plug (Tree.node b ks)))
    (twoSite : Node) (hS : twoSite.nbrs.Perm (up.parent.toList ++ ((ls ++ rs) ++ ks).map Tree.id)) (cache : Dict)
    (hcU : ∀ q, up.parent = some q → cache (q, a) = some (gBlock q a up.blockBinds))
    (hcS : ∀ n ∈ (ls ++ rs).map Tree.id, cache (n, a) = soKidBlock (ls ++ rs) a (n, a))
    (hcK : ∀ n ∈ ks.map Tree.id, cache (n, b) = soKidBlock ks b (n, b)) :
    (pairEnvKet kv up a b ls rs ks).SWF ∧ (opAll ov opKids ((Ctx.frame a ls rs up).plug (Tree.node b ks))).SWF ∧ (pairEnvBra bv up a b ls rs ks).SWF ∧
    (pairEnvLeaves (ketLayer kv) up a b ls rs ks ++ ((opAll ov opKids ((Ctx.frame a ls rs up).plug (Tree.node b ks))).leaves ++
      pairEnvLeaves (braLayerK bv) up a b ls rs ks)).Perm (pairLeaves opKids kv ov bv up a b ls rs ks) ∧
    (pairEnvKet kv up a b ls rs ks).leaves = ([], fun _ => 1) :: pairEnvLeaves (ketLayer kv) up a b ls rs ks ∧
    (pairEnvBra bv up a b ls rs ks).leaves = ([], fun _ => 1) :: pairEnvLeaves (braLayerK bv) up a b ls rs ks ∧
    (unordL (pairEnvKet kv up a b ls rs ks).binds).Perm (unordL ((up.compEdges ++ ((ls ++ rs) ++ ks).flatMap Tree.edges).map fun e => ketEdge e.1 e.2)) ∧
    (opAll ov opKids ((Ctx.frame a ls rs up).plug (Tree.node b ks))).binds.Perm (((Ctx.frame a ls rs up).plug (Tree.node b ks)).edges.map fun e => opEdge e.1 e.2) ∧
    (unordL (pairEnvBra bv up a b ls rs ks).binds).Perm (unordL ((up.compEdges ++ ((ls ++ rs) ++ ks).flatMap Tree.edges).map fun e => braEdge e.1 e.2)) ∧
    (∀ n ∈ (up.ids ++ Tree.idsL ((ls ++ rs) ++ ks)), Leg.gKetPhys n ∈ (pairEnvKet kv up a b ls rs ks).free ∧
      Leg.gOpIn n ∈ (opAll ov opKids ((Ctx.frame a ls rs up).plug (Tree.node b ks))).free ∧
      Leg.gOpOut n ∈ (opAll ov opKids ((Ctx.frame a ls rs up).plug (Tree.node b ks))).free ∧ Leg.gBraPhys n ∈ (pairEnvBra bv up a b ls rs ks).free) ∧
    ∃ m : Mat, getEffectiveTwoSiteHamiltonian ⟨some a, opKids b⟩ ⟨up.parent, opKids a⟩ twoSite
        (gOpT b ⟨some a, opKids b⟩) (gOpT a ⟨up.parent, opKids a⟩) b a cache = some m ∧
      m.rows = twoSite.nbrs.map (fun n => if n ∈ (Node.mk (some a) (opKids b)).nbrs then Leg.gBra n b
                  else Leg.gBra n a) ++ [Leg.gOpOut b, Leg.gOpOut a] ∧
      m.cols = twoSite.nbrs.map (fun n => if n ∈ (Node.mk (some a) (opKids b)).nbrs then Leg.gKet n b
                  else Leg.gKet n a) ++ [Leg.gOpIn b, Leg.gOpIn a] ∧
      BuiltL m.toT (pairLeaves opKids kv ov bv up a b ls rs ks) ∧
      ∀ e : Expr Leg R, Built m.toT e → e.leaves.Perm (pairLeaves opKids kv ov bv up a b ls rs ks) →
        e.SWF ∧ e.binds.Perm m.binds ∧ e.free.Perm (m.rows ++ m.cols) ∧
        ∀ (dim : Leg → Nat),
          (∀ q ∈ projSpec ((up.ids ++ Tree.idsL ((ls ++ rs) ++ ks)).map physOut) ((up.ids ++ Tree.idsL ((ls ++ rs) ++ ks)).map physIn)
            ((up.compEdges ++ ((ls ++ rs) ++ ks).flatMap Tree.edges).map fun e => ketEdge e.1 e.2)
            (((Ctx.frame a ls rs up).plug (Tree.node b ks)).edges.map fun e => opEdge e.1 e.2)
            ((up.compEdges ++ ((ls ++ rs) ++ ks).flatMap Tree.edges).map fun e => braEdge e.1 e.2), dim q.1 = dim q.2) →
          ∀ σ, e.eval dim σ =
            sumPairs dim ((up.ids ++ Tree.idsL ((ls ++ rs) ++ ks)).map physOut)
              (fun τ => sumPairs dim ((up.ids ++ Tree.idsL ((ls ++ rs) ++ ks)).map physIn)
                (fun ρ => (pairEnvKet kv up a b ls rs ks).eval dim ρ * (opAll ov opKids ((Ctx.frame a ls rs up).plug (Tree.node b ks))).eval dim ρ) τ *
                (pairEnvBra bv up a b ls rs ks).eval dim τ) σ := by
  obtain ⟨f1, f2, f3, f4, f5, f6, f7, f8, f9, f10, hcore⟩ :=
    pair_canonical_core up a b ls rs ks hnd opKids hperm kv ov bv hkv hov hbv
  refine ⟨f1, f2, f3, f4, f5, f6, f7, f8, f9, f10, ?_⟩
  obtain ⟨hpermA, hpermB⟩ := pair_opKids_perm up a b ls rs ks opKids hperm
  obtain ⟨m, hm, hr, hc, hbuilt, _, _⟩ := two_site_heff_whole_program_up up a b ls rs ks hnd opKids hperm kv ov bv hkv hov
    hbv twoSite hS cache hcU hcS hcK
  obtain ⟨m', hm', _, _, hval⟩ := two_site_heff_projected_tree_up (R := R) up a b ls rs ks hnd (opKids a) (opKids b)
    hpermA hpermB twoSite hS cache hcU hcS hcK
  have hmm : m' = m := Option.some.inj (hm'.symm.trans hm)
  subst hmm
  exact ⟨m', hm, hr, hc, hbuilt, hcore m' hval⟩

end Ptn.C05.Heff
