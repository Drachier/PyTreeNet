import Ptn.C05.DiscModel
import Ptn.C17.HopFacts
/-! Single events of the discipline machine preserve the invariant and read only fresh blocks. -/
namespace Ptn.C05.Disc
open Ptn.C17 Ptn.C17.RTree

theorem adjB_iff (t : RTree) (a b : Nat) : adjB t a b = true ↔ Adj t a b := by
  simp [adjB, mem_nbrsOf]

theorem mem_wrote {t : RTree} {v : Nat} {stale : List Block} {blk : Block} :
    blk ∈ wrote t v stale ↔ blk ∈ stale ∨ (blk ∈ blocks t ∧ away t v blk = true) := by
  simp [wrote, List.mem_filter]

/-- a block pointing toward `v` is not made stale by a write of `v` -/
theorem toward_not_away {t : RTree} (hwf : t.WF) {x v h : Nat} (hx : x ∈ ids t) (hv : v ∈ ids t)
    (hne : x ≠ v) (hh : firstHop t x v = some h) : away t v (x, h) = false := by
  have := toward_not_back hwf hx hv hne hh
  simp only [away, Bool.and_eq_false_iff]
  right
  simpa using this

/-- With `input_not_away_nbr`: why `DiscModel.reads` may be evaluated in the state before the event.  The writes an event
performs before it reads are of `a` and of the neighbour `b`; neither makes a block `(z, a)`, `z ≠ b`, stale (for the reads
`(z, b)`, `z ≠ a`, of `two a b` exchange `a` and `b`). -/
theorem input_not_away_self (t : RTree) (z a : Nat) : away t a (z, a) = false := by
  simp [away]

/-- a block `(z, a)`, `z ≠ b`, is not made stale by a write of the neighbour `b` of `a` -/
theorem input_not_away_nbr {t : RTree} (hwf : t.WF) {a b z : Nat} (hab : Adj t a b) (hz : z ≠ b) :
    away t b (z, a) = false := by
  simp only [away, Bool.and_eq_false_iff]
  right
  rw [firstHop_adj hwf hab]
  simpa using fun e => hz e.symm

theorem step_eq {t : RTree} {st : DSt} {e : DEv} (hpre : pre t st e = true)
    (hreads : ∀ blk ∈ reads t e, blk ∉ st.stale) : step t st e = some (apply t st e) := by
  have : (reads t e).all (fun blk => !st.stale.contains blk) = true := by
    rw [List.all_eq_true]
    intro blk hb
    simpa using hreads blk hb
  unfold step
  rw [hpre, this]
  rfl

theorem inv_nbr_fresh {t : RTree} (hwf : t.WF) {st : DSt} (hinv : Inv t st) {z : Nat}
    (hz : Adj t st.centre z) : (z, st.centre) ∉ st.stale := by
  have hm := adj_mem hz
  exact hinv z st.centre hm.2 (fun e => adj_ne hwf hz e.symm) (firstHop_adj hwf (adj_symm hz))

theorem mem_inputs {t : RTree} {a b : Nat} {blk : Block} (h : blk ∈ inputs t a b) :
    ∃ z, blk = (z, a) ∧ Adj t a z ∧ z ≠ b := by
  simp only [inputs, List.mem_map, List.mem_filter, mem_nbrsOf] at h
  obtain ⟨z, ⟨hz, hzb⟩, rfl⟩ := h
  exact ⟨z, rfl, hz, by simpa using hzb⟩

theorem site_ok {t : RTree} (hwf : t.WF) {st : DSt} (hinv : Inv t st) {v : Nat}
    (hc : st.centre = v) (hv : v ∈ ids t) :
    ∃ st', step t st (.site v) = some st' ∧ Inv t st' ∧ st'.centre = v := by
  refine ⟨apply t st (.site v), step_eq (by simp [pre, hc, hv]) ?_, ?_, rfl⟩
  · intro blk hb
    simp only [reads, List.mem_map, mem_nbrsOf] at hb
    obtain ⟨x, hx, rfl⟩ := hb
    exact hc ▸ inv_nbr_fresh hwf hinv (hc ▸ hx)
  · intro x h hx hxc hh
    simp only [apply] at hxc hh ⊢
    rw [mem_wrote]
    rintro (hs | ⟨_, ha⟩)
    · exact hinv x h hx (hc ▸ hxc) (hc ▸ hh) hs
    · rw [toward_not_away hwf hx hv hxc hh] at ha; simp at ha

/-- the invariant for the new centre `b` after the tensors of the neighbours `a` (old centre) and
    `b` were written and the block `(a, b)` was rebuilt -/
theorem inv_after_pair {t : RTree} (hwf : t.WF) {st : DSt} (hinv : Inv t st) {a b : Nat}
    (hc : st.centre = a) (hab : Adj t a b) {x h : Nat} (hx : x ∈ ids t) (hxb : x ≠ b)
    (hh : firstHop t x b = some h) (hne : (x, h) ≠ (a, b)) :
    (x, h) ∉ st.stale ∧ away t a (x, h) = false ∧ away t b (x, h) = false := by
  have hm := adj_mem hab
  have hxa : x ≠ a := by
    intro e; subst e
    rw [firstHop_adj hwf hab] at hh
    simp at hh; subst hh
    exact hne rfl
  have hha : firstHop t x a = some h := by rw [← firstHop_adj_same hwf hab hx hxa hxb]; exact hh
  exact ⟨hinv x h hx (hc ▸ hxa) (hc ▸ hha), toward_not_away hwf hx hm.1 hxa hha,
    toward_not_away hwf hx hm.2 hxb hh⟩

/-- the invariant after a move (both tensors written, the block `(a, b)` rebuilt); a two-site update leaves the same
    state, `apply t st (.two a b)` is `apply t st (.move a b)` by definition, so `two_ok` uses this lemma as well -/
theorem inv_move {t : RTree} (hwf : t.WF) {st : DSt} (hinv : Inv t st) {a b : Nat}
    (hc : st.centre = a) (hab : Adj t a b) : Inv t (apply t st (.move a b)) := by
  intro x h hx hxc hh
  simp only [apply] at hxc hh ⊢
  simp only [List.mem_filter, mem_wrote, not_and]
  intro hmem
  by_cases hne : (x, h) = (a, b)
  · simp [hne]
  · obtain ⟨h1, h2, h3⟩ := inv_after_pair hwf hinv hc hab hx hxc hh hne
    exfalso
    rcases hmem with (hs | ⟨_, ha⟩) | ⟨_, ha⟩
    · exact h1 hs
    · rw [h2] at ha; simp at ha
    · rw [h3] at ha; simp at ha

theorem move_ok {t : RTree} (hwf : t.WF) {st : DSt} (hinv : Inv t st) {a b : Nat}
    (hc : st.centre = a) (hab : Adj t a b) :
    ∃ st', step t st (.move a b) = some st' ∧ Inv t st' ∧ st'.centre = b := by
  refine ⟨apply t st (.move a b), step_eq (by simp [pre, hc, (adjB_iff t a b).mpr hab]) ?_,
    inv_move hwf hinv hc hab, rfl⟩
  · intro blk hb
    obtain ⟨z, rfl, hz, _⟩ := mem_inputs hb
    exact hc ▸ inv_nbr_fresh hwf hinv (hc ▸ hz)

theorem two_ok {t : RTree} (hwf : t.WF) {st : DSt} (hinv : Inv t st) {a b : Nat}
    (hc : st.centre = a) (hab : Adj t a b) :
    ∃ st', step t st (.two a b) = some st' ∧ Inv t st' ∧ st'.centre = b := by
  have hm := adj_mem hab
  refine ⟨apply t st (.two a b), step_eq (by simp [pre, hc, (adjB_iff t a b).mpr hab]) ?_,
    inv_move hwf hinv hc hab, rfl⟩
  · intro blk hb
    simp only [reads, List.mem_append] at hb
    rcases hb with hb | hb
    · obtain ⟨z, rfl, hz, _⟩ := mem_inputs hb
      exact hc ▸ inv_nbr_fresh hwf hinv (hc ▸ hz)
    · obtain ⟨z, rfl, hz, hza⟩ := mem_inputs hb
      have hzm := adj_mem hz
      have hzb : z ≠ b := fun e => adj_ne hwf hz e.symm
      have h1 : firstHop t z a = some b := by
        rw [← firstHop_adj_same hwf hab hzm.2 hza hzb]
        exact firstHop_adj hwf (adj_symm hz)
      exact hinv z b hzm.2 (hc ▸ hza) (hc ▸ h1)

theorem link_ok {t : RTree} (hwf : t.WF) {st : DSt} (hinv : Inv t st) {a b : Nat}
    (hc : st.centre = a) (hab : Adj t a b) :
    ∃ st', step t st (.link a b) = some st' ∧ Inv t st' ∧ st'.centre = b := by
  refine ⟨apply t st (.link a b), step_eq (by simp [pre, hc, (adjB_iff t a b).mpr hab]) ?_, ?_, rfl⟩
  · intro blk hb
    simp only [reads, List.mem_map, mem_nbrsOf] at hb
    obtain ⟨z, hz, rfl⟩ := hb
    exact hc ▸ inv_nbr_fresh hwf hinv (hc ▸ hz)
  · intro x h hx hxc hh
    simp only [apply] at hxc hh ⊢
    rw [mem_wrote]
    simp only [List.mem_filter, mem_wrote]
    intro hmem
    by_cases hne : (x, h) = (a, b)
    · rcases hmem with ⟨_, hf⟩ | ⟨_, ha⟩
      · simp [hne] at hf
      · rw [hne] at ha; simp [away] at ha
    · obtain ⟨h1, h2, h3⟩ := inv_after_pair hwf hinv hc hab hx hxc hh hne
      rcases hmem with ⟨hs | ⟨_, ha⟩, _⟩ | ⟨_, ha⟩
      · exact h1 hs
      · rw [h2] at ha; simp at ha
      · rw [h3] at ha; simp at ha

theorem hop_ok {t : RTree} {st : DSt} {a b : Nat} (hc : st.centre = a) (hab : Adj t a b) :
    ∃ st', step t st (.hop a b) = some st' ∧ st'.centre = b :=
  ⟨apply t st (.hop a b), step_eq (by simp [pre, hc, (adjB_iff t a b).mpr hab]) (by simp [reads]),
    rfl⟩

/-- after `init c` exactly the blocks pointing away from `c` are missing: the invariant holds, whatever was before -/
theorem inv_init {t : RTree} (hwf : t.WF) {c : Nat} (hcm : c ∈ ids t) :
    Inv t ⟨c, (blocks t).filter (away t c)⟩ := by
  intro x h hx hxc hh
  simp only [List.mem_filter, not_and]
  intro _
  rw [toward_not_away hwf hx hcm hxc hh]; simp

theorem init_ok {t : RTree} {st : DSt} {c : Nat} (hc : st.centre = c) (hcm : c ∈ ids t) :
    step t st (.init c) = some ⟨c, (blocks t).filter (away t c)⟩ :=
  step_eq (by simp [pre, hc, hcm]) (by simp [reads])

end Ptn.C05.Disc
