import Ptn.C04.BuiltFns
import Ptn.C05.HeffLemmas
/-! Provenance for the effective Hamiltonians (C05, C04 pattern `Built`): "inputs built ⟹ output built" for the
three model functions of `HeffModel.lean`.  If the call succeeds and the operator tensor(s) and the cache entries
it reads are built from given leaf tensors, then the returned matrix — read as the tensor `rows ++ cols` — is
built, by the `tensordot` calls (and the transposition) the function performs, from exactly the leaves of the
operator tensor(s) and of the blocks it consumed. -/
namespace Ptn.C05.Heff
open Ptn.C04 Ptn.Ein

variable {R : Type}

/-- the matrix read as a tensor: the row legs followed by the column legs -/
def Mat.toT (m : Mat) : T := ⟨m.rows ++ m.cols, m.binds⟩

theorem pick_full_perm (l : List Leg) (is : List Nat) (xs : List Leg) (h : pick l is = some xs)
    (hnd : is.Nodup) (hlen : is.length = l.length) : xs.Perm l := by
  rw [pick_eq] at h
  have hp : is.Perm (List.range l.length) := perm_range_of_nodup hnd (pickL_lt h) hlen
  have h1 : (xs.map some).Perm (l.map some) := by
    rw [← pickL_eq_some_iff.1 h]
    have h2 : (List.range l.length).map (fun i => l[i]?) = l.map some := by
      apply List.ext_getElem?
      intro k
      by_cases hk : k < l.length
      · simp [hk]
      · simp [hk]
    rw [← h2]
    exact hp.map _
  have h3 := h1.filterMap id
  simpa using h3

theorem transposeT_built {t r : T} {axes : List Nat} {ls : List (LeafT R)} (h : transposeT t axes = some r)
    (ht : BuiltL t ls) : BuiltL r ls := by
  obtain ⟨hlen, hnd, legs, hlegs, rfl⟩ := transposeT_eq_some.1 h
  exact ht.transpose (pick_full_perm _ _ _ hlegs hnd hlen)

theorem matricisationHalf_toT {t : T} {m : Mat} (h : matricisationHalf t = some m) : m.toT = t := by
  unfold matricisationHalf at h
  split at h
  · simp at h
  · simp only [Option.some.injEq] at h
    subst h
    simp [Mat.toT]

theorem contractAllExceptNode_built {stateNode hamNode : Node} {ham : T} {cache : Cache} {r : T}
    {lo : List (LeafT R)} {lv : Nat → List (LeafT R)}
    (h : contractAllExceptNode stateNode hamNode ham cache = some r) (ho : BuiltL ham lo)
    (hc : ∀ n ∈ hamNode.nbrs, ∀ blk, cache n = some blk → BuiltL blk (lv n)) :
    BuiltL r (lo ++ hamNode.nbrs.flatMap lv) := by
  unfold contractAllExceptNode at h
  split at h
  · simp at h
  · rename_i t ht
    split at h
    · simp at h
    · rw [exceptNodeLoop_eq hamNode] at ht
      exact transposeT_built h (allLoop_built _ _ _ _ ht ho hc)

/-- **Provenance, single site.**  The matrix returned by `get_effective_single_site_hamiltonian_nodes` is built, by
the function's own `tensordot` calls and its transposition, from exactly the operator tensor's leaves and the leaves
of the blocks of all neighbours of the operator node. -/
theorem site_heff_built {stateNode hamNode : Node} {ham : T} {cache : Cache} {m : Mat}
    {lo : List (LeafT R)} {lv : Nat → List (LeafT R)}
    (h : getEffectiveSingleSiteHamiltonianNodes stateNode hamNode ham cache = some m) (ho : BuiltL ham lo)
    (hc : ∀ n ∈ hamNode.nbrs, ∀ blk, cache n = some blk → BuiltL blk (lv n)) :
    BuiltL m.toT (lo ++ hamNode.nbrs.flatMap lv) := by
  unfold getEffectiveSingleSiteHamiltonianNodes at h
  split at h
  · simp at h
  · rename_i t ht
    rw [matricisationHalf_toT h]
    exact contractAllExceptNode_built ht ho hc

/-- **Provenance, link.**  The matrix returned by `_get_effective_link_hamiltonian` is built from exactly the two
cached blocks `(node_id, next_node_id)` and `(next_node_id, node_id)` (one `tensordot`, one transposition), in both
branches of `is_parent_of`. -/
theorem link_heff_built {linkNode : Node} {nodeId nextId : Nat} {cache : Dict} {m : Mat}
    {l1 l2 : List (LeafT R)}
    (h : getEffectiveLinkHamiltonian linkNode nodeId nextId cache = some m)
    (h1 : ∀ blk, cache (nodeId, nextId) = some blk → BuiltL blk l1)
    (h2 : ∀ blk, cache (nextId, nodeId) = some blk → BuiltL blk l2) :
    BuiltL m.toT (l1 ++ l2) := by
  -- follow the function's branches; the one `tensordot` is `BuiltL.dot`, in the order the branch of `is_parent_of` takes
  unfold getEffectiveLinkHamiltonian at h
  split at h
  · simp at h
  · split at h
    · simp at h
    · split at h
      · rename_i newT otherT hn ho
        simp only at h
        split at h
        · simp at h
        · rename_i t ht
          split at h
          · simp at h
          · rename_i t' ht'
            rw [matricisationHalf_toT h]
            refine transposeT_built ht' ?_
            by_cases hp : nodeId ∈ linkNode.children
            · rw [if_pos hp] at ht
              exact (BuiltL.dot (h2 _ ho) (h1 _ hn) ht).perm List.perm_append_comm
            · rw [if_neg hp] at ht
              exact BuiltL.dot (h1 _ hn) (h2 _ ho) ht
      · simp at h

theorem contractAllExceptTwoNodes_built {hamT hamX twoSite : Node} {hT hN : T} {t x : Nat} {cache : Dict} {r : T}
    {lT lX : List (LeafT R)} {lvT lvX : Nat → List (LeafT R)}
    (h : contractAllExceptTwoNodes hamT hamX twoSite hT hN t x cache = some r)
    (hoT : BuiltL hT lT) (hoX : BuiltL hN lX)
    (hcT : ∀ n ∈ hamT.nbrs, n ≠ x → ∀ blk, cache (n, t) = some blk → BuiltL blk (lvT n))
    (hcX : ∀ n ∈ hamX.nbrs, n ≠ t → ∀ blk, cache (n, x) = some blk → BuiltL blk (lvX n)) :
    BuiltL r ((lT ++ (hamT.nbrs.filter (· ≠ x)).flatMap lvT) ++ (lX ++ (hamX.nbrs.filter (· ≠ t)).flatMap lvX)) := by
  unfold contractAllExceptTwoNodes at h
  split at h
  · rename_i tb nb htb hnb
    split at h
    · simp at h
    · rename_i hEff hh
      split at h
      · simp at h
      · have b1 := allButOneLoop_built (lv := lvT) _ _ _ _ htb hoT
          (fun n hn hne blk hb => hcT n hn hne blk hb)
        have b2 := allButOneLoop_built (lv := lvX) _ _ _ _ hnb hoX
          (fun n hn hne blk hb => hcX n hn hne blk hb)
        exact transposeT_built h (BuiltL.dot b1 b2 hh)
  · simp at h

/-- **Provenance, two sites.**  The matrix returned by `_get_effective_two_site_hamiltonian` is built from exactly
the two operator tensors and the blocks of all neighbours of the target other than the next node and of all
neighbours of the next node other than the target. -/
theorem two_site_heff_built {hamT hamX twoSite : Node} {hT hN : T} {t x : Nat} {cache : Dict} {m : Mat}
    {lT lX : List (LeafT R)} {lvT lvX : Nat → List (LeafT R)}
    (h : getEffectiveTwoSiteHamiltonian hamT hamX twoSite hT hN t x cache = some m)
    (hoT : BuiltL hT lT) (hoX : BuiltL hN lX)
    (hcT : ∀ n ∈ hamT.nbrs, n ≠ x → ∀ blk, cache (n, t) = some blk → BuiltL blk (lvT n))
    (hcX : ∀ n ∈ hamX.nbrs, n ≠ t → ∀ blk, cache (n, x) = some blk → BuiltL blk (lvX n)) :
    BuiltL m.toT ((lT ++ (hamT.nbrs.filter (· ≠ x)).flatMap lvT) ++
      (lX ++ (hamX.nbrs.filter (· ≠ t)).flatMap lvX)) := by
  unfold getEffectiveTwoSiteHamiltonian at h
  split at h
  · simp at h
  · rename_i r hr
    rw [matricisationHalf_toT h]
    exact contractAllExceptTwoNodes_built hr hoT hoX hcT hcX

end Ptn.C05.Heff
