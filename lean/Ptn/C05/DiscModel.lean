import Ptn.C17.Model
/-! Cache-freshness discipline of the TDVP sweeps: the abstract machine and the full event
sequences of the three variants (core Lean only; imported by the C17 driver).

A *block* `(a, b)` (`a`, `b` neighbours) stands for the cached environment
`partial_tree_cache.get_entry(a, b)`: the contracted part of the tree on `a`'s side of the edge
`{a, b}`, open toward `b`.  It is *stale* when a tensor on `a`'s side was written after the block
was built (or the block was never built).  A write of the tensor of `v` makes stale exactly the
blocks pointing away from `v`.

Events (one per call observed on the implementation):
* `site v`   - `_update_site(v)`: reads all blocks `(x, v)`, writes `v`; needs centre = `v`
* `move a b` - one hop of `_move_orth_and_update_cache_for_path`: QR at `a` (writes `a` and `b`),
               centre := `b`, then `update_tree_cache(a, b)` (reads `(z, a)`, `z ≠ b`)
* `link a b` - `_update_link(a, b)`: split `a` (writes `a`), `_update_cache_after_split` rebuilds
               `(a, b)` (reads `(z, a)`, `z ≠ b`), the link Hamiltonian reads `(a, b)` and `(b, a)`,
               contraction into `b` (writes `b`), centre := `b`
* `two a b`  - `_update_two_site_nodes(a, b)`: reads `(z, a)`, `z ≠ b` and `(z, b)`, `z ≠ a`; writes
               `a` and `b`; centre := `b`; `update_tree_cache(a, b)` (reads `(z, a)`, `z ≠ b`)
* `hop a b`  - one QR hop of `state.move_orthogonalization_center` *without* cache update
               (writes `a` and `b`, centre := `b`)
* `init c`   - `init_cache_but_one(…, c)` on a new cache: afterwards exactly the blocks pointing
               toward `c` exist (C17 `init_cache_keys`); needs centre = `c`
-/
namespace Ptn.C05.Disc
open Ptn.C17 Ptn.C17.RTree

inductive DEv where
  | site (v : Nat)
  | move (a b : Nat)
  | link (a b : Nat)
  | two (a b : Nat)
  | hop (a b : Nat)
  | init (c : Nat)
deriving Repr, DecidableEq

abbrev Block := Nat × Nat

structure DSt where
  centre : Nat
  stale : List Block
deriving Repr

/-- all directed blocks of the tree -/
def blocks (t : RTree) : List Block := edges t ++ (edges t).map (fun e => (e.2, e.1))

/-- the block `(x, y)` points away from `v`: `v` lies on `x`'s side -/
def away (t : RTree) (v : Nat) (blk : Block) : Bool :=
  blk.2 != v && firstHop t blk.2 v == some blk.1

/-- stale blocks after the tensor of `v` was written -/
def wrote (t : RTree) (v : Nat) (stale : List Block) : List Block :=
  stale ++ (blocks t).filter (away t v)

def adjB (t : RTree) (a b : Nat) : Bool := (nbrsOf t a).contains b

/-- blocks `(z, a)` for the neighbours `z ≠ b` of `a` -/
def inputs (t : RTree) (a b : Nat) : List Block :=
  ((nbrsOf t a).filter (fun z => z != b)).map (fun z => (z, a))

/-- the blocks an event reads (evaluated in the state before the event; the writes an event
    performs before reading never touch the blocks it reads: `input_not_away_self`,
    `input_not_away_nbr` in `DiscLemmas.lean`).  `link a b`: the inputs `(z, a)`, `z ≠ b`, of the
    rebuild of `(a, b)` and the block `(b, a)` the link Hamiltonian reads; `(a, b)` itself is built
    inside the event before it is read and is not listed.  `two a b`: the reads of the closing
    `update_tree_cache(a, b)` are among the `(z, a)`, `z ≠ b`, listed first. -/
def reads (t : RTree) : DEv → List Block
  | .site v => (nbrsOf t v).map (fun x => (x, v))
  | .move a b => inputs t a b
  | .link a b => (nbrsOf t a).map (fun z => (z, a))
  | .two a b => inputs t a b ++ inputs t b a
  | .hop _ _ => []
  | .init _ => []

/-- precondition on the centre and on adjacency -/
def pre (t : RTree) (st : DSt) : DEv → Bool
  | .site v => st.centre == v && (ids t).contains v
  | .move a b => st.centre == a && adjB t a b
  | .link a b => st.centre == a && adjB t a b
  | .two a b => st.centre == a && adjB t a b
  | .hop a b => st.centre == a && adjB t a b
  | .init c => st.centre == c && (ids t).contains c

def apply (t : RTree) (st : DSt) : DEv → DSt
  | .site v => ⟨v, wrote t v st.stale⟩
  | .move a b => ⟨b, (wrote t b (wrote t a st.stale)).filter (fun blk => blk != (a, b))⟩
  | .link a b => ⟨b, wrote t b ((wrote t a st.stale).filter (fun blk => blk != (a, b)))⟩
  | .two a b => ⟨b, (wrote t b (wrote t a st.stale)).filter (fun blk => blk != (a, b))⟩
  | .hop a b => ⟨b, wrote t b (wrote t a st.stale)⟩
  | .init c => ⟨c, (blocks t).filter (away t c)⟩

/-- one event: fails (`none`) if the precondition is violated or a stale block is read -/
def step (t : RTree) (st : DSt) (e : DEv) : Option DSt :=
  if pre t st e && (reads t e).all (fun blk => !st.stale.contains blk) then some (apply t st e)
  else none

def run (t : RTree) : DSt → List DEv → Option DSt
  | st, [] => some st
  | st, e :: rest => (step t st e).bind fun st' => run t st' rest

/-- the invariant: every block pointing toward the centre is fresh -/
def Inv (t : RTree) (st : DSt) : Prop :=
  ∀ x h, x ∈ ids t → x ≠ st.centre → firstHop t x st.centre = some h → (x, h) ∉ st.stale

/-! ### The event sequences -/

/-- hops with cache update along a list of nodes -/
def movesAlong : List Nat → List DEv
  | a :: b :: rest => DEv.move a b :: movesAlong (b :: rest)
  | _ => []

def hopsAlong : List Nat → List DEv
  | a :: b :: rest => DEv.hop a b :: hopsAlong (b :: rest)
  | _ => []

/-- `FirstOrderOneSiteTDVP.run_one_time_step` without `_reset_for_next_time_step` -/
def firstBody (t : RTree) : List Nat → Option (List DEv)
  | a :: b :: rest => do
    let p ← pathFromTo t a b
    let h ← p[1]?
    let more ← firstBody t (b :: rest)
    some ([DEv.site a, DEv.link a h] ++ movesAlong (p.drop 1) ++ more)
  | [a] => some [DEv.site a]
  | [] => some []

/-- `_reset_for_next_time_step`: move the centre back to the start, new cache -/
def resetEvents (t : RTree) (last start : Nat) : Option (List DEv) := do
  let p ← pathFromTo t last start
  some (hopsAlong p ++ [DEv.init start])

def eventsFirst (t : RTree) : Option (List DEv) := do
  let u ← updatePath t
  let body ← firstBody t u
  let start ← u.head?
  let last ← u.getLast?
  let reset ← resetEvents t last start
  some (body ++ reset)

/-- `SecondOrderOneSiteTDVP.forward_sweep` and `_final_forward_update` -/
def secondFwd (t : RTree) : List Nat → Option (List DEv)
  | a :: b :: rest => do
    let p ← pathFromTo t a b
    let h ← p[1]?
    let more ← secondFwd t (b :: rest)
    some ([DEv.site a, DEv.link a h] ++ (if rest.isEmpty then [] else movesAlong (p.drop 1)) ++ more)
  | [a] => some [DEv.site a]
  | [] => some []

/-- `_normal_backward_update` for the nodes `b_1 …` of the reversed update path and
    `_final_backward_update` -/
def secondBwdAux (t : RTree) : List Nat → Option (List DEv)
  | a :: b :: rest => do
    let p ← pathFromTo t a b
    let q := p.dropLast
    let c ← q.getLast?
    let more ← secondBwdAux t (b :: rest)
    some ([DEv.site a] ++ movesAlong q ++ [DEv.link c b] ++ more)
  | [a] => some [DEv.site a]
  | [] => some []

/-- `backward_sweep`; `none` for a single node (`backwards_update_path[1]`) -/
def secondBwd (t : RTree) : List Nat → Option (List DEv)
  | b0 :: b1 :: rest => do
    let more ← secondBwdAux t (b1 :: rest)
    some (DEv.link b0 b1 :: more)
  | _ => none

def eventsSecond (t : RTree) : Option (List DEv) := do
  let u ← updatePath t
  let fwd ← secondFwd t u
  let bwd ← secondBwd t u.reverse
  some (fwd ++ bwd)

/-- `SecondOrderTwoSiteTDVP.forward_sweep`; `none` for a single node (`update_path[-2]`) -/
def twoFwd (t : RTree) : List Nat → Option (List DEv)
  | a :: b :: c :: rest => do
    let p ← pathFromTo t a b
    let h ← p[1]?
    let more ← twoFwd t (b :: c :: rest)
    some ([DEv.two a h, DEv.site h] ++ (if rest.isEmpty then [] else movesAlong (p.drop 1)) ++ more)
  | [a, b] => some [DEv.two a b]
  | _ => none

/-- `normal_backwards_update` for `i = 1 …` (`a = b_i`, `b = b_{i+1}` of the reversed path); the
    code walks the *reversed forward* orthogonalisation path -/
def twoBwdAux (t : RTree) : List Nat → Option (List DEv)
  | a :: b :: rest => do
    let p ← pathFromTo t b a
    let q := (p.drop 1).reverse
    let tgt ← q.getLast?
    let more ← twoBwdAux t (b :: rest)
    some (movesAlong q ++ [DEv.site tgt, DEv.two tgt b] ++ more)
  | _ => some []

def twoBwd (t : RTree) : List Nat → Option (List DEv)
  | b0 :: b1 :: rest => do
    let more ← twoBwdAux t (b1 :: rest)
    some (DEv.two b0 b1 :: more)
  | _ => none

def eventsTwoSite (t : RTree) : Option (List DEv) := do
  let u ← updatePath t
  let fwd ← twoFwd t u
  let bwd ← twoBwd t u.reverse
  some (fwd ++ bwd)

/-- the state after the constructor: centre at the start of the update path, fresh cache -/
def initState (t : RTree) : Option DSt :=
  (updatePath t).bind fun u => u.head?.map fun s => ⟨s, (blocks t).filter (away t s)⟩

def showEv : DEv → String
  | .site v => s!"site {v}"
  | .move a b => s!"move {a}>{b}"
  | .link a b => s!"link {a}>{b}"
  | .two a b => s!"two {a}>{b}"
  | .hop a b => s!"hop {a}>{b}"
  | .init c => s!"init {c}"

end Ptn.C05.Disc
