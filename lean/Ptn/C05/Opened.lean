import Ptn.C05.Ctx
/-! A tree with some nodes taken out (`Opened`), for every layer — a family `nl i parent children` of node tensors: kets,
operators, bras or all three (`Λ.nodeLeaves` for a C04 `Layer R`, `soNodeLeaves` for the three together).  It is proved for the site in the hole of a context (`site_opened`), for the bond into the
hole with no node removed (`link_opened`) and for an adjacent pair (`pair_opened`); the tree-level, whole-program and
canonical theorems read the splits they need off its fields. -/
namespace Ptn.C05.Heff
open Ptn.C04 Ptn.Ein

variable {R : Type}

/-- The tree `T0` with the nodes `xs` (listed with parent and children, as in `Tree.info`) taken out: `X nl` / `part nl`
are the tensors of a layer `nl` at `xs` / at the other nodes `ids`, `Ed` the edges among `ids`, `rest` the edges cut. -/
structure Opened (T0 : Tree) (xs : List (Nat × Option Nat × List Nat))
    (X part : (R : Type) → (Nat → Option Nat → List Nat → List (LeafT R)) → List (LeafT R))
    (ids : List Nat) (rest Ed : List (Nat × Nat)) : Prop where
  mem : ∀ x ∈ xs, x ∈ Tree.info none T0
  sub : ∀ R nl, ∀ lf ∈ X R nl, ∃ x ∈ xs, lf ∈ nl x.1 x.2.1 x.2.2
  leaves : ∀ R nl, (X R nl ++ part R nl).Perm (treeLeaves nl none T0)
  ids_perm : T0.ids.Perm (xs.map (·.1) ++ ids)
  edges_perm : T0.edges.Perm (rest ++ Ed)
  ends : ∀ e ∈ Ed, e.1 ∈ ids ∧ e.2 ∈ ids

namespace Opened
variable {T0 : Tree} {xs : List (Nat × Option Nat × List Nat)}
  {X part : (R : Type) → (Nat → Option Nat → List Nat → List (LeafT R)) → List (LeafT R)} {ids : List Nat}
  {rest Ed : List (Nat × Nat)}

theorem ids_nodup (O : Opened T0 xs X part ids rest Ed) (hnd : T0.ids.Nodup) : ids.Nodup :=
  (List.nodup_append.1 (O.ids_perm.nodup_iff.1 hnd)).2.1

theorem ids_disjoint (O : Opened T0 xs X part ids rest Ed) (hnd : T0.ids.Nodup) :
    ∀ x ∈ xs, ∀ n ∈ ids, x.1 ≠ n := fun _ hx n hn =>
  (List.nodup_append.1 (O.ids_perm.nodup_iff.1 hnd)).2.2 _ (List.mem_map_of_mem hx) n hn

/-- the bonds `g` of all edges, as unordered pairs: the cut ones (given in any orientation and order) and those among
`ids` -/
theorem bonds (O : Opened T0 xs X part ids rest Ed) (g : Nat × Nat → Leg × Leg) {inner : List (Leg × Leg)}
    (hin : (unordL inner).Perm (unordL (rest.map g))) :
    (unordL (T0.edges.map g)).Perm (unordL (inner ++ Ed.map g)) := by
  refine (unordL_perm (O.edges_perm.map g)).trans ?_
  rw [List.map_append]
  exact unordL_append_congr hin.symm (List.Perm.refl _)

end Opened

theorem perm_insert_mid {α : Type} (l1 x l2 : List α) : (l1 ++ (x ++ l2)).Perm ((l1 ++ l2) ++ x) := by
  classical
  rw [List.perm_iff_count]
  intro z
  simp only [List.count_append]
  omega

namespace Ctx

/-- every node of the component above the hole `h`, with its parent and its ordered children (the hole included) -/
def info : Ctx → Nat → List (Nat × Option Nat × List Nat)
  | root, _ => []
  | frame p ls rs up, h =>
    (p, up.parent, ls.map Tree.id ++ h :: rs.map Tree.id) :: (Tree.infoL p (ls ++ rs) ++ up.info p)

/-- the node tensors of the component above the hole `h`, for a general layer `nl` (hence `G`) -/
def leavesG (nl : Nat → Option Nat → List Nat → List (LeafT R)) : Ctx → Nat → List (LeafT R)
  | root, _ => []
  | frame p ls rs up, h =>
    nl p up.parent (ls.map Tree.id ++ h :: rs.map Tree.id) ++ (treeLeavesL nl p (ls ++ rs) ++ up.leavesG nl p)

theorem leavesG_of_root (nl : Nat → Option Nat → List Nat → List (LeafT R)) {c : Ctx} (h : c.parent = none) (x : Nat) :
    c.leavesG nl x = [] := by
  cases c with
  | root => rfl
  | frame p ls rs up => simp [parent] at h

theorem mem_info_plug : ∀ (c : Ctx) (t : Tree) (e : Nat × Option Nat × List Nat),
    (e ∈ c.info t.id ∨ e ∈ Tree.info c.parent t) → e ∈ Tree.info none (c.plug t)
  | root, t, e, h => by simpa [info, plug, parent] using h
  | frame p ls rs up, t, e, h => by
    apply mem_info_plug up (Tree.node p (ls ++ t :: rs)) e
    have hid : (Tree.node p (ls ++ t :: rs)).id = p := rfl
    rw [hid]
    simp only [Tree.info, List.mem_cons, Tree.infoL_append, Tree.infoL, List.mem_append, List.map_append, List.map_cons]
    have hpar : (frame p ls rs up).parent = some p := rfl
    simp only [info, hpar, List.mem_cons, List.mem_append, Tree.infoL_append] at h
    rcases h with (h | (h | h) | h) | h
    · exact Or.inr (Or.inl h)
    · exact Or.inr (Or.inr (Or.inl h))
    · exact Or.inr (Or.inr (Or.inr (Or.inr h)))
    · exact Or.inl h
    · exact Or.inr (Or.inr (Or.inr (Or.inl h)))

theorem plug_leaves_perm (nl : Nat → Option Nat → List Nat → List (LeafT R)) : ∀ (c : Ctx) (t : Tree),
    (treeLeaves nl none (c.plug t)).Perm (c.leavesG nl t.id ++ treeLeaves nl c.parent t)
  | root, t => by simp [plug, leavesG, parent]
  | frame p ls rs up, t => by
    refine (plug_leaves_perm nl up (Tree.node p (ls ++ t :: rs))).trans ?_
    have hid : (Tree.node p (ls ++ t :: rs)).id = p := rfl
    have hsplit : (treeLeavesL nl p (ls ++ t :: rs)).Perm (treeLeavesL nl p (ls ++ rs) ++ treeLeaves nl (some p) t) := by
      rw [treeLeavesL_eq, treeLeavesL_eq, List.flatMap_append, List.flatMap_cons, List.flatMap_append]
      exact perm_insert_mid _ _ _
    rw [hid]
    simp only [treeLeaves, leavesG, parent, List.map_append, List.map_cons]
    classical
    have hc := fun z => hsplit.count_eq z
    rw [List.perm_iff_count]
    intro z
    have := hc z
    simp only [List.count_append] at this ⊢
    omega

theorem plug_edges_frame_perm (c : Ctx) (p : Nat) (hp : c.parent = some p) (t : Tree) :
    (c.plug t).edges.Perm ((p, t.id) :: (c.compEdges ++ t.edges)) := by
  refine (plug_edges_perm c t).trans ?_
  simp [edges, hp]

end Ctx

theorem edges_mem_ids (t : Tree) : ∀ e ∈ t.edges, e.1 ∈ t.ids ∧ e.2 ∈ t.ids := by
  induction t using Tree.induct with
  | node i ks ih =>
    intro e he
    rw [Tree.edges, Tree.edgesL_eq, List.mem_flatMap] at he
    obtain ⟨c, hc, he⟩ := he
    have hsub := fun j hj => List.mem_cons_of_mem i (Tree.kid_ids_sub ks c hc j hj)
    rcases List.mem_cons.1 he with rfl | he
    · exact ⟨List.mem_cons_self, hsub _ (Tree.id_mem_ids c)⟩
    · exact ⟨hsub _ (ih c hc e he).1, hsub _ (ih c hc e he).2⟩

theorem Ctx.compEdges_mem_ids : ∀ (c : Ctx) (e : Nat × Nat), e ∈ c.compEdges → e.1 ∈ c.ids ∧ e.2 ∈ c.ids
  | .root, e, h => by simp [Ctx.compEdges] at h
  | .frame p ls rs up, e, h => by
    simp only [Ctx.compEdges, List.mem_append, List.mem_map] at h
    simp only [Ctx.ids, List.mem_cons, List.mem_append]
    rcases h with h | ⟨q, hq, rfl⟩ | h
    · have := edges_mem_ids (.node p (ls ++ rs)) e h
      simp only [Tree.ids, List.mem_cons] at this
      exact ⟨this.1.imp id Or.inl, this.2.imp id Or.inl⟩
    · exact ⟨Or.inr (Or.inr (Ctx.parent_mem_ids (by simpa using hq))), Or.inl rfl⟩
    · have := Ctx.compEdges_mem_ids up e h
      exact ⟨Or.inr (Or.inr this.1), Or.inr (Or.inr this.2)⟩

theorem Ctx.envEdges_mem_ids (c : Ctx) (ks : List Tree) (e : Nat × Nat)
    (he : e ∈ c.compEdges ++ ks.flatMap Tree.edges) :
    e.1 ∈ c.ids ++ Tree.idsL ks ∧ e.2 ∈ c.ids ++ Tree.idsL ks := by
  rcases List.mem_append.1 he with h | h
  · have := Ctx.compEdges_mem_ids c e h
    exact ⟨List.mem_append.2 (Or.inl this.1), List.mem_append.2 (Or.inl this.2)⟩
  · obtain ⟨k, hk, h⟩ := List.mem_flatMap.1 h
    have := edges_mem_ids k e h
    have hkk := Tree.kid_ids_sub ks k hk
    exact ⟨List.mem_append.2 (Or.inr (hkk _ this.1)), List.mem_append.2 (Or.inr (hkk _ this.2))⟩

theorem Ctx.linkEdges_mem_ids (c : Ctx) (t : Tree) (e : Nat × Nat) (he : e ∈ c.compEdges ++ t.edges) :
    e.1 ∈ c.ids ++ t.ids ∧ e.2 ∈ c.ids ++ t.ids := by
  simpa [Tree.idsL] using Ctx.envEdges_mem_ids c [t] e (by simpa using he)

/-- the edges of the tree that do not touch the site -/
def envEdges (c : Ctx) (ks : List Tree) : List (Nat × Nat) := c.compEdges ++ ks.flatMap Tree.edges

theorem envLeaves_perm (nl : Nat → Option Nat → List Nat → List (LeafT R)) (c : Ctx) (i : Nat) (ks : List Tree) :
    (nl i c.parent (ks.map Tree.id) ++ (c.leavesG nl i ++ treeLeavesL nl i ks)).Perm
      (treeLeaves nl none (c.plug (Tree.node i ks))) :=
  ((Ctx.plug_leaves_perm nl c (Tree.node i ks)).trans (List.perm_append_comm_assoc _ _ _)).symm

theorem envEdges_perm (c : Ctx) (i : Nat) (ks : List Tree) :
    (c.plug (Tree.node i ks)).edges.Perm
      ((c.parent.toList.map (fun p => (p, i)) ++ ks.map (fun k => (i, k.id))) ++ envEdges c ks) := by
  refine (Ctx.plug_edges_perm c (Tree.node i ks)).trans ?_
  have h2 := edgesL_perm i ks
  have hid : (Tree.node i ks).id = i := rfl
  rw [hid]
  simp only [Ctx.edges, Tree.edges, envEdges]
  rw [List.perm_iff_count]
  intro x
  have := h2.count_eq x
  simp only [List.count_append] at this ⊢
  omega

theorem site_mem_info (c : Ctx) (i : Nat) (ks : List Tree) :
    (i, c.parent, ks.map Tree.id) ∈ Tree.info none (c.plug (Tree.node i ks)) :=
  Ctx.mem_info_plug c (Tree.node i ks) _ (Or.inr (by simp [Tree.info]))

theorem site_opened (c : Ctx) (i : Nat) (ks : List Tree) :
    Opened (c.plug (Tree.node i ks)) [(i, c.parent, ks.map Tree.id)] (fun _ nl => nl i c.parent (ks.map Tree.id))
      (fun _ nl => c.leavesG nl i ++ treeLeavesL nl i ks) (c.ids ++ Tree.idsL ks)
      (c.parent.toList.map (fun p => (p, i)) ++ ks.map (fun k => (i, k.id))) (envEdges c ks) where
  mem := fun _ hx => List.mem_singleton.1 hx ▸ site_mem_info c i ks
  sub := fun _ _ _ h => ⟨_, List.mem_singleton_self _, h⟩
  leaves := fun _ nl => envLeaves_perm nl c i ks
  ids_perm := (Ctx.plug_ids_perm c _).trans List.perm_middle
  edges_perm := envEdges_perm c i ks
  ends := Ctx.envEdges_mem_ids c ks

theorem link_opened (c : Ctx) (p : Nat) (hpar : c.parent = some p) (t : Tree) :
    Opened (c.plug t) [] (fun _ _ => []) (fun _ nl => c.leavesG nl t.id ++ treeLeaves nl c.parent t) (c.ids ++ t.ids)
      [(p, t.id)] (c.compEdges ++ t.edges) where
  mem := fun _ hx => nomatch hx
  sub := fun _ _ _ h => nomatch h
  leaves := fun _ nl => (Ctx.plug_leaves_perm nl c t).symm
  ids_perm := Ctx.plug_ids_perm c t
  edges_perm := Ctx.plug_edges_frame_perm c p hpar t
  ends := Ctx.linkEdges_mem_ids c t

theorem Ctx.pair_ids_perm (up : Ctx) (a b : Nat) (ls rs ks : List Tree) :
    ((Ctx.frame a ls rs up).plug (Tree.node b ks)).ids.Perm (a :: b :: (up.ids ++ Tree.idsL ((ls ++ rs) ++ ks))) := by
  refine (Ctx.plug_ids_perm _ _).trans ?_
  rw [List.perm_iff_count]
  intro z
  simp only [Ctx.ids, Tree.ids, Tree.idsL_append, List.cons_append, List.count_append, List.count_cons]
  omega

/-- the edges of the tree that touch neither `a` nor `b` -/
def pairEnvEdges (up : Ctx) (ls rs ks : List Tree) : List (Nat × Nat) :=
  up.compEdges ++ ((ls ++ rs) ++ ks).flatMap Tree.edges

theorem pairEnvLeaves_perm (nl : Nat → Option Nat → List Nat → List (LeafT R)) (up : Ctx) (a b : Nat)
    (ls rs ks : List Tree) :
    ((nl a up.parent (ls.map Tree.id ++ b :: rs.map Tree.id) ++ nl b (some a) (ks.map Tree.id)) ++
      (up.leavesG nl a ++ (treeLeavesL nl a (ls ++ rs) ++ treeLeavesL nl b ks))).Perm
      (treeLeaves nl none ((Ctx.frame a ls rs up).plug (Tree.node b ks))) := by
  have h := Ctx.plug_leaves_perm nl (Ctx.frame a ls rs up) (Tree.node b ks)
  refine List.Perm.trans ?_ h.symm
  have hid : (Tree.node b ks).id = b := rfl
  rw [hid]
  simp only [treeLeaves, Ctx.leavesG, Ctx.parent]
  classical
  rw [List.perm_iff_count]
  intro z
  simp only [List.count_append]
  omega

theorem pairEnvEdges_perm (up : Ctx) (a b : Nat) (ls rs ks : List Tree) :
    ((Ctx.frame a ls rs up).plug (Tree.node b ks)).edges.Perm
      (((a, b) :: ((ls ++ rs).map (fun c => (a, c.id)) ++ (up.parent.toList.map (fun q => (q, a)) ++
        ks.map (fun c => (b, c.id))))) ++ pairEnvEdges up ls rs ks) := by
  refine (Ctx.plug_edges_frame_perm (Ctx.frame a ls rs up) a rfl (Tree.node b ks)).trans ?_
  have h1 := edgesL_perm a (ls ++ rs)
  have h2 := edgesL_perm b ks
  have hid : (Tree.node b ks).id = b := rfl
  rw [hid]
  simp only [Ctx.compEdges, Tree.edges, pairEnvEdges]
  classical
  rw [List.perm_iff_count]
  intro z
  have c1 := h1.count_eq z
  have c2 := h2.count_eq z
  simp only [List.flatMap_append, List.count_append, List.count_cons, List.cons_append] at c1 c2 ⊢
  omega

def pairInfo (up : Ctx) (a b : Nat) (ls rs ks : List Tree) : List (Nat × Option Nat × List Nat) :=
  [(a, up.parent, ls.map Tree.id ++ b :: rs.map Tree.id), (b, some a, ks.map Tree.id)]

theorem pairInfo_mem (up : Ctx) (a b : Nat) (ls rs ks : List Tree) :
    ∀ x ∈ pairInfo up a b ls rs ks, x ∈ Tree.info none ((Ctx.frame a ls rs up).plug (Tree.node b ks)) := by
  intro x hx
  rcases List.mem_cons.1 hx with rfl | hx
  · exact Ctx.mem_info_plug _ (Tree.node b ks) _ (Or.inl (by simp [Ctx.info, Tree.id]))
  · rw [List.mem_singleton.1 hx]
    exact Ctx.mem_info_plug _ (Tree.node b ks) _ (Or.inr (by simp [Tree.info, Ctx.parent]))

theorem pair_opened (up : Ctx) (a b : Nat) (ls rs ks : List Tree) :
    Opened ((Ctx.frame a ls rs up).plug (Tree.node b ks)) (pairInfo up a b ls rs ks)
      (fun _ nl => nl a up.parent (ls.map Tree.id ++ b :: rs.map Tree.id) ++ nl b (some a) (ks.map Tree.id))
      (fun _ nl => up.leavesG nl a ++ (treeLeavesL nl a (ls ++ rs) ++ treeLeavesL nl b ks))
      (up.ids ++ Tree.idsL ((ls ++ rs) ++ ks))
      ((a, b) :: ((ls ++ rs).map (fun c => (a, c.id)) ++ (up.parent.toList.map (fun q => (q, a)) ++
        ks.map (fun c => (b, c.id))))) (pairEnvEdges up ls rs ks) where
  mem := pairInfo_mem up a b ls rs ks
  sub := fun _ _ _ h => (List.mem_append.1 h).elim (fun h => ⟨_, List.mem_cons_self, h⟩)
    fun h => ⟨_, List.mem_cons_of_mem _ (List.mem_singleton_self _), h⟩
  leaves := fun _ nl => pairEnvLeaves_perm nl up a b ls rs ks
  ids_perm := Ctx.pair_ids_perm up a b ls rs ks
  edges_perm := pairEnvEdges_perm up a b ls rs ks
  ends := Ctx.envEdges_mem_ids up ((ls ++ rs) ++ ks)

end Ptn.C05.Heff
