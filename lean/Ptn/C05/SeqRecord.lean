import Ptn.C05.SeqExpr
/-! The record of the canonical contraction program `seqExpr P L`.

If no leg is named twice in the record `P`, every leg of `P` is a label of the leaf tensors `L` (pairwise distinct
labels) and no pair of `P` joins two legs of the same leaf, then `seqExpr P L` is strongly well-formed and binds, as
a multiset of unordered pairs, exactly `P`: every pair is bound at the step that adds the later of its two leaves. -/
namespace Ptn.C05.Heff
open Ptn.C04 Ptn.Ein

set_option linter.unusedSectionVars false
variable {R : Type} [CommSemiring R]

theorem mem_pairLegs {P : List (Leg × Leg)} {l : Leg} :
    l ∈ Expr.pairLegs P ↔ ∃ q ∈ P, q.1 = l ∨ q.2 = l := by
  simp only [Expr.pairLegs, List.mem_append, List.mem_map]
  constructor
  · rintro (⟨q, hq, h⟩ | ⟨q, hq, h⟩)
    · exact ⟨q, hq, Or.inl h⟩
    · exact ⟨q, hq, Or.inr h⟩
  · rintro ⟨q, hq, h | h⟩
    · exact Or.inl ⟨q, hq, h⟩
    · exact Or.inr ⟨q, hq, h⟩

/-- no leg named twice: two pairs of the record that share a leg are the same pair, and its two legs differ -/
theorem pairLegs_unique : ∀ (P : List (Leg × Leg)), (Expr.pairLegs P).Nodup → ∀ p ∈ P, ∀ q ∈ P, ∀ l : Leg,
    (p.1 = l ∨ p.2 = l) → (q.1 = l ∨ q.2 = l) → p = q ∧ p.1 ≠ p.2
  | [], _, p, hp, _, _, _, _, _ => by simp at hp
  | a :: P', hnd, p, hp, q, hq, l, hpl, hql => by
    have hnd' := (pairLegs_cons_perm a P').nodup_iff.1 hnd
    simp only [List.nodup_cons, List.mem_cons, not_or] at hnd'
    obtain ⟨⟨ha12, ha1⟩, ha2, hP'⟩ := hnd'
    have hin : ∀ r ∈ P', ∀ x, (r.1 = x ∨ r.2 = x) → x ∈ Expr.pairLegs P' := fun r hr x hx =>
      mem_pairLegs.2 ⟨r, hr, hx⟩
    rcases List.mem_cons.1 hp with rfl | hp' <;> rcases List.mem_cons.1 hq with rfl | hq'
    · exact ⟨rfl, ha12⟩
    · exfalso
      have := hin q hq' l hql
      rcases hpl with h | h
      · exact ha1 (h ▸ this)
      · exact ha2 (h ▸ this)
    · exfalso
      have := hin p hp' l hpl
      rcases hql with h | h
      · exact ha1 (h ▸ this)
      · exact ha2 (h ▸ this)
    · exact pairLegs_unique P' hP' p hp' q hq' l hpl hql

theorem seqPairs_legs_sub {P : List (Leg × Leg)} {fr lg : List Leg} {l : Leg}
    (h : l ∈ Expr.pairLegs (seqPairs P fr lg)) : l ∈ Expr.pairLegs P := by
  obtain ⟨q, hq, hl⟩ := mem_pairLegs.1 h
  rcases (seqPairs_mem hq).2.2 with hm | hm
  · exact mem_pairLegs.2 ⟨q, hm, hl⟩
  · exact mem_pairLegs.2 ⟨q.swap, hm, by simpa [or_comm] using hl⟩

theorem seqPairs_cons (a : Leg × Leg) (P : List (Leg × Leg)) (fr lg : List Leg) :
    seqPairs (a :: P) fr lg = seqPairs P fr lg ∨ seqPairs (a :: P) fr lg = a :: seqPairs P fr lg ∨
      seqPairs (a :: P) fr lg = a.swap :: seqPairs P fr lg := by
  simp only [seqPairs, List.filterMap_cons]
  by_cases h1 : a.1 ∈ fr ∧ a.2 ∈ lg
  · rw [if_pos h1]; exact Or.inr (Or.inl rfl)
  · rw [if_neg h1]
    by_cases h2 : a.2 ∈ fr ∧ a.1 ∈ lg
    · rw [if_pos h2]; exact Or.inr (Or.inr rfl)
    · rw [if_neg h2]; exact Or.inl rfl

theorem seqPairs_legs_nodup : ∀ (P : List (Leg × Leg)) (fr lg : List Leg), (Expr.pairLegs P).Nodup →
    (Expr.pairLegs (seqPairs P fr lg)).Nodup
  | [], _, _, _ => by simp [seqPairs, Expr.pairLegs]
  | a :: P', fr, lg, hnd => by
    have hnd' := (pairLegs_cons_perm a P').nodup_iff.1 hnd
    simp only [List.nodup_cons, List.mem_cons, not_or] at hnd'
    obtain ⟨⟨ha12, ha1⟩, ha2, hP'⟩ := hnd'
    have ih := seqPairs_legs_nodup P' fr lg hP'
    have h1 : a.1 ∉ Expr.pairLegs (seqPairs P' fr lg) := fun h => ha1 (seqPairs_legs_sub h)
    have h2 : a.2 ∉ Expr.pairLegs (seqPairs P' fr lg) := fun h => ha2 (seqPairs_legs_sub h)
    rcases seqPairs_cons a P' fr lg with h | h | h
    · rw [h]; exact ih
    · rw [h, (pairLegs_cons_perm _ _).nodup_iff]
      simp only [List.nodup_cons, List.mem_cons, not_or]
      exact ⟨⟨ha12, h1⟩, h2, ih⟩
    · rw [h, (pairLegs_cons_perm _ _).nodup_iff]
      simp only [List.nodup_cons, List.mem_cons, not_or, Prod.fst_swap, Prod.snd_swap]
      exact ⟨⟨fun h => ha12 h.symm, h2⟩, h1, ih⟩

theorem seqFold_swf (P : List (Leg × Leg)) (hP : (Expr.pairLegs P).Nodup) : ∀ (L : List (LeafT R))
    (acc : Expr Leg R), acc.SWF → (acc.labels ++ labelsOf L).Nodup → (∀ lf ∈ L, DependsOn (· ∈ lf.1) lf.2) →
    (seqFold P acc L).SWF
  | [], acc, h, _, _ => by simpa [seqFold] using h
  | lf :: rest, acc, h, hnd, hloc => by
    rw [seqFold]
    have hnd0 := hnd
    simp only [labelsOf, List.flatMap_cons] at hnd0
    rw [← List.append_assoc] at hnd0
    apply seqFold_swf P hP rest
    · have hpl := seqPairs_legs_nodup P acc.free lf.1 hP
      simp only [Expr.pairLegs, List.nodup_append] at hpl
      refine ⟨h, ⟨?_, hloc lf (by simp)⟩, ?_, ?_, hpl.1, hpl.2.1⟩
      · exact (List.nodup_append.1 (List.nodup_append.1 hnd0).1).2.1
      · intro l hl hl'
        simp only [Expr.labels] at hl'
        exact (List.nodup_append.1 (List.nodup_append.1 hnd0).1).2.2 l hl l hl' rfl
      · intro p hp
        have := seqPairs_mem hp
        exact ⟨this.1, this.2.1⟩
    · simpa [Expr.labels, labelsOf] using hnd0
    · intro lf' hlf'
      exact hloc lf' (by simp [hlf'])

theorem seqExpr_swf (P : List (Leg × Leg)) (hP : (Expr.pairLegs P).Nodup) (L : List (LeafT R))
    (hnd : (labelsOf L).Nodup) (hloc : ∀ lf ∈ L, DependsOn (· ∈ lf.1) lf.2) : (seqExpr P L).SWF := by
  refine seqFold_swf P hP L (.leaf [] (fun _ => 1)) ?_ hnd hloc
  exact ⟨List.nodup_nil, fun σ τ _ => rfl⟩

theorem mem_seqPairs_of {P : List (Leg × Leg)} {fr lg : List Leg} {p : Leg × Leg} (hp : p ∈ P)
    (h : p.1 ∈ fr ∧ p.2 ∈ lg) : p ∈ seqPairs P fr lg := by
  simp only [seqPairs, List.mem_filterMap]
  exact ⟨p, hp, by rw [if_pos h]⟩

theorem mem_seqPairs_of_swap {P : List (Leg × Leg)} {fr lg : List Leg} {p : Leg × Leg} (hp : p ∈ P)
    (h1 : ¬ (p.1 ∈ fr ∧ p.2 ∈ lg)) (h : p.2 ∈ fr ∧ p.1 ∈ lg) : p.swap ∈ seqPairs P fr lg := by
  simp only [seqPairs, List.mem_filterMap]
  exact ⟨p, hp, by rw [if_neg h1, if_pos h]⟩

/-- Every pair of `P` between two labels of the finished program is bound.  Invariants of the accumulated program
`acc`, in the order of the hypotheses after the side conditions: a pair of `P` with both legs in `acc` is bound in
`acc`; every label of `acc` is free or bound; every bound pair comes from `P`.  A pair is bound at the step that adds the later of its two leaves: its
leg in `acc` is still free then, since another pair binding it would share a leg with it (`pairLegs_unique`). -/
theorem seqFold_cover (P : List (Leg × Leg)) (hP : (Expr.pairLegs P).Nodup) : ∀ (L : List (LeafT R))
    (acc : Expr Leg R), acc.WF → (acc.labels ++ labelsOf L).Nodup → (∀ lf ∈ L, DependsOn (· ∈ lf.1) lf.2) →
    (∀ p ∈ P, ∀ lf ∈ L, ¬ (p.1 ∈ lf.1 ∧ p.2 ∈ lf.1)) →
    (∀ p ∈ P, p.1 ∈ acc.labels → p.2 ∈ acc.labels → p ∈ acc.binds ∨ p.swap ∈ acc.binds) →
    (∀ l ∈ acc.labels, l ∈ acc.free ∨ l ∈ Expr.pairLegs acc.binds) →
    (∀ q ∈ acc.binds, q ∈ P ∨ q.swap ∈ P) →
    ∀ p ∈ P, p.1 ∈ acc.labels ++ labelsOf L → p.2 ∈ acc.labels ++ labelsOf L →
      p ∈ (seqFold P acc L).binds ∨ p.swap ∈ (seqFold P acc L).binds
  | [], acc, _, _, _, _, H1, _, _ => by
    intro p hp h1 h2
    simp only [labelsOf, List.flatMap_nil, List.append_nil] at h1 h2
    exact H1 p hp h1 h2
  | lf :: rest, acc, hwf, hnd, hloc, hsame, H1, H2, H3 => by
    rw [seqFold]
    have hnd0 := hnd
    simp only [labelsOf, List.flatMap_cons] at hnd0
    rw [← List.append_assoc] at hnd0
    have hdis : ∀ l ∈ acc.labels, l ∉ lf.1 := fun l hl hl' =>
      (List.nodup_append.1 (List.nodup_append.1 hnd0).1).2.2 l hl l hl' rfl
    have hfreeL : ∀ l ∈ acc.free, l ∈ acc.labels := Expr.free_sub_labels acc
    have hwf' : (Expr.dot acc (Expr.leaf lf.1 lf.2) (seqPairs P acc.free lf.1)).WF := by
      refine ⟨hwf, hloc lf (by simp), ?_, ?_⟩
      · intro l hl hl'
        simp only [Expr.labels] at hl'
        exact hdis l hl hl'
      · intro p hp
        have := seqPairs_mem hp
        exact ⟨this.1, this.2.1⟩
    -- a leg of `acc` paired with a leg of the new leaf is still free
    have hfree : ∀ p ∈ P, ∀ x y : Leg, ((p.1 = x ∧ p.2 = y) ∨ (p.2 = x ∧ p.1 = y)) → x ∈ acc.labels → y ∈ lf.1 →
        x ∈ acc.free := by
      intro p hp x y hxy hx hy
      rcases H2 x hx with h | h
      · exact h
      · exfalso
        obtain ⟨q, hq, hqx⟩ := mem_pairLegs.1 h
        have hpx : p.1 = x ∨ p.2 = x := by rcases hxy with h | h; exact Or.inl h.1; exact Or.inr h.1
        have hpy : p.1 = y ∨ p.2 = y := by rcases hxy with h | h; exact Or.inr h.2; exact Or.inl h.2
        have hyq : q.1 = y ∨ q.2 = y := by
          rcases H3 q hq with hm | hm
          · have := (pairLegs_unique P hP p hp q hm x hpx hqx).1
            rw [← this]; exact hpy
          · have := (pairLegs_unique P hP p hp q.swap hm x hpx (by simpa [or_comm] using hqx)).1
            rw [this] at hpy
            simpa [or_comm] using hpy
        have : y ∈ acc.labels := Expr.binds_sub_labels acc hwf y (mem_pairLegs.2 ⟨q, hq, hyq⟩)
        exact hdis y this hy
    have hlab : (Expr.dot acc (Expr.leaf lf.1 lf.2) (seqPairs P acc.free lf.1)).labels ++ labelsOf rest =
        acc.labels ++ labelsOf (lf :: rest) := by
      simp only [Expr.labels, labelsOf, List.flatMap_cons, List.append_assoc]
    intro p0 hp0 h10 h20
    refine seqFold_cover P hP rest _ hwf' (by rw [hlab]; exact hnd) ?_ ?_ ?_ ?_ ?_ p0 hp0
      (by rw [hlab]; exact h10) (by rw [hlab]; exact h20)
    · intro lf' hlf'
      exact hloc lf' (by simp [hlf'])
    · intro p hp lf' hlf'
      exact hsame p hp lf' (by simp [hlf'])
    · intro p hp h1 h2
      simp only [Expr.labels, List.mem_append] at h1 h2
      simp only [Expr.binds, List.append_nil, List.mem_append]
      rcases h1 with h1 | h1 <;> rcases h2 with h2 | h2
      · rcases H1 p hp h1 h2 with h | h
        · exact Or.inl (Or.inr h)
        · exact Or.inr (Or.inr h)
      · have hf := hfree p hp p.1 p.2 (Or.inl ⟨rfl, rfl⟩) h1 h2
        exact Or.inl (Or.inl (mem_seqPairs_of hp ⟨hf, h2⟩))
      · have hf := hfree p hp p.2 p.1 (Or.inr ⟨rfl, rfl⟩) h2 h1
        refine Or.inr (Or.inl (mem_seqPairs_of_swap hp ?_ ⟨hf, h1⟩))
        intro h
        exact hdis p.1 (hfreeL _ h.1) h1
      · exact absurd ⟨h1, h2⟩ (hsame p hp lf (by simp))
    · intro l hl
      simp only [Expr.labels, List.mem_append] at hl
      simp only [Expr.free, Expr.binds, List.append_nil, List.mem_append, List.mem_filter, Bool.not_eq_true',
        List.contains_eq_mem, decide_eq_false_iff_not]
      rcases hl with hl | hl
      · rcases H2 l hl with h | h
        · by_cases hb : l ∈ (seqPairs P acc.free lf.1).map Prod.fst
          · right
            obtain ⟨q, hq, hql⟩ := List.mem_map.1 hb
            exact mem_pairLegs.2 ⟨q, List.mem_append.2 (Or.inl hq), Or.inl hql⟩
          · exact Or.inl (Or.inl ⟨h, hb⟩)
        · right
          obtain ⟨q, hq, hql⟩ := mem_pairLegs.1 h
          exact mem_pairLegs.2 ⟨q, List.mem_append.2 (Or.inr hq), hql⟩
      · by_cases hb : l ∈ (seqPairs P acc.free lf.1).map Prod.snd
        · right
          obtain ⟨q, hq, hql⟩ := List.mem_map.1 hb
          exact mem_pairLegs.2 ⟨q, List.mem_append.2 (Or.inl hq), Or.inr hql⟩
        · exact Or.inl (Or.inr ⟨hl, hb⟩)
    · intro q hq
      simp only [Expr.binds, List.append_nil, List.mem_append] at hq
      rcases hq with hq | hq
      · exact (seqPairs_mem hq).2.2
      · exact H3 q hq

theorem unordL_nodup_of_pairLegs (l : List (Leg × Leg)) (h : (Expr.pairLegs l).Nodup) : (unordL l).Nodup := by
  have h0 := h
  simp only [Expr.pairLegs, List.nodup_append] at h0
  have hl : l.Nodup := List.Nodup.of_map _ h0.1
  rw [unordL, List.nodup_append]
  refine ⟨hl, hl.map Prod.swap_injective, ?_⟩
  intro a ha b hb hab
  subst hab
  obtain ⟨q, hq, hqa⟩ := List.mem_map.1 hb
  have hu := pairLegs_unique l h a ha q hq a.1 (Or.inl rfl) (Or.inr (by rw [← hqa]; rfl))
  have : a.1 = a.2 := by
    have h1 := hu.1
    rw [← h1] at hqa
    have := congrArg Prod.fst hqa
    simpa using this.symm
  exact hu.2 this

/-- **the record of the canonical program**: no leg named twice in `P`, every leg of `P` a label of the leaves, no
pair of `P` inside one leaf — then `seqExpr P L` binds, as a multiset of unordered pairs, exactly `P` -/
theorem seqExpr_record (P : List (Leg × Leg)) (hP : (Expr.pairLegs P).Nodup) (L : List (LeafT R))
    (hnd : (labelsOf L).Nodup) (hloc : ∀ lf ∈ L, DependsOn (· ∈ lf.1) lf.2)
    (hin : ∀ l ∈ Expr.pairLegs P, l ∈ labelsOf L)
    (hsame : ∀ p ∈ P, ∀ lf ∈ L, ¬ (p.1 ∈ lf.1 ∧ p.2 ∈ lf.1)) :
    (unordL (seqExpr P L).binds).Perm (unordL P) := by
  have hswf := seqExpr_swf P hP L hnd hloc
  have hn1 := unordL_nodup_of_pairLegs _ (Expr.binds_nodup _ hswf)
  have hn2 := unordL_nodup_of_pairLegs _ hP
  have hcover := seqFold_cover P hP L (Expr.leaf [] (fun _ => (1 : R))) (fun σ τ _ => rfl)
    hnd hloc hsame (by simp [Expr.labels]) (by simp [Expr.labels])
    (by simp [Expr.binds])
  have hcov : ∀ p ∈ P, p ∈ (seqExpr P L).binds ∨ p.swap ∈ (seqExpr P L).binds := fun p hp =>
    hcover p hp (hin p.1 (mem_pairLegs.2 ⟨p, hp, Or.inl rfl⟩)) (hin p.2 (mem_pairLegs.2 ⟨p, hp, Or.inr rfl⟩))
  rw [List.perm_ext_iff_of_nodup hn1 hn2]
  intro x
  have hm : ∀ l : List (Leg × Leg), x ∈ unordL l ↔ (x ∈ l ∨ x.swap ∈ l) := by
    intro l
    simp only [unordL, List.mem_append, List.mem_map]
    constructor
    · rintro (h | ⟨q, hq, rfl⟩)
      · exact Or.inl h
      · exact Or.inr (by simpa using hq)
    · rintro (h | h)
      · exact Or.inl h
      · exact Or.inr ⟨x.swap, h, by simp⟩
  rw [hm, hm]
  constructor
  · rintro (h | h)
    · exact seqExpr_binds_sub P L x h
    · have := seqExpr_binds_sub P L x.swap h
      simpa [or_comm] using this
  · rintro (h | h)
    · exact hcov x h
    · have := hcov x.swap h
      simpa [or_comm] using this

end Ptn.C05.Heff
