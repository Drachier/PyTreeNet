import Ptn.C05.Value
/-! `H_eff = E† H E` at the record level.  If the record `bb n` of the cached block behind neighbour `n` is — as a multiset of
unordered pairs — the sandwich record of the component behind `n` (`compRecord`: physical pairs `pout n`, `pin n`, ket /
operator / bra bonds `kb n`, `ob n`, `brb n`), then the record of the effective Hamiltonian of node `i` with the blocks
expanded is the record of "bra network without the site · TTNO · ket network without the site" (`projSpec`), and every
program with it evaluates to the projected Hamiltonian (`RecForm`, by `Expr.sandwich_of_record`). -/
namespace Ptn.C05.Heff
open Ptn.C04 Ptn.Ein

set_option linter.unusedSectionVars false
variable {R : Type} [CommSemiring R]

/-- the record of the sandwich network of one component -/
def compRecord (pout pin kb ob brb : Nat → List (Leg × Leg)) (n : Nat) : List (Leg × Leg) :=
  pout n ++ (pin n ++ (kb n ++ (ob n ++ brb n)))

/-- the record of `Σ_out (Σ_in E · H) · B` (the shape `Expr.sandwich_of_record` expects) -/
def projSpec (ppOut ppIn eb hb bbr : List (Leg × Leg)) : List (Leg × Leg) :=
  ppOut ++ ((ppIn ++ (eb ++ hb)) ++ bbr)

/-- The value clause of the record-level theorems: every strongly well-formed program `e` with the record `mb` evaluates
to `Σ_po (Σ_pi E·H)·B` for ANY well-formed `E`, `H`, `B` with the (unordered) records `kb`, `ob`, `brb`.  The theorems
`site / link / two_site_heff_is_projected_hamiltonian` write this clause out after `∃ m, … m.rows = … ∧ m.cols = … ∧`;
their proofs and everything that uses them work with `RecForm`. -/
def RecForm (R : Type) [CommSemiring R] (mb po pi kb ob brb : List (Leg × Leg)) : Prop :=
  ∀ (dim : Leg → Nat) (e E H B : Expr Leg R), e.SWF → E.WF → H.WF → B.WF →
    (∀ l ∈ E.labels, l ∉ H.labels) → (∀ l ∈ E.labels, l ∉ B.labels) → (∀ l ∈ H.labels, l ∉ B.labels) →
    e.binds.Perm mb →
    (unordL E.binds).Perm (unordL kb) → (unordL H.binds).Perm (unordL ob) → (unordL B.binds).Perm (unordL brb) →
    (∀ q ∈ pi, q.1 ∈ E.free ∧ q.2 ∈ H.free) →
    (∀ q ∈ po, (q.1 ∈ H.free ∧ q.1 ∉ pi.map Prod.snd) ∧ q.2 ∈ B.free) →
    (∀ q ∈ projSpec po pi E.binds H.binds B.binds, dim q.1 = dim q.2) →
    (∀ σ, e.leafProd σ = E.leafProd σ * H.leafProd σ * B.leafProd σ) →
    ∀ σ, e.eval dim σ =
      sumPairs dim po (fun τ => sumPairs dim pi (fun ρ => E.eval dim ρ * H.eval dim ρ) τ * B.eval dim τ) σ

theorem recForm_of_record {mb po pi kb ob brb : List (Leg × Leg)}
    (h : ∀ eb hb bbr : List (Leg × Leg), (unordL eb).Perm (unordL kb) → (unordL hb).Perm (unordL ob) →
      (unordL bbr).Perm (unordL brb) → (unordL mb).Perm (unordL (projSpec po pi eb hb bbr))) :
    RecForm R mb po pi kb ob brb := by
  intro dim e E H B he hE hH hB hEH hEB hHB heb hEb hHb hBb hin hout hdim hleaf σ
  exact Expr.sandwich_of_record dim e E H B he hE hH hB hEH hEB hHB _ _ _ hin hout (List.Perm.refl _)
    ((unordL_perm heb).trans (h _ _ _ hEb hHb hBb)) hdim hleaf σ

/-- the record of the projected Hamiltonian depends on the records of `E`, `H`, `B` only as multisets of unordered
pairs -/
theorem projSpec_congr (po pi : List (Leg × Leg)) {eb eb' hb hb' bbr bbr' : List (Leg × Leg)}
    (hE : (unordL eb).Perm (unordL eb')) (hH : (unordL hb).Perm (unordL hb')) (hB : (unordL bbr).Perm (unordL bbr')) :
    (unordL (projSpec po pi eb' hb' bbr')).Perm (unordL (projSpec po pi eb hb bbr)) :=
  unordL_append_congr (List.Perm.refl _)
    (unordL_append_congr (unordL_append_congr (List.Perm.refl _) (unordL_append_congr hE.symm hH.symm)) hB.symm)

/-- the record of a sandwich is additive: two sandwiches side by side, joined by the operator bonds `x`, are one -/
theorem projSpec_join (po po' pi pi' e e' h h' b b' x : List (Leg × Leg)) :
    ((projSpec po pi e h b ++ projSpec po' pi' e' h' b') ++ x).Perm
      (projSpec (po ++ po') (pi ++ pi') (e ++ e') (x ++ (h ++ h')) (b ++ b')) := by
  rw [List.perm_iff_count]
  intro z
  simp only [projSpec, List.count_append]
  omega

theorem compRecord_perm (pout pin kb ob brb : Nat → List (Leg × Leg)) (n : Nat) :
    (compRecord pout pin kb ob brb n).Perm (projSpec (pout n) (pin n) (kb n) (ob n) (brb n)) := by
  simp only [compRecord, projSpec, List.append_assoc]
  exact List.Perm.refl _

theorem site_record_perm (i : Nat) (ns : List Nat) (pout pin kb ob brb : Nat → List (Leg × Leg)) :
    (ns.flatMap fun n => compRecord pout pin kb ob brb n ++ [(Leg.gOp i n, Leg.gOp n i)]).Perm
      (projSpec (ns.flatMap pout) (ns.flatMap pin) (ns.flatMap kb) (opPairs i ns ++ ns.flatMap ob)
        (ns.flatMap brb)) := by
  refine (flatMap5_perm ns pout pin kb ob brb (fun n => (Leg.gOp i n, Leg.gOp n i))).trans ?_
  rw [List.perm_iff_count]
  intro x
  simp only [projSpec, opPairs, List.count_append]
  omega

/-- **record identity**: the record of `H_eff` (with the blocks' own records replaced by the sandwich records of
their components) is, as a multiset of unordered pairs, the record of the projected Hamiltonian -/
theorem heff_record_is_projected (i : Nat) (ns : List Nat) (pout pin kb ob brb : Nat → List (Leg × Leg))
    (eb hb bbr : List (Leg × Leg)) (hE : (unordL eb).Perm (unordL (ns.flatMap kb)))
    (hH : (unordL hb).Perm (unordL (opPairs i ns ++ ns.flatMap ob)))
    (hB : (unordL bbr).Perm (unordL (ns.flatMap brb))) :
    (unordL (ns.flatMap fun n => compRecord pout pin kb ob brb n ++ [(Leg.gOp i n, Leg.gOp n i)])).Perm
      (unordL (projSpec (ns.flatMap pout) (ns.flatMap pin) eb hb bbr)) := by
  exact (unordL_perm (site_record_perm i ns pout pin kb ob brb)).trans (projSpec_congr _ _ hE hH hB)

/-- **The single-site effective Hamiltonian is the projected Hamiltonian `E† H E` (record level).**
Under the hypotheses of `site_heff_graph`, let the record `bb n` of every cached block be — as a multiset of
unordered pairs — the sandwich record of the component behind `n`: physical pairs `pout n` / `pin n` and ket /
operator / bra bonds `kb n` / `ob n` / `brb n`.  All records are compared as multisets of UNORDERED pairs (the code
binds some bonds child-leg-first, some parent-leg-first).  Let `E` be ANY well-formed contraction of all ket tensors other
than the site's (record: all ket bonds of all components — the ket network without the site is the disjoint union
of the components), `H` ANY well-formed contraction of the WHOLE operator network (record: the operator bonds at
the site and inside all components), `B` ANY well-formed contraction of all other bra tensors.  Then every strongly
well-formed program `e` over all these tensors whose record is the record of `H_eff` (blocks expanded) evaluates,
for all dimensions that give both legs of every bound pair the same dimension, to
`H_eff[r; c] = Σ_{phys'} (Σ_{phys} E[phys; c] · H[phys', out; phys, in]) · B[phys'; r]`
— the open legs `c` (the ket legs toward the site, the site's input leg) and `r` (bra legs, output leg) are the
columns and rows proved by `site_heff_graph`. -/
theorem site_heff_is_projected_hamiltonian (i : Nat) (stateNode hamNode : Node) (bb : Nat → List (Leg × Leg))
    (cache : Cache) (hK : stateNode.nbrs.Nodup) (hperm : hamNode.nbrs.Perm stateNode.nbrs)
    (hcache : ∀ n ∈ hamNode.nbrs, cache n = some (gBlock n i (bb n)))
    (pout pin kb ob brb : Nat → List (Leg × Leg))
    (hbb : ∀ n ∈ hamNode.nbrs, (unordL (bb n)).Perm (unordL (compRecord pout pin kb ob brb n))) :
    ∃ m : Mat, getEffectiveSingleSiteHamiltonianNodes stateNode hamNode (gOpT i hamNode) cache = some m ∧
      m.rows = stateNode.nbrs.map (fun n => Leg.gBra n i) ++ [Leg.gOpOut i] ∧
      m.cols = stateNode.nbrs.map (fun n => Leg.gKet n i) ++ [Leg.gOpIn i] ∧
      ∀ (dim : Leg → Nat) (e E H B : Expr Leg R), e.SWF → E.WF → H.WF → B.WF →
        (∀ l ∈ E.labels, l ∉ H.labels) → (∀ l ∈ E.labels, l ∉ B.labels) → (∀ l ∈ H.labels, l ∉ B.labels) →
        e.binds.Perm m.binds →
        (unordL E.binds).Perm (unordL (hamNode.nbrs.flatMap kb)) →
        (unordL H.binds).Perm (unordL (opPairs i hamNode.nbrs ++ hamNode.nbrs.flatMap ob)) →
        (unordL B.binds).Perm (unordL (hamNode.nbrs.flatMap brb)) →
        (∀ p ∈ hamNode.nbrs.flatMap pin, p.1 ∈ E.free ∧ p.2 ∈ H.free) →
        (∀ p ∈ hamNode.nbrs.flatMap pout,
          (p.1 ∈ H.free ∧ p.1 ∉ (hamNode.nbrs.flatMap pin).map Prod.snd) ∧ p.2 ∈ B.free) →
        (∀ p ∈ projSpec (hamNode.nbrs.flatMap pout) (hamNode.nbrs.flatMap pin) E.binds H.binds B.binds,
          dim p.1 = dim p.2) →
        (∀ σ, e.leafProd σ = E.leafProd σ * H.leafProd σ * B.leafProd σ) →
        ∀ σ, e.eval dim σ =
          sumPairs dim (hamNode.nbrs.flatMap pout)
            (fun τ => sumPairs dim (hamNode.nbrs.flatMap pin) (fun ρ => E.eval dim ρ * H.eval dim ρ) τ *
              B.eval dim τ) σ := by
  refine ⟨_, site_heff_graph i stateNode hamNode bb cache hK hperm hcache, rfl, rfl,
    recForm_of_record fun eb hb bbr hEb hHb hBb => ?_⟩
  refine (unordL_flatMap_perm hamNode.nbrs _
    (fun n => compRecord pout pin kb ob brb n ++ [(Leg.gOp i n, Leg.gOp n i)]) ?_).trans
    (heff_record_is_projected i hamNode.nbrs pout pin kb ob brb _ _ _ hEb hHb hBb)
  intro n hn
  exact unordL_append_congr (hbb n hn) (List.Perm.refl _)

end Ptn.C05.Heff
