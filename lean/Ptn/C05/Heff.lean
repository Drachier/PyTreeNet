import Ptn.C04.Bra
import Ptn.C05.HeffTwo
/-! Effective Hamiltonians of TDVP in the C04 leg-label calculus: which legs each of the three functions returns as rows
and as columns, in which order, and which pairs it has bound (`site_heff_graph`, `link_heff_graph`,
`two_site_heff_graph`), each with a test vector.  `gBra n i` / `gKet n i` / `gOp n i` are the bra / ket / Hamiltonian legs of the cached block of
the subtree behind neighbour `n` toward node `i`; `gOp i n`, `gOpOut i`, `gOpIn i` the legs of the operator
tensor of node `i`.  The state tensor that is flattened next to the matrix has the legs
`(neighbours in the STATE node's order, physical leg)`. -/
namespace Ptn.C05.Heff
open Ptn.C04

/-- **Single site.**  For every neighbour order of the state node and every operator-node neighbour order
that is a permutation of it (root or not, any number of children):
rows = (bra legs of all neighbours in the STATE node's order, operator output leg),
columns = (ket legs in the same order, operator input leg), and the bound pairs are exactly
(operator leg toward `n`, Hamiltonian leg of block `n`) for every neighbour `n` (plus what the blocks
carry): the specification graph of `E†HE`, indexed like the state tensor. -/
theorem site_heff_graph (i : Nat) (stateNode hamNode : Node) (bb : Nat → List (Leg × Leg)) (cache : Cache)
    (hK : stateNode.nbrs.Nodup) (hperm : hamNode.nbrs.Perm stateNode.nbrs)
    (hcache : ∀ n ∈ hamNode.nbrs, cache n = some (gBlock n i (bb n))) :
    getEffectiveSingleSiteHamiltonianNodes stateNode hamNode (gOpT i hamNode) cache =
      some ⟨stateNode.nbrs.map (fun n => Leg.gBra n i) ++ [Leg.gOpOut i],
            stateNode.nbrs.map (fun n => Leg.gKet n i) ++ [Leg.gOpIn i],
            hamNode.nbrs.flatMap (fun n => bb n ++ [(Leg.gOp i n, Leg.gOp n i)])⟩ := by
  -- C04's loop lemma gives the legs of the contracted tensor: the operator's own two, then (ket, bra) of every block in
  -- the operator node's order; `getElem?_pairs` finds there the legs the permutation picks, and the transposition goes
  -- through because they are pairwise distinct and as many as the tensor has (`transposeT_of_pick`)
  have hmemO : ∀ n ∈ stateNode.nbrs, n ∈ hamNode.nbrs := fun n hn => hperm.mem_iff.2 hn
  have hloop := allLoop_general 1 (Leg.gOp i) (fun n => gBlock n i (bb n)) (fun n => Leg.gOp n i) cache hamNode
    hamNode.nbrs [Leg.gOpOut i, Leg.gOpIn i] [] (fun n hn => ⟨hcache n hn, by simp [gBlock]⟩)
  simp only [gBlock, List.eraseIdx_cons_succ, List.eraseIdx_cons_zero, List.nil_append] at hloop
  simp only [getEffectiveSingleSiteHamiltonianNodes, contractAllExceptNode, exceptNodeLoop_eq hamNode, gOpT, T.fresh,
    hloop, findTensorLegPermutation_eq stateNode hamNode hmemO]
  have hlen := hperm.length_eq
  generalize stateNode.nbrs = K at *
  generalize hamNode.nbrs = On at *
  have hget : ∀ n ∈ K,
      ([Leg.gOpOut i, Leg.gOpIn i] ++ On.flatMap (fun n => [Leg.gKet n i, Leg.gBra n i]))[2 * On.idxOf n + 2]?
        = some (Leg.gKet n i) ∧
      ([Leg.gOpOut i, Leg.gOpIn i] ++ On.flatMap (fun n => [Leg.gKet n i, Leg.gBra n i]))[2 * On.idxOf n + 2 + 1]?
        = some (Leg.gBra n i) := by
    intro n hn
    have hlt := List.idxOf_lt_length_of_mem (hmemO n hn)
    have := getElem?_pairs [Leg.gOpOut i, Leg.gOpIn i] On (fun n => Leg.gKet n i) (fun n => Leg.gBra n i) []
      (On.idxOf n) hlt
    simp only [List.append_nil, List.length_cons, List.length_nil, List.getElem_idxOf hlt] at this
    rwa [show 0 + 1 + 1 + 2 * On.idxOf n = 2 * On.idxOf n + 2 by omega] at this
  rw [transposeT_of_pick _ _ ((K.map (fun n => Leg.gBra n i) ++ [Leg.gOpOut i]) ++
      (K.map (fun n => Leg.gKet n i) ++ [Leg.gOpIn i]))]
  · exact matricisationHalf_append _ _ _ (by simp)
  · refine pick_append _ _ _ _ _ (pick_append _ _ _ _ _ ?_ (pick_single _ _ _ rfl))
      (pick_append _ _ _ _ _ (pick_map _ _ _ _ fun n hn => (hget n hn).1) (pick_single _ _ _ rfl))
    rw [List.map_map]
    exact pick_map _ _ _ _ fun n hn => (hget n hn).2
  · exact heff_legs_nodup K hK _ _ _ _ (fun _ _ _ _ e => by injection e) (fun _ _ _ _ e => by injection e)
      (by simp) (fun _ _ _ _ e => by cases e) (fun _ _ => by simp) (fun _ _ => by simp)
  · simp only [List.length_append, List.length_map, List.length_cons, List.length_nil, length_pairs, ← hlen]
    omega

example : getEffectiveSingleSiteHamiltonianNodes ⟨some 5, [1, 2, 3]⟩ ⟨some 5, [3, 1, 2]⟩ (gOpT 9 ⟨some 5, [3, 1, 2]⟩)
    (fun n => some (gBlock n 9 [])) =
    some ⟨[.gBra 5 9, .gBra 1 9, .gBra 2 9, .gBra 3 9, .gOpOut 9], [.gKet 5 9, .gKet 1 9, .gKet 2 9, .gKet 3 9, .gOpIn 9],
          [(.gOp 9 5, .gOp 5 9), (.gOp 9 3, .gOp 3 9), (.gOp 9 1, .gOp 1 9), (.gOp 9 2, .gOp 2 9)]⟩ := by decide +kernel

/-- **Link.**  The link node is `⟨parent p, child c⟩`, its tensor has the legs (toward `p`, toward `c`).  In
both orientations of the sweep (`node_id = c, next = p`: the link is the parent of `node_id`; `node_id = p,
next = c`) rows = bra legs, columns = ket legs of the two blocks in the link tensor's own leg order, and the
two Hamiltonian legs are bound to each other. -/
theorem link_heff_graph (p c : Nat) (hne : p ≠ c) (cache : Dict) (bp bc : List (Leg × Leg))
    (hp : cache (p, c) = some (gBlock p c bp)) (hc : cache (c, p) = some (gBlock c p bc)) :
    getEffectiveLinkHamiltonian ⟨some p, [c]⟩ c p cache =
      some ⟨[Leg.gBra p c, Leg.gBra c p], [Leg.gKet p c, Leg.gKet c p], bp ++ bc ++ [(Leg.gOp p c, Leg.gOp c p)]⟩ ∧
    getEffectiveLinkHamiltonian ⟨some p, [c]⟩ p c cache =
      some ⟨[Leg.gBra p c, Leg.gBra c p], [Leg.gKet p c, Leg.gKet c p], bp ++ bc ++ [(Leg.gOp p c, Leg.gOp c p)]⟩ := by
  constructor
  · simp only [getEffectiveLinkHamiltonian, hp, hc, gBlock]
    rw [if_neg (by simp), if_neg (by simp), if_pos (by simp)]
    rw [tensordot_one _ _ _ _ (Leg.gOp p c) (Leg.gOp c p) (by simp) (by simp)]
    simp [transposeT, pick, matricisationHalf]
  · simp only [getEffectiveLinkHamiltonian, hp, hc, gBlock]
    rw [if_neg (by simp), if_neg (by simp), if_neg (by simpa using hne)]
    rw [tensordot_one _ _ _ _ (Leg.gOp p c) (Leg.gOp c p) (by simp) (by simp)]
    simp [transposeT, pick, matricisationHalf]

example : getEffectiveLinkHamiltonian ⟨some 7, [4]⟩ 4 7
    (fun k => if k = (4, 7) then some (gBlock 4 7 []) else if k = (7, 4) then some (gBlock 7 4 []) else none) =
    some ⟨[.gBra 7 4, .gBra 4 7], [.gKet 7 4, .gKet 4 7], [(.gOp 7 4, .gOp 4 7)]⟩ := by decide +kernel

/-- **Two sites.**  `t` = target, `x` = next, operator nodes `hamT`, `hamX` with arbitrary neighbour orders;
`twoSite` = the state's contracted node, whose neighbours are any arrangement of the other neighbours of
`t` and of `x`.  Rows = (bra legs of the blocks in the two-site node's own neighbour order, output leg of
`t`, output leg of `x`), columns = (ket legs in the same order, input leg of `t`, input leg of `x`) — the
order `(virtual legs, open legs of target, open legs of next)` of the tensor produced by
`contract_nodes(target, next)`; every block's Hamiltonian leg is bound to the operator leg toward it and the
two operator tensors are bound along the bond `t — x`. -/
theorem two_site_heff_graph (t x : Nat) (hamT hamX twoSite : Node) (bT bX : Nat → List (Leg × Leg)) (cache : Dict)
    (hT : hamT.nbrs.Nodup) (hX : hamX.nbrs.Nodup) (hxT : x ∈ hamT.nbrs) (htX : t ∈ hamX.nbrs)
    (hdisj : ∀ n ∈ hamX.nbrs, n ∉ hamT.nbrs)
    (hS : twoSite.nbrs.Perm (hamT.nbrs.filter (· ≠ x) ++ hamX.nbrs.filter (· ≠ t)))
    (hcT : ∀ n ∈ hamT.nbrs, n ≠ x → cache (n, t) = some (gBlock n t (bT n)))
    (hcX : ∀ n ∈ hamX.nbrs, n ≠ t → cache (n, x) = some (gBlock n x (bX n))) :
    getEffectiveTwoSiteHamiltonian hamT hamX twoSite (gOpT t hamT) (gOpT x hamX) t x cache =
      some ⟨twoSite.nbrs.map (fun n => if n ∈ hamT.nbrs then Leg.gBra n t else Leg.gBra n x) ++
              [Leg.gOpOut t, Leg.gOpOut x],
            twoSite.nbrs.map (fun n => if n ∈ hamT.nbrs then Leg.gKet n t else Leg.gKet n x) ++
              [Leg.gOpIn t, Leg.gOpIn x],
            ((hamT.nbrs.filter (· ≠ x)).flatMap (fun n => bT n ++ [(Leg.gOp t n, Leg.gOp n t)]) ++
             (hamX.nbrs.filter (· ≠ t)).flatMap (fun n => bX n ++ [(Leg.gOp x n, Leg.gOp n x)])) ++
            [(Leg.gOp t x, Leg.gOp x t)]⟩ := by
  have hbT := allButOne_general 1 (Leg.gOp t) (fun n => gBlock n t (bT n)) (fun n => Leg.gOp n t)
    [Leg.gOpOut t, Leg.gOpIn t] (cache.cacheOf t) hamT x hT hxT
    (fun n hn hne => ⟨hcT n hn hne, by simp [gBlock]⟩)
  have hbX := allButOne_general 1 (Leg.gOp x) (fun n => gBlock n x (bX n)) (fun n => Leg.gOp n x)
    [Leg.gOpOut x, Leg.gOpIn x] (cache.cacheOf x) hamX t hX htX
    (fun n hn hne => ⟨hcX n hn hne, by simp [gBlock]⟩)
  simp only [gBlock, List.eraseIdx_cons_succ, List.eraseIdx_cons_zero] at hbT hbX
  have hScases : ∀ n ∈ twoSite.nbrs,
      n ∈ hamT.nbrs.filter (· ≠ x) ∨ (n ∉ hamT.nbrs ∧ n ∈ hamX.nbrs.filter (· ≠ t)) := by
    intro n hn
    rcases List.mem_append.1 (hS.mem_iff.1 hn) with h | h
    · exact Or.inl h
    · exact Or.inr ⟨hdisj n (List.mem_filter.1 h).1, h⟩
  have hperm := twoSiteInputLegs_eq t x hamT hamX hT hX hxT htX hdisj twoSite.nbrs
    (fun n hn => (hScases n hn).imp_right And.right)
  simp only [getEffectiveTwoSiteHamiltonian, contractAllExceptTwoNodes, contractAllButOneNeighbourBlockToHamiltonian,
    gOpT, hbT, hbX, determineTwoSiteLegPermutation_eq t x hamT hamX twoSite _ hperm]
  rw [tensordot_one _ _ _ _ (Leg.gOp t x) (Leg.gOp x t) (by simp) (by simp)]
  have hSnd : twoSite.nbrs.Nodup := by
    refine hS.nodup_iff.2 (List.nodup_append.2 ⟨nodup_filter _ hT, nodup_filter _ hX, ?_⟩)
    intro a ha b hb e
    exact hdisj b (List.mem_filter.1 hb).1 (e ▸ (List.mem_filter.1 ha).1)
  have htx : t ≠ x := fun h => hdisj t htX (h ▸ hxT)
  have hox := twoLegs_op t x hamT hamX hT hxT
  -- the contracted tensor has the legs `twoLegs`, where `twoLegs_pos` / `twoLegs_op` locate what the permutation picks
  show (match transposeT ⟨twoLegs t x hamT hamX, _⟩ _ with | none => none | some t => matricisationHalf t) = _
  rw [transposeT_of_pick _ _ ((twoSite.nbrs.map (fun n => if n ∈ hamT.nbrs then Leg.gBra n t else Leg.gBra n x) ++
        [Leg.gOpOut t, Leg.gOpOut x]) ++
      (twoSite.nbrs.map (fun n => if n ∈ hamT.nbrs then Leg.gKet n t else Leg.gKet n x) ++
        [Leg.gOpIn t, Leg.gOpIn x]))]
  · exact matricisationHalf_append _ _ _ (by simp)
  · refine pick_append _ _ _ _ _ (pick_append _ _ _ _ _ ?_ ?_) (pick_append _ _ _ _ _
      (pick_map _ _ _ _ fun n hn => (twoLegs_pos t x hamT hamX hT hxT n (hScases n hn)).1) ?_)
    · rw [List.map_map]
      exact pick_map _ _ _ _ fun n hn => (twoLegs_pos t x hamT hamX hT hxT n (hScases n hn)).2
    · have h0 : (twoLegs t x hamT hamX)[0]? = some (Leg.gOpOut t) := rfl
      simp only [pick, hox.1, h0]
    · have h1 : (twoLegs t x hamT hamX)[1]? = some (Leg.gOpIn t) := rfl
      simp only [List.map_cons, List.map_nil, pick, hox.2, Nat.zero_add, h1]
  · refine heff_legs_nodup _ hSnd _ _ _ _ ?_ ?_ (by simp [htx]) ?_ ?_ ?_
    · intro a _ b _ e; split at e <;> split at e <;> injection e
    · intro a _ b _ e; split at e <;> split at e <;> injection e
    · intro a _ b _ e; split at e <;> split at e <;> cases e
    · intro a _; split <;> simp
    · intro a _; split <;> simp
  · have := hS.length_eq
    simp only [List.length_append, List.length_map, List.length_cons, List.length_nil, length_twoLegs] at this ⊢
    omega

example : getEffectiveTwoSiteHamiltonian ⟨some 0, [2, 3]⟩ ⟨some 1, [4, 5]⟩ ⟨some 0, [3, 5, 4]⟩
    (gOpT 1 ⟨some 0, [2, 3]⟩) (gOpT 2 ⟨some 1, [4, 5]⟩) 1 2
    (fun k => if (k.2 = 1 ∧ k.1 ∈ [0, 3]) ∨ (k.2 = 2 ∧ k.1 ∈ [4, 5]) then some (gBlock k.1 k.2 []) else none) =
    some ⟨[.gBra 0 1, .gBra 3 1, .gBra 5 2, .gBra 4 2, .gOpOut 1, .gOpOut 2],
          [.gKet 0 1, .gKet 3 1, .gKet 5 2, .gKet 4 2, .gOpIn 1, .gOpIn 2],
          [(.gOp 1 0, .gOp 0 1), (.gOp 1 3, .gOp 3 1), (.gOp 2 4, .gOp 4 2), (.gOp 2 5, .gOp 5 2), (.gOp 1 2, .gOp 2 1)]⟩ := by
  decide +kernel

-- hypothesis `hS` of `two_site_heff_graph` for the test vector above
example : ([0, 3, 5, 4] : List Nat).Perm (([0, 2, 3] : List Nat).filter (· ≠ 2) ++ ([1, 4, 5] : List Nat).filter (· ≠ 1)) := by
  decide +kernel

end Ptn.C05.Heff
