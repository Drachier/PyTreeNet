import Ptn.C05.ProjectedTree
import Ptn.C05.WholeProgramLink
import Ptn.C05.SiteProjected
/-! `H_link = E† H E` for every edge of every tree with the canonical `E`, `H`, `B` — no quantified split: `E`, `B` are
the canonical contractions of the ket / bra tensors of all nodes over all bonds except the bond into the hole. -/
namespace Ptn.C05.Heff
open Ptn.C04 Ptn.Ein

set_option linter.unusedSectionVars false
variable {R : Type} [CommSemiring R]

/-- the tensors of the layer `Λ` at ALL nodes: component above the hole, then the subtree in the hole -/
def linkEnvLeaves (Λ : Layer R) (c : Ctx) (t : Tree) : List (LeafT R) :=
  c.leavesG Λ.nodeLeaves t.id ++ treeLeaves Λ.nodeLeaves c.parent t

/-- the bonds of the layer except the bond into the hole -/
def linkEnvRecord (Λ : Layer R) (c : Ctx) (t : Tree) : List (Leg × Leg) :=
  (c.compEdges ++ t.edges).map fun e => Λ.edge e.1 e.2

def linkEnvExpr (Λ : Layer R) (c : Ctx) (t : Tree) : Expr Leg R :=
  seqExpr (linkEnvRecord Λ c t) (linkEnvLeaves Λ c t)

theorem linkEnvExpr_facts (Λ : Layer R) (hs : Λ.Inj) (hnode : ∀ a b, legNode (Λ.vleg a b) = some a)
    (c : Ctx) (p : Nat) (hpar : c.parent = some p) (t : Tree) (hnd : (c.plug t).ids.Nodup)
    (hh : ∀ e ∈ Tree.info none (c.plug t), Λ.Has e)
    (hok : ∀ e ∈ Tree.info none (c.plug t), NodeOK Λ.nodeLeaves e)
    (hloc : ∀ e ∈ Tree.info none (c.plug t), DependsOn (· ∈ Λ.legs e.1 e.2.1 e.2.2) (Λ.val e.1)) :
    (linkEnvExpr Λ c t).SWF ∧
      (linkEnvExpr Λ c t).leaves = ([], fun _ => 1) :: linkEnvLeaves Λ c t ∧
      (unordL (linkEnvExpr Λ c t).binds).Perm (unordL (linkEnvRecord Λ c t)) ∧
      (∀ l ∈ labelsOf (treeLeaves Λ.nodeLeaves none (c.plug t)), l ∈ labelsOf (linkEnvLeaves Λ c t)) ∧
      (∀ l, (∀ a b, l ≠ Λ.vleg a b) → l ∈ labelsOf (linkEnvLeaves Λ c t) → l ∈ (linkEnvExpr Λ c t).free) :=
  have h := partEnv_facts Λ hs hnode _ hnd hh hok hloc (link_opened c p hpar t) _ rfl
  ⟨h.1, h.2.1, h.2.2.1, fun l hl => h.2.2.2.1 l hl (fun _ hx => nomatch hx), h.2.2.2.2⟩

/-- the canonical ket network with the bond into the hole opened -/
def linkEnvKet (kv : Nat → Asg Leg → R) (c : Ctx) (t : Tree) : Expr Leg R := linkEnvExpr (ketLayer kv) c t
/-- the canonical bra network with the bond into the hole opened -/
def linkEnvBra (bv : Nat → Asg Leg → R) (c : Ctx) (t : Tree) : Expr Leg R := linkEnvExpr (braLayerK bv) c t

/-- **`H_link = E† H E` with the canonical `E`, `H`, `B`: every edge of every tree, both sweep orientations** —
`canonical_core` in the setting of `link_heff_whole_program`: `linkEnvKet`, `opAll`, `linkEnvBra` read exactly `linkLeaves`
(the ket, operator and bra tensor of EVERY node), bind all ket bonds except `p — t.id`, all operator bonds, all bra bonds
except `p — t.id`, and the matrix both orientations return has the value `Σ_{phys'} (Σ_{phys} linkEnvKet · opAll) · linkEnvBra`. -/
theorem link_heff_eq_projected (c : Ctx) (p : Nat) (hpar : c.parent = some p) (t : Tree)
    (hnd : (c.plug t).ids.Nodup) (opKids : Nat → List Nat)
    (hperm : ∀ e ∈ Tree.info none (c.plug t), (opKids e.1).Perm e.2.2)
    (kv ov bv : Nat → Asg Leg → R) (hkv : KetLocal kv (c.plug t))
    (hov : OpLocalK ov opKids (c.plug t)) (hbv : BraLocalK bv (c.plug t))
    (cache : Dict)
    (hp : cache (p, t.id) = some (gBlock p t.id c.blockBinds)) (hc : cache (t.id, p) = some (soBlock t p)) :
    (linkEnvKet kv c t).SWF ∧ (opAll ov opKids (c.plug t)).SWF ∧ (linkEnvBra bv c t).SWF ∧
    (linkEnvLeaves (ketLayer kv) c t ++ ((opAll ov opKids (c.plug t)).leaves ++
      linkEnvLeaves (braLayerK bv) c t)).Perm (linkLeaves opKids kv ov bv c t) ∧
    (linkEnvKet kv c t).leaves = ([], fun _ => 1) :: linkEnvLeaves (ketLayer kv) c t ∧
    (linkEnvBra bv c t).leaves = ([], fun _ => 1) :: linkEnvLeaves (braLayerK bv) c t ∧
    (unordL (linkEnvKet kv c t).binds).Perm (unordL ((c.compEdges ++ t.edges).map fun e => ketEdge e.1 e.2)) ∧
    (opAll ov opKids (c.plug t)).binds.Perm ((c.plug t).edges.map fun e => opEdge e.1 e.2) ∧
    (unordL (linkEnvBra bv c t).binds).Perm (unordL ((c.compEdges ++ t.edges).map fun e => braEdge e.1 e.2)) ∧
    (∀ n ∈ c.ids ++ t.ids, Leg.gKetPhys n ∈ (linkEnvKet kv c t).free ∧
      Leg.gOpIn n ∈ (opAll ov opKids (c.plug t)).free ∧
      Leg.gOpOut n ∈ (opAll ov opKids (c.plug t)).free ∧ Leg.gBraPhys n ∈ (linkEnvBra bv c t).free) ∧
    ∃ m : Mat, getEffectiveLinkHamiltonian ⟨some p, [t.id]⟩ t.id p cache = some m ∧
      getEffectiveLinkHamiltonian ⟨some p, [t.id]⟩ p t.id cache = some m ∧
      m.rows = [Leg.gBra p t.id, Leg.gBra t.id p] ∧ m.cols = [Leg.gKet p t.id, Leg.gKet t.id p] ∧
      BuiltL m.toT (linkLeaves opKids kv ov bv c t) ∧
      ∀ e : Expr Leg R, Built m.toT e → e.leaves.Perm (linkLeaves opKids kv ov bv c t) →
        e.SWF ∧ e.binds.Perm m.binds ∧ e.free.Perm (m.rows ++ m.cols) ∧
        ∀ (dim : Leg → Nat),
          (∀ q ∈ projSpec ((c.ids ++ t.ids).map physOut) ((c.ids ++ t.ids).map physIn)
            ((c.compEdges ++ t.edges).map fun e => ketEdge e.1 e.2)
            ((c.plug t).edges.map fun e => opEdge e.1 e.2)
            ((c.compEdges ++ t.edges).map fun e => braEdge e.1 e.2), dim q.1 = dim q.2) →
          ∀ σ, e.eval dim σ =
            sumPairs dim ((c.ids ++ t.ids).map physOut)
              (fun τ => sumPairs dim ((c.ids ++ t.ids).map physIn)
                (fun ρ => (linkEnvKet kv c t).eval dim ρ * (opAll ov opKids (c.plug t)).eval dim ρ) τ *
                (linkEnvBra bv c t).eval dim τ) σ := by
  obtain ⟨f1, f2, f3, f4, f5, f6, f7, f8, f9, f10, hcore⟩ :=
    canonical_core (c.plug t) hnd opKids hperm kv ov bv hkv hov hbv (link_opened c p hpar t) [] _ (List.Perm.refl _)
      (linkLeaves_perm opKids kv ov bv c t) (linkEnvKet kv c t) (linkEnvBra bv c t) rfl rfl
  refine ⟨f1, f2, f3, f4, f5, f6, f7, f8, f9, f10, ?_⟩
  obtain ⟨m, hm1, hm2, hr, hcl, hbuilt, _, _⟩ :=
    link_heff_whole_program c p hpar t hnd opKids hperm kv ov bv hkv hov hbv cache hp hc
  obtain ⟨m', hm', _, _, _, hval⟩ := link_heff_projected_tree (R := R) c p hpar t hnd cache hp hc
  have hmm : m' = m := Option.some.inj (hm'.symm.trans hm1)
  subst hmm
  exact ⟨m', hm1, hm2, hr, hcl, hbuilt, hcore m' hval⟩

end Ptn.C05.Heff
