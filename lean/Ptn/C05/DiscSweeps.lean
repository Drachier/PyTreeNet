import Ptn.C05.DiscSeq
/-! The sweeps of the three TDVP variants as sequences of events: each is a route of the centre from the first node
of its list to the last one. -/
namespace Ptn.C05.Disc
open Ptn.C17 Ptn.C17.RTree

/-- With the last two nodes adjacent the second-order forward sweep is the first-order body: the moves
    it leaves out before its last update would go along the one-edge way `[y, z]`, and those are none. -/
theorem secondFwd_eq_firstBody {t : RTree} (hwf : t.WF) : ∀ (rest : List Nat) (a : Nat),
    (∀ l y z, a :: rest = l ++ [y, z] → Adj t y z) → secondFwd t (a :: rest) = firstBody t (a :: rest)
  | [], _, _ => rfl
  | [b], a, h2 => by
    rw [secondFwd, firstBody, pathFromTo_adj hwf (h2 [] a b rfl)]
    rfl
  | b :: c :: rest, a, h2 => by
    have ih := secondFwd_eq_firstBody hwf (c :: rest) b (fun l y z e => h2 (a :: l) y z (by simp [e]))
    rw [secondFwd, firstBody, ih]
    rfl

/-- a generator that emits the events of the head pair and recurses on the tail is a route if each segment is -/
theorem routes_of_segments {t : RTree} {f : List Nat → Option (List DEv)}
    (base : ∀ a, a ∈ ids t → ∃ evs, f [a] = some evs ∧ Route t a evs a)
    (step : ∀ a b rest more, a ∈ ids t → b ∈ ids t → a ≠ b → f (b :: rest) = some more →
      ∃ s, f (a :: b :: rest) = some (s ++ more) ∧ Route t a s b) :
    ∀ (rest : List Nat) (a : Nat), (∀ y ∈ a :: rest, y ∈ ids t) → (a :: rest).Nodup → Routes t f a rest
  | [], a, hm, _ =>
    let ⟨evs, h, hr⟩ := base a (hm a (by simp))
    ⟨evs, a, h, rfl, hr⟩
  | b :: rest, a, hm, hnd => by
    have hnd' := List.nodup_cons.mp hnd
    obtain ⟨more, l, hmore, hlast, hok⟩ :=
      routes_of_segments base step rest b (fun y hy => hm y (by simp [hy])) hnd'.2
    obtain ⟨s, hs, hr⟩ := step a b rest more (hm a (by simp)) (hm b (by simp)) (fun e => hnd'.1 (by simp [e])) hmore
    exact ⟨s ++ more, l, hs, by rw [List.getLast?_cons_cons]; exact hlast, hr.append hok⟩

theorem firstBody_route {t : RTree} (hwf : t.WF) : ∀ (rest : List Nat) (a : Nat),
    (∀ y ∈ a :: rest, y ∈ ids t) → (a :: rest).Nodup →
    Routes t (firstBody t) a rest :=
  routes_of_segments (fun a ha => ⟨[.site a], rfl, .site ha (.nil a)⟩) fun a b rest more ha hb hab hmore => by
    obtain ⟨h, r, hp, hah, hch, hl, _⟩ := path_facts hwf ha hb hab
    refine ⟨[.site a, .link a h] ++ movesAlong (h :: r), ?_,
      .site ha (.link hah (Route.moves r h (chain_tail hch) hl))⟩
    rw [firstBody, hp, hmore]
    rfl

theorem secondFwd_route {t : RTree} (hwf : t.WF) (rest : List Nat) (a : Nat)
    (hm : ∀ y ∈ a :: rest, y ∈ ids t) (hnd : (a :: rest).Nodup)
    (hlast2 : ∀ l y z, a :: rest = l ++ [y, z] → Adj t y z) :
    Routes t (secondFwd t) a rest := by
  rw [Routes, secondFwd_eq_firstBody hwf rest a hlast2]
  exact firstBody_route hwf rest a hm hnd

theorem secondBwdAux_route {t : RTree} (hwf : t.WF) : ∀ (rest : List Nat) (a : Nat),
    (∀ y ∈ a :: rest, y ∈ ids t) → (a :: rest).Nodup →
    Routes t (secondBwdAux t) a rest :=
  routes_of_segments (fun a ha => ⟨[.site a], rfl, .site ha (.nil a)⟩) fun a b rest more ha hb hab hmore => by
    obtain ⟨h, _, q, _, hp, _, hch, hl, hhb, _⟩ := way_back hwf ha hb (Ne.symm hab)
    refine ⟨[.site a] ++ movesAlong (a :: q) ++ [.link h b], ?_,
      .site ha ((Route.moves q a hch hl).append (.link hhb (.nil b)))⟩
    simp only [secondBwdAux, hp, Option.bind_eq_bind, Option.bind_some, List.dropLast_concat, hl, hmore]

theorem secondBwd_route {t : RTree} (hwf : t.WF) (rest : List Nat) (b0 b1 : Nat)
    (hm : ∀ y ∈ b0 :: b1 :: rest, y ∈ ids t) (hnd : (b0 :: b1 :: rest).Nodup)
    (hadj : Adj t b0 b1) :
    Routes t (secondBwd t) b0 (b1 :: rest) := by
  obtain ⟨more, l, hmore, hlast, hok⟩ := secondBwdAux_route hwf rest b1
    (fun y hy => hm y (by simp [hy])) (List.nodup_cons.mp hnd).2
  refine ⟨.link b0 b1 :: more, l, by simp [secondBwd, hmore], ?_, .link hadj hok⟩
  rw [List.getLast?_cons_cons]; exact hlast

theorem twoFwd_route {t : RTree} (hwf : t.WF) : ∀ (rest : List Nat) (a b : Nat),
    (∀ y ∈ a :: b :: rest, y ∈ ids t) → (a :: b :: rest).Nodup →
    (∀ l y z, a :: b :: rest = l ++ [y, z] → Adj t y z) →
    (∀ l x y z, a :: b :: rest = l ++ [x, y, z] → Adj t x y) →
    Routes t (twoFwd t) a (b :: rest)
  | [], a, b, _, _, hlast2, _ =>
    ⟨[.two a b], b, by simp [twoFwd], by simp, .two (hlast2 [] a b rfl) (.nil b)⟩
  | c :: rest, a, b, hm, hnd, hlast2, hlast3 => by
    have hnd' := List.nodup_cons.mp hnd
    have hab : a ≠ b := fun e => hnd'.1 (by simp [e])
    obtain ⟨more, l, hmore, hlast, hok⟩ := twoFwd_route hwf rest b c
      (fun y hy => hm y (by simp [hy])) hnd'.2
      (fun l y z e => hlast2 (a :: l) y z (by simp [e]))
      (fun l x y z e => hlast3 (a :: l) x y z (by simp [e]))
    obtain ⟨h, r, hp, hah, hch, hl, hpm⟩ := path_facts hwf (hm a (by simp)) (hm b (by simp)) hab
    -- the moves left out before the last pair would go along the one-edge way `[a, b]`: none
    have hmv : (if rest.isEmpty then [] else movesAlong (h :: r)) = movesAlong (h :: r) := by
      cases rest with
      | nil =>
        rw [pathFromTo_adj hwf (hlast3 [] a b c rfl)] at hp
        cases hp
        rfl
      | cons _ _ => rfl
    refine ⟨[.two a h, .site h] ++ movesAlong (h :: r) ++ more, l, ?_, ?_, ?_⟩
    · rw [twoFwd, hp, hmore, ← hmv]
      rfl
    · rw [List.getLast?_cons_cons]; exact hlast
    · exact .two hah (.site (hpm h (by simp)) ((Route.moves r h (chain_tail hch) hl).append hok))

theorem twoBwdAux_route {t : RTree} (hwf : t.WF) : ∀ (rest : List Nat) (a : Nat),
    (∀ y ∈ a :: rest, y ∈ ids t) → (a :: rest).Nodup →
    Routes t (twoBwdAux t) a rest :=
  routes_of_segments (fun a _ => ⟨[], rfl, .nil a⟩) fun a b rest more ha hb hab hmore => by
    obtain ⟨h, r, q, hp, _, hq, hch, hl, hhb, hh⟩ := way_back hwf ha hb (Ne.symm hab)
    refine ⟨movesAlong (a :: q) ++ [.site h, .two h b], ?_,
      (Route.moves q a hch hl).append (.site hh (.two hhb (.nil b)))⟩
    simp only [twoBwdAux, hp, Option.bind_eq_bind, Option.bind_some, List.drop_succ_cons,
      List.drop_zero, hq, hl, hmore]

theorem twoBwd_route {t : RTree} (hwf : t.WF) (rest : List Nat) (b0 b1 : Nat)
    (hm : ∀ y ∈ b0 :: b1 :: rest, y ∈ ids t) (hnd : (b0 :: b1 :: rest).Nodup)
    (hadj : Adj t b0 b1) :
    Routes t (twoBwd t) b0 (b1 :: rest) := by
  obtain ⟨more, l, hmore, hlast, hok⟩ := twoBwdAux_route hwf rest b1
    (fun y hy => hm y (by simp [hy])) (List.nodup_cons.mp hnd).2
  refine ⟨.two b0 b1 :: more, l, by simp [twoBwd, hmore], ?_, .two hadj hok⟩
  rw [List.getLast?_cons_cons]; exact hlast


end Ptn.C05.Disc
