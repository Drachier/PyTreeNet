import Ptn.C05.ProjectedTreeAll
import Ptn.C05.HeffLoopValue
import Ptn.C04.ValueOp
/-! One program from the node tensors to the matrix handed to `time_evolve`, for the single-site function.  The
provenance lemmas of C04 / C05 say "inputs built ⟹ output built from the leaves of the inputs" (`BuiltL`) for arbitrary
leaf lists of the inputs, so composing them along the tree is the substitution of the built expressions of the blocks
into the built expression of the effective Hamiltonian.  `nb_blocks_built`: every block in the cache of a hole is built
from the node tensors behind its neighbour (`nbLeaves`).  `whole_split_facts` and `whole_core` join provenance and value
for the site here and for the link and the pair in `WholeProgramLink/Two`. -/
namespace Ptn.C05.Heff
open Ptn.C04 Ptn.Ein

set_option linter.unusedSectionVars false
variable {R : Type}

/-! no decidable equality on leaf tensors: permutations by classical counting -/

theorem perm_ket_blocks_op_bra {α : Type} (k o b : α) (A B : List α) :
    ((([k] ++ (A ++ B)) ++ [o]) ++ [b]).Perm ([k, o, b] ++ (B ++ A)) := by
  classical
  rw [List.perm_iff_count]
  intro z
  simp only [List.count_append, List.count_cons, List.count_nil]
  omega

/-- **The cached block of a subtree is built from the node tensors of the subtree** (C04 `soBlock_built` with the
networks instantiated): ket, operator (own child order `opKids`) and bra tensor of every node of `t`. -/
theorem soBlock_built_free (opKids : Nat → List Nat) (kv ov bv : Nat → Asg Leg → R) (t : Tree) (p : Nat)
    (hnd : t.ids.Nodup) (hp : p ∉ t.ids) (hperm : ∀ e ∈ Tree.info (some p) t, (opKids e.1).Perm e.2.2) :
    BuiltL (soBlock t p) (soLeaves opKids kv ov bv (some p) t) := by
  have hnd2 : (Tree.node p [t]).ids.Nodup := by
    simp only [Tree.ids, Tree.idsL, List.append_nil, List.nodup_cons]
    exact ⟨hp, hnd⟩
  have hsub : ∀ e ∈ Tree.info (some p) t, e ∈ Tree.info none (Tree.node p [t]) := fun e he => by
    simp [Tree.info, Tree.infoL, he]
  refine soBlock_built (netOf (Tree.node p [t]) (fun _ ks => ks) gKetT)
    (netOf (Tree.node p [t]) (fun i _ => opKids i) gOpT) opKids kv ov bv t p hnd hp ?_
  intro e he
  have h1 := netOf_node (Tree.node p [t]) (fun _ ks => ks) gKetT hnd2 e (hsub e he)
  have h2 := netOf_node (Tree.node p [t]) (fun i _ => opKids i) gOpT hnd2 e (hsub e he)
  exact ⟨h1.1, h1.2, h2.1, h2.2, hperm e he⟩

/-- a block found in the table of leaf-to-root blocks is built from the node tensors of its subtree -/
theorem kid_block_built (opKids : Nat → List Nat) (kv ov bv : Nat → Asg Leg → R) (ts : List Tree) (i n : Nat) (blk : T)
    (hS : (Tree.idsL ts).Nodup) (hi : i ∉ Tree.idsL ts) (hinfo : ∀ e ∈ Tree.infoL i ts, (opKids e.1).Perm e.2.2)
    (hblk : soKidBlock ts i (n, i) = some blk) :
    BuiltL blk (lvOf (soLeaves opKids kv ov bv (some i)) ts n) := by
  cases hk : ts.find? (fun c => c.id == n) with
  | none => simp [soKidBlock, hk] at hblk
  | some k =>
    obtain ⟨hkm, _⟩ := find_kid hk
    simp only [soKidBlock, hk, if_true, Option.map_some, Option.some.injEq] at hblk
    subst hblk
    simp only [lvOf, hk, Option.map_some, Option.getD_some]
    refine soBlock_built_free opKids kv ov bv k i (nodup_of_flatMap (Tree.idsL_eq ts ▸ hS) k hkm)
      (fun hm => hi (Tree.kid_ids_sub ts k hkm i hm)) fun e he => hinfo e ?_
    rw [Tree.infoL_eq]
    exact List.mem_flatMap.2 ⟨k, hkm, he⟩

/-! ### the blocks around a hole

For the node `i` in the hole of `c` above the subtrees `ks`, `nbLeaves .. n` are the node tensors behind the neighbour
`n` (the component above the hole, or a child's subtree), as `nbIds`, `nbEdges`, `nbBlock` are its identifiers, edges
and the record of its block. -/

def nbLeaves (opKids : Nat → List Nat) (kv ov bv : Nat → Asg Leg → R) (c : Ctx) (ks : List Tree) (i : Nat) :
    Nat → List (LeafT R) :=
  selNb c ks (c.leavesG (soNodeLeaves opKids kv ov bv) i) (soLeaves opKids kv ov bv (some i))

theorem flatMap_nbLeaves (opKids : Nat → List Nat) (kv ov bv : Nat → Asg Leg → R) {c : Ctx} {ks : List Tree} (i : Nat)
    {ns : List Nat} (hall : (c.ids ++ Tree.idsL ks).Nodup) (hN : ns.Perm (c.parent.toList ++ ks.map Tree.id)) :
    (ns.flatMap (nbLeaves opKids kv ov bv c ks i)).Perm
      (c.leavesG (soNodeLeaves opKids kv ov bv) i ++ treeLeavesL (soNodeLeaves opKids kv ov bv) i ks) := by
  rw [treeLeavesL_eq]
  exact flatMap_selNb c ks _ _ ns (fun h => Ctx.leavesG_of_root _ h i) hall hN

theorem nb_blocks_built_of (opKids : Nat → List Nat) (kv ov bv : Nat → Asg Leg → R) (c : Ctx) (ks : List Tree) (i : Nat)
    (hpar : ∀ q, c.parent = some q → BuiltL (gBlock q i c.blockBinds) (c.leavesG (soNodeLeaves opKids kv ov bv) i))
    (hS : (Tree.idsL ks).Nodup) (hiK : i ∉ Tree.idsL ks) (hinfoK : ∀ e ∈ Tree.infoL i ks, (opKids e.1).Perm e.2.2)
    (n : Nat) (blk : T) (hblk : siteCache c ks i n = some blk) : BuiltL blk (nbLeaves opKids kv ov bv c ks i n) := by
  by_cases hq : c.parent = some n
  · simp only [siteCache, if_pos hq, Option.some.injEq] at hblk
    subst hblk
    simp only [nbLeaves, selNb, if_pos hq]
    exact hpar n hq
  · simp only [siteCache, if_neg hq] at hblk
    simp only [nbLeaves, selNb, if_neg hq]
    exact kid_block_built opKids kv ov bv ks i n blk hS hiK hinfoK hblk

namespace Ctx

theorem frame_nbrs_nodup (up : Ctx) (ls rs : List Tree) (h : Nat) (hall : (up.ids ++ Tree.idsL (ls ++ rs)).Nodup)
    (hh : h ∉ up.ids ++ Tree.idsL (ls ++ rs)) :
    (up.parent.toList ++ (ls.map Tree.id ++ h :: rs.map Tree.id)).Nodup := by
  obtain ⟨hnb, hsub⟩ := nb_nodup hall
  rw [List.map_append] at hnb hsub
  have hp : (up.parent.toList ++ (ls.map Tree.id ++ h :: rs.map Tree.id)).Perm
      (h :: (up.parent.toList ++ (ls.map Tree.id ++ rs.map Tree.id))) := by
    rw [← List.append_assoc, ← List.append_assoc]
    exact List.perm_middle
  exact hp.nodup_iff.2 (List.nodup_cons.2 ⟨fun hm => hh (hsub h hm), hnb⟩)

/-- **The top-down block is built from the node tensors of the component above the hole.**  For every context with
distinct identifiers (the hole's identifier `h` not among them) whose operator nodes list their children in the orders
`opKids` (any permutations): the block from the parent `p` toward the hole — record `blockBinds`, returned by the
model's `contract_any(p, h)` (`ctx_block_is_model`) when the cache of `p` holds the leaf-to-root blocks of the siblings
and the block from `p`'s own parent built the same way — is built by these calls from exactly the ket, operator and bra
tensors of all nodes of the component.  Induction over the distance from the hole. -/
theorem ctx_block_built (opKids : Nat → List Nat) (kv ov bv : Nat → Asg Leg → R) :
    ∀ (c : Ctx) (h p : Nat), c.parent = some p → (h :: c.ids).Nodup →
      (∀ e ∈ c.info h, (opKids e.1).Perm e.2.2) →
      BuiltL (gBlock p h c.blockBinds) (c.leavesG (soNodeLeaves opKids kv ov bv) h)
  | root, _, _, hp, _, _ => by simp [parent] at hp
  | frame p ls rs up, h, p', hp, hnd, hinfo => by
    simp only [parent, Option.some.injEq] at hp
    subst hp
    have hnd0 := hnd
    simp only [ids, List.nodup_cons, List.mem_cons, List.mem_append, not_or, List.nodup_append] at hnd0
    obtain ⟨⟨hhp, hhS, hhU⟩, ⟨hpS, hpU⟩, hS, hU, hSU⟩ := hnd0
    have hdis : ∀ x ∈ Tree.idsL (ls ++ rs), x ∉ up.ids := fun x hx hxu => hSU x hx x hxu rfl
    have hall : (up.ids ++ Tree.idsL (ls ++ rs)).Nodup :=
      List.nodup_append.2 ⟨hU, hS, fun x hx y hy e => hSU y hy x hx e.symm⟩
    have hnbr := frame_nbrs_nodup up ls rs h hall (fun hm => (List.mem_append.1 hm).elim hhU hhS)
    have hnotpar : ∀ n ∈ (ls ++ rs).map Tree.id, ¬ up.parent = some n := fun n hn hq =>
      hdis n (Tree.kid_id_mem _ n hn) (parent_mem_ids hq)
    have hpermP : (opKids p).Perm (ls.map Tree.id ++ h :: rs.map Tree.id) := hinfo (p, up.parent, ls.map Tree.id ++ h :: rs.map Tree.id) (by simp [info])
    have hmodel := ctx_block_is_model p h ls rs up (opKids p) (siteCache up (ls ++ rs) p) hnbr hpermP
      (fun q hq => by simp [siteCache, hq])
      (fun n hn => by simp [siteCache, hnotpar n hn])
    have hb := opContractAnyNodeEnvironmentButOne_built (R := R)
      (ls := [((gKetT p ⟨up.parent, ls.map Tree.id ++ h :: rs.map Tree.id⟩).legs, kv p)])
      (lo := [((gOpT p ⟨up.parent, opKids p⟩).legs, ov p)])
      (lb := [((gBraT p ⟨up.parent, ls.map Tree.id ++ h :: rs.map Tree.id⟩).legs, bv p)])
      hmodel (BuiltL.fresh _ _) (BuiltL.fresh _ _) (BuiltL.fresh _ _)
      (fun n _ _ => nb_blocks_built_of opKids kv ov bv up (ls ++ rs) p
        (fun q hq => ctx_block_built opKids kv ov bv up p q hq (List.nodup_cons.2 ⟨hpU, hU⟩)
          (fun e he => hinfo e (by simp [info, he])))
        hS hpS (fun e he => hinfo e (by simp [info, he])) n)
    have hleaf : (Node.mk up.parent (ls.map Tree.id ++ h :: rs.map Tree.id)).isLeaf = false := by
      simp [Node.isLeaf]
    rw [hleaf, frame_nbrs_filter up ls rs h hnbr] at hb
    simp only [Bool.false_eq_true, if_false] at hb
    refine (hb.perm ((((flatMap_nbLeaves opKids kv ov bv p hall (List.Perm.refl _)).append_left _).append_right
      _).append_right _)).perm ?_
    simp only [leavesG, soNodeLeaves]
    exact perm_ket_blocks_op_bra _ _ _ _ _

end Ctx

theorem nb_blocks_built (opKids : Nat → List Nat) (kv ov bv : Nat → Asg Leg → R) (c : Ctx) (ks : List Tree) (i : Nat)
    (hic : (i :: c.ids).Nodup) (hinfoC : ∀ e ∈ c.info i, (opKids e.1).Perm e.2.2)
    (hS : (Tree.idsL ks).Nodup) (hiK : i ∉ Tree.idsL ks) (hinfoK : ∀ e ∈ Tree.infoL i ks, (opKids e.1).Perm e.2.2) :
    ∀ n blk, siteCache c ks i n = some blk → BuiltL blk (nbLeaves opKids kv ov bv c ks i n) :=
  nb_blocks_built_of opKids kv ov bv c ks i
    (fun q hq => Ctx.ctx_block_built opKids kv ov bv c i q hq hic hinfoC) hS hiK hinfoK

/-- the leaf tensors of the whole program of the single-site effective Hamiltonian of site `i`: the operator tensor of
`i` and the ket, operator and bra tensors of every other node (component above `i`, subtrees of `i`'s children) -/
def wholeLeaves (opKids : Nat → List Nat) (kv ov bv : Nat → Asg Leg → R) (c : Ctx) (i : Nat) (ks : List Tree) :
    List (LeafT R) :=
  [((gOpT i ⟨c.parent, opKids i⟩).legs, ov i)] ++
    (c.leavesG (soNodeLeaves opKids kv ov bv) i ++ treeLeavesL (soNodeLeaves opKids kv ov bv) i ks)

theorem wholeLeaves_perm (opKids : Nat → List Nat) (kv ov bv : Nat → Asg Leg → R) (c : Ctx) (i : Nat) (ks : List Tree) :
    ([((gKetT i ⟨c.parent, ks.map Tree.id⟩).legs, kv i), ((gBraT i ⟨c.parent, ks.map Tree.id⟩).legs, bv i)] ++
      wholeLeaves opKids kv ov bv c i ks).Perm (soLeaves opKids kv ov bv none (c.plug (Tree.node i ks))) :=
  List.Perm.trans (List.Perm.cons _ (List.Perm.swap _ _ _)) ((site_opened c i ks).leaves _ (soNodeLeaves opKids kv ov bv))

section value
variable [CommSemiring R]

/-- any split of leaf tensors with pairwise distinct labels into three expressions: the labels of the three are
pairwise disjoint and the product of all leaves factorises -/
theorem whole_split_facts {L : List (LeafT R)} (hndL : (labelsOf L).Nodup) {e E H B : Expr Leg R}
    (hleaves : e.leaves.Perm L) (hsplit : (E.leaves ++ (H.leaves ++ B.leaves)).Perm L) :
    (∀ l ∈ E.labels, l ∉ H.labels) ∧ (∀ l ∈ E.labels, l ∉ B.labels) ∧ (∀ l ∈ H.labels, l ∉ B.labels) ∧
      ∀ σ, e.leafProd σ = E.leafProd σ * H.leafProd σ * B.leafProd σ := by
  have hndAll : (E.labels ++ (H.labels ++ B.labels)).Nodup := by
    have h1 := (hsplit.flatMap_right (·.1)).nodup_iff.2 hndL
    simpa [List.flatMap_append, ← Expr.labels_eq_leaves] using h1
  rw [List.nodup_append] at hndAll
  obtain ⟨_, hndHB, hdisE⟩ := hndAll
  rw [List.nodup_append] at hndHB
  refine ⟨fun l hl hl' => hdisE l hl l (List.mem_append.2 (Or.inl hl')) rfl,
    fun l hl hl' => hdisE l hl l (List.mem_append.2 (Or.inr hl')) rfl,
    fun l hl hl' => hndHB.2.2 l hl l hl' rfl, ?_⟩
  intro τ
  rw [Expr.leafProd_of_leaves e _ (hleaves.trans hsplit.symm) τ, List.map_append, List.map_append, prodL_append,
    prodL_append, mul_assoc]
  rfl

theorem soLeaves_clean (opKids : Nat → List Nat) (kv ov bv : Nat → Asg Leg → R) (T0 : Tree) (hnd : T0.ids.Nodup)
    (hperm : ∀ e ∈ Tree.info none T0, (opKids e.1).Perm e.2.2)
    (hkv : KetLocal kv T0) (hov : OpLocalK ov opKids T0) (hbv : BraLocalK bv T0) :
    (labelsOf (soLeaves opKids kv ov bv none T0)).Nodup ∧
      ∀ lf ∈ soLeaves opKids kv ov bv none T0, DependsOn (· ∈ lf.1) lf.2 := by
  have hnone : ∀ q, (none : Option Nat) = some q → q ∉ T0.ids := fun q hq => by simp at hq
  have hnb := info_nbrs_nodup T0 none hnd hnone
  have hok : ∀ e ∈ Tree.info none T0, NodeOK (soNodeLeaves opKids kv ov bv) e :=
    fun e he => so_nodeOK kv ov bv opKids e (hnb e he) (hperm e he)
  refine ⟨(treeLeaves_labels (soNodeLeaves opKids kv ov bv) T0 none hnd hok).1, ?_⟩
  intro lf hlf
  obtain ⟨x, hx, h⟩ := treeLeaves_sub _ T0 none lf hlf
  simp only [soNodeLeaves, List.mem_cons, List.not_mem_nil, or_false] at h
  rcases h with rfl | rfl | rfl
  · exact hkv x hx
  · exact hov x hx
  · exact hbv x hx

/-- generic glue of provenance and value: `W` (the leaves the matrix is built from) together with some extra tensors
`X` is a clean list of node tensors `S`; the record of `m` has the tree-level value -/
theorem whole_core {m : Mat} {W X S : List (LeafT R)} (hwl : (X ++ W).Perm S) (hndS : (labelsOf S).Nodup)
    (hlocS : ∀ lf ∈ S, DependsOn (· ∈ lf.1) lf.2) {ids : List Nat} {kb ob brb : List (Leg × Leg)}
    (hval : TreeForm R m.binds ids kb ob brb) :
    ∀ e : Expr Leg R, Built m.toT e → e.leaves.Perm W →
      e.SWF ∧ e.binds.Perm m.binds ∧ e.free.Perm (m.rows ++ m.cols) ∧
      ∀ (dim : Leg → Nat) (E H B : Expr Leg R), E.WF → H.WF → B.WF →
        (E.leaves ++ (H.leaves ++ B.leaves)).Perm W →
        (unordL E.binds).Perm (unordL kb) → (unordL H.binds).Perm (unordL ob) → (unordL B.binds).Perm (unordL brb) →
        (∀ n ∈ ids, Leg.gKetPhys n ∈ E.free ∧ Leg.gOpIn n ∈ H.free ∧ Leg.gOpOut n ∈ H.free ∧
          Leg.gBraPhys n ∈ B.free) →
        (∀ q ∈ projSpec (ids.map physOut) (ids.map physIn) E.binds H.binds B.binds, dim q.1 = dim q.2) →
        ∀ σ, e.eval dim σ =
          sumPairs dim (ids.map physOut)
            (fun τ => sumPairs dim (ids.map physIn) (fun ρ => E.eval dim ρ * H.eval dim ρ) τ * B.eval dim τ) σ := by
  intro e hbe hleaves
  have hndW : (labelsOf W).Nodup := by
    have h1 := (hwl.flatMap_right (·.1)).nodup_iff.2 hndS
    rw [List.flatMap_append] at h1
    exact (List.nodup_append.1 h1).2.1
  have hlocW : ∀ lf ∈ W, DependsOn (· ∈ lf.1) lf.2 := fun lf hlf =>
    hlocS lf (hwl.mem_iff.1 (List.mem_append.2 (Or.inr hlf)))
  obtain ⟨hswf, hbinds, hfree⟩ := whole_built_facts hndW hlocW hbe hleaves
  refine ⟨hswf, hbinds, hfree, ?_⟩
  intro dim E H B hE hH hB hsplit hEb hHb hBb hfr hdim σ
  obtain ⟨d1, d2, d3, hprod⟩ := whole_split_facts hndW hleaves hsplit
  exact hval dim e E H B hswf hE hH hB d1 d2 d3 hbinds hEb hHb hBb hfr hdim hprod σ

/-- **One program: from the node tensors of the tree to the matrix handed to `time_evolve`.**  Setting of
`site_heff_projected_tree`, every operator node with its own child order `opKids`, and ARBITRARY values `kv`, `ov`, `bv` of
the ket, operator and bra tensors of all nodes, each reading only its own legs; the cache is `siteCache`.  Then
* the model returns the matrix `m` of `site_heff_graph`;
* `m` is BUILT, by the complete sequence of `tensordot` calls of the model — leaf-to-root block loop (`soBlock_built`),
  top-down `contract_any` recursion (`Ctx.ctx_block_built`), `contract_all_except_node` with its transposition
  (`site_heff_built`) — from `wholeLeaves`: the operator tensors of ALL nodes and the ket / bra tensors of all nodes
  EXCEPT the site, each once (`wholeLeaves_perm`);
* EVERY expression `e` that `m` is built from over these leaves is strongly well-formed, has the record of `m` and the
  free legs `rows ++ cols`, and evaluates to `Σ_{phys'} (Σ_{phys} E · H) · B = E† H E` for ANY split of the leaves into
  three well-formed contractions `E` (kets over the ket bonds not at `i`), `H` (the whole TTNO), `B` (bras), for all
  dimensions equal on both legs of every bound pair. -/
theorem site_heff_whole_program (c : Ctx) (i : Nat) (ks : List Tree)
    (hnd : (c.plug (Tree.node i ks)).ids.Nodup) (opKids : Nat → List Nat)
    (hperm : ∀ e ∈ Tree.info none (c.plug (Tree.node i ks)), (opKids e.1).Perm e.2.2)
    (kv ov bv : Nat → Asg Leg → R) (hkv : KetLocal kv (c.plug (Tree.node i ks)))
    (hov : OpLocalK ov opKids (c.plug (Tree.node i ks))) (hbv : BraLocalK bv (c.plug (Tree.node i ks))) :
    ∃ m : Mat, getEffectiveSingleSiteHamiltonianNodes ⟨c.parent, ks.map Tree.id⟩ ⟨c.parent, opKids i⟩
        (gOpT i ⟨c.parent, opKids i⟩) (siteCache c ks i) = some m ∧
      m.rows = (c.parent.toList ++ ks.map Tree.id).map (fun n => Leg.gBra n i) ++ [Leg.gOpOut i] ∧
      m.cols = (c.parent.toList ++ ks.map Tree.id).map (fun n => Leg.gKet n i) ++ [Leg.gOpIn i] ∧
      BuiltL m.toT (wholeLeaves opKids kv ov bv c i ks) ∧
      ([((gKetT i ⟨c.parent, ks.map Tree.id⟩).legs, kv i), ((gBraT i ⟨c.parent, ks.map Tree.id⟩).legs, bv i)] ++
        wholeLeaves opKids kv ov bv c i ks).Perm (soLeaves opKids kv ov bv none (c.plug (Tree.node i ks))) ∧
      ∀ e : Expr Leg R, Built m.toT e → e.leaves.Perm (wholeLeaves opKids kv ov bv c i ks) →
        e.SWF ∧ e.binds.Perm m.binds ∧ e.free.Perm (m.rows ++ m.cols) ∧
        ∀ (dim : Leg → Nat) (E H B : Expr Leg R), E.WF → H.WF → B.WF →
          (E.leaves ++ (H.leaves ++ B.leaves)).Perm (wholeLeaves opKids kv ov bv c i ks) →
          (unordL E.binds).Perm (unordL ((c.compEdges ++ ks.flatMap Tree.edges).map fun e => ketEdge e.1 e.2)) →
          (unordL H.binds).Perm (unordL ((c.plug (Tree.node i ks)).edges.map fun e => opEdge e.1 e.2)) →
          (unordL B.binds).Perm (unordL ((c.compEdges ++ ks.flatMap Tree.edges).map fun e => braEdge e.1 e.2)) →
          (∀ n ∈ c.ids ++ Tree.idsL ks, Leg.gKetPhys n ∈ E.free ∧ Leg.gOpIn n ∈ H.free ∧ Leg.gOpOut n ∈ H.free ∧
            Leg.gBraPhys n ∈ B.free) →
          (∀ p ∈ projSpec ((c.ids ++ Tree.idsL ks).map physOut) ((c.ids ++ Tree.idsL ks).map physIn)
            E.binds H.binds B.binds, dim p.1 = dim p.2) →
          ∀ σ, e.eval dim σ =
            sumPairs dim ((c.ids ++ Tree.idsL ks).map physOut)
              (fun τ => sumPairs dim ((c.ids ++ Tree.idsL ks).map physIn) (fun ρ => E.eval dim ρ * H.eval dim ρ) τ *
                B.eval dim τ) σ := by
  have hnd' : (c.ids ++ (Tree.node i ks).ids).Nodup := (Ctx.plug_ids_perm c _).nodup_iff.1 hnd
  have hcn : c.ids.Nodup := (List.nodup_append.1 hnd').1
  have hin : (i :: Tree.idsL ks).Nodup := (List.nodup_append.1 hnd').2.1
  have hndL : (Tree.idsL ks).Nodup := (List.nodup_cons.1 hin).2
  have hiK : i ∉ Tree.idsL ks := (List.nodup_cons.1 hin).1
  have hdisj : ∀ a ∈ c.ids, ∀ b ∈ i :: Tree.idsL ks, a ≠ b := (List.nodup_append.1 hnd').2.2
  have hic : (i :: c.ids).Nodup := by
    rw [List.nodup_cons]
    exact ⟨fun h => hdisj i h i (by simp) rfl, hcn⟩
  have hpermI : (opKids i).Perm (ks.map Tree.id) := hperm _ (site_mem_info c i ks)
  have hinfoC : ∀ e ∈ c.info i, (opKids e.1).Perm e.2.2 := fun e he =>
    hperm e (Ctx.mem_info_plug c (Tree.node i ks) e (Or.inl he))
  have hinfoK : ∀ e ∈ Tree.infoL i ks, (opKids e.1).Perm e.2.2 := fun e he =>
    hperm e (Ctx.mem_info_plug c (Tree.node i ks) e (Or.inr (by simp [Tree.info, he])))
  obtain ⟨m, hm, hr, hc, hval⟩ := site_heff_projected_tree (R := R) c i ks hnd (opKids i) hpermI
  have hwl := wholeLeaves_perm opKids kv ov bv c i ks
  have hbuilt : BuiltL m.toT (wholeLeaves opKids kv ov bv c i ks) := by
    have hb := site_heff_built (R := R) (lo := [((gOpT i ⟨c.parent, opKids i⟩).legs, ov i)]) hm (BuiltL.fresh _ _)
      (fun n _ => nb_blocks_built opKids kv ov bv c ks i hic hinfoC hndL hiK hinfoK n)
    exact hb.perm (List.Perm.append_left _ (flatMap_nbLeaves opKids kv ov bv i
      ((site_opened c i ks).ids_nodup hnd) (List.Perm.append_left _ hpermI)))
  obtain ⟨hndS, hlocS⟩ := soLeaves_clean opKids kv ov bv (c.plug (Tree.node i ks)) hnd hperm hkv hov hbv
  exact ⟨m, hm, hr, hc, hbuilt, hwl, whole_core hwl hndS hlocS hval⟩

end value

end Ptn.C05.Heff
