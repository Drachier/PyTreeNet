import Ptn.C05.ProjectedTree
import Ptn.C05.Opened
/-! `H_eff = E† H E` for EVERY site of every tree: the hypotheses of the record-level
theorem `site_heff_is_projected_hamiltonian` about the blocks are discharged for all neighbours — the children's
blocks by the C04 model of the leaf-to-root loop (`soKidBlock`), the parent's block by
`Ctx.block_record_is_component_sandwich` (`nbBlock_record`).  The site at the root is the case `c = Ctx.root`. -/
namespace Ptn.C05.Heff
open Ptn.C04 Ptn.Ein

set_option linter.unusedSectionVars false
variable {R : Type} [CommSemiring R]

/-- the cache as the site `i` sees it: from the parent the block with the record `c.blockBinds` (what the model
builds, `Ctx.ctx_block_is_model`), from every child its leaf-to-root block -/
def siteCache (c : Ctx) (ks : List Tree) (i : Nat) : Cache := fun n =>
  if c.parent = some n then some (gBlock n i c.blockBinds) else soKidBlock ks i (n, i)

/-- a list attached to the parent (`X`) or read off the kid with identifier `n` -/
def selNb {β : Type} (c : Ctx) (ks : List Tree) (X : List β) (f : Tree → List β) (n : Nat) : List β :=
  if c.parent = some n then X else ofKid ks f n

/-- the neighbours of the hole are distinct, and each is a node of what lies around the hole -/
theorem Ctx.nb_nodup {c : Ctx} {ks : List Tree} (hall : (c.ids ++ Tree.idsL ks).Nodup) :
    (c.parent.toList ++ ks.map Tree.id).Nodup ∧
      ∀ n ∈ c.parent.toList ++ ks.map Tree.id, n ∈ c.ids ++ Tree.idsL ks := by
  have hsub : ∀ n ∈ c.parent.toList ++ ks.map Tree.id, n ∈ c.ids ++ Tree.idsL ks := fun n hn =>
    (List.mem_append.1 hn).elim (fun h => List.mem_append_left _ (Ctx.parent_mem_ids (Option.mem_toList.1 h)))
      (fun h => List.mem_append_right _ (Tree.kid_id_mem ks n h))
  refine ⟨List.nodup_append.2 ⟨by cases c.parent <;> simp, Tree.nodup_kid_ids ks (List.nodup_append.1 hall).2.1,
    fun a ha b hb hab => ?_⟩, hsub⟩
  subst hab
  exact (List.nodup_append.1 hall).2.2 a (Ctx.parent_mem_ids (Option.mem_toList.1 ha)) a (Tree.kid_id_mem ks a hb) rfl

/-- summed over the neighbours of the hole (the parent and the kids, in any order) -/
theorem flatMap_selNb {β : Type} (c : Ctx) (ks : List Tree) (X : List β) (f : Tree → List β) (ns : List Nat)
    (hX : c.parent = none → X = []) (hall : (c.ids ++ Tree.idsL ks).Nodup)
    (hN : ns.Perm (c.parent.toList ++ ks.map Tree.id)) :
    (ns.flatMap (selNb c ks X f)).Perm (X ++ ks.flatMap f) := by
  have hk : (ks.map Tree.id).flatMap (selNb c ks X f) = (ks.map Tree.id).flatMap (ofKid ks f) :=
    flatMap_congr fun n hn => if_neg fun h =>
      (List.nodup_append.1 hall).2.2 n (Ctx.parent_mem_ids h) n (Tree.kid_id_mem ks n hn) rfl
  refine (hN.flatMap_right _).trans ?_
  rw [List.flatMap_append, hk, flatMap_ofKid f ks (Tree.nodup_kid_ids ks (List.nodup_append.1 hall).2.1)]
  refine List.Perm.append_right _ ?_
  cases h : c.parent with
  | none => simp [hX h]
  | some q => simp [selNb, h]

/-! What lies behind neighbour `n` of the hole of `c`, when a node with the children `ks` sits in it, is the component
above the hole (`n` the parent) or a child's subtree: `nbIds g` / `nbEdges g` are `g` of its nodes / edges, `nbBlock` is
the record of the cached block from `n`. -/

def nbIds (g : Nat → Leg × Leg) (c : Ctx) (ks : List Tree) : Nat → List (Leg × Leg) :=
  selNb c ks (c.ids.map g) fun k => k.ids.map g

def nbEdges (g : Nat × Nat → Leg × Leg) (c : Ctx) (ks : List Tree) : Nat → List (Leg × Leg) :=
  selNb c ks (c.compEdges.map g) fun k => k.edges.map g

def nbBlock (c : Ctx) (ks : List Tree) : Nat → List (Leg × Leg) := selNb c ks c.blockBinds soBlockBinds

theorem flatMap_nbIds (g : Nat → Leg × Leg) {c : Ctx} {ks : List Tree} {ns : List Nat}
    (hall : (c.ids ++ Tree.idsL ks).Nodup) (hN : ns.Perm (c.parent.toList ++ ks.map Tree.id)) :
    (ns.flatMap (nbIds g c ks)).Perm ((c.ids ++ Tree.idsL ks).map g) := by
  refine (flatMap_selNb c ks _ _ ns (fun h => by rw [Ctx.ids_of_root h]; rfl) hall hN).trans ?_
  rw [List.map_append, Tree.idsL_eq, List.map_flatMap]

theorem flatMap_nbEdges (g : Nat × Nat → Leg × Leg) {c : Ctx} {ks : List Tree} {ns : List Nat}
    (hall : (c.ids ++ Tree.idsL ks).Nodup) (hN : ns.Perm (c.parent.toList ++ ks.map Tree.id)) :
    (ns.flatMap (nbEdges g c ks)).Perm ((c.compEdges ++ ks.flatMap Tree.edges).map g) := by
  refine (flatMap_selNb c ks _ _ ns (fun h => by rw [Ctx.compEdges_of_root h]; rfl) hall hN).trans ?_
  rw [List.map_append, List.map_flatMap]

theorem nbBlock_record (c : Ctx) (ks : List Tree) (hcn : c.ids.Nodup) (n : Nat)
    (hn : n ∈ c.parent.toList ++ ks.map Tree.id) :
    (unordL (nbBlock c ks n)).Perm (unordL (compRecord (nbIds physOut c ks) (nbIds physIn c ks)
      (nbEdges (fun e => ketEdge e.1 e.2) c ks) (nbEdges (fun e => opEdge e.1 e.2) c ks)
      (nbEdges (fun e => braEdge e.1 e.2) c ks) n)) := by
  by_cases hp : c.parent = some n
  · simp only [compRecord, nbBlock, nbIds, nbEdges, selNb, if_pos hp]
    exact Ctx.block_record_is_component_sandwich c hcn
  · have hk : n ∈ ks.map Tree.id := by
      rcases List.mem_append.1 hn with h | h
      · exact absurd (by simpa using h) hp
      · exact h
    obtain ⟨k, _, _, hf⟩ := ofKid_of_mem (β := Leg × Leg) ks n hk
    simp only [compRecord, nbBlock, nbIds, nbEdges, selNb, if_neg hp, hf]
    exact unordL_perm (soBlockBinds_perm_comp k)

theorem siteCache_of_mem (c : Ctx) (ks : List Tree) (i n : Nat) (hn : n ∈ c.parent.toList ++ ks.map Tree.id) :
    siteCache c ks i n = some (gBlock n i (nbBlock c ks n)) := by
  by_cases hp : c.parent = some n
  · simp [siteCache, nbBlock, selNb, hp]
  · have hk : n ∈ ks.map Tree.id := by
      rcases List.mem_append.1 hn with h | h
      · exact absurd (by simpa using h) hp
      · exact h
    simp only [siteCache, nbBlock, selNb, if_neg hp]
    rw [soKidBlock_of_mem ks i n hk]
    rfl

/-- a record-level conclusion over the neighbours `ns` of the hole (the parent and the kids, in any order) is the
tree-level conclusion over the nodes outside the hole -/
theorem treeForm_of_nb {mb ob OB : List (Leg × Leg)} {c : Ctx} {ks : List Tree} {ns : List Nat}
    (hall : (c.ids ++ Tree.idsL ks).Nodup) (hN : ns.Perm (c.parent.toList ++ ks.map Tree.id))
    (hOb : (unordL OB).Perm (unordL ob))
    (h : RecForm R mb (ns.flatMap (nbIds physOut c ks)) (ns.flatMap (nbIds physIn c ks))
      (ns.flatMap (nbEdges (fun e => ketEdge e.1 e.2) c ks)) ob (ns.flatMap (nbEdges (fun e => braEdge e.1 e.2) c ks))) :
    TreeForm R mb (c.ids ++ Tree.idsL ks) ((c.compEdges ++ ks.flatMap Tree.edges).map fun e => ketEdge e.1 e.2) OB
      ((c.compEdges ++ ks.flatMap Tree.edges).map fun e => braEdge e.1 e.2) :=
  treeForm_of_recForm hall (flatMap_nbIds physOut hall hN) (flatMap_nbIds physIn hall hN)
    (unordL_perm (flatMap_nbEdges _ hall hN).symm) hOb (unordL_perm (flatMap_nbEdges _ hall hN).symm) h

/-- **`H_eff = E† H E` for every site of every tree**: the matrix handed to `time_evolve` is the Hamiltonian projected onto
the other tensors of the state, said of binding records.  The site `i` with the child subtrees `ks` sits in the hole of
`c` (`c = root`: the site is the root; every site: `Ctx.exists_ctx`), identifiers distinct, operator node with any child
order `opKids`; the cache holds the leaf-to-root blocks of the children (`soKidBlock`) and the block that
`contract_any(parent, i)` builds (`Ctx.ctx_block_is_model`).  Then the model returns the matrix `m` of `site_heff_graph`,
and for ANY well-formed `E` (ket tensors of the other nodes over the ket bonds not at `i`), `H` (operator tensors of ALL
nodes over ALL operator bonds: the dense TTNO) and `B` (bra tensors of the other nodes), every strongly well-formed program
with the record of `m` evaluates to `Σ_{phys'} (Σ_{phys} E[phys; cols] · H[phys', out_i; phys, in_i]) · B[phys'; rows]`,
the sums over the physical legs of the other nodes `c.ids ++ idsL ks`, for all dimensions equal on both legs of every bound
pair.  The value clause is `TreeForm`. -/
theorem site_heff_projected_tree (c : Ctx) (i : Nat) (ks : List Tree)
    (hnd : (c.plug (Tree.node i ks)).ids.Nodup) (opKids : List Nat) (hperm : opKids.Perm (ks.map Tree.id)) :
    ∃ m : Mat, getEffectiveSingleSiteHamiltonianNodes ⟨c.parent, ks.map Tree.id⟩ ⟨c.parent, opKids⟩
        (gOpT i ⟨c.parent, opKids⟩) (siteCache c ks i) = some m ∧
      m.rows = (c.parent.toList ++ ks.map Tree.id).map (fun n => Leg.gBra n i) ++ [Leg.gOpOut i] ∧
      m.cols = (c.parent.toList ++ ks.map Tree.id).map (fun n => Leg.gKet n i) ++ [Leg.gOpIn i] ∧
      ∀ (dim : Leg → Nat) (e E H B : Expr Leg R), e.SWF → E.WF → H.WF → B.WF →
        (∀ l ∈ E.labels, l ∉ H.labels) → (∀ l ∈ E.labels, l ∉ B.labels) → (∀ l ∈ H.labels, l ∉ B.labels) →
        e.binds.Perm m.binds →
        (unordL E.binds).Perm (unordL ((c.compEdges ++ ks.flatMap Tree.edges).map fun e => ketEdge e.1 e.2)) →
        (unordL H.binds).Perm (unordL ((c.plug (Tree.node i ks)).edges.map fun e => opEdge e.1 e.2)) →
        (unordL B.binds).Perm (unordL ((c.compEdges ++ ks.flatMap Tree.edges).map fun e => braEdge e.1 e.2)) →
        (∀ n ∈ c.ids ++ Tree.idsL ks, Leg.gKetPhys n ∈ E.free ∧ Leg.gOpIn n ∈ H.free ∧ Leg.gOpOut n ∈ H.free ∧
          Leg.gBraPhys n ∈ B.free) →
        (∀ p ∈ projSpec ((c.ids ++ Tree.idsL ks).map physOut) ((c.ids ++ Tree.idsL ks).map physIn)
          E.binds H.binds B.binds, dim p.1 = dim p.2) →
        (∀ σ, e.leafProd σ = E.leafProd σ * H.leafProd σ * B.leafProd σ) →
        ∀ σ, e.eval dim σ =
          sumPairs dim ((c.ids ++ Tree.idsL ks).map physOut)
            (fun τ => sumPairs dim ((c.ids ++ Tree.idsL ks).map physIn) (fun ρ => E.eval dim ρ * H.eval dim ρ) τ *
              B.eval dim τ) σ := by
  have hall : (c.ids ++ Tree.idsL ks).Nodup := (site_opened c i ks).ids_nodup hnd
  have hN : (c.parent.toList ++ opKids).Perm (c.parent.toList ++ ks.map Tree.id) := List.Perm.append_left _ hperm
  obtain ⟨m, hm, hr, hc, hval⟩ := site_heff_is_projected_hamiltonian (R := R) i ⟨c.parent, ks.map Tree.id⟩
    ⟨c.parent, opKids⟩ (nbBlock c ks) (siteCache c ks i) (Ctx.nb_nodup hall).1 hN
    (fun n hn => siteCache_of_mem c ks i n (hN.mem_iff.1 hn))
    (nbIds physOut c ks) (nbIds physIn c ks) (nbEdges (fun e => ketEdge e.1 e.2) c ks)
    (nbEdges (fun e => opEdge e.1 e.2) c ks) (nbEdges (fun e => braEdge e.1 e.2) c ks)
    (fun n hn => nbBlock_record c ks (List.nodup_append.1 hall).1 n (hN.mem_iff.1 hn))
  refine ⟨m, hm, hr, hc, treeForm_of_nb hall hN ?_ hval⟩
  -- the operator bonds of the tree: those at `i` (cut) and those behind its neighbours
  refine ((site_opened c i ks).bonds (fun e => opEdge e.1 e.2) ?_).trans
    (unordL_append_congr (List.Perm.refl _) (unordL_perm (flatMap_nbEdges _ hall hN).symm))
  have h2 : (opPairs i opKids).Perm ((ks.map fun k => opEdge i k.id).map Prod.swap) := by
    have := hperm.map (fun n => (Leg.gOp i n, Leg.gOp n i))
    simpa [opPairs, opEdge, List.map_map, Function.comp_def] using this
  have hsplit : opPairs i (c.parent.toList ++ opKids) =
      c.parent.toList.map (fun q => opEdge q i) ++ opPairs i opKids := by
    simp only [opPairs, List.map_append]
    rfl
  show (unordL (opPairs i (c.parent.toList ++ opKids))).Perm _
  rw [hsplit, List.map_append, List.map_map, List.map_map]
  exact unordL_append_congr (List.Perm.refl _) ((unordL_perm h2).trans (unordL_map_swap _))

/-- The site at the root: the case `c = Ctx.root` of `site_heff_projected_tree`, with the cache `fun n => soKidBlock ks i (n, i)`
written out.  Nothing is missing from it; "partial" in the name says that it covers the root only, where the theorem above
covers every site. -/
theorem site_heff_projected_tree_root_partial (i : Nat) (ks : List Tree) (hnd : (Tree.node i ks).ids.Nodup)
    (opKids : List Nat) (hperm : opKids.Perm (ks.map Tree.id)) :
    ∃ m : Mat, getEffectiveSingleSiteHamiltonianNodes ⟨none, ks.map Tree.id⟩ ⟨none, opKids⟩
        (gOpT i ⟨none, opKids⟩) (fun n => soKidBlock ks i (n, i)) = some m ∧
      m.rows = (ks.map Tree.id).map (fun n => Leg.gBra n i) ++ [Leg.gOpOut i] ∧
      m.cols = (ks.map Tree.id).map (fun n => Leg.gKet n i) ++ [Leg.gOpIn i] ∧
      ∀ (dim : Leg → Nat) (e E H B : Expr Leg R), e.SWF → E.WF → H.WF → B.WF →
        (∀ l ∈ E.labels, l ∉ H.labels) → (∀ l ∈ E.labels, l ∉ B.labels) → (∀ l ∈ H.labels, l ∉ B.labels) →
        e.binds.Perm m.binds →
        (unordL E.binds).Perm (unordL ((ks.flatMap Tree.edges).map fun e => ketEdge e.1 e.2)) →
        (unordL H.binds).Perm (unordL ((Tree.node i ks).edges.map fun e => opEdge e.1 e.2)) →
        (unordL B.binds).Perm (unordL ((ks.flatMap Tree.edges).map fun e => braEdge e.1 e.2)) →
        (∀ n ∈ Tree.idsL ks, Leg.gKetPhys n ∈ E.free ∧ Leg.gOpIn n ∈ H.free ∧ Leg.gOpOut n ∈ H.free ∧
          Leg.gBraPhys n ∈ B.free) →
        (∀ p ∈ projSpec ((Tree.idsL ks).map physOut) ((Tree.idsL ks).map physIn) E.binds H.binds B.binds,
          dim p.1 = dim p.2) →
        (∀ σ, e.leafProd σ = E.leafProd σ * H.leafProd σ * B.leafProd σ) →
        ∀ σ, e.eval dim σ =
          sumPairs dim ((Tree.idsL ks).map physOut)
            (fun τ => sumPairs dim ((Tree.idsL ks).map physIn) (fun ρ => E.eval dim ρ * H.eval dim ρ) τ *
              B.eval dim τ) σ := by
  have h := site_heff_projected_tree (R := R) Ctx.root i ks hnd opKids hperm
  have hcache : siteCache Ctx.root ks i = fun n => soKidBlock ks i (n, i) := by
    funext n
    simp [siteCache, Ctx.parent]
  rw [hcache] at h
  exact h

end Ptn.C05.Heff
