import Ptn.C05.DiscLemmas
/-! Sequences of events: the routes of the centre, along which the discipline holds whatever the order of the
sweep, and the ways between two nodes the sweeps move along. -/
namespace Ptn.C05.Disc
open Ptn.C17 Ptn.C17.RTree

/-- every event succeeds (precondition holds, all blocks read are fresh) and the invariant holds
    after every event; `st'` is the final state -/
def StepsOK (t : RTree) : DSt → List DEv → DSt → Prop
  | st, [], st' => st' = st
  | st, e :: rest, st' => ∃ s1, step t st e = some s1 ∧ Inv t s1 ∧ StepsOK t s1 rest st'

/-- What every discipline theorem concludes of a list of events: started with the centre at `c` in ANY state that satisfies
the invariant, every event succeeds and reads only fresh blocks, the invariant holds after each, and the centre ends at `c'`. -/
def OK (t : RTree) (c : Nat) (l : List DEv) (c' : Nat) : Prop :=
  ∀ st, Inv t st → st.centre = c → ∃ st', StepsOK t st l st' ∧ Inv t st' ∧ st'.centre = c'

theorem stepsOK_run {t : RTree} : ∀ {l : List DEv} {st st' : DSt}, StepsOK t st l st' →
    run t st l = some st'
  | [], _, _, h => by simp only [StepsOK] at h; simp [run, h]
  | e :: l, st, st', h => by
    obtain ⟨m, hm, _, hr⟩ := h
    simp [run, hm, stepsOK_run hr]

theorem run_append {t : RTree} : ∀ (l1 l2 : List DEv) (st : DSt),
    run t st (l1 ++ l2) = (run t st l1).bind fun s => run t s l2
  | [], _, _ => by simp [run]
  | e :: l1, l2, st => by
    simp only [List.cons_append, run]
    cases step t st e with
    | none => simp
    | some s => simp [run_append l1 l2 s]

/-- the centre follows the events: each starts where the one before it left the centre and, unless it is a site
    update, takes the centre to a neighbour -/
inductive Route (t : RTree) : Nat → List DEv → Nat → Prop
  | nil (c : Nat) : Route t c [] c
  | site {v c' : Nat} {evs : List DEv} : v ∈ ids t → Route t v evs c' → Route t v (.site v :: evs) c'
  | move {a b c' : Nat} {evs : List DEv} : Adj t a b → Route t b evs c' → Route t a (.move a b :: evs) c'
  | link {a b c' : Nat} {evs : List DEv} : Adj t a b → Route t b evs c' → Route t a (.link a b :: evs) c'
  | two {a b c' : Nat} {evs : List DEv} : Adj t a b → Route t b evs c' → Route t a (.two a b :: evs) c'

theorem Route.append {t : RTree} {c c1 c2 : Nat} {l1 l2 : List DEv} (h1 : Route t c l1 c1)
    (h2 : Route t c1 l2 c2) : Route t c (l1 ++ l2) c2 := by
  induction h1 with
  | nil => exact h2
  | site hv _ ih => exact .site hv (ih h2)
  | move hab _ ih => exact .move hab (ih h2)
  | link hab _ ih => exact .link hab (ih h2)
  | two hab _ ih => exact .two hab (ih h2)

theorem Route.moves {t : RTree} : ∀ (p : List Nat) (a : Nat) {l : Nat},
    Chain (Adj t) (a :: p) → (a :: p).getLast? = some l → Route t a (movesAlong (a :: p)) l
  | [], a, l, _, hl => by
    cases hl; exact .nil a
  | b :: p, a, l, hc, hl => by
    have hc' := chain_cons_cons.mp hc
    rw [List.getLast?_cons_cons] at hl
    exact .move hc'.1 (Route.moves p b hc'.2 hl)

theorem OK_cons {t : RTree} {c c1 c' : Nat} {e : DEv} {evs : List DEv}
    (h : ∀ st, Inv t st → st.centre = c → ∃ st', step t st e = some st' ∧ Inv t st' ∧ st'.centre = c1)
    (hr : OK t c1 evs c') : OK t c (e :: evs) c' := by
  intro st hinv hc
  obtain ⟨s1, h1, i1, e1⟩ := h st hinv hc
  obtain ⟨s2, r2, i2, e2⟩ := hr s1 i1 e1
  exact ⟨s2, ⟨s1, h1, i1, r2⟩, i2, e2⟩

/-- **The discipline does not depend on the order of the sweep**: along every route no event reads a stale block
    and the invariant holds after every event. -/
theorem Route.ok {t : RTree} (hwf : t.WF) {c c' : Nat} {evs : List DEv} (h : Route t c evs c') :
    OK t c evs c' := by
  induction h with
  | nil c => exact fun st hinv hc => ⟨st, rfl, hinv, hc⟩
  | site hv _ ih => exact OK_cons (fun _ hi hc => site_ok hwf hi hc hv) ih
  | move hab _ ih => exact OK_cons (fun _ hi hc => move_ok hwf hi hc hab) ih
  | link hab _ ih => exact OK_cons (fun _ hi hc => link_ok hwf hi hc hab) ih
  | two hab _ ih => exact OK_cons (fun _ hi hc => two_ok hwf hi hc hab) ih

/-- `f` turns the chain `a :: rest` into events that are a route of the centre from `a` to the last node of the chain -/
abbrev Routes (t : RTree) (f : List Nat → Option (List DEv)) (a : Nat) (rest : List Nat) : Prop :=
  ∃ evs l, f (a :: rest) = some evs ∧ (a :: rest).getLast? = some l ∧ Route t a evs l

theorem path_chain {t : RTree} (hwf : t.WF) {a b : Nat} (ha : a ∈ ids t) (hb : b ∈ ids t) :
    ∃ r, pathFromTo t a b = some (a :: r) ∧ Chain (Adj t) (a :: r) ∧ (a :: r).getLast? = some b ∧
      ∀ y ∈ a :: r, y ∈ ids t := by
  obtain ⟨q, hq, h1, h2, h3, h4, _⟩ := pathFromTo_isSimplePath hwf ha hb
  cases q with
  | nil => simp at h1
  | cons y r =>
    cases h1
    exact ⟨r, hq, h4, h2, h3⟩

theorem path_facts {t : RTree} (hwf : t.WF) {a b : Nat} (ha : a ∈ ids t) (hb : b ∈ ids t)
    (hne : a ≠ b) :
    ∃ h r, pathFromTo t a b = some (a :: h :: r) ∧ Adj t a h ∧ Chain (Adj t) (a :: h :: r) ∧
      (h :: r).getLast? = some b ∧ ∀ y ∈ a :: h :: r, y ∈ ids t := by
  obtain ⟨q, hq, hch, hl, hm⟩ := path_chain hwf ha hb
  cases q with
  | nil => cases hl; exact absurd rfl hne
  | cons h r => exact ⟨h, r, hq, (chain_cons_cons.mp hch).1, hch, hl, hm⟩

/-- The way from `a` to `b` is the way from `b` to `a` read backwards: it ends `…, h, b` with `h` the first hop of `b`
    towards `a`, and without its last node it is a chain from `a` to `h`. -/
theorem way_back {t : RTree} (hwf : t.WF) {a b : Nat} (ha : a ∈ ids t) (hb : b ∈ ids t) (hne : b ≠ a) :
    ∃ h r q, pathFromTo t b a = some (b :: h :: r) ∧ pathFromTo t a b = some ((a :: q) ++ [b]) ∧
      (h :: r).reverse = a :: q ∧ Chain (Adj t) (a :: q) ∧ (a :: q).getLast? = some h ∧ Adj t h b ∧
      h ∈ ids t := by
  obtain ⟨h, r, hp, hbh, hch, hl, hpm⟩ := path_facts hwf hb ha hne
  obtain ⟨q, hq⟩ := List.head?_eq_some_iff.mp ((List.head?_reverse (l := h :: r)).trans hl)
  refine ⟨h, r, q, hp, ?_, hq, ?_, ?_, adj_symm hbh, hpm h (by simp)⟩
  · rw [pathFromTo_reverse hwf hb ha hp, List.reverse_cons, hq]
  · rw [← hq]
    exact chain_mono (fun _ _ => adj_symm) (chain_reverse (chain_tail hch))
  · rw [← hq, List.getLast?_reverse]
    rfl

end Ptn.C05.Disc
