import Ptn.C15.Kron
import Mathlib.Analysis.Normed.Algebra.MatrixExponential
/-! The GKSL flow `exp(−i t 𝓛)` of C15, on `Kron.lean` and Mathlib's matrix exponential.  Trace: a functional
annihilated by the generator is preserved by the whole flow (`vecMul_exp_of_vecMul_eq_zero`).  Hermiticity: for a
Hermitian Hamiltonian and real rates `sharp 𝓛 = −𝓛`, hence `sharp (−i t 𝓛) = −i t 𝓛` for real `t`, hence `exp(−i t 𝓛)`
commutes with the vectorised adjoint `dag` (`gksl_flow_dag`). -/
namespace Ptn.C15

section flow
open Matrix NormedSpace

variable {m : Type} [Fintype m] [DecidableEq m]

theorem vecMul_exp_of_vecMul_eq_zero (A : Matrix m m ℂ) (v : m → ℂ) (h : v ᵥ* A = 0) :
    v ᵥ* exp A = v := by
  open scoped Matrix.Norms.Operator in
  -- `v ᵥ* ·` is additive and continuous, so it passes through the exponential series, of which only
  -- the term `n = 0` survives
  have hs : HasSum (fun n : ℕ => v ᵥ* ((n.factorial : ℂ)⁻¹ • A ^ n)) (v ᵥ* exp A) :=
    (exp_series_hasSum_exp' (𝕂 := ℂ) A).map (Matrix.vecMulBilin ℂ ℂ v)
      (continuous_const.matrix_vecMul continuous_id)
  have h3 : ∀ n : ℕ, v ᵥ* ((n.factorial : ℂ)⁻¹ • A ^ n) = if n = 0 then v else 0
    | 0 => by simp
    | n + 1 => by
      rw [pow_succ', Matrix.vecMul_smul, ← Matrix.vecMul_vecMul, h, Matrix.zero_vecMul, smul_zero]
      rfl
  rw [funext h3] at hs
  exact hs.unique (hasSum_ite_eq 0 v)

end flow

open Matrix NormedSpace Kronecker

set_option linter.unusedSectionVars false
variable {K : Type} [Fintype K] [DecidableEq K]

/-- The adjoint on vectorised matrices: `dag (vec ρ) = vec ρᴴ`. -/
def dag (x : K × K → ℂ) : K × K → ℂ := fun p => star (x p.swap)

theorem dag_vec (ρ : Matrix K K ℂ) : dag (vec ρ) = vec ρᴴ := by
  funext p; simp [dag, vec, Matrix.conjTranspose_apply]

/-- `M ↦ conj(M[(b,a),(d,c)])` on matrices of the doubled space: what conjugating with `dag` does to a matrix
    (`dag_mulVec`). -/
def sharpFun (M : Matrix (K × K) (K × K) ℂ) : Matrix (K × K) (K × K) ℂ :=
  fun p q => star (M p.swap q.swap)

theorem sharpFun_mul (A B : Matrix (K × K) (K × K) ℂ) : sharpFun (A * B) = sharpFun A * sharpFun B := by
  funext p q
  simp only [sharpFun, Matrix.mul_apply, star_sum, star_mul']
  exact (Equiv.sum_comp (Equiv.prodComm K K) (fun r => star (A p.swap r) * star (B r q.swap))).symm

theorem sharpFun_one : sharpFun (1 : Matrix (K × K) (K × K) ℂ) = 1 := by
  funext p q
  simp only [sharpFun, Matrix.one_apply]
  by_cases h : p = q
  · subst h; simp
  · have : p.swap ≠ q.swap := fun h' => h (Prod.swap_injective h')
    simp [h, this]

/-- `sharpFun` as a ring homomorphism (it is conjugate-linear: `sharp_smul`). -/
def sharp : Matrix (K × K) (K × K) ℂ →+* Matrix (K × K) (K × K) ℂ where
  toFun := sharpFun
  map_one' := sharpFun_one
  map_mul' := sharpFun_mul
  map_zero' := by funext p q; simp [sharpFun]
  map_add' := fun A B => by funext p q; simp [sharpFun]

@[simp] theorem sharp_apply (M : Matrix (K × K) (K × K) ℂ) (p q : K × K) :
    sharp M p q = star (M p.swap q.swap) := rfl

theorem sharp_smul (c : ℂ) (M : Matrix (K × K) (K × K) ℂ) : sharp (c • M) = star c • sharp M := by
  funext p q; simp

theorem sharp_neg (M : Matrix (K × K) (K × K) ℂ) : sharp (-M) = -sharp M :=
  funext₂ fun _ _ => star_neg _

theorem sharp_sub (A B : Matrix (K × K) (K × K) ℂ) : sharp (A - B) = sharp A - sharp B :=
  funext₂ fun _ _ => star_sub _ _

theorem sharp_kron (A B : Matrix K K ℂ) : sharp (A ⊗ₖ B) = (B.map star) ⊗ₖ (A.map star) := by
  funext p q
  simp [mul_comm]

theorem dag_mulVec (M : Matrix (K × K) (K × K) ℂ) (x : K × K → ℂ) :
    dag (M *ᵥ x) = sharp M *ᵥ dag x := by
  funext p
  simp only [dag, mulVec, dotProduct, star_sum, star_mul', sharp_apply]
  exact (Equiv.sum_comp (Equiv.prodComm K K) (fun r => star (M p.swap r) * star (x r))).symm

theorem sharp_continuous : Continuous (sharp : Matrix (K × K) (K × K) ℂ → Matrix (K × K) (K × K) ℂ) := by
  apply continuous_matrix
  intro p q
  exact Complex.continuous_conj.comp (continuous_id.matrix_elem p.swap q.swap)

theorem sharp_exp (M : Matrix (K × K) (K × K) ℂ) : sharp (exp M) = exp (sharp M) := by
  open scoped Matrix.Norms.Operator in
  exact map_exp sharp sharp_continuous M

theorem map_star_eq_transpose_of_herm {M : Matrix K K ℂ} (h : Mᴴ = M) : M.map star = Mᵀ :=
  congrArg Matrix.transpose h

theorem sharp_hamPart (H : Matrix K K ℂ) (hH : Hᴴ = H) :
    sharp (H ⊗ₖ (1 : Matrix K K ℂ) - (1 : Matrix K K ℂ) ⊗ₖ Hᵀ) =
      -(H ⊗ₖ (1 : Matrix K K ℂ) - (1 : Matrix K K ℂ) ⊗ₖ Hᵀ) := by
  rw [sharp_sub, sharp_kron, sharp_kron, map_star_one, map_star_eq_transpose_of_herm hH,
    show (Hᵀ).map star = H from hH]
  abel

theorem sharp_dissip (γ : ℂ) (hγ : star γ = γ) (L : Matrix K K ℂ) :
    sharp (dissip (-1) γ L) = -dissip (-1) γ L := by
  have hM : (Lᴴ * L)ᴴ = Lᴴ * L := isHermitian_conjTranspose_mul_self L
  have hLL : (L.map star).map star = L := by funext a b; exact star_star _
  have h1 : star (Complex.I * γ) = -(Complex.I * γ) := by
    rw [star_mul', hγ, Complex.star_def, Complex.conj_I, neg_mul]
  have h2 : star (1 / 2 : ℂ) = 1 / 2 := by simp
  -- `sharp` fixes `L ⊗ conj L` and exchanges `L†L ⊗ 1` with `1 ⊗ (L†L)ᵀ`, which enter with the same
  -- factor `-½`; the scalar `iγ` in front changes sign
  unfold dissip
  rw [sharp_smul, h1, neg_smul, neg_one_mul, neg_smul, ← sub_eq_add_neg, sharp_sub,
    sharp_sub, sharp_smul, sharp_smul, sharp_kron, sharp_kron, sharp_kron,
    map_star_one, hLL, map_star_eq_transpose_of_herm hM, show ((Lᴴ * L)ᵀ).map star = Lᴴ * L from hM,
    h2, sub_right_comm]

theorem sharp_gksl (H : Matrix K K ℂ) (hH : Hᴴ = H) (js : List (ℂ × Matrix K K ℂ))
    (hjs : ∀ j ∈ js, star j.1 = j.1) : sharp (gkslMat H js) = -gkslMat H js := by
  unfold gkslMat lindMat
  rw [(sharp (K := K)).map_add, sharp_hamPart H hH, neg_add]
  congr 1
  induction js with
  | nil => exact (sharp (K := K)).map_zero.trans neg_zero.symm
  | cons j js ih =>
    rw [List.map_cons, List.sum_cons, (sharp (K := K)).map_add, neg_add,
      sharp_dissip j.1 (hjs j List.mem_cons_self) j.2,
      ih fun k hk => hjs k (List.mem_cons_of_mem _ hk)]

theorem gksl_flow_dag (H : Matrix K K ℂ) (hH : Hᴴ = H) (js : List (ℂ × Matrix K K ℂ))
    (hjs : ∀ j ∈ js, star j.1 = j.1) (t : ℝ) (ρ : Matrix K K ℂ) :
    dag (exp ((-Complex.I * (t : ℂ)) • gkslMat H js) *ᵥ vec ρ) =
      exp ((-Complex.I * (t : ℂ)) • gkslMat H js) *ᵥ vec ρᴴ := by
  rw [dag_mulVec, sharp_exp, sharp_smul, sharp_gksl H hH js hjs, dag_vec]
  congr 2
  have : star (-Complex.I * (t : ℂ)) = Complex.I * (t : ℂ) := by simp
  rw [this]; simp

end Ptn.C15
