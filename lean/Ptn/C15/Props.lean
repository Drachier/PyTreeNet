import Ptn.C15.Lemmas
import Ptn.C15.Denote
import Ptn.C15.Herm
/-! C15, the stated results.  `generateLindbladian` is the port of `generate_lindbladian`; the theorems
  characterise its output term list for ALL inputs, give its matrix (`Denote.lean`) and the flow of the GKSL
  generator (`Herm.lean`).  The property as stated (GKSL generator) is FALSE of the code:
  `anticomm_bra_sign_witness` says precisely which prefactor the bra-side anticommutator term receives (finding
  F-C15).  No theorem speaks of the key lists `convKeys` / `coeffKeys` of the model or of the labels `multiply`
  returns: they are compared with the code by the correspondence check only. -/
namespace Ptn.C15

/-- The construction completes and the generated term list is, in this order: the ket terms of the
    Hamiltonian, its bra terms, the `L ⊗ conj L` terms, and per jump operator the ket-side and the
    bra-side product term — the latter with prefactor `+f/2` (`termsWithBraSign 1`). -/
theorem generate_spec (inp : Input) (hw : WellFormed inp) :
    ∃ h, generateLindbladian inp = some h ∧ h.terms = termsWithBraSign 1 inp := by
  obtain ⟨h, hg⟩ := generate_succeeds inp hw.2
  exact ⟨h, hg, generate_spec_of_some inp h hw.1 hg⟩

/-- `2|H| + 3|J|` terms: two per Hamiltonian term, three per jump operator. -/
theorem ham_terms_count (inp : Input) (h : Ham) (hn : ∀ j ∈ inp.jumps, (j.tp.map Prod.fst).Nodup)
    (hg : generateLindbladian inp = some h) :
    h.terms.length = 2 * inp.ham.terms.length + 3 * inp.jumps.length := by
  rw [generate_spec_of_some inp h hn hg, termsWithBraSign_length]

/-- Each Hamiltonian term `(f, c, {s ↦ A_s})` yields exactly one ket term — the same prefactor and
    coefficient, the same labels on the ket identifiers — at position `i`, and one bra term — the
    prefactor negated, the labels transposed (kept when flagged symmetric, suffixed `_T`
    otherwise) on the bra identifiers — at position `|H| + i`. -/
theorem ham_part_spec (inp : Input) (h : Ham) (hn : ∀ j ∈ inp.jumps, (j.tp.map Prod.fst).Nodup)
    (hg : generateLindbladian inp = some h) (i : Nat) (t : Term)
    (hi : inp.ham.terms[i]? = some t) :
    h.terms[i]? = some ⟨t.frac, t.coeff, t.tp.map fun (s, l) => (s ++ inp.ketSuffix, l)⟩ ∧
    h.terms[inp.ham.terms.length + i]? = some ⟨-t.frac, t.coeff, t.tp.map fun (s, l) =>
      (s ++ inp.braSuffix, if inp.flags.symH l then l else l ++ "_T")⟩ := by
  rw [generate_spec_of_some inp h hn hg]
  exact termsWithBraSign_ham 1 inp i t hi

/-- Each jump operator `(f, γ, {s ↦ L_s})` yields, at position `2|H| + k`, the term `L ⊗ conj L`
    with prefactor `f` and coefficient symbol `γ*j` (mapped to `i·γ`): the labels on the ket
    identifiers, the conjugated labels (kept when flagged real) on the bra identifiers. -/
theorem jump_part_spec (inp : Input) (h : Ham) (hn : ∀ j ∈ inp.jumps, (j.tp.map Prod.fst).Nodup)
    (hg : generateLindbladian inp = some h) (k : Nat) (j : Term) (hk : inp.jumps[k]? = some j) :
    h.terms[2 * inp.ham.terms.length + k]? = some ⟨j.frac, j.coeff ++ "*j",
      (j.tp.map fun (s, l) => (s ++ inp.ketSuffix, l)) ++
      (j.tp.map fun (s, l) => (s ++ inp.braSuffix,
        if inp.flags.real l then l else l ++ "_conj"))⟩ := by
  rw [generate_spec_of_some inp h hn hg]
  exact (termsWithBraSign_jump 1 inp k j hk).1

/-- Ket-side anticommutator: at position `2|H| + |J| + 2k` the term `−(f/2) · γ*j · L†L` on the ket
    identifiers, `L†L` site by site (`A_H_mult_A`, `A_mult_A` for Hermitian `A`, the other factor
    when one is the identity). -/
theorem anticomm_ket_spec (inp : Input) (h : Ham) (hn : ∀ j ∈ inp.jumps, (j.tp.map Prod.fst).Nodup)
    (hg : generateLindbladian inp = some h) (k : Nat) (j : Term) (hk : inp.jumps[k]? = some j) :
    h.terms[2 * inp.ham.terms.length + inp.jumps.length + 2 * k]? =
      some ⟨-(j.frac / 2), j.coeff ++ "*j",
        j.tp.map fun (s, l) => (s ++ inp.ketSuffix, prodLabel inp.flags inp.jumpKeys l)⟩ := by
  rw [generate_spec_of_some inp h hn hg]
  exact (termsWithBraSign_jump 1 inp k j hk).2.1

/-- **The exact characterisation of finding F-C15.**  At position `2|H| + |J| + 2k + 1` stands the
    bra-side anticommutator term: the transposed `L†L` labels on the bra identifiers, the same
    coefficient symbol `γ*j`, and the prefactor **`+f/2`** — the negative of the ket-side
    prefactor `−f/2` — whereas the GKSL generator of the property prescribes `−f/2` on both
    sides (see `generated_eq_gksl_iff`). -/
theorem anticomm_bra_sign_witness (inp : Input) (h : Ham)
    (hn : ∀ j ∈ inp.jumps, (j.tp.map Prod.fst).Nodup)
    (hg : generateLindbladian inp = some h) (k : Nat) (j : Term) (hk : inp.jumps[k]? = some j) :
    (∃ t, h.terms[2 * inp.ham.terms.length + inp.jumps.length + 2 * k + 1]? = some t ∧
      t.frac = j.frac / 2 ∧ t.coeff = j.coeff ++ "*j" ∧
      t.tp = (j.tp.map fun (s, l) => (s ++ inp.braSuffix,
        if inp.flags.symJ (prodLabel inp.flags inp.jumpKeys l)
        then prodLabel inp.flags inp.jumpKeys l
        else prodLabel inp.flags inp.jumpKeys l ++ "_T")) ∧
      (gkslTerms inp)[2 * inp.ham.terms.length + inp.jumps.length + 2 * k + 1]? =
        some { t with frac := -(j.frac / 2) } ∧
      t.frac - (-(j.frac / 2)) = j.frac) := by
  rw [generate_spec_of_some inp h hn hg]
  refine ⟨braProdTermWith (1 * (j.frac / 2)) inp.flags inp.jumpKeys inp.braSuffix j,
    (termsWithBraSign_jump 1 inp k j hk).2.2, Rat.one_mul _, rfl, rfl, ?_, ?_⟩
  · rw [gkslTerms, (termsWithBraSign_jump (-1) inp k j hk).2.2, braProdTermWith, neg_one_mul_rat]
    rfl
  · show 1 * (j.frac / 2) - -(j.frac / 2) = j.frac
    rw [Rat.one_mul, Rat.sub_eq_add_neg, Rat.neg_neg, half_add_half]

/-- The generated list is the prescribed (GKSL) list exactly when every jump operator has prefactor 0. -/
theorem generated_eq_gksl_iff (inp : Input) (h : Ham)
    (hn : ∀ j ∈ inp.jumps, (j.tp.map Prod.fst).Nodup) (hg : generateLindbladian inp = some h) :
    h.terms = gkslTerms inp ↔ ∀ j ∈ inp.jumps, j.frac = 0 := by
  rw [generate_spec_of_some inp h hn hg]
  simp only [gkslTerms, termsWithBraSign, List.append_cancel_left_eq]
  induction inp.jumps with
  | nil => simp
  | cons j js ih =>
    simp only [List.flatMap_cons, List.cons_append, List.nil_append, List.cons.injEq, true_and,
      List.mem_cons, forall_eq_or_imp, ih]
    apply and_congr_left'
    simp only [braProdTermWith, Term.mk.injEq, and_true]
    constructor
    · intro hf; grind
    · intro hf; rw [hf]; grind

/-- Everything else is as the GKSL generator prescribes: the generated list and the GKSL list
    differ only in the prefactor of the bra-side product terms. -/
theorem residual_spec (inp : Input) (h : Ham) (hn : ∀ j ∈ inp.jumps, (j.tp.map Prod.fst).Nodup)
    (hg : generateLindbladian inp = some h) :
    h.terms.length = (gkslTerms inp).length ∧
    h.terms.map (fun t => (t.coeff, t.tp)) = (gkslTerms inp).map (fun t => (t.coeff, t.tp)) ∧
    h.terms.take (2 * inp.ham.terms.length + inp.jumps.length) =
      (gkslTerms inp).take (2 * inp.ham.terms.length + inp.jumps.length) := by
  rw [generate_spec_of_some inp h hn hg]
  refine ⟨by rw [gkslTerms, termsWithBraSign_length, termsWithBraSign_length], ?_,
    by rw [gkslTerms, termsWithBraSign_take, termsWithBraSign_take]⟩
  simp only [gkslTerms, termsWithBraSign, List.map_append, List.map_flatMap]
  rfl

/-- `rate = (dense coefficient)²`: with `c² = f·γ` the three scalar prefactors of the symbolic
    construction (`f·iγ`, `−f/2·iγ`, `+f/2·iγ`) are those of `exact_lindbladian`
    (`1j·c²`, `−1j/2·c²`, `+1j/2·c²`) — both constructions carry the same (wrong) sign. -/
theorem symbolic_dense_prefactors_agree (f γ c2 : Rat) (h : c2 = f * γ) :
    symbolicJumpPrefactors f γ = exactJumpPrefactors c2 := by
  subst h
  simp only [symbolicJumpPrefactors, exactJumpPrefactors, Prod.mk.injEq, GRat.mk.injEq, true_and]
  refine ⟨by grind, by grind, by grind⟩

section denote
open Matrix Kronecker
variable {ι : Type} [Fintype ι] [DecidableEq ι] {d : ι → Type} [∀ s, Fintype (d s)]
  [∀ s, DecidableEq (d s)]

/-- **The generated Lindbladian as a matrix.**  For any finite family of sites with any
    dimensions: with `H = Σ f·c·(x)_s A_s` the dense Hamiltonian, `L_k = (x)_s L_{k,s}` the dense
    jump operators and `γ_k = f_k · jval(symbol_k)` the rates, the denotation of the generated term
    list on (ket sites) ⊗ (bra sites) is
    `H ⊗ 1 − 1 ⊗ Hᵀ + i Σ_k γ_k (L_k ⊗ conj L_k − ½ L_k†L_k ⊗ 1 + ½ · 1 ⊗ (L_k†L_k)ᵀ)`,
    i.e. the GKSL generator plus exactly `+i Σ_k γ_k · 1 ⊗ (L_k†L_k)ᵀ` (finding F-C15). -/
theorem lindblad_denote_eq (E : Env ι d) (inp : Input) (jval : String → ℂ) (h : Ham)
    (hfit : Fits E inp jval) (hn : ∀ j ∈ inp.jumps, (j.tp.map Prod.fst).Nodup)
    (hg : generateLindbladian inp = some h) :
    let H := hamMat E inp.ham.terms
    let js := jumpMats E jval inp.jumps
    denTerms E h.terms = genMat H js ∧
    genMat H js = H ⊗ₖ (1 : Matrix (∀ s, d s) (∀ s, d s) ℂ) - (1 : Matrix _ _ ℂ) ⊗ₖ Hᵀ +
      (js.map fun j => (Complex.I * j.1) • (j.2 ⊗ₖ j.2.map star
        - (1 / 2 : ℂ) • ((j.2ᴴ * j.2) ⊗ₖ (1 : Matrix (∀ s, d s) (∀ s, d s) ℂ))
        + (1 / 2 : ℂ) • ((1 : Matrix (∀ s, d s) (∀ s, d s) ℂ) ⊗ₖ (j.2ᴴ * j.2)ᵀ))).sum ∧
    denTerms E h.terms = gkslMat H js +
      (js.map fun j => (Complex.I * j.1) •
        ((1 : Matrix (∀ s, d s) (∀ s, d s) ℂ) ⊗ₖ (j.2ᴴ * j.2)ᵀ)).sum := by
  intro H js
  have h1 : denTerms E h.terms = genMat H js := by
    rw [generate_spec_of_some inp h hn hg]
    rw [denote_termsWithBraSign E inp jval 1 hfit, Rat.cast_one]
    rfl
  refine ⟨h1, ?_, ?_⟩
  · simp only [genMat, lindMat, dissip, one_mul]
  · rw [h1, genMat_eq_gksl_add]

/-- The term list the property prescribes (`gkslTerms`) denotes the GKSL generator: the specification side
    of `lindblad_denote_eq`. -/
theorem gksl_denote_eq (E : Env ι d) (inp : Input) (jval : String → ℂ) (hfit : Fits E inp jval) :
    denTerms E (gkslTerms inp) =
      gkslMat (hamMat E inp.ham.terms) (jumpMats E jval inp.jumps) := by
  rw [gkslTerms, denote_termsWithBraSign E inp jval (-1) hfit, Rat.cast_neg, Rat.cast_one]
  rfl

/-- `rate = (dense coefficient)²`: `exact_lindbladian(H, [(c_k, L_k)])`, as the matrix expression
    of the source, equals the denotation of the symbolically generated Lindbladian. -/
theorem symbolic_eq_dense (E : Env ι d) (inp : Input) (jval : String → ℂ) (h : Ham)
    (hfit : Fits E inp jval) (hn : ∀ j ∈ inp.jumps, (j.tp.map Prod.fst).Nodup)
    (hg : generateLindbladian inp = some h)
    (cs : List (ℂ × Matrix (∀ s, d s) (∀ s, d s) ℂ))
    (hcs : jumpMats E jval inp.jumps = cs.map fun c => (c.1 ^ 2, c.2)) :
    exactMat (hamMat E inp.ham.terms) cs = denTerms E h.terms := by
  rw [(lindblad_denote_eq E inp jval h hfit hn hg).1, hcs, exactMat_eq_genMat]

end denote

section trace
open Matrix Kronecker
variable {K : Type} [Fintype K] [DecidableEq K]

/-- The vectorisation convention: `vec(ρ)[(i,j)] = ρ[i,j]` (ket index first), under which
    `(A ⊗ B) vec(ρ) = vec(A ρ Bᵀ)`, `vec(1)·vec(ρ) = tr ρ` and `vec(1)ᵀ (A ⊗ B) = vec(Aᵀ B)ᵀ`. -/
theorem vectorisation_spec (A B ρ : Matrix K K ℂ) :
    (A ⊗ₖ B) *ᵥ vec ρ = vec (A * ρ * Bᵀ) ∧ trVec ⬝ᵥ vec ρ = Matrix.trace ρ ∧
    trVec ᵥ* (A ⊗ₖ B) = vec (Aᵀ * B) :=
  ⟨kronecker_mulVec_vec A B ρ, trVec_dot_vec ρ, trVec_vecMul_kronecker A B⟩

/-- For the CORRECT generator (−½ on the bra side) the trace functional is annihilated:
    `vec(1)ᵀ 𝓛 = 0`, hence `vec(1)·(𝓛 vec ρ) = 0` for every `ρ`, i.e. `d/dt tr ρ = 0` under
    `ρ' = −i𝓛ρ`.  For the generator with the code's sign (+½) the residual is exactly
    `vec(1)ᵀ 𝓛_gen = Σ_k i·γ_k · vec((L_k†L_k)ᵀ)ᵀ`. -/
theorem gksl_trace_preserving (H : Matrix K K ℂ) (js : List (ℂ × Matrix K K ℂ)) :
    trVec ᵥ* gkslMat H js = 0 ∧
    (∀ ρ : Matrix K K ℂ, trVec ⬝ᵥ (gkslMat H js *ᵥ vec ρ) = 0) ∧
    trVec ᵥ* genMat H js = (js.map fun j => (Complex.I * j.1) • vec ((j.2ᴴ * j.2)ᵀ)).sum := by
  have h0 : trVec ᵥ* gkslMat H js = 0 := by
    rw [gkslMat, trVec_lindMat]
    simp
  refine ⟨h0, ?_, ?_⟩
  · intro ρ
    rw [Matrix.dotProduct_mulVec, h0, zero_dotProduct]
  · rw [genMat, trVec_lindMat]
    congr 1
    apply List.map_congr_left
    intro j _
    congr 1
    ring

/-- **The GKSL flow preserves the trace.**  For every Hamiltonian, every list of jump operators with
    rates, and every (complex) time `t`: the trace functional is a fixed row vector of `exp(−i t 𝓛)`, so
    `tr ρ(t) = tr ρ` for every matrix `ρ` — the statement of the property about `exp(−i t 𝓛)` itself, not
    only about the generator (`gksl_trace_preserving`).  The matrix exponential is Mathlib's. -/
theorem gksl_flow_trace_preserving (H : Matrix K K ℂ) (js : List (ℂ × Matrix K K ℂ)) (t : ℂ) :
    trVec ᵥ* NormedSpace.exp ((-Complex.I * t) • gkslMat H js) = trVec ∧
    ∀ ρ : Matrix K K ℂ,
      trVec ⬝ᵥ (NormedSpace.exp ((-Complex.I * t) • gkslMat H js) *ᵥ vec ρ) = trVec ⬝ᵥ vec ρ := by
  have h0 : trVec ᵥ* ((-Complex.I * t) • gkslMat H js) = 0 := by
    rw [Matrix.vecMul_smul, (gksl_trace_preserving H js).1, smul_zero]
  have h1 := vecMul_exp_of_vecMul_eq_zero _ _ h0
  refine ⟨h1, fun ρ => ?_⟩
  rw [Matrix.dotProduct_mulVec, h1]

/-- **The GKSL flow preserves Hermiticity.**  For every Hermitian Hamiltonian, every list of jump operators
    with real rates and every real time `t`, `exp(−i t 𝓛)` maps the vectorisation of a Hermitian matrix to
    the vectorisation of a Hermitian matrix: the evolved `ρ(t)`, read back as a matrix, equals its own
    conjugate transpose.  (`gksl_flow_dag`: the flow commutes with the adjoint because `𝓛` changes sign under
    the ring automorphism `M ↦ conj M[(b,a),(d,c)]`.) -/
theorem gksl_flow_hermiticity_preserving (H : Matrix K K ℂ) (hH : Hᴴ = H)
    (js : List (ℂ × Matrix K K ℂ)) (hjs : ∀ j ∈ js, star j.1 = j.1) (t : ℝ)
    (ρ : Matrix K K ℂ) (hρ : ρᴴ = ρ) :
    (Matrix.of fun a b => (NormedSpace.exp ((-Complex.I * (t : ℂ)) • gkslMat H js) *ᵥ vec ρ) (a, b))ᴴ =
      Matrix.of fun a b => (NormedSpace.exp ((-Complex.I * (t : ℂ)) • gkslMat H js) *ᵥ vec ρ) (a, b) := by
  have h := gksl_flow_dag H hH js hjs t ρ
  rw [hρ] at h
  ext a b
  exact congrFun h (a, b)

/-- the hypotheses of `gksl_flow_hermiticity_preserving` are satisfiable (`H = 0`, one jump operator `σ₋` with
    rate 1, `ρ = 1`) -/
example : ((0 : Matrix (Fin 2) (Fin 2) ℂ)ᴴ = 0) ∧
    (∀ j ∈ [((1 : ℂ), (!![0, 1; 0, 0] : Matrix (Fin 2) (Fin 2) ℂ))], star j.1 = j.1) ∧
    ((1 : Matrix (Fin 2) (Fin 2) ℂ)ᴴ = 1) := by simp

/-- Concrete witness: one qubit, `H = 0`, one jump operator `σ₋ = [[0,1],[0,0]]` with rate 1 — the
    generated generator does not annihilate the trace functional (entry `(1,1)` is `i`), whereas
    the GKSL generator does. -/
theorem generated_not_trace_preserving_witness :
    trVec ᵥ* genMat (0 : Matrix (Fin 2) (Fin 2) ℂ) [(1, !![0, 1; 0, 0])] ≠ 0 ∧
    trVec ᵥ* gkslMat (0 : Matrix (Fin 2) (Fin 2) ℂ) [(1, !![0, 1; 0, 0])] = 0 := by
  refine ⟨?_, (gksl_trace_preserving _ _).1⟩
  rw [(gksl_trace_preserving _ _).2.2]
  intro h
  have := congrFun h (1, 1)
  simp [vec, Matrix.mul_apply, Fin.sum_univ_two, Matrix.conjTranspose_apply] at this

end trace

example : WellFormed exampleInput := by
  refine ⟨?_, ?_⟩ <;> intro j hj <;> simp [exampleInput] at hj <;> subst hj
  · simp
  · simp [DoubledDistinct]
    decide

/-- the generated terms of the example … -/
example : (generateLindbladian exampleInput).map (·.terms) = some
    [⟨1/2, "J", [("s0_ket", "X")]⟩, ⟨-1/2, "J", [("s0_bra", "X")]⟩,
     ⟨3/4, "g*j", [("s0_ket", "A"), ("s0_bra", "A_conj")]⟩,
     ⟨-3/8, "g*j", [("s0_ket", "A_H_mult_A")]⟩,
     ⟨3/8, "g*j", [("s0_bra", "A_H_mult_A_T")]⟩] := by decide +kernel

/-- … differ from the GKSL prescription in the last prefactor (`+3/8` instead of `−3/8`). -/
example : (generateLindbladian exampleInput).map (·.terms) ≠ some (gkslTerms exampleInput) ∧
    (gkslTerms exampleInput)[4]? = some ⟨-3/8, "g*j", [("s0_bra", "A_H_mult_A_T")]⟩ := by
  decide +kernel

open Matrix in
/-- the hypotheses of `label_shortcuts_sound` are satisfiable by a dictionary that is not the
    identity: every label denotes the projector `diag(1, 0)` (real, symmetric, Hermitian,
    idempotent, not the identity), flagged accordingly -/
example : DictSound (fun _ : Label => (!![1, 0; 0, 0] : Matrix (Fin 2) (Fin 2) ℂ)) ∧
    FlagsSound ⟨fun _ => true, fun _ => true, fun _ => false, fun _ => true, fun _ => true⟩
      (fun _ : Label => (!![1, 0; 0, 0] : Matrix (Fin 2) (Fin 2) ℂ)) :=
  ⟨dictSound_proj, fun _ _ => proj_transpose, fun _ _ => proj_transpose, fun _ _ => proj_conj,
    fun _ _ => proj_adjoint, fun _ h => Bool.noConfusion h⟩

open Matrix in
/-- the hypotheses `Fits` of the denotation theorems are satisfiable for `exampleInput`: one site
    `s0` of dimension 2, every label read as the projector `diag(1,0)`, `γ*j ↦ i·1` -/
example : Fits (ι := Fin 1) (d := fun _ => Fin 2)
    { name := fun _ => "s0", ks := "_ket", bs := "_bra",
      den := fun _ _ => !![1, 0; 0, 0], cval := fun _ => Complex.I }
    exampleInput (fun _ => 1) := by
  refine ⟨rfl, rfl, fun _ _ => by show "s0" ++ "_ket" ≠ "s0" ++ "_bra"; decide, ?_, ?_,
    fun _ => dictSound_proj, ?_, ?_⟩
  · intro t ht e he
    simp [exampleInput] at ht; subst ht
    simp at he; subst he
    exact ⟨0, rfl⟩
  · intro t ht e he
    simp [exampleInput] at ht; subst ht
    simp at he; subst he
    exact ⟨0, rfl⟩
  · exact fun _ => ⟨fun _ _ => proj_transpose, fun _ h => Bool.noConfusion h,
      fun _ h => Bool.noConfusion h, fun _ h => Bool.noConfusion h,
      fun _ h => Bool.noConfusion h⟩
  · intro j _; simp

end Ptn.C15
