import Ptn.C15.Model
import Mathlib.LinearAlgebra.Matrix.Kronecker
import Mathlib.Data.Complex.Basic
/-! Matrices for C15 (Mathlib's Kronecker product): the n-site Kronecker product `piKron`, the vectorisation
    convention on the doubled space, and the three matrix expressions (GKSL generator, generated Lindbladian,
    `exact_lindbladian`) as `lindMat σ` / `exactMat`, with what the trace functional does to them. -/
namespace Ptn.C15
open Matrix Kronecker

section piKron
variable {ι : Type} [Fintype ι] [DecidableEq ι] {d : ι → Type} [∀ s, Fintype (d s)]
  [∀ s, DecidableEq (d s)]

/-- `(x)_s A_s` on the product index `∀ s, d s` (what `numpy.kron` over the site list computes, up
    to the identification of the flat index with the multi-index). -/
def piKron (A : ∀ s, Matrix (d s) (d s) ℂ) : Matrix (∀ s, d s) (∀ s, d s) ℂ :=
  fun i j => ∏ s, A s (i s) (j s)

omit [DecidableEq ι] [∀ s, Fintype (d s)] in
theorem piKron_one : piKron (fun s => (1 : Matrix (d s) (d s) ℂ)) = 1 := by
  ext i j
  simp only [piKron, Matrix.one_apply]
  by_cases h : i = j
  · subst h; simp
  · rw [if_neg h]
    obtain ⟨s, hs⟩ := Function.ne_iff.mp h
    exact Finset.prod_eq_zero (Finset.mem_univ s) (by simp [hs])

omit [∀ s, DecidableEq (d s)] in
theorem piKron_mul (A B : ∀ s, Matrix (d s) (d s) ℂ) :
    piKron A * piKron B = piKron (fun s => A s * B s) := by
  ext i j
  simp only [piKron, Matrix.mul_apply]
  rw [Fintype.prod_sum]
  apply Finset.sum_congr rfl
  intro k _
  rw [Finset.prod_mul_distrib]

omit [DecidableEq ι] [∀ s, Fintype (d s)] [∀ s, DecidableEq (d s)] in
theorem piKron_transpose (A : ∀ s, Matrix (d s) (d s) ℂ) :
    (piKron A)ᵀ = piKron (fun s => (A s)ᵀ) := rfl

omit [DecidableEq ι] [∀ s, Fintype (d s)] [∀ s, DecidableEq (d s)] in
theorem piKron_conj (A : ∀ s, Matrix (d s) (d s) ℂ) :
    (piKron A).map star = piKron (fun s => (A s).map star) := by
  ext i j; exact star_prod ..

omit [DecidableEq ι] [∀ s, Fintype (d s)] [∀ s, DecidableEq (d s)] in
theorem piKron_conjTranspose (A : ∀ s, Matrix (d s) (d s) ℂ) :
    (piKron A)ᴴ = piKron (fun s => (A s)ᴴ) := by
  ext i j; exact star_prod ..

end piKron

section vec
variable {K : Type} [Fintype K] [DecidableEq K]

/-- `vec(ρ)[(i, j)] = ρ[i, j]`: the ket index first (row-major flattening of `ρ`). -/
def vec (M : Matrix K K ℂ) : K × K → ℂ := fun p => M p.1 p.2

/-- The trace functional as a vector: `vec(1)`, `trVec ⬝ᵥ vec ρ = tr ρ`. -/
def trVec : K × K → ℂ := vec (1 : Matrix K K ℂ)

omit [Fintype K] in
theorem map_star_one : (1 : Matrix K K ℂ).map star = 1 :=
  Matrix.map_one _ (star_zero _) (star_one _)

theorem trVec_dot_vec (M : Matrix K K ℂ) : trVec ⬝ᵥ vec M = Matrix.trace M := by
  simp only [trVec, vec, dotProduct, Fintype.sum_prod_type, Matrix.one_apply, Matrix.trace,
    Matrix.diag_apply, ite_mul, one_mul, zero_mul, Finset.sum_ite_eq, Finset.mem_univ, if_true]

omit [DecidableEq K] in
theorem kronecker_mulVec_vec (A B ρ : Matrix K K ℂ) : (A ⊗ₖ B) *ᵥ vec ρ = vec (A * ρ * Bᵀ) := by
  funext ⟨i, j⟩
  simp only [mulVec, dotProduct, vec, Fintype.sum_prod_type, kronecker_apply, Matrix.mul_apply,
    Matrix.transpose_apply, Finset.sum_mul]
  rw [Finset.sum_comm]
  apply Finset.sum_congr rfl; intro l _
  apply Finset.sum_congr rfl; intro k _
  ring

theorem trVec_vecMul_kronecker (A B : Matrix K K ℂ) : trVec ᵥ* (A ⊗ₖ B) = vec (Aᵀ * B) := by
  funext ⟨k, l⟩
  simp only [vecMul, dotProduct, trVec, vec, Fintype.sum_prod_type, Matrix.mul_apply,
    Matrix.one_apply, Matrix.transpose_apply, kronecker_apply, ite_mul, one_mul, zero_mul,
    Finset.sum_ite_eq, Finset.mem_univ, if_true]

/-- dissipator of one jump operator with rate `γ`; the bra-side anticommutator enters with
    `σ · ½` (`σ = -1`: GKSL; `σ = +1`: what the code generates) -/
noncomputable def dissip (σ γ : ℂ) (L : Matrix K K ℂ) : Matrix (K × K) (K × K) ℂ :=
  (Complex.I * γ) • (L ⊗ₖ L.map star - (1 / 2 : ℂ) • ((Lᴴ * L) ⊗ₖ (1 : Matrix K K ℂ))
    + (σ * (1 / 2)) • ((1 : Matrix K K ℂ) ⊗ₖ (Lᴴ * L)ᵀ))

/-- `H ⊗ 1 − 1 ⊗ Hᵀ + Σ_k dissip σ γ_k L_k`: what the term list `termsWithBraSign σ` of `Model.lean` denotes
    (`denote_termsWithBraSign`). -/
noncomputable def lindMat (σ : ℂ) (H : Matrix K K ℂ) (js : List (ℂ × Matrix K K ℂ)) :
    Matrix (K × K) (K × K) ℂ :=
  H ⊗ₖ (1 : Matrix K K ℂ) - (1 : Matrix K K ℂ) ⊗ₖ Hᵀ + (js.map fun j => dissip σ j.1 j.2).sum

/-- the GKSL generator of the property (`σ = -1`) -/
noncomputable def gkslMat (H : Matrix K K ℂ) (js : List (ℂ × Matrix K K ℂ)) := lindMat (-1) H js
/-- the matrix of the term list that `generate_lindbladian` generates (`σ = +1`, finding F-C15) -/
noncomputable def genMat (H : Matrix K K ℂ) (js : List (ℂ × Matrix K K ℂ)) := lindMat 1 H js

/-- `exact_lindbladian(H, [(c_k, L_k)])` as written in the source: `_hamiltonian_part` plus, per jump
    operator, `c² · (1j·kron(L, conj L) − 1j/2·kron(L†L, 1) + 1j/2·kron(1, (L†L)ᵀ))`. -/
noncomputable def exactMat (H : Matrix K K ℂ) (cs : List (ℂ × Matrix K K ℂ)) :
    Matrix (K × K) (K × K) ℂ :=
  (H ⊗ₖ (1 : Matrix K K ℂ) + (-1 : ℂ) • ((1 : Matrix K K ℂ) ⊗ₖ Hᵀ)) +
  (cs.map fun c => (c.1 ^ 2) • (Complex.I • (c.2 ⊗ₖ c.2.map star)
    + (-Complex.I / 2) • ((c.2ᴴ * c.2) ⊗ₖ (1 : Matrix K K ℂ))
    + (Complex.I / 2) • ((1 : Matrix K K ℂ) ⊗ₖ (c.2ᴴ * c.2)ᵀ))).sum

theorem dissip_gen_sub_gksl (γ : ℂ) (L : Matrix K K ℂ) :
    dissip 1 γ L = dissip (-1) γ L + (Complex.I * γ) • ((1 : Matrix K K ℂ) ⊗ₖ (Lᴴ * L)ᵀ) := by
  simp only [dissip]
  module

theorem genMat_eq_gksl_add (H : Matrix K K ℂ) (js : List (ℂ × Matrix K K ℂ)) :
    genMat H js = gkslMat H js +
      (js.map fun j => (Complex.I * j.1) • ((1 : Matrix K K ℂ) ⊗ₖ (j.2ᴴ * j.2)ᵀ)).sum := by
  simp only [genMat, gkslMat, lindMat]
  have : (js.map fun j => dissip 1 j.1 j.2).sum = (js.map fun j => dissip (-1) j.1 j.2).sum +
      (js.map fun j => (Complex.I * j.1) • ((1 : Matrix K K ℂ) ⊗ₖ (j.2ᴴ * j.2)ᵀ)).sum := by
    induction js with
    | nil => simp
    | cons j js ih =>
      simp only [List.map_cons, List.sum_cons]
      rw [ih, dissip_gen_sub_gksl]; abel
  rw [this]; abel

theorem trVec_dissip (σ γ : ℂ) (L : Matrix K K ℂ) :
    trVec ᵥ* dissip σ γ L = (Complex.I * γ * ((1 + σ) / 2)) • vec ((Lᴴ * L)ᵀ) := by
  have hLL : Lᵀ * L.map star = (Lᴴ * L)ᵀ := by
    ext i j
    simp [Matrix.mul_apply, Matrix.transpose_apply, Matrix.conjTranspose_apply, mul_comm]
  simp only [dissip, Matrix.vecMul_smul, Matrix.vecMul_add, Matrix.vecMul_sub,
    trVec_vecMul_kronecker, hLL, Matrix.transpose_one, Matrix.one_mul, Matrix.mul_one]
  funext p
  simp only [Pi.smul_apply, Pi.add_apply, Pi.sub_apply, smul_eq_mul]
  ring

theorem trVec_lindMat (σ : ℂ) (H : Matrix K K ℂ) (js : List (ℂ × Matrix K K ℂ)) :
    trVec ᵥ* lindMat σ H js =
      (js.map fun j => (Complex.I * j.1 * ((1 + σ) / 2)) • vec ((j.2ᴴ * j.2)ᵀ)).sum := by
  have hsum : trVec ᵥ* (js.map fun j => dissip σ j.1 j.2).sum =
      (js.map fun j => (Complex.I * j.1 * ((1 + σ) / 2)) • vec ((j.2ᴴ * j.2)ᵀ)).sum := by
    induction js with
    | nil => simp
    | cons j js ih => simp only [List.map_cons, List.sum_cons, Matrix.vecMul_add, ih, trVec_dissip]
  simp only [lindMat, Matrix.vecMul_add, Matrix.vecMul_sub, trVec_vecMul_kronecker, hsum,
    Matrix.transpose_one, Matrix.one_mul, Matrix.mul_one, sub_self, zero_add]

theorem exactMat_eq_genMat (H : Matrix K K ℂ) (cs : List (ℂ × Matrix K K ℂ)) :
    exactMat H cs = genMat H (cs.map fun c => (c.1 ^ 2, c.2)) := by
  simp only [exactMat, genMat, lindMat, List.map_map]
  congr 1
  · rw [neg_one_smul, sub_eq_add_neg]
  · congr 1
    apply List.map_congr_left
    intro c _
    simp only [Function.comp, dissip]
    module

end vec
end Ptn.C15
