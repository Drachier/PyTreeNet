import Ptn.C15.Model
import Mathlib.Data.Complex.Basic
import Mathlib.LinearAlgebra.Matrix.Notation
/-! C15 over complex matrices, label level: what it means for a conversion dictionary to give the
    derived labels their intended values and for the flag tables to be sound, and that under these
    hypotheses every labelling shortcut denotes what it stands for (`label_shortcuts_sound`).  At the end a
    dictionary that meets the hypotheses without being the identity (the projector `diag(1, 0)`), for the examples. -/
namespace Ptn.C15
open Matrix

variable {n : Type} [Fintype n] [DecidableEq n]

/-- `den` plays the role of the final `conversion_dictionary`: the derived labels carry the values
    the source stores for them (`operator.T`, `operator.conj()`, `operator.conj().T`, `a @ b`). -/
structure DictSound (den : Label → Matrix n n ℂ) : Prop where
  transp : ∀ l, den (l ++ "_T") = (den l)ᵀ
  conj : ∀ l, den (l ++ "_conj") = (den l).map star
  adj : ∀ l, den (l ++ "_H") = (den l)ᴴ
  mult : ∀ a b, den (a ++ "_mult_" ++ b) = den a * den b

/-- The flag tables tell the truth about `den`: a label flagged symmetric / real / Hermitian / identity denotes
    such a matrix (what `_find_symmetric_operators` etc. test numerically). -/
structure FlagsSound (fl : Flags) (den : Label → Matrix n n ℂ) : Prop where
  symH : ∀ l, fl.symH l = true → (den l)ᵀ = den l
  symJ : ∀ l, fl.symJ l = true → (den l)ᵀ = den l
  real : ∀ l, fl.real l = true → (den l).map star = den l
  herm : ∀ l, fl.herm l = true → (den l)ᴴ = den l
  ident : ∀ l, fl.ident l = true → den l = 1

omit [Fintype n] in
theorem idDictAfterH_sound (fl : Flags) (den : Label → Matrix n n ℂ) (hf : FlagsSound fl den)
    (jk : List Label) (l : Label) (h : idDictAfterH fl jk l = true) : den l = 1 := by
  simp only [idDictAfterH] at h
  split at h
  · simp at h
  · exact hf.ident l h

theorem multLabel_sound (ident : Label → Bool) (den : Label → Matrix n n ℂ) (hd : DictSound den)
    (hi : ∀ l, ident l = true → den l = 1) (a b : Label) :
    den (multLabel ident a b) = den a * den b := by
  simp only [multLabel]
  split
  · rename_i h; rw [hi a h, Matrix.one_mul]
  · split
    · rename_i h; rw [hi b h, Matrix.mul_one]
    · exact hd.mult a b

/-- Whatever shortcut is taken, the label written on the bra side of a Hamiltonian term denotes the
    transpose, the one written on the bra side of a jump term the complex conjugate, the product
    label denotes `L_s† L_s`, and its bra-side version the transpose of that — provided the final
    conversion dictionary gives the derived labels their values and the flags are sound. -/
theorem label_shortcuts_sound (fl : Flags) (jk : List Label) (den : Label → Matrix n n ℂ)
    (hd : DictSound den) (hf : FlagsSound fl den) (l : Label) :
    den (if fl.symH l then l else l ++ "_T") = (den l)ᵀ ∧
    den (if fl.real l then l else l ++ "_conj") = (den l).map star ∧
    den (prodLabel fl jk l) = (den l)ᴴ * den l ∧
    den (if fl.symJ (prodLabel fl jk l) then prodLabel fl jk l else prodLabel fl jk l ++ "_T") =
      ((den l)ᴴ * den l)ᵀ := by
  have hp : den (prodLabel fl jk l) = (den l)ᴴ * den l := by
    simp only [prodLabel]
    rw [multLabel_sound _ den hd (idDictAfterH_sound fl den hf jk)]
    congr 1
    split
    · rename_i h; exact (hf.herm l h).symm
    · exact hd.adj l
  refine ⟨?_, ?_, hp, ?_⟩
  · split
    · rename_i h; exact (hf.symH l h).symm
    · exact hd.transp l
  · split
    · rename_i h; exact (hf.real l h).symm
    · exact hd.conj l
  · split
    · rename_i h; rw [← hp]; exact (hf.symJ _ h).symm
    · rw [hd.transp, hp]

/-! A sound dictionary that is not the identity: every label denotes the projector `diag(1, 0)`,
  which is real, symmetric, Hermitian and idempotent. -/

theorem proj_transpose : (!![1, 0; 0, 0] : Matrix (Fin 2) (Fin 2) ℂ)ᵀ = !![1, 0; 0, 0] := by
  ext i j; fin_cases i <;> fin_cases j <;> rfl

theorem proj_conj : (!![1, 0; 0, 0] : Matrix (Fin 2) (Fin 2) ℂ).map star = !![1, 0; 0, 0] := by
  ext i j; fin_cases i <;> fin_cases j <;> simp

theorem proj_adjoint : (!![1, 0; 0, 0] : Matrix (Fin 2) (Fin 2) ℂ)ᴴ = !![1, 0; 0, 0] := by
  rw [Matrix.conjTranspose, proj_transpose, proj_conj]

theorem proj_mul :
    (!![1, 0; 0, 0] : Matrix (Fin 2) (Fin 2) ℂ) * !![1, 0; 0, 0] = !![1, 0; 0, 0] := by
  rw [Matrix.mul_fin_two]; simp

theorem dictSound_proj :
    DictSound (fun _ : Label => (!![1, 0; 0, 0] : Matrix (Fin 2) (Fin 2) ℂ)) :=
  ⟨fun _ => proj_transpose.symm, fun _ => proj_conj.symm, fun _ => proj_adjoint.symm,
    fun _ _ => proj_mul.symm⟩

end Ptn.C15
