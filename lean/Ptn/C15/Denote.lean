import Ptn.C15.Sem
import Ptn.C15.Kron
/-! The denotation of the symbolic term lists of C15 into matrices on (ket sites) ⊗ (bra sites),
    for an arbitrary finite family of sites with arbitrary dimensions, and the chain of lemmas that
    evaluates the closed form `termsWithBraSign σ` to `lindMat σ`. -/
set_option linter.unusedSectionVars false
namespace Ptn.C15
open Matrix Kronecker

section denote
variable {ι : Type} [Fintype ι] [DecidableEq ι] {d : ι → Type} [∀ s, Fintype (d s)]
  [∀ s, DecidableEq (d s)]

/-- The semantic environment: site names, the suffixes, the final `conversion_dictionary`
    (`den l s` = the matrix of label `l` read at site `s`) and the final `coeffs_mapping`. -/
structure Env (ι : Type) (d : ι → Type) where
  name : ι → Site
  ks : String
  bs : String
  den : Label → ∀ s, Matrix (d s) (d s) ℂ
  cval : String → ℂ

/-- The factor of `tp` at site `s` when the sites are addressed by `key`: the matrix of the label stored under
    `key s`, the identity if `tp` has no such identifier.  An identifier of `tp` that is `key s` for no `s` is
    not read at all, which is why the theorems ask for `Named`. -/
def siteOp (E : Env ι d) (key : ι → Site) (tp : TP) (s : ι) : Matrix (d s) (d s) ℂ :=
  match TP.get? tp (key s) with
  | some l => E.den l s
  | none => 1

/-- `tp` as an operator on all sites addressed by `key`: the Kronecker product of its factors. -/
def opOn (E : Env ι d) (key : ι → Site) (tp : TP) : Matrix (∀ s, d s) (∀ s, d s) ℂ :=
  piKron (siteOp E key tp)

/-- A doubled tensor product on (ket sites) ⊗ (bra sites): what it holds under the ket identifiers
    `name s ++ ks`, times what it holds under the bra identifiers `name s ++ bs`. -/
def denTP (E : Env ι d) (tp : TP) :
    Matrix ((∀ s, d s) × (∀ s, d s)) ((∀ s, d s) × (∀ s, d s)) ℂ :=
  opOn E (fun s => E.name s ++ E.ks) tp ⊗ₖ opOn E (fun s => E.name s ++ E.bs) tp

/-- A term list as a matrix: `Σ frac · cval coeff · denTP tp`. -/
noncomputable def denTerms (E : Env ι d) (ts : List Term) :
    Matrix ((∀ s, d s) × (∀ s, d s)) ((∀ s, d s) × (∀ s, d s)) ℂ :=
  (ts.map fun t => (((t.frac : ℚ) : ℂ) * E.cval t.coeff) • denTP E t.tp).sum

/-- The dense Hamiltonian of the (undoubled) term list, sites addressed by their names. -/
noncomputable def hamMat (E : Env ι d) (ts : List Term) : Matrix (∀ s, d s) (∀ s, d s) ℂ :=
  (ts.map fun t => (((t.frac : ℚ) : ℂ) * E.cval t.coeff) • opOn E E.name t.tp).sum

/-- the dense jump operators with their rates `γ_k = frac_k · jval(symbol_k)` -/
noncomputable def jumpMats (E : Env ι d) (jval : String → ℂ) (js : List Term) :
    List (ℂ × Matrix (∀ s, d s) (∀ s, d s) ℂ) :=
  js.map fun j => ((((j.frac : ℚ) : ℂ)) * jval j.coeff, opOn E E.name j.tp)

/-- Every identifier of `tp` is the name of a site. -/
def Named (E : Env ι d) (tp : TP) : Prop := ∀ e ∈ tp, ∃ s, e.1 = E.name s

/-- No ket identifier is a bra identifier. -/
def Disjoint (E : Env ι d) : Prop := ∀ s t, E.name s ++ E.ks ≠ E.name t ++ E.bs

theorem denTerms_append (E : Env ι d) (a b : List Term) :
    denTerms E (a ++ b) = denTerms E a + denTerms E b := by
  simp [denTerms]

theorem lookup_suffix (tp : TP) (a suf : String) (f : Label → Label) :
    TP.get? (tp.map fun e => (e.1 ++ suf, f e.2)) (a ++ suf) = (TP.get? tp a).map f := by
  induction tp with
  | nil => rfl
  | cons e tp ih =>
    obtain ⟨x, l⟩ := e
    simp only [TP.get?, List.map_cons, List.lookup_cons] at ih ⊢
    by_cases h : a = x
    · subst h; simp
    · have h1 : (a == x) = false := by simpa using h
      have h2 : (a ++ suf == x ++ suf) = false := by
        simpa using fun hh => h ((String.append_left_inj suf).mp hh)
      simp only [h1, h2]; exact ih

theorem lookup_other (E : Env ι d) (tp : TP) (hn : Named E tp) (suf : String) (key : Site)
    (hk : ∀ t, key ≠ E.name t ++ suf) (f : Label → Label) :
    TP.get? (tp.map fun e => (e.1 ++ suf, f e.2)) key = none := by
  induction tp with
  | nil => rfl
  | cons e tp ih =>
    obtain ⟨t, ht⟩ := hn e (List.mem_cons_self ..)
    obtain ⟨x, l⟩ := e
    simp only [TP.get?, List.map_cons, List.lookup_cons] at ih ⊢
    have h2 : (key == x ++ suf) = false := by
      simp only at ht; rw [ht]; simpa using hk t
    simp only [h2]
    exact ih (fun e' he' => hn e' (List.mem_cons_of_mem _ he'))

theorem siteOp_suffix (E : Env ι d) (tp : TP) (suf : String) (f : Label → Label) (s : ι) :
    siteOp E (fun s => E.name s ++ suf) (tp.map fun e => (e.1 ++ suf, f e.2)) s =
      match TP.get? tp (E.name s) with
      | some l => E.den (f l) s
      | none => 1 := by
  simp only [siteOp, lookup_suffix]
  cases TP.get? tp (E.name s) <;> rfl

theorem opOn_other (E : Env ι d) (tp : TP) (hn : Named E tp) (suf suf' : String)
    (hk : ∀ s t, E.name s ++ suf' ≠ E.name t ++ suf) (f : Label → Label) :
    opOn E (fun s => E.name s ++ suf') (tp.map fun e => (e.1 ++ suf, f e.2)) = 1 := by
  rw [← piKron_one]
  simp only [opOn]
  congr 1
  funext s
  simp only [siteOp, lookup_other E tp hn suf _ (hk s) f]

theorem opOn_suffix_map (E : Env ι d) (tp : TP) (suf : String) (f : Label → Label)
    (g : ∀ s, Matrix (d s) (d s) ℂ → Matrix (d s) (d s) ℂ) (hg1 : ∀ s, g s 1 = 1)
    (hf : ∀ l s, E.den (f l) s = g s (E.den l s)) :
    opOn E (fun s => E.name s ++ suf) (tp.map fun e => (e.1 ++ suf, f e.2)) =
      piKron (fun s => g s (siteOp E E.name tp s)) := by
  simp only [opOn]
  congr 1
  funext s
  rw [siteOp_suffix]
  simp only [siteOp]
  cases TP.get? tp (E.name s) with
  | none => exact (hg1 s).symm
  | some l => exact hf l s

theorem opOn_append_right (E : Env ι d) (key : ι → Site) (a b : TP)
    (h : ∀ s, TP.get? b (key s) = none) : opOn E key (a ++ b) = opOn E key a := by
  unfold opOn; congr 1; funext s
  have := h s
  simp only [siteOp, TP.get?, List.lookup_append] at this ⊢
  rw [this]; simp

theorem opOn_append_left (E : Env ι d) (key : ι → Site) (a b : TP)
    (h : ∀ s, TP.get? a (key s) = none) : opOn E key (a ++ b) = opOn E key b := by
  unfold opOn; congr 1; funext s
  have := h s
  simp only [siteOp, TP.get?, List.lookup_append] at this ⊢
  rw [this]; simp

/-- pattern-matching lambdas of the closed forms, in projection form -/
theorem map_pair_eq (tp : TP) (suf : String) (f : Label → Label) :
    (tp.map fun (x : Site × Label) => match x with | (s, l) => (s ++ suf, f l)) =
      tp.map fun e => (e.1 ++ suf, f e.2) := by
  apply List.map_congr_left; intro ⟨s, l⟩ _; rfl

variable (E : Env ι d) (fl : Flags)

/-- A term on one side only (`ket = true`: the ket identifiers, else the bra identifiers) whose labels are
    relabelled by `f`, where `f` means `g` on matrices: `g` of the operator on that side, the identity on the other. -/
theorem denTP_side (hdis : Disjoint E) (tp : TP) (hn : Named E tp) (ket : Bool)
    (f : Label → Label) (g : ∀ s, Matrix (d s) (d s) ℂ → Matrix (d s) (d s) ℂ)
    (hg1 : ∀ s, g s 1 = 1) (hf : ∀ l s, E.den (f l) s = g s (E.den l s)) :
    denTP E (tp.map fun (x : Site × Label) => match x with
      | (s, l) => (s ++ (bif ket then E.ks else E.bs), f l)) =
      bif ket then piKron (fun s => g s (siteOp E E.name tp s)) ⊗ₖ 1
      else 1 ⊗ₖ piKron (fun s => g s (siteOp E E.name tp s)) := by
  rw [map_pair_eq, denTP]
  cases ket
  · rw [cond_false, opOn_suffix_map E tp E.bs f g hg1 hf,
      opOn_other E tp hn E.bs E.ks (fun s t h => hdis s t h) f, cond_false]
  · rw [cond_true, opOn_suffix_map E tp E.ks f g hg1 hf,
      opOn_other E tp hn E.ks E.bs (fun s t h => hdis t s h.symm) f, cond_true]

theorem denTP_ketTermOf (hdis : Disjoint E) (t : Term) (hn : Named E t.tp) :
    denTP E (ketTermOf E.ks t).tp =
      opOn E E.name t.tp ⊗ₖ (1 : Matrix (∀ s, d s) (∀ s, d s) ℂ) :=
  denTP_side E hdis t.tp hn true (fun l => l) (fun _ M => M) (fun _ => rfl) (fun _ _ => rfl)

theorem denTP_braTermOf (hdis : Disjoint E) (t : Term) (hn : Named E t.tp)
    (hd : ∀ s, DictSound (fun l => E.den l s)) (hf : ∀ s, FlagsSound fl (fun l => E.den l s)) :
    denTP E (braTermOf fl.symH E.bs t).tp =
      (1 : Matrix (∀ s, d s) (∀ s, d s) ℂ) ⊗ₖ (opOn E E.name t.tp)ᵀ := by
  have h := denTP_side E hdis t.tp hn false (fun l => if fl.symH l then l else l ++ "_T")
    (fun _ M => Mᵀ) (fun _ => Matrix.transpose_one)
    -- the first two conjuncts of `label_shortcuts_sound` do not depend on the key list
    (fun l s => (label_shortcuts_sound fl [] (fun l => E.den l s) (hd s) (hf s) l).1)
  rw [opOn, piKron_transpose]
  exact h

theorem denTP_jumpTermOf (hdis : Disjoint E) (j : Term) (hn : Named E j.tp)
    (hd : ∀ s, DictSound (fun l => E.den l s)) (hf : ∀ s, FlagsSound fl (fun l => E.den l s)) :
    denTP E (jumpTermOf fl.real E.ks E.bs j).tp =
      opOn E E.name j.tp ⊗ₖ (opOn E E.name j.tp).map star := by
  rw [jumpTermOf, map_pair_eq j.tp E.ks fun l => l,
    map_pair_eq j.tp E.bs fun l => if fl.real l then l else l ++ "_conj", denTP,
    opOn_append_right E _ _ _ fun s => lookup_other E j.tp hn E.bs _ (fun t => hdis s t)
      fun l => if fl.real l then l else l ++ "_conj",
    opOn_append_left E _ _ _ fun s => lookup_other E j.tp hn E.ks _ (fun t h => hdis t s h.symm)
      fun l => l,
    opOn_suffix_map E j.tp E.ks (fun l => l) (fun _ M => M) (fun _ => rfl) (fun _ _ => rfl),
    opOn_suffix_map E j.tp E.bs _ (fun _ M => M.map star)
      (fun _ => map_star_one)
      (fun l s => (label_shortcuts_sound fl [] (fun l => E.den l s) (hd s) (hf s) l).2.1),
    ← piKron_conj]
  rfl

theorem denTP_ketProdTermOf (jk : List Label) (hdis : Disjoint E) (j : Term) (hn : Named E j.tp)
    (hd : ∀ s, DictSound (fun l => E.den l s)) (hf : ∀ s, FlagsSound fl (fun l => E.den l s)) :
    denTP E (ketProdTermOf fl jk E.ks j).tp =
      ((opOn E E.name j.tp)ᴴ * opOn E E.name j.tp) ⊗ₖ (1 : Matrix (∀ s, d s) (∀ s, d s) ℂ) := by
  rw [opOn, piKron_conjTranspose, piKron_mul]
  exact denTP_side E hdis j.tp hn true (prodLabel fl jk) (fun _ M => Mᴴ * M) (fun _ => by simp)
    (fun l s => (label_shortcuts_sound fl jk (fun l => E.den l s) (hd s) (hf s) l).2.2.1)

theorem denTP_braProdTermWith (pref : ℚ) (jk : List Label) (hdis : Disjoint E) (j : Term)
    (hn : Named E j.tp) (hd : ∀ s, DictSound (fun l => E.den l s))
    (hf : ∀ s, FlagsSound fl (fun l => E.den l s)) :
    denTP E (braProdTermWith pref fl jk E.bs j).tp =
      (1 : Matrix (∀ s, d s) (∀ s, d s) ℂ) ⊗ₖ ((opOn E E.name j.tp)ᴴ * opOn E E.name j.tp)ᵀ := by
  rw [opOn, piKron_conjTranspose, piKron_mul, piKron_transpose]
  exact denTP_side E hdis j.tp hn false
    (fun l => if fl.symJ (prodLabel fl jk l) then prodLabel fl jk l else prodLabel fl jk l ++ "_T")
    (fun _ M => (Mᴴ * M)ᵀ) (fun _ => by simp)
    (fun l s => (label_shortcuts_sound fl jk (fun l => E.den l s) (hd s) (hf s) l).2.2.2)

theorem denTerms_cons (t : Term) (ts : List Term) :
    denTerms E (t :: ts) = (((t.frac : ℚ) : ℂ) * E.cval t.coeff) • denTP E t.tp + denTerms E ts := by
  simp [denTerms]

theorem denTerms_ket (hdis : Disjoint E) (ts : List Term) (hn : ∀ t ∈ ts, Named E t.tp) :
    denTerms E (ts.map (ketTermOf E.ks)) =
      hamMat E ts ⊗ₖ (1 : Matrix (∀ s, d s) (∀ s, d s) ℂ) := by
  induction ts with
  | nil => simp [denTerms, hamMat]
  | cons t ts ih =>
    rw [List.map_cons, denTerms_cons, ih (fun t' ht' => hn t' (List.mem_cons_of_mem _ ht')),
      denTP_ketTermOf E hdis t (hn t (List.mem_cons_self ..))]
    simp only [ketTermOf, hamMat, List.map_cons, List.sum_cons, add_kronecker, smul_kronecker]

theorem denTerms_bra (hdis : Disjoint E) (ts : List Term) (hn : ∀ t ∈ ts, Named E t.tp)
    (hd : ∀ s, DictSound (fun l => E.den l s)) (hf : ∀ s, FlagsSound fl (fun l => E.den l s)) :
    denTerms E (ts.map (braTermOf fl.symH E.bs)) =
      -((1 : Matrix (∀ s, d s) (∀ s, d s) ℂ) ⊗ₖ (hamMat E ts)ᵀ) := by
  induction ts with
  | nil => simp [denTerms, hamMat]
  | cons t ts ih =>
    rw [List.map_cons, denTerms_cons, ih (fun t' ht' => hn t' (List.mem_cons_of_mem _ ht')),
      denTP_braTermOf E fl hdis t (hn t (List.mem_cons_self ..)) hd hf]
    simp only [braTermOf, hamMat, List.map_cons, List.sum_cons, Matrix.transpose_add,
      Matrix.transpose_smul, kronecker_add, kronecker_smul]
    push_cast
    module

theorem denTerms_jumps (jk : List Label) (jval : String → ℂ) (σ : ℚ) (hdis : Disjoint E)
    (js : List Term) (hn : ∀ j ∈ js, Named E j.tp)
    (hd : ∀ s, DictSound (fun l => E.den l s)) (hf : ∀ s, FlagsSound fl (fun l => E.den l s))
    (hc : ∀ j ∈ js, E.cval (j.coeff ++ "*j") = Complex.I * jval j.coeff) :
    denTerms E (js.map (jumpTermOf fl.real E.ks E.bs)) +
      denTerms E (js.flatMap fun j => [ketProdTermOf fl jk E.ks j,
        braProdTermWith (σ * (j.frac / 2)) fl jk E.bs j]) =
      ((jumpMats E jval js).map fun j => dissip (σ : ℂ) j.1 j.2).sum := by
  induction js with
  | nil => simp [denTerms, jumpMats]
  | cons j js ih =>
    have ih' := ih (fun j' hj' => hn j' (List.mem_cons_of_mem _ hj'))
      (fun j' hj' => hc j' (List.mem_cons_of_mem _ hj'))
    have hnj := hn j (List.mem_cons_self ..)
    simp only [List.map_cons, List.flatMap_cons, List.cons_append, List.nil_append, denTerms_cons,
      jumpMats, List.sum_cons] at ih' ⊢
    -- the three terms of `j` denote `L ⊗ conj L`, `L†L ⊗ 1`, `1 ⊗ (L†L)ᵀ` with prefactors `f`, `-(f/2)`, `σ·f/2` times
    -- `i·γ`: regrouped, that is `dissip σ (f·γ) L`
    rw [← ih', denTP_jumpTermOf E fl hdis j hnj hd hf, denTP_ketProdTermOf E fl jk hdis j hnj hd hf,
      denTP_braProdTermWith E fl _ jk hdis j hnj hd hf]
    simp only [jumpTermOf, ketProdTermOf, braProdTermWith, hc j (List.mem_cons_self ..), dissip]
    push_cast
    module

/-- Hypotheses of the denotation theorems: the environment `E` (site names, suffixes, final
    conversion dictionary read per site, final coefficient mapping) fits the input — suffixes
    agree, ket and bra identifiers never coincide, every identifier used is a site name, the
    dictionary gives the derived labels their values and the flags are sound at every site
    (the hypotheses of `label_shortcuts_sound`), and `γ*j ↦ i·γ`. -/
structure Fits (E : Env ι d) (inp : Input) (jval : String → ℂ) : Prop where
  ks : inp.ketSuffix = E.ks
  bs : inp.braSuffix = E.bs
  disjoint : Disjoint E
  namedH : ∀ t ∈ inp.ham.terms, Named E t.tp
  namedJ : ∀ j ∈ inp.jumps, Named E j.tp
  dict : ∀ s, DictSound (fun l => E.den l s)
  flags : ∀ s, FlagsSound inp.flags (fun l => E.den l s)
  coeff : ∀ j ∈ inp.jumps, E.cval (j.coeff ++ "*j") = Complex.I * jval j.coeff

theorem denote_termsWithBraSign (inp : Input) (jval : String → ℂ) (σ : ℚ) (hfit : Fits E inp jval) :
    denTerms E (termsWithBraSign σ inp) =
      lindMat (σ : ℂ) (hamMat E inp.ham.terms) (jumpMats E jval inp.jumps) := by
  simp only [termsWithBraSign, hfit.ks, hfit.bs, denTerms_append, add_assoc]
  rw [denTerms_jumps E inp.flags inp.jumpKeys jval σ hfit.disjoint inp.jumps hfit.namedJ hfit.dict
      hfit.flags hfit.coeff,
    denTerms_ket E hfit.disjoint _ hfit.namedH,
    denTerms_bra E inp.flags hfit.disjoint _ hfit.namedH hfit.dict hfit.flags]
  simp only [lindMat]
  abel

end denote
end Ptn.C15
