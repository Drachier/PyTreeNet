import Ptn.C15.Model
import Ptn.Common.List
/-! Core Lean only (on `Ptn.Common.List`): every loop of the port of `generate_lindbladian` in closed form, up to
`generate_spec_of_some` (the generated list is `termsWithBraSign 1 inp`); the hypotheses of the property theorems
(`DoubledDistinct`, `WellFormed`) and that the construction completes under them; positions and lengths in
`termsWithBraSign σ` for every `σ`; the input of the examples (`exampleInput`). -/
namespace Ptn.C15

theorem neg_one_mul_rat (q : Rat) : -1 * q = -q := by
  rw [Rat.neg_mul, Rat.one_mul]

theorem prod_frac (f : Rat) : -1 * f / 2 = -(f / 2) := by
  rw [neg_one_mul_rat, Rat.div_def, Rat.div_def, Rat.neg_mul]

theorem neg_div_rat (f d : Rat) : -f / d = -(f / d) := by
  rw [Rat.div_def, Rat.div_def, Rat.neg_mul]

theorem prod_newfrac (f : Rat) : -1 * (-1 * f / 2) = 1 * (f / 2) := by
  rw [prod_frac, neg_one_mul_rat, Rat.neg_neg, Rat.one_mul]

theorem half_add_half (f : Rat) : f / 2 + f / 2 = f := by
  grind

theorem foldl_addTerm {α : Type} (f : α → Term) (l : List α) (h : Ham) :
    l.foldl (fun acc x => acc.addTerm (f x)) h =
      { h with terms := h.terms ++ l.map f } := by
  induction l generalizing h with
  | nil => simp
  | cons a l ih =>
    simp only [List.foldl_cons]
    rw [ih]
    simp [Ham.addTerm, List.append_assoc]

theorem ket_terms (lind ham : Ham) (ks : String) :
    (addHamiltonianKetTerms lind ham ks).terms = lind.terms ++ ham.terms.map (ketTermOf ks) := by
  simp only [addHamiltonianKetTerms]
  rw [foldl_addTerm (fun term : Term => ⟨term.frac, term.coeff, addSuffix term.tp ks⟩)]
  rfl

theorem bra_terms (fl : Flags) (lind ham : Ham) (bs : String) :
    (addHamiltonianBraTerms fl lind ham bs).terms =
      lind.terms ++ ham.terms.map (braTermOf fl.symH bs) := by
  simp only [addHamiltonianBraTerms]
  rw [foldl_addTerm (fun term : Term =>
    ⟨-1 * term.frac, term.coeff, addSuffix (transposeTP fl.symH term.tp) bs⟩)]
  simp only
  congr 1
  apply List.map_congr_left
  intro t _
  simp [braTermOf, neg_one_mul_rat, addSuffix, transposeTP, localAction, List.map_map,
    Function.comp_def]

theorem foldl_otimesStep_none (b : TP) : b.foldl otimesStep none = none := by
  induction b with
  | nil => rfl
  | cons e b ih => simpa [otimesStep] using ih

theorem otimes_some (a b c : TP) (h : otimes a b = some c) : c = a ++ b := by
  unfold otimes at h
  induction b generalizing a with
  | nil => simp at h; simp [h]
  | cons e b ih =>
    simp only [List.foldl_cons] at h
    by_cases hk : (TP.get? a e.1).isSome
    · simp [otimesStep, hk, foldl_otimesStep_none] at h
    · simp only [otimesStep, hk] at h
      have := ih (a ++ [e]) h
      simp [this]

theorem foldl_jumpStep_none (fl : Flags) (ks bs : String) (jumps : List Term) :
    jumps.foldl (jumpStep fl ks bs) none = none := by
  induction jumps with
  | nil => rfl
  | cons j js ih => simpa [jumpStep] using ih

/-- `otimes` of the doubled identifiers of one jump operator does not raise -/
def jumpOk (fl : Flags) (ks bs : String) (j : Term) : Bool :=
  (otimes (addSuffix j.tp ks) (conjugateTP fl.real (addSuffix j.tp bs))).isSome

theorem jumpStep_eq (fl : Flags) (ks bs : String) (acc : Ham) (j : Term) :
    jumpStep fl ks bs (some acc) j =
      if jumpOk fl ks bs j then some (acc.addTerm (jumpTermOf fl.real ks bs j)) else none := by
  cases h : otimes (addSuffix j.tp ks) (conjugateTP fl.real (addSuffix j.tp bs)) with
  | none =>
    have hk : jumpOk fl ks bs j = false := by rw [jumpOk, h]; rfl
    simp only [jumpStep, h, hk]; rfl
  | some full =>
    have hk : jumpOk fl ks bs j = true := by rw [jumpOk, h]; rfl
    simp only [jumpStep, h, hk, if_true, otimes_some _ _ _ h]
    simp [jumpTermOf, addSuffix, conjugateTP, localAction, List.map_map, Function.comp_def]

/-- the loop of `_add_jump_operators`, the `ValueError` included -/
theorem foldl_jumpStep_eq (fl : Flags) (ks bs : String) (jumps : List Term) (lind : Ham) :
    jumps.foldl (jumpStep fl ks bs) (some lind) =
      if jumps.all (jumpOk fl ks bs) then
        some { lind with terms := lind.terms ++ jumps.map (jumpTermOf fl.real ks bs) }
      else none := by
  induction jumps generalizing lind with
  | nil => simp
  | cons j js ih =>
    rw [List.foldl_cons, jumpStep_eq]
    cases hj : jumpOk fl ks bs j
    · simp [hj, foldl_jumpStep_none]
    · simp [hj, ih, Ham.addTerm, List.append_assoc]

theorem jump_terms (fl : Flags) (lind lind' : Ham) (jumps : List Term) (jk : List Label)
    (jc : List String) (ks bs : String)
    (h : addJumpOperators fl lind jumps jk jc ks bs = some lind') :
    lind'.terms = lind.terms ++ jumps.map (jumpTermOf fl.real ks bs) := by
  rw [addJumpOperators, foldl_jumpStep_eq] at h
  by_cases hall : jumps.all (jumpOk fl ks bs) = true
  · rw [if_pos hall] at h; cases h; rfl
  · rw [if_neg hall] at h; cases h

theorem foldl_multStep1 (ident : Label → Bool) (b : TP) (f : Site × Label → Label)
    (xs : TP) (hx : ∀ e ∈ xs, TP.get? b e.1 = some (f e)) (acc : TP × List Label) :
    (xs.foldl (multStep1 ident b) acc).1 =
      acc.1 ++ xs.map (fun e => (e.1, multLabel ident e.2 (f e))) := by
  induction xs generalizing acc with
  | nil => simp
  | cons e xs ih =>
    simp only [List.foldl_cons]
    rw [ih (fun e' he' => hx e' (List.mem_cons_of_mem _ he'))]
    simp [multStep1, hx e (List.mem_cons_self ..), List.append_assoc]

theorem foldl_multStep2_id (b acc : TP) (h : ∀ e ∈ b, e.1 ∈ acc.map Prod.fst) :
    b.foldl multStep2 acc = acc := by
  induction b with
  | nil => rfl
  | cons e b ih =>
    simp only [List.foldl_cons]
    have : multStep2 acc e = acc := by
      obtain ⟨p, hp, hpe⟩ := List.mem_map.1 (h e (List.mem_cons_self ..))
      have hs : (TP.get? acc e.1).isSome = true :=
        List.lookup_isSome_iff.2 ⟨p, hp, hpe ▸ beq_self_eq_true _⟩
      simp [multStep2, hs]
    rw [this]
    exact ih (fun e' he' => h e' (List.mem_cons_of_mem _ he'))

theorem multiply_adjoint (ident herm : Label → Bool) (op : TP) (hn : (op.map Prod.fst).Nodup) :
    (multiply ident (adjointTP herm op) op).1 =
      op.map fun (s, l) => (s, multLabel ident (if herm l then l else l ++ "_H") l) := by
  simp only [multiply, adjointTP, localAction]
  -- `adjointTP herm op` has the sites of `op`, so the first loop finds every site in `other = op` and writes its
  -- product label; the second loop then meets only sites already present and adds nothing.  `foldl_multStep1`
  -- wants the label found in `op` as a total function of the entry: the lookup with a default that is never taken.
  have h1 := foldl_multStep1 ident op (fun e => (List.lookup e.1 op).getD "")
    (op.map fun (s, l) => (s, if herm l then l else l ++ "_H")) (by
      intro e he
      obtain ⟨⟨s, l⟩, hm, rfl⟩ := List.mem_map.mp he
      have := lookup_of_nodup_keys hn hm
      simp only [TP.get?]
      simp [this]) ([], [])
  rw [h1]
  simp only [List.nil_append, List.map_map]
  have hmap : (op.map ((fun e : Site × Label =>
      (e.1, multLabel ident e.2 ((List.lookup e.1 op).getD ""))) ∘
      fun x : Site × Label => (x.1, if herm x.2 = true then x.2 else x.2 ++ "_H"))) =
      op.map fun x : Site × Label =>
        (x.1, multLabel ident (if herm x.2 = true then x.2 else x.2 ++ "_H") x.2) := by
    apply List.map_congr_left
    intro ⟨s, l⟩ hm
    have := lookup_of_nodup_keys hn hm
    simp [this]
  rw [hmap]
  apply foldl_multStep2_id
  intro e he
  simp only [List.map_map]
  exact List.mem_map.mpr ⟨e, he, rfl⟩

theorem prodStep_terms (fl : Flags) (jk : List Label) (ks bs : String) (acc : Ham × List Label)
    (j : Term) (hn : (j.tp.map Prod.fst).Nodup) :
    (prodStep fl (idDictAfterH fl jk) ks bs acc j).1.terms =
      acc.1.terms ++ [ketProdTermOf fl jk ks j,
        braProdTermWith (1 * (j.frac / 2)) fl jk bs j] := by
  obtain ⟨lind, keys⟩ := acc
  simp only [prodStep, Ham.addTerm, List.append_assoc, List.cons_append, List.nil_append]
  rw [multiply_adjoint _ _ _ hn]
  simp [ketProdTermOf, braProdTermWith, prodLabel, neg_one_mul_rat, neg_div_rat, Rat.neg_neg, Rat.one_mul,
    addSuffix, transposeTP, localAction, List.map_map, Function.comp_def]

theorem foldl_prodStep_terms (fl : Flags) (jk : List Label) (ks bs : String) (jumps : List Term)
    (hn : ∀ j ∈ jumps, (j.tp.map Prod.fst).Nodup) (acc : Ham × List Label) :
    (jumps.foldl (prodStep fl (idDictAfterH fl jk) ks bs) acc).1.terms =
      acc.1.terms ++ jumps.flatMap fun j =>
        [ketProdTermOf fl jk ks j, braProdTermWith (1 * (j.frac / 2)) fl jk bs j] := by
  induction jumps generalizing acc with
  | nil => simp
  | cons j js ih =>
    simp only [List.foldl_cons, List.flatMap_cons]
    rw [ih (fun j' hj' => hn j' (List.mem_cons_of_mem _ hj')),
      prodStep_terms fl jk ks bs acc j (hn j (List.mem_cons_self ..))]
    simp [List.append_assoc]

theorem product_terms (fl : Flags) (lind : Ham) (jumps : List Term) (jk : List Label)
    (ks bs : String) (hn : ∀ j ∈ jumps, (j.tp.map Prod.fst).Nodup) :
    (addJumpOperatorProducts fl lind jumps jk ks bs).terms =
      lind.terms ++ jumps.flatMap fun j =>
        [ketProdTermOf fl jk ks j, braProdTermWith (1 * (j.frac / 2)) fl jk bs j] := by
  simp only [addJumpOperatorProducts]
  exact foldl_prodStep_terms fl jk ks bs jumps hn _

/-- Without the hypothesis on the doubled identifiers: *if* the construction completes, the term
    list is the closed form. -/
theorem generate_spec_of_some (inp : Input) (h : Ham)
    (hn : ∀ j ∈ inp.jumps, (j.tp.map Prod.fst).Nodup) (hg : generateLindbladian inp = some h) :
    h.terms = termsWithBraSign 1 inp := by
  simp only [generateLindbladian] at hg
  split at hg
  · simp at hg
  · rename_i l hl
    simp only [Option.some.injEq] at hg
    rw [← hg, product_terms _ _ _ _ _ _ hn, jump_terms _ _ _ _ _ _ _ _ hl, bra_terms, ket_terms]
    simp [termsWithBraSign]

theorem otimes_of_nodup (a b : TP) (h : ((a ++ b).map Prod.fst).Nodup) :
    otimes a b = some (a ++ b) := by
  unfold otimes
  induction b generalizing a with
  | nil => simp
  | cons e b ih =>
    simp only [List.foldl_cons]
    have hk : e.1 ∉ a.map Prod.fst := by
      intro hm
      rw [List.map_append, List.nodup_append] at h
      exact h.2.2 _ hm _ (by simp) rfl
    simp only [otimesStep, TP.get?, lookup_eq_none_of_not_key hk, Option.isSome_none]
    have := ih (a ++ [e]) (by simpa [List.append_assoc] using h)
    simpa [List.append_assoc] using this

/-- The ket and bra identifiers of one jump operator are pairwise distinct: what `otimes` tests before it
    joins `addSuffix op ketSuffix` and `addSuffix op braSuffix` (`ValueError` otherwise). -/
def DoubledDistinct (ks bs : String) (j : Term) : Prop :=
  ((j.tp.map fun e => e.1 ++ ks) ++ (j.tp.map fun e => e.1 ++ bs)).Nodup

theorem jumpOk_of_distinct (fl : Flags) (ks bs : String) (j : Term)
    (hd : DoubledDistinct ks bs j) : jumpOk fl ks bs j = true := by
  have hn : ((addSuffix j.tp ks ++ conjugateTP fl.real (addSuffix j.tp bs)).map Prod.fst).Nodup := by
    simpa [DoubledDistinct, addSuffix, conjugateTP, localAction, List.map_map, Function.comp_def]
      using hd
  rw [jumpOk, otimes_of_nodup _ _ hn]; rfl

theorem generate_succeeds (inp : Input)
    (hd : ∀ j ∈ inp.jumps, DoubledDistinct inp.ketSuffix inp.braSuffix j) :
    ∃ h, generateLindbladian inp = some h := by
  have hall : inp.jumps.all (jumpOk inp.flags inp.ketSuffix inp.braSuffix) = true :=
    List.all_eq_true.mpr fun j hj => jumpOk_of_distinct _ _ _ j (hd j hj)
  simp only [generateLindbladian, addJumpOperators, foldl_jumpStep_eq, hall, if_true]
  exact ⟨_, rfl⟩

/-- Hypotheses shared by the theorems: what Python guarantees for dict-valued tensor products
    (distinct sites per jump operator) and for the doubled identifiers (ket and bra identifiers
    never coincide — otherwise `otimes` raises `ValueError`). -/
def WellFormed (inp : Input) : Prop :=
  (∀ j ∈ inp.jumps, (j.tp.map Prod.fst).Nodup) ∧
  (∀ j ∈ inp.jumps, DoubledDistinct inp.ketSuffix inp.braSuffix j)

theorem getElem?_flatMap_pair {α β : Type} (f g : α → β) (l : List α) (k : Nat) (a : α)
    (hk : l[k]? = some a) :
    (l.flatMap fun x => [f x, g x])[2 * k]? = some (f a) ∧
    (l.flatMap fun x => [f x, g x])[2 * k + 1]? = some (g a) := by
  induction l generalizing k with
  | nil => cases hk
  | cons x xs ih =>
    cases k with
    | zero => cases hk; exact ⟨rfl, rfl⟩
    -- `flatMap` of a cons puts two entries in front and `2 * (k + 1)` is `2 * k + 2`, by computation
    | succ k => exact ih k hk

theorem length_flatMap_pair {α β : Type} (f g : α → β) (l : List α) :
    (l.flatMap fun x => [f x, g x]).length = 2 * l.length := by
  induction l with
  | nil => rfl
  | cons x xs ih =>
    rw [List.flatMap_cons, List.length_append, ih, List.length_cons]
    show 2 + 2 * xs.length = 2 * (xs.length + 1)
    omega

theorem getElem?_append_some {α : Type} {l₁ : List α} {i : Nat} {x : α} (l₂ : List α)
    (h : l₁[i]? = some x) : (l₁ ++ l₂)[i]? = some x := by
  rw [List.getElem?_append_left (List.getElem?_eq_some_iff.mp h).1, h]

theorem getElem?_append_add {α : Type} {l₁ : List α} {m : Nat} (h : l₁.length = m)
    (l₂ : List α) (i : Nat) : (l₁ ++ l₂)[m + i]? = l₂[i]? := by
  subst h
  rw [List.getElem?_append_right (Nat.le_add_right ..), Nat.add_sub_cancel_left]

theorem termsWithBraSign_length (σ : Rat) (inp : Input) :
    (termsWithBraSign σ inp).length = 2 * inp.ham.terms.length + 3 * inp.jumps.length := by
  simp only [termsWithBraSign, List.length_append, List.length_map, length_flatMap_pair]
  omega

theorem termsWithBraSign_prefix_length (inp : Input) :
    (inp.ham.terms.map (ketTermOf inp.ketSuffix) ++
      inp.ham.terms.map (braTermOf inp.flags.symH inp.braSuffix) ++
      inp.jumps.map (jumpTermOf inp.flags.real inp.ketSuffix inp.braSuffix)).length =
      2 * inp.ham.terms.length + inp.jumps.length := by
  rw [List.length_append, List.length_append, List.length_map, List.length_map, List.length_map,
    Nat.two_mul]

theorem termsWithBraSign_take (σ : Rat) (inp : Input) :
    (termsWithBraSign σ inp).take (2 * inp.ham.terms.length + inp.jumps.length) =
      inp.ham.terms.map (ketTermOf inp.ketSuffix) ++
      inp.ham.terms.map (braTermOf inp.flags.symH inp.braSuffix) ++
      inp.jumps.map (jumpTermOf inp.flags.real inp.ketSuffix inp.braSuffix) :=
  List.take_left' (termsWithBraSign_prefix_length inp)

theorem termsWithBraSign_ham (σ : Rat) (inp : Input) (i : Nat) (t : Term)
    (hi : inp.ham.terms[i]? = some t) :
    (termsWithBraSign σ inp)[i]? = some (ketTermOf inp.ketSuffix t) ∧
    (termsWithBraSign σ inp)[inp.ham.terms.length + i]? =
      some (braTermOf inp.flags.symH inp.braSuffix t) := by
  have hA : (inp.ham.terms.map (ketTermOf inp.ketSuffix))[i]? = some (ketTermOf inp.ketSuffix t) := by
    rw [List.getElem?_map, hi]; rfl
  have hB : (inp.ham.terms.map (braTermOf inp.flags.symH inp.braSuffix))[i]? =
      some (braTermOf inp.flags.symH inp.braSuffix t) := by
    rw [List.getElem?_map, hi]; rfl
  exact ⟨getElem?_append_some _ (getElem?_append_some _ (getElem?_append_some _ hA)),
    getElem?_append_some _ (getElem?_append_some _
      ((getElem?_append_add (List.length_map _) _ i).trans hB))⟩

theorem termsWithBraSign_jump (σ : Rat) (inp : Input) (k : Nat) (j : Term)
    (hk : inp.jumps[k]? = some j) :
    (termsWithBraSign σ inp)[2 * inp.ham.terms.length + k]? =
      some (jumpTermOf inp.flags.real inp.ketSuffix inp.braSuffix j) ∧
    (termsWithBraSign σ inp)[2 * inp.ham.terms.length + inp.jumps.length + 2 * k]? =
      some (ketProdTermOf inp.flags inp.jumpKeys inp.ketSuffix j) ∧
    (termsWithBraSign σ inp)[2 * inp.ham.terms.length + inp.jumps.length + 2 * k + 1]? =
      some (braProdTermWith (σ * (j.frac / 2)) inp.flags inp.jumpKeys inp.braSuffix j) := by
  have hAB : (inp.ham.terms.map (ketTermOf inp.ketSuffix) ++
      inp.ham.terms.map (braTermOf inp.flags.symH inp.braSuffix)).length =
      2 * inp.ham.terms.length := by
    rw [List.length_append, List.length_map, List.length_map, Nat.two_mul]
  have hABC := termsWithBraSign_prefix_length inp
  have hC : (inp.jumps.map (jumpTermOf inp.flags.real inp.ketSuffix inp.braSuffix))[k]? =
      some (jumpTermOf inp.flags.real inp.ketSuffix inp.braSuffix j) := by
    rw [List.getElem?_map, hk]; rfl
  have hD := getElem?_flatMap_pair (ketProdTermOf inp.flags inp.jumpKeys inp.ketSuffix)
    (fun j => braProdTermWith (σ * (j.frac / 2)) inp.flags inp.jumpKeys inp.braSuffix j)
    inp.jumps k j hk
  exact ⟨getElem?_append_some _ ((getElem?_append_add hAB _ k).trans hC),
    (getElem?_append_add hABC _ (2 * k)).trans hD.1,
    (getElem?_append_add hABC _ (2 * k + 1)).trans hD.2⟩

/-- one qubit, `H = ½·J·X`, one jump operator `¾·g·A` with a generic `A` -/
def exampleInput : Input :=
  { ham := { terms := [⟨1/2, "J", [("s0", "X")]⟩], convKeys := ["X"], coeffKeys := ["1", "J"] }
    jumps := [⟨3/4, "g", [("s0", "A")]⟩]
    jumpKeys := ["A"], jumpCoeffKeys := ["g"]
    flags := { symH := fun l => l == "X", real := fun _ => false, ident := fun _ => false,
               herm := fun _ => false, symJ := fun _ => false } }

end Ptn.C15
