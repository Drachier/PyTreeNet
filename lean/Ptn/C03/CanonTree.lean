import Ptn.C17.RootStep
import Ptn.C03.Iso
import Ptn.Common.EinsumIso
/-! From a valued network (`VNet`) with the shape of a rooted tree to the doubled tree `Kids` of
`Ptn/Common/EinsumIso.lean`.

`r : RTree` is a tree ROOTED AT THE CENTRE (for a centre that is not the root of the library's tree: the
re-rooted tree of `Ptn/C17/Reroot.lean`); `up k` is the leg of node `k` on the bond to its
parent, `dn k` the leg of the parent on that bond.  `subOf` / `kidsOf` / `centreOf` build the doubled tree:
per node the ket copy and the conjugated copy of its tensor, its open legs paired ket-with-bra, per child the
two bonds.  `EdgeOK`: what is needed per tree edge - the bond exists in the network, has one dimension, and the
child's tensor is an isometry (index form) toward it.

`tree_canon`, `centre_canon_of_tree`: these per-edge facts give `Kids.Canon` and pairwise distinct labels, for every
tree. -/
namespace Ptn.C03

open Ptn.Ein Ptn.C17 Ptn.C17.RTree

set_option linter.unusedSectionVars false
variable {R : Type} [CommSemiring R]

/-- the elements of `l` outside `X`, followed by `X`, are `l` again -/
theorem filter_compl_perm {l X : List Nat} (hl : l.Nodup) (hX : X.Nodup) (hsub : ∀ x ∈ X, x ∈ l) :
    (l.filter (fun a => decide (a ∉ X)) ++ X).Perm l := by
  rw [List.perm_ext_iff_of_nodup]
  · intro a
    simp only [List.mem_append, List.mem_filter, decide_eq_true_eq]
    by_cases ha : a ∈ X
    · simp [ha, hsub a ha]
    · simp [ha]
  · rw [List.nodup_append]
    refine ⟨hl.filter _, hX, ?_⟩
    intro a ha b hb hab
    subst hab
    simp only [List.mem_filter, decide_eq_true_eq] at ha
    exact ha.2 hb
  · exact hl

/-- … with one element `u` of `X` taken out on both sides -/
theorem filter_compl_perm_erase {l D : List Nat} {u : Nat} (hl : l.Nodup) (hX : (u :: D).Nodup)
    (hsub : ∀ x ∈ u :: D, x ∈ l) :
    (l.filter (fun a => decide (a ∉ u :: D)) ++ D).Perm (l.erase u) := by
  have h1 := filter_compl_perm hl hX hsub
  have h2 : l.Perm (u :: l.erase u) := List.perm_cons_erase (hsub u (by simp))
  exact ((List.perm_middle.symm.trans h1).trans h2).cons_inv

/-- a copy of an element of `l` is a copy of an element outside `X` or of an element of `X` -/
theorem mem_kept_or_excl {α : Type} (c : Nat → α) {l X : List Nat} {a : Nat} (ha : a ∈ l) :
    c a ∈ (l.filter (fun a => decide (a ∉ X))).map c ++ X.map c := by
  by_cases h : a ∈ X
  · exact List.mem_append_right _ (List.mem_map_of_mem h)
  · exact List.mem_append_left _ (List.mem_map_of_mem (List.mem_filter.2 ⟨ha, decide_eq_true h⟩))

/-- … with the copy of `u` put in front -/
theorem mem_kept_or_excl_cons {α : Type} (c : Nat → α) {l D : List Nat} {u a : Nat} (ha : a ∈ l) :
    c a ∈ c u :: ((l.filter (fun a => decide (a ∉ u :: D))).map c ++ D.map c) := by
  rcases List.mem_append.1 (mem_kept_or_excl c (X := u :: D) ha) with h | h
  · exact List.mem_cons_of_mem _ (List.mem_append_left _ h)
  · rcases List.mem_cons.1 h with h | h
    · exact h ▸ List.mem_cons_self
    · exact List.mem_cons_of_mem _ (List.mem_append_right _ h)

theorem pairLegs_map_dbl (X : List Nat) :
    Expr.pairLegs (X.map dbl) = X.map DL.ket ++ X.map DL.bra := by
  simp [Expr.pairLegs, dbl, List.map_map, Function.comp_def]

theorem pairLegs_map_dbl_nodup {X : List Nat} (h : X.Nodup) : (Expr.pairLegs (X.map dbl)).Nodup := by
  rw [pairLegs_map_dbl, List.nodup_append]
  refine ⟨h.map (fun _ _ e => DL.ket.inj e), h.map (fun _ _ e => DL.bra.inj e), ?_⟩
  intro a ha b hb hab
  subst hab
  obtain ⟨x, _, rfl⟩ := List.mem_map.1 ha
  obtain ⟨y, _, hy⟩ := List.mem_map.1 hb
  cases hy

/-! ### the two copies of a tensor read the two copies of its legs -/

theorem ketT_dependsOn {T : Asg Nat → R} {legs : List Nat} (h : DependsOn (· ∈ legs) T) :
    DependsOn (· ∈ legs.map DL.ket) (ketT T) := by
  intro σ τ hst
  apply h
  intro l hl
  exact hst (DL.ket l) (List.mem_map.2 ⟨l, hl, rfl⟩)

theorem braT_dependsOn (cj : R → R) {T : Asg Nat → R} {legs : List Nat} (h : DependsOn (· ∈ legs) T) :
    DependsOn (· ∈ legs.map DL.bra) (braT cj T) := by
  intro σ τ hst
  show cj _ = cj _
  congr 1
  apply h
  intro l hl
  exact hst (DL.bra l) (List.mem_map.2 ⟨l, hl, rfl⟩)

/-! ### the doubled tree of a network -/

/-- the legs of a node toward its children -/
def dnLegs (dn : Nat → Nat) (ks : List RTree) : List Nat := ks.map (fun t => dn t.rid)

/-- the legs of node `k` outside `excl`, ket copy paired with bra copy -/
def physOf (N : VNet R) (k : Nat) (excl : List Nat) : List (DL × DL) :=
  ((N.legs k).filter (fun l => decide (l ∉ excl))).map dbl

mutual
/-- the doubled sub-tree below (and including) a non-centre node -/
def subOf (cj : R → R) (N : VNet R) (up dn : Nat → Nat) : RTree → Sub DL R
  | .node k ks => .node (ketT (N.tens k)) (braT cj (N.tens k)) (DL.ket (up k)) (DL.bra (up k))
      (physOf N k (up k :: dnLegs dn ks)) (kidsOf cj N up dn ks)
def kidsOf (cj : R → R) (N : VNet R) (up dn : Nat → Nat) : List RTree → Kids DL R
  | [] => .nil
  | t :: ts => .cons (DL.ket (dn t.rid)) (DL.bra (dn t.rid)) (subOf cj N up dn t) (kidsOf cj N up dn ts)
end

/-- the norm network seen from the root of `r` -/
def centreOf (cj : R → R) (N : VNet R) (up dn : Nat → Nat) (r : RTree) : Centre DL R :=
  ⟨ketT (N.tens r.rid), braT cj (N.tens r.rid), physOf N r.rid (dnLegs dn r.kids), kidsOf cj N up dn r.kids⟩

section
variable (cj : R → R) (N : VNet R) (up dn : Nat → Nat)

theorem subOf_u (t : RTree) : (subOf cj N up dn t).u = DL.ket (up t.rid) := by
  cases t; simp [subOf, Sub.u, rid]

theorem subOf_u' (t : RTree) : (subOf cj N up dn t).u' = DL.bra (up t.rid) := by
  cases t; simp [subOf, Sub.u', rid]

theorem kidsOf_kd (ks : List RTree) : (kidsOf cj N up dn ks).kd = (dnLegs dn ks).map DL.ket := by
  induction ks with
  | nil => simp [kidsOf, Kids.kd, dnLegs]
  | cons t ts ih => simp only [kidsOf, Kids.kd, ih, dnLegs, List.map_cons]

theorem kidsOf_bd (ks : List RTree) : (kidsOf cj N up dn ks).bd = (dnLegs dn ks).map DL.bra := by
  induction ks with
  | nil => simp [kidsOf, Kids.bd, dnLegs]
  | cons t ts ih => simp only [kidsOf, Kids.bd, ih, dnLegs, List.map_cons]

theorem kidsOf_pairs (ks : List RTree) : (kidsOf cj N up dn ks).pairs = (dnLegs dn ks).map dbl := by
  induction ks with
  | nil => simp [kidsOf, Kids.pairs, dnLegs]
  | cons t ts ih => simp only [kidsOf, Kids.pairs, ih, dnLegs, List.map_cons, dbl]

theorem physOf_fst (k : Nat) (X : List Nat) :
    (physOf N k X).map Prod.fst = ((N.legs k).filter (fun l => decide (l ∉ X))).map DL.ket := by
  simp [physOf, dbl, List.map_map, Function.comp_def]

theorem physOf_snd (k : Nat) (X : List Nat) :
    (physOf N k X).map Prod.snd = ((N.legs k).filter (fun l => decide (l ∉ X))).map DL.bra := by
  simp [physOf, dbl, List.map_map, Function.comp_def]

end

/-- the tensor of a node and its conjugated copy -/
def nodeLeaves (cj : R → R) (N : VNet R) (k : Nat) : List (Asg DL → R) := [ketT (N.tens k), braT cj (N.tens k)]

/-- the leaves of the doubled tree are the tensors and conjugated tensors of the tree's nodes, in pre-order -/
theorem subOf_leaves (cj : R → R) (N : VNet R) (up dn : Nat → Nat) :
    (∀ t : RTree, (subOf cj N up dn t).leaves = (ids t).flatMap (nodeLeaves cj N)) ∧
    (∀ ks : List RTree, (kidsOf cj N up dn ks).leaves = (idsL ks).flatMap (nodeLeaves cj N)) := by
  apply induct
  · intro k ks ih
    simp [subOf, Sub.leaves, ih, ids_node, nodeLeaves]
  · simp [kidsOf, Kids.leaves]
  · intro t ts iht ihts
    simp [kidsOf, Kids.leaves, iht, ihts, idsL_cons]

/-- the leaves of the norm network along `r`: all tensors and conjugated tensors of the nodes of `r` -/
theorem centreOf_normLeaves (cj : R → R) (N : VNet R) (up dn : Nat → Nat) (r : RTree) :
    (centreOf cj N up dn r).normLeaves = (ids r).flatMap (nodeLeaves cj N) := by
  obtain ⟨c, ks⟩ := r
  simp [centreOf, Centre.normLeaves, (subOf_leaves cj N up dn).2 ks, ids_node, nodeLeaves, rid, kids]

/-! ### what is needed per tree edge -/

/-- the edge parent `i` - child `k`: both are nodes of the network, joined by a bond whose end at `k` is
`up k` and whose end at `i` is `dn k`; the bond has one dimension; the tensor of `k` is an isometry (index
form) toward `up k` -/
def EdgeOK (dim : Nat → Nat) (cj : R → R) (N : VNet R) (up dn : Nat → Nat) (i k : Nat) : Prop :=
  i ∈ N.ids ∧ k ∈ N.ids ∧ (∃ p, N.Joined k i p (up k) (dn k)) ∧ dim (dn k) = dim (up k) ∧
    IsoToward dim cj (N.tens k) (N.legs k) (up k)

/-- both copies of the legs of a node -/
def dlegs (N : VNet R) (k : Nat) : List DL := (N.legs k).map DL.ket ++ (N.legs k).map DL.bra

/-- both copies of the legs of a list of nodes -/
def allLabels (N : VNet R) (ns : List Nat) : List DL := ns.flatMap (dlegs N)

section
variable {dim : Nat → Nat} {cj : R → R} {N : VNet R} {up dn : Nat → Nat}

/-- the legs of `k` toward its children are legs of `k`, pairwise distinct -/
theorem dnLegs_facts (h : N.WF) {k : Nat} {ks : List RTree} (hr : (ks.map rid).Nodup)
    (hE : ∀ t ∈ ks, EdgeOK dim cj N up dn k t.rid) :
    (dnLegs dn ks).Nodup ∧ ∀ x ∈ dnLegs dn ks, x ∈ N.legs k := by
  induction ks with
  | nil => simp [dnLegs]
  | cons s ss ih =>
    rw [List.map_cons, List.nodup_cons] at hr
    obtain ⟨ih1, ih2⟩ := ih hr.2 (fun t ht => hE t (List.mem_cons_of_mem _ ht))
    obtain ⟨_, hs, ⟨p, hj⟩, _, _⟩ := hE s List.mem_cons_self
    simp only [dnLegs, List.map_cons, List.nodup_cons, List.mem_cons, forall_eq_or_imp]
    refine ⟨⟨?_, ih1⟩, hj.2.2.2, ih2⟩
    intro hm
    obtain ⟨t, ht, e⟩ := List.mem_map.1 hm
    obtain ⟨_, ht', ⟨p', hj'⟩, _, _⟩ := hE t (List.mem_cons_of_mem _ ht)
    obtain ⟨hne, hc⟩ := joined_share h hj hj' (Or.inr (Or.inr (Or.inr e.symm)))
    rcases hc with ⟨e1, _⟩ | ⟨e1, e2⟩
    · have : s.rid = t.rid := h.owner _ hs _ ht' _ hj.2.2.1 (e1 ▸ hj'.2.2.1)
      exact hr.1 (List.mem_map.2 ⟨t, ht, this.symm⟩)
    · exact hne (e1.trans e)

/-- the leg of `k` toward its parent is not a leg toward a child -/
theorem up_notin_dnLegs (h : N.WF) {i k : Nat} {ks : List RTree} (hEk : EdgeOK dim cj N up dn i k)
    (hE : ∀ t ∈ ks, EdgeOK dim cj N up dn k t.rid) (hi : ∀ t ∈ ks, t.rid ≠ i) : up k ∉ dnLegs dn ks := by
  intro hm
  obtain ⟨t, ht, e⟩ := List.mem_map.1 hm
  obtain ⟨hi', _, ⟨p, hj⟩, _, _⟩ := hEk
  obtain ⟨_, ht', ⟨p', hj'⟩, _, _⟩ := hE t ht
  obtain ⟨hne', _⟩ := joined_share h hj' hj' (Or.inl rfl)
  obtain ⟨hne, hc⟩ := joined_share h hj hj' (Or.inr (Or.inl e.symm))
  rcases hc with ⟨e1, _⟩ | ⟨_, e2⟩
  · exact hne' (e1.symm.trans e.symm)
  · exact hi t ht (h.owner _ ht' _ hi' _ hj'.2.2.1 (e2 ▸ hj.2.2.2))

/-- one node: its two copies read their own labels, and the isometry toward `up k` in the form of
`Sub.Canon` (the sum runs over the open legs and the legs toward the children) -/
theorem node_canon (h : N.WF) {k : Nat} {ks : List RTree} (hk : k ∈ N.ids) (hu : up k ∈ N.legs k)
    (hX : (up k :: dnLegs dn ks).Nodup) (hsub : ∀ x ∈ dnLegs dn ks, x ∈ N.legs k)
    (hiso : IsoToward dim cj (N.tens k) (N.legs k) (up k))
    (hK : (kidsOf cj N up dn ks).Canon (ddim dim)) :
    (subOf cj N up dn (.node k ks)).Canon (ddim dim) := by
  rw [subOf, Sub.Canon]
  refine ⟨?_, ?_, rfl, ?_, hK⟩
  · refine (ketT_dependsOn (h.reads k hk)).mono ?_
    intro x hx
    obtain ⟨l, hl, rfl⟩ := List.mem_map.1 hx
    rw [physOf_fst, kidsOf_kd]
    exact mem_kept_or_excl_cons DL.ket hl
  · refine (braT_dependsOn cj (h.reads k hk)).mono ?_
    intro x hx
    obtain ⟨l, hl, rfl⟩ := List.mem_map.1 hx
    rw [physOf_snd, kidsOf_bd]
    exact mem_kept_or_excl_cons DL.bra hl
  · intro τ h1 h2
    have hp := filter_compl_perm_erase (h.legs_nodup k hk) hX (List.forall_mem_cons.2 ⟨hu, hsub⟩)
    have hnd : (Expr.pairLegs ((((N.legs k).filter (fun a => decide (a ∉ up k :: dnLegs dn ks))) ++
        dnLegs dn ks).map dbl)).Nodup :=
      pairLegs_map_dbl_nodup (hp.nodup_iff.2 ((h.legs_nodup k hk).erase _))
    rw [kidsOf_pairs, physOf, ← List.map_append, sumPairs_perm (ddim dim) (hp.map dbl) hnd]
    exact hiso τ h1 h2

/-- the open legs of `k` (its legs outside `X`) and `X`, both copies of each, are both copies of the legs of `k` -/
theorem physOf_labels (h : N.WF) {k : Nat} (hk : k ∈ N.ids) {X : List Nat} (hX : X.Nodup)
    (hsub : ∀ x ∈ X, x ∈ N.legs k) :
    (Expr.pairLegs (physOf N k X) ++ (X.map DL.ket ++ X.map DL.bra)).Perm (dlegs N k) := by
  have := pairLegs_perm ((filter_compl_perm (h.legs_nodup k hk) hX hsub).map dbl)
  rw [List.map_append] at this
  rw [← pairLegs_map_dbl, dlegs, ← pairLegs_map_dbl]
  exact (Expr.pairLegs_append _ _).symm.trans this

/-- **Induction over the tree.**  For every sub-tree `t` hanging off a parent `i` outside it (and every
forest `ks` of children of a node `k` outside it): if every edge satisfies `EdgeOK`, the doubled sub-tree is
canonical toward the parent in the sense of `Ptn.Ein.Sub.Canon`, and its labels are exactly the two copies of
the legs of its nodes. -/
theorem tree_canon (h : N.WF) :
    (∀ t : RTree, ∀ i, i ∉ ids t → (ids t).Nodup → EdgeOK dim cj N up dn i t.rid →
      (∀ e ∈ edges t, EdgeOK dim cj N up dn e.1 e.2) →
      (subOf cj N up dn t).Canon (ddim dim) ∧ (subOf cj N up dn t).labels.Perm (allLabels N (ids t))) ∧
    (∀ ks : List RTree, ∀ k, k ∉ idsL ks → (idsL ks).Nodup →
      (∀ e ∈ edgesL k ks, EdgeOK dim cj N up dn e.1 e.2) →
      (kidsOf cj N up dn ks).Canon (ddim dim) ∧ (kidsOf cj N up dn ks).labels.Perm
        ((dnLegs dn ks).map DL.ket ++ (dnLegs dn ks).map DL.bra ++ allLabels N (idsL ks))) := by
  apply induct
  · intro k ks ih i hi hnd hEk hE
    rw [ids_node] at hi hnd
    rw [List.nodup_cons] at hnd
    rw [edges_node] at hE
    obtain ⟨hKC, hKL⟩ := ih k hnd.1 hnd.2 hE
    have hEc : ∀ t ∈ ks, EdgeOK dim cj N up dn k t.rid := fun t ht => hE _ (rid_edge ht)
    obtain ⟨hD1, hD2⟩ := dnLegs_facts h (rids_nodup hnd.2) hEc
    have hik : ∀ t ∈ ks, t.rid ≠ i := by
      intro t ht e
      exact hi (List.mem_cons_of_mem _ (e ▸ ids_subset_idsL ht _ (rid_mem_ids t)))
    have hu := up_notin_dnLegs h hEk hEc hik
    have hX : (up k :: dnLegs dn ks).Nodup := List.nodup_cons.2 ⟨hu, hD1⟩
    obtain ⟨_, hk, ⟨p, hj⟩, _, hiso⟩ := hEk
    simp only [rid] at hk hj hiso
    refine ⟨node_canon h hk hj.2.2.1 hX hD2 hiso hKC, ?_⟩
    rw [List.perm_iff_count]
    intro a
    have c1 := (physOf_labels h hk hX (List.forall_mem_cons.2 ⟨hj.2.2.1, hD2⟩)).count_eq a
    have c2 := hKL.count_eq a
    simp only [subOf, Sub.labels, allLabels, ids_node, List.flatMap_cons, List.count_cons, List.count_append,
      List.map_cons] at c1 c2 ⊢
    omega
  · intro k _ _ _
    simp [kidsOf, Kids.Canon, Kids.labels, dnLegs, allLabels]
  · intro t ts iht ihts k hk hnd hE
    rw [idsL_cons] at hk hnd
    rw [List.nodup_append] at hnd
    rw [List.mem_append, not_or] at hk
    have hE0 : EdgeOK dim cj N up dn k t.rid := hE _ (by rw [edgesL_cons]; exact List.mem_cons_self)
    obtain ⟨hsC, hsL⟩ := iht k hk.1 hnd.1 hE0
      (fun e he => hE e (by rw [edgesL_cons]; exact List.mem_cons_of_mem _ (List.mem_append_left _ he)))
    obtain ⟨hrC, hrL⟩ := ihts k hk.2 hnd.2.1
      (fun e he => hE e (by rw [edgesL_cons]; exact List.mem_cons_of_mem _ (List.mem_append_right _ he)))
    constructor
    · rw [kidsOf, Kids.Canon, subOf_u, subOf_u']
      exact ⟨hE0.2.2.2.1, hE0.2.2.2.1, hsC, hrC⟩
    · rw [List.perm_iff_count]
      intro a
      have c1 := hsL.count_eq a
      have c2 := hrL.count_eq a
      simp only [kidsOf, Kids.labels, dnLegs, allLabels, idsL_cons, List.flatMap_append, List.count_cons,
        List.count_append, List.map_cons] at c1 c2 ⊢
      omega

theorem dlegs_nodup (h : N.WF) {k : Nat} (hk : k ∈ N.ids) : (dlegs N k).Nodup := by
  have := pairLegs_map_dbl_nodup (h.legs_nodup k hk)
  rwa [pairLegs_map_dbl] at this

theorem mem_dlegs {k : Nat} {x : DL} : x ∈ dlegs N k ↔ ∃ l ∈ N.legs k, x = DL.ket l ∨ x = DL.bra l := by
  simp only [dlegs, List.mem_append, List.mem_map]
  constructor
  · rintro (⟨l, hl, rfl⟩ | ⟨l, hl, rfl⟩)
    · exact ⟨l, hl, Or.inl rfl⟩
    · exact ⟨l, hl, Or.inr rfl⟩
  · rintro ⟨l, hl, rfl | rfl⟩
    · exact Or.inl ⟨l, hl, rfl⟩
    · exact Or.inr ⟨l, hl, rfl⟩

/-- the two copies of the legs of distinct nodes of a well-formed network are pairwise distinct -/
theorem allLabels_nodup (h : N.WF) {ns : List Nat} (hnd : ns.Nodup) (hsub : ∀ n ∈ ns, n ∈ N.ids) :
    (allLabels N ns).Nodup := by
  induction ns with
  | nil => simp [allLabels]
  | cons n ns ih =>
    rw [List.nodup_cons] at hnd
    simp only [allLabels, List.flatMap_cons]
    rw [List.nodup_append]
    refine ⟨dlegs_nodup h (hsub n List.mem_cons_self), ih hnd.2 (fun m hm => hsub m (List.mem_cons_of_mem _ hm)), ?_⟩
    intro x hx y hy hxy
    subst hxy
    obtain ⟨n', hn', hx'⟩ := List.mem_flatMap.1 hy
    obtain ⟨l, hl, e⟩ := mem_dlegs.1 hx
    obtain ⟨l', hl', e'⟩ := mem_dlegs.1 hx'
    have : l = l' := by
      rcases e with rfl | rfl <;> rcases e' with e' | e' <;> cases e' <;> rfl
    subst this
    have := h.owner n (hsub n List.mem_cons_self) n' (hsub n' (List.mem_cons_of_mem _ hn')) l hl hl'
    exact hnd.1 (this ▸ hn')

/-- a tree-shaped network of isometries toward the parents: the doubled tree is canonical, its labels are the
two copies of the legs of the nodes, and the pairs at the centre are the doubled legs of the centre tensor -/
theorem centre_canon_labels (h : N.WF) (r : RTree) (hnd : (ids r).Nodup) (hsub : ∀ n ∈ ids r, n ∈ N.ids)
    (hE : ∀ e ∈ edges r, EdgeOK dim cj N up dn e.1 e.2) :
    (centreOf cj N up dn r).Canon (ddim dim) ∧ (centreOf cj N up dn r).labels.Perm (allLabels N (ids r)) ∧
      ((centreOf cj N up dn r).phys ++ (centreOf cj N up dn r).kids.pairs).Perm ((N.legs r.rid).map dbl) := by
  obtain ⟨c, ks⟩ := r
  rw [ids_node] at hnd hsub
  have hnd' := List.nodup_cons.1 hnd
  rw [edges_node] at hE
  have hc : c ∈ N.ids := hsub c List.mem_cons_self
  obtain ⟨hKC, hKL⟩ := (tree_canon (cj := cj) (dim := dim) (up := up) (dn := dn) h).2 ks c hnd'.1 hnd'.2 hE
  have hEc : ∀ t ∈ ks, EdgeOK dim cj N up dn c t.rid := fun t ht => hE _ (rid_edge ht)
  obtain ⟨hD1, hD2⟩ := dnLegs_facts h (rids_nodup hnd'.2) hEc
  have hL := filter_compl_perm (h.legs_nodup c hc) hD1 hD2
  simp only [centreOf, rid, kids]
  refine ⟨⟨?_, ?_, hKC⟩, ?_, ?_⟩
  · refine (ketT_dependsOn (h.reads c hc)).mono ?_
    intro x hx
    obtain ⟨l, hl, rfl⟩ := List.mem_map.1 hx
    rw [physOf_fst, kidsOf_kd]
    exact mem_kept_or_excl DL.ket hl
  · refine (braT_dependsOn cj (h.reads c hc)).mono ?_
    intro x hx
    obtain ⟨l, hl, rfl⟩ := List.mem_map.1 hx
    rw [physOf_snd, kidsOf_bd]
    exact mem_kept_or_excl DL.bra hl
  · refine (hKL.append_left _).trans ?_
    rw [← List.append_assoc]
    exact (physOf_labels h hc hD1 hD2).append_right _
  · rw [kidsOf_pairs, physOf, ← List.map_append]
    exact hL.map dbl

/-- **A network with the shape of a tree whose non-root nodes are isometries toward their parents is in
canonical form with the root as centre** (`Ptn.Ein.Centre.Canon`), and the labels of its norm network are
pairwise distinct. -/
theorem centre_canon_of_tree (h : N.WF) (r : RTree) (hnd : (ids r).Nodup) (hsub : ∀ n ∈ ids r, n ∈ N.ids)
    (hE : ∀ e ∈ edges r, EdgeOK dim cj N up dn e.1 e.2) :
    (centreOf cj N up dn r).Canon (ddim dim) ∧ (centreOf cj N up dn r).labels.Nodup ∧
      ((centreOf cj N up dn r).phys ++ (centreOf cj N up dn r).kids.pairs).Perm ((N.legs r.rid).map dbl) := by
  obtain ⟨hC, hL, hP⟩ := centre_canon_labels (cj := cj) (dim := dim) (up := up) (dn := dn) h r hnd hsub hE
  exact ⟨hC, hL.nodup_iff.2 (allLabels_nodup h hnd hsub), hP⟩

/-- **The norm of a tree network in canonical form from the centre tensor alone.**  `N` a well-formed valued
network, `r` a tree rooted at the centre whose nodes are nodes of `N` and whose every edge satisfies `EdgeOK`
(the bond exists, has one dimension, the child is an isometry toward it).  The norm network - for every node
its tensor and the conjugated copy, every open leg of the ket copy bound to the same leg of the bra copy,
both copies of every bond - has the value of `Σ C · conj C` over one common index per leg of the centre
tensor.  All trees, all dimensions, every commutative semiring, any conjugation. -/
theorem centre_norm_of_tree (h : N.WF) (r : RTree) (hnd : (ids r).Nodup) (hsub : ∀ n ∈ ids r, n ∈ N.ids)
    (hE : ∀ e ∈ edges r, EdgeOK dim cj N up dn e.1 e.2) (σ : Asg DL) :
    netValue (ddim dim) (centreOf cj N up dn r).normBinds (centreOf cj N up dn r).normLeaves σ =
      netValue (ddim dim) ((N.legs r.rid).map dbl) [ketT (N.tens r.rid), braT cj (N.tens r.rid)] σ := by
  obtain ⟨hC, hL, hP⟩ := centre_canon_of_tree (cj := cj) (dim := dim) (up := up) (dn := dn) h r hnd hsub hE
  rw [centre_norm_eq_full_norm_value (ddim dim) _ hC hL σ]
  have hnd2 : (Expr.pairLegs ((N.legs r.rid).map dbl)).Nodup :=
    pairLegs_map_dbl_nodup (h.legs_nodup _ (hsub _ (rid_mem_ids r)))
  exact netValue_perm (ddim dim) hP (List.Perm.refl _) ((pairLegs_perm hP).nodup_iff.2 hnd2) σ

end

end Ptn.C03
