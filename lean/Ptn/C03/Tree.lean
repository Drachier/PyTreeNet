import Ptn.C03.Core
import Ptn.C17.DistTree
import Ptn.C17.Examples
/-! C03 on trees: for every well-formed tree and every centre the distance table returned by
`distance_to_node` (C17: `distanceToNode`) and the neighbour lists `neighbouring_nodes()`
(C17: `nbrsOf`) satisfy the two hypotheses of `canon_gauge`; no `KeyError` occurs; after
`canonical_form` every node other than the centre is an isometry toward the first node on its way
to the centre. -/
namespace Ptn.C03
open Ptn.C17 Ptn.C17.RTree

/-- `_find_smallest_distance_neighbour`: if every neighbour has an entry, the result is a
    neighbour of minimal distance. -/
theorem closest_spec (dist : Dist) : ∀ (nb : List Nat), nb ≠ [] →
    (∀ n ∈ nb, ∃ d, lookup dist n = some d) →
    ∃ m, closest dist nb = some m ∧ m ∈ nb ∧ ∀ n ∈ nb, key dist m ≤ key dist n
  | [], h, _ => absurd rfl h
  | [n], _, hl => by
    obtain ⟨d, hd⟩ := hl n (by simp)
    exact ⟨n, by simp [closest, hd], by simp, by simp⟩
  | n :: n2 :: rest, _, hl => by
    obtain ⟨dn, hdn⟩ := hl n (by simp)
    obtain ⟨m, hm, hmem, hmin⟩ := closest_spec dist (n2 :: rest) (by simp)
      (fun x hx => hl x (by simp [hx]))
    obtain ⟨dm, hdm⟩ := hl m (by simp [hmem])
    by_cases hlt : dm < dn
    · refine ⟨m, by simp [closest_cons_cons, hdn, hm, hdm, hlt], by simp [hmem], ?_⟩
      intro x hx
      rcases List.mem_cons.mp hx with rfl | hx
      · simp [key, hdn, hdm]; omega
      · exact hmin x hx
    · refine ⟨n, by simp [closest_cons_cons, hdn, hm, hdm, hlt], by simp, ?_⟩
      intro x hx
      rcases List.mem_cons.mp hx with rfl | hx
      · exact Nat.le_refl _
      · have := hmin x hx
        simp [key, hdn, hdm] at this ⊢
        omega

theorem le_maxDist (dist : Dist) : ∀ p ∈ dist, p.2 ≤ maxDist dist := by
  have gen : ∀ (l : Dist) (m0 : Nat), m0 ≤ l.foldl (fun m p => max m p.2) m0 ∧
      ∀ p ∈ l, p.2 ≤ l.foldl (fun m p => max m p.2) m0 := by
    intro l
    induction l with
    | nil => intro m0; simp
    | cons q rest ih =>
      intro m0
      have := ih (max m0 q.2)
      simp only [List.foldl_cons]
      refine ⟨by omega, ?_⟩
      intro p hp
      rcases List.mem_cons.mp hp with rfl | hp
      · omega
      · exact this.2 p hp
  exact (gen dist 0).2

/-- The facts about the distance table of a tree in the vocabulary of the C03 model. -/
theorem tree_table (t : RTree) (hwf : t.WF) (c : Nat) (hc : c ∈ ids t) :
    ∃ dist : Dist, distanceToNode t c = some dist ∧ (dist.map (·.1)).Nodup ∧
      (dist.map (·.1)).Perm (ids t) ∧ (c, 0) ∈ dist ∧
      ∀ n d, (n, d) ∈ dist → n ≠ c →
        ∃ v, firstHop t n c = some v ∧ closest dist (nbrsOf t n) = some v ∧
          key dist v + 1 = d := by
  obtain ⟨dist, hd, hnd, hperm, hc0, hstep⟩ := dist_table t hwf c hc
  refine ⟨dist, hd, hnd, hperm, hc0, ?_⟩
  intro n d hn hnc
  obtain ⟨v, d', hhop, hadj, hdd, hv, hothers⟩ := hstep n d hn hnc
  have hlv := lookup_of_mem dist hnd v d' hv
  -- every neighbour has an entry
  have hall : ∀ m ∈ nbrsOf t n, ∃ dm, lookup dist m = some dm := by
    intro m hm
    have hm' := (mem_nbrsOf t n m).mp hm
    by_cases hmv : m = v
    · exact ⟨d', hmv ▸ hlv⟩
    · exact ⟨d + 1, lookup_of_mem dist hnd m (d + 1) (hothers m hm' hmv)⟩
  have hne : nbrsOf t n ≠ [] := List.ne_nil_of_mem ((mem_nbrsOf t n v).mpr hadj)
  obtain ⟨m, hm, hmem, hmin⟩ := closest_spec dist (nbrsOf t n) hne hall
  have hmv : m = v := by
    apply Classical.byContradiction
    intro hne'
    have h1 := hothers m ((mem_nbrsOf t n m).mp hmem) hne'
    have h2 := hmin v ((mem_nbrsOf t n v).mpr hadj)
    simp [key, lookup_of_mem dist hnd m (d + 1) h1, hlv] at h2
    omega
  exact ⟨v, hhop, hmv ▸ hm, by simp [key, hlv, hdd]⟩

/-- on a table as in `tree_table` every operation splits a node of the table and absorbs into a strictly closer
one -/
theorem tree_ops_closer {t : RTree} {c : Nat} {dist : Dist} (hnd : (dist.map (·.1)).Nodup) (hc0 : (c, 0) ∈ dist)
    (hstep : ∀ n d, (n, d) ∈ dist → n ≠ c →
      ∃ v, firstHop t n c = some v ∧ closest dist (nbrsOf t n) = some v ∧ key dist v + 1 = d)
    {o : Op} (ho : o ∈ canonOps dist (nbrsOf t)) :
    o.node ∈ dist.map (·.1) ∧ key dist o.target < key dist o.node := by
  obtain ⟨k, hmem, hcl⟩ := mem_canonOps ho
  obtain ⟨v, _, hcv, hkey⟩ := hstep o.node (k + 1) hmem (ne_centre hnd hc0 hmem (Nat.succ_ne_zero k))
  obtain rfl : o.target = v := Option.some.inj (hcl.symm.trans hcv)
  rw [key_of_mem hnd hmem]
  exact ⟨List.mem_map.2 ⟨_, hmem, rfl⟩, by omega⟩

/-- **Canonical form on a tree.**  For every well-formed tree `t` and centre `c`, with `dist` the
    table of `distance_to_node(c)` and `nbrsOf t` the neighbour lists: the keys are distinct, every
    operation absorbs into a strictly closer node (the two hypotheses of `canon_gauge`), no
    neighbour lookup fails, and afterwards every node `n ≠ c` is recorded as an isometry toward the
    first node on the way from `n` to `c`, while `c` carries no record. -/
theorem canon_gauge_tree (t : RTree) (hwf : t.WF) (c : Nat) (hc : c ∈ ids t) :
    ∃ dist : Dist, distanceToNode t c = some dist ∧
      (dist.map (·.1)).Nodup ∧
      (∀ o ∈ canonOps dist (nbrsOf t), key dist o.target < key dist o.node) ∧
      canonComplete dist (nbrsOf t) = true ∧
      (∀ n ∈ ids t, n ≠ c → ∃ v, firstHop t n c = some v ∧
          applyOps (fun _ => none) (canonOps dist (nbrsOf t)) n = some v) ∧
      applyOps (fun _ => none) (canonOps dist (nbrsOf t)) c = none := by
  obtain ⟨dist, hd, hnd, hperm, hc0, hstep⟩ := tree_table t hwf c hc
  have htree : ∀ o ∈ canonOps dist (nbrsOf t), key dist o.target < key dist o.node :=
    fun o ho => (tree_ops_closer hnd hc0 hstep ho).2
  have hgauge := canon_gauge dist (nbrsOf t) hnd htree
  refine ⟨dist, hd, hnd, htree, ?_, ?_, hgauge.2 c hc0⟩
  · -- no KeyError
    simp only [canonComplete, List.all_eq_true, Bool.or_eq_true, beq_iff_eq]
    intro p hp
    by_cases h0 : p.2 = 0
    · exact Or.inl h0
    · right
      obtain ⟨v, _, hcv, _⟩ := hstep p.1 p.2 hp (ne_centre hnd hc0 hp h0)
      simp [hcv]
  · intro n hn hnc
    have : n ∈ dist.map (·.1) := hperm.symm.subset hn
    obtain ⟨e, he, rfl⟩ := List.mem_map.mp this
    obtain ⟨v, hhop, hcv, hkey⟩ := hstep e.1 e.2 he hnc
    refine ⟨v, hhop, ?_⟩
    -- the operation ⟨n, v⟩ is carried out
    have hpos : 1 ≤ e.2 := by omega
    have hle := le_maxDist dist e he
    have hop : (⟨e.1, v⟩ : Op) ∈ canonOps dist (nbrsOf t) := by
      unfold canonOps
      rw [List.mem_flatMap]
      refine ⟨e.2 - 1, by simp; omega, ?_⟩
      have hk : e.2 - 1 + 1 = e.2 := by omega
      rw [hk]
      simp only [opsAt, List.mem_filterMap, List.mem_filter]
      exact ⟨e, ⟨he, by simp⟩, by simp [hcv]⟩
    exact hgauge.1 _ hop

/-! ### Non-vacuity: the 8-node tree of the C17 examples canonicalised at node 6 -/

example : exTree.WF ∧ 6 ∈ ids exTree := by decide
example : distanceToNode exTree 6 =
    some [(6, 0), (5, 1), (0, 2), (1, 3), (3, 4), (4, 4), (2, 3), (7, 1)] := by decide
example : nbrsOf exTree 0 = [1, 2, 5] ∧ nbrsOf exTree 5 = [0, 6] := by decide
example : canonOps [(6, 0), (5, 1), (0, 2), (1, 3), (3, 4), (4, 4), (2, 3), (7, 1)] (nbrsOf exTree)
    = [⟨3, 1⟩, ⟨4, 1⟩, ⟨1, 0⟩, ⟨2, 0⟩, ⟨0, 5⟩, ⟨5, 6⟩, ⟨7, 6⟩] := by decide

end Ptn.C03
