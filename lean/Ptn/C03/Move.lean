import Ptn.C03.Whole
/-! Centre moves at value level: a network in canonical form around `c` (every other node an isometry toward its first hop to `c`; `CanonRec` is the
same for the gauge record), after the QR moves along the
way from `c` to `c'`, is in canonical form around `c'`, and the norm of the whole network is that of the new centre
tensor alone. -/
namespace Ptn.C03

open Ptn.Ein Ptn.C17 Ptn.C17.RTree

variable {R : Type} [CommSemiring R]

/-- **the record after the moves along ANY walk** from `c` to `c'` (consecutive nodes neighbours in the tree)
is the record of canonical form around `c'` -/
theorem canonRec_walk {t : RTree} (hwf : t.WF) : ∀ (path : List Nat) (dir : Nat → Option Nat) (c c' : Nat),
    path.head? = some c → path.getLast? = some c' → Chain (Adj t) path → CanonRec t dir c →
      CanonRec t (applyOps dir (moveOps path)) c'
  | [], _, _, _, h, _, _, _ => by simp at h
  | [a], dir, c, c', h1, h2, _, hr => by
    simp at h1 h2
    subst h1; subst h2
    simpa [moveOps, applyOps] using hr
  | a :: b :: rest, dir, c, c', h1, h2, hc, hr => by
    simp at h1
    subst h1
    rw [chain_cons_cons] at hc
    simp only [moveOps, applyOps_cons]
    exact canonRec_walk hwf (b :: rest) _ b c' rfl (by simpa using h2) hc.2 (canonRec_hop hwf hc.1 hr)

/-- the record read off a tree: every node other than `c` points to its first hop toward `c` -/
def recordAt (t : RTree) (c : Nat) : Nat → Option Nat :=
  fun n => if n ∈ ids t ∧ n ≠ c then firstHop t n c else none

theorem recordAt_canonRec {t : RTree} (hwf : t.WF) {c : Nat} (hc : c ∈ ids t) : CanonRec t (recordAt t c) c := by
  intro n hn hnc
  obtain ⟨v, _, _, hv⟩ := pathFromTo_cons_cons hwf hn hc hnc
  exact ⟨v, hv, by simp [recordAt, hn, hnc, hv]⟩

/-- **A centre move keeps canonical form (value level).**  `t` a well-formed tree, `c`, `c'` two of its nodes,
`N` a well-formed valued network that is canonical around `c`: every node `n ≠ c` of `t` is joined to the first
node on its way to `c` and is an isometry (index form) toward that bond.  `path` the way from `c` to `c'`.
After ANY run `N'` of the moves `moveOps path` with the full QR contract per step, every node `n ≠ c'` is joined
to the first node on its way to `c'` and is an isometry toward that bond: the network is canonical around `c'`.
Also: `N'` well-formed, same value, bonds keep one dimension, same nodes.  (The conclusion has the form of the
hypothesis, and of the conclusion of `canonical_form_isometric_tree`: the statements compose over any
history of canonicalisations and moves.) -/
theorem move_centre_isometric_tree (dim : Nat → Nat) (cj : R → R) (t : RTree) (hwf : t.WF) (c c' : Nat)
    (hc : c ∈ ids t) (hc' : c' ∈ ids t) {N : VNet R} (h : N.WF)
    (hcan : ∀ n ∈ ids t, n ≠ c → ∃ v, firstHop t n c = some v ∧ IsoAt dim cj N n v) :
    ∃ path : List Nat, pathFromTo t c c' = some path ∧
      ∀ N', IsoRun dim cj N (moveOps path) N' →
        (∀ n ∈ ids t, n ≠ c' → ∃ v, firstHop t n c' = some v ∧ IsoAt dim cj N' n v) ∧
        N'.WF ∧ (∀ σ, N'.value dim σ = N.value dim σ) ∧ (BondDims dim N → BondDims dim N') ∧
        N'.ids = N.ids := by
  obtain ⟨path, hp, hh, hl, _, hch, _⟩ := pathFromTo_isSimplePath hwf hc hc'
  refine ⟨path, hp, ?_⟩
  intro N' hr
  have hinv : GaugeInv dim cj N (recordAt t c) := by
    intro n m hnm
    simp only [recordAt] at hnm
    split at hnm
    · rename_i hcond
      obtain ⟨v, hv, hI⟩ := hcan n hcond.1 hcond.2
      rw [hv] at hnm
      cases hnm
      exact hI
    · cases hnm
  obtain ⟨h1, h2, h3, h4, h5⟩ := run_isometric dim cj h hr _ hinv
  refine ⟨?_, h2, h3, h4, h5⟩
  intro n hn hnc
  obtain ⟨v, hv, hdir⟩ := canonRec_walk hwf path _ c c' hh hl hch (recordAt_canonRec hwf hc) n hn hnc
  exact ⟨v, hv, h1 n v hdir⟩

/-- **After a centre move the norm of the WHOLE network is the norm of the new centre tensor alone.**  `t` a
well-formed tree, `c`, `c'` two of its nodes, `N` a well-formed valued network of exactly the shape of `t`
(`TreeShaped`) whose bonds have one dimension and which is canonical around `c` (every node `n ≠ c` an isometry
toward the first hop of its way to `c`).  After ANY run `N'` of the QR moves along the way from `c` to `c'` with
the full QR contract per step: `N'` is well-formed, represents the same tensor, is canonical around `c'`, and
the doubled network of the whole of `N'` - all tensors and conjugated copies, all bonds in both copies, all open
legs paired ket-with-bra - has the value of `Σ C' · conj C'` over the legs of the tensor of `c'` alone. -/
theorem move_centre_norm_whole (dim : Nat → Nat) (cj : R → R) (t : RTree) (hwf : t.WF) (c c' : Nat)
    (hc : c ∈ ids t) (hc' : c' ∈ ids t) {N : VNet R} (h : N.WF) (hts : TreeShaped N t) (hbd : BondDims dim N)
    (hcan : ∀ n ∈ ids t, n ≠ c → ∃ v, firstHop t n c = some v ∧ IsoAt dim cj N n v) :
    ∃ path : List Nat, pathFromTo t c c' = some path ∧
      ∀ N', IsoRun dim cj N (moveOps path) N' →
        N'.WF ∧ (∀ σ, N'.value dim σ = N.value dim σ) ∧
        (∀ n ∈ ids t, n ≠ c' → ∃ v, firstHop t n c' = some v ∧ IsoAt dim cj N' n v) ∧
        ∀ σ, netValue (ddim dim) (wholeNormBinds N') (wholeNormLeaves cj N') σ =
          netValue (ddim dim) ((N'.legs c').map dbl) [ketT (N'.tens c'), braT cj (N'.tens c')] σ := by
  obtain ⟨path, hp, hrun⟩ := move_centre_isometric_tree dim cj t hwf c c' hc hc' h hcan
  refine ⟨path, hp, ?_⟩
  intro N' hrn
  obtain ⟨hiso, hwf', hval, hbd', hids'⟩ := hrun N' hrn
  refine ⟨hwf', hval, hiso, ?_⟩
  intro σ
  exact centre_norm_whole_of_canonical t hwf c' hc' hwf' (hids' ▸ hts.ids_perm)
    ((isoRun_bonds_length hrn).trans hts.bonds_len) (hbd' hbd) hiso σ

end Ptn.C03
