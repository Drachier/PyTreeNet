import Ptn.C03.Model
import Ptn.C17.HopFacts
/-! The gauge record machine `applyOps` (what a run leaves alone; `gauge_sorted`, `gauge_centre`), membership in
`canonOps` / `moveOps`, `closest`, and the record of canonical form around a node of a tree (`CanonRec`, over the first
hops of C17).  Core Lean only. -/
namespace Ptn.C03

theorem applyOps_nil (dir : Nat → Option Nat) : applyOps dir [] = dir := rfl

theorem applyOps_cons (dir : Nat → Option Nat) (o : Op) (rest : List Op) :
    applyOps dir (o :: rest) = applyOps (applyOp dir o) rest := rfl

/-- Operations that neither split `n` nor absorb into `n` leave its gauge record alone. -/
theorem applyOps_untouched (dir : Nat → Option Nat) (ops : List Op) (n : Nat)
    (h : ∀ p ∈ ops, p.node ≠ n ∧ p.target ≠ n) : applyOps dir ops n = dir n := by
  induction ops generalizing dir with
  | nil => rfl
  | cons o rest ih =>
    rw [applyOps_cons, ih]
    · have := h o (by simp)
      simp [applyOp, Ne.symm this.1, Ne.symm this.2]
    · intro p hp; exact h p (by simp [hp])

theorem gauge_sorted (rank : Nat → Nat) (dir : Nat → Option Nat) (ops : List Op)
    (hnd : (ops.map Op.node).Nodup)
    (hsorted : ops.Pairwise fun a b => rank b.node ≤ rank a.node)
    (hcloser : ∀ o ∈ ops, rank o.target < rank o.node) :
    ∀ o ∈ ops, applyOps dir ops o.node = some o.target := by
  induction ops generalizing dir with
  | nil => intro o ho; simp at ho
  | cons a rest ih =>
    intro o ho
    have hnd' : a.node ∉ rest.map Op.node ∧ (rest.map Op.node).Nodup := by
      rw [List.map_cons] at hnd; exact List.nodup_cons.mp hnd
    have hs' := List.pairwise_cons.mp hsorted
    rw [applyOps_cons]
    rcases List.mem_cons.mp ho with rfl | hmem
    · rw [applyOps_untouched]
      · simp [applyOp]
      · intro p hp
        constructor
        · intro heq
          exact hnd'.1 (by rw [← heq]; exact List.mem_map_of_mem hp)
        · intro heq
          have h1 := hcloser p (by simp [hp])
          have h2 := hs'.1 p hp
          rw [heq] at h1
          omega
    · exact ih (applyOp dir a) hnd'.2 hs'.2 (fun o ho => hcloser o (by simp [ho])) o hmem

theorem gauge_centre (dir : Nat → Option Nat) (ops : List Op) (c : Nat)
    (hnot : ∀ o ∈ ops, o.node ≠ c) (hdir : dir c = none) : applyOps dir ops c = none := by
  induction ops generalizing dir with
  | nil => exact hdir
  | cons a rest ih =>
    rw [applyOps_cons]
    apply ih
    · intro o ho; exact hnot o (by simp [ho])
    · have := hnot a (by simp)
      simp only [applyOp, Ne.symm this, if_false]
      split <;> simp [hdir]

theorem mem_opsAt {dist : Dist} {nbrs : Nat → List Nat} {d : Nat} {o : Op} (h : o ∈ opsAt dist nbrs d) :
    (o.node, d) ∈ dist ∧ closest dist (nbrs o.node) = some o.target := by
  simp only [opsAt, List.mem_filterMap, List.mem_filter] at h
  obtain ⟨p, ⟨hp, hd⟩, hm⟩ := h
  cases hc : closest dist (nbrs p.1) with
  | none => simp [hc] at hm
  | some t =>
    simp only [hc, Option.map_some, Option.some.injEq] at hm
    subst hm
    have : p.2 = d := by simpa using hd
    constructor
    · rw [← this]; exact hp
    · exact hc

theorem closest_cons_cons (dist : Dist) (n n2 : Nat) (rest : List Nat) :
    closest dist (n :: n2 :: rest) =
      match lookup dist n with
      | none => none
      | some dn =>
        match closest dist (n2 :: rest) with
        | none => none
        | some m =>
          match lookup dist m with
          | none => none
          | some dm => if dm < dn then some m else some n := by
  rw [closest]
  cases lookup dist n <;> rfl

/-- `_find_smallest_distance_neighbour` returns one of the neighbours. -/
theorem closest_mem (dist : Dist) : ∀ (nb : List Nat) (m : Nat), closest dist nb = some m → m ∈ nb
  | [], m, h => by simp [closest] at h
  | [n], m, h => by
    rw [closest] at h
    cases hl : lookup dist n with
    | none => simp [hl] at h
    | some dn => simp [hl] at h; simp [h]
  | n :: n2 :: rest, m, h => by
    rw [closest_cons_cons] at h
    split at h
    · cases h
    · split at h
      · cases h
      · rename_i m' hc
        split at h
        · cases h
        · split at h
          · cases h; exact List.mem_cons_of_mem _ (closest_mem dist _ _ hc)
          · cases h; exact List.mem_cons_self

/-- an operation of `canonical_form` splits a node with an entry at distance `≥ 1` and absorbs into its closest
neighbour -/
theorem mem_canonOps {dist : Dist} {nbrs : Nat → List Nat} {o : Op} (h : o ∈ canonOps dist nbrs) :
    ∃ k, (o.node, k + 1) ∈ dist ∧ closest dist (nbrs o.node) = some o.target := by
  unfold canonOps at h
  obtain ⟨k, _, hk⟩ := List.mem_flatMap.1 h
  exact ⟨k, mem_opsAt hk⟩

/-- every operation of `canonical_form` absorbs into a neighbour of the split node -/
theorem canonOps_adjacent (dist : Dist) (nbrs : Nat → List Nat) :
    ∀ o ∈ canonOps dist nbrs, o.target ∈ nbrs o.node := by
  intro o ho
  obtain ⟨_, _, hc⟩ := mem_canonOps ho
  exact closest_mem dist _ _ hc

/-- the operations of a centre move are the hops of the path -/
theorem mem_moveOps : ∀ (path : List Nat) (o : Op), o ∈ moveOps path →
    ∃ i, ∃ hi : i + 1 < path.length, o = ⟨path[i], path[i + 1]⟩
  | [], o, h => by simp [moveOps] at h
  | [_], o, h => by simp [moveOps] at h
  | a :: b :: rest, o, h => by
    simp only [moveOps, List.mem_cons] at h
    rcases h with rfl | h
    · exact ⟨0, by simp, rfl⟩
    · obtain ⟨i, hi, e⟩ := mem_moveOps (b :: rest) o h
      exact ⟨i + 1, by simpa using hi, by simpa using e⟩

/-- the hops of a path touch nodes of the path only -/
theorem moveOps_sub_path {path : List Nat} {o : Op} (h : o ∈ moveOps path) : o.node ∈ path ∧ o.target ∈ path := by
  obtain ⟨i, hi, rfl⟩ := mem_moveOps path o h
  exact ⟨List.getElem_mem _, List.getElem_mem _⟩

section
open Ptn.C17 Ptn.C17.RTree

/-- the gauge record `dir` is the record of canonical form around `c`: every node of the tree other than `c`
points to the first node on its way to `c` -/
def CanonRec (t : RTree) (dir : Nat → Option Nat) (c : Nat) : Prop :=
  ∀ n ∈ ids t, n ≠ c → ∃ v, firstHop t n c = some v ∧ dir n = some v

/-- **one hop of a centre move**: the QR at `a` toward its neighbour `b` turns the record of canonical form
around `a` into the record of canonical form around `b` -/
theorem canonRec_hop {t : RTree} (hwf : t.WF) {dir : Nat → Option Nat} {a b : Nat} (hab : Adj t a b)
    (h : CanonRec t dir a) : CanonRec t (applyOp dir ⟨a, b⟩) b := by
  intro n hn hnb
  by_cases hna : n = a
  · subst hna
    exact ⟨b, firstHop_adj hwf hab, by simp [applyOp]⟩
  · obtain ⟨v, hv, hd⟩ := h n hn hna
    refine ⟨v, ?_, ?_⟩
    · rw [firstHop_adj_same hwf hab hn hna hnb]; exact hv
    · simp [applyOp, hna, hnb, hd]

end

end Ptn.C03
