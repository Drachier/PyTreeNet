import Ptn.C03.Tree
import Ptn.C03.CanonTree
/-! The gauge record of `canonical_form` means canonical form at value level, for every tree and every centre: after the
run every node `n ≠ c` is an isometry toward its parent in the tree re-rooted at `c` (C17 `reroot`), hence the norm
network has the value of the centre tensor's norm alone. -/
namespace Ptn.C03

open Ptn.Ein Ptn.C17 Ptn.C17.RTree

variable {R : Type} [CommSemiring R]

/-- For every well-formed tree `t`, every centre `c`, every well-formed valued network:
after ANY run of the operations of `canonical_form` with the full QR contract per step, every node other than
the centre is joined by a bond to the first node on its way to the centre and its tensor is an isometry
(index form) toward that bond; the network stays well-formed, its value is unchanged, bonds keep one
dimension. -/
theorem canonical_form_isometric_tree (dim : Nat → Nat) (cj : R → R) (t : RTree) (hwf : t.WF) (c : Nat)
    (hc : c ∈ ids t) {N : VNet R} (h : N.WF) :
    ∃ dist : Dist, distanceToNode t c = some dist ∧
      ∀ N', IsoRun dim cj N (canonOps dist (nbrsOf t)) N' →
        (∀ n ∈ ids t, n ≠ c → ∃ v, firstHop t n c = some v ∧ IsoAt dim cj N' n v) ∧
        N'.WF ∧ (∀ σ, N'.value dim σ = N.value dim σ) ∧ (BondDims dim N → BondDims dim N') ∧
        N'.ids = N.ids := by
  obtain ⟨dist, hd, _, _, _, hrec, _⟩ := canon_gauge_tree t hwf c hc
  refine ⟨dist, hd, ?_⟩
  intro N' hr
  obtain ⟨h1, h2, h3, h4, h5⟩ := run_isometric dim cj h hr (fun _ => none) (gaugeInv_none dim cj N)
  refine ⟨?_, h2, h3, h4, h5⟩
  intro n hn hnc
  obtain ⟨v, hv, hdir⟩ := hrec n hn hnc
  exact ⟨v, hv, h1 n v hdir⟩

/-! ### the re-rooted tree is the tree of first hops -/

/-- in a rooted tree the first hop from a child toward the root is its parent -/
theorem firstHop_child {r : RTree} (hwf : r.WF) {i k : Nat} (he : (i, k) ∈ edges r) :
    firstHop r k r.rid = some i := by
  obtain ⟨q, h1, h2⟩ := rootPath_edge hwf he
  obtain ⟨q', rfl⟩ := rootPath_head h1
  simp only [rootPath, Option.map_eq_some_iff] at h2
  obtain ⟨P, hP, hrev⟩ := h2
  have hs := pathDown_isSimplePath hwf hP
  have h3 := simple_path_eq_pathFromTo hwf hs
  have h4 := pathFromTo_reverse hwf (rid_mem_ids r) (edge_mem_ids he).2 h3
  rw [hrev] at h4
  exact firstHop_of_path h4

/-- simple paths depend on the node set and the neighbour relation only -/
theorem pathFromTo_transfer {t r : RTree} (hwt : t.WF) (hwr : r.WF) (hperm : (ids r).Perm (ids t))
    (hadj : ∀ a b, Adj r a b ↔ Adj t a b) {a b : Nat} (ha : a ∈ ids r) (hb : b ∈ ids r) :
    pathFromTo t a b = pathFromTo r a b := by
  obtain ⟨p, hp, h1, h2, h3, h4, h5⟩ := pathFromTo_isSimplePath hwr ha hb
  rw [hp]
  apply simple_path_eq_pathFromTo hwt
  exact ⟨h1, h2, fun x hx => hperm.subset (h3 x hx), chain_mono (fun a b hab => (hadj a b).1 hab) h4, h5⟩

/-- **The re-rooted tree is the tree of the gauge record**: `r` the tree `t` re-rooted at `c`; then `r` is
well-formed, has root `c` and the nodes of `t`, and for every edge parent `i` - child `k` of `r` the first hop
of the way from `k` to `c` in `t` is `i`. -/
theorem firstHop_reroot {t r : RTree} (hwf : t.WF) {c : Nat} (hr : reroot c [] t = some r) :
    r.WF ∧ r.rid = c ∧ (ids r).Perm (ids t) ∧
      ∀ i k, (i, k) ∈ edges r → k ∈ ids t ∧ k ≠ c ∧ firstHop t k c = some i := by
  obtain ⟨hrid, hperm, hadj⟩ := (reroot_spec c).1 t [] r hr
  simp only [idsL_nil, List.nil_append, edgesL_nil] at hperm hadj
  have hwr : r.WF := hperm.symm.nodup hwf
  refine ⟨hwr, hrid, hperm, ?_⟩
  intro i k he
  have hk := (edge_mem_ids he).2
  have hkc : k ≠ c := by
    intro e
    have h1 := (edges_mem.1 r i k he).2
    have h2 : (ids r).Nodup := hwr
    rw [ids_eq_rid_cons, List.nodup_cons] at h2
    exact h2.1 (hrid ▸ e ▸ h1)
  refine ⟨hperm.subset hk, hkc, ?_⟩
  have h1 := firstHop_child hwr he
  rw [hrid] at h1
  have h2 := pathFromTo_transfer hwf hwr hperm (fun a b => hadj a b) hk (hrid ▸ rid_mem_ids r)
  simp only [firstHop] at h1 ⊢
  rw [h2]; exact h1

/-! ### canonical form and the norm from the centre tensor alone -/

/-- a network that is canonical around `c` along first hops is canonical along the edges of the tree re-rooted
at `c` (`hhop`: the last clause of `firstHop_reroot`) -/
theorem isoAt_reroot {dim : Nat → Nat} {cj : R → R} {N : VNet R} {t r : RTree} {c : Nat}
    (hhop : ∀ i k, (i, k) ∈ edges r → k ∈ ids t ∧ k ≠ c ∧ firstHop t k c = some i)
    (hcan : ∀ n ∈ ids t, n ≠ c → ∃ v, firstHop t n c = some v ∧ IsoAt dim cj N n v) :
    ∀ i k, (i, k) ∈ edges r → IsoAt dim cj N k i := by
  intro i k he
  obtain ⟨hk, hkc, hfh⟩ := hhop i k he
  obtain ⟨v, hv, hI⟩ := hcan k hk hkc
  rw [hfh] at hv
  cases hv
  exact hI

/-- from "isometry toward the parent" for every child to the bond ends `up`, `dn` and `EdgeOK` -/
theorem edgeOK_of_isoAt (dim : Nat → Nat) (cj : R → R) {N : VNet R} (hbd : BondDims dim N) (r : RTree)
    (hwr : r.WF) (hiso : ∀ i k, (i, k) ∈ edges r → IsoAt dim cj N k i) :
    ∃ up dn : Nat → Nat, ∀ e ∈ edges r, EdgeOK dim cj N up dn e.1 e.2 := by
  -- per node `k` choose the two ends of the bond to its parent (unique: `parent_unique`); anything for the root
  have hex : ∀ k, ∃ ab : Nat × Nat, ∀ i, (i, k) ∈ edges r →
      ∃ p, N.Joined k i p ab.1 ab.2 ∧ IsoToward dim cj (N.tens k) (N.legs k) ab.1 := by
    intro k
    by_cases hk : ∃ i, (i, k) ∈ edges r
    · obtain ⟨i, hi⟩ := hk
      obtain ⟨_, _, p, a, b, hj, hI⟩ := hiso i k hi
      refine ⟨(a, b), ?_⟩
      intro i' hi'
      have := parent_unique hwr hi' hi
      subst this
      exact ⟨p, hj, hI⟩
    · exact ⟨(0, 0), fun i hi => absurd ⟨i, hi⟩ hk⟩
  obtain ⟨f, hf⟩ := Classical.axiomOfChoice hex
  refine ⟨fun k => (f k).1, fun k => (f k).2, ?_⟩
  intro e he
  obtain ⟨i, k⟩ := e
  obtain ⟨p, hj, hI⟩ := hf k i he
  obtain ⟨hk, hi, _⟩ := hiso i k he
  refine ⟨hi, hk, ⟨p, hj⟩, ?_, hI⟩
  have hd := hbd p hj.1
  rcases hj.2.1 with e | e <;> rw [e] at hd
  · exact hd.symm
  · exact hd

/-- **After `canonical_form` at any centre of any tree the norm network equals the centre-only network.**
`t` a well-formed tree, `c` one of its nodes, `N` a well-formed valued network containing the nodes of `t`
whose bonds have one dimension; `dist` the library's distance table, `r` the tree re-rooted at `c`.  After ANY
run `N'` of the operations of `canonical_form` with the full QR contract per step (factorisation, isometry of
`Q`, one dimension for the fresh bond - hypotheses per call, nothing global): the network is well-formed,
represents the same tensor, and there are bond ends `up`, `dn` - for every edge parent `i` - child `k` of `r` a
bond of `N'` joining the leg `up k` of `k` with the leg `dn k` of `i`, of one dimension, the tensor of `k` an
isometry toward it (`EdgeOK`) - such that the norm network along `r` (leaves: the tensors and conjugated
tensors of ALL nodes of `t`; binding record `(centreOf … r).normBinds`: per node its legs that are no bond ends,
ket copy with bra copy, and both copies of the bond of every edge) has the value of `Σ C · conj C` over the
legs of the centre tensor alone. -/
theorem canonical_form_centre_norm (dim : Nat → Nat) (cj : R → R) (t : RTree) (hwf : t.WF) (c : Nat)
    (hc : c ∈ ids t) {N : VNet R} (h : N.WF) (hids : ∀ n ∈ ids t, n ∈ N.ids) (hbd : BondDims dim N) :
    ∃ (dist : Dist) (r : RTree), distanceToNode t c = some dist ∧ reroot c [] t = some r ∧ r.rid = c ∧
      (ids r).Perm (ids t) ∧
      ∀ N', IsoRun dim cj N (canonOps dist (nbrsOf t)) N' →
        N'.WF ∧ (∀ σ, N'.value dim σ = N.value dim σ) ∧
        ∃ up dn : Nat → Nat, (∀ e ∈ edges r, EdgeOK dim cj N' up dn e.1 e.2) ∧
          (centreOf cj N' up dn r).Canon (ddim dim) ∧
          ∀ σ, netValue (ddim dim) (centreOf cj N' up dn r).normBinds ((ids t).flatMap (nodeLeaves cj N')) σ =
            netValue (ddim dim) ((N'.legs c).map dbl) [ketT (N'.tens c), braT cj (N'.tens c)] σ := by
  obtain ⟨dist, hd, hrun⟩ := canonical_form_isometric_tree dim cj t hwf c hc h
  obtain ⟨r, hr⟩ := (reroot_isSome c).1 t [] hc
  obtain ⟨hwr, hrid, hperm, hhop⟩ := firstHop_reroot hwf hr
  refine ⟨dist, r, hd, hr, hrid, hperm, ?_⟩
  intro N' hrn
  obtain ⟨hiso, hwf', hval, hbd', hids'⟩ := hrun N' hrn
  refine ⟨hwf', hval, ?_⟩
  obtain ⟨up, dn, hE⟩ := edgeOK_of_isoAt dim cj (hbd' hbd) r hwr (isoAt_reroot hhop hiso)
  have hsub : ∀ n ∈ ids r, n ∈ N'.ids := fun n hn => hids' ▸ hids n (hperm.subset hn)
  refine ⟨up, dn, hE, (centre_canon_of_tree hwf' r hwr hsub hE).1, ?_⟩
  intro σ
  have := centre_norm_of_tree (cj := cj) (dim := dim) (up := up) (dn := dn) hwf' r hwr hsub hE σ
  rw [hrid, centreOf_normLeaves] at this
  rw [← this]
  exact netValue_perm_leaves (ddim dim) _ (hperm.symm.flatMap_right (nodeLeaves cj N')) σ

end Ptn.C03
