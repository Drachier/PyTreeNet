import Ptn.Common.EinsumNet
/-! Flat labelled tensor networks with node-indexed leaves (`VNet`): the value-level carrier shared by the
C03 centre moves (`Ptn/C03/Gauge.lean`) and the C02 structural edits (`Ptn/C02/Value.lean`).

A network has a list of node identifiers, for every node its list of leg labels (natural numbers) and its
tensor (a function of the index assignment that reads only the node's own legs), a binding record (`bonds`:
pairs of leg labels that are summed over with a common index) and a counter `next` above every label in use,
from which FRESH bond labels are drawn (every QR / SVD / contraction-and-split creates a new pair
`(next, next + 1)` and advances the counter by two).  The value is `Ptn.Ein.netValue`: the one big sum over
the binding record of the product of all node tensors, as a function of the assignment of the open legs.  `next` is ghost
data: the library has no labels. -/
namespace Ptn.C03

open Ptn.Ein

set_option linter.unusedSectionVars false
variable {R : Type} [CommSemiring R]

theorem netValue_perm_bonds (dim : Nat → Nat) {bs cs : List (Nat × Nat)} (h : bs.Perm cs)
    (hnd : (Expr.pairLegs bs).Nodup) (ls : List (Asg Nat → R)) (σ : Asg Nat) :
    netValue dim bs ls σ = netValue dim cs ls σ :=
  netValue_perm dim h (List.Perm.refl _) hnd σ

structure VNet (R : Type) where
  ids : List Nat
  legs : Nat → List Nat
  tens : Nat → Asg Nat → R
  bonds : List (Nat × Nat)
  next : Nat

/-- the dense tensor the network represents, as a function of the assignment of the open legs -/
def VNet.value (dim : Nat → Nat) (N : VNet R) : Asg Nat → R := netValue dim N.bonds (N.ids.map N.tens)

/-- well-formed: distinct nodes, every label belongs to exactly one node, every tensor reads only its own
legs, no leg is bound twice, bonds join legs of nodes, the counter is above every label in use -/
structure VNet.WF (N : VNet R) : Prop where
  ids_nodup : N.ids.Nodup
  legs_nodup : ∀ n ∈ N.ids, (N.legs n).Nodup
  owner : ∀ n ∈ N.ids, ∀ m ∈ N.ids, ∀ l, l ∈ N.legs n → l ∈ N.legs m → n = m
  reads : ∀ n ∈ N.ids, DependsOn (· ∈ N.legs n) (N.tens n)
  bonds_nodup : (Expr.pairLegs N.bonds).Nodup
  bonds_legs : ∀ p ∈ N.bonds, (∃ n ∈ N.ids, p.1 ∈ N.legs n) ∧ (∃ m ∈ N.ids, p.2 ∈ N.legs m)
  fresh : ∀ n ∈ N.ids, ∀ l ∈ N.legs n, l < N.next

/-- nodes `n` and `m` are joined by the bond `p`, whose end at `n` is `a` and whose end at `m` is `b` -/
def VNet.Joined (N : VNet R) (n m : Nat) (p : Nat × Nat) (a b : Nat) : Prop :=
  p ∈ N.bonds ∧ (p = (a, b) ∨ p = (b, a)) ∧ a ∈ N.legs n ∧ b ∈ N.legs m

theorem VNet.WF.bond_lt {N : VNet R} (h : N.WF) : ∀ l ∈ Expr.pairLegs N.bonds, l < N.next := by
  intro l hl
  simp only [Expr.pairLegs, List.mem_append, List.mem_map] at hl
  rcases hl with ⟨p, hp, rfl⟩ | ⟨p, hp, rfl⟩
  · obtain ⟨⟨n, hn, h1⟩, _⟩ := h.bonds_legs p hp
    exact h.fresh n hn _ h1
  · obtain ⟨_, ⟨m, hm, h1⟩⟩ := h.bonds_legs p hp
    exact h.fresh m hm _ h1

theorem VNet.WF.of_tens {N : VNet R} (h : N.WF) (T : Nat → Asg Nat → R)
    (hr : ∀ n ∈ N.ids, DependsOn (· ∈ N.legs n) (T n)) : VNet.WF { N with tens := T } :=
  ⟨h.ids_nodup, h.legs_nodup, h.owner, hr, h.bonds_nodup, h.bonds_legs, h.fresh⟩

theorem VNet.WF.erase_legs {N : VNet R} (h : N.WF) {p : Nat × Nat} (hp : p ∈ N.bonds) :
    (p.1 :: p.2 :: Expr.pairLegs (N.bonds.erase p)).Nodup :=
  ((pairLegs_perm (List.perm_cons_erase hp)).trans (pairLegs_cons_perm p _)).nodup_iff.1 h.bonds_nodup

theorem VNet.WF.erase_ne {N : VNet R} (h : N.WF) {p : Nat × Nat} (hp : p ∈ N.bonds) :
    ∀ l ∈ Expr.pairLegs (N.bonds.erase p), l ≠ p.1 ∧ l ≠ p.2 := by
  intro l hl
  have := h.erase_legs hp
  simp only [List.nodup_cons, List.mem_cons, not_or] at this
  exact ⟨fun e => this.1.2 (e ▸ hl), fun e => this.2.1 (e ▸ hl)⟩

theorem VNet.WF.flat_nodup {N : VNet R} (h : N.WF) : (N.ids.flatMap N.legs).Nodup :=
  List.nodup_flatMap.2 ⟨h.legs_nodup, h.ids_nodup.pairwise_of_forall_ne fun n hn m hm hnm l hl1 hl2 =>
    hnm (h.owner n hn m hm l hl1 hl2)⟩

theorem VNet.WF.flat_lt {N : VNet R} (h : N.WF) (l : Nat) (hl : l ∈ N.ids.flatMap N.legs) :
    l < N.next := by
  obtain ⟨k, hk, hlk⟩ := List.mem_flatMap.1 hl
  exact h.fresh k hk l hlk

theorem VNet.WF.bonds_flat {N : VNet R} (h : N.WF) (l : Nat) (hl : l ∈ Expr.pairLegs N.bonds) :
    l ∈ N.ids.flatMap N.legs := by
  rcases List.mem_append.1 hl with hl | hl <;> obtain ⟨p, hp, rfl⟩ := List.mem_map.1 hl
  · exact List.mem_flatMap.2 (h.bonds_legs p hp).1
  · exact List.mem_flatMap.2 (h.bonds_legs p hp).2

/-- Well-formedness through the list of all labels in use (`ids.flatMap legs`): it has no duplicate (every label
belongs to one node, once), holds the ends of all bonds and lies below the counter.  An edit is then described by what
it does to this list. -/
theorem VNet.WF.of_flat {N : VNet R} (hids : N.ids.Nodup) (hflat : (N.ids.flatMap N.legs).Nodup)
    (hreads : ∀ n ∈ N.ids, DependsOn (· ∈ N.legs n) (N.tens n)) (hb : (Expr.pairLegs N.bonds).Nodup)
    (hbl : ∀ l ∈ Expr.pairLegs N.bonds, l ∈ N.ids.flatMap N.legs)
    (hfresh : ∀ l ∈ N.ids.flatMap N.legs, l < N.next) : N.WF := by
  obtain ⟨hl, hpw⟩ := List.nodup_flatMap.1 hflat
  refine ⟨hids, hl, fun n hn m hm l hl1 hl2 => ?_, hreads, hb, fun p hp => ?_,
    fun n hn l hl => hfresh l (List.mem_flatMap.2 ⟨n, hn, hl⟩)⟩
  · have : Std.Symm (Function.onFun List.Disjoint N.legs) := ⟨fun _ _ hd => hd.symm⟩
    exact by_contra fun hnm => hpw.forall hn hm hnm hl1 hl2
  · have := mem_pairLegs_of_mem hp
    exact ⟨List.mem_flatMap.1 (hbl _ this.1), List.mem_flatMap.1 (hbl _ this.2)⟩

theorem nodup_two_fresh {L : List Nat} {q : Nat} (hnd : L.Nodup) (hlt : ∀ l ∈ L, l < q) :
    (q :: (q + 1) :: L).Nodup := by
  refine List.nodup_cons.2 ⟨fun hmem => ?_, List.nodup_cons.2 ⟨fun hmem => ?_, hnd⟩⟩
  · rcases List.mem_cons.1 hmem with e | hmem
    · omega
    · exact Nat.lt_irrefl _ (hlt _ hmem)
  · exact Nat.lt_irrefl _ (Nat.lt_of_succ_lt (hlt _ hmem))

theorem VNet.WF.add_two {N N' : VNet R} (h : N.WF) (hids : N'.ids.Nodup)
    (hflat : (N'.ids.flatMap N'.legs).Perm (N.next :: (N.next + 1) :: N.ids.flatMap N.legs))
    (hreads : ∀ n ∈ N'.ids, DependsOn (· ∈ N'.legs n) (N'.tens n))
    (hb : (Expr.pairLegs N'.bonds).Perm (N.next :: (N.next + 1) :: Expr.pairLegs N.bonds))
    (hnext : N'.next = N.next + 2) : N'.WF := by
  refine .of_flat hids (hflat.nodup_iff.2 (nodup_two_fresh h.flat_nodup h.flat_lt)) hreads
    (hb.nodup_iff.2 (nodup_two_fresh h.bonds_nodup h.bond_lt)) (fun l hl => ?_) (fun l hl => ?_)
  · rw [hflat.mem_iff]
    rcases List.mem_cons.1 (hb.mem_iff.1 hl) with e | hl
    · exact e ▸ List.mem_cons_self
    · rcases List.mem_cons.1 hl with e | hl
      · exact e ▸ List.mem_cons_of_mem _ List.mem_cons_self
      · exact List.mem_cons_of_mem _ (List.mem_cons_of_mem _ (h.bonds_flat l hl))
  · rw [hnext]
    rcases List.mem_cons.1 (hflat.mem_iff.1 hl) with e | hl
    · omega
    · rcases List.mem_cons.1 hl with e | hl
      · omega
      · exact Nat.lt_add_right 2 (h.flat_lt l hl)

theorem pairLegs_fresh_nodup {bs : List (Nat × Nat)} {q : Nat} (hnd : (Expr.pairLegs bs).Nodup)
    (hlt : ∀ l ∈ Expr.pairLegs bs, l < q) : (Expr.pairLegs (bs ++ [(q, q + 1)])).Nodup := by
  rw [(Expr.pairLegs_append _ _).nodup_iff, List.nodup_append]
  refine ⟨hnd, List.nodup_cons.2 ⟨fun e => ?_, List.nodup_singleton _⟩, ?_⟩
  · exact Nat.succ_ne_self q (List.mem_singleton.1 e).symm
  · intro x hx y hy hxy
    have := hlt x hx
    rcases List.mem_cons.1 hy with rfl | hy
    · omega
    · obtain rfl := List.mem_singleton.1 hy
      omega

/-! ### the two ends of a bond

`p = (a, b) ∨ p = (b, a)`: the bond `p` has the ends `a` and `b`, in one of the two orders. -/

theorem ends_ne {p : Nat × Nat} {a b : Nat} (hab : p = (a, b) ∨ p = (b, a)) (l : Nat) :
    (l ≠ p.1 ∧ l ≠ p.2) ↔ (l ≠ a ∧ l ≠ b) := by
  rcases hab with rfl | rfl
  · exact Iff.rfl
  · exact and_comm

theorem ends_same {p : Nat × Nat} {a b a' b' : Nat} (hab : p = (a, b) ∨ p = (b, a))
    (hab' : p = (a', b') ∨ p = (b', a')) : (a = a' ∧ b = b') ∨ (a = b' ∧ b = a') := by
  rcases hab with rfl | rfl <;> rcases hab' with e | e <;> cases e
  · exact Or.inl ⟨rfl, rfl⟩
  · exact Or.inr ⟨rfl, rfl⟩
  · exact Or.inr ⟨rfl, rfl⟩
  · exact Or.inl ⟨rfl, rfl⟩

theorem VNet.WF.joined_other {N : VNet R} (h : N.WF) {n m k j : Nat} {p p' : Nat × Nat} {a b a' b' : Nat}
    (hj : N.Joined n m p a b) (hj' : N.Joined k j p' a' b') (hne : p' ≠ p) :
    (a' ≠ a ∧ a' ≠ b) ∧ (b' ≠ a ∧ b' ≠ b) := by
  have hm := mem_pairLegs_of_mem ((List.mem_erase_of_ne hne).2 hj'.1)
  have hdis := h.erase_ne hj.1
  have h1 := (ends_ne hj.2.1 _).1 (hdis _ hm.1)
  have h2 := (ends_ne hj.2.1 _).1 (hdis _ hm.2)
  rcases hj'.2.1 with rfl | rfl
  · exact ⟨h1, h2⟩
  · exact ⟨h2, h1⟩

theorem VNet.Joined.symm {N : VNet R} {n m : Nat} {p : Nat × Nat} {a b : Nat} (hj : N.Joined n m p a b) :
    N.Joined m n p b a :=
  ⟨hj.1, hj.2.1.symm, hj.2.2.2, hj.2.2.1⟩

theorem VNet.WF.joined_nodes {N : VNet R} (h : N.WF) {n m n' m' : Nat} {p : Nat × Nat} {a b a' b' : Nat}
    (hn : n ∈ N.ids) (hm : m ∈ N.ids) (hn' : n' ∈ N.ids) (hm' : m' ∈ N.ids)
    (hj : N.Joined n m p a b) (hj' : N.Joined n' m' p a' b') :
    (n' = n ∧ m' = m) ∨ (n' = m ∧ m' = n) := by
  obtain ⟨_, hab, ha, hb⟩ := hj
  obtain ⟨_, hab', ha', hb'⟩ := hj'
  rcases ends_same hab' hab with ⟨rfl, rfl⟩ | ⟨rfl, rfl⟩
  · exact Or.inl ⟨h.owner n' hn' n hn a' ha' ha, h.owner m' hm' m hm b' hb' hb⟩
  · exact Or.inr ⟨h.owner n' hn' m hm a' ha' hb, h.owner m' hm' n hn b' hb' ha⟩

theorem joined_share {N : VNet R} (h : N.WF) {k i k' i' : Nat} {p p' : Nat × Nat} {a b a' b' : Nat}
    (h1 : N.Joined k i p a b) (h2 : N.Joined k' i' p' a' b')
    (hs : a = a' ∨ a = b' ∨ b = a' ∨ b = b') : a ≠ b ∧ ((a = a' ∧ b = b') ∨ (a = b' ∧ b = a')) := by
  have hpp : p' = p := by
    apply Classical.byContradiction
    intro hne
    obtain ⟨⟨x1, x2⟩, ⟨x3, x4⟩⟩ := h.joined_other h1 h2 hne
    rcases hs with e | e | e | e
    · exact x1 e.symm
    · exact x3 e.symm
    · exact x2 e.symm
    · exact x4 e.symm
  subst hpp
  refine ⟨fun e => ?_, ends_same h1.2.1 h2.2.1⟩
  have hnd := h.erase_legs h1.1
  have h12 : p'.1 ≠ p'.2 := fun e' => (List.nodup_cons.1 hnd).1 (e' ▸ List.mem_cons_self)
  rcases h1.2.1 with rfl | rfl
  · exact h12 e
  · exact h12 e.symm

theorem ids_perm_two {ids : List Nat} {n m : Nat} (hn : n ∈ ids) (hm : m ∈ ids) (hnm : n ≠ m) :
    ids.Perm (n :: m :: (ids.erase n).erase m) := by
  have h1 := List.perm_cons_erase hn
  have hm' : m ∈ ids.erase n := (List.mem_erase_of_ne (Ne.symm hnm)).2 hm
  exact h1.trans (List.Perm.cons _ (List.perm_cons_erase hm'))

theorem mem_rest {ids : List Nat} (hnd : ids.Nodup) {n m k : Nat} (hk : k ∈ (ids.erase n).erase m) :
    k ∈ ids ∧ k ≠ n ∧ k ≠ m := by
  have h1 : (ids.erase n).Nodup := hnd.erase n
  have h2 := (h1.mem_erase_iff).1 hk
  have h3 := (hnd.mem_erase_iff).1 h2.2
  exact ⟨h3.2, h3.1, h2.1⟩

theorem VNet.value_expose2 (dim : Nat → Nat) {N : VNet R} (h : N.WF) {n m : Nat} (hn : n ∈ N.ids) (hm : m ∈ N.ids)
    (hnm : n ≠ m) {p : Nat × Nat} (hp : p ∈ N.bonds) (σ : Asg Nat) :
    N.value dim σ = netValue dim (N.bonds.erase p ++ [(p.1, p.2)])
      (N.tens n :: N.tens m :: ((N.ids.erase n).erase m).map N.tens) σ := by
  unfold VNet.value
  rw [netValue_perm_leaves dim _ ((ids_perm_two hn hm hnm).map N.tens) σ]
  have hbp : N.bonds.Perm (N.bonds.erase p ++ [(p.1, p.2)]) :=
    (List.perm_cons_erase hp).trans (List.perm_append_comm (l₁ := [p]))
  exact netValue_perm_bonds dim hbp h.bonds_nodup _ σ

theorem VNet.value_expose1 (dim : Nat → Nat) (N : VNet R) {n : Nat} (hn : n ∈ N.ids) (σ : Asg Nat) :
    N.value dim σ = netValue dim N.bonds (N.tens n :: (N.ids.erase n).map N.tens) σ := by
  unfold VNet.value
  exact netValue_perm_leaves dim _ ((List.perm_cons_erase hn).map N.tens) σ

theorem VNet.WF.rest_not_bond {N : VNet R} (h : N.WF) {n m : Nat} (hn : n ∈ N.ids) (hm : m ∈ N.ids)
    {p : Nat × Nat} {a b : Nat} (hj : N.Joined n m p a b) :
    ∀ f ∈ ((N.ids.erase n).erase m).map N.tens, DependsOn (fun l => l ≠ p.1 ∧ l ≠ p.2) f := by
  obtain ⟨_, hab, ha, hb⟩ := hj
  intro f hf
  obtain ⟨k, hk, rfl⟩ := List.mem_map.1 hf
  obtain ⟨hk1, hk2, hk3⟩ := mem_rest h.ids_nodup hk
  refine (h.reads k hk1).mono (fun l hl => (ends_ne hab l).2 ⟨?_, ?_⟩)
  · exact fun e => hk2 (h.owner k hk1 n hn l hl (e ▸ ha))
  · exact fun e => hk3 (h.owner k hk1 m hm l hl (e ▸ hb))

end Ptn.C03
