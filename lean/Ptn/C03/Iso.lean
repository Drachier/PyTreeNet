import Ptn.C03.Gauge
import Ptn.C03.Lemmas
/-! The second half of the QR contract at value level: `Q` is an isometry toward the absorbing neighbour, in index form
(`IsoToward`, on the doubled label space `DL`; `cj : R → R` is ANY function — `star` over ℂ, the identity over ℤ).
The gauge record of the model (`applyOps`) means this condition after every run (`run_isometric`). -/
namespace Ptn.C03

open Ptn.Ein

variable {R : Type} [CommSemiring R]

/-- labels of the doubled network: `ket l` the leg `l` of the ket copy, `bra l` of the bra copy -/
inductive DL where
  | ket (l : Nat)
  | bra (l : Nat)
deriving DecidableEq

/-- both copies of a leg have its dimension -/
def ddim (dim : Nat → Nat) : DL → Nat
  | .ket l => dim l
  | .bra l => dim l

/-- the ket copy of a tensor -/
def ketT (T : Asg Nat → R) : Asg DL → R := fun ρ => T (fun l => ρ (DL.ket l))

/-- the conjugated (bra) copy of a tensor -/
def braT (cj : R → R) (T : Asg Nat → R) : Asg DL → R := fun ρ => cj (T (fun l => ρ (DL.bra l)))

/-- the pair joining the ket copy of a leg with its bra copy -/
def dbl (l : Nat) : DL × DL := (DL.ket l, DL.bra l)

/-- **index-form isometry toward the leg `u`**: `Σ_{legs ≠ u} T · conj T = δ(u, u')` -/
def IsoToward (dim : Nat → Nat) (cj : R → R) (T : Asg Nat → R) (legs : List Nat) (u : Nat) : Prop :=
  ∀ τ : Asg DL, τ (DL.ket u) < dim u → τ (DL.bra u) < dim u →
    sumPairs (ddim dim) ((legs.erase u).map dbl) (fun ρ => ketT T ρ * braT cj T ρ) τ =
      if τ (DL.ket u) = τ (DL.bra u) then 1 else 0

/-- a gauge move whose `Q` is an isometry toward the fresh bond (second half of the QR contract) and whose
fresh bond has the same dimension on both ends -/
inductive IsoStep (dim : Nat → Nat) (cj : R → R) : VNet R → Op → VNet R → Prop
  | mk (N : VNet R) (n m : Nat) (p : Nat × Nat) (a b : Nat) (hn : n ∈ N.ids) (hm : m ∈ N.ids) (hnm : n ≠ m)
      (hj : N.Joined n m p a b) (F : QRFact dim (N.tens n) (N.legs n) a N.next (N.next + 1))
      (hiso : IsoToward dim cj F.Q (N.next :: (N.legs n).erase a) N.next)
      (hdim : dim (N.next + 1) = dim N.next) :
      IsoStep dim cj N ⟨n, m⟩ (gaugeStep dim N n m p a b F)

inductive IsoRun (dim : Nat → Nat) (cj : R → R) : VNet R → List Op → VNet R → Prop
  | nil (N : VNet R) : IsoRun dim cj N [] N
  | cons {N N₁ N₂ : VNet R} {o : Op} {ops : List Op} :
      IsoStep dim cj N o N₁ → IsoRun dim cj N₁ ops N₂ → IsoRun dim cj N (o :: ops) N₂

theorem IsoStep.step {dim : Nat → Nat} {cj : R → R} {N N' : VNet R} {o : Op} (h : IsoStep dim cj N o N') :
    Step dim N o N' := by
  cases h with
  | mk n m p a b hn hm hnm hj F _ _ => exact Step.mk N n m p a b hn hm hnm hj F

theorem IsoStep.ids {dim : Nat → Nat} {cj : R → R} {N N' : VNet R} {o : Op} (h : IsoStep dim cj N o N') :
    N'.ids = N.ids := by
  cases h; rfl

theorem IsoRun.run {dim : Nat → Nat} {cj : R → R} {N N' : VNet R} {ops : List Op}
    (h : IsoRun dim cj N ops N') : Run dim N ops N' := by
  induction h with
  | nil N => exact Run.nil N
  | cons hs _ ih => exact Run.cons hs.step ih

/-- `n` and `m` are joined by a bond, and the tensor of `n` is an isometry toward its end of that bond -/
def IsoAt (dim : Nat → Nat) (cj : R → R) (N : VNet R) (n m : Nat) : Prop :=
  n ∈ N.ids ∧ m ∈ N.ids ∧ ∃ p a b, N.Joined n m p a b ∧ IsoToward dim cj (N.tens n) (N.legs n) a

/-- the gauge record is TRUE of the network: whenever `dir n = some m`, `n` is an isometry toward `m` -/
def GaugeInv (dim : Nat → Nat) (cj : R → R) (N : VNet R) (dir : Nat → Option Nat) : Prop :=
  ∀ n m, dir n = some m → IsoAt dim cj N n m

/-- every bond has the same dimension on both ends -/
def BondDims (dim : Nat → Nat) (N : VNet R) : Prop := ∀ p ∈ N.bonds, dim p.1 = dim p.2

/-- **One move keeps the gauge record true.**  The split node becomes an isometry toward the absorbing
neighbour (the step's contract); the absorbing node loses its record (`applyOp`); every other node keeps its
tensor, its legs and its bond. -/
theorem isoStep_inv (dim : Nat → Nat) (cj : R → R) {N N' : VNet R} {o : Op} (h : N.WF)
    (hs : IsoStep dim cj N o N') {dir : Nat → Option Nat} (hinv : GaugeInv dim cj N dir) :
    GaugeInv dim cj N' (applyOp dir o) := by
  cases hs with
  | mk n m p a b hn hm hnm hj F hiso hdim =>
  intro k j hk
  simp only [applyOp] at hk
  by_cases h1 : k = n
  · -- the split node
    subst h1
    rw [if_pos rfl] at hk
    cases hk
    refine ⟨hn, hm, _, _, _, gaugeStep_joined_new hnm, ?_⟩
    rw [gaugeStep_tens_n, gaugeStep_legs_n]
    exact hiso
  · rw [if_neg h1] at hk
    by_cases h2 : k = m
    · rw [if_pos h2] at hk
      cases hk
    · rw [if_neg h2] at hk
      obtain ⟨hk1, hj1, p', a', b', hj', hiso'⟩ := hinv k j hk
      -- the bond of `k` is not the bond of the move
      have hpp : p' ≠ p := by
        rintro rfl
        rcases h.joined_nodes hn hm hk1 hj1 hj hj' with ⟨e, _⟩ | ⟨e, _⟩
        · exact h1 e
        · exact h2 e
      refine ⟨hk1, hj1, p', a', b', gaugeStep_joined_keep h hnm hj hj' hpp, ?_⟩
      rw [gaugeStep_tens_other h1 h2, gaugeStep_legs_other h1 h2]
      exact hiso'

/-- one move keeps "every bond has one dimension" -/
theorem isoStep_bondDims (dim : Nat → Nat) (cj : R → R) {N N' : VNet R} {o : Op}
    (hs : IsoStep dim cj N o N') (hd : BondDims dim N) : BondDims dim N' := by
  cases hs with
  | mk n m p a b hn hm hnm hj F hiso hdim =>
  intro p' hp'
  have hp'' : p' ∈ N.bonds.erase p ++ [(N.next, N.next + 1)] := hp'
  rcases List.mem_append.1 hp'' with h1 | h1
  · exact hd p' (List.mem_of_mem_erase h1)
  · simp only [List.mem_cons, List.not_mem_nil, or_false] at h1
    subst h1
    exact hdim.symm

/-- **The gauge record of a run is true of the resulting network.**  For every run of gauge moves with the
full QR contract (factorisation AND isometry of `Q`), starting from a well-formed network of which the record
`dir` is true: afterwards the record `applyOps dir ops` is true - every node it names is an isometry (index
form) toward the neighbour it names -, the network is well-formed, its value unchanged, bonds keep one
dimension. -/
theorem run_isometric (dim : Nat → Nat) (cj : R → R) {N N' : VNet R} {ops : List Op} (h : N.WF)
    (hr : IsoRun dim cj N ops N') (dir : Nat → Option Nat) (hinv : GaugeInv dim cj N dir) :
    GaugeInv dim cj N' (applyOps dir ops) ∧ N'.WF ∧ (∀ σ, N'.value dim σ = N.value dim σ) ∧
      (BondDims dim N → BondDims dim N') ∧ N'.ids = N.ids := by
  induction hr generalizing dir with
  | nil N => exact ⟨hinv, h, fun _ => rfl, id, rfl⟩
  | cons hs _ ih =>
    obtain ⟨h1, h2, h3, h4, h5⟩ := ih (step_wf dim h hs.step) _ (isoStep_inv dim cj h hs hinv)
    exact ⟨by rw [applyOps_cons]; exact h1, h2, fun σ => (h3 σ).trans (step_value dim h hs.step σ),
      fun hd => h4 (isoStep_bondDims dim cj hs hd), h5.trans hs.ids⟩

/-- the empty record is true of every network -/
theorem gaugeInv_none (dim : Nat → Nat) (cj : R → R) (N : VNet R) : GaugeInv dim cj N (fun _ => none) := by
  intro n m h; simp at h

end Ptn.C03
