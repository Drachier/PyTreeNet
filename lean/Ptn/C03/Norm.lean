import Ptn.Common.EinsumNet
/-! The consequence clause of C03 in index form: a tensor that is an isometry toward the centre can be
removed from the norm network `⟨ψ|ψ⟩`.

The norm network has, for every node, its tensor `Q` and the (already conjugated) tensor `Qc` of the bra
copy; the legs of `Q` that do NOT face the centre are bound to the corresponding legs of `Qc` (`pp`: physical
pairs, and — after the sub-trees below have been absorbed — the pairs left behind by them); the leg `q` of
`Q` facing the centre is bound to the leg `r` of its neighbour, `q'` of `Qc` to `r'` of the neighbour's
copy.  The isometry hypothesis in index form is `Σ_pp Q · Qc = δ(q, q')`.  Then `Q`, `Qc` and their bonds
can be replaced by the single pair `(r, r')`: `isometry_absorb_value`. -/
namespace Ptn.C03

open Ptn.Ein Finset

variable {L : Type} [DecidableEq L] {R : Type} [CommSemiring R]

/-- `Σ_i δ_xi f i = f x` for `x` in range -/
theorem delta_sum_one (n x : Nat) (f : Nat → R) :
    sumR n (fun i => (if x = i then (1 : R) else 0) * f i) = if x < n then f x else 0 := by
  simp only [sumR_eq, ite_mul, one_mul, zero_mul, sum_ite_eq, mem_range]

theorem delta_sum_one_symm (n x : Nat) (f : Nat → R) :
    sumR n (fun i => (if i = x then (1 : R) else 0) * f i) = if x < n then f x else 0 := by
  simp only [← delta_sum_one n x f, eq_comm]

/-- **An isometry toward the centre drops out of the norm network.**  The isometry condition is demanded
for indices within the bond dimension only. -/
theorem isometry_absorb_value (dim : L → Nat) (bs pp : List (L × L)) (Q Qc : Asg L → R)
    (rest : List (Asg L → R)) (q r q' r' : L) {S : L → Prop}
    (hiso : ∀ τ, τ q < dim q → τ q' < dim q →
      sumPairs dim pp (fun ρ => Q ρ * Qc ρ) τ = if τ q = τ q' then 1 else 0)
    (hrest : ∀ f ∈ rest, DependsOn S f) (hpp : ∀ l ∈ Expr.pairLegs pp, ¬ S l) (hq : ¬ S q) (hq' : ¬ S q')
    (hqq' : q ≠ q') (hqr' : q ≠ r') (hd1 : dim q' = dim q) (hd2 : dim r = dim q) (σ : Asg L) :
    netValue dim ((bs ++ [(q, r), (q', r')]) ++ pp) (Q :: Qc :: rest) σ =
      netValue dim (bs ++ [(r, r')]) rest σ := by
  -- `Q`, `Qc` over `pp` are one leaf, the identity matrix between `q` and `q'`, sitting on the bond `r — q q' — r'`
  show netValue dim ((bs ++ [(q, r), (q', r')]) ++ pp) ([Q, Qc] ++ rest) σ = _
  rw [netValue_collapse dim _ pp [Q, Qc] rest hrest hpp, netValue_flip dim bs _ q r hd2.symm]
  exact netValue_delta dim bs _ rest r r' q q' hrest hq hq' hqq' hqr' (hd1.trans hd2.symm)
    (fun τ h1 h2 => by rw [netValue_pair]; exact hiso τ (hd2 ▸ h1) (hd2 ▸ h2)) σ

/-- the norm network: binding record and leaf tensors -/
abbrev NormNet (L R : Type) := List (L × L) × List (Asg L → R)

/-- one absorption: up to the order of bonds and leaves the network is `Q, Qc` + rest as in
`isometry_absorb_value`, with the isometry condition of `Q` toward its bond `(q, r)` -/
inductive Absorb (dim : L → Nat) : NormNet L R → NormNet L R → Prop
  | mk (bonds : List (L × L)) (leaves : List (Asg L → R)) (bs pp : List (L × L)) (Q Qc : Asg L → R)
      (rest : List (Asg L → R)) (q r q' r' : L) (S : L → Prop)
      (hb : bonds.Perm ((bs ++ [(q, r), (q', r')]) ++ pp)) (hl : leaves.Perm (Q :: Qc :: rest))
      (hiso : ∀ τ, τ q < dim q → τ q' < dim q →
        sumPairs dim pp (fun ρ => Q ρ * Qc ρ) τ = if τ q = τ q' then 1 else 0)
      (hrest : ∀ f ∈ rest, DependsOn S f) (hpp : ∀ l ∈ Expr.pairLegs pp, ¬ S l) (hq : ¬ S q) (hq' : ¬ S q')
      (hd1 : dim q' = dim q) (hd2 : dim r = dim q) :
      Absorb dim (bonds, leaves) (bs ++ [(r, r')], rest)

inductive AbsorbRun (dim : L → Nat) : NormNet L R → NormNet L R → Prop
  | nil (X : NormNet L R) : AbsorbRun dim X X
  | cons {X Y Z : NormNet L R} : Absorb dim X Y → AbsorbRun dim Y Z → AbsorbRun dim X Z

/-- one absorption keeps the value and "no leg bound twice": `Nodup` is carried along the reordering `hb`, and `q ≠ q'`,
`q ≠ r'` (what `isometry_absorb_value` needs besides the fields of `Absorb`) are read off it -/
theorem absorb_value (dim : L → Nat) {X Y : NormNet L R} (hs : Absorb dim X Y)
    (hnd : (Expr.pairLegs X.1).Nodup) (σ : Asg L) :
    (Expr.pairLegs Y.1).Nodup ∧ netValue dim Y.1 Y.2 σ = netValue dim X.1 X.2 σ := by
  cases hs with
  | mk bonds leaves bs pp Q Qc rest q r q' r' S hb hl hiso hrest hpp hq hq' hd1 hd2 =>
  have hnd2 : (Expr.pairLegs ((bs ++ [(q, r), (q', r')]) ++ pp)).Nodup := (pairLegs_perm hb).nodup_iff.1 hnd
  have hnd3 : ((Expr.pairLegs bs ++ [q, q', r, r']) ++ Expr.pairLegs pp).Nodup := by
    have := ((Expr.pairLegs_append _ pp).trans
      (List.Perm.append_right _ (Expr.pairLegs_append bs _))).nodup_iff.1 hnd2
    simpa [Expr.pairLegs] using this
  have hsub : (Expr.pairLegs bs ++ [r, r']).Sublist ((Expr.pairLegs bs ++ [q, q', r, r']) ++ Expr.pairLegs pp) :=
    (List.Sublist.append (List.Sublist.refl _) (((List.Sublist.refl [r, r']).cons q').cons q)).trans
      (List.sublist_append_left _ _)
  have hqs : q ≠ q' ∧ q ≠ r' := by
    have h4 : [q, q', r, r'].Nodup := (List.nodup_append.1 (List.nodup_append.1 hnd3).1).2.1
    simp only [List.nodup_cons, List.mem_cons, List.not_mem_nil, or_false, not_or] at h4
    exact ⟨h4.1.1, h4.1.2.2⟩
  refine ⟨?_, ?_⟩
  · have : (Expr.pairLegs (bs ++ [(r, r')])).Perm (Expr.pairLegs bs ++ [r, r']) := by
      refine (Expr.pairLegs_append _ _).trans ?_
      simp [Expr.pairLegs]
    rw [this.nodup_iff]
    exact hnd3.sublist hsub
  · show netValue dim (bs ++ [(r, r')]) rest σ = netValue dim bonds leaves σ
    rw [← isometry_absorb_value dim bs pp Q Qc rest q r q' r' hiso hrest hpp hq hq' hqs.1 hqs.2 hd1 hd2 σ]
    exact (netValue_perm dim hb hl hnd σ).symm

/-- Any sequence of absorptions leaves the value of the norm network unchanged. -/
theorem absorb_run_value (dim : L → Nat) {X Y : NormNet L R} (hr : AbsorbRun dim X Y)
    (hnd : (Expr.pairLegs X.1).Nodup) (σ : Asg L) :
    netValue dim Y.1 Y.2 σ = netValue dim X.1 X.2 σ := by
  induction hr with
  | nil X => rfl
  | cons hs _ ih =>
    obtain ⟨h1, h2⟩ := absorb_value dim hs hnd σ
    rw [ih h1, h2]

end Ptn.C03
