import Ptn.C03.Core
import Ptn.C03.Tree
import Ptn.C03.Value
import Ptn.C03.CentreNorm
import Ptn.C03.Whole
import Ptn.C03.Move
/-! Non-vacuity examples of the value-level theorems of C03: three two-node networks (`demoNet`, `isoNet`, `moveNet`)
on which the hypotheses of the run, absorption and centre-norm theorems are met.  The property theorems themselves
stand in the imported files. -/
namespace Ptn.C03

open Ptn.Ein

/-- two nodes `0 — 1`: node 0 has the open leg 0 and the bond leg 1, node 1 the bond leg 2 and the open
leg 3; all dimensions 2; integer tensors (node 0 of rank one, so that its factorisation is explicit) -/
def demoNet : VNet Int where
  ids := [0, 1]
  legs := fun k => if k = 0 then [0, 1] else if k = 1 then [2, 3] else []
  tens := fun k σ => if k = 0 then ((σ 0 : Int) + 1) * (2 * (σ 1 : Int) + 1) else (σ 2 : Int) + 3 * (σ 3 : Int) + 1
  bonds := [(1, 2)]
  next := 4

def demoDim : Nat → Nat := fun _ => 2

/-- a tensor that is a formula in the indices of two legs reads those two legs -/
theorem dependsOn_two {L R : Type} {S : L → Prop} {a b : L} (ha : S a) (hb : S b) (g : Nat → Nat → R) :
    DependsOn S (fun σ => g (σ a) (σ b)) := by
  intro σ τ h
  show g (σ a) (σ b) = g (τ a) (τ b)
  rw [h a ha, h b hb]

theorem demoNet_wf : demoNet.WF := by
  refine .of_flat (by decide) (by decide) (fun n hn => ?_) (by decide) (by decide) (by decide)
  rcases List.mem_cons.1 hn with rfl | hn
  · exact dependsOn_two (a := 0) (b := 1) (by decide) (by decide) fun x y => ((x : Int) + 1) * (2 * (y : Int) + 1)
  · obtain rfl := List.mem_singleton.1 hn
    exact dependsOn_two (a := 2) (b := 3) (by decide) (by decide) fun x y => (x : Int) + 3 * (y : Int) + 1

/-- an exact factorisation of the tensor of node 0 over the fresh bond `(4, 5)` -/
def demoFact : QRFact demoDim (demoNet.tens 0) (demoNet.legs 0) 1 demoNet.next (demoNet.next + 1) where
  Q := fun ρ => ((ρ 0 : Int) + 1) * (if ρ 4 = 0 then 1 else 0)
  Rm := fun ρ => (if ρ 5 = 0 then 1 else 0) * (2 * (ρ 1 : Int) + 1)
  exact := by
    intro τ
    simp [demoNet, demoDim, sumPairs, sumR, upd, List.range_succ]
  readsQ := by
    intro σ τ h
    have h0 := h 0 (by simp [demoNet]); have h4 := h 4 (by simp [demoNet])
    simp [h0, h4]
  readsR := by
    intro σ τ h
    have h5 := h 5 (by simp [demoNet]); have h1 := h 1 (by simp)
    simp [h5, h1]

/-- the premises of `move_centre_value` / `canonical_form_value` are satisfiable: the centre move `0 → 1`
(which is also the run of `canonical_form` toward node 1) has a run on the demo network -/
example : demoNet.WF ∧ moveOps [0, 1] = [⟨0, 1⟩] ∧
    canonOps [(1, 0), (0, 1)] (fun n => if n = 0 then [1] else [0]) = [⟨0, 1⟩] ∧
    ∃ N', Run demoDim demoNet (moveOps [0, 1]) N' := by
  refine ⟨demoNet_wf, by decide, by decide, _, Run.cons (Step.mk demoNet 0 1 (1, 2) 1 2 (by decide)
    (by decide) (by decide) ⟨by decide, Or.inl rfl, by decide, by decide⟩
    demoFact) (Run.nil _)⟩

/-- the adjacency premise of the progress theorems holds on the demo network -/
example : demoNet.Adj 0 1 ∧ (0 : Nat) ≠ 1 :=
  ⟨⟨by decide, by decide, (1, 2), 1, 2, by decide, Or.inl rfl, by decide,
    by decide⟩, by decide⟩

/-! ### the norm network of two tensors: `Q = δ(p, q)` is an isometry toward the centre -/

def nQ : Asg Nat → Int := fun ρ => if ρ 0 = ρ 1 then 1 else 0       -- legs p = 0, q = 1
def nQc : Asg Nat → Int := fun ρ => if ρ 2 = ρ 3 then 1 else 0      -- legs p' = 2, q' = 3
def nC : Asg Nat → Int := fun ρ => (ρ 4 : Int) + 2 * (ρ 6 : Int) + 1   -- legs r = 4, open 6
def nCc : Asg Nat → Int := fun ρ => (ρ 5 : Int) + 2 * (ρ 7 : Int) + 1  -- legs r' = 5, open 7

theorem demo_iso : ∀ τ : Asg Nat, τ 1 < demoDim 1 → τ 3 < demoDim 1 →
    sumPairs demoDim [(0, 2)] (fun ρ => nQ ρ * nQc ρ) τ = if τ 1 = τ 3 then 1 else 0 := by
  intro τ h1 h3
  show sumR 2 (fun i => (if i = τ 1 then (1 : Int) else 0) * (if i = τ 3 then 1 else 0)) = _
  rw [delta_sum_one_symm]
  exact if_pos h1

/-- the hypotheses of `centre_norm_two` (and of one `Absorb` step of `centre_norm_value_partial`) are
satisfiable -/
example : (∀ τ : Asg Nat, τ 1 < demoDim 1 → τ 3 < demoDim 1 →
      sumPairs demoDim [(0, 2)] (fun ρ => nQ ρ * nQc ρ) τ = if τ 1 = τ 3 then 1 else 0) ∧
    DependsOn (fun l => 4 ≤ l) nC ∧ DependsOn (fun l => 4 ≤ l) nCc ∧
    (∀ l ∈ Expr.pairLegs [((0 : Nat), (2 : Nat))], ¬ 4 ≤ l) ∧
    AbsorbRun demoDim (([(6, 7)] ++ [(1, 4), (3, 5)]) ++ [(0, 2)], [nQ, nQc, nC, nCc])
      ([(6, 7)] ++ [(4, 5)], [nC, nCc]) := by
  have hC : DependsOn (fun l => 4 ≤ l) nC :=
    dependsOn_two (a := 4) (b := 6) (by decide) (by decide) fun x y => (x : Int) + 2 * (y : Int) + 1
  have hCc : DependsOn (fun l => 4 ≤ l) nCc :=
    dependsOn_two (a := 5) (b := 7) (by decide) (by decide) fun x y => (x : Int) + 2 * (y : Int) + 1
  have hpp : ∀ l ∈ Expr.pairLegs [((0 : Nat), (2 : Nat))], ¬ 4 ≤ l := by decide
  refine ⟨demo_iso, hC, hCc, hpp, AbsorbRun.cons ?_ (AbsorbRun.nil _)⟩
  exact Absorb.mk _ _ [(6, 7)] [(0, 2)] nQ nQc [nC, nCc] 1 4 3 5 (fun l => 4 ≤ l) (List.Perm.refl _)
    (List.Perm.refl _) demo_iso
    (List.forall_mem_cons.2 ⟨hC, List.forall_mem_singleton.2 hCc⟩) hpp (by omega) (by omega) rfl rfl

/-! ### the full QR contract on a concrete network: `Q` an isometry toward the fresh bond

two nodes `0 — 1` as in `demoNet`; the tensor of node 0 is `2 · δ(σ0, σ1)` (zero outside the range), its QR
factors are `Q = δ(σ0, q)` and `R = 2 · δ(r, σ1)`. -/

def isoNet : VNet Int where
  ids := [0, 1]
  legs := fun k => if k = 0 then [0, 1] else if k = 1 then [2, 3] else []
  tens := fun k σ => if k = 0 then (if σ 0 = σ 1 ∧ σ 0 < 2 then 2 else 0) else (σ 2 : Int) + 3 * (σ 3 : Int) + 1
  bonds := [(1, 2)]
  next := 4

theorem isoNet_wf : isoNet.WF := by
  refine demoNet_wf.of_tens isoNet.tens ?_
  intro n hn
  rcases List.mem_cons.1 hn with rfl | hn
  · exact dependsOn_two (a := 0) (b := 1) (by decide) (by decide) fun x y => if x = y ∧ x < 2 then 2 else 0
  · obtain rfl := List.mem_singleton.1 hn
    exact dependsOn_two (a := 2) (b := 3) (by decide) (by decide) fun x y => (x : Int) + 3 * (y : Int) + 1

/-- the QR factorisation of the tensor of node 0 over the fresh bond `(4, 5)` -/
def isoFact : QRFact demoDim (isoNet.tens 0) (isoNet.legs 0) 1 isoNet.next (isoNet.next + 1) where
  Q := fun ρ => if ρ 0 = ρ 4 then 1 else 0
  Rm := fun ρ => if ρ 5 = ρ 1 then 2 else 0
  exact := by
    intro τ
    simp only [isoNet, demoDim, sumPairs, sumR, upd, List.range_succ, List.range_zero]
    by_cases h0 : τ 0 = 0 <;> by_cases h1 : τ 0 = 1 <;> by_cases h2 : τ 1 = 0 <;> by_cases h3 : τ 1 = 1 <;>
      (simp [h0, h1, h2, h3]; try omega)
  readsQ := by
    intro σ τ h
    have h0 := h 0 (by simp [isoNet]); have h4 := h 4 (by simp [isoNet])
    simp [h0, h4]
  readsR := by
    intro σ τ h
    have h5 := h 5 (by simp [isoNet]); have h1 := h 1 (by simp)
    simp [h5, h1]

/-- the second half of the contract: `Q` is an isometry toward the fresh bond -/
theorem isoFact_iso : IsoToward demoDim id isoFact.Q (isoNet.next :: (isoNet.legs 0).erase 1) isoNet.next := by
  intro τ h1 h2
  show sumR 2 (fun i => (if i = τ (DL.ket 4) then (1 : Int) else 0) * (if i = τ (DL.bra 4) then 1 else 0)) = _
  rw [delta_sum_one_symm]
  exact if_pos h1

/-- the network after the move `0 → 1` -/
def isoNet' : VNet Int := gaugeStep demoDim isoNet 0 1 (1, 2) 1 2 isoFact

theorem isoNet_run : IsoRun demoDim id isoNet [⟨0, 1⟩] isoNet' :=
  IsoRun.cons (IsoStep.mk isoNet 0 1 (1, 2) 1 2 (by decide) (by decide) (by decide)
    ⟨by decide, Or.inl rfl, by decide, by decide⟩ isoFact isoFact_iso rfl) (IsoRun.nil _)

/-- the premises of `run_isometric` are satisfiable (an `IsoRun` exists on a well-formed network; the empty
record is true of it), and the conclusion is not vacuous: the record names node 1 for node 0 -/
example : isoNet.WF ∧ IsoRun demoDim id isoNet [⟨0, 1⟩] isoNet' ∧ GaugeInv demoDim id isoNet (fun _ => none) ∧
    applyOps (fun _ => none) [⟨0, 1⟩] 0 = some 1 :=
  ⟨isoNet_wf, isoNet_run, gaugeInv_none _ _ _, by decide⟩

open Ptn.C17 Ptn.C17.RTree in
/-- the premises of `canonical_form_isometric_tree` / `canonical_form_centre_norm` are satisfiable: the tree
`0 → 1` (root 0) canonicalised at the NON-root node 1 (so the tree is re-rooted), on `isoNet`; the run of the
model's operation list exists -/
example :
    let t : RTree := .node 0 [.node 1 []]
    t.WF ∧ 1 ∈ ids t ∧ isoNet.WF ∧ (∀ n ∈ ids t, n ∈ isoNet.ids) ∧ BondDims demoDim isoNet ∧
    distanceToNode t 1 = some [(1, 0), (0, 1)] ∧ (reroot 1 [] t).map edges = some [(1, 0)] ∧
    canonOps [(1, 0), (0, 1)] (nbrsOf t) = [⟨0, 1⟩] ∧
    IsoRun demoDim id isoNet (canonOps [(1, 0), (0, 1)] (nbrsOf t)) isoNet' := by
  refine ⟨by decide, by decide, isoNet_wf, by decide, ?_, by decide, by decide, by decide, ?_⟩
  · exact (by decide : ∀ p ∈ isoNet.bonds, demoDim p.1 = demoDim p.2)
  · exact isoNet_run

open Ptn.C17 Ptn.C17.RTree in
/-- the per-edge premise `EdgeOK` of `tree_canon` / `centre_canon_of_tree` / `centre_norm_of_tree` is satisfiable:
the network after the move, the tree rooted at the centre 1, bond ends `up 0 = 4`, `dn 0 = 5` -/
example :
    let r : RTree := .node 1 [.node 0 []]
    isoNet'.WF ∧ (ids r).Nodup ∧ (∀ n ∈ ids r, n ∈ isoNet'.ids) ∧
    ∀ e ∈ edges r, EdgeOK demoDim id isoNet' (fun _ => 4) (fun _ => 5) e.1 e.2 := by
  refine ⟨step_wf demoDim isoNet_wf (by cases isoNet_run with | cons hs hr => cases hr; exact hs.step),
    by decide, by decide, ?_⟩
  refine List.forall_mem_singleton.2 ⟨by decide, by decide, ⟨(4, 5), ?_⟩, rfl, ?_⟩
  · exact ⟨by decide, Or.inl rfl, by decide,
      by decide⟩
  · exact isoFact_iso

open Ptn.C17 Ptn.C17.RTree in
/-- the premises of `canonical_form_centre_norm_whole` are satisfiable, in particular `TreeShaped`: `isoNet` has
exactly the shape of the tree `0 → 1` (nodes `[0, 1]`, one bond, one edge, the edge joined by the bond `(1, 2)`);
centre = the non-root node 1; the run of the model's operation list exists -/
example :
    let t : RTree := .node 0 [.node 1 []]
    t.WF ∧ 1 ∈ ids t ∧ isoNet.WF ∧ TreeShaped isoNet t ∧ BondDims demoDim isoNet ∧
    distanceToNode t 1 = some [(1, 0), (0, 1)] ∧
    IsoRun demoDim id isoNet (canonOps [(1, 0), (0, 1)] (nbrsOf t)) isoNet' := by
  refine ⟨by decide, by decide, isoNet_wf, ⟨List.Perm.refl _, by decide, ?_⟩, ?_, by decide, ?_⟩
  · exact List.forall_mem_singleton.2 ⟨(1, 2), 1, 2, by decide, Or.inl rfl, by decide, by decide⟩
  · exact (by decide : ∀ p ∈ isoNet.bonds, demoDim p.1 = demoDim p.2)
  · exact isoNet_run

/-! ### a centre move on a concrete canonical network

`moveNet`: as `isoNet`, but the tensor of node 1 is `δ(σ2, σ3)` - an isometry toward its bond leg 2, so the
network is canonical around node 0.  The move `0 → 1` uses the factorisation `isoFact` of the tensor of node 0. -/

def moveNet : VNet Int where
  ids := [0, 1]
  legs := fun k => if k = 0 then [0, 1] else if k = 1 then [2, 3] else []
  tens := fun k σ => if k = 0 then (if σ 0 = σ 1 ∧ σ 0 < 2 then 2 else 0) else (if σ 2 = σ 3 then 1 else 0)
  bonds := [(1, 2)]
  next := 4

theorem moveNet_wf : moveNet.WF := by
  refine demoNet_wf.of_tens moveNet.tens ?_
  intro n hn
  rcases List.mem_cons.1 hn with rfl | hn
  · exact dependsOn_two (a := 0) (b := 1) (by decide) (by decide) fun x y => if x = y ∧ x < 2 then 2 else 0
  · obtain rfl := List.mem_singleton.1 hn
    exact dependsOn_two (a := 2) (b := 3) (by decide) (by decide) fun x y => if x = y then 1 else 0

/-- node 1 of `moveNet` is an isometry toward its bond leg 2 -/
theorem moveNet_iso : IsoToward demoDim id (moveNet.tens 1) (moveNet.legs 1) 2 := by
  intro τ h1 h2
  show sumR 2 (fun i => (if τ (DL.ket 2) = i then (1 : Int) else 0) * (if τ (DL.bra 2) = i then 1 else 0)) = _
  rw [delta_sum_one]
  exact (if_pos h1).trans (if_congr eq_comm rfl rfl)

/-- the factorisation of the tensor of node 0 (the one of `isoNet`: same tensor, legs and counter) -/
def moveFact : QRFact demoDim (moveNet.tens 0) (moveNet.legs 0) 1 moveNet.next (moveNet.next + 1) := isoFact

/-- the network after the move `0 → 1` -/
def moveNet' : VNet Int := gaugeStep demoDim moveNet 0 1 (1, 2) 1 2 moveFact

theorem moveNet_run : IsoRun demoDim id moveNet (moveOps [0, 1]) moveNet' :=
  IsoRun.cons (IsoStep.mk moveNet 0 1 (1, 2) 1 2 (by decide) (by decide) (by decide)
    ⟨by decide, Or.inl rfl, by decide, by decide⟩ moveFact isoFact_iso rfl) (IsoRun.nil _)

open Ptn.C17 Ptn.C17.RTree in
/-- the premises of `move_centre_isometric_tree` / `centre_norm_whole_of_canonical` / `move_centre_norm_whole`
are satisfiable: the tree `0 → 1`, `moveNet` tree-shaped, well-formed, canonical around node 0 (node 1 is
joined to its first hop 0 by the bond `(1, 2)` and is an isometry toward its end 2 of it); the way from 0 to 1
is `[0, 1]` and a run of its moves with the full QR contract exists -/
example :
    let t : RTree := .node 0 [.node 1 []]
    t.WF ∧ 0 ∈ ids t ∧ 1 ∈ ids t ∧ moveNet.WF ∧ TreeShaped moveNet t ∧ BondDims demoDim moveNet ∧
    (∀ n ∈ ids t, n ≠ 0 → ∃ v, firstHop t n 0 = some v ∧ IsoAt demoDim id moveNet n v) ∧
    pathFromTo t 0 1 = some [0, 1] ∧ IsoRun demoDim id moveNet (moveOps [0, 1]) moveNet' := by
  refine ⟨by decide, by decide, by decide, moveNet_wf, ⟨List.Perm.refl _, by decide, ?_⟩, ?_, ?_, by decide,
    moveNet_run⟩
  · exact List.forall_mem_singleton.2 ⟨(1, 2), 1, 2, by decide, Or.inl rfl, by decide, by decide⟩
  · exact (by decide : ∀ p ∈ moveNet.bonds, demoDim p.1 = demoDim p.2)
  · intro n hn hn0
    have hn' : n = 0 ∨ n = 1 := by simpa [ids, idsL, rid] using hn
    rcases hn' with rfl | rfl
    · exact absurd rfl hn0
    · refine ⟨0, by decide, by decide, by decide, (1, 2), 2, 1, ⟨by decide, Or.inr rfl,
        by decide, by decide⟩, moveNet_iso⟩

end Ptn.C03
