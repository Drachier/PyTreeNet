import Ptn.C03.Gauge
import Ptn.C03.Norm
import Ptn.C03.Lemmas
import Ptn.C03.Tree
/-! Value level for C03: given per QR call the factorisation contract `A = Σ Q · R` (`QRFact`, data of each step),
every run of `canonOps` / `moveOps` on a valued network keeps it well-formed, keeps every adjacency, leaves the dense
tensor unchanged and never gets stuck for a structural reason — for every tree, centre and commutative semiring. -/
namespace Ptn.C03

open Ptn.Ein

variable {R : Type} [CommSemiring R]

/-- **`canonical_form` leaves the represented state unchanged (value level).** -/
theorem canonical_form_value (dim : Nat → Nat) (dist : Dist) (nbrs : Nat → List Nat) {N N' : VNet R}
    (h : N.WF) (hr : Run dim N (canonOps dist nbrs) N') :
    N'.WF ∧ (∀ σ, N'.value dim σ = N.value dim σ) ∧ (∀ n m, N.Adj n m → N'.Adj n m) :=
  ⟨(run_value dim h hr).1, (run_value dim h hr).2, fun _ _ hadj => run_adj dim h hr hadj⟩

/-- **Every centre move leaves the represented state unchanged (value level).** -/
theorem move_centre_value (dim : Nat → Nat) (path : List Nat) {N N' : VNet R}
    (h : N.WF) (hr : Run dim N (moveOps path) N') :
    N'.WF ∧ (∀ σ, N'.value dim σ = N.value dim σ) ∧ (∀ n m, N.Adj n m → N'.Adj n m) :=
  ⟨(run_value dim h hr).1, (run_value dim h hr).2, fun _ _ hadj => run_adj dim h hr hadj⟩

/-- The run of `canonical_form` never gets stuck for a structural reason. -/
theorem canonical_form_progress (dim : Nat → Nat) (dist : Dist) (nbrs : Nat → List Nat) {N : VNet R}
    (h : N.WF) (hadj : ∀ o ∈ canonOps dist nbrs, N.Adj o.node o.target ∧ o.node ≠ o.target)
    (ops₁ : List Op) (o : Op) (ops₂ : List Op) (hsplit : canonOps dist nbrs = ops₁ ++ o :: ops₂)
    {N₁ : VNet R} (hr : Run dim N ops₁ N₁) :
    ∃ p a b, o.node ∈ N₁.ids ∧ o.target ∈ N₁.ids ∧ N₁.Joined o.node o.target p a b ∧
      ∀ F : QRFact dim (N₁.tens o.node) (N₁.legs o.node) a N₁.next (N₁.next + 1),
        Step dim N₁ o (gaugeStep dim N₁ o.node o.target p a b F) := by
  obtain ⟨h1, h2⟩ := hadj o (by rw [hsplit]; exact List.mem_append_right _ List.mem_cons_self)
  exact run_progress dim h hr h1 h2

/-- The run of a centre move along a path of pairwise joined, distinct nodes never gets stuck. -/
theorem move_centre_progress (dim : Nat → Nat) (path : List Nat) {N : VNet R} (h : N.WF)
    (hadj : ∀ i (hi : i + 1 < path.length), N.Adj path[i] path[i + 1] ∧ path[i] ≠ path[i + 1])
    (ops₁ : List Op) (o : Op) (ops₂ : List Op) (hsplit : moveOps path = ops₁ ++ o :: ops₂)
    {N₁ : VNet R} (hr : Run dim N ops₁ N₁) :
    ∃ p a b, o.node ∈ N₁.ids ∧ o.target ∈ N₁.ids ∧ N₁.Joined o.node o.target p a b ∧
      ∀ F : QRFact dim (N₁.tens o.node) (N₁.legs o.node) a N₁.next (N₁.next + 1),
        Step dim N₁ o (gaugeStep dim N₁ o.node o.target p a b F) := by
  obtain ⟨i, hi, rfl⟩ := mem_moveOps path o (by rw [hsplit]; exact List.mem_append_right _ List.mem_cons_self)
  exact run_progress dim h hr (hadj i hi).1 (hadj i hi).2

open Ptn.C17 Ptn.C17.RTree in
/-- **For every well-formed tree and every centre**: on a valued network whose bonds contain the tree's
neighbour relation, every run of the operations of `canonical_form` (distance table of `distance_to_node`,
neighbour lists `neighbouring_nodes()`) leaves the value unchanged, and the run never gets stuck for a
structural reason. -/
theorem canonical_form_value_tree (dim : Nat → Nat) (t : RTree) (hwf : t.WF) (c : Nat) (hc : c ∈ ids t)
    {N : VNet R} (h : N.WF) (hadj : ∀ n ∈ ids t, ∀ m ∈ nbrsOf t n, N.Adj n m) :
    ∃ dist : Dist, distanceToNode t c = some dist ∧
      (∀ N', Run dim N (canonOps dist (nbrsOf t)) N' →
        N'.WF ∧ (∀ σ, N'.value dim σ = N.value dim σ) ∧ (∀ n m, N.Adj n m → N'.Adj n m)) ∧
      (∀ ops₁ o ops₂, canonOps dist (nbrsOf t) = ops₁ ++ o :: ops₂ → ∀ N₁, Run dim N ops₁ N₁ →
        ∃ p a b, o.node ∈ N₁.ids ∧ o.target ∈ N₁.ids ∧ N₁.Joined o.node o.target p a b ∧
          ∀ F : QRFact dim (N₁.tens o.node) (N₁.legs o.node) a N₁.next (N₁.next + 1),
            Step dim N₁ o (gaugeStep dim N₁ o.node o.target p a b F)) := by
  obtain ⟨dist, hd, hnd, hperm, hc0, hstep⟩ := tree_table t hwf c hc
  refine ⟨dist, hd, fun N' hr => canonical_form_value dim dist _ h hr, ?_⟩
  intro ops₁ o ops₂ hsplit N₁ hr
  apply canonical_form_progress dim dist (nbrsOf t) h _ ops₁ o ops₂ hsplit hr
  intro o ho
  obtain ⟨hin, hlt⟩ := tree_ops_closer hnd hc0 hstep ho
  exact ⟨hadj _ (hperm.subset hin) _ (canonOps_adjacent dist (nbrsOf t) o ho), fun e => by rw [e] at hlt; omega⟩

/-! ### the consequence clause: norm from the centre tensor alone -/

/-- **Two tensors.**  `ψ = Σ_{(q,r)} Q · C`; the norm network `⟨ψ|ψ⟩` has the leaves `Q, Qc, C, Cc`, the
two bonds `(q, r)`, `(q', r')`, the pairs `pp` joining the remaining legs of `Q` with those of `Qc` and the
pairs `cc` joining the remaining legs of `C` with those of `Cc`.  If `Q` is an isometry toward the centre
(`Σ_pp Q · Qc = δ(q, q')` for indices within the bond dimension), the norm is the norm of the centre tensor alone: `Σ_{cc, (r,r')} C · Cc`. -/
theorem centre_norm_two {L : Type} [DecidableEq L] (dim : L → Nat) (cc pp : List (L × L))
    (Q Qc C Cc : Asg L → R) (q r q' r' : L) {S : L → Prop}
    (hiso : ∀ τ, τ q < dim q → τ q' < dim q →
      sumPairs dim pp (fun ρ => Q ρ * Qc ρ) τ = if τ q = τ q' then 1 else 0)
    (hC : DependsOn S C) (hCc : DependsOn S Cc)
    (hpp : ∀ l ∈ Expr.pairLegs pp, ¬ S l) (hq : ¬ S q) (hq' : ¬ S q')
    (hqq' : q ≠ q') (hqr' : q ≠ r') (hd1 : dim q' = dim q) (hd2 : dim r = dim q) (σ : Asg L) :
    netValue dim ((cc ++ [(q, r), (q', r')]) ++ pp) [Q, Qc, C, Cc] σ =
      netValue dim (cc ++ [(r, r')]) [C, Cc] σ :=
  isometry_absorb_value dim cc pp Q Qc [C, Cc] q r q' r' hiso
    (List.forall_mem_cons.2 ⟨hC, List.forall_mem_singleton.2 hCc⟩) hpp hq hq' hqq' hqr' hd1 hd2 σ

/-- **Any tree, given an absorption order** (`_partial`: that the farthest-first order of `canonOps` is
such an order for every tree in canonical form — every node's non-centre-facing legs are physical pairs or
pairs left behind by already absorbed sub-trees — is not formalised; the statement itself is general: any
number of tensors, any shape).  Every sequence of absorptions of isometries (`Absorb`: the isometry condition
in index form toward the bond that faces the centre) leaves the value of the norm network unchanged; when
only the centre tensor and its copy are left, the value is the norm of the centre tensor alone. -/
theorem centre_norm_value_partial {L : Type} [DecidableEq L] (dim : L → Nat) {X Y : NormNet L R}
    (hr : AbsorbRun dim X Y) (hnd : (Expr.pairLegs X.1).Nodup) (σ : Asg L) :
    netValue dim Y.1 Y.2 σ = netValue dim X.1 X.2 σ :=
  absorb_run_value dim hr hnd σ

end Ptn.C03
