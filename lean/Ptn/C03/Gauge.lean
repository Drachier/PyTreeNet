import Ptn.C03.Net
import Ptn.C03.Model
/-! One QR gauge move on a valued network (`VNet`), and runs of moves.

`Step dim N ⟨n, m⟩ N'`: the nodes `n ≠ m` are joined by the bond `p` (ends `a` at `n`, `b` at `m`); the tensor of
`n` is factorised as `Q · R` over the FRESH bond `(q, r) = (N.next, N.next + 1)` — the factorisation is DATA of
the step (`QRFact`: the contract of `tensor_qr_decomposition`, in any split mode; nothing about isometry is
needed for the value) —, `R` is contracted into the tensor of `m` over the old bond `p`.  Afterwards `n` carries
`Q` with the legs `q :: legs n \ a`, `m` carries `B' = Σ_p R · B` with the legs `r :: legs m \ b`, the bond `p`
is replaced by `(q, r)` and the counter is advanced by two.  `dim` is one function on all labels, so the dimension of the
fresh bond is what `dim` says of `next`, `next + 1`: a step exists for factorisations over that dimension. -/
namespace Ptn.C03

open Ptn.Ein

variable {R : Type} [CommSemiring R]

/-- the contract of one QR call: `A = Σ_{(q,r)} Q · R`, `Q` reads the kept legs of `A` and the new leg `q`,
`R` reads the new leg `r` and the leg `a` toward the neighbour -/
structure QRFact (dim : Nat → Nat) (A : Asg Nat → R) (legsA : List Nat) (a q r : Nat) where
  Q : Asg Nat → R
  Rm : Asg Nat → R
  exact : ∀ τ, A τ = sumPairs dim [(q, r)] (fun ρ => Q ρ * Rm ρ) τ
  readsQ : DependsOn (· ∈ q :: legsA.erase a) Q
  readsR : DependsOn (fun l => l = r ∨ l = a) Rm

def gaugeStep (dim : Nat → Nat) (N : VNet R) (n m : Nat) (p : Nat × Nat) (a b : Nat)
    (F : QRFact dim (N.tens n) (N.legs n) a N.next (N.next + 1)) : VNet R where
  ids := N.ids
  legs := fun k => if k = n then N.next :: (N.legs n).erase a
    else if k = m then (N.next + 1) :: (N.legs m).erase b else N.legs k
  tens := fun k => if k = n then F.Q
    else if k = m then (fun τ => sumPairs dim [p] (fun ρ => F.Rm ρ * N.tens m ρ) τ) else N.tens k
  bonds := N.bonds.erase p ++ [(N.next, N.next + 1)]
  next := N.next + 2

inductive Step (dim : Nat → Nat) : VNet R → Op → VNet R → Prop
  | mk (N : VNet R) (n m : Nat) (p : Nat × Nat) (a b : Nat) (hn : n ∈ N.ids) (hm : m ∈ N.ids) (hnm : n ≠ m)
      (hj : N.Joined n m p a b) (F : QRFact dim (N.tens n) (N.legs n) a N.next (N.next + 1)) :
      Step dim N ⟨n, m⟩ (gaugeStep dim N n m p a b F)

inductive Run (dim : Nat → Nat) : VNet R → List Op → VNet R → Prop
  | nil (N : VNet R) : Run dim N [] N
  | cons {N N₁ N₂ : VNet R} {o : Op} {ops : List Op} : Step dim N o N₁ → Run dim N₁ ops N₂ → Run dim N (o :: ops) N₂

section
variable {dim : Nat → Nat} {N : VNet R} {n m : Nat} {p : Nat × Nat} {a b : Nat}
  {F : QRFact dim (N.tens n) (N.legs n) a N.next (N.next + 1)}

theorem gaugeStep_legs_n : (gaugeStep dim N n m p a b F).legs n = N.next :: (N.legs n).erase a :=
  if_pos rfl

theorem gaugeStep_legs_m (hnm : n ≠ m) :
    (gaugeStep dim N n m p a b F).legs m = (N.next + 1) :: (N.legs m).erase b :=
  (if_neg (Ne.symm hnm)).trans (if_pos rfl)

theorem gaugeStep_legs_other {k : Nat} (h1 : k ≠ n) (h2 : k ≠ m) :
    (gaugeStep dim N n m p a b F).legs k = N.legs k :=
  (if_neg h1).trans (if_neg h2)

theorem gaugeStep_tens_n : (gaugeStep dim N n m p a b F).tens n = F.Q :=
  if_pos rfl

theorem gaugeStep_tens_m (hnm : n ≠ m) :
    (gaugeStep dim N n m p a b F).tens m = fun τ => sumPairs dim [p] (fun ρ => F.Rm ρ * N.tens m ρ) τ :=
  (if_neg (Ne.symm hnm)).trans (if_pos rfl)

theorem gaugeStep_tens_other {k : Nat} (h1 : k ≠ n) (h2 : k ≠ m) :
    (gaugeStep dim N n m p a b F).tens k = N.tens k :=
  (if_neg h1).trans (if_neg h2)

theorem gaugeStep_keep (hnm : n ≠ m) {k l : Nat} (hl : l ∈ N.legs k) (ha : l ≠ a) (hb : l ≠ b) :
    l ∈ (gaugeStep dim N n m p a b F).legs k := by
  by_cases h1 : k = n
  · subst h1
    rw [gaugeStep_legs_n]
    exact List.mem_cons_of_mem _ ((List.mem_erase_of_ne ha).2 hl)
  · by_cases h2 : k = m
    · subst h2
      rw [gaugeStep_legs_m hnm]
      exact List.mem_cons_of_mem _ ((List.mem_erase_of_ne hb).2 hl)
    · rwa [gaugeStep_legs_other h1 h2]

theorem gaugeStep_joined_new (hnm : n ≠ m) :
    (gaugeStep dim N n m p a b F).Joined n m (N.next, N.next + 1) N.next (N.next + 1) := by
  refine ⟨List.mem_append_right _ List.mem_cons_self, Or.inl rfl, ?_, ?_⟩
  · rw [gaugeStep_legs_n]; exact List.mem_cons_self
  · rw [gaugeStep_legs_m hnm]; exact List.mem_cons_self

theorem gaugeStep_joined_keep (h : N.WF) (hnm : n ≠ m) (hj : N.Joined n m p a b) {k j : Nat} {p' : Nat × Nat} {a' b' : Nat} (hj' : N.Joined k j p' a' b')
    (hne : p' ≠ p) : (gaugeStep dim N n m p a b F).Joined k j p' a' b' := by
  obtain ⟨f1, f2⟩ := h.joined_other hj hj' hne
  exact ⟨List.mem_append_left _ ((List.mem_erase_of_ne hne).2 hj'.1), hj'.2.1,
    gaugeStep_keep hnm hj'.2.2.1 f1.1 f1.2, gaugeStep_keep hnm hj'.2.2.2 f2.1 f2.2⟩

end

/-- one move leaves the represented tensor unchanged (the clause "state unchanged" of C03, per operation) -/
theorem step_value (dim : Nat → Nat) {N N' : VNet R} {o : Op} (h : N.WF) (hs : Step dim N o N') (σ : Asg Nat) :
    N'.value dim σ = N.value dim σ := by
  cases hs with
  | mk n m p a b hn hm hnm hj F =>
  obtain ⟨hp, hab, ha, hb⟩ := id hj
  set rest := (N.ids.erase n).erase m with hrest
  have hrestmem : ∀ k ∈ rest, k ∈ N.ids ∧ k ≠ n ∧ k ≠ m := fun k hk => mem_rest h.ids_nodup hk
  -- the new network with the two nodes of the move in front
  have hnew : (gaugeStep dim N n m p a b F).value dim σ =
      netValue dim (N.bonds.erase p ++ [(N.next, N.next + 1)])
        ((fun τ => sumPairs dim [(p.1, p.2)] (fun ρ => F.Rm ρ * N.tens m ρ) τ) :: F.Q :: rest.map N.tens) σ := by
    unfold VNet.value
    have hperm : (gaugeStep dim N n m p a b F).ids.Perm (m :: n :: rest) := (ids_perm_two hn hm hnm).trans (List.Perm.swap _ _ _)
    have hmap : rest.map (gaugeStep dim N n m p a b F).tens = rest.map N.tens :=
      List.map_congr_left (fun k hk => gaugeStep_tens_other (hrestmem k hk).2.1 (hrestmem k hk).2.2)
    rw [netValue_perm_leaves dim _ (hperm.map _) σ, List.map_cons, List.map_cons, gaugeStep_tens_n,
      gaugeStep_tens_m hnm, hmap]
    rfl
  rw [hnew, N.value_expose2 dim h hn hm hnm hp σ]
  have ha_lt : a < N.next := h.fresh n hn a ha
  have hb_lt : b < N.next := h.fresh m hm b hb
  apply gauge_move_value dim (N.bonds.erase p) (N.tens n) (N.tens m) F.Q F.Rm _ (rest.map N.tens)
    p.1 p.2 N.next (N.next + 1) (S₁ := fun l => l < N.next) (S₂ := fun l => l ≠ p.1 ∧ l ≠ p.2)
    F.exact (fun τ => rfl)
  · -- the rest reads old labels only
    intro f hf
    obtain ⟨k, hk, rfl⟩ := List.mem_map.1 hf
    exact (h.reads k (hrestmem k hk).1).mono (fun l hl => h.fresh k (hrestmem k hk).1 l hl)
  · exact h.rest_not_bond hn hm hj
  · exact (h.reads m hm).mono (fun l hl => h.fresh m hm l hl)
  · -- Q reads neither end of the bond
    refine F.readsQ.mono (fun l hl => (ends_ne hab l).2 ?_)
    rcases List.mem_cons.1 hl with rfl | hl
    · exact ⟨Nat.ne_of_gt ha_lt, Nat.ne_of_gt hb_lt⟩
    · have h1 := ((h.legs_nodup n hn).mem_erase_iff).1 hl
      exact ⟨h1.1, fun e => hnm (h.owner n hn m hm l h1.2 (e ▸ hb))⟩
  · exact Nat.lt_irrefl _
  · exact Nat.not_succ_lt_self
  · exact fun e => e.1 rfl
  · exact fun e => e.2 rfl
  · -- no leg bound twice: the old legs are below the counter
    have hbp := pairLegs_perm ((List.perm_cons_erase hp).trans (List.perm_append_comm (l₁ := [p])))
    exact pairLegs_fresh_nodup (hbp.nodup_iff.1 h.bonds_nodup) (fun l hl => h.bond_lt l (hbp.mem_iff.2 hl))

/-- one move keeps the network well-formed: the list of all labels in use is `a :: b :: X` before and
`next :: next + 1 :: X` after -/
theorem step_wf (dim : Nat → Nat) {N N' : VNet R} {o : Op} (h : N.WF) (hs : Step dim N o N') : N'.WF := by
  cases hs with
  | mk n m p a b hn hm hnm hj F =>
  obtain ⟨hp, hab, ha, hb⟩ := hj
  obtain ⟨X, hold, hnew⟩ : ∃ X, (N.ids.flatMap N.legs).Perm (a :: b :: X) ∧
      ((gaugeStep dim N n m p a b F).ids.flatMap (gaugeStep dim N n m p a b F).legs).Perm
        (N.next :: (N.next + 1) :: X) := by
    refine ⟨(N.legs n).erase a ++ ((N.legs m).erase b ++ ((N.ids.erase n).erase m).flatMap N.legs),
      ((ids_perm_two hn hm hnm).flatMap_right _).trans ?_, ((ids_perm_two hn hm hnm).flatMap_right _).trans ?_⟩
    · rw [List.flatMap_cons, List.flatMap_cons]
      exact ((List.perm_cons_erase ha).append ((List.perm_cons_erase hb).append_right _)).trans
        (List.perm_middle.cons a)
    · rw [List.flatMap_cons, List.flatMap_cons, gaugeStep_legs_n, gaugeStep_legs_m hnm, List.flatMap_congr fun k hk =>
        gaugeStep_legs_other (mem_rest h.ids_nodup hk).2.1 (mem_rest h.ids_nodup hk).2.2]
      exact List.perm_middle.cons _
  have hXlt : ∀ l ∈ X, l < N.next := fun l hl =>
    h.flat_lt l (hold.mem_iff.2 (List.mem_cons_of_mem _ (List.mem_cons_of_mem _ hl)))
  have hsub : ∀ l ∈ Expr.pairLegs (N.bonds.erase p), l ∈ Expr.pairLegs N.bonds := fun l hl =>
    (pairLegs_perm (List.perm_cons_erase hp)).mem_iff.2 (mem_pairLegs_cons.2 (Or.inr (Or.inr hl)))
  refine .of_flat h.ids_nodup
    (hnew.nodup_iff.2 (nodup_two_fresh (hold.nodup_iff.1 h.flat_nodup).of_cons.of_cons hXlt)) ?_
    (pairLegs_fresh_nodup (h.erase_legs hp).of_cons.of_cons fun l hl => h.bond_lt l (hsub l hl))
    (fun l hl => hnew.mem_iff.2 ?_) (fun l hl => ?_)
  · -- every tensor reads its own legs
    intro k hk
    by_cases h1 : k = n
    · subst h1
      rw [gaugeStep_tens_n, gaugeStep_legs_n]
      exact F.readsQ
    · by_cases h2 : k = m
      · subst h2
        rw [gaugeStep_tens_m hnm]
        have hprod : DependsOn (fun l => (l = N.next + 1 ∨ l = a) ∨ l ∈ N.legs k)
            (fun ρ => F.Rm ρ * N.tens k ρ) :=
          DependsOn.mul (F.readsR.mono (fun l hl => Or.inl hl)) ((h.reads k hk).mono (fun l hl => Or.inr hl))
        refine (sumPairs_dependsOn dim [p] hprod).mono ?_
        intro l ⟨hl, hnot⟩
        have hne : l ≠ p.1 ∧ l ≠ p.2 := by
          simp only [Expr.pairLegs, List.map_cons, List.map_nil, List.mem_append, List.mem_cons,
            List.not_mem_nil, or_false, not_or] at hnot
          exact hnot
        have hla := (ends_ne hab l).1 hne
        rw [gaugeStep_legs_m hnm]
        rcases hl with (rfl | e) | hl
        · exact List.mem_cons_self
        · exact absurd e hla.1
        · exact List.mem_cons_of_mem _ (((h.legs_nodup k hk).mem_erase_iff).2 ⟨hla.2, hl⟩)
      · rw [gaugeStep_tens_other h1 h2, gaugeStep_legs_other h1 h2]; exact h.reads k hk
  · rcases List.mem_append.1 ((Expr.pairLegs_append _ _).mem_iff.1 hl) with hl | hl
    · have hne := (ends_ne hab l).1 (h.erase_ne hp l hl)
      have := hold.mem_iff.1 (h.bonds_flat l (hsub l hl))
      rw [List.mem_cons, List.mem_cons] at this
      exact List.mem_append_right [N.next, N.next + 1] ((this.resolve_left hne.1).resolve_left hne.2)
    · exact List.mem_append_left (as := [N.next, N.next + 1]) X hl
  · show l < N.next + 2
    exact List.forall_mem_cons.2 ⟨by omega, List.forall_mem_cons.2 ⟨by omega, fun l hl =>
      Nat.lt_add_right 2 (hXlt l hl)⟩⟩ l (hnew.mem_iff.1 hl)

/-- **Any run of QR gauge moves leaves the represented tensor unchanged** and keeps the network
well-formed. -/
theorem run_value (dim : Nat → Nat) {N N' : VNet R} {ops : List Op} (h : N.WF) (hr : Run dim N ops N') :
    N'.WF ∧ ∀ σ, N'.value dim σ = N.value dim σ := by
  induction hr with
  | nil N => exact ⟨h, fun _ => rfl⟩
  | cons hs _ ih =>
    obtain ⟨h2, hv⟩ := ih (step_wf dim h hs)
    exact ⟨h2, fun σ => (hv σ).trans (step_value dim h hs σ)⟩

/-- `n` and `m` are nodes of the network joined by a bond -/
def VNet.Adj (N : VNet R) (n m : Nat) : Prop :=
  n ∈ N.ids ∧ m ∈ N.ids ∧ ∃ p a b, N.Joined n m p a b

/-- a move keeps every adjacency (the bond between the two nodes of the move is replaced by the fresh one,
every other bond keeps both ends) -/
theorem step_adj (dim : Nat → Nat) {N N' : VNet R} {o : Op} (h : N.WF) (hs : Step dim N o N') {n' m' : Nat}
    (hadj : N.Adj n' m') : N'.Adj n' m' := by
  cases hs with
  | mk n m p a b hn hm hnm hj F =>
  obtain ⟨hn', hm', p', a', b', hj'⟩ := hadj
  refine ⟨hn', hm', ?_⟩
  by_cases hpp : p' = p
  · subst hpp
    rcases h.joined_nodes hn hm hn' hm' hj hj' with ⟨rfl, rfl⟩ | ⟨rfl, rfl⟩
    · exact ⟨_, _, _, gaugeStep_joined_new hnm⟩
    · exact ⟨_, _, _, (gaugeStep_joined_new hnm).symm⟩
  · exact ⟨p', a', b', gaugeStep_joined_keep h hnm hj hj' hpp⟩

theorem run_adj (dim : Nat → Nat) {N N' : VNet R} {ops : List Op} (h : N.WF) (hr : Run dim N ops N')
    {n m : Nat} (hadj : N.Adj n m) : N'.Adj n m := by
  induction hr with
  | nil N => exact hadj
  | cons hs _ ih => exact ih (step_wf dim h hs) (step_adj dim h hs hadj)

/-- **A run of gauge moves between adjacent nodes never gets stuck for a structural reason**: after any
prefix of the run the two nodes of the next operation are still joined by a bond, so every factorisation of
the tensor of `n` (`QRFact`, the only remaining premise) yields the next step. -/
theorem run_progress (dim : Nat → Nat) {N N₁ : VNet R} {ops : List Op} (h : N.WF) (hr : Run dim N ops N₁)
    {n m : Nat} (hadj : N.Adj n m) (hnm : n ≠ m) :
    ∃ p a b, n ∈ N₁.ids ∧ m ∈ N₁.ids ∧ N₁.Joined n m p a b ∧
      ∀ F : QRFact dim (N₁.tens n) (N₁.legs n) a N₁.next (N₁.next + 1),
        Step dim N₁ ⟨n, m⟩ (gaugeStep dim N₁ n m p a b F) := by
  obtain ⟨hn, hm, p, a, b, hj⟩ := run_adj dim h hr hadj
  exact ⟨p, a, b, hn, hm, hj, fun F => Step.mk N₁ n m p a b hn hm hnm hj F⟩

end Ptn.C03
