import Ptn.C03.Model
import Ptn.C03.Lemmas
import Ptn.Common.List
import Ptn.Common.AnalysisIso
/-! The record level of canonical form: *which* tensor ends up pointing *where*, for every distance table
(`canon_gauge`, `move_gauge`); at the end four instances of `Ptn.Analysis` (compositions of isometries are isometries).
The numerical content (a QR factor Q is an isometry, the product QR is the tensor) is the contract of
`numpy.linalg.qr`. -/
namespace Ptn.C03

/-- Distance of a node (0 when absent). -/
def key (dist : Dist) (n : Nat) : Nat := (lookup dist n).getD 0

theorem lookup_of_mem (dist : Dist) (hkeys : (dist.map (·.1)).Nodup) (n d : Nat)
    (h : (n, d) ∈ dist) : lookup dist n = some d := by
  rw [lookup, find?_of_nodup_map (·.1) hkeys h]; rfl

theorem key_of_mem {dist : Dist} (hkeys : (dist.map (·.1)).Nodup) {n d : Nat} (h : (n, d) ∈ dist) :
    key dist n = d := by
  rw [key, lookup_of_mem dist hkeys n d h]
  rfl

/-- a node with an entry at distance `≥ 1` is not the centre -/
theorem ne_centre {dist : Dist} (hkeys : (dist.map (·.1)).Nodup) {c n d : Nat} (hc : (c, 0) ∈ dist)
    (h : (n, d) ∈ dist) (hd : d ≠ 0) : n ≠ c := by
  rintro rfl
  exact hd ((key_of_mem hkeys h).symm.trans (key_of_mem hkeys hc))

/-- The operations of `canonical_form` are sorted by non-increasing distance of the split node:
    the farthest nodes are processed first. -/
theorem canon_sorted (dist : Dist) (nbrs : Nat → List Nat) (hkeys : (dist.map (·.1)).Nodup) :
    (canonOps dist nbrs).Pairwise fun a b => key dist b.node ≤ key dist a.node := by
  unfold canonOps
  rw [List.pairwise_flatMap]
  constructor
  · intro k _
    apply List.pairwise_of_forall_mem_list
    intro a ha b hb
    rw [key_of_mem hkeys (mem_opsAt ha).1, key_of_mem hkeys (mem_opsAt hb).1]
  · rw [List.pairwise_reverse]
    apply List.Pairwise.imp _ List.pairwise_lt_range
    intro k1 k2 hlt x hx y hy
    rw [key_of_mem hkeys (mem_opsAt hx).1, key_of_mem hkeys (mem_opsAt hy).1]
    omega

/-- Every node is split at most once. -/
theorem canon_nodup (dist : Dist) (nbrs : Nat → List Nat) (hkeys : (dist.map (·.1)).Nodup) :
    ((canonOps dist nbrs).map Op.node).Nodup := by
  rw [List.nodup_iff_pairwise_ne, List.pairwise_map]
  unfold canonOps
  rw [List.pairwise_flatMap]
  constructor
  · intro k _
    unfold opsAt
    apply List.Pairwise.filterMap (R := fun p q : Nat × Nat => p.1 ≠ q.1)
    · intro p q hpq a ha b hb
      cases hc : closest dist (nbrs p.1) <;> simp [hc] at ha
      cases hd : closest dist (nbrs q.1) <;> simp [hd] at hb
      subst ha; subst hb; exact hpq
    · apply List.Pairwise.filter
      exact List.pairwise_map.mp (List.nodup_iff_pairwise_ne.mp hkeys)
  · rw [List.pairwise_reverse]
    apply List.Pairwise.imp _ List.pairwise_lt_range
    intro k1 k2 hlt x hx y hy heq
    have h1 := key_of_mem hkeys (mem_opsAt hx).1
    rw [heq, key_of_mem hkeys (mem_opsAt hy).1] at h1
    omega

/-- **Gauge theorem.**  Assume the table has distinct keys and every operation absorbs into a node
    strictly closer than the node it splits (true of the distance table of a tree).  Then after
    all operations of `canonical_form` every split node is recorded as an isometry toward its
    closest neighbour — later operations never absorb into it again — and a node at distance 0
    (the centre) carries no isometry record. -/
theorem canon_gauge (dist : Dist) (nbrs : Nat → List Nat) (hkeys : (dist.map (·.1)).Nodup)
    (htree : ∀ o ∈ canonOps dist nbrs, key dist o.target < key dist o.node) :
    (∀ o ∈ canonOps dist nbrs,
        applyOps (fun _ => none) (canonOps dist nbrs) o.node = some o.target) ∧
    (∀ c, (c, 0) ∈ dist → applyOps (fun _ => none) (canonOps dist nbrs) c = none) := by
  constructor
  · exact gauge_sorted (key dist) _ _ (canon_nodup dist nbrs hkeys) (canon_sorted dist nbrs hkeys)
      htree
  · intro c hc
    apply gauge_centre
    · intro o ho
      obtain ⟨k, hk, _⟩ := mem_canonOps ho
      exact ne_centre hkeys hc hk (Nat.succ_ne_zero k)
    · rfl

/-- A centre move along a path records one QR per hop; afterwards every node of the path except
    the last points to its successor and the last node is the (record-free) centre. -/
theorem move_gauge (dir : Nat → Option Nat) (path : List Nat) (hnd : path.Nodup) :
    ∀ i (hi : i + 1 < path.length),
      applyOps dir (moveOps path) path[i] = some path[i + 1] := by
  induction path generalizing dir with
  | nil => intro i hi; simp at hi
  | cons a rest ih =>
    cases rest with
    | nil => intro i hi; simp at hi
    | cons b rest' =>
      intro i hi
      have hnd' := List.nodup_cons.mp hnd
      simp only [moveOps, applyOps_cons]
      cases i with
      | zero =>
        simp only [List.getElem_cons_zero, List.getElem_cons_succ]
        rw [applyOps_untouched]
        · exact if_pos rfl
        · -- later hops touch only nodes of `b :: rest'`, none of which is `a`
          intro p hp
          have := moveOps_sub_path hp
          exact ⟨fun h => hnd'.1 (h ▸ this.1), fun h => hnd'.1 (h ▸ this.2)⟩
      | succ j =>
        simp only [List.getElem_cons_succ]
        exact ih (applyOp dir ⟨a, b⟩) hnd'.2 j (Nat.lt_of_succ_lt_succ hi)

theorem move_final_centre (c : Nat) (path : List Nat) (x : Nat) :
    finalCentre c (path ++ [x]) = x := by
  simp [finalCentre]

/-! ### From the gauge record to linear algebra (instances of `Ptn.Analysis`, Mathlib)

`canon_gauge` says every non-centre tensor is a QR factor `Q` toward the centre; by the contract of
`numpy.linalg.qr` each is an isometry.  Products and Kronecker products of isometries are isometries and an isometry
keeps the norm: the matrix form of the consequence clause (its index form, for every tree: `CentreNorm.lean`). -/

open Matrix in
/-- Composition of isometries along a branch is an isometry. -/
theorem env_isometry_compose {l m n : Type} [Fintype l] [Fintype m] [Fintype n] [DecidableEq m]
    [DecidableEq n] (A : Matrix l m ℂ) (B : Matrix m n ℂ) (hA : Aᴴ * A = 1) (hB : Bᴴ * B = 1) :
    (A * B)ᴴ * (A * B) = 1 :=
  Ptn.Analysis.isometry_mul A B hA hB

open Matrix Kronecker in
/-- Independent branches combine by the Kronecker product, again an isometry. -/
theorem env_isometry_kron {l m p q : Type} [Fintype l] [Fintype m] [Fintype p] [Fintype q]
    [DecidableEq m] [DecidableEq q] (A : Matrix l m ℂ) (B : Matrix p q ℂ)
    (hA : Aᴴ * A = 1) (hB : Bᴴ * B = 1) : (A ⊗ₖ B)ᴴ * (A ⊗ₖ B) = 1 :=
  Ptn.Analysis.isometry_kronecker A B hA hB

open Matrix in
/-- **Consequently the norm obtained from the centre tensor alone equals the norm of the full
    state** (`E` = embedding of the centre tensor, `v` = centre tensor as a vector). -/
theorem centre_norm_eq_full_norm {l m : Type} [Fintype l] [Fintype m] [DecidableEq m]
    (E : Matrix l m ℂ) (hE : Eᴴ * E = 1) (v : m → ℂ) :
    star (E *ᵥ v) ⬝ᵥ (E *ᵥ v) = star v ⬝ᵥ v :=
  Ptn.Analysis.isometry_norm E hE v

open Matrix in
/-- Shape-keeping mode: zero-padding `Q` and `R` leaves the product unchanged and makes `Q` a
    partial isometry (its Gram matrix is an orthogonal projector). -/
theorem keep_mode_padding {l m n p : Type} [Fintype l] [Fintype m] [Fintype n] [Fintype p]
    [DecidableEq m] (Q : Matrix l m ℂ) (T : Matrix m n ℂ) (hQ : Qᴴ * Q = 1) :
    fromCols Q (0 : Matrix l p ℂ) * fromRows T (0 : Matrix p n ℂ) = Q * T ∧
    ((fromCols Q (0 : Matrix l p ℂ))ᴴ * fromCols Q (0 : Matrix l p ℂ)) *
      ((fromCols Q (0 : Matrix l p ℂ))ᴴ * fromCols Q (0 : Matrix l p ℂ))
        = (fromCols Q (0 : Matrix l p ℂ))ᴴ * fromCols Q (0 : Matrix l p ℂ) ∧
    ((fromCols Q (0 : Matrix l p ℂ))ᴴ * fromCols Q (0 : Matrix l p ℂ))ᴴ
        = (fromCols Q (0 : Matrix l p ℂ))ᴴ * fromCols Q (0 : Matrix l p ℂ) :=
  Ptn.Analysis.partial_isometry_pad Q T hQ

/-! ### Non-vacuity: chain 0-1-2-3 canonicalised at 1 -/

example :
    let dist : Dist := [(1, 0), (0, 1), (2, 1), (3, 2)]
    let nbrs : Nat → List Nat := fun n => match n with | 0 => [1] | 1 => [0, 2] | 2 => [1, 3] | _ => [2]
    canonOps dist nbrs = [⟨3, 2⟩, ⟨0, 1⟩, ⟨2, 1⟩] ∧
    (∀ o ∈ canonOps dist nbrs, key dist o.target < key dist o.node) ∧
    (dist.map (·.1)).Nodup := by decide
example : moveOps [1, 2, 3] = [⟨1, 2⟩, ⟨2, 3⟩] := by decide

end Ptn.C03
