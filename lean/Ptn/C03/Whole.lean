import Ptn.C03.CentreNorm
import Ptn.Common.EinsumBuilt
import Ptn.C17.Segments
/-! The norm network along the tree is the doubled network of the whole valued network: for a tree-shaped network
(`TreeShaped`: the nodes of the tree, as many bonds as edges) the injection edges → bonds of `EdgeOK` is onto by
counting, so the tree's binding record is the whole record up to order and orientation of the pairs
(`Ptn.Ein.sumPairs_orient_subset` is the lemma `whole_norm_eq_tree` feeds). -/
namespace Ptn.C03

open Ptn.Ein Ptn.C17 Ptn.C17.RTree

set_option linter.unusedSectionVars false
variable {R : Type} [CommSemiring R]

/-! ### the doubled network of the whole valued network -/

/-- all legs of all nodes -/
def allLegs (N : VNet R) : List Nat := N.ids.flatMap N.legs

/-- the legs that are no end of a bond -/
def openLegs (N : VNet R) : List Nat :=
  (allLegs N).filter (fun l => decide (l ∉ Expr.pairLegs N.bonds))

/-- both copies of a bond -/
def dblBond (p : Nat × Nat) : List (DL × DL) := [(DL.ket p.1, DL.ket p.2), (DL.bra p.1, DL.bra p.2)]

/-- the binding record of `⟨ψ|ψ⟩` for the whole network: open legs ket-with-bra, every bond in both copies -/
def wholeNormBinds (N : VNet R) : List (DL × DL) := (openLegs N).map dbl ++ N.bonds.flatMap dblBond

/-- all tensors and conjugated tensors of the network -/
def wholeNormLeaves (cj : R → R) (N : VNet R) : List (Asg DL → R) := N.ids.flatMap (nodeLeaves cj N)

/-- **`N` has exactly the shape of the tree `t`**: the same nodes, one bond per edge (every edge is a bond and
there are as many bonds as edges) -/
structure TreeShaped (N : VNet R) (t : RTree) : Prop where
  ids_perm : N.ids.Perm (ids t)
  bonds_len : N.bonds.length = (edges t).length
  adj : ∀ e ∈ edges t, ∃ p a b, N.Joined e.1 e.2 p a b

theorem allLabels_length (N : VNet R) (ns : List Nat) :
    (allLabels N ns).length = 2 * (ns.flatMap N.legs).length := by
  induction ns with
  | nil => simp [allLabels]
  | cons n ns ih =>
    simp only [allLabels] at ih
    simp only [allLabels, List.flatMap_cons, List.length_append, ih, dlegs, List.length_map]
    omega

theorem flatMap_dblBond_length (bs : List (Nat × Nat)) : (bs.flatMap dblBond).length = 2 * bs.length := by
  induction bs with
  | nil => simp
  | cons b bs ih => simp only [List.flatMap_cons, List.length_append, ih, dblBond, List.length_cons,
      List.length_nil]; omega

/-- twice the number of pairs of the whole record = number of labels of the doubled network -/
theorem wholeNormBinds_length {N : VNet R} (h : N.WF) :
    2 * (wholeNormBinds N).length = (allLabels N N.ids).length := by
  have hp := (filter_compl_perm h.flat_nodup h.bonds_nodup h.bonds_flat).length_eq
  rw [allLabels_length]
  simp only [wholeNormBinds, openLegs, List.length_append, List.length_map, flatMap_dblBond_length]
  simp only [List.length_append, pairLegs_length] at hp
  simp only [allLegs]
  omega

/-! ### the run keeps the number of bonds -/

theorem step_bonds_length {dim : Nat → Nat} {A B : VNet R} {o : Op} (hs : Step dim A o B) :
    B.bonds.length = A.bonds.length := by
  cases hs with
  | mk n m p a b hn hm hnm hj F =>
    show (A.bonds.erase p ++ [(A.next, A.next + 1)]).length = _
    rw [List.length_append, List.length_erase_of_mem hj.1, List.length_singleton]
    exact Nat.sub_add_cancel (List.length_pos_of_mem hj.1)

theorem isoRun_bonds_length {dim : Nat → Nat} {cj : R → R} {N N' : VNet R} {ops : List Op}
    (hr : IsoRun dim cj N ops N') : N'.bonds.length = N.bonds.length := by
  induction hr with
  | nil N => rfl
  | cons hs _ ih => rw [ih, step_bonds_length hs.step]

/-! ### counting: every bond is the bond of a tree edge -/

section
variable {dim : Nat → Nat} {cj : R → R} {N : VNet R} {up dn : Nat → Nat}

/-- **The injection edges -> bonds is onto.**  If every edge of the well-formed tree `r` is a bond of `N`
(`EdgeOK`) and `N` has no more bonds than `r` has edges, every bond of `N` is the bond of an edge. -/
theorem bond_is_edge (h : N.WF) (r : RTree) (hwr : r.WF)
    (hE : ∀ e ∈ edges r, EdgeOK dim cj N up dn e.1 e.2) (hlen : N.bonds.length ≤ (edges r).length) :
    ∀ p ∈ N.bonds, ∃ e ∈ edges r, p = (up e.2, dn e.2) ∨ p = (dn e.2, up e.2) := by
  let f : Nat × Nat → Nat × Nat := fun e =>
    if (up e.2, dn e.2) ∈ N.bonds then (up e.2, dn e.2) else (dn e.2, up e.2)
  have hf : ∀ e ∈ edges r, f e ∈ N.bonds ∧ (f e = (up e.2, dn e.2) ∨ f e = (dn e.2, up e.2)) := by
    intro e he
    obtain ⟨_, _, ⟨p, hp, hab, _, _⟩, _, _⟩ := hE e he
    by_cases hc : (up e.2, dn e.2) ∈ N.bonds
    · simp [f, hc]
    · have : p = (dn e.2, up e.2) := by
        rcases hab with e1 | e1
        · exact absurd (e1 ▸ hp) hc
        · exact e1
      simp only [f, hc, if_false]
      exact ⟨this ▸ hp, by simp⟩
  have hinj : ∀ e ∈ edges r, ∀ e' ∈ edges r, f e = f e' → e = e' := by
    intro e he e' he' hff
    obtain ⟨i, k⟩ := e
    obtain ⟨i', k'⟩ := e'
    obtain ⟨hi, hk, ⟨p, _, _, hu, hd⟩, _, _⟩ := hE _ he
    obtain ⟨hi', hk', ⟨p', _, _, hu', hd'⟩, _, _⟩ := hE _ he'
    simp only at hi hk hu hd hi' hk' hu' hd'
    have hcases : (up k = up k' ∧ dn k = dn k') ∨ (up k = dn k' ∧ dn k = up k') :=
      ends_same (hf _ he).2 (hff ▸ (hf _ he').2)
    rcases hcases with ⟨e1, e2⟩ | ⟨e1, e2⟩
    · have hkk : k = k' := h.owner k hk k' hk' _ hu (e1 ▸ hu')
      subst hkk
      have := parent_unique hwr he he'
      subst this
      rfl
    · have hki : k = i' := h.owner k hk i' hi' _ hu (e1 ▸ hd')
      have hik : i = k' := h.owner i hi k' hk' _ hd (e2 ▸ hu')
      subst hki; subst hik
      exact absurd he' (no_two_cycle hwr he)
  have hndE : (edges r).Nodup := List.Nodup.of_map _ (edges_unord_nodup r hwr)
  have hnd : ((edges r).map f).Nodup := by
    rw [List.nodup_iff_pairwise_ne] at hndE ⊢
    rw [List.pairwise_map]
    exact hndE.imp_of_mem (fun ha hb hne e => hne (hinj _ ha _ hb e))
  have hsub : (edges r).map f ⊆ N.bonds := by
    intro p hp
    obtain ⟨e, he, rfl⟩ := List.mem_map.1 hp
    exact (hf e he).1
  have hperm : ((edges r).map f).Perm N.bonds :=
    (List.subperm_of_subset hnd hsub).perm_of_length_le (by simpa using hlen)
  intro p hp
  obtain ⟨e, he, rfl⟩ := List.mem_map.1 (hperm.mem_iff.2 hp)
  exact ⟨e, he, (hf e he).2⟩

/-! ### the binding record along the tree, pair by pair -/

/-- the ket / bra copy of the bond of the edge `e` as it appears in the record along the tree -/
def ketPair (up dn : Nat → Nat) (e : Nat × Nat) : DL × DL := (DL.ket (dn e.2), DL.ket (up e.2))
def braPair (up dn : Nat → Nat) (e : Nat × Nat) : DL × DL := (DL.bra (dn e.2), DL.bra (up e.2))

theorem mem_physOf {N : VNet R} {k : Nat} {X : List Nat} {x : DL × DL} (hx : x ∈ physOf N k X) :
    ∃ l ∈ N.legs k, x = dbl l := by
  simp only [physOf, List.mem_map, List.mem_filter] at hx
  obtain ⟨l, ⟨hl, _⟩, rfl⟩ := hx
  exact ⟨l, hl, rfl⟩

/-- every pair of the record along the tree is the doubled leg of a tree node or a copy of the bond of an edge -/
theorem tree_binds_mem (cj : R → R) (N : VNet R) (up dn : Nat → Nat) :
    (∀ t : RTree, ∀ x, x ∈ (subOf cj N up dn t).binds →
      (∃ n ∈ ids t, ∃ l ∈ N.legs n, x = dbl l) ∨ (∃ e ∈ edges t, x = ketPair up dn e ∨ x = braPair up dn e)) ∧
    (∀ ks : List RTree, ∀ k x, x ∈ (kidsOf cj N up dn ks).binds →
      (∃ n ∈ idsL ks, ∃ l ∈ N.legs n, x = dbl l) ∨
        (∃ e ∈ edgesL k ks, x = ketPair up dn e ∨ x = braPair up dn e)) := by
  apply induct
  · intro k ks ih x hx
    rw [subOf, Sub.binds, List.mem_append] at hx
    rw [ids_node, edges_node]
    rcases hx with hx | hx
    · obtain ⟨l, hl, rfl⟩ := mem_physOf hx
      exact Or.inl ⟨k, List.mem_cons_self, l, hl, rfl⟩
    · rcases ih k x hx with ⟨n, hn, l, hl, rfl⟩ | hr
      · exact Or.inl ⟨n, List.mem_cons_of_mem _ hn, l, hl, rfl⟩
      · exact Or.inr hr
  · intro k x hx
    simp [kidsOf, Kids.binds] at hx
  · intro t ts iht ihts k x hx
    rw [kidsOf, Kids.binds, subOf_u, subOf_u'] at hx
    rw [idsL_cons, edgesL_cons]
    simp only [List.mem_cons, List.mem_append] at hx
    rcases hx with rfl | rfl | hx | hx
    · exact Or.inr ⟨(k, t.rid), List.mem_cons_self, Or.inl rfl⟩
    · exact Or.inr ⟨(k, t.rid), List.mem_cons_self, Or.inr rfl⟩
    · rcases iht x hx with ⟨n, hn, l, hl, rfl⟩ | ⟨e, he, hr⟩
      · exact Or.inl ⟨n, List.mem_append_left _ hn, l, hl, rfl⟩
      · exact Or.inr ⟨e, List.mem_cons_of_mem _ (List.mem_append_left _ he), hr⟩
    · rcases ihts k x hx with ⟨n, hn, l, hl, rfl⟩ | ⟨e, he, hr⟩
      · exact Or.inl ⟨n, List.mem_append_right _ hn, l, hl, rfl⟩
      · exact Or.inr ⟨e, List.mem_cons_of_mem _ (List.mem_append_right _ he), hr⟩

/-- the ket copy of the bond of every edge is in the record along the tree -/
theorem tree_binds_edge (cj : R → R) (N : VNet R) (up dn : Nat → Nat) :
    (∀ t : RTree, ∀ e ∈ edges t, ketPair up dn e ∈ (subOf cj N up dn t).binds) ∧
    (∀ ks : List RTree, ∀ k, ∀ e ∈ edgesL k ks, ketPair up dn e ∈ (kidsOf cj N up dn ks).binds) := by
  apply induct
  · intro k ks ih e he
    rw [edges_node] at he
    rw [subOf, Sub.binds]
    exact List.mem_append_right _ (ih k e he)
  · intro k e he
    simp at he
  · intro t ts iht ihts k e he
    rw [edgesL_cons] at he
    rw [kidsOf, Kids.binds, subOf_u, subOf_u']
    simp only [List.mem_cons, List.mem_append] at he ⊢
    rcases he with rfl | he | he
    · exact Or.inl rfl
    · exact Or.inr (Or.inr (Or.inl (iht e he)))
    · exact Or.inr (Or.inr (Or.inr (ihts k e he)))

/-- **The record along the tree is the record of the whole network.**  `N` well-formed with the nodes of the
well-formed tree `r` and as many bonds as `r` has edges, every edge `EdgeOK`: the doubled network of the WHOLE
of `N` has the value of the norm network along `r`. -/
theorem whole_norm_eq_tree (h : N.WF) (r : RTree) (hwr : r.WF) (hperm : N.ids.Perm (ids r))
    (hlen : N.bonds.length = (edges r).length) (hE : ∀ e ∈ edges r, EdgeOK dim cj N up dn e.1 e.2)
    (σ : Asg DL) :
    netValue (ddim dim) (wholeNormBinds N) (wholeNormLeaves cj N) σ =
      netValue (ddim dim) (centreOf cj N up dn r).normBinds ((ids r).flatMap (nodeLeaves cj N)) σ := by
  have hsubI : ∀ n ∈ ids r, n ∈ N.ids := fun n hn => hperm.mem_iff.2 hn
  obtain ⟨_, hLp, _⟩ := centre_canon_labels (cj := cj) (dim := dim) (up := up) (dn := dn) h r hwr hsubI hE
  have hLnd := hLp.nodup_iff.2 (allLabels_nodup h hwr hsubI)
  have hTp := (Centre.labels_perm (centreOf cj N up dn r)).symm
  have hTnd : (Expr.pairLegs (centreOf cj N up dn r).normBinds).Nodup := hTp.nodup_iff.2 hLnd
  have hlenW : (wholeNormBinds N).length ≤ (centreOf cj N up dn r).normBinds.length := by
    have h1 := wholeNormBinds_length h
    have h2 := (hTp.trans hLp).length_eq
    have h3 := (hperm.flatMap_right (dlegs N)).length_eq
    rw [pairLegs_length] at h2
    simp only [allLabels] at h1 h2
    omega
  have hbe := bond_is_edge (cj := cj) (dim := dim) (up := up) (dn := dn) h r hwr hE (Nat.le_of_eq hlen)
  have hkids : ∀ e ∈ edges r, ketPair up dn e ∈ (centreOf cj N up dn r).normBinds := by
    intro e he
    obtain ⟨c, ks⟩ := r
    rw [edges_node] at he
    exact List.mem_append_right _ ((tree_binds_edge cj N up dn).2 ks c e he)
  have hmem : ∀ x ∈ (centreOf cj N up dn r).normBinds,
      (∃ n ∈ ids r, ∃ l ∈ N.legs n, x = dbl l) ∨ (∃ e ∈ edges r, x = ketPair up dn e ∨ x = braPair up dn e) := by
    intro x hx
    obtain ⟨c, ks⟩ := r
    rw [ids_node, edges_node]
    simp only [Centre.normBinds, centreOf, rid, kids, List.mem_append] at hx
    rcases hx with hx | hx
    · obtain ⟨l, hl, rfl⟩ := mem_physOf hx
      exact Or.inl ⟨c, List.mem_cons_self, l, hl, rfl⟩
    · rcases (tree_binds_mem cj N up dn).2 ks c x hx with ⟨n, hn, l, hl, rfl⟩ | hr
      · exact Or.inl ⟨n, List.mem_cons_of_mem _ hn, l, hl, rfl⟩
      · exact Or.inr hr
  have hmain := sumPairs_orient_subset (R := R) (ddim dim) hTnd hlenW (by
      intro x hx
      rcases hmem x hx with ⟨n, hn, l, hl, rfl⟩ | ⟨e, he, hr⟩
      · left
        refine List.mem_append_left _ (List.mem_map_of_mem ?_)
        refine List.mem_filter.2 ⟨List.mem_flatMap.2 ⟨n, hsubI n hn, hl⟩, ?_⟩
        simp only [decide_eq_true_eq]
        intro hpl
        simp only [Expr.pairLegs, List.mem_append, List.mem_map] at hpl
        have : ∃ p ∈ N.bonds, l = p.1 ∨ l = p.2 := by
          rcases hpl with ⟨p, hp, rfl⟩ | ⟨p, hp, rfl⟩
          · exact ⟨p, hp, Or.inl rfl⟩
          · exact ⟨p, hp, Or.inr rfl⟩
        obtain ⟨p, hp, hlp⟩ := this
        obtain ⟨e, he, hpe⟩ := hbe p hp
        have hne : dbl l ≠ ketPair up dn e := fun e1 => DL.noConfusion (congrArg Prod.snd e1)
        -- `l` is an end of the bond of `e`, so `dbl l` and the ket copy of that bond share a leg
        have hd := pairLegs_disjoint hTnd hx (hkids e he) hne
        have hlp' := (ends_ne hpe l).2
          ⟨fun e1 => hd.2 (congrArg DL.ket e1), fun e1 => hd.1 (congrArg DL.ket e1)⟩
        exact hlp.elim hlp'.1 hlp'.2
      · obtain ⟨_, _, ⟨p, hp, hab, _, _⟩, _, _⟩ := hE e he
        have : (DL.ket p.1, DL.ket p.2) ∈ wholeNormBinds N ∧ (DL.bra p.1, DL.bra p.2) ∈ wholeNormBinds N :=
          ⟨List.mem_append_right _ (List.mem_flatMap.2 ⟨p, hp, List.mem_cons_self⟩),
            List.mem_append_right _ (List.mem_flatMap.2 ⟨p, hp, List.mem_cons_of_mem _ List.mem_cons_self⟩)⟩
        rcases hr with rfl | rfl <;> rcases hab with rfl | rfl
        · exact Or.inr this.1
        · exact Or.inl this.1
        · exact Or.inr this.2
        · exact Or.inl this.2) (by
      intro x hx
      rcases hmem x hx with ⟨n, hn, l, hl, rfl⟩ | ⟨e, he, hr⟩
      · rfl
      · obtain ⟨_, _, _, hd, _⟩ := hE e he
        rcases hr with rfl | rfl
        · exact hd
        · exact hd)
  exact (netValue_perm_leaves (ddim dim) _ (hperm.flatMap_right (nodeLeaves cj N)) σ).trans (hmain _ σ).symm

theorem edges_length (t : RTree) : (edges t).length + 1 = (ids t).length := by
  have h1 := congrArg List.length (edges_map_snd.1 t)
  rw [ids_eq_rid_cons]
  simp only [List.length_map, List.length_cons] at h1 ⊢
  omega

end

section
variable {dim : Nat → Nat} {cj : R → R}

/-- **A tree-shaped network canonical around `c` has the norm of its centre tensor.**  `t` a well-formed tree,
`c` one of its nodes, `N` a well-formed valued network with the nodes of `t`, as many bonds as `t` has edges, all
of one dimension, every node `n ≠ c` joined to the first node on its way to `c` and an isometry toward that
bond.  Then the doubled network of the whole of `N` has the value of `Σ C · conj C` over the legs of the centre
tensor alone. -/
theorem centre_norm_whole_of_canonical (t : RTree) (hwf : t.WF) (c : Nat) (hc : c ∈ ids t) {N : VNet R}
    (h : N.WF) (hids : N.ids.Perm (ids t)) (hlen : N.bonds.length = (edges t).length) (hbd : BondDims dim N)
    (hcan : ∀ n ∈ ids t, n ≠ c → ∃ v, firstHop t n c = some v ∧ IsoAt dim cj N n v) (σ : Asg DL) :
    netValue (ddim dim) (wholeNormBinds N) (wholeNormLeaves cj N) σ =
      netValue (ddim dim) ((N.legs c).map dbl) [ketT (N.tens c), braT cj (N.tens c)] σ := by
  obtain ⟨r, hr⟩ := (reroot_isSome c).1 t [] hc
  obtain ⟨hwr, hrid, hperm, hhop⟩ := firstHop_reroot hwf hr
  obtain ⟨up, dn, hE⟩ := edgeOK_of_isoAt dim cj hbd r hwr (isoAt_reroot hhop hcan)
  have hidsr : N.ids.Perm (ids r) := hids.trans hperm.symm
  have hsub : ∀ n ∈ ids r, n ∈ N.ids := fun n hn => hidsr.mem_iff.2 hn
  have hlenr : N.bonds.length = (edges r).length := by
    have h1 := edges_length t
    have h2 := edges_length r
    have h3 := hperm.length_eq
    omega
  rw [whole_norm_eq_tree (cj := cj) (dim := dim) (up := up) (dn := dn) h r hwr hidsr hlenr hE σ]
  have := centre_norm_of_tree (cj := cj) (dim := dim) (up := up) (dn := dn) h r hwr hsub hE σ
  rw [hrid, centreOf_normLeaves] at this
  exact this

end

/-- **After `canonical_form` the norm of the WHOLE network is the norm of the centre tensor alone.**  `t` a
well-formed tree, `c` one of its nodes, `N` a well-formed valued network of exactly the shape of `t`
(`TreeShaped`: the nodes of `t`, one bond per edge) whose bonds have one dimension.  After ANY run `N'` of the
operations of `canonical_form` with the full QR contract per step: `N'` is well-formed, represents the same
tensor, and the doubled network of the whole of `N'` - all its tensors and their conjugated copies, all its
bonds in both copies, all its open legs paired ket-with-bra - has the value of `Σ C · conj C` over the legs of
the centre tensor alone. -/
theorem canonical_form_centre_norm_whole (dim : Nat → Nat) (cj : R → R) (t : RTree) (hwf : t.WF) (c : Nat)
    (hc : c ∈ ids t) {N : VNet R} (h : N.WF) (hts : TreeShaped N t) (hbd : BondDims dim N) :
    ∃ dist : Dist, distanceToNode t c = some dist ∧
      ∀ N', IsoRun dim cj N (canonOps dist (nbrsOf t)) N' →
        N'.WF ∧ (∀ σ, N'.value dim σ = N.value dim σ) ∧
        ∀ σ, netValue (ddim dim) (wholeNormBinds N') (wholeNormLeaves cj N') σ =
          netValue (ddim dim) ((N'.legs c).map dbl) [ketT (N'.tens c), braT cj (N'.tens c)] σ := by
  obtain ⟨dist, hd, hrun⟩ := canonical_form_isometric_tree dim cj t hwf c hc h
  refine ⟨dist, hd, fun N' hrn => ?_⟩
  obtain ⟨hiso, hwf', hval, hbd', hids'⟩ := hrun N' hrn
  exact ⟨hwf', hval, fun σ => centre_norm_whole_of_canonical t hwf c hc hwf' (hids' ▸ hts.ids_perm)
    ((isoRun_bonds_length hrn).trans hts.bonds_len) (hbd' hbd) hiso σ⟩

end Ptn.C03
