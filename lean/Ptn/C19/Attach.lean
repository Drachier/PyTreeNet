import Ptn.Common.List
import Ptn.C19.Special
import Ptn.C19.PopInsert
/-! Networks grown by `add_child_to_parent`.  One call on a dictionary given as `ids.map f` yields `(ids ++ [cid]).map g`
(`gAddChild_closed`).  A network grown from a root by attachments at the parent's first open leg is determined by the
log of its operations (`closedG`), and one more attachment is an equation between closed forms (`attach_closed`).
Where the parent is a function of the child (`ParLog`), children and numbers of bound legs are read off the log. -/
namespace Ptn.C19

/-- one accepted attachment: new identifier, shape of its tensor, identifier of the parent -/
structure AOp (ι : Type) where
  cid : ι
  shape : List Nat
  pid : ι
deriving Repr, DecidableEq

variable {ι : Type} [DecidableEq ι]

def runOps (nodes : List (GNode ι)) (ops : List (AOp ι)) : Option (List (GNode ι)) :=
  ops.foldl (fun acc o => acc.bind fun ns => attachFirstOpen ns o.cid o.shape o.pid) (some nodes)

def parentOf (ops : List (AOp ι)) (i : ι) : Option ι := (ops.find? (fun o => decide (o.cid = i))).map (·.pid)

def childrenOf (ops : List (AOp ι)) (i : ι) : List ι := (ops.filter (fun o => decide (o.pid = i))).map (·.cid)

def shapeOf (r : ι) (rs : List Nat) (ops : List (AOp ι)) (i : ι) : List Nat :=
  if i = r then rs else ((ops.find? (fun o => decide (o.cid = i))).map (·.shape)).getD []

/-- the node `i` of the network grown from the root `r` (shape `rs`) by the operations `ops`:
    parent = the parent named when `i` was attached, children = the nodes attached to `i` in order,
    legs in the order of the array handed in, which therefore must be `(parent, children…, open…)` -/
def nodeG (r : ι) (rs : List Nat) (ops : List (AOp ι)) (i : ι) : GNode ι :=
  ⟨i, parentOf ops i, childrenOf ops i, List.range (shapeOf r rs ops i).length, shapeOf r rs ops i⟩

/-- dict order: the root, then the attached nodes in the order of the log -/
def idsG (r : ι) (ops : List (AOp ι)) : List ι := r :: ops.map (·.cid)

/-- the network grown from the root `r` (shape `rs`) by the operations `ops`, each at its parent's first open leg -/
def closedG (r : ι) (rs : List Nat) (ops : List (AOp ι)) : List (GNode ι) :=
  (idsG r ops).map (nodeG r rs ops)

/-- invariant of accepted logs: identifiers distinct, every parent was present before -/
def GoodLog (r : ι) (ops : List (AOp ι)) : Prop :=
  (idsG r ops).Nodup ∧ ∀ o ∈ ops, o.pid ∈ idsG r ops

/-! ### `add_child_to_parent` on a dictionary `ids.map f` -/

theorem gFind_map_id (ids : List ι) (f : ι → GNode ι) (hf : ∀ i, (f i).id = i) (j : ι) :
    gFind (ids.map f) j = if j ∈ ids then some (f j) else none := by
  unfold gFind
  induction ids with
  | nil => simp
  | cons a ids ih =>
    simp only [List.map_cons, List.find?_cons, hf, List.mem_cons]
    by_cases h : a = j
    · subst h; simp
    · have h'' : ¬ j = a := fun e => h e.symm
      simp only [h, decide_false, ih, h'', false_or]

omit [DecidableEq ι] in
theorem gtoChild_eq (x : GNode ι) (cid : ι) (h2 : x.nvirt < x.legs.length) :
    x.toChild cid x.nvirt = ⟨x.id, x.parent, x.children ++ [cid], x.legs, x.dims⟩ := by
  unfold GNode.toChild
  rw [popInsert_self _ _ h2]

theorem gAddChild_closed (ids : List ι) (f g : ι → GNode ι) (cid : ι) (shape : List Nat)
    (cleg : Nat) (pid : ι) (pleg : Nat)
    (hf : ∀ i, (f i).id = i) (hp : pid ∈ ids) (hc : cid ∉ ids)
    (h1 : cleg < shape.length) (h2 : (f pid).nvirt ≤ pleg) (h3 : pleg < (f pid).legs.length)
    (h4 : shape[cleg]? = (f pid).shapeAt pleg)
    (hg1 : ∀ i ∈ ids, g i = if i = pid then (f i).toChild cid pleg else f i)
    (hg2 : g cid = ⟨cid, some pid, [], popInsert (List.range shape.length) cleg 0, shape⟩) :
    gAddChild (ids.map f) cid shape cleg pid pleg = some ((ids ++ [cid]).map g) := by
  unfold gAddChild
  rw [gFind_map_id ids f hf, if_pos hp, gFind_map_id ids f hf, if_neg hc]
  simp only [Option.isSome_none, Bool.false_eq_true, if_false]
  rw [if_neg (by omega), if_neg (by omega), if_neg (by simp [h4])]
  congr 1
  rw [List.map_append, List.map_map]
  congr 1
  · apply List.map_congr_left
    intro i hi
    simp only [Function.comp, hf, hg1 i hi]
  · simp [hg2]

/-- One accepted `add_child_to_parent(Node(cid), tensor of shape `shape`, 0, pid, k)`: the checks it passed and the
    dictionary it leaves (in PyTreeNet's terms: `parent_leg_attach`). -/
theorem gAddChild_spec (nodes : List (GNode ι)) (cid : ι) (shape : List Nat) (pid : ι) (k : Nat)
    (ns : List (GNode ι)) (h : gAddChild nodes cid shape 0 pid k = some ns) :
    ∃ p, gFind nodes pid = some p ∧ gFind nodes cid = none ∧ 0 < shape.length ∧
      p.nvirt ≤ k ∧ k < p.legs.length ∧ shape[0]? = p.shapeAt k ∧
      ns = (nodes.map fun x => if x.id = pid then x.toChild cid k else x) ++
        [⟨cid, some pid, [], List.range shape.length, shape⟩] := by
  unfold gAddChild at h
  cases hp : gFind nodes pid with
  | none => rw [hp] at h; cases h
  | some p =>
    rw [hp] at h
    simp only at h
    cases hc : gFind nodes cid with
    | some c => rw [hc] at h; simp at h
    | none =>
      rw [hc] at h
      simp only [Option.isSome_none, Bool.false_eq_true, if_false] at h
      by_cases h1 : shape.length ≤ 0
      · rw [if_pos h1] at h; cases h
      rw [if_neg h1] at h
      by_cases h2 : k < p.nvirt ∨ p.legs.length ≤ k
      · rw [if_pos h2] at h; cases h
      rw [if_neg h2] at h
      by_cases h3 : shape[0]? ≠ p.shapeAt k
      · rw [if_pos h3] at h; cases h
      rw [if_neg h3] at h
      injection h with h
      refine ⟨p, rfl, rfl, by omega, by omega, by omega, by simpa using h3, ?_⟩
      rw [← h, popInsert_zero_zero]

theorem nodeG_id (r : ι) (rs : List Nat) (ops : List (AOp ι)) (i : ι) : (nodeG r rs ops i).id = i := rfl

omit [DecidableEq ι] in
theorem idsG_append (r : ι) (pre : List (AOp ι)) (o : AOp ι) :
    idsG r (pre ++ [o]) = idsG r pre ++ [o.cid] := by
  simp [idsG]

theorem find_cid_append (pre : List (AOp ι)) (o : AOp ι) (i : ι) (h : i ≠ o.cid) :
    (pre ++ [o]).find? (fun o' => decide (o'.cid = i)) = pre.find? (fun o' => decide (o'.cid = i)) := by
  rw [List.find?_append]
  have : ([o].find? fun o' => decide (o'.cid = i)) = none := by
    rw [List.find?_eq_none]
    intro x hx
    simp only [List.mem_cons, List.not_mem_nil, or_false] at hx
    subst hx
    simp only [decide_eq_true_eq]
    exact fun e => h e.symm
  rw [this, Option.or_none]

theorem find_cid_new (pre : List (AOp ι)) (o : AOp ι) (h : o.cid ∉ pre.map (·.cid)) :
    (pre ++ [o]).find? (fun o' => decide (o'.cid = o.cid)) = some o := by
  rw [List.find?_append]
  have : pre.find? (fun o' => decide (o'.cid = o.cid)) = none := by
    rw [List.find?_eq_none]
    intro x hx
    simp only [decide_eq_true_eq]
    intro e
    exact h (List.mem_map.2 ⟨x, hx, e⟩)
  rw [this]
  simp

theorem childrenOf_snoc (ops : List (AOp ι)) (o : AOp ι) (i : ι) :
    childrenOf (ops ++ [o]) i = childrenOf ops i ++ (if o.pid = i then [o.cid] else []) := by
  unfold childrenOf
  rw [List.filter_append, List.map_append]
  by_cases h : o.pid = i <;> simp [h]

theorem shapeOf_snoc (r : ι) (rs : List Nat) (pre : List (AOp ι)) (o : AOp ι) (hc : o.cid ∉ idsG r pre) (i : ι) :
    shapeOf r rs (pre ++ [o]) i = if i = o.cid then o.shape else shapeOf r rs pre i := by
  unfold shapeOf
  by_cases h : i = o.cid
  · rw [if_pos h, h, if_neg (fun (e : o.cid = r) => hc (e ▸ List.mem_cons_self)),
      find_cid_new pre o (fun e => hc (List.mem_cons_of_mem _ e))]
    rfl
  · rw [if_neg h, find_cid_append pre o i h]

theorem nodeG_shapeAt (r : ι) (rs : List Nat) (ops : List (AOp ι)) (i : ι) (k : Nat) :
    (nodeG r rs ops i).shapeAt k = (shapeOf r rs ops i)[k]? := by
  unfold GNode.shapeAt nodeG
  simp only
  by_cases h : k < (shapeOf r rs ops i).length
  · rw [List.getElem?_range h]; rfl
  · have e1 : (List.range (shapeOf r rs ops i).length)[k]? = none := by
      rw [List.getElem?_eq_none_iff, List.length_range]; omega
    have e2 : (shapeOf r rs ops i)[k]? = none := by
      rw [List.getElem?_eq_none_iff]; omega
    rw [e1, e2]; rfl

theorem nodeG_snoc_old (r : ι) (rs : List Nat) (pre : List (AOp ι)) (o : AOp ι) (i : ι) (h : i ≠ o.cid) :
    nodeG r rs (pre ++ [o]) i =
      { nodeG r rs pre i with children := (nodeG r rs pre i).children ++ if o.pid = i then [o.cid] else [] } := by
  unfold nodeG parentOf shapeOf
  rw [find_cid_append pre o i h, childrenOf_snoc]

theorem nodeG_snoc_new (r : ι) (rs : List Nat) (pre : List (AOp ι)) (o : AOp ι) (hg : GoodLog r pre)
    (hp : o.pid ∈ idsG r pre) (hc : o.cid ∉ idsG r pre) :
    nodeG r rs (pre ++ [o]) o.cid = ⟨o.cid, some o.pid, [], List.range o.shape.length, o.shape⟩ := by
  have hc' : o.cid ∉ pre.map (·.cid) := fun e => hc (List.mem_cons_of_mem _ e)
  have h2 : childrenOf (pre ++ [o]) o.cid = [] := by
    rw [childrenOf_snoc, if_neg (fun (e : o.pid = o.cid) => hc (e ▸ hp)), List.append_nil]
    unfold childrenOf
    rw [List.map_eq_nil_iff, List.filter_eq_nil_iff]
    intro o' ho'
    rw [decide_eq_true_eq]
    exact fun e => hc (e ▸ hg.2 o' ho')
  unfold nodeG parentOf
  rw [h2, shapeOf_snoc r rs pre o hc, if_pos rfl, find_cid_new pre o hc']
  rfl

omit [DecidableEq ι] in
theorem goodLog_snoc (r : ι) (pre : List (AOp ι)) (o : AOp ι) (hg : GoodLog r pre)
    (hp : o.pid ∈ idsG r pre) (hc : o.cid ∉ idsG r pre) : GoodLog r (pre ++ [o]) := by
  refine ⟨idsG_append r pre o ▸ nodup_snoc hg.1 hc, ?_⟩
  · intro o' ho'
    rw [idsG_append, List.mem_append]
    rcases List.mem_append.1 ho' with h' | h'
    · exact Or.inl (hg.2 o' h')
    · rw [List.mem_singleton] at h'
      exact Or.inl (h' ▸ hp)

/-- the equation the star and fork layer rests on: `star_step`, `fork_step` read it backwards (`attach_step`),
    `star_accept`, `fork_accept` forwards -/
theorem attach_closed (r : ι) (rs : List Nat) (pre : List (AOp ι)) (o : AOp ι) (hg : GoodLog r pre)
    (hp : o.pid ∈ idsG r pre) (hc : o.cid ∉ idsG r pre) (h1 : 0 < o.shape.length)
    (h2 : (nodeG r rs pre o.pid).nvirt < (shapeOf r rs pre o.pid).length)
    (h3 : o.shape[0]? = (shapeOf r rs pre o.pid)[(nodeG r rs pre o.pid).nvirt]?) :
    attachFirstOpen (closedG r rs pre) o.cid o.shape o.pid = some (closedG r rs (pre ++ [o])) := by
  have hlen : (nodeG r rs pre o.pid).nvirt < (nodeG r rs pre o.pid).legs.length := by
    show _ < (List.range _).length
    rw [List.length_range]; exact h2
  unfold attachFirstOpen
  rw [closedG, gFind_map_id _ _ (nodeG_id r rs pre), if_pos hp, closedG, idsG_append]
  refine gAddChild_closed (idsG r pre) (nodeG r rs pre) (nodeG r rs (pre ++ [o])) o.cid o.shape 0 o.pid _
    (nodeG_id r rs pre) hp hc h1 (Nat.le_refl _) hlen (by rw [nodeG_shapeAt]; exact h3) ?_ ?_
  · intro i hi
    rw [nodeG_snoc_old r rs pre o i (fun e => hc (e ▸ hi))]
    by_cases hip : i = o.pid
    · subst hip
      rw [if_pos rfl, if_pos rfl, gtoChild_eq _ _ hlen]
    · rw [if_neg hip, if_neg (fun e => hip e.symm), List.append_nil]
  · rw [nodeG_snoc_new r rs pre o hg hp hc, popInsert_zero_zero]

/-- an accepted attachment satisfied the side conditions of `attach_closed` (read off by `gAddChild_spec`) -/
theorem attach_step (r : ι) (rs : List Nat) (pre : List (AOp ι)) (o : AOp ι) (ns : List (GNode ι))
    (hg : GoodLog r pre)
    (h : attachFirstOpen (closedG r rs pre) o.cid o.shape o.pid = some ns) :
    ns = closedG r rs (pre ++ [o]) ∧ GoodLog r (pre ++ [o]) := by
  have h' := h
  unfold attachFirstOpen at h'
  rw [closedG, gFind_map_id _ _ (nodeG_id r rs pre)] at h'
  by_cases hp : o.pid ∈ idsG r pre
  · rw [if_pos hp] at h'
    obtain ⟨p, hp', hc, hs, _, hk, hd, _⟩ := gAddChild_spec _ _ _ _ _ ns h'
    rw [gFind_map_id _ _ (nodeG_id r rs pre), if_pos hp] at hp'
    injection hp' with hp'
    subst hp'
    rw [gFind_map_id _ _ (nodeG_id r rs pre)] at hc
    have hc' : o.cid ∉ idsG r pre := fun hc' => by rw [if_pos hc'] at hc; cases hc
    have hlen : (nodeG r rs pre o.pid).legs.length = (shapeOf r rs pre o.pid).length := List.length_range
    exact ⟨Option.some.inj (h.symm.trans (attach_closed r rs pre o hg hp hc' hs (hlen ▸ hk)
      (by rw [← nodeG_shapeAt]; exact hd))), goodLog_snoc r pre o hg hp hc'⟩
  · rw [if_neg hp] at h'; cases h'

/-- an attachment at the parent's first open leg is ACCEPTED when the parent is present, the new identifier is
    fresh, the new tensor has a leg 0, the parent has an open leg and the two dimensions agree (`attach_closed`
    without asking for `GoodLog`, hence without naming the result) -/
theorem attach_accept (r : ι) (rs : List Nat) (pre : List (AOp ι)) (cid pid : ι) (shape : List Nat)
    (hp : pid ∈ idsG r pre) (hc : cid ∉ idsG r pre) (h1 : 0 < shape.length)
    (h2 : (nodeG r rs pre pid).nvirt < (shapeOf r rs pre pid).length)
    (h3 : shape[0]? = (shapeOf r rs pre pid)[(nodeG r rs pre pid).nvirt]?) :
    ∃ ns, attachFirstOpen (closedG r rs pre) cid shape pid = some ns := by
  unfold attachFirstOpen
  rw [closedG, gFind_map_id _ _ (nodeG_id r rs pre), if_pos hp]
  exact ⟨_, gAddChild_closed (idsG r pre) (nodeG r rs pre)
    (fun i => if i = cid then ⟨cid, some pid, [], popInsert (List.range shape.length) 0 0, shape⟩
      else if i = pid then (nodeG r rs pre i).toChild cid (nodeG r rs pre pid).nvirt else nodeG r rs pre i)
    cid shape 0 pid _ (nodeG_id r rs pre) hp hc h1 (Nat.le_refl _)
    (by show _ < (List.range _).length; rw [List.length_range]; exact h2) (by rw [nodeG_shapeAt]; exact h3)
    (fun i hi => if_neg fun (e : i = cid) => hc (e ▸ hi)) (if_pos rfl)⟩

theorem closedG_nil (r : ι) (rs : List Nat) : closedG r rs [] = [rootNode r rs] := by
  simp [closedG, idsG, nodeG, parentOf, childrenOf, shapeOf, rootNode]

omit [DecidableEq ι] in
theorem goodLog_nil (r : ι) : GoodLog r ([] : List (AOp ι)) := by
  simp [GoodLog, idsG]

/-! ### runs of calls that may fail -/

theorem foldl_bind_none {α β : Type} (f : α → β → Option α) (l : List β) :
    l.foldl (fun acc x => acc.bind fun s => f s x) none = none := by
  rw [foldl_bind_eq_foldlM]; rfl

/-- a run of calls that may fail keeps an invariant indexed by the calls made so far, if every accepted
    call does -/
theorem foldl_bind_inv {σ α : Type} (f : σ → α → Option σ) (P : List α → σ → Prop)
    (step : ∀ done s a s', P done s → f s a = some s' → P (done ++ [a]) s') :
    ∀ (rest done : List α) (s s' : σ), P done s →
      rest.foldl (fun acc x => acc.bind fun s => f s x) (some s) = some s' → P (done ++ rest) s' :=
  fun rest done s s' hP h => foldlM_inv P (fun d a s s' => step d s a s') rest done s s' hP
    (by rwa [foldl_bind_eq_foldlM] at h)

/-- a run is simulated call by call: `φ` on states, `ψ` on calls, under an invariant `I` of the simulated run -/
theorem foldl_bind_sim {σ τ α β : Type} (f : σ → α → Option σ) (g : τ → β → Option τ) (φ : σ → τ)
    (ψ : α → β) (I : σ → Prop)
    (step : ∀ s a s', I s → f s a = some s' → g (φ s) (ψ a) = some (φ s') ∧ I s') :
    ∀ (l : List α) (s s' : σ), I s → l.foldl (fun acc x => acc.bind fun s => f s x) (some s) = some s' →
      (l.map ψ).foldl (fun acc x => acc.bind fun t => g t x) (some (φ s)) = some (φ s') ∧ I s' := by
  intro l
  induction l with
  | nil =>
    intro s s' hI h
    injection h with h
    rw [← h]
    exact ⟨rfl, hI⟩
  | cons x xs ih =>
    intro s s' hI h
    rw [List.foldl_cons, Option.bind_some] at h
    cases hs : f s x with
    | none => rw [hs, foldl_bind_none] at h; cases h
    | some s1 =>
      rw [hs] at h
      obtain ⟨h1, hI1⟩ := step s x s1 hI hs
      rw [List.map_cons, List.foldl_cons, Option.bind_some, h1]
      exact ih s1 s' hI1 h

theorem find_of_nodup (ops : List (AOp ι)) (hnd : (ops.map (·.cid)).Nodup) (o : AOp ι) (ho : o ∈ ops) :
    ops.find? (fun o' => decide (o'.cid = o.cid)) = some o :=
  find?_of_nodup_map (·.cid) hnd ho

omit [DecidableEq ι] in
theorem goodLog_cids_nodup {r : ι} {ops : List (AOp ι)} (hg : GoodLog r ops) :
    (ops.map (·.cid)).Nodup :=
  (List.nodup_cons.1 hg.1).2

omit [DecidableEq ι] in
theorem goodLog_root_fresh {r : ι} {ops : List (AOp ι)} (hg : GoodLog r ops) : r ∉ ops.map (·.cid) :=
  (List.nodup_cons.1 hg.1).1

theorem closed_parent {r : ι} {ops : List (AOp ι)} (hg : GoodLog r ops) (o : AOp ι) (ho : o ∈ ops) :
    parentOf ops o.cid = some o.pid := by
  unfold parentOf
  rw [find_of_nodup ops (goodLog_cids_nodup hg) o ho]
  rfl

theorem closed_shape {r : ι} (rs : List Nat) {ops : List (AOp ι)} (hg : GoodLog r ops) (o : AOp ι)
    (ho : o ∈ ops) : shapeOf r rs ops o.cid = o.shape := by
  have hne : o.cid ≠ r := fun e => goodLog_root_fresh hg (e ▸ List.mem_map.2 ⟨o, ho, rfl⟩)
  unfold shapeOf
  rw [if_neg hne, find_of_nodup ops (goodLog_cids_nodup hg) o ho]
  rfl

theorem closed_root {r : ι} {ops : List (AOp ι)} (hg : GoodLog r ops) : parentOf ops r = none := by
  unfold parentOf
  have : ops.find? (fun o' => decide (o'.cid = r)) = none := by
    rw [List.find?_eq_none]
    intro x hx
    rw [decide_eq_true_eq]
    exact fun e => goodLog_root_fresh hg (e ▸ List.mem_map.2 ⟨x, hx, rfl⟩)
  rw [this]
  rfl

theorem closed_root_shape (r : ι) (rs : List Nat) (ops : List (AOp ι)) : shapeOf r rs ops r = rs :=
  if_pos rfl

theorem childrenOf_nodup {r : ι} {ops : List (AOp ι)} (hg : GoodLog r ops) (i : ι) :
    (childrenOf ops i).Nodup := by
  unfold childrenOf
  exact List.Pairwise.sublist (List.Sublist.map _ List.filter_sublist) (goodLog_cids_nodup hg)

theorem closedG_ids (r : ι) (rs : List Nat) (ops : List (AOp ι)) : (closedG r rs ops).map (·.id) = idsG r ops := by
  rw [closedG, List.map_map]
  exact List.map_id'' (fun i => rfl) _

theorem mem_closedG (r : ι) (rs : List Nat) (ops : List (AOp ι)) (x : GNode ι) :
    x ∈ closedG r rs ops ↔ ∃ i ∈ idsG r ops, x = nodeG r rs ops i := by
  simp [closedG, List.mem_map, eq_comm]

/-! ### logs whose tree is known before the run -/

/-- holds of `starOps` and `forkOps` (`starPar`, `forkPar`): the tree is known before the run, so parents, children
    and numbers of bound legs are read off the log instead of being maintained -/
def ParLog (par : ι → ι) (ops : List (AOp ι)) : Prop := ∀ o ∈ ops, o.pid = par o.cid

theorem parLog_parent {par : ι → ι} {r : ι} {ops : List (AOp ι)} (hp : ParLog par ops) (hg : GoodLog r ops)
    {i : ι} (hi : i ∈ idsG r ops) (hne : i ≠ r) : parentOf ops i = some (par i) ∧ par i ∈ idsG r ops := by
  rcases List.mem_cons.1 hi with h | h
  · exact absurd h hne
  · obtain ⟨o, ho, rfl⟩ := List.mem_map.1 h
    rw [closed_parent hg o ho, hp o ho]
    exact ⟨rfl, hp o ho ▸ hg.2 o ho⟩

theorem parLog_children {par : ι → ι} {ops : List (AOp ι)} (hp : ParLog par ops) (i : ι) :
    childrenOf ops i = (ops.map (·.cid)).filter fun c => decide (par c = i) := by
  unfold childrenOf
  rw [List.filter_map]
  congr 1
  apply List.filter_congr
  intro o ho
  rw [Function.comp, hp o ho]

theorem parLog_only_child {par : ι → ι} {r : ι} {ops : List (AOp ι)} (hp : ParLog par ops) (hg : GoodLog r ops)
    (i a : ι) (hall : ∀ y, par y = i → y = a) (ha : par a = i) :
    childrenOf ops i = if a ∈ ops.map (·.cid) then [a] else [] := by
  have hmem : ∀ y, y ∈ childrenOf ops i ↔ y ∈ ops.map (·.cid) ∧ par y = i := by
    intro y; rw [parLog_children hp, List.mem_filter, decide_eq_true_eq]
  rcases nodup_all_eq (a := a) (childrenOf_nodup hg i) (fun y hy => hall y ((hmem y).1 hy).2) with h | h
  · rw [h, if_neg]
    intro hin
    have := (hmem a).2 ⟨hin, ha⟩
    rw [h] at this; cases this
  · rw [h, if_pos]
    exact ((hmem a).1 (h ▸ List.mem_singleton_self a)).1

/-- bound legs of a node of the closed form: one towards the parent unless it is the root, one per child; the
    children are the candidates `cands` (all `y` with `par y = i`) that have been attached -/
theorem parLog_nvirt {par : ι → ι} {r : ι} (rs : List Nat) {ops : List (AOp ι)} (hp : ParLog par ops)
    (hg : GoodLog r ops) {i : ι} (hi : i ∈ idsG r ops) (cands : List ι) (hc : cands.Nodup) (hr : r ∉ cands)
    (h : ∀ y ∈ ops.map (·.cid), par y = i ↔ y ∈ cands) :
    (nodeG r rs ops i).nvirt =
      (if i = r then 0 else 1) + cands.countP fun y => decide (y ∈ idsG r ops) := by
  have h1 : (parentOf ops i).isSome = true ↔ ¬ i = r := by
    by_cases e : i = r
    · rw [e, closed_root hg]; simp
    · rw [(parLog_parent hp hg hi e).1]; simp [e]
  have h2 : (childrenOf ops i).length = cands.countP fun y => decide (y ∈ idsG r ops) := by
    rw [parLog_children hp, ← List.countP_eq_length_filter,
      countP_of_cands (goodLog_cids_nodup hg) hc (fun y hy => by rw [decide_eq_true_eq]; exact h y hy)]
    apply List.countP_congr
    intro y hy
    have : y ≠ r := fun e => hr (e ▸ hy)
    simp [idsG, this]
  unfold GNode.nvirt
  show (if (parentOf ops i).isSome = true then 1 else 0) + (childrenOf ops i).length = _
  rw [h2]
  by_cases e : i = r
  · rw [if_neg (fun h' => h1.1 h' e), if_pos e]
  · rw [if_pos (h1.2 e), if_neg e]

theorem shapeOf_of_ops_shape {sh : ι → List Nat} {r : ι} {ops : List (AOp ι)}
    (hs : ∀ o ∈ ops, o.shape = sh o.cid) (hg : GoodLog r ops) {i : ι} (hi : i ∈ idsG r ops) :
    shapeOf r (sh r) ops i = sh i := by
  rcases List.mem_cons.1 hi with rfl | h
  · exact closed_root_shape _ _ _
  · obtain ⟨o, ho, rfl⟩ := List.mem_map.1 h
    rw [closed_shape _ hg o ho, hs o ho]

end Ptn.C19
