import Ptn.C19.Model
/-! Specification-side definitions for C19 (core Lean only): what the theorems of `Core.lean` and `Props.lean` compare
the model of the code against.  Nothing here is used by the driver. -/
namespace Ptn.C19

/-! ### Grid -/

def InGrid (rows cols : Nat) (c : Cell) : Prop := c.1 < rows ∧ c.2 < cols

instance (rows cols : Nat) (c : Cell) : Decidable (InGrid rows cols c) := by
  unfold InGrid; exact inferInstance

/-- Horizontally or vertically adjacent cells (distance one in exactly one coordinate). -/
def Adjacent (a b : Cell) : Prop :=
  (a.1 = b.1 ∧ (a.2 + 1 = b.2 ∨ b.2 + 1 = a.2)) ∨ (a.2 = b.2 ∧ (a.1 + 1 = b.1 ∨ b.1 + 1 = a.1))

instance (a b : Cell) : Decidable (Adjacent a b) := by
  unfold Adjacent; exact inferInstance

/-! ### Matrix-product chain: the specified structure -/

/-- parent of site `i` in the path graph `0 - 1 - … - (n-1)` rooted at `r` -/
def chainParent (r i : Nat) : Option Nat :=
  if i < r then some (i + 1) else if r < i then some (i - 1) else none

/-- children of site `i` (the root lists its left neighbour first) -/
def chainChildren (n r i : Nat) : List Nat :=
  if i < r then (if 0 < i then [i - 1] else [])
  else if r < i then (if i + 1 < n then [i + 1] else [])
  else (if 0 < r then [r - 1] else []) ++ (if r + 1 < n then [r + 1] else [])

/-- dict (insertion) order: the root, the sites to its left from right to left, the sites to its right -/
def chainOrder (n r : Nat) : List Nat :=
  r :: ((List.range r).reverse ++ List.range' (r + 1) (n - 1 - r))

/-- which axis of the input tensor of site `i` points to the neighbouring site `j` -/
def toward (i j : Nat) : Axis := if j < i then .left else .right

/-- the specified leg order of site `i`: the leg to the parent, the legs to the children, the open
    legs, each named by the axis of the input tensor `[left, right, open…]` it must be -/
def chainLegs (n r : Nat) (p : Nat → Nat) (i : Nat) : List Axis :=
  ((chainParent r i).toList ++ chainChildren n r i).map (toward i) ++ (List.range (p i)).map Axis.phys

/-! ### Trees -/

mutual
/-- identifiers of a tree (pre-order) -/
def RTree.ids : RTree → List Nat
  | .node i ks => i :: RTree.idsL ks
def RTree.idsL : List RTree → List Nat
  | [] => []
  | k :: ks => k.ids ++ RTree.idsL ks
end

mutual
/-- edges `(parent, child)` of a tree -/
def RTree.edges : RTree → List (Nat × Nat)
  | .node i ks => ks.map (fun k => (i, k.id)) ++ RTree.edgesL ks
def RTree.edgesL : List RTree → List (Nat × Nat)
  | [] => []
  | k :: ks => k.edges ++ RTree.edgesL ks
end

mutual
/-- the `TreeStructure` dict of a tree, `(identifier, children identifiers)`, in pre-order -/
def RTree.flat : RTree → List (Nat × List Nat)
  | .node i ks => (i, ks.map RTree.id) :: RTree.flatL ks
def RTree.flatL : List RTree → List (Nat × List Nat)
  | [] => []
  | k :: ks => k.flat ++ RTree.flatL ks
end

/-! ### `TTNO.from_tensor`: the specified result -/

/-- what the documentation promises for the node `t` (root of a subtree) with parent `par`: the
    reference tree's identifier, parent and children (in order), and a tensor whose legs are the bond to
    the parent, the bonds to the children in order, and the node's own two legs of the dense input
    (`leg_dict[id]` and `half + leg_dict[id]`) -/
def specNode (ld2 : Nat → List Nat) (par : Option Nat) (t : RTree) : FNode :=
  ⟨t.id, par, t.kids.map RTree.id,
   par.toList.map (fun q => Leg.bond q t.id) ++ t.kids.map (fun k => Leg.bond t.id k.id) ++
     (ld2 t.id).map Leg.ax⟩

mutual
/-- all nodes of the subtree in pre-order (the insertion order of the result) -/
def specNodes (ld2 : Nat → List Nat) : Option Nat → RTree → List FNode
  | par, .node i kids => specNode ld2 par (.node i kids) :: specNodesL ld2 i kids
def specNodesL (ld2 : Nat → List Nat) (i : Nat) : List RTree → List FNode
  | [] => []
  | k :: ks => specNodes ld2 (some i) k ++ specNodesL ld2 i ks
end

/-! ### Ising terms -/

/-- the field term `-1 · g · B_i` in the code's convention `(Fraction(-1), symbol, {site: operator})` -/
def fieldTerm {α : Type} (i : α) : Term α := ⟨-1, .extMagn, [(i, .B)]⟩
/-- the coupling term `-1 · J · A_i A_j` of the neighbour pair `e` -/
def couplingTerm {α : Type} (e : α × α) : Term α := ⟨-1, .coupling, [(e.1, .A), (e.2, .A)]⟩

end Ptn.C19
