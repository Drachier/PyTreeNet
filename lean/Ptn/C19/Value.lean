import Ptn.Common.EinsumNet
import Ptn.C19.ValueLabels
/-! Value level for `TTNO.from_tensor` (helper definitions and lemmas for `from_tensor_value`).

`from_tensor_legs` says WHICH legs `_from_tensor_rec` splits off at which node.  Here the recursion is run on a
flat labelled tensor network (`Ptn.Ein.netValue`): it starts from one leaf - the dense input tensor, one label
`ax k` per axis of the INPUT (so the initial `np.transpose` is the identity on the function) - and every pass of
the `for child_id` loop replaces the current tensor of the node by two factors `Q`, `R` joined by a fresh bond,
GIVEN the contract of the external factorisation of that pass (`Q·R` contracts to the tensor that was split, `Q`
and `R` have the axes the leg model `splitChild` computes).  `RecRun` / `KidsRun` are literally
`fromTensorRec` / `fromTensorKids` with values attached. -/
namespace Ptn.C19

open Ptn.Ein

section
variable {R : Type} [CommSemiring R]

mutual
/-- `_from_tensor_rec` on the subtree `t` whose root currently holds the tensor `A` with legs `legs`: `out` are
the final node tensors of the subtree in dict order (`fromTensorRec` with values) -/
def RecRun (dim : VLeg → Nat) : RTree → Option Nat → List Leg → (Asg VLeg → R) → List (Asg VLeg → R) → Prop
  | .node i kids, par, legs, A, out =>
    ∃ fin subs, KidsRun dim i kids legs (if par.isSome then 1 else 0) A fin subs ∧ out = fin :: subs
/-- the `for child_id` loop (`fromTensorKids` with values): `curV` is the node's current tensor, `fin` its final
one, `subs` the final tensors of the children's subtrees.  One pass: SOME pair `Q`, `Rm` with the axes the leg
model computes (`splitChild`) that contracts over the new bond to the tensor that was split - the contract of
`tensor_qr_decomposition` / `tensor_svd` (+ `diag(S)·Vh`) / `truncated_tensor_svd` without truncation. -/
def KidsRun (dim : VLeg → Nat) (i : Nat) :
    List RTree → List Leg → Nat → (Asg VLeg → R) → (Asg VLeg → R) → List (Asg VLeg → R) → Prop
  | [], _, _, curV, fin, subs => fin = curV ∧ subs = []
  | c :: cs, cur, nv, curV, fin, subs =>
    ∃ (Q Rm : Asg VLeg → R) (sub rest : List (Asg VLeg → R)),
      (∀ τ, curV τ = sumPairs dim [bondPair (i, c.id)] (fun ρ => Q ρ * Rm ρ) τ) ∧
      DependsOn (· ∈ (splitChild i cur nv c).1.map (vleg i)) Q ∧
      DependsOn (· ∈ (splitChild i cur nv c).2.map (vleg c.id)) Rm ∧
      RecRun dim c (some i) (splitChild i cur nv c).2 Rm sub ∧
      KidsRun dim i cs (splitChild i cur nv c).1 (nv + 1) Q fin rest ∧
      subs = sub ++ rest
end

/-- a value-level run of `TTNO.from_tensor(reference_tree, tensor, leg_dict, mode)`: the recursion is started on
the transposed input `A` (labels: `ax k` = axis `k` of the tensor handed in, so the transposition by
`_get_qr_decomposition_shape` only fixes the ORDER in which the leg model lists the axes) and ends with the node
tensors `out` in dict order -/
def FromTensorRun (dim : VLeg → Nat) (t : RTree) (ld : Nat → Nat) (A : Asg VLeg → R)
    (out : List (Asg VLeg → R)) : Prop :=
  RecRun dim t none ((qrShape (fun i => [ld i, t.size + ld i]) t []).map Leg.ax) A out

/-- the tensor `f` reads only the legs the leg model lists for the node `x` -/
def LocalTo (x : FNode) (f : Asg VLeg → R) : Prop := DependsOn (· ∈ x.legs.map (vleg x.id)) f

/-- no label satisfying `S` belongs to an edge whose child end is in `ids` -/
def Avoids (ids : List Nat) (S : VLeg → Prop) : Prop := ∀ l, S l → ∀ c ∈ ids, l.child ≠ some c

/-- the order of the leaf tensors is irrelevant -/
theorem netValue_perm_leaves {L : Type} [DecidableEq L] (dim : L → Nat) (bs : List (L × L))
    {l₁ l₂ : List (Asg L → R)} (h : l₁.Perm l₂) (σ : Asg L) :
    netValue dim bs l₁ σ = netValue dim bs l₂ σ :=
  Ptn.Ein.netValue_perm_leaves dim bs h σ

theorem forall₂_append {α β : Type} {P : α → β → Prop} {a₁ a₂ : List α} {b₁ b₂ : List β}
    (h₁ : List.Forall₂ P a₁ b₁) (h₂ : List.Forall₂ P a₂ b₂) : List.Forall₂ P (a₁ ++ a₂) (b₁ ++ b₂) := by
  induction h₁ with
  | nil => exact h₂
  | cons h _ ih => exact List.Forall₂.cons h ih

theorem forall₂_mem_right {α β : Type} {P : α → β → Prop} {a : List α} {b : List β}
    (h : List.Forall₂ P a b) : ∀ y ∈ b, ∃ x ∈ a, P x y := by
  induction h with
  | nil => intro y hy; cases hy
  | cons h _ ih =>
    intro y hy
    rcases List.mem_cons.1 hy with rfl | hy
    · exact ⟨_, List.mem_cons_self, h⟩
    · obtain ⟨x, hx, hp⟩ := ih y hy
      exact ⟨x, List.mem_cons_of_mem _ hx, hp⟩

end

end Ptn.C19
