import Ptn.Common.EinsumNet
import Ptn.C19.Mps
import Ptn.C19.ValueModel
/-! Value level for `MatrixProductTree.from_tensor_list` (helper definitions and lemmas for `mps_chain_value`;
the final state and its binding record, where no tensor value occurs, are at the end of `Mps.lean`).

Labels: `(site, axis name)` - the axis `left` / `right` / `phys k` of the INPUT tensor of the site.  The library
stores the input array and a leg permutation (`MNode.legs`); the node tensor it works with is the input transposed
by that permutation, its `k`-th logical leg is the input axis `legs[k]`, and the network binds the parent's leg
`neighbour_index(child)` to the child's leg `0`. -/
namespace Ptn.C19

open Ptn.Ein

section
variable {R : Type} [CommSemiring R]

/-- the input tensor of site `i` (a function of the index list in the order `[left, right, open…]`) as a
labelled tensor -/
def siteLeaf (n : Nat) (p : Nat → Nat) (T : Nat → List Nat → R) (i : Nat) : Asg CLeg → R :=
  fun σ => T i ((List.range (nlegsIn n p i)).map fun a => σ (i, axisName n i a))

/-- the node tensor as the library holds it: the input array transposed by the node's leg permutation
(`N[j₀, j₁, …] = T[idx]` with `idx[legs[k]] = j_k`), its `k`-th leg labelled `lab k` -/
def modelLeaf (n : Nat) (T : Nat → List Nat → R) (x : MNode) : Asg CLeg → R :=
  fun σ => T x.id ((List.range x.legs.length).map fun a => σ (x.lab n (x.legs.idxOf a)))

end

section
variable {R : Type} [CommSemiring R]

omit [CommSemiring R] in
/-- in every rooting the node tensor the library holds IS the input tensor of the site (as a labelled tensor):
the leg permutation only permutes axes -/
theorem modelLeaf_final (n r : Nat) (p : Nat → Nat) (T : Nat → List Nat → R) (i : Nat) (hr : r < n) :
    modelLeaf n T (nodeAt n r p 0 (n - 1) i) = siteLeaf n p T i := by
  funext σ
  unfold modelLeaf siteLeaf
  show T i ((List.range (legsOf n r p i).length).map _) = _
  rw [legsOf_length n r p i hr]
  congr 1
  apply List.map_congr_left
  intro a ha
  congr 1
  unfold MNode.lab
  show (i, ((legsOf n r p i).map (axisName n i)).getD ((legsOf n r p i).idxOf a) Axis.left) = _
  rw [getD_map_idxOf _ _ (mem_legsOf n r p i a hr (List.mem_range.1 ha))]

end

theorem chainRecord_eq (n : Nat) : chainRecord n = (List.range (n - 1)).map chainPair := rfl

theorem chainRecord_nodup (n : Nat) : (Expr.pairLegs (chainRecord n)).Nodup := by
  rw [chainRecord_eq]
  simp only [Expr.pairLegs, List.map_map]
  rw [List.nodup_append]
  refine ⟨?_, ?_, ?_⟩
  · refine List.Nodup.map_on ?_ List.nodup_range
    intro a _ b _ h
    simpa [chainPair] using h
  · refine List.Nodup.map_on ?_ List.nodup_range
    intro a _ b _ h
    simpa [chainPair] using h
  · intro x hx y hy hxy
    obtain ⟨a, _, rfl⟩ := List.mem_map.1 hx
    obtain ⟨b, _, rfl⟩ := List.mem_map.1 hy
    simp [chainPair] at hxy

section
variable {R : Type} [CommSemiring R]

/-- the record of the rooted network sums like the chain record: orientation (equal dimensions) and order
(Fubini) are irrelevant -/
theorem chain_record_value (n r : Nat) (hr : r < n) (dim : CLeg → Nat)
    (hd : ∀ i, i + 1 < n → dim (i, Axis.right) = dim (i + 1, Axis.left)) (f : Asg CLeg → R) (σ : Asg CLeg) :
    sumPairs dim ((idsAt r 0 (n - 1)).tail.map (recPair r)) f σ = sumPairs dim (chainRecord n) f σ := by
  rw [idsAt_tail_pairs, sumPairs_append, sumPairs_orient, ← sumPairs_append]
  · have hp : ((List.range r).reverse.map chainPair ++ (List.range' r (n - 1 - r)).map chainPair).Perm
        (chainRecord n) := by
      rw [chainRecord_eq, ← List.map_append]
      apply List.Perm.map
      have e : n - 1 = r + (n - 1 - r) := by omega
      conv => rhs; rw [e]
      rw [List.range_add, ← List.range'_eq_map_range]
      exact List.Perm.append_right _ (List.reverse_perm _)
    have hn : (Expr.pairLegs ((List.range r).reverse.map chainPair ++
        (List.range' r (n - 1 - r)).map chainPair)).Nodup :=
      (pairLegs_perm hp).nodup_iff.2 (chainRecord_nodup n)
    exact sumPairs_perm dim hp hn f σ
  · intro q hq
    obtain ⟨i, hi, rfl⟩ := List.mem_map.1 hq
    have : i < r := by simpa using hi
    exact hd i (by omega)

theorem chain_value (n r : Nat) (p : Nat → Nat) (hr : r < n) (hn : 2 ≤ n) (dim : CLeg → Nat)
    (hd : ∀ i, i + 1 < n → dim (i, Axis.right) = dim (i + 1, Axis.left)) (T : Nat → List Nat → R)
    (σ : Asg CLeg) :
    netValue dim (stRecord n (stateAt n r p 0 (n - 1)))
        ((stateAt n r p 0 (n - 1)).nodes.map (modelLeaf n T)) σ =
      netValue dim (chainRecord n) ((List.range n).map (siteLeaf n p T)) σ := by
  rw [stRecord_final n r p hr]
  have hl : (stateAt n r p 0 (n - 1)).nodes.map (modelLeaf n T) =
      (idsAt r 0 (n - 1)).map (siteLeaf n p T) := by
    show ((idsAt r 0 (n - 1)).map _).map _ = _
    rw [List.map_map]
    apply List.map_congr_left
    intro i _
    exact modelLeaf_final n r p T i hr
  rw [hl, netValue_perm_leaves dim _ ((idsAt_perm_range n r hr).map _)]
  unfold netValue
  exact chain_record_value n r hr dim hd _ σ

end

end Ptn.C19
