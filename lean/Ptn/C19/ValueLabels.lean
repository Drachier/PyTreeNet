import Ptn.C19.FromTensor
/-! Labels of the flat network on which `_from_tensor_rec` is run at the value level, the binding record in the order
in which the recursion creates the bonds, and what the leg model `specNodes` says in terms of these labels. -/
namespace Ptn.C19

/-- labels of the flat network: an axis of the dense input, or one of the two ends of the bond created when
`c` was split off `p` -/
inductive VLeg where
  | ax (k : Nat)
  | pEnd (p c : Nat)
  | cEnd (p c : Nat)
deriving Repr, DecidableEq

/-- the label of the leg `l` of the leg model as seen from the node `owner` -/
def vleg (owner : Nat) : Leg → VLeg
  | .ax k => .ax k
  | .bond p c => if owner = p then .pEnd p c else .cEnd p c

/-- the child end of the edge a label belongs to (an edge is identified by its child) -/
def VLeg.child : VLeg → Option Nat
  | .ax _ => none
  | .pEnd _ c => some c
  | .cEnd _ c => some c

def Leg.child : Leg → Option Nat
  | .ax _ => none
  | .bond _ c => some c

theorem vleg_child (o : Nat) (l : Leg) : (vleg o l).child = l.child := by
  cases l with
  | ax k => rfl
  | bond p c => simp only [vleg]; split <;> rfl

/-- the bond of the tree edge `(p, c)`: parent end first -/
def bondPair (e : Nat × Nat) : VLeg × VLeg := (.pEnd e.1 e.2, .cEnd e.1 e.2)

mutual
/-- the binding record in the order in which the recursion creates the bonds -/
def treeBonds : RTree → List (VLeg × VLeg)
  | .node i ks => kidsBonds i ks
def kidsBonds (i : Nat) : List RTree → List (VLeg × VLeg)
  | [] => []
  | c :: cs => bondPair (i, c.id) :: (treeBonds c ++ kidsBonds i cs)
end

theorem ids_eq (c : RTree) : c.ids = c.id :: RTree.idsL c.kids := by
  cases c with
  | node j js => rfl

theorem id_mem_idsL (ks : List RTree) (k : RTree) (hk : k ∈ ks) : k.id ∈ RTree.idsL ks := by
  induction ks with
  | nil => cases hk
  | cons c cs ih =>
    rcases List.mem_cons.1 hk with rfl | hk
    · refine List.mem_append_left _ ?_
      rw [ids_eq]
      exact List.mem_cons_self
    · exact List.mem_append_right _ (ih hk)

theorem specNodes_child_both (ld2 : Nat → List Nat) :
    (∀ (t : RTree) (par : Option Nat), ∀ x ∈ specNodes ld2 par t, ∀ l ∈ x.legs,
      l.child = none ∨ ∃ d ∈ t.ids, l.child = some d) ∧
    ∀ (ks : List RTree) (i : Nat), ∀ x ∈ specNodesL ld2 i ks, ∀ l ∈ x.legs,
      l.child = none ∨ ∃ d ∈ RTree.idsL ks, l.child = some d := by
  apply RTree.both
  · intro i kids ih par x hx l hl
    simp only [specNodes, List.mem_cons] at hx
    rcases hx with rfl | hx
    · simp only [specNode, RTree.id, RTree.kids, List.mem_append, List.mem_map] at hl
      rcases hl with (⟨q, _, rfl⟩ | ⟨k, hk, rfl⟩) | ⟨a, _, rfl⟩
      · exact Or.inr ⟨i, List.mem_cons_self, rfl⟩
      · exact Or.inr ⟨k.id, List.mem_cons_of_mem _ (id_mem_idsL kids k hk), rfl⟩
      · exact Or.inl rfl
    · exact (ih i x hx l hl).imp_right fun ⟨d, hd, h⟩ => ⟨d, List.mem_cons_of_mem _ hd, h⟩
  · intro i x hx
    simp [specNodesL] at hx
  · intro k ks ihk ihks i x hx l hl
    simp only [specNodesL, List.mem_append] at hx
    rcases hx with hx | hx
    · exact (ihk (some i) x hx l hl).imp_right fun ⟨d, hd, h⟩ => ⟨d, List.mem_append_left _ hd, h⟩
    · exact (ihks i x hx l hl).imp_right fun ⟨d, hd, h⟩ => ⟨d, List.mem_append_right _ hd, h⟩

theorem specNodes_child (ld2 : Nat → List Nat) (par : Option Nat) (t : RTree) :
    ∀ x ∈ specNodes ld2 par t, ∀ l ∈ x.legs, l.child = none ∨ ∃ d ∈ t.ids, l.child = some d :=
  (specNodes_child_both ld2).1 t par

theorem specNodesL_child (ld2 : Nat → List Nat) (i : Nat) (ks : List RTree) :
    ∀ x ∈ specNodesL ld2 i ks, ∀ l ∈ x.legs, l.child = none ∨ ∃ d ∈ RTree.idsL ks, l.child = some d :=
  (specNodes_child_both ld2).2 ks i

theorem nodup_idsL_cons {c : RTree} {cs : List RTree} {i : Nat} (h : (i :: RTree.idsL (c :: cs)).Nodup) :
    c.ids.Nodup ∧ (i :: RTree.idsL cs).Nodup ∧ i ∉ c.ids ∧ (∀ d ∈ c.ids, d ∉ RTree.idsL cs) := by
  simp only [RTree.idsL, List.nodup_cons, List.mem_append, not_or, List.nodup_append] at h
  obtain ⟨⟨h1, h2⟩, h3, h4, h5⟩ := h
  exact ⟨h3, List.nodup_cons.2 ⟨h2, h4⟩, h1, fun d hd hd' => h5 d hd d hd' rfl⟩


theorem treeBonds_perm : (∀ t : RTree, (treeBonds t).Perm (t.edges.map bondPair)) ∧
    ∀ (ks : List RTree) (i : Nat),
      (kidsBonds i ks).Perm ((ks.map (fun k => (i, k.id)) ++ RTree.edgesL ks).map bondPair) := by
  apply RTree.both
  · intro i ks ih
    simpa [treeBonds, RTree.edges] using ih i
  · intro i
    simp [kidsBonds, RTree.edgesL]
  · intro c cs h1 ih i
    have h2 := ih i
    simp only [kidsBonds, RTree.edgesL, List.map_cons, List.map_append, List.cons_append] at h2 ⊢
    refine List.Perm.cons _ ((List.Perm.append h1 h2).trans ?_)
    rw [← List.append_assoc, ← List.append_assoc]
    exact List.Perm.append_right _ List.perm_append_comm

theorem kidsBonds_perm (i : Nat) (ks : List RTree) :
    (kidsBonds i ks).Perm ((ks.map (fun k => (i, k.id)) ++ RTree.edgesL ks).map bondPair) :=
  treeBonds_perm.2 ks i

theorem edges_snd_perm : (∀ t : RTree, (t.edges.map (·.2)).Perm (RTree.idsL t.kids)) ∧
    ∀ (ks : List RTree) (i : Nat),
      ((ks.map (fun k => (i, k.id)) ++ RTree.edgesL ks).map (·.2)).Perm (RTree.idsL ks) := by
  apply RTree.both
  · intro i ks ih
    simpa [RTree.edges, RTree.kids] using ih i
  · intro i
    simp [RTree.edgesL, RTree.idsL]
  · intro c cs h1 ih i
    have h2 := ih i
    simp only [RTree.edgesL, RTree.idsL, List.map_cons, List.map_append, List.cons_append] at h2 ⊢
    rw [ids_eq c, List.cons_append]
    refine List.Perm.cons _ (List.Perm.trans ?_ (List.Perm.append h1 h2))
    rw [← List.append_assoc, ← List.append_assoc]
    exact List.Perm.append_right _ List.perm_append_comm

theorem edgesL_snd_perm (i : Nat) (ks : List RTree) :
    ((ks.map (fun k => (i, k.id)) ++ RTree.edgesL ks).map (·.2)).Perm (RTree.idsL ks) :=
  edges_snd_perm.2 ks i

theorem specNodes_vlegs (ld2 : Nat → List Nat) :
    (∀ (t : RTree) (par : Option Nat), t.ids.Nodup → (∀ q ∈ par, q ∉ t.ids) →
      ∀ x ∈ specNodes ld2 par t, x.legs.map (vleg x.id) =
        x.parent.toList.map (fun q => VLeg.cEnd q x.id) ++ x.children.map (fun k => VLeg.pEnd x.id k) ++
          (ld2 x.id).map VLeg.ax) ∧
    ∀ (ks : List RTree) (i : Nat), (i :: RTree.idsL ks).Nodup →
      ∀ x ∈ specNodesL ld2 i ks, x.legs.map (vleg x.id) =
        x.parent.toList.map (fun q => VLeg.cEnd q x.id) ++ x.children.map (fun k => VLeg.pEnd x.id k) ++
          (ld2 x.id).map VLeg.ax := by
  apply RTree.both
  · intro i kids ih par hnd hpar x hx
    simp only [specNodes, List.mem_cons] at hx
    rcases hx with rfl | hx
    · have hq : ∀ q ∈ par, i ≠ q := by
        intro q hq e
        exact hpar q hq (by simp [RTree.ids, e])
      cases par with
      | none => simp [specNode, RTree.id, RTree.kids, vleg, Function.comp_def]
      | some q =>
        have := hq q rfl
        simp [specNode, RTree.id, RTree.kids, vleg, Function.comp_def, this]
    · exact ih i hnd x hx
  · intro i _ x hx
    simp [specNodesL] at hx
  · intro c cs ihc ihcs i hnd x hx
    obtain ⟨hndc, hndcs, hic, _⟩ := nodup_idsL_cons hnd
    simp only [specNodesL, List.mem_append] at hx
    rcases hx with hx | hx
    · exact ihc (some i) hndc (by intro q hq; cases hq; exact hic) x hx
    · exact ihcs i hndcs x hx

theorem specNodesL_vlegs (ld2 : Nat → List Nat) (i : Nat) (ks : List RTree) (hnd : (i :: RTree.idsL ks).Nodup) :
    ∀ x ∈ specNodesL ld2 i ks, x.legs.map (vleg x.id) =
      x.parent.toList.map (fun q => VLeg.cEnd q x.id) ++ x.children.map (fun k => VLeg.pEnd x.id k) ++
        (ld2 x.id).map VLeg.ax :=
  (specNodes_vlegs ld2).2 ks i hnd

end Ptn.C19
