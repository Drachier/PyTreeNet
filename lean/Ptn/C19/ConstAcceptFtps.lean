import Ptn.C19.ConstAcceptFork
/-! Invariant of the calls of `constant_ftps` and one accepted step (helper lemmas towards `ftps_structure`).  The
tables of `FtInv` are a function of the log (`ftInv_iff`: every tensor has the shape `ftShape` of its identifier);
a tensor is `ftBonds` bond legs of dimension `bd` and one physical leg, and a call is accepted because its parent has
fewer neighbours than bond legs (`ft_parent_open`). -/
namespace Ptn.C19

def ftMainShape (d h bd k : Nat) : List Nat := if k = 0 ∨ k = h - 1 then [bd, bd, d] else [bd, bd, bd, d]
def ftSubShape (d w bd j : Nat) : List Nat := if j = w - 2 then [bd, d] else [bd, bd, d]

/-- what the closed form says about a state reached by calls of `constant_ftps`: number of bound legs and shape of
    every node.  `ft_step_accept` reads the two `nvirt` fields (through `ft_parent_open`); the two shape fields serve only to
    recover the shapes of the log.  All four are determined by the log (`ftInv_iff`), which is how `ft_step`
    re-establishes them. -/
structure FtInv (d w h bd : Nat) (done : List ForkCall) (st : Fork) : Prop where
  inv : ForkInv [bd, bd, d] done st
  hM : cntM done < h
  nvM : ∀ k, k ≤ cntM done → (nodeG (ForkId.main 0) [bd, bd, d] (forkOps done) (ForkId.main k)).nvirt =
    (if k = 0 then 0 else 1) + (if k < cntM done then 1 else 0) + (if 0 < cntS done k then 1 else 0)
  shM : ∀ k, k ≤ cntM done →
    shapeOf (ForkId.main 0) [bd, bd, d] (forkOps done) (ForkId.main k) = ftMainShape d h bd k
  nvS : ∀ i j, j < cntS done i → (nodeG (ForkId.main 0) [bd, bd, d] (forkOps done) (ForkId.sub i j)).nvirt =
    1 + (if j + 1 < cntS done i then 1 else 0)
  shS : ∀ i j, j < cntS done i →
    shapeOf (ForkId.main 0) [bd, bd, d] (forkOps done) (ForkId.sub i j) = ftSubShape d w bd j

/-- the calls `constant_ftps` may make next -/
def FtOK (d w h bd : Nat) (done : List ForkCall) : ForkCall → Prop
  | .main sh => sh = ftMainShape d h bd (cntM done + 1) ∧ cntM done + 1 < h
  | .sub i sh => sh = ftSubShape d w bd (cntS done i) ∧ i ≤ cntM done ∧ cntS done i + 1 < w

def ftShape (d w h bd : Nat) : ForkId → List Nat
  | .main k => ftMainShape d h bd k
  | .sub _ j => ftSubShape d w bd j

theorem ftOK_shape {d w h bd : Nat} {done : List ForkCall} {x : ForkCall} (hx : FtOK d w h bd done x) :
    (forkOp done x).shape = ftShape d w h bd (forkOp done x).cid := by
  cases x with
  | main sh => exact hx.1
  | sub i sh => exact hx.1

theorem ftInv_iff {d w h bd : Nat} {done : List ForkCall} {st : Fork} :
    FtInv d w h bd done st ↔ ForkInv [bd, bd, d] done st ∧ cntM done < h ∧
      ∀ o ∈ forkOps done, o.shape = ftShape d w h bd o.cid := by
  constructor
  · intro hinv
    refine ⟨hinv.inv, hinv.hM, fun o ho => ?_⟩
    have hmem : o.cid ∈ idsG (ForkId.main 0) (forkOps done) := List.mem_cons_of_mem _ (List.mem_map.2 ⟨o, ho, rfl⟩)
    rw [← closed_shape [bd, bd, d] hinv.inv.2.1 o ho]
    generalize o.cid = y at hmem ⊢
    cases y with
    | main k => exact hinv.shM k ((fork_main_mem_ids done k).1 hmem)
    | sub i j => exact hinv.shS i j ((fork_sub_mem_ids done i j).1 hmem)
  · rintro ⟨hinv, hM, hsh⟩
    have hg := hinv.2.1
    have h0 : ftShape d w h bd (.main 0) = [bd, bd, d] := by simp [ftShape, ftMainShape]
    exact ⟨hinv, hM, fun k hk => fork_nvirt_main _ done hg k hk,
      fun k hk => h0 ▸ shapeOf_of_ops_shape hsh hg ((fork_main_mem_ids done k).2 hk),
      fun i j hj => fork_nvirt_sub _ done hg i j hj,
      fun i j hj => h0 ▸ shapeOf_of_ops_shape hsh hg ((fork_sub_mem_ids done i j).2 hj)⟩

/-- a tensor whose first `n` legs are bonds of dimension `b`: any of them can take an attachment -/
theorem bonds_get (n b : Nat) (t : List Nat) (k : Nat) (hk : k < n) :
    k < (List.replicate n b ++ t).length ∧ (List.replicate n b ++ t)[k]? = some b := by
  have : k < (List.replicate n b).length := by rw [List.length_replicate]; exact hk
  refine ⟨by rw [List.length_append]; omega, ?_⟩
  rw [List.getElem?_append_left this, List.getElem?_replicate, if_pos hk]

/-- number of bond legs that `constant_ftps` gives the tensor of a node -/
def ftBonds (w h : Nat) : ForkId → Nat
  | .main k => if k = 0 ∨ k = h - 1 then 2 else 3
  | .sub _ j => if j = w - 2 then 1 else 2

theorem ftShape_eq (d w h bd : Nat) (y : ForkId) :
    ftShape d w h bd y = List.replicate (ftBonds w h y) bd ++ [d] := by
  cases y <;> simp only [ftShape, ftBonds, ftMainShape, ftSubShape] <;> split <;> rfl

theorem ftBonds_pos (w h : Nat) (y : ForkId) : 0 < ftBonds w h y := by
  cases y <;> simp only [ftBonds] <;> split <;> omega

theorem ftBonds_main_open (w h k c s : Nat) (hk : k ≤ c) (hc : c < h) (h0 : (k = c ∧ c + 1 < h) ∨ s = 0) :
    (if k = 0 then 0 else 1) + (if k < c then 1 else 0) + (if 0 < s then 1 else 0) < ftBonds w h (.main k) := by
  have e1 : (if k = 0 then 0 else 1) ≤ 1 := by split <;> omega
  have e2 : (if k < c then 1 else 0) ≤ 1 := by split <;> omega
  have e3 : (if 0 < s then 1 else 0) ≤ 1 := by split <;> omega
  show _ < if k = 0 ∨ k = h - 1 then 2 else 3
  by_cases hb : k = 0 ∨ k = h - 1
  · rw [if_pos hb]
    rcases h0 with ⟨rfl, h1⟩ | rfl
    · rw [if_neg (Nat.lt_irrefl k), if_pos (by omega)]; omega
    · rw [if_neg (Nat.lt_irrefl 0)]
      rcases hb with rfl | rfl
      · rw [if_pos rfl]; omega
      · rw [if_neg (show ¬ h - 1 < c by omega)]; omega
  · rw [if_neg hb]
    rcases h0 with ⟨rfl, _⟩ | rfl
    · rw [if_neg (Nat.lt_irrefl k)]; omega
    · rw [if_neg (Nat.lt_irrefl 0)]; omega

theorem ft_parent_open {d w h bd : Nat} {done : List ForkCall} {st : Fork} {x : ForkCall}
    (hinv : FtInv d w h bd done st) (hx : FtOK d w h bd done x) :
    (nodeG (ForkId.main 0) [bd, bd, d] (forkOps done) (forkOp done x).pid).nvirt <
      ftBonds w h (forkOp done x).pid := by
  cases x with
  | main sh =>
    show (nodeG _ _ _ (ForkId.main (cntM done))).nvirt < ftBonds w h (ForkId.main (cntM done))
    rw [hinv.nvM _ (Nat.le_refl _)]
    exact ftBonds_main_open w h _ _ _ (Nat.le_refl _) hinv.hM (Or.inl ⟨rfl, hx.2⟩)
  | sub i sh =>
    obtain ⟨_, hi, hlt⟩ := hx
    simp only [forkOp]
    by_cases h0 : cntS done i = 0
    · rw [if_pos h0, hinv.nvM i hi]
      exact ftBonds_main_open w h _ _ _ hi hinv.hM (Or.inr h0)
    · rw [if_neg h0, hinv.nvS i _ (by omega), if_neg (by omega)]
      show 1 + 0 < if cntS done i - 1 = w - 2 then 1 else 2
      rw [if_neg (by omega)]
      omega

/-- every call of the kind `constant_ftps` makes is accepted (acceptance half of the step): the parent has fewer
    neighbours than bond legs, and all bond legs have dimension `bd` -/
theorem ft_step_accept (d w h bd : Nat) (done : List ForkCall) (st : Fork) (x : ForkCall)
    (hinv : FtInv d w h bd done st) (hx : FtOK d w h bd done x) :
    ∃ st', forkAdd st x = some st' ∧ ForkInv [bd, bd, d] (done ++ [x]) st' := by
  obtain ⟨hfi, _, hsh⟩ := ftInv_iff.1 hinv
  have hpid : (forkOp done x).pid ∈ idsG (ForkId.main 0) (forkOps done) := by
    cases x with
    | main sh => exact (fork_main_mem_ids done _).2 (Nat.le_refl _)
    | sub i sh =>
      simp only [forkOp]
      split
      · exact (fork_main_mem_ids done _).2 hx.2.1
      · exact (fork_sub_mem_ids done _ _).2 (by omega)
  have hps : shapeOf (ForkId.main 0) [bd, bd, d] (forkOps done) (forkOp done x).pid = _ :=
    (shapeOf_of_ops_shape (sh := ftShape d w h bd) hsh hfi.2.1 hpid).trans (ftShape_eq d w h bd _)
  have hget := bonds_get _ bd [d] _ (ft_parent_open hinv hx)
  have hnew := bonds_get _ bd [d] 0 (ftBonds_pos w h (forkOp done x).cid)
  rw [← ftShape_eq, ← ftOK_shape hx] at hnew
  obtain ⟨st', hst'⟩ := fork_accept [bd, bd, d] done st x hfi
    (fun i sh e => by subst e; exact hx.2.1) (Nat.lt_of_le_of_lt (Nat.zero_le _) hnew.1)
    (by rw [hps]; exact hget.1) (by rw [hps, hget.2]; exact hnew.2)
  exact ⟨st', hst', fork_step _ done st st' x hfi hst'⟩

end Ptn.C19
