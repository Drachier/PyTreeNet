import Ptn.Common.List
import Ptn.C19.Lemmas
/-! Leg bookkeeping of `TTNO.from_tensor`: `block`, the axes of the transposed input that belong to a subtree; `rec_eq`,
the recursion computes the specified nodes; and the stated result `from_tensor_legs`. -/
namespace Ptn.C19

mutual
/-- the block of axes of the transposed input that belongs to the subtree `t` -/
def block (ld : Nat → List Nat) : RTree → List Nat
  | .node i kids => ld i ++ blockL ld kids
/-- children blocks, last child first -/
def blockL (ld : Nat → List Nat) : List RTree → List Nat
  | [] => []
  | k :: ks => blockL ld ks ++ block ld k
end

theorem qrShape_eq_both (ld : Nat → List Nat) :
    (∀ t acc, qrShape ld t acc = block ld t ++ acc) ∧ ∀ ks acc, qrShapeL ld ks acc = blockL ld ks ++ acc := by
  apply RTree.both
  · intro i kids ih acc
    simp [qrShape, block, ih]
  · simp [qrShapeL, blockL]
  · intro k ks ih1 ih2 acc
    simp [qrShapeL, blockL, ih1, ih2]

theorem qrShape_eq (ld : Nat → List Nat) (t : RTree) (acc : List Nat) :
    qrShape ld t acc = block ld t ++ acc :=
  (qrShape_eq_both ld).1 t acc

theorem qrShapeL_eq (ld : Nat → List Nat) (ks : List RTree) (acc : List Nat) :
    qrShapeL ld ks acc = blockL ld ks ++ acc :=
  (qrShape_eq_both ld).2 ks acc

theorem block_length_both (ld : Nat → List Nat) (h : ∀ i, (ld i).length = 2) :
    (∀ t, (block ld t).length = 2 * t.size) ∧ ∀ ks, (blockL ld ks).length = 2 * RTree.sizeL ks := by
  apply RTree.both
  · intro i kids ih
    rw [block, List.length_append, h, ih, RTree.size, Nat.mul_add]
  · rfl
  · intro k ks ih1 ih2
    rw [blockL, List.length_append, ih1, ih2, RTree.sizeL, Nat.mul_add, Nat.add_comm]

theorem block_length (ld : Nat → List Nat) (h : ∀ i, (ld i).length = 2) (t : RTree) :
    (block ld t).length = 2 * t.size :=
  (block_length_both ld h).1 t

theorem blockL_length (ld : Nat → List Nat) (h : ∀ i, (ld i).length = 2) (ks : List RTree) :
    (blockL ld ks).length = 2 * RTree.sizeL ks :=
  (block_length_both ld h).2 ks

/-- the new bond leg, appended by the factorisation, is the last one -/
theorem last_concat {α : Type} (L : List α) (v : α) : (L ++ [v])[(L ++ [v]).length - 1]? = some v := by
  rw [← List.getLast?_eq_getElem?, List.getLast?_concat]

/-- ... and is moved behind the `A.length` virtual legs -/
theorem moveLast {α : Type} (A B : List α) (v : α) :
    ((A ++ B ++ [v]).eraseIdx ((A ++ B ++ [v]).length - 1)).insertIdx A.length v = A ++ v :: B := by
  rw [List.eraseIdx_length_sub_one, List.dropLast_concat, insertIdx_mid]

/-- one pass of the children loop on a tensor `A ++ B ++ blk` where `blk` is the block of the child
    and `A` the virtual legs so far -/
theorem splitChild_eq (i : Nat) (A B blk : List Leg) (c : RTree) (hb : blk.length = 2 * c.size) :
    splitChild i (A ++ B ++ blk) A.length c =
      (A ++ Leg.bond i c.id :: B, Leg.bond i c.id :: blk) := by
  unfold splitChild
  have hl : (A ++ B ++ blk).length - 2 * c.size = (A ++ B).length := by
    simp [hb]; omega
  simp only [hl, List.take_left, List.drop_left]
  rw [last_concat]
  simp only
  rw [moveLast]

/-- Tree half: started on the bond to the parent and the block of the subtree, the recursion yields `specNodes`.
    List half: the loop over the children of node `i`, whose tensor has the legs `A` (parent and child bonds made so
    far), `own` (the node's own two axes) and the blocks of the children still to be split off, last child's block
    last; one pass is `splitChild_eq`. -/
theorem rec_eq (ld2 : Nat → List Nat) (h2 : ∀ i, (ld2 i).length = 2) :
    (∀ (t : RTree) (par : Option Nat),
      fromTensorRec t par (par.toList.map (fun q => Leg.bond q t.id) ++ (block ld2 t).map Leg.ax) =
        specNodes ld2 par t) ∧
    ∀ (ks : List RTree) (i : Nat) (A own : List Leg),
      fromTensorKids i ks (A ++ own ++ (blockL ld2 ks).map Leg.ax) A.length =
        (A ++ ks.map (fun k => Leg.bond i k.id) ++ own, specNodesL ld2 i ks) := by
  apply RTree.both
  · intro i kids ih par
    have hlen : (par.toList.map (fun q => Leg.bond q i)).length = if par.isSome then 1 else 0 := by
      cases par <;> simp
    have hk := ih i (par.toList.map (fun q => Leg.bond q i)) ((ld2 i).map Leg.ax)
    rw [hlen] at hk
    simp only [fromTensorRec, RTree.id, block, List.map_append, ← List.append_assoc]
    rw [hk]
    simp [specNodes, specNode, RTree.id, RTree.kids]
  · intro i A own
    simp [fromTensorKids, blockL, specNodesL]
  · intro c cs ihc ihcs i A own
    have hb : ((block ld2 c).map Leg.ax).length = 2 * c.size := by
      rw [List.length_map, block_length ld2 h2 c]
    have hs := splitChild_eq i A (own ++ (blockL ld2 cs).map Leg.ax) ((block ld2 c).map Leg.ax) c hb
    have hcur : A ++ own ++ (blockL ld2 (c :: cs)).map Leg.ax =
        A ++ (own ++ (blockL ld2 cs).map Leg.ax) ++ (block ld2 c).map Leg.ax := by
      simp [blockL]
    have hr := ihc (some i)
    have hk := ihcs i (A ++ [Leg.bond i c.id]) own
    simp only [Option.toList_some, List.map_cons, List.map_nil, List.singleton_append] at hr
    have hA : (A ++ [Leg.bond i c.id]).length = A.length + 1 := by simp
    have hcur2 : A ++ [Leg.bond i c.id] ++ own ++ (blockL ld2 cs).map Leg.ax =
        A ++ Leg.bond i c.id :: (own ++ (blockL ld2 cs).map Leg.ax) := by simp
    rw [hA, hcur2] at hk
    rw [hcur]
    simp only [fromTensorKids, hs, hr, hk]
    simp [specNodesL]

theorem kids_eq (ld2 : Nat → List Nat) (h2 : ∀ i, (ld2 i).length = 2) (i : Nat) (ks : List RTree)
    (A own : List Leg) :
    fromTensorKids i ks (A ++ own ++ (blockL ld2 ks).map Leg.ax) A.length =
      (A ++ ks.map (fun k => Leg.bond i k.id) ++ own, specNodesL ld2 i ks) :=
  (rec_eq ld2 h2).2 ks i A own

theorem block_perm (ld : Nat → List Nat) :
    (∀ t, (block ld t).Perm (t.ids.flatMap ld)) ∧ ∀ ks, (blockL ld ks).Perm ((RTree.idsL ks).flatMap ld) := by
  apply RTree.both
  · intro i kids ih
    simp only [block, RTree.ids, List.flatMap_cons]
    exact List.Perm.append_left _ ih
  · simp [blockL, RTree.idsL]
  · intro k ks ih1 ih2
    simp only [blockL, RTree.idsL, List.flatMap_append]
    exact List.perm_append_comm.trans (List.Perm.append ih1 ih2)

theorem blockL_perm (ld : Nat → List Nat) (ks : List RTree) :
    (blockL ld ks).Perm ((RTree.idsL ks).flatMap ld) :=
  (block_perm ld).2 ks

theorem flatMap_pair_perm (n : Nat) (l : List Nat) :
    (l.flatMap fun k => [k, n + k]).Perm (l ++ l.map (n + ·)) := by
  induction l with
  | nil => simp
  | cons k l ih =>
    simp only [List.flatMap_cons, List.map_cons, List.cons_append, List.nil_append]
    refine List.Perm.cons k ?_
    exact (List.Perm.cons (n + k) ih).trans List.perm_middle.symm

theorem specNodes_flat (ld2 : Nat → List Nat) :
    (∀ t par, (specNodes ld2 par t).map (fun x => (x.id, x.children)) = t.flat) ∧
    ∀ ks i, (specNodesL ld2 i ks).map (fun x => (x.id, x.children)) = RTree.flatL ks := by
  apply RTree.both
  · intro i kids ih par
    simp [specNodes, specNode, RTree.flat, RTree.id, RTree.kids, ih]
  · simp [specNodesL, RTree.flatL]
  · intro k ks ih1 ih2 i
    simp [specNodesL, RTree.flatL, ih1, ih2]

theorem specNodesL_flat (ld2 : Nat → List Nat) (i : Nat) (ks : List RTree) :
    (specNodesL ld2 i ks).map (fun x => (x.id, x.children)) = RTree.flatL ks :=
  (specNodes_flat ld2).2 ks i

/-- For every reference tree (any shape, any child order), every leg assignment and every
    decomposition mode (the mode only selects the external factorisation), the recursive splitting
    produces exactly the reference tree's nodes in pre-order, each with the reference parent and
    children (in order) and with legs `(bond to parent, bonds to the children in order,
    leg_dict[id], half + leg_dict[id])`: every node keeps precisely its own output and input leg of
    the dense operator, and every bond created by a factorisation joins a node to its reference
    child.  That contracting the bonds gives back the input, provided each
    factorisation reproduces its argument (the QR/SVD contract, checked numerically on every case), is
    `from_tensor_value`. -/
theorem from_tensor_legs (t : RTree) (ld : Nat → Nat) :
    fromTensor t ld = specNodes (fun i => [ld i, t.size + ld i]) none t := by
  unfold fromTensor
  simp only
  rw [qrShape_eq, List.append_nil]
  exact (rec_eq (fun i => [ld i, t.size + ld i]) (fun _ => rfl)).1 t none

end Ptn.C19
