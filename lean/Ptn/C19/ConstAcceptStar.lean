import Ptn.C19.ConstAccept
/-! The calls of star `constant_product_state` are accepted for all `d, L, C` (helper lemmas for
`star_const_structure`). -/
namespace Ptn.C19

def scShape (d L j : Nat) : List Nat := if j = L - 1 then [1, d] else [1, 1, d]

def scChain (d L i n : Nat) : List (Nat × List Nat) := (List.range n).map fun j => (i, scShape d L j)

theorem starConstCalls_succ (d L C : Nat) :
    starConstCalls d L (C + 1) = starConstCalls d L C ++ scChain d L C L := by
  unfold starConstCalls scChain scShape
  rw [List.range_succ, List.flatMap_append]
  simp

theorem scChain_succ (d L i n : Nat) : scChain d L i (n + 1) = scChain d L i n ++ [(i, scShape d L n)] := by
  unfold scChain
  rw [List.range_succ, List.map_append]
  rfl

theorem cntC_scChain (d L i n c : Nat) : cntC (scChain d L i n) c = if i = c then n else 0 := by
  induction n with
  | zero => simp [scChain, cntC]
  | succ n ih =>
    rw [scChain_succ, cntC_snoc, ih]
    by_cases h : i = c <;> simp [h]

theorem lens_len (done : List (Nat × List Nat)) (lens : List Nat) (n : Nat) (hl : LensInv done lens)
    (h : ∀ c, 0 < cntC done c ↔ c < n) : lens.length = n := by
  rcases Nat.lt_trichotomy lens.length n with h1 | h1 | h1
  · have := hl.big lens.length (Nat.le_refl _)
    have := (h lens.length).2 h1
    omega
  · exact h1
  · have := (hl.small n h1).2
    have := (h n).1 this
    omega

theorem starRunFrom_append (st : Star) (a b : List (Nat × List Nat)) :
    starRunFrom st (a ++ b) = (starRunFrom st a).bind fun s => starRunFrom s b := by
  unfold starRunFrom
  rw [List.foldl_append]
  cases h : List.foldl (fun acc x => acc.bind fun s => starAdd s x.1 x.2) (some st) a with
  | none => rw [foldl_bind_none]; rfl
  | some s => rfl

/-- the state of star `constant_product_state` after the calls `done`: the star invariant, every chain tensor has
    the shape `scShape` of its place, and the centre has `nH` children (chain heads), i.e. its first open leg is `nH` -/
structure ScInv (d L C : Nat) (done : List (Nat × List Nat)) (st : Star) (nH : Nat) : Prop where
  inv : StarInv (List.replicate C 1 ++ [d]) done st
  shapes : ∀ o ∈ starOps done, ∀ c k, o.cid = StarId.chain c k → o.shape = scShape d L k
  heads : (childrenOf (starOps done) StarId.center).length = nH

theorem sc_cshape_get (d C i : Nat) (hi : i < C) : (List.replicate C 1 ++ [d])[i]? = some 1 := by
  rw [List.getElem?_append_left (by simpa using hi)]
  simp [hi]

/-- the `j`-th call for chain `i`, after the chains `0 … i-1` are complete: the centre has `i` heads, and one more
    when chain `i` has been begun (`j ≠ 0`) -/
theorem sc_step (d L C i j : Nat) (hi : i < C) (hj : j < L) (st : Star)
    (h : ScInv d L C (starConstCalls d L i ++ scChain d L i j) st (i + if j = 0 then 0 else 1)) :
    ∃ st', starAdd st i (scShape d L j) = some st' ∧
      ScInv d L C (starConstCalls d L i ++ scChain d L i (j + 1)) st' (i + 1) := by
  have hcnt : ∀ c, cntC (starConstCalls d L i ++ scChain d L i j) c =
      if c < i then L else if i = c then j else 0 := by
    intro c
    rw [cntC_append, cntC_starConst, cntC_scChain]
    by_cases h1 : c < i
    · have : ¬ i = c := by omega
      simp [h1, this]
    · simp [h1]
  generalize hdone : starConstCalls d L i ++ scChain d L i j = done at h hcnt
  obtain ⟨hinv, hshapes, hheads⟩ := h
  have hlens : st.lens.length = i + if j = 0 then 0 else 1 := by
    apply lens_len done st.lens _ hinv.2.2
    intro c
    rw [hcnt c]
    rcases Nat.lt_trichotomy c i with h1 | rfl | h1
    · rw [if_pos h1]
      exact ⟨fun _ => Nat.lt_add_right _ h1, fun _ => Nat.zero_lt_of_lt hj⟩
    · rw [if_neg (Nat.lt_irrefl _), if_pos rfl]
      split <;> omega
    · rw [if_neg (Nat.lt_asymm h1), if_neg (Nat.ne_of_lt h1)]
      split <;> omega
  have hci : cntC done i = j := by rw [hcnt i]; simp
  have hsh0 : (scShape d L j)[0]? = some 1 := by unfold scShape; split <;> rfl
  have hacc : ∃ st', starAdd st i (scShape d L j) = some st' := by
    apply star_accept (List.replicate C 1 ++ [d]) done st i (scShape d L j) hinv
    · rw [hlens]; omega
    · simp; omega
    · unfold scShape; split <;> simp
    · intro e
      rw [hlens] at e
      have hj0 : j = 0 := by by_cases hj0 : j = 0; exact hj0; rw [if_neg hj0] at e; omega
      rw [hheads, hj0]
      simp only [if_true, Nat.add_zero]
      refine ⟨by simp; omega, ?_⟩
      rw [sc_cshape_get d C i hi]; exact hj0 ▸ hsh0
    · intro hlt o ho hoc
      rw [hci] at hoc
      have := hshapes o ho i (j - 1) hoc
      rw [hlens] at hlt
      have hj0 : 0 < j := Nat.pos_of_ne_zero fun h0 => by
        rw [if_pos h0] at hlt
        exact Nat.lt_irrefl _ hlt
      have hne : ¬ j - 1 = L - 1 := by omega
      rw [this, hsh0]
      unfold scShape
      rw [if_neg hne]
      exact ⟨by simp, rfl⟩
  obtain ⟨st', hst'⟩ := hacc
  refine ⟨st', hst', ?_⟩
  have hstep := star_step _ done st st' i (scShape d L j) hinv hst'
  rw [scChain_succ, ← List.append_assoc, hdone]
  have hop : starOp done (i, scShape d L j) =
      ⟨.chain i j, scShape d L j, if j = 0 then .center else .chain i (j - 1)⟩ := by
    simp [starOp, hci]
  refine ⟨hstep, ?_, ?_⟩
  · intro o ho c k hoc
    rw [starOps_snoc, List.mem_append] at ho
    rcases ho with ho | ho
    · exact hshapes o ho c k hoc
    · simp only [List.mem_cons, List.not_mem_nil, or_false] at ho
      subst ho
      rw [hop] at hoc ⊢
      simp only [StarId.chain.injEq] at hoc
      rw [← hoc.2]
  · rw [starOps_snoc, childrenOf_snoc, List.length_append, hheads, hop]
    by_cases hj0 : j = 0
    · simp [hj0]
    · simp [hj0]

theorem starRunFrom_snoc (st : Star) (a : List (Nat × List Nat)) (x : Nat × List Nat) :
    starRunFrom st (a ++ [x]) = (starRunFrom st a).bind fun s => starAdd s x.1 x.2 := by
  rw [starRunFrom_append]
  congr 1

theorem sc_chain (d L C i : Nat) (hi : i < C) (st0 : Star)
    (h0 : ScInv d L C (starConstCalls d L i) st0 i) (n : Nat) (hn : n ≤ L) :
    ∃ st', starRunFrom st0 (scChain d L i n) = some st' ∧
      ScInv d L C (starConstCalls d L i ++ scChain d L i n) st' (i + if n = 0 then 0 else 1) := by
  induction n with
  | zero => exact ⟨st0, rfl, by simpa [scChain] using h0⟩
  | succ n ih =>
    obtain ⟨s1, hr1, hi1⟩ := ih (by omega)
    obtain ⟨s2, hr2, hi2⟩ := sc_step d L C i n hi (by omega) s1 hi1
    refine ⟨s2, ?_, by simpa using hi2⟩
    rw [scChain_succ, starRunFrom_snoc, hr1]
    exact hr2

theorem sc_all (d L C : Nat) (hL : 0 < L) (C' : Nat) (hC : C' ≤ C) :
    ∃ st', starRunFrom (starInit (List.replicate C 1 ++ [d])) (starConstCalls d L C') = some st' ∧
      ScInv d L C (starConstCalls d L C') st' C' := by
  induction C' with
  | zero =>
    refine ⟨_, rfl, ?_, ?_, ?_⟩
    · simpa [starConstCalls] using starInv_init (List.replicate C 1 ++ [d])
    · intro o ho; simp [starConstCalls, starOps, starOpsAux] at ho
    · simp [starConstCalls, starOps, starOpsAux, childrenOf]
  | succ i ih =>
    obtain ⟨s1, hr1, hi1⟩ := ih (by omega)
    obtain ⟨s2, hr2, hi2⟩ := sc_chain d L C i (by omega) s1 hi1 L (Nat.le_refl _)
    refine ⟨s2, ?_, ?_⟩
    · rw [starConstCalls_succ, starRunFrom_append, hr1]; exact hr2
    · rw [starConstCalls_succ]
      have : ¬ L = 0 := by omega
      simpa [this] using hi2

theorem starConstCalls_zero (d C : Nat) : starConstCalls d 0 C = [] := by
  simp [starConstCalls]

theorem starConst_isSome (d L C : Nat) : ∃ st, starConst d L C = some st := by
  unfold starConst starRun
  rcases Nat.eq_zero_or_pos L with h | h
  · subst h
    rw [starConstCalls_zero]
    exact ⟨_, rfl⟩
  · obtain ⟨st, hst, _⟩ := sc_all d L C h C (Nat.le_refl _)
    exact ⟨st, hst⟩

end Ptn.C19
