import Ptn.C19.Attach
/-! Binary-tree constructor: heap numbering (`heapPos`, `hidx`), the breadth-first loop and the replacement of the
queued leaves with their closed forms `loopNodes`, `replNodes` (`T` = `nphys - 1`, the number of virtual nodes), which
give `binary_structure`; at the end the finished tree as one list over the heap indices (`heapNode`), on which
`binary_record_closed` and `binary_value` stand. -/
namespace Ptn.C19

/-- successor in breadth-first order of (level, position) -/
def nextPos (lp : Nat × Nat) : Nat × Nat :=
  if lp.2 + 1 < 2 ^ lp.1 then (lp.1, lp.2 + 1) else (lp.1 + 1, 0)

/-- (level, position) of the `h`-th node in breadth-first order -/
def heapPos : Nat → Nat × Nat
  | 0 => (0, 0)
  | h + 1 => nextPos (heapPos h)

/-- breadth-first index of (level, position) -/
def hidx (lp : Nat × Nat) : Nat := 2 ^ lp.1 - 1 + lp.2

def ValidPos (lp : Nat × Nat) : Prop := lp.2 < 2 ^ lp.1

theorem two_pow_succ (l : Nat) : 2 ^ (l + 1) = 2 * 2 ^ l := by rw [Nat.pow_succ]; omega

theorem nextPos_spec (lp : Nat × Nat) (hv : ValidPos lp) :
    ValidPos (nextPos lp) ∧ hidx (nextPos lp) = hidx lp + 1 := by
  obtain ⟨l, p⟩ := lp
  simp only [ValidPos] at hv
  have hpos := Nat.two_pow_pos l
  have hsucc := two_pow_succ l
  by_cases hc : p + 1 < 2 ^ l
  · have e : nextPos (l, p) = (l, p + 1) := by simp [nextPos, hc]
    rw [e]
    exact ⟨hc, by simp only [hidx]; omega⟩
  · have e : nextPos (l, p) = (l + 1, 0) := by simp [nextPos, hc]
    rw [e]
    exact ⟨Nat.two_pow_pos _, by simp only [hidx]; omega⟩

theorem heapPos_spec (h : Nat) : ValidPos (heapPos h) ∧ hidx (heapPos h) = h := by
  induction h with
  | zero => simp [heapPos, ValidPos, hidx]
  | succ h ih =>
    have := nextPos_spec (heapPos h) ih.1
    simp only [heapPos]
    exact ⟨this.1, by rw [this.2, ih.2]⟩

theorem hidx_inj (a b : Nat × Nat) (ha : ValidPos a) (hb : ValidPos b) (h : hidx a = hidx b) : a = b := by
  obtain ⟨l, p⟩ := a
  obtain ⟨l', p'⟩ := b
  simp only [ValidPos, hidx] at ha hb h
  have key : ∀ (l l' p p' : Nat), p < 2 ^ l → p' < 2 ^ l' → 2 ^ l - 1 + p = 2 ^ l' - 1 + p' → ¬ l < l' := by
    intro l l' p p' ha hb h hlt
    have h1 : 2 ^ (l + 1) ≤ 2 ^ l' := Nat.pow_le_pow_right (by decide) hlt
    have h2 := two_pow_succ l
    have h3 := Nat.two_pow_pos l
    omega
  have hl : l = l' := by
    rcases Nat.lt_trichotomy l l' with h1 | h1 | h1
    · exact absurd h1 (key l l' p p' ha hb h)
    · exact h1
    · exact absurd h1 (key l' l p' p hb ha h.symm)
  subst hl
  have hp := Nat.two_pow_pos l
  have : p = p' := by omega
  subst this
  rfl

theorem heapPos_inj (h h' : Nat) (e : heapPos h = heapPos h') : h = h' := by
  rw [← (heapPos_spec h).2, ← (heapPos_spec h').2, e]

theorem heapPos_of_hidx (lp : Nat × Nat) (hv : ValidPos lp) : heapPos (hidx lp) = lp :=
  hidx_inj _ _ (heapPos_spec _).1 hv (heapPos_spec _).2

theorem heapPos_children (h : Nat) :
    heapPos (2 * h + 1) = ((heapPos h).1 + 1, 2 * (heapPos h).2) ∧
    heapPos (2 * h + 2) = ((heapPos h).1 + 1, 2 * (heapPos h).2 + 1) := by
  obtain ⟨hv, hi⟩ := heapPos_spec h
  generalize heapPos h = lp at hv hi
  obtain ⟨l, p⟩ := lp
  simp only [ValidPos, hidx] at hv hi
  have hsucc := two_pow_succ l
  have hpos := Nat.two_pow_pos l
  have hval : 2 * p + 1 < 2 ^ (l + 1) := by omega
  have e : 2 * h + 1 = hidx (l + 1, 2 * p) := by simp only [hidx]; omega
  constructor
  · rw [e]
    exact heapPos_of_hidx _ (Nat.lt_of_succ_lt hval)
  · rw [show 2 * h + 2 = hidx (l + 1, 2 * p + 1) from congrArg (· + 1) e]
    exact heapPos_of_hidx _ hval

theorem succ_div_two (q : Nat) : (2 * q + 1) / 2 = q := by omega

theorem heapPos_parent (h : Nat) (hh : 0 < h) :
    heapPos ((h - 1) / 2) = ((heapPos h).1 - 1, (heapPos h).2 / 2) ∧ 0 < (heapPos h).1 := by
  -- `h` is a child of `q = (h - 1) / 2`
  obtain ⟨q, hq⟩ : ∃ q, h = 2 * q + 1 ∨ h = 2 * q + 2 := ⟨(h - 1) / 2, by omega⟩
  have hc := heapPos_children q
  have h2 : 0 < 2 := by decide
  rcases hq with rfl | rfl
  · rw [hc.1, Nat.add_sub_cancel, Nat.mul_div_cancel_left q h2]
    exact ⟨Prod.ext rfl (Nat.mul_div_cancel_left _ h2).symm, Nat.succ_pos _⟩
  · rw [hc.2, show 2 * q + 2 - 1 = 2 * q + 1 from rfl, succ_div_two]
    exact ⟨Prod.ext rfl (succ_div_two _).symm, Nat.succ_pos _⟩

theorem heapPos_level_pos (h : Nat) (hh : 0 < h) : 0 < (heapPos h).1 := (heapPos_parent h hh).2

theorem heapPos_zero_iff (h : Nat) : heapPos h = (0, 0) ↔ h = 0 := by
  constructor
  · intro e
    exact heapPos_inj h 0 e
  · intro e; subst e; rfl

/-! ### the breadth-first loop of `add_all_nodes` -/

/-- identifier of the `h`-th virtual node: `prefix + level + "_" + position` -/
def virtId (h : Nat) : BinId := .virt (heapPos h).1 (heapPos h).2

theorem virtId_inj (h h' : Nat) (e : virtId h = virtId h') : h = h' := by
  unfold virtId at e
  injection e with e1 e2
  exact heapPos_inj h h' (Prod.ext e1 e2)

def vshapeH (bd h : Nat) : List Nat := if h = 0 then [bd, bd, 1] else [bd, bd, bd, 1]

def parentH (h : Nat) : Option BinId := if h = 0 then none else some (virtId ((h - 1) / 2))

/-- the `h`-th node when the nodes `0 … m-1` exist: its children are those of `2h+1`, `2h+2` below `m` -/
def loopNode (bd m h : Nat) : GNode BinId :=
  ⟨virtId h, parentH h,
   (if 2 * h + 1 < m then [virtId (2 * h + 1)] else []) ++ (if 2 * h + 2 < m then [virtId (2 * h + 2)] else []),
   List.range (vshapeH bd h).length, vshapeH bd h⟩

/-- `loopNode` as a function of the identifier (`gAddChild_closed` wants a total function; the value at a physical
    identifier is never read) -/
def loopF (bd m : Nat) : BinId → GNode BinId
  | .virt l p => { loopNode bd m (hidx (l, p)) with id := .virt l p }
  | .phys k => ⟨.phys k, none, [], [], []⟩

theorem loopF_id (bd m : Nat) (i : BinId) : (loopF bd m i).id = i := by
  cases i <;> rfl

theorem loopF_virtId (bd m h : Nat) : loopF bd m (virtId h) = loopNode bd m h := by
  unfold virtId loopF
  simp only
  have : hidx ((heapPos h).1, (heapPos h).2) = h := (heapPos_spec h).2
  rw [this]
  rfl

def loopIds (m : Nat) : List BinId := (List.range m).map virtId

theorem mem_loopIds (m h : Nat) : virtId h ∈ loopIds m ↔ h < m := by
  unfold loopIds
  constructor
  · intro hm
    obtain ⟨k, hk, e⟩ := List.mem_map.1 hm
    have := virtId_inj _ _ e
    subst this
    exact List.mem_range.1 hk
  · intro hm
    exact List.mem_map.2 ⟨h, List.mem_range.2 hm, rfl⟩

theorem loopIds_succ (m : Nat) : loopIds (m + 1) = loopIds m ++ [virtId m] := by
  simp [loopIds, List.range_succ]

def loopNodes (bd m : Nat) : List (GNode BinId) := (loopIds m).map (loopF bd m)

/-- the queue of `HelperNode`s after `t` passes of the loop: the heap positions `t … 2t` -/
def loopQueue (t : Nat) : List (Nat × Nat) := (List.range' t (t + 1)).map heapPos

theorem vshapeH_len (bd h : Nat) : (vshapeH bd h).length = if h = 0 then 3 else 4 := by
  unfold vshapeH; split <;> rfl

theorem loopNode_nvirt (bd m h : Nat) : (loopNode bd m h).nvirt =
    (if h = 0 then 0 else 1) + ((if 2 * h + 1 < m then 1 else 0) + (if 2 * h + 2 < m then 1 else 0)) := by
  unfold loopNode GNode.nvirt parentH
  simp only [List.length_append]
  congr 1
  · split <;> rfl
  · congr 1 <;> split <;> rfl

theorem loopNode_shapeAt (bd m h k : Nat) (hk : k + 1 < (vshapeH bd h).length) :
    (loopNode bd m h).shapeAt k = some bd := by
  show ((List.range (vshapeH bd h).length)[k]?).bind (fun a => (vshapeH bd h)[a]?) = some bd
  rw [List.getElem?_range (by omega)]
  show (vshapeH bd h)[k]? = some bd
  unfold vshapeH at hk ⊢
  by_cases h0 : h = 0
  · rw [if_pos h0] at hk ⊢
    match k, hk with
    | 0, _ => rfl
    | 1, _ => rfl
  · rw [if_neg h0] at hk ⊢
    match k, hk with
    | 0, _ => rfl
    | 1, _ => rfl
    | 2, _ => rfl

theorem lt_succ_iff_of_ne {a m : Nat} (h : a ≠ m) : a < m + 1 ↔ a < m :=
  ⟨fun h' => Nat.lt_of_le_of_ne (Nat.le_of_lt_succ h') h, Nat.lt_succ_of_lt⟩

/-- node `m`, a child of node `q`, is attached at `q`'s first open leg -/
theorem loop_attach (bd m q : Nat) (hlo : 2 * q + 1 ≤ m) (hhi : m ≤ 2 * q + 2) :
    gAddChild (loopNodes bd m) (virtId m) [bd, bd, bd, 1] 0 (virtId q) (loopNode bd m q).nvirt =
      some (loopNodes bd (m + 1)) := by
  -- only `q` gets a new child
  have hkids : ∀ h, (loopNode bd (m + 1) h).children =
      (loopNode bd m h).children ++ if h = q then [virtId m] else [] := by
    intro h
    unfold loopNode
    by_cases h1 : 2 * h + 1 = m
    · have e : h = q := by omega
      subst h1
      simp [e]
    · by_cases h2 : 2 * h + 2 = m
      · have e : h = q := by omega
        subst h2
        simp [e]
      · have e : ¬ h = q := by omega
        simp only [lt_succ_iff_of_ne h1, lt_succ_iff_of_ne h2, e, if_false, List.append_nil]
  have e1 : ¬ m = 0 := by omega
  have e2 : ¬ 2 * m + 1 < m + 1 := by omega
  have e3 : ¬ 2 * m + 2 < m + 1 := by omega
  have e4 : (m - 1) / 2 = q := by omega
  have hq' : q < m := by omega
  have hnv := loopNode_nvirt bd m q
  have hc : ¬ 2 * q + 2 < m := by omega
  rw [if_neg hc] at hnv
  have hlt' : (loopNode bd m q).nvirt + 1 < (vshapeH bd q).length := by
    rw [vshapeH_len, hnv]
    clear hlo hhi hc hnv
    split <;> split <;> omega
  have hlt : (loopNode bd m q).nvirt < (loopNode bd m q).legs.length := by
    show _ < (List.range (vshapeH bd q).length).length
    rw [List.length_range]
    exact Nat.lt_of_succ_lt hlt'
  unfold loopNodes
  rw [loopIds_succ]
  refine gAddChild_closed (loopIds m) (loopF bd m) (loopF bd (m + 1)) _ _ 0 _ _ (loopF_id bd m)
    ((mem_loopIds _ _).2 hq') (fun h => Nat.lt_irrefl m ((mem_loopIds _ _).1 h)) (by simp)
    ?_ ?_ ?_ ?_ ?_
  · rw [loopF_virtId]
    exact Nat.le_refl _
  · rw [loopF_virtId]
    exact hlt
  · rw [loopF_virtId, loopNode_shapeAt bd m q _ hlt']
    rfl
  · intro i hi
    obtain ⟨h, _, rfl⟩ := List.mem_map.1 hi
    rw [loopF_virtId, loopF_virtId]
    show (⟨virtId h, parentH h, (loopNode bd (m + 1) h).children, _, _⟩ : GNode BinId) = _
    rw [hkids h]
    by_cases hhq : h = q
    · subst hhq
      rw [if_pos rfl, if_pos rfl, gtoChild_eq _ _ hlt]
      rfl
    · rw [if_neg hhq, if_neg (fun e => hhq (virtId_inj _ _ e)), List.append_nil]
      rfl
  · rw [loopF_virtId]
    simp only [loopNode, parentH, vshapeH, e1, e2, e3, e4, if_false, List.append_nil]
    rfl

theorem loopQueue_cons (t : Nat) :
    loopQueue t = heapPos t :: (List.range' (t + 1) t).map heapPos := by
  unfold loopQueue
  rw [List.range'_succ, List.map_cons]

theorem loopQueue_next (t : Nat) :
    (List.range' (t + 1) t).map heapPos ++ [heapPos (2 * t + 1), heapPos (2 * t + 2)] =
      loopQueue (t + 1) := by
  unfold loopQueue
  have e1 : List.range' (t + 1) (t + 1 + 1) = List.range' (t + 1) (t + 1) ++ [t + 1 + 1 * (t + 1)] :=
    List.range'_concat
  have e2 : List.range' (t + 1) (t + 1) = List.range' (t + 1) t ++ [t + 1 + 1 * t] := List.range'_concat
  rw [e1, e2]
  have a : t + 1 + (t + 1) = 2 * t + 2 := by omega
  have b : t + 1 + t = 2 * t + 1 := by omega
  simp [a, b]

theorem loopQueue_length (t : Nat) : (loopQueue t).length = t + 1 := by simp [loopQueue]

/-- the loop runs `nphys - 1` passes and stops -/
theorem binLoop_run (nphys bd : Nat) : ∀ (k t : Nat), t + k + 1 = nphys → ∀ fuel, k + 1 ≤ fuel →
    binLoop nphys bd fuel (loopNodes bd (2 * t + 1)) (loopQueue t) =
      some (loopNodes bd (2 * (nphys - 1) + 1), loopQueue (nphys - 1)) := by
  intro k
  induction k with
  | zero =>
    intro t ht fuel hf
    obtain ⟨f, rfl⟩ : ∃ f, fuel = f + 1 := ⟨fuel - 1, by omega⟩
    unfold binLoop
    have : nphys - 1 = t := by omega
    rw [if_pos (by rw [loopQueue_length]; omega), this]
  | succ k ih =>
    intro t ht fuel hf
    obtain ⟨f, rfl⟩ : ∃ f, fuel = f + 1 := ⟨fuel - 1, by omega⟩
    unfold binLoop
    rw [if_neg (by rw [loopQueue_length]; omega), loopQueue_cons]
    have hch := heapPos_children t
    have hz := heapPos_zero_iff t
    cases hlp : heapPos t with
    | mk l p =>
      rw [hlp] at hch hz
      simp only at hch
      simp only
      rw [if_neg (by simp; omega)]
      have hv : BinId.virt l p = virtId t := by unfold virtId; rw [hlp]
      have hc1 : BinId.virt (l + 1) (2 * p) = virtId (2 * t + 1) := by unfold virtId; rw [hch.1]
      have hc2 : BinId.virt (l + 1) (2 * p + 1) = virtId (2 * t + 2) := by unfold virtId; rw [hch.2]
      -- `parent_legs` are the first open legs of node `t` before and after the first attachment
      have hpl : (if l = 0 ∧ p = 0 then (0, 1) else (1, 2)) =
          ((loopNode bd (2 * t + 1) t).nvirt, (loopNode bd (2 * t + 2) t).nvirt) := by
        have e0 : (l = 0 ∧ p = 0) ↔ t = 0 := by rw [← hz, Prod.mk.injEq]
        have e2 : ¬ 2 * t + 2 < 2 * t + 1 := Nat.not_lt.2 (Nat.le_succ _)
        have e3 : 2 * t + 1 < 2 * t + 2 := Nat.lt_succ_self _
        simp only [loopNode_nvirt, e0, e2, e3, Nat.lt_irrefl, if_true, if_false]
        split <;> rfl
      rw [hv, hc1, hc2, hpl]
      simp only
      rw [loop_attach bd (2 * t + 1) t (Nat.le_refl _) (Nat.le_succ _)]
      simp only
      rw [loop_attach bd (2 * t + 2) t (Nat.le_succ _) (Nat.le_refl _)]
      simp only
      rw [← hch.1, ← hch.2, loopQueue_next]
      exact ih (t + 1) (by omega) f (by omega)

theorem loopNodes_one (bd : Nat) : loopNodes bd 1 = [rootNode (.virt 0 0) [bd, bd, 1]] := by
  simp [loopNodes, loopIds, virtId, heapPos, loopF, loopNode, parentH, hidx, vshapeH, rootNode]

theorem binAddAll_eq (nphys bd : Nat) (hn : 1 ≤ nphys) :
    binAddAll nphys bd = some (loopNodes bd (2 * (nphys - 1) + 1), loopQueue (nphys - 1)) := by
  unfold binAddAll
  have hq : [(0, 0)] = loopQueue 0 := by simp [loopQueue, heapPos]
  rw [← loopNodes_one, hq]
  exact binLoop_run nphys bd (nphys - 1) 0 (by omega) (nphys + 1) (by omega)

/-! ### the replacement of the queued leaves by physical nodes (`transform_phys_nodes`) -/

/-- the node with breadth-first index `g` when the first `j` leaves (indices `T … T+j-1`) have been
    replaced: `phys (g - T)` for a replaced leaf, the virtual node otherwise -/
def kidR (T j g : Nat) : BinId := if T ≤ g ∧ g < T + j then .phys (g - T) else virtId g

/-- the three kinds of node after `j` replacements: an inner virtual node (children by `kidR`), a virtual leaf still
    to be replaced, the physical node `k` that replaced the leaf `T + k` -/
def innerR (bd T j h : Nat) : GNode BinId :=
  ⟨virtId h, parentH h, [kidR T j (2 * h + 1), kidR T j (2 * h + 2)],
   List.range (vshapeH bd h).length, vshapeH bd h⟩

def leafR (bd h : Nat) : GNode BinId :=
  ⟨virtId h, parentH h, [], List.range (vshapeH bd h).length, vshapeH bd h⟩

def physR (bd d T k : Nat) : GNode BinId := ⟨.phys k, parentH (T + k), [], [0, 1], [bd, d]⟩

/-- node list (dict order) after `j` replacements: inner virtual nodes, remaining virtual leaves,
    physical nodes -/
def replNodes (bd d T j : Nat) : List (GNode BinId) :=
  (List.range T).map (innerR bd T j) ++ (List.range' (T + j) (T + 1 - j)).map (leafR bd) ++
    (List.range j).map (physR bd d T)

theorem kidR_zero (T g : Nat) : kidR T 0 g = virtId g :=
  if_neg fun h => Nat.lt_irrefl _ (Nat.lt_of_le_of_lt h.1 h.2)

theorem repl_zero (bd d T : Nat) : loopNodes bd (2 * T + 1) = replNodes bd d T 0 := by
  unfold loopNodes replNodes loopIds
  rw [List.map_map, (by omega : 2 * T + 1 = T + (T + 1)), List.range_add, List.map_append]
  simp only [List.range_zero, List.map_nil, List.append_nil, Nat.add_zero, Nat.sub_zero]
  congr 1
  · apply List.map_congr_left
    intro h hh
    have hh' := List.mem_range.1 hh
    have c2 : 2 * h + 2 < T + (T + 1) := by omega
    have c1 : 2 * h + 1 < T + (T + 1) := Nat.lt_of_succ_lt c2
    simp only [Function.comp, loopF_virtId, loopNode, innerR, kidR_zero, c1, c2, if_true]
    rfl
  · rw [List.range'_eq_map_range, List.map_map, List.map_map]
    apply List.map_congr_left
    intro h _
    have c1 : ¬ 2 * (T + h) + 1 < T + (T + 1) := by omega
    have c2 : ¬ 2 * (T + h) + 2 < T + (T + 1) := fun h => c1 (Nat.lt_of_succ_lt h)
    simp only [Function.comp, loopF_virtId, loopNode, leafR, c1, c2, if_false]
    rfl

theorem gFind_mid {ι : Type} [DecidableEq ι] (A B : List (GNode ι)) (x : GNode ι) (i : ι)
    (hA : ∀ y ∈ A, y.id ≠ i) (hx : x.id = i) : gFind (A ++ x :: B) i = some x := by
  unfold gFind
  rw [List.find?_append]
  have : A.find? (fun y => decide (y.id = i)) = none := by
    rw [List.find?_eq_none]
    intro y hy
    simp [hA y hy]
  rw [this]
  simp [hx]

theorem kidR_succ_ne (T j g : Nat) (hg : g ≠ T + j) : kidR T (j + 1) g = kidR T j g := by
  unfold kidR
  have : (T ≤ g ∧ g < T + (j + 1)) ↔ (T ≤ g ∧ g < T + j) := by omega
  simp only [this]

/-- replacing the leaf `T + j` by `phys j` among the children is one more replacement -/
theorem kidR_succ (T j g : Nat) :
    (if kidR T j g = virtId (T + j) then BinId.phys j else kidR T j g) = kidR T (j + 1) g := by
  by_cases hg : g = T + j
  · subst hg
    unfold kidR
    rw [if_neg (by omega : ¬ (T ≤ T + j ∧ T + j < T + j)), if_pos rfl,
      if_pos (by omega : T ≤ T + j ∧ T + j < T + (j + 1)), Nat.add_sub_cancel_left]
  · rw [kidR_succ_ne T j g hg, if_neg]
    unfold kidR
    split
    · intro e; cases e
    · intro e; exact hg (virtId_inj _ _ e)

theorem replUpd_leaf (old : GNode BinId) (newId oldId q : BinId) (hc : old.children = [])
    (hp : old.parent = some q) (hq : q ≠ newId) (x : GNode BinId) :
    replUpd old newId oldId x =
      if x.id = q then { x with children := x.children.map fun c => if c = oldId then newId else c }
      else x := by
  unfold replUpd
  rw [hc, hp]
  simp only [List.contains_nil, Bool.false_eq_true, false_and, if_false, Option.some.injEq]
  by_cases hx : x.id = q
  · rw [if_pos ⟨hx, hx ▸ hq⟩, if_pos hx]
  · rw [if_neg (fun h => hx h.1), if_neg hx]

/-- one replacement: the `j`-th queued leaf (breadth-first index `T + j`) becomes `phys j` -/
theorem repl_step (bd d T j : Nat) (hT : 1 ≤ T) (hj : j ≤ T) :
    binReplace (replNodes bd d T j) (.phys j) (virtId (T + j)) [bd, d] =
      some (replNodes bd d T (j + 1)) := by
  let A := (List.range T).map (innerR bd T j)
  let B := (List.range' (T + j + 1) (T - j)).map (leafR bd) ++ (List.range j).map (physR bd d T)
  have hsplit : replNodes bd d T j = A ++ leafR bd (T + j) :: B := by
    unfold replNodes
    rw [Nat.sub_add_comm hj, List.range'_succ, List.map_cons]
    simp [A, B]
  have hne0 : ¬ (T + j = 0) := by omega
  -- the parent `p` of the leaf: all that is used of `(T + j - 1) / 2`
  obtain ⟨p, hpar, hp1, hp2⟩ :
      ∃ p, parentH (T + j) = some (virtId p) ∧ 2 * p + 1 ≤ T + j ∧ T + j ≤ 2 * p + 2 := by
    refine ⟨(T + j - 1) / 2, ?_, by omega⟩
    unfold parentH; rw [if_neg hne0]
  have hvs : vshapeH bd (T + j) = [bd, bd, bd, 1] := by unfold vshapeH; rw [if_neg hne0]
  have hfind : gFind (replNodes bd d T j) (virtId (T + j)) = some (leafR bd (T + j)) := by
    rw [hsplit]
    apply gFind_mid
    · intro y hy
      obtain ⟨h, hh, rfl⟩ := List.mem_map.1 hy
      have := List.mem_range.1 hh
      intro e
      have := virtId_inj _ _ e
      omega
    · rfl
  unfold binReplace
  rw [hfind]
  simp only
  -- the leaf has one bound leg, towards its parent, of dimension `bd`: the check of `replace_node` passes
  have hcheck : (List.range (leafR bd (T + j)).nvirt).all (fun k =>
      decide (([bd, d] : List Nat)[k]? ≠ none ∧ ([bd, d] : List Nat)[k]? = (leafR bd (T + j)).shapeAt k)) = true := by
    have : (leafR bd (T + j)).nvirt = 1 := by simp [leafR, GNode.nvirt, hpar]
    rw [this]
    simp [leafR, GNode.shapeAt, hvs]
  rw [if_pos hcheck]
  have hupd := replUpd_leaf (leafR bd (T + j)) (BinId.phys j) (virtId (T + j)) (virtId p) rfl hpar
    (by intro e; cases e)
  -- `replace_node_in_neighbours` touches only the parent `p`: one more leaf renamed among the inner nodes (`hA`),
  -- nothing among the remaining leaves and the sites (`hB`)
  have hA : ∀ h, h < T →
      replUpd (leafR bd (T + j)) (BinId.phys j) (virtId (T + j)) (innerR bd T j h) =
        innerR bd T (j + 1) h := by
    intro h hh
    rw [hupd]
    by_cases hp : h = p
    · rw [if_pos (show (innerR bd T j h).id = virtId p from congrArg virtId hp)]
      simp only [innerR, List.map_cons, List.map_nil, GNode.mk.injEq, true_and, and_true,
        List.cons.injEq]
      exact ⟨kidR_succ T j _, kidR_succ T j _⟩
    · rw [if_neg (show ¬ (innerR bd T j h).id = virtId p from fun e => hp (virtId_inj _ _ e))]
      simp only [innerR, GNode.mk.injEq, true_and, and_true, List.cons.injEq]
      exact ⟨(kidR_succ_ne T j _ (by omega)).symm, (kidR_succ_ne T j _ (by omega)).symm⟩
  have hB : ∀ y ∈ leafR bd (T + j) :: B,
      replUpd (leafR bd (T + j)) (BinId.phys j) (virtId (T + j)) y = y := by
    intro y hy
    rw [hupd, if_neg]
    simp only [List.mem_cons, B, List.mem_append, List.mem_map, List.mem_range'_1, List.mem_range] at hy
    rcases hy with rfl | ⟨h, hh, rfl⟩ | ⟨k, _, rfl⟩
    · intro e; have := virtId_inj _ _ e; omega
    · intro e; have := virtId_inj _ _ e; omega
    · intro e; cases e
  rw [hsplit, List.map_append]
  have hmapA : A.map (replUpd (leafR bd (T + j)) (BinId.phys j) (virtId (T + j))) =
      (List.range T).map (innerR bd T (j + 1)) := by
    simp only [A, List.map_map]
    apply List.map_congr_left
    intro h hh
    exact hA h (List.mem_range.1 hh)
  have hmapB : (leafR bd (T + j) :: B).map (replUpd (leafR bd (T + j)) (BinId.phys j) (virtId (T + j))) =
      leafR bd (T + j) :: B := by
    conv => rhs; rw [← List.map_id (leafR bd (T + j) :: B)]
    apply List.map_congr_left
    intro y hy
    exact hB y hy
  -- the old node is dropped from its place in the dict, the new one appended at the end
  rw [hmapA, hmapB, List.filter_append, List.filter_cons]
  have hkeepA : ((List.range T).map (innerR bd T (j + 1))).filter (fun x => decide (x.id ≠ virtId (T + j))) =
      (List.range T).map (innerR bd T (j + 1)) := by
    rw [List.filter_eq_self]
    intro y hy
    obtain ⟨h, hh, rfl⟩ := List.mem_map.1 hy
    have := List.mem_range.1 hh
    apply decide_eq_true
    intro e; have := virtId_inj _ _ e; omega
  have hdrop : decide ((leafR bd (T + j)).id ≠ virtId (T + j)) = false := by simp [leafR]
  have hkeepB : B.filter (fun x => decide (x.id ≠ virtId (T + j))) = B := by
    rw [List.filter_eq_self]
    intro y hy
    simp only [B, List.mem_append, List.mem_map, List.mem_range'_1, List.mem_range] at hy
    apply decide_eq_true
    rcases hy with ⟨h, hh, rfl⟩ | ⟨k, _, rfl⟩
    · intro e; have := virtId_inj _ _ e; omega
    · intro e; cases e
  rw [hkeepA, hdrop, hkeepB]
  simp only [Bool.false_eq_true, if_false]
  congr 1
  unfold replNodes
  rw [Nat.add_sub_add_right, List.range_succ, List.map_append]
  simp only [B, List.append_assoc, List.map_cons, List.map_nil]
  congr 3

theorem loopQueue_get (T k : Nat) (hk : k ≤ T) : (loopQueue T)[k]? = some (heapPos (T + k)) := by
  unfold loopQueue
  rw [List.getElem?_map, List.getElem?_range' (by omega)]
  simp

theorem repl_fold (bd d T : Nat) (hT : 1 ≤ T) (m : Nat) (hm : m ≤ T + 1) :
    (List.range m).foldl
      (fun acc k => acc.bind fun ns =>
        match (loopQueue T)[k]? with
        | none => none
        | some lp => binReplace ns (.phys k) (.virt lp.1 lp.2) [bd, d]) (some (replNodes bd d T 0)) =
      some (replNodes bd d T m) := by
  induction m with
  | zero => rfl
  | succ m ih =>
    rw [List.range_succ, List.foldl_append, ih (by omega)]
    simp only [List.foldl_cons, List.foldl_nil, Option.bind_some]
    rw [loopQueue_get T m (by omega)]
    exact repl_step bd d T m hT (by omega)

/-- closed form of `generate_binary_ttns` -/
theorem binGenerate_closed (nphys bd d : Nat) (hn : 2 ≤ nphys) (hb : 1 ≤ bd) :
    binGenerate nphys bd d = some (replNodes bd d (nphys - 1) nphys) := by
  unfold binGenerate
  rw [if_neg (by omega), binAddAll_eq nphys bd (by omega)]
  simp only
  rw [loopQueue_length, repl_zero bd d]
  have e : nphys - 1 + 1 = nphys := by omega
  rw [e]
  have := repl_fold bd d (nphys - 1) (by omega) nphys (by omega)
  exact this

/-- the node with breadth-first index `g` of the finished tree: the first `nphys - 1` indices are
    virtual nodes, the following `nphys` ones the physical sites in order -/
def binFinalId (nphys g : Nat) : BinId :=
  if g < nphys - 1 then virtId g else .phys (g - (nphys - 1))

/-- the finished binary tree in dict order: the complete binary tree ("heap") with `2·nphys - 1` nodes in
    breadth-first numbering; node `g` has parent `(g-1)/2` and, if virtual, the children `2g+1`, `2g+2` -/
def binFinal (nphys bd d : Nat) : List (GNode BinId) :=
  (List.range (nphys - 1)).map (fun h =>
    (⟨virtId h, parentH h, [binFinalId nphys (2 * h + 1), binFinalId nphys (2 * h + 2)],
      List.range (vshapeH bd h).length, vshapeH bd h⟩ : GNode BinId)) ++
  (List.range nphys).map (fun k =>
    (⟨.phys k, parentH (nphys - 1 + k), [], [0, 1], [bd, d]⟩ : GNode BinId))

theorem kidR_final (T g : Nat) (hg : g < T + (T + 1)) : kidR T (T + 1) g = binFinalId (T + 1) g := by
  unfold kidR binFinalId
  rw [Nat.add_sub_cancel]
  by_cases hg' : g < T
  · rw [if_neg (fun h => Nat.not_lt.2 h.1 hg'), if_pos hg']
  · rw [if_pos ⟨Nat.not_lt.1 hg', hg⟩, if_neg hg']

theorem replNodes_final (nphys bd d : Nat) (hn : 1 ≤ nphys) :
    replNodes bd d (nphys - 1) nphys = binFinal nphys bd d := by
  obtain ⟨T, rfl⟩ : ∃ T, nphys = T + 1 := ⟨nphys - 1, by omega⟩
  unfold replNodes binFinal
  rw [Nat.add_sub_cancel, Nat.sub_self]
  simp only [List.range'_zero, List.map_nil, List.append_nil]
  congr 1
  apply List.map_congr_left
  intro h hh
  have hh' : 2 * h + 2 < T + (T + 1) := by have := List.mem_range.1 hh; omega
  simp only [innerR, GNode.mk.injEq, true_and, and_true, List.cons.injEq]
  exact ⟨kidR_final T _ (Nat.lt_of_succ_lt hh'), kidR_final T _ hh'⟩

theorem binFinal_ids (nphys bd d : Nat) :
    (binFinal nphys bd d).map (·.id) =
      (List.range (nphys - 1)).map virtId ++ (List.range nphys).map BinId.phys := by
  simp [binFinal, Function.comp_def]

def binVNode (nphys bd h : Nat) : GNode BinId :=
  ⟨virtId h, parentH h, [binFinalId nphys (2 * h + 1), binFinalId nphys (2 * h + 2)],
    List.range (vshapeH bd h).length, vshapeH bd h⟩

def binPNode (nphys bd d k : Nat) : GNode BinId := ⟨.phys k, parentH (nphys - 1 + k), [], [0, 1], [bd, d]⟩

theorem binFinal_eq (nphys bd d : Nat) :
    binFinal nphys bd d = (List.range (nphys - 1)).map (binVNode nphys bd) ++
      (List.range nphys).map (binPNode nphys bd d) := rfl

theorem binFinalId_inj (nphys g g' : Nat) (e : binFinalId nphys g = binFinalId nphys g') : g = g' := by
  unfold binFinalId at e
  split at e <;> split at e
  · exact virtId_inj _ _ e
  · unfold virtId at e; cases e
  · unfold virtId at e; cases e
  · injection e with e; omega

/-- the node with heap index `g` of the finished tree: `binFinal` lists the virtual nodes and the sites as two
segments, everything said about it is indexed by one heap index -/
def heapNode (nphys bd d g : Nat) : GNode BinId :=
  if g < nphys - 1 then binVNode nphys bd g else binPNode nphys bd d (g - (nphys - 1))

theorem binFinal_eq_heap (nphys bd d : Nat) (hn : 1 ≤ nphys) :
    binFinal nphys bd d = (List.range (2 * nphys - 1)).map (heapNode nphys bd d) := by
  rw [binFinal_eq, (by omega : 2 * nphys - 1 = (nphys - 1) + nphys), List.range_add, List.map_append,
    List.map_map]
  congr 1
  · apply List.map_congr_left
    intro h hh
    exact (if_pos (List.mem_range.1 hh)).symm
  · apply List.map_congr_left
    intro k _
    show _ = heapNode nphys bd d (nphys - 1 + k)
    unfold heapNode
    rw [if_neg (Nat.not_lt.2 (Nat.le_add_right _ _)), Nat.add_sub_cancel_left]

theorem heapNode_id (nphys bd d g : Nat) : (heapNode nphys bd d g).id = binFinalId nphys g := by
  unfold heapNode binFinalId
  split <;> rfl

theorem heapNode_parent (nphys bd d g : Nat) : (heapNode nphys bd d g).parent = parentH g := by
  unfold heapNode
  split
  · rfl
  · rename_i h
    show parentH (nphys - 1 + (g - (nphys - 1))) = _
    rw [Nat.add_sub_cancel' (Nat.not_lt.1 h)]

theorem heapNode_leg0 (nphys bd d g : Nat) : (heapNode nphys bd d g).legs.getD 0 0 = 0 := by
  unfold heapNode
  split
  · show (List.range (vshapeH bd g).length).getD 0 0 = 0
    rw [vshapeH_len]; split <;> rfl
  · rfl

/-- number of legs of the node with heap index `g`: `(child, child, open)` for the root, `(parent, child, child,
open)` for the other virtual nodes, `(parent, physical)` for the sites -/
def binRank (nphys g : Nat) : Nat := if g = 0 then 3 else if g < nphys - 1 then 4 else 2

theorem heapNode_rank (nphys bd d g : Nat) (hn : 2 ≤ nphys) :
    (heapNode nphys bd d g).dims.length = binRank nphys g := by
  unfold heapNode binRank
  by_cases h : g < nphys - 1
  · rw [if_pos h, if_pos h]
    exact vshapeH_len bd g
  · have h0 : ¬ g = 0 := by omega
    rw [if_neg h, if_neg h, if_neg h0]
    rfl

theorem binFinal_ids_nodup (nphys bd d : Nat) (hn : 1 ≤ nphys) : ((binFinal nphys bd d).map (·.id)).Nodup := by
  rw [binFinal_eq_heap nphys bd d hn, List.map_map, List.Nodup, List.pairwise_map]
  refine List.Pairwise.imp ?_ (List.pairwise_lt_range (n := 2 * nphys - 1))
  intro a b hab e
  simp only [Function.comp, heapNode_id] at e
  exact Nat.ne_of_lt hab (binFinalId_inj nphys a b e)

end Ptn.C19
