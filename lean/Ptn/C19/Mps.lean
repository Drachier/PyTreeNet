import Ptn.Common.List
import Ptn.C19.Spec
import Ptn.C19.ValueModel
import Ptn.C19.PopInsert
/-! Closed form of the matrix-product chain construction (helper lemmas for `mps_chain_structure`), and, at the
end, the binding record read off the final state (`stRecord_final`: one bond per non-root site, in dict order),
which is what `mps_chain_value` contracts over. -/
namespace Ptn.C19

theorem find_map_id (ids : List Nat) (f : Nat → MNode) (hf : ∀ i, (f i).id = i) (j : Nat) :
    (ids.map f).find? (fun x => x.id == j) = if j ∈ ids then some (f j) else none := by
  induction ids with
  | nil => simp
  | cons a ids ih =>
    simp only [List.map_cons, List.find?_cons, hf, List.mem_cons]
    by_cases h : a = j
    · subst h; simp
    · have h' : (a == j) = false := by simp [h]
      have h'' : ¬ j = a := fun e => h e.symm
      simp only [h', ih, h'', false_or]

/-- `addChild` on a state given as `ids.map f`: the result is `(ids ++ [cid]).map g` for any `g` that
    agrees with the update (`gAddChild_closed` of `Attach.lean` is the same statement for `GNode`). -/
theorem addChild_closed (ids : List Nat) (f g : Nat → MNode) (root : Nat) (lf rt : List Nat)
    (cid nlegs cleg pid pleg : Nat)
    (hf : ∀ i, (f i).id = i) (hp : pid ∈ ids) (hc : cid ∉ ids)
    (h1 : cleg < nlegs) (h2 : (f pid).nvirt ≤ pleg) (h3 : pleg < (f pid).legs.length)
    (hg1 : ∀ i ∈ ids, g i = if i = pid then (f i).toChild cid pleg else f i)
    (hg2 : g cid = ⟨cid, some pid, [], popInsert (List.range nlegs) cleg 0⟩) :
    addChild ⟨ids.map f, root, lf, rt⟩ cid nlegs cleg pid pleg =
      some ⟨(ids ++ [cid]).map g, root, lf, rt⟩ := by
  unfold addChild MPT.find
  simp only [find_map_id ids f hf, hp, hc, if_true, if_false, Option.isSome_none, Bool.false_eq_true]
  have e1 : ¬ nlegs ≤ cleg := by omega
  have e2 : ¬ (pleg < (f pid).nvirt ∨ (f pid).legs.length ≤ pleg) := by omega
  simp only [e1, e2, if_false]
  congr 2
  rw [List.map_append, List.map_map]
  congr 1
  · apply List.map_congr_left
    intro i hi
    simp only [Function.comp, hf, hg1 i hi, beq_iff_eq]
  · simp [hg2]

/-- leg order of site `i` once it has been inserted (it never changes afterwards) -/
def legsOf (n r : Nat) (p : Nat → Nat) (i : Nat) : List Nat :=
  if 0 < i ∧ i < r then 1 :: 0 :: List.range' 2 (p i) else List.range (nlegsIn n p i)

/-- node `i` when the sites `lo … hi` (`lo ≤ r ≤ hi`) have been inserted around the root `r` -/
def nodeAt (n r : Nat) (p : Nat → Nat) (lo hi i : Nat) : MNode :=
  ⟨i,
   if i < r then some (i + 1) else if r < i then some (i - 1) else none,
   if i < r then (if lo < i then [i - 1] else [])
   else if r < i then (if i < hi then [i + 1] else [])
   else (if lo < r then [r - 1] else []) ++ (if r < hi then [r + 1] else []),
   legsOf n r p i⟩

/-- dict order when the sites `lo … hi` are present: the root, the left sites from right to left, the right sites -/
def idsAt (r lo hi : Nat) : List Nat :=
  r :: ((List.range (r - lo)).map (fun t => r - 1 - t) ++ List.range' (r + 1) (hi - r))

/-- the state of `MatrixProductTree` when the sites `lo … hi` have been inserted around the root `r`: nodes in dict
    order, `left_nodes` and `right_nodes` in chain order -/
def stateAt (n r : Nat) (p : Nat → Nat) (lo hi : Nat) : MPT :=
  ⟨(idsAt r lo hi).map (nodeAt n r p lo hi), r, List.range' lo (r - lo), List.range' (r + 1) (hi - r)⟩

theorem nodeAt_id (n r : Nat) (p : Nat → Nat) (lo hi i : Nat) : (nodeAt n r p lo hi i).id = i := rfl

theorem idsAt_eq (r lo hi : Nat) (h : lo ≤ r) :
    idsAt r lo hi = r :: ((List.range' lo (r - lo)).reverse ++ List.range' (r + 1) (hi - r)) := by
  unfold idsAt
  rw [List.reverse_range']
  congr 2
  apply List.map_congr_left
  intro t ht
  have := List.mem_range.1 ht
  omega

theorem idsAt_final (n r : Nat) : idsAt r 0 (n - 1) = chainOrder n r := by
  rw [idsAt_eq r 0 _ (Nat.zero_le r), Nat.sub_zero, ← List.range_eq_range']
  rfl

theorem mem_idsAt (r lo hi i : Nat) (h1 : lo ≤ r) (h2 : r ≤ hi) :
    i ∈ idsAt r lo hi ↔ (lo ≤ i ∧ i ≤ hi) := by
  rw [idsAt_eq r lo hi h1]
  simp only [List.mem_cons, List.mem_append, List.mem_reverse, List.mem_range'_1]
  omega

theorem idsAt_left (r lo : Nat) (h : lo < r) : idsAt r lo r = idsAt r (lo + 1) r ++ [lo] := by
  rw [idsAt_eq r lo r (Nat.le_of_lt h), idsAt_eq r (lo + 1) r h, (by omega : r - lo = (r - (lo + 1)) + 1),
    List.range'_succ, List.reverse_cons, Nat.sub_self]
  simp

theorem idsAt_right (r lo hi : Nat) (h : r ≤ hi) : idsAt r lo (hi + 1) = idsAt r lo hi ++ [hi + 1] := by
  have e : hi + 1 - r = (hi - r) + 1 := by omega
  have e2 : r + 1 + (hi - r) = hi + 1 := by omega
  simp [idsAt, e, List.range'_concat, e2]

theorem legsOf_length (n r : Nat) (p : Nat → Nat) (i : Nat) (hr : r < n) :
    (legsOf n r p i).length = nlegsIn n p i := by
  unfold legsOf nlegsIn
  split
  · rename_i h
    have h1 : 0 < i := h.1
    have h2 : i + 1 < n := by omega
    simp [h1, h2]; omega
  · simp

theorem toChild_eq (x : MNode) (cid pleg : Nat) (h : pleg = x.nvirt) (h2 : pleg < x.legs.length) :
    x.toChild cid pleg = ⟨x.id, x.parent, x.children ++ [cid], x.legs⟩ := by
  unfold MNode.toChild
  subst h
  rw [popInsert_self _ _ h2]

theorem stateAt_find (n r : Nat) (p : Nat → Nat) (lo hi i : Nat) (h1 : lo ≤ r) (h2 : r ≤ hi)
    (hi' : lo ≤ i ∧ i ≤ hi) :
    (stateAt n r p lo hi).find i = some (nodeAt n r p lo hi i) := by
  unfold MPT.find stateAt
  simp only
  rw [find_map_id _ _ (nodeAt_id n r p lo hi), if_pos ((mem_idsAt r lo hi i h1 h2).2 hi')]

/-- the child leg index used by the left loop (`0` for the final site `s = 0`, which has no left axis, else `1`, the
    right axis; written as the model elaborates `if site == 0`) is in range -/
theorem cleg_left_lt (n : Nat) (p : Nat → Nat) (s : Nat) (h : s + 1 < n) :
    (if (s == 0) = true then 0 else 1) < nlegsIn n p s := by
  unfold nlegsIn
  by_cases h0 : s = 0
  · subst h0; simp [h]; omega
  · have : 0 < s := by omega
    simp [h0, h, this]; omega

theorem legs_left (n r : Nat) (p : Nat → Nat) (s : Nat) (hs : s < r) (hr : r < n) :
    popInsert (List.range (nlegsIn n p s)) (if (s == 0) = true then 0 else 1) 0 = legsOf n r p s := by
  unfold legsOf nlegsIn
  by_cases h0 : s = 0
  · subst h0
    have : 1 < n := by omega
    simp only [beq_self_eq_true, if_true, Nat.lt_irrefl, false_and, if_false]
    rw [popInsert_self _ _ (by simp [this]; omega)]
  · have e : 0 < s ∧ s < r := by omega
    have e2 : ¬ (s == 0) = true := by simp [h0]
    have e3 : s + 1 < n := by omega
    have e4 : 0 < s := by omega
    simp only [e, e2, e3, if_true, and_self, Bool.false_eq_true, if_false]
    have : 1 + 1 + p s = 2 + p s := by omega
    rw [this, popInsert_range_one_zero]

theorem legs_right (n r : Nat) (p : Nat → Nat) (s : Nat) (hs : r < s) :
    popInsert (List.range (nlegsIn n p s)) 0 0 = legsOf n r p s := by
  have e : ¬ (0 < s ∧ s < r) := by omega
  unfold legsOf
  rw [if_neg e, popInsert_self]
  unfold nlegsIn
  have : 0 < s := by omega
  simp [this]; omega


/-! ### extending the interval by an adjacent site -/

/-- a site of the interval has one bound leg per neighbour inside the interval -/
theorem nodeAt_nvirt (n r : Nat) (p : Nat → Nat) (lo hi q : Nat) (h1 : lo ≤ r) (h2 : r ≤ hi)
    (hq : lo ≤ q) (hq' : q ≤ hi) :
    (nodeAt n r p lo hi q).nvirt = (if lo < q then 1 else 0) + (if q < hi then 1 else 0) := by
  unfold nodeAt MNode.nvirt
  by_cases a : q < r
  · have b : q < hi := by omega
    simp only [a, b, if_true, Option.isSome_some]
    split <;> rfl
  · by_cases b : r < q
    · have c : lo < q := by omega
      simp only [a, b, c, if_true, if_false, Option.isSome_some]
      split <;> rfl
    · have c : q = r := by omega
      subst c
      simp only [a, if_false, Option.isSome_none, Bool.false_eq_true, List.length_append]
      split <;> split <;> rfl

theorem nodeAt_open (n r : Nat) (p : Nat → Nat) (lo hi q : Nat) (hn : hi < n) (h1 : lo ≤ r) (h2 : r ≤ hi)
    (hq : lo ≤ q) (hq' : q ≤ hi) (hout : q = lo ∧ 0 < lo ∨ q = hi ∧ hi + 1 < n) :
    (nodeAt n r p lo hi q).nvirt < (legsOf n r p q).length := by
  rw [legsOf_length n r p q (by omega), nodeAt_nvirt n r p lo hi q h1 h2 hq hq']
  unfold nlegsIn
  rcases hout with ⟨rfl, h0⟩ | ⟨rfl, h3⟩
  · rw [if_neg (Nat.lt_irrefl _), if_pos h0]
    by_cases h : q < hi
    · rw [if_pos h, if_pos (by omega : q + 1 < n)]; omega
    · rw [if_neg h]; omega
  · rw [if_neg (Nat.lt_irrefl _), if_pos h3]
    by_cases h : lo < q
    · rw [if_pos h, if_pos (Nat.lt_of_le_of_lt (Nat.zero_le _) h)]; omega
    · rw [if_neg h]; omega

/-- the closed form lists the root's left child first: a site is attached on the left only while no site
    is on the right (`hi = r`) -/
theorem nodeAt_children_left (n r : Nat) (p : Nat → Nat) (lo i : Nat) (hlo : lo < r) (hi : lo + 1 ≤ i)
    (hi' : i ≤ r) :
    (nodeAt n r p lo r i).children =
      (nodeAt n r p (lo + 1) r i).children ++ if i = lo + 1 then [lo] else [] := by
  unfold nodeAt
  by_cases a : i = lo + 1
  · subst a
    by_cases b : lo + 1 < r
    · simp [b]
    · have e : r = lo + 1 := by omega
      subst e
      simp
  · have b : lo + 1 < i := by omega
    have c : lo < i := by omega
    by_cases d : i < r
    · simp [a, b, c, d]
    · have e : i = r := by omega
      subst e
      simp [a, b, c]

theorem nodeAt_children_right (n r : Nat) (p : Nat → Nat) (lo hi i : Nat) (h2 : r ≤ hi) (hi' : i ≤ hi) :
    (nodeAt n r p lo (hi + 1) i).children =
      (nodeAt n r p lo hi i).children ++ if i = hi then [hi + 1] else [] := by
  unfold nodeAt
  have c : i < hi + 1 := by omega
  by_cases a : i < r
  · have d : ¬ i = hi := by omega
    simp only [a, d, if_true, if_false, List.append_nil]
  · by_cases d : i = hi
    · subst d
      by_cases b : r < i
      · simp only [a, b, c, Nat.lt_irrefl, if_true, if_false, List.nil_append]
      · have e : i = r := by omega
        subst e
        simp only [a, c, if_true, if_false, List.append_nil]
    · have e : i < hi := by omega
      by_cases b : r < i
      · simp only [a, b, c, d, e, if_true, if_false, List.append_nil]
      · have f : i = r := by omega
        subst f
        simp only [a, c, d, e, if_true, if_false, List.append_nil]

/-- `add_child_to_parent` of the site `s` next to the interval `lo … hi` below its neighbour `q`, at `q`'s
    first open leg: the closed form for the longer interval `lo' … hi'`, given that in it `q` has the new
    child at the end and nothing else differs -/
theorem stateAt_addChild (n r : Nat) (p : Nat → Nat) (lo hi lo' hi' s q cleg : Nat) (h1 : lo ≤ r)
    (h2 : r ≤ hi) (hq : lo ≤ q ∧ q ≤ hi) (hs : s < lo ∨ hi < s) (hcleg : cleg < nlegsIn n p s)
    (hopen : (nodeAt n r p lo hi q).nvirt < (legsOf n r p q).length)
    (hkids : ∀ i, lo ≤ i → i ≤ hi → (nodeAt n r p lo' hi' i).children =
      (nodeAt n r p lo hi i).children ++ if i = q then [s] else [])
    (hnew : nodeAt n r p lo' hi' s = ⟨s, some q, [], legsOf n r p s⟩)
    (hlegs : popInsert (List.range (nlegsIn n p s)) cleg 0 = legsOf n r p s) :
    addChild (stateAt n r p lo hi) s (nlegsIn n p s) cleg q (nodeAt n r p lo hi q).nvirt =
      some ⟨(idsAt r lo hi ++ [s]).map (nodeAt n r p lo' hi'), r, List.range' lo (r - lo),
        List.range' (r + 1) (hi - r)⟩ := by
  refine addChild_closed (idsAt r lo hi) (nodeAt n r p lo hi) (nodeAt n r p lo' hi') r _ _ s _ cleg q _
    (nodeAt_id n r p lo hi) ((mem_idsAt r lo hi q h1 h2).2 hq)
    (fun h => by have := (mem_idsAt r lo hi s h1 h2).1 h; omega) hcleg (Nat.le_refl _) hopen ?_
    (by rw [hnew, hlegs])
  intro i hmem
  obtain ⟨ha, hb⟩ := (mem_idsAt r lo hi i h1 h2).1 hmem
  show (⟨i, chainParent r i, (nodeAt n r p lo' hi' i).children, legsOf n r p i⟩ : MNode) = _
  rw [hkids i ha hb]
  by_cases hiq : i = q
  · subst hiq
    rw [if_pos rfl, if_pos rfl, toChild_eq _ _ _ rfl hopen]
    rfl
  · rw [if_neg hiq, if_neg hiq, List.append_nil]
    rfl

/-- one pass of the left loop: site `lo` is attached when `lo + 1 … r` are present -/
theorem attachLeft_step (n r : Nat) (p : Nat → Nat) (lo : Nat) (hr : r < n) (hlo : lo < r) :
    attachLeft (stateAt n r p (lo + 1) r) lo (nlegsIn n p lo) (lo == 0) =
      some (stateAt n r p lo r) := by
  have hnv := nodeAt_nvirt n r p (lo + 1) r (lo + 1) hlo (Nat.le_refl r) (Nat.le_refl _) hlo
  rw [if_neg (Nat.lt_irrefl _), Nat.zero_add] at hnv
  have hopen := nodeAt_open n r p (lo + 1) r (lo + 1) hr hlo (Nat.le_refl r) (Nat.le_refl _) hlo
    (Or.inl ⟨rfl, Nat.succ_pos lo⟩)
  -- the parent is the root at leg `len(children)` (first pass) or the left end at leg 1: in both cases
  -- the site `lo + 1` at its first open leg
  have key : ∀ pleg, pleg = (nodeAt n r p (lo + 1) r (lo + 1)).nvirt →
      (addChild (stateAt n r p (lo + 1) r) lo (nlegsIn n p lo) (if (lo == 0) = true then 0 else 1)
        (lo + 1) pleg).map (fun s => { s with left := lo :: s.left }) = some (stateAt n r p lo r) := by
    intro pleg hpleg
    rw [hpleg, stateAt_addChild n r p (lo + 1) r lo r lo (lo + 1) _ hlo (Nat.le_refl r) (by omega) (by omega)
      (cleg_left_lt n p lo (by omega)) hopen (fun i a b => nodeAt_children_left n r p lo i hlo a b)
      (by simp [nodeAt, hlo]) (legs_left n r p lo hlo hr)]
    simp only [Option.map_some, stateAt]
    rw [idsAt_left r lo hlo, (by omega : r - lo = (r - (lo + 1)) + 1), List.range'_succ]
  unfold attachLeft
  have hhead : (stateAt n r p (lo + 1) r).left.head? = if r - (lo + 1) = 0 then none else some (lo + 1) :=
    List.head?_range'
  rw [hhead]
  by_cases h : lo + 1 < r
  · rw [if_neg (by omega)]
    exact key 1 (by rw [hnv, if_pos h])
  · have e : lo + 1 = r := by omega
    subst e
    rw [if_pos (Nat.sub_self _)]
    simp only [show (stateAt n (lo + 1) p (lo + 1) (lo + 1)).root = lo + 1 from rfl,
      stateAt_find n (lo + 1) p (lo + 1) (lo + 1) (lo + 1) (Nat.le_refl _) (Nat.le_refl _) ⟨Nat.le_refl _, Nat.le_refl _⟩,
      Option.map_some]
    exact key _ (by rw [hnv, if_neg h]; simp [nodeAt])

theorem addChild_right (n r : Nat) (p : Nat → Nat) (lo hi : Nat) (h1 : lo ≤ r) (h2 : r ≤ hi)
    (h3 : hi + 1 < n) :
    addChild (stateAt n r p lo hi) (hi + 1) (nlegsIn n p (hi + 1)) 0 hi (nodeAt n r p lo hi hi).nvirt =
      some ⟨(idsAt r lo hi ++ [hi + 1]).map (nodeAt n r p lo (hi + 1)), r, List.range' lo (r - lo),
        List.range' (r + 1) (hi - r)⟩ := by
  have a : ¬ hi + 1 < r := by omega
  have b : r < hi + 1 := by omega
  exact stateAt_addChild n r p lo hi lo (hi + 1) (hi + 1) hi 0 h1 h2 (by omega) (by omega)
    (by unfold nlegsIn; rw [if_pos (Nat.succ_pos hi)]; omega) (nodeAt_open n r p lo hi hi (by omega) h1 h2 (by omega) (Nat.le_refl hi) (Or.inr ⟨rfl, h3⟩))
    (fun i _ hi' => nodeAt_children_right n r p lo hi i h2 hi') (by simp [nodeAt, a, b])
    (legs_right n r p (hi + 1) b)

/-- one pass of the right loop: site `hi + 1` is attached when `lo … hi` are present -/
theorem attachRight_step (n r : Nat) (p : Nat → Nat) (lo hi : Nat) (h1 : lo ≤ r) (h2 : r ≤ hi)
    (h3 : hi + 1 < n) (h4 : r < hi ∨ lo < r) :
    attachRight (stateAt n r p lo hi) (hi + 1) (nlegsIn n p (hi + 1)) =
      some (stateAt n r p lo (hi + 1)) := by
  have hnv : (nodeAt n r p lo hi hi).nvirt = 1 := by
    rw [nodeAt_nvirt n r p lo hi hi h1 h2 (by omega) (Nat.le_refl _), if_pos (by omega),
      if_neg (Nat.lt_irrefl _)]
  have key : (addChild (stateAt n r p lo hi) (hi + 1) (nlegsIn n p (hi + 1)) 0 hi 1).map
      (fun s => { s with right := s.right ++ [hi + 1] }) = some (stateAt n r p lo (hi + 1)) := by
    have h := addChild_right n r p lo hi h1 h2 h3
    rw [hnv] at h
    rw [h]
    simp only [Option.map_some, stateAt]
    rw [idsAt_right r lo hi h2, (by omega : hi + 1 - r = (hi - r) + 1), List.range'_concat,
      (by omega : r + 1 + 1 * (hi - r) = hi + 1)]
  -- the parent is `hi`: the root when `hi = r`, else the right end
  have hlast : (stateAt n r p lo hi).right.getLast? = if hi - r = 0 then none else some (r + 1 + (hi - r) - 1) :=
    List.getLast?_range'
  unfold attachRight
  rw [hlast]
  by_cases h : hi - r = 0
  · rw [if_pos h, show (stateAt n r p lo hi).root = hi from (by show r = hi; omega)]
    exact key
  · rw [if_neg h, (by omega : r + 1 + (hi - r) - 1 = hi)]
    exact key

theorem addRoot_eq (n r : Nat) (p : Nat → Nat) : addRoot r (nlegsIn n p r) = stateAt n r p r r := by
  simp [addRoot, stateAt, idsAt, nodeAt, legsOf]

theorem leftLoop (n r : Nat) (p : Nat → Nat) (hr : r < n) (j : Nat) (hj : j ≤ r) :
    (List.range j).foldl
      (fun acc i => acc.bind fun st =>
        let site := r - 1 - i
        attachLeft st site (nlegsIn n p site) (site == 0)) (some (stateAt n r p r r)) =
      some (stateAt n r p (r - j) r) := by
  induction j with
  | zero => simp
  | succ j ih =>
    rw [List.range_succ, List.foldl_append, ih (by omega)]
    simp only [List.foldl_cons, List.foldl_nil, Option.bind_some]
    have e : r - j = (r - 1 - j) + 1 := by omega
    rw [e, attachLeft_step n r p (r - 1 - j) hr (by omega)]
    congr 2
    omega

theorem rightLoop (n r : Nat) (p : Nat → Nat) (lo hi0 : Nat) (h1 : lo ≤ r) (h2 : r ≤ hi0)
    (h4 : r < hi0 ∨ lo < r) (cnt : Nat) (hc : hi0 + cnt < n) :
    (List.range cnt).foldl
      (fun acc i => acc.bind fun st =>
        let site := hi0 + 1 + i
        attachRight st site (nlegsIn n p site)) (some (stateAt n r p lo hi0)) =
      some (stateAt n r p lo (hi0 + cnt)) := by
  induction cnt with
  | zero => simp
  | succ c ih =>
    rw [List.range_succ, List.foldl_append, ih (by omega)]
    simp only [List.foldl_cons, List.foldl_nil, Option.bind_some]
    have e : hi0 + 1 + c = (hi0 + c) + 1 := by omega
    rw [e, attachRight_step n r p lo (hi0 + c) h1 (by omega) (by omega) (by omega)]
    congr 2


/-- `from_tensor_list` completes with the closed form for all sites, on both code paths (`r = 0`: `leftmost`, whose
    loop counts from `i + 2`; `hst`, `hfun` bring it to the form of `rightLoop`) -/
theorem fromTensorList_closed (n r : Nat) (p : Nat → Nat) (hn : 2 ≤ n) (hr : r < n) :
    fromTensorList n r p = some (stateAt n r p 0 (n - 1)) := by
  unfold fromTensorList
  rw [if_neg (by omega)]
  by_cases h0 : r = 0
  · subst h0
    rw [if_pos rfl]
    unfold leftmost
    rw [if_neg (by omega)]
    simp only
    rw [addRoot_eq, if_pos (by omega),
      show addChild (stateAt n 0 p 0 0) 1 (nlegsIn n p 1) 0 0 0 = _ from
        addChild_right n 0 p 0 0 (Nat.le_refl 0) (Nat.le_refl 0) (by omega)]
    simp only [Option.map_some]
    have hst : (⟨(idsAt 0 0 0 ++ [1]).map (nodeAt n 0 p 0 1), 0, List.range' 0 (0 - 0),
        List.range' (0 + 1) (0 - 0) ++ [1]⟩ : MPT) = stateAt n 0 p 0 1 := by
      simp [stateAt, idsAt]
    rw [hst]
    have hfun : (fun (acc : Option MPT) (i : Nat) => acc.bind fun st =>
          attachRight st (i + 2) (nlegsIn n p (i + 2))) =
        (fun acc i => acc.bind fun st =>
          let site := 1 + 1 + i
          attachRight st site (nlegsIn n p site)) := by
      funext acc i
      have : i + 2 = 1 + 1 + i := by omega
      rw [this]
    rw [hfun, rightLoop n 0 p 0 1 (by omega) (by omega) (by omega) (n - 2) (by omega)]
    congr 2
    omega
  · rw [if_neg h0]
    simp only
    rw [addRoot_eq, leftLoop n r p hr r (Nat.le_refl r), Nat.sub_self,
      rightLoop n r p 0 r (by omega) (by omega) (by omega) (n - r - 1) (by omega)]
    congr 2
    omega

/-- the bond axes of the input tensor of site `i`, in input order: the normal form through which `axisName`,
    `nlegsIn` and the leg lists are compared (`axisName_eq`, `bondAxes_length`, `toward_nbrs`) -/
def bondAxes (n i : Nat) : List Axis :=
  (if 0 < i then [.left] else []) ++ (if i + 1 < n then [.right] else [])

theorem bondAxes_length (n : Nat) (p : Nat → Nat) (i : Nat) :
    nlegsIn n p i = (bondAxes n i).length + p i := by
  unfold nlegsIn bondAxes
  split <;> split <;> rfl

theorem axisName_eq (n i a : Nat) :
    axisName n i a = ((bondAxes n i)[a]?).getD (.phys (a - (bondAxes n i).length)) := by
  unfold axisName bondAxes
  by_cases h0 : 0 < i <;> by_cases h1 : i + 1 < n
  · rw [if_pos ⟨h0, h1⟩, if_pos h0, if_pos h1]
    match a with
    | 0 => rfl
    | 1 => rfl
    | a + 2 => rfl
  · rw [if_neg (fun h => h1 h.2), if_pos h0, if_pos h0, if_neg h1]
    match a with
    | 0 => rfl
    | a + 1 => rfl
  · rw [if_neg (fun h => h0 h.1), if_neg h0, if_neg h0, if_pos h1, if_pos h1]
    match a with
    | 0 => rfl
    | a + 1 => rfl
  · rw [if_neg (fun h => h0 h.1), if_neg h0, if_neg h0, if_neg h1, if_neg h1]
    rfl

theorem axisName_range (n : Nat) (p : Nat → Nat) (i : Nat) :
    (List.range (nlegsIn n p i)).map (axisName n i) = bondAxes n i ++ (List.range (p i)).map Axis.phys := by
  rw [bondAxes_length, List.range_add, List.map_append, List.map_map]
  congr 1
  · apply List.ext_getElem
    · simp
    · intro a h1 h2
      simp only [List.length_map, List.length_range] at h1
      simp [axisName_eq, h1]
  · apply List.map_congr_left
    intro a _
    simp [axisName_eq]

/-- the bond legs in logical order `(parent, children)`: input order, except that an inner site left of the root
    has its parent on the right -/
theorem toward_nbrs (n r i : Nat) (hr : r < n) (hi : i < n) :
    ((chainParent r i).toList ++ chainChildren n r i).map (toward i) =
      if 0 < i ∧ i < r then [.right, .left] else bondAxes n i := by
  unfold chainParent chainChildren bondAxes toward
  by_cases h1 : i < r
  · have a : i + 1 < n := by omega
    have b : ¬ i + 1 < i := by omega
    by_cases h2 : 0 < i
    · have c : i - 1 < i := by omega
      simp [h1, h2, b, c]
    · simp [h1, h2, a]
  · by_cases h2 : r < i
    · have z : 0 < i := by omega
      have c : i - 1 < i := by omega
      have b : ¬ i + 1 < i := by omega
      by_cases h3 : i + 1 < n <;> simp [h1, h2, h3, z, b, c]
    · have e : i = r := by omega
      subst e
      have b : ¬ i + 1 < i := by omega
      by_cases h3 : 0 < i
      · have c : i - 1 < i := by omega
        by_cases h4 : i + 1 < n <;> simp [h3, h4, b, c]
      · by_cases h4 : i + 1 < n <;> simp [h3, h4, b]

theorem axis_inner_swapped (n i m : Nat) (h0 : 0 < i) (h1 : i + 1 < n) :
    (1 :: 0 :: List.range' 2 m).map (axisName n i) =
      .right :: .left :: (List.range m).map Axis.phys := by
  rw [List.range'_eq_map_range]
  simp [axisName_eq, bondAxes, h0, h1]

theorem legs_axis (n r : Nat) (p : Nat → Nat) (i : Nat) (hr : r < n) (hi : i < n) :
    (legsOf n r p i).map (axisName n i) = chainLegs n r p i := by
  unfold legsOf chainLegs
  rw [toward_nbrs n r i hr hi]
  by_cases h : 0 < i ∧ i < r
  · rw [if_pos h, if_pos h, axis_inner_swapped n i _ h.1 (by omega)]
    rfl
  · rw [if_neg h, if_neg h, axisName_range]

theorem nodeAt_final (n r : Nat) (p : Nat → Nat) (i : Nat) :
    (nodeAt n r p 0 (n - 1) i).parent = chainParent r i ∧
    (nodeAt n r p 0 (n - 1) i).children = chainChildren n r i := by
  refine ⟨rfl, ?_⟩
  show (nodeAt n r p 0 (n - 1) i).children = chainChildren n r i
  unfold nodeAt chainChildren
  by_cases h1 : i < r
  · simp only [h1, if_true]
  · by_cases h2 : r < i
    · by_cases h3 : i + 1 < n
      · have a : i < n - 1 := by omega
        simp only [h1, h2, h3, a, if_true, if_false]
      · have a : ¬ i < n - 1 := by omega
        simp only [h1, h2, h3, a, if_true, if_false]
    · by_cases h3 : r + 1 < n
      · have a : r < n - 1 := by omega
        simp only [h1, h2, h3, a, if_true, if_false]
      · have a : ¬ r < n - 1 := by omega
        simp only [h1, h2, h3, a, if_false]

/-- the label of the leg of site `i` that points to its neighbour `j` -/
theorem lab_nbr (n r : Nat) (p : Nat → Nat) (i j : Nat) (hr : r < n) (hi : i < n)
    (hj : j ∈ (chainParent r i).toList ++ chainChildren n r i) :
    (nodeAt n r p 0 (n - 1) i).lab n ((nodeAt n r p 0 (n - 1) i).nbrPos j) = (i, toward i j) := by
  unfold MNode.lab MNode.nbrPos
  rw [(nodeAt_final n r p i).1, (nodeAt_final n r p i).2]
  show (i, ((legsOf n r p i).map (axisName n i)).getD _ Axis.left) = _
  rw [legs_axis n r p i hr hi]
  unfold chainLegs
  congr 1
  have hlt : ((chainParent r i).toList ++ chainChildren n r i).idxOf j <
      (((chainParent r i).toList ++ chainChildren n r i).map (toward i)).length := by
    rw [List.length_map]; exact List.idxOf_lt_length_of_mem hj
  rw [List.getD_eq_getElem?_getD, List.getElem?_append_left hlt, ← List.getD_eq_getElem?_getD]
  exact getD_map_idxOf _ _ hj

theorem lab_zero (n r : Nat) (p : Nat → Nat) (i q : Nat) (hr : r < n) (hi : i < n)
    (hq : chainParent r i = some q) :
    (nodeAt n r p 0 (n - 1) i).lab n 0 = (i, toward i q) := by
  have h := lab_nbr n r p i q hr hi (by simp [hq])
  have h0 : (nodeAt n r p 0 (n - 1) i).nbrPos q = 0 := by
    unfold MNode.nbrPos
    rw [(nodeAt_final n r p i).1, hq]
    simp
  rw [h0] at h
  exact h

/-- a site other than the root has a parent, is a child of it, and `recPair` is the edge between the two -/
theorem chainParent_edge (n r i : Nat) (hr : r < n) (hi : i < n) (hne : i ≠ r) :
    ∃ q, chainParent r i = some q ∧ q < n ∧ i ∈ chainChildren n r q ∧
      recPair r i = ((q, toward q i), (i, toward i q)) := by
  unfold chainParent recPair toward
  by_cases hlt : i < r
  · refine ⟨i + 1, if_pos hlt, by omega, ?_, ?_⟩
    · unfold chainChildren
      by_cases h1 : i + 1 < r
      · simp [h1]
      · have : i + 1 = r := by omega
        subst this
        simp
    · rw [if_pos hlt, if_pos (Nat.lt_succ_self i), if_neg (Nat.not_lt.2 (Nat.le_succ i))]
  · have hgt : r < i := by omega
    obtain ⟨j, rfl⟩ : ∃ j, i = j + 1 := ⟨i - 1, by omega⟩
    refine ⟨j, by rw [if_neg hlt, if_pos hgt]; rfl, by omega, ?_, ?_⟩
    · unfold chainChildren
      by_cases h1 : r < j
      · simp [h1, Nat.lt_asymm h1, hi]
      · have : j = r := by omega
        subst this
        simp [hi]
    · rw [if_neg hlt, if_neg (Nat.not_lt.2 (Nat.le_succ j)), if_pos (Nat.lt_succ_self j)]
      rfl

theorem stRecord_final (n r : Nat) (p : Nat → Nat) (hr : r < n) :
    stRecord n (stateAt n r p 0 (n - 1)) = (idsAt r 0 (n - 1)).tail.map (recPair r) := by
  unfold stRecord
  show ((idsAt r 0 (n - 1)).map (nodeAt n r p 0 (n - 1))).filterMap _ = _
  have hroot : (nodeAt n r p 0 (n - 1) r).parent = none := by simp [nodeAt]
  unfold idsAt
  rw [List.map_cons, List.filterMap_cons]
  simp only [hroot, List.tail_cons]
  rw [List.filterMap_map]
  apply filterMap_eq_map_of
  intro i hi
  have hi' : i ≠ r ∧ i < n := by
    simp only [List.mem_append, List.mem_map, List.mem_range, List.mem_range'_1] at hi
    rcases hi with ⟨t, ht, rfl⟩ | h <;> omega
  obtain ⟨q, hq, hqn, hmem, hpair⟩ := chainParent_edge n r i hr hi'.2 hi'.1
  have hpar : (nodeAt n r p 0 (n - 1) i).parent = some q := hq
  simp only [Function.comp, hpar]
  rw [stateAt_find n r p 0 (n - 1) q (by omega) (by omega) (by omega)]
  simp only [Option.map_some, nodeAt_id]
  rw [lab_nbr n r p q i hr hqn (List.mem_append_right _ hmem), lab_zero n r p i q hr hi'.2 hq, hpair]

theorem mem_legsOf (n r : Nat) (p : Nat → Nat) (i a : Nat) (hr : r < n) (ha : a < nlegsIn n p i) :
    a ∈ legsOf n r p i := by
  unfold legsOf
  split
  · rename_i h
    have h1 : 0 < i := h.1
    have h2 : i + 1 < n := by omega
    have : nlegsIn n p i = 2 + p i := by
      unfold nlegsIn; simp [h1, h2]
    simp only [List.mem_cons, List.mem_range'_1]
    omega
  · exact List.mem_range.2 ha

/-! ### the record: orientation and order -/

/-- the bond between the sites `i` and `i + 1`: the entry of `chainRecord` -/
def chainPair (i : Nat) : CLeg × CLeg := ((i, Axis.right), (i + 1, Axis.left))

theorem map_pred_range' (s m : Nat) : (List.range' (s + 1) m).map (· - 1) = List.range' s m := by
  induction m generalizing s with
  | zero => rfl
  | succ m ih => simp [List.range'_succ, ih]

theorem idsAt_tail_pairs (n r : Nat) :
    (idsAt r 0 (n - 1)).tail.map (recPair r) =
      ((List.range r).reverse.map chainPair).map Prod.swap ++ (List.range' r (n - 1 - r)).map chainPair := by
  rw [idsAt_final, chainOrder, List.tail_cons, List.map_append]
  congr 1
  · rw [List.map_map]
    apply List.map_congr_left
    intro i hi
    have : i < r := by simpa using hi
    simp [recPair, chainPair, this]
  · rw [← map_pred_range' r, List.map_map]
    apply List.map_congr_left
    intro i hi
    have : r < i := by
      simp only [List.mem_range'_1] at hi; omega
    have a : ¬ i < r := by omega
    have b : i - 1 + 1 = i := by omega
    simp [recPair, chainPair, a, b]

theorem range_split (n r : Nat) (hr : r < n) :
    List.range n = List.range r ++ r :: List.range' (r + 1) (n - 1 - r) := by
  have e : n = r + ((n - 1 - r) + 1) := by omega
  conv => lhs; rw [e]
  rw [List.range_add, ← List.range'_eq_map_range, List.range'_succ]

theorem idsAt_perm_range (n r : Nat) (hr : r < n) : (idsAt r 0 (n - 1)).Perm (List.range n) := by
  rw [idsAt_final, chainOrder, range_split n r hr]
  refine List.Perm.trans ?_ List.perm_middle.symm
  exact List.Perm.cons _ (List.Perm.append_right _ (List.reverse_perm _))


end Ptn.C19
