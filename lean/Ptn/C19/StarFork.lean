import Ptn.C19.Attach
/-! Star and fork constructors (helper lemmas for `star_structure`, `fork_structure`).  A call of `add_chain_node`,
`add_main_chain_node`, `add_sub_chain_node` is its guards and one attachment (`starAddL_iff`, `forkAddL_main_iff`,
`forkAddL_sub_iff`: the only places where the call functions are opened); the attachments of a call sequence form a log
(`starOps`, `forkOps`), and every accepted sequence leaves the closed form of `Attach.lean` for that log together with
the counters `chains` / `sub_chains` (`StarInv`, `ForkInv`; `star_step`, `fork_step`).  In both logs the parent is a
function of the child (`starPar`, `forkPar`). -/
namespace Ptn.C19

theorem attachAt_none {ι : Type} [DecidableEq ι] (nodes : List (GNode ι)) (cid : ι) (shape : List Nat) (pid : ι) :
    attachAt nodes cid shape pid none = attachFirstOpen nodes cid shape pid := by
  unfold attachAt attachFirstOpen
  cases gFind nodes pid <;> rfl

theorem starAddL_none (st : Star) (c : Nat) (shape : List Nat) :
    starAddL st c shape none = starAdd st c shape := by
  unfold starAddL starAdd
  simp only [attachAt_none]

def ForkCallL.default : ForkCall → ForkCallL
  | .main shape => .main shape none
  | .sub i shape => .sub i shape none

theorem forkAddL_none (st : Fork) (call : ForkCall) : forkAddL st (ForkCallL.default call) = forkAdd st call := by
  cases call <;> simp only [ForkCallL.default, forkAddL, forkAdd, attachAt_none]

theorem map_eq_some_iff_eq {α β : Type} (o : Option α) (g : α → β) (b : β) :
    o.map g = some b ↔ ∃ a, o = some a ∧ b = g a := by
  cases o <;> simp [eq_comm]

theorem starAddL_iff (st st' : Star) (c : Nat) (shape : List Nat) (pl : Option Nat) :
    starAddL st c shape pl = some st' ↔
      (∃ ctr, gFind st.nodes .center = some ctr ∧ c ≤ ctr.legs.length) ∧
      ((c = st.lens.length ∧ ∃ ns, attachAt st.nodes (.chain c 0) shape .center pl = some ns ∧
          st' = ⟨ns, st.lens ++ [1]⟩) ∨
       (∃ j ns, st.lens[c]? = some j ∧ attachAt st.nodes (.chain c j) shape (.chain c (j - 1)) pl = some ns ∧
          st' = ⟨ns, st.lens.set c (j + 1)⟩)) := by
  unfold starAddL
  cases gFind st.nodes StarId.center with
  | none => exact ⟨(fun h => nomatch h), (fun ⟨⟨_, h, _⟩, _⟩ => nomatch h)⟩
  | some ctr =>
    simp only [Option.some.injEq, exists_eq_left']
    by_cases h1 : ctr.legs.length < c
    · rw [if_pos h1]; exact ⟨(fun h => nomatch h), (fun h => absurd h.1 (Nat.not_le.2 h1))⟩
    rw [if_neg h1]
    by_cases h2 : st.lens.length < c
    · rw [if_pos h2]
      refine ⟨(fun h => nomatch h), ?_⟩
      rintro ⟨_, ⟨e, _⟩ | ⟨j, _, hj, _⟩⟩
      · exact absurd h2 (e ▸ Nat.lt_irrefl _)
      · rw [List.getElem?_eq_none_iff.2 (Nat.le_of_lt h2)] at hj; cases hj
    rw [if_neg h2]
    by_cases h3 : c = st.lens.length
    · rw [if_pos h3, map_eq_some_iff_eq]
      constructor
      · rintro ⟨ns, h, e⟩; exact ⟨Nat.not_lt.1 h1, Or.inl ⟨h3, ns, h, e⟩⟩
      · rintro ⟨_, ⟨_, ns, h, e⟩ | ⟨j, _, hj, _⟩⟩
        · exact ⟨ns, h, e⟩
        · rw [List.getElem?_eq_none_iff.2 (Nat.le_of_eq h3.symm)] at hj; cases hj
    · rw [if_neg h3]
      cases st.lens[c]? with
      | none =>
        refine ⟨(fun h => nomatch h), ?_⟩
        rintro ⟨_, ⟨e, _⟩ | ⟨j, _, hj, _⟩⟩
        · exact absurd e h3
        · cases hj
      | some j =>
        simp only [map_eq_some_iff_eq]
        constructor
        · rintro ⟨ns, h, e⟩; exact ⟨Nat.not_lt.1 h1, Or.inr ⟨j, ns, rfl, h, e⟩⟩
        · rintro ⟨_, ⟨e, _⟩ | ⟨j', ns, hj, h, e⟩⟩
          · exact absurd e h3
          · cases hj; exact ⟨ns, h, e⟩

theorem forkAddL_main_iff (st st' : Fork) (shape : List Nat) (pl : Option Nat) :
    forkAddL st (.main shape pl) = some st' ↔
      (st.subLens.length = 0 ∧ st.nodes = [] ∧ st' = ⟨[rootNode (.main 0) shape], [0]⟩) ∨
      (0 < st.subLens.length ∧ ∃ ns,
        attachAt st.nodes (.main st.subLens.length) shape (.main (st.subLens.length - 1)) pl = some ns ∧
        st' = ⟨ns, st.subLens ++ [0]⟩) := by
  simp only [forkAddL]
  by_cases hm : st.subLens.length = 0
  · rw [if_pos hm]
    by_cases he : st.nodes.isEmpty = true
    · rw [if_pos he]
      simp [hm, List.isEmpty_iff.1 he, eq_comm]
    · rw [if_neg he]
      simp only [hm, true_and, Nat.lt_irrefl, false_and, or_false, reduceCtorEq, false_iff, not_and]
      exact fun h => absurd (List.isEmpty_iff.2 h) he
  · rw [if_neg hm, map_eq_some_iff_eq]
    simp [hm, Nat.pos_of_ne_zero hm]

theorem forkAddL_sub_iff (st st' : Fork) (i : Nat) (shape : List Nat) (pl : Option Nat) :
    forkAddL st (.sub i shape pl) = some st' ↔
      ∃ j ns, st.subLens[i]? = some j ∧
        attachAt st.nodes (.sub i j) shape (if j = 0 then ForkId.main i else .sub i (j - 1)) pl = some ns ∧
        st' = ⟨ns, st.subLens.set i (j + 1)⟩ := by
  simp only [forkAddL]
  by_cases h1 : st.subLens.length < i
  · rw [if_pos h1]
    have : st.subLens[i]? = none := List.getElem?_eq_none_iff.2 (Nat.le_of_lt h1)
    simp [this]
  · rw [if_neg h1]
    cases st.subLens[i]? with
    | none => simp
    | some j =>
      simp only [map_eq_some_iff_eq, Option.some.injEq]
      exact ⟨fun ⟨a, h⟩ => ⟨j, a, rfl, h⟩, fun ⟨_, a, e, h⟩ => e ▸ ⟨a, h⟩⟩

section
variable {α K ι : Type} [BEq K] [LawfulBEq K]

/-- the log of a call sequence: every call contributes one operation, which may depend on the calls before it.
    The model's `starOpsAux` and `forkOpsAux` are its instances (`starOpsAux_eq`, `forkOpsAux_eq`); which identifiers a
    log contains (`logAux_cids`) is proved for it once and serves both. -/
def logAux (mk : List α → α → AOp ι) (pre : List α) : List α → List (AOp ι)
  | [] => []
  | x :: xs => mk pre x :: logAux mk (pre ++ [x]) xs

/-- the node of a call is named by the kind `κ` of the call and its rank among the calls of that kind: the
    names present are those whose rank is below the number of calls of the kind -/
theorem logAux_cids (mk : List α → α → AOp ι) (κ : α → K) (name : K → Nat → ι)
    (hname : ∀ k j k' j', name k j = name k' j' ↔ k = k' ∧ j = j')
    (hmk : ∀ pre x, (mk pre x).cid = name (κ x) ((pre.map κ).count (κ x))) (pre xs : List α) (k : K) (j : Nat) :
    name k j ∈ (logAux mk pre xs).map (·.cid) ↔
      (pre.map κ).count k ≤ j ∧ j < (pre.map κ).count k + (xs.map κ).count k := by
  induction xs generalizing pre with
  | nil => simp [logAux]
  | cons x xs ih =>
    simp only [logAux, List.map_cons, List.mem_cons, ih, hmk, hname, List.map_append, List.count_append,
      List.count_cons, List.count_nil, List.map_nil, Nat.zero_add, beq_iff_eq]
    by_cases h : κ x = k
    · subst h; simp only [beq_self_eq_true, if_true, true_and]; omega
    · have h' : ¬ k = κ x := fun e => h e.symm
      simp only [beq_false_of_ne h, Bool.false_eq_true, if_false, h', false_and, false_or]; omega

end

/-- number of calls with chain index `c` -/
def cntC (calls : List (Nat × List Nat)) (c : Nat) : Nat := (calls.map (·.1)).count c

/-- what the call `add_chain_node(tensor of shape x.2, x.1)` attaches after the calls `pre`: the node
    `chain c j` with `j` = number of earlier calls with the same chain index, below the centre (`j = 0`)
    or below its predecessor on the chain -/
def starOp (pre : List (Nat × List Nat)) (x : Nat × List Nat) : AOp StarId :=
  ⟨.chain x.1 (cntC pre x.1), x.2,
   if cntC pre x.1 = 0 then .center else .chain x.1 (cntC pre x.1 - 1)⟩

def starOpsAux (pre : List (Nat × List Nat)) : List (Nat × List Nat) → List (AOp StarId)
  | [] => []
  | x :: xs => starOp pre x :: starOpsAux (pre ++ [x]) xs

def starOps (calls : List (Nat × List Nat)) : List (AOp StarId) := starOpsAux [] calls

theorem starOpsAux_append (p a b : List (Nat × List Nat)) :
    starOpsAux p (a ++ b) = starOpsAux p a ++ starOpsAux (p ++ a) b := by
  induction a generalizing p with
  | nil => simp [starOpsAux]
  | cons x a ih => simp [starOpsAux, ih, List.append_assoc]

theorem starOps_snoc (done : List (Nat × List Nat)) (x : Nat × List Nat) :
    starOps (done ++ [x]) = starOps done ++ [starOp done x] := by
  unfold starOps
  rw [starOpsAux_append]
  simp [starOpsAux]

theorem starOpsAux_eq (p xs : List (Nat × List Nat)) : starOpsAux p xs = logAux starOp p xs := by
  induction xs generalizing p with
  | nil => rfl
  | cons x xs ih => simp only [starOpsAux, logAux, ih]

theorem cntC_snoc (done : List (Nat × List Nat)) (c : Nat) (sh : List Nat) (c' : Nat) :
    cntC (done ++ [(c, sh)]) c' = cntC done c' + (if c = c' then 1 else 0) := by
  unfold cntC
  rw [List.map_append, List.count_append]
  simp [List.count_singleton]
  
theorem cntC_append (a b : List (Nat × List Nat)) (c : Nat) : cntC (a ++ b) c = cntC a c + cntC b c := by
  unfold cntC; rw [List.map_append, List.count_append]

/-- the bookkeeping list `chains` against the calls made so far -/
structure LensInv (done : List (Nat × List Nat)) (lens : List Nat) : Prop where
  small : ∀ c, c < lens.length → lens[c]? = some (cntC done c) ∧ 0 < cntC done c
  big : ∀ c, lens.length ≤ c → cntC done c = 0

/-- what every accepted star run keeps: after the calls `done` (the calls after `add_center_node`) the nodes are the
    closed form of the log `starOps done`, and `chains` counts the calls per chain (`star_step`) -/
def StarInv (cshape : List Nat) (done : List (Nat × List Nat)) (st : Star) : Prop :=
  st.nodes = closedG .center cshape (starOps done) ∧ GoodLog .center (starOps done) ∧
    LensInv done st.lens

theorem lensInv_new (done : List (Nat × List Nat)) (lens : List Nat) (c : Nat) (sh : List Nat)
    (hl : LensInv done lens) (hc : c = lens.length) :
    starOp done (c, sh) = ⟨.chain c 0, sh, .center⟩ ∧ LensInv (done ++ [(c, sh)]) (lens ++ [1]) := by
  have hc0 : cntC done c = 0 := hl.big c (Nat.le_of_eq hc.symm)
  refine ⟨by simp [starOp, hc0], ?_, ?_⟩
  · intro c' hc'
    rw [cntC_snoc]
    rw [List.length_append, List.length_singleton] at hc'
    by_cases hcc : c = c'
    · subst hcc
      rw [if_pos rfl, hc0, hc]
      simp
    · rw [if_neg hcc]
      have hlt : c' < lens.length := by omega
      rw [List.getElem?_append_left hlt]
      simpa using hl.small c' hlt
  · intro c' hc'
    rw [List.length_append, List.length_singleton] at hc'
    rw [cntC_snoc, if_neg (by omega), hl.big c' (by omega)]

theorem lensInv_old (done : List (Nat × List Nat)) (lens : List Nat) (c : Nat) (sh : List Nat) (j : Nat)
    (hl : LensInv done lens) (hj : lens[c]? = some j) :
    starOp done (c, sh) = ⟨.chain c j, sh, .chain c (j - 1)⟩ ∧
      LensInv (done ++ [(c, sh)]) (lens.set c (j + 1)) := by
  have hlt : c < lens.length := by
    rcases Nat.lt_or_ge c lens.length with h | h
    · exact h
    · rw [List.getElem?_eq_none_iff.2 h] at hj; cases hj
  obtain ⟨hget, hpos⟩ := hl.small c hlt
  obtain rfl : cntC done c = j := Option.some.inj (hget.symm.trans hj)
  refine ⟨by simp [starOp, Nat.ne_of_gt hpos], ?_, ?_⟩
  · intro c' hc'
    rw [cntC_snoc]
    rw [List.length_set] at hc'
    by_cases hcc : c = c'
    · subst hcc
      rw [if_pos rfl]
      simp [hlt]
    · rw [if_neg hcc, List.getElem?_set_ne hcc]
      simpa using hl.small c' hc'
  · intro c' hc'
    rw [List.length_set] at hc'
    rw [cntC_snoc, if_neg (by omega), hl.big c' hc']

theorem star_step (cshape : List Nat) (done : List (Nat × List Nat)) (st st' : Star) (c : Nat)
    (shape : List Nat) (hinv : StarInv cshape done st) (h : starAdd st c shape = some st') :
    StarInv cshape (done ++ [(c, shape)]) st' := by
  obtain ⟨hn, hg, hl⟩ := hinv
  rw [← starAddL_none, starAddL_iff] at h
  unfold StarInv
  rw [starOps_snoc]
  rcases h with ⟨_, ⟨hc, ns, hat, rfl⟩ | ⟨j, ns, hj, hat, rfl⟩⟩
  · obtain ⟨hop, hl'⟩ := lensInv_new done st.lens c shape hl hc
    rw [attachAt_none, hn] at hat
    rw [hop]
    obtain ⟨h1, h2⟩ := attach_step StarId.center cshape (starOps done) ⟨.chain c 0, shape, .center⟩ ns hg hat
    exact ⟨h1, h2, hl'⟩
  · obtain ⟨hop, hl'⟩ := lensInv_old done st.lens c shape j hl hj
    rw [attachAt_none, hn] at hat
    rw [hop]
    obtain ⟨h1, h2⟩ := attach_step StarId.center cshape (starOps done) ⟨.chain c j, shape, .chain c (j - 1)⟩ ns hg hat
    exact ⟨h1, h2, hl'⟩

theorem star_run_inv (cshape : List Nat) (rest done : List (Nat × List Nat)) (st st' : Star)
    (hinv : StarInv cshape done st) (h : starRunFrom st rest = some st') :
    StarInv cshape (done ++ rest) st' :=
  foldl_bind_inv (fun s (x : Nat × List Nat) => starAdd s x.1 x.2) (StarInv cshape)
    (fun done s a s' h1 h2 => star_step cshape done s s' a.1 a.2 h1 h2) rest done st st' hinv h

theorem starInv_init (cshape : List Nat) : StarInv cshape [] (starInit cshape) := by
  refine ⟨?_, ?_, ?_⟩
  · simp [starInit, starOps, starOpsAux, closedG_nil]
  · simp [starOps, starOpsAux, goodLog_nil]
  · constructor
    · intro c hc; simp [starInit] at hc
    · intro c _; simp [cntC]

/-- parent of a star node: the centre for the head of a chain, else the predecessor on the chain; the value at
    the centre is never read -/
def starPar : StarId → StarId
  | .center => .center
  | .chain c j => if j = 0 then .center else .chain c (j - 1)

theorem starOps_par (calls : List (Nat × List Nat)) : ParLog starPar (starOps calls) := by
  unfold starOps
  generalize ([] : List (Nat × List Nat)) = p
  induction calls generalizing p with
  | nil => intro o ho; cases ho
  | cons x xs ih =>
    intro o ho
    rcases List.mem_cons.1 ho with rfl | ho
    · rfl
    · exact ih _ o ho

theorem starPar_chain {y : StarId} {c j : Nat} (h : starPar y = .chain c j) : y = .chain c (j + 1) := by
  cases y with
  | center => cases h
  | chain c2 j2 =>
    change (if j2 = 0 then _ else _) = _ at h
    by_cases hj : j2 = 0
    · rw [if_pos hj] at h; cases h
    · rw [if_neg hj] at h
      injection h with h1 h2
      rw [h1, ← h2, Nat.sub_add_cancel (Nat.pos_of_ne_zero hj)]

theorem starOpsAux_shapes (p xs : List (Nat × List Nat)) :
    (starOpsAux p xs).map (·.shape) = xs.map (·.2) := by
  induction xs generalizing p with
  | nil => rfl
  | cons x xs ih => simp [starOpsAux, starOp, ih]

/-- first node of a chain -/
def StarId.isHead : StarId → Bool
  | .chain _ 0 => true
  | _ => false

def ForkCall.isMain : ForkCall → Bool
  | .main _ => true
  | .sub _ _ => false

def ForkCall.isSub (i : Nat) : ForkCall → Bool
  | .main _ => false
  | .sub k _ => decide (k = i)

/-- number of main-chain calls / of calls for sub-chain `i` -/
def cntM (calls : List ForkCall) : Nat := calls.countP ForkCall.isMain
def cntS (calls : List ForkCall) (i : Nat) : Nat := calls.countP (ForkCall.isSub i)

/-- what a call attaches after the root `main 0` and the calls `pre`: `main m` below `main (m-1)`;
    `sub i j` (`j` = number of earlier calls for sub-chain `i`) below `main i` (`j = 0`) or `sub i (j-1)` -/
def forkOp (pre : List ForkCall) : ForkCall → AOp ForkId
  | .main sh => ⟨.main (cntM pre + 1), sh, .main (cntM pre)⟩
  | .sub i sh => ⟨.sub i (cntS pre i), sh, if cntS pre i = 0 then .main i else .sub i (cntS pre i - 1)⟩

def forkOpsAux (pre : List ForkCall) : List ForkCall → List (AOp ForkId)
  | [] => []
  | x :: xs => forkOp pre x :: forkOpsAux (pre ++ [x]) xs

def forkOps (calls : List ForkCall) : List (AOp ForkId) := forkOpsAux [] calls

theorem forkOpsAux_append (p a b : List ForkCall) :
    forkOpsAux p (a ++ b) = forkOpsAux p a ++ forkOpsAux (p ++ a) b := by
  induction a generalizing p with
  | nil => simp [forkOpsAux]
  | cons x a ih => simp [forkOpsAux, ih, List.append_assoc]

theorem forkOps_snoc (done : List ForkCall) (x : ForkCall) :
    forkOps (done ++ [x]) = forkOps done ++ [forkOp done x] := by
  unfold forkOps
  rw [forkOpsAux_append]
  simp [forkOpsAux]

theorem cntM_snoc (done : List ForkCall) (x : ForkCall) :
    cntM (done ++ [x]) = cntM done + (if x.isMain then 1 else 0) := by
  unfold cntM
  rw [List.countP_append]
  simp [List.countP_cons]

theorem cntS_snoc (done : List ForkCall) (x : ForkCall) (i : Nat) :
    cntS (done ++ [x]) i = cntS done i + (if x.isSub i then 1 else 0) := by
  unfold cntS
  rw [List.countP_append]
  simp [List.countP_cons]

theorem cntM_append (a b : List ForkCall) : cntM (a ++ b) = cntM a + cntM b := by
  unfold cntM; rw [List.countP_append]

theorem cntS_append (a b : List ForkCall) (i : Nat) : cntS (a ++ b) i = cntS a i + cntS b i := by
  unfold cntS; rw [List.countP_append]

/-- the kind of a call: main chain, or the sub-chain it continues; `cntM` and `cntS` count the calls of a kind -/
def ForkCall.kind : ForkCall → Option Nat
  | .main _ => none
  | .sub i _ => some i

/-- the node named by a kind and a rank: the main calls after the root call make `main 1`, `main 2`, … -/
def ForkId.ofKind : Option Nat → Nat → ForkId
  | none, m => .main (m + 1)
  | some i, j => .sub i j

theorem cntM_kind (l : List ForkCall) : cntM l = (l.map ForkCall.kind).count none := by
  unfold cntM List.count
  rw [List.countP_map]
  congr 1; funext x; cases x <;> rfl

theorem cntS_kind (l : List ForkCall) (i : Nat) : cntS l i = (l.map ForkCall.kind).count (some i) := by
  unfold cntS List.count
  rw [List.countP_map]
  congr 1; funext x
  cases x with
  | main _ => rfl
  | sub k _ => by_cases h : k = i <;> simp [ForkCall.isSub, ForkCall.kind, h]

theorem forkOpsAux_eq (p xs : List ForkCall) : forkOpsAux p xs = logAux forkOp p xs := by
  induction xs generalizing p with
  | nil => rfl
  | cons x xs ih => simp only [forkOpsAux, logAux, ih]

theorem forkOps_cids (done : List ForkCall) (k : Option Nat) (j : Nat) :
    ForkId.ofKind k j ∈ (forkOps done).map (·.cid) ↔ j < (done.map ForkCall.kind).count k := by
  unfold forkOps
  rw [forkOpsAux_eq, logAux_cids forkOp ForkCall.kind ForkId.ofKind
    (by intro k j k' j'; cases k <;> cases k' <;> simp [ForkId.ofKind])
    (by intro pre x; cases x <;> simp [forkOp, ForkCall.kind, ForkId.ofKind, cntM_kind, cntS_kind])]
  simp

/-- the bookkeeping list `sub_chains` against the calls made after the root was created -/
structure SubInv (done : List ForkCall) (subLens : List Nat) : Prop where
  len : subLens.length = cntM done + 1
  small : ∀ i, i < subLens.length → subLens[i]? = some (cntS done i)
  big : ∀ i, subLens.length ≤ i → cntS done i = 0

/-- what every accepted fork run keeps: after the root call (shape `rs`) and the calls `done` the nodes are the closed
    form of the log `forkOps done`, and `sub_chains` counts the calls per sub-chain (`fork_step`) -/
def ForkInv (rs : List Nat) (done : List ForkCall) (st : Fork) : Prop :=
  st.nodes = closedG (.main 0) rs (forkOps done) ∧ GoodLog (.main 0) (forkOps done) ∧
    SubInv done st.subLens

theorem subInv_main (done : List ForkCall) (subLens : List Nat) (sh : List Nat) (hl : SubInv done subLens) :
    SubInv (done ++ [.main sh]) (subLens ++ [0]) := by
  constructor
  · rw [cntM_snoc]; simp [ForkCall.isMain, hl.len]
  · intro i hi
    rw [cntS_snoc]
    simp only [List.length_append, List.length_cons, List.length_nil] at hi
    simp only [ForkCall.isSub, Bool.false_eq_true, if_false, Nat.add_zero]
    by_cases hlt : i < subLens.length
    · rw [List.getElem?_append_left hlt]; exact hl.small i hlt
    · have : i = subLens.length := by omega
      subst this
      rw [hl.big _ (Nat.le_refl _)]
      simp
  · intro i hi
    rw [cntS_snoc]
    simp only [List.length_append, List.length_cons, List.length_nil] at hi
    simp only [ForkCall.isSub, Bool.false_eq_true, if_false, Nat.add_zero]
    exact hl.big i (by omega)

theorem subInv_sub (done : List ForkCall) (subLens : List Nat) (i : Nat) (sh : List Nat) (hl : SubInv done subLens)
    (hi : i < subLens.length) : SubInv (done ++ [.sub i sh]) (subLens.set i (cntS done i + 1)) := by
  constructor
  · rw [cntM_snoc]; simp [ForkCall.isMain, hl.len]
  · intro k hk
    rw [cntS_snoc]
    simp only [List.length_set] at hk
    by_cases hik : i = k
    · subst hik
      simp [ForkCall.isSub, hk]
    · rw [List.getElem?_set_ne hik]
      simp [ForkCall.isSub, hik, hl.small k hk]
  · intro k hk
    rw [cntS_snoc]
    simp only [List.length_set] at hk
    have hik : ¬ i = k := fun e => Nat.lt_irrefl _ (Nat.lt_of_lt_of_le hi (e ▸ hk))
    simp [ForkCall.isSub, hik, hl.big k hk]

theorem subInv_get {done : List ForkCall} {subLens : List Nat} (hl : SubInv done subLens) {i j : Nat}
    (hj : subLens[i]? = some j) : i < subLens.length ∧ j = cntS done i := by
  have hlt : i < subLens.length := by
    rcases Nat.lt_or_ge i subLens.length with h | h
    · exact h
    · rw [List.getElem?_eq_none_iff.2 h] at hj; cases hj
  exact ⟨hlt, Option.some.inj (hj.symm.trans (hl.small i hlt))⟩

theorem fork_step (rs : List Nat) (done : List ForkCall) (st st' : Fork) (call : ForkCall)
    (hinv : ForkInv rs done st) (h : forkAdd st call = some st') :
    ForkInv rs (done ++ [call]) st' := by
  obtain ⟨hn, hg, hl⟩ := hinv
  rw [← forkAddL_none] at h
  unfold ForkInv
  rw [forkOps_snoc]
  cases call with
  | main shape =>
    rcases (forkAddL_main_iff st st' shape none).1 h with ⟨h0, _⟩ | ⟨_, ns, hat, rfl⟩
    · rw [hl.len] at h0; cases h0
    · rw [attachAt_none, hl.len, Nat.add_sub_cancel, hn] at hat
      obtain ⟨h1, h2⟩ := attach_step (ForkId.main 0) rs (forkOps done) (forkOp done (.main shape)) ns hg hat
      exact ⟨h1, h2, subInv_main done st.subLens shape hl⟩
  | sub i shape =>
    obtain ⟨j, ns, hj, hat, rfl⟩ := (forkAddL_sub_iff st st' i shape none).1 h
    obtain ⟨hlt, rfl⟩ := subInv_get hl hj
    rw [attachAt_none, hn] at hat
    obtain ⟨h1, h2⟩ := attach_step (ForkId.main 0) rs (forkOps done) (forkOp done (.sub i shape)) ns hg hat
    exact ⟨h1, h2, subInv_sub done st.subLens i shape hl hlt⟩

theorem fork_run_inv (rs : List Nat) (rest done : List ForkCall) (st st' : Fork)
    (hinv : ForkInv rs done st) (h : forkRunFrom st rest = some st') :
    ForkInv rs (done ++ rest) st' :=
  foldl_bind_inv forkAdd (ForkInv rs) (fun done s a s' h1 h2 => fork_step rs done s s' a h1 h2)
    rest done st st' hinv h

theorem forkAdd_init (rs : List Nat) :
    forkAdd forkInit (.main rs) = some ⟨[rootNode (.main 0) rs], [0]⟩ :=
  (forkAddL_none forkInit (.main rs)).symm.trans ((forkAddL_main_iff forkInit _ rs none).2 (Or.inl ⟨rfl, rfl, rfl⟩))

theorem forkInv_root (rs : List Nat) : ForkInv rs [] ⟨[rootNode (.main 0) rs], [0]⟩ := by
  refine ⟨?_, ?_, ?_⟩
  · simp [forkOps, forkOpsAux, closedG_nil]
  · simp [forkOps, forkOpsAux, goodLog_nil]
  · constructor
    · simp [cntM]
    · intro i hi
      have : i = 0 := by simpa using hi
      subst this
      simp [cntS]
    · intro i _; simp [cntS]

/-- the first accepted call must create the root `main 0` -/
theorem fork_first (calls : List ForkCall) (st : Fork) (h : forkRun calls = some st) :
    calls = [] ∧ st = forkInit ∨
    ∃ rs rest, calls = ForkCall.main rs :: rest ∧
      forkRunFrom ⟨[rootNode (.main 0) rs], [0]⟩ rest = some st := by
  cases calls with
  | nil =>
    left
    simp only [forkRun, forkRunFrom, List.foldl_nil, Option.some.injEq] at h
    exact ⟨rfl, h.symm⟩
  | cons x rest =>
    right
    unfold forkRun forkRunFrom at h
    simp only [List.foldl_cons, Option.bind_some] at h
    cases x with
    | sub i sh =>
      have : forkAdd forkInit (ForkCall.sub i sh) = none := by
        rw [← forkAddL_none, Option.eq_none_iff_forall_ne_some]
        intro st' h'
        obtain ⟨j, _, hj, _⟩ := (forkAddL_sub_iff forkInit st' i sh none).1 h'
        cases hj
      rw [this, foldl_bind_none] at h
      cases h
    | main rs =>
      rw [forkAdd_init] at h
      exact ⟨rs, rest, rfl, h⟩

/-- the value at the root `main 0` is never read -/
def forkPar : ForkId → ForkId
  | .main k => .main (k - 1)
  | .sub i j => if j = 0 then .main i else .sub i (j - 1)

theorem forkOps_par (calls : List ForkCall) : ParLog forkPar (forkOps calls) := by
  unfold forkOps
  generalize ([] : List ForkCall) = p
  induction calls generalizing p with
  | nil => intro o ho; cases ho
  | cons x xs ih =>
    intro o ho
    rcases List.mem_cons.1 ho with rfl | ho
    · cases x <;> rfl
    · exact ih _ o ho

theorem forkPar_sub {y : ForkId} {i j : Nat} (h : forkPar y = .sub i j) : y = .sub i (j + 1) := by
  cases y with
  | main k => cases h
  | sub i2 j2 =>
    change (if j2 = 0 then _ else _) = _ at h
    by_cases hj : j2 = 0
    · rw [if_pos hj] at h; cases h
    · rw [if_neg hj] at h
      injection h with h1 h2
      rw [h1, ← h2, Nat.sub_add_cancel (Nat.pos_of_ne_zero hj)]

theorem forkPar_main_iff {y : ForkId} (hy : y ≠ .main 0) (k : Nat) :
    forkPar y = .main k ↔ y ∈ [ForkId.main (k + 1), .sub k 0] := by
  cases y with
  | main m =>
    have : m ≠ 0 := fun e => hy (e ▸ rfl)
    simp only [forkPar, ForkId.main.injEq, List.mem_cons, List.not_mem_nil, reduceCtorEq, or_false]
    omega
  | sub i j =>
    cases j <;> simp [forkPar, eq_comm]

/-- in the form `parLog_nvirt` takes its candidates: the only node that can hang below `sub i j` -/
theorem forkPar_sub_iff (y : ForkId) (i j : Nat) : forkPar y = .sub i j ↔ y ∈ [ForkId.sub i (j + 1)] := by
  rw [List.mem_singleton]
  exact ⟨forkPar_sub, fun e => e ▸ rfl⟩

end Ptn.C19
