import Ptn.C19.Spec
/-! The neighbour pairs of a grid (`nnPairs`: which pairs occur, each once), the term lists of the Ising builders
in closed form, and the induction principle for `RTree`. -/
namespace Ptn.C19

theorem mem_ite_singleton {α : Type} (c : Prop) [Decidable c] (x y : α) :
    y ∈ (if c then [x] else []) ↔ c ∧ y = x := by
  by_cases h : c <;> simp [h]

theorem mem_cellPairs (rows cols i j : Nat) (a b : Cell) :
    (a, b) ∈ cellPairs rows cols i j ↔
      a = (i, j) ∧ ((i + 1 < rows ∧ b = (i + 1, j)) ∨ (j + 1 < cols ∧ b = (i, j + 1))) := by
  unfold cellPairs
  rw [List.mem_append, mem_ite_singleton, mem_ite_singleton,
    show i < rows - 1 ↔ i + 1 < rows by omega, show j < cols - 1 ↔ j + 1 < cols by omega]
  constructor
  · rintro (⟨h, e⟩ | ⟨h, e⟩)
    · cases e; exact ⟨rfl, Or.inl ⟨h, rfl⟩⟩
    · cases e; exact ⟨rfl, Or.inr ⟨h, rfl⟩⟩
  · rintro ⟨rfl, ⟨h, rfl⟩ | ⟨h, rfl⟩⟩
    · exact Or.inl ⟨h, rfl⟩
    · exact Or.inr ⟨h, rfl⟩

/-- The orientation is the documented one: first the cell, then its lower or right neighbour. -/
theorem nn_pairs_grid_mem (rows cols : Nat) (a b : Cell) :
    (a, b) ∈ nnPairs rows cols ↔
      InGrid rows cols a ∧ InGrid rows cols b ∧ (b = (a.1 + 1, a.2) ∨ b = (a.1, a.2 + 1)) := by
  unfold nnPairs InGrid
  simp only [List.mem_flatMap, List.mem_range, mem_cellPairs]
  constructor
  · rintro ⟨i, hi, j, hj, rfl, h⟩
    rcases h with ⟨h, rfl⟩ | ⟨h, rfl⟩ <;> simp <;> omega
  · rintro ⟨ha, hb, h⟩
    refine ⟨a.1, ha.1, a.2, ha.2, rfl, ?_⟩
    rcases h with rfl | rfl
    · left; exact ⟨hb.1, rfl⟩
    · right; exact ⟨hb.2, rfl⟩

theorem nodup_cellPairs (rows cols i j : Nat) : (cellPairs rows cols i j).Nodup := by
  unfold cellPairs
  by_cases h1 : i < rows - 1 <;> by_cases h2 : j < cols - 1 <;> simp [h1, h2]

theorem fst_of_mem_cellPairs {rows cols i j : Nat} {x : Cell × Cell}
    (h : x ∈ cellPairs rows cols i j) : x.1 = (i, j) := by
  obtain ⟨a, b⟩ := x
  exact ((mem_cellPairs rows cols i j a b).1 h).1

theorem nodup_nnPairs (rows cols : Nat) : (nnPairs rows cols).Nodup := by
  unfold nnPairs
  rw [List.Nodup, List.pairwise_flatMap]
  constructor
  · intro i _
    rw [List.pairwise_flatMap]
    constructor
    · intro j _; exact nodup_cellPairs rows cols i j
    · refine List.Pairwise.imp ?_ (List.pairwise_lt_range (n := cols))
      intro j j' hlt x hx y hy hxy
      have h1 := fst_of_mem_cellPairs hx
      have h2 := fst_of_mem_cellPairs hy
      rw [hxy, h2] at h1
      simp at h1; omega
  · refine List.Pairwise.imp ?_ (List.pairwise_lt_range (n := rows))
    intro i i' hlt x hx y hy hxy
    simp only [List.mem_flatMap, List.mem_range] at hx hy
    obtain ⟨j, _, hx⟩ := hx
    obtain ⟨j', _, hy⟩ := hy
    have h1 := fst_of_mem_cellPairs hx
    have h2 := fst_of_mem_cellPairs hy
    rw [hxy, h2] at h1
    simp at h1; omega

theorem nearestNeighbours_append {α : Type} (l₁ l₂ : List (α × List α)) :
    nearestNeighbours (l₁ ++ l₂) = nearestNeighbours l₁ ++ nearestNeighbours l₂ := by
  simp [nearestNeighbours]

/-- `RTree` is nested through `List`: a statement about every tree comes with one about every list of
children, and the two are proved together, one case per constructor.  A joint theorem carries the name of its tree
half (read with `.1`) unless that half is used by name in several places; then it is `*_both` with two projections. -/
theorem RTree.both {P : RTree → Prop} {Q : List RTree → Prop}
    (node : ∀ i kids, Q kids → P (.node i kids)) (nil : Q [])
    (cons : ∀ k ks, P k → Q ks → Q (k :: ks)) : (∀ t, P t) ∧ ∀ ks, Q ks :=
  ⟨fun t => RTree.rec node nil cons t, fun ks => RTree.rec_1 node nil cons ks⟩

theorem flat_ids_both : (∀ t : RTree, t.flat.map (·.1) = t.ids) ∧
    ∀ ks, (RTree.flatL ks).map (·.1) = RTree.idsL ks := by
  apply RTree.both
  · intro i ks ih
    simp [RTree.flat, RTree.ids, ih]
  · simp [RTree.flatL, RTree.idsL]
  · intro k ks ih1 ih2
    simp [RTree.flatL, RTree.idsL, ih1, ih2]

theorem flat_ids (t : RTree) : t.flat.map (·.1) = t.ids :=
  flat_ids_both.1 t

theorem flatL_ids (ks : List RTree) : (RTree.flatL ks).map (·.1) = RTree.idsL ks :=
  flat_ids_both.2 ks

theorem flat_edges_both : (∀ t : RTree, nearestNeighbours t.flat = t.edges) ∧
    ∀ ks, nearestNeighbours (RTree.flatL ks) = RTree.edgesL ks := by
  apply RTree.both
  · intro i ks ih
    simp [RTree.flat, RTree.edges, nearestNeighbours] at ih ⊢
    simp [ih, Function.comp_def]
  · simp [RTree.flatL, RTree.edgesL, nearestNeighbours]
  · intro k ks ih1 ih2
    simp [RTree.flatL, RTree.edgesL, nearestNeighbours_append, ih1, ih2]

theorem flat_edges (t : RTree) : nearestNeighbours t.flat = t.edges :=
  flat_edges_both.1 t

theorem flatL_edges (ks : List RTree) : nearestNeighbours (RTree.flatL ks) = RTree.edgesL ks :=
  flat_edges_both.2 ks

theorem isingPairsSites_eq {α : Type} (sites : List α) (pairs : List (α × α)) :
    isingPairsSites sites pairs = sites.map fieldTerm ++ pairs.map couplingTerm := by
  unfold isingPairsSites singleSiteTerms nnTerms hamFactor
  have h : ¬ ((-1 : Int) = 0) := by decide
  simp only [h, if_false]
  rfl

theorem isingTree_eq {α : Type} (flat : List (α × List α)) :
    isingTree flat = (flat.map (·.1)).map fieldTerm ++ (nearestNeighbours flat).map couplingTerm :=
  isingPairsSites_eq _ _

theorem mem_dedup {α : Type} [DecidableEq α] (a : α) (l : List α) : a ∈ dedup l ↔ a ∈ l := by
  induction l with
  | nil => simp [dedup]
  | cons b l ih =>
    unfold dedup
    by_cases h : b ∈ dedup l
    · simp only [h, if_true, List.mem_cons, ih]
      constructor
      · intro h'; exact Or.inr h'
      · rintro (rfl | h')
        · exact ih.1 h
        · exact h'
    · simp only [h, if_false, List.mem_cons, ih]

theorem nodup_dedup {α : Type} [DecidableEq α] (l : List α) : (dedup l).Nodup := by
  induction l with
  | nil => simp [dedup]
  | cons b l ih =>
    unfold dedup
    by_cases h : b ∈ dedup l
    · simpa [h] using ih
    · rw [if_neg h, List.nodup_cons]
      exact ⟨h, ih⟩

theorem mem_gridCells (rows cols : Nat) (c : Cell) : c ∈ gridCells rows cols ↔ InGrid rows cols c := by
  obtain ⟨a, b⟩ := c
  simp only [gridCells, List.mem_flatMap, List.mem_range, List.mem_map, Prod.mk.injEq, InGrid]
  constructor
  · rintro ⟨i, hi, j, hj, rfl, rfl⟩; exact ⟨hi, hj⟩
  · rintro ⟨hi, hj⟩; exact ⟨a, hi, b, hj, rfl, rfl⟩

theorem gridCells_succ (rows cols : Nat) :
    gridCells (rows + 1) cols = gridCells rows cols ++ (List.range cols).map fun j => (rows, j) := by
  simp [gridCells, List.range_succ, List.flatMap_append]

theorem gridCells_nodup (rows cols : Nat) : (gridCells rows cols).Nodup := by
  induction rows with
  | zero => simp [gridCells]
  | succ r ih =>
    rw [gridCells_succ, List.nodup_append]
    refine ⟨ih, ?_, ?_⟩
    · rw [List.Nodup, List.pairwise_map]
      exact List.Pairwise.imp (fun hab h => hab (by simpa using h)) (List.nodup_range (n := cols))
    · intro x hx y hy hxy
      subst hxy
      have h1 := (mem_gridCells r cols x).1 hx
      simp only [List.mem_map, List.mem_range] at hy
      obtain ⟨b, _, rfl⟩ := hy
      exact Nat.lt_irrefl _ h1.1

theorem cell_in_some_pair (rows cols : Nat) (h : 2 ≤ rows * cols) (c : Cell)
    (hc : InGrid rows cols c) :
    ∃ pr ∈ nnPairs rows cols, c = pr.1 ∨ c = pr.2 := by
  obtain ⟨i, j⟩ := c
  simp only [InGrid] at hc
  by_cases h1 : i + 1 < rows
  · exact ⟨((i, j), (i + 1, j)), (nn_pairs_grid_mem _ _ _ _).2 ⟨hc, ⟨h1, hc.2⟩, Or.inl rfl⟩, Or.inl rfl⟩
  by_cases h2 : j + 1 < cols
  · exact ⟨((i, j), (i, j + 1)), (nn_pairs_grid_mem _ _ _ _).2 ⟨hc, ⟨hc.1, h2⟩, Or.inr rfl⟩, Or.inl rfl⟩
  by_cases h3 : 0 < i
  · refine ⟨((i - 1, j), (i, j)), (nn_pairs_grid_mem _ _ _ _).2 ⟨⟨by simp; omega, hc.2⟩, hc, Or.inl ?_⟩, Or.inr rfl⟩
    simp; omega
  by_cases h4 : 0 < j
  · refine ⟨((i, j - 1), (i, j)), (nn_pairs_grid_mem _ _ _ _).2 ⟨⟨hc.1, by simp; omega⟩, hc, Or.inr ?_⟩, Or.inr rfl⟩
    simp; omega
  exfalso
  have hr : rows = 1 := by omega
  have hcc : cols = 1 := by omega
  subst hr; subst hcc
  omega

end Ptn.C19
