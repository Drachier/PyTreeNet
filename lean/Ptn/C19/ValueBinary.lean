import Ptn.C19.ValueSpecialModel
import Ptn.C19.Binary
/-! Closed form of the binding record of the binary tree `generate_binary_ttns` returns (helper lemmas for
`binary_record_closed` / `binary_value`): in heap (breadth-first) numbering `g = 0 … 2·nphys-2` (node `g` =
`binFinalId nphys g`) the record read off the final state is, IN THIS ORDER, one bond per `g = 1 … 2·nphys-2`:
the leg `neighbour_index(g)` of the parent `(g-1)/2` joined to leg `0` of `g`. -/
namespace Ptn.C19

/-- `neighbour_index` of the node with heap index `g ≥ 1` in its parent `(g-1)/2`: the parent's own parent leg
comes first (absent for the root, i.e. for `g ≤ 2`), then the left child (`g` odd), then the right child -/
def binNbrIdx (g : Nat) : Nat := (if g ≤ 2 then 0 else 1) + (if g % 2 = 0 then 1 else 0)

/-- the bond of the node with heap index `g ≥ 1` -/
def binBond (nphys g : Nat) : GLeg BinId × GLeg BinId :=
  ((virtId ((g - 1) / 2), binNbrIdx g), (binFinalId nphys g, 0))

theorem binVNode_mem (nphys bd d p : Nat) (hp : p < nphys - 1) : binVNode nphys bd p ∈ binFinal nphys bd d := by
  rw [binFinal_eq]
  exact List.mem_append_left _ (List.mem_map.2 ⟨p, List.mem_range.2 hp, rfl⟩)

theorem binFinal_find_virt (nphys bd d p : Nat) (hp : p < nphys - 1) :
    gFind (binFinal nphys bd d) (virtId p) = some (binVNode nphys bd p) :=
  find?_of_nodup_map GNode.id (binFinal_ids_nodup nphys bd d (by omega)) (binVNode_mem nphys bd d p hp)

/-- positions of two distinct trailing entries that do not occur before them -/
theorem idxOf_append_pair {α : Type} [DecidableEq α] (pre : List α) (a b : α) (hab : a ≠ b)
    (ha : a ∉ pre) (hb : b ∉ pre) :
    (pre ++ [a, b]).idxOf a = pre.length ∧ (pre ++ [a, b]).idxOf b = pre.length + 1 := by
  have hb' : [a, b].idxOf b = 1 := by
    rw [List.idxOf_cons, beq_eq_false_iff_ne.2 hab, cond_false, List.idxOf_cons_self]
  rw [List.idxOf_append, List.idxOf_append, if_neg ha, if_neg hb, List.idxOf_cons_self, hb', Nat.zero_add,
    Nat.add_comm]
  exact ⟨rfl, rfl⟩

/-- `neighbour_index` computed on the parent node of the finished tree -/
theorem binVNode_nbrPos (nphys bd p g : Nat) (hp : p < nphys - 1) (hg : g = 2 * p + 1 ∨ g = 2 * p + 2) :
    (binVNode nphys bd p).nbrPos (binFinalId nphys g) = binNbrIdx g := by
  have h12 : binFinalId nphys (2 * p + 1) ≠ binFinalId nphys (2 * p + 2) := fun e => by
    have := binFinalId_inj _ _ _ e; omega
  -- the children are not the parent's parent
  have hpre : ∀ g', 2 * p + 1 ≤ g' → binFinalId nphys g' ∉ (parentH p).toList := by
    intro g' hg' hm
    unfold parentH at hm
    by_cases h0 : p = 0
    · rw [if_pos h0] at hm; cases hm
    · rw [if_neg h0, Option.toList_some, List.mem_singleton] at hm
      have hpp : virtId ((p - 1) / 2) = binFinalId nphys ((p - 1) / 2) := by
        unfold binFinalId; rw [if_pos (by omega)]
      have := binFinalId_inj _ _ _ (hm.trans hpp)
      omega
  have hlen : (parentH p).toList.length = if p = 0 then 0 else 1 := by
    unfold parentH; split <;> rfl
  obtain ⟨e1, e2⟩ := idxOf_append_pair (parentH p).toList _ _ h12 (hpre _ (Nat.le_refl _)) (hpre _ (Nat.le_succ _))
  unfold binNbrIdx
  rcases hg with rfl | rfl
  · refine e1.trans ?_
    rw [hlen, if_neg (by rw [Nat.mul_add_mod]; decide : ¬ (2 * p + 1) % 2 = 0)]
    by_cases h0 : p = 0
    · subst h0; rfl
    · rw [if_neg h0, if_neg (by omega)]
  · refine e2.trans ?_
    rw [hlen, if_pos (Nat.mul_add_mod 2 p 2 : (2 * p + 2) % 2 = 0)]
    by_cases h0 : p = 0
    · subst h0; rfl
    · rw [if_neg h0, if_neg (by omega)]

theorem binVNode_lab (nphys bd p k : Nat) (hk : k < 3) : (binVNode nphys bd p).lab k = (virtId p, k) := by
  unfold GNode.lab binVNode
  have : k < (vshapeH bd p).length := by rw [vshapeH_len]; split <;> omega
  simp [List.getD_eq_getElem?_getD, this]

theorem binNbrIdx_lt (g : Nat) : binNbrIdx g < 3 := by
  unfold binNbrIdx; split <;> split <;> omega

/-- one entry of `gRecord` -/
def gRecEntry {ι : Type} [DecidableEq ι] (nodes : List (GNode ι)) (x : GNode ι) : Option (GLeg ι × GLeg ι) :=
  match x.parent with
  | none => none
  | some q => (gFind nodes q).map fun pn => (pn.lab (pn.nbrPos x.id), x.lab 0)

theorem gRecord_eq_filterMap {ι : Type} [DecidableEq ι] (nodes : List (GNode ι)) :
    gRecord nodes = nodes.filterMap (gRecEntry nodes) := rfl

theorem binFinal_entry (nphys bd d g : Nat) (h1 : 1 ≤ g) (h2 : g ≤ 2 * nphys - 2) :
    gRecEntry (binFinal nphys bd d) (heapNode nphys bd d g) = some (binBond nphys g) := by
  unfold gRecEntry
  have hp : (g - 1) / 2 < nphys - 1 := by omega
  have hg : g = 2 * ((g - 1) / 2) + 1 ∨ g = 2 * ((g - 1) / 2) + 2 := by omega
  rw [heapNode_parent]
  unfold parentH
  rw [if_neg (by omega)]
  simp only
  rw [binFinal_find_virt nphys bd d _ hp, Option.map_some, heapNode_id, binVNode_nbrPos nphys bd _ g hp hg,
    binVNode_lab _ _ _ _ (binNbrIdx_lt g)]
  unfold binBond GNode.lab
  rw [heapNode_id, heapNode_leg0]

/-- closed form of the record (exact, in dict order = heap order): the root has no parent, every other heap
index contributes its bond -/
theorem gRecord_binFinal (nphys bd d : Nat) (hn : 2 ≤ nphys) :
    gRecord (binFinal nphys bd d) = (List.range' 1 (2 * nphys - 2)).map (binBond nphys) := by
  rw [gRecord_eq_filterMap]
  generalize hF : gRecEntry (binFinal nphys bd d) = F
  rw [binFinal_eq_heap nphys bd d (by omega), (by omega : 2 * nphys - 1 = (2 * nphys - 2) + 1),
    List.range_eq_range', List.range'_succ, List.map_cons, List.filterMap_cons,
    show F (heapNode nphys bd d 0) = none by
      rw [← hF]; unfold gRecEntry; rw [heapNode_parent]; rfl,
    List.filterMap_map]
  apply filterMap_eq_map_of
  intro g hg
  have hg' := List.mem_range'_1.1 hg
  rw [← hF]
  exact binFinal_entry nphys bd d g hg'.1 (by omega)

theorem binFinal_heap {β : Type} (nphys bd d : Nat) (hn : 2 ≤ nphys) (f : BinId → Nat → β) :
    (binFinal nphys bd d).map (fun x => f x.id x.dims.length) =
      (List.range (2 * nphys - 1)).map fun g => f (binFinalId nphys g) (binRank nphys g) := by
  rw [binFinal_eq_heap nphys bd d (by omega), List.map_map]
  apply List.map_congr_left
  intro g _
  show f (heapNode nphys bd d g).id (heapNode nphys bd d g).dims.length = _
  rw [heapNode_id, heapNode_rank _ _ _ _ hn]

end Ptn.C19
