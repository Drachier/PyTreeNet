import Ptn.C19.Mps
import Ptn.C19.FromTensor
import Ptn.C19.Binary
import Ptn.C19.ConstAcceptStar
import Ptn.C19.ConstAcceptFtpsRun
import Ptn.C19.ParentLeg
/-! The leg-level property theorems of C19 with their non-vacuity examples: core Lean only (no Mathlib below this
module).  `Props.lean` imports it and adds the value-level theorems. -/
namespace Ptn.C19

/-! ### Grid neighbour pairs (`_find_nn_pairs`) -/

/-- For every grid size, every unordered pair of cells occurs in the generated list exactly once (in one
    of its two orientations) when both cells lie in the grid and are horizontally or vertically
    adjacent, and does not occur at all otherwise. -/
theorem nn_pairs_grid (rows cols : Nat) (a b : Cell) :
    (nnPairs rows cols).count (a, b) + (nnPairs rows cols).count (b, a) =
      if InGrid rows cols a ∧ InGrid rows cols b ∧ Adjacent a b then 1 else 0 := by
  rw [(nodup_nnPairs rows cols).count, (nodup_nnPairs rows cols).count]
  simp only [nn_pairs_grid_mem]
  by_cases hg : InGrid rows cols a ∧ InGrid rows cols b
  · obtain ⟨a1, a2⟩ := a
    obtain ⟨b1, b2⟩ := b
    simp only [hg.1, hg.2, true_and, Adjacent, Prod.mk.injEq]
    -- the two orientations exclude each other, and one of them holds iff the cells are adjacent
    by_cases h1 : b1 = a1 + 1 ∧ b2 = a2 ∨ b1 = a1 ∧ b2 = a2 + 1
    · rw [if_pos h1, if_neg (by omega), if_pos (by omega)]
    · rw [if_neg h1]
      by_cases h2 : a1 = b1 + 1 ∧ a2 = b2 ∨ a1 = b1 ∧ a2 = b2 + 1
      · rw [if_pos h2, if_pos (by omega)]
      · rw [if_neg h2, if_neg (by omega)]
  · rw [if_neg (fun h => hg ⟨h.1, h.2.1⟩), if_neg (fun h => hg ⟨h.2.1, h.1⟩), if_neg (fun h => hg ⟨h.1, h.2.1⟩)]

example : nnPairs 2 3 =
    [((0,0),(1,0)), ((0,0),(0,1)), ((0,1),(1,1)), ((0,1),(0,2)), ((0,2),(1,2)), ((1,0),(1,1)),
     ((1,1),(1,2))] := by decide +kernel

/-! ### Matrix-product chain (`MatrixProductTree.from_tensor_list`, both code paths) -/

/-- For every chain length `n ≥ 2`, every root position `r < n` and any number `p i` of open legs per
    site, the construction completes (no exception) and yields: the path graph `0 - … - (n-1)` with the
    documented identifiers (site indices, each exactly once, in the stated dict order), rooted at `r`
    (parent of `i` is the neighbour towards `r`, the root's children are its left, then its right
    neighbour); every node's legs in `(parent, children, open)` order are the input tensor's `left` axis
    for the neighbour `i - 1`, its `right` axis for the neighbour `i + 1` and its open axes in order; the
    bookkeeping lists `left_nodes` / `right_nodes` hold the sites left / right of the root in chain
    order.  What the network evaluates to is `mps_chain_value`; zero padding of bonds is `pad_bond_value` /
    `pad_front_value` (`Props.lean`). -/
theorem mps_chain_structure (n r : Nat) (p : Nat → Nat) (hn : 2 ≤ n) (hr : r < n) :
    ∃ st, fromTensorList n r p = some st ∧
      st.root = r ∧
      st.nodes.map (·.id) = chainOrder n r ∧
      (chainOrder n r).Nodup ∧ (∀ i, i ∈ chainOrder n r ↔ i < n) ∧
      (∀ x ∈ st.nodes, x.parent = chainParent r x.id ∧ x.children = chainChildren n r x.id ∧
        x.legs.map (axisName n x.id) = chainLegs n r p x.id) ∧
      st.left = List.range r ∧ st.right = List.range' (r + 1) (n - 1 - r) := by
  have hids := idsAt_final n r
  have hperm : (chainOrder n r).Perm (List.range n) := hids ▸ idsAt_perm_range n r hr
  have hmem : ∀ i, i ∈ chainOrder n r ↔ i < n := fun i => hperm.mem_iff.trans List.mem_range
  refine ⟨stateAt n r p 0 (n - 1), fromTensorList_closed n r p hn hr, rfl, ?_, ?_, hmem, ?_, ?_, ?_⟩
  · show ((idsAt r 0 (n - 1)).map (nodeAt n r p 0 (n - 1))).map (·.id) = _
    rw [List.map_map, ← hids]
    simp [Function.comp_def, nodeAt_id]
  · exact hperm.nodup_iff.2 List.nodup_range
  · intro x hx
    simp only [stateAt, List.mem_map] at hx
    obtain ⟨i, hi, rfl⟩ := hx
    have hin : i < n := (hmem i).1 (hids ▸ hi)
    exact ⟨rfl, (nodeAt_final n r p i).2, legs_axis n r p i hr hin⟩
  · show List.range' 0 (r - 0) = List.range r
    rw [Nat.sub_zero, ← List.range_eq_range']
  · rfl

example : fromTensorList 4 2 (fun _ => 1) = some
    ⟨[⟨2, none, [1, 3], [0, 1, 2]⟩, ⟨1, some 2, [0], [1, 0, 2]⟩, ⟨0, some 1, [], [0, 1]⟩,
      ⟨3, some 2, [], [0, 1]⟩], 2, [0, 1], [3]⟩ := by decide +kernel

example : (2 : Nat) ≤ 4 ∧ 2 < 4 := by decide +kernel

/-! ### Ising term lists (`_abstract_ising_model`) -/

/-- For every tree and every dict order of its `TreeStructure` (any permutation of the pre-order
    entries; child lists as in the tree) the generated term multiset is exactly one field term
    `(-1, ext_magn, {i: B})` per node and one coupling term `(-1, coupling, {i: A, j: A})` per edge
    `(parent i, child j)`: the formal sum `-J Σ_<ij> A_i A_j - g Σ_i B_i`. -/
theorem ising_terms (t : RTree) (flat : List (Nat × List Nat)) (h : flat.Perm t.flat) :
    (isingTree flat).Perm (t.ids.map fieldTerm ++ t.edges.map couplingTerm) := by
  rw [isingTree_eq, ← flat_ids t, ← flat_edges t]
  refine List.Perm.append ((h.map _).map _) (List.Perm.map _ ?_)
  exact List.Perm.flatMap_right _ h

/-- In pre-order dict order even the term *list* is the specified one. -/
theorem ising_terms_preorder (t : RTree) :
    isingTree t.flat = t.ids.map fieldTerm ++ t.edges.map couplingTerm := by
  rw [isingTree_eq, flat_ids, flat_edges]

example : isingTree (RTree.node 0 [.node 2 [.node 3 []], .node 1 []]).flat =
    [fieldTerm 0, fieldTerm 2, fieldTerm 3, fieldTerm 1,
     couplingTerm (0, 2), couplingTerm (0, 1), couplingTerm (2, 3)] := by decide +kernel

/-- Pair-list input: one coupling term per listed pair (in order) and one field term for every site
    that occurs in some pair - and for no other site. -/
theorem ising_pairs_terms {α : Type} [DecidableEq α] (pairs : List (α × α)) :
    ∃ sites : List α, isingPairs pairs = sites.map fieldTerm ++ pairs.map couplingTerm ∧
      sites.Nodup ∧ ∀ s, s ∈ sites ↔ ∃ pr ∈ pairs, s = pr.1 ∨ s = pr.2 := by
  refine ⟨_, isingPairsSites_eq _ pairs, nodup_dedup _, ?_⟩
  intro s
  rw [mem_dedup]
  simp only [List.mem_flatMap, List.mem_cons, List.not_mem_nil, or_false]

/-- 2-D builder: on EVERY grid, 1 x 1 included, the terms are one field term per
    cell of the grid and one coupling term per neighbour pair of `nn_pairs_grid`. -/
theorem ising_grid_terms (rows cols : Nat) :
    isingGrid rows cols =
        (gridCells rows cols).map fieldTerm ++ (nnPairs rows cols).map couplingTerm ∧
      (gridCells rows cols).Nodup ∧ ∀ c, c ∈ gridCells rows cols ↔ InGrid rows cols c :=
  ⟨isingPairsSites_eq _ _, gridCells_nodup rows cols, mem_gridCells rows cols⟩

/-- The 1 x 1 grid (the input on which finding F-C19a was seen): the builder yields exactly the field term of its
    only cell. -/
theorem ising_grid_1x1 : isingGrid 1 1 = [fieldTerm (0, 0)] ∧ InGrid 1 1 (0, 0) := by decide

/-- The pair-list entry point without a site list still takes the sites from the pairs (documented assumption of
    `_abstract_ising_model`): every cell of a grid with at least two cells occurs in a pair, so both site lists agree
    as sets there. -/
theorem ising_grid_sites_agree (rows cols : Nat) (h : 2 ≤ rows * cols) (c : Cell) :
    InGrid rows cols c ↔ ∃ pr ∈ nnPairs rows cols, c = pr.1 ∨ c = pr.2 := by
  constructor
  · exact cell_in_some_pair rows cols h c
  · rintro ⟨⟨a, b⟩, hp, hc⟩
    have := (nn_pairs_grid_mem rows cols a b).1 hp
    rcases hc with rfl | rfl
    · exact this.1
    · exact this.2.1

example : (2 : Nat) ≤ 1 * 2 := by decide +kernel

/-! ### `TTNO.from_tensor`: which leg ends up where -/

/-- The axes list handed to `np.transpose` is a permutation of all `2n` axes whenever the leg
    dictionary assigns the legs `0 … n-1` bijectively to the nodes (so the transposition completes
    and loses no leg). -/
theorem qr_shape_perm (t : RTree) (ld : Nat → Nat) (h : (t.ids.map ld).Perm (List.range t.size)) :
    (qrShape (fun i => [ld i, t.size + ld i]) t []).Perm (List.range (2 * t.size)) := by
  rw [qrShape_eq, List.append_nil]
  refine ((block_perm _).1 t).trans ?_
  have e : t.ids.flatMap (fun i => [ld i, t.size + ld i]) =
      (t.ids.map ld).flatMap (fun k => [k, t.size + k]) := by
    rw [List.flatMap_map]
  rw [e]
  refine (List.Perm.flatMap_right _ h).trans ?_
  refine (flatMap_pair_perm t.size _).trans ?_
  have : 2 * t.size = t.size + t.size := by omega
  rw [this, List.range_add]

/-- The resulting `TreeStructure` dict (identifier, ordered children) is the reference tree's. -/
theorem from_tensor_structure (t : RTree) (ld : Nat → Nat) :
    (fromTensor t ld).map (fun x => (x.id, x.children)) = t.flat := by
  rw [from_tensor_legs, (specNodes_flat _).1]

example : fromTensor (.node 0 [.node 1 [.node 3 []], .node 2 []]) (fun i => [2, 0, 3, 1].getD i 0) =
    [⟨0, none, [1, 2], [.bond 0 1, .bond 0 2, .ax 2, .ax 6]⟩,
     ⟨1, some 0, [3], [.bond 0 1, .bond 1 3, .ax 0, .ax 4]⟩,
     ⟨3, some 1, [], [.bond 1 3, .ax 1, .ax 5]⟩,
     ⟨2, some 0, [], [.bond 0 2, .ax 3, .ax 7]⟩] := by decide +kernel

example : ((RTree.node 0 [.node 1 [.node 3 []], .node 2 []]).ids.map (fun i => [2, 0, 3, 1].getD i 0)).Perm
    (List.range (RTree.node 0 [.node 1 [.node 3 []], .node 2 []]).size) := by decide +kernel

/-! ### Star (`StarTreeTensorNetwork.add_center_node` / `add_chain_node`) -/

/-- For every centre tensor shape and **every sequence of `add_chain_node(tensor, chain_index)` calls that
    the code accepts** (any interleaving of the chains, any tensor shapes):
    * dict order: the centre, then one node per call, the `k`-th call with chain index `c` creating
      `chain c j` with `j` = number of earlier calls with index `c` (`prefix + c + "_" + j`); all distinct;
    * `chains` bookkeeping: `len(chains[c])` = number of calls with index `c`, positive exactly for
      `c < num_chains()`;
    * every node's legs are in the order of the array handed in, i.e. the caller's axes
      `(parent, next chain node, open…)` (centre: `(chain 0, chain 1, …, open…)`) are used as they are;
      its shape is the shape handed in;
    * the centre has no parent and its children are the chain heads `chain c 0` in order of first use;
    * `chain c j` hangs below the centre (`j = 0`) or below `chain c (j-1)` (which exists), and has no
      child or exactly the child `chain c (j+1)` (the latter iff that node exists): every chain is a
      path hanging off the centre. -/
theorem star_structure (cshape : List Nat) (calls : List (Nat × List Nat)) (st : Star)
    (h : starRun cshape calls = some st) :
    st.nodes.map (·.id) = .center :: (starOps calls).map (·.cid) ∧
    (starOps calls).map (·.shape) = calls.map (·.2) ∧
    (st.nodes.map (·.id)).Nodup ∧
    (∀ c, c < st.lens.length → st.lens[c]? = some (cntC calls c) ∧ 0 < cntC calls c) ∧
    (∀ c, st.lens.length ≤ c → cntC calls c = 0) ∧
    ∀ x ∈ st.nodes,
      x.legs = List.range x.dims.length ∧
      (x.id = .center → x.parent = none ∧ x.dims = cshape ∧
        x.children = ((starOps calls).map (·.cid)).filter StarId.isHead) ∧
      (∀ o ∈ starOps calls, x.id = o.cid → x.dims = o.shape) ∧
      (∀ c j, x.id = .chain c j →
        x.parent = some (if j = 0 then StarId.center else .chain c (j - 1)) ∧
        (0 < j → StarId.chain c (j - 1) ∈ st.nodes.map (·.id)) ∧
        (x.children = [] ∨ x.children = [.chain c (j + 1)]) ∧
        (StarId.chain c (j + 1) ∈ st.nodes.map (·.id) → x.children = [.chain c (j + 1)])) := by
  have hinv := star_run_inv cshape calls [] (starInit cshape) st (starInv_init cshape) h
  rw [List.nil_append] at hinv
  obtain ⟨hn, hg, hl⟩ := hinv
  have hp := starOps_par calls
  have hids : st.nodes.map (·.id) = idsG .center (starOps calls) := hn ▸ closedG_ids _ _ _
  refine ⟨hids, starOpsAux_shapes [] calls, hids ▸ hg.1, hl.small, hl.big, ?_⟩
  intro x hx
  rw [hn, mem_closedG] at hx
  obtain ⟨i, hi, rfl⟩ := hx
  refine ⟨rfl, ?_, ?_, ?_⟩
  · rintro rfl
    refine ⟨closed_root hg, closed_root_shape StarId.center cshape (starOps calls),
      (parLog_children hp _).trans (List.filter_congr ?_)⟩
    intro y hy
    cases y with
    | center => exact absurd hy (goodLog_root_fresh hg)
    | chain c j => cases j <;> simp [starPar, StarId.isHead]
  · rintro o ho rfl
    exact closed_shape cshape hg o ho
  · rintro c j rfl
    obtain ⟨h1, h2⟩ := parLog_parent hp hg hi (fun e => nomatch e)
    have hkids := parLog_only_child hp hg (.chain c j) (.chain c (j + 1)) (fun y => starPar_chain) rfl
    refine ⟨h1, ?_, ?_, ?_⟩
    · intro hj
      rw [hids]
      have : starPar (.chain c j) = .chain c (j - 1) := if_neg (Nat.ne_of_gt hj)
      exact this ▸ h2
    · show childrenOf _ _ = _ ∨ childrenOf _ _ = _
      rw [hkids]; split
      · exact Or.inr rfl
      · exact Or.inl rfl
    · intro hsucc
      show childrenOf _ _ = _
      rw [hids] at hsucc
      rw [hkids, if_pos ((List.mem_cons.1 hsucc).resolve_left (fun e => nomatch e))]

example : (starRun [2, 3, 2] [(0, [2, 3, 2]), (1, [3, 2]), (0, [3, 2])]).map (·.nodes) = some
    [⟨.center, none, [.chain 0 0, .chain 1 0], [0, 1, 2], [2, 3, 2]⟩,
     ⟨.chain 0 0, some .center, [.chain 0 1], [0, 1, 2], [2, 3, 2]⟩,
     ⟨.chain 1 0, some .center, [], [0, 1], [3, 2]⟩,
     ⟨.chain 0 1, some (.chain 0 0), [], [0, 1], [3, 2]⟩] := by decide +kernel

/-! ### Fork (`ForkTreeTensorNetwork.add_main_chain_node` / `add_sub_chain_node`) -/

/-- For **every sequence of `add_main_chain_node` / `add_sub_chain_node` calls that the code accepts**: the
    first call creates the root `main 0`; afterwards
    * dict order: `main 0`, then one node per call - a main call creates `main m` (`m` = number of main
      nodes so far), a call for sub-chain `i` creates `sub i j` with `j` = number of earlier calls for `i`
      (`prefix + i + "_" + j`); all distinct; `len(sub_chains) = ` number of main nodes and
      `len(sub_chains[i])` = number of calls for `i`;
    * every node's legs are in the order of the array handed in (parent first, then the neighbours in
      the order in which they get attached, then the open legs) with the shape handed in;
    * `main k` has parent `main (k-1)` (none for `k = 0`); its children are among `main (k+1)`,
      `sub k 0`, each at most once, in attachment order, and contain each of the two that exists;
    * `sub i j` hangs below `main i` (`j = 0`) or `sub i (j-1)` (which exists) and has no child or exactly
      `sub i (j+1)` (iff that node exists). -/
theorem fork_structure (calls : List ForkCall) (st : Fork) (h : forkRun calls = some st) :
    (calls = [] ∧ st = forkInit) ∨
    ∃ rs rest, calls = ForkCall.main rs :: rest ∧
      st.nodes.map (·.id) = .main 0 :: (forkOps rest).map (·.cid) ∧
      (st.nodes.map (·.id)).Nodup ∧
      st.subLens.length = cntM rest + 1 ∧
      (∀ i, i < st.subLens.length → st.subLens[i]? = some (cntS rest i)) ∧
      ∀ x ∈ st.nodes,
        x.legs = List.range x.dims.length ∧
        (∀ o ∈ forkOps rest, x.id = o.cid → x.dims = o.shape) ∧
        (∀ k, x.id = .main k →
          x.parent = (if k = 0 then none else some (ForkId.main (k - 1))) ∧
          (k = 0 → x.dims = rs) ∧
          (0 < k → ForkId.main (k - 1) ∈ st.nodes.map (·.id)) ∧
          (∀ ch ∈ x.children, ch = ForkId.main (k + 1) ∨ ch = ForkId.sub k 0) ∧ x.children.Nodup ∧
          (ForkId.main (k + 1) ∈ st.nodes.map (·.id) → ForkId.main (k + 1) ∈ x.children) ∧
          (ForkId.sub k 0 ∈ st.nodes.map (·.id) → ForkId.sub k 0 ∈ x.children)) ∧
        (∀ i j, x.id = .sub i j →
          x.parent = some (if j = 0 then ForkId.main i else .sub i (j - 1)) ∧
          (if j = 0 then ForkId.main i else ForkId.sub i (j - 1)) ∈ st.nodes.map (·.id) ∧
          (x.children = [] ∨ x.children = [.sub i (j + 1)]) ∧
          (ForkId.sub i (j + 1) ∈ st.nodes.map (·.id) → x.children = [.sub i (j + 1)])) := by
  rcases fork_first calls st h with h0 | ⟨rs, rest, hc, hrun⟩
  · exact Or.inl h0
  · right
    have hinv := fork_run_inv rs rest [] _ st (forkInv_root rs) hrun
    rw [List.nil_append] at hinv
    obtain ⟨hn, hg, hl⟩ := hinv
    have hp := forkOps_par rest
    have hids : st.nodes.map (·.id) = idsG (.main 0) (forkOps rest) := hn ▸ closedG_ids _ _ _
    have hcid : ∀ {y : ForkId}, y ≠ .main 0 → y ∈ idsG (.main 0) (forkOps rest) → y ∈ (forkOps rest).map (·.cid) :=
      fun hy h => (List.mem_cons.1 h).resolve_left hy
    have hmem : ∀ i y, y ∈ childrenOf (forkOps rest) i ↔ y ∈ (forkOps rest).map (·.cid) ∧ forkPar y = i := by
      intro i y; rw [parLog_children hp, List.mem_filter, decide_eq_true_eq]
    refine ⟨rs, rest, hc, hids, hids ▸ hg.1, hl.len, hl.small, ?_⟩
    intro x hx
    rw [hn, mem_closedG] at hx
    obtain ⟨i, hi, rfl⟩ := hx
    refine ⟨rfl, ?_, ?_, ?_⟩
    · rintro o ho rfl
      exact closed_shape rs hg o ho
    · rintro k rfl
      refine ⟨?_, ?_, ?_, ?_, childrenOf_nodup hg _, ?_, ?_⟩
      · cases k with
        | zero => exact closed_root hg
        | succ k => exact (parLog_parent hp hg hi (fun e => nomatch e)).1
      · rintro rfl
        exact closed_root_shape (ForkId.main 0) rs (forkOps rest)
      · intro hk
        obtain ⟨k, rfl⟩ : ∃ k', k = k' + 1 := ⟨k - 1, by omega⟩
        exact hids ▸ (parLog_parent hp hg hi (fun e => nomatch e)).2
      · intro ch hch
        obtain ⟨hcm, hpar⟩ := (hmem _ ch).1 hch
        simpa using (forkPar_main_iff (fun e => goodLog_root_fresh hg (e ▸ hcm)) k).1 hpar
      · intro hsucc
        exact (hmem _ _).2 ⟨hcid (fun e => nomatch e) (hids ▸ hsucc), rfl⟩
      · intro hsub
        exact (hmem _ _).2 ⟨hcid (fun e => nomatch e) (hids ▸ hsub), rfl⟩
    · rintro i2 j rfl
      obtain ⟨h1, h2⟩ := parLog_parent hp hg hi (fun e => nomatch e)
      have hkids := parLog_only_child hp hg (.sub i2 j) (.sub i2 (j + 1)) (fun y => forkPar_sub) rfl
      refine ⟨h1, hids ▸ h2, ?_, ?_⟩
      · show childrenOf _ _ = _ ∨ childrenOf _ _ = _
        rw [hkids]; split
        · exact Or.inr rfl
        · exact Or.inl rfl
      · intro hsucc
        show childrenOf _ _ = _
        rw [hids] at hsucc
        rw [hkids, if_pos (hcid (y := ForkId.sub i2 (j + 1)) (fun e => nomatch e) hsucc)]

example : (forkRun [.main [2, 3], .sub 0 [2, 2], .main [3, 2, 2]]).map (·.nodes) = some
    [⟨.main 0, none, [.sub 0 0, .main 1], [0, 1], [2, 3]⟩,
     ⟨.sub 0 0, some (.main 0), [], [0, 1], [2, 2]⟩,
     ⟨.main 1, some (.main 0), [], [0, 1, 2], [3, 2, 2]⟩] := by decide +kernel

/-! ### the optional argument `parent_leg` of `add_chain_node`, `add_main_chain_node`, `add_sub_chain_node` -/

/-- **One accepted attachment with `parent_leg`** (`attachAt` = what all three methods do: `parent_leg=None` means
    the parent's first open leg `nvirt_legs()`; the new tensor always offers its leg 0).  With `k` the leg used:
    the parent `p` exists, the new identifier is fresh, the new tensor has a leg 0, **`k` is an open leg of the
    parent** (`nvirt ≤ k < number of legs`) **whose dimension equals that of the new tensor's leg 0**; afterwards
    the parent has the new child appended to its children and its legs are
    `(parent leg, child legs so far) ++ [the chosen leg] ++ (the other open legs in their previous order)` -
    the documented convention `(parent, children, open)` with the open legs' relative order kept - every other
    node is untouched, and the new node is appended with parent `pid`, no children, its legs in the order of
    the array handed in and the shape handed in. -/
theorem parent_leg_attach {ι : Type} [DecidableEq ι] (nodes : List (GNode ι)) (cid : ι) (shape : List Nat)
    (pid : ι) (pl : Option Nat) (ns : List (GNode ι)) (h : attachAt nodes cid shape pid pl = some ns) :
    ∃ p a, gFind nodes pid = some p ∧ gFind nodes cid = none ∧ 0 < shape.length ∧
      p.nvirt ≤ pl.getD p.nvirt ∧ pl.getD p.nvirt < p.legs.length ∧
      shape[0]? = p.shapeAt (pl.getD p.nvirt) ∧ p.legs[pl.getD p.nvirt]? = some a ∧
      ns = (nodes.map fun x => if x.id = pid then x.toChild cid (pl.getD p.nvirt) else x) ++
        [⟨cid, some pid, [], List.range shape.length, shape⟩] ∧
      (p.toChild cid (pl.getD p.nvirt)).children = p.children ++ [cid] ∧
      (p.toChild cid (pl.getD p.nvirt)).legs =
        p.legs.take p.nvirt ++ a :: (p.legs.drop p.nvirt).eraseIdx (pl.getD p.nvirt - p.nvirt) ∧
      (p.toChild cid (pl.getD p.nvirt)).dims = p.dims := by
  unfold attachAt at h
  cases hp : gFind nodes pid with
  | none => rw [hp] at h; cases h
  | some p =>
    rw [hp] at h
    simp only at h
    obtain ⟨p', hp', hc, hs, hk1, hk2, hd, hns⟩ := gAddChild_spec nodes cid shape pid _ ns h
    rw [hp] at hp'
    injection hp' with hp'
    subst hp'
    refine ⟨p, p.legs[pl.getD p.nvirt]'hk2, rfl, hc, hs, hk1, hk2, hd, List.getElem?_eq_getElem hk2, hns, rfl, ?_, rfl⟩
    exact popInsert_eq _ _ _ hk2 hk1

example : attachAt [⟨StarId.center, none, [.chain 0 0], [0, 1, 2, 3], [2, 5, 3, 4]⟩] (StarId.chain 1 0) [4, 7]
    StarId.center (some 3) = some
    [⟨.center, none, [.chain 0 0, .chain 1 0], [0, 3, 1, 2], [2, 5, 3, 4]⟩,
     ⟨.chain 1 0, some .center, [], [0, 1], [4, 7]⟩] := by decide +kernel

/-- Which attachment a call `add_chain_node(tensor, c, parent_leg)` performs: the chain index must be
    `≤ num_chains()`; a new chain (`c = num_chains()`) hangs its node `chain c 0` on the centre, an existing one
    hangs `chain c j` (`j = len(chains[c])`) on `chain c (j-1)`; `parent_leg` is handed through to
    `parent_leg_attach` **in both cases** (first and later nodes); `chains` grows by one entry. -/
theorem star_parent_leg_call (st st' : Star) (c : Nat) (shape : List Nat) (pl : Option Nat)
    (h : starAddL st c shape pl = some st') :
    c ≤ st.lens.length ∧
    ((c = st.lens.length ∧
        ∃ ns, attachAt st.nodes (.chain c 0) shape .center pl = some ns ∧ st' = ⟨ns, st.lens ++ [1]⟩) ∨
     (c < st.lens.length ∧ ∃ j ns, st.lens[c]? = some j ∧
        attachAt st.nodes (.chain c j) shape (.chain c (j - 1)) pl = some ns ∧
        st' = ⟨ns, st.lens.set c (j + 1)⟩)) := by
  obtain ⟨_, hcase⟩ := (starAddL_iff st st' c shape pl).1 h
  rcases hcase with ⟨hc, hat⟩ | ⟨j, ns, hj, hat⟩
  · exact ⟨Nat.le_of_eq hc, Or.inl ⟨hc, hat⟩⟩
  · have hlt : c < st.lens.length := by
      rcases Nat.lt_or_ge c st.lens.length with h | h
      · exact h
      · rw [List.getElem?_eq_none_iff.2 h] at hj; cases hj
    exact ⟨Nat.le_of_lt hlt, Or.inr ⟨hlt, j, ns, hj, hat⟩⟩

/-- Calls without the argument are the calls with `parent_leg=None`: `star_structure` and the other
    theorems about calls without the argument are the special case `none` of the model with the argument. -/
theorem star_parent_leg_default (cshape : List Nat) (calls : List (Nat × List Nat)) :
    starRunL cshape (calls.map fun x => (x.1, x.2, none)) = starRun cshape calls := by
  unfold starRunL starRun starRunFromL starRunFrom
  generalize some (starInit cshape) = acc
  induction calls generalizing acc with
  | nil => rfl
  | cons x rest ih =>
    rw [List.map_cons, List.foldl_cons, List.foldl_cons]
    simp only [starAddL_none]
    exact ih _

/-- **Every accepted sequence of `add_chain_node(tensor, c, parent_leg)` calls, with any mixture of explicit and
    omitted parent legs, builds the same tree as the calls without the argument**: forgetting leg order and
    dimensions (`Star.flat`), the result is exactly what the default-leg run produces for the same chain
    indices on tensors with the same numbers of legs and all dimensions `1` - which is accepted.  Hence all
    identifier / parent / children / `chains` conclusions of `star_structure` hold.  (`parent_leg` only selects
    WHICH leg of the parent carries the bond: `parent_leg_attach`.) -/
theorem star_parent_leg_structure (cshape : List Nat) (calls : List StarCallL) (st : Star)
    (h : starRunL cshape calls = some st) :
    starRun (ones cshape) (starSkel calls) = some st.flat ∧
    st.nodes.map (·.id) = .center :: (starOps (starSkel calls)).map (·.cid) ∧
    (st.nodes.map (·.id)).Nodup ∧
    (∀ c, c < st.lens.length → st.lens[c]? = some (cntC (starSkel calls) c) ∧ 0 < cntC (starSkel calls) c) ∧
    (∀ c, st.lens.length ≤ c → cntC (starSkel calls) c = 0) ∧
    ∀ x ∈ st.nodes,
      (x.id = .center → x.parent = none ∧
        x.children = ((starOps (starSkel calls)).map (·.cid)).filter StarId.isHead) ∧
      (∀ c j, x.id = .chain c j →
        x.parent = some (if j = 0 then StarId.center else .chain c (j - 1)) ∧
        (0 < j → StarId.chain c (j - 1) ∈ st.nodes.map (·.id)) ∧
        (x.children = [] ∨ x.children = [.chain c (j + 1)]) ∧
        (StarId.chain c (j + 1) ∈ st.nodes.map (·.id) → x.children = [.chain c (j + 1)])) := by
  have hinit : (starInit cshape).flat = starInit (ones cshape) := by
    simp [starInit, Star.flat, rootNode, GNode.flat, ones]
  have hnd0 : ((starInit cshape).nodes.map (·.id)).Nodup := by simp [starInit]
  obtain ⟨hrun, hnd⟩ := starRunFromL_flat calls (starInit cshape) st hnd0 h
  rw [hinit] at hrun
  have hrun' : starRun (ones cshape) (starSkel calls) = some st.flat := hrun
  obtain ⟨h1, _, _, h4, h5, h6⟩ := star_structure _ _ _ hrun'
  have hids : st.flat.nodes.map (·.id) = st.nodes.map (·.id) := map_flat_ids st.nodes
  refine ⟨hrun', hids ▸ h1, hnd, h4, h5, ?_⟩
  intro x hx
  have hx' : x.flat ∈ st.flat.nodes := List.mem_map.2 ⟨x, hx, rfl⟩
  obtain ⟨_, hc, _, hch⟩ := h6 x.flat hx'
  refine ⟨fun e => ⟨(hc e).1, (hc e).2.2⟩, ?_⟩
  intro c j e
  have := hch c j e
  rw [hids] at this
  exact this

example : (starRunL [2, 5, 3, 4] [(0, [3, 2], some 2), (1, [4, 7, 6], some 3), (1, [6], some 2)]).map (·.nodes) = some
    [⟨.center, none, [.chain 0 0, .chain 1 0], [2, 3, 0, 1], [2, 5, 3, 4]⟩,
     ⟨.chain 0 0, some .center, [], [0, 1], [3, 2]⟩,
     ⟨.chain 1 0, some .center, [.chain 1 1], [0, 2, 1], [4, 7, 6]⟩,
     ⟨.chain 1 1, some (.chain 1 0), [], [0], [6]⟩] := by decide +kernel

/-- Which attachment `add_main_chain_node(tensor, parent_leg)` / `add_sub_chain_node(tensor, i, parent_leg)`
    perform: the first main call creates the root (the argument is not looked at); a later main call hangs
    `main m` on `main (m-1)`; a sub call hangs `sub i j` (`j = len(sub_chains[i])`) on `main i` (`j = 0`) or on
    `sub i (j-1)`; `parent_leg` is handed through to `parent_leg_attach` in all three places. -/
theorem fork_parent_leg_call (st st' : Fork) (call : ForkCallL) (h : forkAddL st call = some st') :
    (∃ shape pl, call = .main shape pl ∧
      ((st.subLens.length = 0 ∧ st.nodes = [] ∧ st' = ⟨[rootNode (.main 0) shape], [0]⟩) ∨
       (0 < st.subLens.length ∧ ∃ ns,
          attachAt st.nodes (.main st.subLens.length) shape (.main (st.subLens.length - 1)) pl = some ns ∧
          st' = ⟨ns, st.subLens ++ [0]⟩))) ∨
    (∃ i shape pl j ns, call = .sub i shape pl ∧ st.subLens[i]? = some j ∧
      attachAt st.nodes (.sub i j) shape (if j = 0 then ForkId.main i else .sub i (j - 1)) pl = some ns ∧
      st' = ⟨ns, st.subLens.set i (j + 1)⟩) := by
  cases call with
  | main shape pl => exact Or.inl ⟨shape, pl, rfl, (forkAddL_main_iff st st' shape pl).1 h⟩
  | sub i shape pl =>
    obtain ⟨j, ns, h1, h2, h3⟩ := (forkAddL_sub_iff st st' i shape pl).1 h
    exact Or.inr ⟨i, shape, pl, j, ns, rfl, h1, h2, h3⟩

/-- Fork calls without the argument are the calls with `parent_leg=None`: `fork_structure` is the special case `none`
    of the model with the argument. -/
theorem fork_parent_leg_default (calls : List ForkCall) :
    forkRunL (calls.map ForkCallL.default) = forkRun calls := by
  unfold forkRunL forkRun forkRunFromL forkRunFrom
  generalize some forkInit = acc
  induction calls generalizing acc with
  | nil => rfl
  | cons x rest ih =>
    rw [List.map_cons, List.foldl_cons, List.foldl_cons]
    simp only [forkAddL_none]
    exact ih _

/-- **Every accepted sequence of `add_main_chain_node` / `add_sub_chain_node` calls with any mixture of explicit
    and omitted parent legs builds the same tree as the calls without the argument** (same simulation as
    `star_parent_leg_structure`): all identifier / parent / children / `sub_chains` conclusions of
    `fork_structure` hold. -/
theorem fork_parent_leg_structure (calls : List ForkCallL) (st : Fork) (h : forkRunL calls = some st) :
    forkRun (calls.map ForkCallL.skel) = some st.flat ∧
    ((calls = [] ∧ st = forkInit) ∨
    ∃ rs rest, calls.map ForkCallL.skel = ForkCall.main rs :: rest ∧
      st.nodes.map (·.id) = .main 0 :: (forkOps rest).map (·.cid) ∧
      (st.nodes.map (·.id)).Nodup ∧
      st.subLens.length = cntM rest + 1 ∧
      (∀ i, i < st.subLens.length → st.subLens[i]? = some (cntS rest i)) ∧
      ∀ x ∈ st.nodes,
        (∀ k, x.id = .main k →
          x.parent = (if k = 0 then none else some (ForkId.main (k - 1))) ∧
          (0 < k → ForkId.main (k - 1) ∈ st.nodes.map (·.id)) ∧
          (∀ ch ∈ x.children, ch = ForkId.main (k + 1) ∨ ch = ForkId.sub k 0) ∧ x.children.Nodup ∧
          (ForkId.main (k + 1) ∈ st.nodes.map (·.id) → ForkId.main (k + 1) ∈ x.children) ∧
          (ForkId.sub k 0 ∈ st.nodes.map (·.id) → ForkId.sub k 0 ∈ x.children)) ∧
        (∀ i j, x.id = .sub i j →
          x.parent = some (if j = 0 then ForkId.main i else .sub i (j - 1)) ∧
          (if j = 0 then ForkId.main i else ForkId.sub i (j - 1)) ∈ st.nodes.map (·.id) ∧
          (x.children = [] ∨ x.children = [.sub i (j + 1)]) ∧
          (ForkId.sub i (j + 1) ∈ st.nodes.map (·.id) → x.children = [.sub i (j + 1)]))) := by
  have hnd0 : (forkInit.nodes.map (·.id)).Nodup := by simp [forkInit]
  obtain ⟨hrun, hnd⟩ := forkRunFromL_flat calls forkInit st hnd0 h
  have hrun' : forkRun (calls.map ForkCallL.skel) = some st.flat := hrun
  refine ⟨hrun', ?_⟩
  have hids : st.flat.nodes.map (·.id) = st.nodes.map (·.id) := map_flat_ids st.nodes
  rcases fork_structure _ _ hrun' with ⟨h0, h1⟩ | ⟨rs, rest, hc, hi, _, hl, hs, hx⟩
  · left
    have hc : calls = [] := by
      cases calls with
      | nil => rfl
      | cons a t => simp at h0
    subst hc
    simp only [forkRunL, forkRunFromL, List.foldl_nil, Option.some.injEq] at h
    exact ⟨rfl, h.symm⟩
  · right
    refine ⟨rs, rest, hc, hids ▸ hi, hnd, hl, hs, ?_⟩
    intro x hxm
    have hx' : x.flat ∈ st.flat.nodes := List.mem_map.2 ⟨x, hxm, rfl⟩
    obtain ⟨_, _, hm, hsb⟩ := hx x.flat hx'
    refine ⟨?_, ?_⟩
    · intro k e
      have := hm k e
      rw [hids] at this
      exact ⟨this.1, this.2.2.1, this.2.2.2⟩
    · intro i j e
      have := hsb i j e
      rw [hids] at this
      exact this

example : (forkRunL [.main [3, 2, 4] none, .sub 0 [4, 2] (some 2), .main [3, 5] (some 1),
    .sub 1 [5] none]).map (·.nodes) = some
    [⟨.main 0, none, [.sub 0 0, .main 1], [2, 0, 1], [3, 2, 4]⟩,
     ⟨.sub 0 0, some (.main 0), [], [0, 1], [4, 2]⟩,
     ⟨.main 1, some (.main 0), [.sub 1 0], [0, 1], [3, 5]⟩,
     ⟨.sub 1 0, some (.main 1), [], [0], [5]⟩] := by decide +kernel

/-! ### Binary tree (`generate_binary_ttns`) -/

/-- For every number of physical sites `nphys ≥ 2`, every bond dimension `bd ≥ 1` and every physical
    dimension `d`, `generate_binary_ttns` completes (the breadth-first loop stops after `nphys - 1`
    passes, every `add_child_to_parent` and every `replace_node` passes its checks) and returns exactly
    `binFinal`: the complete binary tree with `2·nphys - 1` nodes in breadth-first numbering, where
    * the nodes `0 … nphys-2` are virtual, `virtId h = prefix + level + "_" + position` with
      `(level, position)` the `h`-th pair in breadth-first order (`position < 2^level`,
      `2^level - 1 + position = h`, hence `2^level ≤ nphys - 1`), shape `(bd, bd, 1)` for the root and
      `(bd, bd, bd, 1)` otherwise, legs in the order of the array `(parent, child, child, open)`;
    * every virtual node `h` has exactly the two children with indices `2h+1`, `2h+2`
      (`(level+1, 2·position)` and `(level+1, 2·position+1)`) and, for `h ≥ 1`, the parent `(h-1)/2`
      (`(level-1, position/2)`);
    * the nodes `nphys-1 … 2·nphys-2` are the physical sites `phys 0 … phys (nphys-1)` in this order,
      each exactly once, each a leaf with legs `(parent, open)` and shape `(bd, d)`;
    * dict order: virtual nodes in breadth-first order, then the physical sites in order; all distinct. -/
theorem binary_structure (nphys bd d : Nat) (hn : 2 ≤ nphys) (hb : 1 ≤ bd) :
    binGenerate nphys bd d = some (binFinal nphys bd d) ∧
    (binFinal nphys bd d).map (·.id) =
      (List.range (nphys - 1)).map virtId ++ (List.range nphys).map BinId.phys ∧
    ((binFinal nphys bd d).map (·.id)).Nodup ∧
    (binFinal nphys bd d).length = 2 * nphys - 1 := by
  refine ⟨?_, binFinal_ids nphys bd d, ?_, ?_⟩
  · rw [binGenerate_closed nphys bd d hn hb, replNodes_final nphys bd d (by omega)]
  · exact binFinal_ids_nodup nphys bd d (by omega)
  · rw [binFinal_eq_heap nphys bd d (by omega), List.length_map, List.length_range]

/-- The identifiers of the binary tree in (level, position) form: the `h`-th virtual node sits at a
    valid position of breadth-first index `h`; its children sit one level down at positions `2p`,
    `2p+1`; its parent (for `h ≥ 1`) one level up at position `p/2`. -/
theorem binary_heap_ids (h : Nat) :
    ValidPos (heapPos h) ∧ hidx (heapPos h) = h ∧
    virtId (2 * h + 1) = .virt ((heapPos h).1 + 1) (2 * (heapPos h).2) ∧
    virtId (2 * h + 2) = .virt ((heapPos h).1 + 1) (2 * (heapPos h).2 + 1) ∧
    (0 < h → virtId ((h - 1) / 2) = .virt ((heapPos h).1 - 1) ((heapPos h).2 / 2) ∧ 0 < (heapPos h).1) := by
  refine ⟨(heapPos_spec h).1, (heapPos_spec h).2, ?_, ?_, ?_⟩
  · unfold virtId; rw [(heapPos_children h).1]
  · unfold virtId; rw [(heapPos_children h).2]
  · intro hh
    have := heapPos_parent h hh
    refine ⟨?_, this.2⟩
    unfold virtId; rw [this.1]

example : binGenerate 3 2 3 = some
    [⟨.virt 0 0, none, [.virt 1 0, .phys 0], [0, 1, 2], [2, 2, 1]⟩,
     ⟨.virt 1 0, some (.virt 0 0), [.phys 1, .phys 2], [0, 1, 2, 3], [2, 2, 2, 1]⟩,
     ⟨.phys 0, some (.virt 0 0), [], [0, 1], [2, 3]⟩,
     ⟨.phys 1, some (.virt 1 0), [], [0, 1], [2, 3]⟩,
     ⟨.phys 2, some (.virt 1 0), [], [0, 1], [2, 3]⟩] := by decide +kernel

/-- `StarTreeTensorState.constant_product_state(value, d, chain_length = L, num_chains = C)` for every
    dimension `d`: **if** the calls it makes are accepted, the result is the star of
    `star_structure` with centre shape `(1,…,1,d)` (`C` ones), `C` chains (when `L > 0`) of `L` nodes each,
    every chain tensor of shape `(1, d)` (last node) or `(1, 1, d)` - the requested dimension `d`, not a
    hard-coded one.  That the calls ARE accepted for all `d, L, C` is `star_const_structure`. -/
theorem star_const_structure_partial (d L C : Nat) (st : Star) (h : starConst d L C = some st) :
    starRun (List.replicate C 1 ++ [d]) (starConstCalls d L C) = some st ∧
    (∀ x ∈ starConstCalls d L C, x.1 < C ∧ (x.2 = [1, d] ∨ x.2 = [1, 1, d])) ∧
    (∀ c, cntC (starConstCalls d L C) c = if c < C then L else 0) ∧
    (∀ c, c < st.lens.length → st.lens[c]? = some L) ∧ (0 < L → st.lens.length = C) := by
  have hs := star_structure _ _ st h
  obtain ⟨_, _, _, hsmall, hbig, _⟩ := hs
  refine ⟨h, starConstCalls_shapes d L C, cntC_starConst d L C, ?_, ?_⟩
  · intro c hc
    have := hsmall c hc
    rw [cntC_starConst] at this
    by_cases hcC : c < C
    · simpa [hcC] using this.1
    · simp [hcC] at this
  · intro hL
    apply lens_len _ st.lens C ⟨hsmall, hbig⟩
    intro c
    rw [cntC_starConst]
    split <;> simp [*]

/-- **Star `constant_product_state` completes, for ALL parameters** (`d`, chain length `L`, number of chains `C`,
    zero included: `L = 0` makes no call, `C = 0` gives the bare centre of shape `(d)`): every `add_chain_node` call the
    helper makes is accepted (the centre's first open leg exists and has dimension 1 when a chain is begun; the last
    node of the chain has shape `(1, 1, d)`, so its first open leg is leg 1 of dimension 1 when the chain is
    continued), and the result is the star of `star_structure` / `star_const_structure_partial`: `C` chains (when
    `L > 0`) of `L` nodes each.  No acceptance hypothesis. -/
theorem star_const_structure (d L C : Nat) :
    ∃ st, starConst d L C = some st ∧
    starRun (List.replicate C 1 ++ [d]) (starConstCalls d L C) = some st ∧
    (∀ x ∈ starConstCalls d L C, x.1 < C ∧ (x.2 = [1, d] ∨ x.2 = [1, 1, d])) ∧
    (∀ c, cntC (starConstCalls d L C) c = if c < C then L else 0) ∧
    (∀ c, c < st.lens.length → st.lens[c]? = some L) ∧ (0 < L → st.lens.length = C) := by
  obtain ⟨st, h⟩ := starConst_isSome d L C
  exact ⟨st, h, star_const_structure_partial d L C st h⟩

example : (starConst 0 3 2).isSome = true ∧ (starConst 2 0 3).isSome = true ∧ (starConst 2 1 0).isSome = true := by
  decide

/-- `constant_ftps(local_state, width, height, bond_dim)`: **if** the calls it makes are accepted, the main
    chain has `height` nodes and every sub-chain has `width - 1` nodes (so each row has `width` nodes: the
    `Args:` text of the docstring, which says `width` = main-chain length and `height` = sub-chain
    length, has the two words swapped), and the network is the fork of `fork_structure`.
    Completion for all `width, height, bd ≥ 1` is `ftps_structure`. -/
theorem ftps_structure_partial (d width height bd : Nat) (st : Fork)
    (h : ftps d width height bd = some st) :
    0 < width ∧ 0 < height ∧ 0 < bd ∧
    forkRun (ftpsCalls d width height bd) = some st ∧
    st.subLens.length = height ∧ ∀ i, i < height → st.subLens[i]? = some (width - 1) := by
  unfold ftps at h
  by_cases hz : width = 0 ∨ height = 0 ∨ bd = 0
  · rw [if_pos hz] at h; cases h
  rw [if_neg hz] at h
  refine ⟨by omega, by omega, by omega, h, ?_⟩
  have hmains := ftpsMains_isMain d height bd
  have hM : cntM (ftpsCalls d width height bd) = height := by
    rw [ftpsCalls_eq, cntM_append, cntM_mains _ hmains, cntM_subs]
    simp [ftpsMains]
  have hS : ∀ i, cntS (ftpsCalls d width height bd) i = if i < height then width - 1 else 0 := by
    intro i
    rw [ftpsCalls_eq, cntS_append, cntS_mains _ hmains, cntS_subs, Nat.zero_add]
  rcases fork_structure _ st h with ⟨h0, _⟩ | ⟨rs, rest, hc, _, _, hlen, hsub, _⟩
  · rw [h0] at hM
    simp [cntM] at hM
    omega
  · rw [hc] at hM hS
    have hM' : cntM rest + 1 = height := by
      simpa [cntM, List.countP_cons, ForkCall.isMain] using hM
    have hS' : ∀ i, cntS rest i = if i < height then width - 1 else 0 := by
      intro i
      have := hS i
      simpa [cntS, List.countP_cons, ForkCall.isSub] using this
    refine ⟨by omega, ?_⟩
    intro i hi
    rw [hsub i (by omega), hS' i, if_pos hi]

example : (starConst 3 2 2).isSome = true := by decide +kernel
example : (ftps 3 2 3 2).isSome = true := by decide +kernel

/-- Edge ranges of `constant_ftps` in the MODEL: `width = 1` (no sub-chains) and `height = 1` (one main
    node) are ACCEPTED - every call passes, as in the library - and leave legs of dimension `bd` unbound: with
    `width = 1` leg 1 of the first / last and leg 2 of every middle main node, with `height = 1` leg 1 of `main 0`
    (the shape `(bd, bd, d)` reserves a bond to a second main node that never comes).  Zero `width`, `height` or
    `bd` is rejected by the positivity checks.  So the accepted range is exactly `width, height, bd ≥ 1`
    (`⊆`: `ftps_structure_partial`; `⊇`: `ftps_structure`, for all sizes). -/
example : (ftps 2 1 2 3).map (·.nodes) = some
    [⟨.main 0, none, [.main 1], [0, 1, 2], [3, 3, 2]⟩, ⟨.main 1, some (.main 0), [], [0, 1, 2], [3, 3, 2]⟩] ∧
    (ftps 2 2 1 3).map (·.nodes) = some
    [⟨.main 0, none, [.sub 0 0], [0, 1, 2], [3, 3, 2]⟩, ⟨.sub 0 0, some (.main 0), [], [0, 1], [3, 2]⟩] ∧
    (ftps 2 1 1 3).map (·.nodes) = some [⟨.main 0, none, [], [0, 1, 2], [3, 3, 2]⟩] ∧
    ftps 2 0 1 1 = none ∧ ftps 2 1 0 1 = none ∧ ftps 2 1 1 0 = none ∧
    (ftps 1 4 4 1).isSome = true ∧ (ftps 0 3 1 2).isSome = true := by decide +kernel

/-- the step condition `FtOK` of `ft_step_accept` holds for the second call of `constant_ftps(d=3, width=2, height=3,
    bd=2)` and, with `width=3`, for a first call of sub-chain 1 after it -/
example : FtOK 3 2 3 2 [] (.main [2, 2, 2, 3]) ∧ FtOK 3 3 3 2 [.main [2, 2, 2, 3]] (.sub 1 [2, 2, 3]) := by
  refine ⟨⟨by decide, by decide⟩, by decide, by decide, by decide⟩

/-- **`constant_ftps` completes on exactly the accepted range** (no acceptance hypothesis).  For ALL
    `d` and all `width, height, bd ≥ 1` (the edge ranges `width = 1`, `height = 1` included) every call
    `constant_ftps(local_state of dimension d, width, height, bd)` makes is accepted by the fork constructor:
    `∃ st, ftps d width height bd = some st`, with the conclusions of `ftps_structure_partial` (the calls are the
    documented list, `height` main nodes, every sub-chain has `width - 1` nodes).  Conversely (also
    `ftps_structure_partial`) a completed run has `width, height, bd ≥ 1`, so `ftps … ≠ none ↔ all three ≥ 1`. -/
theorem ftps_structure (d width height bd : Nat) :
    ((ftps d width height bd).isSome = true ↔ (0 < width ∧ 0 < height ∧ 0 < bd)) ∧
    (0 < width → 0 < height → 0 < bd →
      ∃ st, ftps d width height bd = some st ∧
        forkRun (ftpsCalls d width height bd) = some st ∧
        st.subLens.length = height ∧ ∀ i, i < height → st.subLens[i]? = some (width - 1)) := by
  have hfw : 0 < width → 0 < height → 0 < bd →
      ∃ st, ftps d width height bd = some st ∧
        forkRun (ftpsCalls d width height bd) = some st ∧
        st.subLens.length = height ∧ ∀ i, i < height → st.subLens[i]? = some (width - 1) := by
    intro hw hh hb
    obtain ⟨st, h⟩ := ftps_isSome d width height bd hw hh hb
    obtain ⟨_, _, _, h1, h2, h3⟩ := ftps_structure_partial d width height bd st h
    exact ⟨st, h, h1, h2, h3⟩
  refine ⟨⟨?_, ?_⟩, hfw⟩
  · intro h
    obtain ⟨st, hst⟩ := Option.isSome_iff_exists.1 h
    obtain ⟨h1, h2, h3, _⟩ := ftps_structure_partial d width height bd st hst
    exact ⟨h1, h2, h3⟩
  · rintro ⟨hw, hh, hb⟩
    obtain ⟨st, h, _⟩ := hfw hw hh hb
    rw [h]; rfl

/-- non-vacuity of `ftps_structure`: an interior size and both edge ranges -/
example : (0 < 3 ∧ 0 < 3 ∧ 0 < 2) ∧ (ftps 3 3 3 2).isSome = true ∧
    (ftps 3 3 3 2).map (fun st => st.subLens) = some [2, 2, 2] ∧
    (ftps 2 1 4 3).map (fun st => st.subLens) = some [0, 0, 0, 0] ∧
    (ftps 2 4 1 3).map (fun st => st.subLens) = some [3] := by decide +kernel

end Ptn.C19
