import Ptn.C19.ConstAcceptFtps
/-! `FtInv` is preserved by every call of `constant_ftps`; the whole call list is accepted (helper lemmas for
`ftps_structure`). -/
namespace Ptn.C19

/-- a call of the kind `constant_ftps` makes is accepted and the invariant holds again -/
theorem ft_step (d w h bd : Nat) (done : List ForkCall) (st : Fork) (x : ForkCall)
    (hinv : FtInv d w h bd done st) (hx : FtOK d w h bd done x) :
    ∃ st', forkAdd st x = some st' ∧ FtInv d w h bd (done ++ [x]) st' := by
  obtain ⟨st', hst', hfi⟩ := ft_step_accept d w h bd done st x hinv hx
  obtain ⟨_, hM, hsh⟩ := ftInv_iff.1 hinv
  refine ⟨st', hst', ftInv_iff.2 ⟨hfi, ?_, ?_⟩⟩
  · rw [cntM_snoc]
    cases x with
    | main sh => exact hx.2
    | sub i sh => exact hM
  · rw [forkOps_snoc]
    intro o ho
    rcases List.mem_append.1 ho with ho | ho
    · exact hsh o ho
    · rw [List.mem_singleton.1 ho]
      exact ftOK_shape hx

/-- every call of `xs` is of the kind `constant_ftps` makes after `done` and the calls before it -/
def FtCompat (d w h bd : Nat) (done : List ForkCall) : List ForkCall → Prop
  | [] => True
  | x :: xs => FtOK d w h bd done x ∧ FtCompat d w h bd (done ++ [x]) xs

theorem ftCompat_append (d w h bd : Nat) (a b : List ForkCall) (done : List ForkCall) :
    FtCompat d w h bd done (a ++ b) ↔ FtCompat d w h bd done a ∧ FtCompat d w h bd (done ++ a) b := by
  induction a generalizing done with
  | nil => simp [FtCompat]
  | cons x a ih =>
    simp only [List.cons_append, FtCompat, ih, and_assoc, List.append_assoc, List.nil_append]

/-- every call list whose calls are each of the kind `constant_ftps` makes (`FtCompat`) is accepted as a whole, and
    `FtInv` holds at the end -/
theorem ft_run (d w h bd : Nat) (xs done : List ForkCall) (st : Fork)
    (hinv : FtInv d w h bd done st) (hc : FtCompat d w h bd done xs) :
    ∃ st', forkRunFrom st xs = some st' ∧ FtInv d w h bd (done ++ xs) st' := by
  induction xs generalizing done st with
  | nil => exact ⟨st, rfl, by simpa using hinv⟩
  | cons x xs ih =>
    obtain ⟨hx, hrest⟩ := hc
    obtain ⟨st1, hs, hinv1⟩ := ft_step d w h bd done st x hinv hx
    obtain ⟨st', hrun, hinv'⟩ := ih (done ++ [x]) st1 hinv1 hrest
    refine ⟨st', ?_, by simpa [List.append_assoc] using hinv'⟩
    unfold forkRunFrom at hrun ⊢
    simp only [List.foldl_cons, Option.bind_some]
    rw [hs]
    exact hrun

/-- The calls `f c, f (c + 1), …` up to the bound `N` are of the kind `constant_ftps` makes, when a property `P` of
the counter and of the calls made so far admits `f c` and holds for `c + 1` after it. -/
theorem ftCompat_range (d w h bd N : Nat) (f : Nat → ForkCall) (P : Nat → List ForkCall → Prop)
    (hstep : ∀ c done, P c done → c < N → FtOK d w h bd done (f c) ∧ P (c + 1) (done ++ [f c])) :
    ∀ (n c : Nat) (done : List ForkCall), P c done → c + n ≤ N →
      FtCompat d w h bd done ((List.range n).map fun t => f (c + t)) := by
  intro n
  induction n with
  | zero => intro c done _ _; simp [FtCompat]
  | succ n ih =>
    intro c done hP hle
    obtain ⟨hok, hP'⟩ := hstep c done hP (by omega)
    rw [List.range_succ_eq_map, List.map_cons, List.map_map]
    refine ⟨hok, ?_⟩
    have := ih (c + 1) _ hP' (by omega)
    rw [show (fun t => f (c + 1 + t)) = (fun t => f (c + t)) ∘ Nat.succ from
      funext fun t => congrArg f (Nat.add_right_comm c 1 t)] at this
    exact this

theorem ft_compat_mains (d w h bd n c : Nat) (done : List ForkCall) (hc : cntM done = c) (hlt : c + n < h) :
    FtCompat d w h bd done ((List.range n).map fun t => ForkCall.main (ftMainShape d h bd (c + t + 1))) :=
  ftCompat_range d w h bd (h - 1) (fun t => ForkCall.main (ftMainShape d h bd (t + 1)))
    (fun c done => cntM done = c)
    (fun c done hc hlt => by
      subst hc
      exact ⟨⟨rfl, by omega⟩, by rw [cntM_snoc]; simp [ForkCall.isMain]⟩)
    n c done hc (by omega)

theorem ft_compat_row (d w h bd i m c : Nat) (done : List ForkCall) (hc : cntS done i = c)
    (hi : i ≤ cntM done) (hlt : c + m < w) :
    FtCompat d w h bd done ((List.range m).map fun t => ForkCall.sub i (ftSubShape d w bd (c + t))) :=
  ftCompat_range d w h bd (w - 1) (fun t => ForkCall.sub i (ftSubShape d w bd t))
    (fun c done => cntS done i = c ∧ i ≤ cntM done)
    (fun c done hP hlt => by
      obtain ⟨hc, hi⟩ := hP
      subst hc
      exact ⟨⟨rfl, hi, by omega⟩, by rw [cntS_snoc]; simp [ForkCall.isSub],
        by rw [cntM_snoc]; simp [ForkCall.isMain]; exact hi⟩)
    m c done ⟨hc, hi⟩ (by omega)

theorem ftpsSubs_succ (d w bd n : Nat) :
    ftpsSubs d w bd (n + 1) = ftpsSubs d w bd n ++
      (List.range (w - 1)).map fun t => ForkCall.sub n (ftSubShape d w bd (0 + t)) := by
  unfold ftpsSubs
  rw [List.range_succ, List.flatMap_append]
  simp only [List.flatMap_cons, List.flatMap_nil, List.append_nil, Nat.zero_add]
  rfl

theorem ft_compat_subs (d w h bd : Nat) (done : List ForkCall) (hS0 : ∀ i, cntS done i = 0) (hw : 0 < w) :
    ∀ n, n ≤ cntM done + 1 → FtCompat d w h bd done (ftpsSubs d w bd n) := by
  intro n
  induction n with
  | zero => intro _; simp [ftpsSubs, FtCompat]
  | succ n ih =>
    intro hn
    rw [ftpsSubs_succ, ftCompat_append]
    refine ⟨ih (by omega), ?_⟩
    apply ft_compat_row
    · rw [cntS_append, hS0, cntS_subs, if_neg (Nat.lt_irrefl n)]
    · rw [cntM_append, cntM_subs]; omega
    · omega

theorem ftpsMains_succ (d h bd : Nat) :
    ftpsMains d (h + 1) bd = ForkCall.main [bd, bd, d] ::
      (List.range h).map fun t => ForkCall.main (ftMainShape d (h + 1) bd (0 + t + 1)) := by
  unfold ftpsMains
  rw [List.range_succ_eq_map]
  simp only [List.map_cons, List.map_map]
  congr 1
  apply List.map_congr_left
  intro t _
  simp [ftMainShape]

theorem ft_root (d w h bd : Nat) (hh : 0 < h) :
    FtInv d w h bd [] ⟨[rootNode (ForkId.main 0) [bd, bd, d]], [0]⟩ :=
  ftInv_iff.2 ⟨forkInv_root [bd, bd, d], hh, fun _ ho => nomatch ho⟩

/-- `constant_ftps` completes for all `w, h, bd ≥ 1`: its call list is `FtCompat` after the root call -/
theorem ftps_isSome (d w h bd : Nat) (hw : 0 < w) (hh : 0 < h) (hbd : 0 < bd) :
    ∃ st, ftps d w h bd = some st := by
  unfold ftps
  rw [if_neg (by omega)]
  obtain ⟨h', rfl⟩ : ∃ h', h = h' + 1 := ⟨h - 1, by omega⟩
  rw [ftpsCalls_eq, ftpsMains_succ]
  have hmains : ∀ x ∈ (List.range h').map (fun t => ForkCall.main (ftMainShape d (h' + 1) bd (0 + t + 1))),
      x.isMain = true :=
    fun x hx => ftpsMains_isMain d (h' + 1) bd x (ftpsMains_succ d h' bd ▸ List.mem_cons_of_mem _ hx)
  have hcomp : FtCompat d w (h' + 1) bd []
      ((List.range h').map (fun t => ForkCall.main (ftMainShape d (h' + 1) bd (0 + t + 1))) ++
        ftpsSubs d w bd (h' + 1)) := by
    rw [ftCompat_append]
    refine ⟨ft_compat_mains d w (h' + 1) bd h' 0 [] (by simp [cntM]) (by omega), ?_⟩
    apply ft_compat_subs d w (h' + 1) bd _ _ hw
    · rw [List.nil_append, cntM_mains _ hmains]; simp
    · intro i; rw [List.nil_append]; exact cntS_mains _ hmains i
  obtain ⟨st, hrun, _⟩ := ft_run d w (h' + 1) bd _ [] _ (ft_root d w (h' + 1) bd (by omega)) hcomp
  refine ⟨st, ?_⟩
  unfold forkRun forkRunFrom
  simp only [List.cons_append, List.foldl_cons, Option.bind_some]
  rw [forkAdd_init]
  exact hrun

end Ptn.C19
