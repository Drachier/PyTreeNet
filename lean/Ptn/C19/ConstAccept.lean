import Ptn.C19.Const
/-! When `add_chain_node` accepts a call, for ANY state of the star constructor (`star_accept`), in terms of the closed
form of `Attach.lean` / `StarFork.lean`; which chain nodes exist (`starOps_cids`).  The constant helper uses it in
`ConstAcceptStar.lean`. -/
namespace Ptn.C19

theorem starOps_cids (done : List (Nat × List Nat)) (c k : Nat) :
    StarId.chain c k ∈ (starOps done).map (·.cid) ↔ k < cntC done c := by
  unfold starOps cntC
  rw [starOpsAux_eq, logAux_cids starOp (·.1) StarId.chain (by simp) (fun _ _ => rfl)]
  simp

theorem star_chain_mem_ids (done : List (Nat × List Nat)) (c k : Nat) :
    StarId.chain c k ∈ idsG StarId.center (starOps done) ↔ k < cntC done c := by
  rw [← starOps_cids]
  simp [idsG]

theorem star_last_no_children (done : List (Nat × List Nat)) (c : Nat) (hpos : 0 < cntC done c) :
    childrenOf (starOps done) (StarId.chain c (cntC done c - 1)) = [] := by
  rw [parLog_children (starOps_par done), List.filter_eq_nil_iff]
  intro y hy
  rw [decide_eq_true_eq]
  intro e
  rw [starPar_chain e, starOps_cids, Nat.sub_add_cancel hpos] at hy
  exact Nat.lt_irrefl _ hy

/-- `add_chain_node(tensor of shape `shape`, c)` is accepted in a state reached by the calls
    `done` when `c` is an existing or the next chain index, the tensor has a leg 0, and
    * new chain: the centre still has an open leg and the dimension of its first open leg is `shape[0]`;
    * existing chain: the last node of the chain has a second leg, of dimension `shape[0]`. -/
theorem star_accept (cshape : List Nat) (done : List (Nat × List Nat)) (st : Star) (c : Nat)
    (shape : List Nat) (hinv : StarInv cshape done st)
    (hc : c ≤ st.lens.length) (hc2 : c ≤ cshape.length) (hsh : 0 < shape.length)
    (hnew : c = st.lens.length →
      (childrenOf (starOps done) StarId.center).length < cshape.length ∧
      shape[0]? = cshape[(childrenOf (starOps done) StarId.center).length]?)
    (hold : c < st.lens.length → ∀ o ∈ starOps done, o.cid = StarId.chain c (cntC done c - 1) →
      1 < o.shape.length ∧ shape[0]? = o.shape[1]?) :
    ∃ st', starAdd st c shape = some st' := by
  obtain ⟨hn, hg, hl⟩ := hinv
  have hcen : StarId.center ∈ idsG StarId.center (starOps done) := List.mem_cons_self
  have hguard : ∃ ctr, gFind st.nodes .center = some ctr ∧ c ≤ ctr.legs.length :=
    ⟨nodeG .center cshape (starOps done) .center,
      by rw [hn, closedG, gFind_map_id _ _ (nodeG_id _ _ _), if_pos hcen],
      by show c ≤ (List.range _).length; rw [List.length_range, closed_root_shape]; exact hc2⟩
  rw [← starAddL_none]
  by_cases h3 : c = st.lens.length
  · obtain ⟨hn1, hn2⟩ := hnew h3
    have hc0 : cntC done c = 0 := hl.big c (Nat.le_of_eq h3.symm)
    have hnv : (nodeG StarId.center cshape (starOps done) StarId.center).nvirt =
        (childrenOf (starOps done) StarId.center).length := by
      simp [GNode.nvirt, nodeG, closed_root hg]
    have hat := attach_closed StarId.center cshape (starOps done) ⟨.chain c 0, shape, .center⟩ hg hcen
      (by rw [star_chain_mem_ids, hc0]; exact Nat.lt_irrefl 0) hsh
      (by rw [hnv, closed_root_shape]; exact hn1) (by rw [hnv, closed_root_shape]; exact hn2)
    rw [← hn, ← attachAt_none] at hat
    exact ⟨_, (starAddL_iff st _ c shape none).2 ⟨hguard, Or.inl ⟨h3, _, hat, rfl⟩⟩⟩
  · have hlt : c < st.lens.length := Nat.lt_of_le_of_ne hc h3
    obtain ⟨hget, hpos⟩ := hl.small c hlt
    have hpm : StarId.chain c (cntC done c - 1) ∈ (starOps done).map (·.cid) := by
      rw [starOps_cids]; omega
    obtain ⟨o, ho, hoc⟩ := List.mem_map.1 hpm
    obtain ⟨ho1, ho2⟩ := hold hlt o ho hoc
    have hshape : shapeOf StarId.center cshape (starOps done) (StarId.chain c (cntC done c - 1)) = o.shape := by
      rw [← hoc]; exact closed_shape cshape hg o ho
    have hnv : (nodeG StarId.center cshape (starOps done) (StarId.chain c (cntC done c - 1))).nvirt = 1 := by
      have hp : parentOf (starOps done) (StarId.chain c (cntC done c - 1)) = some o.pid := by
        rw [← hoc]; exact closed_parent hg o ho
      simp [GNode.nvirt, nodeG, hp, star_last_no_children done c hpos]
    have hat := attach_closed StarId.center cshape (starOps done)
      ⟨.chain c (cntC done c), shape, .chain c (cntC done c - 1)⟩ hg (List.mem_cons_of_mem _ hpm)
      (by rw [star_chain_mem_ids]; exact Nat.lt_irrefl _) hsh
      (by rw [hnv, hshape]; exact ho1) (by rw [hnv, hshape]; exact ho2)
    rw [← hn, ← attachAt_none] at hat
    exact ⟨_, (starAddL_iff st _ c shape none).2 ⟨hguard, Or.inr ⟨cntC done c, _, hget, hat, rfl⟩⟩⟩

end Ptn.C19
