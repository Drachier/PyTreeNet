import Ptn.C19.ConstAccept
/-! When a fork call is accepted, for ANY state of the fork constructor (`fork_accept`); which nodes exist
(`fork_main_mem_ids`, `fork_sub_mem_ids`) and how many bound legs each has (`fork_nvirt_main`, `fork_nvirt_sub`).
`constant_ftps` uses them in `ConstAcceptFtps.lean`. -/
namespace Ptn.C19

/-- `main k` exists after the root and the calls `done` iff `k ≤` number of main calls -/
theorem fork_main_mem_ids (done : List ForkCall) (k : Nat) :
    ForkId.main k ∈ idsG (ForkId.main 0) (forkOps done) ↔ k ≤ cntM done := by
  cases k with
  | zero => simp [idsG]
  | succ m =>
    rw [idsG, List.mem_cons, cntM_kind]
    exact (or_iff_right (fun e => nomatch e)).trans (forkOps_cids done none m)

/-- `sub i j` exists iff `j <` number of calls for sub-chain `i` -/
theorem fork_sub_mem_ids (done : List ForkCall) (i j : Nat) :
    ForkId.sub i j ∈ idsG (ForkId.main 0) (forkOps done) ↔ j < cntS done i := by
  rw [idsG, List.mem_cons, cntS_kind]
  exact (or_iff_right (fun e => nomatch e)).trans (forkOps_cids done (some i) j)

theorem fork_nvirt_main (rs : List Nat) (done : List ForkCall) (hg : GoodLog (.main 0) (forkOps done)) (k : Nat)
    (hk : k ≤ cntM done) :
    (nodeG (ForkId.main 0) rs (forkOps done) (ForkId.main k)).nvirt =
      (if k = 0 then 0 else 1) + (if k < cntM done then 1 else 0) + (if 0 < cntS done k then 1 else 0) := by
  rw [parLog_nvirt rs (forkOps_par done) hg ((fork_main_mem_ids done k).2 hk) [.main (k + 1), .sub k 0]
    (by simp) (by simp)
    (fun y hy => forkPar_main_iff (fun e => goodLog_root_fresh hg (e ▸ hy)) k)]
  simp only [List.countP_cons, List.countP_nil, fork_main_mem_ids, fork_sub_mem_ids, decide_eq_true_eq,
    ForkId.main.injEq, Nat.zero_add, Nat.add_assoc, Nat.succ_le_iff]
  omega

theorem fork_nvirt_sub (rs : List Nat) (done : List ForkCall) (hg : GoodLog (.main 0) (forkOps done)) (i j : Nat)
    (hj : j < cntS done i) :
    (nodeG (ForkId.main 0) rs (forkOps done) (ForkId.sub i j)).nvirt =
      1 + (if j + 1 < cntS done i then 1 else 0) := by
  rw [parLog_nvirt rs (forkOps_par done) hg ((fork_sub_mem_ids done i j).2 hj) [.sub i (j + 1)]
    (by simp) (by simp) (fun y _ => forkPar_sub_iff y i j)]
  simp [List.countP_cons, fork_sub_mem_ids]

/-- a fork call is accepted in a state reached by the root and the calls `done` when
    * `add_main_chain_node`: the tensor has a leg 0 and the last main node `main (cntM done)` has an open leg, its first
      open leg having dimension `shape[0]`;
    * `add_sub_chain_node(i)`: `i` is an existing main index, the tensor has a leg 0 and the node the sub-chain
      continues from (`main i`, or the last node of sub-chain `i`) has an open leg, the first one of dimension `shape[0]`. -/
theorem fork_accept (rs : List Nat) (done : List ForkCall) (st : Fork) (call : ForkCall)
    (hinv : ForkInv rs done st)
    (hi : ∀ i sh, call = .sub i sh → i ≤ cntM done)
    (hsh : 0 < (forkOp done call).shape.length)
    (h2 : (nodeG (ForkId.main 0) rs (forkOps done) (forkOp done call).pid).nvirt <
      (shapeOf (ForkId.main 0) rs (forkOps done) (forkOp done call).pid).length)
    (h3 : (forkOp done call).shape[0]? = (shapeOf (ForkId.main 0) rs (forkOps done) (forkOp done call).pid)[
      (nodeG (ForkId.main 0) rs (forkOps done) (forkOp done call).pid).nvirt]?) :
    ∃ st', forkAdd st call = some st' := by
  obtain ⟨hn, hg, hl⟩ := hinv
  rw [← forkAddL_none]
  cases call with
  | main shape =>
    have hat := attach_closed (ForkId.main 0) rs (forkOps done) (forkOp done (.main shape)) hg
      (by show ForkId.main (cntM done) ∈ _; rw [fork_main_mem_ids]; exact Nat.le_refl _)
      (by show ForkId.main (cntM done + 1) ∉ _; rw [fork_main_mem_ids]; exact Nat.not_succ_le_self _) hsh h2 h3
    rw [← hn, ← attachAt_none] at hat
    exact ⟨_, (forkAddL_main_iff st _ shape none).2 (Or.inr ⟨by rw [hl.len]; exact Nat.succ_pos _, _,
      by rw [hl.len, Nat.add_sub_cancel]; exact hat, rfl⟩)⟩
  | sub i shape =>
    have hi' : i < st.subLens.length := by rw [hl.len]; exact Nat.lt_succ_of_le (hi i shape rfl)
    have hp : (if cntS done i = 0 then ForkId.main i else ForkId.sub i (cntS done i - 1)) ∈
        idsG (ForkId.main 0) (forkOps done) := by
      by_cases h0 : cntS done i = 0
      · rw [if_pos h0, fork_main_mem_ids]; exact hi i shape rfl
      · rw [if_neg h0, fork_sub_mem_ids]; omega
    have hat := attach_closed (ForkId.main 0) rs (forkOps done) (forkOp done (.sub i shape)) hg hp
      (by show ForkId.sub i (cntS done i) ∉ _; rw [fork_sub_mem_ids]; exact Nat.lt_irrefl _) hsh h2 h3
    rw [← hn, ← attachAt_none] at hat
    exact ⟨_, (forkAddL_sub_iff st _ i shape none).2 ⟨cntS done i, _, hl.small i hi', hat, rfl⟩⟩

end Ptn.C19
