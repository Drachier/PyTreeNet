import Ptn.C19.Model
/-! Model for property C19 (core Lean only): star, fork and binary-tree constructors.

* `gAddChild`            ↔ `TreeTensorNetwork.add_child_to_parent` for an arbitrary identifier type, with
                           the tensor shapes (`ensure_shape_matching`) besides the leg-order bookkeeping
* `starInit`, `starAdd`  ↔ `StarTreeTensorNetwork.add_center_node`, `add_chain_node` / `_add_chain`
                           (`parent_leg=None`: first open leg of the parent) (`special_ttn/star.py`)
* `starConstCalls`, `starConst` ↔ `StarTreeTensorState.constant_product_state`
* `attachAt`, `starAddL`, `forkAddL` ↔ the same three methods with their optional argument `parent_leg`
* `forkAdd`              ↔ `ForkTreeTensorNetwork.add_main_chain_node`, `add_sub_chain_node` (`fttn.py`)
* `ftpsCalls`, `ftps`    ↔ `constant_ftps`
* `binLoop`, `binAddAll`, `binReplace`, `binGenerate` ↔ `add_all_nodes` (queue of `HelperNode`s),
                           `TreeTensorNetwork.replace_node`, `transform_phys_nodes`, `generate_binary_ttns`
                           (`binary.py`, `core/ttn.py`, `core/tree_structure.py`)

A tensor is its shape (`dims`, by axis of the array handed in) and the logical order of its legs
(`legs`: parent, children…, open…; entries are axes of the array handed in). -/
namespace Ptn.C19

/-- a node of the star / fork / binary model: identifier, parent, children, logical leg order and shape (the chain's
    `MNode` has no `dims`) -/
structure GNode (ι : Type) where
  id : ι
  parent : Option ι
  children : List ι
  legs : List Nat
  dims : List Nat
deriving Repr, DecidableEq

def GNode.nvirt {ι : Type} (x : GNode ι) : Nat := (if x.parent.isSome then 1 else 0) + x.children.length

/-- `open_leg_to_child` -/
def GNode.toChild {ι : Type} (p : GNode ι) (cid : ι) (parentLeg : Nat) : GNode ι :=
  { p with legs := popInsert p.legs parentLeg p.nvirt, children := p.children ++ [cid] }

/-- `node.shape[k]`: dimension of the `k`-th leg in logical order -/
def GNode.shapeAt {ι : Type} (x : GNode ι) (k : Nat) : Option Nat := (x.legs[k]?).bind fun a => x.dims[a]?

def gFind {ι : Type} [DecidableEq ι] (nodes : List (GNode ι)) (i : ι) : Option (GNode ι) :=
  nodes.find? (fun x => decide (x.id = i))

/-- `add_child_to_parent(Node(cid), tensor of shape `shape`, childLeg, pid, parentLeg)`; `none` when the
    library raises (unknown parent, duplicate identifier, leg out of range / not open, dimension mismatch) -/
def gAddChild {ι : Type} [DecidableEq ι] (nodes : List (GNode ι)) (cid : ι) (shape : List Nat)
    (childLeg : Nat) (pid : ι) (parentLeg : Nat) : Option (List (GNode ι)) :=
  match gFind nodes pid with
  | none => none
  | some p =>
    if (gFind nodes cid).isSome then none
    else if shape.length ≤ childLeg then none
    else if parentLeg < p.nvirt ∨ p.legs.length ≤ parentLeg then none
    else if shape[childLeg]? ≠ p.shapeAt parentLeg then none
    else
      some ((nodes.map fun x => if x.id = pid then x.toChild cid parentLeg else x) ++
        [⟨cid, some pid, [], popInsert (List.range shape.length) childLeg 0, shape⟩])

/-- `add_child_to_parent(node, tensor, 0, parent_id, parent_node.nvirt_legs())`: what star and fork do
    with `parent_leg=None` -/
def attachFirstOpen {ι : Type} [DecidableEq ι] (nodes : List (GNode ι)) (cid : ι) (shape : List Nat)
    (pid : ι) : Option (List (GNode ι)) :=
  match gFind nodes pid with
  | none => none
  | some p => gAddChild nodes cid shape 0 pid p.nvirt

def rootNode {ι : Type} (i : ι) (shape : List Nat) : GNode ι :=
  ⟨i, none, [], List.range shape.length, shape⟩

/-! ## Star -/

inductive StarId where
  | center
  | chain (c j : Nat)
deriving Repr, DecidableEq

/-- `nodes` in dict order; `lens[c]` = `len(self.chains[c])` -/
structure Star where
  nodes : List (GNode StarId)
  lens : List Nat
deriving Repr, DecidableEq

def starInit (cshape : List Nat) : Star := ⟨[rootNode .center cshape], []⟩

/-- `add_chain_node(tensor, chain_index)` -/
def starAdd (st : Star) (c : Nat) (shape : List Nat) : Option Star :=
  match gFind st.nodes .center with
  | none => none
  | some ctr =>
    if ctr.legs.length < c then none            -- "Chain index is too high!"
    else if st.lens.length < c then none        -- "This is not the next chain index!"
    else if c = st.lens.length then
      (attachFirstOpen st.nodes (.chain c 0) shape .center).map fun ns => ⟨ns, st.lens ++ [1]⟩
    else
      match st.lens[c]? with
      | none => none
      | some len =>
        (attachFirstOpen st.nodes (.chain c len) shape (.chain c (len - 1))).map
          fun ns => ⟨ns, st.lens.set c (len + 1)⟩

def starRunFrom (st : Star) (calls : List (Nat × List Nat)) : Option Star :=
  calls.foldl (fun acc x => acc.bind fun s => starAdd s x.1 x.2) (some st)

def starRun (cshape : List Nat) (calls : List (Nat × List Nat)) : Option Star :=
  starRunFrom (starInit cshape) calls

/-- the calls of `constant_product_state(value, d, chain_length = L, num_chains = C)` -/
def starConstCalls (d L C : Nat) : List (Nat × List Nat) :=
  (List.range C).flatMap fun i => (List.range L).map fun j =>
    (i, if j = L - 1 then [1, d] else [1, 1, d])

def starConst (d L C : Nat) : Option Star :=
  starRun (List.replicate C 1 ++ [d]) (starConstCalls d L C)

/-! ## Fork -/

inductive ForkId where
  | main (i : Nat)
  | sub (i j : Nat)
deriving Repr, DecidableEq

/-- `subLens[i]` = `len(self.sub_chains[i])`; its length is `main_length()` -/
structure Fork where
  nodes : List (GNode ForkId)
  subLens : List Nat
deriving Repr, DecidableEq

inductive ForkCall where
  | main (shape : List Nat)
  | sub (i : Nat) (shape : List Nat)
deriving Repr, DecidableEq

def forkInit : Fork := ⟨[], []⟩

/-- `add_main_chain_node(tensor)` / `add_sub_chain_node(tensor, i)` without `parent_leg` -/
def forkAdd (st : Fork) : ForkCall → Option Fork
  | .main shape =>
    let m := st.subLens.length
    if m = 0 then
      (if st.nodes.isEmpty then some ⟨[rootNode (.main 0) shape], [0]⟩ else none)
    else
      (attachFirstOpen st.nodes (.main m) shape (.main (m - 1))).map fun ns => ⟨ns, st.subLens ++ [0]⟩
  | .sub i shape =>
    if st.subLens.length < i then none          -- "A subchain has to be attached to the main chain!"
    else
      match st.subLens[i]? with
      | none => none                            -- IndexError of `self.sub_chains[index]`
      | some len =>
        let pid : ForkId := if len = 0 then .main i else .sub i (len - 1)
        (attachFirstOpen st.nodes (.sub i len) shape pid).map fun ns => ⟨ns, st.subLens.set i (len + 1)⟩

def forkRunFrom (st : Fork) (calls : List ForkCall) : Option Fork :=
  calls.foldl (fun acc x => acc.bind fun s => forkAdd s x) (some st)

def forkRun (calls : List ForkCall) : Option Fork := forkRunFrom forkInit calls

/-- the calls of `constant_ftps(local_state of dimension d, width, height, bond_dim = bd)` -/
def ftpsCalls (d width height bd : Nat) : List ForkCall :=
  ((List.range height).map fun i =>
    ForkCall.main (if i = 0 ∨ i = height - 1 then [bd, bd, d] else [bd, bd, bd, d])) ++
  ((List.range height).flatMap fun i => (List.range (width - 1)).map fun j =>
    ForkCall.sub i (if j = width - 2 then [bd, d] else [bd, bd, d]))

def ftps (d width height bd : Nat) : Option Fork :=
  if width = 0 ∨ height = 0 ∨ bd = 0 then none     -- positivity checks
  else forkRun (ftpsCalls d width height bd)

/-! ## Binary tree -/

inductive BinId where
  | virt (level pos : Nat)
  | phys (k : Nat)
deriving Repr, DecidableEq

/-- the `while len(phys_nodes) != num_phys` loop of `add_all_nodes`; `queue` holds (level, position) of
    the `HelperNode`s; `fuel` bounds the number of passes -/
def binLoop (nphys bd : Nat) : Nat → List (GNode BinId) → List (Nat × Nat) →
    Option (List (GNode BinId) × List (Nat × Nat))
  | 0, _, _ => none
  | fuel + 1, nodes, queue =>
    if queue.length = nphys then some (nodes, queue)
    else
      match queue with
      | [] => none                                   -- `pop(0)` of an empty list
      | (l, p) :: rest =>
        if rest.length = nphys then some (nodes, rest)
        else
          let plegs : Nat × Nat := if l = 0 ∧ p = 0 then (0, 1) else (1, 2)   -- `parent_legs`
          let vshape := [bd, bd, bd, 1]
          match gAddChild nodes (.virt (l + 1) (2 * p)) vshape 0 (.virt l p) plegs.1 with
          | none => none
          | some ns =>
            match gAddChild ns (.virt (l + 1) (2 * p + 1)) vshape 0 (.virt l p) plegs.2 with
            | none => none
            | some ns2 => binLoop nphys bd fuel ns2 (rest ++ [(l + 1, 2 * p), (l + 1, 2 * p + 1)])

def binAddAll (nphys bd : Nat) : Option (List (GNode BinId) × List (Nat × Nat)) :=
  binLoop nphys bd (nphys + 1) [rootNode (.virt 0 0) [bd, bd, 1]] [(0, 0)]

/-- what `replace_node_in_neighbours(new, old)` does to the node `x`: children of the old node get the
    new parent, the old node's parent gets the new child in place of the old one -/
def replUpd (old : GNode BinId) (newId oldId : BinId) (x : GNode BinId) : GNode BinId :=
  if old.children.contains x.id ∧ x.id ≠ newId then { x with parent := some newId }
  else if some x.id = old.parent ∧ x.id ≠ newId then
    { x with children := x.children.map fun c => if c = oldId then newId else c }
  else x

/-- `replace_node(new_id, old_id, tensor)` -/
def binReplace (nodes : List (GNode BinId)) (newId oldId : BinId) (shape : List Nat) :
    Option (List (GNode BinId)) :=
  match gFind nodes oldId with
  | none => none
  | some old =>
    -- every neighbour's leg must keep its dimension (`new_node.shape[k] == old_node.shape[k]`)
    if (List.range old.nvirt).all (fun k => shape[k]? ≠ none ∧ shape[k]? = old.shapeAt k) then
      some ((nodes.map (replUpd old newId oldId)).filter (fun x => x.id ≠ oldId) ++
        [⟨newId, old.parent, old.children, List.range shape.length, shape⟩])
    else none

/-- `generate_binary_ttns(num_phys, bond_dim, phys_tensor of shape (bd, d))` -/
def binGenerate (nphys bd d : Nat) : Option (List (GNode BinId)) :=
  if nphys = 0 ∨ bd = 0 then none
  else
    match binAddAll nphys bd with
    | none => none
    | some (nodes, queue) =>
      (List.range queue.length).foldl
        (fun acc k => acc.bind fun ns =>
          match queue[k]? with
          | none => none
          | some lp => binReplace ns (.phys k) (.virt lp.1 lp.2) [bd, d]) (some nodes)

/-! ## Explicit `parent_leg` (optional argument of `add_chain_node`, `add_main_chain_node`, `add_sub_chain_node`) -/

/-- `if parent_leg is None: parent_leg = parent_node.nvirt_legs()` followed by
    `add_child_to_parent(node, tensor, 0, parent_id, parent_leg)`: what star and fork do with their optional
    argument `parent_leg` (the new node always offers its leg 0) -/
def attachAt {ι : Type} [DecidableEq ι] (nodes : List (GNode ι)) (cid : ι) (shape : List Nat)
    (pid : ι) (pl : Option Nat) : Option (List (GNode ι)) :=
  match gFind nodes pid with
  | none => none
  | some p => gAddChild nodes cid shape 0 pid (pl.getD p.nvirt)

/-- one call `add_chain_node(tensor, chain_index, parent_leg)`: chain index, shape, `parent_leg` (`none` = `None`) -/
abbrev StarCallL := Nat × List Nat × Option Nat

/-- `add_chain_node(tensor, chain_index, parent_leg)` (`_add_chain` for a new chain) -/
def starAddL (st : Star) (c : Nat) (shape : List Nat) (pl : Option Nat) : Option Star :=
  match gFind st.nodes .center with
  | none => none
  | some ctr =>
    if ctr.legs.length < c then none            -- "Chain index is too high!"
    else if st.lens.length < c then none        -- "This is not the next chain index!"
    else if c = st.lens.length then
      (attachAt st.nodes (.chain c 0) shape .center pl).map fun ns => ⟨ns, st.lens ++ [1]⟩
    else
      match st.lens[c]? with
      | none => none
      | some len =>
        (attachAt st.nodes (.chain c len) shape (.chain c (len - 1)) pl).map
          fun ns => ⟨ns, st.lens.set c (len + 1)⟩

def starRunFromL (st : Star) (calls : List StarCallL) : Option Star :=
  calls.foldl (fun acc x => acc.bind fun s => starAddL s x.1 x.2.1 x.2.2) (some st)

def starRunL (cshape : List Nat) (calls : List StarCallL) : Option Star :=
  starRunFromL (starInit cshape) calls

inductive ForkCallL where
  | main (shape : List Nat) (pl : Option Nat)
  | sub (i : Nat) (shape : List Nat) (pl : Option Nat)
deriving Repr, DecidableEq

/-- `add_main_chain_node(tensor, parent_leg)` (the argument is not looked at for the very first node, which
    becomes the root) and `add_sub_chain_node(tensor, subchain_index, parent_leg)` -/
def forkAddL (st : Fork) : ForkCallL → Option Fork
  | .main shape pl =>
    let m := st.subLens.length
    if m = 0 then
      (if st.nodes.isEmpty then some ⟨[rootNode (.main 0) shape], [0]⟩ else none)
    else
      (attachAt st.nodes (.main m) shape (.main (m - 1)) pl).map fun ns => ⟨ns, st.subLens ++ [0]⟩
  | .sub i shape pl =>
    if st.subLens.length < i then none          -- "A subchain has to be attached to the main chain!"
    else
      match st.subLens[i]? with
      | none => none                            -- IndexError of `self.sub_chains[index]`
      | some len =>
        let pid : ForkId := if len = 0 then .main i else .sub i (len - 1)
        (attachAt st.nodes (.sub i len) shape pid pl).map fun ns => ⟨ns, st.subLens.set i (len + 1)⟩

def forkRunFromL (st : Fork) (calls : List ForkCallL) : Option Fork :=
  calls.foldl (fun acc x => acc.bind fun s => forkAddL s x) (some st)

def forkRunL (calls : List ForkCallL) : Option Fork := forkRunFromL forkInit calls

end Ptn.C19
