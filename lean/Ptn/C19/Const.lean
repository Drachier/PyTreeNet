import Ptn.C19.StarFork
/-! `constant_product_state` (star) and `constant_ftps` (fork): which calls they make and how many of each kind
(`cntC_starConst`, `cntM_*`, `cntS_*`), for `star_const_structure_partial`, `ftps_structure_partial` and for the
acceptance runs of `ConstAcceptStar.lean`, `ConstAcceptFtpsRun.lean`. -/
namespace Ptn.C19

theorem starConstCalls_shapes (d L C : Nat) :
    ∀ x ∈ starConstCalls d L C, x.1 < C ∧ (x.2 = [1, d] ∨ x.2 = [1, 1, d]) := by
  intro x hx
  simp only [starConstCalls, List.mem_flatMap, List.mem_map, List.mem_range] at hx
  obtain ⟨i, hi, j, _, rfl⟩ := hx
  refine ⟨hi, ?_⟩
  by_cases h : j = L - 1 <;> simp [h]

theorem count_blocks {K : Type} [BEq K] [LawfulBEq K] (key : Nat → K) (hinj : ∀ a b, key a = key b → a = b)
    (m n i : Nat) :
    ((List.range n).flatMap fun t => List.replicate m (key t)).count (key i) = if i < n then m else 0 := by
  induction n with
  | zero => rfl
  | succ n ih =>
    rw [List.range_succ, List.flatMap_append, List.count_append, ih, List.flatMap_singleton, List.count_replicate]
    by_cases h : n = i
    · subst h
      rw [if_neg (Nat.lt_irrefl n), if_pos (Nat.lt_succ_self n), beq_self_eq_true, if_pos rfl, Nat.zero_add]
    · rw [beq_false_of_ne (fun e => h (hinj _ _ e)), if_neg Bool.false_ne_true, Nat.add_zero]
      by_cases h1 : i < n
      · rw [if_pos h1, if_pos (Nat.lt_succ_of_lt h1)]
      · rw [if_neg h1, if_neg (by omega)]

theorem flatMap_map_const {α K : Type} (κ : α → K) (key : Nat → K) (g : Nat → Nat → α) (hg : ∀ t j, κ (g t j) = key t)
    (m n : Nat) :
    ((List.range n).flatMap fun t => (List.range m).map (g t)).map κ =
      (List.range n).flatMap fun t => List.replicate m (key t) := by
  rw [List.map_flatMap]
  congr 1; funext t
  rw [List.map_map, List.eq_replicate_iff]
  simp [hg]

theorem cntC_starConst (d L C c : Nat) :
    cntC (starConstCalls d L C) c = if c < C then L else 0 := by
  unfold cntC starConstCalls
  rw [flatMap_map_const (·.1) id (fun i j => (i, if j = L - 1 then [1, d] else [1, 1, d])) (fun _ _ => rfl)]
  exact count_blocks id (fun _ _ e => e) L C c

def ftpsMains (d height bd : Nat) : List ForkCall :=
  (List.range height).map fun i =>
    ForkCall.main (if i = 0 ∨ i = height - 1 then [bd, bd, d] else [bd, bd, bd, d])

def ftpsSubs (d width bd n : Nat) : List ForkCall :=
  (List.range n).flatMap fun i => (List.range (width - 1)).map fun j =>
    ForkCall.sub i (if j = width - 2 then [bd, d] else [bd, bd, d])

theorem ftpsCalls_eq (d width height bd : Nat) :
    ftpsCalls d width height bd = ftpsMains d height bd ++ ftpsSubs d width bd height := rfl

theorem ftpsMains_isMain (d height bd : Nat) : ∀ x ∈ ftpsMains d height bd, x.isMain = true := by
  intro x hx
  obtain ⟨i, _, rfl⟩ := List.mem_map.1 hx
  rfl

theorem cntM_mains (l : List ForkCall) (h : ∀ x ∈ l, x.isMain = true) : cntM l = l.length := by
  unfold cntM
  rw [List.countP_eq_length]
  exact h

theorem cntM_subs (d width bd n : Nat) : cntM (ftpsSubs d width bd n) = 0 := by
  unfold cntM
  rw [List.countP_eq_zero]
  intro x hx
  simp only [ftpsSubs, List.mem_flatMap, List.mem_map] at hx
  obtain ⟨i, _, j, _, rfl⟩ := hx
  simp [ForkCall.isMain]

theorem cntS_mains (l : List ForkCall) (h : ∀ x ∈ l, x.isMain = true) (i : Nat) : cntS l i = 0 := by
  unfold cntS
  rw [List.countP_eq_zero]
  intro x hx
  have := h x hx
  cases x with
  | main _ => simp [ForkCall.isSub]
  | sub _ _ => simp [ForkCall.isMain] at this

theorem cntS_subs (d width bd n i : Nat) :
    cntS (ftpsSubs d width bd n) i = if i < n then width - 1 else 0 := by
  rw [cntS_kind]
  unfold ftpsSubs
  rw [flatMap_map_const ForkCall.kind some
    (fun i j => ForkCall.sub i (if j = width - 2 then [bd, d] else [bd, bd, d])) (fun _ _ => rfl)]
  exact count_blocks some (fun _ _ e => Option.some.inj e) (width - 1) n i

end Ptn.C19
