import Ptn.C19.Model
/-! The leg move `popInsert` of `open_leg_to_parent` / `open_leg_to_child` (core Lean only): moving a leg to where it
is changes nothing (`popInsert_self`); moving an open leg behind the virtual legs keeps the order of the others
(`popInsert_eq`). -/
namespace Ptn.C19

theorem popInsert_self (l : List Nat) (i : Nat) (h : i < l.length) : popInsert l i i = l := by
  unfold popInsert
  rw [List.getElem?_eq_getElem h]
  simp only
  rw [List.insertIdx_eraseIdx_of_ge h (Nat.le_refl i)]
  induction l generalizing i with
  | nil => simp at h
  | cons a l ih =>
    cases i with
    | zero => simp [List.insertIdx]
    | succ i =>
      simp only [List.length_cons, Nat.add_lt_add_iff_right] at h
      simp only [List.getElem_cons_succ, List.insertIdx_succ_cons, List.eraseIdx_cons_succ]
      rw [ih i h]

theorem popInsert_zero_zero (n : Nat) : popInsert (List.range n) 0 0 = List.range n := by
  cases n with
  | zero => rfl
  | succ n => exact popInsert_self _ 0 (by simp)

theorem popInsert_range_one_zero (m : Nat) :
    popInsert (List.range (2 + m)) 1 0 = 1 :: 0 :: List.range' 2 m := by
  have : List.range (2 + m) = 0 :: 1 :: List.range' 2 m := by
    rw [List.range_eq_range', Nat.add_comm, List.range'_succ, List.range'_succ]
  rw [this]
  simp [popInsert, List.insertIdx]

/-- `value = perm.pop(k); perm.insert(nv, value)` for an open leg `k` (`nv ≤ k`): the first `nv` legs
    (parent, children so far) stay, the chosen leg becomes the newest child leg, the remaining open legs keep
    their order. -/
theorem popInsert_eq : ∀ (nv : Nat) (l : List Nat) (k : Nat) (hk : k < l.length), nv ≤ k →
    popInsert l k nv = l.take nv ++ l[k] :: (l.drop nv).eraseIdx (k - nv)
  | 0, l, k, hk, _ => by
    unfold popInsert
    rw [List.getElem?_eq_getElem hk]
    simp
  | nv + 1, [], k, hk, _ => by simp at hk
  | nv + 1, a :: t, 0, _, h => by omega
  | nv + 1, a :: t, k + 1, hk, h => by
    have hk' : k < t.length := by simpa using hk
    have ih := popInsert_eq nv t k hk' (by omega)
    unfold popInsert at ih ⊢
    rw [List.getElem?_eq_getElem hk'] at ih
    rw [List.getElem?_eq_getElem hk]
    simp only [List.getElem_cons_succ, List.eraseIdx_cons_succ, List.insertIdx_succ_cons, List.take_succ_cons,
      List.drop_succ_cons, List.cons_append, Nat.add_sub_add_right] at ih ⊢
    rw [ih]

theorem popInsert_length (l : List Nat) (k nv : Nat) (hk : k < l.length) (h : nv ≤ k) :
    (popInsert l k nv).length = l.length := by
  rw [popInsert_eq nv l k hk h]
  simp only [List.length_append, List.length_take, List.length_cons, List.length_eraseIdx, List.length_drop]
  have : k - nv < l.length - nv := by omega
  rw [if_pos this]
  omega

end Ptn.C19
