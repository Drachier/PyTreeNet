import Ptn.Common.EinsumNet
/-! Zeros outside a window of the bound indices (helper lemmas for `pad_bond_value`, `pad_front_value` and
`constant_product_state_value`): `sumPairs_window` says that a sum over bound pairs whose summand vanishes wherever
some common index leaves the window `[e, e + dim)` of its range `dim'` is the sum over the windows. Padding behind
(`sumPairs_pad`, `e = 0`), padding in front (`sumPairs_pad_front`, `e + dim = dim'`) and delta bonds (`sumPairs_delta`,
`e = 0`, `dim = 1`) are its cases.  At the end `deltaLeaf`, the tensor of a product-state node. -/
namespace Ptn.C19

open Ptn.Ein Finset

variable {L : Type} [DecidableEq L] {R : Type} [CommSemiring R]

theorem sumR_pad (d D : Nat) (hdD : d ≤ D) (g : Nat → R) (h : ∀ i, d ≤ i → i < D → g i = 0) :
    sumR D g = sumR d g := by
  obtain ⟨k, rfl⟩ := Nat.exists_eq_add_of_le hdD
  induction k with
  | zero => rfl
  | succ k ih =>
    have e : d + (k + 1) = (d + k) + 1 := by omega
    rw [e, sumR_eq, sum_range_succ, ← sumR_eq, ih (by omega) (fun i h1 h2 => h i h1 (by omega)),
      h (d + k) (by omega) (by omega), add_zero]

theorem sumR_shift (k d : Nat) (g : Nat → R) :
    sumR (k + d) g = sumR k g + sumR d (fun i => g (k + i)) := by
  rw [sumR_eq, sumR_eq, sumR_eq, sum_range_add]

/-- the assignment with the indices of the legs `ls` moved up by `e` -/
def shiftOn (ls : List L) (e : L → Nat) (τ : Asg L) : Asg L := fun l => if l ∈ ls then τ l + e l else τ l

/-- the assignment with the indices of the legs `ls` set to `0` -/
def zeroOn (ls : List L) (τ : Asg L) : Asg L := fun l => if l ∈ ls then 0 else τ l

theorem sumPairs_comp (dim : L → Nat) (ps : List (L × L)) (S : Asg L → Asg L)
    (hS : ∀ τ l i, l ∈ Expr.pairLegs ps → S (upd τ l i) = upd (S τ) l i) (f : Asg L → R) (σ : Asg L) :
    sumPairs dim ps (fun τ => f (S τ)) σ = sumPairs dim ps f (S σ) := by
  induction ps generalizing σ with
  | nil => rfl
  | cons p ps ih =>
    obtain ⟨a, b⟩ := p
    have hm : ∀ l, l ∈ Expr.pairLegs ps → l ∈ Expr.pairLegs ((a, b) :: ps) := fun l hl =>
      (pairLegs_cons_perm (a, b) ps).mem_iff.2 (by simp [hl])
    have hma : a ∈ Expr.pairLegs ((a, b) :: ps) := (pairLegs_cons_perm (a, b) ps).mem_iff.2 (by simp)
    have hmb : b ∈ Expr.pairLegs ((a, b) :: ps) := (pairLegs_cons_perm (a, b) ps).mem_iff.2 (by simp)
    simp only [sumPairs]
    congr 1
    funext i
    rw [ih (fun τ l i hl => hS τ l i (hm l hl)), hS _ b i hmb, hS _ a i hma]

theorem pairLegs_cons_split (a b : L) (ps : List (L × L)) (hnd : (Expr.pairLegs ((a, b) :: ps)).Nodup) :
    a ∉ Expr.pairLegs ps ∧ b ∉ Expr.pairLegs ps ∧ (Expr.pairLegs ps).Nodup ∧
      ∀ x, x ∈ Expr.pairLegs ((a, b) :: ps) ↔ x = a ∨ x = b ∨ x ∈ Expr.pairLegs ps := by
  have hnd' := (pairLegs_cons_perm (a, b) ps).nodup_iff.1 hnd
  simp only [List.nodup_cons, List.mem_cons, not_or] at hnd'
  obtain ⟨⟨_, ha⟩, hb, hnd''⟩ := hnd'
  refine ⟨ha, hb, hnd'', fun x => ?_⟩
  rw [(pairLegs_cons_perm (a, b) ps).mem_iff]
  simp

theorem sumPairs_window (dim dim' e : L → Nat) (ps : List (L × L)) (hnd : (Expr.pairLegs ps).Nodup)
    (hwin : ∀ p ∈ ps, e p.1 + dim p.1 ≤ dim' p.1) (he : ∀ p ∈ ps, e p.2 = e p.1) (f' : Asg L → R)
    (hz : ∀ τ : Asg L, (∃ p ∈ ps, (τ p.1 < e p.1 ∨ e p.1 + dim p.1 ≤ τ p.1) ∧ τ p.1 < dim' p.1 ∧
      τ p.2 = τ p.1) → f' τ = 0) (σ : Asg L) :
    sumPairs dim' ps f' σ = sumPairs dim ps (fun τ => f' (shiftOn (Expr.pairLegs ps) e τ)) σ := by
  induction ps generalizing f' σ with
  | nil =>
    have : shiftOn (Expr.pairLegs ([] : List (L × L))) e σ = σ := by
      funext l; simp [shiftOn, Expr.pairLegs]
    simp only [sumPairs]
    rw [this]
  | cons p ps ih =>
    obtain ⟨a, b⟩ := p
    obtain ⟨ha, hb, hnd'', hmem⟩ := pairLegs_cons_split a b ps hnd
    have heab : e b = e a := he (a, b) (by simp)
    -- outside the window of the head pair the inner sum vanishes
    have hvan : ∀ i, (i < e a ∨ e a + dim a ≤ i) → i < dim' a →
        sumPairs dim' ps f' (upd (upd σ a i) b i) = 0 := by
      intro i h1 h2
      apply sumPairs_eq_zero
      intro τ hτ
      apply hz
      refine ⟨(a, b), by simp, ?_⟩
      have e1 : τ a = i := by
        rw [hτ a ha]; unfold upd; by_cases h : a = b <;> simp [h]
      have e2 : τ b = i := by
        rw [hτ b hb]; simp [upd]
      simp only [e1, e2]
      exact ⟨h1, h2, trivial⟩
    simp only [sumPairs]
    rw [sumR_pad (e a + dim a) (dim' a) (hwin (a, b) (by simp)) _ (fun i h1 h2 => hvan i (Or.inr h1) h2),
      sumR_shift, sumR_zero _ _ (fun i h1 => hvan i (Or.inl h1) (by have := hwin (a, b) (by simp); simp only at this; omega)),
      zero_add]
    congr 1
    funext i
    let S : Asg L → Asg L := shiftOn [a, b] e
    have hSσ : upd (upd σ a (e a + i)) b (e a + i) = S (upd (upd σ a i) b i) := by
      funext x
      simp only [S, shiftOn, List.mem_cons, List.not_mem_nil, or_false]
      by_cases hxb : x = b
      · subst hxb; simp [upd, heab, Nat.add_comm]
      · by_cases hxa : x = a
        · subst hxa; simp [upd, hxb, Nat.add_comm]
        · simp [upd, hxa, hxb]
    have hScomm : ∀ τ l j, l ∈ Expr.pairLegs ps → S (upd τ l j) = upd (S τ) l j := by
      intro τ l j hl
      have hla : l ≠ a := fun h => ha (h ▸ hl)
      have hlb : l ≠ b := fun h => hb (h ▸ hl)
      funext x
      simp only [S, shiftOn, List.mem_cons, List.not_mem_nil, or_false]
      by_cases hx : x = l
      · subst hx; simp [upd, hla, hlb]
      · simp [upd, hx, shiftOn]
    rw [hSσ, ← sumPairs_comp dim' ps S hScomm f',
      ih hnd'' (fun p hp => hwin p (by simp [hp])) (fun p hp => he p (by simp [hp]))]
    · congr 1
      funext τ
      congr 1
      funext x
      simp only [S, shiftOn, List.mem_cons, List.not_mem_nil, or_false, hmem x]
      by_cases hxa : x = a
      · subst hxa; simp [ha]
      · by_cases hxb : x = b
        · subst hxb; simp [hb]
        · simp [hxa, hxb]
    · rintro τ ⟨p, hp, h1, h2, h3⟩
      have hp1 : p.1 ∈ Expr.pairLegs ps := by
        simp only [Expr.pairLegs, List.mem_append, List.mem_map]; exact Or.inl ⟨p, hp, rfl⟩
      have hp2 : p.2 ∈ Expr.pairLegs ps := by
        simp only [Expr.pairLegs, List.mem_append, List.mem_map]; exact Or.inr ⟨p, hp, rfl⟩
      have e1 : S τ p.1 = τ p.1 := by
        have h1a : p.1 ≠ a := fun h => ha (h ▸ hp1)
        have h1b : p.1 ≠ b := fun h => hb (h ▸ hp1)
        simp [S, shiftOn, h1a, h1b]
      have e2 : S τ p.2 = τ p.2 := by
        have h1a : p.2 ≠ a := fun h => ha (h ▸ hp2)
        have h1b : p.2 ≠ b := fun h => hb (h ▸ hp2)
        simp [S, shiftOn, h1a, h1b]
      apply hz
      exact ⟨p, by simp [hp], by rw [e1]; exact h1, by rw [e1]; exact h2, by rw [e1, e2]; exact h3⟩

theorem shiftOn_zero (ls : List L) (τ : Asg L) : shiftOn ls (fun _ => 0) τ = τ := by
  funext l; unfold shiftOn; split <;> rfl

theorem sumPairs_pad (dim dim' : L → Nat) (ps : List (L × L)) (hnd : (Expr.pairLegs ps).Nodup)
    (hle : ∀ p ∈ ps, dim p.1 ≤ dim' p.1) (f : Asg L → R)
    (hz : ∀ τ : Asg L, (∃ p ∈ ps, dim p.1 ≤ τ p.1 ∧ τ p.1 < dim' p.1 ∧ τ p.2 = τ p.1) → f τ = 0)
    (σ : Asg L) : sumPairs dim' ps f σ = sumPairs dim ps f σ := by
  rw [sumPairs_window dim dim' (fun _ => 0) ps hnd (fun p hp => by rw [Nat.zero_add]; exact hle p hp)
    (fun _ _ => rfl) f]
  · simp only [shiftOn_zero]
  · rintro τ ⟨p, hp, h1 | h1, h2⟩
    · exact absurd h1 (Nat.not_lt_zero _)
    · exact hz τ ⟨p, hp, by rwa [Nat.zero_add] at h1, h2⟩

theorem sumPairs_pad_front (dim dim' e : L → Nat) (ps : List (L × L)) (hnd : (Expr.pairLegs ps).Nodup)
    (hdim : ∀ p ∈ ps, dim' p.1 = e p.1 + dim p.1) (he : ∀ p ∈ ps, e p.2 = e p.1) (f f' : Asg L → R)
    (hz : ∀ τ : Asg L, (∃ p ∈ ps, τ p.1 < e p.1 ∧ τ p.2 = τ p.1) → f' τ = 0)
    (hs : ∀ τ : Asg L, f' (shiftOn (Expr.pairLegs ps) e τ) = f τ) (σ : Asg L) :
    sumPairs dim' ps f' σ = sumPairs dim ps f σ := by
  rw [sumPairs_window dim dim' e ps hnd (fun p hp => Nat.le_of_eq (hdim p hp).symm) he f']
  · simp only [hs]
  · rintro τ ⟨p, hp, h1 | h1, h2, h3⟩
    · exact hz τ ⟨p, hp, h1, h3⟩
    · exact absurd h2 (Nat.not_lt.2 (hdim p hp ▸ h1))

theorem sumPairs_one (ps : List (L × L)) (hnd : (Expr.pairLegs ps).Nodup) (f : Asg L → R) (σ : Asg L) :
    sumPairs (fun _ => 1) ps f σ = f (zeroOn (Expr.pairLegs ps) σ) := by
  induction ps generalizing σ with
  | nil =>
    have : zeroOn (Expr.pairLegs ([] : List (L × L))) σ = σ := by
      funext l; simp [zeroOn, Expr.pairLegs]
    rw [this]; rfl
  | cons p ps ih =>
    obtain ⟨a, b⟩ := p
    obtain ⟨ha, hb, hnd'', hmem⟩ := pairLegs_cons_split a b ps hnd
    simp only [sumPairs, sumR, List.range_one, List.map_cons, List.map_nil, List.sum_cons, List.sum_nil, add_zero]
    rw [ih hnd'']
    congr 1
    funext x
    simp only [zeroOn, hmem x]
    by_cases hxb : x = b
    · subst hxb; simp [upd]
    · by_cases hxa : x = a
      · subst hxa; simp [upd, hxb]
      · simp [upd, hxa, hxb]

theorem sumPairs_delta (dim : L → Nat) (ps : List (L × L)) (hnd : (Expr.pairLegs ps).Nodup)
    (hpos : ∀ p ∈ ps, 0 < dim p.1) (f : Asg L → R)
    (hz : ∀ τ : Asg L, (∃ p ∈ ps, τ p.1 ≠ 0 ∧ τ p.2 = τ p.1) → f τ = 0) (σ : Asg L) :
    sumPairs dim ps f σ = f (zeroOn (Expr.pairLegs ps) σ) := by
  rw [sumPairs_window (fun _ => 1) dim (fun _ => 0) ps hnd (fun p hp => hpos p hp) (fun _ _ => rfl) f]
  · simp only [shiftOn_zero]
    exact sumPairs_one ps hnd f σ
  · rintro τ ⟨p, hp, h1 | h1, _, h3⟩
    · exact absurd h1 (Nat.not_lt_zero _)
    · exact hz τ ⟨p, hp, Nat.ne_of_gt h1, h3⟩

/-- the tensor of a product-state node: the open-leg factor `v` at bond indices all `0`, zero elsewhere (also in
any zero padding of the bonds) -/
def deltaLeaf (bl : List L) (v : Asg L → R) : Asg L → R :=
  fun τ => if bl.all (fun l => τ l == 0) then v τ else 0

theorem prodL_forall₂ (xs ys : List R) (h : List.Forall₂ (· = ·) xs ys) : prodL xs = prodL ys := by
  induction h with
  | nil => rfl
  | cons h _ ih => simp [prodL, h, ih]

end Ptn.C19
