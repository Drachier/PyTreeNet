import Ptn.C19.Core
import Ptn.C19.ValueRec
import Ptn.C19.ValueChain
import Ptn.C19.ValueShift
import Ptn.C19.ValueSpecial
import Ptn.C19.ValueBinary
/-! The value-level property theorems of C19 with their non-vacuity examples (`from_tensor_value` itself stands in
`ValueRec.lean`); they rest on `Ptn/Common/Einsum*.lean` (single Mathlib modules).  The leg-level theorems are core
Lean and stand in `Core.lean` (the acceptance theorems, `nn_pairs_grid_mem` and `from_tensor_legs` in the files where
they are proved), which this file imports, so `import Ptn.C19.Props` reaches all of them. -/
namespace Ptn.C19

open Ptn.Ein

/-- **The labels of the result.**  With distinct identifiers every node of the result carries, in this order, the
child end of the bond to its parent, the parent ends of the bonds to its children (in order) and its own two
axes of the dense input: every bond label occurs in exactly the two node tensors of its edge, so the record
`t.edges.map bondPair` of `from_tensor_value` IS the network `_from_tensor_rec` built. -/
theorem from_tensor_labels (t : RTree) (ld : Nat → Nat) (hnd : t.ids.Nodup) :
    ∀ x ∈ fromTensor t ld, x.legs.map (vleg x.id) =
      x.parent.toList.map (fun q => VLeg.cEnd q x.id) ++ x.children.map (fun k => VLeg.pEnd x.id k) ++
        [VLeg.ax (ld x.id), VLeg.ax (t.size + ld x.id)] := by
  rw [from_tensor_legs]
  intro x hx
  simpa using (specNodes_vlegs _).1 t none hnd (by simp) x hx

example : (RTree.node 0 [.node 1 [.node 3 []], .node 2 []]).ids.Nodup := by decide +kernel

/-- a rank-2 operator on two sites and an exact factorisation of it over a bond of dimension 2 -/
def demoT : RTree := .node 0 [.node 1 []]
def demoQ : Asg VLeg → Int := fun σ =>
  if σ (.pEnd 0 1) = 0 then (σ (.ax 0) : Int) + 1 else (σ (.ax 2) : Int) + 2 * σ (.ax 0)
def demoR : Asg VLeg → Int := fun σ =>
  if σ (.cEnd 0 1) = 0 then (σ (.ax 1) : Int) + 3 * σ (.ax 3) else (σ (.ax 3) : Int) + 1
def demoA : Asg VLeg → Int := fun σ =>
  ((σ (.ax 0) : Int) + 1) * ((σ (.ax 1) : Int) + 3 * σ (.ax 3)) +
  ((σ (.ax 2) : Int) + 2 * σ (.ax 0)) * ((σ (.ax 3) : Int) + 1)

/-- the hypotheses of `from_tensor_value` are satisfiable by a run with a non-trivial factorisation -/
example : demoT.ids.Nodup ∧
    DependsOn (· ∈ (qrShape (fun i => [id i, demoT.size + id i]) demoT []).map VLeg.ax) demoA ∧
    FromTensorRun (fun _ => 2) demoT id demoA [demoQ, demoR] := by
  refine ⟨by decide, ?_, ?_⟩
  · have e : (qrShape (fun i => [id i, demoT.size + id i]) demoT []).map VLeg.ax =
        [.ax 0, .ax 2, .ax 1, .ax 3] := by decide
    rw [e]
    intro σ τ h
    simp only [demoA]
    rw [h (.ax 0) (by simp), h (.ax 1) (by simp), h (.ax 2) (by simp), h (.ax 3) (by simp)]
  · unfold FromTensorRun demoT
    simp only [RecRun, KidsRun]
    refine ⟨demoQ, [demoR], ⟨demoQ, demoR, [demoR], [], ?_, ?_, ?_, ⟨demoR, [], ⟨rfl, rfl⟩, rfl⟩, ⟨rfl, rfl⟩, rfl⟩, rfl⟩
    · intro τ
      simp [sumPairs, sumR, bondPair, List.range_succ, upd, demoQ, demoR, demoA, RTree.id]
    · have e : (splitChild 0 ((qrShape (fun i => [id i, (RTree.node 0 [RTree.node 1 []]).size + id i])
          (RTree.node 0 [RTree.node 1 []]) []).map Leg.ax) (if (none : Option Nat).isSome = true then 1 else 0)
          (RTree.node 1 [])).1.map (vleg 0) = [.pEnd 0 1, .ax 0, .ax 2] := by decide
      rw [e]
      intro σ τ h
      simp only [demoQ]
      rw [h (.pEnd 0 1) (by simp), h (.ax 0) (by simp), h (.ax 2) (by simp)]
    · have e : (splitChild 0 ((qrShape (fun i => [id i, (RTree.node 0 [RTree.node 1 []]).size + id i])
          (RTree.node 0 [RTree.node 1 []]) []).map Leg.ax) (if (none : Option Nat).isSome = true then 1 else 0)
          (RTree.node 1 [])).2.map (vleg (RTree.node 1 []).id) = [.cEnd 0 1, .ax 1, .ax 3] := by decide
      rw [e]
      intro σ τ h
      simp only [demoR]
      rw [h (.cEnd 0 1) (by simp), h (.ax 1) (by simp), h (.ax 3) (by simp)]

/-- **`MatrixProductTree.from_tensor_list` builds the specified tensor chain, whatever the root (value level).**
For every chain length `n ≥ 2`, every root `r < n` (both code paths), any number of open legs per site, every
commutative semiring, all dimensions (the two ends of a bond equal, as NumPy demands) and ALL input tensors
`T i` (functions of the index list in the input's axis order `[left, right, open…]`): the construction completes
with a state `st` such that
* the node tensor the library holds for site `i` - the input array transposed by the leg permutation the model
  predicts (`modelLeaf`: `N[j₀, j₁, …] = T_i[idx]`, `idx[legs[k]] = j_k`, its `k`-th leg labelled by the input axis
  that sits there) - is, as a labelled tensor, the input tensor of the site (`siteLeaf`) in every rooting: a
  different root only permutes axes;
* the binding record of the network (every non-root node in dict order: its parent's leg
  `neighbour_index(node)` joined to its own leg `0`) joins, for every site `i ≠ r`, the `left` axis of the right
  neighbour to the `right` axis of the left neighbour, parent end first (`recPair`);
* the network evaluates to `Σ_{bonds} Π_i T_i[left_i, right_i, open_i…]`, the sum over one common index per chain
  bond `(right axis of i, left axis of i + 1)` of the product of all input tensors - the same function of the open
  legs for every root `r`. -/
theorem mps_chain_value {R : Type} [CommSemiring R] (n r : Nat) (p : Nat → Nat) (hn : 2 ≤ n) (hr : r < n)
    (dim : CLeg → Nat) (hd : ∀ i, i + 1 < n → dim (i, Axis.right) = dim (i + 1, Axis.left))
    (T : Nat → List Nat → R) :
    ∃ st, fromTensorList n r p = some st ∧
      (∀ x ∈ st.nodes, modelLeaf n T x = siteLeaf n p T x.id) ∧
      stRecord n st = (chainOrder n r).tail.map (recPair r) ∧
      ∀ σ, netValue dim (stRecord n st) (st.nodes.map (modelLeaf n T)) σ =
        sumPairs dim (chainRecord n)
          (fun τ => prodL ((List.range n).map fun i =>
            T i ((List.range (nlegsIn n p i)).map fun a => τ (i, axisName n i a)))) σ := by
  refine ⟨stateAt n r p 0 (n - 1), fromTensorList_closed n r p hn hr, ?_, ?_, ?_⟩
  · intro x hx
    simp only [stateAt, List.mem_map] at hx
    obtain ⟨i, _, rfl⟩ := hx
    exact modelLeaf_final n r p T i hr
  · rw [stRecord_final n r p hr, idsAt_final]
  · intro σ
    rw [chain_value n r p hr hn dim hd T σ]
    simp only [netValue, List.map_map]
    rfl

example : (2 : Nat) ≤ 4 ∧ 2 < 4 ∧
    ∀ i, i + 1 < 4 → (fun _ : CLeg => 3) (i, Axis.right) = (fun _ : CLeg => 3) (i + 1, Axis.left) :=
  ⟨by decide, by decide, fun _ _ => rfl⟩

example : stRecord 4 ⟨[⟨2, none, [1, 3], [0, 1, 2]⟩, ⟨1, some 2, [0], [1, 0, 2]⟩, ⟨0, some 1, [], [0, 1]⟩,
      ⟨3, some 2, [], [0, 1]⟩], 2, [0, 1], [3]⟩ =
    [((2, .left), (1, .right)), ((1, .left), (0, .right)), ((2, .right), (3, .left))] := by decide +kernel

/-- **Zero padding of bonds changes nothing.**  A network whose bonds are enlarged from the dimensions `dim` to
`dim'` (any number of bonds at once) has the same value, provided that wherever the common index of an enlarged
bond lies in the added part of its range some leaf tensor vanishes (the padded entries of ONE of the two tensors
on the bond are zero; the other side may hold anything): the sum over the larger ranges equals the sum over the
smaller ones.  (`constant_product_state(bond_dimensions=…)` pads with `np.pad` at the end of every bond.) -/
theorem pad_bond_value {L : Type} [DecidableEq L] {R : Type} [CommSemiring R] (dim dim' : L → Nat)
    (ps : List (L × L)) (leaves : List (Asg L → R)) (hnd : (Expr.pairLegs ps).Nodup)
    (hle : ∀ p ∈ ps, dim p.1 ≤ dim' p.1)
    (hz : ∀ p ∈ ps, ∀ τ : Asg L, dim p.1 ≤ τ p.1 → τ p.1 < dim' p.1 → τ p.2 = τ p.1 → ∃ g ∈ leaves, g τ = 0)
    (σ : Asg L) : netValue dim' ps leaves σ = netValue dim ps leaves σ := by
  unfold netValue
  apply sumPairs_pad dim dim' ps hnd hle
  rintro τ ⟨p, hp, h1, h2, h3⟩
  obtain ⟨g, hg, hg0⟩ := hz p hp τ h1 h2 h3
  apply prodL_eq_zero
  exact List.mem_map.2 ⟨g, hg, hg0⟩

/-- one bond padded from 2 to 3; the left tensor is zero in the padding, the right one is not -/
example : (Expr.pairLegs [((0 : Nat), (1 : Nat))]).Nodup ∧
    (∀ p ∈ [((0 : Nat), (1 : Nat))], (fun _ : Nat => 2) p.1 ≤ (fun l : Nat => if l ≤ 1 then 3 else 2) p.1) ∧
    (∀ p ∈ [((0 : Nat), (1 : Nat))], ∀ τ : Asg Nat, (fun _ : Nat => 2) p.1 ≤ τ p.1 →
      τ p.1 < (fun l : Nat => if l ≤ 1 then 3 else 2) p.1 → τ p.2 = τ p.1 →
      ∃ g ∈ [fun τ : Asg Nat => if τ 0 < 2 then (τ 0 : Int) + 1 + τ 2 else 0, fun τ => (τ 1 : Int) + 5], g τ = 0) := by
  refine ⟨by decide, by simp, ?_⟩
  intro p hp τ h1 _ _
  simp only [List.mem_singleton] at hp
  subst hp
  refine ⟨_, List.mem_cons_self, ?_⟩
  have : ¬ τ 0 < 2 := by simpa using h1
  simp [this]

/-- **Value of a star network.**  For every centre shape and **every accepted sequence** of `add_chain_node` calls
(the `st` of `star_structure`), all input tensors `T id` (functions of the index list in the order of the axes of the
array handed in), all dimensions, every commutative semiring:
* every node tensor the library holds (`gModelLeaf`: input transposed by the model's leg permutation, leg `k`
  labelled by the input axis sitting there) IS the input tensor as a labelled tensor (`gSiteLeaf`);
* the binding record read off the state the way the library does (`gRecord`: dict order, parent's leg
  `neighbour_index(child)` ~ child's leg 0) is one pair per call, in call order: `opPair` = (parent's leg at the
  position of the new node among the parent's neighbours in the closed form `nodeG`, (new node, axis 0));
* the network evaluates to `Σ_{one common index per call's bond} Π_{centre and every call} T_id[axes in input order]`. -/
theorem star_value {R : Type} [CommSemiring R] (cshape : List Nat) (calls : List (Nat × List Nat)) (st : Star)
    (h : starRun cshape calls = some st) (dim : GLeg StarId → Nat) (T : StarId → List Nat → R) :
    (∀ x ∈ st.nodes, gModelLeaf T x = gSiteLeaf T x.id x.dims.length) ∧
    gRecord st.nodes = (starOps calls).map (opPair .center cshape (starOps calls)) ∧
    ∀ σ, netValue dim (gRecord st.nodes) (st.nodes.map (gModelLeaf T)) σ =
      sumPairs dim ((starOps calls).map (opPair .center cshape (starOps calls)))
        (fun τ => prodL ((StarId.center :: (starOps calls).map (·.cid)).map fun i =>
          T i ((List.range (shapeOf .center cshape (starOps calls) i).length).map fun a => τ (i, a)))) σ := by
  have hinv := star_run_inv cshape calls [] (starInit cshape) st (starInv_init cshape) h
  rw [List.nil_append] at hinv
  obtain ⟨hn, hg, _⟩ := hinv
  rw [hn]
  exact closedG_value .center cshape (starOps calls) hg dim T

/-- a centre with two chains, three calls: record = (centre leg 0 ~ chain00 leg 0), (centre leg 1 ~ chain10 leg 0),
(chain00 leg 1 ~ chain01 leg 0) -/
example : (starRun [2, 3, 2] [(0, [2, 3, 2]), (1, [3, 2]), (0, [3, 2])]).map (fun st => gRecord st.nodes) = some
    [((.center, 0), (.chain 0 0, 0)), ((.center, 1), (.chain 1 0, 0)), ((.chain 0 0, 1), (.chain 0 1, 0))] := by
  decide

/-- **Value of a fork network**: the same three statements for every accepted sequence of `add_main_chain_node` /
`add_sub_chain_node` calls (`rs` = shape of the root `main 0`, `rest` = the calls after the first). -/
theorem fork_value {R : Type} [CommSemiring R] (calls : List ForkCall) (st : Fork) (h : forkRun calls = some st)
    (dim : GLeg ForkId → Nat) (T : ForkId → List Nat → R) :
    (calls = [] ∧ st = forkInit) ∨
    ∃ rs rest, calls = ForkCall.main rs :: rest ∧
      (∀ x ∈ st.nodes, gModelLeaf T x = gSiteLeaf T x.id x.dims.length) ∧
      gRecord st.nodes = (forkOps rest).map (opPair (.main 0) rs (forkOps rest)) ∧
      ∀ σ, netValue dim (gRecord st.nodes) (st.nodes.map (gModelLeaf T)) σ =
        sumPairs dim ((forkOps rest).map (opPair (.main 0) rs (forkOps rest)))
          (fun τ => prodL ((ForkId.main 0 :: (forkOps rest).map (·.cid)).map fun i =>
            T i ((List.range (shapeOf (.main 0) rs (forkOps rest) i).length).map fun a => τ (i, a)))) σ := by
  rcases fork_first calls st h with h0 | ⟨rs, rest, hc, hrun⟩
  · exact Or.inl h0
  · right
    have hinv := fork_run_inv rs rest [] _ st (forkInv_root rs) hrun
    rw [List.nil_append] at hinv
    obtain ⟨hn, hg, _⟩ := hinv
    refine ⟨rs, rest, hc, ?_⟩
    rw [hn]
    exact closedG_value (.main 0) rs (forkOps rest) hg dim T

example : (forkRun [.main [2, 3], .sub 0 [2, 2], .main [3, 2, 2]]).map (fun st => gRecord st.nodes) = some
    [((.main 0, 0), (.sub 0 0, 0)), ((.main 0, 1), (.main 1, 0))] := by decide +kernel

/-- **Binary tree, value level (partial).**  For every `nphys ≥ 2`, `bd ≥ 1`, `d`: the tree `generate_binary_ttns`
returns (`binary_structure`) holds every tensor untransposed (node tensor = input tensor as a labelled tensor) and
evaluates to the sum over its record `gRecord` of the product of all node tensors.  Partial: the record is the
model function `gRecord` of the final state, not a closed form in the heap numbering; `binary_record_closed` gives
that closed form for all sizes, and `binary_value` is this theorem with it put in. -/
theorem binary_value_partial {R : Type} [CommSemiring R] (nphys bd d : Nat) (hn : 2 ≤ nphys) (hb : 1 ≤ bd)
    (dim : GLeg BinId → Nat) (T : BinId → List Nat → R) :
    binGenerate nphys bd d = some (binFinal nphys bd d) ∧
    (∀ x ∈ binFinal nphys bd d, gModelLeaf T x = gSiteLeaf T x.id x.dims.length) ∧
    ∀ σ, netValue dim (gRecord (binFinal nphys bd d)) ((binFinal nphys bd d).map (gModelLeaf T)) σ =
      sumPairs dim (gRecord (binFinal nphys bd d))
        (fun τ => prodL ((binFinal nphys bd d).map fun x =>
          T x.id ((List.range x.dims.length).map fun a => τ (x.id, a)))) σ := by
  have hleaf : ∀ x ∈ binFinal nphys bd d, gModelLeaf T x = gSiteLeaf T x.id x.dims.length := by
    intro x hx
    apply gModelLeaf_ident
    simp only [binFinal, List.mem_append, List.mem_map] at hx
    rcases hx with ⟨h, _, rfl⟩ | ⟨k, _, rfl⟩ <;> rfl
  refine ⟨(binary_structure nphys bd d hn hb).1, hleaf, fun σ => ?_⟩
  rw [List.map_congr_left hleaf]
  unfold netValue
  simp only [List.map_map]
  rfl

example : (2 : Nat) ≤ 3 ∧ (1 : Nat) ≤ 2 ∧ gRecord (binFinal 3 2 3) =
    [((.virt 0 0, 0), (.virt 1 0, 0)), ((.virt 0 0, 1), (.phys 0, 0)),
     ((.virt 1 0, 1), (.phys 1, 0)), ((.virt 1 0, 2), (.phys 2, 0))] := by decide +kernel

/-- **Binary tree: closed form of the binding record.**  For every `nphys ≥ 2`, `bd ≥ 1`, `d`: in heap (breadth-first)
numbering `g = 0 … 2·nphys-2` of the nodes of the tree `generate_binary_ttns` returns (`binFinalId nphys g`: the virtual
node `virtId g` for `g < nphys-1`, the site `phys (g-(nphys-1))` otherwise) the record read off the final state the way
the library does is EXACTLY (dict order = heap order, so not only up to order) one bond per non-root node
`g = 1 … 2·nphys-2`: `binBond nphys g` = (leg `binNbrIdx g` of the parent `(g-1)/2`) ~ (leg `0` of `g`), where
`binNbrIdx g = [g > 2] + [g even]` is `neighbour_index(g)` evaluated on the parent node of the final state
(its own parent leg first - absent for the root -, then the left child, then the right child), that parent being found
in the final state and holding input axis `binNbrIdx g` at that leg. -/
theorem binary_record_closed (nphys bd d : Nat) (hn : 2 ≤ nphys) (hb : 1 ≤ bd) :
    binGenerate nphys bd d = some (binFinal nphys bd d) ∧
    gRecord (binFinal nphys bd d) = (List.range' 1 (2 * nphys - 2)).map (binBond nphys) ∧
    ∀ g, 1 ≤ g → g ≤ 2 * nphys - 2 →
      binBond nphys g = ((virtId ((g - 1) / 2), binNbrIdx g), (binFinalId nphys g, 0)) ∧
      binNbrIdx g = (if g ≤ 2 then 0 else 1) + (if g % 2 = 0 then 1 else 0) ∧
      gFind (binFinal nphys bd d) (virtId ((g - 1) / 2)) = some (binVNode nphys bd ((g - 1) / 2)) ∧
      (binVNode nphys bd ((g - 1) / 2)).nbrPos (binFinalId nphys g) = binNbrIdx g ∧
      (binVNode nphys bd ((g - 1) / 2)).lab (binNbrIdx g) = (virtId ((g - 1) / 2), binNbrIdx g) := by
  refine ⟨(binary_structure nphys bd d hn hb).1, gRecord_binFinal nphys bd d hn, fun g h1 h2 => ?_⟩
  have hp : (g - 1) / 2 < nphys - 1 := by omega
  exact ⟨rfl, rfl, binFinal_find_virt nphys bd d _ hp, binVNode_nbrPos nphys bd _ g hp (by omega),
    binVNode_lab _ _ _ _ (binNbrIdx_lt g)⟩

/-- `nphys = 3` (hypotheses `2 ≤ 3`, `1 ≤ 2`): the closed form written out -/
example : (2 : Nat) ≤ 3 ∧ (1 : Nat) ≤ 2 ∧ (List.range' 1 (2 * 3 - 2)).map (binBond 3) =
    [((.virt 0 0, 0), (.virt 1 0, 0)), ((.virt 0 0, 1), (.phys 0, 0)),
     ((.virt 1 0, 1), (.phys 1, 0)), ((.virt 1 0, 2), (.phys 2, 0))] := by decide +kernel

/-- `nphys = 5` (not a power of two, three levels): model record and closed form computed independently agree -/
example : gRecord (binFinal 5 2 3) = (List.range' 1 (2 * 5 - 2)).map (binBond 5) := by decide +kernel

/-- **Binary tree, value level.**  For every `nphys ≥ 2`, `bd ≥ 1`, `d`, all input tensors `T id` (functions of the
index list in the order of the axes of the array handed in), all dimensions, every commutative semiring:
`generate_binary_ttns` completes, holds every tensor untransposed (node tensor = input tensor as a labelled tensor), and
the network evaluates to the sum over the `2·nphys-2` bonds of `binary_record_closed` (one common index per non-root
heap node `g`: parent `(g-1)/2`'s leg `neighbour_index(g)` ~ leg 0 of `g`) of the product over the heap nodes
`g = 0 … 2·nphys-2` of `T_g[axes in input order]` (`binRank`: 3 axes for the root, 4 for the other virtual nodes, 2 for
the sites). -/
theorem binary_value {R : Type} [CommSemiring R] (nphys bd d : Nat) (hn : 2 ≤ nphys) (hb : 1 ≤ bd)
    (dim : GLeg BinId → Nat) (T : BinId → List Nat → R) :
    binGenerate nphys bd d = some (binFinal nphys bd d) ∧
    (∀ x ∈ binFinal nphys bd d, gModelLeaf T x = gSiteLeaf T x.id x.dims.length) ∧
    ∀ σ, netValue dim (gRecord (binFinal nphys bd d)) ((binFinal nphys bd d).map (gModelLeaf T)) σ =
      sumPairs dim ((List.range' 1 (2 * nphys - 2)).map (binBond nphys))
        (fun τ => prodL ((List.range (2 * nphys - 1)).map fun g =>
          T (binFinalId nphys g) ((List.range (binRank nphys g)).map fun a => τ (binFinalId nphys g, a)))) σ := by
  obtain ⟨h1, h2, h3⟩ := binary_value_partial nphys bd d hn hb dim T
  refine ⟨h1, h2, fun σ => ?_⟩
  rw [h3 σ, gRecord_binFinal nphys bd d hn]
  have hprod : ∀ τ : Asg (GLeg BinId), (binFinal nphys bd d).map (fun x =>
      T x.id ((List.range x.dims.length).map fun a => τ (x.id, a))) =
      (List.range (2 * nphys - 1)).map fun g =>
        T (binFinalId nphys g) ((List.range (binRank nphys g)).map fun a => τ (binFinalId nphys g, a)) :=
    fun τ => binFinal_heap nphys bd d hn (fun i r => T i ((List.range r).map fun a => τ (i, a)))
  simp only [hprod]

/-- `nphys = 3`: the five factors are the root (3 axes), one inner virtual node (4 axes) and three sites (2 axes) -/
example : (2 : Nat) ≤ 3 ∧ (1 : Nat) ≤ 2 ∧
    (List.range (2 * 3 - 1)).map (fun g => (binFinalId 3 g, binRank 3 g)) =
      [(.virt 0 0, 3), (.virt 1 0, 4), (.phys 0, 2), (.phys 1, 2), (.phys 2, 2)] := by decide +kernel

/-- **Product states.**  A network (any shape: any binding record with distinct legs, positive bond dimensions - also
zero-padded, larger ones) in which every node tensor is `v_i[open legs] · (1 where all of the node's bond indices
are 0, 0 elsewhere)` (`deltaLeaf bl v`; `bl` = the node's bond legs), every bond has at least one end in such a
node and the factors `v_i` do not read bond legs, has the value `Π_i v_i[σ]`: the product state. -/
theorem constant_product_state_value {L : Type} [DecidableEq L] {R : Type} [CommSemiring R] (dim : L → Nat)
    (ps : List (L × L)) (hnd : (Expr.pairLegs ps).Nodup) (hpos : ∀ p ∈ ps, 0 < dim p.1)
    (nodes : List (List L × (Asg L → R)))
    (hb : ∀ nd ∈ nodes, ∀ l ∈ nd.1, l ∈ Expr.pairLegs ps)
    (hcov : ∀ p ∈ ps, ∃ nd ∈ nodes, p.1 ∈ nd.1 ∨ p.2 ∈ nd.1)
    (hv : ∀ nd ∈ nodes, DependsOn (· ∉ Expr.pairLegs ps) nd.2) (σ : Asg L) :
    netValue dim ps (nodes.map fun nd => deltaLeaf nd.1 nd.2) σ = prodL (nodes.map fun nd => nd.2 σ) := by
  unfold netValue
  rw [sumPairs_delta dim ps hnd hpos]
  · simp only [List.map_map]
    congr 1
    apply List.map_congr_left
    intro nd hnd'
    simp only [Function.comp, deltaLeaf]
    have hall : (nd.1.all fun l => zeroOn (Expr.pairLegs ps) σ l == 0) = true := by
      rw [List.all_eq_true]
      intro l hl
      simp [zeroOn, hb nd hnd' l hl]
    rw [if_pos hall]
    apply hv nd hnd'
    intro l hl
    simp [zeroOn, hl]
  · rintro τ ⟨p, hp, h1, h2⟩
    obtain ⟨nd, hnd', hend⟩ := hcov p hp
    apply prodL_eq_zero
    simp only [List.map_map, List.mem_map]
    refine ⟨nd, hnd', ?_⟩
    simp only [Function.comp, deltaLeaf]
    have hall : ¬ (nd.1.all fun l => τ l == 0) = true := by
      rw [List.all_eq_true]
      intro hall
      rcases hend with he | he
      · have := hall _ he; simp at this; exact h1 this
      · have := hall _ he; simp at this; rw [h2] at this; exact h1 this
    rw [if_neg hall]

/-- three nodes on a chain `0 -(1,2)- 1 -(3,4)- 2`, bond dimensions 3 and 1 (the first zero-padded), open legs 10, 11, 12 -/
example : (Expr.pairLegs [((1 : Nat), (2 : Nat)), (3, 4)]).Nodup ∧
    (∀ p ∈ [((1 : Nat), (2 : Nat)), (3, 4)], 0 < (fun l : Nat => if l ≤ 2 then 3 else 1) p.1) ∧
    (∀ nd ∈ [([1], fun τ : Asg Nat => (τ 10 : Int) + 2), ([2, 3], fun τ => (τ 11 : Int) + 3), ([4], fun τ => (τ 12 : Int) + 5)],
      ∀ l ∈ nd.1, l ∈ Expr.pairLegs [((1 : Nat), (2 : Nat)), (3, 4)]) ∧
    (∀ p ∈ [((1 : Nat), (2 : Nat)), (3, 4)],
      ∃ nd ∈ [([1], fun τ : Asg Nat => (τ 10 : Int) + 2), ([2, 3], fun τ => (τ 11 : Int) + 3), ([4], fun τ => (τ 12 : Int) + 5)],
        p.1 ∈ nd.1 ∨ p.2 ∈ nd.1) ∧
    (∀ nd ∈ [([1], fun τ : Asg Nat => (τ 10 : Int) + 2), ([2, 3], fun τ => (τ 11 : Int) + 3), ([4], fun τ => (τ 12 : Int) + 5)],
      DependsOn (· ∉ Expr.pairLegs [((1 : Nat), (2 : Nat)), (3, 4)]) nd.2) := by
  refine ⟨by decide, by decide, by decide, by decide, ?_⟩
  intro nd hnd σ τ h
  simp only [List.mem_cons, List.not_mem_nil, or_false] at hnd
  rcases hnd with rfl | rfl | rfl
  · simp only; rw [h 10 (by decide)]
  · simp only; rw [h 11 (by decide)]
  · simp only; rw [h 12 (by decide)]

/-- **Zero padding at the FRONT of bonds changes nothing.**  Every bond of the record grows from `dim` to `e + dim`
index values, the NEW values first (`np.pad(.., (e, 0))`, the same `e` at both ends of a bond); wherever the common
index of a bond is one of the new values some padded leaf vanishes (zeros on ONE side suffice), and every padded leaf
read at indices moved up by `e` on the bond legs is the original leaf: the padded network has the value of the
original one. -/
theorem pad_front_value {L : Type} [DecidableEq L] {R : Type} [CommSemiring R] (dim dim' e : L → Nat)
    (ps : List (L × L)) (leaves leaves' : List (Asg L → R)) (hnd : (Expr.pairLegs ps).Nodup)
    (hdim : ∀ p ∈ ps, dim' p.1 = e p.1 + dim p.1) (he : ∀ p ∈ ps, e p.2 = e p.1)
    (hz : ∀ p ∈ ps, ∀ τ : Asg L, τ p.1 < e p.1 → τ p.2 = τ p.1 → ∃ g ∈ leaves', g τ = 0)
    (hs : List.Forall₂ (fun g' g => ∀ τ : Asg L, g' (shiftOn (Expr.pairLegs ps) e τ) = g τ) leaves' leaves)
    (σ : Asg L) : netValue dim' ps leaves' σ = netValue dim ps leaves σ := by
  unfold netValue
  apply sumPairs_pad_front dim dim' e ps hnd hdim he
  · rintro τ ⟨p, hp, h1, h2⟩
    obtain ⟨g, hg, hg0⟩ := hz p hp τ h1 h2
    apply prodL_eq_zero
    exact List.mem_map.2 ⟨g, hg, hg0⟩
  · intro τ
    apply prodL_forall₂
    clear hz
    induction hs with
    | nil => exact List.Forall₂.nil
    | cons h _ ih => exact List.Forall₂.cons (h τ) ih

/-- one bond `(0, 1)` padded from 2 to 1 + 2 at the front; the left tensor is zero in the padding, the right one not -/
example : (Expr.pairLegs [((0 : Nat), (1 : Nat))]).Nodup ∧
    (∀ p ∈ [((0 : Nat), (1 : Nat))], (fun _ : Nat => 3) p.1 = (fun _ : Nat => 1) p.1 + (fun _ : Nat => 2) p.1) ∧
    (∀ p ∈ [((0 : Nat), (1 : Nat))], ∀ τ : Asg Nat, τ p.1 < (fun _ : Nat => 1) p.1 → τ p.2 = τ p.1 →
      ∃ g ∈ [fun τ : Asg Nat => if τ 0 < 1 then 0 else (τ 0 - 1 : Nat) + 1 + (τ 2 : Int), fun τ => (τ 1 : Int) + 4], g τ = 0) ∧
    List.Forall₂ (fun g' g => ∀ τ : Asg Nat, g' (shiftOn (Expr.pairLegs [((0 : Nat), (1 : Nat))]) (fun _ => 1) τ) = g τ)
      [fun τ : Asg Nat => if τ 0 < 1 then 0 else (τ 0 - 1 : Nat) + 1 + (τ 2 : Int), fun τ => (τ 1 : Int) + 4]
      [fun τ : Asg Nat => (τ 0 : Int) + 1 + τ 2, fun τ => (τ 1 : Int) + 5] := by
  refine ⟨by decide, by simp, ?_, ?_⟩
  · intro p hp τ h1 _
    simp only [List.mem_singleton] at hp
    subst hp
    exact ⟨_, List.mem_cons_self, by simp only at h1 ⊢; rw [if_pos h1]⟩
  · refine List.Forall₂.cons ?_ (List.Forall₂.cons ?_ List.Forall₂.nil)
    · intro τ
      simp [shiftOn, Expr.pairLegs]
    · intro τ
      simp [shiftOn, Expr.pairLegs]
      omega

end Ptn.C19
