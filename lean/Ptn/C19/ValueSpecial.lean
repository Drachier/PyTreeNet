import Ptn.Common.EinsumNet
import Ptn.C19.ValueSpecialModel
import Ptn.C19.Attach
/-! Value level for the star / fork / binary constructors (helper lemmas for `star_value`, `fork_value`,
`binary_value_partial`): a network grown by "attach the new tensor's leg 0 at the parent's first open leg" stores
every array untransposed, so every node tensor IS the input tensor as a labelled tensor, and its binding record is
one pair (parent's leg `neighbour_index(child)`, child's leg 0) per attachment, in the order of the calls. -/
namespace Ptn.C19

open Ptn.Ein

section
variable {ι : Type} [DecidableEq ι] {R : Type} [CommSemiring R]

/-- the input tensor of node `i` (a function of the index list in the order of the array's axes) as a labelled
tensor; labels = `(node, axis of the array handed in)` -/
def gSiteLeaf (T : ι → List Nat → R) (i : ι) (rank : Nat) : Asg (GLeg ι) → R :=
  fun σ => T i ((List.range rank).map fun a => σ (i, a))

/-- the node tensor as the library holds it: the input array transposed by the node's leg permutation, its `k`-th
leg labelled `lab k` -/
def gModelLeaf (T : ι → List Nat → R) (x : GNode ι) : Asg (GLeg ι) → R :=
  fun σ => T x.id ((List.range x.legs.length).map fun a => σ (x.lab (x.legs.idxOf a)))

omit [DecidableEq ι] [CommSemiring R] in
theorem gModelLeaf_ident (T : ι → List Nat → R) (x : GNode ι) (h : x.legs = List.range x.dims.length) :
    gModelLeaf T x = gSiteLeaf T x.id x.dims.length := by
  funext σ
  unfold gModelLeaf gSiteLeaf GNode.lab
  rw [h, List.length_range]
  congr 1
  apply List.map_congr_left
  intro a ha
  have := getD_map_idxOf id 0 ha
  rw [List.map_id] at this
  rw [this]; rfl

theorem range_getD_zero (m : Nat) : (List.range m).getD 0 0 = 0 := by
  cases m with
  | zero => rfl
  | succ m => simp [List.getD]

/-- the bond one attachment creates: the parent's leg at the position of the new child among the parent's
neighbours (`neighbour_index`), joined to the child's leg 0 -/
def opPair (r : ι) (rs : List Nat) (ops : List (AOp ι)) (o : AOp ι) : GLeg ι × GLeg ι :=
  ((nodeG r rs ops o.pid).lab ((nodeG r rs ops o.pid).nbrPos o.cid), (o.cid, 0))

theorem gRecord_closed (r : ι) (rs : List Nat) (ops : List (AOp ι)) (hg : GoodLog r ops) :
    gRecord (closedG r rs ops) = ops.map (opPair r rs ops) := by
  have hfind : ∀ q, q ∈ idsG r ops → gFind (closedG r rs ops) q = some (nodeG r rs ops q) := by
    intro q hq
    unfold closedG
    rw [gFind_map_id _ _ (nodeG_id r rs ops) q, if_pos hq]
  have hroot : (nodeG r rs ops r).parent = none := closed_root hg
  unfold gRecord
  generalize hN : gFind (closedG r rs ops) = F at hfind
  unfold closedG idsG
  rw [List.map_cons, List.filterMap_cons]
  simp only [hroot]
  rw [List.map_map, List.filterMap_map]
  apply filterMap_eq_map_of
  intro o ho
  have hp : (nodeG r rs ops o.cid).parent = some o.pid := closed_parent hg o ho
  simp only [Function.comp, hp]
  rw [hfind o.pid (hg.2 o ho)]
  have h0 := range_getD_zero (shapeOf r rs ops o.cid).length
  rw [List.getD_eq_getElem?_getD] at h0
  simp [opPair, GNode.lab, nodeG, h0]

/-- value of a network in closed form `closedG` (root `r`, attachments `ops`) -/
theorem closedG_value (r : ι) (rs : List Nat) (ops : List (AOp ι)) (hg : GoodLog r ops)
    (dim : GLeg ι → Nat) (T : ι → List Nat → R) :
    (∀ x ∈ closedG r rs ops, gModelLeaf T x = gSiteLeaf T x.id x.dims.length) ∧
    gRecord (closedG r rs ops) = ops.map (opPair r rs ops) ∧
    ∀ σ, netValue dim (gRecord (closedG r rs ops)) ((closedG r rs ops).map (gModelLeaf T)) σ =
      sumPairs dim (ops.map (opPair r rs ops))
        (fun τ => prodL ((idsG r ops).map fun i =>
          T i ((List.range (shapeOf r rs ops i).length).map fun a => τ (i, a)))) σ := by
  have hleaf : ∀ x ∈ closedG r rs ops, gModelLeaf T x = gSiteLeaf T x.id x.dims.length := by
    intro x hx
    apply gModelLeaf_ident
    obtain ⟨i, _, rfl⟩ := (mem_closedG r rs ops x).1 hx
    rfl
  refine ⟨hleaf, gRecord_closed r rs ops hg, fun σ => ?_⟩
  rw [gRecord_closed r rs ops hg, List.map_congr_left hleaf]
  unfold netValue closedG
  simp only [List.map_map]
  rfl

end
end Ptn.C19
