import Ptn.C07.Model
import Ptn.C05.Core
import Ptn.C06.Core
/-! Property theorems for C07 (two-site TDVP). -/
namespace Ptn.C07
open Ptn.C05 Ptn.C06

/-- The two-site schedule is defined exactly for sweeps over at least two nodes. -/
theorem twoSite_defined_iff (segs : List Seg) (last : Nat) :
    (twoSite segs last).isSome ↔ segs ≠ [] := by
  rw [← List.reverse_ne_nil_iff]
  unfold twoSite
  cases segs.reverse <;> simp

/-- After forward and backward sweep the centre sits on the first node of the update path. -/
theorem twoSite_final_centre (init : List Seg) (s : Seg) (last c : Nat) :
    ∃ tr, twoSite (init ++ [s]) last = some tr ∧
      centreAfter c tr = (match (init ++ [s]).head? with | some t => t.1 | none => c) := by
  refine ⟨_, twoSite_defined init s last, ?_⟩
  rw [centreAfter_append, centreAfter_flatMap _ (fun t => t.1) (fun _ _ => rfl)]
  cases init with
  | nil => rfl
  | cons t r => rw [List.reverse_cons, List.getLast?_append]; rfl

/-- On a two-node tree a step consists of exactly two two-site half steps on the single bond and
    no single-site update. -/
theorem two_node_trace (a b : Nat) :
    twoSite [(a, b)] b = some [Ev.two a b 1, Ev.two b a 1] := by
  simp [twoSite]

/-- Hence, if the two-site flow on that bond is a one-parameter group (exact local exponentials:
    `exp(-iH dt/2) exp(-iH dt/2) = exp(-iH dt)`, and on two nodes the environment is trivial so the
    effective Hamiltonian *is* `H`), a step equals the flow for the full `dt`. -/
theorem two_node_exact {α : Type} (φ : Pos → Int → α → α)
    (hadd : ∀ p s t x, φ p t (φ p s x) = φ p (s + t) x) (a b : Nat) (x : α) :
    runFlow φ (schedOf [Ev.two a b 1, Ev.two b a 1]) x =
      φ (if a ≤ b then .bond a b else .bond b a) 2 x := by
  simp only [runFlow, schedOf, List.map_cons, List.map_nil, List.foldl_cons, List.foldl_nil,
    Ev.pos, Ev.dur]
  by_cases h : a ≤ b <;> by_cases h' : b ≤ a
  · have : a = b := by omega
    subst this; simp [hadd]
  · simp [h, h', hadd]
  · simp [h, h', hadd]
  · omega

/-- Every truncated split keeps at least one and at most `D` singular values. -/
theorem kept_bounded (k d : Nat) (hd : 1 ≤ d) :
    1 ≤ keptCount k (some d) ∧ keptCount k (some d) ≤ d := by
  simp only [keptCount]; omega

/-- Without a maximum bond dimension every value that passes the tolerance test is kept, and at least one. -/
theorem kept_unbounded (k : Nat) : 1 ≤ keptCount k none ∧ k ≤ keptCount k none := by
  simp only [keptCount]; omega

example : centreAfter 1 ((twoSite [(1, 0), (2, 0), (0, 3)] 3).getD []) = 1 := by decide
example : keptCount 0 (some 4) = 1 ∧ keptCount 9 (some 4) = 4 := by decide

end Ptn.C07
