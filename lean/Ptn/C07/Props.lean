import Ptn.C07.Core
import Ptn.C06.Props
import Ptn.C06.Gauge
import Ptn.C07.Pair
import Ptn.C07.RootEdge
import Ptn.Common.AnalysisExp
/-! Property theorems for C07 that need Mathlib; the combinatorial ones are in `Core.lean`. -/
namespace Ptn.C07

open Matrix NormedSpace in
/-- Two-node tree: the step consists of two half two-site updates of the whole state with the full
    Hamiltonian (`two_node_trace`); exact local exponentials compose to the full propagator:
    `exp(-i (dt/2) H) exp(-i (dt/2) H) = exp(-i dt H)`. -/
theorem two_half_steps_are_full_step {n : Type} [Fintype n] [DecidableEq n] (H : Matrix n n ℂ)
    (s : ℂ) : exp (s • H) * exp (s • H) = exp ((s + s) • H) :=
  Ptn.Analysis.exp_add_same H s s

open Matrix NormedSpace in
/-- With truncation disabled every two-site / backward single-site update is an isometric local
    flow and conserves the norm (and the energy, `Ptn.C06.local_update_conserves_energy`). -/
theorem two_site_update_conserves_norm {N d : Type} [Fintype N] [Fintype d] [DecidableEq N]
    [DecidableEq d] (E : Matrix N d ℂ) (H : Matrix N N ℂ) (hE : Eᴴ * E = 1) (hH : Hᴴ = H)
    (t : ℝ) (φ : d → ℂ) :
    star (E *ᵥ (exp ((-Complex.I * (t : ℂ)) • (Eᴴ * H * E)) *ᵥ φ)) ⬝ᵥ
        (E *ᵥ (exp ((-Complex.I * (t : ℂ)) • (Eᴴ * H * E)) *ᵥ φ))
      = star (E *ᵥ φ) ⬝ᵥ (E *ᵥ φ) :=
  Ptn.C06.local_update_conserves_norm E H hE hH t φ

open Ptn.Ein in
/-- **Two-site update (truncation disabled), state canonical at one node of the updated pair: the norm is
conserved.**  The local tensor is the contraction of the two neighbouring nodes; `k`: the sub-trees around
BOTH nodes (everything except the pair), every node canonical toward the pair — which is what canonical form
at either node of the pair gives, the other node of the pair being absorbed into the local tensor; `P`: the
open legs of both nodes.  The embedding `E = envMatrix ⊗ 1_P` is built from the network; its isometry is
`Ptn.Ein.embedding_isometry_of_canonical`, not a hypothesis. -/
theorem two_site_update_conserves_norm_of_canonical {L : Type} [DecidableEq L] (dim : L → Nat) (pr : L → L)
    (hinj : Function.Injective pr) (hdim : ∀ l, dim (pr l) = dim l) (k : Kids L ℂ)
    (hc : k.Canon dim) (hnd : k.labels.Nodup) (hk : k.IsConj pr)
    (P : Type) [Fintype P] [DecidableEq P]
    (H : Matrix (Idx dim k.physAll × P) (Idx dim k.physAll × P) ℂ) (hH : H.conjTranspose = H)
    (t : ℝ) (φ : Idx dim k.ups × P → ℂ) :
    let E := Ptn.C06.siteEmbedding dim k P
    star (E.mulVec ((NormedSpace.exp ((-Complex.I * (t : ℂ)) • (E.conjTranspose * H * E))).mulVec φ)) ⬝ᵥ
        (E.mulVec ((NormedSpace.exp ((-Complex.I * (t : ℂ)) • (E.conjTranspose * H * E))).mulVec φ))
      = star (E.mulVec φ) ⬝ᵥ (E.mulVec φ) :=
  Ptn.C06.one_site_update_conserves_norm_of_canonical dim pr hinj hdim k hc hnd hk P H hH t φ

open Ptn.Ein in
/-- the premises are satisfiable: the demo tree of `Ptn.C06.Demo` read as the surroundings of a pair whose
two nodes carry the bonds `(5, 15)` and `(7, 17)`; the open legs of the pair: dimensions 2 and 3 -/
example : Ptn.C06.Demo.kids.Canon Ptn.C06.Demo.dim ∧ Ptn.C06.Demo.kids.labels.Nodup ∧
    Ptn.C06.Demo.kids.IsConj Ptn.C06.Demo.pr ∧ Function.Injective Ptn.C06.Demo.pr ∧
    (∀ l, Ptn.C06.Demo.dim (Ptn.C06.Demo.pr l) = Ptn.C06.Demo.dim l) ∧
    ((1 : Matrix (Idx Ptn.C06.Demo.dim Ptn.C06.Demo.kids.physAll × (Fin 2 × Fin 3))
      (Idx Ptn.C06.Demo.dim Ptn.C06.Demo.kids.physAll × (Fin 2 × Fin 3)) ℂ)).conjTranspose = 1 :=
  ⟨Ptn.C06.Demo.kids_canon, Ptn.C06.Demo.kids_nodup, Ptn.C06.Demo.kids_isConj, Ptn.C06.Demo.pr_inj,
    Ptn.C06.Demo.dim_pr, Matrix.conjTranspose_one⟩

section two_split
open Ptn.C17 Ptn.C17.RTree Ptn.C05.Disc Ptn.C06.Gauge Ptn.C03

/-- `two a b`: the merged tensor is evolved, then `split_node_svd` leaves U at `a` and S V at `b` -/
theorem after_two_split {t : RTree} (hwf : t.WF) {st : GSt} {a b : Nat}
    (hab : Adj t a b) (h : CanonAt t st.dir a) :
    (gstep st (.two a b)).centre = b ∧ (gstep st (.two a b)).dir a = some b ∧
      (gstep st (.two a b)).dir b = none ∧
      (∀ x, x ≠ a → x ≠ b → (gstep st (.two a b)).dir x = st.dir x) ∧
      CanonAt t (gstep st (.two a b)).dir b :=
  ⟨rfl, applyOp_node _ a b, applyOp_target _ (adj_ne hwf hab), fun _ hxa hxb => applyOp_other _ hxa hxb,
    canon_split hwf hab h⟩

end two_split

section gauge
open Ptn.C17 Ptn.C17.RTree Ptn.C05.Disc Ptn.C06.Gauge

/-- **Two-site TDVP: at every two-site update the record is canonical at the updated pair, the SVD split leaves the
first node pointing to the second, and the backward single-site update happens at the centre.**  Every well-formed
tree with at least two nodes, the events of a whole time step (`eventsTwoSite`: forward sweep, backward sweep),
started canonical at the first node `s` of the sweep and canonical at `s` again after the step.  While the merged
tensor is evolved (`during`) the record is canonical at the pair: no record at `a`, `b`; every other node points to
its first hop toward `a`, which is its first hop toward `b`. -/
theorem two_site_update_canonical (t : RTree) (hwf : t.WF) (hk : t.kids ≠ []) :
    ∃ u s evs, updatePath t = some u ∧ u.head? = some s ∧ eventsTwoSite t = some evs ∧
      ∀ dir : Rec, CanonAt t dir s →
        (∀ p a b q, evs = p ++ .two a b :: q →
          (grun ⟨s, dir⟩ p).centre = a ∧ Adj t a b ∧ CanonAt t (grun ⟨s, dir⟩ p).dir a ∧
          CanonPair t (during (grun ⟨s, dir⟩ p).dir (.two a b)) a b ∧
          (grun ⟨s, dir⟩ (p ++ [.two a b])).dir a = some b ∧
          (grun ⟨s, dir⟩ (p ++ [.two a b])).dir b = none ∧
          (∀ x, x ≠ a → x ≠ b → (grun ⟨s, dir⟩ (p ++ [.two a b])).dir x = (grun ⟨s, dir⟩ p).dir x) ∧
          CanonAt t (grun ⟨s, dir⟩ (p ++ [.two a b])).dir b) ∧
        (∀ p v q, evs = p ++ .site v :: q →
          (grun ⟨s, dir⟩ p).centre = v ∧ CanonAt t (grun ⟨s, dir⟩ p).dir v) ∧
        (∀ p a b q, evs = p ++ .move a b :: q →
          (grun ⟨s, dir⟩ p).centre = a ∧ Adj t a b ∧ CanonAt t (grun ⟨s, dir⟩ p).dir a) ∧
        CanonAt t (grun ⟨s, dir⟩ evs).dir s ∧ (grun ⟨s, dir⟩ evs).centre = s := by
  obtain ⟨u, s, evs, hu, hs, hev, h⟩ := Ptn.C06.tdvp_site_update_canonical t hwf .twoSite hk
  refine ⟨u, s, evs, hu, hs, hev, ?_⟩
  intro dir hc
  obtain ⟨hsite, _, htwo, hmove, hfin, hcen⟩ := h dir hc
  refine ⟨?_, hsite, fun p a b q e => hmove p a b q (Or.inl e), hfin, hcen⟩
  intro p a b q e
  obtain ⟨h1, h2, h3, h4⟩ := htwo p a b q e
  obtain ⟨_, a1, a2, a3, a4⟩ := after_two_split hwf h2 h3
  have hg : grun ⟨s, dir⟩ (p ++ [.two a b]) = gstep (grun ⟨s, dir⟩ p) (.two a b) := by
    rw [grun_append]; rfl
  rw [hg]
  exact ⟨h1, h2, h3, h4, a1, a2, a3, a4⟩

/-- **The STATE is canonical at the pair at every two-site update**, with the SVD contract as an explicit
hypothesis: instance of `Ptn.C06.tdvp_site_update_isometric` (tensors `α`, `iso A m` = "`A` is an isometry toward
`m`", `TRun`: every event may replace the tensors it writes subject only to "the factor left at `a` is an isometry
toward `b`") for the two-site scheme, over any number `k` of steps: before `two a b` every tensor other than those
of `a` and `b` is an isometry toward the first node on its way to `a`, which is the first node on its way to `b`. -/
theorem two_site_update_isometric {α : Type} (iso : α → Nat → Prop) (t : RTree) (hwf : t.WF)
    (hk : t.kids ≠ []) :
    ∃ u s evs, updatePath t = some u ∧ u.head? = some s ∧ eventsTwoSite t = some evs ∧
      ∀ (dir : Rec) (T0 : Nat → α), CanonAt t dir s → Sound iso dir T0 →
      ∀ (k : Nat) (p q : List DEv) (a b : Nat) (T : Nat → α),
        (List.replicate k evs).flatten = p ++ .two a b :: q → TRun iso T0 p T →
        (grun ⟨s, dir⟩ p).centre = a ∧ Adj t a b ∧ IsoCanonPair iso t T a b := by
  obtain ⟨u, s, evs, hu, hs, hev, h⟩ := Ptn.C06.tdvp_site_update_isometric iso t hwf .twoSite hk
  refine ⟨u, s, evs, hu, hs, hev, ?_⟩
  intro dir T0 hc hsd k p q a b T hsplit hr
  obtain ⟨hp, _, _, hpair⟩ := h dir T0 hc hsd k p q _ T hsplit hr
  obtain ⟨hca, hab⟩ := gpre_spec hp
  exact ⟨hca, hab, hpair a b rfl⟩

/-- non-vacuity: the 8-node tree of the C17 examples; the record after `canonical_form(7)`; the machine's own check
of every event of a two-site step; the first two-site update 7 -> 6 leaves 7 pointing to 6 -/
example : exTree.WF ∧ exTree.kids ≠ [] := by decide +kernel
example : ((canonRec exTree 7).bind fun r => (eventsTwoSite exTree).map fun evs =>
    canonAtB exTree r.2 7 && allGoodB exTree ⟨7, r.2⟩ evs && canonAtB exTree (grun ⟨7, r.2⟩ evs).dir 7 &&
      ((grun ⟨7, r.2⟩ (evs.take 1)).dir 7 == some 6) && ((grun ⟨7, r.2⟩ (evs.take 1)).dir 6 == none))
    = some true := by decide +kernel
example : (eventsTwoSite exTree).map (fun evs => (opsOf evs).take 4) =
    some [⟨.svd, 7, 6⟩, ⟨.svd, 6, 5⟩, ⟨.svd, 5, 0⟩, ⟨.qr, 0, 2⟩] := by decide +kernel

end gauge


/-! The two-site step of the value-level run (`Ptn.C06.Gauge.VStep.two`): the bond between `a` and `b` is replaced by a
fresh one, `a` receives ANY tensor on its legs that is an isometry in index form toward the fresh bond (contract of
`split_node_svd`: the factor U), `b` any tensor on its legs. -/
section siteCanon
open Ptn.Ein Ptn.C17 Ptn.C17.RTree Ptn.C05.Disc Ptn.C06.Gauge Ptn.C03

/-- **Before every two-site update `two a b` of a two-site TDVP step the doubled tree around `a` is canonical in
index form** (`Kids.Canon`, built from the current network re-rooted at `a`; `b` is a neighbour of `a`, so the
sub-tree of `b` is one of the children and its own children are canonical toward `b`), the norm network has the
value of the tensor of `a` alone, with no hypothesis on intermediate states: only the per-split contracts of the
run and the truth of the record of the initial network.

`_partial`: (1) the doubled tree around the MERGED pair (children of `a` other than `b` together with the children
of `b`, centre tensor = the contracted two-site tensor) is not assembled here - all its sub-trees are canonical by
this theorem (`Sub.Canon` of the child `b` contains `Kids.Canon` of the children of `b`); the concatenation of the two
child lists and the contraction of `a` with `b` as a `Centre` follow in `two_site_update_pair_canon`; (2) `VStep.two`
demands an exact factorisation of the old tensor of `a` over the fresh bond: truncating SVDs are outside. -/
theorem two_site_update_kids_canon_partial {R : Type} [CommSemiring R] (dim : Nat → Nat) (cj : R → R)
    (t : RTree) (hwf : t.WF) (hk : t.kids ≠ []) :
    ∃ u s evs, updatePath t = some u ∧ u.head? = some s ∧ eventsTwoSite t = some evs ∧
      ∀ (dir : Rec) (N0 : VNet R), CanonAt t dir s → N0.WF → BondDims dim N0 → (∀ n ∈ ids t, n ∈ N0.ids) →
        GaugeInv dim cj N0 dir →
      ∀ (k : Nat) (p q : List DEv) (a b : Nat) (N : VNet R),
        (List.replicate k evs).flatten = p ++ DEv.two a b :: q → VRun dim cj N0 p N →
        Adj t a b ∧ N.WF ∧ N.ids = N0.ids ∧
        ∃ r : RTree, reroot a [] t = some r ∧ r.rid = a ∧ (ids r).Perm (ids t) ∧
          ∃ up dn : Nat → Nat, (∀ e ∈ edges r, EdgeOK dim cj N up dn e.1 e.2) ∧
            (kidsOf cj N up dn r.kids).Canon (ddim dim) ∧ (centreOf cj N up dn r).labels.Nodup ∧
            ∀ σ, netValue (ddim dim) (centreOf cj N up dn r).normBinds ((ids t).flatMap (nodeLeaves cj N)) σ =
              netValue (ddim dim) ((N.legs a).map dbl) [ketT (N.tens a), braT cj (N.tens a)] σ := by
  obtain ⟨u, s, evs, hu, hs, hev, hall⟩ :=
    Ptn.C06.tdvp_event_centre_kids_canon dim cj t hwf .twoSite hk
  refine ⟨u, s, evs, hu, hs, hev, ?_⟩
  intro dir N0 hc hwf0 hbd hids hinv k p q a b N hsplit hr
  obtain ⟨hpre, h1, h2, h3⟩ := hall dir N0 hc hwf0 hbd hids hinv k p q _ N hsplit hr
  obtain ⟨hca, hab⟩ := gpre_spec hpre
  rw [hca] at h3
  obtain ⟨r, hr1, hr2, hr3, up, dn, g1, g2, _, g4, _, g6⟩ := h3
  exact ⟨hab, h1, h2, r, hr1, hr2, hr3, up, dn, g1, g2, g4, g6⟩

/-- the hypotheses are satisfiable: the tree `0 → 1` (two-site step `two 1 0`, `two 0 1`, sweep start 1), the integer
network `Ptn.C03.isoNet'` whose node 0 is the `Q` factor of a QR move toward node 1, the record `0 > 1`, `1 > -` -/
example :
    let t : RTree := .node 0 [.node 1 []]
    let dir : Rec := applyOps (fun _ => none) [⟨0, 1⟩]
    t.WF ∧ t.kids ≠ [] ∧ updatePath t = some [1, 0] ∧ eventsTwoSite t = some [.two 1 0, .two 0 1] ∧
    CanonAt t dir 1 ∧ isoNet'.WF ∧ BondDims demoDim isoNet' ∧ (∀ n ∈ ids t, n ∈ isoNet'.ids) ∧
    GaugeInv demoDim id isoNet' dir ∧
    (List.replicate 1 [DEv.two 1 0, .two 0 1]).flatten = [] ++ DEv.two 1 0 :: [.two 0 1] ∧
    VRun demoDim id isoNet' [] isoNet' :=
  ⟨by decide, by decide, by decide, by decide, (canonAtB_iff _ _ _).1 (by decide), Ptn.C06.isoNet'_init.1,
    Ptn.C06.isoNet'_init.2.1, by decide, Ptn.C06.isoNet'_init.2.2, rfl, VRun.nil _⟩

/-- **Before every two-site update `two a b` the doubled tree around the MERGED PAIR is canonical in index form and
the norm network has the value of the two tensors of the pair alone**.  Same run hypotheses as
`two_site_update_kids_canon_partial` (only the per-split contracts of the run and the truth of the record of the
initial network).  `r`: the tree re-rooted at `a`.  For every position of `b` among the children of `a` in `r`
(`r.kids = k1 ++ node b kb :: k2`) the merged family `Ptn.Ein.pair_merged` - children of `a` other than `b`, then the
children of `b` - satisfies `Kids.Canon`, has pairwise distinct labels, and the norm network equals the network of
`T_a · T_b · conj T_a · conj T_b` summed over the shared bond and one common index per other leg of the pair
(`Ptn.Ein.pair_centre_norm`): the norm of the merged two-site tensor.

`_partial`: (1) that `b` IS a child of the root of `r` (it is: `Adj t a b` and `r` is `t` re-rooted at `a`) is not
derived here but in `two_site_update_pair_canon`, the statement is over every such decomposition of `r.kids`; (2) as
in `two_site_update_kids_canon_partial`, `VStep.two` demands an exact factorisation over the fresh bond (truncating
SVDs outside); (3) `two_site_update_conserves_norm_of_canonical` is instantiated with this family (`Kids.IsConj`,
complex scalars) only in `tdvp_two_site_update_conserves_norm`. -/
theorem two_site_update_pair_canon_partial {R : Type} [CommSemiring R] (dim : Nat → Nat) (cj : R → R)
    (t : RTree) (hwf : t.WF) (hk : t.kids ≠ []) :
    ∃ u s evs, updatePath t = some u ∧ u.head? = some s ∧ eventsTwoSite t = some evs ∧
      ∀ (dir : Rec) (N0 : VNet R), CanonAt t dir s → N0.WF → BondDims dim N0 → (∀ n ∈ ids t, n ∈ N0.ids) →
        GaugeInv dim cj N0 dir →
      ∀ (k : Nat) (p q : List DEv) (a b : Nat) (N : VNet R),
        (List.replicate k evs).flatten = p ++ DEv.two a b :: q → VRun dim cj N0 p N →
        Adj t a b ∧ N.WF ∧ N.ids = N0.ids ∧
        ∃ r : RTree, reroot a [] t = some r ∧ r.rid = a ∧ (ids r).Perm (ids t) ∧
          ∃ up dn : Nat → Nat, (∀ e ∈ edges r, EdgeOK dim cj N up dn e.1 e.2) ∧
            ∀ k1 kb k2 : List RTree, r.kids = k1 ++ RTree.node b kb :: k2 →
              (pair_merged (kidsOf cj N up dn k1) (kidsOf cj N up dn k2) (kidsOf cj N up dn kb)).Canon (ddim dim) ∧
              (pair_merged (kidsOf cj N up dn k1) (kidsOf cj N up dn k2) (kidsOf cj N up dn kb)).labels.Nodup ∧
              ∀ σ, netValue (ddim dim) (centreOf cj N up dn r).normBinds ((ids t).flatMap (nodeLeaves cj N)) σ =
                netValue (ddim dim)
                  ((physOf N a (dnLegs dn r.kids) ++ (physOf N b (up b :: dnLegs dn kb) ++
                      [(DL.ket (dn b), DL.ket (up b)), (DL.bra (dn b), DL.bra (up b))])) ++
                    (pair_merged (kidsOf cj N up dn k1) (kidsOf cj N up dn k2) (kidsOf cj N up dn kb)).pairs)
                  [ketT (N.tens a), braT cj (N.tens a), ketT (N.tens b), braT cj (N.tens b)] σ := by
  obtain ⟨u, s, evs, hu, hs, hev, hall⟩ :=
    Ptn.C06.tdvp_event_centre_kids_canon dim cj t hwf .twoSite hk
  refine ⟨u, s, evs, hu, hs, hev, ?_⟩
  intro dir N0 hc hwf0 hbd hids hinv k p q a b N hsplit hr
  obtain ⟨hpre, h1, h2, h3⟩ := hall dir N0 hc hwf0 hbd hids hinv k p q _ N hsplit hr
  obtain ⟨hca, hab⟩ := gpre_spec hpre
  rw [hca] at h3
  obtain ⟨r, hr1, hr2, hr3, up, dn, g1, g2, g3, g4, _, _⟩ := h3
  refine ⟨hab, h1, h2, r, hr1, hr2, hr3, up, dn, g1, ?_⟩
  intro k1 kb k2 hsp
  have hcen : centreOf cj N up dn r = ⟨ketT (N.tens a), braT cj (N.tens a), physOf N a (dnLegs dn r.kids),
      pair_around (kidsOf cj N up dn k1) (kidsOf cj N up dn k2) (DL.ket (dn b)) (DL.bra (dn b)) (ketT (N.tens b))
        (braT cj (N.tens b)) (DL.ket (up b)) (DL.bra (up b)) (physOf N b (up b :: dnLegs dn kb))
        (kidsOf cj N up dn kb)⟩ := by
    rw [centreOf, hr2, hsp, kidsOf_split]
  rw [hsp, kidsOf_split] at g2
  rw [hcen] at g3 g4
  obtain ⟨hC, hCc, _⟩ := g3
  obtain ⟨c1, _, _, ⟨hT, hTc, _, _, cb⟩, c3⟩ := (pair_kids_append_canon_iff (ddim dim) _ _).1 g2
  refine ⟨pair_merged_canon (ddim dim) _ _ _ c1 c3 cb, ?_, ?_⟩
  · exact pair_merged_labels_nodup _ _ (DL.ket (dn b)) (DL.bra (dn b)) (ketT (N.tens b)) (braT cj (N.tens b))
      (DL.ket (up b)) (DL.bra (up b)) (physOf N b (up b :: dnLegs dn kb)) _ (Centre.kids_labels_nodup g4)
  · intro σ
    rw [normLeaves_perm cj N up dn hr3, hcen]
    exact pair_centre_norm (ddim dim) _ _ _ _ _ _ _ _ _ _ _ _ _ hC hCc hT hTc c1 c3 cb g4 σ

/-- the hypotheses are satisfiable: the instance of the example above (tree `0 → 1`, first event `two 1 0`); the
tree re-rooted at `1` is `1 → 0`, so `b = 0` is the only child: `k1 = k2 = kb = []` -/
example : reroot 1 [] (RTree.node 0 [.node 1 []]) = some (.node 1 [.node 0 []]) ∧
    (RTree.node 1 [.node 0 []]).kids = [] ++ RTree.node 0 [] :: [] := ⟨by rfl, by rfl⟩

/-- **Before every two-site update `two a b` of a two-site TDVP step (truncation disabled): `b` IS a child of the
root of the tree re-rooted at `a`, the doubled tree around the MERGED PAIR is canonical in index form and the norm
network has the value of the two tensors of the pair alone** (`two_site_update_pair_canon_partial` with its item (1)
derived).  Run hypotheses as in `two_site_update_kids_canon_partial`: only the per-split
contracts of the run (`VRun`: the factor left at `a` is an isometry toward the fresh bond and the factorisation is
exact, i.e. truncation disabled - the setting of this property's conservation statement) and the truth of the record
of the initial network.  `r` = `t` re-rooted at `a`: well-formed, root `a`, and - because `a`, `b` are neighbours
(`Ptn.C07.reroot_adj_child`: an edge at the root of a well-formed tree is a child of the root) - its child list
decomposes as `k1 ++ node b kb :: k2`.  For this decomposition the merged family `Ptn.Ein.pair_merged` (children of `a`
other than `b`, then the children of `b`) satisfies `Kids.Canon`, has pairwise distinct labels, and the norm network
equals the network of `T_a · conj T_a · T_b · conj T_b` summed over the shared bond and one common index per other leg
of the pair: the norm of the merged two-site tensor. -/
theorem two_site_update_pair_canon {R : Type} [CommSemiring R] (dim : Nat → Nat) (cj : R → R)
    (t : RTree) (hwf : t.WF) (hk : t.kids ≠ []) :
    ∃ u s evs, updatePath t = some u ∧ u.head? = some s ∧ eventsTwoSite t = some evs ∧
      ∀ (dir : Rec) (N0 : VNet R), CanonAt t dir s → N0.WF → BondDims dim N0 → (∀ n ∈ ids t, n ∈ N0.ids) →
        GaugeInv dim cj N0 dir →
      ∀ (k : Nat) (p q : List DEv) (a b : Nat) (N : VNet R),
        (List.replicate k evs).flatten = p ++ DEv.two a b :: q → VRun dim cj N0 p N →
        Adj t a b ∧ N.WF ∧ N.ids = N0.ids ∧
        ∃ r : RTree, reroot a [] t = some r ∧ r.rid = a ∧ r.WF ∧ (ids r).Perm (ids t) ∧
          ∃ up dn : Nat → Nat, (∀ e ∈ edges r, EdgeOK dim cj N up dn e.1 e.2) ∧
            ∃ k1 kb k2 : List RTree, r.kids = k1 ++ RTree.node b kb :: k2 ∧
              (pair_merged (kidsOf cj N up dn k1) (kidsOf cj N up dn k2) (kidsOf cj N up dn kb)).Canon (ddim dim) ∧
              (pair_merged (kidsOf cj N up dn k1) (kidsOf cj N up dn k2) (kidsOf cj N up dn kb)).labels.Nodup ∧
              ∀ σ, netValue (ddim dim) (centreOf cj N up dn r).normBinds ((ids t).flatMap (nodeLeaves cj N)) σ =
                netValue (ddim dim)
                  ((physOf N a (dnLegs dn r.kids) ++ (physOf N b (up b :: dnLegs dn kb) ++
                      [(DL.ket (dn b), DL.ket (up b)), (DL.bra (dn b), DL.bra (up b))])) ++
                    (pair_merged (kidsOf cj N up dn k1) (kidsOf cj N up dn k2) (kidsOf cj N up dn kb)).pairs)
                  [ketT (N.tens a), braT cj (N.tens a), ketT (N.tens b), braT cj (N.tens b)] σ := by
  obtain ⟨u, s, evs, hu, hs, hev, hall⟩ := two_site_update_pair_canon_partial dim cj t hwf hk
  refine ⟨u, s, evs, hu, hs, hev, ?_⟩
  intro dir N0 hc hwf0 hbd hids hinv k p q a b N hsplit hr
  obtain ⟨hab, h1, h2, r, hr1, hr2, hr3, up, dn, g1, g⟩ :=
    hall dir N0 hc hwf0 hbd hids hinv k p q a b N hsplit hr
  obtain ⟨hrwf, _, k1, kb, k2, hsp⟩ := reroot_adj_child hwf hab hr1
  exact ⟨hab, h1, h2, r, hr1, hr2, hrwf, hr3, up, dn, g1, k1, kb, k2, hsp, g k1 kb k2 hsp⟩

/-- the hypotheses are satisfiable: the instance of the examples above (tree `0 → 1`, integer network
`Ptn.C03.isoNet'`, first event `two 1 0`); `0 - 1` is an edge, the tree re-rooted at `1` is `1 → 0` and its child
list is `[] ++ node 0 [] :: []` -/
example :
    let t : RTree := .node 0 [.node 1 []]
    t.WF ∧ t.kids ≠ [] ∧ eventsTwoSite t = some [.two 1 0, .two 0 1] ∧ Adj t 1 0 ∧
      reroot 1 [] t = some (.node 1 [.node 0 []]) ∧
      (RTree.node 1 [.node 0 []]).kids = [] ++ RTree.node 0 [] :: [] := by
  refine ⟨by decide, by decide, by decide, by decide, by rfl, by rfl⟩

open Matrix NormedSpace in
/-- **Every two-site update of a two-site TDVP time step (truncation disabled) conserves the norm** - no
canonical-form hypothesis other than the per-split contracts of the run (`VRun`) and the truth of the record of the
INITIAL network.  Over the complex numbers with conjugation `star`: before every event `two a b` the tree `r` = `t`
re-rooted at `a` has `b` among the children of its root (`r.kids = k1 ++ node b kb :: k2`), the doubled tree
`M = pair_merged …` around the merged pair is built from the current network `N`, the embedding
`E = siteEmbedding (ddim dim) M P = envMatrix ⊗ 1_P` is BUILT from it (`P`: the open legs of `a` and `b`), and for
every Hermitian `H` the update `φ ↦ exp(-i τ EᴴHE) φ` of the merged two-site tensor conserves `|Eφ|²`
(`two_site_update_pair_canon` + `pairConj_merged_kidsOf` + `two_site_update_conserves_norm_of_canonical`).
Scope: `VStep.two` carries an exact factorisation over the fresh bond - a truncating SVD is outside (it does not
conserve the norm). -/
theorem tdvp_two_site_update_conserves_norm (dim : Nat → Nat) (t : RTree) (hwf : t.WF) (hk : t.kids ≠ []) :
    ∃ u s evs, updatePath t = some u ∧ u.head? = some s ∧ eventsTwoSite t = some evs ∧
      ∀ (dir : Rec) (N0 : VNet ℂ), CanonAt t dir s → N0.WF → BondDims dim N0 → (∀ n ∈ ids t, n ∈ N0.ids) →
        GaugeInv dim (star : ℂ → ℂ) N0 dir →
      ∀ (k : Nat) (p q : List DEv) (a b : Nat) (N : VNet ℂ),
        (List.replicate k evs).flatten = p ++ DEv.two a b :: q → VRun dim (star : ℂ → ℂ) N0 p N →
        Adj t a b ∧
        ∃ r : RTree, reroot a [] t = some r ∧ r.rid = a ∧
          ∃ up dn : Nat → Nat, (∀ e ∈ edges r, EdgeOK dim (star : ℂ → ℂ) N up dn e.1 e.2) ∧
            ∃ k1 kb k2 : List RTree, r.kids = k1 ++ RTree.node b kb :: k2 ∧
            ∃ M : Kids DL ℂ, M = pair_merged (kidsOf (star : ℂ → ℂ) N up dn k1) (kidsOf (star : ℂ → ℂ) N up dn k2)
                (kidsOf (star : ℂ → ℂ) N up dn kb) ∧
              ∀ (P : Type) [Fintype P] [DecidableEq P]
                (H : Matrix (Idx (ddim dim) M.physAll × P) (Idx (ddim dim) M.physAll × P) ℂ),
                H.conjTranspose = H → ∀ (τ : ℝ) (φ : Idx (ddim dim) M.ups × P → ℂ),
                let E := Ptn.C06.siteEmbedding (ddim dim) M P
                star (E.mulVec ((exp ((-Complex.I * (τ : ℂ)) • (E.conjTranspose * H * E))).mulVec φ)) ⬝ᵥ
                    (E.mulVec ((exp ((-Complex.I * (τ : ℂ)) • (E.conjTranspose * H * E))).mulVec φ))
                  = star (E.mulVec φ) ⬝ᵥ (E.mulVec φ) := by
  obtain ⟨u, s, evs, hu, hs, hev, hall⟩ := two_site_update_pair_canon dim (star : ℂ → ℂ) t hwf hk
  refine ⟨u, s, evs, hu, hs, hev, ?_⟩
  intro dir N0 hc hwf0 hbd hids hinv k p q a b N hsplit hr
  obtain ⟨hab, _, _, r, hr1, hr2, _, _, up, dn, g1, k1, kb, k2, hsp, hC, hN, _⟩ :=
    hall dir N0 hc hwf0 hbd hids hinv k p q a b N hsplit hr
  refine ⟨hab, r, hr1, hr2, up, dn, g1, k1, kb, k2, hsp, _, rfl, ?_⟩
  intro P _ _ H hH τ φ
  exact two_site_update_conserves_norm_of_canonical (ddim dim) dswap dswap_injective (ddim_dswap dim)
    _ hC hN (pairConj_merged_kidsOf N up dn k1 k2 kb) P H hH τ φ

/-- the run hypotheses are those of `two_site_update_pair_canon` (satisfiable: example above); the relabelling and
the Hermitian operator: ket copy ↔ bra copy is injective and keeps dimensions, the identity matrix is Hermitian -/
example (dim : Nat → Nat) : Function.Injective dswap ∧ (∀ l, ddim dim (dswap l) = ddim dim l) ∧
    ((1 : Matrix (Fin 2 × Fin 3) (Fin 2 × Fin 3) ℂ)).conjTranspose = 1 :=
  ⟨dswap_injective, ddim_dswap dim, Matrix.conjTranspose_one⟩

end siteCanon

end Ptn.C07
