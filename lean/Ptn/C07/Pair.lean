import Ptn.C03.CanonTree
import Ptn.Common.EinsumIsoPair
import Ptn.C06.SiteNorm
/-! The merged pair of a two-site update.  The doubled tree of a child list that contains the node `b` is
`Ptn.Ein.pair_around` of the doubled trees of the parts (`kidsOf_append`, `kidsOf_split`); `Kids.IsConj` (ket tree with
its conjugated relabelled copy) of a concatenation and of the merged family around a pair (`pairConj_*`). -/
namespace Ptn.C07

section kids
open Ptn.Ein Ptn.C17 Ptn.C17.RTree Ptn.C03

variable {R : Type} [CommSemiring R]

omit [CommSemiring R] in
theorem kidsOf_append (cj : R → R) (N : VNet R) (up dn : Nat → Nat) : ∀ k1 k2 : List RTree,
    kidsOf cj N up dn (k1 ++ k2) = pair_kidsAppend (kidsOf cj N up dn k1) (kidsOf cj N up dn k2)
  | [], k2 => by simp [kidsOf, pair_kidsAppend]
  | t :: ts, k2 => by simp [kidsOf, pair_kidsAppend, kidsOf_append cj N up dn ts k2]

omit [CommSemiring R] in
theorem kidsOf_split (cj : R → R) (N : VNet R) (up dn : Nat → Nat) (k1 k2 kb : List RTree) (b : Nat) :
    kidsOf cj N up dn (k1 ++ RTree.node b kb :: k2) =
      pair_around (kidsOf cj N up dn k1) (kidsOf cj N up dn k2) (DL.ket (dn b)) (DL.bra (dn b))
        (ketT (N.tens b)) (braT cj (N.tens b)) (DL.ket (up b)) (DL.bra (up b))
        (physOf N b (up b :: dnLegs dn kb)) (kidsOf cj N up dn kb) := by
  rw [kidsOf_append, pair_around, kidsOf, subOf]
  rfl

end kids

section conj
open Ptn.Ein Ptn.C17 Ptn.C17.RTree Ptn.C03 Ptn.C06.Gauge

set_option linter.unusedSectionVars false
variable {L : Type} [DecidableEq L] {R : Type} [CommSemiring R] [StarRing R]

theorem pairConj_append_iff (pr : L → L) : ∀ k1 k2 : Kids L R,
    (pair_kidsAppend k1 k2).IsConj pr ↔ k1.IsConj pr ∧ k2.IsConj pr
  | .nil, k2 => by simp [pair_kidsAppend, Kids.IsConj]
  | .cons d d' s rest, k2 => by
    simp only [pair_kidsAppend, Kids.IsConj, pairConj_append_iff pr rest k2]
    tauto

theorem pairConj_merged (pr : L → L) (k1 k2 kb : Kids L R) (h1 : k1.IsConj pr) (h2 : k2.IsConj pr)
    (hb : kb.IsConj pr) : (pair_merged k1 k2 kb).IsConj pr :=
  (pairConj_append_iff pr _ _).2 ⟨(pairConj_append_iff pr _ _).2 ⟨h1, h2⟩, hb⟩

theorem pairConj_merged_kidsOf (N : VNet R) (up dn : Nat → Nat) (k1 k2 kb : List RTree) :
    (pair_merged (kidsOf (star : R → R) N up dn k1) (kidsOf (star : R → R) N up dn k2)
      (kidsOf (star : R → R) N up dn kb)).IsConj dswap :=
  pairConj_merged dswap _ _ _ ((subOf_isConj N up dn).2 k1) ((subOf_isConj N up dn).2 k2)
    ((subOf_isConj N up dn).2 kb)

end conj

end Ptn.C07
