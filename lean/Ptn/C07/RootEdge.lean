import Ptn.C17.Reroot
/-! An edge at the root of a well-formed tree is a child of the root; consequence for the tree re-rooted at one end
of an edge.  Facts about `Ptn.C17.RTree.reroot` only (the module depends on C17 alone); used by both C06 (the tree
around the link tensor) and C07 (the merged pair). -/
namespace Ptn.C07
open Ptn.C17 Ptn.C17.RTree

theorem rootEdge_child_list : ∀ (ks : List RTree) (a b : Nat), a ∉ idsL ks → SAdj (edgesL a ks) a b →
    ∃ k1 kb k2, ks = k1 ++ RTree.node b kb :: k2
  | [], a, b, _, h => by simp [SAdj] at h
  | k :: ks, a, b, ha, h => by
    rw [idsL_cons, List.mem_append, not_or] at ha
    obtain ⟨hak, haks⟩ := ha
    have hrec : SAdj (edgesL a ks) a b → ∃ k1 kb k2, k :: ks = k1 ++ RTree.node b kb :: k2 := by
      intro h'
      obtain ⟨k1, kb, k2, e⟩ := rootEdge_child_list ks a b haks h'
      exact ⟨k :: k1, kb, k2, by rw [e]; rfl⟩
    -- `(a, b)` or `(b, a)` is the edge from `a` to the root of `k` (then `b` is that root, or `a` would be), or lies
    -- inside `k` (impossible: `a` is not a node of `k`), or is an edge of the remaining children
    simp only [SAdj, edgesL_cons, List.mem_cons, List.mem_append, Prod.mk.injEq] at h
    rcases h with (⟨_, hb⟩ | h | h) | (⟨hb, hr⟩ | h | h)
    · cases k with
      | node i kb =>
        simp only [rid] at hb
        exact ⟨[], kb, ks, by rw [hb]; rfl⟩
    · exact absurd (edge_mem_ids h).1 hak
    · exact hrec (Or.inl h)
    · exact absurd (by rw [hr]; exact rid_mem_ids k) hak
    · exact absurd (edge_mem_ids h).2 hak
    · exact hrec (Or.inr h)

theorem rootEdge_child {r : RTree} (hwf : r.WF) {b : Nat} (h : Adj r r.rid b) :
    ∃ k1 kb k2, r.kids = k1 ++ RTree.node b kb :: k2 := by
  cases r with
  | node a ks =>
    simp only [kids]
    have hnd : (a :: idsL ks).Nodup := by simpa [WF] using hwf
    refine rootEdge_child_list ks a b (List.nodup_cons.1 hnd).1 ?_
    simpa [Adj, SAdj, rid] using h

theorem reroot_adj_child {t : RTree} (hwf : t.WF) {a b : Nat} (hab : Adj t a b) {r : RTree}
    (hr : reroot a [] t = some r) :
    r.WF ∧ r.rid = a ∧ ∃ k1 kb k2, r.kids = k1 ++ RTree.node b kb :: k2 := by
  obtain ⟨h1, h2, h3⟩ := (reroot_spec a).1 t [] r hr
  have hp : (ids r).Perm (ids t) := by simpa using h2
  have hrwf : r.WF := hp.nodup_iff.2 hwf
  refine ⟨hrwf, h1, rootEdge_child hrwf ?_⟩
  rw [h1]
  have := (h3 a b).2 (by simpa [SAdj, Adj] using hab)
  exact this

end Ptn.C07
