import Ptn.C01.Model
import Ptn.C01.Lemmas
/-! The node-by-node denotation `denoteAt` equals the explicit sum over all global choices of one
hyperedge per node that agree on every vertex (core Lean only). -/
namespace Ptn.C01

theorem choices_node (i nv : Nat) (hes : List HE) (kids : List SD) :
    choices (.node i nv hes kids) = hes.flatMap fun h => (choicesKids kids).map (Choice.node h) := by
  rw [choices]

theorem choicesKids_nil : choicesKids [] = [[]] := by rw [choicesKids]

theorem choicesKids_cons (k : SD) (ks : List SD) :
    choicesKids (k :: ks) = (choices k).flatMap fun c => (choicesKids ks).map (c :: ·) := by
  rw [choicesKids]

theorem consistent_node (h : HE) (cs : List Choice) (pv : Option Nat) :
    consistent (.node h cs) pv = (decide (h.pv = pv) && consistentKids cs h.kv) := by
  rw [consistent]

theorem consistentKids_cons (c : Choice) (cs : List Choice) (v : Nat) (vs : List Nat) :
    consistentKids (c :: cs) (v :: vs) = (consistent c (some v) && consistentKids cs vs) := by
  rw [consistentKids]

theorem monoOf_node (i nv : Nat) (hes : List HE) (kids : List SD) (h : HE) (cs : List Choice) :
    monoOf (.node i nv hes kids) (.node h cs) = attach i h (monoKids kids cs) := by
  rw [monoOf]

theorem monoKids_cons (k : SD) (ks : List SD) (c : Choice) (cs : List Choice) :
    monoKids (k :: ks) (c :: cs) = (monoOf k c).mul (monoKids ks cs) := by
  rw [monoKids]

theorem filter_and_const {α : Type} (l : List α) (b : Bool) (p : α → Bool) :
    l.filter (fun x => b && p x) = if b then l.filter p else [] := by
  cases b <;> simp

/-- One level of the enumeration.  The candidates are the pairs `K a b` with `a ∈ l`, `b ∈ M`; a pair is kept when
    `P a` and `Q a b` hold; its weight is `W a (N b)`.  At a node: `a` a hyperedge, `b` choices for the children.
    Along the list of children: `a` a choice for the first child, `b` choices for the others. -/
theorem enum_step {α β γ δ ε : Type} (l : List α) (M : List β) (K : α → β → γ) (pred : γ → Bool)
    (w : γ → δ) (P : α → Bool) (Q : α → β → Bool) (N : β → ε) (W : α → ε → δ)
    (hp : ∀ a b, pred (K a b) = (P a && Q a b)) (hw : ∀ a b, w (K a b) = W a (N b)) :
    ((l.flatMap fun a => M.map (K a)).filter pred).map w =
      l.flatMap fun a => if P a then ((M.filter (Q a)).map N).map (W a) else [] := by
  rw [List.filter_flatMap, List.map_flatMap]
  apply flatMap_congr
  intro a _
  rw [List.filter_map, List.map_map, List.map_map]
  have h1 : (pred ∘ K a) = fun b => (P a && Q a b) := funext (hp a)
  have h2 : (w ∘ K a) = W a ∘ N := funext (hw a)
  rw [h1, h2, filter_and_const]
  cases P a <;> rfl

theorem enum_both :
    (∀ (d : SD) (pv : Option Nat),
      ((choices d).filter (consistent · pv)).map (monoOf d) = denoteAt d pv) ∧
    ∀ (ks : List SD) (vs : List Nat),
      ((choicesKids ks).filter (consistentKids · vs)).map (monoKids ks) = denoteKids ks vs := by
  apply SD.both
  · intro i nv hes kids ih pv
    rw [choices_node, denoteAt_node,
      enum_step hes (choicesKids kids) Choice.node _ _ (fun h => decide (h.pv = pv))
        (fun h cs => consistentKids cs h.kv) (monoKids kids) (attach i)
        (fun h cs => consistent_node h cs pv) (fun h cs => monoOf_node i nv hes kids h cs)]
    apply flatMap_congr
    intro h _
    rw [ih h.kv]
    by_cases hc : h.pv = pv <;> simp [hc]
  · intro vs
    rw [choicesKids_nil]
    cases vs with
    | nil =>
      rw [denoteKids_nil]
      have h1 : consistentKids [] [] = true := by rw [consistentKids]
      have h2 : monoKids [] [] = Mono.one := by rw [monoKids]
      simp [h1, h2]
    | cons v vs =>
      rw [denoteKids_nil_cons]
      have h1 : consistentKids [] (v :: vs) = false := by rw [consistentKids]
      simp [h1]
  · intro k ks ih1 ih2 vs
    rw [choicesKids_cons]
    cases vs with
    | nil =>
      rw [denoteKids_cons_nil,
        enum_step (choices k) (choicesKids ks) (fun c cs => c :: cs) _ _ (fun _ => false)
          (fun _ _ => true) (monoKids ks) (fun c => (monoOf k c).mul)
          (fun c cs => by rw [consistentKids]; rfl) (fun c cs => monoKids_cons k ks c cs)]
      exact List.flatMap_eq_nil_iff.2 fun _ _ => rfl
    | cons v vs =>
      rw [denoteKids_cons, ← ih1 (some v), ← ih2 vs,
        enum_step (choices k) (choicesKids ks) (fun c cs => c :: cs) _ _ (consistent · (some v))
          (fun _ cs => consistentKids cs vs) (monoKids ks) (fun c => (monoOf k c).mul)
          (fun c cs => consistentKids_cons c cs v vs) (fun c cs => monoKids_cons k ks c cs),
        flatMap_ite_eq_filter (choices k) (fun c => consistent c (some v) = true), FSum.mul, List.flatMap_map]
      simp only [Bool.decide_eq_true]

theorem enumKids_eq_denoteKids : ∀ (ks : List SD) (vs : List Nat),
    ((choicesKids ks).filter (consistentKids · vs)).map (monoKids ks) = denoteKids ks vs :=
  enum_both.2

end Ptn.C01
