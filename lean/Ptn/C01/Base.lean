import Ptn.C01.Model
import Ptn.C01.Lemmas
/-! The left fold of `sum_states` over the single-term diagrams (`get_state_diagram_compound`, method BASE) produces
the diagonal diagram `baseAt`: every edge carries one vertex per term, every node one hyperedge per term, and
hyperedge `k` joins the vertices number `k`.  One more `sum_states` extends it by one term (`sumSD_baseAt_both`),
hence `baseDiagram_eq`; a single-term diagram is the case of one term.  Well-formedness, population, skeleton,
first labels and bonds are read off `baseAt` by induction over the tree, its denotation by induction over the
terms from the right, each step one `sum_states` (core Lean only). -/
namespace Ptn.C01

/-- Hyperedge number `k` of node `i`: the padded label of term `k`, sitting on vertex `k` of every incident
    edge; the coefficient pair sits at the root only. -/
def baseHE (r : Bool) (i dim : Nat) (kids : List RTree) (tm : Term) (k : Nat) : HE :=
  { label := padLabel tm.ops i dim
    lam := if r then tm.coef else 1
    gam := if r then tm.sym else "1"
    pv := if r then none else some k
    kv := kids.map fun _ => k }

mutual
/-- the diagonal diagram of `terms` on the tree (`r`: the node is the root) -/
def baseAt (terms : List Term) (r : Bool) : RTree → SD
  | .node i dim kids =>
    .node i (if r then 0 else terms.length) (terms.zipIdx.map fun p => baseHE r i dim kids p.1 p.2)
      (baseKids terms kids)
def baseKids (terms : List Term) : List RTree → List SD
  | [] => []
  | k :: ks => baseAt terms false k :: baseKids terms ks
end

theorem baseAt_node (terms : List Term) (r : Bool) (i dim : Nat) (kids : List RTree) :
    baseAt terms r (.node i dim kids) =
      .node i (if r then 0 else terms.length) (terms.zipIdx.map fun p => baseHE r i dim kids p.1 p.2)
        (baseKids terms kids) := by rw [baseAt]

theorem baseKids_nil (terms : List Term) : baseKids terms [] = [] := by rw [baseKids]

theorem baseKids_cons (terms : List Term) (k : RTree) (ks : List RTree) :
    baseKids terms (k :: ks) = baseAt terms false k :: baseKids terms ks := by rw [baseKids]

theorem baseAt_nv (terms : List Term) (r : Bool) (t : RTree) :
    (baseAt terms r t).nv = if r then 0 else terms.length := by
  cases t; rw [baseAt_node]; rfl

theorem baseKids_nv (terms : List Term) (ks : List RTree) :
    (baseKids terms ks).map SD.nv = ks.map fun _ => terms.length := by
  induction ks with
  | nil => rw [baseKids_nil]; rfl
  | cons k ks ih => rw [baseKids_cons, List.map_cons, ih, baseAt_nv]; rfl

theorem baseAt_kids (terms : List Term) (r : Bool) (t : RTree) :
    (baseAt terms r t).kids = baseKids terms t.kids := by
  cases t; rw [baseAt_node]; rfl

theorem baseKids_getElem? (terms : List Term) (ks : List RTree) (j : Nat) :
    (baseKids terms ks)[j]? = (ks[j]?).map (baseAt terms false) := by
  induction ks generalizing j with
  | nil => rw [baseKids_nil]; rfl
  | cons k ks ih =>
    rw [baseKids_cons]
    cases j with
    | zero => rfl
    | succ j => exact ih j

theorem baseAt_single_both (ops : List (Nat × String)) (coef : Rat) (sym : String) :
    (∀ (t : RTree) (r : Bool), baseAt [⟨coef, sym, ops⟩] r t = singleAt ops coef sym r t) ∧
    ∀ ks : List RTree, baseKids [⟨coef, sym, ops⟩] ks = singleKids ops coef sym ks := by
  apply RTree.both
  · intro i dim kids ih r
    rw [baseAt_node, singleAt, ih]
    rfl
  · rw [baseKids_nil, singleKids]
  · intro k ks ih1 ih2
    rw [baseKids_cons, singleKids, ih1, ih2]

theorem sumSD_baseAt_both (done : List Term) (x : Term) :
    (∀ (t : RTree) (r : Bool),
      sumSD (baseAt done r t) (singleAt x.ops x.coef x.sym r t) = baseAt (done ++ [x]) r t) ∧
    ∀ ks : List RTree,
      sumKids (baseKids done ks) (singleKids x.ops x.coef x.sym ks) = baseKids (done ++ [x]) ks := by
  apply RTree.both
  · intro i dim kids ih r
    rw [baseAt_node, singleAt, sumSD_node, ih, baseAt_node, List.zipIdx_append, List.map_append,
      baseKids_nv]
    -- the hyperedge of `x` gets the number `done.length` (`zipIdx_append`), and `shiftHE` by the `done.length`
    -- vertices of every incident edge moves it from the vertices number 0 to the vertices of that number
    congr 1
    · cases r <;> simp
    · congr 1
      simp only [List.zipIdx_singleton, List.map_cons, List.map_nil, Nat.zero_add, baseHE, shiftHE,
        zipWith_add_const]
      cases r <;> simp
  · rw [baseKids_nil, singleKids, baseKids_nil, sumKids_nil]
  · intro k ks ih1 ih2
    rw [baseKids_cons, singleKids, sumKids_cons, ih1, ih2, baseKids_cons]

theorem baseDiagram_eq (t : RTree) (tm : Term) (rest : List Term) :
    baseDiagram t (tm :: rest) = some (baseAt (tm :: rest) true t) := by
  have fold : ∀ (rest done : List Term),
      rest.foldl (fun acc x => sumSD acc (singleTerm t x)) (baseAt done true t) =
        baseAt (done ++ rest) true t := by
    intro rest
    induction rest with
    | nil => intro done; rw [List.append_nil]; rfl
    | cons x rest ih =>
      intro done
      rw [List.foldl_cons, singleTerm, (sumSD_baseAt_both done x).1, ih, List.append_assoc]
      rfl
  have single : singleTerm t tm = baseAt [tm] true t :=
    ((baseAt_single_both tm.ops tm.coef tm.sym).1 t true).symm
  rw [baseDiagram, single, fold]
  rfl

theorem kvOk_baseKids (terms : List Term) (k : Nat) (hk : k < terms.length) (ks : List RTree) :
    kvOk (ks.map fun _ => k) (baseKids terms ks) := by
  induction ks with
  | nil => rw [baseKids_nil]; trivial
  | cons t ks ih =>
    rw [baseKids_cons, List.map_cons, kvOk_cons, baseAt_nv]
    exact ⟨hk, ih⟩

theorem baseAt_WF_both (terms : List Term) :
    (∀ (t : RTree) (r : Bool), (baseAt terms r t).WF) ∧
    ∀ ks : List RTree, WFKids (baseKids terms ks) := by
  apply RTree.both
  · intro i dim kids ih r
    rw [baseAt_node, SD.WF_node]
    refine ⟨fun h hh => ?_, ih⟩
    obtain ⟨p, hp, rfl⟩ := List.mem_map.1 hh
    have hk : p.2 < terms.length := (List.getElem?_eq_some_iff.1 (List.mem_zipIdx_iff_getElem?.1 hp)).1
    refine ⟨fun q hq => ?_, kvOk_baseKids terms p.2 hk kids⟩
    cases r
    · obtain rfl : p.2 = q := Option.some.inj hq
      exact hk
    · cases hq
  · rw [baseKids_nil]; trivial
  · intro k ks ih1 ih2
    rw [baseKids_cons, WFKids_cons]
    exact ⟨ih1 false, ih2⟩

theorem baseAt_populated_both (tm0 : Term) (rest : List Term) :
    (∀ (t : RTree) (r : Bool), Populated r (baseAt (tm0 :: rest) r t)) ∧
    ∀ ks : List RTree, PopulatedKids (baseKids (tm0 :: rest) ks) := by
  apply RTree.both
  · intro i dim kids ih r
    rw [baseAt_node, Populated_node]
    refine ⟨by simp [List.zipIdx_cons], fun h hh => ?_, ih⟩
    obtain ⟨p, _, rfl⟩ := List.mem_map.1 hh
    cases r <;> rfl
  · rw [baseKids_nil]; trivial
  · intro k ks ih1 ih2
    rw [baseKids_cons, PopulatedKids_cons]
    exact ⟨ih1 false, ih2⟩

theorem baseAt_skel_both (terms : List Term) :
    (∀ (t : RTree) (r : Bool), (baseAt terms r t).skel = t.skel) ∧
    ∀ ks : List RTree, SD.skelKids (baseKids terms ks) = RTree.skelKids ks := by
  apply RTree.both
  · intro i dim kids ih r
    rw [baseAt_node, SD.skel, RTree.skel, ih]
  · rw [baseKids_nil, SD.skelKids, RTree.skelKids]
  · intro k ks ih1 ih2
    rw [baseKids_cons, SD.skelKids, RTree.skelKids, ih1, ih2]

theorem baseAt_firstLabels_both (tm0 : Term) (rest : List Term) :
    (∀ (t : RTree) (r : Bool), (baseAt (tm0 :: rest) r t).firstLabels = asgOf tm0.ops t) ∧
    ∀ ks : List RTree, SD.firstLabelsKids (baseKids (tm0 :: rest) ks) = asgKids tm0.ops ks := by
  apply RTree.both
  · intro i dim kids ih r
    rw [baseAt_node, SD.firstLabels, asgOf, ih]
    rfl
  · rw [baseKids_nil, SD.firstLabelsKids, asgKids]
  · intro k ks ih1 ih2
    rw [baseKids_cons, SD.firstLabelsKids, asgKids, ih1, ih2]

theorem baseAt_bonds_both (terms : List Term) :
    (∀ (t : RTree) (r : Bool), bondsBelow (baseAt terms r t) = t.edgesBelow.map (·, terms.length)) ∧
    ∀ ks : List RTree, bondsKids (baseKids terms ks) = (RTree.edgesKids ks).map (·, terms.length) := by
  apply RTree.both
  · intro i dim kids ih r
    rw [baseAt_node, bondsBelow, RTree.edgesBelow, ih]
  · rw [baseKids_nil, bondsKids, RTree.edgesKids]; rfl
  · intro k ks ih1 ih2
    rw [baseKids_cons, bondsKids, RTree.edgesKids, List.map_cons, List.map_append, ih1, ih2, baseAt_nv]
    cases k
    rw [baseAt_node]
    rfl

theorem singleAt_WF (ops : List (Nat × String)) (coef : Rat) (sym : String) (r : Bool) :
    ∀ t : RTree, (singleAt ops coef sym r t).WF :=
  fun t => (baseAt_single_both ops coef sym).1 t r ▸ (baseAt_WF_both _).1 t r

theorem singleKids_WF (ops : List (Nat × String)) (coef : Rat) (sym : String) :
    ∀ ks : List RTree, WFKids (singleKids ops coef sym ks) :=
  fun ks => (baseAt_single_both ops coef sym).2 ks ▸ (baseAt_WF_both _).2 ks

theorem singleAt_populated (ops : List (Nat × String)) (coef : Rat) (sym : String) (r : Bool) :
    ∀ t : RTree, Populated r (singleAt ops coef sym r t) :=
  fun t => (baseAt_single_both ops coef sym).1 t r ▸ (baseAt_populated_both _ []).1 t r

theorem singleKids_populated (ops : List (Nat × String)) (coef : Rat) (sym : String) :
    ∀ ks : List RTree, PopulatedKids (singleKids ops coef sym ks) :=
  fun ks => (baseAt_single_both ops coef sym).2 ks ▸ (baseAt_populated_both _ []).2 ks

theorem singleAt_skel (ops : List (Nat × String)) (coef : Rat) (sym : String) (r : Bool) :
    ∀ t : RTree, (singleAt ops coef sym r t).skel = t.skel :=
  fun t => (baseAt_single_both ops coef sym).1 t r ▸ (baseAt_skel_both _).1 t r

theorem singleKids_skel (ops : List (Nat × String)) (coef : Rat) (sym : String) :
    ∀ ks : List RTree, SD.skelKids (singleKids ops coef sym ks) = RTree.skelKids ks :=
  fun ks => (baseAt_single_both ops coef sym).2 ks ▸ (baseAt_skel_both _).2 ks

theorem singleAt_firstLabels (ops : List (Nat × String)) (coef : Rat) (sym : String) (r : Bool) :
    ∀ t : RTree, (singleAt ops coef sym r t).firstLabels = asgOf ops t :=
  fun t => (baseAt_single_both ops coef sym).1 t r ▸ (baseAt_firstLabels_both _ []).1 t r

theorem singleKids_firstLabels (ops : List (Nat × String)) (coef : Rat) (sym : String) :
    ∀ ks : List RTree, SD.firstLabelsKids (singleKids ops coef sym ks) = asgKids ops ks :=
  fun ks => (baseAt_single_both ops coef sym).2 ks ▸ (baseAt_firstLabels_both _ []).2 ks

theorem singleAt_sameShape (o1 o2 : List (Nat × String)) (c1 c2 : Rat) (s1 s2 : String) (r : Bool)
    (t : RTree) : SameShape (singleAt o1 c1 s1 r t) (singleAt o2 c2 s2 r t) :=
  (sameShape_iff_skel _ _).2 ((singleAt_skel o1 c1 s1 r t).trans (singleAt_skel o2 c2 s2 r t).symm)

theorem singleKids_sameShape (o1 o2 : List (Nat × String)) (c1 c2 : Rat) (s1 s2 : String) :
    ∀ ks : List RTree, SameShapeKids (singleKids o1 c1 s1 ks) (singleKids o2 c2 s2 ks) :=
  fun ks => (sameShape_iff_skel_both.2 _ _).2
    ((singleKids_skel o1 c1 s1 ks).trans (singleKids_skel o2 c2 s2 ks).symm)

/-- What the tensor filling needs survives further `sum_states`, from any accumulator on the tree `t`; for the
    accumulator of `baseDiagram` it is read off the closed form instead (`base_fillable`). -/
theorem fold_fillable (t : RTree) (tm0 : Term) :
    ∀ (rest : List Term) (acc : SD), acc.WF → SameShape acc (singleTerm t tm0) → Populated true acc →
      acc.skel = t.skel → acc.firstLabels = asgOf tm0.ops t →
      let d := rest.foldl (fun a x => sumSD a (singleTerm t x)) acc
      d.WF ∧ Populated true d ∧ d.skel = t.skel ∧ d.firstLabels = asgOf tm0.ops t
  | [], _, w, _, p, sk, fl => ⟨w, p, sk, fl⟩
  | x :: rest, acc, w, ss, p, sk, fl =>
    have hsx : SameShape acc (singleTerm t x) :=
      (sameShape_iff_skel _ _).2 (sk.trans (singleAt_skel _ _ _ true t).symm)
    fold_fillable t tm0 rest _ (sumSD_WF_both.1 _ _ hsx w (singleAt_WF _ _ _ true t))
      (sumSD_sameShape _ _ _ hsx ss) (sumSD_populated_both.1 _ _ hsx true p (singleAt_populated _ _ _ true t))
      ((sumSD_skel_both.1 _ _ hsx).trans sk) ((sumSD_firstLabels_both.1 _ _ hsx true p).trans fl)

/-- What the tensor filling needs of the uncompressed diagram. -/
theorem base_fillable(t : RTree) (tm0 : Term) (rest : List Term) (d : SD)
    (h : baseDiagram t (tm0 :: rest) = some d) :
    d.WF ∧ Populated true d ∧ d.skel = t.skel ∧ d.firstLabels = asgOf tm0.ops t := by
  obtain rfl := Option.some.inj ((baseDiagram_eq t tm0 rest).symm.trans h)
  exact ⟨(baseAt_WF_both _).1 t true, (baseAt_populated_both tm0 rest).1 t true,
    (baseAt_skel_both _).1 t true, (baseAt_firstLabels_both tm0 rest).1 t true⟩

/-- The last term enters by one `sum_states`, whose denotation is known for any two well-formed diagrams
    on one tree (`denoteAt_sum`). -/
theorem denoteAt_baseAt_snoc (done : List Term) (x : Term) (r : Bool) (t : RTree) (pv : Option Nat) :
    denoteAt (baseAt (done ++ [x]) r t) pv =
      denoteAt (baseAt done r t) pv ++
        d2part (if r then 0 else done.length) (singleAt x.ops x.coef x.sym r t) pv := by
  rw [← (sumSD_baseAt_both done x).1, denoteAt_sum _ _ ((baseAt_WF_both done).1 t r) (singleAt_WF _ _ _ r t)
    ((sameShape_iff_skel _ _).2 (((baseAt_skel_both done).1 t r).trans (singleAt_skel _ _ _ r t).symm)),
    baseAt_nv]

theorem denote_baseAt (terms : List Term) (t : RTree) (k : Nat) (tm : Term) (hk : terms[k]? = some tm) :
    denoteAt (baseAt terms false t) (some k) = [⟨1, [], asgOf tm.ops t⟩] := by
  induction terms using snoc_induction generalizing k with
  | nil => cases hk
  | snoc done x ih =>
    have hs := denote_singleAt x.ops x.coef x.sym false t
    simp only [Bool.false_eq_true, if_false] at hs
    rw [denoteAt_baseAt_snoc]
    by_cases hlt : k < done.length
    · rw [List.getElem?_append_left hlt] at hk
      rw [ih k hk]
      simp [d2part, hlt]
    · have hlen := (List.getElem?_eq_some_iff.1 hk).1
      rw [List.length_append, List.length_singleton] at hlen
      obtain rfl : k = done.length := by omega
      rw [List.getElem?_concat_length] at hk
      obtain rfl := Option.some.inj hk
      rw [denoteAt_out_of_range _ ((baseAt_WF_both done).1 t false) _ (by rw [baseAt_nv]; exact Nat.le_refl _)]
      simp [d2part, hs]

theorem sdDenote_baseAt (t : RTree) (terms : List Term) :
    sdDenote (baseAt terms true t) = hamDenote t terms := by
  induction terms using snoc_induction with
  | nil => cases t; rw [baseAt_node, sdDenote, denoteAt_node]; rfl
  | snoc done x ih =>
    have hs := denote_singleAt x.ops x.coef x.sym true t
    simp only [if_true] at hs
    rw [sdDenote, denoteAt_baseAt_snoc, hamDenote, List.map_append, ← hamDenote, ← ih]
    simp only [d2part, hs, sdDenote, List.map_cons, List.map_nil, termMono]

end Ptn.C01
