import Ptn.C01.Model
import Ptn.C01.Lemmas
import Mathlib.Data.List.Perm.Basic
import Mathlib.Data.List.Nodup
/-! `from_state_diagram`: the contraction of the filled TTNO is the denotation of the diagram up to the order of
the summands (`contract_fill_both`), the filling succeeds on well-formed populated diagrams, and the result has
the diagram's skeleton, vertex counts as bonds and the first labels' dimensions.  Mathlib is used for `List.Perm`
and `List.Nodup`. -/
namespace Ptn.C01

open List

theorem entryAt_addAt (T : Cells) (q p : Pos) (x : Item) :
    entryAt (addAt T q x) p = entryAt T p ++ (if q = p then [x] else []) := by
  induction T with
  | nil =>
    simp only [addAt, entryAt]
    by_cases h : q = p <;> simp [h]
  | cons c rest ih =>
    obtain ⟨r, xs⟩ := c
    simp only [addAt]
    by_cases hrq : r = q
    · subst hrq
      simp only [if_true, entryAt]
      by_cases hp : r = p <;> simp [hp]
    · simp only [hrq, if_false, entryAt]
      by_cases hp : r = p
      · have hqp : ¬ q = p := fun h => hrq (hp.trans h.symm)
        simp [hp, hqp]
      · simp [hp, ih]

theorem entryAt_foldl (hes : List HE) (T0 : Cells) (p : Pos) :
    entryAt (hes.foldl (fun T h => addAt T (h.pv, h.kv) h.item) T0) p =
      entryAt T0 p ++ (hes.filter fun h => decide ((h.pv, h.kv) = p)).map HE.item := by
  induction hes generalizing T0 with
  | nil => simp
  | cons h hs ih =>
    rw [List.foldl_cons, ih, entryAt_addAt]
    by_cases hp : (h.pv, h.kv) = p <;> simp [hp]

theorem entryAt_fillCells (hes : List HE) (p : Pos) :
    entryAt (fillCells hes) p = (hes.filter fun h => decide ((h.pv, h.kv) = p)).map HE.item := by
  unfold fillCells
  rw [entryAt_foldl]
  rfl

theorem mem_allTuples (ns vs : List Nat) : vs ∈ allTuples ns ↔ kvIn vs ns = true := by
  induction ns generalizing vs with
  | nil => cases vs <;> simp [allTuples, kvIn]
  | cons n ns ih =>
    cases vs with
    | nil => simp [allTuples, kvIn]
    | cons v vs =>
      simp only [allTuples, List.mem_flatMap, List.mem_range, List.mem_map, kvIn, Bool.and_eq_true,
        decide_eq_true_eq]
      constructor
      · rintro ⟨a, ha, w, hw, hc⟩
        simp only [List.cons.injEq] at hc
        obtain ⟨rfl, rfl⟩ := hc
        exact ⟨ha, (ih w).1 hw⟩
      · rintro ⟨h1, h2⟩
        exact ⟨v, h1, vs, (ih vs).2 h2, rfl⟩

theorem nodup_allTuples (ns : List Nat) : (allTuples ns).Nodup := by
  induction ns with
  | nil => simp [allTuples]
  | cons n ns ih =>
    rw [allTuples, List.nodup_flatMap]
    constructor
    · intro v _
      exact ih.map (fun a b h => by simpa using h)
    · have hr : (List.range n).Nodup := List.nodup_range
      refine List.Pairwise.imp ?_ hr
      intro a b hab
      simp only [Function.onFun, List.disjoint_left, List.mem_map]
      rintro x ⟨w, _, rfl⟩ ⟨w', _, hc⟩
      simp only [List.cons.injEq] at hc
      exact hab hc.1.symm

theorem flatMap_filter_key_perm {α κ : Type} [DecidableEq κ] (key : α → κ) (l : List α) (K : List κ)
    (hK : K.Nodup) (hmem : ∀ x ∈ l, key x ∈ K) :
    (K.flatMap fun k => l.filter fun x => decide (key x = k)) ~ l := by
  induction l with
  | nil => simp
  | cons a l ih =>
    -- split the head `a` off every bucket: exactly one bucket receives it (`hone`), because `K` has no duplicates
    specialize ih fun x hx => hmem x (List.mem_cons_of_mem _ hx)
    have ha : key a ∈ K := hmem a List.mem_cons_self
    have hsplit : ∀ k, (a :: l).filter (fun x => decide (key x = k)) =
        (if key a = k then [a] else []) ++ l.filter (fun x => decide (key x = k)) := by
      intro k
      by_cases h : key a = k <;> simp [h]
    simp only [hsplit]
    refine (List.flatMap_append_perm K _ _).symm.trans ?_
    have hone : (K.flatMap fun k => if key a = k then [a] else []) = [a] := by
      clear hsplit ih hmem
      induction K with
      | nil => simp at ha
      | cons k ks ihk =>
        rw [List.nodup_cons] at hK
        rw [List.flatMap_cons]
        by_cases hk : key a = k
        · have : ∀ k' ∈ ks, (if key a = k' then [a] else []) = [] := by
            intro k' hk'
            have : ¬ key a = k' := by
              intro hc; apply hK.1; rw [← hk, hc]; exact hk'
            simp [this]
          rw [if_pos hk, List.flatMap_eq_nil_iff.2 this]
          rfl
        · rw [if_neg hk, List.nil_append]
          apply ihk hK.2
          rcases List.mem_cons.1 ha with h | h
          · exact absurd h hk
          · exact h
    rw [hone]
    exact List.Perm.cons a ih

theorem FSum.mul_perm {a a' b b' : FSum} (ha : a ~ a') (hb : b ~ b') : FSum.mul a b ~ FSum.mul a' b' := by
  unfold FSum.mul
  refine (List.Perm.flatMap_right _ ha).trans ?_
  exact List.Perm.flatMap_left _ (fun x _ => hb.map _)

theorem attachItem_item (i : Nat) (h : HE) : attachItem i h.item = attach i h := by
  funext m; simp [attachItem, attach, HE.item]

theorem TTNO.both {P : TTNO → Prop} {Q : List TTNO → Prop}
    (node : ∀ i pb ph cells kids, Q kids → P (.node i pb ph cells kids)) (nil : Q [])
    (cons : ∀ k ks, P k → Q ks → Q (k :: ks)) : (∀ T, P T) ∧ ∀ ks, Q ks :=
  ⟨fun T => TTNO.rec node nil cons T, fun ks => TTNO.rec_1 node nil cons ks⟩

theorem contractAt_node (i : Nat) (pb : Option Nat) (ph : Nat) (cells : Cells) (kids : List TTNO)
    (pv : Option Nat) :
    contractAt (.node i pb ph cells kids) pv =
      (allTuples (contractBonds kids)).flatMap fun kv =>
        (entryAt cells (pv, kv)).flatMap fun it => (contractKids kids kv).map (attachItem i it) := by
  rw [contractAt]

theorem contractKids_nil : contractKids [] [] = [Mono.one] := by rw [contractKids]
theorem contractKids_cons (k : TTNO) (ks : List TTNO) (v : Nat) (vs : List Nat) :
    contractKids (k :: ks) (v :: vs) = FSum.mul (contractAt k (some v)) (contractKids ks vs) := by
  rw [contractKids]
theorem contractKids_nil_cons (v : Nat) (vs : List Nat) : contractKids [] (v :: vs) = [] := by
  rw [contractKids]
theorem contractKids_cons_nil (k : TTNO) (ks : List TTNO) : contractKids (k :: ks) [] = [] := by
  rw [contractKids]
theorem contractBonds_cons (k : TTNO) (ks : List TTNO) :
    contractBonds (k :: ks) = k.bond :: contractBonds ks := by rw [contractBonds]
theorem contractBonds_nil : contractBonds [] = [] := by rw [contractBonds]

theorem fillKids_nil (dimOf : String → Nat) : fillKids dimOf [] = some [] := by rw [fillKids]

theorem fillAt_some (dimOf : String → Nat) (r : Bool) (i nv : Nat) (hes : List HE) (kids : List SD)
    (T : TTNO) (h : fillAt dimOf r (.node i nv hes kids) = some T) :
    ∃ h0 rest ks, hes = h0 :: rest ∧ fillKids dimOf kids = some ks ∧
      hes.all (inShape (if r then none else some nv) (kids.map SD.nv)) = true ∧
      T = .node i (if r then none else some nv) (dimOf h0.label) (fillCells hes) ks := by
  rw [fillAt] at h
  cases hk : fillKids dimOf kids with
  | none => simp [hk] at h
  | some ks =>
    simp only [hk] at h
    cases hes with
    | nil => simp at h
    | cons h0 rest =>
      simp only at h
      by_cases hall : (h0 :: rest).all (inShape (if r then none else some nv) (kids.map SD.nv)) = true
      · rw [if_pos hall] at h
        exact ⟨h0, rest, ks, rfl, rfl, hall, (Option.some.inj h).symm⟩
      · rw [if_neg hall] at h
        simp at h

theorem fillKids_some (dimOf : String → Nat) (k : SD) (kids : List SD) (ks : List TTNO)
    (h : fillKids dimOf (k :: kids) = some ks) :
    ∃ a as, fillAt dimOf false k = some a ∧ fillKids dimOf kids = some as ∧ ks = a :: as := by
  rw [fillKids] at h
  cases ha : fillAt dimOf false k with
  | none => simp [ha] at h
  | some a =>
    cases hb : fillKids dimOf kids with
    | none => simp [ha, hb] at h
    | some as =>
      simp only [ha, hb, Option.some.injEq] at h
      exact ⟨a, as, rfl, rfl, h.symm⟩

theorem fillAt_bond (dimOf : String → Nat) (d : SD) (T : TTNO) (h : fillAt dimOf false d = some T) :
    T.bond = d.nv := by
  cases d with
  | node i nv hes kids =>
    obtain ⟨h0, rest, ks, _, _, _, rfl⟩ := fillAt_some dimOf false i nv hes kids T h
    simp [TTNO.bond, SD.nv]

theorem fillKids_contractBonds (dimOf : String → Nat) (kids : List SD) (ks : List TTNO)
    (h : fillKids dimOf kids = some ks) : contractBonds ks = kids.map SD.nv := by
  induction kids generalizing ks with
  | nil =>
    rw [fillKids_nil] at h
    cases h
    rw [contractBonds_nil]; rfl
  | cons k kids ih =>
    obtain ⟨a, as, ha, hb, rfl⟩ := fillKids_some dimOf k kids ks h
    rw [contractBonds_cons, fillAt_bond dimOf k a ha, ih as hb]
    rfl

/-- The contraction runs over index tuples, the denotation over hyperedges: a hyperedge contributes at the tuple
    `kv` it names, and partitioning the hyperedges of a node by that tuple (`flatMap_filter_key_perm`, every tuple
    inside the bonds by `inShape`) gives the same summands in another order. -/
theorem contract_fill_both (dimOf : String → Nat) :
    (∀ (d : SD) (r : Bool) (T : TTNO), fillAt dimOf r d = some T →
      ∀ pv : Option Nat, contractAt T pv ~ denoteAt d pv) ∧
    ∀ (kids : List SD) (ks : List TTNO), fillKids dimOf kids = some ks →
      ∀ vs : List Nat, contractKids ks vs ~ denoteKids kids vs := by
  apply SD.both
  · intro i nv hes kids ihk r T hT pv
    obtain ⟨h0, rest, ks, _, hks, hall, rfl⟩ := fillAt_some dimOf r i nv hes kids T hT
    have ihk := ihk ks hks
    rw [contractAt_node, denoteAt_node, fillKids_contractBonds dimOf kids ks hks]
    simp only [entryAt_fillCells, List.flatMap_map, attachItem_item]
    have step1 : ((allTuples (kids.map SD.nv)).flatMap fun kv =>
          (hes.filter fun h => decide ((h.pv, h.kv) = (pv, kv))).flatMap fun h =>
            (contractKids ks kv).map (attach i h)) ~
        ((allTuples (kids.map SD.nv)).flatMap fun kv =>
          (hes.filter fun h => decide ((h.pv, h.kv) = (pv, kv))).flatMap fun h =>
            (denoteKids kids h.kv).map (attach i h)) := by
      apply List.Perm.flatMap_left
      intro kv _
      apply List.Perm.flatMap_left
      intro h hh
      have hkv : h.kv = kv := by
        have := (List.mem_filter.1 hh).2
        simp only [decide_eq_true_eq, Prod.mk.injEq] at this
        exact this.2
      rw [hkv]
      exact (ihk kv).map _
    refine step1.trans ?_
    -- regroup: first filter on the parent index, then partition by the child indices
    have hfil : ∀ kv, (hes.filter fun h => decide ((h.pv, h.kv) = (pv, kv))) =
        ((hes.filter fun h => decide (h.pv = pv)).filter fun h => decide (h.kv = kv)) := by
      intro kv
      rw [List.filter_filter]
      apply List.filter_congr
      intro h _
      by_cases h1 : h.pv = pv <;> by_cases h2 : h.kv = kv <;> simp [h1, h2]
    simp only [hfil]
    rw [flatMap_ite_eq_filter hes (fun h => h.pv = pv)
      (fun h => (denoteKids kids h.kv).map (attach i h))]
    rw [← List.flatMap_assoc]
    apply List.Perm.flatMap_right
    apply flatMap_filter_key_perm (fun h : HE => h.kv) _ _ (nodup_allTuples _)
    intro h hh
    have hmem := (List.mem_filter.1 hh).1
    have hin := List.all_eq_true.1 hall h hmem
    simp only [inShape, Bool.and_eq_true] at hin
    rw [mem_allTuples]
    exact hin.2
  · intro ks h vs
    rw [fillKids_nil] at h
    cases h
    cases vs with
    | nil => rw [contractKids_nil, denoteKids_nil]
    | cons v vs => rw [contractKids_nil_cons, denoteKids_nil_cons]
  · intro k kids ih1 ih2 ks h vs
    obtain ⟨a, as, ha, hb, rfl⟩ := fillKids_some dimOf k kids ks h
    cases vs with
    | nil => rw [contractKids_cons_nil, denoteKids_cons_nil]
    | cons v vs =>
      rw [contractKids_cons, denoteKids_cons]
      exact FSum.mul_perm (ih1 false a ha (some v)) (ih2 as hb vs)

theorem contract_fill_perm (dimOf : String → Nat) : ∀ (d : SD) (r : Bool) (T : TTNO),
    fillAt dimOf r d = some T → ∀ pv : Option Nat, contractAt T pv ~ denoteAt d pv :=
  (contract_fill_both dimOf).1

theorem contractKids_fill_perm (dimOf : String → Nat) : ∀ (kids : List SD) (ks : List TTNO),
    fillKids dimOf kids = some ks → ∀ vs : List Nat, contractKids ks vs ~ denoteKids kids vs :=
  (contract_fill_both dimOf).2

theorem sumCoef_perm {l l' : List Mono} (h : l ~ l') :
    l.foldr (fun x acc => x.coef + acc) (0 : Rat) = l'.foldr (fun x acc => x.coef + acc) 0 := by
  induction h with
  | nil => rfl
  | cons y _ ih => simp only [List.foldr_cons, ih]
  | swap y z l =>
    simp only [List.foldr_cons]
    rw [← Rat.add_assoc, ← Rat.add_assoc, Rat.add_comm z.coef y.coef]
  | trans _ _ ih1 ih2 => exact ih1.trans ih2

theorem coeffOf_perm {a b : FSum} (h : a ~ b) (x : List (Nat × String)) (m : List String) :
    coeffOf a x m = coeffOf b x m := by
  unfold coeffOf
  exact sumCoef_perm (h.filter _)

theorem kvIn_of_kvOk (vs : List Nat) (kids : List SD) (h : kvOk vs kids) :
    kvIn vs (kids.map SD.nv) = true := by
  induction vs generalizing kids with
  | nil =>
    cases kids with
    | nil => rfl
    | cons _ _ => exact h.elim
  | cons v vs ih =>
    cases kids with
    | nil => exact h.elim
    | cons k ks =>
      rw [kvOk_cons] at h
      simp [kvIn, h.1, ih ks h.2]

theorem fill_defined_both (dimOf : String → Nat) :
    (∀ (d : SD) (r : Bool), d.WF → Populated r d → ∃ T, fillAt dimOf r d = some T) ∧
    ∀ kids : List SD, WFKids kids → PopulatedKids kids → ∃ ks, fillKids dimOf kids = some ks := by
  apply SD.both
  · intro i nv hes kids ih r w pop
    rw [SD.WF_node] at w
    rw [Populated_node] at pop
    obtain ⟨ks, hks⟩ := ih w.2 pop.2.2
    rw [fillAt, hks]
    cases hes with
    | nil => exact absurd rfl pop.1
    | cons h0 rest =>
      have hall : (h0 :: rest).all (inShape (if r then none else some nv) (kids.map SD.nv)) = true := by
        rw [List.all_eq_true]
        intro h hh
        have hw := w.1 h hh
        have hp := pop.2.1 h hh
        simp only [inShape, Bool.and_eq_true]
        refine ⟨?_, kvIn_of_kvOk _ _ hw.2⟩
        cases r with
        | true =>
          cases hpv : h.pv with
          | none => simp [pvIn]
          | some p => rw [hpv] at hp; simp at hp
        | false =>
          cases hpv : h.pv with
          | none => rw [hpv] at hp; simp at hp
          | some p => simp [pvIn, hw.1 p hpv]
      simp only [hall, if_true]
      exact ⟨_, rfl⟩
  · exact fun _ _ => ⟨[], fillKids_nil dimOf⟩
  · intro k kids ih1 ih2 w pop
    rw [WFKids_cons] at w
    rw [PopulatedKids_cons] at pop
    obtain ⟨a, ha⟩ := ih1 false w.1 pop.1
    obtain ⟨as, has⟩ := ih2 w.2 pop.2
    exact ⟨a :: as, by rw [fillKids, ha, has]⟩

theorem fill_defined_aux (dimOf : String → Nat) : ∀ (d : SD) (r : Bool), d.WF → Populated r d →
    ∃ T, fillAt dimOf r d = some T :=
  (fill_defined_both dimOf).1

theorem fillKids_defined_aux (dimOf : String → Nat) : ∀ (kids : List SD), WFKids kids →
    PopulatedKids kids → ∃ ks, fillKids dimOf kids = some ks :=
  (fill_defined_both dimOf).2

theorem fill_skel_both (dimOf : String → Nat) :
    (∀ (d : SD) (r : Bool) (T : TTNO), fillAt dimOf r d = some T → T.skel = d.skel) ∧
    ∀ (kids : List SD) (ks : List TTNO), fillKids dimOf kids = some ks →
      TTNO.skelKids ks = SD.skelKids kids := by
  apply SD.both
  · intro i nv hes kids ih r T h
    obtain ⟨h0, rest, ks, _, hks, _, rfl⟩ := fillAt_some dimOf r i nv hes kids T h
    rw [TTNO.skel, SD.skel, ih ks hks]
  · intro ks h
    rw [fillKids_nil] at h; cases h
    rw [TTNO.skelKids, SD.skelKids]
  · intro k kids ih1 ih2 ks h
    obtain ⟨a, as, ha, hb, rfl⟩ := fillKids_some dimOf k kids ks h
    rw [TTNO.skelKids, SD.skelKids, ih1 false a ha, ih2 as hb]

theorem fill_skel (dimOf : String → Nat) : ∀ (d : SD) (r : Bool) (T : TTNO),
    fillAt dimOf r d = some T → T.skel = d.skel :=
  (fill_skel_both dimOf).1

theorem fillKids_skel (dimOf : String → Nat) : ∀ (kids : List SD) (ks : List TTNO),
    fillKids dimOf kids = some ks → TTNO.skelKids ks = SD.skelKids kids :=
  (fill_skel_both dimOf).2

theorem fillAt_id (dimOf : String → Nat) (d : SD) (r : Bool) (T : TTNO)
    (h : fillAt dimOf r d = some T) : T.id = d.id := by
  cases d with
  | node i nv hes kids =>
    obtain ⟨h0, rest, ks, _, _, _, rfl⟩ := fillAt_some dimOf r i nv hes kids T h
    rfl

theorem fill_bonds_both (dimOf : String → Nat) :
    (∀ (d : SD) (r : Bool) (T : TTNO), fillAt dimOf r d = some T → T.bondsBelow = bondsBelow d) ∧
    ∀ (kids : List SD) (ks : List TTNO), fillKids dimOf kids = some ks →
      TTNO.bondsKids ks = bondsKids kids := by
  apply SD.both
  · intro i nv hes kids ih r T h
    obtain ⟨h0, rest, ks, _, hks, _, rfl⟩ := fillAt_some dimOf r i nv hes kids T h
    rw [TTNO.bondsBelow, bondsBelow, ih ks hks]
  · intro ks h
    rw [fillKids_nil] at h; cases h
    rw [TTNO.bondsKids, bondsKids]
  · intro k kids ih1 ih2 ks h
    obtain ⟨a, as, ha, hb, rfl⟩ := fillKids_some dimOf k kids ks h
    rw [TTNO.bondsKids, bondsKids, ih1 false a ha, ih2 as hb, fillAt_id dimOf k false a ha,
      fillAt_bond dimOf k a ha]

theorem fill_bonds (dimOf : String → Nat) : ∀ (d : SD) (r : Bool) (T : TTNO),
    fillAt dimOf r d = some T → T.bondsBelow = bondsBelow d :=
  (fill_bonds_both dimOf).1

theorem fillKids_bondsList (dimOf : String → Nat) : ∀ (kids : List SD) (ks : List TTNO),
    fillKids dimOf kids = some ks → TTNO.bondsKids ks = bondsKids kids :=
  (fill_bonds_both dimOf).2

theorem fill_phys_both (dimOf : String → Nat) :
    (∀ (d : SD) (r : Bool) (T : TTNO), fillAt dimOf r d = some T →
      T.physDims = d.firstLabels.map fun p => (p.1, dimOf p.2)) ∧
    ∀ (kids : List SD) (ks : List TTNO), fillKids dimOf kids = some ks →
      TTNO.physKids ks = (SD.firstLabelsKids kids).map fun p => (p.1, dimOf p.2) := by
  apply SD.both
  · intro i nv hes kids ih r T h
    obtain ⟨h0, rest, ks, hhes, hks, _, rfl⟩ := fillAt_some dimOf r i nv hes kids T h
    subst hhes
    rw [TTNO.physDims, SD.firstLabels, ih ks hks]
    rfl
  · intro ks h
    rw [fillKids_nil] at h; cases h
    rw [TTNO.physKids, SD.firstLabelsKids]; rfl
  · intro k kids ih1 ih2 ks h
    obtain ⟨a, as, ha, hb, rfl⟩ := fillKids_some dimOf k kids ks h
    rw [TTNO.physKids, SD.firstLabelsKids, ih1 false a ha, ih2 as hb, List.map_append]

theorem fill_phys (dimOf : String → Nat) : ∀ (d : SD) (r : Bool) (T : TTNO),
    fillAt dimOf r d = some T → T.physDims = d.firstLabels.map fun p => (p.1, dimOf p.2) :=
  (fill_phys_both dimOf).1

theorem fillKids_phys (dimOf : String → Nat) : ∀ (kids : List SD) (ks : List TTNO),
    fillKids dimOf kids = some ks →
      TTNO.physKids ks = (SD.firstLabelsKids kids).map fun p => (p.1, dimOf p.2) :=
  (fill_phys_both dimOf).2

end Ptn.C01
