/-! Model for property C01: state diagrams of `pytreenet/ttno` as pure data, their denotation as a
formal operator sum, and functional ports of

* `TensorProduct.pad_with_identities` / `Hamiltonian.pad_with_identities`          ↔ `padLabel`
* `SingleTermDiagram.from_single_term` (`_from_single_term_rec`)                    ↔ `singleAt`
* `StateDiagram.sum_states`                                                         ↔ `sumSD`
* `StateDiagram.get_state_diagram_compound` / `from_hamiltonian_base` (method BASE) ↔ `baseDiagram`
* `VertexColl.index_vertices` + `obtain_tensor_shape` (bond = number of vertices)   ↔ `bondDims`

Core Lean only.

A state diagram lives on the reference tree: the Python dictionaries `hyperedge_colls[node_id]` and
`vertex_colls[(parent, child)]` are decorations of the tree's nodes and edges (node identifiers are
unique dictionary keys).  A vertex is identified by its position in the ordered collection of its edge
(this is exactly the index `index_vertices` assigns and the only thing `from_state_diagram` reads); a
hyperedge names one vertex per incident edge: `pv` toward the parent (absent at the root) and `kv`
toward the children in reference order.  Python identifies vertices by object identity; concatenating
two collections (`sum_states`) therefore shifts the positions of the second summand - `shiftHE`. -/
namespace Ptn.C01

/-- Reference tree: identifier, dimension of the operator space of the site (open dimension, 1 if the
    node has no open leg), children in reference order. -/
inductive RTree where
  | node (id : Nat) (dim : Nat) (kids : List RTree)
deriving Repr

def RTree.id : RTree → Nat
  | .node i _ _ => i

def RTree.kids : RTree → List RTree
  | .node _ _ ks => ks

/-- One Hamiltonian term: rational prefactor, symbol (`"1"` = no symbol), operator labels per site. -/
structure Term where
  coef : Rat
  sym : String
  ops : List (Nat × String)
deriving Repr

/-- `pad_with_identities(symbolic=True)`: the label of site `i` (of dimension `dim`) in the padded term. -/
def padLabel (ops : List (Nat × String)) (i dim : Nat) : String :=
  match ops.lookup i with
  | some l => l
  | none => "I" ++ toString dim

/-- A hyperedge: label, rational factor λ, symbolic factor γ, vertex toward the parent, vertices toward
    the children (reference order). -/
structure HE where
  label : String
  lam : Rat
  gam : String
  pv : Option Nat
  kv : List Nat
deriving Repr, DecidableEq

/-- A state diagram on a tree: per node its identifier, the number of vertices on the edge to its
    parent (the ordered vertex collection is `[0, …, nv-1]`; 0 at the root), the ordered list of its
    hyperedges, and the diagrams of the children. -/
inductive SD where
  | node (id : Nat) (nv : Nat) (hes : List HE) (kids : List SD)
deriving Repr

def SD.id : SD → Nat
  | .node i _ _ _ => i
def SD.nv : SD → Nat
  | .node _ n _ _ => n
def SD.hes : SD → List HE
  | .node _ _ h _ => h
def SD.kids : SD → List SD
  | .node _ _ _ ks => ks

/-! ### Formal operator sums -/

/-- One summand: rational coefficient × product of symbols × label assignment (site ↦ label). -/
structure Mono where
  coef : Rat
  syms : List String
  asg : List (Nat × String)
deriving Repr, DecidableEq

/-- A formal sum, as the list of its summands.  The finitely supported map
    (assignment, monomial) ↦ coefficient it stands for is `coeffOf`. -/
abbrev FSum := List Mono

/-- Sorted insertion of a symbol into a monomial (`"1"` is the empty product). -/
def insSym (s : String) : List String → List String
  | [] => [s]
  | t :: ts => if s ≤ t then s :: t :: ts else t :: insSym s ts

def symMono (g : String) : List String := if g = "1" then [] else [g]

def mulSyms (a b : List String) : List String := a.foldr insSym b

def Mono.one : Mono := ⟨1, [], []⟩

def Mono.mul (x y : Mono) : Mono := ⟨x.coef * y.coef, mulSyms x.syms y.syms, x.asg ++ y.asg⟩

def FSum.mul (a b : FSum) : FSum := a.flatMap fun x => b.map fun y => x.mul y

/-- The summand contributed by hyperedge `h` of node `i`, times a summand of the subtrees below. -/
def attach (i : Nat) (h : HE) (m : Mono) : Mono :=
  ⟨h.lam * m.coef, mulSyms (symMono h.gam) m.syms, (i, h.label) :: m.asg⟩

/-- Coefficient of (assignment `a`, monomial `m`) in a formal sum: the finitely supported map. -/
def coeffOf (fs : FSum) (a : List (Nat × String)) (m : List String) : Rat :=
  (fs.filter fun x => x.asg = a ∧ x.syms = m).foldr (fun x acc => x.coef + acc) 0

/-! ### Denotation -/

mutual
/-- Sum over all choices of one hyperedge per node of the subtree that agree on every vertex, given
    the vertex `pv` chosen on the edge to the parent (`none` at the root): product of the λ's and γ's
    times the label assignment.  (Distributivity turns the sum over global choices into this
    node-by-node form: the choices below different children are independent once the hyperedge of
    the node is fixed.) -/
def denoteAt : SD → Option Nat → FSum
  | .node i _ hes kids, pv =>
    hes.flatMap fun h => if h.pv = pv then (denoteKids kids h.kv).map (attach i h) else []
/-- Product over the children; a hyperedge that does not name exactly one vertex per child edge is
    malformed and contributes nothing. -/
def denoteKids : List SD → List Nat → FSum
  | [], [] => [Mono.one]
  | k :: ks, v :: vs => FSum.mul (denoteAt k (some v)) (denoteKids ks vs)
  | [], _ :: _ => []
  | _ :: _, [] => []
end

/-- The formal operator denoted by a state diagram. -/
def sdDenote (d : SD) : FSum := denoteAt d none

/-! The same denotation written out as the explicit sum over *all* global choices of one hyperedge
per node, keeping those that agree on every vertex (`sdDenoteEnum`; equality with `sdDenote` is
theorem `denote_eq_sum_over_choices`). -/

/-- A choice of one hyperedge for every node of a (sub)tree. -/
inductive Choice where
  | node (h : HE) (kids : List Choice)

mutual
/-- All choices: any hyperedge of the node, any choices below the children. -/
def choices : SD → List Choice
  | .node _ _ hes kids => hes.flatMap fun h => (choicesKids kids).map (Choice.node h)
def choicesKids : List SD → List (List Choice)
  | [] => [[]]
  | k :: ks => (choices k).flatMap fun c => (choicesKids ks).map (c :: ·)
end

mutual
/-- The chosen hyperedges agree on every vertex: the hyperedge of the node sits on vertex `pv` of the
    parent edge and each child's hyperedge sits on the vertex the node's hyperedge names. -/
def consistent : Choice → Option Nat → Bool
  | .node h cs, pv => decide (h.pv = pv) && consistentKids cs h.kv
def consistentKids : List Choice → List Nat → Bool
  | [], [] => true
  | c :: cs, v :: vs => consistent c (some v) && consistentKids cs vs
  | [], _ :: _ => false
  | _ :: _, [] => false
end

mutual
/-- Weight and label assignment of a choice: product of all λ, all γ, and the chosen labels. -/
def monoOf : SD → Choice → Mono
  | .node i _ _ kids, .node h cs => attach i h (monoKids kids cs)
def monoKids : List SD → List Choice → Mono
  | k :: ks, c :: cs => (monoOf k c).mul (monoKids ks cs)
  | [], _ => Mono.one
  | _ :: _, [] => Mono.one
end

def sdDenoteEnum (d : SD) : FSum := ((choices d).filter (consistent · none)).map (monoOf d)

/-! ### `SingleTermDiagram.from_single_term` -/

mutual
/-- `_from_single_term_rec`: one hyperedge per node, labelled by the (padded) term, one vertex per
    edge; the coefficient pair sits on the root hyperedge only, every other hyperedge carries the
    default `(Fraction(1), "1")`. -/
def singleAt (ops : List (Nat × String)) (coef : Rat) (sym : String) (isRoot : Bool) : RTree → SD
  | .node i dim kids =>
    .node i (if isRoot then 0 else 1)
      [{ label := padLabel ops i dim,
         lam := if isRoot then coef else 1,
         gam := if isRoot then sym else "1",
         pv := if isRoot then none else some 0,
         kv := kids.map fun _ => 0 }]
      (singleKids ops coef sym kids)
def singleKids (ops : List (Nat × String)) (coef : Rat) (sym : String) : List RTree → List SD
  | [] => []
  | k :: ks => singleAt ops coef sym false k :: singleKids ops coef sym ks
end

def singleTerm (t : RTree) (tm : Term) : SD := singleAt tm.ops tm.coef tm.sym true t

/-! ### `StateDiagram.sum_states` -/

/-- Positions of the second summand's vertices after concatenating the collections. -/
def shiftHE (np : Nat) (nk : List Nat) (h : HE) : HE :=
  { h with pv := h.pv.map (· + np), kv := List.zipWith (· + ·) h.kv nk }

mutual
/-- `sum_states`: per node the hyperedge lists are concatenated, per edge the vertex lists. -/
def sumSD : SD → SD → SD
  | .node i n1 h1 k1, .node _ n2 h2 k2 =>
    .node i (n1 + n2) (h1 ++ h2.map (shiftHE n1 (k1.map SD.nv))) (sumKids k1 k2)
def sumKids : List SD → List SD → List SD
  | a :: as, b :: bs => sumSD a b :: sumKids as bs
  | as, [] => as
  | [], bs => bs
end

/-- `get_state_diagram_compound` after `get_state_diagrams`: left fold of `sum_states` over the
    single-term diagrams; `none` for an empty Hamiltonian (Python returns `None`). -/
def baseDiagram (t : RTree) : List Term → Option SD
  | [] => none
  | tm :: rest => some (rest.foldl (fun acc x => sumSD acc (singleTerm t x)) (singleTerm t tm))

/-! ### What the Hamiltonian itself denotes -/

mutual
/-- The padded label assignment of a term, in the preorder of the tree. -/
def asgOf (ops : List (Nat × String)) : RTree → List (Nat × String)
  | .node i dim kids => (i, padLabel ops i dim) :: asgKids ops kids
def asgKids (ops : List (Nat × String)) : List RTree → List (Nat × String)
  | [] => []
  | k :: ks => asgOf ops k ++ asgKids ops ks
end

def termMono (t : RTree) (tm : Term) : Mono := ⟨tm.coef, symMono tm.sym, asgOf tm.ops t⟩

/-- Σ_k c_k ⊗_sites A_k as a formal sum. -/
def hamDenote (t : RTree) (terms : List Term) : FSum := terms.map (termMono t)

/-! ### Bond dimensions (`index_vertices`, `obtain_tensor_shape`) -/

mutual
/-- (child identifier, number of vertices on the edge parent–child) for every edge below `d`. -/
def bondsBelow : SD → List (Nat × Nat)
  | .node _ _ _ kids => bondsKids kids
def bondsKids : List SD → List (Nat × Nat)
  | [] => []
  | k :: ks => (k.id, k.nv) :: (bondsBelow k ++ bondsKids ks)
end

/-- Bond dimension of every edge of the TTNO filled from the diagram, keyed by the child. -/
def bondDims (d : SD) : List (Nat × Nat) := bondsBelow d

mutual
def RTree.edgesBelow : RTree → List Nat
  | .node _ _ kids => RTree.edgesKids kids
def RTree.edgesKids : List RTree → List Nat
  | [] => []
  | k :: ks => k.id :: (RTree.edgesBelow k ++ RTree.edgesKids ks)
end

mutual
def RTree.ids : RTree → List Nat
  | .node i _ kids => i :: RTree.idsKids kids
def RTree.idsKids : List RTree → List Nat
  | [] => []
  | k :: ks => RTree.ids k ++ RTree.idsKids ks
end

/-! ### `TreeTensorNetworkOperator.from_state_diagram` (tensor filling) and the contraction of a TTNO

`obtain_tensor_shape`: one bond index per vertex of each incident edge (parent first, children in
reference order), physical dimension from the operator table (`dimOf` of the first hyperedge's label).
`find_tensor_position`: the position of a hyperedge is the tuple of the indices of its vertices in the
collections of the incident edges - in the model a vertex *is* that index, so the position is `(pv, kv)`.
The operator `λ · γ · label` is ADDED at that position (`+=`): a cell holds the list of all contributions. -/

/-- One contribution to a tensor entry: `lam · gam · (operator of label)`. -/
structure Item where
  lam : Rat
  gam : String
  label : String
deriving Repr, DecidableEq

/-- Position in a node tensor: index on the parent leg (absent at the root), indices on the child legs. -/
abbrev Pos := Option Nat × List Nat

/-- The non-zero cells of a tensor (finitely supported map position ↦ formal operator sum). -/
abbrev Cells := List (Pos × List Item)

/-- `tensor[position] += item`. -/
def addAt : Cells → Pos → Item → Cells
  | [], p, x => [(p, [x])]
  | (q, xs) :: rest, p, x => if q = p then (q, xs ++ [x]) :: rest else (q, xs) :: addAt rest p x

/-- `tensor[position]` (the empty sum where nothing was written). -/
def entryAt : Cells → Pos → List Item
  | [], _ => []
  | (q, xs) :: rest, p => if q = p then xs else entryAt rest p

def HE.item (h : HE) : Item := ⟨h.lam, h.gam, h.label⟩

/-- The loop `for he in hyperedges: tensor[position(he)] += operator(he)` over one node. -/
def fillCells (hes : List HE) : Cells :=
  hes.foldl (fun T h => addAt T (h.pv, h.kv) h.item) []

def kvIn : List Nat → List Nat → Bool
  | [], [] => true
  | v :: vs, n :: ns => decide (v < n) && kvIn vs ns
  | [], _ :: _ => false
  | _ :: _, [] => false

def pvIn : Option Nat → Option Nat → Bool
  | none, none => true
  | some p, some n => decide (p < n)
  | none, some _ => false
  | some _, none => false

/-- The position of a hyperedge lies inside the allocated tensor: parent index below the parent bond
    (no parent index at the root), exactly one index per child leg, each below that leg's bond.
    (Otherwise NumPy raises `IndexError`.) -/
def inShape (pb : Option Nat) (kb : List Nat) (h : HE) : Bool := pvIn h.pv pb && kvIn h.kv kb

/-- A tree tensor network operator: identifier, bond to the parent (`none` at the root), physical
    dimension, the non-zero cells of the node tensor, children in reference order. -/
inductive TTNO where
  | node (id : Nat) (pbond : Option Nat) (phys : Nat) (cells : Cells) (kids : List TTNO)
deriving Repr

def TTNO.id : TTNO → Nat
  | .node i _ _ _ _ => i
def TTNO.bond : TTNO → Nat
  | .node _ pb _ _ _ => pb.getD 0
def TTNO.kids : TTNO → List TTNO
  | .node _ _ _ _ ks => ks

mutual
/-- `from_state_diagram`: `none` where the Python code raises (a node without hyperedge has no shape,
    a position outside the tensor is an `IndexError`). -/
def fillAt (dimOf : String → Nat) (isRoot : Bool) : SD → Option TTNO
  | .node i nv hes kids =>
    match fillKids dimOf kids with
    | none => none
    | some ks =>
      match hes with
      | [] => none
      | h0 :: _ =>
        if hes.all (inShape (if isRoot then none else some nv) (kids.map SD.nv)) then
          some (.node i (if isRoot then none else some nv) (dimOf h0.label) (fillCells hes) ks)
        else none
def fillKids (dimOf : String → Nat) : List SD → Option (List TTNO)
  | [] => some []
  | k :: ks =>
    match fillAt dimOf false k with
    | none => none
    | some a =>
      match fillKids dimOf ks with
      | none => none
      | some as => some (a :: as)
end

def fillTTNO (dimOf : String → Nat) (d : SD) : Option TTNO := fillAt dimOf true d

/-- All index tuples below the given bond dimensions (lexicographic). -/
def allTuples : List Nat → List (List Nat)
  | [] => [[]]
  | n :: ns => (List.range n).flatMap fun v => (allTuples ns).map (v :: ·)

def attachItem (i : Nat) (it : Item) (m : Mono) : Mono :=
  ⟨it.lam * m.coef, mulSyms (symMono it.gam) m.syms, (i, it.label) :: m.asg⟩

mutual
/-- Contraction of the subtree below a node, for a fixed index `pv` on the leg to its parent: sum over
    ALL index tuples of the child legs of (entry at that position) ⊗ (contractions of the children at
    those indices). -/
def contractAt : TTNO → Option Nat → FSum
  | .node i _ _ cells kids, pv =>
    (allTuples (contractBonds kids)).flatMap fun kv =>
      (entryAt cells (pv, kv)).flatMap fun it => (contractKids kids kv).map (attachItem i it)
def contractKids : List TTNO → List Nat → FSum
  | [], [] => [Mono.one]
  | k :: ks, v :: vs => FSum.mul (contractAt k (some v)) (contractKids ks vs)
  | [], _ :: _ => []
  | _ :: _, [] => []
def contractBonds : List TTNO → List Nat
  | [] => []
  | k :: ks => k.bond :: contractBonds ks
end

/-- The formal operator a TTNO contracts to: sum over all assignments of one index to every edge. -/
def ttnoContract (T : TTNO) : FSum := contractAt T none

/-- Identifiers and parent/child relations. -/
inductive Skel where
  | node (id : Nat) (kids : List Skel)
deriving Repr

mutual
def RTree.skel : RTree → Skel
  | .node i _ kids => .node i (RTree.skelKids kids)
def RTree.skelKids : List RTree → List Skel
  | [] => []
  | k :: ks => k.skel :: RTree.skelKids ks
end
mutual
def SD.skel : SD → Skel
  | .node i _ _ kids => .node i (SD.skelKids kids)
def SD.skelKids : List SD → List Skel
  | [] => []
  | k :: ks => k.skel :: SD.skelKids ks
end
mutual
def TTNO.skel : TTNO → Skel
  | .node i _ _ _ kids => .node i (TTNO.skelKids kids)
def TTNO.skelKids : List TTNO → List Skel
  | [] => []
  | k :: ks => k.skel :: TTNO.skelKids ks
end

mutual
/-- (child identifier, bond dimension) of every edge of a TTNO. -/
def TTNO.bondsBelow : TTNO → List (Nat × Nat)
  | .node _ _ _ _ kids => TTNO.bondsKids kids
def TTNO.bondsKids : List TTNO → List (Nat × Nat)
  | [] => []
  | k :: ks => (k.id, k.bond) :: (TTNO.bondsBelow k ++ TTNO.bondsKids ks)
end

mutual
/-- (identifier, physical dimension) of every node (preorder). -/
def TTNO.physDims : TTNO → List (Nat × Nat)
  | .node i _ ph _ kids => (i, ph) :: TTNO.physKids kids
def TTNO.physKids : List TTNO → List (Nat × Nat)
  | [] => []
  | k :: ks => TTNO.physDims k ++ TTNO.physKids ks
end

mutual
def RTree.dimsOf : RTree → List (Nat × Nat)
  | .node i dim kids => (i, dim) :: RTree.dimsKids kids
def RTree.dimsKids : List RTree → List (Nat × Nat)
  | [] => []
  | k :: ks => RTree.dimsOf k ++ RTree.dimsKids ks
end

mutual
/-- (identifier, label of the first hyperedge) of every node (preorder): `obtain_tensor_shape` reads the
    physical dimension off the first hyperedge of the node's collection. -/
def SD.firstLabels : SD → List (Nat × String)
  | .node i _ hes kids => (i, (hes.head?.map HE.label).getD "") :: SD.firstLabelsKids kids
def SD.firstLabelsKids : List SD → List (Nat × String)
  | [] => []
  | k :: ks => SD.firstLabels k ++ SD.firstLabelsKids ks
end

mutual
/-- Every node has at least one hyperedge, and hyperedges name a vertex on the parent edge exactly at
    the non-root nodes (`r` = "this node is the root"). -/
def Populated (r : Bool) : SD → Prop
  | .node _ _ hes kids => hes ≠ [] ∧ (∀ h ∈ hes, h.pv.isSome = !r) ∧ PopulatedKids kids
def PopulatedKids : List SD → Prop
  | [] => True
  | k :: ks => Populated false k ∧ PopulatedKids ks
end

/-! ### Well-formedness (what `from_state_diagram` relies on) -/

/-- `vs` names one existing vertex per child edge. -/
def kvOk : List Nat → List SD → Prop
  | [], [] => True
  | v :: vs, k :: ks => v < k.nv ∧ kvOk vs ks
  | [], _ :: _ => False
  | _ :: _, [] => False

mutual
/-- Every hyperedge names one vertex per incident edge and every such vertex exists in the edge's
    collection (position below the number of vertices).  At the root `nv = 0`, so `pv = none`. -/
def SD.WF : SD → Prop
  | .node _ nv hes kids =>
    (∀ h ∈ hes, (∀ p, h.pv = some p → p < nv) ∧ kvOk h.kv kids) ∧ WFKids kids
def WFKids : List SD → Prop
  | [] => True
  | k :: ks => k.WF ∧ WFKids ks
end

mutual
/-- Two diagrams live on the same tree (same identifiers, same branching). -/
def SameShape : SD → SD → Prop
  | .node i _ _ k1, .node j _ _ k2 => i = j ∧ SameShapeKids k1 k2
def SameShapeKids : List SD → List SD → Prop
  | [], [] => True
  | a :: as, b :: bs => SameShape a b ∧ SameShapeKids as bs
  | [], _ :: _ => False
  | _ :: _, [] => False
end

end Ptn.C01
