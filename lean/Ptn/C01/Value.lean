import Ptn.C01.Model
import Ptn.C01.Fill
import Ptn.Common.Einsum
import Mathlib.Algebra.Ring.Rat
/-! The formal operator sums of `Model.lean` are given values in an arbitrary commutative semiring
(labels ↦ matrices, symbols ↦ scalars, rational prefactors ↦ scalars through a multiplicative map); the
nested contraction `treeVal` of the filled TTNO tensors is the entrywise value of the formal sum.  At the end the
same tensors as a flat network (`Leg`, `nodeLeaf`, `treeBinds`, `treeLeaves`), whose `Ptn.Ein.netValue` is computed
in `Net.lean`. -/
namespace Ptn.C01

open List

/-- Interpretation of the formal ingredients of a Hamiltonian in a commutative semiring `R`:
    `q` embeds the rational prefactors (only multiplicativity is used), `sym` gives every symbol a
    scalar, `op i l` is the matrix of label `l` at site `i` (entry `[out, in]`). -/
structure Interp (R : Type) [CommSemiring R] where
  q : Rat → R
  q_one : q 1 = 1
  q_mul : ∀ a b, q (a * b) = q a * q b
  sym : String → R
  op : Nat → String → Nat → Nat → R

section
-- `o j`, `n j`: the out- and the in-index at site `j`
variable {R : Type} [CommSemiring R] (I : Interp R) (o n : Nat → Nat)

def symsVal (syms : List String) : R := (syms.map I.sym).prod

/-- `Π_sites A_site[out_site, in_site]` of a label assignment -/
def asgVal (asg : List (Nat × String)) : R := (asg.map fun p => I.op p.1 p.2 (o p.1) (n p.1)).prod

def monoVal (m : Mono) : R := I.q m.coef * symsVal I m.syms * asgVal I o n m.asg

/-- entry `[out, in]` of a formal sum: `Σ_terms coeff · Π_n A_{term,n}[out_n, in_n]` -/
def fsumVal (fs : FSum) : R := (fs.map (monoVal I o n)).sum

def itemVal (i : Nat) (it : Item) : R :=
  I.q it.lam * symsVal I (symMono it.gam) * I.op i it.label (o i) (n i)

/-- the scalar `W_i[pv, kv, out_i, in_i]` of the filled tensor of node `i` -/
def cellVal (i : Nat) (cells : Cells) (p : Pos) : R := ((entryAt cells p).map (itemVal I o n i)).sum

theorem symsVal_insSym (s : String) (l : List String) :
    symsVal I (insSym s l) = I.sym s * symsVal I l := by
  induction l with
  | nil => simp [insSym, symsVal]
  | cons t ts ih =>
    unfold insSym
    by_cases h : s ≤ t
    · simp [h, symsVal]
    · rw [if_neg h]
      have : symsVal I (t :: insSym s ts) = I.sym t * symsVal I (insSym s ts) := by simp [symsVal]
      rw [this, ih]
      simp [symsVal, mul_left_comm]

theorem symsVal_mulSyms (a b : List String) :
    symsVal I (mulSyms a b) = symsVal I a * symsVal I b := by
  induction a with
  | nil => simp [mulSyms, symsVal]
  | cons s a ih =>
    have h1 : mulSyms (s :: a) b = insSym s (mulSyms a b) := rfl
    rw [h1, symsVal_insSym, ih]
    simp [symsVal, mul_assoc]

theorem asgVal_append (a b : List (Nat × String)) :
    asgVal I o n (a ++ b) = asgVal I o n a * asgVal I o n b := by
  simp [asgVal]

theorem monoVal_one : monoVal I o n Mono.one = 1 := by
  simp [monoVal, Mono.one, symsVal, asgVal, I.q_one]

theorem monoVal_mul (x y : Mono) : monoVal I o n (x.mul y) = monoVal I o n x * monoVal I o n y := by
  simp only [monoVal, Mono.mul, I.q_mul, symsVal_mulSyms, asgVal_append]
  ac_rfl

theorem monoVal_attachItem (i : Nat) (it : Item) (m : Mono) :
    monoVal I o n (attachItem i it m) = itemVal I o n i it * monoVal I o n m := by
  simp only [monoVal, attachItem, itemVal, I.q_mul, symsVal_mulSyms]
  have : asgVal I o n ((i, it.label) :: m.asg) = I.op i it.label (o i) (n i) * asgVal I o n m.asg := by
    simp [asgVal]
  rw [this]
  ac_rfl

theorem fsumVal_nil : fsumVal I o n [] = 0 := by simp [fsumVal]

theorem fsumVal_append (a b : FSum) : fsumVal I o n (a ++ b) = fsumVal I o n a + fsumVal I o n b := by
  simp [fsumVal]

theorem fsumVal_perm {a b : FSum} (h : a ~ b) : fsumVal I o n a = fsumVal I o n b :=
  (h.map _).sum_eq

theorem sum_map_flatMap {α β : Type} (l : List α) (f : α → List β) (g : β → R) :
    ((l.flatMap f).map g).sum = (l.map fun x => ((f x).map g).sum).sum := by
  induction l with
  | nil => simp
  | cons a l ih => simp [ih]

theorem fsumVal_flatMap {α : Type} (l : List α) (f : α → FSum) :
    fsumVal I o n (l.flatMap f) = (l.map fun x => fsumVal I o n (f x)).sum :=
  sum_map_flatMap l f _

theorem fsumVal_map (g : Mono → Mono) (c : R) (h : ∀ m, monoVal I o n (g m) = c * monoVal I o n m)
    (fs : FSum) : fsumVal I o n (fs.map g) = c * fsumVal I o n fs := by
  simp only [fsumVal, List.map_map, Function.comp_def, h]
  exact List.sum_map_mul_left _ _ _

theorem fsumVal_mul (a b : FSum) : fsumVal I o n (FSum.mul a b) = fsumVal I o n a * fsumVal I o n b := by
  unfold FSum.mul
  rw [fsumVal_flatMap]
  induction a with
  | nil => simp [fsumVal]
  | cons x a ih =>
    have : fsumVal I o n (x :: a) = monoVal I o n x + fsumVal I o n a := by simp [fsumVal]
    rw [List.map_cons, List.sum_cons, ih, fsumVal_map I o n _ _ (monoVal_mul I o n x), this, add_mul]

mutual
/-- Contraction of the scalar tensors of the subtree below a node for a fixed index `pv` on the leg to
    the parent. -/
def treeVal : TTNO → Option Nat → R
  | .node i _ _ cells kids, pv =>
    ((allTuples (contractBonds kids)).map fun kv =>
      cellVal I o n i cells (pv, kv) * kidsVal kids kv).sum
def kidsVal : List TTNO → List Nat → R
  | [], [] => 1
  | k :: ks, v :: vs => treeVal k (some v) * kidsVal ks vs
  | [], _ :: _ => 0
  | _ :: _, [] => 0
end

theorem treeVal_node (i : Nat) (pb : Option Nat) (ph : Nat) (cells : Cells) (kids : List TTNO)
    (pv : Option Nat) :
    treeVal I o n (.node i pb ph cells kids) pv =
      ((allTuples (contractBonds kids)).map fun kv =>
        cellVal I o n i cells (pv, kv) * kidsVal I o n kids kv).sum := by rw [treeVal]

theorem kidsVal_nil : kidsVal I o n [] [] = 1 := by rw [kidsVal]
theorem kidsVal_cons (k : TTNO) (ks : List TTNO) (v : Nat) (vs : List Nat) :
    kidsVal I o n (k :: ks) (v :: vs) = treeVal I o n k (some v) * kidsVal I o n ks vs := by
  rw [kidsVal]
theorem kidsVal_nil_cons (v : Nat) (vs : List Nat) : kidsVal I o n [] (v :: vs) = 0 := by rw [kidsVal]
theorem kidsVal_cons_nil (k : TTNO) (ks : List TTNO) : kidsVal I o n (k :: ks) [] = 0 := by
  rw [kidsVal]

theorem fsumVal_entry_attach (i : Nat) (cells : Cells) (p : Pos) (fs : FSum) :
    fsumVal I o n ((entryAt cells p).flatMap fun it => fs.map (attachItem i it)) =
      cellVal I o n i cells p * fsumVal I o n fs := by
  rw [fsumVal_flatMap, cellVal]
  simp only [fsumVal_map I o n _ _ (monoVal_attachItem I o n i _)]
  rw [List.sum_map_mul_right]

theorem treeVal_eq_both :
    (∀ (T : TTNO) (pv : Option Nat), treeVal I o n T pv = fsumVal I o n (contractAt T pv)) ∧
    ∀ (ks : List TTNO) (vs : List Nat), kidsVal I o n ks vs = fsumVal I o n (contractKids ks vs) := by
  apply TTNO.both
  · intro i pb ph cells kids ih pv
    rw [treeVal_node, contractAt_node, fsumVal_flatMap]
    congr 1
    apply List.map_congr_left
    intro kv _
    rw [fsumVal_entry_attach, ih kv]
  · intro vs
    cases vs with
    | nil => rw [kidsVal_nil, contractKids_nil]; simp [fsumVal, monoVal_one]
    | cons v vs => rw [kidsVal_nil_cons, contractKids_nil_cons, fsumVal_nil]
  · intro k ks ih1 ih2 vs
    cases vs with
    | nil => rw [kidsVal_cons_nil, contractKids_cons_nil, fsumVal_nil]
    | cons v vs => rw [kidsVal_cons, contractKids_cons, fsumVal_mul, ih1 (some v), ih2 vs]

theorem treeVal_eq : ∀ (T : TTNO) (pv : Option Nat),
    treeVal I o n T pv = fsumVal I o n (contractAt T pv) :=
  (treeVal_eq_both I o n).1

theorem kidsVal_eq : ∀ (ks : List TTNO) (vs : List Nat),
    kidsVal I o n ks vs = fsumVal I o n (contractKids ks vs) :=
  (treeVal_eq_both I o n).2

/-- value of the Hamiltonian itself: `Σ_k c_k · γ_k · Π_sites A_{k,site}[out_site, in_site]` -/
def hamVal (t : RTree) (terms : List Term) : R :=
  (terms.map fun tm => I.q tm.coef * symsVal I (symMono tm.sym) * asgVal I o n (asgOf tm.ops t)).sum

theorem fsumVal_hamDenote (t : RTree) (terms : List Term) :
    fsumVal I o n (hamDenote t terms) = hamVal I o n t terms := by
  simp [fsumVal, hamDenote, hamVal, monoVal, termMono, Function.comp_def]

end

/-- Leg labels of the TTNO network: the two physical legs of every node and, per edge (keyed by the
    child), the child's leg toward the parent (`up`) and the parent's leg toward the child (`dn`). -/
inductive Leg where
  | out (i : Nat)
  | inn (i : Nat)
  | up (c : Nat)
  | dn (c : Nat)
deriving DecidableEq, Repr

section
variable {R : Type} [CommSemiring R] (I : Interp R)

/-- `W_i[bond indices…, out_i, in_i]` as a function of the index assignment -/
def nodeLeaf : TTNO → Ptn.Ein.Asg Leg → R
  | .node i pb _ cells kids, σ =>
    cellVal I (fun j => σ (.out j)) (fun j => σ (.inn j)) i cells
      (pb.map (fun _ => σ (.up i)), kids.map fun k => σ (.dn k.id))

mutual
/-- one pair (parent's leg `dn c`, child's leg `up c`) per tree edge -/
def treeBinds : TTNO → List (Leg × Leg)
  | .node _ _ _ _ kids => kidsBinds kids
def kidsBinds : List TTNO → List (Leg × Leg)
  | [] => []
  | k :: ks => (.dn k.id, .up k.id) :: (treeBinds k ++ kidsBinds ks)
end

mutual
def treeLeaves : TTNO → List (Ptn.Ein.Asg Leg → R)
  | .node i pb ph cells kids => nodeLeaf I (.node i pb ph cells kids) :: kidsLeaves kids
def kidsLeaves : List TTNO → List (Ptn.Ein.Asg Leg → R)
  | [] => []
  | k :: ks => treeLeaves k ++ kidsLeaves ks
end

def legDim (bonds : Nat → Nat) (phys : Nat → Nat) : Leg → Nat
  | .out i => phys i
  | .inn i => phys i
  | .up c => bonds c
  | .dn c => bonds c

end

/-- An interpretation over `ℚ` for the non-vacuity examples. -/
def exInterp : Interp Rat where
  q := id
  q_one := rfl
  q_mul := fun _ _ => rfl
  sym := fun _ => 2
  op := fun i l a b => ((a + 2 * b + i + l.length : Nat) : Rat)

/-- the index assignment of the examples; the value on the bond legs is arbitrary -/
def exSigma : Ptn.Ein.Asg Leg
  | .out j => j + 1
  | .inn j => 2 * j
  | _ => 7

end Ptn.C01
