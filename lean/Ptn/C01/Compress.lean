import Ptn.C01.Model
import Ptn.C01.Lemmas
/-! Semantic core of `StateDiagram.combine_subtrees` / `erase_subtree` on the state-diagram model
(core Lean only).

`combine_subtrees(local_hyperedges, parent)` looks, among the hyperedges of a child node, for two with
equal subtree hash, keeps the first (`element1`, sitting on `keep_vertex`), erases the second with
everything below it (`erase_subtree`) and re-attaches every parent-side hyperedge of `del_vertex` to
`keep_vertex`.  On the model:

* `redirect j v2 v1`   - at the parent node, every hyperedge naming vertex `v2` on the edge to child
                         number `j` names `v1` instead                       (the re-attachment);
* `dropOn v2`          - at the child node, the hyperedges sitting on vertex `v2` are removed
                         (the part of `erase_subtree` that matters for the denotation: what hangs
                         below them becomes unreachable; the orphan vertex and `nv` stay);
* `mergeAt j v2 v1`    - both, on one pair; `modifyAt path f` applies a surgery at the node reached by `path`. -/
namespace Ptn.C01

def redirectKv : Nat → Nat → Nat → List Nat → List Nat
  | _, _, _, [] => []
  | 0, v2, v1, v :: vs => (if v = v2 then v1 else v) :: vs
  | j + 1, v2, v1, v :: vs => v :: redirectKv j v2 v1 vs

def redirectHE (j v2 v1 : Nat) (h : HE) : HE := { h with kv := redirectKv j v2 v1 h.kv }

def redirect (j v2 v1 : Nat) : SD → SD
  | .node i nv hes kids => .node i nv (hes.map (redirectHE j v2 v1)) kids

def dropOn (v2 : Nat) : SD → SD
  | .node i nv hes kids => .node i nv (hes.filter fun h => decide (h.pv ≠ some v2)) kids

def setNth {α : Type} : List α → Nat → (α → α) → List α
  | [], _, _ => []
  | a :: as, 0, f => f a :: as
  | a :: as, j + 1, f => a :: setNth as j f

def modifyAt : List Nat → (SD → SD) → SD → SD
  | [], f, d => f d
  | j :: p, f, .node i nv hes kids => .node i nv hes (setNth kids j (modifyAt p f))

def subAt : List Nat → SD → Option SD
  | [], d => some d
  | j :: p, .node _ _ _ kids =>
    match kids[j]? with
    | some k => subAt p k
    | none => none

theorem denoteKids_setNth (f : SD → SD) (kids : List SD) (j : Nat) (vs : List Nat)
    (h : ∀ k v, kids[j]? = some k → vs[j]? = some v → denoteAt (f k) (some v) = denoteAt k (some v)) :
    denoteKids (setNth kids j f) vs = denoteKids kids vs := by
  induction kids generalizing j vs with
  | nil => rw [setNth]
  | cons k ks ih =>
    cases vs with
    | nil => cases j <;> rw [setNth, denoteKids_cons_nil, denoteKids_cons_nil]
    | cons v vs =>
      cases j with
      | zero => rw [setNth, denoteKids_cons, denoteKids_cons, h k v rfl rfl]
      | succ j => rw [setNth, denoteKids_cons, denoteKids_cons, ih j vs h]

theorem denoteAt_modifyAt (f : SD → SD) (path : List Nat) (d x : SD) (hs : subAt path d = some x)
    (hf : ∀ pv, denoteAt (f x) pv = denoteAt x pv) (pv : Option Nat) :
    denoteAt (modifyAt path f d) pv = denoteAt d pv := by
  induction path generalizing d pv with
  | nil =>
    obtain rfl : d = x := Option.some.inj hs
    exact hf pv
  | cons j p ih =>
    cases d with
    | node i nv hes kids =>
      rw [modifyAt, denoteAt_node, denoteAt_node]
      apply flatMap_congr
      intro h _
      rw [denoteKids_setNth (modifyAt p f) kids j h.kv]
      intro k v hk _
      rw [subAt, hk] at hs
      exact ih k hs (some v)

theorem attach_redirect (i j v2 v1 : Nat) (h : HE) : attach i (redirectHE j v2 v1 h) = attach i h := by
  funext m; simp [attach, redirectHE]

theorem denoteKids_redirect (v2 v1 : Nat) (kids : List SD) (j : Nat) (vs : List Nat)
    (h : ∀ k, kids[j]? = some k → denoteAt k (some v2) = denoteAt k (some v1)) :
    denoteKids kids (redirectKv j v2 v1 vs) = denoteKids kids vs := by
  induction vs generalizing j kids with
  | nil => cases j <;> rw [redirectKv]
  | cons v vs ih =>
    cases kids with
    | nil => cases j <;> rw [redirectKv, denoteKids_nil_cons, denoteKids_nil_cons]
    | cons k ks =>
      cases j with
      | zero =>
        rw [redirectKv, denoteKids_cons, denoteKids_cons]
        by_cases hv : v = v2
        · rw [if_pos hv, hv, h k rfl]
        · rw [if_neg hv]
      | succ j => rw [redirectKv, denoteKids_cons, denoteKids_cons, ih ks j h]

theorem denoteAt_redirect (j v2 v1 : Nat) (d : SD)
    (h : ∀ k, d.kids[j]? = some k → denoteAt k (some v2) = denoteAt k (some v1)) (pv : Option Nat) :
    denoteAt (redirect j v2 v1 d) pv = denoteAt d pv := by
  cases d with
  | node i nv hes kids =>
    rw [redirect, denoteAt_node, denoteAt_node, List.flatMap_map]
    apply flatMap_congr
    intro g _
    rw [attach_redirect]
    have : (redirectHE j v2 v1 g).pv = g.pv := rfl
    rw [this]
    have hk : (redirectHE j v2 v1 g).kv = redirectKv j v2 v1 g.kv := rfl
    rw [hk, denoteKids_redirect v2 v1 kids j g.kv h]

theorem redirectKv_ne (v2 v1 : Nat) (hne : v1 ≠ v2) (j : Nat) (vs : List Nat) :
    (redirectKv j v2 v1 vs)[j]? ≠ some v2 := by
  induction vs generalizing j with
  | nil => cases j <;> simp [redirectKv]
  | cons v vs ih =>
    cases j with
    | zero =>
      rw [redirectKv]
      by_cases hv : v = v2
      · simp [hv, hne]
      · simp [hv]
    | succ j =>
      rw [redirectKv]
      exact ih j

theorem denoteAt_dropOn_ne (v2 : Nat) (d : SD) (v : Nat) (hv : v ≠ v2) :
    denoteAt (dropOn v2 d) (some v) = denoteAt d (some v) := by
  cases d with
  | node i nv hes kids =>
    rw [dropOn, denoteAt_node, denoteAt_node]
    induction hes with
    | nil => rfl
    | cons g gs ih =>
      by_cases hg : g.pv = some v2
      · have hgv : ¬ g.pv = some v := by
          rw [hg]; intro hc; exact hv (Option.some.inj hc).symm
        rw [List.filter_cons_of_neg (by simp [hg]), List.flatMap_cons, if_neg hgv, List.nil_append]
        exact ih
      · rw [List.filter_cons_of_pos (by simp [hg]), List.flatMap_cons, List.flatMap_cons, ih]

/-- `combine_subtrees` on one pair: re-attach the parents of `v2` to `v1`, then erase the child-side
    hyperedges on `v2`. -/
def mergeAt (j v2 v1 : Nat) : SD → SD
  | d =>
    match redirect j v2 v1 d with
    | .node i nv hes kids => .node i nv hes (setNth kids j (dropOn v2))

theorem denoteAt_mergeAt (j v2 v1 : Nat) (hne : v1 ≠ v2) (d : SD)
    (h : ∀ k, d.kids[j]? = some k → denoteAt k (some v2) = denoteAt k (some v1)) (pv : Option Nat) :
    denoteAt (mergeAt j v2 v1 d) pv = denoteAt d pv := by
  rw [← denoteAt_redirect j v2 v1 d h pv]
  cases d with
  | node i nv hes kids =>
    simp only [mergeAt, redirect]
    rw [denoteAt_node, denoteAt_node]
    apply flatMap_congr
    intro g hg
    rw [List.mem_map] at hg
    obtain ⟨g0, _, rfl⟩ := hg
    have hk : (redirectHE j v2 v1 g0).kv = redirectKv j v2 v1 g0.kv := rfl
    -- the redirected hyperedge does not name `v2`, and `dropOn v2` changes nothing below other vertices
    rw [hk, denoteKids_setNth (dropOn v2) kids j _ fun k v _ hv =>
      denoteAt_dropOn_ne v2 k v fun e => redirectKv_ne v2 v1 hne j g0.kv (hv.trans (congrArg some e))]

/-- `_remove_reduntant_v_hyperedges`: remove hyperedge number `k` of a node. -/
def removeHE (k : Nat) : SD → SD
  | .node i nv hes kids => .node i nv (hes.eraseIdx k) kids

end Ptn.C01
