import Ptn.C01.Value
/-! The flat `Ptn.Ein.netValue` of the TTNO leaves over all tree bonds is the nested contraction `treeVal`, hence the
entrywise value of the formal sum (`net_both`, on `Ptn.Common.Einsum`); the filled TTNO meets the hypothesis on
parent bonds and leg dimensions (`fill_proper_both`). -/
namespace Ptn.C01

open List Ptn.Ein

def bondId : Leg → Option Nat
  | .up c => some c
  | .dn c => some c
  | _ => none

mutual
def treeIds : TTNO → List Nat
  | .node i _ _ _ kids => i :: kidsIds kids
def kidsIds : List TTNO → List Nat
  | [] => []
  | k :: ks => treeIds k ++ kidsIds ks
end

mutual
/-- the root carries no parent bond, every other node does; of the two legs of an edge only `dn` has its
    dimension constrained (to the child's bond dimension): `sumPairs` takes the range from the first leg
    of a pair -/
def Proper (dim : Leg → Nat) : Bool → TTNO → Prop
  | r, .node _ pb _ _ kids => pb.isSome = !r ∧ ProperKids dim kids
def ProperKids (dim : Leg → Nat) : List TTNO → Prop
  | [] => True
  | k :: ks => Proper dim false k ∧ dim (.dn k.id) = k.bond ∧ ProperKids dim ks
end

theorem treeIds_eq (T : TTNO) : treeIds T = T.id :: kidsIds T.kids := by
  cases T; rw [treeIds]; rfl

theorem id_mem_treeIds (k : TTNO) : k.id ∈ treeIds k := by
  rw [treeIds_eq]; exact List.mem_cons_self

theorem id_mem_kidsIds (ks : List TTNO) (k : TTNO) (h : k ∈ ks) : k.id ∈ kidsIds ks := by
  induction ks with
  | nil => cases h
  | cons a as ih =>
    rw [kidsIds, List.mem_append]
    rcases List.mem_cons.1 h with h | h
    · left; rw [h]; exact id_mem_treeIds a
    · right; exact ih h

section
variable {R : Type} [CommSemiring R] (I : Interp R)

/-- the sum over the bond indices of the children, one child at a time; `G` receives the indices chosen -/
def nestSum (o n : Nat → Nat) : List TTNO → (List Nat → R) → R
  | [], G => G []
  | k :: ks, G =>
    ((List.range k.bond).map fun v => nestSum o n ks (fun vs => G (v :: vs)) * treeVal I o n k (some v)).sum

theorem nestSum_eq (o n : Nat → Nat) (ks : List TTNO) (G : List Nat → R) :
    ((allTuples (contractBonds ks)).map fun kv => G kv * kidsVal I o n ks kv).sum = nestSum I o n ks G := by
  induction ks generalizing G with
  | nil =>
    rw [contractBonds_nil, nestSum]
    simp [allTuples, kidsVal_nil]
  | cons k ks ih =>
    rw [contractBonds_cons, nestSum, allTuples, sum_map_flatMap]
    congr 1
    apply List.map_congr_left
    intro v _
    rw [List.map_map]
    have h : ∀ vs, ((fun kv => G kv * kidsVal I o n (k :: ks) kv) ∘ fun x => v :: x) vs =
        (G (v :: vs) * kidsVal I o n ks vs) * treeVal I o n k (some v) := by
      intro vs
      simp only [Function.comp, kidsVal_cons]
      ac_rfl
    rw [List.map_congr_left (fun vs _ => h vs), List.sum_map_mul_right, ih fun vs => G (v :: vs)]

theorem nestSum_mul_right (o n : Nat → Nat) (c : R) (ks : List TTNO) (H : List Nat → R) :
    nestSum I o n ks (fun vs => H vs * c) = nestSum I o n ks H * c := by
  induction ks generalizing H with
  | nil => rfl
  | cons k ks ih =>
    rw [nestSum, nestSum, ← List.sum_map_mul_right]
    congr 1
    apply List.map_congr_left
    intro v _
    rw [ih fun vs => H (v :: vs)]
    ac_rfl

/-- a physical leg, or a bond leg of an edge whose child end is among `ids` -/
def SIn (ids : List Nat) (l : Leg) : Prop := bondId l = none ∨ ∃ j ∈ ids, bondId l = some j

/-- not a bond leg of an edge whose child end is among `ids` -/
def SOut (ids : List Nat) (l : Leg) : Prop := ∀ j ∈ ids, bondId l ≠ some j

theorem exists_id_mono {ids ids' : List Nat} (h : ∀ j ∈ ids, j ∈ ids') {l : Leg} :
    (∃ j ∈ ids, bondId l = some j) → ∃ j ∈ ids', bondId l = some j :=
  fun ⟨j, hj, e⟩ => ⟨j, h j hj, e⟩

theorem SIn.mono {ids ids' : List Nat} (h : ∀ j ∈ ids, j ∈ ids') (l : Leg) : SIn ids l → SIn ids' l :=
  Or.imp_right (exists_id_mono h)

theorem treeBinds_ids_both :
    (∀ T : TTNO, ∀ p ∈ treeBinds T,
      (∃ j ∈ kidsIds T.kids, bondId p.1 = some j) ∧ (∃ j ∈ kidsIds T.kids, bondId p.2 = some j)) ∧
    ∀ ks : List TTNO, ∀ p ∈ kidsBinds ks,
      (∃ j ∈ kidsIds ks, bondId p.1 = some j) ∧ (∃ j ∈ kidsIds ks, bondId p.2 = some j) := by
  apply TTNO.both
  · intro i pb ph cells kids ih
    rw [treeBinds]
    exact ih
  · intro p hp
    rw [kidsBinds] at hp
    cases hp
  · intro k ks ihk ihks p hp
    rw [kidsBinds] at hp
    rw [kidsIds]
    have hk : ∀ j ∈ kidsIds k.kids, j ∈ treeIds k ++ kidsIds ks := fun j hj =>
      List.mem_append_left _ (by rw [treeIds_eq]; exact List.mem_cons_of_mem _ hj)
    have hks : ∀ j ∈ kidsIds ks, j ∈ treeIds k ++ kidsIds ks := fun j => List.mem_append_right _
    rcases List.mem_cons.1 hp with rfl | hp
    · have hid : k.id ∈ treeIds k ++ kidsIds ks := List.mem_append_left _ (id_mem_treeIds k)
      exact ⟨⟨k.id, hid, rfl⟩, ⟨k.id, hid, rfl⟩⟩
    · rcases List.mem_append.1 hp with hp | hp
      · exact ⟨exists_id_mono hk (ihk p hp).1, exists_id_mono hk (ihk p hp).2⟩
      · exact ⟨exists_id_mono hks (ihks p hp).1, exists_id_mono hks (ihks p hp).2⟩

theorem kidsBinds_ids : ∀ (ks : List TTNO), ∀ p ∈ kidsBinds ks,
    (∃ j ∈ kidsIds ks, bondId p.1 = some j) ∧ (∃ j ∈ kidsIds ks, bondId p.2 = some j) :=
  treeBinds_ids_both.2

theorem pairLegs_ids (ps : List (Leg × Leg)) (ids : List Nat)
    (h : ∀ p ∈ ps, (∃ j ∈ ids, bondId p.1 = some j) ∧ (∃ j ∈ ids, bondId p.2 = some j)) :
    ∀ l ∈ Expr.pairLegs ps, ¬ SOut ids l := by
  intro l hl hS
  simp only [Expr.pairLegs, List.mem_append, List.mem_map] at hl
  rcases hl with ⟨p, hp, rfl⟩ | ⟨p, hp, rfl⟩
  · obtain ⟨j, hj, e⟩ := (h p hp).1
    exact hS j hj e
  · obtain ⟨j, hj, e⟩ := (h p hp).2
    exact hS j hj e

theorem nodeLeaf_dep (i : Nat) (pb : Option Nat) (ph : Nat) (cells : Cells) (kids : List TTNO) :
    DependsOn (SIn (i :: kidsIds kids)) (nodeLeaf I (.node i pb ph cells kids)) := by
  intro σ τ h
  simp only [nodeLeaf]
  have e1 : (fun j => σ (.out j)) = fun j => τ (.out j) := by
    funext j; exact h _ (Or.inl rfl)
  have e2 : (fun j => σ (.inn j)) = fun j => τ (.inn j) := by
    funext j; exact h _ (Or.inl rfl)
  have e3 : σ (.up i) = τ (.up i) := h _ (Or.inr ⟨i, List.mem_cons_self, rfl⟩)
  have e4 : (kids.map fun k => σ (.dn k.id)) = kids.map fun k => τ (.dn k.id) := by
    apply List.map_congr_left
    intro k hk
    exact h _ (Or.inr ⟨k.id, List.mem_cons_of_mem _ (id_mem_kidsIds kids k hk), rfl⟩)
  rw [e1, e2, e3, e4]

theorem treeLeaves_dep_both :
    (∀ T : TTNO, ∀ f ∈ treeLeaves I T, DependsOn (SIn (treeIds T)) f) ∧
    ∀ ks : List TTNO, ∀ f ∈ kidsLeaves I ks, DependsOn (SIn (kidsIds ks)) f := by
  apply TTNO.both
  · intro i pb ph cells kids ih f hf
    rw [treeLeaves] at hf
    rw [treeIds]
    rcases List.mem_cons.1 hf with hf | hf
    · rw [hf]; exact nodeLeaf_dep I i pb ph cells kids
    · exact (ih f hf).mono (SIn.mono fun j => List.mem_cons_of_mem _)
  · intro f hf
    rw [kidsLeaves] at hf
    cases hf
  · intro k ks ihk ihks f hf
    rw [kidsLeaves] at hf
    rw [kidsIds]
    rcases List.mem_append.1 hf with hf | hf
    · exact (ihk f hf).mono (SIn.mono fun j => List.mem_append_left _)
    · exact (ihks f hf).mono (SIn.mono fun j => List.mem_append_right _)

theorem kidsLeaves_dep : ∀ (ks : List TTNO), ∀ f ∈ kidsLeaves I ks, DependsOn (SIn (kidsIds ks)) f :=
  (treeLeaves_dep_both I).2

variable (dim : Leg → Nat)

/-- For a list of children the product of their leaves is multiplied by an arbitrary factor `G` that reads
    the parent-side bond legs (`dn`) of these children and, beyond that, only legs outside their subtrees:
    at a node `G` is the node's own tensor. -/
theorem net_both :
    (∀ (T : TTNO) (r : Bool), (kidsIds T.kids).Nodup → (r = false → T.id ∉ kidsIds T.kids) →
      Proper dim r T → ∀ σ : Asg Leg,
      sumPairs dim (treeBinds T) (fun τ => prodL ((treeLeaves I T).map fun f => f τ)) σ =
        treeVal I (fun j => σ (.out j)) (fun j => σ (.inn j)) T
          (if r then none else some (σ (.up T.id)))) ∧
    ∀ (ks : List TTNO), (kidsIds ks).Nodup → ProperKids dim ks →
      ∀ (G : List Nat → Asg Leg → R), (∀ vs, DependsOn (SOut (kidsIds ks)) (G vs)) → ∀ σ : Asg Leg,
      sumPairs dim (kidsBinds ks) (fun τ => G (ks.map fun k => τ (.dn k.id)) τ *
          prodL ((kidsLeaves I ks).map fun f => f τ)) σ =
        nestSum I (fun j => σ (.out j)) (fun j => σ (.inn j)) ks (fun vs => G vs σ) := by
  apply TTNO.both
  · intro i pb ph cells kids ih r hnd hi hp σ
    rw [Proper] at hp
    rw [treeBinds, treeLeaves, treeVal_node]
    have hG : ∀ vs, DependsOn (SOut (kidsIds kids)) (fun τ : Asg Leg =>
        cellVal I (fun j => τ (.out j)) (fun j => τ (.inn j)) i cells (pb.map (fun _ => τ (.up i)), vs)) := by
      intro vs σ₁ σ₂ h
      have e1 : (fun j => σ₁ (.out j)) = fun j => σ₂ (.out j) := by
        funext j; exact h _ (fun _ _ => nofun)
      have e2 : (fun j => σ₁ (.inn j)) = fun j => σ₂ (.inn j) := by
        funext j; exact h _ (fun _ _ => nofun)
      -- the root has no leg toward a parent, so its identifier is not constrained
      have e3 : pb.map (fun _ => σ₁ (.up i)) = pb.map (fun _ => σ₂ (.up i)) := by
        cases pb with
        | none => rfl
        | some b =>
          have hr : r = false := by cases r <;> simp at hp ⊢
          exact congrArg some (h _ (fun j hj e => by
            simp only [bondId, Option.some.injEq] at e
            exact hi hr (e ▸ hj)))
      simp only [e1, e2, e3]
    have := ih hnd hp.2 (fun vs τ =>
        cellVal I (fun j => τ (.out j)) (fun j => τ (.inn j)) i cells (pb.map (fun _ => τ (.up i)), vs)) hG σ
    rw [← nestSum_eq] at this
    have hpv : pb.map (fun _ => σ (.up i)) = if r then none else some (σ (.up i)) := by
      cases r <;> cases pb <;> simp at hp ⊢
    simp only [TTNO.id, ← hpv]
    refine Eq.trans ?_ this
    apply sumPairs_congr
    intro τ
    simp only [List.map_cons, prodL, nodeLeaf]
  · intro _ _ G _ σ
    simp [kidsBinds, kidsLeaves, sumPairs, prodL, nestSum]
  · intro k ks ihk ihks hnd hp G hG σ
    -- split off the bond pair of the first child `k`; evaluate the other children by `ihks` with the leaves of `k`
    -- folded into `G` (`inner`); that factor does not read the legs bound inside `k` (`hA`), so it leaves the sum
    -- over the bonds of `k` (`sumPairs_mul_left`), which is `ihk`
    rw [kidsIds] at hnd
    rw [ProperKids] at hp
    obtain ⟨hpk, hdk, hpks⟩ := hp
    have hndk : (treeIds k).Nodup := (List.nodup_append.1 hnd).1
    have hndks : (kidsIds ks).Nodup := (List.nodup_append.1 hnd).2.1
    have hdisj : ∀ a, a ∈ treeIds k → a ∈ kidsIds ks → False := fun a ha hb =>
      (List.nodup_append.1 hnd).2.2 a ha a hb rfl
    have hG' : ∀ vs, DependsOn (SOut (kidsIds ks)) (fun τ' : Asg Leg =>
        G (τ' (.dn k.id) :: vs) τ' * prodL ((treeLeaves I k).map fun f => f τ')) := by
      intro vs σ₁ σ₂ h
      have e1 : σ₁ (.dn k.id) = σ₂ (.dn k.id) := h _ (fun j hj e => by
        simp only [bondId, Option.some.injEq] at e
        exact hdisj _ (id_mem_treeIds k) (e ▸ hj))
      have e2 : G (σ₂ (.dn k.id) :: vs) σ₁ = G (σ₂ (.dn k.id) :: vs) σ₂ :=
        hG _ σ₁ σ₂ (fun l hl => h l (fun j hj => hl j (by rw [kidsIds]; exact List.mem_append_right _ hj)))
      have e3 : prodL ((treeLeaves I k).map fun f => f σ₁) = prodL ((treeLeaves I k).map fun f => f σ₂) :=
        prodL_dependsOn (treeLeaves I k) ((treeLeaves_dep_both I).1 k) σ₁ σ₂ (fun l hl => h l (by
        intro j hj e
        rcases hl with hl | ⟨j', hj', e'⟩
        · rw [hl] at e; cases e
        · rw [e'] at e; cases e; exact hdisj _ hj' hj))
      show G (σ₁ (.dn k.id) :: vs) σ₁ * _ = G (σ₂ (.dn k.id) :: vs) σ₂ * _
      rw [e1, e2, e3]
    have inner : ∀ τ : Asg Leg,
        sumPairs dim (kidsBinds ks) (fun τ' => G (τ' (.dn k.id) :: ks.map fun k' => τ' (.dn k'.id)) τ' *
          (prodL ((treeLeaves I k).map fun f => f τ') * prodL ((kidsLeaves I ks).map fun f => f τ'))) τ =
        (fun τ => nestSum I (fun j => τ (.out j)) (fun j => τ (.inn j)) ks
            (fun vs => G (τ (.dn k.id) :: vs) τ)) τ * prodL ((treeLeaves I k).map fun f => f τ) := by
      intro τ
      have := ihks hndks hpks (fun vs τ' =>
        G (τ' (.dn k.id) :: vs) τ' * prodL ((treeLeaves I k).map fun f => f τ')) hG' τ
      rw [nestSum_mul_right] at this
      rw [← this]
      apply sumPairs_congr
      intro τ'
      simp only [mul_assoc]
    -- the nested sum over the remaining children does not read the legs bound inside `k`
    have hA : DependsOn (SOut (kidsIds k.kids)) (fun τ : Asg Leg =>
        nestSum I (fun j => τ (.out j)) (fun j => τ (.inn j)) ks (fun vs => G (τ (.dn k.id) :: vs) τ)) := by
      intro σ₁ σ₂ h
      rw [treeIds_eq, List.nodup_cons] at hndk
      have hsub : ∀ j, j ∈ kidsIds k.kids → j ∈ treeIds k := fun j hj => by
        rw [treeIds_eq]; exact List.mem_cons_of_mem _ hj
      have e1 : (fun j => σ₁ (.out j)) = fun j => σ₂ (.out j) := by
        funext j; exact h _ (fun _ _ => nofun)
      have e2 : (fun j => σ₁ (.inn j)) = fun j => σ₂ (.inn j) := by
        funext j; exact h _ (fun _ _ => nofun)
      have e3 : σ₁ (.dn k.id) = σ₂ (.dn k.id) := h _ (fun j hj e => by
        simp only [bondId, Option.some.injEq] at e
        exact hndk.1 (e ▸ hj))
      have e4 : ∀ vs, G (σ₂ (.dn k.id) :: vs) σ₁ = G (σ₂ (.dn k.id) :: vs) σ₂ := fun vs =>
        hG _ σ₁ σ₂ (fun l hl => h l (fun j hj => hl j (by
          rw [kidsIds]; exact List.mem_append_left _ (hsub j hj))))
      show nestSum I _ _ ks _ = nestSum I _ _ ks _
      rw [e1, e2, e3]
      exact congrArg _ (funext e4)
    have hndk' := hndk
    rw [treeIds_eq, List.nodup_cons] at hndk'
    have hdisA := pairLegs_ids (treeBinds k) (kidsIds k.kids) (treeBinds_ids_both.1 k)
    rw [kidsBinds, kidsLeaves, nestSum]
    simp only [sumPairs, sumR, hdk, List.map_cons, List.map_append, prodL_append]
    congr 1
    apply List.map_congr_left
    intro v _
    rw [sumPairs_append, sumPairs_congr dim (treeBinds k) inner,
      sumPairs_mul_left dim (treeBinds k) _ _ hA hdisA, ihk false hndk'.2 (fun _ => hndk'.1) hpk]
    have u1 : (fun j => upd (upd σ (.dn k.id) v) (.up k.id) v (.out j)) = fun j => σ (.out j) := by
      funext j; simp [upd]
    have u2 : (fun j => upd (upd σ (.dn k.id) v) (.up k.id) v (.inn j)) = fun j => σ (.inn j) := by
      funext j; simp [upd]
    have u3 : upd (upd σ (.dn k.id) v) (.up k.id) v (.dn k.id) = v := by simp [upd]
    have u4 : upd (upd σ (.dn k.id) v) (.up k.id) v (.up k.id) = v := by simp [upd]
    have u5 : ∀ vs, G vs (upd (upd σ (.dn k.id) v) (.up k.id) v) = G vs σ := by
      intro vs
      apply hG
      intro l hl
      have h1 : l ≠ .up k.id := fun e => hl k.id (by rw [kidsIds]; exact List.mem_append_left _ (id_mem_treeIds k)) (by rw [e]; rfl)
      have h2 : l ≠ .dn k.id := fun e => hl k.id (by rw [kidsIds]; exact List.mem_append_left _ (id_mem_treeIds k)) (by rw [e]; rfl)
      simp [upd, h1, h2]
    simp only [u1, u2, u3, u4, u5, Bool.false_eq_true, if_false]

theorem kids_net : ∀ (ks : List TTNO), (kidsIds ks).Nodup → ProperKids dim ks →
    ∀ (G : List Nat → Asg Leg → R), (∀ vs, DependsOn (SOut (kidsIds ks)) (G vs)) → ∀ σ : Asg Leg,
    sumPairs dim (kidsBinds ks) (fun τ => G (ks.map fun k => τ (.dn k.id)) τ *
        prodL ((kidsLeaves I ks).map fun f => f τ)) σ =
      nestSum I (fun j => σ (.out j)) (fun j => σ (.inn j)) ks (fun vs => G vs σ) :=
  (net_both I dim).2

theorem netValue_eq_treeVal (T : TTNO) (hnd : (treeIds T).Nodup) (hp : Proper dim true T) (σ : Asg Leg) :
    netValue dim (treeBinds T) (treeLeaves I T) σ =
      treeVal I (fun j => σ (.out j)) (fun j => σ (.inn j)) T none := by
  rw [treeIds_eq, List.nodup_cons] at hnd
  have := (net_both I dim).1 T true hnd.2 nofun hp σ
  simpa [netValue] using this

/-- The two-node tree, where root and child may even carry the same identifier. -/
theorem two_node_netValue (i c b ph ph' : Nat) (cells cells' : Cells) (dim : Leg → Nat)
    (hd : dim (.dn c) = b) (σ : Ptn.Ein.Asg Leg) :
    Ptn.Ein.netValue dim (treeBinds (.node i none ph cells [.node c (some b) ph' cells' []]))
        (treeLeaves I (.node i none ph cells [.node c (some b) ph' cells' []])) σ =
      treeVal I (fun j => σ (.out j)) (fun j => σ (.inn j))
        (.node i none ph cells [.node c (some b) ph' cells' []]) none := by
  have := (net_both I dim).1 (.node i none ph cells [.node c (some b) ph' cells' []]) true
    (by simp [TTNO.kids, kidsIds, treeIds]) nofun
    (by simp [Proper, ProperKids, TTNO.id, TTNO.bond, hd]) σ
  simpa [netValue] using this

end

theorem fill_proper_both (dimOf : String → Nat) (dim : Leg → Nat) :
    (∀ (d : SD) (r : Bool) (T : TTNO), fillAt dimOf r d = some T →
      (∀ p ∈ T.bondsBelow, dim (.dn p.1) = p.2) → Proper dim r T) ∧
    ∀ (kids : List SD) (ks : List TTNO), fillKids dimOf kids = some ks →
      (∀ p ∈ TTNO.bondsKids ks, dim (.dn p.1) = p.2) → ProperKids dim ks := by
  apply SD.both
  · intro i nv hes kids ih r T h hb
    obtain ⟨h0, rest, ks, _, hks, _, rfl⟩ := fillAt_some dimOf r i nv hes kids T h
    rw [Proper]
    refine ⟨by cases r <;> simp, ih ks hks ?_⟩
    rw [TTNO.bondsBelow] at hb
    exact hb
  · intro ks h _
    rw [fillKids_nil] at h; cases h
    rw [ProperKids]; trivial
  · intro k kids ih1 ih2 ks h hb
    obtain ⟨a, as, ha, has, rfl⟩ := fillKids_some dimOf k kids ks h
    rw [TTNO.bondsKids] at hb
    rw [ProperKids]
    refine ⟨ih1 false a ha (fun p hp => hb p ?_), hb (a.id, a.bond) List.mem_cons_self,
      ih2 as has (fun p hp => hb p ?_)⟩
    · exact List.mem_cons_of_mem _ (List.mem_append_left _ hp)
    · exact List.mem_cons_of_mem _ (List.mem_append_right _ hp)

theorem fill_proper (dimOf : String → Nat) (dim : Leg → Nat) : ∀ (d : SD) (r : Bool) (T : TTNO),
    fillAt dimOf r d = some T → (∀ p ∈ T.bondsBelow, dim (.dn p.1) = p.2) → Proper dim r T :=
  (fill_proper_both dimOf dim).1

theorem fillKids_proper (dimOf : String → Nat) (dim : Leg → Nat) : ∀ (kids : List SD) (ks : List TTNO),
    fillKids dimOf kids = some ks → (∀ p ∈ TTNO.bondsKids ks, dim (.dn p.1) = p.2) → ProperKids dim ks :=
  (fill_proper_both dimOf dim).2

end Ptn.C01
