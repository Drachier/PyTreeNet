import Ptn.C01.Base
import Ptn.C01.Enum
import Ptn.C01.Compress
import Ptn.C01.Cut
import Ptn.C01.NetTree
/-! C01 (Hamiltonian → state diagram → operator is exact).  Identity padding,
`SingleTermDiagram.from_single_term`, `sum_states` and the uncompressed construction (`TTNOFinder.BASE`)
denote exactly Σ_k c_k ⊗_sites A_k, for every tree (any branching, any child order, any dimensions) and
every Hamiltonian (any number of terms, supports, repeated or proportional terms, rational prefactors,
symbols).  The compressing constructions (SGE, BIPARTITE, TREE) are not modelled line by line (only the
identities that make them sound are proved); exactness is false of the code for unequal coefficients
(TREE, F-C01a) and for repeated terms (SGE and BIPARTITE, F-C01b), and they are decided per input by the
harness (the findings F-C01a–d are described in `notes/C01.md`). -/
namespace Ptn.C01

/-- Identity padding: a site the term acts on keeps its label, every other site gets the symbolic
    identity of its own dimension. -/
theorem pad_spec (ops : List (Nat × String)) (i dim : Nat) :
    (∀ l, ops.lookup i = some l → padLabel ops i dim = l) ∧
    (ops.lookup i = none → padLabel ops i dim = "I" ++ toString dim) := by
  unfold padLabel
  constructor
  · intro l h; rw [h]
  · intro h; rw [h]

/-- The padded assignment of a term names every node of the tree exactly once, in preorder. -/
theorem asg_covers (ops : List (Nat × String)) (t : RTree) :
    (asgOf ops t).map Prod.fst = t.ids := (asgOf_ids_both ops).1 t

/-- The denotation is the sum over all choices of one hyperedge per node that agree on every
    vertex, of (product of the λ's) · (product of the γ's) · (chosen labels): the node-by-node
    definition `denoteAt` and the explicit enumeration produce the same list of summands, for every
    diagram (well-formed or not). -/
theorem denote_eq_sum_over_choices (d : SD) : sdDenote d = sdDenoteEnum d := by
  unfold sdDenote sdDenoteEnum
  exact (enum_both.1 d none).symm

/-- A single-term diagram denotes exactly that term: for every tree, every label assignment and every
    coefficient pair there is exactly one consistent choice of hyperedges, its label assignment is the
    padded term and its weight is `coef · sym` (the coefficient sits on the root hyperedge, all
    others carry `1 · "1"`). -/
theorem single_term_denote (t : RTree) (tm : Term) :
    sdDenote (singleTerm t tm) = [termMono t tm] := by
  have := denote_singleAt tm.ops tm.coef tm.sym true t
  simpa [sdDenote, singleTerm, termMono] using this

/-- `sum_states` denotes the sum: for any two well-formed diagrams on the same tree. -/
theorem sum_states_denote (d1 d2 : SD) (w1 : d1.WF) (w2 : d2.WF) (ss : SameShape d1 d2) :
    sdDenote (sumSD d1 d2) = sdDenote d1 ++ sdDenote d2 := by
  simp only [sdDenote]
  rw [denoteAt_sum d1 d2 w1 w2 ss none]
  rfl

/-- `sum_states` of two well-formed diagrams on one tree is again a well-formed diagram on that tree
    (every hyperedge names existing vertices, so the tensor filling writes inside the allocated tensors). -/
theorem sum_states_wf (d1 d2 : SD) (w1 : d1.WF) (w2 : d2.WF) (ss : SameShape d1 d2) :
    (sumSD d1 d2).WF ∧ SameShape (sumSD d1 d2) d1 :=
  ⟨sumSD_WF_both.1 d1 d2 ss w1 w2, sumSD_sameShape d1 d2 d1 ss (sameShape_refl d1)⟩

/-- The uncompressed method is exact: for every tree and every Hamiltonian (duplicates,
    proportional terms, any coefficients included) the diagram built by `from_hamiltonian_base`
    denotes the formal sum Σ_k c_k ⊗_sites A_k of the padded terms, summand by summand. -/
theorem base_exact (t : RTree) (terms : List Term) (d : SD) (h : baseDiagram t terms = some d) :
    sdDenote d = hamDenote t terms := by
  cases terms with
  | nil => simp [baseDiagram] at h
  | cons tm rest =>
    obtain rfl := Option.some.inj ((baseDiagram_eq t tm rest).symm.trans h)
    exact sdDenote_baseAt t _

/-- The same as a statement about the finitely supported map (assignment, monomial) ↦ coefficient. -/
theorem base_exact_coeff (t : RTree) (terms : List Term) (d : SD) (h : baseDiagram t terms = some d)
    (a : List (Nat × String)) (m : List String) :
    coeffOf (sdDenote d) a m = coeffOf (hamDenote t terms) a m := by
  rw [base_exact t terms d h]

/-- The construction succeeds for every non-empty Hamiltonian and its result is well-formed. -/
theorem base_defined (t : RTree) (tm : Term) (rest : List Term) :
    ∃ d, baseDiagram t (tm :: rest) = some d ∧ d.WF :=
  ⟨_, baseDiagram_eq t tm rest, (baseAt_WF_both _).1 t true⟩

/-! `combine_subtrees` (+ `erase_subtree`) and `cut_and_optimise` (+ `_reconnect_hyperedges`) are not
modelled line by line; the theorems below are the identities that make them sound, and the exact
place where the multiplicity of repeated terms (F-C01b) and of identical hyperedge copies (F-C01d) is lost. -/

/-- Re-attaching the parent-side hyperedges of vertex `v2` to vertex `v1` (edge to child number `j`
    of the node reached by `path`, anywhere in any tree) preserves the denotation as soon as the child
    denotes the same formal sum below both vertices.  No other hypothesis. -/
theorem reattach_preserves (d x : SD) (path : List Nat) (j v1 v2 : Nat)
    (hx : subAt path d = some x)
    (hbelow : ∀ k, x.kids[j]? = some k → denoteAt k (some v2) = denoteAt k (some v1)) :
    sdDenote (modifyAt path (redirect j v2 v1) d) = sdDenote d :=
  denoteAt_modifyAt _ path d x hx (denoteAt_redirect j v2 v1 x hbelow) none

/-- `combine_subtrees` is sound without any distinctness condition: merging two child-side
    vertices `v1 ≠ v2` (re-attach the parents of `v2` to `v1`, erase the hyperedges sitting on `v2`)
    preserves `sdDenote` whenever what hangs below `v2` denotes the same as what hangs below `v1` -
    in particular when the two sub-diagrams are equal as data (equal subtree hashes), *also when they
    come from the same term twice*.  No condition "not the same term twice" is needed here; multiplicity
    is lost later, see `gamma_read_exact` and `merge_identical_terms_loses_multiplicity`. -/
theorem merge_equal_subtrees_preserves (d x : SD) (path : List Nat) (j v1 v2 : Nat)
    (hx : subAt path d = some x) (hne : v1 ≠ v2)
    (hbelow : ∀ k, x.kids[j]? = some k → denoteAt k (some v2) = denoteAt k (some v1)) :
    sdDenote (modifyAt path (mergeAt j v2 v1) d) = sdDenote d :=
  denoteAt_modifyAt _ path d x hx (denoteAt_mergeAt j v2 v1 hne x hbelow) none

/-- In the uncompressed diagram the sub-diagram below vertex `k` of a root edge denotes the padded
    labels of term `k` on that subtree (coefficient 1): equal label subtrees - what the SHA-256 subtree
    hash compares - are equal denotations. -/
theorem base_below_vertex (t : RTree) (tm0 : Term) (rest : List Term) (d : SD)
    (h : baseDiagram t (tm0 :: rest) = some d) (j : Nat) (dk : SD) (tk : RTree)
    (hdk : d.kids[j]? = some dk) (htk : t.kids[j]? = some tk) (k : Nat) (tm : Term)
    (hk : (tm0 :: rest)[k]? = some tm) :
    denoteAt dk (some k) = [⟨1, [], asgOf tm.ops tk⟩] := by
  obtain rfl := Option.some.inj ((baseDiagram_eq t tm0 rest).symm.trans h)
  rw [baseAt_kids, baseKids_getElem?, htk] at hdk
  obtain rfl := Option.some.inj hdk
  exact denote_baseAt _ tk k tm hk

/-- First level of `combine_subtrees` on the uncompressed diagram: two terms `k1 ≠ k2` (possibly the
    *same* term twice) whose padded labels agree on the whole subtree of root child `j` can be merged
    there; the diagram still denotes Σ_k c_k ⊗ A_k with every multiplicity. -/
theorem combine_base_preserves (t : RTree) (tm0 : Term) (rest : List Term) (d : SD)
    (h : baseDiagram t (tm0 :: rest) = some d) (j k1 k2 : Nat) (tk : RTree) (t1 t2 : Term)
    (htk : t.kids[j]? = some tk) (h1 : (tm0 :: rest)[k1]? = some t1)
    (h2 : (tm0 :: rest)[k2]? = some t2) (hne : k1 ≠ k2)
    (hlab : asgOf t2.ops tk = asgOf t1.ops tk) :
    sdDenote (mergeAt j k2 k1 d) = hamDenote t (tm0 :: rest) := by
  rw [← base_exact t (tm0 :: rest) d h]
  have := merge_equal_subtrees_preserves d d [] j k1 k2 rfl hne (fun dk hdk => by
    rw [base_below_vertex t tm0 rest d h j dk tk hdk htk k2 t2 h2,
      base_below_vertex t tm0 rest d h j dk tk hdk htk k1 t1 h1, hlab])
  simpa [modifyAt] using this

/-- Where multiplicity is lost.  Two identical terms `A ⊗ B + A ⊗ B` on a two-node tree: merging the
    equal child subtrees is sound (first clause), but afterwards the two root hyperedges are equal as
    data (same label, same vertex, same coefficient) and `_generate_non_redundant_V_dict` /
    `_remove_reduntant_v_hyperedges` keep only one of them: the diagram then denotes `A ⊗ B` once. -/
theorem merge_identical_terms_loses_multiplicity :
    let t : RTree := .node 0 2 [.node 1 2 []]
    let tm : Term := ⟨1, "1", [(0, "A"), (1, "B")]⟩
    ∀ d, baseDiagram t [tm, tm] = some d →
      sdDenote (mergeAt 0 1 0 d) = sdDenote d ∧
      (mergeAt 0 1 0 d).hes[0]? = (mergeAt 0 1 0 d).hes[1]? ∧
      sdDenote (removeHE 1 (mergeAt 0 1 0 d)) = [termMono t tm] ∧
      sdDenote (removeHE 1 (mergeAt 0 1 0 d)) ≠ hamDenote t [tm, tm] := by
  intro t tm d h
  simp only [baseDiagram, Option.some.injEq] at h
  subst h
  decide +kernel

/-- `cut_and_optimise`, step 1 (`gaussian_elimination`): with `Γ = L · Γ' · R` the bilinear sum over
    U and V nodes equals the bilinear sum over the virtual nodes with coefficient matrix `Γ'`.
    `K`: any commutative semiring of coefficients (linear forms in the symbols), `f`: any bilinear
    operation `A → B → C` (the tensor product of the two sides of the edge). -/
theorem cut_factor {K : Type*} [CommSemiring K] {A B C : Type*} [AddCommMonoid A] [AddCommMonoid B]
    [AddCommMonoid C] [Module K A] [Module K B] [Module K C]
    {ι κ ι' κ' : Type*} [Fintype ι] [Fintype κ] [Fintype ι'] [Fintype κ']
    (f : A →ₗ[K] B →ₗ[K] C) (U : ι → A) (V : κ → B)
    (Γ : Matrix ι κ K) (L : Matrix ι ι' K) (Γ' : Matrix ι' κ' K) (R : Matrix κ' κ K)
    (h : Γ = L * Γ' * R) :
    ∑ u, ∑ v, Γ u v • f (U u) (V v) =
      ∑ u', ∑ v', Γ' u' v' • f (∑ u, L u u' • U u) (∑ v, R v' v • V v) :=
  cut_factor_lem f U V Γ L Γ' R h

/-- `cut_and_optimise`, step 2 (`minimum_vertex_cover` + `_reconnect_hyperedges`): if `(Cu, Cv)`
    covers the support of `G`, every non-zero entry can be assigned to its covering row, else to its
    covering column; the sum becomes one pure tensor per covering row and per covering column. -/
theorem cut_cover {K : Type*} [CommSemiring K] {A B C : Type*} [AddCommMonoid A] [AddCommMonoid B]
    [AddCommMonoid C] [Module K A] [Module K B] [Module K C]
    {ι κ : Type*} [Fintype ι] [Fintype κ] [DecidableEq ι] [DecidableEq κ]
    (f : A →ₗ[K] B →ₗ[K] C) (U : ι → A) (V : κ → B) (G : Matrix ι κ K)
    (Cu : Finset ι) (Cv : Finset κ) (hc : IsCover G Cu Cv) :
    ∑ i, ∑ j, G i j • f (U i) (V j) =
      ∑ i ∈ Cu, f (U i) (∑ j, G i j • V j) +
        ∑ j ∈ Cv, f (∑ i ∈ Finset.univ.filter (· ∉ Cu), G i j • U i) (V j) :=
  cut_cover_lem f U V G Cu Cv hc

/-- Factorise `Γ = L · Γ' · R`, take any vertex cover `(Cu, Cv)` of the support of
    `Γ'`, route every non-zero entry through its covering row or column.  The operator of the cut is
    unchanged and is written with exactly `|Cu| + |Cv|` new vertices (pure tensors of virtual
    nodes): the bond dimension created at the cut is the size of the cover. -/
theorem cut_preserves {K : Type*} [CommSemiring K] {A B C : Type*} [AddCommMonoid A]
    [AddCommMonoid B] [AddCommMonoid C] [Module K A] [Module K B] [Module K C]
    {ι κ ι' κ' : Type*} [Fintype ι] [Fintype κ] [Fintype ι'] [Fintype κ']
    [DecidableEq ι'] [DecidableEq κ']
    (f : A →ₗ[K] B →ₗ[K] C) (U : ι → A) (V : κ → B)
    (Γ : Matrix ι κ K) (L : Matrix ι ι' K) (Γ' : Matrix ι' κ' K) (R : Matrix κ' κ K)
    (h : Γ = L * Γ' * R) (Cu : Finset ι') (Cv : Finset κ') (hc : IsCover Γ' Cu Cv) :
    ∑ k : ↥Cu ⊕ ↥Cv,
        f (routeA (fun u' => ∑ u, L u u' • U u) Γ' Cu Cv k)
          (routeB (fun v' => ∑ v, R v' v • V v) Γ' Cu Cv k) =
        ∑ u, ∑ v, Γ u v • f (U u) (V v) ∧
      Fintype.card (↥Cu ⊕ ↥Cv) = Cu.card + Cv.card :=
  ⟨cut_preserves_lem f U V Γ L Γ' R h Cu Cv hc,
    by rw [Fintype.card_sum, Fintype.card_coe, Fintype.card_coe]⟩

/-- Reading Γ off the terms with the *true* coefficients (sum over all terms with the same pair of
    labels) is exact for every Hamiltonian on a two-node tree, repeated pairs included. -/
theorem gamma_true_exact {K : Type*} [CommSemiring K] {A B C : Type*} [AddCommMonoid A]
    [AddCommMonoid B] [AddCommMonoid C] [Module K A] [Module K B] [Module K C]
    {α β : Type*} [DecidableEq α] [DecidableEq β]
    (f : A →ₗ[K] B →ₗ[K] C) (X : α → A) (Y : β → B) (SA : Finset α) (SB : Finset β)
    (terms : List (K × α × β)) (hS : ∀ t ∈ terms, t.2.1 ∈ SA ∧ t.2.2 ∈ SB) :
    ∑ a ∈ SA, ∑ b ∈ SB, gammaTrue terms a b • f (X a) (Y b) = hamSum f X Y terms :=
  gamma_true_exact_lem f X Y SA SB terms hS

/-- Side condition of the Γ reading (`_setup_gamma_matrix` *assigns* `Gamma[u][v] = coefficient`,
    so of several terms with the same pair of labels the last one wins): the stored coefficient is the
    true one for every pair as soon as no pair (root label, child label) occurs twice, i.e. the terms
    are pairwise distinct.  (The condition is also necessary unless the overwritten coefficients of a
    repeated pair happen to sum to zero, see `gamma_read_loses_multiplicity`.) -/
theorem gamma_read_exact {K : Type*} [CommSemiring K] {α β : Type*} [DecidableEq α] [DecidableEq β]
    (terms : List (K × α × β)) (hnd : (terms.map (·.2)).Nodup) (a : α) (b : β) :
    gammaRead terms a b = gammaTrue terms a b :=
  gammaRead_eq_true_lem terms hnd a b

/-- The condition of `gamma_read_exact` is violated by the smallest repeated pair: the same term twice is
    read as once (F-C01b at the level of Γ). -/
theorem gamma_read_loses_multiplicity :
    gammaRead [((1 : ℕ), (), ()), (1, (), ())] () () = 1 ∧
    gammaTrue [((1 : ℕ), (), ()), (1, (), ())] () () = 2 := by
  constructor <;> decide

/-- End to end for one cut of a two-node tree, all steps abstract but composed: pairwise distinct
    terms; Γ read as the code does; any factorisation `Γ = L · Γ' · R`; any vertex cover of the support
    of `Γ'`; the `|Cu| + |Cv|` pure tensors routed through the cover sum to the Hamiltonian.
    Partial: the pointer surgery realising the virtual nodes as hyperedges (`_create_combined_u_v_lists`,
    `_reconnect_hyperedges`, `_copy_node`) is not modelled. -/
theorem sge_two_node_exact_partial {K : Type*} [CommSemiring K] {A B C : Type*} [AddCommMonoid A]
    [AddCommMonoid B] [AddCommMonoid C] [Module K A] [Module K B] [Module K C]
    {α β : Type*} [DecidableEq α] [DecidableEq β]
    {ι' κ' : Type*} [Fintype ι'] [Fintype κ'] [DecidableEq ι'] [DecidableEq κ']
    (f : A →ₗ[K] B →ₗ[K] C) (X : α → A) (Y : β → B)
    (terms : List (K × α × β)) (hnd : (terms.map (·.2)).Nodup) (SA : Finset α) (SB : Finset β)
    (hS : ∀ t ∈ terms, t.2.1 ∈ SA ∧ t.2.2 ∈ SB)
    (L : Matrix ↥SA ι' K) (Γ' : Matrix ι' κ' K) (R : Matrix κ' ↥SB K)
    (hfac : (Matrix.of fun (a : ↥SA) (b : ↥SB) => gammaRead terms a.1 b.1) = L * Γ' * R)
    (Cu : Finset ι') (Cv : Finset κ') (hc : IsCover Γ' Cu Cv) :
    ∑ k : ↥Cu ⊕ ↥Cv,
        f (routeA (fun u' => ∑ a : ↥SA, L a u' • X a.1) Γ' Cu Cv k)
          (routeB (fun v' => ∑ b : ↥SB, R v' b • Y b.1) Γ' Cu Cv k) =
      hamSum f X Y terms :=
  sge_two_node_exact_partial_lem f X Y terms hnd SA SB hS L Γ' R hfac Cu Cv hc

/-! `from_state_diagram` (`fillTTNO`) and the contraction of the filled TTNO over all assignments of one index to
every edge (`ttnoContract`); both are defined in `Model.lean`. -/

/-- For every tree and every diagram on which the filling succeeds, the
    contraction of the filled TTNO is the denotation of the diagram - the same summands, possibly in
    another order (the contraction runs over index tuples, the denotation over hyperedges), hence the
    same finitely supported map.  A choice of hyperedges that agree on every vertex *is* an index
    assignment; several hyperedges at one position add up (`+=`). -/
theorem fill_contract_eq_denote (dimOf : String → Nat) (d : SD) (T : TTNO)
    (h : fillTTNO dimOf d = some T) :
    (ttnoContract T).Perm (sdDenote d) ∧
      ∀ a m, coeffOf (ttnoContract T) a m = coeffOf (sdDenote d) a m := by
  have hp := contract_fill_perm dimOf d true T h none
  exact ⟨hp, fun a m => coeffOf_perm hp a m⟩

/-- The filling succeeds (no `IndexError`, every node has a shape) on every well-formed diagram whose
    nodes all carry a hyperedge and whose hyperedges name a parent vertex exactly below the root. -/
theorem fill_defined (dimOf : String → Nat) (d : SD) (w : d.WF) (p : Populated true d) :
    ∃ T, fillTTNO dimOf d = some T :=
  fill_defined_aux dimOf d true w p

/-- Every bond dimension of the filled TTNO is the number of vertices of that edge. -/
theorem bond_dims_eq_vertex_counts (dimOf : String → Nat) (d : SD) (T : TTNO)
    (h : fillTTNO dimOf d = some T) : T.bondsBelow = bondDims d :=
  fill_bonds dimOf d true T h

/-- The filled TTNO has the identifiers and parent/child relations (children in the same order) of
    the diagram's tree, and every physical dimension is the operator table's dimension of the node's
    first hyperedge label. -/
theorem ttno_structure (dimOf : String → Nat) (d : SD) (T : TTNO) (h : fillTTNO dimOf d = some T) :
    T.skel = d.skel ∧ T.physDims = d.firstLabels.map fun p => (p.1, dimOf p.2) :=
  ⟨fill_skel dimOf d true T h, fill_phys dimOf d true T h⟩

/-- For every tree and every non-empty Hamiltonian the uncompressed construction
    followed by the tensor filling succeeds and yields a TTNO that
    * contracts to Σ_k c_k ⊗_sites A_k (summand for summand up to order),
    * has the reference tree's identifiers and parent/child relations,
    * has the physical dimensions of the first term's padded labels - which are the nodes' own
      dimensions as soon as the operator table gives every label used (or padded) at a node that
      node's dimension.
    (Its bond dimension on every edge is the number of terms: `bond_dims_eq_vertex_counts` and
    `Ptn.C12.base_bond_eq_terms`.) -/
theorem base_ttno_exact (dimOf : String → Nat) (t : RTree) (tm : Term) (rest : List Term) :
    ∃ d T, baseDiagram t (tm :: rest) = some d ∧ fillTTNO dimOf d = some T ∧
      (ttnoContract T).Perm (hamDenote t (tm :: rest)) ∧
      (∀ a m, coeffOf (ttnoContract T) a m = coeffOf (hamDenote t (tm :: rest)) a m) ∧
      T.skel = t.skel ∧
      T.physDims = (asgOf tm.ops t).map (fun p => (p.1, dimOf p.2)) ∧
      ((∀ p ∈ t.dimsOf, dimOf (padLabel tm.ops p.1 p.2) = p.2) → T.physDims = t.dimsOf) := by
  obtain ⟨w, pop, sk, fl⟩ := base_fillable t tm rest _ rfl
  obtain ⟨T, hT⟩ := fill_defined dimOf _ w pop
  refine ⟨_, T, rfl, hT, ?_, ?_, ?_, ?_, ?_⟩
  · have := (fill_contract_eq_denote dimOf _ T hT).1
    rwa [base_exact t (tm :: rest) _ rfl] at this
  · intro a m
    rw [(fill_contract_eq_denote dimOf _ T hT).2 a m, base_exact t (tm :: rest) _ rfl]
  · rw [(ttno_structure dimOf _ T hT).1, sk]
  · rw [(ttno_structure dimOf _ T hT).2, fl]
  · intro htab
    rw [(ttno_structure dimOf _ T hT).2, fl]
    exact asg_dims dimOf tm.ops t htab

/-! Values in a commutative semiring: the interpretation `Interp`, the entry `fsumVal I o n fs` of a formal sum, the
nested contraction `treeVal` and the flat network `nodeLeaf` / `treeBinds` / `treeLeaves` of the filled tensors are
defined in `Value.lean`. -/

/-- All trees, nested sums: for every diagram on which the filling succeeds and every interpretation
    in every commutative semiring, contracting the filled tensors bond by bond (children first) gives,
    entry by entry, the value of the diagram's denotation. -/
theorem ttno_nested_value {R : Type} [CommSemiring R] (I : Interp R) (dimOf : String → Nat) (d : SD)
    (T : TTNO) (h : fillTTNO dimOf d = some T) (o n : Nat → Nat) :
    treeVal I o n T none = fsumVal I o n (sdDenote d) := by
  rw [treeVal_eq]
  exact fsumVal_perm I o n (fill_contract_eq_denote dimOf d T h).1

/-- All trees, all Hamiltonians (uncompressed method): the TTNO built from a non-empty Hamiltonian
    contracts, entry by entry, to `Σ_k c_k γ_k Π_sites A_{k,site}[o_site, n_site]` of the padded terms. -/
theorem base_ttno_value {R : Type} [CommSemiring R] (I : Interp R) (dimOf : String → Nat) (t : RTree)
    (tm : Term) (rest : List Term) :
    ∃ d T, baseDiagram t (tm :: rest) = some d ∧ fillTTNO dimOf d = some T ∧
      ∀ o n : Nat → Nat, treeVal I o n T none = hamVal I o n t (tm :: rest) := by
  obtain ⟨d, T, hd, hT, hp, _⟩ := base_ttno_exact dimOf t tm rest
  refine ⟨d, T, hd, hT, fun o n => ?_⟩
  rw [treeVal_eq, ← fsumVal_hamDenote]
  exact fsumVal_perm I o n hp

/-- Every tree, flat network: instantiate the labels with matrices over a
    commutative semiring; the filled tensors are the leaves `W_i[bond indices…, out_i, in_i]` (`nodeLeaf`), the
    binding record is one pair (parent's leg `dn c`, child's leg `up c`) per tree edge.  If the node identifiers
    are pairwise different and every bond leg has the bond's dimension, `Ptn.Ein.netValue` - the one big sum
    over a common index per tree bond of the product of all leaves - equals, as a function of all
    (out, in) indices, the entrywise value `Σ_terms coeff · Π_n A_{term,n}[out_n, in_n]` of the diagram's
    denotation. -/
theorem ttno_network_value {R : Type} [CommSemiring R] (I : Interp R) (dimOf : String → Nat) (d : SD)
    (T : TTNO) (h : fillTTNO dimOf d = some T) (hnd : (treeIds T).Nodup) (dim : Leg → Nat)
    (hdim : ∀ p ∈ T.bondsBelow, dim (.dn p.1) = p.2) (σ : Ptn.Ein.Asg Leg) :
    Ptn.Ein.netValue dim (treeBinds T) (treeLeaves I T) σ =
      fsumVal I (fun j => σ (.out j)) (fun j => σ (.inn j)) (sdDenote d) := by
  rw [← ttno_nested_value I dimOf d T h]
  exact netValue_eq_treeVal I dim T hnd (fill_proper dimOf dim d true T h hdim) σ

/-- The same for the uncompressed TTNO of every non-empty Hamiltonian on every tree: the flat network
    evaluates to `Σ_k c_k γ_k Π_sites A_{k,site}[out_site, in_site]`. -/
theorem base_ttno_network_value {R : Type} [CommSemiring R] (I : Interp R) (dimOf : String → Nat)
    (t : RTree) (tm : Term) (rest : List Term) :
    ∃ d T, baseDiagram t (tm :: rest) = some d ∧ fillTTNO dimOf d = some T ∧
      ∀ (dim : Leg → Nat) (σ : Ptn.Ein.Asg Leg), (treeIds T).Nodup →
        (∀ p ∈ T.bondsBelow, dim (.dn p.1) = p.2) →
        Ptn.Ein.netValue dim (treeBinds T) (treeLeaves I T) σ =
          hamVal I (fun j => σ (.out j)) (fun j => σ (.inn j)) t (tm :: rest) := by
  obtain ⟨d, T, hd, hT, hval⟩ := base_ttno_value I dimOf t tm rest
  refine ⟨d, T, hd, hT, fun dim σ hnd hdim => ?_⟩
  rw [← hval]
  exact netValue_eq_treeVal I dim T hnd (fill_proper dimOf dim d true T hT hdim) σ

/-- `base_ttno_network_value` with the identifier hypothesis stated on the REFERENCE TREE: for every tree with
    pairwise different identifiers and every non-empty Hamiltonian the filled uncompressed TTNO has exactly the
    tree's identifiers (preorder), and for every leg-dimension function that gives each `dn` leg its bond's
    dimension the flat network evaluates to the value of the Hamiltonian. -/
theorem base_ttno_network_value_of_tree {R : Type} [CommSemiring R] (I : Interp R) (dimOf : String → Nat)
    (t : RTree) (tm : Term) (rest : List Term) (hids : t.ids.Nodup) :
    ∃ d T, baseDiagram t (tm :: rest) = some d ∧ fillTTNO dimOf d = some T ∧ treeIds T = t.ids ∧
      ∀ (dim : Leg → Nat) (σ : Ptn.Ein.Asg Leg),
        (∀ p ∈ T.bondsBelow, dim (.dn p.1) = p.2) →
        Ptn.Ein.netValue dim (treeBinds T) (treeLeaves I T) σ =
          hamVal I (fun j => σ (.out j)) (fun j => σ (.inn j)) t (tm :: rest) := by
  obtain ⟨d, T, hd, hT, hval⟩ := base_ttno_network_value I dimOf t tm rest
  have hid : treeIds T = t.ids := treeIds_of_fill dimOf d T t hT (base_fillable t tm rest d hd).2.2.1
  exact ⟨d, T, hd, hT, hid, fun dim σ hdim => hval dim σ (hid ▸ hids) hdim⟩

/-- Closed form: for every tree with pairwise different identifiers and every non-empty Hamiltonian, the flat
    network of the filled uncompressed TTNO, with the leg dimensions read off the TTNO itself (`ttnoDim T`),
    evaluates at every assignment of the open legs to
    `Σ_k c_k γ_k Π_sites A_{k,site}[out_site, in_site]`. No hypothesis besides distinct identifiers. -/
theorem base_ttno_network_value_closed {R : Type} [CommSemiring R] (I : Interp R) (dimOf : String → Nat)
    (t : RTree) (tm : Term) (rest : List Term) (hids : t.ids.Nodup) :
    ∃ d T, baseDiagram t (tm :: rest) = some d ∧ fillTTNO dimOf d = some T ∧
      ∀ σ : Ptn.Ein.Asg Leg,
        Ptn.Ein.netValue (ttnoDim T) (treeBinds T) (treeLeaves I T) σ =
          hamVal I (fun j => σ (.out j)) (fun j => σ (.inn j)) t (tm :: rest) := by
  obtain ⟨d, T, hd, hT, hid, hval⟩ := base_ttno_network_value_of_tree I dimOf t tm rest hids
  exact ⟨d, T, hd, hT, fun σ => hval (ttnoDim T) σ (ttnoDim_bonds T (hid ▸ hids))⟩

/-- `ttno_network_value` with the leg dimensions `ttnoDim T`, for every diagram on which the filling succeeds:
    only the identifiers of the filled TTNO have to be pairwise different. -/
theorem ttno_network_value_closed {R : Type} [CommSemiring R] (I : Interp R) (dimOf : String → Nat)
    (d : SD) (T : TTNO) (h : fillTTNO dimOf d = some T) (hnd : (treeIds T).Nodup) (σ : Ptn.Ein.Asg Leg) :
    Ptn.Ein.netValue (ttnoDim T) (treeBinds T) (treeLeaves I T) σ =
      fsumVal I (fun j => σ (.out j)) (fun j => σ (.inn j)) (sdDenote d) :=
  ttno_network_value I dimOf d T h hnd (ttnoDim T) (ttnoDim_bonds T hnd) σ

example : sdDenote (singleTerm exTree exT1) =
    [⟨2 / 3, ["g"], [(0, "A"), (2, "I3"), (1, "I2"), (3, "B")]⟩] := by decide +kernel

-- a Hamiltonian with a repeated term: the uncompressed diagram keeps the multiplicity
example : (baseDiagram exTree [exT1, exT2, exT1]).map sdDenote =
    some [⟨2 / 3, ["g"], [(0, "A"), (2, "I3"), (1, "I2"), (3, "B")]⟩,
          ⟨-5, [], [(0, "I2"), (2, "C"), (1, "I2"), (3, "I1")]⟩,
          ⟨2 / 3, ["g"], [(0, "A"), (2, "I3"), (1, "I2"), (3, "B")]⟩] := by decide +kernel

example : coeffOf (hamDenote exTree [exT1, exT2, exT1])
    [(0, "A"), (2, "I3"), (1, "I2"), (3, "B")] ["g"] = 4 / 3 := by decide +kernel

-- hypotheses of `sum_states_denote` are satisfiable by non-trivial diagrams
example : (singleTerm exTree exT1).WF ∧ (singleTerm exTree exT2).WF ∧
    SameShape (singleTerm exTree exT1) (singleTerm exTree exT2) :=
  ⟨singleAt_WF _ _ _ true _, singleAt_WF _ _ _ true _, singleAt_sameShape _ _ _ _ _ _ true _⟩

-- `merge_equal_subtrees_preserves` / `combine_base_preserves` on a branched tree: the two terms agree below child
-- number 1 of the root (nodes 1 and 3) and are merged there
example : (baseDiagram exTree [exT1, ⟨7, "h", [(0, "C"), (3, "B")]⟩]).map (fun d => sdDenote (mergeAt 1 1 0 d)) =
    some (hamDenote exTree [exT1, ⟨7, "h", [(0, "C"), (3, "B")]⟩]) := by decide +kernel

-- … and where they do NOT agree (child number 0 carries I3 resp. C) the same surgery changes the operator
example : (baseDiagram exTree [exT1, exT2]).map (fun d => sdDenote (mergeAt 0 1 0 d)) ≠
    some (hamDenote exTree [exT1, exT2]) := by decide +kernel

-- hypotheses of `cut_preserves`: Γ = all-ones 2×2 = L · Γ' · R through a single virtual node, covered by its row
example : (Matrix.of fun (_ _ : Fin 2) => (1 : ℕ)) =
    (Matrix.of fun (_ : Fin 2) (_ : Fin 1) => (1 : ℕ)) * (Matrix.of fun (_ _ : Fin 1) => (1 : ℕ)) *
      (Matrix.of fun (_ : Fin 1) (_ : Fin 2) => (1 : ℕ)) := by
  ext i j; rfl
example : IsCover (Matrix.of fun (_ _ : Fin 1) => (1 : ℕ)) {0} ∅ := by
  intro i j _; left; simp; exact Subsingleton.elim i 0

-- hypotheses of `sge_two_node_exact_partial`: distinct pairs
example : ([((2 : ℕ), "A", "X"), (3, "A", "Y"), (5, "B", "X")].map (·.2)).Nodup := by decide

-- `fill_contract_eq_denote` on a diagram where two hyperedges share one tensor position (`+=` matters) and the
-- contraction runs over 2 × 2 index pairs of which two carry entries
example : (fillTTNO (fun _ => 2) (.node 0 0 [⟨"A", 2, "g", none, [0]⟩, ⟨"B", 3, "1", none, [0]⟩, ⟨"C", 1, "1", none, [1]⟩]
      [.node 1 2 [⟨"X", 1, "1", some 0, []⟩, ⟨"Y", 5, "h", some 1, []⟩] []])).map
    (fun T => (ttnoContract T).map fun m => (m.coef, m.syms, m.asg)) =
    some [(2, ["g"], [(0, "A"), (1, "X")]), (3, [], [(0, "B"), (1, "X")]), (5, ["h"], [(0, "C"), (1, "Y")])] := by
  decide +kernel

-- the filling fails where NumPy raises: a vertex index outside the bond
example : fillTTNO (fun _ => 2) (.node 0 0 [⟨"A", 1, "1", none, [2]⟩] [.node 1 2 [⟨"X", 1, "1", some 0, []⟩] []]) = none := by
  decide +kernel

-- `base_ttno_exact` instance: bonds and physical dimensions of the uncompressed TTNO of two terms
example : ((baseDiagram exTree [exT1, exT2]).bind (fillTTNO fun l => if l = "I3" ∨ l = "C" then 3 else if l = "I1" ∨ l = "B" then 1 else 2)).map
    (fun T => (T.bondsBelow, T.physDims)) =
    some ([(2, 2), (1, 2), (3, 2)], [(0, 2), (2, 3), (1, 2), (3, 1)]) := by decide +kernel

-- the explicit enumeration really enumerates: 2 · 2 · 2 · 2 global choices for two terms on four nodes, two consistent
example : ((baseDiagram exTree [exT1, exT2]).map fun d => ((choices d).length, (sdDenoteEnum d).length)) =
    some (16, 2) := by decide +kernel

-- an inconsistent pair of hyperedges (vertex 1 toward the child, but the child's only hyperedge sits on vertex 0)
-- denotes nothing
example : sdDenote (.node 0 0 [⟨"A", 1, "1", none, [1]⟩] [.node 1 2 [⟨"B", 1, "1", some 0, []⟩] []]) = [] := by
  decide +kernel

-- `ttno_network_value` on the diagram where two hyperedges share one tensor position: the
-- hypotheses hold (the filling succeeds, the bond leg has dimension 2) and the value is a non-trivial number
example : (fillTTNO (fun _ => 2) (.node 0 0 [⟨"A", 2, "g", none, [0]⟩, ⟨"B", 3, "1", none, [0]⟩, ⟨"C", 1, "1", none, [1]⟩]
      [.node 1 2 [⟨"X", 1, "1", some 0, []⟩, ⟨"Y", 5, "h", some 1, []⟩] []])).isSome = true ∧
    legDim (fun _ => 2) (fun _ => 2) (.dn 1) = 2 := by decide +kernel

example : (fillTTNO (fun _ => 2) (.node 0 0 [⟨"A", 2, "g", none, [0]⟩, ⟨"B", 3, "1", none, [0]⟩, ⟨"C", 1, "1", none, [1]⟩]
      [.node 1 2 [⟨"X", 1, "1", some 0, []⟩, ⟨"Y", 5, "h", some 1, []⟩] []])).map
    (fun T => (decide (treeIds T).Nodup, T.bondsBelow)) = some (true, [(1, 2)]) := by decide +kernel

example : fsumVal exInterp (fun j => exSigma (.out j)) (fun j => exSigma (.inn j))
    (sdDenote (.node 0 0 [⟨"A", 2, "g", none, [0]⟩, ⟨"B", 3, "1", none, [0]⟩, ⟨"C", 1, "1", none, [1]⟩]
      [.node 1 2 [⟨"X", 1, "1", some 0, []⟩, ⟨"Y", 5, "h", some 1, []⟩] []])) = 272 := by decide +kernel

-- … and the flat network of the filled tensors evaluates to the same number
example : (fillTTNO (fun _ => 2) (.node 0 0 [⟨"A", 2, "g", none, [0]⟩, ⟨"B", 3, "1", none, [0]⟩, ⟨"C", 1, "1", none, [1]⟩]
      [.node 1 2 [⟨"X", 1, "1", some 0, []⟩, ⟨"Y", 5, "h", some 1, []⟩] []])).map
    (fun T => Ptn.Ein.netValue (legDim (fun _ => 2) (fun _ => 2)) (treeBinds T) (treeLeaves exInterp T) exSigma) =
    some 272 := by decide +kernel

-- `base_ttno_value` instance: the value of the two-term Hamiltonian on the branched example tree
example : hamVal exInterp (fun j => j + 1) (fun j => 2 * j) exTree [exT1, exT2] = -32490 := by decide +kernel

-- `base_ttno_network_value` instance on the branched tree (three bonds of dimension 2, four leaves): the hypotheses
-- hold and the flat network evaluates to the value of the Hamiltonian
example : ((baseDiagram exTree [exT1, exT2]).bind (fillTTNO fun _ => 2)).map
    (fun T => (decide (treeIds T).Nodup, T.bondsBelow,
      Ptn.Ein.netValue (legDim (fun _ => 2) (fun _ => 2)) (treeBinds T) (treeLeaves exInterp T) exSigma)) =
    some (true, [(2, 2), (1, 2), (3, 2)], -32490) := by decide +kernel

-- `base_ttno_network_value_closed` instance: the reference tree's identifiers are pairwise different, the filled
-- TTNO has exactly these identifiers, `ttnoDim` gives the three bonds dimension 2 and the flat network with these
-- dimensions evaluates to the value of the Hamiltonian
example : exTree.ids.Nodup := by decide
example : ((baseDiagram exTree [exT1, exT2]).bind (fillTTNO fun _ => 2)).map
    (fun T => (decide (treeIds T = exTree.ids), [ttnoDim T (.dn 1), ttnoDim T (.dn 2), ttnoDim T (.up 3)],
      Ptn.Ein.netValue (ttnoDim T) (treeBinds T) (treeLeaves exInterp T) exSigma)) =
    some (true, [2, 2, 2], -32490) := by decide +kernel

end Ptn.C01
