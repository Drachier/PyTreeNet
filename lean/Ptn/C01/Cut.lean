import Mathlib.LinearAlgebra.BilinearMap
import Mathlib.Data.Matrix.Mul
import Mathlib.Algebra.Module.BigOperators
import Mathlib.Data.Fintype.Sum
/-! The bilinear algebra behind `cut_and_optimise` / `_reconnect_hyperedges` (Mathlib: finite sums,
matrices, bilinear maps), and the two-node composition for the symbolic Gaussian elimination (SGE).

Setting of one cut of the tree at the edge parent–child: the diagram on one side of the edge denotes
partial operators `U u ∈ A` (one per hyperedge/“U node”), the other side partial operators `V v ∈ B`,
the edge carries the coefficient matrix `Γ` (entries: linear forms in the symbols, any commutative
semiring `K`), and the whole operator is `∑ u v, Γ u v • (U u ⊗ V v)`, where `⊗ : A → B → C` is any
`K`-bilinear operation (no commutativity between the factors is used).  That `U`, `V`, `Γ` are these parts of a
state diagram `SD` is not formalised.  Every `…_lem` is stated again in `Props.lean`, where its docstring stands
(`gammaRead_eq_true_lem` as `gamma_read_exact`, the others under the name without `_lem`). -/
namespace Ptn.C01

open Finset

variable {K : Type*} [CommSemiring K] {A B C : Type*} [AddCommMonoid A] [AddCommMonoid B]
  [AddCommMonoid C] [Module K A] [Module K B] [Module K C]

theorem cut_left {ι κ ι' : Type*} [Fintype ι] [Fintype κ] [Fintype ι']
    (f : A →ₗ[K] B →ₗ[K] C) (U : ι → A) (V : κ → B) (L : Matrix ι ι' K) (M : Matrix ι' κ K) :
    ∑ u, ∑ v, (L * M) u v • f (U u) (V v) =
      ∑ u', ∑ v, M u' v • f (∑ u, L u u' • U u) (V v) := by
  simp only [Matrix.mul_apply, Finset.sum_smul, LinearMap.map_sum₂, LinearMap.map_smul₂,
    Finset.smul_sum, smul_smul, mul_comm (M _ _)]
  -- both sides are the triple sum over `u`, `v`, `u'`; only the order differs
  rw [Finset.sum_comm]
  refine (Finset.sum_congr rfl fun v _ => Finset.sum_comm).trans ?_
  exact Finset.sum_comm

theorem cut_right {ι κ κ' : Type*} [Fintype ι] [Fintype κ] [Fintype κ']
    (f : A →ₗ[K] B →ₗ[K] C) (U : ι → A) (V : κ → B) (M : Matrix ι κ' K) (R : Matrix κ' κ K) :
    ∑ u, ∑ v, (M * R) u v • f (U u) (V v) =
      ∑ u, ∑ v', M u v' • f (U u) (∑ v, R v' v • V v) := by
  simp only [Matrix.mul_apply, Finset.sum_smul, map_sum, LinearMap.map_smul, Finset.smul_sum,
    smul_smul]
  exact Finset.sum_congr rfl fun u _ => Finset.sum_comm

theorem cut_factor_lem {ι κ ι' κ' : Type*} [Fintype ι] [Fintype κ] [Fintype ι'] [Fintype κ']
    (f : A →ₗ[K] B →ₗ[K] C) (U : ι → A) (V : κ → B)
    (Γ : Matrix ι κ K) (L : Matrix ι ι' K) (Γ' : Matrix ι' κ' K) (R : Matrix κ' κ K)
    (h : Γ = L * Γ' * R) :
    ∑ u, ∑ v, Γ u v • f (U u) (V v) =
      ∑ u', ∑ v', Γ' u' v' • f (∑ u, L u u' • U u) (∑ v, R v' v • V v) := by
  rw [h, Matrix.mul_assoc]
  exact (cut_left f U V L (Γ' * R)).trans (cut_right f _ V Γ' R)

/-- A vertex cover of the support of `G`. -/
def IsCover {ι κ : Type*} (G : Matrix ι κ K) (Cu : Finset ι) (Cv : Finset κ) : Prop :=
  ∀ i j, G i j ≠ 0 → i ∈ Cu ∨ j ∈ Cv

theorem cut_cover_lem {ι κ : Type*} [Fintype ι] [Fintype κ] [DecidableEq ι] [DecidableEq κ]
    (f : A →ₗ[K] B →ₗ[K] C) (U : ι → A) (V : κ → B) (G : Matrix ι κ K)
    (Cu : Finset ι) (Cv : Finset κ) (hc : IsCover G Cu Cv) :
    ∑ i, ∑ j, G i j • f (U i) (V j) =
      ∑ i ∈ Cu, f (U i) (∑ j, G i j • V j) +
        ∑ j ∈ Cv, f (∑ i ∈ univ.filter (· ∉ Cu), G i j • U i) (V j) := by
  rw [← Finset.sum_filter_add_sum_filter_not univ (· ∈ Cu), Finset.filter_univ_mem]
  congr 1
  · exact Finset.sum_congr rfl fun i _ => by simp only [map_sum, LinearMap.map_smul]
  · -- rows outside the U cover: only the columns of the V cover carry non-zero entries
    have hrow : ∀ i ∈ univ.filter (· ∉ Cu), ∑ j, G i j • f (U i) (V j) =
        ∑ j ∈ Cv, G i j • f (U i) (V j) := fun i hi =>
      (Finset.sum_subset (Finset.subset_univ _) fun j _ hj => by
        have : G i j = 0 := by
          by_contra hne
          exact (hc i j hne).elim (Finset.mem_filter.mp hi).2 hj
        rw [this, zero_smul]).symm
    rw [Finset.sum_congr rfl hrow, Finset.sum_comm]
    exact Finset.sum_congr rfl fun j _ => by
      simp only [LinearMap.map_sum₂, LinearMap.map_smul₂]

/-- Left and right factors of the `|Cu| + |Cv|` pure tensors the cut is routed through: one new
    vertex per covering row and per covering column. -/
def routeA {ι κ : Type*} [Fintype ι] [DecidableEq ι] (U : ι → A) (G : Matrix ι κ K)
    (Cu : Finset ι) (Cv : Finset κ) : (↥Cu ⊕ ↥Cv) → A
  | .inl i => U i
  | .inr j => ∑ i ∈ univ.filter (· ∉ Cu), G i j • U i

def routeB {ι κ : Type*} [Fintype κ] (V : κ → B) (G : Matrix ι κ K)
    (Cu : Finset ι) (Cv : Finset κ) : (↥Cu ⊕ ↥Cv) → B
  | .inl i => ∑ j, G i j • V j
  | .inr j => V j

theorem cut_preserves_lem {ι κ ι' κ' : Type*} [Fintype ι] [Fintype κ] [Fintype ι'] [Fintype κ']
    [DecidableEq ι'] [DecidableEq κ']
    (f : A →ₗ[K] B →ₗ[K] C) (U : ι → A) (V : κ → B)
    (Γ : Matrix ι κ K) (L : Matrix ι ι' K) (Γ' : Matrix ι' κ' K) (R : Matrix κ' κ K)
    (h : Γ = L * Γ' * R) (Cu : Finset ι') (Cv : Finset κ') (hc : IsCover Γ' Cu Cv) :
    ∑ k : ↥Cu ⊕ ↥Cv,
        f (routeA (fun u' => ∑ u, L u u' • U u) Γ' Cu Cv k)
          (routeB (fun v' => ∑ v, R v' v • V v) Γ' Cu Cv k) =
      ∑ u, ∑ v, Γ u v • f (U u) (V v) := by
  rw [cut_factor_lem f U V Γ L Γ' R h,
    cut_cover_lem f (fun u' => ∑ u, L u u' • U u) (fun v' => ∑ v, R v' v • V v) Γ' Cu Cv hc,
    Fintype.sum_sum_type, ← Finset.sum_coe_sort Cu, ← Finset.sum_coe_sort Cv]
  rfl

section TwoNode

variable {α β : Type*} [DecidableEq α] [DecidableEq β]

/-- Terms `(c, a, b)` of a two-node tree: root label `a`, child label `b`. -/
def hamSum (f : A →ₗ[K] B →ₗ[K] C) (X : α → A) (Y : β → B) (terms : List (K × α × β)) : C :=
  (terms.map fun t => t.1 • f (X t.2.1) (Y t.2.2)).sum

/-- The coefficient the pair `(a, b)` should get: the sum over all terms with that pair. -/
def gammaTrue (terms : List (K × α × β)) (a : α) (b : β) : K :=
  ((terms.filter fun t => t.2 = (a, b)).map (·.1)).sum

/-- The coefficient `_setup_gamma_matrix` stores: `Gamma[u][v] = coefficient` is an assignment, so
    the last term with that pair wins (0 if there is none). -/
def gammaRead (terms : List (K × α × β)) (a : α) (b : β) : K :=
  (((terms.filter fun t => t.2 = (a, b)).map (·.1)).getLast?).getD 0

theorem gammaTrue_cons (t : K × α × β) (ts : List (K × α × β)) (a : α) (b : β) :
    gammaTrue (t :: ts) a b = (if t.2 = (a, b) then t.1 else 0) + gammaTrue ts a b := by
  unfold gammaTrue
  by_cases h : t.2 = (a, b) <;> simp [h]

theorem gamma_true_exact_lem (f : A →ₗ[K] B →ₗ[K] C) (X : α → A) (Y : β → B) (SA : Finset α)
    (SB : Finset β) :
    ∀ terms : List (K × α × β), (∀ t ∈ terms, t.2.1 ∈ SA ∧ t.2.2 ∈ SB) →
      ∑ a ∈ SA, ∑ b ∈ SB, gammaTrue terms a b • f (X a) (Y b) = hamSum f X Y terms := by
  intro terms hS
  induction terms with
  | nil => simp [gammaTrue, hamSum]
  | cons t ts ih =>
    obtain ⟨ha, hb⟩ := hS t List.mem_cons_self
    simp only [gammaTrue_cons, add_smul, Finset.sum_add_distrib,
      ih fun x hx => hS x (List.mem_cons_of_mem _ hx)]
    unfold hamSum
    rw [List.map_cons, List.sum_cons]
    congr 1
    -- the indicator picks exactly the pair of the new term
    rw [Finset.sum_eq_single t.2.1, Finset.sum_eq_single t.2.2, if_pos rfl]
    · intro b _ hne
      rw [if_neg fun h => hne (congrArg Prod.snd h).symm, zero_smul]
    · exact fun h => absurd hb h
    · intro a _ hne
      exact Finset.sum_eq_zero fun b _ => by
        rw [if_neg fun h => hne (congrArg Prod.fst h).symm, zero_smul]
    · exact fun h => absurd ha h

theorem gammaRead_eq_true_lem :
    ∀ terms : List (K × α × β), (terms.map (·.2)).Nodup → ∀ a b,
      gammaRead terms a b = gammaTrue terms a b := by
  intro terms hnd a b
  induction terms with
  | nil => simp [gammaRead, gammaTrue]
  | cons t ts ih =>
    rw [List.map_cons, List.nodup_cons] at hnd
    have ih := ih hnd.2
    by_cases h : t.2 = (a, b)
    · -- then no later term has this pair
      have hnone : ts.filter (fun x => x.2 = (a, b)) = [] := by
        rw [List.filter_eq_nil_iff]
        intro x hx hc
        apply hnd.1
        rw [h]
        exact List.mem_map.mpr ⟨x, hx, by simpa using hc⟩
      unfold gammaRead gammaTrue
      simp [h, hnone]
    · unfold gammaRead gammaTrue at ih ⊢
      simp only [List.filter_cons, h, decide_false, Bool.false_eq_true, if_false]
      exact ih

theorem sge_two_node_exact_partial_lem {ι' κ' : Type*} [Fintype ι'] [Fintype κ'] [DecidableEq ι']
    [DecidableEq κ'] (f : A →ₗ[K] B →ₗ[K] C) (X : α → A) (Y : β → B)
    (terms : List (K × α × β)) (hnd : (terms.map (·.2)).Nodup) (SA : Finset α) (SB : Finset β)
    (hS : ∀ t ∈ terms, t.2.1 ∈ SA ∧ t.2.2 ∈ SB)
    (L : Matrix ↥SA ι' K) (Γ' : Matrix ι' κ' K) (R : Matrix κ' ↥SB K)
    (hfac : (Matrix.of fun (a : ↥SA) (b : ↥SB) => gammaRead terms a.1 b.1) = L * Γ' * R)
    (Cu : Finset ι') (Cv : Finset κ') (hc : IsCover Γ' Cu Cv) :
    ∑ k : ↥Cu ⊕ ↥Cv,
        f (routeA (fun u' => ∑ a : ↥SA, L a u' • X a.1) Γ' Cu Cv k)
          (routeB (fun v' => ∑ b : ↥SB, R v' b • Y b.1) Γ' Cu Cv k) =
      hamSum f X Y terms := by
  rw [← gamma_true_exact_lem f X Y SA SB terms hS, ← Finset.sum_coe_sort SA]
  refine (cut_preserves_lem f _ _ _ L Γ' R hfac Cu Cv hc).trans (Finset.sum_congr rfl fun a _ => ?_)
  rw [← Finset.sum_coe_sort SB]
  exact Finset.sum_congr rfl fun b _ => by rw [Matrix.of_apply, gammaRead_eq_true_lem terms hnd]

end TwoNode

end Ptn.C01
