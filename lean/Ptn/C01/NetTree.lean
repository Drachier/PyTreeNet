import Ptn.C01.Net
/-! Identifiers of the filled TTNO = identifiers of the reference tree (through the skeleton), and the leg
dimensions read off the TTNO itself (`ttnoDim`) satisfy the dimension contract of `netValue_eq_treeVal`. -/
namespace Ptn.C01

open List

mutual
def Skel.ids : Skel → List Nat
  | .node i kids => i :: Skel.idsKids kids
def Skel.idsKids : List Skel → List Nat
  | [] => []
  | k :: ks => Skel.ids k ++ Skel.idsKids ks
end

theorem treeIds_eq_skel_both :
    (∀ T : TTNO, treeIds T = T.skel.ids) ∧
    ∀ ks : List TTNO, kidsIds ks = Skel.idsKids (TTNO.skelKids ks) := by
  apply TTNO.both
  · intro i pb ph cells kids ih
    rw [treeIds, TTNO.skel, Skel.ids, ih]
  · rw [kidsIds, TTNO.skelKids, Skel.idsKids]
  · intro k ks ih1 ih2
    rw [kidsIds, TTNO.skelKids, Skel.idsKids, ih1, ih2]

theorem kidsIds_eq_skel : ∀ ks : List TTNO, kidsIds ks = Skel.idsKids (TTNO.skelKids ks) :=
  treeIds_eq_skel_both.2

theorem rtree_ids_eq_skel_both :
    (∀ t : RTree, t.ids = t.skel.ids) ∧
    ∀ ks : List RTree, RTree.idsKids ks = Skel.idsKids (RTree.skelKids ks) := by
  apply RTree.both
  · intro i dim kids ih
    rw [RTree.ids, RTree.skel, Skel.ids, ih]
  · rw [RTree.idsKids, RTree.skelKids, Skel.idsKids]
  · intro k ks ih1 ih2
    rw [RTree.idsKids, RTree.skelKids, Skel.idsKids, ih1, ih2]

theorem rtree_idsKids_eq_skel :
    ∀ ks : List RTree, RTree.idsKids ks = Skel.idsKids (RTree.skelKids ks) :=
  rtree_ids_eq_skel_both.2

theorem treeIds_of_skel (T : TTNO) (t : RTree) (h : T.skel = t.skel) : treeIds T = t.ids := by
  rw [treeIds_eq_skel_both.1, rtree_ids_eq_skel_both.1, h]

theorem treeIds_of_fill (dimOf : String → Nat) (d : SD) (T : TTNO) (t : RTree)
    (h : fillTTNO dimOf d = some T) (hs : d.skel = t.skel) : treeIds T = t.ids :=
  treeIds_of_skel T t ((fill_skel dimOf d true T h).trans hs)

theorem bondsBelow_keys_both :
    (∀ T : TTNO, T.bondsBelow.map Prod.fst = kidsIds T.kids) ∧
    ∀ ks : List TTNO, (TTNO.bondsKids ks).map Prod.fst = kidsIds ks := by
  apply TTNO.both
  · intro i pb ph cells kids ih
    rw [TTNO.bondsBelow, TTNO.kids, ih]
  · rw [TTNO.bondsKids, kidsIds]; rfl
  · intro k ks ih1 ih2
    rw [TTNO.bondsKids, kidsIds, List.map_cons, List.map_append, ih1, ih2]
    cases k with
    | node i pb ph cells kids => simp [treeIds, TTNO.id, TTNO.kids]

theorem bondsKids_keys : ∀ ks : List TTNO, (TTNO.bondsKids ks).map Prod.fst = kidsIds ks :=
  bondsBelow_keys_both.2

def ttnoDim (T : TTNO) : Leg → Nat :=
  legDim (fun c => (T.bondsBelow.lookup c).getD 0) (fun i => (T.physDims.lookup i).getD 0)

theorem ttnoDim_bonds (T : TTNO) (hnd : (treeIds T).Nodup) :
    ∀ p ∈ T.bondsBelow, ttnoDim T (.dn p.1) = p.2 := by
  intro p hp
  have hk : (T.bondsBelow.map Prod.fst).Nodup := by
    rw [bondsBelow_keys_both.1]
    cases T with
    | node i pb ph cells kids =>
      rw [treeIds, List.nodup_cons] at hnd
      exact hnd.2
  simp only [ttnoDim, legDim]
  rw [Ptn.lookup_of_nodup_keys (k := p.1) (v := p.2) hk hp]
  rfl

end Ptn.C01
