import Ptn.C17.Sweep
/-! Keys of the initial environment cache (`init_cache_but_one`): the child-parent pairs of the tree hung up at the
left-out node, children first. -/
namespace Ptn.C17
namespace RTree

@[simp] theorem upKeys_node (p i : Nat) (ks : List RTree) :
    upKeys p (node i ks) = upKeysL i ks ++ [(i, p)] := rfl
@[simp] theorem upKeysL_nil (p : Nat) : upKeysL p [] = [] := rfl
@[simp] theorem upKeysL_cons (p : Nat) (t : RTree) (ts : List RTree) :
    upKeysL p (t :: ts) = upKeys p t ++ upKeysL p ts := rfl

theorem upKeysL_append (p : Nat) (l1 l2 : List RTree) :
    upKeysL p (l1 ++ l2) = upKeysL p l1 ++ upKeysL p l2 := by
  induction l1 with
  | nil => simp
  | cons t ts ih => simp [ih]

/-- the blocks of a hanging subtree: one per node, in post-order, each pointing to the parent -/
theorem upKeys_spec :
    (∀ t p, (upKeys p t).map (·.1) = postorder t ∧
        ((upKeys p t).map unord).Perm (((p, t.rid) :: edges t).map unord) ∧
        ∀ u v, (u, v) ∈ upKeys p t → (v, u) ∈ (p, t.rid) :: edges t) ∧
    (∀ ts p, (upKeysL p ts).map (·.1) = postorderL ts ∧
        ((upKeysL p ts).map unord).Perm ((edgesL p ts).map unord) ∧
        ∀ u v, (u, v) ∈ upKeysL p ts → (v, u) ∈ edgesL p ts) := by
  apply induct
  · intro i ks ih p
    obtain ⟨h1, h2, h3⟩ := ih i
    refine ⟨by simp [h1], ?_, ?_⟩
    · simp only [upKeys_node, List.map_append, List.map_cons, List.map_nil, edges_node, rid]
      rw [unord_swap i p]
      exact (List.perm_append_comm).trans (List.Perm.cons _ h2)
    · intro u v h
      simp at h
      rcases h with h | ⟨rfl, rfl⟩
      · simp [h3 u v h]
      · simp [rid]
  · intro p; simp
  · intro t ts iht ihts p
    obtain ⟨h1, h2, h3⟩ := iht p
    obtain ⟨g1, g2, g3⟩ := ihts p
    refine ⟨by simp [h1, g1], ?_, ?_⟩
    · simp only [upKeysL_cons, List.map_append, edgesL_cons, List.map_cons]
      exact (h2.append g2).trans (by simp)
    · intro u v h
      simp at h
      rcases h with h | h
      · have := h3 u v h
        simp at this
        rcases this with ⟨rfl, rfl⟩ | this
        · simp
        · simp [this]
      · simp [g3 u v h]

theorem cacheKeys_node (c i : Nat) (ks : List RTree) :
    cacheKeys c (node i ks) = if i = c then some (upKeysL i ks) else cacheKeysL c i [] ks := rfl
@[simp] theorem cacheKeysL_nil (c i : Nat) (pre : List RTree) : cacheKeysL c i pre [] = none := rfl

theorem cacheKeysL_first (c i : Nat) (ks pre0 : List RTree) :
    (∀ w, cacheKeysL c i pre0 ks = some w → ∃ pre k post rest, ks = pre ++ k :: post ∧
      cacheKeys c k = some rest ∧ w = upKeysL i (pre0 ++ pre ++ post) ++ [(i, k.rid)] ++ rest) ∧
    (cacheKeysL c i pre0 ks = none → ∀ pre k post, ks = pre ++ k :: post → cacheKeys c k = none) :=
  first_kid (F := cacheKeysL c i) (g := fun _ k _ => cacheKeys c k)
    (mk := fun pre k post rest => upKeysL i (pre ++ post) ++ [(i, k.rid)] ++ rest) (fun _ => rfl)
    (fun _ k _ => by rw [cacheKeysL]; cases cacheKeys c k <;> rfl) ks pre0

/-- the (child, parent) pairs of a tree, children first: `upKeys` without a parent for the root -/
def keysOf (t : RTree) : List (Nat × Nat) := upKeysL t.rid t.kids

@[simp] theorem keysOf_node (i : Nat) (ks : List RTree) : keysOf (node i ks) = upKeysL i ks := rfl

theorem reroot_keys (c : Nat) :
    (∀ t up, (reroot c up t).map keysOf = (cacheKeys c t).map (upKeysL t.rid up ++ ·)) ∧
    (∀ ks x up pre, (rerootL c x up pre ks).map keysOf
        = (cacheKeysL c x pre ks).map (upKeysL x up ++ ·)) := by
  apply induct
  · intro x ks ih up
    rw [reroot_node, cacheKeys_node]
    split
    · simp [upKeysL_append, rid]
    · exact ih x up []
  · intro x up pre; rfl
  · intro k post ihk ihpost x up pre
    rw [rerootL, cacheKeysL]
    have := ihk [node x (up ++ pre ++ post)]
    cases hd : cacheKeys c k with
    | none =>
      rw [hd] at this
      rw [Option.map_eq_none_iff.mp this]
      exact ihpost x up (pre ++ [k])
    | some p =>
      rw [hd] at this
      obtain ⟨R, hR, e⟩ := Option.map_eq_some_iff.mp this
      rw [hR]; cases k; simp [e, upKeysL_append, rid]

theorem cacheKeys_eq_reroot (c : Nat) (t : RTree) : cacheKeys c t = (reroot c [] t).map keysOf := by
  simpa using ((reroot_keys c).1 t []).symm

/-- The nodes whose blocks are created, in creation order, followed by `c`: the downward sweep toward `c`
    (the caching path of `_find_caching_path`). -/
theorem cacheKeys_order (c : Nat) :
    (∀ t, (cacheKeys c t).map (fun K => K.map (·.1) ++ [c]) = sweepDown c t) ∧
    (∀ ks i pre, (cacheKeysL c i pre ks).map (fun K => K.map (·.1) ++ [c]) = sweepDownL c i pre ks) := by
  -- both are read off the re-rooted tree `R`: the keys are `keysOf R`, the sweep is `postorder R`, and `R.rid = c`
  have key : ∀ {o : Option RTree}, (∀ R, o = some R → R.rid = c) →
      (o.map keysOf).map (fun K => K.map (·.1) ++ [c]) = o.map postorder := by
    intro o h
    cases o with
    | none => rfl
    | some R =>
      obtain rfl := h R rfl
      cases R with | node i ks => simp [(upKeys_spec.2 ks i).1, rid]
  refine ⟨fun t => ?_, fun ks i pre => ?_⟩
  · rw [cacheKeys_eq_reroot, sweepDown_eq_reroot]
    exact key fun R hR => ((reroot_spec c).1 t [] R hR).1
  · have := key fun R hR => ((reroot_spec c).2 ks i [] pre R hR).1
    simpa [(reroot_keys c).2 ks i [] pre, (reroot_postorder c).2 ks i [] pre] using this

theorem cacheKeys_edges (c : Nat) :
    (∀ t keys, cacheKeys c t = some keys → (keys.map unord).Perm ((edges t).map unord)) ∧
    (∀ ks i pre keys, cacheKeysL c i pre ks = some keys →
      (keys.map unord).Perm ((edgesL i pre ++ edgesL i ks).map unord)) := by
  refine induct_kids ?_ ?_
  · intro i ks ih keys hk
    rw [cacheKeys_node] at hk
    split at hk
    · obtain rfl := Option.some.inj hk
      simpa using (upKeys_spec.2 ks i).2.1
    · simpa using ih i [] keys hk
  · intro ks ih i pre0 keys hk
    obtain ⟨pre, k, post, rest, rfl, h1, rfl⟩ := (cacheKeysL_first c i _ pre0).1 keys hk
    have e2 := ih k (by simp) rest h1
    obtain ⟨_, g2, _⟩ := upKeys_spec.2 (pre0 ++ pre ++ post) i
    simp only [List.map_append, List.map_cons, List.map_nil, edgesL_cons, edgesL_append]
    apply List.perm_iff_count.mpr
    intro a
    have c1 := e2.count_eq a
    have c2 := g2.count_eq a
    simp only [List.count_append, List.count_cons, edgesL_append, List.map_append,
      List.count_nil] at c1 c2 ⊢
    omega

/-- the key list exists exactly for the nodes of the tree; it has one key per node other than `c`
    and one key per edge -/
theorem cacheKeys_spec (c : Nat) :
    (∀ t, (∀ keys, cacheKeys c t = some keys →
        (keys.map (·.1) ++ [c]).Perm (ids t) ∧ (keys.map unord).Perm ((edges t).map unord)) ∧
      (cacheKeys c t = none → c ∉ ids t)) ∧
    (∀ ks i pre, (∀ keys, cacheKeysL c i pre ks = some keys →
        (keys.map (·.1) ++ [c]).Perm (i :: idsL pre ++ idsL ks) ∧
        (keys.map unord).Perm ((edgesL i pre ++ edgesL i ks).map unord)) ∧
      (cacheKeysL c i pre ks = none → c ∉ idsL ks)) :=
  -- the nodes: by `cacheKeys_order`, what `sweepDown_spec` says of the downward sweep
  ⟨fun t => ⟨fun keys h => ⟨(((sweepDown_spec c).1 t).1 _ (by rw [← (cacheKeys_order c).1 t, h]; rfl)).1,
      (cacheKeys_edges c).1 t keys h⟩,
    fun h => ((sweepDown_spec c).1 t).2 (by rw [← (cacheKeys_order c).1 t, h]; rfl)⟩,
   fun ks i pre => ⟨fun keys h =>
      ⟨(((sweepDown_spec c).2 ks i pre).1 _ (by rw [← (cacheKeys_order c).2 ks i pre, h]; rfl)).1,
        (cacheKeys_edges c).2 ks i pre keys h⟩,
    fun h => ((sweepDown_spec c).2 ks i pre).2 (by rw [← (cacheKeys_order c).2 ks i pre, h]; rfl)⟩⟩

end RTree
end Ptn.C17
