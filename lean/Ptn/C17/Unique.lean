import Ptn.C17.Path
import Ptn.C17.Reroot
/-! Parents in a well-formed tree (at most one, no edge in both directions) and uniqueness of simple paths.  A simple
path that starts at the root can only descend, so it is a root path; a simple path from `a` is a simple path from the root
of the tree re-rooted at `a`.  Hence `path_from_to(a, b)` is the root path of `b` in the tree re-rooted at `a`, and the
only simple path from `a` to `b`; so paths, first hops and segments are the same on trees with the same nodes and
neighbours (`SameGraph`). -/
namespace Ptn.C17
namespace RTree

theorem parent_unique {t : RTree} (hwf : t.WF) {p p' x : Nat} (h : (p, x) ∈ edges t)
    (h' : (p', x) ∈ edges t) : p = p' :=
  congrArg Prod.fst (inj_on_of_nodup_map (·.2) (edges_snd_nodup hwf) _ h _ h' rfl)

theorem rootPath_edge {t : RTree} (hwf : t.WF) {p x : Nat} (h : (p, x) ∈ edges t) :
    ∃ r, rootPath t p = some r ∧ rootPath t x = some (x :: r) := by
  obtain ⟨q, h1, h2⟩ := pathDown_edge.1 t p x hwf h
  exact ⟨q.reverse, by simp [rootPath, h1], by simp [rootPath, h2]⟩

theorem rootPath_head {t : RTree} {x : Nat} {r : List Nat} (h : rootPath t x = some r) :
    ∃ r', r = x :: r' := by
  simp only [rootPath, Option.map_eq_some_iff] at h
  obtain ⟨q, hq, rfl⟩ := h
  obtain ⟨ys, rfl⟩ := List.getLast?_eq_some_iff.mp ((pathDown_ends x).1 t q hq).2
  exact ⟨ys.reverse, by simp⟩

theorem no_two_cycle {t : RTree} (hwf : t.WF) {p x : Nat} (h : (p, x) ∈ edges t) :
    (x, p) ∉ edges t := by
  intro h'
  obtain ⟨q, h1, h2⟩ := pathDown_edge.1 t p x hwf h
  obtain ⟨q', h1', h2'⟩ := pathDown_edge.1 t x p hwf h'
  rw [h1] at h2'; rw [h2] at h1'
  have e1 := congrArg List.length (Option.some.inj h2')
  have e2 := congrArg List.length (Option.some.inj h1')
  simp at e1 e2
  omega

theorem root_no_parent {t : RTree} (hwf : t.WF) {y : Nat} : (y, t.rid) ∉ edges t :=
  fun h => edge_snd_ne_rid hwf h rfl

theorem descends {R : RTree} (hwf : R.WF) : ∀ (P : List Nat) (x : Nat),
    (∀ y, (y, x) ∈ edges R → y ∉ P) → (x :: P).Nodup → Chain (Adj R) (x :: P) → Chain (fun a b => (a, b) ∈ edges R) (x :: P)
  | [], _, _, _, _ => trivial
  | z :: P, x, hpar, hnd, hc => by
    have hc' := chain_cons_cons.mp hc
    have hnd' := List.nodup_cons.mp hnd
    have hdown : (x, z) ∈ edges R := hc'.1.resolve_right fun h => hpar z h (by simp)
    -- the parent of `z` is `x`, which does not occur again
    refine chain_cons_cons.mpr ⟨hdown, descends hwf P z (fun y hy hyP => ?_) hnd'.2 hc'.2⟩
    exact hnd'.1 (parent_unique hwf hy hdown ▸ List.mem_cons_of_mem _ hyP)

theorem pathDown_descend {R : RTree} (hwf : R.WF) : ∀ (P : List Nat) (x : Nat) (q : List Nat),
    pathDown x R = some (q ++ [x]) → Chain (fun a b => (a, b) ∈ edges R) (x :: P) →
      ∀ b, (x :: P).getLast? = some b → pathDown b R = some (q ++ x :: P)
  | [], x, q, hq, _, b, hb => by
    obtain rfl : x = b := by simpa using hb
    exact hq
  | z :: P, x, q, hq, hc, b, hb => by
    have hc' := chain_cons_cons.mp hc
    obtain ⟨q', h1, h2⟩ := pathDown_edge.1 R x z hwf hc'.1
    obtain rfl : q ++ [x] = q' := Option.some.inj (hq.symm.trans h1)
    have := pathDown_descend hwf P z (q ++ [x]) h2 hc'.2 b (by rwa [List.getLast?_cons_cons] at hb)
    simpa using this

theorem simple_path_from_root {R : RTree} (hwf : R.WF) {p : List Nat} {b : Nat}
    (h : IsSimplePath R p R.rid b) : pathDown b R = some p := by
  obtain ⟨hh, hl, _, hch, hnd⟩ := h
  cases p with
  | nil => simp at hh
  | cons x P =>
    obtain rfl : x = R.rid := by simpa using hh
    have := pathDown_descend hwf P R.rid [] (by cases R; simp [rid])
      (descends hwf P R.rid (fun y hy => absurd hy (root_no_parent hwf)) hnd hch) b hl
    simpa using this

def SameGraph (t R : RTree) : Prop := (ids R).Perm (ids t) ∧ ∀ a b, Adj R a b ↔ Adj t a b

theorem SameGraph.wf {t R : RTree} (h : SameGraph t R) (hwf : t.WF) : R.WF := h.1.nodup_iff.mpr hwf

theorem SameGraph.simplePath {t R : RTree} (h : SameGraph t R) {p : List Nat} {a b : Nat} :
    IsSimplePath R p a b ↔ IsSimplePath t p a b := by
  unfold IsSimplePath
  refine and_congr_right fun _ => and_congr_right fun _ => and_congr ?_ (and_congr_left fun _ => ?_)
  · exact forall₂_congr fun x _ => h.1.mem_iff
  · exact ⟨chain_mono fun a b => (h.2 a b).mp, chain_mono fun a b => (h.2 a b).mpr⟩

theorem reroot_sameGraph {t R : RTree} {c : Nat} (hR : reroot c [] t = some R) : SameGraph t R :=
  ⟨by simpa using ((reroot_spec c).1 t [] R hR).2.1,
    by simpa [adj_iff_sadj] using ((reroot_spec c).1 t [] R hR).2.2⟩

theorem simple_path_eq_reroot {t R : RTree} (hwf : t.WF) {a b : Nat} {p : List Nat}
    (hR : reroot a [] t = some R) (h : IsSimplePath t p a b) : pathDown b R = some p :=
  have hG := reroot_sameGraph hR
  simple_path_from_root (hG.wf hwf) (((reroot_spec a).1 t [] R hR).1 ▸ hG.simplePath.mpr h)

theorem simple_path_eq_pathFromTo {t : RTree} (hwf : t.WF) {a b : Nat} {p : List Nat}
    (h : IsSimplePath t p a b) : pathFromTo t a b = some p := by
  have ha : a ∈ ids t := h.2.2.1 a (List.mem_of_head? h.1)
  have hb : b ∈ ids t := h.2.2.1 b (List.mem_of_getLast? h.2.1)
  obtain ⟨R, hR⟩ := (reroot_isSome a).1 t [] ha
  obtain ⟨p', hp', hs'⟩ := pathFromTo_isSimplePath hwf ha hb
  rw [hp', ← simple_path_eq_reroot hwf hR hs', simple_path_eq_reroot hwf hR h]

theorem pathFromTo_eq_reroot {t R : RTree} (hwf : t.WF) {a b : Nat} (hb : b ∈ ids t)
    (hR : reroot a [] t = some R) : pathFromTo t a b = pathDown b R := by
  have ha : a ∈ ids t :=
    (reroot_sameGraph hR).1.subset (((reroot_spec a).1 t [] R hR).1 ▸ rid_mem_ids R)
  obtain ⟨p, hp, hs⟩ := pathFromTo_isSimplePath hwf ha hb
  rw [hp, simple_path_eq_reroot hwf hR hs]

theorem pathFromTo_iff {t : RTree} (hwf : t.WF) {a b : Nat} (ha : a ∈ ids t) (hb : b ∈ ids t)
    {p : List Nat} : pathFromTo t a b = some p ↔ IsSimplePath t p a b := by
  refine ⟨fun hp => ?_, simple_path_eq_pathFromTo hwf⟩
  obtain ⟨p', hp', hs⟩ := pathFromTo_isSimplePath hwf ha hb
  exact Option.some.inj (hp'.symm.trans hp) ▸ hs

theorem SameGraph.pathFromTo {t R : RTree} (h : SameGraph t R) (hwf : t.WF) (hwfR : R.WF) {a b : Nat}
    (ha : a ∈ ids t) (hb : b ∈ ids t) : pathFromTo R a b = pathFromTo t a b := by
  obtain ⟨p, hp⟩ := pathFromTo_isSimplePath hwf ha hb
  rw [hp.1]
  exact simple_path_eq_pathFromTo hwfR (h.simplePath.mpr hp.2)

theorem SameGraph.firstHop {t R : RTree} (h : SameGraph t R) (hwf : t.WF) (hwfR : R.WF) {a b : Nat}
    (ha : a ∈ ids t) (hb : b ∈ ids t) : firstHop R a b = firstHop t a b := by
  unfold RTree.firstHop; rw [h.pathFromTo hwf hwfR ha hb]

theorem SameGraph.segsAlong {t R : RTree} (h : SameGraph t R) (hwf : t.WF) (hwfR : R.WF) :
    ∀ p : List Nat, (∀ y ∈ p, y ∈ ids t) → segsAlong R p = segsAlong t p
  | [], _ => rfl
  | [_], _ => rfl
  | a :: b :: rest, hm => by
    simp only [RTree.segsAlong]
    rw [h.firstHop hwf hwfR (hm a (by simp)) (hm b (by simp)),
      SameGraph.segsAlong h hwf hwfR (b :: rest) fun y hy => hm y (by simp [hy])]

end RTree

open RTree

theorem edge_ne {t : RTree} (hwf : t.WF) {a b : Nat} (h : (a, b) ∈ edges t) : a ≠ b := by
  intro e; subst e
  exact no_two_cycle hwf h h

theorem adj_mem {t : RTree} {a b : Nat} (h : Adj t a b) : a ∈ ids t ∧ b ∈ ids t := by
  rcases h with h | h
  · exact edge_mem_ids h
  · exact ⟨(edge_mem_ids h).2, (edge_mem_ids h).1⟩

theorem adj_ne {t : RTree} (hwf : t.WF) {a b : Nat} (h : Adj t a b) : a ≠ b := by
  rcases h with h | h
  · exact edge_ne hwf h
  · exact fun e => edge_ne hwf h e.symm

namespace RTree.IsSimplePath
variable {t : RTree} {a b : Nat} {p : List Nat}

theorem reverse (h : IsSimplePath t p a b) : IsSimplePath t p.reverse b a :=
  ⟨by rw [List.head?_reverse]; exact h.2.1, by rw [List.getLast?_reverse]; exact h.1,
    fun x hx => h.2.2.1 x (List.mem_reverse.mp hx),
    chain_mono (fun _ _ hxy => hxy.symm) (chain_reverse h.2.2.2.1), nodup_reverse.mpr h.2.2.2.2⟩

theorem suffix {l1 l2 : List Nat} {u : Nat} (h : IsSimplePath t (l1 ++ u :: l2) a b) :
    IsSimplePath t (u :: l2) u b :=
  ⟨rfl, by have := h.2.1; rw [List.getLast?_append] at this; simpa using this,
    fun x hx => h.2.2.1 x (List.mem_append_right _ hx), chain_append_right h.2.2.2.1,
    (List.nodup_append.mp h.2.2.2.2).2.1⟩

theorem tail {v : Nat} {rest : List Nat} (h : IsSimplePath t (a :: v :: rest) a b) :
    IsSimplePath t (v :: rest) v b := h.suffix (l1 := [a])

theorem pair (hwf : t.WF) (h : Adj t a b) : IsSimplePath t [a, b] a b :=
  ⟨rfl, rfl, fun x hx => by
      have hm := adj_mem h
      simp at hx; rcases hx with rfl | rfl <;> simp [hm],
    by simp [Chain, h], by simp [adj_ne hwf h]⟩

end RTree.IsSimplePath
namespace RTree

theorem adj_symm {t : RTree} {a b : Nat} (h : Adj t a b) : Adj t b a := h.symm

theorem pathFromTo_reverse {t : RTree} (hwf : t.WF) {a b : Nat} {p : List Nat}
    (ha : a ∈ ids t) (hb : b ∈ ids t) (hp : pathFromTo t a b = some p) :
    pathFromTo t b a = some p.reverse :=
  simple_path_eq_pathFromTo hwf ((pathFromTo_iff hwf ha hb).mp hp).reverse

theorem pathFromTo_tail {t : RTree} (hwf : t.WF) {a c v : Nat} {rest : List Nat}
    (ha : a ∈ ids t) (hc : c ∈ ids t) (hp : pathFromTo t a c = some (a :: v :: rest)) :
    pathFromTo t v c = some (v :: rest) ∧ Adj t a v ∧ v ∈ ids t :=
  have hs := (pathFromTo_iff hwf ha hc).mp hp
  ⟨simple_path_eq_pathFromTo hwf hs.tail, (chain_cons_cons.mp hs.2.2.2.1).1, hs.2.2.1 v (by simp)⟩

theorem toward_root {R : RTree} (hwf : R.WF) {u v : Nat} (h : (v, u) ∈ edges R) :
    ∃ rest, pathFromTo R u R.rid = some (u :: v :: rest) := by
  obtain ⟨q, hv, hu⟩ := pathDown_edge.1 R v u hwf h
  obtain ⟨q', rfl⟩ := List.getLast?_eq_some_iff.mp ((pathDown_ends v).1 R q hv).2
  refine ⟨q'.reverse, ?_⟩
  have := simple_path_eq_pathFromTo hwf (pathDown_isSimplePath hwf hu).reverse
  simpa using this

end RTree
end Ptn.C17
