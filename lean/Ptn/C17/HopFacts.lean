import Ptn.C17.DistTree
/-! Facts about first hops used by the cache-freshness discipline (C05). -/
namespace Ptn.C17
open RTree

theorem pathFromTo_adj {t : RTree} (hwf : t.WF) {a b : Nat} (h : Adj t a b) :
    pathFromTo t a b = some [a, b] :=
  simple_path_eq_pathFromTo hwf (.pair hwf h)

/-- The first hop toward a neighbour is that neighbour. -/
theorem firstHop_adj {t : RTree} (hwf : t.WF) {a b : Nat} (h : Adj t a b) :
    firstHop t a b = some b := by
  simp [firstHop, pathFromTo_adj hwf h]

theorem pathFromTo_cons_cons {t : RTree} (hwf : t.WF) {x v : Nat} (hx : x ∈ ids t) (hv : v ∈ ids t)
    (hne : x ≠ v) : ∃ h rest, pathFromTo t x v = some (x :: h :: rest) ∧ firstHop t x v = some h := by
  obtain ⟨q, hq, h1, h2, _, _, _⟩ := pathFromTo_isSimplePath hwf hx hv
  cases q with
  | nil => simp at h1
  | cons y l =>
    simp at h1; subst h1
    cases l with
    | nil => simp at h2; exact absurd h2 hne
    | cons h rest => exact ⟨h, rest, hq, by simp [firstHop, hq]⟩

/-- A block pointing toward `v` does not point away from `v`: if `h` is the first hop
    from `x` to `v`, then `x` is not the first hop from `h` to `v`. -/
theorem toward_not_back {t : RTree} (hwf : t.WF) {x v h : Nat} (hx : x ∈ ids t) (hv : v ∈ ids t)
    (hne : x ≠ v) (hh : firstHop t x v = some h) : firstHop t h v ≠ some x := by
  obtain ⟨h', rest, hp, hh'⟩ := pathFromTo_cons_cons hwf hx hv hne
  rw [hh] at hh'; simp at hh'; subst hh'
  obtain ⟨htail, _, hhm⟩ := pathFromTo_tail hwf hx hv hp
  intro hback
  have hnd' : (x :: h :: rest).Nodup := by
    obtain ⟨q, hq, hs⟩ := pathFromTo_isSimplePath hwf hx hv
    rw [hp] at hq; simp at hq; subst hq; exact hs.2.2.2.2
  simp only [firstHop, htail, Option.bind_some] at hback
  cases rest with
  | nil => simp at hback
  | cons y l =>
    simp at hback
    subst hback
    simp at hnd'

/-- For neighbours `a`, `b` and a third node `x` the first hops from `x` toward `a` and
    toward `b` coincide. -/
theorem firstHop_adj_same {t : RTree} (hwf : t.WF) {a b x : Nat} (hab : Adj t a b)
    (hx : x ∈ ids t) (hxa : x ≠ a) (hxb : x ≠ b) : firstHop t x b = firstHop t x a := by
  have hm := adj_mem hab
  obtain ⟨R, hR⟩ := (reroot_isSome a).1 t [] hm.1
  have hG := reroot_sameGraph hR
  have hwfR := hG.wf hwf
  obtain rfl := ((reroot_spec a).1 t [] R hR).1
  obtain ⟨v, hv⟩ := exists_parent (hG.1.symm.subset hx) hxa
  rw [firstHop_parent hwf hm.1 hR hv]
  -- in the tree hung up at `a`, `b` is a child of the root, and `x` is not on the way `[a, b]`
  have hb : (R.rid, b) ∈ edges R := ((hG.2 _ b).mpr hab).resolve_right (root_no_parent hwfR)
  obtain ⟨q, hq, hpb⟩ := pathDown_edge.1 R _ b hwfR hb
  obtain rfl : q = [R.rid] := by cases R; simpa [rid] using hq.symm
  obtain ⟨rest, hp⟩ := next_hop_up hwfR hpb (by simp [hxa, hxb]) hv
  rw [← hG.firstHop hwf hwfR hx hm.2]
  exact firstHop_of_path hp

end Ptn.C17
