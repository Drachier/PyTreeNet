import Ptn.C17.Lemmas
/-! Structural lemmas about `RTree`: induction principles, the recursions through the first child that
succeeds, chains, identifiers, root paths (also below a child of the root), edges (with and without orientation). -/
namespace Ptn.C17
namespace RTree

theorem induct {P : RTree → Prop} {Q : List RTree → Prop}
    (hnode : ∀ i ks, Q ks → P (.node i ks)) (hnil : Q [])
    (hcons : ∀ t ts, P t → Q ts → Q (t :: ts)) : (∀ t, P t) ∧ (∀ ts, Q ts) :=
  ⟨fun t => RTree.rec (motive_1 := P) (motive_2 := Q) hnode hnil hcons t,
   fun ts => RTree.rec_1 (motive_1 := P) (motive_2 := Q) hnode hnil hcons ts⟩

theorem induct_mem {P : RTree → Prop} (h : ∀ i ks, (∀ k ∈ ks, P k) → P (.node i ks)) : ∀ t, P t :=
  (induct (Q := fun ks => ∀ k ∈ ks, P k) h (fun _ hk => nomatch hk)
    (fun _ _ ht hts _ hk => (List.mem_cons.mp hk).elim (· ▸ ht) (hts _))).1

/-- Induction over trees and forests where the forest statement follows from the tree statement for
    every member. -/
theorem induct_kids {P : RTree → Prop} {Q : List RTree → Prop}
    (hnode : ∀ i ks, Q ks → P (.node i ks)) (hkids : ∀ ks, (∀ k ∈ ks, P k) → Q ks) :
    (∀ t, P t) ∧ (∀ ts, Q ts) :=
  have h := induct_mem (fun i ks ih => hnode i ks (hkids ks ih))
  ⟨h, fun ts => hkids ts (fun k _ => h k)⟩

/-- A recursion `F` over a list of children that returns at the first child `k` on which `g` succeeds,
    `g` and the result `mk` being given the children before and after `k`: what `F` returns, and
    when it fails.  (`rerootL`, `sweepUpL`, `sweepDownL`, `cacheKeysL` are of this form; e.g. for `sweepUpL s r`:
    `g _ k _ = sweepUp s k`, `mk pre _ post p = p ++ postorderL (pre ++ post) ++ [r]`.) -/
theorem first_kid {α β γ : Type} {g : List α → α → List α → Option β}
    {mk : List α → α → List α → β → γ} {F : List α → List α → Option γ}
    (hnil : ∀ pre, F pre [] = none)
    (hcons : ∀ pre k post, F pre (k :: post) =
      match g pre k post with
      | some b => some (mk pre k post b)
      | none => F (pre ++ [k]) post) :
    ∀ ks pre0,
      (∀ w, F pre0 ks = some w → ∃ pre k post b, ks = pre ++ k :: post ∧
        g (pre0 ++ pre) k post = some b ∧ w = mk (pre0 ++ pre) k post b) ∧
      (F pre0 ks = none → ∀ pre k post, ks = pre ++ k :: post → g (pre0 ++ pre) k post = none)
  | [], pre0 => ⟨fun w h => by simp [hnil] at h, fun _ pre k post e => by simp at e⟩
  | k :: post, pre0 => by
    have ih := first_kid hnil hcons post (pre0 ++ [k])
    rw [hcons]
    cases hg : g pre0 k post with
    | some b =>
      exact ⟨fun w h => ⟨[], k, post, b, rfl, by simpa using hg, by simpa using h.symm⟩,
        fun h => by simp at h⟩
    | none =>
      refine ⟨fun w h => ?_, fun h pre k' post' e => ?_⟩
      · obtain ⟨pre, k', post', b, rfl, h1, h2⟩ := ih.1 w h
        exact ⟨k :: pre, k', post', b, rfl, by simpa using h1, by simpa using h2⟩
      · cases pre with
        | nil =>
          simp only [List.nil_append, List.cons.injEq] at e
          obtain ⟨rfl, rfl⟩ := e
          simpa using hg
        | cons a pre =>
          simp only [List.cons_append, List.cons.injEq] at e
          obtain ⟨rfl, rfl⟩ := e
          simpa using ih.2 h pre k' post' rfl

theorem chain_cons_cons {R : Nat → Nat → Prop} {a b : Nat} {l : List Nat} :
    Chain R (a :: b :: l) ↔ R a b ∧ Chain R (b :: l) := by
  simp [Chain]

theorem chain_mono {R S : Nat → Nat → Prop} (h : ∀ a b, R a b → S a b) :
    ∀ {l : List Nat}, Chain R l → Chain S l
  | [], _ => by simp [Chain]
  | [_], _ => by simp [Chain]
  | a :: b :: l, hc => by
    rw [chain_cons_cons] at hc ⊢
    exact ⟨h _ _ hc.1, chain_mono h hc.2⟩

theorem chain_tail {R : Nat → Nat → Prop} {a : Nat} : ∀ {l : List Nat}, Chain R (a :: l) → Chain R l
  | [], _ => by simp [Chain]
  | _ :: _, hc => (chain_cons_cons.mp hc).2

theorem chain_append_right {R : Nat → Nat → Prop} :
    ∀ {l1 l2 : List Nat}, Chain R (l1 ++ l2) → Chain R l2
  | [], _, h => h
  | _ :: l1, _, h => chain_append_right (l1 := l1) (chain_tail h)

theorem chain_glue {R : Nat → Nat → Prop} {c : Nat} :
    ∀ {l1 l2 : List Nat}, Chain R (l1 ++ [c]) → Chain R (c :: l2) → Chain R (l1 ++ c :: l2)
  | [], _, _, h2 => h2
  | [a], l2, h1, h2 => by
    have : R a c := by simpa [Chain] using h1
    exact chain_cons_cons.mpr ⟨this, h2⟩
  | a :: b :: l1, l2, h1, h2 => by
    have h1' : R a b ∧ Chain R (b :: l1 ++ [c]) := by simpa [Chain] using h1
    have := chain_glue (l1 := b :: l1) h1'.2 h2
    exact chain_cons_cons.mpr ⟨h1'.1, this⟩

theorem chain_snoc {R : Nat → Nat → Prop} {a b : Nat} :
    ∀ {l : List Nat}, Chain R (l ++ [a]) → R a b → Chain R (l ++ [a, b])
  | l, h, hab => by
    have : Chain R (a :: [b]) := by simp [Chain, hab]
    simpa using chain_glue h this

theorem chain_reverse {R : Nat → Nat → Prop} :
    ∀ {l : List Nat}, Chain R l → Chain (fun a b => R b a) l.reverse
  | [], _ => by simp [Chain]
  | [_], _ => by simp [Chain]
  | a :: b :: l, h => by
    have h' := chain_cons_cons.mp h
    have ih := chain_reverse h'.2
    have : (a :: b :: l).reverse = l.reverse ++ [b, a] := by simp
    rw [this]
    apply chain_snoc
    · simpa using ih
    · exact h'.1

theorem chain_append {R : Nat → Nat → Prop} : ∀ {l1 l2 : List Nat}, Chain R l1 → Chain R l2 →
    (∀ y ∈ l1, ∀ z ∈ l2, R y z) → Chain R (l1 ++ l2)
  | [], _, _, h2, _ => h2
  | [a], l2, _, h2, hx => by
    cases l2 with
    | nil => simp [Chain]
    | cons b l => exact chain_cons_cons.mpr ⟨hx a (by simp) b (by simp), h2⟩
  | a :: b :: l1, l2, h1, h2, hx => by
    have h1' := chain_cons_cons.mp h1
    have := chain_append (l1 := b :: l1) h1'.2 h2 (fun y hy z hz => hx y (by simp [hy]) z hz)
    exact chain_cons_cons.mpr ⟨h1'.1, this⟩

theorem chain_mono_mem {R S : Nat → Nat → Prop} : ∀ {l : List Nat},
    (∀ a ∈ l, ∀ b ∈ l, R a b → S a b) → Chain R l → Chain S l
  | [], _, _ => by simp [Chain]
  | [_], _, _ => by simp [Chain]
  | a :: b :: l, h, hc => by
    have hc' := chain_cons_cons.mp hc
    exact chain_cons_cons.mpr ⟨h a (by simp) b (by simp) hc'.1,
      chain_mono_mem (fun x hx y hy => h x (by simp [hx]) y (by simp [hy])) hc'.2⟩

@[simp] theorem ids_node (i : Nat) (ks : List RTree) : ids (node i ks) = i :: idsL ks := rfl
@[simp] theorem idsL_nil : idsL [] = [] := rfl
@[simp] theorem idsL_cons (t : RTree) (ts : List RTree) : idsL (t :: ts) = ids t ++ idsL ts := rfl

theorem idsL_append (l1 l2 : List RTree) : idsL (l1 ++ l2) = idsL l1 ++ idsL l2 := by
  induction l1 with
  | nil => simp
  | cons t ts ih => simp [ih]

theorem rid_mem_ids (t : RTree) : t.rid ∈ ids t := by
  cases t; simp [rid]

theorem ids_eq_rid_cons (t : RTree) : ids t = t.rid :: idsL t.kids := by
  cases t; simp [rid, kids]

theorem ids_sublist_idsL {k : RTree} : ∀ {ks : List RTree}, k ∈ ks → (ids k).Sublist (idsL ks)
  | k0 :: ks0, hk => by
    rw [idsL_cons]
    rcases List.mem_cons.mp hk with rfl | hk
    · exact List.sublist_append_left _ _
    · exact (ids_sublist_idsL hk).trans (List.sublist_append_right _ _)

theorem ids_subset_idsL {k : RTree} {ks : List RTree} (hk : k ∈ ks) : ∀ x ∈ ids k, x ∈ idsL ks :=
  fun _ hx => (ids_sublist_idsL hk).subset hx

theorem mem_append_cons_of_mem_append {α : Type} {pre post : List α} {k k' : α} (h : k' ∈ pre ++ post) :
    k' ∈ pre ++ k :: post :=
  (List.mem_append.mp h).elim (List.mem_append_left _)
    (fun h => List.mem_append_right _ (List.mem_cons_of_mem _ h))

theorem idsL_without_sublist (pre post : List RTree) (k : RTree) :
    (idsL (pre ++ post)).Sublist (idsL (pre ++ k :: post)) := by
  rw [idsL_append, idsL_append, idsL_cons]
  exact (List.Sublist.refl _).append (List.sublist_append_right _ _)

theorem kid_apart {pre post : List RTree} {k : RTree} (h : (idsL (pre ++ k :: post)).Nodup) :
    (ids k).Nodup ∧ (idsL (pre ++ post)).Nodup ∧ ∀ y ∈ ids k, y ∉ idsL (pre ++ post) := by
  have hp : (idsL (pre ++ k :: post)).Perm (ids k ++ idsL (pre ++ post)) := by
    simp only [idsL_append, idsL_cons]
    exact List.perm_append_comm_assoc _ _ _
  have := List.nodup_append.mp (hp.nodup_iff.mp h)
  exact ⟨this.1, this.2.1, fun y hy hy' => this.2.2 y hy y hy' rfl⟩

theorem exists_kid_of_mem_idsL {b : Nat} : ∀ {ts : List RTree}, b ∈ idsL ts → ∃ k ∈ ts, b ∈ ids k
  | k :: ts, h => by
    simp at h
    rcases h with h | h
    · exact ⟨k, by simp, h⟩
    · obtain ⟨k', hk', hb⟩ := exists_kid_of_mem_idsL h
      exact ⟨k', by simp [hk'], hb⟩

@[simp] theorem pathDown_node (a i : Nat) (ks : List RTree) :
    pathDown a (node i ks) = if i = a then some [i] else (pathDownL a ks).map (fun p => i :: p) := rfl
@[simp] theorem pathDownL_nil (a : Nat) : pathDownL a [] = none := rfl
theorem pathDownL_cons_some {a : Nat} {t : RTree} {ts : List RTree} {p : List Nat}
    (h : pathDown a t = some p) : pathDownL a (t :: ts) = some p := by
  simp [pathDownL, h]

theorem pathDownL_cons_none {a : Nat} {t : RTree} {ts : List RTree}
    (h : pathDown a t = none) : pathDownL a (t :: ts) = pathDownL a ts := by
  simp [pathDownL, h]

theorem pathDownL_cons_cases (a : Nat) (t : RTree) (ts : List RTree) :
    (∃ p, pathDown a t = some p ∧ pathDownL a (t :: ts) = some p) ∨
    (pathDown a t = none ∧ pathDownL a (t :: ts) = pathDownL a ts) := by
  cases h : pathDown a t with
  | some p => exact Or.inl ⟨p, rfl, pathDownL_cons_some h⟩
  | none => exact Or.inr ⟨rfl, pathDownL_cons_none h⟩

theorem pathDown_isSome_iff (a : Nat) :
    (∀ t, (pathDown a t).isSome ↔ a ∈ ids t) ∧ (∀ ts, (pathDownL a ts).isSome ↔ a ∈ idsL ts) := by
  apply induct
  · intro i ks ih
    by_cases h : i = a
    · simp [h]
    · have h' : ¬ a = i := fun e => h e.symm
      simp [h, h', ih]
  · simp
  · intro t ts iht ihts
    rcases pathDownL_cons_cases a t ts with ⟨p, hp, hL⟩ | ⟨hp, hL⟩
    · have : a ∈ ids t := iht.mp (by simp [hp])
      simp [hL, this]
    · have : a ∉ ids t := fun hm => by have := iht.mpr hm; simp [hp] at this
      simp [hL, this, ihts]

theorem pathDown_none_of_not_mem {a : Nat} {t : RTree} (h : a ∉ ids t) : pathDown a t = none := by
  cases hp : pathDown a t with
  | none => rfl
  | some p => exact absurd ((pathDown_isSome_iff a).1 t |>.mp (by simp [hp])) h

theorem pathDown_some_of_mem {a : Nat} {t : RTree} (h : a ∈ ids t) : ∃ p, pathDown a t = some p := by
  have := (pathDown_isSome_iff a).1 t |>.mpr h
  exact Option.isSome_iff_exists.mp this

theorem mem_of_pathDown {a : Nat} {t : RTree} {p : List Nat} (h : pathDown a t = some p) :
    a ∈ ids t := (pathDown_isSome_iff a).1 t |>.mp (by simp [h])

theorem mem_of_pathDownL {a : Nat} {ts : List RTree} {p : List Nat} (h : pathDownL a ts = some p) :
    a ∈ idsL ts := (pathDown_isSome_iff a).2 ts |>.mp (by simp [h])

theorem pathDownL_some {a : Nat} {p : List Nat} : ∀ {ts : List RTree}, pathDownL a ts = some p →
    ∃ t ∈ ts, pathDown a t = some p
  | [], h => by simp at h
  | t :: ts, h => by
    rcases pathDownL_cons_cases a t ts with ⟨q, hq, hL⟩ | ⟨_, hL⟩
    · exact ⟨t, by simp, hq.trans (hL.symm.trans h)⟩
    · obtain ⟨k, hk, hp⟩ := pathDownL_some (hL.symm.trans h)
      exact ⟨k, by simp [hk], hp⟩

theorem pathDown_ends (a : Nat) :
    (∀ t p, pathDown a t = some p → p.head? = some t.rid ∧ p.getLast? = some a) ∧
    (∀ ts p, pathDownL a ts = some p → p.getLast? = some a ∧ p ≠ []) := by
  refine induct_kids ?_ ?_
  · intro i ks ih p hp
    by_cases h : i = a
    · simp [h] at hp; subst hp; simp [rid, h]
    · simp [h] at hp
      obtain ⟨q, hq, rfl⟩ := hp
      have := ih q hq
      refine ⟨by simp [rid], ?_⟩
      cases q with
      | nil => exact absurd rfl this.2
      | cons y ys => rw [List.getLast?_cons_cons]; exact this.1
  · intro ks ih p hp
    obtain ⟨k, hk, hq⟩ := pathDownL_some hp
    have := ih k hk p hq
    exact ⟨this.2, fun e => by simp [e] at this⟩

theorem pathDown_sublist (a : Nat) :
    (∀ t p, pathDown a t = some p → p.Sublist (ids t)) ∧
    (∀ ts p, pathDownL a ts = some p → p.Sublist (idsL ts)) := by
  refine induct_kids ?_ ?_
  · intro i ks ih p hp
    by_cases h : i = a
    · simp [h] at hp; subst hp; simp [h]
    · simp [h] at hp
      obtain ⟨q, hq, rfl⟩ := hp
      simpa using (ih q hq)
  · intro ks ih p hp
    obtain ⟨k, hk, hq⟩ := pathDownL_some hp
    exact (ih k hk p hq).trans (ids_sublist_idsL hk)

theorem pathDown_subset (a : Nat) :
    (∀ t p, pathDown a t = some p → ∀ x ∈ p, x ∈ ids t) ∧
    (∀ ts p, pathDownL a ts = some p → ∀ x ∈ p, x ∈ idsL ts) :=
  ⟨fun t p h _ hx => ((pathDown_sublist a).1 t p h).subset hx,
   fun ts p h _ hx => ((pathDown_sublist a).2 ts p h).subset hx⟩

theorem pathDown_nodup {a : Nat} {t : RTree} {p : List Nat} (hwf : t.WF)
    (h : pathDown a t = some p) : p.Nodup :=
  ((pathDown_sublist a).1 t p h).nodup hwf

theorem pathDownL_of_mem {v : Nat} {q : List Nat} : ∀ {ks : List RTree}, (idsL ks).Nodup →
    ∀ {k : RTree}, k ∈ ks → pathDown v k = some q → pathDownL v ks = some q
  | k0 :: ks0, hnd, k, hk, hq => by
    simp only [idsL_cons] at hnd
    rw [List.nodup_append] at hnd
    rcases List.mem_cons.mp hk with rfl | hk
    · exact pathDownL_cons_some hq
    · have hv : v ∈ idsL ks0 := ids_subset_idsL hk v (mem_of_pathDown hq)
      have : v ∉ ids k0 := fun h => hnd.2.2 v h v hv rfl
      rw [pathDownL_cons_none (pathDown_none_of_not_mem this)]
      exact pathDownL_of_mem hnd.2.1 hk hq

theorem pathDown_through_kid {r v : Nat} {ks : List RTree} (hnd : (idsL ks).Nodup) (hrv : r ≠ v)
    {k : RTree} (hk : k ∈ ks) (hv : v ∈ ids k) :
    ∃ q, pathDown v k = some q ∧ pathDown v (node r ks) = some (r :: q) :=
  (pathDown_some_of_mem hv).imp fun _ hq => ⟨hq, by simp [hrv, pathDownL_of_mem hnd hk hq]⟩

@[simp] theorem edges_node (i : Nat) (ks : List RTree) : edges (node i ks) = edgesL i ks := rfl
@[simp] theorem edgesL_nil (i : Nat) : edgesL i [] = [] := rfl
@[simp] theorem edgesL_cons (i : Nat) (t : RTree) (ts : List RTree) :
    edgesL i (t :: ts) = (i, t.rid) :: (edges t ++ edgesL i ts) := rfl

theorem edgesL_append (i : Nat) (l1 l2 : List RTree) :
    edgesL i (l1 ++ l2) = edgesL i l1 ++ edgesL i l2 := by
  induction l1 with
  | nil => simp
  | cons t ts ih => simp [ih]

theorem rid_edge {r : Nat} {k : RTree} : ∀ {ks : List RTree}, k ∈ ks → (r, k.rid) ∈ edgesL r ks
  | k0 :: ks0, h => by
    rcases List.mem_cons.mp h with rfl | h
    · simp
    · simp [rid_edge h]

theorem edges_kid_subset {r : Nat} {k : RTree} {e : Nat × Nat} :
    ∀ {ks : List RTree}, k ∈ ks → e ∈ edges k → e ∈ edgesL r ks
  | k0 :: ks0, hk, he => by
    rcases List.mem_cons.mp hk with rfl | hk
    · simp [he]
    · simp [edges_kid_subset hk he]

theorem edgesL_filter_sub {r : Nat} {q : RTree → Bool} {e : Nat × Nat} : ∀ {ks : List RTree},
    e ∈ edgesL r (ks.filter q) → e ∈ edgesL r ks
  | k :: ks, h => by
    rw [List.filter_cons] at h
    split at h
    · simp only [edgesL_cons, List.mem_cons, List.mem_append] at h ⊢
      exact h.imp_right (Or.imp_right edgesL_filter_sub)
    · simp [edgesL_filter_sub h]

theorem edges_mem :
    (∀ t p x, (p, x) ∈ edges t → p ∈ ids t ∧ x ∈ idsL t.kids) ∧
    (∀ ts i p x, (p, x) ∈ edgesL i ts → (p = i ∨ p ∈ idsL ts) ∧ x ∈ idsL ts) := by
  apply induct
  · intro i ks ih p x h
    simp at h
    have := ih i p x h
    simp [kids]
    exact ⟨this.1, this.2⟩
  · simp
  · intro t ts iht ihts i p x h
    simp at h
    rcases h with ⟨rfl, rfl⟩ | h | h
    · exact ⟨Or.inl rfl, by simp [rid_mem_ids]⟩
    · have := iht p x h
      refine ⟨Or.inr (by simp [this.1]), ?_⟩
      rw [idsL_cons, ids_eq_rid_cons t]; simp [this.2]
    · have := ihts i p x h
      refine ⟨?_, by simp [this.2]⟩
      rcases this.1 with h1 | h1
      · exact Or.inl h1
      · exact Or.inr (by simp [h1])

theorem edge_mem_ids {t : RTree} {p x : Nat} (h : (p, x) ∈ edges t) : p ∈ ids t ∧ x ∈ ids t := by
  have := edges_mem.1 t p x h
  refine ⟨this.1, ?_⟩
  rw [ids_eq_rid_cons]; simp [this.2]

theorem edges_snd_mem {s : RTree} {e : Nat × Nat} (h : e ∈ edges s) : e.2 ∈ ids s :=
  (edge_mem_ids (p := e.1) (x := e.2) h).2

theorem edge_snd_ne_rid {t : RTree} (hwf : t.WF) {e : Nat × Nat} (h : e ∈ edges t) : e.2 ≠ t.rid := by
  intro hr
  have hnd : (t.rid :: idsL t.kids).Nodup := ids_eq_rid_cons t ▸ hwf
  exact (List.nodup_cons.mp hnd).1 (hr ▸ (edges_mem.1 t e.1 e.2 h).2)

theorem edgesL_src {ts : List RTree} {i : Nat} {e : Nat × Nat} (h : e ∈ edgesL i ts) :
    e.1 = i ∨ e.1 ∈ idsL ts := (edges_mem.2 ts i e.1 e.2 h).1

theorem edges_src {t : RTree} {e : Nat × Nat} (h : e ∈ edges t) : e.1 ∈ ids t :=
  (edges_mem.1 t e.1 e.2 h).1

theorem edges_map_snd :
    (∀ t, (edges t).map (·.2) = idsL t.kids) ∧ (∀ ts i, (edgesL i ts).map (·.2) = idsL ts) := by
  apply induct
  · intro i ks ih
    simpa [kids] using ih i
  · simp
  · intro t ts iht ihts i
    simp only [edgesL_cons, List.map_cons, List.map_append, idsL_cons, iht, ihts i]
    rw [ids_eq_rid_cons t]; simp

theorem edges_snd_nodup {t : RTree} (hwf : t.WF) : ((edges t).map (·.2)).Nodup := by
  have : (ids t).Nodup := hwf
  rw [ids_eq_rid_cons] at this
  exact edges_map_snd.1 t ▸ (List.nodup_cons.mp this).2

theorem exists_parent {t : RTree} {a : Nat} (ha : a ∈ ids t) (har : a ≠ t.rid) :
    ∃ par, (par, a) ∈ edges t := by
  rw [ids_eq_rid_cons] at ha
  simp only [List.mem_cons] at ha
  rcases ha with ha | ha
  · exact absurd ha har
  · rw [← edges_map_snd.1 t] at ha
    obtain ⟨e, he, rfl⟩ := List.mem_map.mp ha
    exact ⟨e.1, he⟩

theorem pathDown_chain (a : Nat) :
    (∀ t p, pathDown a t = some p → Chain (fun x y => (x, y) ∈ edges t) p) ∧
    (∀ ts i p, pathDownL a ts = some p → Chain (fun x y => (x, y) ∈ edgesL i ts) (i :: p)) := by
  apply induct
  · intro i ks ih p hp
    by_cases h : i = a
    · simp [h] at hp; subst hp; simp [Chain]
    · simp [h] at hp
      obtain ⟨q, hq, rfl⟩ := hp
      simpa using ih i q hq
  · simp
  · intro t ts iht ihts i p hp
    rcases pathDownL_cons_cases a t ts with ⟨q, hpt, hL⟩ | ⟨hpt, hL⟩
    · rw [hL] at hp; simp at hp; subst hp
      have hc := iht q hpt
      have hh := ((pathDown_ends a).1 t q hpt).1
      cases q with
      | nil => simp at hh
      | cons y ys =>
        simp at hh; subst hh
        apply chain_cons_cons.mpr
        refine ⟨by simp, ?_⟩
        exact chain_mono (fun a b hab => by simp [hab]) hc
    · rw [hL] at hp
      exact chain_mono (fun a b hab => by simp [hab]) (ihts i p hp)

/-- Two root paths of a tree with distinct identifiers run together up to a fork node `c` and share nothing after it
    (in a forest they may also share nothing at all: the second alternative). -/
theorem pathDown_fork (a b : Nat) :
    (∀ t pa pb, (ids t).Nodup → pathDown a t = some pa → pathDown b t = some pb →
      ∃ pre c xs ys, pa = pre ++ c :: xs ∧ pb = pre ++ c :: ys ∧ ∀ x ∈ xs, x ∉ ys) ∧
    (∀ ts pa pb, (idsL ts).Nodup → pathDownL a ts = some pa → pathDownL b ts = some pb →
      (∃ pre c xs ys, pa = pre ++ c :: xs ∧ pb = pre ++ c :: ys ∧ ∀ x ∈ xs, x ∉ ys) ∨
      (∀ x ∈ pa, x ∉ pb)) := by
  apply induct
  · intro i ks ih pa pb hnd ha hb
    simp at hnd
    by_cases h1 : i = a
    · simp [h1] at ha; subst ha
      have hh := ((pathDown_ends b).1 _ pb hb).1
      cases pb with
      | nil => simp at hh
      | cons y ys =>
        simp [rid] at hh; subst hh
        exact ⟨[], y, [], ys, by simp [h1], by simp, by simp⟩
    · simp [h1] at ha
      obtain ⟨qa, hqa, rfl⟩ := ha
      by_cases h2 : i = b
      · simp [h2] at hb; subst hb
        exact ⟨[], i, qa, [], by simp, by simp [h2], by simp⟩
      · simp [h2] at hb
        obtain ⟨qb, hqb, rfl⟩ := hb
        rcases ih qa qb hnd.2 hqa hqb with ⟨pre, c, xs, ys, e1, e2, hd⟩ | hd
        · exact ⟨i :: pre, c, xs, ys, by simp [e1], by simp [e2], hd⟩
        · exact ⟨[], i, qa, qb, by simp, by simp, hd⟩
  · intro pa pb _ ha
    simp at ha
  · intro t ts iht ihts pa pb hnd ha hb
    obtain ⟨hn1, hn2, hdis⟩ := List.nodup_append.mp hnd
    rcases pathDownL_cons_cases a t ts with ⟨qa, hpa, hLa⟩ | ⟨hpa, hLa⟩ <;>
    rcases pathDownL_cons_cases b t ts with ⟨qb, hpb, hLb⟩ | ⟨hpb, hLb⟩
    · rw [hLa] at ha; rw [hLb] at hb; simp at ha hb; subst ha; subst hb
      exact Or.inl (iht _ _ hn1 hpa hpb)
    · rw [hLa] at ha; rw [hLb] at hb; simp at ha; subst ha
      right
      intro x hx hx'
      exact hdis x ((pathDown_subset a).1 t _ hpa x hx) x ((pathDown_subset b).2 ts _ hb x hx') rfl
    · rw [hLa] at ha; rw [hLb] at hb; simp at hb; subst hb
      right
      intro x hx hx'
      exact hdis x ((pathDown_subset b).1 t _ hpb x hx') x ((pathDown_subset a).2 ts _ ha x hx) rfl
    · rw [hLa] at ha; rw [hLb] at hb
      exact ihts _ _ hn2 ha hb

/-- The root path of a child is the root path of its parent followed by the child (in a forest below `i`: the parent is
    `i` itself, first alternative, or a node of the forest). -/
theorem pathDown_edge :
    (∀ t p x, (ids t).Nodup → (p, x) ∈ edges t →
      ∃ q, pathDown p t = some q ∧ pathDown x t = some (q ++ [x])) ∧
    (∀ ts i p x, (idsL ts).Nodup → i ∉ idsL ts → (p, x) ∈ edgesL i ts →
      (p = i ∧ pathDownL x ts = some [x]) ∨
      (∃ q, pathDownL p ts = some q ∧ pathDownL x ts = some (q ++ [x]))) := by
  apply induct
  · intro i ks ih p x hnd h
    simp at hnd h
    have hx := (edges_mem.2 ks i p x h).2
    have hxi : ¬ i = x := fun e => hnd.1 (e ▸ hx)
    rcases ih i p x hnd.2 hnd.1 h with ⟨rfl, h2⟩ | ⟨q, h1, h2⟩
    · exact ⟨[p], by simp, by simp [hxi, h2]⟩
    · have hp := mem_of_pathDownL h1
      have hpi : ¬ i = p := fun e => hnd.1 (e ▸ hp)
      exact ⟨i :: q, by simp [hpi, h1], by simp [hxi, h2]⟩
  · simp
  · intro t ts iht ihts i p x hnd hi h
    simp at hi h
    obtain ⟨hn1, hn2, hdis⟩ := List.nodup_append.mp hnd
    rcases h with ⟨rfl, rfl⟩ | h | h
    · left
      refine ⟨rfl, pathDownL_cons_some ?_⟩
      cases t; simp [rid]
    · right
      obtain ⟨q, h1, h2⟩ := iht p x hn1 h
      exact ⟨q, pathDownL_cons_some h1, pathDownL_cons_some h2⟩
    · have hm := edges_mem.2 ts i p x h
      have hxt : x ∉ ids t := fun hx => hdis x hx x hm.2 rfl
      have hxn := pathDown_none_of_not_mem hxt
      rcases ihts i p x hn2 hi.2 h with ⟨rfl, h2⟩ | ⟨q, h1, h2⟩
      · left
        exact ⟨rfl, by rw [pathDownL_cons_none hxn]; exact h2⟩
      · right
        have hp := mem_of_pathDownL h1
        have hpt : p ∉ ids t := fun hp' => hdis p hp' p hp rfl
        exact ⟨q, by rw [pathDownL_cons_none (pathDown_none_of_not_mem hpt)]; exact h1,
               by rw [pathDownL_cons_none hxn]; exact h2⟩

theorem unord_swap (a b : Nat) : unord (a, b) = unord (b, a) := by
  simp only [unord]
  grind

theorem unord_eq_iff (a b c d : Nat) :
    unord (a, b) = unord (c, d) ↔ (a = c ∧ b = d) ∨ (a = d ∧ b = c) := by
  simp only [unord]
  grind

end RTree
end Ptn.C17
