import Ptn.C17.FlatKids
/-! `nearest_neighbours` and `get_leaves` of the flat port against the structural model.
Both depend on the dictionary order, so they agree with the structural lists up to order only. -/
namespace Ptn.C17
open RTree

/-- `get_leaves` lists exactly the leaves (in dict order) -/
theorem Mirror.mem_getLeaves {ft : FTree} {t : RTree} (h : Mirror ft t) (x : Nat) :
    x ∈ ft.getLeaves ↔ x ∈ leavesOf t := by
  rw [leavesOf_eq_filter.1 t h.2.2, List.mem_filter]
  simp only [FTree.getLeaves, List.mem_map, List.mem_filter]
  -- the entry of a node lists the children of the subtree at it, and the node is a leaf iff there are none
  have entry : x ∈ ids t → ∃ (p : Option Nat) (js : List RTree), ft.get? x = some ⟨p, js.map rid⟩ ∧ isLeaf t x = js.isEmpty := by
    intro hx
    obtain ⟨s, p, hs, hr, hok, _⟩ := subtree_query h hx
    cases s with
    | node i js =>
      subst hr
      refine ⟨p, js, hok.self, ?_⟩
      rw [← isLeaf_subtree h.2.2 hs (rid_mem_ids _)]
      cases js <;> simp [isLeaf, rid]
  constructor
  · rintro ⟨e, ⟨he, hl⟩, rfl⟩
    have hx : e.1 ∈ ids t := h.keys_perm.subset (List.mem_map.mpr ⟨e, he, rfl⟩)
    obtain ⟨p, js, hget, hleaf⟩ := entry hx
    have : e.2 = ⟨p, js.map rid⟩ :=
      Option.some.inj ((lookup_of_nodup_keys h.keys_nodup (k := e.1) (v := e.2) he).symm.trans hget)
    exact ⟨hx, by rw [hleaf]; simpa [this] using hl⟩
  · rintro ⟨hx, hleaf⟩
    obtain ⟨p, js, hget, hl⟩ := entry hx
    obtain ⟨l₁, l₂, e, _⟩ := List.lookup_eq_some_iff.mp hget
    exact ⟨(x, ⟨p, js.map rid⟩), ⟨by simp [e], by simpa [hl] using hleaf⟩, rfl⟩

/-- `FTree.nearestNeighbours` on a bare list of entries -/
def nnOf (l : List (Nat × GNode)) : List (Nat × Nat) :=
  l.flatMap (fun e => e.2.children.map (fun c => (e.1, c)))

theorem nnOf_append (a b : List (Nat × GNode)) : nnOf (a ++ b) = nnOf a ++ nnOf b := by
  simp [nnOf]

theorem map_pair_rid (i : Nat) (ks : List RTree) :
    (ks.map rid).map (fun c => (i, c)) = ks.map (fun k => (i, k.rid)) := by
  simp [List.map_map, Function.comp_def]

theorem nnOf_flatten :
    (∀ t p, (nnOf (flattenAux p t)).Perm (edges t)) ∧
    (∀ ts i, (ts.map (fun k => (i, k.rid)) ++ nnOf (flattenL (some i) ts)).Perm (edgesL i ts)) := by
  apply induct
  · intro i ks ih p
    rw [flattenAux_node]
    show (nnOf ((i, ⟨p, ks.map rid⟩) :: flattenL (some i) ks)).Perm (edges (node i ks))
    have : nnOf ((i, (⟨p, ks.map rid⟩ : GNode)) :: flattenL (some i) ks)
        = ks.map (fun k => (i, k.rid)) ++ nnOf (flattenL (some i) ks) := by
      simp [nnOf, List.map_map, Function.comp_def]
    rw [this]
    simpa [edges] using ih i
  · intro i; simp [nnOf, edgesL]
  · intro t ts iht ihts i
    rw [flattenL_cons, nnOf_append]
    simp only [List.map_cons, List.cons_append, edgesL]
    apply List.Perm.cons
    -- ts.map … ++ (nnOf (flattenAux (some i) t) ++ nnOf (flattenL (some i) ts)) ~ edges t ++ edgesL i ts
    have h1 := iht (some i)
    have h2 := ihts i
    have hx : (ts.map (fun k => (i, k.rid)) ++ (nnOf (flattenAux (some i) t) ++ nnOf (flattenL (some i) ts))).Perm
        (nnOf (flattenAux (some i) t) ++ (ts.map (fun k => (i, k.rid)) ++ nnOf (flattenL (some i) ts))) := by
      rw [← List.append_assoc, ← List.append_assoc]
      exact List.Perm.append_right _ List.perm_append_comm
    exact hx.trans (List.Perm.append h1 h2)

/-- **`nearest_neighbours`** (flat port, any dict order) = the tree edges `(parent, child)`, each once -/
theorem flat_nearest_neighbours_perm {ft : FTree} {t : RTree} (h : Mirror ft t) :
    ft.nearestNeighbours.Perm (edges t) :=
  (List.Perm.flatMap_right _ h.1).trans (nnOf_flatten.1 t none)

/-- **`get_leaves`** (flat port, any dict order) = the leaves of the tree, each once -/
theorem flat_get_leaves_perm {ft : FTree} {t : RTree} (h : Mirror ft t) :
    ft.getLeaves.Perm (leavesOf t) := by
  have hk := h.keys_nodup
  have h1 : ft.getLeaves.Nodup := by
    unfold FTree.getLeaves
    exact (List.Sublist.map _ List.filter_sublist).nodup hk
  have h2 : (leavesOf t).Nodup := by
    rw [leavesOf_eq_filter.1 t h.2.2]
    exact (List.filter_sublist (l := ids t)).nodup h.2.2
  exact (List.perm_ext_iff_of_nodup h1 h2).2 (fun x => h.mem_getLeaves x)

example : (⟨[(5, ⟨some 0, [6]⟩), (3, ⟨some 1, []⟩), (0, ⟨none, [1, 2, 5]⟩), (7, ⟨some 6, []⟩),
      (1, ⟨some 0, [3, 4]⟩), (6, ⟨some 5, [7]⟩), (2, ⟨some 0, []⟩), (4, ⟨some 1, []⟩)], some 0⟩ : FTree).nearestNeighbours
    = [(5, 6), (0, 1), (0, 2), (0, 5), (1, 3), (1, 4), (6, 7)] := by decide +kernel

end Ptn.C17
