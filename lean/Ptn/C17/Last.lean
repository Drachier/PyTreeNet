import Ptn.C17.UpdatePath
/-! The last nodes of a post-order, hence (`updatePath_tree`) of the update path: the last two are neighbours, and the
third-last is a neighbour of the second-last (the two-site sweep performs its last forward update without moving the
centre first). -/
namespace Ptn.C17
namespace RTree

theorem postorderL_last : ∀ {ks : List RTree} {l : List Nat} {x : Nat},
    postorderL ks = l ++ [x] → ∃ k ∈ ks, k.rid = x
  | [], l, x, h => by simp at h
  | [k], l, x, h => by
    cases k with
    | node i js =>
      simp only [postorderL_cons, postorder_node, postorderL_nil, List.append_nil] at h
      have := List.append_inj' h rfl
      exact ⟨node i js, by simp, by simpa [rid] using this.2⟩
  | k :: k2 :: ks, l, x, h => by
    have hne : postorderL (k2 :: ks) ≠ [] := by
      cases k2; simp
    obtain ⟨l2, x2, h2⟩ : ∃ l2 x2, postorderL (k2 :: ks) = l2 ++ [x2] := by
      have := List.dropLast_concat_getLast hne
      exact ⟨_, _, this.symm⟩
    obtain ⟨k', hk', hx'⟩ := postorderL_last h2
    rw [postorderL_cons, h2, ← List.append_assoc] at h
    have := List.append_inj' h rfl
    have hx : x2 = x := by simpa using this.2
    exact ⟨k', by simp at hk' ⊢; exact Or.inr hk', hx ▸ hx'⟩

/-- in a post-order the node before the last is a child of the root, and the one before that a child of that child
    when the root has no other child -/
theorem postorder_last_three : ∀ (U : RTree) (l : List Nat) (y z : Nat), postorder U = l ++ [y, z] →
    (z, y) ∈ edges U ∧ ∀ l' x, U.kids.length ≤ 1 → l = l' ++ [x] → (y, x) ∈ edges U
  | node i ks, l, y, z, h => by
    have e : postorderL ks ++ [i] = (l ++ [y]) ++ [z] := by simpa using h
    obtain ⟨e1, e2⟩ := List.append_inj' e rfl
    obtain rfl : i = z := by simpa using e2
    obtain ⟨k, hk, rfl⟩ := postorderL_last e1
    refine ⟨by simpa using rid_edge (r := i) hk, fun l' x h1 e3 => ?_⟩
    match ks, h1, hk, e1 with
    | [k0], _, hk, e1 =>
      obtain rfl : k = k0 := by simpa using hk
      cases k with
      | node j js =>
        have e4 : postorderL js ++ [j] = (l' ++ [x]) ++ [j] := by simpa [e3, rid] using e1
        obtain ⟨k1, hk1, rfl⟩ := postorderL_last (List.append_inj' e4 rfl).1
        simpa [rid] using Or.inr (rid_edge (r := j) hk1)

theorem updatePath_last_two (r : Nat) (ks : List RTree) (hwf : (node r ks).WF) (hks : ks ≠ []) :
    ∃ p l y z, updatePath (node r ks) = some p ∧ p = l ++ [y, z] ∧ Adj (node r ks) y z := by
  obtain ⟨U, hp, hG, -⟩ := updatePath_tree r ks hwf
  obtain ⟨l, y, z, e⟩ : ∃ l y z, postorder U = l ++ [y, z] := by
    have hlen := ((postorder_perm.1 U).trans hG.1).length_eq
    obtain ⟨k, ks', rfl⟩ := List.exists_cons_of_ne_nil hks
    have : 1 ≤ (ids k).length := by cases k; simp
    rcases List.eq_nil_or_concat (postorder U) with h0 | ⟨l1, z, h1⟩
    · simp [h0] at hlen
    · rcases List.eq_nil_or_concat l1 with h0 | ⟨l, y, h2⟩
      · simp [h1, h0] at hlen; simp [hlen.1] at this
      · exact ⟨l, y, z, by simp [h1, h2]⟩
  exact ⟨_, l, y, z, hp, e, (hG.2 y z).mp (Or.inr (postorder_last_three U l y z e).1)⟩

theorem updatePath_last_three (r : Nat) (ks : List RTree) (hwf : (node r ks).WF) :
    ∃ p, updatePath (node r ks) = some p ∧
      ∀ l x y z, p = l ++ [x, y, z] → Adj (node r ks) x y := by
  obtain ⟨U, hp, hG, hlen⟩ := updatePath_tree r ks hwf
  refine ⟨_, hp, fun l x y z h => (hG.2 x y).mp (Or.inr ?_)⟩
  exact (postorder_last_three U (l ++ [x]) y z (by simpa using h)).2 l x hlen rfl

end RTree
end Ptn.C17
