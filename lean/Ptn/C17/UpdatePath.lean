import Ptn.C17.RootStep
/-! The update path of a well-formed tree: completion, every node once, start, end, and how it is put together
(`TwoSweeps`), hence the post-order of a tree on the same graph hung up at its last node (`updatePath_tree`); the degree
of a leaf and of a root with one child. -/
namespace Ptn.C17
namespace RTree

/-- `find_start_node_id` returns a node of maximal depth, and such a node is a leaf. -/
theorem findStart_spec (t : RTree) (hwf : t.WF) :
    ∃ s v, findStart t = some s ∧ (s, v) ∈ depths 0 t ∧ (∀ e ∈ depths 0 t, e.2 ≤ v) ∧
      s ∈ ids t ∧ isLeaf t s = true := by
  have hne : depths 0 t ≠ [] := by cases t; simp
  obtain ⟨s, hs⟩ := argmaxFirst_isSome hne
  obtain ⟨v, hv, hmax⟩ := argmaxFirst_spec hs
  refine ⟨s, v, hs, hv, hmax, mem_ids_of_mem_depths hv, ?_⟩
  rw [isLeaf_iff]
  intro e he hes
  obtain ⟨p, x⟩ := e
  simp at hes; subst hes
  have hx := (edge_mem_ids he).2
  obtain ⟨k, hk⟩ := depths_exists_of_mem (d := 0) hx
  obtain ⟨q, h1, h2⟩ := pathDown_edge.1 t p x hwf he
  obtain ⟨p1, hp1, e1⟩ := depths_value.1 t 0 p v hwf hv
  obtain ⟨p2, hp2, e2⟩ := depths_value.1 t 0 x k hwf hk
  rw [h1] at hp1; rw [h2] at hp2
  simp at hp1 hp2; subst hp1; subst hp2
  have := hmax (x, k) hk
  simp at e1 e2 this
  omega

theorem getElem?_penultimate (l : List Nat) (a b : Nat) :
    (l ++ [a, b])[(l ++ [a, b]).length - 2]? = some a := by
  have : (l ++ [a, b]).length - 2 = l.length := by simp
  rw [this, List.getElem?_append_right (Nat.le_refl _)]
  simp

theorem mem_of_contains {l : List Nat} {x : Nat} (h : l.contains x = true) : x ∈ l :=
  List.contains_iff_mem.1 h

/-- The update path is two sweeps: upward through the branch `ki` that holds the start node, then downward from the
    root through the rest of the tree to the final node `f` - a leaf, or the root itself when nothing is left. -/
def TwoSweeps (r : Nat) (ks : List RTree) (p : List Nat) (s : Nat) : Prop :=
  ∃ up dn rest f, p = up ++ dn ∧ sweepDown f (node r rest) = some dn ∧
    (rest = [] ∨ isLeaf (node r ks) f = true) ∧
    ((ks = [] ∧ up = [] ∧ rest = []) ∨
     ∃ ki ∈ ks, sweepUp s ki = some up ∧ rest = ks.filter (fun k => !(k.rid == ki.rid)))

/-- The update path of a well-formed tree: it is computed without error, visits every node exactly
    once, starts at the start node, and ends at the root when the root has at most one child and
    at a leaf otherwise. -/
theorem updatePath_spec (r : Nat) (ks : List RTree) (hwf : (node r ks).WF) :
    ∃ p s, updatePath (node r ks) = some p ∧ findStart (node r ks) = some s ∧
      p.Perm (r :: idsL ks) ∧ p.head? = some s ∧
      ((ks.length ≤ 1 ∧ p.getLast? = some r) ∨
       (∃ f, p.getLast? = some f ∧ isLeaf (node r ks) f = true)) ∧ TwoSweeps r ks p s := by
  cases ks with
  | nil =>
    refine ⟨[r], r, ?_, ?_, by simp, by simp, Or.inl (by simp),
      [], [r], [], r, rfl, by simp [sweepDown_node], Or.inl rfl, Or.inl ⟨rfl, rfl, rfl⟩⟩
    · simp [updatePath, findStart, argmaxFirst, argmaxGo, rootPath, upPart, rootDown,
        furthestNonVisitedLeaf, leavesOf, keepKids, downPart]
    · simp [findStart, argmaxFirst, argmaxGo]
  | cons k0 ks' =>
    generalize hks : k0 :: ks' = ks at *
    have hwf' := hwf
    simp only [WF, ids_node, List.nodup_cons] at hwf'
    obtain ⟨hr, hnd⟩ := hwf'
    have hrids := rids_nodup hnd
    obtain ⟨s, v, hs, hsv, hmax, hsm, hsleaf⟩ := findStart_spec (node r ks) hwf
    -- the start node is not the root
    have hsr : ¬ r = s := by
      intro e; subst e
      have h0 : (r, 0) ∈ depths 0 (node r ks) := by simp
      have hv0 := depths_unique hwf hsv h0
      have h1 : (k0.rid, 1) ∈ depths 0 (node r ks) := by
        subst hks; cases k0; simp [rid]
      have := hmax _ h1
      simp at this; omega
    have hsks : s ∈ idsL ks := by
      simp at hsm; rcases hsm with h | h
      · exact absurd h.symm hsr
      · exact h
    obtain ⟨ki, hki, hski⟩ := exists_kid_of_mem_idsL hsks
    obtain ⟨up, hup⟩ := sweepUp_some_of_mem hski
    have hfs := (findSome_sweepUp_of_mem hnd hki hski).trans hup
    obtain ⟨hupperm, _, huphead⟩ := ((sweepUp_spec s).1 ki).1 up hup
    have huphead' : (up ++ [r]).head? = some s ∧ ∀ l, (up ++ l).head? = some s := by
      have : up.head? = some s := huphead fun e he =>
        (isLeaf_iff.mp hsleaf) e (by simpa using edges_kid_subset (r := r) hki he)
      cases up with
      | nil => simp at this
      | cons y l => exact ⟨by simpa using this, fun _ => by simpa using this⟩
    have hupPart : upPart s r ks = some up := by simp [upPart, hsr, hfs]
    obtain ⟨q, _, hpds⟩ := pathDown_via_kid hwf hki hski
    have hmp : rootPath (node r ks) s = some (q.reverse ++ [ki.rid, r]) := by
      simp [rootPath, hpds]
    obtain ⟨rest, hrest⟩ : ∃ rest, rest = ks.filter (fun k => !(k.rid == ki.rid)) := ⟨_, rfl⟩
    have hperm : (idsL ks).Perm (ids ki ++ idsL rest) := hrest ▸ idsL_remove hrids hki
    obtain ⟨_, hndrest, hdis⟩ := List.nodup_append.mp (hperm.nodup hnd)
    by_cases hlen : ks.length = 1
    · -- the root has one child: the path ends at the root
      have hrd : rootDown (node r ks) r ks (q.reverse ++ [ki.rid, r]) up = some [r] := by
        simp [rootDown, hlen]
      have hks1 : ks = [ki] := by
        cases ks with
        | nil => simp at hlen
        | cons a l =>
          cases l with
          | nil => simp at hki; simp [hki]
          | cons b l' => simp at hlen
      have hrest0 : rest = [] := by rw [hrest, hks1]; simp
      refine ⟨up ++ [r], s, ?_, hs, ?_, huphead'.1, Or.inl ⟨by omega, by simp⟩,
        up, [r], [], r, rfl, by simp [sweepDown_node], Or.inl rfl, Or.inr ⟨ki, hki, hup, hrest0 ▸ hrest⟩⟩
      · simp only [updatePath, hs, hmp, hupPart, hrd, Option.bind_some]
      · rw [hks1]
        simp only [idsL_cons, idsL_nil, List.append_nil]
        exact (List.perm_append_comm).trans (by simpa using hupperm)
    · -- at least two children
      have hlen2 : 2 ≤ ks.length :=
        Nat.lt_of_le_of_ne (by rw [← hks]; exact Nat.succ_pos _) (fun e => hlen e.symm)
      obtain ⟨kj0, hkj0, hne0⟩ := exists_other_kid hrids hlen2 ki.rid
      have hleavest : leavesOf (node r ks) = leavesOfL ks := by
        rw [leavesOf_node]; subst hks; simp
      have hinrest : ∀ {kj : RTree}, kj ∈ ks → kj.rid ≠ ki.rid → kj ∈ rest :=
        fun hkj hne => hrest ▸ mem_filter_ne hkj hne
      -- a leaf outside the first branch exists, so the search for the final leaf succeeds
      have hdisj : ∀ {kj : RTree}, kj ∈ ks → kj.rid ≠ ki.rid → ∀ x ∈ ids kj, x ∉ up :=
        fun hkj hne x hx hxu =>
          hdis x (hupperm.subset hxu) x (ids_subset_idsL (hinrest hkj hne) x hx) rfl
      have hcand : (depths 0 (node r ks)).filter
          (fun e => (leavesOf (node r ks)).contains e.1 && !up.contains e.1) ≠ [] := by
        obtain ⟨l, hl⟩ := List.exists_mem_of_ne_nil _ (leavesOf_ne_nil.1 kj0)
        have hlk := leavesOf_subset.1 kj0 l hl
        have hlt : l ∈ ids (node r ks) := by simp [ids_subset_idsL hkj0 l hlk]
        obtain ⟨d, hd⟩ := depths_exists_of_mem (d := 0) hlt
        apply List.ne_nil_of_mem (a := (l, d))
        rw [List.mem_filter]
        refine ⟨hd, ?_⟩
        have h1 : l ∈ leavesOf (node r ks) := hleavest ▸ leavesOfL_of_mem hkj0 hl
        have h2 : l ∉ up := hdisj hkj0 hne0 l hlk
        simp [h1, h2]
      obtain ⟨f, hf⟩ := argmaxFirst_isSome hcand
      obtain ⟨vf, hfv, _⟩ := argmaxFirst_spec hf
      rw [List.mem_filter] at hfv
      have hfleaf : f ∈ leavesOf (node r ks) := by
        have := hfv.2; simp at this; exact this.1
      have hfup : f ∉ up := by
        have := hfv.2; simp at this; exact this.2
      obtain ⟨kj, hkj, hfkj⟩ := leavesOfL_mem (hleavest ▸ hfleaf)
      have hfkj' := leavesOf_subset.1 kj f hfkj
      have hne : kj.rid ≠ ki.rid := by
        intro e
        have := inj_on_of_nodup_map rid hrids _ hkj _ hki e
        subst this
        exact hfup (hupperm.symm.subset hfkj')
      have hfur : furthestNonVisitedLeaf (node r ks) up = some f := hf
      obtain ⟨qf, _, hpdf⟩ := pathDown_via_kid hwf hkj hfkj'
      have hkeep : keepKids ks (q.reverse ++ [ki.rid, r]) (r :: kj.rid :: qf)
          = some (ks.filter (fun k => !(k.rid == ki.rid || k.rid == kj.rid))) := by
        have hne' : ks.isEmpty = false := by subst hks; simp
        have h2 : 2 ≤ (q.reverse ++ [ki.rid, r]).length := by simp
        simp only [keepKids, hne', h2, if_true, getElem?_penultimate]
        simp
      obtain ⟨dn, hdn⟩ := sweepDown_some_of_mem hfkj'
      have hdown : downPart f ks (r :: kj.rid :: qf) = some dn := by
        simp [downPart, find?_of_nodup_map rid hrids hkj, hdn]
      -- what the step at the root and the loop below it produce is the downward sweep of the rest of the tree
      have hrf : r ≠ f := fun e => hr (e ▸ ids_subset_idsL hkj f hfkj')
      have hsd := sweepDown_via_kid hndrest hrf (hinrest hkj hne) hdn
      have hkeepeq : rest.filter (fun k => !(k.rid == kj.rid))
          = ks.filter (fun k => !(k.rid == ki.rid || k.rid == kj.rid)) := by
        rw [hrest, List.filter_filter]
        apply List.filter_congr
        intro x _
        cases (x.rid == ki.rid) <;> cases (x.rid == kj.rid) <;> rfl
      rw [hkeepeq] at hsd
      have hrd : rootDown (node r ks) r ks (q.reverse ++ [ki.rid, r]) up
          = some (postorderL (ks.filter (fun k => !(k.rid == ki.rid || k.rid == kj.rid)))
              ++ [r] ++ dn) := by
        have : (ks.length == 1) = false := by simp [hlen]
        simp only [rootDown, this, hfur, hpdf, hkeep, hdown, Option.bind_some]
        simp
      obtain ⟨hsdperm, _, hsdlast⟩ := ((sweepDown_spec f).1 _).1 _ hsd
      have hleaf : isLeaf (node r ks) f = true := by
        have := leavesOf_eq_filter.1 (node r ks) hwf
        rw [this, List.mem_filter] at hfleaf
        exact hfleaf.2
      refine ⟨up ++ (postorderL (ks.filter (fun k => !(k.rid == ki.rid || k.rid == kj.rid)))
          ++ [r] ++ dn), s, ?_, hs, ?_, huphead'.2 _, Or.inr ⟨f, ?_, hleaf⟩,
        up, _, rest, f, rfl, hsd, Or.inr hleaf, Or.inr ⟨ki, hki, hup, hrest⟩⟩
      · simp only [updatePath, hs, hmp, hupPart, hrd, Option.bind_some]
      · exact ((hupperm.append hsdperm).trans (by simp)).trans
          (hperm.symm.cons r)
      · rw [List.getLast?_append, hsdlast]; rfl

/-- The update path is the post-order of a tree on the same graph, hung up at the last node, which has at most one
    neighbour. -/
theorem updatePath_tree (r : Nat) (ks : List RTree) (hwf : (node r ks).WF) :
    ∃ U, updatePath (node r ks) = some (postorder U) ∧ SameGraph (node r ks) U ∧ U.kids.length ≤ 1 := by
  obtain ⟨p, s, hp, -, -, -, -, up, dn, rest, f, rfl, hdn, hend, hcase⟩ := updatePath_spec r ks hwf
  rcases hcase with ⟨rfl, rfl, rfl⟩ | ⟨ki, hki, hup, hrest⟩
  · refine ⟨node r [], ?_, ⟨.refl _, fun _ _ => Iff.rfl⟩, by simp [kids]⟩
    rw [sweepDown_node] at hdn
    by_cases hrf : r = f
    · simp [hrf] at hdn; subst hdn; simpa [hrf] using hp
    · simp [hrf, sweepDownL] at hdn
  -- the upward sweep is the post-order of `ki'`; hang `ki'` in above the root and re-root the rest at `f`
  obtain ⟨ki', e1, e2, e3, e4⟩ := sweepUp_tree s ki up hup
  have hU := (reroot_postorder f).1 (node r rest) [ki']
  rw [hdn] at hU
  obtain ⟨U, hU, hpost⟩ := Option.map_eq_some_iff.mp hU
  have hnd : (ks.map rid).Nodup := rids_nodup (List.nodup_cons.mp (by simpa [WF] using hwf)).2
  obtain ⟨-, g2, g3⟩ := (reroot_spec f).1 _ _ U hU
  refine ⟨U, by simpa [hpost, e1] using hp, ⟨?_, fun a b => ?_⟩, ?_⟩
  · refine g2.trans ?_
    simp only [idsL_cons, idsL_nil, List.append_nil, ids_node]
    exact (List.perm_middle.trans ((e3.append_right _).cons r)).trans
      ((hrest ▸ idsL_remove hnd hki).symm.cons r)
  · rw [adj_iff_sadj, g3, adj_iff_sadj]
    have : ∀ e, e ∈ edgesL r [ki'] ++ edges (node r rest) ↔ e ∈ edges (node r ks) := by
      intro e
      rw [edges_node, edges_node, (edgesL_remove (r := r) hnd hki).mem_iff, ← hrest]
      simp [e2, e4.mem_iff]
    exact or_congr (this _) (this _)
  · have hleaf : ∀ e ∈ edges (node r rest), e.1 ≠ f := by
      rcases hend with rfl | hend
      · simp
      · intro e he
        have := List.all_eq_true.mp hend e (by rw [hrest] at he; exact edgesL_filter_sub he)
        simpa using this
    rw [reroot_leaf_kids f _ _ U hU hleaf]
    split <;> simp

theorem findStart_deepest (t : RTree) (hwf : t.WF) {s : Nat} (hs : findStart t = some s) :
    ∀ y py, rootPath t y = some py → ∃ ps, rootPath t s = some ps ∧ py.length ≤ ps.length := by
  obtain ⟨s', v, hs', hsv, hmax, _, _⟩ := findStart_spec t hwf
  rw [hs] at hs'; simp at hs'; subst hs'
  intro y py hy
  simp only [rootPath, Option.map_eq_some_iff] at hy
  obtain ⟨qy, hqy, rfl⟩ := hy
  obtain ⟨k, hk⟩ := depths_exists_of_mem (d := 0) (mem_of_pathDown hqy)
  obtain ⟨p1, hp1, e1⟩ := depths_value.1 t 0 y k hwf hk
  obtain ⟨p2, hp2, e2⟩ := depths_value.1 t 0 s v hwf hsv
  rw [hqy] at hp1; simp at hp1; subst hp1
  have := hmax _ hk
  refine ⟨p2.reverse, by simp [rootPath, hp2], ?_⟩
  simp at this ⊢
  omega

theorem filter_touch_le_one {f : Nat} : ∀ {E : List (Nat × Nat)}, (E.map (·.2)).Nodup →
    (∀ e ∈ E, e.1 ≠ f) → (E.filter (fun e => e.1 == f || e.2 == f)).length ≤ 1
  | [], _, _ => by simp
  | e :: E, hnd, hsrc => by
    simp only [List.map_cons, List.nodup_cons, List.mem_map, not_exists, not_and] at hnd
    have h1 : ¬ e.1 = f := hsrc e (by simp)
    have ih := filter_touch_le_one hnd.2 (fun e' he' => hsrc e' (by simp [he']))
    by_cases h2 : e.2 = f
    · have : E.filter (fun e => e.1 == f || e.2 == f) = [] := by
        apply List.filter_eq_nil_iff.mpr
        intro e' he'
        have a1 : ¬ e'.1 = f := hsrc e' (by simp [he'])
        have a2 : ¬ e'.2 = f := fun h => hnd.1 e' he' (h.trans h2.symm)
        simp [a1, a2]
      simp [h2, this]
    · simp [h1, h2]
      exact ih

theorem degree_leaf {t : RTree} (hwf : t.WF) {f : Nat} (hf : isLeaf t f = true) :
    degree t f ≤ 1 := by
  apply filter_touch_le_one
  · exact edges_snd_nodup hwf
  · exact isLeaf_iff.mp hf

theorem degree_root_le_one {r : Nat} {ks : List RTree} (hwf : (node r ks).WF)
    (hlen : ks.length ≤ 1) : degree (node r ks) r ≤ 1 := by
  simp only [WF, ids_node, List.nodup_cons] at hwf
  cases ks with
  | nil => simp [degree]
  | cons k l =>
    cases l with
    | cons _ _ => simp at hlen
    | nil =>
      have : (edges k).filter (fun e => e.1 == r || e.2 == r) = [] := by
        apply List.filter_eq_nil_iff.mpr
        intro e he
        have h := edge_mem_ids (t := k) (p := e.1) (x := e.2) he
        have a1 : ¬ e.1 = r := fun h' => hwf.1 (by simp [← h', h.1])
        have a2 : ¬ e.2 = r := fun h' => hwf.1 (by simp [← h', h.2])
        simp [a1, a2]
      simp [degree, this]

end RTree
end Ptn.C17
