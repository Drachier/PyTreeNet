import Ptn.C17.Contig
import Ptn.C17.FlatSweep
import Ptn.C17.Cache
import Ptn.C17.SegHop
/-! Flat port = structural model: the keys created by `init_cache_but_one`
(`_find_caching_path` with its state `(caching_path, next_id_dict)`). -/
namespace Ptn.C17
open RTree

theorem cachingRecF_eval {ft : FTree} {ip : List Nat} {f x l : Nat} {st : List Nat × List (Nat × Nat)}
    {n : GNode} {cp' : List Nat} {nd' : List (Nat × Nat)} (h1 : ft.get? x = some n)
    (h2 : (n.children.filter (fun c => !ip.contains c)).foldlM
        (fun st c => ft.cachingRecF ip f c st) st = some (cp', nd'))
    (h3 : ip.getLast? = some l) :
    ft.cachingRecF ip (f + 1) x st =
      (if !(nd'.any (fun e => e.1 == x)) && x != l then
         (match n.parent with
          | none => none
          | some p => some (dictSet nd' x p))
       else some nd').bind fun nd => some (cp' ++ [x], nd) := by
  simp only [FTree.cachingRecF, h1, h2, h3, Option.bind_eq_bind, Option.bind_some]
  split <;> rfl

/-- `_find_caching_path_rec` on a subtree off the way to the left-out node: its post-order is
    appended to the caching path and every node is mapped to its parent -/
theorem cachingRecF_off (ft : FTree) (ip : List Nat) (l : Nat) (hl : ip.getLast? = some l) :
    (∀ s, ∀ par cp nd, KidsP ft (some par) s → (∀ y ∈ ids s, y ∉ ip) → (ids s).Nodup →
      (∀ y ∈ ids s, y ∉ nd.map (·.1)) → ∀ fuel, (ids s).length ≤ fuel →
      ft.cachingRecF ip fuel s.rid (cp, nd) = some (cp ++ postorder s, nd ++ upKeys par s)) ∧
    (∀ ks, ∀ x cp nd f, (∀ k ∈ ks, KidsP ft (some x) k) → (∀ y ∈ idsL ks, y ∉ ip) →
      (idsL ks).Nodup → (∀ y ∈ idsL ks, y ∉ nd.map (·.1)) → (idsL ks).length ≤ f →
      (ks.map rid).foldlM (fun st c' => ft.cachingRecF ip f c' st) (cp, nd) =
        some (cp ++ postorderL ks, nd ++ upKeysL x ks)) := by
  apply induct
  · intro x ks ih par cp nd hok hoff hnd hkeys fuel hf
    obtain ⟨f, rfl, hf'⟩ := fuel_succ hf
    have hget := hok.self
    simp only [ids_node, List.nodup_cons] at hnd
    have hfilter := filter_none_below (L := ip) (ks := ks) (fun y hy => hoff y (by simp [hy]))
    have hfold := ih x cp nd f (fun k hk => hok.kid hk) (fun y hy => hoff y (by simp [hy])) hnd.2
      (fun y hy => hkeys y (by simp [hy])) hf'
    have hlm : l ∈ ip := List.mem_of_getLast? hl
    have hxl : x ≠ l := fun e => hoff x (by simp) (e ▸ hlm)
    have hany : (nd ++ upKeysL x ks).any (fun e => e.1 == x) = false := by
      rw [List.any_eq_false]
      intro e he
      have hne : ¬ e.1 = x := by
        intro heq
        rcases List.mem_append.mp he with h | h
        · exact hkeys x (by simp) (heq ▸ List.mem_map.mpr ⟨e, h, rfl⟩)
        · have : e.1 ∈ (upKeysL x ks).map (·.1) := List.mem_map.mpr ⟨e, h, rfl⟩
          rw [(upKeys_spec.2 ks x).1] at this
          exact hnd.1 (heq ▸ mem_idsL_of_mem_postorderL this)
      simpa using hne
    have hset : dictSet (nd ++ upKeysL x ks) x par = nd ++ upKeysL x ks ++ [(x, par)] := by
      apply dictSet_new
      intro hm
      obtain ⟨e, he, heq⟩ := List.mem_map.mp hm
      have := List.any_eq_false.mp hany e he
      simp [heq] at this
    rw [rid, cachingRecF_eval hget (by rw [hfilter]; exact hfold) hl]
    have hcond : (!(nd ++ upKeysL x ks).any (fun e => e.1 == x) && x != l) = true := by
      simp [hany, hxl]
    simp only [hcond, if_true, hset, Option.bind_some]
    simp
  · intro x cp nd f _ _ _ _ _; simp
  · intro k ks ihk ihks x cp nd f hok hoff hnd hkeys hf
    simp only [idsL_cons, List.length_append] at hf
    simp only [idsL_cons, List.nodup_append] at hnd
    have h1 := ihk x cp nd (hok k (by simp)) (fun y hy => hoff y (by simp [hy])) hnd.1
      (fun y hy => hkeys y (by simp [hy])) f (by omega)
    have h2 := ihks x (cp ++ postorder k) (nd ++ upKeys x k) f
      (fun k' hk' => hok k' (by simp [hk'])) (fun y hy => hoff y (by simp [hy])) hnd.2.1
      (by
        intro y hy hm
        simp only [List.map_append, List.mem_append] at hm
        rcases hm with hm | hm
        · exact hkeys y (by simp [hy]) hm
        · rw [(upKeys_spec.1 k x).1] at hm
          exact hnd.2.2 y (mem_ids_of_mem_postorder hm) y hy rfl)
      (by omega)
    simp only [List.map_cons, List.foldlM_cons, h1, Option.bind_eq_bind, Option.bind_some]
    rw [h2]; simp

/-- one step of the loop of `_find_caching_path` over the way to the left-out node -/
def cacheStep (ft : FTree) (ip : List Nat) (st : List Nat × List (Nat × Nat)) (x : Nat) :
    Option (List Nat × List (Nat × Nat)) := ft.cachingRecF ip ft.fuel x st

theorem any_append_left {l1 l2 : List (Nat × Nat)} {x : Nat}
    (h : l1.any (fun e => e.1 == x) = true) : (l1 ++ l2).any (fun e => e.1 == x) = true := by
  simp only [List.any_append, h, Bool.true_or]

/-- The loop over the part of the way inside a subtree: the caching path grows by the first
    components of the structural key list followed by `c`; the dict grows by the off-way keys. -/
theorem cache_loop {ft : FTree} {t : RTree} (h : Mirror ft t) (ip : List Nat) (c : Nat)
    (hl : ip.getLast? = some c) :
    ∀ t0, t0 ∈ subtrees t → ∀ q T, pathDown c t0 = some q → cacheKeys c t0 = some T →
      (∀ x ∈ ids t0, x ∈ ip ↔ x ∈ q) → ∀ cp nd,
      (∀ x ∈ q, x ≠ c → nd.any (fun e => e.1 == x) = true) →
      (∀ y ∈ ids t0, y ∉ q → y ∉ nd.map (·.1)) →
      ∃ off, q.foldlM (cacheStep ft ip) (cp, nd) = some (cp ++ T.map (·.1) ++ [c], nd ++ off) ∧
        T.Perm (q.zip (q.drop 1) ++ off) := by
  refine induct_mem ?_
  intro i ks ih hk q T hq hT hmp cp nd hany hkeys
  obtain ⟨⟨p, hget⟩, hsm, hiks, hndks, hkids⟩ := h.node_facts hk
  have hKP : ∀ k ∈ ks, KidsP ft (some i) k := by
    obtain ⟨p0, hp0⟩ := h.kidsP.sub hk
    exact fun k hk' => hp0.kid hk'
  obtain ⟨f, hfuel, hlen⟩ : ∃ f, ft.fuel = f + 1 ∧ (idsL ks).length ≤ f := by
    have := (subtrees_sublist.1 t _ hk).length_le
    exact ⟨(ids t).length, h.fuel_eq, by simp at this; omega⟩
  rw [cacheKeys_node] at hT
  by_cases hic : i = c
  · subst hic
    simp at hq hT; subst hq; subst hT
    have hoffks := off_path_kids hiks hmp
    have hfold := (cachingRecF_off ft ip i hl).2 ks i cp nd f hKP hoffks hndks
      (fun y hy => hkeys y (by simp [hy]) (by
        simp only [List.mem_singleton]; intro e; exact hiks (e ▸ hy))) hlen
    refine ⟨upKeysL i ks, ?_, by simp⟩
    simp only [List.foldlM_cons, List.foldlM_nil, cacheStep]
    rw [hfuel, cachingRecF_eval hget (by rw [filter_none_below hoffks]; exact hfold) hl]
    simp [(upKeys_spec.2 ks i).1]
  · simp [hic] at hT
    obtain ⟨pre, k, post, Tk, rfl, hTk, rfl⟩ := (cacheKeysL_first c i ks []).1 T hT
    have hck : c ∈ ids k := (((cacheKeys_spec c).1 k).1 Tk hTk).1.subset (by simp)
    obtain ⟨qk, hqk, hqt⟩ := pathDown_through_kid hndks hic (by simp) hck
    rw [hq] at hqt; simp at hqt; subst hqt
    have hkmem : k ∈ pre ++ k :: post := by simp
    obtain ⟨hother, hfilter, hmpk⟩ := on_path_kid hiks hndks hqk hmp
    have hnd' := hndks
    simp only [idsL_append, idsL_cons, List.nodup_append, List.mem_append] at hnd'
    have hhead := ((pathDown_ends c).1 k qk hqk).1
    have hoffpp : ∀ y ∈ idsL (pre ++ post), y ∉ ip := by
      intro y hy
      obtain ⟨k', hk', hyk⟩ := exists_kid_of_mem_idsL hy
      exact hother k' hk' y hyk
    have hsubl := idsL_without_sublist pre post k
    have hnotq : ∀ y ∈ idsL (pre ++ post), y ∉ i :: qk := fun y hy hin =>
      hoffpp y hy ((hmp y (by simp [hsubl.subset hy])).mpr hin)
    have hfold := (cachingRecF_off ft ip c hl).2 (pre ++ post) i cp nd f
      (fun k' hk' => hKP k' (mem_append_cons_of_mem_append hk'))
      hoffpp (hsubl.nodup hndks)
      (fun y hy => hkeys y (by simp [hsubl.subset hy]) (hnotq y hy))
      (by have := hsubl.length_le; omega)
    have hanyi : (nd ++ upKeysL i (pre ++ post)).any (fun e => e.1 == i) = true :=
      any_append_left (hany i (by simp) hic)
    -- the step at i
    have hstep : cacheStep ft ip (cp, nd) i =
        some (cp ++ postorderL (pre ++ post) ++ [i], nd ++ upKeysL i (pre ++ post)) := by
      simp only [cacheStep]
      rw [hfuel, cachingRecF_eval hget (by rw [hfilter]; exact hfold) hl]
      simp [hanyi]
    -- the rest of the loop inside k
    obtain ⟨offk, hrest, hperm⟩ := ih k hkmem (hkids k hkmem) qk Tk hqk hTk hmpk
      (cp ++ postorderL (pre ++ post) ++ [i]) (nd ++ upKeysL i (pre ++ post))
      (fun x hx hxc => any_append_left (hany x (by simp [hx]) hxc))
      (by
        intro y hy hyq hm
        simp only [List.map_append, List.mem_append] at hm
        have hyi : y ≠ i := fun e => hiks (e ▸ ids_subset_idsL hkmem y hy)
        rcases hm with hm | hm
        · exact hkeys y (by simp [ids_subset_idsL hkmem y hy]) (by
            simp only [List.mem_cons, not_or]; exact ⟨hyi, hyq⟩) hm
        · rw [(upKeys_spec.2 (pre ++ post) i).1] at hm
          have := (postorder_perm.2 (pre ++ post)).subset hm
          rw [idsL_append, List.mem_append] at this
          rcases this with h1 | h1
          · exact hnd'.2.2 y h1 y (Or.inl hy) rfl
          · exact hnd'.2.1.2.2 y hy y h1 rfl)
    refine ⟨upKeysL i (pre ++ post) ++ offk, ?_, ?_⟩
    · simp only [List.foldlM_cons, hstep, Option.bind_eq_bind, Option.bind_some, hrest]
      simp [(upKeys_spec.2 (pre ++ post) i).1]
    · -- the keys: those of the branches off the way, the step of the way, the rest
      have hz : (i :: qk).zip ((i :: qk).drop 1) = (i, k.rid) :: qk.zip (qk.drop 1) := by
        cases qk with
        | nil => simp at hhead
        | cons y l => simp at hhead; subst hhead; simp
      rw [hz]
      simp only [List.nil_append]
      apply List.perm_iff_count.mpr
      intro a
      have := hperm.count_eq a
      simp only [List.count_append, List.count_cons, List.count_nil] at this ⊢
      omega

theorem zip_next_mem : ∀ {q : List Nat} {x c : Nat}, x ∈ q → q.getLast? = some c → x ≠ c →
    ∃ y, (x, y) ∈ q.zip (q.drop 1)
  | [], _, _, h, _, _ => by simp at h
  | [a], x, c, h, hl, hne => by
    simp at h hl; subst h; exact absurd hl hne
  | a :: b :: rest, x, c, h, hl, hne => by
    rcases List.mem_cons.mp h with rfl | h
    · exact ⟨b, by simp⟩
    · rw [List.getLast?_cons_cons] at hl
      obtain ⟨y, hy⟩ := zip_next_mem h hl hne
      exact ⟨y, by simp at hy ⊢; exact Or.inr hy⟩

theorem mapM_lookup {nd : List (Nat × Nat)} : ∀ (T : List (Nat × Nat)),
    (∀ e ∈ T, nd.lookup e.1 = some e.2) →
    (T.map (·.1)).mapM (fun x => do
        let nxt ← nd.lookup x
        pure (x, nxt)) = some T
  | [], _ => by simp
  | e :: T, h => by
    have h1 := h e (by simp)
    have ih := mapM_lookup T (fun e' he' => h e' (by simp [he']))
    simp only [List.map_cons, List.mapM_cons, h1, Option.bind_eq_bind, Option.bind_some,
      Option.pure_def] at ih ⊢
    rw [ih]; simp

/-- **keys of `init_cache_but_one`** (in creation order): the flat port with its state
    `(caching_path, next_id_dict)` equals the structural model on every valid mirror. -/
theorem flat_cache_keys_eq_struct (ft : FTree) (t : RTree) (h : Mirror ft t) (c : Nat) :
    ft.cacheKeys c = cacheKeys c t := by
  by_cases hc : c ∈ ids t
  · obtain ⟨q, hq⟩ := pathDown_some_of_mem hc
    cases hT : cacheKeys c t with
    | none => exact absurd hc (((cacheKeys_spec c).1 t).2 hT)
    | some T =>
      have hl := ((pathDown_ends c).1 t q hq).2
      have hkeysT := (((cacheKeys_spec c).1 t).1 T hT).1
      obtain ⟨off, hloop, hperm⟩ := cache_loop h q c hl t (subtrees_self t) q T hq hT
        (fun x _ => Iff.rfl) [] (q.zip (q.drop 1))
        (by
          intro x hx hxc
          obtain ⟨y, hy⟩ := zip_next_mem hx hl hxc
          rw [List.any_eq_true]
          exact ⟨(x, y), hy, by simp⟩)
        (by
          intro y _ hyq hm
          obtain ⟨e, he, rfl⟩ := List.mem_map.mp hm
          exact hyq (List.of_mem_zip (a := e.1) (b := e.2) he).1)
      have hfold : q.foldlM (fun st x => ft.cachingRecF q ft.fuel x st) ([], q.zip (q.drop 1))
          = some (T.map (·.1) ++ [c], q.zip (q.drop 1) ++ off) := by
        have : (fun st x => ft.cachingRecF q ft.fuel x st) = cacheStep ft q := rfl
        rw [this, hloop]; simp
      -- lookups
      have hndT : (T.map (·.1)).Nodup := by
        have : (T.map (·.1) ++ [c]).Nodup := hkeysT.symm.nodup h.2.2
        exact (List.nodup_append.mp this).1
      have hndnd : ((q.zip (q.drop 1) ++ off).map (·.1)).Nodup :=
        (hperm.map (·.1)).nodup_iff.mp hndT
      have hlook : ∀ e ∈ T, (q.zip (q.drop 1) ++ off).lookup e.1 = some e.2 :=
        fun e he => lookup_of_nodup_keys hndnd (hperm.subset he)
      simp only [FTree.cacheKeys, flat_find_path_to_root_eq_struct ft t h, rootPath, hq,
        Option.map_some, Option.bind_eq_bind, Option.bind_some, List.reverse_reverse, hfold]
      have hdl : (T.map (·.1) ++ [c]).dropLast = T.map (·.1) := by simp
      rw [hdl]
      exact mapM_lookup T hlook
  · have h1 : cacheKeys c t = none := by
      cases hT : cacheKeys c t with
      | none => rfl
      | some T =>
        have := (((cacheKeys_spec c).1 t).1 T hT).1
        exact absurd (this.subset (by simp)) hc
    simp [FTree.cacheKeys, flat_find_path_to_root_eq_struct ft t h, rootPath,
      pathDown_none_of_not_mem hc, h1]

end Ptn.C17
