import Ptn.C17.SegHop
/-! The distance table of a tree seen from a node `c`: every other node has exactly one neighbour
that is closer to `c` - the first node on its way to `c` - and all its other neighbours are farther
away by one.  The table is the depth table of the tree hung up at `c`, in which the first hop toward `c` is the parent
(`firstHop_parent`) and a child is one level below its parent.  (Input of the canonical-form gauge theorem of C03.) -/
namespace Ptn.C17
namespace RTree

theorem firstHop_parent {t R : RTree} (hwf : t.WF) {c : Nat} (hc : c ∈ ids t) (hR : reroot c [] t = some R)
    {v n : Nat} (h : (v, n) ∈ edges R) : firstHop t n c = some v := by
  have hG := reroot_sameGraph hR
  obtain ⟨rest, hp⟩ := toward_root (hG.wf hwf) h
  rw [((reroot_spec c).1 t [] R hR).1, hG.pathFromTo hwf (hG.wf hwf) (hG.1.subset (edge_mem_ids h).2) hc] at hp
  exact firstHop_of_path hp

end RTree

open RTree

/-- `m` is a neighbour of `n` exactly when it is listed by `neighbouring_nodes()` -/
theorem mem_nbrsOf (t : RTree) (n m : Nat) : m ∈ nbrsOf t n ↔ Adj t n m := by
  simp only [nbrsOf, List.mem_append, List.mem_map, List.mem_filter, beq_iff_eq, Adj]
  constructor
  · rintro (⟨e, ⟨he, h2⟩, h1⟩ | ⟨e, ⟨he, h1⟩, h2⟩)
    · right; obtain ⟨x, y⟩ := e; simp at h1 h2; subst h1; subst h2; exact he
    · left; obtain ⟨x, y⟩ := e; simp at h1 h2; subst h1; subst h2; exact he
  · rintro (h | h)
    · exact Or.inr ⟨(n, m), ⟨h, rfl⟩, rfl⟩
    · exact Or.inl ⟨(m, n), ⟨h, rfl⟩, rfl⟩

/-- The distance table seen from `c`: its keys are the nodes, `c` has distance 0, and every other
    node `n` at distance `d` has the first node on its way to `c` as a neighbour at distance `d - 1`
    while all its other neighbours are at distance `d + 1`. -/
theorem dist_table (t : RTree) (hwf : t.WF) (c : Nat) (hc : c ∈ ids t) :
    ∃ tbl, distanceToNode t c = some tbl ∧ (tbl.map (·.1)).Nodup ∧
      (tbl.map (·.1)).Perm (ids t) ∧ (c, 0) ∈ tbl ∧
      ∀ n d, (n, d) ∈ tbl → n ≠ c →
        ∃ v d', firstHop t n c = some v ∧ Adj t n v ∧ d = d' + 1 ∧ (v, d') ∈ tbl ∧
          ∀ m, Adj t n m → m ≠ v → (m, d + 1) ∈ tbl := by
  obtain ⟨R, hR⟩ := (reroot_isSome c).1 t [] hc
  have hG := reroot_sameGraph hR
  have hwfR := hG.wf hwf
  obtain rfl := ((reroot_spec c).1 t [] R hR).1
  have hperm : ((depths 0 R).map (·.1)).Perm (ids t) := by rw [depths_keys.1]; exact hG.1
  refine ⟨depths 0 R, by simp [distanceToNode, hR], hperm.symm.nodup hwf, hperm, by cases R; simp [rid], ?_⟩
  intro n d hnd hnc
  obtain ⟨v, hv⟩ := exists_parent (mem_ids_of_mem_depths hnd) hnc
  obtain ⟨d', hd'⟩ := depths_exists_of_mem (d := 0) (edge_mem_ids hv).1
  refine ⟨v, d', firstHop_parent hwf hc hR hv, (hG.2 n v).mp (Or.inr hv),
    depths_unique hwfR hnd (depths_edge hwfR hv hd'), hd', fun m hm hmv => ?_⟩
  rcases (hG.2 n m).mpr hm with h | h
  · exact depths_edge hwfR h hnd
  · exact absurd (parent_unique hwfR h hv) hmv

end Ptn.C17
