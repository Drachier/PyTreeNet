import Ptn.C17.Subtree
import Ptn.C17.Unique
/-! The TDVP update path: `argmaxFirst` (`max(d, key=d.get)`) and the two sweeps inside a subtree; both are
post-orders: the downward sweep of the tree re-rooted at its target, the upward sweep of a tree with the same nodes and edges. -/
namespace Ptn.C17

theorem argmaxGo_spec : ∀ (rest : List (Nat × Nat)) (bk bv : Nat),
    ∃ v, ((argmaxGo bk bv rest, v) = (bk, bv) ∨ (argmaxGo bk bv rest, v) ∈ rest) ∧ bv ≤ v ∧
      ∀ e ∈ rest, e.2 ≤ v
  | [], bk, bv => ⟨bv, by simp [argmaxGo]⟩
  | (k, w) :: rest, bk, bv => by
    by_cases h : bv < w
    · obtain ⟨v, h1, h2, h3⟩ := argmaxGo_spec rest k w
      refine ⟨v, ?_, by omega, ?_⟩
      · simp only [argmaxGo, h, if_true]
        rcases h1 with h1 | h1
        · right; simp [h1]
        · right; simp [h1]
      · intro e he
        simp at he
        rcases he with rfl | he
        · exact h2
        · exact h3 e he
    · obtain ⟨v, h1, h2, h3⟩ := argmaxGo_spec rest bk bv
      refine ⟨v, ?_, h2, ?_⟩
      · simp only [argmaxGo, h, if_false]
        rcases h1 with h1 | h1
        · left; exact h1
        · right; simp [h1]
      · intro e he
        simp at he
        rcases he with rfl | he
        · simp; omega
        · exact h3 e he

/-- `max(d, key=d.get)` returns a key of `d` whose value is maximal. -/
theorem argmaxFirst_spec {l : List (Nat × Nat)} {k : Nat} (h : argmaxFirst l = some k) :
    ∃ v, (k, v) ∈ l ∧ ∀ e ∈ l, e.2 ≤ v := by
  cases l with
  | nil => simp [argmaxFirst] at h
  | cons e rest =>
    obtain ⟨k0, v0⟩ := e
    simp only [argmaxFirst, Option.some.injEq] at h
    subst h
    obtain ⟨v, h1, h2, h3⟩ := argmaxGo_spec rest k0 v0
    refine ⟨v, ?_, ?_⟩
    · rcases h1 with h1 | h1
      · simp [h1]
      · simp [h1]
    · intro e he
      simp at he
      rcases he with rfl | he
      · exact h2
      · exact h3 e he

theorem argmaxFirst_isSome {l : List (Nat × Nat)} (h : l ≠ []) : ∃ k, argmaxFirst l = some k := by
  cases l with
  | nil => exact absurd rfl h
  | cons e rest => obtain ⟨k0, v0⟩ := e; exact ⟨argmaxGo k0 v0 rest, by simp [argmaxFirst]⟩

namespace RTree

theorem sweepUp_node (s r : Nat) (ks : List RTree) :
    sweepUp s (node r ks) = if r = s then some (postorderL ks ++ [r]) else sweepUpL s r [] ks := rfl

theorem sweepUpL_first (s r : Nat) (ks pre0 : List RTree) :
    (∀ w, sweepUpL s r pre0 ks = some w → ∃ pre k post p, ks = pre ++ k :: post ∧
      sweepUp s k = some p ∧ w = p ++ postorderL (pre0 ++ pre ++ post) ++ [r]) ∧
    (sweepUpL s r pre0 ks = none → ∀ pre k post, ks = pre ++ k :: post → sweepUp s k = none) :=
  first_kid (F := sweepUpL s r) (g := fun _ k _ => sweepUp s k)
    (mk := fun pre _ post p => p ++ postorderL (pre ++ post) ++ [r]) (fun _ => rfl) (fun _ k _ => by rw [sweepUpL]; cases sweepUp s k <;> rfl)
    ks pre0

theorem sweepUp_spec (s : Nat) :
    (∀ k, (∀ p, sweepUp s k = some p →
        p.Perm (ids k) ∧ s ∈ ids k ∧ ((∀ e ∈ edges k, e.1 ≠ s) → p.head? = some s)) ∧
      (sweepUp s k = none → s ∉ ids k)) ∧
    (∀ ks r pre, (∀ p, sweepUpL s r pre ks = some p →
        p.Perm (r :: idsL pre ++ idsL ks) ∧ s ∈ idsL ks ∧
          ((∀ e ∈ edgesL r ks, e.1 ≠ s) → p.head? = some s)) ∧
      (sweepUpL s r pre ks = none → s ∉ idsL ks)) := by
  refine induct_kids ?_ ?_
  · intro r ks ih
    rw [sweepUp_node]
    by_cases hrs : r = s
    · subst hrs
      simp only [if_true, Option.some.injEq, reduceCtorEq, false_imp_iff, and_true]
      intro p hp; subst hp
      refine ⟨?_, by simp, ?_⟩
      · simp only [ids_node]
        exact (List.perm_append_comm).trans (by simpa using postorder_perm.2 ks)
      · intro hleaf
        cases ks with
        | nil => simp
        | cons k ks' => exact absurd rfl (hleaf (r, k.rid) (by simp))
    · simp only [hrs, if_false]
      have := ih r []
      constructor
      · intro p hp
        obtain ⟨h1, h2, h3⟩ := this.1 p hp
        exact ⟨by simpa using h1, by simp [h2], by rw [edges_node]; exact h3⟩
      · intro hn
        have := this.2 hn
        simp only [ids_node, List.mem_cons, not_or]
        exact ⟨fun e => hrs e.symm, this⟩
  · intro ks ih r pre0
    constructor
    · intro w hw
      obtain ⟨pre, k, post, p, rfl, h1, rfl⟩ := (sweepUpL_first s r _ pre0).1 w hw
      obtain ⟨e1, e2, e3⟩ := (ih k (by simp)).1 p h1
      refine ⟨?_, by simp [idsL_append, e2], ?_⟩
      · apply List.perm_iff_count.mpr
        intro a
        have c1 := e1.count_eq a
        have c2 := (postorder_perm.2 (pre0 ++ pre ++ post)).count_eq a
        simp only [List.count_append, List.count_cons, idsL_append, idsL_cons,
          List.count_nil] at c1 c2 ⊢
        omega
      · intro hleaf
        have := e3 (fun e he => hleaf e (by simp [edgesL_append, he]))
        cases p with
        | nil => simp at this
        | cons y l => simpa using this
    · intro hn hs
      obtain ⟨k, hk, hsk⟩ := exists_kid_of_mem_idsL hs
      obtain ⟨pre, post, rfl⟩ := List.append_of_mem hk
      exact (ih k hk).2 ((sweepUpL_first s r _ pre0).2 hn pre k post rfl) hsk

theorem sweepUp_some_of_mem {s : Nat} {k : RTree} (h : s ∈ ids k) : ∃ p, sweepUp s k = some p :=
  Option.ne_none_iff_exists'.mp fun hn => ((sweepUp_spec s).1 k).2 hn h

theorem mem_ids_of_sweepUp {s : Nat} {k : RTree} {q : List Nat} (h : sweepUp s k = some q) :
    ∀ y ∈ q, y ∈ ids k := fun _ hy => (((sweepUp_spec s).1 k).1 q h).1.subset hy

theorem sweepDown_node (f x : Nat) (ks : List RTree) :
    sweepDown f (node x ks) =
      if x = f then some (postorderL ks ++ [x]) else sweepDownL f x [] ks := rfl

theorem sweepDownL_first (f x : Nat) (ks pre0 : List RTree) :
    (∀ w, sweepDownL f x pre0 ks = some w → ∃ pre k post p, ks = pre ++ k :: post ∧
      sweepDown f k = some p ∧ w = postorderL (pre0 ++ pre ++ post) ++ [x] ++ p) ∧
    (sweepDownL f x pre0 ks = none → ∀ pre k post, ks = pre ++ k :: post → sweepDown f k = none) :=
  first_kid (F := sweepDownL f x) (g := fun _ k _ => sweepDown f k)
    (mk := fun pre _ post p => postorderL (pre ++ post) ++ [x] ++ p) (fun _ => rfl) (fun _ k _ => by rw [sweepDownL]; cases sweepDown f k <;> rfl)
    ks pre0

theorem sweepDown_spec (f : Nat) :
    (∀ k, (∀ p, sweepDown f k = some p →
        p.Perm (ids k) ∧ f ∈ ids k ∧ p.getLast? = some f) ∧
      (sweepDown f k = none → f ∉ ids k)) ∧
    (∀ ks x pre, (∀ p, sweepDownL f x pre ks = some p →
        p.Perm (x :: idsL pre ++ idsL ks) ∧ f ∈ idsL ks ∧ p.getLast? = some f) ∧
      (sweepDownL f x pre ks = none → f ∉ idsL ks)) := by
  refine induct_kids ?_ ?_
  · intro x ks ih
    rw [sweepDown_node]
    by_cases hxf : x = f
    · subst hxf
      simp only [if_true, Option.some.injEq, reduceCtorEq, false_imp_iff, and_true]
      intro p hp; subst hp
      refine ⟨?_, by simp, by simp⟩
      simp only [ids_node]
      exact (List.perm_append_comm).trans (by simpa using postorder_perm.2 ks)
    · simp only [hxf, if_false]
      have := ih x []
      constructor
      · intro p hp
        obtain ⟨h1, h2, h3⟩ := this.1 p hp
        exact ⟨by simpa using h1, by simp [h2], h3⟩
      · intro hn
        have := this.2 hn
        simp only [ids_node, List.mem_cons, not_or]
        exact ⟨fun e => hxf e.symm, this⟩
  · intro ks ih x pre0
    constructor
    · intro w hw
      obtain ⟨pre, k, post, p, rfl, h1, rfl⟩ := (sweepDownL_first f x _ pre0).1 w hw
      obtain ⟨e1, e2, e3⟩ := (ih k (by simp)).1 p h1
      refine ⟨?_, by simp [idsL_append, e2], ?_⟩
      · apply List.perm_iff_count.mpr
        intro a
        have c1 := e1.count_eq a
        have c2 := (postorder_perm.2 (pre0 ++ pre ++ post)).count_eq a
        simp only [List.count_append, List.count_cons, idsL_append, idsL_cons,
          List.count_nil] at c1 c2 ⊢
        omega
      · cases p with
        | nil => simp at e3
        | cons y l => rw [List.getLast?_append]; simp [e3]
    · intro hn hs
      obtain ⟨k, hk, hsk⟩ := exists_kid_of_mem_idsL hs
      obtain ⟨pre, post, rfl⟩ := List.append_of_mem hk
      exact (ih k hk).2 ((sweepDownL_first f x _ pre0).2 hn pre k post rfl) hsk

theorem sweepDown_some_of_mem {f : Nat} {k : RTree} (h : f ∈ ids k) : ∃ p, sweepDown f k = some p :=
  Option.ne_none_iff_exists'.mp fun hn => ((sweepDown_spec f).1 k).2 hn h

theorem mem_ids_of_sweepDown {f : Nat} {k : RTree} {q : List Nat} (h : sweepDown f k = some q) :
    ∀ y ∈ q, y ∈ ids k := fun _ hy => (((sweepDown_spec f).1 k).1 q h).1.subset hy

theorem reroot_postorder (f : Nat) :
    (∀ t up, (reroot f up t).map postorder = (sweepDown f t).map (postorderL up ++ ·)) ∧
    (∀ ks x up pre, (rerootL f x up pre ks).map postorder
        = (sweepDownL f x pre ks).map (postorderL up ++ ·)) := by
  apply induct
  · intro x ks ih up
    rw [reroot_node, sweepDown_node]
    split
    · simp [postorderL_append]
    · exact ih x up []
  · intro x up pre; rfl
  · intro k post ihk ihpost x up pre
    rw [rerootL, sweepDownL]
    have := ihk [node x (up ++ pre ++ post)]
    cases hd : sweepDown f k with
    | none =>
      rw [hd] at this
      rw [Option.map_eq_none_iff.mp this]
      exact ihpost x up (pre ++ [k])
    | some p =>
      rw [hd] at this
      obtain ⟨R, hR, e⟩ := Option.map_eq_some_iff.mp this
      rw [hR]; simp [e, postorderL_append]

theorem sweepDown_eq_reroot (f : Nat) (t : RTree) : sweepDown f t = (reroot f [] t).map postorder := by
  simpa using ((reroot_postorder f).1 t []).symm

/-- The upward sweep is the post-order of a tree on the same nodes and edges: the one with the children on the way to
    `s` moved to the front. -/
theorem sweepUp_tree (s : Nat) : ∀ k p, sweepUp s k = some p →
    ∃ k', postorder k' = p ∧ k'.rid = k.rid ∧ (ids k').Perm (ids k) ∧ (edges k').Perm (edges k) := by
  refine induct_mem ?_
  intro r ks ih p hp
  rw [sweepUp_node] at hp
  by_cases hrs : r = s
  · simp [hrs] at hp; subst hp
    exact ⟨node r ks, by simp [hrs], rfl, .refl _, .refl _⟩
  · simp [hrs] at hp
    obtain ⟨pre, k, post, p0, rfl, h1, rfl⟩ := (sweepUpL_first s r ks []).1 p hp
    obtain ⟨k', e1, e2, e3, e4⟩ := ih k (by simp) p0 h1
    refine ⟨node r (k' :: (pre ++ post)), by simp [e1, postorderL_append], rfl, ?_, ?_⟩
    · simp only [ids_node, idsL_cons, idsL_append, List.perm_cons]
      exact (e3.append_right _).trans (List.perm_append_comm_assoc _ _ _)
    · simp only [edges_node, edgesL_cons, edgesL_append, e2]
      exact ((e4.append_right _).cons _).trans
        (List.perm_append_comm_assoc ((r, k.rid) :: edges k) (edgesL r pre) (edgesL r post))

end RTree
end Ptn.C17
