import Ptn.C17.Tree
import Ptn.Common.List
/-! `path_from_to` on a well-formed tree: shape of the result (up to the fork node, then down), its correctness, its first
step from a node that is not above the target; a root path is a simple path. -/
namespace Ptn.C17
namespace RTree

theorem nodup_fork {pre xs ys : List Nat} {c : Nat} (h1 : (pre ++ c :: xs).Nodup)
    (h2 : (pre ++ c :: ys).Nodup) (hd : ∀ x ∈ xs, x ∉ ys) :
    (xs.reverse ++ ys.reverse ++ c :: pre.reverse).Nodup ∧ (xs.reverse ++ c :: ys).Nodup := by
  simp only [List.nodup_append, List.nodup_cons, nodup_reverse, List.mem_reverse,
    List.mem_append, List.mem_cons] at *
  grind

/-- The shape of `path_from_to`: up from `a` to the fork node `c`, then down to `b`. -/
theorem pathFromTo_shape {t : RTree} {a b : Nat} (hwf : t.WF) (ha : a ∈ ids t) (hb : b ∈ ids t)
    (hab : a ≠ b) :
    ∃ pre c xs ys, pathDown a t = some (pre ++ c :: xs) ∧ pathDown b t = some (pre ++ c :: ys) ∧
      (∀ x ∈ xs, x ∉ ys) ∧ pathFromTo t a b = some (xs.reverse ++ c :: ys) := by
  obtain ⟨pa, hpa⟩ := pathDown_some_of_mem ha
  obtain ⟨pb, hpb⟩ := pathDown_some_of_mem hb
  obtain ⟨pre, c, xs, ys, e1, e2, hd⟩ := (pathDown_fork a b).1 t pa pb hwf hpa hpb
  subst e1; subst e2
  refine ⟨pre, c, xs, ys, hpa, hpb, hd, ?_⟩
  have hnd := (nodup_fork (pathDown_nodup hwf hpa) (pathDown_nodup hwf hpb) hd).1
  have hm := mergeRootPaths_two_root_paths hnd
  simp only [pathFromTo, rootPath, hpa, hpb, if_neg hab]
  simp only [Option.map_some, List.reverse_append, List.reverse_cons, List.append_assoc,
    List.singleton_append, List.reverse_reverse] at hm ⊢
  simpa using hm

theorem head_of_last {pre xs ys : List Nat} {c a : Nat} (h : (pre ++ c :: xs).getLast? = some a) :
    (xs.reverse ++ c :: ys).head? = some a := by
  have : (c :: xs).getLast? = some a := by
    rw [List.getLast?_append] at h; simpa using h
  obtain ⟨zs, hz⟩ := List.getLast?_eq_some_iff.mp this
  have e : xs.reverse ++ c :: ys = (c :: xs).reverse ++ ys := by simp
  rw [e, hz]; simp

theorem last_of_last {pre xs ys : List Nat} {c b : Nat} (h : (pre ++ c :: ys).getLast? = some b) :
    (xs.reverse ++ c :: ys).getLast? = some b := by
  rw [List.getLast?_append] at h ⊢
  simpa using h

theorem pathFromTo_isSimplePath {t : RTree} (hwf : t.WF) {a b : Nat} (ha : a ∈ ids t)
    (hb : b ∈ ids t) : ∃ p, pathFromTo t a b = some p ∧ IsSimplePath t p a b := by
  by_cases hab : a = b
  · subst hab
    exact ⟨[a], by simp [pathFromTo], by simp [IsSimplePath, ha, Chain]⟩
  · obtain ⟨pre, c, xs, ys, hpa, hpb, hd, hp⟩ := pathFromTo_shape hwf ha hb hab
    refine ⟨_, hp, ?_, ?_, ?_, ?_, ?_⟩
    · exact head_of_last ((pathDown_ends a).1 t _ hpa).2
    · exact last_of_last ((pathDown_ends b).1 t _ hpb).2
    · intro x hx
      simp only [List.mem_append, List.mem_reverse, List.mem_cons] at hx
      rcases hx with hx | rfl | hx
      · exact (pathDown_subset a).1 t _ hpa x (by simp [hx])
      · exact (pathDown_subset a).1 t _ hpa x (by simp)
      · exact (pathDown_subset b).1 t _ hpb x (by simp [hx])
    · have h1 := chain_append_right ((pathDown_chain a).1 t _ hpa)
      have h2 := chain_append_right ((pathDown_chain b).1 t _ hpb)
      apply chain_glue
      · have := chain_reverse h1
        simp only [List.reverse_cons] at this
        exact chain_mono (fun x y h => Or.inr h) this
      · exact chain_mono (fun x y h => Or.inl h) h2
    · exact (nodup_fork (pathDown_nodup hwf hpa) (pathDown_nodup hwf hpb) hd).2

theorem pathDown_isSimplePath {t : RTree} (hwf : t.WF) {v : Nat} {p : List Nat}
    (h : pathDown v t = some p) : IsSimplePath t p t.rid v :=
  ⟨((pathDown_ends v).1 t p h).1, ((pathDown_ends v).1 t p h).2, (pathDown_subset v).1 t p h,
   chain_mono (fun _ _ hab => Or.inl hab) ((pathDown_chain v).1 t p h), pathDown_nodup hwf h⟩

theorem next_hop_up {t : RTree} (hwf : t.WF) {u v c : Nat} {pd : List Nat}
    (hpd : pathDown c t = some pd) (hu : u ∉ pd) (he : (v, u) ∈ edges t) :
    ∃ rest, pathFromTo t u c = some (u :: v :: rest) := by
  have hum := (edge_mem_ids he).2
  have hcm := mem_of_pathDown hpd
  have huc : u ≠ c := by
    intro e; subst e
    exact hu (List.mem_of_getLast? ((pathDown_ends u).1 t pd hpd).2)
  obtain ⟨pre, c0, xs, ys, hpa, hpb, hd, hp⟩ := pathFromTo_shape hwf hum hcm huc
  rw [hpd] at hpb; simp at hpb; subst hpb
  obtain ⟨q, h1, h2⟩ := pathDown_edge.1 t v u hwf he
  rw [hpa] at h2; simp at h2
  -- xs is not empty, since u is not on the way to c
  cases hx : xs.reverse with
  | nil =>
    have : xs = [] := by simpa using hx
    subst this
    exfalso
    have : c0 = u := by
      have := congrArg List.getLast? h2
      simpa using this
    subst this
    exact hu (by simp)
  | cons y l =>
    have e : xs = l.reverse ++ [y] := by
      have := congrArg List.reverse hx; simpa using this
    subst e
    have hq : pre ++ c0 :: l.reverse = q ∧ y = u := by
      have : pre ++ c0 :: (l.reverse ++ [y]) = (pre ++ c0 :: l.reverse) ++ [y] := by simp
      rw [this] at h2
      exact List.append_inj' h2 rfl |> fun h => ⟨h.1, by simpa using h.2⟩
    obtain ⟨hq1, rfl⟩ := hq
    have hlast : (pre ++ c0 :: l.reverse).getLast? = some v := by
      rw [hq1]; exact ((pathDown_ends v).1 t q h1).2
    have hhead := head_of_last (ys := ys) hlast
    rw [hp]
    simp only [List.reverse_append, List.reverse_cons, List.reverse_nil, List.nil_append,
      List.reverse_reverse, List.cons_append]
    simp only [List.reverse_reverse] at hhead
    cases hr : l ++ c0 :: ys with
    | nil => simp at hr
    | cons z rest =>
      rw [hr] at hhead; simp at hhead; subst hhead
      exact ⟨rest, rfl⟩

end RTree
end Ptn.C17
