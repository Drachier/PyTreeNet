import Ptn.C17.FlatSweep
import Ptn.C17.Segments
/-! Flat port = structural model: `TDVPUpdatePathFinder.find_path` and the segments of the TDVP sweep. -/
namespace Ptn.C17
open RTree

theorem FTree.updatePath_unfold (ft : FTree) :
    ft.updatePath = ft.findStart.bind fun start => (ft.findPathToRoot start).bind fun mp =>
      mp.foldlM (upStep ft mp) [] := rfl

theorem FTree.pathDownFromRoot_unfold (ft : FTree) (mainPath path : List Nat) :
    ft.pathDownFromRoot mainPath path = ft.root.bind fun r => (ft.get? r).bind fun n =>
      if n.children.length == 1 then some [r] else
        (ft.mainPathDown path).bind fun mpd => mpd.foldlM (downStep ft r mainPath mpd) [] := rfl

theorem keepKids_unfold (ks : List RTree) (mainPath mpd : List Nat) :
    keepKids ks mainPath mpd = if ks.isEmpty then some [] else
      (if 2 ≤ mainPath.length then mainPath[mainPath.length - 2]? else none).bind fun a =>
        (mpd[1]?).bind fun b => some (ks.filter (fun k => !(k.rid == a || k.rid == b))) := by
  unfold keepKids
  split
  · rfl
  · cases (if 2 ≤ mainPath.length then mainPath[mainPath.length - 2]? else none) <;>
      cases mpd[1]? <;> rfl

/-- **`find_furthest_non_visited_leaf`** -/
theorem flat_furthest_eq_struct (ft : FTree) (t : RTree) (h : Mirror ft t) (path : List Nat) :
    ft.furthestNonVisitedLeaf path = furthestNonVisitedLeaf t path := by
  simp only [FTree.furthestNonVisitedLeaf, h.2.1, flat_distance_root_eq_struct ft t h,
    Option.bind_eq_bind, Option.bind_some, RTree.furthestNonVisitedLeaf]
  congr 1
  apply List.filter_congr
  intro e _
  rw [Bool.eq_iff_iff]
  simp [List.mem_filter, h.mem_getLeaves]

/-- the step of `path_down_from_root` at the root (`_branch_downwards_origin_is_root`) -/
theorem downStep_root {ft : FTree} {r : Nat} {ks : List RTree} (hroot : ft.root = some r)
    (hget : ft.get? r = some ⟨none, ks.map rid⟩) (hsm : Small ft ks) (mp mpd : List Nat) :
    downStep ft r mp mpd [] r =
      (keepKids ks mp mpd).bind fun keep => some (postorderL keep ++ [r]) := by
  simp only [downStep, beq_self_eq_true, if_true, FTree.branchDownRoot, keepKids_unfold, hroot, hget,
    Option.bind_eq_bind, Option.bind_some, List.isEmpty_map]
  by_cases hke : ks.isEmpty = true
  · have : ks = [] := by simpa using hke
    subst this
    simp [FTree.branchesThen]
  · simp only [hke, Bool.false_eq_true, if_false]
    by_cases h2 : 2 ≤ mp.length
    · simp only [h2, if_true]
      cases mp[mp.length - 2]? with
      | none => simp
      | some a =>
        cases mpd[1]? with
        | none => simp
        | some b =>
          simp only [Option.bind_some]
          rw [filter_rids, branchesThen_eq _ (hsm.filter _) r]
          simp
    · simp [h2]

theorem pathDown_root_cons {f r : Nat} {ks : List RTree} {mpd : List Nat}
    (h : pathDown f (node r ks) = some mpd) : ∃ rest, mpd = r :: rest := by
  have := ((pathDown_ends f).1 _ mpd h).1
  cases mpd with
  | nil => simp at this
  | cons y l => simp [rid] at this; exact ⟨l, by rw [this]⟩

/-- **`path_down_from_root`** -/
theorem flat_path_down_from_root_eq_struct (ft : FTree) (r : Nat) (ks : List RTree)
    (h : Mirror ft (node r ks)) (mp up : List Nat) :
    ft.pathDownFromRoot mp up = rootDown (node r ks) r ks mp up := by
  have hroot : ft.root = some r := by simpa [rid] using h.2.1
  have hget : ft.get? r = some ⟨none, ks.map rid⟩ := h.kidsP.self
  have hwf : (r :: idsL ks).Nodup := by simpa [WF] using h.2.2
  have hndc := List.nodup_cons.mp hwf
  obtain ⟨_, hsm, _, _, hkids⟩ := h.node_facts (subtrees_self _)
  rw [FTree.pathDownFromRoot_unfold]
  simp only [hroot, hget, Option.bind_some, List.length_map, rootDown]
  by_cases hlen : (ks.length == 1) = true
  · simp [hlen]
  simp only [hlen, Bool.false_eq_true, if_false, FTree.mainPathDown,
    flat_furthest_eq_struct ft _ h, Option.bind_eq_bind]
  cases hf : furthestNonVisitedLeaf (node r ks) up with
  | none => simp
  | some f =>
  simp only [Option.bind_some, flat_find_path_to_root_eq_struct ft _ h, rootPath]
  cases hmpd : pathDown f (node r ks) with
  | none => simp
  | some mpd =>
  simp only [Option.map_some, Option.bind_some, List.reverse_reverse]
  obtain ⟨rest, rfl⟩ := pathDown_root_cons hmpd
  simp only [List.foldlM_cons, downStep_root hroot hget hsm, Option.bind_eq_bind]
  cases hkeep : keepKids ks mp (r :: rest) with
  | none => simp
  | some keep =>
  simp only [Option.bind_some]
  cases rest with
  | nil => simp [downPart]
  | cons b rest' =>
  -- f lies below a child of the root
  have hrf : r ≠ f := by
    intro e; subst e
    simp at hmpd
  have hfks : f ∈ idsL ks := by
    have := mem_of_pathDown hmpd
    simp at this; exact this.resolve_left (fun e => hrf e.symm)
  obtain ⟨kj, hkj, hfkj⟩ := exists_kid_of_mem_idsL hfks
  obtain ⟨pre, post, rfl⟩ := List.append_of_mem hkj
  obtain ⟨qj, hqj, hqt⟩ := pathDown_through_kid hndc.2 hrf (by simp) hfkj
  rw [hmpd] at hqt; simp at hqt
  have hbq : b :: rest' = qj := hqt
  subst hbq
  have hb : b = kj.rid := by simpa using ((pathDown_ends f).1 kj _ hqj).1
  have hkjmem : kj ∈ pre ++ kj :: post := by simp
  obtain ⟨wj, hwj⟩ := sweepDown_some_of_mem hfkj
  have hloop := (sweep_loops h mp (r :: b :: rest') f kj (hkids kj hkjmem)
    (fun hin => hndc.1 (by simpa [rid] using ids_subset_idsL hkjmem _ hin)) _ hqj
    (by
      intro x hx
      have hxr : x ≠ r := fun e => hndc.1 (e ▸ ids_subset_idsL hkjmem x hx)
      simp [hxr])).2 wj hwj (postorderL keep ++ [r])
  simp only [rid] at hloop
  rw [hloop]
  simp only [downPart, hb, find?_of_nodup_map rid (rids_nodup hndc.2) hkjmem, Option.bind_some, hwj]

/-- **`TDVPUpdatePathFinder.find_path`**: the flat port (loops over `main_path` and
    `main_path_down`, filters on list membership, `get_leaves` in dict order) equals the structural
    model on every valid mirror, in any dict order. -/
theorem flat_update_path_eq_struct (ft : FTree) (t : RTree) (h : Mirror ft t) :
    ft.updatePath = updatePath t := by
  cases t with
  | node r ks =>
    have hroot : ft.root = some r := by simpa [rid] using h.2.1
    have hwf : (r :: idsL ks).Nodup := by simpa [WF] using h.2.2
    have hndc := List.nodup_cons.mp hwf
    have hself : node r ks ∈ subtrees (node r ks) := by simp
    obtain ⟨_, _, _, _, hkids⟩ := h.node_facts hself
    rw [FTree.updatePath_unfold]
    simp only [flat_find_start_eq_struct ft _ h,
      flat_find_path_to_root_eq_struct ft _ h, updatePath]
    refine Option.bind_congr fun s hs => Option.bind_congr fun mp hmp => ?_
    simp only [rootPath, Option.map_eq_some_iff] at hmp
    obtain ⟨qd, hqd, rfl⟩ := hmp
    have hsm := mem_of_pathDown hqd
    have hrootstep : ∀ up, upStep ft qd.reverse up r =
        (rootDown (node r ks) r ks qd.reverse up).bind fun dn => some (up ++ dn) := by
      intro up
      have : (some r != ft.root) = false := by simp [hroot]
      simp only [upStep, this, Bool.false_eq_true, if_false,
        flat_path_down_from_root_eq_struct ft r ks h, Option.bind_eq_bind]
      cases rootDown (node r ks) r ks qd.reverse up <;> simp
    by_cases hrs : r = s
    · subst hrs
      simp at hqd; subst hqd
      simp only [List.reverse_cons, List.reverse_nil, List.nil_append, List.foldlM_cons,
        List.foldlM_nil, upPart, if_true, Option.bind_some]
      have := hrootstep []
      simp only [List.reverse_cons, List.reverse_nil, List.nil_append] at this
      rw [this]
      cases rootDown (node r ks) r ks [r] [] <;> simp
    · have hsks : s ∈ idsL ks := by
        simp at hsm; rcases hsm with e | e
        · exact absurd e.symm hrs
        · exact e
      obtain ⟨ki, hki, hski⟩ := exists_kid_of_mem_idsL hsks
      obtain ⟨pre, post, rfl⟩ := List.append_of_mem hki
      obtain ⟨qi, hqi, hqt⟩ := pathDown_through_kid hndc.2 hrs (by simp) hski
      rw [hqd] at hqt; simp at hqt; subst hqt
      have hkimem : ki ∈ pre ++ ki :: post := by simp
      obtain ⟨wi, hwi⟩ := sweepUp_some_of_mem hski
      have hloop := (sweep_loops h [] (qi.reverse ++ [r]) s ki (hkids ki hkimem)
        (fun hin => hndc.1 (by simpa [rid] using ids_subset_idsL hkimem _ hin)) qi hqi
        (by
          intro x hx
          have hxr : x ≠ r := fun e => hndc.1 (e ▸ ids_subset_idsL hkimem x hx)
          simp [hxr])).1 wi hwi []
      have hup : upPart s r (pre ++ ki :: post) = some wi := by
        simp only [upPart, hrs, if_false, findSome_sweepUp_of_mem hndc.2 hki hski, hwi]
      rw [hup]
      simp only [Option.bind_some]
      rw [List.reverse_cons, List.foldlM_append, hloop]
      simp only [List.nil_append, Option.bind_eq_bind, Option.bind_some, List.foldlM_cons,
        List.foldlM_nil]
      have := hrootstep wi
      rw [List.reverse_cons] at this
      rw [this]
      cases rootDown (node r (pre ++ ki :: post)) r (pre ++ ki :: post) (qi.reverse ++ [r]) wi <;>
        simp

theorem flat_segsAlong_eq_struct (ft : FTree) (t : RTree) (h : Mirror ft t) :
    ∀ l : List Nat, ft.segsAlong l = segsAlong t l
  | [] => by simp [FTree.segsAlong, segsAlong]
  | [_] => by simp [FTree.segsAlong, segsAlong]
  | a :: b :: rest => by
    have ih := flat_segsAlong_eq_struct ft t h (b :: rest)
    simp only [FTree.segsAlong, segsAlong, firstHop, flat_path_from_to_eq_struct ft t h, ih,
      Option.bind_eq_bind]
    cases pathFromTo t a b with
    | none => simp
    | some p =>
      simp only [Option.bind_some]
      cases p[1]? with
      | none => simp
      | some hh =>
        simp only [Option.bind_some]
        cases segsAlong t (b :: rest) <;> simp

/-- **segments of the sweep** `(u_i, orthogonalization_path[i][0])` and its last node -/
theorem flat_segs_eq_struct (ft : FTree) (t : RTree) (h : Mirror ft t) :
    ft.segs = some (segsOf t, lastOf t) := by
  obtain ⟨p, hp, hs, hl, _, _, _⟩ := segs_nodes t h.2.2
  have hsegs : segsAlong t p = some (segsOf t) := by
    simpa [segsOf?, hp] using hs
  simp [FTree.segs, flat_update_path_eq_struct ft t h, hp, flat_segsAlong_eq_struct ft t h, hsegs, hl]

end Ptn.C17
