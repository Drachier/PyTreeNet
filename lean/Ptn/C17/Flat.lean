import Ptn.C17.Tree
import Ptn.Common.List
/-! The line-by-line flat port agrees with the structural model whenever the flat mirror is a valid
representation of the tree (`Mirror`: same entries as `flatten t`, in any dict order).  The proofs read the dict along
the tree through one relation, `Reads`; here also the walk along the parent pointers (`find_path_to_root`). -/
namespace Ptn.C17
open RTree

/-- `ft` is a valid flat representation of `t`: its dict holds exactly the entries of `flatten t`
    (identifier ↦ parent, child identifiers in order) in an arbitrary insertion order, `root_id` is
    the root, and the identifiers are distinct. -/
def Mirror (ft : FTree) (t : RTree) : Prop :=
  ft.nodes.Perm (flattenAux none t) ∧ ft.root = some t.rid ∧ t.WF

namespace RTree

@[simp] theorem flattenAux_node (p : Option Nat) (i : Nat) (ks : List RTree) :
    flattenAux p (node i ks) = (i, ⟨p, ks.map rid⟩) :: flattenL (some i) ks := rfl
@[simp] theorem flattenL_nil (p : Option Nat) : flattenL p [] = [] := rfl
@[simp] theorem flattenL_cons (p : Option Nat) (t : RTree) (ts : List RTree) :
    flattenL p (t :: ts) = flattenAux p t ++ flattenL p ts := rfl

theorem flatten_keys :
    (∀ t p, (flattenAux p t).map (·.1) = ids t) ∧ (∀ ts p, (flattenL p ts).map (·.1) = idsL ts) := by
  apply induct
  · intro i ks ih p; simp [ih]
  · simp
  · intro t ts iht ihts p; simp [iht, ihts]

/-- the parent recorded for a node: `p0` for the root, otherwise its parent in the tree -/
theorem flatten_parent :
    (∀ t p0 x g, (x, g) ∈ flattenAux p0 t →
      (x = t.rid ∧ g.parent = p0) ∨ ∃ p, g.parent = some p ∧ (p, x) ∈ edges t) ∧
    (∀ ts i x g, (x, g) ∈ flattenL (some i) ts → ∃ p, g.parent = some p ∧ (p, x) ∈ edgesL i ts) := by
  apply induct
  · intro i ks ih p0 x g h
    simp at h
    rcases h with ⟨rfl, rfl⟩ | h
    · exact Or.inl ⟨rfl, rfl⟩
    · exact Or.inr (by simpa using ih i x g h)
  · simp
  · intro t ts iht ihts i x g h
    simp at h
    rcases h with h | h
    · rcases iht (some i) x g h with ⟨rfl, hp⟩ | ⟨p, hp, he⟩
      · exact ⟨i, hp, by simp⟩
      · exact ⟨p, hp, by simp [he]⟩
    · obtain ⟨p, hp, he⟩ := ihts i x g h
      exact ⟨p, hp, by simp [he]⟩

end RTree

namespace Mirror

theorem keys_perm {ft : FTree} {t : RTree} (h : Mirror ft t) : (ft.nodes.map (·.1)).Perm (ids t) := by
  have := h.1.map (·.1)
  rwa [flatten_keys.1 t none] at this

theorem keys_nodup {ft : FTree} {t : RTree} (h : Mirror ft t) : (ft.nodes.map (·.1)).Nodup :=
  h.keys_perm.symm.nodup h.2.2

theorem get_of_mem {ft : FTree} {t : RTree} (h : Mirror ft t) {x : Nat} {g : GNode}
    (hm : (x, g) ∈ flattenAux none t) : ft.get? x = some g :=
  lookup_of_nodup_keys h.keys_nodup (h.1.symm.subset hm)

theorem get_none {ft : FTree} {t : RTree} (h : Mirror ft t) {x : Nat} (hx : x ∉ ids t) :
    ft.get? x = none :=
  lookup_eq_none_of_not_key (fun hm => hx (h.keys_perm.subset hm))

theorem fuel_eq {ft : FTree} {t : RTree} (h : Mirror ft t) : ft.fuel = (ids t).length + 1 := by
  have := h.keys_perm.length_eq
  simp at this
  simp [FTree.fuel, this]

end Mirror

theorem fuel_succ {i fuel : Nat} {ks : List RTree} (hf : (ids (node i ks)).length ≤ fuel) :
    ∃ f, fuel = f + 1 ∧ (idsL ks).length ≤ f :=
  ⟨fuel - 1, by simp at hf; omega, by simp at hf; omega⟩

/-- The dict read along the tree `s` hanging below `p`: `E i p cs` says what the entry of node `i` shows
    (parent `p`, children `cs` in order). -/
inductive Reads (E : Nat → Option Nat → List Nat → Prop) : Option Nat → RTree → Prop
  | mk {p : Option Nat} {i : Nat} {ks : List RTree} :
      E i p (ks.map rid) → (∀ k ∈ ks, Reads E (some i) k) → Reads E p (node i ks)

namespace Reads
variable {E E' : Nat → Option Nat → List Nat → Prop}

theorem self {p : Option Nat} {i : Nat} {ks : List RTree} (h : Reads E p (.node i ks)) : E i p (ks.map rid) := by
  cases h; assumption

theorem kid {p : Option Nat} {i : Nat} {ks : List RTree} (h : Reads E p (.node i ks)) {k : RTree} (hk : k ∈ ks) :
    Reads E (some i) k := by
  cases h with | mk _ hks => exact hks k hk

theorem mono (hE : ∀ i p cs, E i p cs → E' i p cs) {p : Option Nat} {s : RTree} (h : Reads E p s) :
    Reads E' p s := by
  induction h with
  | mk he _ ih => exact .mk (hE _ _ _ he) ih

theorem fuel_induct {P : Option Nat → RTree → Nat → Prop}
    (step : ∀ i ks f p, E i p (ks.map rid) → (∀ k ∈ ks, P (some i) k f) → P p (.node i ks) (f + 1)) :
    ∀ s p, Reads E p s → ∀ fuel, (ids s).length ≤ fuel → P p s fuel := by
  intro s p h
  induction h with
  | @mk p i ks he _ ih =>
    intro fuel hf
    obtain ⟨f, rfl, hf'⟩ := fuel_succ hf
    exact step i ks f p he fun k hk => ih k hk f (Nat.le_trans (ids_sublist_idsL hk).length_le hf')

end Reads

/-- every subtree of `s` has its entry (parent, child identifiers) in the dict -/
def KidsP (ft : FTree) : Option Nat → RTree → Prop := Reads fun i p cs => ft.get? i = some ⟨p, cs⟩

theorem kidsP_of_flatten {ft : FTree} :
    (∀ s p, (∀ e ∈ flattenAux p s, ft.get? e.1 = some e.2) → KidsP ft p s) ∧
    (∀ ks p, (∀ e ∈ flattenL p ks, ft.get? e.1 = some e.2) → ∀ k ∈ ks, KidsP ft p k) := by
  apply induct
  · intro i ks ih p h
    exact .mk (h (i, ⟨p, ks.map rid⟩) (by simp)) (ih (some i) fun e he => h e (by simp [he]))
  · intro p _ k hk; simp at hk
  · intro t ts iht ihts p h k hk
    rcases List.mem_cons.mp hk with rfl | hk
    · exact iht p fun e he => h e (by simp [he])
    · exact ihts p (fun e he => h e (by simp [he])) k hk

theorem Mirror.kidsP {ft : FTree} {t : RTree} (h : Mirror ft t) : KidsP ft none t :=
  kidsP_of_flatten.1 t none fun _ he => h.get_of_mem he

/-- the parent-pointer walk continued from an optional parent: above the root (`none`) there is nothing to add -/
def upFrom (ft : FTree) (n : Nat) : Option Nat → Option (List Nat)
  | none => some []
  | some p => ft.findPathToRootF n p

theorem findPathToRootF_succ (ft : FTree) (n x : Nat) :
    ft.findPathToRootF (n + 1) x = (ft.get? x).bind fun g => (upFrom ft n g.parent).map (x :: ·) := by
  simp only [FTree.findPathToRootF, Option.bind_eq_bind]
  refine Option.bind_congr fun g _ => ?_
  cases g.parent <;> simp [upFrom, Option.map_eq_bind, Function.comp_def]

theorem findPathToRootF_climb (ft : FTree) : ∀ s p0, KidsP ft p0 s → ∀ x q, pathDown x s = some q →
    ∀ n, ft.findPathToRootF (n + q.length) x = (upFrom ft n p0).map (q.reverse ++ ·) := by
  intro s p0 h
  induction h with
  | @mk p0 i ks he _ ih =>
    intro x q hq n
    rw [pathDown_node] at hq
    by_cases hix : i = x
    · subst hix
      simp only [if_true, Option.some.injEq] at hq; subst hq
      simp [findPathToRootF_succ, he]
    · simp only [hix, if_false, Option.map_eq_some_iff] at hq
      obtain ⟨qk, hqk, rfl⟩ := hq
      obtain ⟨k, hk, hqk⟩ := pathDownL_some hqk
      have := ih k hk x qk hqk (n + 1)
      rw [List.length_cons, ← Nat.add_assoc, Nat.add_right_comm, this]
      simp [upFrom, findPathToRootF_succ, he, Function.comp_def]

/-- **`find_path_to_root`**: the flat port equals the structural model on every valid mirror. -/
theorem flat_find_path_to_root_eq_struct (ft : FTree) (t : RTree) (h : Mirror ft t) (x : Nat) :
    ft.findPathToRoot x = rootPath t x := by
  by_cases hx : x ∈ ids t
  · obtain ⟨q, hq⟩ := pathDown_some_of_mem hx
    have hlen : q.length ≤ (ids t).length := ((pathDown_sublist x).1 t q hq).length_le
    have := findPathToRootF_climb ft t none h.kidsP x q hq (ft.fuel - q.length)
    rw [Nat.sub_add_cancel (by rw [h.fuel_eq]; omega)] at this
    simp [FTree.findPathToRoot, this, upFrom, rootPath, hq]
  · have : ft.findPathToRoot x = none := by
      simp [FTree.findPathToRoot, FTree.fuel, FTree.findPathToRootF, h.get_none hx]
    rw [this]
    simp [rootPath, pathDown_none_of_not_mem hx]

/-- **`path_from_to`**: the flat port (parent-pointer walks, duplicate count, the two slices) equals
    the structural model on every valid mirror, in any dict order. -/
theorem flat_path_from_to_eq_struct (ft : FTree) (t : RTree) (h : Mirror ft t) (a b : Nat) :
    ft.pathFromTo a b = pathFromTo t a b := by
  simp only [FTree.pathFromTo, pathFromTo, flat_find_path_to_root_eq_struct ft t h]

end Ptn.C17
