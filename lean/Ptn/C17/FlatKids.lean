import Ptn.C17.Subtree
import Ptn.C17.Flat
/-! Flat port = structural model for the routines that recurse over the child lists:
`linearise`, `find_subtree_of_node`, `leaves_under_node`, `find_subtree_size_of_node`.
Each routine is the fuel induction `Reads.fuel_induct` over `KidsP ft p0 s`, the fold lemma `foldlM_rids` and a
`foldl` fact about the structural forest function. -/
namespace Ptn.C17
open RTree

theorem Reads.sub {E : Nat → Option Nat → List Nat → Prop} {p : Option Nat} {t s : RTree}
    (h : Reads E p t) (hs : s ∈ subtrees t) : ∃ p', Reads E p' s := by
  induction h with
  | @mk p i ks he hks ih =>
    simp only [subtrees_node, List.mem_cons] at hs
    rcases hs with rfl | hs
    · exact ⟨p, .mk he hks⟩
    · obtain ⟨k, hk, hsk⟩ := mem_subtreesL.mp hs
      exact ih k hk hsk

theorem ids_length_pos (t : RTree) : 1 ≤ (ids t).length := by cases t; simp

theorem foldlM_rids {α β : Type} {rec : Nat → Option α} {val : RTree → α} (step : β → α → β) :
    ∀ (ks : List RTree), (∀ k ∈ ks, rec k.rid = some (val k)) → ∀ acc,
      (ks.map rid).foldlM (fun acc c => (rec c).bind fun sub => some (step acc sub)) acc =
        some (ks.foldl (fun acc k => step acc (val k)) acc)
  | [], _, _ => rfl
  | k :: ks, h, acc => by
    simp only [List.map_cons, List.foldlM_cons, h k (by simp), Option.bind_eq_bind, Option.bind_some,
      List.foldl_cons]
    exact foldlM_rids step ks (fun k' hk' => h k' (by simp [hk'])) _

theorem foldl_postorder (ks : List RTree) (acc : List Nat) :
    ks.foldl (fun acc k => acc ++ postorder k) acc = acc ++ postorderL ks := by
  induction ks generalizing acc with
  | nil => simp
  | cons k ks ih => simp [ih]

theorem lineariseF_eq (ft : FTree) : ∀ s p, KidsP ft p s → ∀ fuel, (ids s).length ≤ fuel →
    ft.lineariseF fuel s.rid = some (postorder s) := by
  refine Reads.fuel_induct ?_
  intro i ks f p hp ih
  simp only [rid, FTree.lineariseF, hp, Option.bind_eq_bind, Option.bind_some, Option.pure_def]
  rw [foldlM_rids (fun acc sub => acc ++ sub) ks ih, foldl_postorder]
  simp

/-- **`linearise`** -/
theorem flat_linearise_eq_struct (ft : FTree) (t : RTree) (h : Mirror ft t) :
    ft.linearise = some (postorder t) := by
  have := lineariseF_eq ft t none h.kidsP ft.fuel (by rw [h.fuel_eq]; omega)
  simp [FTree.linearise, h.2.1, this]

theorem foldl_size (ks : List RTree) (acc : Nat) :
    ks.foldl (fun acc k => acc + size k) acc = acc + sizeL ks := by
  induction ks generalizing acc with
  | nil => simp
  | cons k ks ih => simp [ih, Nat.add_assoc]

theorem subtreeSizeF_eq (ft : FTree) : ∀ s p, KidsP ft p s → ∀ fuel, (ids s).length ≤ fuel →
    ft.subtreeSizeF fuel s.rid = some (size s) := by
  refine Reads.fuel_induct ?_
  intro i ks f p hp ih
  simp only [rid, FTree.subtreeSizeF, hp, Option.bind_eq_bind, Option.bind_some, Option.pure_def,
    List.isEmpty_map]
  rw [foldlM_rids (fun acc s => acc + s) ks ih, foldl_size]
  cases ks <;> simp [size]

/-- a query about node `x`: the subtree at `x` is a subtree, with small enough size -/
theorem subtree_query {ft : FTree} {t : RTree} (h : Mirror ft t) {x : Nat} (hx : x ∈ ids t) :
    ∃ s p, subtreeAt x t = some s ∧ s.rid = x ∧ KidsP ft p s ∧ (ids s).length ≤ ft.fuel ∧
      (ids s).Nodup := by
  obtain ⟨s, hs⟩ := (subtreeAt_isSome x).1 t hx
  have hb := (subtreeAt_basic x).1 t s hs
  obtain ⟨p, hp⟩ := h.kidsP.sub ((subtreeAt_mem_subtrees x).1 t s hs)
  refine ⟨s, p, hs, hb.1, hp, ?_, hb.2.1.nodup h.2.2⟩
  rw [h.fuel_eq]
  have := hb.2.1.length_le
  omega

theorem flat_absent {ft : FTree} {t : RTree} (h : Mirror ft t) {x : Nat} (hx : x ∉ ids t) :
    ft.get? x = none ∧ subtreeAt x t = none :=
  ⟨h.get_none hx, subtreeAt_none_of_not_mem hx⟩

/-- **`find_subtree_size_of_node`** -/
theorem flat_subtree_size_eq_struct (ft : FTree) (t : RTree) (h : Mirror ft t) (x : Nat) :
    ft.subtreeSize x = subtreeSize t x := by
  by_cases hx : x ∈ ids t
  · obtain ⟨s, p, hs, hr, hok, hf, _⟩ := subtree_query h hx
    have := subtreeSizeF_eq ft s p hok ft.fuel hf
    rw [hr] at this
    simp [FTree.subtreeSize, RTree.subtreeSize, this, hs]
  · obtain ⟨h1, h2⟩ := flat_absent h hx
    simp [FTree.subtreeSize, RTree.subtreeSize, FTree.fuel, FTree.subtreeSizeF, h1, h2]

theorem append_filter_not_contains {acc sub : List Nat} (h : ∀ y ∈ sub, y ∉ acc) :
    acc ++ sub.filter (fun k => !acc.contains k) = acc ++ sub := by
  rw [List.filter_eq_self.mpr (fun y hy => by simpa using h y hy)]

theorem foldl_ids : ∀ (ks : List RTree) (acc : List Nat), (acc ++ idsL ks).Nodup →
    ks.foldl (fun acc k => acc ++ (ids k).filter (fun y => !acc.contains y)) acc = acc ++ idsL ks
  | [], acc, _ => by simp
  | k :: ks, acc, hnd => by
    rw [idsL_cons, ← List.append_assoc] at hnd
    have hdis : ∀ y ∈ ids k, y ∉ acc := fun y hy hya =>
      (List.nodup_append.mp (List.nodup_append.mp hnd).1).2.2 y hya y hy rfl
    rw [List.foldl_cons, append_filter_not_contains hdis, foldl_ids ks _ hnd]
    simp

theorem nodup_kid {i : Nat} {ks : List RTree} (h : (ids (node i ks)).Nodup) {k : RTree} (hk : k ∈ ks) :
    (ids k).Nodup :=
  ((ids_sublist_idsL hk).trans (List.sublist_cons_self i _)).nodup h

/-- `find_subtree_of_node` (dict keys are merged: no effect, the identifiers are distinct) -/
theorem subtreeF_eq (ft : FTree) : ∀ s p, KidsP ft p s → ∀ fuel, (ids s).length ≤ fuel → (ids s).Nodup →
    ft.subtreeF fuel s.rid = some (ids s) := by
  refine Reads.fuel_induct ?_
  intro i ks f p hp ih hnd
  simp only [rid, FTree.subtreeF, hp, Option.bind_eq_bind, Option.bind_some, Option.pure_def,
    List.isEmpty_map]
  rw [foldlM_rids (fun (acc sub : List Nat) => acc ++ sub.filter (fun y => !acc.contains y)) ks
    (fun k hk => ih k hk (nodup_kid hnd hk)), foldl_ids ks [i] hnd]
  cases ks <;> simp

/-- **`find_subtree_of_node`** (keys of the returned dict, in order) -/
theorem flat_subtree_eq_struct (ft : FTree) (t : RTree) (h : Mirror ft t) (x : Nat) :
    ft.subtree x = subtreeIds t x := by
  by_cases hx : x ∈ ids t
  · obtain ⟨s, p, hs, hr, hok, hf, hnd⟩ := subtree_query h hx
    have := subtreeF_eq ft s p hok ft.fuel hf hnd
    rw [hr] at this
    simp [FTree.subtree, RTree.subtreeIds, this, hs]
  · obtain ⟨h1, h2⟩ := flat_absent h hx
    simp [FTree.subtree, RTree.subtreeIds, FTree.fuel, FTree.subtreeF, h1, h2]

theorem foldl_leaves : ∀ (ks : List RTree) (acc : List Nat), (acc ++ idsL ks).Nodup →
    ks.foldl (fun acc k => acc ++ (leavesOf k).filter (fun y => !acc.contains y)) acc = acc ++ leavesOfL ks
  | [], acc, _ => by simp
  | k :: ks, acc, hnd => by
    rw [idsL_cons, ← List.append_assoc] at hnd
    have hnd1 := List.nodup_append.mp (List.nodup_append.mp hnd).1
    have hdis : ∀ y ∈ leavesOf k, y ∉ acc := fun y hy hya =>
      hnd1.2.2 y hya y (leavesOf_subset.1 k y hy) rfl
    have hsub : (acc ++ leavesOf k ++ idsL ks).Sublist (acc ++ ids k ++ idsL ks) := by
      rw [leavesOf_eq_filter.1 k hnd1.2.1]
      exact ((List.Sublist.refl acc).append List.filter_sublist).append (List.Sublist.refl _)
    rw [List.foldl_cons, append_filter_not_contains hdis, foldl_leaves ks _ (hsub.nodup hnd)]
    simp

theorem leavesUnderF_eq (ft : FTree) : ∀ s p, KidsP ft p s → ∀ fuel, (ids s).length ≤ fuel → (ids s).Nodup →
    ft.leavesUnderF fuel s.rid = some (leavesOf s) := by
  refine Reads.fuel_induct ?_
  intro i ks f p hp ih hnd
  simp only [rid, FTree.leavesUnderF, hp, Option.bind_eq_bind, Option.bind_some, Option.pure_def,
    List.isEmpty_map, leavesOf_node]
  rw [foldlM_rids (fun (acc sub : List Nat) => acc ++ sub.filter (fun y => !acc.contains y)) ks
    (fun k hk => ih k hk (nodup_kid hnd hk)), foldl_leaves ks [] (List.nodup_cons.mp hnd).2]
  cases ks <;> simp

/-- **`leaves_under_node`** -/
theorem flat_leaves_under_eq_struct (ft : FTree) (t : RTree) (h : Mirror ft t) (x : Nat) :
    ft.leavesUnder x = leavesUnder t x := by
  by_cases hx : x ∈ ids t
  · obtain ⟨s, p, hs, hr, hok, hf, hnd⟩ := subtree_query h hx
    have := leavesUnderF_eq ft s p hok ft.fuel hf hnd
    rw [hr] at this
    simp [FTree.leavesUnder, RTree.leavesUnder, this, hs]
  · obtain ⟨h1, h2⟩ := flat_absent h hx
    simp [FTree.leavesUnder, RTree.leavesUnder, FTree.fuel, FTree.leavesUnderF, h1, h2]

end Ptn.C17
