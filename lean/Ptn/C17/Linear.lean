import Ptn.C17.Tree
/-! `linearise` (post-order), subtree size, depth table of the root. -/
namespace Ptn.C17
namespace RTree

@[simp] theorem postorder_node (i : Nat) (ks : List RTree) :
    postorder (node i ks) = postorderL ks ++ [i] := rfl
@[simp] theorem postorderL_nil : postorderL [] = [] := rfl
@[simp] theorem postorderL_cons (t : RTree) (ts : List RTree) :
    postorderL (t :: ts) = postorder t ++ postorderL ts := rfl

theorem postorderL_append (l1 l2 : List RTree) :
    postorderL (l1 ++ l2) = postorderL l1 ++ postorderL l2 := by
  induction l1 with
  | nil => simp
  | cons t ts ih => simp [ih]

theorem postorder_perm :
    (∀ t, (postorder t).Perm (ids t)) ∧ (∀ ts, (postorderL ts).Perm (idsL ts)) := by
  apply induct
  · intro i ks ih
    simp only [postorder_node, ids_node]
    exact (List.perm_append_comm).trans (by simpa using ih)
  · simp
  · intro t ts iht ihts
    simpa using iht.append ihts

theorem mem_idsL_of_mem_postorderL {ts : List RTree} {y : Nat} (h : y ∈ postorderL ts) :
    y ∈ idsL ts := (postorder_perm.2 ts).subset h

theorem mem_ids_of_mem_postorder {t : RTree} {y : Nat} (h : y ∈ postorder t) :
    y ∈ ids t := (postorder_perm.1 t).subset h

theorem postorder_last (t : RTree) : (postorder t).getLast? = some t.rid := by
  cases t; simp [rid]

/-- `x` occurs before `p` in `l` -/
def Before (x p : Nat) (l : List Nat) : Prop := ∃ l1 l2 l3, l = l1 ++ x :: l2 ++ p :: l3

theorem Before.append_right {x p : Nat} {l : List Nat} (h : Before x p l) (r : List Nat) :
    Before x p (l ++ r) := by
  obtain ⟨l1, l2, l3, rfl⟩ := h
  exact ⟨l1, l2, l3 ++ r, by simp⟩

theorem Before.append_left {x p : Nat} {l : List Nat} (h : Before x p l) (r : List Nat) :
    Before x p (r ++ l) := by
  obtain ⟨l1, l2, l3, rfl⟩ := h
  exact ⟨r ++ l1, l2, l3, by simp⟩

theorem postorder_child_before :
    (∀ t p x, (p, x) ∈ edges t → Before x p (postorder t)) ∧
    (∀ ts i p x, (p, x) ∈ edgesL i ts → Before x p (postorderL ts ++ [i])) := by
  apply induct
  · intro i ks ih p x h
    simp at h
    simpa using ih i p x h
  · simp
  · intro t ts iht ihts i p x h
    simp at h
    rcases h with ⟨rfl, rfl⟩ | h | h
    · cases t with
      | node j js =>
        exact ⟨postorderL js, postorderL ts, [], by simp [rid]⟩
    · have := (iht p x h).append_right (postorderL ts ++ [i])
      simpa using this
    · have := (ihts i p x h).append_left (postorder t)
      simpa using this

@[simp] theorem sizeL_nil : sizeL [] = 0 := rfl
@[simp] theorem sizeL_cons (t : RTree) (ts : List RTree) : sizeL (t :: ts) = size t + sizeL ts := rfl

theorem size_eq :
    (∀ t, size t = (ids t).length) ∧ (∀ ts, sizeL ts = (idsL ts).length) := by
  apply induct
  · intro i ks ih
    cases ks with
    | nil => simp [size]
    | cons k ks' => simp [size, ih]; omega
  · simp
  · intro t ts iht ihts
    simp [iht, ihts]

@[simp] theorem depths_node (d i : Nat) (ks : List RTree) :
    depths d (node i ks) = (i, d) :: depthsL (d + 1) ks := rfl
@[simp] theorem depthsL_nil (d : Nat) : depthsL d [] = [] := rfl
@[simp] theorem depthsL_cons (d : Nat) (t : RTree) (ts : List RTree) :
    depthsL d (t :: ts) = depths d t ++ depthsL d ts := rfl

theorem depths_keys :
    (∀ t d, (depths d t).map (·.1) = ids t) ∧ (∀ ts d, (depthsL d ts).map (·.1) = idsL ts) := by
  apply induct
  · intro i ks ih d; simp [ih]
  · simp
  · intro t ts iht ihts d; simp [iht, ihts]

theorem mem_ids_of_mem_depths {t : RTree} {d v k : Nat} (h : (v, k) ∈ depths d t) : v ∈ ids t := by
  rw [← depths_keys.1 t d]; exact List.mem_map.mpr ⟨(v, k), h, rfl⟩

theorem mem_idsL_of_mem_depthsL {ts : List RTree} {d v k : Nat} (h : (v, k) ∈ depthsL d ts) :
    v ∈ idsL ts := by
  rw [← depths_keys.2 ts d]; exact List.mem_map.mpr ⟨(v, k), h, rfl⟩

theorem depths_value :
    (∀ t d v k, (ids t).Nodup → (v, k) ∈ depths d t →
        ∃ p, pathDown v t = some p ∧ k + 1 = d + p.length) ∧
    (∀ ts d v k, (idsL ts).Nodup → (v, k) ∈ depthsL d ts →
        ∃ p, pathDownL v ts = some p ∧ k + 1 = d + p.length) := by
  apply induct
  · intro i ks ih d v k hnd h
    simp at hnd h
    rcases h with ⟨rfl, rfl⟩ | h
    · exact ⟨[v], by simp, by simp⟩
    · obtain ⟨p, hp, hk⟩ := ih (d + 1) v k hnd.2 h
      have hv := mem_idsL_of_mem_depthsL h
      have hvi : ¬ i = v := fun e => hnd.1 (e ▸ hv)
      exact ⟨i :: p, by simp [hvi, hp], by simp; omega⟩
  · simp
  · intro t ts iht ihts d v k hnd h
    simp at h
    obtain ⟨hn1, hn2, hdis⟩ := List.nodup_append.mp hnd
    rcases h with h | h
    · obtain ⟨p, hp, hk⟩ := iht d v k hn1 h
      exact ⟨p, pathDownL_cons_some hp, hk⟩
    · obtain ⟨p, hp, hk⟩ := ihts d v k hn2 h
      have hv := mem_idsL_of_mem_depthsL h
      have hvt : v ∉ ids t := fun hv' => hdis v hv' v hv rfl
      exact ⟨p, by rw [pathDownL_cons_none (pathDown_none_of_not_mem hvt)]; exact hp, hk⟩

theorem depths_exists_of_mem {t : RTree} {d x : Nat} (hx : x ∈ ids t) : ∃ k, (x, k) ∈ depths d t := by
  rw [← depths_keys.1 t d] at hx
  obtain ⟨e, he, rfl⟩ := List.mem_map.mp hx
  exact ⟨e.2, he⟩

theorem depths_unique {t : RTree} (hwf : t.WF) {d x k k' : Nat} (h : (x, k) ∈ depths d t)
    (h' : (x, k') ∈ depths d t) : k = k' := by
  obtain ⟨p, hp, e⟩ := depths_value.1 t d x k hwf h
  obtain ⟨p', hp', e'⟩ := depths_value.1 t d x k' hwf h'
  rw [hp] at hp'; simp at hp'; subst hp'; omega

theorem depths_edge {R : RTree} (hwf : R.WF) {p x : Nat} (h : (p, x) ∈ edges R) {d k : Nat}
    (hk : (p, k) ∈ depths d R) : (x, k + 1) ∈ depths d R := by
  obtain ⟨q, hq, hx⟩ := pathDown_edge.1 R p x hwf h
  obtain ⟨k', hk'⟩ := depths_exists_of_mem (d := d) (edge_mem_ids h).2
  obtain ⟨q1, h1, e1⟩ := depths_value.1 R d p k hwf hk
  obtain ⟨q2, h2, e2⟩ := depths_value.1 R d x k' hwf hk'
  rw [hq] at h1; rw [hx] at h2
  obtain rfl := Option.some.inj h1; obtain rfl := Option.some.inj h2
  obtain rfl : k' = k + 1 := by simp at e2; omega
  exact hk'

end RTree
end Ptn.C17
