import Ptn.C17.Tree
/-! Re-rooting (the structural counterpart of `distance_to_node(c)` for an arbitrary centre) keeps the nodes and the
neighbour relation (`reroot_spec`), succeeds for every node of the tree (`reroot_isSome`), and at a leaf gives a root with
one child (`reroot_leaf_kids`). -/
namespace Ptn.C17
namespace RTree

/-- symmetric closure of a list of pairs -/
def SAdj (E : List (Nat × Nat)) (a b : Nat) : Prop := (a, b) ∈ E ∨ (b, a) ∈ E

theorem adj_iff_sadj (t : RTree) (a b : Nat) : Adj t a b ↔ SAdj (edges t) a b := Iff.rfl

theorem sadj_append {E F : List (Nat × Nat)} {a b : Nat} :
    SAdj (E ++ F) a b ↔ SAdj E a b ∨ SAdj F a b := by
  simp only [SAdj, List.mem_append]; exact or_or_or_comm

theorem sadj_cons {e : Nat × Nat} {E : List (Nat × Nat)} {a b : Nat} :
    SAdj (e :: E) a b ↔ ((a, b) = e ∨ (b, a) = e) ∨ SAdj E a b := by
  simp only [SAdj, List.mem_cons]; exact or_or_or_comm

theorem reroot_node (c : Nat) (up : List RTree) (i : Nat) (ks : List RTree) :
    reroot c up (node i ks) = if i = c then some (node i (up ++ ks)) else rerootL c i up [] ks := rfl

@[simp] theorem rerootL_nil (c i : Nat) (up pre : List RTree) : rerootL c i up pre [] = none := rfl

/-- below `i` the re-rooting goes through the first child below which it succeeds, with the rest of
    the tree hung in as the part above that child -/
theorem rerootL_first (c i : Nat) (up ks pre0 : List RTree) :
    (∀ r, rerootL c i up pre0 ks = some r → ∃ pre k post, ks = pre ++ k :: post ∧
      reroot c [node i (up ++ (pre0 ++ pre) ++ post)] k = some r) ∧
    (rerootL c i up pre0 ks = none → ∀ pre k post, ks = pre ++ k :: post →
      reroot c [node i (up ++ (pre0 ++ pre) ++ post)] k = none) := by
  have := first_kid (F := rerootL c i up) (g := fun pre k post => reroot c [node i (up ++ pre ++ post)] k)
    (mk := fun _ _ _ r => r) (fun _ => rfl)
    (fun pre k post => by rw [rerootL]; cases reroot c [node i (up ++ pre ++ post)] k <;> rfl) ks pre0
  exact ⟨fun r h => by
    obtain ⟨pre, k, post, b, e, hb, rfl⟩ := this.1 r h
    exact ⟨pre, k, post, e, hb⟩, this.2⟩

/-- re-rooting keeps the nodes and the neighbour relation, and puts `c` on top -/
theorem reroot_spec (c : Nat) :
    (∀ t up r, reroot c up t = some r →
      r.rid = c ∧ (ids r).Perm (idsL up ++ ids t) ∧
      ∀ a b, SAdj (edges r) a b ↔ SAdj (edgesL t.rid up ++ edges t) a b) ∧
    (∀ ks i up pre r, rerootL c i up pre ks = some r →
      r.rid = c ∧ (ids r).Perm (idsL up ++ i :: idsL pre ++ idsL ks) ∧
      ∀ a b, SAdj (edges r) a b ↔ SAdj (edgesL i up ++ edgesL i pre ++ edgesL i ks) a b) := by
  refine induct_kids ?_ ?_
  · intro i ks ih up r h
    rw [reroot_node] at h
    by_cases hic : i = c
    · simp [hic] at h; subst h
      refine ⟨by simp [rid], ?_, ?_⟩
      · simp only [ids_node, idsL_append, hic]
        exact (List.perm_middle).symm
      · intro a b; simp [rid, edgesL_append, hic]
    · simp [hic] at h
      have := ih i up [] r h
      simpa [rid] using this
  · intro ks ih i up pre0 r h
    obtain ⟨pre, k, post, rfl, h1⟩ := (rerootL_first c i up _ pre0).1 r h
    obtain ⟨e1, e2, e3⟩ := ih k (by simp) _ _ h1
    refine ⟨e1, ?_, ?_⟩
    · refine e2.trans ?_
      simp only [idsL_cons, idsL_nil, ids_node, idsL_append, List.append_nil]
      -- (i :: (up ++ pre0 ++ pre ++ post)) ++ k  ~  up ++ i :: pre0 ++ (pre ++ k ++ post)
      apply List.perm_iff_count.mpr
      intro a
      simp only [List.count_append, List.count_cons]
      omega
    · intro a b
      rw [e3 a b]
      -- the same edge sets, with the edge between `i` and `k` turned round
      simp only [edgesL_cons, edgesL_nil, edges_node, rid, List.append_nil, edgesL_append, sadj_append,
        sadj_cons, Prod.mk.injEq]
      simp only [and_comm, or_comm, or_left_comm, or_assoc]

theorem reroot_isSome (c : Nat) :
    (∀ t up, c ∈ ids t → ∃ r, reroot c up t = some r) ∧
    (∀ ks i up pre, c ∈ idsL ks → ∃ r, rerootL c i up pre ks = some r) := by
  refine induct_kids ?_ ?_
  · intro i ks ih up h
    rw [reroot_node]
    by_cases hic : i = c
    · simp [hic]
    · simp [hic]
      have : c ∈ idsL ks := by
        simp at h; rcases h with h | h
        · exact absurd h.symm hic
        · exact h
      exact ih i up [] this
  · intro ks ih i up pre0 h
    obtain ⟨k, hk, hck⟩ := exists_kid_of_mem_idsL h
    obtain ⟨pre, post, rfl⟩ := List.append_of_mem hk
    cases hr : rerootL c i up pre0 (pre ++ k :: post) with
    | some r => exact ⟨r, rfl⟩
    | none =>
      obtain ⟨r, hr'⟩ := ih k hk [node i (up ++ (pre0 ++ pre) ++ post)] hck
      rw [(rerootL_first c i up _ pre0).2 hr pre k post rfl] at hr'
      exact absurd hr' (by simp)

/-- Hung up at a leaf `c`, the tree has one branch: the new root has exactly one child, unless `c` was the root already
    (then its children are what was hung in). -/
theorem reroot_leaf_kids (c : Nat) : ∀ t up R, reroot c up t = some R → (∀ e ∈ edges t, e.1 ≠ c) →
    R.kids.length = if t.rid = c then up.length else 1 := by
  refine induct_mem ?_
  intro i ks ih up R h hleaf
  rw [reroot_node] at h
  by_cases hic : i = c
  · simp [hic] at h; subst h
    cases ks with
    | nil => simp [kids, rid, hic]
    | cons k ks' => exact absurd hic (hleaf (i, k.rid) (by simp))
  · simp [hic] at h
    obtain ⟨pre, k, post, rfl, h1⟩ := (rerootL_first c i up _ []).1 R h
    have := ih k (by simp) _ R h1 fun e he => hleaf e (edges_kid_subset (by simp) he)
    simpa [rid, hic] using this

end RTree
end Ptn.C17
