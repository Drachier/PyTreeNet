import Ptn.C17.Linear
/-! `find_subtree_of_node`, `leaves_under_node`, `find_subtree_size_of_node`; leaves; the list of all subtrees. -/
namespace Ptn.C17
namespace RTree

theorem subtreeAt_node (x i : Nat) (ks : List RTree) :
    subtreeAt x (node i ks) = if i = x then some (node i ks) else subtreeAtL x ks := rfl
@[simp] theorem subtreeAtL_nil (x : Nat) : subtreeAtL x [] = none := rfl

theorem subtreeAtL_cons_cases (x : Nat) (t : RTree) (ts : List RTree) :
    (∃ s, subtreeAt x t = some s ∧ subtreeAtL x (t :: ts) = some s) ∨
    (subtreeAt x t = none ∧ subtreeAtL x (t :: ts) = subtreeAtL x ts) := by
  cases h : subtreeAt x t with
  | some s => exact Or.inl ⟨s, rfl, by simp [subtreeAtL, h]⟩
  | none => exact Or.inr ⟨rfl, by simp [subtreeAtL, h]⟩

theorem subtreeAt_basic (x : Nat) :
    (∀ t s, subtreeAt x t = some s →
      s.rid = x ∧ (ids s).Sublist (ids t) ∧ ∀ e ∈ edges s, e ∈ edges t) ∧
    (∀ ts s, subtreeAtL x ts = some s →
      s.rid = x ∧ (ids s).Sublist (idsL ts) ∧ ∀ i, ∀ e ∈ edges s, e ∈ edgesL i ts) := by
  apply induct
  · intro i ks ih s h
    rw [subtreeAt_node] at h
    by_cases hix : i = x
    · subst hix; simp at h; subst h; simp [rid]
    · simp [hix] at h
      obtain ⟨e1, e2, e3⟩ := ih s h
      exact ⟨e1, by simpa using e2.trans (List.sublist_cons_self _ _), by simpa using e3 i⟩
  · simp
  · intro t ts iht ihts s h
    rcases subtreeAtL_cons_cases x t ts with ⟨s', h1, h2⟩ | ⟨h1, h2⟩
    · rw [h2] at h; simp at h; subst h
      obtain ⟨e1, e2, e3⟩ := iht _ h1
      refine ⟨e1, by simpa using e2.trans (List.sublist_append_left _ _), ?_⟩
      intro i e he; simp [e3 e he]
    · rw [h2] at h
      obtain ⟨e1, e2, e3⟩ := ihts s h
      refine ⟨e1, by simpa using e2.trans (List.sublist_append_right _ _), ?_⟩
      intro i e he; simp [e3 i e he]

theorem subtreeAt_isSome (x : Nat) :
    (∀ t, x ∈ ids t → ∃ s, subtreeAt x t = some s) ∧
    (∀ ts, x ∈ idsL ts → ∃ s, subtreeAtL x ts = some s) := by
  apply induct
  · intro i ks ih h
    rw [subtreeAt_node]
    by_cases hix : i = x
    · simp [hix]
    · simp [hix]
      simp at h
      rcases h with h | h
      · exact absurd h.symm hix
      · exact ih h
  · simp
  · intro t ts iht ihts h
    rcases subtreeAtL_cons_cases x t ts with ⟨s', h1, h2⟩ | ⟨h1, h2⟩
    · exact ⟨s', h2⟩
    · rw [h2]
      simp at h
      rcases h with h | h
      · obtain ⟨s, hs⟩ := iht h; rw [hs] at h1; simp at h1
      · exact ihts h

theorem subtreeAt_mem {x : Nat} {t s : RTree} (h : subtreeAt x t = some s) : x ∈ ids t := by
  have := (subtreeAt_basic x).1 t s h
  exact this.2.1.subset (this.1 ▸ rid_mem_ids s)

theorem subtreeAt_none_of_not_mem {x : Nat} {t : RTree} (h : x ∉ ids t) : subtreeAt x t = none := by
  cases hs : subtreeAt x t with
  | none => rfl
  | some s => exact absurd (subtreeAt_mem hs) h

theorem subtreeAt_below (x y : Nat) :
    (∀ t s, (ids t).Nodup → subtreeAt x t = some s →
      (y ∈ ids s ↔ ∃ p, pathDown y t = some p ∧ x ∈ p)) ∧
    (∀ ts s, (idsL ts).Nodup → subtreeAtL x ts = some s →
      (y ∈ ids s ↔ ∃ p, pathDownL y ts = some p ∧ x ∈ p)) := by
  apply induct
  · intro i ks ih s hnd h
    rw [subtreeAt_node] at h
    simp at hnd
    by_cases hix : i = x
    · subst hix; simp at h; subst h
      constructor
      · intro hy
        obtain ⟨p, hp⟩ := pathDown_some_of_mem hy
        have hh := ((pathDown_ends y).1 _ p hp).1
        exact ⟨p, hp, by simpa [rid] using List.mem_of_head? hh⟩
      · rintro ⟨p, hp, _⟩
        exact mem_of_pathDown hp
    · simp [hix] at h
      have hsub := ((subtreeAt_basic x).2 ks s h).2.1
      rw [ih s hnd.2 h]
      constructor
      · rintro ⟨p, hp, hx⟩
        have hy := mem_of_pathDownL hp
        have hiy : ¬ i = y := fun e => hnd.1 (e ▸ hy)
        exact ⟨i :: p, by simp [hiy, hp], by simp [hx]⟩
      · rintro ⟨p, hp, hx⟩
        by_cases hiy : i = y
        · subst hiy; simp at hp; subst hp; simp at hx; exact absurd hx.symm hix
        · simp [hiy] at hp
          obtain ⟨q, hq, rfl⟩ := hp
          simp at hx
          rcases hx with hx | hx
          · exact absurd hx.symm hix
          · exact ⟨q, hq, hx⟩
  · simp
  · intro t ts iht ihts s hnd h
    obtain ⟨hn1, hn2, hdis⟩ := List.nodup_append.mp hnd
    rcases subtreeAtL_cons_cases x t ts with ⟨s', h1, h2⟩ | ⟨h1, h2⟩
    · rw [h2] at h; simp at h; subst h
      have hxt := subtreeAt_mem h1
      rw [iht _ hn1 h1]
      constructor
      · rintro ⟨p, hp, hx⟩
        exact ⟨p, pathDownL_cons_some hp, hx⟩
      · rintro ⟨p, hp, hx⟩
        rcases pathDownL_cons_cases y t ts with ⟨q, hq, hL⟩ | ⟨hq, hL⟩
        · rw [hL] at hp; simp at hp; subst hp; exact ⟨q, hq, hx⟩
        · rw [hL] at hp
          exact absurd rfl (hdis x hxt x ((pathDown_subset y).2 ts p hp x hx))
    · rw [h2] at h
      have hxts : x ∈ idsL ts := by
        have := (subtreeAt_basic x).2 ts s h
        exact this.2.1.subset (this.1 ▸ rid_mem_ids s)
      rw [ihts s hn2 h]
      constructor
      · rintro ⟨p, hp, hx⟩
        have hy := mem_of_pathDownL hp
        have hyt : y ∉ ids t := fun hy' => hdis y hy' y hy rfl
        exact ⟨p, by rw [pathDownL_cons_none (pathDown_none_of_not_mem hyt)]; exact hp, hx⟩
      · rintro ⟨p, hp, hx⟩
        rcases pathDownL_cons_cases y t ts with ⟨q, hq, hL⟩ | ⟨hq, hL⟩
        · rw [hL] at hp; simp at hp; subst hp
          exact absurd rfl (hdis x ((pathDown_subset y).1 t q hq x hx) x hxts)
        · rw [hL] at hp; exact ⟨p, hp, hx⟩

theorem leavesOf_node (i : Nat) (ks : List RTree) :
    leavesOf (node i ks) = if ks.isEmpty then [i] else leavesOfL ks := rfl
@[simp] theorem leavesOfL_nil : leavesOfL [] = [] := rfl
@[simp] theorem leavesOfL_cons (t : RTree) (ts : List RTree) :
    leavesOfL (t :: ts) = leavesOf t ++ leavesOfL ts := rfl

theorem isLeaf_iff {t : RTree} {y : Nat} : isLeaf t y = true ↔ ∀ e ∈ edges t, e.1 ≠ y := by
  simp [isLeaf]

theorem leavesOf_eq_filter :
    (∀ t, (ids t).Nodup → leavesOf t = (ids t).filter (isLeaf t)) ∧
    (∀ ts i, (idsL ts).Nodup → i ∉ idsL ts →
      leavesOfL ts = (idsL ts).filter (fun y => (edgesL i ts).all (fun e => e.1 != y))) := by
  apply induct
  · intro i ks ih hnd
    simp at hnd
    rw [leavesOf_node]
    cases ks with
    | nil => simp [isLeaf, List.filter_cons]
    | cons k ks' =>
      have := ih i hnd.2 hnd.1
      have hfun : isLeaf (node i (k :: ks')) =
          fun y => (edgesL i (k :: ks')).all (fun e => e.1 != y) := by
        funext y; simp [isLeaf]
      simp only [List.isEmpty_cons, Bool.false_eq_true, if_false, ids_node]
      rw [this, hfun, List.filter_cons]
      simp
  · simp
  · intro t ts iht ihts i hnd hi
    simp at hi
    obtain ⟨hn1, hn2, hdis⟩ := List.nodup_append.mp hnd
    rw [leavesOfL_cons, iht hn1, ihts i hn2 hi.2, idsL_cons, List.filter_append]
    congr 1
    · apply List.filter_congr
      intro y hy
      have hiy : i ≠ y := fun e => hi.1 (e ▸ hy)
      have h3 : (edgesL i ts).all (fun e => e.1 != y) = true := by
        rw [List.all_eq_true]
        intro e he
        rcases edgesL_src he with h | h
        · simp [h, hiy]
        · have : e.1 ≠ y := fun e' => hdis y hy e.1 h e'.symm
          simp [this]
      simp [isLeaf, hiy, h3]
    · apply List.filter_congr
      intro y hy
      have hiy : i ≠ y := fun e => hi.2 (e ▸ hy)
      have h3 : (edges t).all (fun e => e.1 != y) = true := by
        rw [List.all_eq_true]
        intro e he
        have : e.1 ≠ y := fun e' => hdis e.1 (edges_src he) y hy e'
        simp [this]
      simp [hiy, h3]

theorem subtreeAt_edges (x : Nat) :
    (∀ t s, (ids t).Nodup → subtreeAt x t = some s →
      ∀ e ∈ edges t, e.1 ∈ ids s → e ∈ edges s) ∧
    (∀ ts s i, (idsL ts).Nodup → i ∉ idsL ts → subtreeAtL x ts = some s →
      ∀ e ∈ edgesL i ts, e.1 ∈ ids s → e ∈ edges s) := by
  apply induct
  · intro i ks ih s hnd h e he hes
    rw [subtreeAt_node] at h
    simp at hnd
    by_cases hix : i = x
    · subst hix; simp at h; subst h; exact he
    · simp [hix] at h
      exact ih s i hnd.2 hnd.1 h e (by simpa using he) hes
  · simp
  · intro t ts iht ihts s i hnd hi h e he hes
    simp at hi
    obtain ⟨hn1, hn2, hdis⟩ := List.nodup_append.mp hnd
    rcases subtreeAtL_cons_cases x t ts with ⟨s', h1, h2⟩ | ⟨h1, h2⟩
    · rw [h2] at h; simp at h; subst h
      have hsub := ((subtreeAt_basic x).1 t _ h1).2.1.subset
      have het := hsub hes
      simp at he
      rcases he with rfl | he | he
      · exact absurd het hi.1
      · exact iht _ hn1 h1 e he hes
      · rcases edgesL_src he with h | h
        · exact absurd (h ▸ het) hi.1
        · exact absurd rfl (hdis _ het _ h)
    · rw [h2] at h
      have hsub := ((subtreeAt_basic x).2 ts s h).2.1.subset
      have hets := hsub hes
      simp at he
      rcases he with rfl | he | he
      · exact absurd hets hi.2
      · exact absurd rfl (hdis _ (edges_src he) _ hets)
      · exact ihts s i hn2 hi.2 h e he hes

theorem isLeaf_subtree {x : Nat} {t s : RTree} (hwf : t.WF) (h : subtreeAt x t = some s)
    {y : Nat} (hy : y ∈ ids s) : isLeaf s y = isLeaf t y := by
  have h1 := ((subtreeAt_basic x).1 t s h).2.2
  have h2 := (subtreeAt_edges x).1 t s hwf h
  simp only [isLeaf]
  rw [Bool.eq_iff_iff, List.all_eq_true, List.all_eq_true]
  constructor
  · intro hs e he
    by_cases hey : e.1 = y
    · exact hs e (h2 e he (hey ▸ hy))
    · simp [hey]
  · intro ht e he
    exact ht e (h1 e he)

theorem subtree_nodup {x : Nat} {t s : RTree} (hwf : t.WF) (h : subtreeAt x t = some s) :
    (ids s).Nodup := ((subtreeAt_basic x).1 t s h).2.1.nodup hwf

theorem leavesOf_ne_nil :
    (∀ t, leavesOf t ≠ []) ∧ (∀ ts, ts ≠ [] → leavesOfL ts ≠ []) := by
  apply induct
  · intro i ks ih
    rw [leavesOf_node]
    cases ks with
    | nil => simp
    | cons k ks' => simpa using ih (by simp)
  · simp
  · intro t ts iht _ _
    simp [iht]

theorem leavesOf_subset :
    (∀ t, ∀ x ∈ leavesOf t, x ∈ ids t) ∧ (∀ ts, ∀ x ∈ leavesOfL ts, x ∈ idsL ts) := by
  apply induct
  · intro i ks ih x hx
    rw [leavesOf_node] at hx
    cases ks with
    | nil => simp at hx; simp [hx]
    | cons k ks' =>
      have := ih x (by simpa using hx)
      simp only [ids_node, List.mem_cons]
      exact Or.inr this
  · simp
  · intro t ts iht ihts x hx
    simp at hx
    rcases hx with hx | hx
    · simp [iht x hx]
    · simp [ihts x hx]

theorem leavesOfL_mem {x : Nat} : ∀ {ks : List RTree}, x ∈ leavesOfL ks → ∃ k ∈ ks, x ∈ leavesOf k
  | k0 :: ks0, hx => by
    simp at hx
    rcases hx with hx | hx
    · exact ⟨k0, by simp, hx⟩
    · obtain ⟨k, hk, h⟩ := leavesOfL_mem hx
      exact ⟨k, by simp [hk], h⟩

theorem leavesOfL_of_mem {x : Nat} {k : RTree} : ∀ {ks : List RTree}, k ∈ ks → x ∈ leavesOf k →
    x ∈ leavesOfL ks
  | k0 :: ks0, hk, hx => by
    rcases List.mem_cons.mp hk with rfl | hk
    · simp [hx]
    · simp [leavesOfL_of_mem hk hx]

mutual
def subtrees : RTree → List RTree
  | node i ks => node i ks :: subtreesL ks
def subtreesL : List RTree → List RTree
  | [] => []
  | t :: ts => subtrees t ++ subtreesL ts
end

@[simp] theorem subtrees_node (i : Nat) (ks : List RTree) :
    subtrees (node i ks) = node i ks :: subtreesL ks := rfl
@[simp] theorem subtreesL_nil : subtreesL [] = [] := rfl
@[simp] theorem subtreesL_cons (t : RTree) (ts : List RTree) :
    subtreesL (t :: ts) = subtrees t ++ subtreesL ts := rfl

theorem subtreesL_append (l1 l2 : List RTree) :
    subtreesL (l1 ++ l2) = subtreesL l1 ++ subtreesL l2 := by
  induction l1 with
  | nil => simp
  | cons t ts ih => simp [ih]

theorem mem_subtreesL {s : RTree} : ∀ {ks : List RTree}, s ∈ subtreesL ks ↔ ∃ k ∈ ks, s ∈ subtrees k
  | [] => by simp
  | k :: ks => by simp [mem_subtreesL (ks := ks)]

theorem subtrees_sublist :
    (∀ t, ∀ s ∈ subtrees t, (ids s).Sublist (ids t)) ∧
    (∀ ts, ∀ s ∈ subtreesL ts, (ids s).Sublist (idsL ts)) := by
  apply induct
  · intro i ks ih s hs
    simp only [subtrees_node, List.mem_cons] at hs
    rcases hs with rfl | hs
    · exact List.Sublist.refl _
    · simpa using (ih s hs).trans (List.sublist_cons_self _ _)
  · simp
  · intro t ts iht ihts s hs
    simp only [subtreesL_cons, List.mem_append] at hs
    rcases hs with hs | hs
    · simpa using (iht s hs).trans (List.sublist_append_left _ _)
    · simpa using (ihts s hs).trans (List.sublist_append_right _ _)

theorem subtrees_ids :
    (∀ t s, s ∈ subtrees t → ∀ y ∈ ids s, y ∈ ids t) ∧
    (∀ ts s, s ∈ subtreesL ts → ∀ y ∈ ids s, y ∈ idsL ts) :=
  ⟨fun t s hs _ hy => (subtrees_sublist.1 t s hs).subset hy,
   fun ts s hs _ hy => (subtrees_sublist.2 ts s hs).subset hy⟩

theorem subtrees_self (t : RTree) : t ∈ subtrees t := by cases t; simp

theorem subtrees_trans :
    (∀ t, ∀ s ∈ subtrees t, ∀ s' ∈ subtrees s, s' ∈ subtrees t) ∧
    (∀ ts, ∀ s ∈ subtreesL ts, ∀ s' ∈ subtrees s, s' ∈ subtreesL ts) := by
  apply induct
  · intro i ks ih s hs s' hs'
    simp only [subtrees_node, List.mem_cons] at hs ⊢
    rcases hs with rfl | hs
    · simpa using hs'
    · exact Or.inr (ih s hs s' hs')
  · simp
  · intro t ts iht ihts s hs s' hs'
    simp only [subtreesL_cons, List.mem_append] at hs ⊢
    rcases hs with hs | hs
    · exact Or.inl (iht s hs s' hs')
    · exact Or.inr (ihts s hs s' hs')

theorem subtrees_kid {t : RTree} {i : Nat} {ks : List RTree} (h : node i ks ∈ subtrees t) {k : RTree}
    (hk : k ∈ ks) : k ∈ subtrees t :=
  subtrees_trans.1 t _ h k (by
    simp only [subtrees_node, List.mem_cons]
    exact Or.inr (mem_subtreesL.mpr ⟨k, hk, subtrees_self k⟩))

theorem subtreeAt_mem_subtrees (x : Nat) :
    (∀ t s, subtreeAt x t = some s → s ∈ subtrees t) ∧
    (∀ ts s, subtreeAtL x ts = some s → s ∈ subtreesL ts) := by
  apply induct
  · intro i ks ih s h
    rw [subtreeAt_node] at h
    by_cases hix : i = x
    · subst hix; simp at h; subst h; simp
    · simp [hix] at h
      simp [ih s h]
  · simp
  · intro t ts iht ihts s h
    rcases subtreeAtL_cons_cases x t ts with ⟨s', h1, h2⟩ | ⟨h1, h2⟩
    · rw [h2] at h; simp at h; subst h
      simp [iht _ h1]
    · rw [h2] at h
      simp [ihts s h]

end RTree
end Ptn.C17
