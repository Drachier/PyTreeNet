import Ptn.C17.FlatDist
import Ptn.C17.FlatNN
/-! Flat port = structural model: `_path_for_branch_rec` and the branch helpers; the loops of `find_path` over
`main_path` and of `path_down_from_root` over `main_path_down` are the structural sweeps. -/
namespace Ptn.C17
open RTree

theorem branchRecF_eq (ft : FTree) : ∀ s p, KidsP ft p s → ∀ fuel, (ids s).length ≤ fuel →
    ft.branchRecF fuel s.rid = some (postorder s) := by
  refine Reads.fuel_induct ?_
  intro i ks f p hp ih
  simp only [rid, FTree.branchRecF, hp, Option.bind_eq_bind, Option.bind_some, Option.pure_def,
    List.isEmpty_map]
  rw [foldlM_rids (fun acc sub => acc ++ sub) ks ih, foldl_postorder]
  cases ks <;> simp

/-- a list of subtrees of the tree, small enough for the fuel -/
def Small (ft : FTree) (fs : List RTree) : Prop :=
  ∀ k ∈ fs, (∃ p, KidsP ft p k) ∧ (ids k).length ≤ ft.fuel

/-- `branchesThen`: the post-orders of the given branches, then the origin -/
theorem branchesThen_eq {ft : FTree} (fs : List RTree) (hs : Small ft fs) (origin : Nat) :
    ft.branchesThen (fs.map rid) origin = some (postorderL fs ++ [origin]) := by
  simp only [FTree.branchesThen, Option.bind_eq_bind, Option.pure_def]
  rw [foldlM_rids (rec := ft.branchRec) (fun acc sub => acc ++ sub) fs
    (fun k hk => (hs k hk).1.elim fun p hp => branchRecF_eq ft k p hp ft.fuel (hs k hk).2), foldl_postorder]
  simp

theorem Mirror.small_kids {ft : FTree} {t : RTree} (h : Mirror ft t) {s : RTree}
    (hs : s ∈ subtrees t) : Small ft s.kids := by
  intro k hk
  have hsub : k ∈ subtrees t := by
    cases s with
    | node i ks => exact subtrees_kid hs hk
  refine ⟨h.kidsP.sub hsub, ?_⟩
  have := (subtrees_sublist.1 t k hsub).length_le
  rw [h.fuel_eq]; omega

theorem filter_rids (ks : List RTree) (p : Nat → Bool) :
    (ks.map rid).filter p = (ks.filter (fun k => p k.rid)).map rid := by
  rw [List.filter_map]; rfl

theorem Small.filter {ft : FTree} {fs : List RTree} (h : Small ft fs) (p : RTree → Bool) :
    Small ft (fs.filter p) := fun k hk => h k (List.mem_filter.mp hk).1

/-- children on the listed path are dropped, the others kept (`child_id not in main_path`) -/
theorem filter_off_path {pre post : List RTree} {k : RTree} {L : List Nat}
    (hk : k.rid ∈ L) (hpre : ∀ k' ∈ pre, k'.rid ∉ L) (hpost : ∀ k' ∈ post, k'.rid ∉ L) :
    ((pre ++ k :: post).map rid).filter (fun c => !L.contains c) = (pre ++ post).map rid := by
  rw [filter_rids, List.filter_append, List.filter_cons]
  have h1 : pre.filter (fun k' => !L.contains k'.rid) = pre :=
    List.filter_eq_self.mpr (fun k' hk' => by simpa using hpre k' hk')
  have h2 : post.filter (fun k' => !L.contains k'.rid) = post :=
    List.filter_eq_self.mpr (fun k' hk' => by simpa using hpost k' hk')
  have h3 : (!L.contains k.rid) = false := by simpa using hk
  rw [h1, h2, h3]; simp

theorem filter_none_below {L : List Nat} {ks : List RTree} (h : ∀ y ∈ idsL ks, y ∉ L) :
    (ks.map rid).filter (fun c => !L.contains c) = ks.map rid := by
  rw [filter_rids]
  congr 1
  exact List.filter_eq_self.mpr (fun k' hk' => by
    simpa using h _ (ids_subset_idsL hk' _ (rid_mem_ids k')))

/-- body of the loop of `find_path` -/
def upStep (ft : FTree) (mainPath path : List Nat) (origin : Nat) : Option (List Nat) := do
  let ext ← if some origin != ft.root then ft.pathForBranch mainPath origin
            else ft.pathDownFromRoot mainPath path
  pure (path ++ ext)

/-- body of the loop of `path_down_from_root` -/
def downStep (ft : FTree) (r : Nat) (mainPath mpd acc : List Nat) (origin : Nat) :
    Option (List Nat) := do
  let bp ← if origin == r then ft.branchDownRoot mainPath mpd else ft.branchDown origin mpd
  pure (acc ++ bp)

theorem upStep_branch {ft : FTree} {t : RTree} (h : Mirror ft t) {mainPath path : List Nat}
    {x : Nat} (hx : x ≠ t.rid) {p : Option Nat} {kidIds : List Nat}
    (hget : ft.get? x = some ⟨p, kidIds⟩) {fs : List RTree} (hsm : Small ft fs)
    (hfilter : kidIds.filter (fun c => !mainPath.contains c) = fs.map rid) :
    upStep ft mainPath path x = some (path ++ postorderL fs ++ [x]) := by
  have hne : (some x != ft.root) = true := by
    rw [h.2.1]; simpa using hx
  simp only [upStep, hne, if_true, FTree.pathForBranch, hget, Option.bind_eq_bind,
    Option.bind_some, hfilter, branchesThen_eq fs hsm x]
  simp

theorem downStep_branch {ft : FTree} {r : Nat} {mainPath mpd acc : List Nat}
    {x : Nat} (hx : x ≠ r) {p : Option Nat} {kidIds : List Nat}
    (hget : ft.get? x = some ⟨p, kidIds⟩) {fs : List RTree} (hsm : Small ft fs)
    (hfilter : kidIds.filter (fun c => !mpd.contains c) = fs.map rid) :
    downStep ft r mainPath mpd acc x = some (acc ++ postorderL fs ++ [x]) := by
  have hne : (x == r) = false := by simpa using hx
  simp only [downStep, hne, FTree.branchDown, hget, Option.bind_eq_bind,
    Option.bind_some, hfilter, branchesThen_eq fs hsm x]
  simp

/-- Where the nodes of `node r (pre ++ k :: post)` on the list `L` are `r` and the root path `q` inside `k`:
    everything below the other children is off `L`, the filter `child_id not in L` drops exactly `k`, and
    inside `k` the list `L` is `q`. -/
theorem on_path_kid {L q : List Nat} {s r : Nat} {pre post : List RTree} {k : RTree}
    (hr : r ∉ idsL (pre ++ k :: post)) (hnd : (idsL (pre ++ k :: post)).Nodup)
    (hq : pathDown s k = some q)
    (hmp : ∀ x ∈ ids (node r (pre ++ k :: post)), x ∈ L ↔ x ∈ r :: q) :
    (∀ k' ∈ pre ++ post, ∀ y ∈ ids k', y ∉ L) ∧
    ((pre ++ k :: post).map rid).filter (fun c => !L.contains c) = (pre ++ post).map rid ∧
    (∀ x ∈ ids k, x ∈ L ↔ x ∈ q) := by
  have hsub := ids_subset_idsL (k := k) (ks := pre ++ k :: post) (by simp)
  simp only [idsL_append, idsL_cons, List.nodup_append, List.mem_append] at hnd
  have hother : ∀ k' ∈ pre ++ post, ∀ y ∈ ids k', y ∉ L := by
    intro k' hk' y hy hin
    have hyks := ids_subset_idsL (mem_append_cons_of_mem_append (k := k) hk') y hy
    rcases List.mem_cons.mp ((hmp y (by simp [hyks])).mp hin) with e | hin'
    · exact hr (e ▸ hyks)
    · have h1 := (pathDown_subset s).1 k q hq y hin'
      rcases List.mem_append.mp hk' with hp | hp
      · exact hnd.2.2 y (ids_subset_idsL hp _ hy) y (Or.inl h1) rfl
      · exact hnd.2.1.2.2 y h1 y (ids_subset_idsL hp _ hy) rfl
  have hon : k.rid ∈ L := (hmp k.rid (by simp [hsub _ (rid_mem_ids k)])).mpr
    (List.mem_cons_of_mem _ (List.mem_of_head? ((pathDown_ends s).1 k q hq).1))
  refine ⟨hother, ?_, ?_⟩
  · exact filter_off_path hon (fun k' hk' => hother k' (by simp [hk']) _ (rid_mem_ids k'))
      (fun k' hk' => hother k' (by simp [hk']) _ (rid_mem_ids k'))
  · intro x hx
    rw [hmp x (by simp [hsub x hx]), List.mem_cons]
    exact ⟨fun h => h.resolve_left (fun e => hr (e ▸ hsub x hx)), Or.inr⟩

theorem off_path_kids {L : List Nat} {r : Nat} {ks : List RTree} (hr : r ∉ idsL ks)
    (hmp : ∀ x ∈ ids (node r ks), x ∈ L ↔ x ∈ [r]) : ∀ y ∈ idsL ks, y ∉ L := by
  intro y hy hin
  have := (hmp y (by simp [hy])).mp hin
  exact hr (List.mem_singleton.mp this ▸ hy)

theorem Small.drop_kid {ft : FTree} {pre post : List RTree} {k : RTree} (h : Small ft (pre ++ k :: post)) :
    Small ft (pre ++ post) := fun k' hk' => h k' (mem_append_cons_of_mem_append hk')

theorem Mirror.node_facts {ft : FTree} {t : RTree} (h : Mirror ft t) {r' : Nat} {ks : List RTree}
    (hk : node r' ks ∈ subtrees t) :
    (∃ p, ft.get? r' = some ⟨p, ks.map rid⟩) ∧ Small ft ks ∧ r' ∉ idsL ks ∧ (idsL ks).Nodup ∧
      ∀ k' ∈ ks, k' ∈ subtrees t := by
  have hnd : (ids (node r' ks)).Nodup := (subtrees_sublist.1 t _ hk).nodup h.2.2
  simp only [ids_node, List.nodup_cons] at hnd
  exact ⟨(h.kidsP.sub hk).imp fun _ hp => hp.self, by simpa [kids] using h.small_kids hk, hnd.1, hnd.2,
    fun k' hk' => subtrees_kid hk hk'⟩

/-- In a subtree `k` not holding the root, whose nodes on the list `L` are those of the root path `q` of `s`:
    the loop of `find_path` over `q` reversed (`L = main_path`) is the upward sweep of `k`, the loop of
    `path_down_from_root` over `q` (`L = main_path_down`) the downward sweep. -/
theorem sweep_loops {ft : FTree} {t : RTree} (h : Mirror ft t) (mainPath L : List Nat) (s : Nat) :
    ∀ k, k ∈ subtrees t → t.rid ∉ ids k → ∀ q, pathDown s k = some q → (∀ x ∈ ids k, x ∈ L ↔ x ∈ q) →
      (∀ w, sweepUp s k = some w → ∀ acc, q.reverse.foldlM (upStep ft L) acc = some (acc ++ w)) ∧
      (∀ w, sweepDown s k = some w →
        ∀ acc, q.foldlM (downStep ft t.rid mainPath L) acc = some (acc ++ w)) := by
  refine induct_mem ?_
  intro r' ks ih hk hroot q hq hmp
  obtain ⟨⟨p, hget⟩, hsm, hr'ks, hndks, hkids⟩ := h.node_facts hk
  have hr't : r' ≠ t.rid := fun e => hroot (by simp [e])
  rw [sweepUp_node, sweepDown_node]
  by_cases hrs : r' = s
  · subst hrs
    simp at hq; subst hq
    have hfilter := filter_none_below (off_path_kids hr'ks hmp)
    simp [upStep_branch h hr't hget hsm hfilter, downStep_branch hr't hget hsm hfilter]
  · simp only [hrs, if_false]
    -- the child through which `q` goes, as found by either sweep
    have kid : ∀ {pre ki post}, ks = pre ++ ki :: post → s ∈ ids ki → ∃ qi, q = r' :: qi ∧
        ((pre ++ ki :: post).map rid).filter (fun c => !L.contains c) = (pre ++ post).map rid ∧
        (∀ w, sweepUp s ki = some w → ∀ acc, qi.reverse.foldlM (upStep ft L) acc = some (acc ++ w)) ∧
        (∀ w, sweepDown s ki = some w →
          ∀ acc, qi.foldlM (downStep ft t.rid mainPath L) acc = some (acc ++ w)) := by
      rintro pre ki post rfl hski
      obtain ⟨qi, hqi, hqk⟩ := pathDown_through_kid hndks hrs (by simp) hski
      rw [hq] at hqk; simp at hqk; subst hqk
      have hkimem : ki ∈ pre ++ ki :: post := by simp
      obtain ⟨_, hfilter, hmpk⟩ := on_path_kid hr'ks hndks hqi hmp
      exact ⟨qi, rfl, hfilter, ih ki hkimem (hkids ki hkimem)
        (fun hin => hroot (by simp [ids_subset_idsL hkimem _ hin])) qi hqi hmpk⟩
    constructor
    · intro w hw acc
      obtain ⟨pre, ki, post, wi, rfl, hwi, rfl⟩ := (sweepUpL_first s r' ks []).1 w hw
      obtain ⟨qi, rfl, hfilter, hup, _⟩ := kid rfl (((sweepUp_spec s).1 ki).1 wi hwi).2.1
      rw [List.reverse_cons, List.foldlM_append, hup wi hwi]
      simp [upStep_branch h hr't hget hsm.drop_kid hfilter]
    · intro w hw acc
      obtain ⟨pre, ki, post, wi, rfl, hwi, rfl⟩ := (sweepDownL_first s r' ks []).1 w hw
      obtain ⟨qi, rfl, hfilter, _, hdown⟩ := kid rfl (((sweepDown_spec s).1 ki).1 wi hwi).2.1
      simp [downStep_branch hr't hget hsm.drop_kid hfilter, hdown wi hwi]

end Ptn.C17
