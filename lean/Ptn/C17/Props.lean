import Ptn.C17.Model
import Ptn.C17.Examples
import Ptn.C17.Lemmas
import Ptn.C17.Tree
import Ptn.C17.Path
import Ptn.C17.Unique
import Ptn.C17.Linear
import Ptn.C17.Reroot
import Ptn.C17.Subtree
import Ptn.C17.UpdatePath
import Ptn.C17.Cache
import Ptn.C17.Contig
import Ptn.C17.Cut
import Ptn.C17.Last
import Ptn.C17.Segments
import Ptn.C17.DistTree
import Ptn.C17.HopFacts
import Ptn.C17.FlatDist
import Ptn.C17.FlatUpdate
import Ptn.C17.FlatValid
import Ptn.C17.FlatCache
import Ptn.C17.FlatNN
/-! Property theorems for C17 (tree navigation, TDVP sweep order, initial cache keys).  All theorems quantify over
every ordered rooted tree `t` with distinct identifiers (`t.WF`), without any bound on its size. -/
namespace Ptn.C17
open RTree

/-- the tree of the examples (`Examples.lean`): root 0 with the branches 1-(3,4), 2, 5-6-7 -/
example : exTree.WF := by decide +kernel

/-- `path_from_to(a, b)` completes and returns a simple path from `a` to `b`: it starts at `a`,
    ends at `b`, consecutive nodes are neighbours, no node repeats. -/
theorem path_from_to_correct (t : RTree) (hwf : t.WF) (a b : Nat) (ha : a ∈ ids t)
    (hb : b ∈ ids t) : ∃ p, pathFromTo t a b = some p ∧ IsSimplePath t p a b :=
  pathFromTo_isSimplePath hwf ha hb

example : pathFromTo exTree 4 7 = some [4, 1, 0, 5, 6, 7] := by decide +kernel
example : pathFromTo exTree 7 5 = some [7, 6, 5] := by decide +kernel
example : IsSimplePath exTree [4, 1, 0, 5, 6, 7] 4 7 := by decide +kernel

/-- Every simple path from `a` to `b` is the list `path_from_to(a, b)` returns: "the result of
    elementary graph search" is a well-defined notion and the routine computes it. -/
theorem simple_path_is_path_from_to (t : RTree) (hwf : t.WF) (a b : Nat) (p : List Nat)
    (h : IsSimplePath t p a b) : pathFromTo t a b = some p :=
  simple_path_eq_pathFromTo hwf h

/-- Two simple paths between the same end points are equal. -/
theorem simple_path_unique (t : RTree) (hwf : t.WF) (a b : Nat) (p q : List Nat)
    (hp : IsSimplePath t p a b) (hq : IsSimplePath t q a b) : p = q := by
  have h1 := simple_path_is_path_from_to t hwf a b p hp
  have h2 := simple_path_is_path_from_to t hwf a b q hq
  rw [h1] at h2
  exact Option.some.inj h2

example : IsSimplePath exTree [3, 1, 0, 2] 3 2 := by decide +kernel

/-- `linearise` is a rearrangement of the node identifiers (every node exactly once), every child
    comes before its parent, and the root comes last. -/
theorem linearise_postorder (t : RTree) (hwf : t.WF) :
    (postorder t).Perm (ids t) ∧ (postorder t).Nodup ∧
    (∀ p x, (p, x) ∈ edges t → Before x p (postorder t)) ∧
    (postorder t).getLast? = some t.rid :=
  ⟨postorder_perm.1 t, (postorder_perm.1 t).symm.nodup hwf, postorder_child_before.1 t,
   postorder_last t⟩

example : postorder exTree = [3, 4, 1, 2, 7, 6, 5, 0] := by decide +kernel

/-- `distance_to_node(c)` completes; the keys of the table are exactly the node identifiers, each
    once, and the value stored for `v` is the number of edges of the path from `c` to `v`. -/
theorem distance_correct (t : RTree) (hwf : t.WF) (c : Nat) (hc : c ∈ ids t) :
    ∃ tbl, distanceToNode t c = some tbl ∧ (tbl.map (·.1)).Perm (ids t) ∧
      ∀ v d, (v, d) ∈ tbl → ∃ p, pathFromTo t c v = some p ∧ d + 1 = p.length := by
  obtain ⟨R, hR⟩ := (reroot_isSome c).1 t [] hc
  have hperm := ((reroot_spec c).1 t [] R hR).2.1
  simp only [idsL_nil, List.nil_append] at hperm
  refine ⟨depths 0 R, by simp [distanceToNode, hR], by rw [depths_keys.1 R 0]; exact hperm,
    fun v d hvd => ?_⟩
  obtain ⟨p, hp, hd⟩ := depths_value.1 R 0 v d (hperm.symm.nodup hwf) hvd
  exact ⟨p, by rw [pathFromTo_eq_reroot hwf (hperm.subset (mem_ids_of_mem_depths hvd)) hR, hp], by omega⟩

example : 6 ∈ ids exTree := by decide +kernel
example : distanceToNode exTree 6 =
    some [(6, 0), (5, 1), (0, 2), (1, 3), (3, 4), (4, 4), (2, 3), (7, 1)] := by decide +kernel

/-- `find_subtree_of_node(x)` completes; it lists `x` first and then, without repetition, exactly
    the nodes below `x` (those whose way to the root passes through `x`). -/
theorem subtree_correct (t : RTree) (hwf : t.WF) (x : Nat) (hx : x ∈ ids t) :
    ∃ l, subtreeIds t x = some l ∧ l.head? = some x ∧ l.Nodup ∧ ∀ y, y ∈ l ↔ IsBelow t x y := by
  obtain ⟨s, hs⟩ := (subtreeAt_isSome x).1 t hx
  refine ⟨ids s, by simp [subtreeIds, hs], ?_, subtree_nodup hwf hs, ?_⟩
  · rw [ids_eq_rid_cons, ((subtreeAt_basic x).1 t s hs).1]; simp
  · intro y; exact (subtreeAt_below x y).1 t s hwf hs

/-- `leaves_under_node(x)` lists exactly the childless nodes among the nodes of
    `find_subtree_of_node(x)`, in the same order. -/
theorem leaves_under_correct (t : RTree) (hwf : t.WF) (x : Nat) (hx : x ∈ ids t) :
    ∃ l, subtreeIds t x = some l ∧ leavesUnder t x = some (l.filter (isLeaf t)) := by
  obtain ⟨s, hs⟩ := (subtreeAt_isSome x).1 t hx
  refine ⟨ids s, by simp [subtreeIds, hs], ?_⟩
  simp only [leavesUnder, hs, Option.map_some, Option.some.injEq]
  rw [leavesOf_eq_filter.1 s (subtree_nodup hwf hs)]
  exact List.filter_congr (fun y hy => isLeaf_subtree hwf hs hy)

/-- `find_subtree_size_of_node(x)` is the number of nodes of `find_subtree_of_node(x)`. -/
theorem subtree_size_correct (t : RTree) (x : Nat) :
    subtreeSize t x = (subtreeIds t x).map List.length := by
  simp only [subtreeSize, subtreeIds, Option.map_map]
  congr 1
  funext s
  exact size_eq.1 s

example : 5 ∈ ids exTree ∧ 1 ∈ ids exTree := by decide +kernel
example : subtreeIds exTree 5 = some [5, 6, 7] := by decide +kernel
example : leavesUnder exTree 1 = some [3, 4] := by decide +kernel
example : IsBelow exTree 5 7 := ⟨[0, 5, 6, 7], by decide +kernel, by decide +kernel⟩

/-- `TDVPUpdatePathFinder(t).find_path()` completes (no index error, no failed assertion, `max` of
    an empty dict never taken) and visits every node exactly once. -/
theorem update_path_perm (t : RTree) (hwf : t.WF) :
    ∃ p, updatePath t = some p ∧ p.Perm (ids t) ∧ p.Nodup := by
  cases t with
  | node r ks =>
    obtain ⟨p, s, hp, _, hperm, _, _⟩ := updatePath_spec r ks hwf
    have hperm' : p.Perm (ids (node r ks)) := by simpa using hperm
    exact ⟨p, hp, hperm', hperm'.symm.nodup hwf⟩

/-- The update path starts at `find_start_node_id()`, which is a leaf of maximal depth: a node
    without children whose way to the root is at least as long as that of any other node. -/
theorem update_path_start (t : RTree) (hwf : t.WF) :
    ∃ p s, updatePath t = some p ∧ findStart t = some s ∧ p.head? = some s ∧ s ∈ ids t ∧
      isLeaf t s = true ∧
      ∀ y py, rootPath t y = some py → ∃ ps, rootPath t s = some ps ∧ py.length ≤ ps.length := by
  cases t with
  | node r ks =>
    obtain ⟨p, s, hp, hs, _, hhead, _⟩ := updatePath_spec r ks hwf
    obtain ⟨s', _, hs', _, _, hmem, hleaf⟩ := findStart_spec (node r ks) hwf
    rw [hs] at hs'; simp at hs'; subst hs'
    exact ⟨p, s, hp, hs, hhead, hmem, hleaf, findStart_deepest _ hwf hs⟩

/-- The update path ends at a node with at most one neighbour (the root if it has a single child,
    a leaf otherwise). -/
theorem update_path_end (t : RTree) (hwf : t.WF) :
    ∃ p l, updatePath t = some p ∧ p.getLast? = some l ∧ degree t l ≤ 1 := by
  cases t with
  | node r ks =>
    obtain ⟨p, s, hp, _, _, _, hend, _⟩ := updatePath_spec r ks hwf
    rcases hend with ⟨hlen, hlast⟩ | ⟨f, hlast, hleaf⟩
    · exact ⟨p, r, hp, hlast, degree_root_le_one hwf hlen⟩
    · exact ⟨p, f, hp, hlast, degree_leaf hwf hleaf⟩

example : updatePath exTree = some [7, 6, 5, 2, 0, 4, 1, 3] := by decide +kernel
example : degree exTree 1 = 3 ∧ degree exTree 7 = 1 ∧ isLeaf exTree 7 = true := by decide +kernel
/-- root with a single child: the path ends at the root -/
example : updatePath (.node 0 [.node 1 [.node 2 [], .node 3 []]]) = some [2, 3, 1, 0] := by decide +kernel

/-- On a tree with more than one node the last two nodes of the update path are neighbours (the
    second-order sweeps go back over the path and take this for granted). -/
theorem last_two_adjacent (t : RTree) (hwf : t.WF) (hkids : t.kids ≠ []) :
    ∃ p l y z, updatePath t = some p ∧ p = l ++ [y, z] ∧ Adj t y z := by
  cases t with
  | node r ks => exact updatePath_last_two r ks hwf hkids

example : exTree.kids ≠ [] := by decide +kernel

/-- The nodes below any node other than the root are visited consecutively by the update path. -/
theorem update_path_subtree_blocks (t : RTree) (hwf : t.WF) (x : Nat) (hx : x ∈ ids t)
    (hxr : x ≠ t.rid) :
    ∃ p l A B C, updatePath t = some p ∧ subtreeIds t x = some l ∧ p = A ++ B ++ C ∧
      (∀ y ∈ B, y ∈ l) ∧ (∀ y ∈ A, y ∉ l) ∧ (∀ y ∈ C, y ∉ l) := by
  cases t with
  | node r ks =>
    obtain ⟨p, s, hp, _, _, _, _, hshape⟩ := updatePath_spec r ks hwf
    obtain ⟨sx, hsx⟩ := (subtreeAt_isSome x).1 _ hx
    have hsub : sx ∈ subtreesL ks := by
      have hsx' := hsx
      rw [subtreeAt_node] at hsx'
      have : ¬ r = x := fun e => hxr (by simp [rid, e])
      simp [this] at hsx'
      exact (subtreeAt_mem_subtrees x).2 ks sx hsx'
    obtain ⟨A, B, C, e, h1, h2, h3⟩ := updatePath_contig hwf hshape sx hsub
    exact ⟨p, ids sx, A, B, C, hp, by simp [subtreeIds, hsx], e, h1, h2, h3⟩

example : 6 ∈ ids exTree ∧ 6 ≠ exTree.rid := by decide +kernel

/-- Walking the update path - from every node to the next one along `path_from_to` - crosses no
    edge of the tree more than twice (`w` lists all crossings, orientation forgotten). -/
theorem update_path_edge_crossings (t : RTree) (hwf : t.WF) :
    ∃ p w, updatePath t = some p ∧ walkEdges t p = some w ∧ ∀ e, w.count e ≤ 2 := by
  cases t with
  | node r ks => exact updatePath_crossings r ks hwf

example : walkEdges exTree [7, 6, 5, 2, 0, 4, 1, 3] =
    some [(6, 7), (5, 6), (0, 5), (0, 2), (0, 2), (0, 1), (1, 4), (1, 4), (1, 3)] := by decide +kernel

/-- `init_cache_but_one(state, hamiltonian, c)` creates exactly `n - 1` blocks: one block `(u, ·)`
    for every node `u ≠ c`, one per edge of the tree (as unoriented pairs the keys are exactly the
    edges), and every block `(u, v)` points toward `c`: `v` is the first step of
    `path_from_to(u, c)`. -/
theorem init_cache_keys (t : RTree) (hwf : t.WF) (c : Nat) (hc : c ∈ ids t) :
    ∃ keys, cacheKeys c t = some keys ∧
      keys.length + 1 = (ids t).length ∧
      (keys.map (·.1) ++ [c]).Perm (ids t) ∧
      (keys.map unord).Perm ((edges t).map unord) ∧
      ∀ u v, (u, v) ∈ keys → ∃ rest, pathFromTo t u c = some (u :: v :: rest) := by
  cases hk : cacheKeys c t with
  | none => exact absurd hc (((cacheKeys_spec c).1 t).2 hk)
  | some keys =>
    obtain ⟨h1, h2⟩ := ((cacheKeys_spec c).1 t).1 keys hk
    refine ⟨keys, rfl, ?_, h1, h2, ?_⟩
    · have := h1.length_eq
      simpa using this
    · exact fun u v huv => cacheKeys_toward hwf hc hk huv

example : cacheKeys 7 exTree = some [(3, 1), (4, 1), (1, 0), (2, 0), (0, 5), (5, 6), (6, 7)] := by
  decide +kernel
example : 7 ∈ ids exTree := by decide +kernel

/-! ### Segments of the TDVP sweep and the distance table (exported to C05 / C03)

The theorems `segs_nodes`, `segs_edges_perm`, `segs_point_to_last`, `segs_last_adjacent`,
`segs_degree`, `edges_unord_nodup` (file `Segments.lean`) and `dist_table`, `mem_nbrsOf` (file
`DistTree.lean`) are stated there because `lean/Ptn/C05/Tree.lean` and `lean/Ptn/C03/Tree.lean`
import those files; they are listed in `obligations/C17.txt`.  Non-vacuity: -/

example : segsOf? exTree = some [(7, 6), (6, 5), (5, 0), (2, 0), (0, 1), (4, 1), (1, 3)] ∧
    lastOf exTree = 3 := by decide +kernel
example : (edges exTree).map unord = [(0, 1), (1, 3), (1, 4), (0, 2), (0, 5), (5, 6), (6, 7)] := by
  decide +kernel
example : firstHop exTree 2 3 = some 0 ∧ firstHop exTree 0 3 = some 1 := by decide +kernel
example : nbrsOf exTree 1 = [0, 3, 4] ∧ nbrsOf exTree 0 = [1, 2, 5] := by decide +kernel

/-! ### Flat port = structural model (files `Flat*.lean`)

`Mirror ft t`: the dict of `ft` is a rearrangement of `flatten t` (any insertion order), `root_id` is
the root of `t`, identifiers distinct; `toRTree_mirror`: the driver's check `ft.toRTree = some t`
implies `Mirror ft t`.  Theorems `flat_*_eq_struct` (listed in
`obligations/C17.txt`): the line-by-line port on such a mirror returns exactly what the structural
model returns.  Non-vacuity: a mirror of `exTree` in a scrambled dict order. -/

example : Mirror ⟨[(5, ⟨some 0, [6]⟩), (3, ⟨some 1, []⟩), (0, ⟨none, [1, 2, 5]⟩), (7, ⟨some 6, []⟩),
      (1, ⟨some 0, [3, 4]⟩), (6, ⟨some 5, [7]⟩), (2, ⟨some 0, []⟩), (4, ⟨some 1, []⟩)], some 0⟩ exTree :=
  ⟨by decide +kernel, rfl, by decide +kernel⟩

end Ptn.C17
