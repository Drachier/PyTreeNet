import Ptn.C17.Contig
import Ptn.C17.Cache
/-! An edge is crossed by `path_from_to(a, b)` exactly when `a` and `b` lie on different sides of
it; hence walking the update path crosses every edge at most twice. -/
namespace Ptn.C17
namespace RTree

@[simp] theorem pathEdges_nil : pathEdges [] = [] := rfl
@[simp] theorem pathEdges_single (a : Nat) : pathEdges [a] = [] := rfl
@[simp] theorem pathEdges_cons_cons (a b : Nat) (l : List Nat) :
    pathEdges (a :: b :: l) = unord (a, b) :: pathEdges (b :: l) := rfl

theorem pathEdges_glue (c : Nat) : ∀ (l1 l2 : List Nat),
    pathEdges (l1 ++ c :: l2) = pathEdges (l1 ++ [c]) ++ pathEdges (c :: l2)
  | [], l2 => by simp
  | [a], l2 => rfl
  | a :: b :: l1, l2 => by
    have := pathEdges_glue c (b :: l1) l2
    simp only [List.cons_append, pathEdges_cons_cons] at this ⊢
    rw [this]

theorem pathEdges_snoc (l : List Nat) (a b : Nat) :
    pathEdges (l ++ [a, b]) = pathEdges (l ++ [a]) ++ [unord (a, b)] := by
  have := pathEdges_glue a l [b]
  simpa using this

theorem count_pathEdges_reverse (e : Nat × Nat) : ∀ (l : List Nat),
    (pathEdges l.reverse).count e = (pathEdges l).count e
  | [] => by simp
  | [a] => by simp
  | a :: b :: l => by
    have ih := count_pathEdges_reverse e (b :: l)
    have : (a :: b :: l).reverse = l.reverse ++ [b, a] := by simp
    rw [this, pathEdges_snoc, pathEdges_cons_cons, unord_swap b a]
    have h2 : l.reverse ++ [b] = (b :: l).reverse := by simp
    rw [h2, List.count_append, ih]
    simp only [List.count_cons, List.count_nil]
    omega

theorem count_down_chain {t : RTree} (hwf : t.WF) {par x : Nat} (he : (par, x) ∈ edges t) :
    ∀ (D : List Nat) (d0 : Nat), Chain (fun a b => (a, b) ∈ edges t) (d0 :: D) → (d0 :: D).Nodup →
      (pathEdges (d0 :: D)).count (unord (par, x)) = if x ∈ D then 1 else 0
  | [], d0, _, _ => by simp
  | d1 :: D, d0, hc, hnd => by
    have hc' := chain_cons_cons.mp hc
    have hnd' := (List.nodup_cons.mp hnd).2
    have ih := count_down_chain hwf he D d1 hc'.2 hnd'
    rw [pathEdges_cons_cons, List.count_cons, ih]
    have hiff : (unord (d0, d1) == unord (par, x)) = true ↔ d1 = x := by
      rw [beq_iff_eq, unord_eq_iff]
      constructor
      · rintro (⟨_, h⟩ | ⟨h1, h2⟩)
        · exact h
        · exfalso
          subst h1; subst h2
          exact no_two_cycle hwf he hc'.1
      · intro h
        subst h
        exact Or.inl ⟨parent_unique hwf hc'.1 he, rfl⟩
    by_cases hd : d1 = x
    · subst hd
      have hx : d1 ∉ D := (List.nodup_cons.mp hnd').1
      simp [hiff.mpr rfl, hx]
    · have : ¬ (unord (d0, d1) == unord (par, x)) = true := fun h => hd (hiff.mp h)
      have hx : (x ∈ d1 :: D) ↔ x ∈ D := by
        simp only [List.mem_cons]
        constructor
        · rintro (h | h)
          · exact absurd h.symm hd
          · exact h
        · exact Or.inr
      simp [this, hx]

/-- `y` is `x` or lies below `x`: `IsBelow t x y` as a `Bool` (to count changes with `flips`) -/
def belowB (t : RTree) (x y : Nat) : Bool :=
  match pathDown y t with
  | some p => p.contains x
  | none => false

/-- The cut lemma: `path_from_to(a, b)` uses the edge above `x` once if exactly one of `a`, `b` is
    below `x`, and not at all otherwise. -/
theorem count_cut {t : RTree} (hwf : t.WF) {par x : Nat} (he : (par, x) ∈ edges t) {a b : Nat}
    (ha : a ∈ ids t) (hb : b ∈ ids t) {p : List Nat} (hp : pathFromTo t a b = some p) :
    (pathEdges p).count (unord (par, x)) = if belowB t x a != belowB t x b then 1 else 0 := by
  by_cases hab : a = b
  · subst hab
    simp [pathFromTo] at hp; subst hp; simp
  · obtain ⟨pre, c0, xs, ys, hpa, hpb, hd, hp'⟩ := pathFromTo_shape hwf ha hb hab
    rw [hp] at hp'; simp at hp'; subst hp'
    have hnda := pathDown_nodup hwf hpa
    have hndb := pathDown_nodup hwf hpb
    have hca := chain_append_right ((pathDown_chain a).1 t _ hpa)
    have hcb := chain_append_right ((pathDown_chain b).1 t _ hpb)
    have hna : (c0 :: xs).Nodup := (List.nodup_append.mp hnda).2.1
    have hnb : (c0 :: ys).Nodup := (List.nodup_append.mp hndb).2.1
    have e1 := count_down_chain hwf he xs c0 hca hna
    have e2 := count_down_chain hwf he ys c0 hcb hnb
    have hrev : xs.reverse ++ [c0] = (c0 :: xs).reverse := by simp
    rw [pathEdges_glue, List.count_append, hrev, count_pathEdges_reverse, e1, e2]
    have sa : belowB t x a = decide (x ∈ pre ++ c0 :: xs) := by simp [belowB, hpa]
    have sb : belowB t x b = decide (x ∈ pre ++ c0 :: ys) := by simp [belowB, hpb]
    rw [sa, sb]
    simp only [List.nodup_append, List.nodup_cons, List.mem_cons] at hnda hndb
    by_cases hx1 : x ∈ xs <;> by_cases hx2 : x ∈ ys
    · exact absurd hx2 (hd x hx1)
    · have h1 : x ∉ pre := fun h => hnda.2.2 x h x (Or.inr hx1) rfl
      have h2 : x ≠ c0 := fun h => hnda.2.1.1 (h ▸ hx1)
      simp [hx1, hx2, h1, h2]
    · have h1 : x ∉ pre := fun h => hndb.2.2 x h x (Or.inr hx2) rfl
      have h2 : x ≠ c0 := fun h => hndb.2.1.1 (h ▸ hx2)
      simp [hx1, hx2, h1, h2]
    · simp [hx1, hx2]

theorem pathEdges_are_edges {t : RTree} : ∀ {p : List Nat}, Chain (Adj t) p →
    ∀ e ∈ pathEdges p, ∃ par x, (par, x) ∈ edges t ∧ e = unord (par, x)
  | [], _, e, he => by simp at he
  | [_], _, e, he => by simp at he
  | a :: b :: l, hc, e, he => by
    have hc' := chain_cons_cons.mp hc
    simp only [pathEdges_cons_cons, List.mem_cons] at he
    rcases he with rfl | he
    · rcases hc'.1 with h | h
      · exact ⟨a, b, h, rfl⟩
      · exact ⟨b, a, h, unord_swap a b⟩
    · exact pathEdges_are_edges hc'.2 e he

theorem walkEdges_cons_cons (t : RTree) (a b : Nat) (rest : List Nat) :
    walkEdges t (a :: b :: rest) =
      (pathFromTo t a b).bind fun p => (walkEdges t (b :: rest)).map (fun w => pathEdges p ++ w) := rfl

theorem walkEdges_spec {t : RTree} (hwf : t.WF) : ∀ (l : List Nat), (∀ y ∈ l, y ∈ ids t) →
    ∃ w, walkEdges t l = some w ∧
      (∀ e ∈ w, ∃ par x, (par, x) ∈ edges t ∧ e = unord (par, x)) ∧
      ∀ par x, (par, x) ∈ edges t → w.count (unord (par, x)) = flips (belowB t x) l
  | [], _ => ⟨[], rfl, by simp, by simp⟩
  | [a], _ => ⟨[], rfl, by simp, by simp⟩
  | a :: b :: rest, h => by
    have ha := h a (by simp)
    have hb := h b (by simp)
    obtain ⟨p, hp, hsimple⟩ := pathFromTo_isSimplePath hwf ha hb
    obtain ⟨w, hw, hw1, hw2⟩ := walkEdges_spec hwf (b :: rest) (fun y hy => h y (by simp [hy]))
    refine ⟨pathEdges p ++ w, by simp [walkEdges_cons_cons, hp, hw], ?_, ?_⟩
    · intro e he
      rcases List.mem_append.mp he with he | he
      · exact pathEdges_are_edges hsimple.2.2.2.1 e he
      · exact hw1 e he
    · intro par x hpx
      rw [List.count_append, hw2 par x hpx, count_cut hwf hpx ha hb hp, flips_cons_cons]

/-- Walking the update path (from each node to the next along `path_from_to`) crosses no edge
    more than twice. -/
theorem updatePath_crossings (r : Nat) (ks : List RTree) (hwf : (node r ks).WF) :
    ∃ p w, updatePath (node r ks) = some p ∧ walkEdges (node r ks) p = some w ∧
      ∀ e, w.count e ≤ 2 := by
  obtain ⟨p, s, hp, _, hperm, _, _, hshape⟩ := updatePath_spec r ks hwf
  have hmem : ∀ y ∈ p, y ∈ ids (node r ks) := fun y hy => by simpa using hperm.subset hy
  obtain ⟨w, hw, hw1, hw2⟩ := walkEdges_spec hwf p hmem
  refine ⟨p, w, hp, hw, ?_⟩
  intro e
  by_cases he : e ∈ w
  · obtain ⟨par, x, hpx, rfl⟩ := hw1 e he
    rw [hw2 par x hpx]
    have hx := (edges_mem.1 _ par x hpx).2
    simp only [kids] at hx
    have hxt : x ∈ ids (node r ks) := by simp [hx]
    obtain ⟨sx, hsx⟩ := (subtreeAt_isSome x).1 _ hxt
    have hxr : ¬ r = x := by
      simp only [WF, ids_node, List.nodup_cons] at hwf
      exact fun e => hwf.1 (e ▸ hx)
    have hsub : sx ∈ subtreesL ks := by
      rw [subtreeAt_node] at hsx
      simp [hxr] at hsx
      exact (subtreeAt_mem_subtrees x).2 ks sx hsx
    apply flips_contig (updatePath_contig hwf hshape sx hsub)
    intro y
    rw [(subtreeAt_below x y).1 _ sx hwf hsx]
    simp only [belowB]
    cases hq : pathDown y (node r ks) with
    | none => simp
    | some q => simp
  · rw [List.count_eq_zero_of_not_mem he]; omega

end RTree
end Ptn.C17
