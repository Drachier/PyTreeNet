import Ptn.C17.FlatKids
import Ptn.C17.Reroot
import Ptn.C17.RootStep
/-! Flat port = structural model for `distance_to_node`.  `_distance_to_node_rec` walks neighbour lists, so it follows
any tree `R` whose nodes have, in the dict, the neighbours "parent in `R`, and the children in `R` in order" (`NbP`): the
tree itself for the root, the re-rooted tree for another centre (`reroot_nbP`). -/
namespace Ptn.C17
open RTree

namespace RTree
theorem depths_succ :
    (∀ t d, depths (d + 1) t = incr (depths d t)) ∧
    (∀ ts d, depthsL (d + 1) ts = incr (depthsL d ts)) := by
  apply induct
  · intro i ks ih d; simp [incr, ih (d + 1)]
  · simp [incr]
  · intro t ts iht ihts d; simp [incr, iht d, ihts d] 

end RTree

theorem dictSet_new {d : List (Nat × Nat)} {k v : Nat} (h : k ∉ d.map (·.1)) :
    dictSet d k v = d ++ [(k, v)] := by
  have : d.any (fun e => e.1 == k) = false := by
    rw [List.any_eq_false]
    intro e he
    have : ¬ e.1 = k := fun e' => h (e' ▸ List.mem_map.mpr ⟨e, he, rfl⟩)
    simpa using this
  simp [dictSet, this]

theorem dictUpdate_append : ∀ (new d : List (Nat × Nat)), (∀ e ∈ new, e.1 ∉ d.map (·.1)) →
    (new.map (·.1)).Nodup → dictUpdate d new = d ++ new
  | [], d, _, _ => by simp [dictUpdate]
  | e :: new, d, h, hnd => by
    simp only [List.map_cons, List.nodup_cons] at hnd
    have h1 := dictSet_new (v := e.2) (h e (by simp))
    have ih := dictUpdate_append new (d ++ [(e.1, e.2)]) (by
      intro e' he'
      simp only [List.map_append, List.map_cons, List.map_nil, List.mem_append,
        List.mem_singleton, not_or]
      exact ⟨h e' (by simp [he']), fun eq => hnd.1 (eq ▸ List.mem_map.mpr ⟨e', he', rfl⟩)⟩) hnd.2
    simp only [dictUpdate, List.foldl_cons] at ih ⊢
    rw [h1, ih]; simp

theorem incr_keys (d : List (Nat × Nat)) : (incr d).map (·.1) = d.map (·.1) := by
  simp [incr, Function.comp_def]

/-- what the neighbour list of an entry `g` shows, given the parent and the child identifiers to be found: the parent
    (if any) is a neighbour and the other neighbours, in order, are the children -/
def NbEntry (g : GNode) : Option Nat → List Nat → Prop
  | none, kidIds => g.neighbours = kidIds
  | some p, kidIds => p ∈ g.neighbours ∧ g.neighbours.erase p = kidIds

/-- the dict read along the tree `s` hanging below `par`, each entry seen as a neighbour list -/
def NbP (ft : FTree) : Option Nat → RTree → Prop := Reads fun i p cs => ∃ g, ft.get? i = some g ∧ NbEntry g p cs

theorem KidsP.nbP {ft : FTree} {par : Option Nat} {s : RTree} (h : KidsP ft par s) : NbP ft par s := by
  refine Reads.mono (fun i p cs hg => ⟨_, hg, ?_⟩) h
  cases p <;> simp [NbEntry, GNode.neighbours]

theorem foldl_depths : ∀ (ks : List RTree) (acc : List (Nat × Nat)), (acc.map (·.1) ++ idsL ks).Nodup →
    ks.foldl (fun dd k => dictUpdate dd (incr (depths 0 k))) acc = acc ++ depthsL 1 ks
  | [], acc, _ => by simp
  | k :: ks, acc, hnd => by
    rw [idsL_cons, ← List.append_assoc] at hnd
    have hnd1 := List.nodup_append.mp (List.nodup_append.mp hnd).1
    have hupd : dictUpdate acc (incr (depths 0 k)) = acc ++ depths 1 k := by
      rw [← depths_succ.1 k 0]
      apply dictUpdate_append
      · intro e he hea
        exact hnd1.2.2 e.1 hea e.1 (mem_ids_of_mem_depths (d := 0 + 1) (k := e.2) he) rfl
      · rw [depths_keys.1 k (0 + 1)]; exact hnd1.2.1
    rw [List.foldl_cons, hupd, foldl_depths ks _ (by simpa [depths_keys.1 k 1] using hnd)]
    simp

/-- `_distance_to_node_rec` along a tree whose neighbour lists are found in the mirror -/
theorem distRecF_nb (ft : FTree) : ∀ s p, NbP ft p s → ∀ fuel, (ids s).length ≤ fuel → (ids s).Nodup →
    ∀ par ∈ p, ft.distRecF fuel s.rid par = some (depths 0 s) := by
  refine Reads.fuel_induct ?_
  rintro i ks f _ ⟨g, hg, hnb⟩ ih hnd par rfl
  obtain ⟨hin, her⟩ := hnb
  have hc : g.neighbours.contains par = true := by simpa using hin
  simp only [rid, FTree.distRecF, hg, Option.bind_eq_bind, Option.bind_some, hc, Bool.not_true,
    Bool.false_eq_true, if_false, her, Option.pure_def]
  rw [foldlM_rids (rec := fun nb => ft.distRecF f nb i) (fun dd sub => dictUpdate dd (incr sub)) ks
    (fun k hk => ih k hk (nodup_kid hnd hk) i rfl), foldl_depths ks [(i, 0)] (by simpa using hnd)]
  simp

/-- `distance_to_node(c)` on a mirror whose neighbour lists follow the tree `R` rooted at `c` -/
theorem distanceToNode_nb {ft : FTree} {R : RTree} (h : NbP ft none R) (hnd : (ids R).Nodup)
    (hf : (ids R).length ≤ ft.fuel) : ft.distanceToNode R.rid = some (depths 0 R) := by
  cases R with
  | node c ks =>
    obtain ⟨g, hg, hnb⟩ := h.self
    simp only [NbEntry] at hnb
    simp only [rid, FTree.distanceToNode, hg, hnb, Option.bind_eq_bind, Option.bind_some, Option.pure_def]
    rw [foldlM_rids (rec := fun nb => ft.distRecF ft.fuel nb c) (fun dd sub => dictUpdate dd (incr sub)) ks
      (fun k hk => distRecF_nb ft k _ (h.kid hk) ft.fuel (by
        have := (ids_sublist_idsL hk).length_le
        simp at hf; omega) (nodup_kid hnd hk) c rfl),
      foldl_depths ks [(c, 0)] (by simpa using hnd)]
    simp

/-- **`distance_to_node(root_id)`**: the flat port returns the depth table in the same order -/
theorem flat_distance_root_eq_struct (ft : FTree) (t : RTree) (h : Mirror ft t) :
    ft.distanceToNode t.rid = some (depths 0 t) :=
  distanceToNode_nb (KidsP.nbP h.kidsP) h.2.2 (by rw [h.fuel_eq]; omega)

/-- **`find_start_node_id`** -/
theorem flat_find_start_eq_struct (ft : FTree) (t : RTree) (h : Mirror ft t) :
    ft.findStart = findStart t := by
  simp [FTree.findStart, h.2.1, flat_distance_root_eq_struct ft t h, RTree.findStart]

/-- The re-rooted tree is a tree of neighbour lists of the mirror of the original tree.  Stated for the recursion of
    `reroot`: `t0` is the subtree being entered, `up` the part above it already turned round (empty or one tree, whose
    root is the parent recorded for `t0`: `par.toList = up.map rid`), read as neighbour lists below `t0`. -/
theorem reroot_nbP (ft : FTree) (c : Nat) :
    ∀ t0, ∀ up R par, reroot c up t0 = some R → KidsP ft par t0 → par.toList = up.map rid →
      (∀ u ∈ up, NbP ft (some t0.rid) u) → (ids t0).Nodup → (∀ u ∈ up, u.rid ∉ ids t0) → NbP ft none R := by
  refine induct_mem fun i ks ih up R par hR hK hpar hup hnd hupr => ?_
  rw [reroot_node] at hR
  simp only [rid] at hup
  have hg := hK.self
  by_cases hic : i = c
  · simp [hic] at hR; subst hR; subst hic
    refine .mk ⟨_, hg, by simp [NbEntry, GNode.neighbours, hpar]⟩ fun k hk => ?_
    exact (List.mem_append.mp hk).elim (hup k) fun hk => KidsP.nbP (hK.kid hk)
  · simp [hic] at hR
    obtain ⟨pre, k, post, rfl, h1⟩ := (rerootL_first c i up ks []).1 R hR
    rw [List.nil_append] at h1
    rw [ids_node] at hnd hupr
    have hkmem : k ∈ pre ++ k :: post := by simp
    have hndl := List.nodup_cons.mp hnd
    obtain ⟨hndk, _, _⟩ := kid_apart hndl.2
    have hridsnd := rids_nodup hndl.2
    -- the identifier of k is neither that of the parent of i nor that of an earlier child
    have hk_up : k.rid ∉ up.map rid := by
      intro hm
      obtain ⟨u, hu, e⟩ := List.mem_map.mp hm
      exact hupr u hu (e ▸ List.mem_cons_of_mem _ (ids_subset_idsL hkmem _ (rid_mem_ids k)))
    have hk_pre : k.rid ∉ pre.map rid := by
      intro hm
      rw [List.map_append, List.map_cons, List.nodup_append] at hridsnd
      exact hridsnd.2.2 k.rid hm k.rid (by simp) rfl
    refine ih k hkmem [node i (up ++ pre ++ post)] R (some i) h1 (hK.kid hkmem) (by simp [rid]) ?_ hndk ?_
    · intro u hu
      rw [List.mem_singleton] at hu; subst hu
      refine .mk ⟨_, hg, ?_⟩ fun k' hk' => ?_
      · simp only [NbEntry, GNode.neighbours, hpar, List.map_append, List.map_cons]
        refine ⟨by simp, ?_⟩
        have : k.rid ∉ up.map rid ++ pre.map rid := by
          simp only [List.mem_append, not_or]; exact ⟨hk_up, hk_pre⟩
        have e1 : up.map rid ++ (pre.map rid ++ k.rid :: post.map rid)
            = (up.map rid ++ pre.map rid) ++ k.rid :: post.map rid := by simp
        rw [e1, erase_mid _ this]
      · rw [List.append_assoc, List.mem_append] at hk'
        exact hk'.elim (hup k') fun hk' => KidsP.nbP (hK.kid (mem_append_cons_of_mem_append hk'))
    · intro u hu
      rw [List.mem_singleton] at hu; subst hu
      exact fun hin => hndl.1 (ids_subset_idsL hkmem _ hin)

/-- **`distance_to_node(c)`** for an arbitrary centre: the flat port returns the depth table of the
    tree re-rooted at `c`, in the same order. -/
theorem flat_distance_eq_struct (ft : FTree) (t : RTree) (h : Mirror ft t) (c : Nat) :
    ft.distanceToNode c = distanceToNode t c := by
  by_cases hc : c ∈ ids t
  · obtain ⟨R, hR⟩ := (reroot_isSome c).1 t [] hc
    obtain ⟨hrid, hperm, _⟩ := (reroot_spec c).1 t [] R hR
    simp only [idsL_nil, List.nil_append] at hperm
    have hnb : NbP ft none R :=
      reroot_nbP ft c t [] R none hR h.kidsP rfl (by simp) h.2.2 (by simp)
    have := distanceToNode_nb hnb (hperm.symm.nodup h.2.2)
      (by rw [h.fuel_eq, hperm.length_eq]; omega)
    rw [hrid] at this
    simp [this, distanceToNode, hR]
  · have h1 : ft.get? c = none := h.get_none hc
    have h2 : reroot c [] t = none := by
      cases hr : reroot c [] t with
      | none => rfl
      | some R =>
        obtain ⟨hrid, hperm, _⟩ := (reroot_spec c).1 t [] R hr
        simp only [idsL_nil, List.nil_append] at hperm
        exact absurd (hperm.subset (hrid ▸ rid_mem_ids R)) hc
    simp [FTree.distanceToNode, h1, distanceToNode, h2]

end Ptn.C17
