import Ptn.C17.Cache
/-! Steps that do not go below their starting node (`NotAnc`): the post-order is a chain of them, and such a step starts
like the way to the root, at the parent.  Hence along a post-order every segment points toward the root. -/
namespace Ptn.C17
namespace RTree

/-- `a` is not on the way from the root to `b`: `¬ IsBelow t a b`, in the form the proofs take apart -/
def NotAnc (t : RTree) (a b : Nat) : Prop := ∀ p, pathDown b t = some p → a ∉ p
def NotAncL (ts : List RTree) (a b : Nat) : Prop := ∀ p, pathDownL b ts = some p → a ∉ p

theorem pathDown_in_forest {r : Nat} {ks : List RTree} (hT : (r :: idsL ks).Nodup)
    {fs : List RTree} (hsub : ∀ k ∈ fs, k ∈ ks) {b : Nat} (hb : b ∈ idsL fs) :
    ∃ k q, k ∈ fs ∧ pathDown b k = some q ∧ pathDown b (node r ks) = some (r :: q) ∧
      ∀ x ∈ q, x ∈ idsL fs := by
  obtain ⟨k, hk, hbk⟩ := exists_kid_of_mem_idsL hb
  have hnd := List.nodup_cons.mp hT
  have hrb : r ≠ b := fun e => hnd.1 (e ▸ ids_subset_idsL (hsub k hk) b hbk)
  obtain ⟨q, hq, hp⟩ := pathDown_through_kid hnd.2 hrb (hsub k hk) hbk
  exact ⟨k, q, hk, hq, hp, fun x hx => ids_subset_idsL hk x ((pathDown_subset b).1 k q hq x hx)⟩

theorem notAnc_forest {r : Nat} {ks : List RTree} (hT : (r :: idsL ks).Nodup)
    {fs : List RTree} (hsub : ∀ k ∈ fs, k ∈ ks) (hfs : (idsL fs).Nodup) {a b : Nat}
    (hb : b ∈ idsL fs) (har : a ≠ r) (h : NotAncL fs a b) : NotAnc (node r ks) a b := by
  obtain ⟨k, q, hk, hq, hp, _⟩ := pathDown_in_forest hT hsub hb
  intro p hp'
  rw [hp] at hp'; simp at hp'; subst hp'
  simp only [List.mem_cons, not_or]
  exact ⟨har, h q (pathDownL_of_mem hfs hk hq)⟩

theorem notAnc_root {r : Nat} {ks : List RTree} {a : Nat} (har : a ≠ r) :
    NotAnc (node r ks) a r := by
  intro p hp
  simp at hp; subst hp; simpa using har

theorem postorder_notAnc :
    (∀ t, (ids t).Nodup → Chain (NotAnc t) (postorder t)) ∧
    (∀ ts, (idsL ts).Nodup → Chain (NotAncL ts) (postorderL ts)) := by
  apply induct
  · intro i ks ih hnd
    have hT : (i :: idsL ks).Nodup := by simpa using hnd
    have hnd' := List.nodup_cons.mp hT
    simp only [postorder_node]
    apply chain_append
    · apply chain_mono_mem _ (ih hnd'.2)
      intro a ha b hb hab
      have ha' := mem_idsL_of_mem_postorderL ha
      have hb' := mem_idsL_of_mem_postorderL hb
      exact notAnc_forest hT (fun k hk => hk) hnd'.2 hb' (fun e => hnd'.1 (e ▸ ha')) hab
    · simp [Chain]
    · intro y hy z hz
      simp at hz; subst hz
      have hy' := mem_idsL_of_mem_postorderL hy
      exact notAnc_root (fun e => hnd'.1 (e ▸ hy'))
  · simp [Chain]
  · intro k ts ihk ihts hnd
    obtain ⟨hn1, hn2, hdis⟩ := List.nodup_append.mp hnd
    simp only [postorderL_cons]
    apply chain_append
    · apply chain_mono_mem _ (ihk hn1)
      intro a _ b hb hab p hp
      have hb' := mem_ids_of_mem_postorder hb
      obtain ⟨q, hq⟩ := pathDown_some_of_mem hb'
      rw [pathDownL_cons_some hq] at hp; simp at hp; subst hp
      exact hab q hq
    · apply chain_mono_mem _ (ihts hn2)
      intro a _ b hb hab p hp
      have hb' := mem_idsL_of_mem_postorderL hb
      have hbk : b ∉ ids k := fun h => hdis b h b hb' rfl
      rw [pathDownL_cons_none (pathDown_none_of_not_mem hbk)] at hp
      exact hab p hp
    · intro y hy z hz p hp
      have hy' := mem_ids_of_mem_postorder hy
      have hz' := mem_idsL_of_mem_postorderL hz
      have hzk : z ∉ ids k := fun h => hdis z h z hz' rfl
      rw [pathDownL_cons_none (pathDown_none_of_not_mem hzk)] at hp
      intro hyp
      exact hdis y hy' y ((pathDown_subset z).2 ts p hp y hyp) rfl

theorem firstHop_of_path {t : RTree} {a b h : Nat} {rest : List Nat}
    (hp : pathFromTo t a b = some (a :: h :: rest)) : firstHop t a b = some h := by
  simp [firstHop, hp]

theorem notAnc_firstHop {t : RTree} (hwf : t.WF) {a b : Nat} (ha : a ∈ ids t) (hb : b ∈ ids t)
    (h : NotAnc t a b) : ∃ v, firstHop t a b = some v ∧ firstHop t a t.rid = some v := by
  obtain ⟨pb, hpb⟩ := pathDown_some_of_mem hb
  have har : a ≠ t.rid := fun e =>
    h pb hpb (e ▸ List.mem_of_head? ((pathDown_ends b).1 t pb hpb).1)
  obtain ⟨par, hpar⟩ := exists_parent ha har
  obtain ⟨r1, e1⟩ := next_hop_up hwf hpb (h pb hpb) hpar
  obtain ⟨r2, e2⟩ := toward_root hwf hpar
  exact ⟨par, firstHop_of_path e1, firstHop_of_path e2⟩

theorem segsAlong_of_notAnc {t : RTree} (hwf : t.WF) :
    ∀ (p : List Nat), (∀ y ∈ p, y ∈ ids t) → Chain (NotAnc t) p →
      ∃ segs, segsAlong t p = some segs ∧ segs.map (·.1) = p.dropLast ∧
        ∀ e ∈ segs, firstHop t e.1 t.rid = some e.2
  | [], _, _ => ⟨[], by simp [segsAlong], by simp, by simp⟩
  | [a], _, _ => ⟨[], by simp [segsAlong], by simp, by simp⟩
  | a :: b :: rest, hm, hc => by
    have hc' := chain_cons_cons.mp hc
    obtain ⟨segs, h1, h2, h3⟩ := segsAlong_of_notAnc hwf (b :: rest) (fun y hy => hm y (by simp [hy])) hc'.2
    obtain ⟨v, hv1, hv2⟩ := notAnc_firstHop hwf (hm a (by simp)) (hm b (by simp)) hc'.1
    refine ⟨(a, v) :: segs, by simp [segsAlong, hv1, h1], by simp [h2], fun e he => ?_⟩
    rcases List.mem_cons.mp he with rfl | he
    · exact hv2
    · exact h3 e he

end RTree
end Ptn.C17
