import Ptn.C17.Sweep
/-! Lemmas for the step of the update path at the root: the children of the root, selecting and
removing children by identifier, the sweeps and root paths of `node r ks` through one of its children, leaves. -/
namespace Ptn.C17
namespace RTree

theorem rids_sublist : ∀ ks : List RTree, (ks.map rid).Sublist (idsL ks)
  | [] => by simp
  | k :: ks => by
    simp only [List.map_cons, idsL_cons]
    rw [ids_eq_rid_cons k]
    exact (rids_sublist ks).cons_cons _ |>.trans (by simp)

theorem rids_nodup {ks : List RTree} (h : (idsL ks).Nodup) : (ks.map rid).Nodup :=
  (rids_sublist ks).nodup h

theorem kids_remove : ∀ {ks : List RTree}, (ks.map rid).Nodup → ∀ {k : RTree}, k ∈ ks →
    ks.Perm (k :: ks.filter (fun k' => !(k'.rid == k.rid)))
  | k0 :: ks0, hnd, k, hk => by
    simp only [List.map_cons, List.nodup_cons, List.mem_map, not_exists, not_and] at hnd
    by_cases he : k0.rid = k.rid
    · obtain rfl : k = k0 := (List.mem_cons.mp hk).elim id fun h => absurd he.symm (hnd.1 k h)
      have : ks0.filter (fun k' => !(k'.rid == k.rid)) = ks0 :=
        List.filter_eq_self.mpr fun k' hk' => by simpa using hnd.1 k' hk'
      simp [this]
    · have hk' : k ∈ ks0 := (List.mem_cons.mp hk).elim (fun h => absurd (h ▸ rfl) he) id
      have hf : (k0 :: ks0).filter (fun k' => !(k'.rid == k.rid))
          = k0 :: ks0.filter (fun k' => !(k'.rid == k.rid)) := by simp [he]
      rw [hf]
      exact ((kids_remove hnd.2 hk').cons k0).trans (List.Perm.swap _ _ _)

theorem idsL_perm {l1 l2 : List RTree} (h : l1.Perm l2) : (idsL l1).Perm (idsL l2) := by
  induction h with
  | nil => exact .refl _
  | cons k _ ih => exact ih.append_left _
  | swap a b l => simpa using List.perm_append_comm_assoc _ _ _
  | trans _ _ ih1 ih2 => exact ih1.trans ih2

theorem edgesL_perm (r : Nat) {l1 l2 : List RTree} (h : l1.Perm l2) : (edgesL r l1).Perm (edgesL r l2) := by
  induction h with
  | nil => exact .refl _
  | cons k _ ih => exact (ih.append_left _).cons _
  | swap a b l =>
    simp only [edgesL_cons]
    exact List.perm_append_comm_assoc ((r, b.rid) :: edges b) ((r, a.rid) :: edges a) (edgesL r l)
  | trans _ _ ih1 ih2 => exact ih1.trans ih2

theorem idsL_remove {ks : List RTree} (hnd : (ks.map rid).Nodup) {k : RTree} (hk : k ∈ ks) :
    (idsL ks).Perm (ids k ++ idsL (ks.filter (fun k' => !(k'.rid == k.rid)))) :=
  idsL_perm (kids_remove hnd hk)

theorem edgesL_remove {r : Nat} {ks : List RTree} (hnd : (ks.map rid).Nodup) {k : RTree} (hk : k ∈ ks) :
    (edgesL r ks).Perm ((r, k.rid) :: edges k ++ edgesL r (ks.filter (fun k' => !(k'.rid == k.rid)))) :=
  edgesL_perm r (kids_remove hnd hk)

theorem mem_filter_ne {ks : List RTree} {k k' : RTree} (hk : k ∈ ks) (hne : k.rid ≠ k'.rid) :
    k ∈ ks.filter (fun x => !(x.rid == k'.rid)) := by
  simp [List.mem_filter, hk, hne]

theorem filter_ne_rid {pre post : List RTree} {k : RTree} (hnd : ((pre ++ k :: post).map rid).Nodup) :
    (pre ++ k :: post).filter (fun k' => !(k'.rid == k.rid)) = pre ++ post := by
  rw [List.map_append, List.map_cons, List.nodup_append] at hnd
  have h1 : pre.filter (fun k' => !(k'.rid == k.rid)) = pre := List.filter_eq_self.mpr fun k' hk' => by
    have : k'.rid ≠ k.rid := hnd.2.2 _ (List.mem_map_of_mem hk') _ (by simp)
    simpa using this
  have h2 : post.filter (fun k' => !(k'.rid == k.rid)) = post := List.filter_eq_self.mpr fun k' hk' => by
    have : k'.rid ≠ k.rid := fun e => (List.nodup_cons.mp hnd.2.1).1 (e ▸ List.mem_map_of_mem hk')
    simpa using this
  rw [List.filter_append, List.filter_cons, h1, h2]; simp

theorem findSome_sweepUp_of_mem {s : Nat} {k : RTree} : ∀ {ks : List RTree}, (idsL ks).Nodup → k ∈ ks →
    s ∈ ids k → ks.findSome? (sweepUp s) = sweepUp s k
  | k0 :: ks0, hnd, hk, hs => by
    rw [idsL_cons, List.nodup_append] at hnd
    rcases List.mem_cons.mp hk with rfl | hk
    · obtain ⟨w, hw⟩ := sweepUp_some_of_mem hs
      simp [hw]
    · cases hw : sweepUp s k0 with
      | none => simpa [hw] using findSome_sweepUp_of_mem hnd.2.1 hk hs
      | some w =>
        exact absurd rfl (hnd.2.2 s (((sweepUp_spec s).1 k0).1 w hw).2.1 s (ids_subset_idsL hk s hs))

theorem sweepDown_via_kid {f r : Nat} {ks : List RTree} (hnd : (idsL ks).Nodup) (hrf : r ≠ f) {k : RTree}
    (hk : k ∈ ks) {dn : List Nat} (hdn : sweepDown f k = some dn) :
    sweepDown f (node r ks) =
      some (postorderL (ks.filter (fun k' => !(k'.rid == k.rid))) ++ [r] ++ dn) := by
  have hfk := (((sweepDown_spec f).1 k).1 dn hdn).2.1
  obtain ⟨w, hw⟩ := sweepDown_some_of_mem (f := f) (k := node r ks)
    (List.mem_cons_of_mem _ (ids_subset_idsL hk f hfk))
  rw [hw]
  rw [sweepDown_node, if_neg hrf] at hw
  obtain ⟨pre, k', post, p', rfl, h1, rfl⟩ := (sweepDownL_first f r ks []).1 w hw
  have hfk' := (((sweepDown_spec f).1 k').1 p' h1).2.1
  -- the child found is `k`: no other child holds `f`
  obtain rfl : k = k' := Classical.byContradiction fun hne => by
    have : k ∈ pre ++ post := by
      rcases List.mem_append.mp hk with h | h
      · exact List.mem_append_left _ h
      · exact List.mem_append_right _ ((List.mem_cons.mp h).resolve_left hne)
    exact (kid_apart hnd).2.2 f hfk' (ids_subset_idsL this f hfk)
  obtain rfl : p' = dn := Option.some.inj (h1.symm.trans hdn)
  rw [filter_ne_rid (rids_nodup hnd)]; rfl

/-- `pathDown_through_kid` with the first node of the path in `k` spelt out -/
theorem pathDown_via_kid {r v : Nat} {ks : List RTree} (hwf : (node r ks).WF) {k : RTree}
    (hk : k ∈ ks) (hv : v ∈ ids k) :
    ∃ q, pathDown v k = some (k.rid :: q) ∧ pathDown v (node r ks) = some (r :: k.rid :: q) := by
  simp only [WF, ids_node, List.nodup_cons] at hwf
  have hrv : r ≠ v := fun e => hwf.1 (e ▸ ids_subset_idsL hk v hv)
  obtain ⟨p, hp, hpr⟩ := pathDown_through_kid hwf.2 hrv hk hv
  have hh := ((pathDown_ends v).1 k p hp).1
  cases p with
  | nil => simp at hh
  | cons y q => simp at hh; subst hh; exact ⟨q, hp, hpr⟩

theorem exists_other_kid {ks : List RTree} (hnd : (ks.map rid).Nodup) (hlen : 2 ≤ ks.length)
    (a : Nat) : ∃ k ∈ ks, k.rid ≠ a := by
  apply Classical.byContradiction
  intro hno
  have : ∀ x ∈ ks.map rid, x = a := by
    intro x hx
    obtain ⟨k, hk, rfl⟩ := List.mem_map.mp hx
    apply Classical.byContradiction
    intro hne
    exact hno ⟨k, hk, hne⟩
  rcases nodup_all_eq hnd this with h | h <;> have := congrArg List.length h <;>
    simp only [List.length_map, List.length_nil, List.length_cons] at this <;> omega

end RTree
end Ptn.C17
