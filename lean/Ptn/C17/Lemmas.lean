import Ptn.C17.Model
/-! The list core of `path_from_to`: Python slices, the duplicate count of two root paths put together. -/
namespace Ptn.C17

theorem pySliceTo_neg (l : List Nat) (d : Nat) (hd : 0 < d) :
    pySliceTo l (-(d : Int)) = l.take (l.length - d) := by
  unfold pySliceTo
  have h : ¬ (0 ≤ -(d : Int)) := by omega
  have h2 : (-(d : Int)).natAbs = d := by omega
  rw [if_neg h, h2]

theorem count_combined (xs ys cs : List Nat) (c j : Nat) :
    List.count j ((xs ++ c :: cs) ++ (ys ++ c :: cs)) =
      List.count j xs + List.count j ys + 2 * List.count j (c :: cs) := by
  simp only [List.count_append]; omega

theorem count_le_one {xs ys cs : List Nat} {c : Nat}
    (hnd : (xs ++ ys ++ c :: cs).Nodup) (j : Nat) :
    List.count j xs + List.count j ys + List.count j (c :: cs) ≤ 1 := by
  have := List.nodup_iff_count.mp hnd j
  simpa only [List.count_append] using this

theorem count_combined_of_mem {xs ys cs : List Nat} {c : Nat}
    (hnd : (xs ++ ys ++ c :: cs).Nodup) (j : Nat) :
    (j ∈ xs ∨ j ∈ ys → List.count j ((xs ++ c :: cs) ++ (ys ++ c :: cs)) = 1) ∧
    (j ∈ c :: cs → List.count j ((xs ++ c :: cs) ++ (ys ++ c :: cs)) = 2) := by
  have h1 := count_le_one hnd j
  rw [count_combined]
  refine ⟨fun hj => ?_, fun hj => ?_⟩
  · rcases hj with hj | hj <;> have := List.count_pos_iff.mpr hj <;> omega
  · have := List.count_pos_iff.mpr hj; omega

theorem numDuplicates_two_root_paths {xs ys cs : List Nat} {c : Nat}
    (hnd : (xs ++ ys ++ c :: cs).Nodup) :
    numDuplicates ((xs ++ c :: cs) ++ (ys ++ c :: cs)) = cs.length + 1 := by
  unfold numDuplicates
  generalize hL : (xs ++ c :: cs) ++ (ys ++ c :: cs) = L
  have hx : xs.filter (fun j => L.count j != 1) = [] := by
    apply List.filter_eq_nil_iff.mpr
    intro j hj
    subst hL
    rw [(count_combined_of_mem hnd j).1 (Or.inl hj)]; simp
  have hy : ys.filter (fun j => L.count j != 1) = [] := by
    apply List.filter_eq_nil_iff.mpr
    intro j hj
    subst hL
    rw [(count_combined_of_mem hnd j).1 (Or.inr hj)]; simp
  have hc : (c :: cs).filter (fun j => L.count j != 1) = c :: cs := by
    apply List.filter_eq_self.mpr
    intro j hj
    subst hL
    rw [(count_combined_of_mem hnd j).2 hj]; simp
  have : L.filter (fun j => L.count j != 1) = (c :: cs) ++ (c :: cs) := by
    conv => lhs; arg 2; rw [← hL]
    rw [List.filter_append, List.filter_append, List.filter_append, hx, hy, hc]
    simp
  rw [this]
  simp
  omega

/-- The combinatorial heart of `path_from_to`: for two root paths with common part `c :: cs`
    the duplicate count and the two slices glue to `xs ++ [c] ++ ys.reverse`. -/
theorem mergeRootPaths_two_root_paths {xs ys cs : List Nat} {c : Nat}
    (hnd : (xs ++ ys ++ c :: cs).Nodup) :
    mergeRootPaths (xs ++ c :: cs) (ys ++ c :: cs) = xs ++ [c] ++ ys.reverse := by
  unfold mergeRootPaths
  rw [numDuplicates_two_root_paths hnd]
  have hs2 : pySliceTo (ys ++ c :: cs) (-((cs.length + 1 : Nat) : Int)) = ys := by
    rw [pySliceTo_neg _ _ (by omega)]
    have : (ys ++ c :: cs).length - (cs.length + 1) = ys.length := by simp
    rw [this]; simp
  simp only [hs2]
  cases cs with
  | nil => simp
  | cons c' cs' =>
    have hne : (-(((c' :: cs').length + 1 : Nat) : Int) + 1 != 0) = true := by
      simp; omega
    simp only [hne, if_true]
    have : -(((c' :: cs').length + 1 : Nat) : Int) + 1 = -(((cs'.length + 1 : Nat)) : Int) := by
      simp; omega
    rw [this, pySliceTo_neg _ _ (by omega)]
    have : (xs ++ c :: c' :: cs').length - (cs'.length + 1) = xs.length + 1 := by
      simp; omega
    rw [this]
    have : xs ++ c :: c' :: cs' = (xs ++ [c]) ++ (c' :: cs') := by simp
    rw [this, List.take_left' (by simp)]

end Ptn.C17
