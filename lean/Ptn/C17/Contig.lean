import Ptn.C17.UpdatePath
/-! The subtrees of a tree; the nodes of every subtree are visited consecutively by the post-order, by the two sweeps
and hence by the update path. -/
namespace Ptn.C17
namespace RTree

/-- `S`-members form one block of `l` -/
def Contig (S l : List Nat) : Prop :=
  ∃ A B C, l = A ++ B ++ C ∧ (∀ y ∈ B, y ∈ S) ∧ (∀ y ∈ A, y ∉ S) ∧ (∀ y ∈ C, y ∉ S)

theorem contig_all {S l : List Nat} (h : ∀ y ∈ l, y ∈ S) : Contig S l :=
  ⟨[], l, [], by simp, h, by simp, by simp⟩

theorem contig_none {S l : List Nat} (h : ∀ y ∈ l, y ∉ S) : Contig S l :=
  ⟨l, [], [], by simp, by simp, h, by simp⟩

theorem Contig.append_out {S l m : List Nat} (h : Contig S l) (hm : ∀ y ∈ m, y ∉ S) :
    Contig S (l ++ m) := by
  obtain ⟨A, B, C, rfl, h1, h2, h3⟩ := h
  refine ⟨A, B, C ++ m, by simp, h1, h2, ?_⟩
  intro y hy
  rcases List.mem_append.mp hy with hy | hy
  · exact h3 y hy
  · exact hm y hy

theorem Contig.out_append {S l m : List Nat} (h : Contig S l) (hm : ∀ y ∈ m, y ∉ S) :
    Contig S (m ++ l) := by
  obtain ⟨A, B, C, rfl, h1, h2, h3⟩ := h
  refine ⟨m ++ A, B, C, by simp, h1, ?_, h3⟩
  intro y hy
  rcases List.mem_append.mp hy with hy | hy
  · exact hm y hy
  · exact h2 y hy

/-- how often `f` changes along a list (an edge is crossed whenever "below the edge" changes: `walkEdges_spec`) -/
def flips (f : Nat → Bool) : List Nat → Nat
  | a :: b :: rest => (if f a != f b then 1 else 0) + flips f (b :: rest)
  | _ => 0

@[simp] theorem flips_nil (f : Nat → Bool) : flips f [] = 0 := rfl
@[simp] theorem flips_single (f : Nat → Bool) (a : Nat) : flips f [a] = 0 := rfl
theorem flips_cons_cons (f : Nat → Bool) (a b : Nat) (rest : List Nat) :
    flips f (a :: b :: rest) = (if f a != f b then 1 else 0) + flips f (b :: rest) := rfl

theorem flips_const {f : Nat → Bool} {v : Bool} : ∀ {l : List Nat}, (∀ y ∈ l, f y = v) → flips f l = 0
  | [], _ => rfl
  | [_], _ => rfl
  | a :: b :: rest, h => by
    rw [flips_cons_cons, h a (by simp), h b (by simp),
      flips_const (l := b :: rest) (fun y hy => h y (by simp [hy]))]
    simp

theorem flips_append_le {f : Nat → Bool} : ∀ (l1 l2 : List Nat),
    flips f (l1 ++ l2) ≤ flips f l1 + flips f l2 + 1
  | [], l2 => by simp
  | [a], l2 => by
    cases l2 with
    | nil => simp
    | cons b rest => rw [List.singleton_append, flips_cons_cons, flips_single]; split <;> omega
  | a :: b :: rest, l2 => by
    have := flips_append_le (f := f) (b :: rest) l2
    rw [List.cons_append] at this
    rw [List.cons_append, List.cons_append, flips_cons_cons, flips_cons_cons]
    omega

theorem flips_contig {f : Nat → Bool} {S l : List Nat} (h : Contig S l)
    (hf : ∀ y, f y = true ↔ y ∈ S) : flips f l ≤ 2 := by
  obtain ⟨A, B, C, rfl, h1, h2, h3⟩ := h
  have fA : flips f A = 0 := flips_const (v := false) (fun y hy => by
    have := h2 y hy; rw [← hf] at this; simpa using this)
  have fB : flips f B = 0 := flips_const (v := true) (fun y hy => (hf y).mpr (h1 y hy))
  have fC : flips f C = 0 := flips_const (v := false) (fun y hy => by
    have := h3 y hy; rw [← hf] at this; simpa using this)
  have e1 := flips_append_le (f := f) (A ++ B) C
  have e2 := flips_append_le (f := f) A B
  omega

theorem postorder_contig :
    (∀ t, (ids t).Nodup → ∀ s ∈ subtrees t, Contig (ids s) (postorder t)) ∧
    (∀ ts, (idsL ts).Nodup → ∀ s ∈ subtreesL ts, Contig (ids s) (postorderL ts)) := by
  apply induct
  · intro i ks ih hnd s hs
    simp at hnd hs
    rcases hs with rfl | hs
    · exact contig_all (fun y hy => mem_ids_of_mem_postorder hy)
    · have := ih hnd.2 s hs
      simp only [postorder_node]
      apply this.append_out
      intro y hy
      simp at hy; subst hy
      exact fun h => hnd.1 (subtrees_ids.2 ks s hs y h)
  · simp
  · intro t ts iht ihts hnd s hs
    simp at hs
    obtain ⟨hn1, hn2, hdis⟩ := List.nodup_append.mp hnd
    simp only [postorderL_cons]
    rcases hs with hs | hs
    · apply (iht hn1 s hs).append_out
      intro y hy hys
      exact hdis y (subtrees_ids.1 t s hs y hys) y (mem_idsL_of_mem_postorderL hy) rfl
    · apply (ihts hn2 s hs).out_append
      intro y hy hys
      exact hdis y (mem_ids_of_mem_postorder hy) y (subtrees_ids.2 ts s hs y hys) rfl

/-- The three pieces of a sweep below `r` (the sweep `p0` of the child `k`, the post-order of the other
    children, `r` itself), in the order of the upward and of the downward sweep: every subtree below `r`
    is one block. -/
theorem contig_pieces {r : Nat} {pre post : List RTree} {k : RTree} {p0 : List Nat}
    (hnd : (r :: (idsL pre ++ idsL (k :: post))).Nodup) (hp0 : p0.Perm (ids k))
    (c0 : (ids k).Nodup → ∀ s ∈ subtrees k, Contig (ids s) p0) {s : RTree}
    (hs : s ∈ subtreesL (pre ++ k :: post)) :
    Contig (ids s) (p0 ++ postorderL (pre ++ post) ++ [r]) ∧
    Contig (ids s) (postorderL (pre ++ post) ++ [r] ++ p0) := by
  have hndc := List.nodup_cons.mp (show (r :: idsL (pre ++ k :: post)).Nodup by
    simpa [idsL_append] using hnd)
  obtain ⟨hndk, hndpp, hdisj⟩ := kid_apart hndc.2
  have hr : ∀ y ∈ idsL (pre ++ post), y ≠ r := fun y hy e =>
    hndc.1 (e ▸ (idsL_without_sublist pre post k).subset hy)
  have hkr : ∀ y ∈ ids k, y ≠ r := fun y hy e => hndc.1 (e ▸ ids_subset_idsL (by simp) y hy)
  have hsplit : s ∈ subtrees k ∨ s ∈ subtreesL (pre ++ post) := by
    simp only [subtreesL_append, subtreesL_cons, List.mem_append] at hs ⊢
    rcases hs with hs | hs | hs
    · exact Or.inr (Or.inl hs)
    · exact Or.inl hs
    · exact Or.inr (Or.inr hs)
  rcases hsplit with hs | hs
  · have hsub := subtrees_ids.1 k s hs
    have c := c0 hndk s hs
    have hB : ∀ y ∈ postorderL (pre ++ post), y ∉ ids s := fun y hy hys =>
      hdisj y (hsub y hys) (mem_idsL_of_mem_postorderL hy)
    have hR : ∀ y ∈ [r], y ∉ ids s := fun y hy hys => hkr y (hsub y hys) (List.mem_singleton.mp hy)
    exact ⟨(c.append_out hB).append_out hR, by
      simpa using (c.out_append hR).out_append hB⟩
  · have hsub := subtrees_ids.2 (pre ++ post) s hs
    have c := postorder_contig.2 (pre ++ post) hndpp s hs
    have hP : ∀ y ∈ p0, y ∉ ids s := fun y hy hys => hdisj y (hp0.subset hy) (hsub y hys)
    have hR : ∀ y ∈ [r], y ∉ ids s := fun y hy hys => hr y (hsub y hys) (List.mem_singleton.mp hy)
    exact ⟨by simpa using (c.out_append hP).append_out hR, (c.append_out hR).append_out hP⟩

theorem sweepUp_contig (s0 : Nat) :
    ∀ k p, sweepUp s0 k = some p → (ids k).Nodup → ∀ s ∈ subtrees k, Contig (ids s) p := by
  refine induct_mem fun r ks ih p hp hnd s hs => ?_
  have hperm := (((sweepUp_spec s0).1 _).1 p hp).1
  rw [sweepUp_node] at hp
  by_cases hrs : r = s0
  · simp [hrs] at hp; subst hp
    have := postorder_contig.1 (node r ks) hnd s hs
    simpa [hrs] using this
  · simp [hrs] at hp
    obtain ⟨pre, k, post, p0, rfl, h1, rfl⟩ := (sweepUpL_first s0 r ks []).1 p hp
    simp only [subtrees_node, List.mem_cons] at hs
    rcases hs with rfl | hs
    · exact contig_all (fun y hy => hperm.subset hy)
    · exact (contig_pieces (by simpa [idsL_append] using hnd) (((sweepUp_spec s0).1 k).1 p0 h1).1
        (ih k (by simp) p0 h1) hs).1

theorem sweepDown_contig (f : Nat) :
    ∀ k p, sweepDown f k = some p → (ids k).Nodup → ∀ s ∈ subtrees k, Contig (ids s) p := by
  refine induct_mem fun r ks ih p hp hnd s hs => ?_
  have hperm := (((sweepDown_spec f).1 _).1 p hp).1
  rw [sweepDown_node] at hp
  by_cases hrs : r = f
  · simp [hrs] at hp; subst hp
    have := postorder_contig.1 (node r ks) hnd s hs
    simpa [hrs] using this
  · simp [hrs] at hp
    obtain ⟨pre, k, post, p0, rfl, h1, rfl⟩ := (sweepDownL_first f r ks []).1 p hp
    simp only [subtrees_node, List.mem_cons] at hs
    rcases hs with rfl | hs
    · exact contig_all (fun y hy => hperm.subset hy)
    · exact (contig_pieces (by simpa [idsL_append] using hnd) (((sweepDown_spec f).1 k).1 p0 h1).1
        (ih k (by simp) p0 h1) hs).2

theorem updatePath_contig {r : Nat} {ks : List RTree} (hwf : (node r ks).WF) {p : List Nat} {s : Nat}
    (hshape : TwoSweeps r ks p s) : ∀ s' ∈ subtreesL ks, Contig (ids s') p := by
  intro s' hs'
  simp only [WF, ids_node, List.nodup_cons] at hwf
  obtain ⟨hr, hnd⟩ := hwf
  obtain ⟨up, dn, rest, f, rfl, hdn, _, ⟨rfl, _⟩ | ⟨ki, hki, hup, rfl⟩⟩ := hshape
  · simp at hs'
  have hrids := rids_nodup hnd
  have hperm := idsL_remove hrids hki
  have hnd2 := List.nodup_append.mp (hperm.nodup hnd)
  have hmem : ∀ k ∈ ks, k.rid ≠ ki.rid → k ∈ ks.filter (fun k => !(k.rid == ki.rid)) :=
    fun k hk hne => mem_filter_ne hk hne
  generalize ks.filter (fun k => !(k.rid == ki.rid)) = rest at *
  have hrest : ∀ y ∈ idsL rest, y ∈ idsL ks := fun y hy => hperm.symm.subset (by simp [hy])
  have hdnm : ∀ y ∈ dn, y = r ∨ y ∈ idsL rest := fun y hy => by
    simpa using mem_ids_of_sweepDown hdn y hy
  have hupm := mem_ids_of_sweepUp hup
  obtain ⟨k, hk, hsk⟩ := mem_subtreesL.mp hs'
  have hsub := subtrees_ids.1 k s' hsk
  by_cases hkk : k.rid = ki.rid
  · -- a subtree of the first branch: one block of the upward sweep, and the downward sweep does not meet it
    obtain rfl := inj_on_of_nodup_map rid hrids _ hk _ hki hkk
    refine (sweepUp_contig s k up hup hnd2.1 s' hsk).append_out fun y hy hys => ?_
    rcases hdnm y hy with rfl | hy
    · exact hr (ids_subset_idsL hk y (hsub y hys))
    · exact hnd2.2.2 y (hsub y hys) y hy rfl
  · -- a subtree of the rest: one block of the downward sweep
    have hkr := hmem k hk hkk
    have hndR : (ids (node r rest)).Nodup := by
      simpa using ⟨fun h => hr (hrest r h), hnd2.2.1⟩
    have hsR : s' ∈ subtrees (node r rest) := by
      simpa using Or.inr (mem_subtreesL.mpr ⟨k, hkr, hsk⟩)
    refine (sweepDown_contig f _ dn hdn hndR s' hsR).out_append fun y hy hys => ?_
    exact hnd2.2.2 y (hupm y hy) y (ids_subset_idsL hkr y (hsub y hys)) rfl

end RTree
end Ptn.C17
