import Ptn.C17.SegHop
import Ptn.C17.Last
import Ptn.C17.Cut
/-! The segments of the TDVP sweep (`segsOf`, `lastOf`): `(u_i, h_i)` with `u` the update path and
`h_i` the first node after `u_i` on the way to `u_{i+1}`.  On every well-formed tree they are the
edges of the tree, each once; `h_i` is the first hop from `u_i` toward the last node of the path. -/
namespace Ptn.C17
namespace RTree

/-- Along the update path every segment points toward the last node: the path is the post-order of a tree `U` on the same
    graph hung up at that node (`updatePath_tree`), and a step of a post-order starts toward the root. -/
theorem updatePath_hops (r : Nat) (ks : List RTree) (hwf : (node r ks).WF) :
    ∃ p L segs, updatePath (node r ks) = some p ∧ p.getLast? = some L ∧ L ∈ ids (node r ks) ∧
      segsAlong (node r ks) p = some segs ∧ segs.map (·.1) = p.dropLast ∧
      ∀ e ∈ segs, firstHop (node r ks) e.1 L = some e.2 := by
  obtain ⟨U, hp, hG, -⟩ := updatePath_tree r ks hwf
  have hwfU := hG.wf hwf
  have hm : ∀ y ∈ postorder U, y ∈ ids (node r ks) := fun y hy => hG.1.subset (mem_ids_of_mem_postorder hy)
  have hL := hG.1.subset (rid_mem_ids U)
  obtain ⟨segs, h1, h2, h3⟩ := segsAlong_of_notAnc hwfU (postorder U) (fun y => mem_ids_of_mem_postorder)
    (postorder_notAnc.1 U hwfU)
  refine ⟨_, U.rid, segs, hp, postorder_last U, hL, by rw [← hG.segsAlong hwf hwfU _ hm, h1], h2, fun e he => ?_⟩
  rw [← hG.firstHop hwf hwfU (hm _ ?_) hL]
  · exact h3 e he
  · have : e.1 ∈ segs.map (·.1) := List.mem_map.mpr ⟨e, he, rfl⟩
    rw [h2] at this
    exact (List.dropLast_sublist _).subset this

/-- The blocks created by `init_cache_but_one(…, c)` are the child-parent pairs of the tree hung up at `c`: each points
    toward `c`. -/
theorem cacheKeys_toward {t : RTree} (hwf : t.WF) {c : Nat} (hc : c ∈ ids t) {keys : List (Nat × Nat)}
    (hk : cacheKeys c t = some keys) {u v : Nat} (huv : (u, v) ∈ keys) :
    ∃ rest, pathFromTo t u c = some (u :: v :: rest) := by
  rw [cacheKeys_eq_reroot] at hk
  obtain ⟨R, hR, rfl⟩ := Option.map_eq_some_iff.mp hk
  have hG := reroot_sameGraph hR
  obtain rfl := ((reroot_spec c).1 t [] R hR).1
  have he : (v, u) ∈ edges R := by
    cases R with | node i ks => exact (upKeys_spec.2 ks i).2.2 u v huv
  rw [← hG.pathFromTo hwf (hG.wf hwf) (hG.1.subset (edge_mem_ids he).2) hc]
  exact toward_root (hG.wf hwf) he

/-- the blocks of the initial cache toward `c`: one per node other than `c`, one per edge, each
    pointing to the first hop toward `c` -/
theorem cacheKeys_hops {t : RTree} (hwf : t.WF) {c : Nat} (hc : c ∈ ids t) :
    ∃ keys : List (Nat × Nat), (keys.map (·.1) ++ [c]).Perm (ids t) ∧
      (keys.map unord).Perm ((edges t).map unord) ∧
      ∀ e ∈ keys, firstHop t e.1 c = some e.2 := by
  cases hk : cacheKeys c t with
  | none => exact absurd hc (((cacheKeys_spec c).1 t).2 hk)
  | some keys =>
    obtain ⟨h1, h2⟩ := ((cacheKeys_spec c).1 t).1 keys hk
    refine ⟨keys, h1, h2, fun e he => ?_⟩
    obtain ⟨rest, hr⟩ := cacheKeys_toward hwf hc hk (u := e.1) (v := e.2) he
    exact firstHop_of_path hr

theorem pairs_perm {G : Nat → Option Nat} {l1 l2 : List (Nat × Nat)}
    (h1 : ∀ e ∈ l1, G e.1 = some e.2) (h2 : ∀ e ∈ l2, G e.1 = some e.2)
    (hp : (l1.map (·.1)).Perm (l2.map (·.1))) : l1.Perm l2 := by
  have e1 : l1 = (l1.map (·.1)).map (fun u => (u, (G u).getD 0)) := by
    rw [List.map_map]
    conv => lhs; rw [← List.map_id l1]
    apply List.map_congr_left
    intro e he
    simp [h1 e he]
  have e2 : l2 = (l2.map (·.1)).map (fun u => (u, (G u).getD 0)) := by
    rw [List.map_map]
    conv => lhs; rw [← List.map_id l2]
    apply List.map_congr_left
    intro e he
    simp [h2 e he]
  rw [e1, e2]
  exact hp.map _

theorem segs_spec (t : RTree) (hwf : t.WF) :
    ∃ p L segs, updatePath t = some p ∧ p.getLast? = some L ∧ segsAlong t p = some segs ∧
      segs.map (·.1) ++ [L] = p ∧
      (segs.map unord).Perm ((edges t).map unord) ∧
      ∀ e ∈ segs, firstHop t e.1 L = some e.2 := by
  cases t with
  | node r ks =>
    obtain ⟨p, L, segs, hp, hlast, hL, h1, h2, h3⟩ := updatePath_hops r ks hwf
    obtain ⟨p', _, hp', -, hperm, -⟩ := updatePath_spec r ks hwf
    obtain rfl : p = p' := Option.some.inj (hp.symm.trans hp')
    have hperm' : p.Perm (ids (node r ks)) := by simpa using hperm
    have hpe : segs.map (·.1) ++ [L] = p := by
      obtain ⟨ys, rfl⟩ := List.getLast?_eq_some_iff.mp hlast
      rw [h2]; simp
    refine ⟨p, L, segs, hp, hlast, h1, hpe, ?_, h3⟩
    obtain ⟨keys, k1, k2, k3⟩ := cacheKeys_hops hwf hL
    have hfst : (segs.map (·.1)).Perm (keys.map (·.1)) := by
      have : (segs.map (·.1) ++ [L]).Perm (keys.map (·.1) ++ [L]) := by
        rw [hpe]; exact hperm'.trans k1.symm
      exact (List.perm_append_right_iff [L]).mp this
    have := pairs_perm (G := fun u => firstHop (node r ks) u L) h3 k3 hfst
    exact (this.map unord).trans k2

theorem segsOf_eq {t : RTree} {p : List Nat} {segs : List (Nat × Nat)} {L : Nat}
    (hp : updatePath t = some p) (hs : segsAlong t p = some segs) (hl : p.getLast? = some L) :
    segsOf? t = some segs ∧ segsOf t = segs ∧ lastOf t = L := by
  simp [segsOf, segsOf?, lastOf, hp, hs, hl]

end RTree

open RTree

/-- The segments exist (no path computation fails) and `segsOf`, `lastOf` are what the sweep uses:
    first components followed by the last node are the update path. -/
theorem segs_nodes (t : RTree) (hwf : t.WF) :
    ∃ p, updatePath t = some p ∧ segsOf? t = some (segsOf t) ∧ p.getLast? = some (lastOf t) ∧
      (segsOf t).map (·.1) ++ [lastOf t] = p ∧ p.Perm (ids t) ∧ p.Nodup := by
  obtain ⟨p, L, segs, hp, hl, hs, hpe, _, _⟩ := segs_spec t hwf
  obtain ⟨e1, e2, e3⟩ := segsOf_eq hp hs hl
  have hperm : p.Perm (ids t) := by
    cases t with
    | node r ks =>
      obtain ⟨p', _, hp', _, hperm, _⟩ := updatePath_spec r ks hwf
      rw [hp] at hp'; simp at hp'; subst hp'
      simpa using hperm
  exact ⟨p, hp, by rw [e1, e2], by rw [e3]; exact hl, by rw [e2, e3]; exact hpe, hperm,
    hperm.symm.nodup hwf⟩

/-- The segments, orientation forgotten, are the edges of the tree: each edge exactly once. -/
theorem segs_edges_perm (t : RTree) (hwf : t.WF) :
    ((segsOf t).map unord).Perm ((edges t).map unord) := by
  obtain ⟨p, L, segs, hp, hl, hs, _, hperm, _⟩ := segs_spec t hwf
  rw [(segsOf_eq hp hs hl).2.1]; exact hperm

/-- Every segment `(u, h)` has `h` = the first node after `u` on the way to the last node of the
    sweep (the parent of `u` in the tree re-rooted at that node). -/
theorem segs_point_to_last (t : RTree) (hwf : t.WF) :
    ∀ e ∈ segsOf t, firstHop t e.1 (lastOf t) = some e.2 := by
  obtain ⟨p, L, segs, hp, hl, hs, _, _, h⟩ := segs_spec t hwf
  obtain ⟨_, e2, e3⟩ := segsOf_eq hp hs hl
  rw [e2, e3]; exact h

/-- On a tree with more than one node there is a last segment and it ends at the last node of the
    sweep (the last two nodes of the update path are neighbours). -/
theorem segs_last_adjacent (t : RTree) (hwf : t.WF) (hkids : t.kids ≠ []) :
    ∃ init s, segsOf t = init ++ [s] ∧ s.2 = lastOf t := by
  obtain ⟨p, L, segs, hp, hl, hs, hpe, _, hhop⟩ := segs_spec t hwf
  obtain ⟨_, e2, e3⟩ := segsOf_eq hp hs hl
  rw [e2, e3]
  cases t with
  | node r ks =>
    obtain ⟨p', l, y, z, hp', hpl, hadj⟩ := updatePath_last_two r ks hwf hkids
    rw [hp] at hp'; simp at hp'; subst hp'
    have hzL : z = L := by
      rw [hpl] at hl
      have : (l ++ [y, z]).getLast? = some z := by simp
      rw [this] at hl; exact Option.some.inj hl
    subst hzL
    -- the first components of the segments are l ++ [y]
    have hfst : segs.map (·.1) = l ++ [y] := by
      have : segs.map (·.1) ++ [z] = (l ++ [y]) ++ [z] := by rw [hpe, hpl]; simp
      exact List.append_cancel_right this
    cases hr : segs.reverse with
    | nil =>
      have : segs = [] := by simpa using hr
      subst this; simp at hfst
    | cons s init' =>
      have hsegs : segs = init'.reverse ++ [s] := by
        have := congrArg List.reverse hr; simpa using this
      refine ⟨init'.reverse, s, hsegs, ?_⟩
      have hs1 : s.1 = y := by
        rw [hsegs] at hfst
        simp only [List.map_append, List.map_cons, List.map_nil] at hfst
        have := List.append_inj' hfst rfl
        simpa using this.2
      have hh := hhop s (by rw [hsegs]; simp)
      -- the way from y to its neighbour z is [y, z]
      rw [hs1, firstHop, simple_path_eq_pathFromTo hwf (.pair hwf hadj)] at hh
      simpa using hh.symm

/-- the edges of a well-formed tree, orientation forgotten, are pairwise different -/
theorem edges_unord_nodup (t : RTree) (hwf : t.WF) : ((edges t).map unord).Nodup := by
  have hnd : (edges t).Nodup := nodup_of_nodup_map (·.2) (edges_snd_nodup hwf)
  rw [List.nodup_iff_pairwise_ne, List.pairwise_map]
  rw [List.nodup_iff_pairwise_ne] at hnd
  apply hnd.imp_of_mem
  intro e e' he he' hne hu
  obtain ⟨a, b⟩ := e
  obtain ⟨c, d⟩ := e'
  rcases (unord_eq_iff a b c d).mp hu with ⟨rfl, rfl⟩ | ⟨rfl, rfl⟩
  · exact hne rfl
  · exact no_two_cycle hwf he he'

/-- The number of segments touching `v` is the degree of `v` in the tree. -/
theorem segs_degree (t : RTree) (hwf : t.WF) (v : Nat) :
    ((segsOf t).filter (fun e => e.1 == v || e.2 == v)).length = degree t v := by
  have hperm := segs_edges_perm t hwf
  have hq : ∀ e : Nat × Nat, ((unord e).1 == v || (unord e).2 == v) = (e.1 == v || e.2 == v) := by
    intro e
    simp only [unord]
    split
    · rfl
    · exact Bool.or_comm _ _
  have hc := hperm.countP_eq (fun e => e.1 == v || e.2 == v)
  simp only [List.countP_map] at hc
  have e1 : ∀ l : List (Nat × Nat), List.countP ((fun e => e.1 == v || e.2 == v) ∘ unord) l
      = List.countP (fun e => e.1 == v || e.2 == v) l := by
    intro l
    apply List.countP_congr
    intro e _
    simp only [Function.comp, hq]
  rw [e1, e1] at hc
  simp only [degree, ← List.countP_eq_length_filter]
  exact hc

end Ptn.C17
