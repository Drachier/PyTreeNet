import Ptn.C08.EinGate
import Ptn.C08.Stages
/-! `two_site_gate_legs` / `single_site_gate_legs` (leg level, `Props.lean`) say WHICH legs the sequence
`contract_nodes; absorb_into_open_legs; split_node_svd` binds.  Here that record is given its VALUE
(`Ptn/Common/Einsum*.lean`, `EinGate.lean`): over every commutative semiring and for all dimensions the
network after the gate application is `Σ_in G[out; in] · ψ[…, in, …]`.

Labels.  The leg labels of the leg-level model are local to a node (`nb x`: "my leg toward `x`", `bond`:
"my new bond leg"); physical and gate legs already carry a global name.  `VLeg` makes the virtual ones
global by adding the owner (`glob node`).  The four label types of the directory: `Leg` (Model.lean, local to a node),
`GLeg` (Model.lean, physical legs of a whole step), `VLeg` (here, the network around one gate), `SLeg` (StepValue.lean,
the network of a whole step); the injections out of `Leg` are `glob`, `pairGlob` (GlobalValue.lean, equal to `glob p` /
`glob c` on the legs of the pair) and `stepGlob` (StepGlobal.lean). -/
namespace Ptn.C08

open Ptn.Ein

/-- global leg labels for the picture of one gate application -/
inductive VLeg where
  | own (node : Nat) (l : Leg)     -- the virtual leg `l` (`nb x` or `bond`) of the leg list of node `node`
  | shared (l : Leg)               -- physical legs `phys n k`, gate legs `gout k`, `gin k`
  deriving DecidableEq, Repr

def glob (node : Nat) : Leg → VLeg
  | .nb x => .own node (.nb x)
  | .bond => .own node .bond
  | l => .shared l

/-- the pairs bound by `absorb_into_open_legs` (physical leg, gate input leg) in global names -/
def gatePairs (b : List (Leg × Leg)) : List (VLeg × VLeg) := b.map fun x => (VLeg.shared x.1, VLeg.shared x.2)

/-- what a gate tensor reads: its own output and input legs -/
def GateReads : VLeg → Prop
  | .shared (.gout _) => True
  | .shared (.gin _) => True
  | _ => False

def VLeg.isOwn : VLeg → Prop
  | .own _ _ => True
  | .shared _ => False

/-- what the rest of the network may read when a gate acts on the pair `(x, y)` joined by `(b₁, b₂)` and
rejoined by `(q, r)`: everything but the two bonds and the legs bound to the gate -/
def EnvReads (b₁ b₂ q r : VLeg) (gp : List (VLeg × VLeg)) (l : VLeg) : Prop :=
  l ≠ b₁ ∧ l ≠ b₂ ∧ l ≠ q ∧ l ≠ r ∧ l ∉ Expr.pairLegs gp

theorem pairLegs_gatePairs_zip (xs ys : List Leg) (h : xs.length = ys.length) :
    Expr.pairLegs (gatePairs (xs.zip ys)) = xs.map VLeg.shared ++ ys.map VLeg.shared := by
  simp only [Expr.pairLegs, gatePairs, List.map_map]
  have h1 : (xs.zip ys).map ((Prod.fst ∘ fun x : Leg × Leg => (VLeg.shared x.1, VLeg.shared x.2))) =
      xs.map VLeg.shared := by
    have : (Prod.fst ∘ fun x : Leg × Leg => (VLeg.shared x.1, VLeg.shared x.2)) = VLeg.shared ∘ Prod.fst := rfl
    rw [this, ← List.map_map, List.map_fst_zip (by omega)]
  have h2 : (xs.zip ys).map ((Prod.snd ∘ fun x : Leg × Leg => (VLeg.shared x.1, VLeg.shared x.2))) =
      ys.map VLeg.shared := by
    have : (Prod.snd ∘ fun x : Leg × Leg => (VLeg.shared x.1, VLeg.shared x.2)) = VLeg.shared ∘ Prod.snd := rfl
    rw [this, ← List.map_map, List.map_snd_zip (by omega)]
  rw [h1, h2]

theorem shared_injective : Function.Injective VLeg.shared := fun _ _ h => by cases h; rfl

theorem nodup_physL (id o : Nat) : (physL id o).Nodup := by
  unfold physL
  exact (List.nodup_range).map (fun a b h => by cases h; rfl)

theorem physL_phys (a o : Nat) : ∀ l ∈ physL a o, ∃ a' k, l = Leg.phys a' k := by
  intro l hl
  simp only [physL, List.mem_map] at hl
  obtain ⟨k, _, rfl⟩ := hl
  exact ⟨a, k, rfl⟩

theorem physL_pair_phys (a o a' o' : Nat) : ∀ l ∈ physL a o ++ physL a' o', ∃ x k, l = Leg.phys x k := by
  intro l hl
  rcases List.mem_append.1 hl with h | h
  · exact physL_phys a o l h
  · exact physL_phys a' o' l h

theorem nodup_physL_pair {x y : Nat} (hxy : x ≠ y) (ox oy : Nat) : (physL x ox ++ physL y oy).Nodup := by
  rw [List.nodup_append]
  refine ⟨nodup_physL x ox, nodup_physL y oy, ?_⟩
  intro a ha b hb hab
  simp only [physL, List.mem_map] at ha hb
  obtain ⟨i, _, rfl⟩ := ha
  obtain ⟨j, _, h2⟩ := hb
  cases h2.trans hab.symm
  exact hxy rfl

theorem nodup_phys_gin {P : List Leg} (hP : P.Nodup) (hPk : ∀ l ∈ P, ∃ a k, l = Leg.phys a k) (m : Nat)
    (hm : P.length = m) : (Expr.pairLegs (gatePairs (P.zip ((List.range m).map Leg.gin)))).Nodup := by
  rw [pairLegs_gatePairs_zip _ _ (by simp [hm]), ← List.map_append]
  have := nodup_leg_kinds List.nodup_nil hP hPk 0 m
  simp only [List.range_zero, List.map_nil, List.nil_append] at this
  exact this.map shared_injective

theorem nodup_gate_legs (x y ox oy : Nat) (hxy : x ≠ y) :
    (Expr.pairLegs (gatePairs ((physL x ox ++ physL y oy).zip ((List.range (ox + oy)).map Leg.gin)))).Nodup :=
  nodup_phys_gin (nodup_physL_pair hxy ox oy) (physL_pair_phys x ox y oy) _ (by simp [physL])

theorem nodup_gate_legs_single (x o : Nat) :
    (Expr.pairLegs (gatePairs ((physL x o).zip ((List.range o).map Leg.gin)))).Nodup :=
  nodup_phys_gin (nodup_physL x o) (physL_phys x o) _ (by simp [physL])

theorem nodup_env_gate (bs gp : List (VLeg × VLeg)) (h1 : (Expr.pairLegs bs).Nodup)
    (h2 : ∀ l ∈ Expr.pairLegs bs, l.isOwn) (h3 : (Expr.pairLegs gp).Nodup)
    (h4 : ∀ l ∈ Expr.pairLegs gp, ¬ l.isOwn) : (Expr.pairLegs (bs ++ gp)).Nodup := by
  rw [(Expr.pairLegs_append bs gp).nodup_iff, List.nodup_append]
  exact ⟨h1, h3, fun a ha b hb hab => h4 b hb (hab ▸ h2 a ha)⟩

theorem gatePairs_not_own (b : List (Leg × Leg)) : ∀ l ∈ Expr.pairLegs (gatePairs b), ¬ l.isOwn := by
  intro l hl
  simp only [Expr.pairLegs, gatePairs, List.map_map, List.mem_append, List.mem_map, Function.comp] at hl
  rcases hl with ⟨x, _, rfl⟩ | ⟨x, _, rfl⟩ <;> exact fun h => h

theorem own_not_gateReads : ∀ l : VLeg, l.isOwn → ¬ GateReads l
  | .own _ _, _ => fun h => h
  | .shared _, h => h.elim

/-- `gate_application_value` on the labels of the pair `p` / `c`; the new bond joins `x` and `y`, the pair in the order
    the operator names it -/
theorem two_site_value_core {R : Type} [CommSemiring R] (dim : VLeg → Nat) (p c x y : Nat)
    (gp : List (VLeg × VLeg)) (hgp1 : (Expr.pairLegs gp).Nodup) (hgp2 : ∀ l ∈ Expr.pairLegs gp, ¬ l.isOwn)
    (bs : List (VLeg × VLeg)) (G TP TC C A' U V : Asg VLeg → R) (rest : List (Asg VLeg → R))
    (hbs1 : (Expr.pairLegs bs).Nodup) (hbs2 : ∀ l ∈ Expr.pairLegs bs, l.isOwn)
    (hC : ∀ τ, C τ = sumPairs dim [(glob p (Leg.nb c), glob c (Leg.nb p))] (fun ρ => TP ρ * TC ρ) τ)
    (hA : ∀ τ, A' τ = sumPairs dim gp (fun ρ => G ρ * C ρ) τ)
    (hUV : ∀ τ, A' τ = sumPairs dim [(glob x Leg.bond, glob y Leg.bond)] (fun ρ => U ρ * V ρ) τ)
    (hrest : ∀ f ∈ rest, DependsOn
      (EnvReads (glob p (Leg.nb c)) (glob c (Leg.nb p)) (glob x Leg.bond) (glob y Leg.bond) gp) f)
    (hG : DependsOn GateReads G) (σ : Asg VLeg) :
    netValue dim (bs ++ [(glob x Leg.bond, glob y Leg.bond)]) (U :: V :: rest) σ =
      sumPairs dim gp (fun τ => G τ *
        netValue dim (bs ++ [(glob p (Leg.nb c), glob c (Leg.nb p))]) (TP :: TC :: rest) τ) σ := by
  apply gate_application_value dim bs gp G TP TC C A' U V rest _ _ _ _ hC hA hUV hrest
  · exact fun h => h.2.2.1 rfl
  · exact fun h => h.2.2.2.1 rfl
  · exact fun h => h.1 rfl
  · exact fun h => h.2.1 rfl
  · exact fun l hl h => h.2.2.2.2 hl
  · exact hG
  · exact fun l hl => own_not_gateReads l (hbs2 l hl)
  · exact nodup_env_gate bs gp hbs1 hbs2 hgp1 hgp2

end Ptn.C08
