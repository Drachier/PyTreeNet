import Ptn.C08.GlobalValue
/-! One label space for a WHOLE STEP.  `stepGlob cur g p c K ver : Leg → SLeg` is the injection of the local
labels of the program of one gate (number `g`, pair `P = p`, `C = c`, children of `C`: `K`; for a single site `s`:
`p = c = s`, `K = []`) into the labels `SLeg` of a whole step: the open leg of site
`n` is the CURRENT physical leg `ph (cur n)`, gate output `k` is `ph (out g k)`, gate input `k` is `gin g k`, a
virtual leg toward `x` is `virt owner x (ver owner x + 2)` (owner as in `pairGlob`; `ver` = current version of
that bond leg, arbitrary), the legs no program of a step carries (higher physical legs, the local `bond`) go to
`virt _ _ 1`, `virt 0 0 0`.  It is injective by the record invariant `RecInv` (`cur` injective, every current
leg older than gate `g`). -/
namespace Ptn.C08

open Ptn.Ein

/-- owner of the virtual leg toward `x` in the pair `P = p`, `C = c` (children of `C`: `K`) -/
def pairOwner (p c : Nat) (K : List Nat) (x : Nat) : Nat := if x = p ∨ x ∈ K then c else p

def stepGlob (cur : Nat → GLeg) (g p c : Nat) (K : List Nat) (ver : Nat → Nat → Nat) : Leg → SLeg
  | .nb x => .virt (pairOwner p c K x) x (ver (pairOwner p c K x) x + 2)
  | .phys n 0 => .ph (cur n)
  | .phys n (k + 1) => .virt n k 1
  | .gout k => .ph (.out g k)
  | .gin k => .gin g k
  | .bond => .virt 0 0 0

theorem stepGlob_injective {cur : Nat → GLeg} {g : Nat} (p c : Nat) (K : List Nat) (ver : Nat → Nat → Nat)
    (hinj : ∀ s s', cur s = cur s' → s = s') (hlt : ∀ s, (cur s).lt g) :
    Function.Injective (stepGlob cur g p c K ver) := by
  intro a b h
  -- different kinds of leg go to different constructors, or to `virt` legs of different version (`≥ 2`, `1`, `0`)
  rcases a with x | ⟨n, _ | k⟩ | k | k | _ <;> rcases b with x' | ⟨n', _ | k'⟩ | k' | k' | _ <;>
    simp only [stepGlob, SLeg.virt.injEq, SLeg.ph.injEq, SLeg.gin.injEq, GLeg.out.injEq, reduceCtorEq,
      and_false, and_true, true_and] at h
  · rw [h.2.1]
  · omega
  · rw [hinj _ _ h]
  · exact absurd h (ne_of_lt_out (hlt n))
  · omega
  · rw [h.1, h.2]
  · exact absurd h.symm (ne_of_lt_out (hlt n'))
  · rw [h]
  · rw [h]
  · rfl

theorem RecInv.forget {cur : Nat → GLeg} {rc : List Rec} {g : Nat} (h : RecInv cur rc g) : RecInv cur [] g :=
  ⟨⟨h.1.inj, by simp, by simp, by simp⟩, ⟨h.2.curLt, by simp⟩⟩

theorem RecInv.stepGlob_injective {cur : Nat → GLeg} {rc : List Rec} {g : Nat} (h : RecInv cur rc g)
    (p c : Nat) (K : List Nat) (ver : Nat → Nat → Nat) : Function.Injective (stepGlob cur g p c K ver) :=
  Ptn.C08.stepGlob_injective p c K ver h.1.inj h.2.curLt

/-- **the pairs the model returns for a two-site gate (one open leg per node, naming order `x`, `y`), renamed,
are the pairs the specification fold prescribes at that moment** -/
theorem stepGlob_binds_two (cur : Nat → GLeg) (g p c : Nat) (K : List Nat) (ver : Nat → Nat → Nat) (x y : Nat)
    (hxy : x ≠ y) :
    rn_pairs (stepGlob cur g p c K ver) ((physL x 1 ++ physL y 1).zip ((List.range (1 + 1)).map Leg.gin)) =
      recPairs (specOp g (cur, []) 0 [x, y]).2 := by
  rw [specOp_two g cur [] x y hxy]
  rfl

theorem stepGlob_binds_one (cur : Nat → GLeg) (g p c : Nat) (K : List Nat) (ver : Nat → Nat → Nat) (s : Nat) :
    rn_pairs (stepGlob cur g p c K ver) ((physL s 1).zip ((List.range 1).map Leg.gin)) =
      recPairs (specOp g (cur, []) 0 [s]).2 := by
  rw [specOp_one]
  rfl

def SLeg.isVirt : SLeg → Prop
  | .virt _ _ _ => True
  | _ => False

theorem isVirt_not_gateReadsS (g : Nat) : ∀ l : SLeg, l.isVirt → ¬ GateReadsS g l
  | .virt _ _ _, _ => id
  | .ph _, h => h.elim
  | .gin _ _, h => h.elim

theorem recPairs_not_virt (rc : List Rec) : ∀ l ∈ Expr.pairLegs (recPairs rc), ¬ l.isVirt := by
  intro l hl
  rw [pairLegs_recPairs] at hl
  rcases List.mem_append.1 hl with hl | hl
  · obtain ⟨x, _, rfl⟩ := List.mem_map.1 hl; exact id
  · obtain ⟨x, _, rfl⟩ := List.mem_map.1 hl; exact id

theorem nodup_bonds_rec (bs : List (SLeg × SLeg)) (rc : List Rec) (h1 : (Expr.pairLegs bs).Nodup)
    (h2 : ∀ l ∈ Expr.pairLegs bs, l.isVirt) (h3 : (Expr.pairLegs (recPairs rc)).Nodup) :
    (Expr.pairLegs (bs ++ recPairs rc)).Nodup := by
  rw [(Expr.pairLegs_append bs (recPairs rc)).nodup_iff, List.nodup_append]
  exact ⟨h1, h3, fun a ha b hb hab => recPairs_not_virt rc b hb (hab ▸ h2 a ha)⟩

variable {R : Type} [CommSemiring R]

/-- **Contract of `_apply_one_trotter_step` in ONE label space.**  Operator number `g` of a step, current
physical legs `cur`, gate tensor `Gt` (in the step labels).  The tensors of the touched nodes are the pulls of
LOCAL tensors along `stepGlob`, the absorbed tensor IS the value of the model's own program (`gateExpr1` /
`gateExpr` over the pairs `binds` / `r.binds` the model function returns), renamed by `stepGlob`:

* no site: `pass`;
* one site `s` (canonical node `mkNode s par ch 1`, `singleSite` returns `binds`): the new node tensor is the value
  of the renamed program `tensordot(T, G, binds)` - no hypothesis about a routine;
* two sites, naming order `(x, y) = (p, c)` or `(c, p)` of a pair `PairOK`, `twoSite` returns `r`: the only
  hypothesis about a routine is the exact split `hUV` OF THE VALUE OF THE RENAMED PROGRAM
  `tensordot(tensordot(P, C, bond), G, r.binds)` over a new bond `(q, r')`.

Side conditions = the labelled network is well formed: the rest reads `S`, which contains neither bond nor a leg
bound to the gate; the other bonds `bs` are virtual legs, no leg twice. -/
inductive GlobalLoopContract (dim : SLeg → Nat) (cur : Nat → GLeg) (g : Nat) (Gt : Asg SLeg → R) :
    List Nat → (Asg SLeg → R) → (Asg SLeg → R) → Prop
  | skip (ψ : Asg SLeg → R) : GlobalLoopContract dim cur g Gt [] ψ ψ
  | single (s : Nat) (par : Option Nat) (ch : List Nat) (ver : Nat → Nat → Nat) (n' : MNode)
      (binds : List (Leg × Leg)) (hs : singleSite (mkNode s par ch 1) = some (n', binds))
      (T G : Asg Leg → R) (hGt : Gt = rn_pull (stepGlob cur g s s [] ver) G)
      (bs : List (SLeg × SLeg)) (rest : List (Asg SLeg → R)) (S : SLeg → Prop)
      (hrest : ∀ f ∈ rest, DependsOn S f)
      (hgp : ∀ l ∈ Expr.pairLegs (rn_pairs (stepGlob cur g s s [] ver) binds), ¬ S l)
      (hbs1 : (Expr.pairLegs bs).Nodup) (hbs2 : ∀ l ∈ Expr.pairLegs bs, l.isVirt) :
      GlobalLoopContract dim cur g Gt [s]
        (netValue dim bs (rn_pull (stepGlob cur g s s [] ver) T :: rest))
        (netValue dim bs (((gateExpr1 (mkNode s par ch 1).legs (mkNode s par ch 1).nopen binds T G).rn_map
          (stepGlob cur g s s [] ver)).eval dim :: rest))
  | two (p c : Nat) (pp : Option Nat) (A B K : List Nat) (hpair : PairOK p c pp A B K) (ver : Nat → Nat → Nat)
      (x y : Nat) (r : TwoSiteResult)
      (hr : (x = p ∧ y = c ∧ twoSite p (mkNode p pp (A ++ c :: B) 1) c (mkNode c (some p) K 1) = some r) ∨
        (x = c ∧ y = p ∧ twoSite c (mkNode c (some p) K 1) p (mkNode p pp (A ++ c :: B) 1) = some r))
      (TP TC G : Asg Leg → R) (hGt : Gt = rn_pull (stepGlob cur g p c K ver) G)
      (bs : List (SLeg × SLeg)) (U V : Asg SLeg → R) (rest : List (Asg SLeg → R)) (q r' : SLeg) (S : SLeg → Prop)
      (hUV : ∀ τ, ((gateExpr (mkNode p pp (A ++ c :: B) 1).legs (mkNode c (some p) K 1).legs
          [(Leg.nb c, Leg.nb p)] r.contr.nopen r.binds TP TC G).rn_map (stepGlob cur g p c K ver)).eval dim τ =
        sumPairs dim [(q, r')] (fun ρ => U ρ * V ρ) τ)
      (hrest : ∀ f ∈ rest, DependsOn S f) (hq : ¬ S q) (hr' : ¬ S r')
      (hb₁ : ¬ S (stepGlob cur g p c K ver (Leg.nb c))) (hb₂ : ¬ S (stepGlob cur g p c K ver (Leg.nb p)))
      (hgp : ∀ l ∈ Expr.pairLegs (rn_pairs (stepGlob cur g p c K ver) r.binds), ¬ S l)
      (hbs1 : (Expr.pairLegs bs).Nodup) (hbs2 : ∀ l ∈ Expr.pairLegs bs, l.isVirt) :
      GlobalLoopContract dim cur g Gt [x, y]
        (netValue dim (bs ++ [(stepGlob cur g p c K ver (Leg.nb c), stepGlob cur g p c K ver (Leg.nb p))])
          (rn_pull (stepGlob cur g p c K ver) TP :: rn_pull (stepGlob cur g p c K ver) TC :: rest))
        (netValue dim (bs ++ [(q, r')]) (U :: V :: rest))

theorem two_binds_spec {p c : Nat} {pp : Option Nat} {A B K : List Nat} (hpair : PairOK p c pp A B K)
    (cur : Nat → GLeg) (g : Nat) (ver : Nat → Nat → Nat) {x y : Nat} {r : TwoSiteResult}
    (hr : (x = p ∧ y = c ∧ twoSite p (mkNode p pp (A ++ c :: B) 1) c (mkNode c (some p) K 1) = some r) ∨
      (x = c ∧ y = p ∧ twoSite c (mkNode c (some p) K 1) p (mkNode p pp (A ++ c :: B) 1) = some r)) :
    x ≠ y ∧ rn_pairs (stepGlob cur g p c K ver) r.binds = recPairs (specOp g (cur, []) 0 [x, y]).2 := by
  have hne : p ≠ c := hpair.ne
  rcases hr with ⟨rfl, rfl, hr⟩ | ⟨rfl, rfl, hr⟩
  · rw [twoSite_parentFirst 1 1 hpair] at hr
    cases hr
    exact ⟨hne, stepGlob_binds_two cur g _ _ K ver _ _ hne⟩
  · rw [twoSite_childFirst 1 1 hpair] at hr
    cases hr
    exact ⟨hpair.ne', stepGlob_binds_two cur g _ _ K ver _ _ hpair.ne'⟩

theorem GlobalLoopContract.toLoop {dim : SLeg → Nat} {cur : Nat → GLeg} {rc : List Rec} {g : Nat}
    {Gt : Asg SLeg → R} {op : List Nat} {ψ ψ' : Asg SLeg → R} (hinv : RecInv cur rc g)
    (hG : DependsOn (GateReadsS g) Gt) (h : GlobalLoopContract dim cur g Gt op ψ ψ') :
    OpForm op ∧ LoopContract dim Gt (recPairs (specOp g (cur, []) 0 op).2) op ψ ψ' := by
  cases h with
  | skip => exact ⟨Or.inl rfl, LoopContract.skip _⟩
  | single s par ch ver n' binds hs T G hGt bs rest S hrest hgp hbs1 hbs2 =>
    have hop : OpForm [s] := Or.inr (Or.inl ⟨s, rfl⟩)
    refine ⟨hop, ?_⟩
    rw [singleSite_mkNode] at hs
    cases hs
    have hb := stepGlob_binds_one cur g s s [] ver s
    have e : ((gateExpr1 (mkNode s par ch 1).legs (mkNode s par ch 1).nopen
          ((physL s 1).zip ((List.range 1).map Leg.gin)) T G).rn_map (stepGlob cur g s s [] ver)).eval dim =
        fun τ => sumPairs dim (recPairs (specOp g (cur, []) 0 [s]).2)
          (fun ρ => Gt ρ * rn_pull (stepGlob cur g s s [] ver) T ρ) τ := by
      funext τ
      rw [rn_gateExpr1_eval, hb, hGt]
    rw [e]
    have hn := (hinv.forget.step [s]).1.nodup
    rw [List.nil_append] at hn
    exact LoopContract.single s bs _ rest S (GateReadsS g) hrest (hb ▸ hgp) hG
      (fun l hl => isVirt_not_gateReadsS g l (hbs2 l hl)) (nodup_bonds_rec bs _ hbs1 hbs2 hn)
  | two p c pp A B K hpair ver x y r hr TP TC G hGt bs U V rest q r' S hUV hrest hq hr' hb₁ hb₂ hgp hbs1 hbs2 =>
    obtain ⟨hxy, hb⟩ := two_binds_spec hpair cur g ver hr
    have hop : OpForm [x, y] := Or.inr (Or.inr ⟨x, y, hxy, rfl⟩)
    refine ⟨hop, ?_⟩
    have hn := (hinv.forget.step [x, y]).1.nodup
    rw [List.nil_append] at hn
    refine LoopContract.two x y bs _ _ U V rest _ _ q r' S (GateReadsS g) (fun τ => ?_) hrest hq hr' hb₁ hb₂
      (hb ▸ hgp) hG (fun l hl => isVirt_not_gateReadsS g l (hbs2 l hl)) (nodup_bonds_rec bs _ hbs1 hbs2 hn)
    rw [← hUV τ, rn_gateExpr_eval, hb, hGt]
    rfl

/-- a run of `run_one_time_step` at value level, all networks and programs in the step labels `SLeg` -/
inductive GlobalLoopChain (dim : SLeg → Nat) (G : Nat → Asg SLeg → R) :
    (Nat → GLeg) → Nat → List (List Nat) → (Asg SLeg → R) → (Asg SLeg → R) → Prop
  | nil (cur : Nat → GLeg) (g : Nat) (ψ : Asg SLeg → R) : GlobalLoopChain dim G cur g [] ψ ψ
  | cons (cur : Nat → GLeg) (g : Nat) (op : List Nat) (ops : List (List Nat)) (ψ ψ' ψ'' : Asg SLeg → R)
      (h1 : GlobalLoopContract dim cur g (G g) op ψ ψ')
      (h2 : GlobalLoopChain dim G (specOp g (cur, []) 0 op).1 (g + 1) ops ψ' ψ'') :
      GlobalLoopChain dim G cur g (op :: ops) ψ ψ''

theorem GlobalLoopChain.toLoop {dim : SLeg → Nat} {G : Nat → Asg SLeg → R}
    (hG : ∀ i, DependsOn (GateReadsS i) (G i)) {cur : Nat → GLeg} {g : Nat}
    {ops : List (List Nat)} {ψ ψ'' : Asg SLeg → R} (h : GlobalLoopChain dim G cur g ops ψ ψ'') :
    ∀ {rc : List Rec}, RecInv cur rc g → LoopChain dim G cur g ops ψ ψ'' := by
  induction h with
  | nil cur g ψ => intro _ _; exact LoopChain.nil cur g ψ
  | cons cur g op ops ψ ψ' ψ'' h1 _ ih =>
    intro rc hinv
    obtain ⟨hop, hl⟩ := h1.toLoop hinv (hG g)
    exact LoopChain.cons cur g op ops ψ ψ' ψ'' hl (ih (hinv.step op))

/-- every chain of networks related by the one-label-space contracts ends in the ordered product of the gates -/
theorem global_loop_chain_value {dim : SLeg → Nat} {G : Nat → Asg SLeg → R}
    (hG : ∀ i, DependsOn (GateReadsS i) (G i)) {cur : Nat → GLeg} {rc : List Rec} {g : Nat}
    (hinv : RecInv cur rc g) {ops : List (List Nat)} {ψ ψ'' : Asg SLeg → R}
    (h : GlobalLoopChain dim G cur g ops ψ ψ'') : ψ'' = actRun dim G cur g ops ψ :=
  loop_chain_value (h.toLoop hG hinv)

/-- a new bond leg of a later version is outside the range of `stepGlob` -/
theorem stepGlob_ne_newbond (cur : Nat → GLeg) (g p c : Nat) (K : List Nat) (a b v : Nat) (l : Leg) :
    stepGlob cur g p c K (fun _ _ => v) l ≠ SLeg.virt a b (v + 3) := by
  rcases l with x | ⟨n, _ | k⟩ | k | k | _ <;> intro h <;>
    simp only [stepGlob, SLeg.virt.injEq, reduceCtorEq] at h <;>
    first | omega | exact h.2.2.elim

omit [CommSemiring R] in
/-- every gate tensor in the step labels that reads only the legs of gate `g` is the pull of a local gate tensor:
the hypothesis `hGt` of `GlobalLoopContract` loses nothing -/
theorem stepGlob_gate_surj (cur : Nat → GLeg) (g p c : Nat) (K : List Nat) (ver : Nat → Nat → Nat)
    (Gt : Asg SLeg → R) (hG : DependsOn (GateReadsS g) Gt) :
    ∃ G : Asg Leg → R, Gt = rn_pull (stepGlob cur g p c K ver) G := by
  refine ⟨fun σ => Gt (fun l' => match l' with
    | .ph (.out _ k) => σ (Leg.gout k)
    | .gin _ k => σ (Leg.gin k)
    | _ => 0), ?_⟩
  funext σ'
  apply hG
  intro l' hl'
  match l', hl' with
  | .ph (.out g' k), h => simp only [GateReadsS] at h; subst h; rfl
  | .gin g' k, h => simp only [GateReadsS] at h; subst h; rfl

end Ptn.C08
