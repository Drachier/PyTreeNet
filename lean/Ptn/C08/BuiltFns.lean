import Ptn.C08.Stages
import Ptn.C08.Built
/-! The model functions of one gate application up to the split map `Built` inputs to a `Built` output (the split is an
SVD, not a `tensordot`: it has no lemma here).  The `Node` bookkeeping (`open_leg_to_parent`, `open_legs_to_children`,
`exchange_open_leg_ranges`) only transposes; `contract_nodes` is ONE `tensordot` of the parent's legs with the child's legs
over `[neighbour_index(child)]`, `[0]` followed by transpositions; `absorb_into_open_legs` is ONE `tensordot` of the node
with the operator tensor over the node's open legs and the second half of the operator's legs. -/
namespace Ptn.C08

open Ptn.Ein

theorem pyInsert_perm {α : Type} (l : List α) (i : Nat) (x : α) : (pyInsert l i x).Perm (x :: l) := by
  unfold pyInsert
  refine List.perm_middle.trans (List.Perm.cons _ ?_)
  rw [List.take_append_drop]

theorem dropAt_perm {α : Type} (l : List α) (i : Nat) (x : α) (h : l[i]? = some x) :
    (x :: dropAt l i).Perm l := by
  unfold dropAt
  have hi : i < l.length := by
    rcases Nat.lt_or_ge i l.length with h' | h'
    · exact h'
    · rw [List.getElem?_eq_none h'] at h; simp at h
  have hx : l[i] = x := by
    rw [List.getElem?_eq_getElem hi] at h; simpa using h
  have hd : l.drop i = x :: l.drop (i + 1) := by
    rw [← hx]; exact List.drop_eq_getElem_cons hi
  have : l = l.take i ++ (x :: l.drop (i + 1)) := by rw [← hd, List.take_append_drop]
  exact (List.perm_middle.symm.trans (by rw [← this]))

theorem openLegToParent_perm {n m : MNode} {pid i : Nat} (h : n.openLegToParent pid i = some m) :
    m.legs.Perm n.legs := by
  unfold MNode.openLegToParent at h
  split at h
  · simp at h
  · split at h
    · simp at h
    · split at h
      · simp at h
      · split at h
        · simp at h
        · rename_i x hx
          simp only [Option.some.injEq] at h
          subst h
          exact (pyInsert_perm _ _ _).trans (dropAt_perm _ _ _ hx)

theorem attachParent_perm {n m : MNode} {pp : Option Nat} (h : attachParent n pp = some m) :
    m.legs.Perm n.legs := by
  cases pp with
  | none => simp only [attachParent, Option.some.injEq] at h; subst h; exact List.Perm.refl _
  | some x => exact openLegToParent_perm h

theorem childStep_perm {orig : Nat} {m m' : MNode} {e : Nat × Nat × Leg} (h : MNode.childStep orig m e = some m') :
    m'.legs.Perm m.legs := by
  unfold MNode.childStep at h
  split at h
  · simp at h
  · split at h
    · rename_i hmem
      simp only [Option.some.injEq] at h
      subst h
      exact (pyInsert_perm _ _ _).trans (List.perm_cons_erase hmem).symm
    · simp at h

theorem childLoop_perm {orig : Nat} : ∀ (es : List (Nat × Nat × Leg)) {m m' : MNode},
    MNode.childLoop orig m es = some m' → m'.legs.Perm m.legs
  | [], m, m', h => by simp only [MNode.childLoop, Option.some.injEq] at h; subst h; exact List.Perm.refl _
  | e :: es, m, m', h => by
    simp only [MNode.childLoop] at h
    cases h1 : MNode.childStep orig m e with
    | none => rw [h1] at h; simp at h
    | some m1 =>
      rw [h1, Option.bind_some] at h
      exact (childLoop_perm es h).trans (childStep_perm h1)

theorem openLegsToChildren_perm {n m : MNode} {dict : List (Nat × Nat)} (h : n.openLegsToChildren dict = some m) :
    m.legs.Perm n.legs := by
  unfold MNode.openLegsToChildren at h
  cases h1 : MNode.lookupLegs n.legs dict with
  | none => rw [h1] at h; simp at h
  | some es =>
    rw [h1, Option.bind_some] at h
    exact childLoop_perm es h

/-- the core of `exchange_open_leg_ranges` (after the two ranges were ordered) transposes -/
theorem exchangeCore_perm (l : List Leg) (s1 s2 len1 len2 np : Nat) :
    let values2 := (l.drop s2).take len2
    let l1 := l.take s2 ++ l.drop (s2 + len2)
    let values1 := (l1.drop s1).take len1
    let l2 := l1.take s1 ++ l1.drop (s1 + len1)
    let l3 := l2.take s1 ++ values2 ++ l2.drop s1
    (l3.take np ++ values1 ++ l3.drop np).Perm l := by
  intro values2 l1 values1 l2 l3
  have p1 : (values2 ++ l1).Perm l := take_drop_take_perm l s2 len2
  have p2 : (values1 ++ l2).Perm l1 := take_drop_take_perm l1 s1 len1
  have p3 : l3.Perm (values2 ++ l2) := take_insert_drop_perm l2 values2 s1
  have p4 : (l3.take np ++ values1 ++ l3.drop np).Perm (values1 ++ l3) := take_insert_drop_perm l3 values1 np
  refine p4.trans (((p3.append_left values1).trans ?_).trans p1)
  refine List.Perm.trans ?_ (p2.append_left values2)
  rw [List.perm_iff_count]; intro a; simp only [List.count_append]; omega

theorem exchangeRanges_perm {l l' : List Leg} {s1 e1 s2 e2 : Nat} (h : exchangeRanges l s1 e1 s2 e2 = some l') :
    l'.Perm l := by
  unfold exchangeRanges at h
  -- whichever of the two ranges comes first
  generalize (if s2 < s1 then (s2, e2, s1, e1) else (s1, e1, s2, e2)) = q at h
  obtain ⟨a1, b1, a2, b2⟩ := q
  simp only at h
  split at h
  · simp at h
  · split at h
    · simp at h
    · simp only [Option.some.injEq] at h
      subst h
      exact exchangeCore_perm l a1 a2 (b1 - a1) (b2 - a2) _

theorem contractNodes_tensordot {id1 id2 : Nat} {n1 n2 m : MNode} (h : contractNodes id1 n1 id2 n2 = some m) :
    ∃ (P C : MNode) (cid ci : Nat) (raw : List Leg) (ps : List (Leg × Leg)),
      ((P = n1 ∧ C = n2 ∧ cid = id2 ∧ n2.parent = some id1) ∨ (P = n2 ∧ C = n1 ∧ cid = id1 ∧ n1.parent = some id2)) ∧
      P.neighbourIndex cid = some ci ∧
      tensordot P.legs C.legs [ci] [0] = some (raw, ps) ∧ m.legs.Perm raw := by
  unfold contractNodes at h
  obtain ⟨⟨pid, P, cid, C⟩, hpc, h⟩ := Option.bind_eq_some_iff.1 h
  obtain ⟨ci, hci, h⟩ := Option.bind_eq_some_iff.1 h
  obtain ⟨⟨raw, ps⟩, htd, h⟩ := Option.bind_eq_some_iff.1 h
  obtain ⟨new1, h1, h⟩ := Option.bind_eq_some_iff.1 h
  obtain ⟨new2, h2, h⟩ := Option.bind_eq_some_iff.1 h
  -- every step after the `tensordot` transposes
  have q : new2.legs.Perm raw := (openLegsToChildren_perm h2).trans (attachParent_perm h1)
  have hm : m.legs.Perm raw := by
    split at h
    · obtain ⟨l, h3, rfl⟩ := Option.map_eq_some_iff.1 h
      exact (exchangeRanges_perm h3).trans q
    · cases h
      exact q
  refine ⟨P, C, cid, ci, raw, ps, ?_, hci, htd, hm⟩
  split at hpc
  · cases hpc
    exact Or.inl ⟨rfl, rfl, rfl, ‹_›⟩
  · split at hpc
    · cases hpc
      exact Or.inr ⟨rfl, rfl, rfl, ‹_›⟩
    · cases hpc

variable {R : Type}

theorem contractNodes_built {id1 id2 : Nat} {n1 n2 m : MNode} {e1 e2 : Expr Leg R}
    (h1 : Built n1.legs e1) (h2 : Built n2.legs e2) (h : contractNodes id1 n1 id2 n2 = some m) :
    ∃ ps, (n2.parent = some id1 ∧ Built m.legs (Expr.dot e1 e2 ps)) ∨
          (n1.parent = some id2 ∧ Built m.legs (Expr.dot e2 e1 ps)) := by
  obtain ⟨P, C, cid, ci, raw, ps, hpc, _, htd, hperm⟩ := contractNodes_tensordot h
  refine ⟨ps, ?_⟩
  rcases hpc with ⟨rfl, rfl, _, hp⟩ | ⟨rfl, rfl, _, hp⟩
  · exact Or.inl ⟨hp, Built.transpose (Built.dot h1 h2 (by simp) (by simp) htd) hperm⟩
  · exact Or.inr ⟨hp, Built.transpose (Built.dot h2 h1 (by simp) (by simp) htd) hperm⟩

theorem absorb_built {n m : MNode} {op : List Leg} {b : List (Leg × Leg)} {e : Expr Leg R} (G : Asg Leg → R)
    (h1 : Built n.legs e) (h : absorbIntoOpenLegs n op = some (m, b)) :
    Built m.legs (Expr.dot e (Expr.leaf op G) b) := by
  simp only [absorbIntoOpenLegs] at h
  split at h
  · simp at h
  · cases htd : tensordot n.legs op n.openLegs ((List.range n.nopen).map (· + n.nopen)) with
    | none => simp only [htd] at h; simp at h
    | some lb =>
      obtain ⟨l, b'⟩ := lb
      simp only [htd, Option.map_some, Option.some.injEq, Prod.mk.injEq] at h
      obtain ⟨hm, hb⟩ := h
      subst hm; subst hb
      refine Built.dot h1 (Built.fresh op G) ?_ ?_ htd
      · unfold MNode.openLegs; exact List.nodup_range'
      · exact (List.nodup_range).map (fun a b h => by simpa using h)

theorem singleSite_built {n m : MNode} {b : List (Leg × Leg)} {e : Expr Leg R} (G : Asg Leg → R)
    (h1 : Built n.legs e) (h : singleSite n = some (m, b)) :
    Built m.legs (Expr.dot e (Expr.leaf (gateLegs n.nopen) G) b) :=
  absorb_built G h1 h

/-- `_apply_one_trotter_step_two_site` up to (not including) the split: `tensordot(tensordot(P, C), G)` -/
theorem twoSite_built {id1 id2 : Nat} {n1 n2 : MNode} {r : TwoSiteResult} {e1 e2 : Expr Leg R} (G : Asg Leg → R)
    (h1 : Built n1.legs e1) (h2 : Built n2.legs e2) (h : twoSite id1 n1 id2 n2 = some r) :
    ∃ ps, (n2.parent = some id1 ∧
            Built r.absorbed.legs (Expr.dot (Expr.dot e1 e2 ps) (Expr.leaf (gateLegs r.contr.nopen) G) r.binds)) ∨
          (n1.parent = some id2 ∧
            Built r.absorbed.legs (Expr.dot (Expr.dot e2 e1 ps) (Expr.leaf (gateLegs r.contr.nopen) G) r.binds)) := by
  obtain ⟨hc, ha⟩ := twoSite_stages h
  obtain ⟨ps, hps⟩ := contractNodes_built h1 h2 hc
  refine ⟨ps, ?_⟩
  rcases hps with ⟨hp, hb⟩ | ⟨hp, hb⟩
  · exact Or.inl ⟨hp, absorb_built G hb ha⟩
  · exact Or.inr ⟨hp, absorb_built G hb ha⟩

end Ptn.C08
