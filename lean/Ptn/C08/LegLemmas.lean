import Ptn.C08.Model
import Ptn.Common.Picks
/-! Helper lemmas for the leg bookkeeping of C08 (core Lean only, through `Ptn/Common/Picks.lean`): list surgery, the loop of
`open_legs_to_children`, `tensordot` on label lists. -/
namespace Ptn.C08

theorem dropAt_mid {α : Type} (X : List α) (x : α) (Y : List α) :
    dropAt (X ++ x :: Y) X.length = X ++ Y := by
  unfold dropAt
  rw [List.take_left, List.drop_length_add_append]
  simp

theorem pyInsert_mid {α : Type} (X Y : List α) (x : α) :
    pyInsert (X ++ Y) X.length x = X ++ x :: Y := by
  unfold pyInsert
  rw [List.take_left, List.drop_left]

theorem pyInsert_zero {α : Type} (Y : List α) (x : α) : pyInsert Y 0 x = x :: Y := by
  simp [pyInsert]

theorem childLoop_append (orig : Nat) (m : MNode) (e1 e2 : List (Nat × Nat × Leg)) :
    MNode.childLoop orig m (e1 ++ e2) =
      (MNode.childLoop orig m e1).bind (fun m' => MNode.childLoop orig m' e2) := by
  induction e1 generalizing m with
  | nil => simp [MNode.childLoop]
  | cons e es ih =>
    simp only [List.cons_append, MNode.childLoop]
    cases MNode.childStep orig m e with
    | none => simp
    | some m' => simp [ih]

/-- The loop of `open_legs_to_children`: the legs named by `es`, wherever they sit among the open legs
    `R`, move in dictionary order behind the virtual legs `X`; the children are registered and the other
    open legs keep their order. -/
theorem childLoop_move (orig : Nat) (es : List (Nat × Nat × Leg)) :
    ∀ (X R : List Leg) (m : MNode),
      m.legs = X ++ R → m.nvirt = X.length →
      (∀ e ∈ es, orig ≤ e.2.1) →
      (∀ x ∈ es.map (·.2.2), x ∉ X) → (∀ x ∈ es.map (·.2.2), x ∈ R) → (es.map (·.2.2)).Nodup →
      MNode.childLoop orig m es =
        some ⟨m.parent, m.children ++ es.map (·.1),
          X ++ (es.map (·.2.2) ++ (es.map (·.2.2)).foldl List.erase R)⟩ := by
  induction es with
  | nil =>
    intro X R m hl _ _ _ _ _
    cases m
    simp_all [MNode.childLoop]
  | cons e es ih =>
    intro X R m hl hnv hpos hX hR hnd
    obtain ⟨cid, pos, lbl⟩ := e
    simp only [List.map_cons, List.nodup_cons, List.forall_mem_cons] at hpos hX hR hnd
    have hstep : MNode.childStep orig m (cid, pos, lbl) =
        some ⟨m.parent, m.children ++ [cid], (X ++ [lbl]) ++ R.erase lbl⟩ := by
      unfold MNode.childStep
      have hmem : lbl ∈ m.legs := hl ▸ List.mem_append_right X hR.1
      simp only [Nat.not_lt.2 hpos.1, if_false, hmem, if_true]
      rw [hl, List.erase_append_right _ hX.1, hnv, pyInsert_mid, List.append_assoc]
      rfl
    -- a later label is not `lbl`, so it is still among the open legs and not among the virtual ones
    have hne : ∀ x ∈ es.map (·.2.2), x ≠ lbl := fun x hx e => hnd.1 (e ▸ hx)
    simp only [MNode.childLoop, hstep, Option.bind_some]
    rw [ih (X ++ [lbl]) (R.erase lbl) _ rfl _ hpos.2
      (fun x hx => by simpa using ⟨hX.2 x hx, hne x hx⟩)
      (fun x hx => (List.mem_erase_of_ne (hne x hx)).2 (hR.2 x hx)) hnd.2]
    · simp
    · simp only [MNode.nvirt, MNode.nparents, List.length_append, List.length_cons,
        List.length_nil] at hnv ⊢
      omega

theorem pick_eq {α : Type} (l : List α) : ∀ is, pick l is = pickL l is
  | [] => rfl
  | i :: is => by
    rw [pick, pick_eq l is, pickL_cons]
    cases l[i]? <;> cases pickL l is <;> rfl

theorem removeIdxs_eq {α : Type} (idx : List Nat) : ∀ (l : List α) (k : Nat), removeIdxs idx k l = dropIdx idx k l
  | [], _ => rfl
  | x :: xs, k => by simp only [removeIdxs, dropIdx, removeIdxs_eq idx xs]

/-- What the test of `splitNode` asks of the two index lists together (as many as there are legs, none twice): it
    holds when what they pick is every leg of the node exactly once. -/
theorem splitCheck {α : Type} (l : List α) (is : List Nat) (xs : List α)
    (hp : pick l is = some xs) (hperm : xs.Perm l) (hnd : l.Nodup) : is.length = l.length ∧ is.Nodup :=
  have hp' := (pick_eq l is).symm.trans hp
  ⟨(pickL_length hp').symm.trans hperm.length_eq, pickL_idx_nodup hp' (hperm.nodup_iff.2 hnd)⟩

theorem pick_append {α : Type} (l : List α) (a b : List Nat) (xa xb : List α)
    (ha : pick l a = some xa) (hb : pick l b = some xb) : pick l (a ++ b) = some (xa ++ xb) := by
  rw [pick_eq] at ha hb ⊢
  exact pickL_append ha hb

theorem pick_range' {α : Type} (X Y Z : List α) :
    pick (X ++ (Y ++ Z)) (List.range' X.length Y.length) = some Y := by
  rw [pick_eq, ← List.append_assoc]
  exact pickL_range' X Y Z

theorem tensordot_picks {la lb xa xb ra rb : List Leg} {axa axb : List Nat}
    (ha : Picks la axa xa ra) (hb : Picks lb axb xb rb) (hlen : axa.length = axb.length) :
    tensordot la lb axa axb = some (ra ++ rb, xa.zip xb) := by
  unfold tensordot
  rw [if_neg (fun h => h hlen), pick_eq, pick_eq, ha.pick, hb.pick, removeIdxs_eq, removeIdxs_eq, ha.rest, hb.rest]

theorem picks_suffix {α : Type} (V O : List α) : Picks (V ++ O) (List.range' V.length O.length) O V := by
  simpa using ((PicksAt.none 0 V).append (PicksAt.all _ O)).picks

theorem enumFrom_fst : ∀ (k : Nat) (ks : List Nat), (enumFrom k ks).map (·.1) = ks
  | _, [] => rfl
  | k, x :: xs => congrArg (x :: ·) (enumFrom_fst (k + 1) xs)

theorem enumFrom_snd : ∀ (k : Nat) (ks : List Nat), (enumFrom k ks).map (·.2) = List.range' k ks.length
  | _, [] => rfl
  | k, _ :: xs => congrArg (k :: ·) (enumFrom_snd (k + 1) xs)

theorem lookupLegs_of_pick (legs : List Leg) : ∀ (d : List (Nat × Nat)) (L : List Leg),
    pick legs (d.map (·.2)) = some L →
      ∃ es, MNode.lookupLegs legs d = some es ∧ es.map (·.1) = d.map (·.1) ∧ es.map (·.2.2) = L ∧
        es.map (·.2.1) = d.map (·.2)
  | [], L, h => by cases h; exact ⟨[], rfl, rfl, rfl, rfl⟩
  | (cid, pos) :: d, L, h => by
    simp only [List.map_cons, pick] at h
    split at h
    · next x r hx hr =>
      cases h
      obtain ⟨es, h1, h2, h3, h4⟩ := lookupLegs_of_pick legs d r hr
      exact ⟨(cid, pos, x) :: es, by simp only [MNode.lookupLegs, hx, h1], by simp only [List.map_cons, h2],
        by simp only [List.map_cons, h3], by simp only [List.map_cons, h4]⟩
    · cases h

/-- In `legs`, the child dictionary `d` names the children `I` and finds, at positions `≥ lo`, the labels `L`. -/
def Looks (legs : List Leg) (lo : Nat) (d : List (Nat × Nat)) (I : List Nat) (L : List Leg) : Prop :=
  d.map (·.1) = I ∧ pick legs (d.map (·.2)) = some L ∧ ∀ i ∈ d.map (·.2), lo ≤ i

theorem Looks.single {legs : List Leg} {lo cid pos : Nat} {x : Leg} (h : legs[pos]? = some x) (hlo : lo ≤ pos) :
    Looks legs lo [(cid, pos)] [cid] [x] :=
  ⟨rfl, (pick_eq legs [pos]).trans (pickL_single legs pos x h), by simpa using hlo⟩

theorem Looks.block {legs : List Leg} {lo : Nat} (X : List Leg) (ks : List Nat) (Y : List Leg)
    (h : legs = X ++ (ks.map Leg.nb ++ Y)) (hlo : lo ≤ X.length) :
    Looks legs lo (enumFrom X.length ks) ks (ks.map Leg.nb) := by
  refine ⟨enumFrom_fst _ _, ?_, fun i hi => ?_⟩
  · rw [enumFrom_snd, h, ← List.length_map (f := Leg.nb)]
    exact pick_range' X _ Y
  · rw [enumFrom_snd] at hi
    exact Nat.le_trans hlo (List.mem_range'_1.1 hi).1

theorem Looks.append {legs : List Leg} {lo : Nat} {d1 d2 : List (Nat × Nat)} {I1 I2 : List Nat}
    {L1 L2 : List Leg} (h1 : Looks legs lo d1 I1 L1) (h2 : Looks legs lo d2 I2 L2) :
    Looks legs lo (d1 ++ d2) (I1 ++ I2) (L1 ++ L2) :=
  ⟨by rw [List.map_append, h1.1, h2.1], by rw [List.map_append]; exact pick_append _ _ _ _ _ h1.2.1 h2.2.1,
    by rw [List.map_append]; exact List.forall_mem_append.2 ⟨h1.2.2, h2.2.2⟩⟩

/-- `open_legs_to_children` on a node with virtual legs `X` and open legs `R`: the legs `L` the dictionary finds move
    behind `X` in dictionary order, the remainder `R'` of `R` keeps its order. -/
theorem openLegsToChildren_move (m : MNode) (d : List (Nat × Nat)) (X R : List Leg) (I : List Nat)
    (L R' : List Leg) (hl : m.legs = X ++ R) (hnv : m.nvirt = X.length)
    (hlook : Looks m.legs X.length d I L)
    (hX : ∀ x ∈ L, x ∉ X) (hR : ∀ x ∈ L, x ∈ R) (hnd : L.Nodup) (hR' : L.foldl List.erase R = R') :
    m.openLegsToChildren d = some ⟨m.parent, m.children ++ I, X ++ (L ++ R')⟩ := by
  obtain ⟨rfl, hpk, hpos⟩ := hlook
  obtain ⟨es, hes, h1, rfl, h3⟩ := lookupLegs_of_pick m.legs d L hpk
  subst hR'
  unfold MNode.openLegsToChildren
  rw [hes, Option.bind_some, hnv, ← h1]
  exact childLoop_move _ es X R m hl hnv
    (fun e he => hpos _ (h3 ▸ List.mem_map_of_mem (f := (·.2.1)) he)) hX hR hnd

/-- `exchange_open_leg_ranges` on two adjacent blocks: every `take` / `drop` of the routine falls on a block boundary
    of `X ++ (O1 ++ O2)`, so each is evaluated by `take_left` / `drop_left` and the result is read off. -/
theorem exchangeRanges_blocks (X O1 O2 : List Leg) :
    exchangeRanges (X ++ (O1 ++ O2)) X.length (X.length + O1.length) (X.length + O1.length)
      (X ++ (O1 ++ O2)).length = some (X ++ (O2 ++ O1)) := by
  unfold exchangeRanges
  have h0 : ¬ (X.length + O1.length < X.length) := by omega
  simp only [h0, if_false]
  have h1 : ¬ (X.length + O1.length < X.length + O1.length) := by omega
  have hlen : (X ++ (O1 ++ O2)).length - (X.length + O1.length) = O2.length := by
    simp only [List.length_append]; omega
  have h2 : ¬ ((X ++ (O1 ++ O2)).length < X.length + O1.length + O2.length) := by
    simp only [List.length_append]; omega
  simp only [h1, if_false, hlen, h2]
  have e1 : X.length + O1.length - X.length = O1.length := by omega
  have d2 : List.drop (X.length + O1.length) (X ++ (O1 ++ O2)) = O2 := by
    rw [← List.append_assoc]
    exact List.drop_left' (by simp)
  have t2 : List.take (X.length + O1.length) (X ++ (O1 ++ O2)) = X ++ O1 := by
    rw [← List.append_assoc]
    exact List.take_left' (by simp)
  have d3 : List.drop (X.length + O1.length + O2.length) (X ++ (O1 ++ O2)) = [] := by
    apply List.drop_eq_nil_of_le
    simp only [List.length_append]; omega
  simp only [e1, d2, t2, d3, List.append_nil, List.take_left, List.drop_left, Nat.sub_self,
    Nat.add_zero]
  have t4 : List.take O2.length O2 = O2 := List.take_length
  have d5 : List.drop (X.length + O1.length) (X ++ O1) = [] := by
    apply List.drop_eq_nil_of_le
    simp
  have t6 : List.take O1.length O1 = O1 := List.take_length
  simp only [t4, d5, t6, List.append_nil]
  have t7 : List.take (X.length + O2.length) (X ++ O2) = X ++ O2 := by
    apply List.take_of_length_le; simp
  have d8 : List.drop (X.length + O2.length) (X ++ O2) = [] := by
    apply List.drop_eq_nil_of_le; simp
  simp [t7, d8]

end Ptn.C08
