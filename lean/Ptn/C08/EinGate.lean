import Ptn.Common.EinsumNet
/-! Value-level lemmas about gate applications on labelled tensor networks (generic in the label type `L`
and the commutative semiring `R`): `split_leaf_pairs_value` and `apply_gate_value` of the shared einsum layer composed
into one gate application (contract two nodes, absorb the gate, split again by an exact factorisation). -/
namespace Ptn.Ein

open Finset

variable {L : Type} [DecidableEq L] {R : Type} [CommSemiring R]

/-- **`absorb_into_open_legs` applies the gate to the whole network.**  `T` is one tensor of the network
(record `binds`, other tensors `rest`); `A` is `T` with the gate contracted into its open legs (`hA`, the
definition of `tensordot`). -/
theorem absorb_gate_value (dim : L → Nat) (binds gp : List (L × L)) (G T A : Asg L → R)
    (rest : List (Asg L → R)) {S SG : L → Prop}
    (hA : ∀ τ, A τ = sumPairs dim gp (fun ρ => G ρ * T ρ) τ)
    (hrest : ∀ f ∈ rest, DependsOn S f) (hgp : ∀ l ∈ Expr.pairLegs gp, ¬ S l)
    (hG : DependsOn SG G) (hdis : ∀ l ∈ Expr.pairLegs binds, ¬ SG l)
    (hnd : (Expr.pairLegs (binds ++ gp)).Nodup) (σ : Asg L) :
    netValue dim binds (A :: rest) σ =
      sumPairs dim gp (fun τ => G τ * netValue dim binds (T :: rest) τ) σ := by
  rw [← split_leaf_pairs_value dim binds gp A G T rest hA hrest hgp σ]
  exact apply_gate_value dim binds gp G (T :: rest) hG hdis hnd σ

/-- **One two-site gate application (value level).**  The network consists of the tensors `T₁, T₂` joined
by the bond `(b₁, b₂)`, further tensors `rest` and further bonds `bs`.  GIVEN

* `hC`  `C = Σ_{(b₁,b₂)} T₁·T₂`            (what `contract_nodes` computes: one `tensordot`),
* `hA`  `A = Σ_{gp} G·C`                    (what `absorb_into_open_legs` computes: one `tensordot`),
* `hUV` `A = Σ_{(q,r)} U·V`                 (the contract of `split_node_svd` with truncation disabled:
                                             an exact factorisation over a new bond),

and the side conditions that make the labelled network well formed (the rest of the network reads neither
the old nor the new bond nor the legs of `gp`; the gate reads no other bond; no leg of `bs`, `gp` is bound twice), the network in
which `T₁, T₂` are replaced by `U, V` and the bond by `(q, r)` has, for every assignment of the open legs,
the value `Σ_{gp} G · ψ` where `ψ` is the value of the old network. -/
theorem gate_application_value (dim : L → Nat) (bs gp : List (L × L)) (G T₁ T₂ C A U V : Asg L → R)
    (rest : List (Asg L → R)) (b₁ b₂ q r : L) {S SG : L → Prop}
    (hC : ∀ τ, C τ = sumPairs dim [(b₁, b₂)] (fun ρ => T₁ ρ * T₂ ρ) τ)
    (hA : ∀ τ, A τ = sumPairs dim gp (fun ρ => G ρ * C ρ) τ)
    (hUV : ∀ τ, A τ = sumPairs dim [(q, r)] (fun ρ => U ρ * V ρ) τ)
    (hrest : ∀ f ∈ rest, DependsOn S f)
    (hq : ¬ S q) (hr : ¬ S r) (hb₁ : ¬ S b₁) (hb₂ : ¬ S b₂) (hgp : ∀ l ∈ Expr.pairLegs gp, ¬ S l)
    (hG : DependsOn SG G) (hdis : ∀ l ∈ Expr.pairLegs bs, ¬ SG l)
    (hnd : (Expr.pairLegs (bs ++ gp)).Nodup) (σ : Asg L) :
    netValue dim (bs ++ [(q, r)]) (U :: V :: rest) σ =
      sumPairs dim gp (fun τ => G τ * netValue dim (bs ++ [(b₁, b₂)]) (T₁ :: T₂ :: rest) τ) σ := by
  rw [split_leaf_value dim bs A U V rest q r hUV hrest hq hr σ]
  rw [absorb_gate_value dim bs gp G C A rest hA hrest hgp hG hdis hnd σ]
  apply sumPairs_congr
  intro τ
  congr 1
  exact (split_leaf_value dim bs C T₁ T₂ rest b₁ b₂ hC hrest hb₁ hb₂ τ).symm

/-- the exact factorisation that always exists (bond of dimension one): used by the non-vacuity examples -/
theorem trivial_split (dim : L → Nat) (A : Asg L → R) (q r : L) {S : L → Prop} (hA : DependsOn S A)
    (hq : ¬ S q) (hr : ¬ S r) (hd : dim q = 1) (τ : Asg L) :
    A τ = sumPairs dim [(q, r)] (fun ρ => A ρ * (fun _ => (1 : R)) ρ) τ := by
  simp only [sumPairs, sumR_eq, hd, Finset.sum_range_one, mul_one]
  apply hA
  intro l hl
  have h1 : l ≠ q := fun e => hq (e ▸ hl)
  have h2 : l ≠ r := fun e => hr (e ▸ hl)
  simp [upd, h1, h2]

theorem dependsOn_contract (dim : L → Nat) (ps : List (L × L)) {S : L → Prop} {f g : Asg L → R}
    (hf : DependsOn S f) (hg : DependsOn S g) : DependsOn S (fun τ => sumPairs dim ps (fun ρ => f ρ * g ρ) τ) :=
  (sumPairs_dependsOn dim ps (hf.mul hg)).mono (fun _ hl => hl.1)

end Ptn.Ein
