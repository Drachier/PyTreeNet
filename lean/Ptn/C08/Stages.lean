import Ptn.C08.LegLemmas
namespace Ptn.C08

/-! Stage lemmas for the two-site application (C08).  `node pp ch O` is the canonical layout (parent leg, child legs
in child order, open legs `O`); per library routine one lemma about such nodes, then each call evaluated on the pair
`mkNode p pp (A ++ c :: B) oP`, `mkNode c (some p) K oC` for both argument orders (`twoSite_parentFirst`,
`twoSite_childFirst`); the single-site gate (`singleSite_mkNode`); tree level: what the gate does to the node table
(`applyPair_both`).  `PairOK` and its projections say what "a pair of one tree" gives. -/

theorem nparents_eq (par : Option Nat) (ch : List Nat) (l : List Leg) :
    (⟨par, ch, l⟩ : MNode).nparents = (parentLegs par).length := by
  cases par <;> simp [MNode.nparents, parentLegs]

@[simp] theorem mkNode_parent (id : Nat) (par : Option Nat) (ch : List Nat) (o : Nat) :
    (mkNode id par ch o).parent = par := rfl
@[simp] theorem mkNode_children (id : Nat) (par : Option Nat) (ch : List Nat) (o : Nat) :
    (mkNode id par ch o).children = ch := rfl
@[simp] theorem mkNode_legs (id : Nat) (par : Option Nat) (ch : List Nat) (o : Nat) :
    (mkNode id par ch o).legs = parentLegs par ++ (ch.map Leg.nb ++ physL id o) := rfl

@[simp] theorem physL_length (id o : Nat) : (physL id o).length = o := by simp [physL]
@[simp] theorem goutL_length (s n : Nat) : (goutL s n).length = n := by simp [goutL]

@[simp] theorem mkNode_nparents (id : Nat) (par : Option Nat) (ch : List Nat) (o : Nat) :
    (mkNode id par ch o).nparents = (parentLegs par).length := nparents_eq _ _ _

@[simp] theorem mkNode_nvirt (id : Nat) (par : Option Nat) (ch : List Nat) (o : Nat) :
    (mkNode id par ch o).nvirt = (parentLegs par).length + ch.length := by
  simp [MNode.nvirt]

@[simp] theorem mkNode_nlegs (id : Nat) (par : Option Nat) (ch : List Nat) (o : Nat) :
    (mkNode id par ch o).nlegs = (parentLegs par).length + (ch.length + o) := by
  simp [MNode.nlegs]

@[simp] theorem mkNode_nopen (id : Nat) (par : Option Nat) (ch : List Nat) (o : Nat) :
    (mkNode id par ch o).nopen = o := by
  simp only [MNode.nopen, mkNode_nlegs, mkNode_nvirt]; omega

/-- A node in canonical layout with any open legs `O`: parent leg, child legs in child order, then `O`.  The
    nodes of the pipeline (`mkNode id pp ch o` is `node pp ch (physL id o)` by definition; the contracted node, the node after the
    gate) differ in `O` only. -/
def node (pp : Option Nat) (ch : List Nat) (O : List Leg) : MNode :=
  ⟨pp, ch, parentLegs pp ++ (ch.map Leg.nb ++ O)⟩

theorem node_legs (pp : Option Nat) (ch : List Nat) (O : List Leg) :
    (node pp ch O).legs = (parentLegs pp ++ ch.map Leg.nb) ++ O := (List.append_assoc ..).symm

theorem node_nvirt (pp : Option Nat) (ch : List Nat) (O : List Leg) :
    (node pp ch O).nvirt = (parentLegs pp ++ ch.map Leg.nb).length := by
  rw [MNode.nvirt, node, nparents_eq, List.length_append, List.length_map]

theorem node_nlegs (pp : Option Nat) (ch : List Nat) (O : List Leg) :
    (node pp ch O).nlegs = ((parentLegs pp ++ ch.map Leg.nb) ++ O).length := by
  rw [MNode.nlegs, node_legs]

/-- All identifiers around the pair `p` (parent `pp`, children `A ++ c :: B`) and its child `c` (children `K`) are
    distinct (they are nodes of one tree). -/
def PairOK (p c : Nat) (pp : Option Nat) (A B K : List Nat) : Prop :=
  (pp.toList ++ p :: c :: (A ++ (B ++ K))).Nodup

namespace PairOK
variable {p c : Nat} {pp : Option Nat} {A B K : List Nat}

theorem tail (h : PairOK p c pp A B K) : (p :: c :: (A ++ (B ++ K))).Nodup :=
  (List.nodup_append.mp h).2.1

theorem ne (h : PairOK p c pp A B K) : p ≠ c :=
  fun e => (List.nodup_cons.mp h.tail).1 (e ▸ List.mem_cons_self)

theorem ne' (h : PairOK p c pp A B K) : c ≠ p := fun e => h.ne e.symm

theorem kids (h : PairOK p c pp A B K) : ((A ++ B) ++ K).Nodup :=
  List.append_assoc A B K ▸ (List.nodup_cons.mp (List.nodup_cons.mp h.tail).2).2

theorem nodupAB (h : PairOK p c pp A B K) : (A ++ B).Nodup := (List.nodup_append.mp h.kids).1

theorem nodupK (h : PairOK p c pp A B K) : K.Nodup := (List.nodup_append.mp h.kids).2.1

/-- the neighbours the contracted node keeps -/
theorem virt (h : PairOK p c pp A B K) : (pp.toList ++ ((A ++ B) ++ K)).Nodup :=
  List.nodup_append.mpr ⟨(List.nodup_append.mp h).1, h.kids, fun a ha b hb =>
    (List.nodup_append.mp h).2.2 a ha b
      (List.mem_cons_of_mem _ (List.mem_cons_of_mem _ (List.append_assoc A B K ▸ hb)))⟩

theorem c_notin_A (h : PairOK p c pp A B K) : c ∉ A :=
  fun hm => (List.nodup_cons.mp (List.nodup_cons.mp h.tail).2).1 (List.mem_append_left _ hm)

theorem p_notin_K (h : PairOK p c pp A B K) : p ∉ K :=
  fun hm => (List.nodup_cons.mp h.tail).1
    (List.mem_cons_of_mem _ (List.mem_append_right _ (List.mem_append_right _ hm)))

theorem pp_ne (h : PairOK p c pp A B K) : ∀ k ∈ p :: c :: (A ++ (B ++ K)), pp ≠ some k :=
  fun k hk e => (List.nodup_append.mp h).2.2 k (e ▸ List.mem_singleton_self k) k hk rfl

theorem pp_ne_c (h : PairOK p c pp A B K) : pp ≠ some c :=
  h.pp_ne c (List.mem_cons_of_mem _ List.mem_cons_self)

theorem pp_kids (h : PairOK p c pp A B K) : ∀ k ∈ (A ++ B) ++ K, pp ≠ some k := fun k hk =>
  h.pp_ne k (List.mem_cons_of_mem _ (List.mem_cons_of_mem _ (List.append_assoc A B K ▸ hk)))

theorem pp_AB (h : PairOK p c pp A B K) : ∀ k ∈ A ++ B, pp ≠ some k := fun k hk =>
  h.pp_kids k (List.mem_append_left K hk)

theorem pp_K (h : PairOK p c pp A B K) : ∀ k ∈ K, pp ≠ some k := fun k hk =>
  h.pp_kids k (List.mem_append_right (A ++ B) hk)

/-- what belongs to `P` (its parent, its children) is apart from what `C` sees (`p`, its children) -/
theorem sep (h : PairOK p c pp A B K) : ∀ x, x ∈ pp.toList ++ (A ++ c :: B) → x ≠ p ∧ x ∉ K := by
  have hperm : ((pp.toList ++ (A ++ c :: B)) ++ p :: K).Perm (pp.toList ++ p :: c :: (A ++ (B ++ K))) := by
    rw [List.perm_iff_count]
    intro a
    simp only [List.count_append, List.count_cons]
    omega
  have hd := (List.nodup_append.mp (hperm.nodup_iff.mpr h)).2.2
  exact fun x hx => ⟨fun e => hd x hx p List.mem_cons_self e, fun hk => hd x hx x (List.mem_cons_of_mem _ hk) rfl⟩

end PairOK

theorem legsBefore_parentFirst {p c : Nat} {pp : Option Nat} {A B K : List Nat} (oP oC : Nat)
    (h : PairOK p c pp A B K) :
    legsBeforeCombination p (mkNode p pp (A ++ c :: B) oP) c (mkNode c (some p) K oC) =
      some (⟨pp, A ++ B, List.range' ((parentLegs pp).length + ((A ++ B) ++ K).length) oP, pp.isNone⟩,
            ⟨none, K, List.range' ((parentLegs pp).length + ((A ++ B) ++ K).length + oP) oC, false⟩) := by
  unfold legsBeforeCombination
  simp only [mkNode_children, mkNode_parent, mkNode_nvirt, mkNode_nlegs, mkNode_nopen,
    h.p_notin_K, if_false, erase_mid B h.c_notin_A]
  have hmem : c ∈ A ++ c :: B := by simp
  simp only [hmem, if_true, Option.map_some]
  have e1 : (parentLegs pp).length + (A ++ c :: B).length + ((parentLegs (some p)).length + K.length) - 2
      = (parentLegs pp).length + ((A ++ B) ++ K).length := by
    apply Nat.sub_eq_of_eq_add
    simp only [parentLegs, List.length_append, List.length_cons, List.length_nil]
    omega
  have e2 : (parentLegs pp).length + ((A ++ c :: B).length + oP) +
      ((parentLegs (some p)).length + (K.length + oC)) - 2 -
      ((parentLegs pp).length + ((A ++ B) ++ K).length + oP) = oC := by
    apply Nat.sub_eq_of_eq_add
    apply Nat.sub_eq_of_eq_add
    simp only [parentLegs, List.length_append, List.length_cons, List.length_nil]
    omega
  rw [e1, e2]
  cases pp <;> simp

theorem legsBefore_childFirst {p c : Nat} {pp : Option Nat} {A B K : List Nat} (oP oC : Nat)
    (h : PairOK p c pp A B K) :
    legsBeforeCombination c (mkNode c (some p) K oC) p (mkNode p pp (A ++ c :: B) oP) =
      some (⟨none, K, List.range' ((parentLegs pp).length + (K ++ (A ++ B)).length) oC, false⟩,
            ⟨pp, A ++ B, List.range' ((parentLegs pp).length + (K ++ (A ++ B)).length + oC) oP, pp.isNone⟩) := by
  unfold legsBeforeCombination
  have hmem : c ∈ A ++ c :: B := by simp
  simp only [mkNode_children, mkNode_parent, mkNode_nvirt, mkNode_nlegs, mkNode_nopen,
    hmem, if_true, erase_mid B h.c_notin_A, Option.map_some]
  have e1 : (parentLegs (some p)).length + K.length + ((parentLegs pp).length + (A ++ c :: B).length) - 2
      = (parentLegs pp).length + (K ++ (A ++ B)).length := by
    apply Nat.sub_eq_of_eq_add
    simp only [parentLegs, List.length_append, List.length_cons, List.length_nil]
    omega
  have e2 : (parentLegs (some p)).length + (K.length + oC) +
      ((parentLegs pp).length + ((A ++ c :: B).length + oP)) - 2 -
      ((parentLegs pp).length + (K ++ (A ++ B)).length + oC) = oP := by
    apply Nat.sub_eq_of_eq_add
    apply Nat.sub_eq_of_eq_add
    simp only [parentLegs, List.length_append, List.length_cons, List.length_nil]
    omega
  rw [e1, e2]
  cases pp <;> simp

theorem openLegToParent_at (X : List Leg) (x : Leg) (Y : List Leg) (pid : Nat) :
    (⟨none, [], X ++ x :: Y⟩ : MNode).openLegToParent pid X.length = some ⟨some pid, [], x :: (X ++ Y)⟩ := by
  unfold MNode.openLegToParent
  simp [MNode.nopen, MNode.nlegs, MNode.nvirt, MNode.nparents, dropAt_mid, pyInsert_zero]

theorem openLegToParent_head (x : Leg) (rest : List Leg) (pid : Nat) :
    (⟨none, [], x :: rest⟩ : MNode).openLegToParent pid 0 = some ⟨some pid, [], x :: rest⟩ :=
  openLegToParent_at [] x rest pid

theorem openLegToParent_canon (q : Nat) (rest : List Leg) :
    (⟨none, [], parentLegs (some q) ++ rest⟩ : MNode).openLegToParent q 0 =
      some ⟨some q, [], parentLegs (some q) ++ rest⟩ :=
  openLegToParent_head _ _ _

theorem nb_notin_parentLegs (pp : Option Nat) (L : List Nat) (h : ∀ k ∈ L, pp ≠ some k) :
    ∀ k ∈ L, Leg.nb k ∉ parentLegs pp := by
  intro k hk hp
  cases pp with
  | none => simp [parentLegs] at hp
  | some q =>
    simp only [parentLegs, List.mem_singleton, Leg.nb.injEq] at hp
    exact h k hk (by rw [hp])

theorem nb_mem_map (k : Nat) (L : List Nat) : Leg.nb k ∈ L.map Leg.nb ↔ k ∈ L := by
  simp

theorem nb_notin_physL (k id o : Nat) : Leg.nb k ∉ physL id o := by simp [physL]
theorem nb_notin_goutL (k s n : Nat) : Leg.nb k ∉ goutL s n := by simp [goutL]

theorem nodup_map_nb (L : List Nat) (h : L.Nodup) : (L.map Leg.nb).Nodup := by
  unfold List.Nodup at h ⊢
  exact List.Pairwise.map Leg.nb (fun a b hab e => hab (Leg.nb.inj e)) h

/-- The legs of the contracted tensor as `_data_contraction` leaves them. -/
def rawLegs (p c : Nat) (pp : Option Nat) (A B K : List Nat) (oP oC : Nat) : List Leg :=
  parentLegs pp ++ ((A ++ B).map Leg.nb ++ (physL p oP ++ (K.map Leg.nb ++ physL c oC)))

theorem dataContraction {p c : Nat} {pp : Option Nat} {A B K : List Nat} (oP oC : Nat) :
    tensordot (mkNode p pp (A ++ c :: B) oP).legs (mkNode c (some p) K oC).legs
        [A.length + (parentLegs pp).length] [0] =
      some (rawLegs p c pp A B K oP oC, [(Leg.nb c, Leg.nb p)]) := by
  have hP : (mkNode p pp (A ++ c :: B) oP).legs =
      (parentLegs pp ++ A.map Leg.nb) ++ Leg.nb c :: (B.map Leg.nb ++ physL p oP) := by simp
  have hlen : A.length + (parentLegs pp).length = (parentLegs pp ++ A.map Leg.nb).length := by
    simp; omega
  rw [hP, hlen, tensordot_picks (Picks.single (getElem?_mid _ _ _))
    (Picks.single (l := (mkNode c (some p) K oC).legs) (i := 0) (x := Leg.nb p) rfl) rfl, eraseIdx_mid]
  simp [parentLegs, rawLegs]

theorem attachParent_node (pp : Option Nat) (rest : List Leg) :
    attachParent (⟨none, [], parentLegs pp ++ rest⟩ : MNode) pp = some (node pp [] rest) := by
  cases pp with
  | none => rfl
  | some x => exact openLegToParent_head _ _ _

theorem exchange_node (pp : Option Nat) (ch : List Nat) (O1 O2 : List Leg) (n1 : Nat) (h1 : n1 = O1.length) :
    exchangeRanges (node pp ch (O1 ++ O2)).legs (node pp ch (O1 ++ O2)).nvirt
        ((node pp ch (O1 ++ O2)).nvirt + n1) ((node pp ch (O1 ++ O2)).nvirt + n1) (node pp ch (O1 ++ O2)).nlegs =
      some (node pp ch (O2 ++ O1)).legs := by
  rw [node_nvirt, node_nlegs, node_legs, node_legs, h1]
  exact exchangeRanges_blocks _ O1 O2

/-- `_create_contracted_node`: two blocks of child legs, `AB` in place and `K` behind the open legs `P`,
    for the two orders of the child dictionary. -/
theorem contract_children (pp : Option Nat) (AB K : List Nat) (P C : List Leg) (k2 : Nat)
    (hk2 : k2 = (parentLegs pp ++ (AB.map Leg.nb ++ P)).length) (hnd : (AB ++ K).Nodup)
    (hAB : ∀ k ∈ AB, pp ≠ some k) (hK : ∀ k ∈ K, pp ≠ some k) (hP : ∀ k, Leg.nb k ∉ P) :
    (node pp [] (AB.map Leg.nb ++ (P ++ (K.map Leg.nb ++ C)))).openLegsToChildren
        (enumFrom (parentLegs pp).length AB ++ enumFrom k2 K) = some (node pp (AB ++ K) (P ++ C)) ∧
    (node pp [] (AB.map Leg.nb ++ (P ++ (K.map Leg.nb ++ C)))).openLegsToChildren
        (enumFrom k2 K ++ enumFrom (parentLegs pp).length AB) = some (node pp (K ++ AB) (P ++ C)) := by
  subst hk2
  have l1 : Looks (parentLegs pp ++ (AB.map Leg.nb ++ (P ++ (K.map Leg.nb ++ C)))) (parentLegs pp).length
      (enumFrom (parentLegs pp).length AB) AB (AB.map Leg.nb) :=
    Looks.block (parentLegs pp) AB (P ++ (K.map Leg.nb ++ C)) rfl (Nat.le_refl _)
  have l2 : Looks (parentLegs pp ++ (AB.map Leg.nb ++ (P ++ (K.map Leg.nb ++ C)))) (parentLegs pp).length
      (enumFrom (parentLegs pp ++ (AB.map Leg.nb ++ P)).length K) K (K.map Leg.nb) :=
    Looks.block (parentLegs pp ++ (AB.map Leg.nb ++ P)) K C (by simp) (by simp)
  have hnv : (node pp [] (AB.map Leg.nb ++ (P ++ (K.map Leg.nb ++ C)))).nvirt = (parentLegs pp).length := by
    rw [node_nvirt, List.map_nil, List.append_nil]
  have hx1 := nb_notin_parentLegs pp AB hAB
  have hx2 := nb_notin_parentLegs pp K hK
  have hKP : ∀ x ∈ K.map Leg.nb, x ∉ AB.map Leg.nb ++ P := fun x hx hm => by
    obtain ⟨k, hk, rfl⟩ := List.mem_map.1 hx
    rcases List.mem_append.1 hm with hm | hm
    · exact (List.nodup_append.1 hnd).2.2 k ((nb_mem_map k _).1 hm) k hk rfl
    · exact hP k hm
  constructor
  · exact (openLegsToChildren_move _ _ (parentLegs pp) (AB.map Leg.nb ++ (P ++ (K.map Leg.nb ++ C))) (AB ++ K) (AB.map Leg.nb ++ K.map Leg.nb) (P ++ C)
      rfl hnv (l1.append l2)
      (List.forall_mem_append.2 ⟨List.forall_mem_map.2 hx1, List.forall_mem_map.2 hx2⟩)
      (by simp +contextual [or_imp])
      (List.map_append ▸ nodup_map_nb _ hnd)
      (by rw [List.foldl_append, foldl_erase_prefix,
        foldl_erase_block P _ _ fun x hx hm => hKP x hx (List.mem_append_right _ hm)])).trans (by simp [node])
  · exact (openLegsToChildren_move _ _ (parentLegs pp) (AB.map Leg.nb ++ (P ++ (K.map Leg.nb ++ C))) (K ++ AB) (K.map Leg.nb ++ AB.map Leg.nb) (P ++ C)
      rfl hnv (l2.append l1)
      (List.forall_mem_append.2 ⟨List.forall_mem_map.2 hx2, List.forall_mem_map.2 hx1⟩)
      (by simp +contextual [or_imp])
      (List.map_append ▸ nodup_map_nb _ (List.perm_append_comm.nodup_iff.1 hnd))
      (by rw [List.foldl_append, ← List.append_assoc (AB.map Leg.nb), foldl_erase_block _ _ _ hKP,
        List.append_assoc (AB.map Leg.nb), foldl_erase_prefix])).trans (by simp [node])

/-- Where `_create_contracted_node` looks for the child's children: behind the parent's legs, one of which
    (the one toward the child) is gone. -/
theorem pos_K {p c : Nat} {pp : Option Nat} (A B : List Nat) (oP : Nat) :
    (parentLegs pp).length + ((A ++ c :: B).length + oP) - 1 =
      (parentLegs pp ++ ((A ++ B).map Leg.nb ++ physL p oP)).length := by
  apply Nat.sub_eq_of_eq_add
  simp only [List.length_append, List.length_cons, List.length_map, physL_length]
  omega

theorem neighbourIndex_child {p c : Nat} {pp : Option Nat} {A B K : List Nat} (oP : Nat)
    (h : PairOK p c pp A B K) :
    (mkNode p pp (A ++ c :: B) oP).neighbourIndex c = some (A.length + (parentLegs pp).length) := by
  unfold MNode.neighbourIndex
  have hm : c ∈ A ++ c :: B := by simp
  simp only [mkNode_parent, h.pp_ne_c, if_false, mkNode_children, hm, if_true, mkNode_nparents]
  rw [idxOf_mid B h.c_notin_A]

theorem contract_parentFirst {p c : Nat} {pp : Option Nat} {A B K : List Nat} (oP oC : Nat)
    (h : PairOK p c pp A B K) :
    contractNodes p (mkNode p pp (A ++ c :: B) oP) c (mkNode c (some p) K oC) =
      some (node pp ((A ++ B) ++ K) (physL p oP ++ physL c oC)) := by
  unfold contractNodes
  simp only [mkNode_parent, if_true, Option.bind_some, neighbourIndex_child oP h, dataContraction, rawLegs]
  rw [attachParent_node, Option.bind_some]
  simp only [erase_mid B h.c_notin_A, mkNode_nparents, mkNode_nlegs, mkNode_children,
    mkNode_nopen]
  rw [(contract_children pp (A ++ B) K (physL p oP) (physL c oC) _ (pos_K A B oP) h.kids h.pp_AB h.pp_K
    fun k => nb_notin_physL k p oP).1, Option.bind_some]
  simp

theorem contract_childFirst {p c : Nat} {pp : Option Nat} {A B K : List Nat} (oP oC : Nat)
    (h : PairOK p c pp A B K) :
    contractNodes c (mkNode c (some p) K oC) p (mkNode p pp (A ++ c :: B) oP) =
      some (node pp (K ++ (A ++ B)) (physL c oC ++ physL p oP)) := by
  unfold contractNodes
  simp only [mkNode_parent, h.pp_ne_c, if_false, if_true, Option.bind_some,
    neighbourIndex_child oP h, dataContraction, rawLegs]
  rw [attachParent_node, Option.bind_some]
  simp only [h.ne, if_false, erase_mid B h.c_notin_A, mkNode_nparents, mkNode_nlegs, mkNode_children,
    mkNode_nopen]
  rw [(contract_children pp (A ++ B) K (physL p oP) (physL c oC) _ (pos_K A B oP) h.kids h.pp_AB h.pp_K
    fun k => nb_notin_physL k p oP).2, Option.bind_some]
  simp only [ne_eq, h.ne', not_false_eq_true, if_true]
  rw [exchange_node pp _ _ _ oP (physL_length p oP).symm]
  rfl

theorem absorb_general (n : MNode) (V O : List Leg) (hl : n.legs = V ++ O)
    (hnv : n.nvirt = V.length) :
    absorbIntoOpenLegs n (gateLegs n.nopen) =
      some (⟨n.parent, n.children, V ++ (List.range O.length).map Leg.gout⟩,
            O.zip ((List.range O.length).map Leg.gin)) := by
  have hno : n.nopen = O.length := by
    simp only [MNode.nopen, MNode.nlegs, hl, hnv, List.length_append]; omega
  unfold absorbIntoOpenLegs
  rw [hno]
  have h1 : ¬ ((gateLegs O.length).length ≠ 2 * O.length) := by simp [gateLegs]; omega
  simp only [h1, if_false]
  have hopen : n.openLegs = List.range' V.length O.length := by
    simp only [MNode.openLegs, MNode.nlegs, hl, hnv, List.length_append]
    congr 1; omega
  rw [hopen, map_add_range, hl]
  have hG : Picks (gateLegs O.length) (List.range' O.length O.length) ((List.range O.length).map Leg.gin)
      ((List.range O.length).map Leg.gout) := by
    simpa [gateLegs] using picks_suffix ((List.range O.length).map Leg.gout) ((List.range O.length).map Leg.gin)
  rw [tensordot_picks (picks_suffix V O) hG (by simp)]
  rfl

theorem range_map_gout (a b : Nat) :
    (List.range (a + b)).map Leg.gout = goutL 0 a ++ goutL a b := by
  unfold goutL
  rw [← List.map_append, List.range_eq_range']
  congr 1
  have := @List.range'_append 0 a b 1
  simp at this
  exact this.symm

theorem parentIdx_pick (pp : Option Nat) (rest : List Leg) :
    pick (parentLegs pp ++ rest) (if pp.isSome then [0] else []) = some (parentLegs pp) := by
  cases pp <;> simp [parentLegs, pick]

/-- A child's leg is found by name: whatever position `neighbour_index` returns, it carries the child's label,
    because the virtual legs sit in the order of the child list. -/
theorem neighbourIndex_leg (n : MNode) (O : List Leg)
    (hl : n.legs = parentLegs n.parent ++ (n.children.map Leg.nb ++ O)) (k : Nat) (hk : k ∈ n.children)
    (hp : n.parent ≠ some k) : ∃ i, n.neighbourIndex k = some i ∧ n.legs[i]? = some (Leg.nb k) := by
  refine ⟨n.children.idxOf k + n.nparents, by simp [MNode.neighbourIndex, hp, hk], ?_⟩
  have hnp : n.nparents = (parentLegs n.parent).length := by
    cases n; exact nparents_eq _ _ _
  have hi : n.children.idxOf k < n.children.length := List.idxOf_lt_length_of_mem hk
  rw [hl, hnp, Nat.add_comm, List.getElem?_append_right (Nat.le_add_right _ _), Nat.add_sub_cancel_left,
    List.getElem?_append_left (by simpa using hi), List.getElem?_map, List.getElem?_eq_getElem hi,
    List.getElem_idxOf hi]
  rfl

theorem neighbourIndices_legs (n : MNode) (O : List Leg)
    (hl : n.legs = parentLegs n.parent ++ (n.children.map Leg.nb ++ O)) :
    ∀ ks : List Nat, (∀ k ∈ ks, k ∈ n.children) → (∀ k ∈ ks, n.parent ≠ some k) →
      ∃ idx, neighbourIndices n ks = some idx ∧ pick n.legs idx = some (ks.map Leg.nb)
  | [], _, _ => ⟨[], rfl, rfl⟩
  | k :: ks, h1, h2 => by
    obtain ⟨i, hi, hx⟩ := neighbourIndex_leg n O hl k (h1 k List.mem_cons_self) (h2 k List.mem_cons_self)
    obtain ⟨idx, hidx, hpk⟩ := neighbourIndices_legs n O hl ks
      (fun k' hk' => h1 k' (List.mem_cons_of_mem _ hk')) (fun k' hk' => h2 k' (List.mem_cons_of_mem _ hk'))
    exact ⟨i :: idx, by simp only [neighbourIndices, hi, hidx], by simp only [pick, hx, hpk, List.map_cons]⟩

/-- `find_leg_values` of a recorded specification and the legs it selects: the parent leg if the specification
    has one, the legs of the children `ks` (found by name), the block `Gs` of open legs (found by position). -/
theorem spec_pick (n : MNode) (pl : Option Nat) (ks : List Nat) (X Gs G3 O : List Leg)
    (r : Bool) (s : Nat)
    (hl : n.legs = parentLegs n.parent ++ (n.children.map Leg.nb ++ O)) (hX : n.legs = X ++ (Gs ++ G3))
    (hs : s = X.length) (hpl : pl = none ∨ pl = n.parent)
    (hks : ∀ k ∈ ks, k ∈ n.children) (hpp : ∀ k ∈ ks, n.parent ≠ some k) :
    ∃ iv, (⟨pl, ks, List.range' s Gs.length, r⟩ : LegSpec).findLegValues n = some iv ∧
      pick n.legs iv = some (parentLegs pl ++ (ks.map Leg.nb ++ Gs)) := by
  obtain ⟨idx, hidx, hpk⟩ := neighbourIndices_legs n O hl ks hks hpp
  refine ⟨(if pl.isSome then [0] else []) ++ idx ++ List.range' s Gs.length,
    by simp only [LegSpec.findLegValues, hidx, Option.map_some], ?_⟩
  rw [List.append_assoc]
  refine pick_append _ _ _ _ _ ?_ (pick_append _ _ _ _ _ hpk ?_)
  · rcases hpl with rfl | rfl
    · rfl
    · rw [hl]; exact parentIdx_pick _ _
  · rw [hX, hs]; exact pick_range' X Gs G3

theorem openLegToParent_last (Y : List Leg) (x : Leg) (pid : Nat) :
    (⟨none, [], Y ++ [x]⟩ : MNode).openLegToParent pid ((⟨none, [], Y ++ [x]⟩ : MNode).nlegs - 1) =
      some ⟨some pid, [], x :: Y⟩ := by
  have := openLegToParent_at Y x [] pid
  rwa [List.append_nil, show Y.length = (⟨none, [], Y ++ [x]⟩ : MNode).nlegs - 1 by simp [MNode.nlegs]] at this

theorem openLegToParent_second (b x : Leg) (rest : List Leg) (pid : Nat) :
    (⟨none, [], b :: x :: rest⟩ : MNode).openLegToParent pid 1 = some ⟨some pid, [], x :: b :: rest⟩ :=
  openLegToParent_at [b] x rest pid

theorem openLegToParent_canon1 (q : Nat) (b : Leg) (rest : List Leg) :
    (⟨none, [], b :: (parentLegs (some q) ++ rest)⟩ : MNode).openLegToParent q 1 =
      some ⟨some q, [], parentLegs (some q) ++ b :: rest⟩ :=
  openLegToParent_second _ _ _ _

/-- The child node after the split: the new bond is its parent leg, children in recorded order. -/
theorem childNode_children (pid : Nat) (K : List Nat) (G : List Leg) (hK : K.Nodup) :
    (⟨some pid, [], Leg.bond :: (K.map Leg.nb ++ G)⟩ : MNode).openLegsToChildren (enumFrom 1 K) =
      some ⟨some pid, K, Leg.bond :: (K.map Leg.nb ++ G)⟩ := by
  exact (openLegsToChildren_move _ _ [Leg.bond] (K.map Leg.nb ++ G) K (K.map Leg.nb) G rfl
    (by simp [MNode.nvirt, MNode.nparents]) (Looks.block [Leg.bond] K G rfl (Nat.le_refl _)) (by simp)
    (fun x hx => List.mem_append_left _ hx) (nodup_map_nb _ hK) (foldl_erase_prefix _ _)).trans (by simp)

theorem bond_notin_parentLegs (pp : Option Nat) : Leg.bond ∉ parentLegs pp := by
  cases pp <;> simp [parentLegs]

/-- The parent node after the split when it is the out (U) node: the bond, created last (position
    `nlegs - 1`), becomes the first child leg. -/
theorem parentNode_out (pp : Option Nat) (cid : Nat) (AB : List Nat) (G : List Leg)
    (hAB : AB.Nodup) (hpp : ∀ k ∈ AB, pp ≠ some k) (hbG : Leg.bond ∉ G) :
    (⟨pp, [], parentLegs pp ++ ((AB.map Leg.nb ++ G) ++ [Leg.bond])⟩ : MNode).openLegsToChildren
        ([(cid, (⟨pp, [], parentLegs pp ++ ((AB.map Leg.nb ++ G) ++ [Leg.bond])⟩ : MNode).nlegs - 1)] ++
          enumFrom (parentLegs pp).length AB) =
      some ⟨pp, cid :: AB, parentLegs pp ++ (Leg.bond :: (AB.map Leg.nb ++ G))⟩ := by
  have hpos : (⟨pp, [], parentLegs pp ++ ((AB.map Leg.nb ++ G) ++ [Leg.bond])⟩ : MNode).nlegs - 1 =
      (parentLegs pp ++ (AB.map Leg.nb ++ G)).length := by
    simp only [MNode.nlegs, List.length_append, List.length_cons, List.length_nil]
    omega
  have hb : Leg.bond ∉ AB.map Leg.nb ++ G := by simpa using hbG
  rw [hpos]
  exact (openLegsToChildren_move _ _ (parentLegs pp) _ (cid :: AB) (Leg.bond :: AB.map Leg.nb) G rfl
    (by simp [MNode.nvirt, nparents_eq])
    ((Looks.single (List.append_assoc _ _ [Leg.bond] ▸ getElem?_mid _ _ _) (by simp)).append
      (Looks.block (parentLegs pp) AB (G ++ [Leg.bond]) (by simp) (Nat.le_refl _)))
    (List.forall_mem_cons.2 ⟨bond_notin_parentLegs pp, List.forall_mem_map.2 (nb_notin_parentLegs pp AB hpp)⟩)
    (by simp +contextual [or_imp])
    (List.nodup_cons.2 ⟨by simp, nodup_map_nb _ hAB⟩)
    (by rw [List.foldl_cons, erase_mid _ hb, List.append_nil, foldl_erase_prefix])).trans (by simp)

/-- The parent node after the split when it is the in (V) node: the bond, created first, stays the
    first child leg. -/
theorem parentNode_in (pp : Option Nat) (cid : Nat) (AB : List Nat) (G : List Leg)
    (hAB : AB.Nodup) (hpp : ∀ k ∈ AB, pp ≠ some k) :
    (⟨pp, [], parentLegs pp ++ (Leg.bond :: (AB.map Leg.nb ++ G))⟩ : MNode).openLegsToChildren
        ([(cid, (parentLegs pp).length)] ++ enumFrom ((parentLegs pp).length + 1) AB) =
      some ⟨pp, cid :: AB, parentLegs pp ++ (Leg.bond :: (AB.map Leg.nb ++ G))⟩ := by
  have hblock : Looks (parentLegs pp ++ (Leg.bond :: (AB.map Leg.nb ++ G))) (parentLegs pp).length
      (enumFrom ((parentLegs pp).length + 1) AB) AB (AB.map Leg.nb) := by
    have := Looks.block (lo := (parentLegs pp).length) (parentLegs pp ++ [Leg.bond]) AB G
      (legs := parentLegs pp ++ (Leg.bond :: (AB.map Leg.nb ++ G))) (by simp) (by simp)
    simpa using this
  exact (openLegsToChildren_move _ _ (parentLegs pp) _ (cid :: AB) (Leg.bond :: AB.map Leg.nb) G rfl
    (by simp [MNode.nvirt, nparents_eq])
    ((Looks.single (getElem?_mid _ _ _) (Nat.le_refl _)).append hblock)
    (List.forall_mem_cons.2 ⟨bond_notin_parentLegs pp, List.forall_mem_map.2 (nb_notin_parentLegs pp AB hpp)⟩)
    (fun x hx => List.mem_append_left G hx)
    (List.nodup_cons.2 ⟨by simp, nodup_map_nb _ hAB⟩)
    (foldl_erase_prefix (Leg.bond :: AB.map Leg.nb) G)).trans (by simp)

theorem bond_notin_goutL (s n : Nat) : Leg.bond ∉ goutL s n := by simp [goutL]

theorem parentLegs_eq_map (pp : Option Nat) : parentLegs pp = pp.toList.map Leg.nb := by
  cases pp <;> rfl

theorem nodup_leg_kinds {N : List Nat} {P : List Leg} (hN : N.Nodup) (hP : P.Nodup)
    (hPk : ∀ l ∈ P, ∃ a k, l = Leg.phys a k) (n m : Nat) :
    (N.map Leg.nb ++ (P ++ ((List.range n).map Leg.gout ++ (List.range m).map Leg.gin))).Nodup := by
  rw [List.nodup_append]
  refine ⟨nodup_map_nb N hN, ?_, ?_⟩
  · rw [List.nodup_append]
    refine ⟨hP, ?_, ?_⟩
    · rw [List.nodup_append]
      refine ⟨List.Pairwise.map Leg.gout (fun i j hij e => hij (Leg.gout.inj e)) List.nodup_range,
        List.Pairwise.map Leg.gin (fun i j hij e => hij (Leg.gin.inj e)) List.nodup_range, ?_⟩
      intro a ha b hb hab
      obtain ⟨i, _, rfl⟩ := List.mem_map.1 ha
      obtain ⟨j, _, rfl⟩ := List.mem_map.1 hb
      cases hab
    · intro a ha b hb hab
      obtain ⟨i, k, rfl⟩ := hPk a ha
      simp only [List.mem_append, List.mem_map] at hb
      rcases hb with ⟨j, _, rfl⟩ | ⟨j, _, rfl⟩ <;> cases hab
  · intro a ha b hb hab
    obtain ⟨i, _, rfl⟩ := List.mem_map.1 ha
    simp only [List.mem_append, List.mem_map] at hb
    rcases hb with hb | ⟨j, _, rfl⟩ | ⟨j, _, rfl⟩
    · obtain ⟨x, k, rfl⟩ := hPk b hb
      cases hab
    · cases hab
    · cases hab

theorem node_nodup {pp : Option Nat} {ch : List Nat} (h : (pp.toList ++ ch).Nodup) (a b : Nat) :
    (node pp ch (goutL 0 a ++ goutL a b)).legs.Nodup := by
  have := nodup_leg_kinds h List.nodup_nil (fun _ hl => nomatch hl) (a + b) 0
  rwa [List.nil_append, List.range_zero, List.map_nil, List.append_nil, range_map_gout, List.map_append,
    ← parentLegs_eq_map, List.append_assoc] at this

theorem absorb_node (pp : Option Nat) (ch : List Nat) (O : List Leg) :
    absorbIntoOpenLegs (node pp ch O) (gateLegs (node pp ch O).nopen) =
      some (node pp ch ((List.range O.length).map Leg.gout), O.zip ((List.range O.length).map Leg.gin)) := by
  rw [absorb_general _ _ O (node_legs pp ch O) (node_nvirt pp ch O), List.append_assoc]
  rfl

/-- The selection phase of `split_nodes` on a canonical node whose open legs are two blocks: each specification
names some of the neighbours and one block; together they name every leg once, so the permutation test passes. -/
theorem split_select (pp : Option Nat) (ch : List Nat) (G1 G2 : List Leg)
    (pl1 pl2 : Option Nat) (ks1 ks2 : List Nat) (r1 r2 : Bool) (s : Nat)
    (hs : s = (parentLegs pp).length + ch.length)
    (hpl : (pl1 = pp ∧ pl2 = none) ∨ (pl1 = none ∧ pl2 = pp))
    (hks : (ks1 ++ ks2).Perm ch) (hpp : ∀ k ∈ ch, pp ≠ some k)
    (hnd : (node pp ch (G1 ++ G2)).legs.Nodup) :
    ∃ ov iv,
      (⟨pl1, ks1, List.range' s G1.length, r1⟩ : LegSpec).findLegValues (node pp ch (G1 ++ G2)) = some ov ∧
      (⟨pl2, ks2, List.range' (s + G1.length) G2.length, r2⟩ : LegSpec).findLegValues (node pp ch (G1 ++ G2)) =
        some iv ∧
      pick (node pp ch (G1 ++ G2)).legs ov = some (parentLegs pl1 ++ (ks1.map Leg.nb ++ G1)) ∧
      pick (node pp ch (G1 ++ G2)).legs iv = some (parentLegs pl2 ++ (ks2.map Leg.nb ++ G2)) ∧
      ¬ ((ov ++ iv).length ≠ (node pp ch (G1 ++ G2)).nlegs ∨ ¬ (ov ++ iv).Nodup) := by
  have hsub : ∀ k, k ∈ ks1 ∨ k ∈ ks2 → k ∈ ch := fun k hk => hks.mem_iff.1 (List.mem_append.2 hk)
  obtain ⟨ov, ho, hpo⟩ := spec_pick (node pp ch (G1 ++ G2)) pl1 ks1 (parentLegs pp ++ ch.map Leg.nb) G1 G2
    (G1 ++ G2) r1 s rfl (node_legs _ _ _) (by rw [hs, List.length_append, List.length_map])
    (hpl.elim (fun h => Or.inr h.1) (fun h => Or.inl h.1))
    (fun k hk => hsub k (Or.inl hk)) (fun k hk => hpp k (hsub k (Or.inl hk)))
  obtain ⟨iv, hi, hpi⟩ := spec_pick (node pp ch (G1 ++ G2)) pl2 ks2 (parentLegs pp ++ (ch.map Leg.nb ++ G1)) G2 []
    (G1 ++ G2) r2 (s + G1.length) rfl (by simp [node])
    (by rw [hs, List.length_append, List.length_append, List.length_map, Nat.add_assoc])
    (hpl.elim (fun h => Or.inl h.2) (fun h => Or.inr h.2))
    (fun k hk => hsub k (Or.inr hk)) (fun k hk => hpp k (hsub k (Or.inr hk)))
  have hperm : ((parentLegs pl1 ++ (ks1.map Leg.nb ++ G1)) ++ (parentLegs pl2 ++ (ks2.map Leg.nb ++ G2))).Perm
      (node pp ch (G1 ++ G2)).legs := by
    rw [List.perm_iff_count]
    intro a
    have hc := (hks.map Leg.nb).count_eq a
    rw [List.map_append, List.count_append] at hc
    rcases hpl with ⟨rfl, rfl⟩ | ⟨rfl, rfl⟩ <;>
      simp only [node, parentLegs, List.count_append, List.count_nil] <;> omega
  have hc := splitCheck _ _ _ (pick_append _ _ _ _ _ hpo hpi) hperm hnd
  exact ⟨ov, iv, ho, hi, hpo, hpi, fun h => h.elim (fun h => h hc.1) (fun h => h hc.2)⟩

theorem split_parentFirst {p c : Nat} {pp : Option Nat} {A B K : List Nat} (oP oC : Nat)
    (h : PairOK p c pp A B K) :
    splitNode (node pp ((A ++ B) ++ K) (goutL 0 oP ++ goutL oP oC))
      ⟨pp, A ++ B, List.range' ((parentLegs pp).length + ((A ++ B) ++ K).length) oP, pp.isNone⟩
      ⟨none, K, List.range' ((parentLegs pp).length + ((A ++ B) ++ K).length + oP) oC, false⟩
      p c =
    some (⟨pp, c :: (A ++ B), parentLegs pp ++ (Leg.bond :: ((A ++ B).map Leg.nb ++ goutL 0 oP))⟩,
          ⟨some p, K, Leg.bond :: (K.map Leg.nb ++ goutL oP oC)⟩) := by
  obtain ⟨ov, iv, ho, hi, hpo, hpi, hck⟩ := split_select pp ((A ++ B) ++ K) (goutL 0 oP) (goutL oP oC) pp none (A ++ B) K
    pp.isNone false _ rfl (Or.inl ⟨rfl, rfl⟩) (List.Perm.refl _)
    h.pp_kids
    (node_nodup h.virt oP oC)
  simp only [goutL_length] at ho hi
  unfold splitNode
  rw [ho, hi]
  simp only [Option.bind_some, if_neg hck, hpo, hpi, Option.isSome_none, Bool.false_eq_true, if_false]
  rw [show parentLegs none = [] from rfl, List.nil_append, openLegToParent_head, Option.bind_some,
    childNode_children p K (goutL oP oC) h.nodupK, Option.bind_some, List.append_assoc]
  have hout := parentNode_out pp c (A ++ B) (goutL 0 oP) h.nodupAB h.pp_AB (bond_notin_goutL _ _)
  cases pp with
  | none =>
    simp only [Option.isNone_none, if_true, Option.bind_some, Bool.or_self, Bool.false_eq_true,
      if_false]
    exact Option.bind_eq_some_iff.2 ⟨_, hout, rfl⟩
  | some x =>
    simp only [Option.isNone_some, Bool.false_eq_true, if_false, Bool.or_self, Option.isSome_some,
      if_true]
    rw [openLegToParent_canon, Option.bind_some, Option.bind_some]
    exact Option.bind_eq_some_iff.2 ⟨_, hout, rfl⟩

theorem split_childFirst {p c : Nat} {pp : Option Nat} {A B K : List Nat} (oP oC : Nat)
    (h : PairOK p c pp A B K) :
    splitNode (node pp (K ++ (A ++ B)) (goutL 0 oC ++ goutL oC oP))
      ⟨none, K, List.range' ((parentLegs pp).length + (K ++ (A ++ B)).length) oC, false⟩
      ⟨pp, A ++ B, List.range' ((parentLegs pp).length + (K ++ (A ++ B)).length + oC) oP, pp.isNone⟩
      c p =
    some (⟨some p, K, Leg.bond :: (K.map Leg.nb ++ goutL 0 oC)⟩,
          ⟨pp, c :: (A ++ B), parentLegs pp ++ (Leg.bond :: ((A ++ B).map Leg.nb ++ goutL oC oP))⟩) := by
  have hv := (List.perm_append_comm.append_left _).nodup_iff.1 h.virt
  obtain ⟨ov, iv, ho, hi, hpo, hpi, hck⟩ := split_select pp (K ++ (A ++ B)) (goutL 0 oC) (goutL oC oP) none pp K (A ++ B)
    false pp.isNone _ rfl (Or.inr ⟨rfl, rfl⟩) (List.Perm.refl _)
    (fun k hk => h.pp_kids k (List.perm_append_comm.mem_iff.1 hk))
    (node_nodup hv oC oP)
  simp only [goutL_length] at ho hi
  unfold splitNode
  rw [ho, hi]
  simp only [Option.bind_some, if_neg hck, hpo, hpi, Option.isSome_none, Bool.false_eq_true, if_false]
  rw [show parentLegs none = [] from rfl, List.nil_append, openLegToParent_last]
  have hin := parentNode_in pp c (A ++ B) (goutL oC oP) h.nodupAB h.pp_AB
  cases pp with
  | none =>
    simp only [Option.isNone_none, if_true, Option.bind_some, Bool.true_or]
    rw [childNode_children p K (goutL 0 oC) h.nodupK]
    exact Option.bind_eq_some_iff.2 ⟨_, hin, rfl⟩
  | some x =>
    simp only [Option.isNone_some, Bool.false_eq_true, if_false, Option.isSome_some, if_true,
      Bool.false_or, Option.bind_some]
    rw [openLegToParent_canon1, Option.bind_some, childNode_children p K (goutL 0 oC) h.nodupK]
    exact Option.bind_eq_some_iff.2 ⟨_, hin, rfl⟩

theorem twoSite_parentFirst {p c : Nat} {pp : Option Nat} {A B K : List Nat} (oP oC : Nat)
    (h : PairOK p c pp A B K) :
    twoSite p (mkNode p pp (A ++ c :: B) oP) c (mkNode c (some p) K oC) =
      some ⟨⟨pp, A ++ B, List.range' ((parentLegs pp).length + ((A ++ B) ++ K).length) oP, pp.isNone⟩,
            ⟨none, K, List.range' ((parentLegs pp).length + ((A ++ B) ++ K).length + oP) oC, false⟩,
            node pp ((A ++ B) ++ K) (physL p oP ++ physL c oC),
            node pp ((A ++ B) ++ K) (goutL 0 oP ++ goutL oP oC),
            (physL p oP ++ physL c oC).zip ((List.range (oP + oC)).map Leg.gin),
            ⟨pp, c :: (A ++ B), parentLegs pp ++ (Leg.bond :: ((A ++ B).map Leg.nb ++ goutL 0 oP))⟩,
            ⟨some p, K, Leg.bond :: (K.map Leg.nb ++ goutL oP oC)⟩⟩ := by
  have ha := absorb_node pp ((A ++ B) ++ K) (physL p oP ++ physL c oC)
  rw [List.length_append, physL_length, physL_length, range_map_gout] at ha
  unfold twoSite
  simp only [legsBefore_parentFirst oP oC h, contract_parentFirst oP oC h, ha, split_parentFirst oP oC h,
    Option.bind_some]

theorem twoSite_childFirst {p c : Nat} {pp : Option Nat} {A B K : List Nat} (oP oC : Nat)
    (h : PairOK p c pp A B K) :
    twoSite c (mkNode c (some p) K oC) p (mkNode p pp (A ++ c :: B) oP) =
      some ⟨⟨none, K, List.range' ((parentLegs pp).length + (K ++ (A ++ B)).length) oC, false⟩,
            ⟨pp, A ++ B, List.range' ((parentLegs pp).length + (K ++ (A ++ B)).length + oC) oP, pp.isNone⟩,
            node pp (K ++ (A ++ B)) (physL c oC ++ physL p oP),
            node pp (K ++ (A ++ B)) (goutL 0 oC ++ goutL oC oP),
            (physL c oC ++ physL p oP).zip ((List.range (oC + oP)).map Leg.gin),
            ⟨some p, K, Leg.bond :: (K.map Leg.nb ++ goutL 0 oC)⟩,
            ⟨pp, c :: (A ++ B), parentLegs pp ++ (Leg.bond :: ((A ++ B).map Leg.nb ++ goutL oC oP))⟩⟩ := by
  have ha := absorb_node pp (K ++ (A ++ B)) (physL c oC ++ physL p oP)
  rw [List.length_append, physL_length, physL_length, range_map_gout] at ha
  unfold twoSite
  simp only [legsBefore_childFirst oP oC h, contract_childFirst oP oC h, ha, split_childFirst oP oC h,
    Option.bind_some]

theorem twoSite_stages {id1 id2 : Nat} {n1 n2 : MNode} {r : TwoSiteResult} (h : twoSite id1 n1 id2 n2 = some r) :
    contractNodes id1 n1 id2 n2 = some r.contr ∧
      absorbIntoOpenLegs r.contr (gateLegs r.contr.nopen) = some (r.absorbed, r.binds) := by
  unfold twoSite at h
  obtain ⟨⟨s1, s2⟩, _, h⟩ := Option.bind_eq_some_iff.1 h
  obtain ⟨cn, hc, h⟩ := Option.bind_eq_some_iff.1 h
  obtain ⟨⟨a, b⟩, ha, h⟩ := Option.bind_eq_some_iff.1 h
  obtain ⟨⟨m1, m2⟩, _, h⟩ := Option.bind_eq_some_iff.1 h
  cases h
  exact ⟨hc, ha⟩

theorem singleSite_mkNode (id : Nat) (par : Option Nat) (ch : List Nat) (o : Nat) :
    singleSite (mkNode id par ch o) =
      some (node par ch (goutL 0 o), (physL id o).zip ((List.range o).map Leg.gin)) := by
  have := absorb_node par ch (physL id o)
  rwa [physL_length, ← Nat.add_zero o, range_map_gout, show goutL o 0 = [] from rfl, List.append_nil] at this

theorem findNode_of_mem (t : List TNode) (n : TNode) (hnd : (t.map (·.id)).Nodup) (hm : n ∈ t) :
    findNode t n.id = some n := by
  induction t with
  | nil => simp at hm
  | cons x xs ih =>
    simp only [List.map_cons, List.nodup_cons] at hnd
    unfold findNode
    rw [List.find?_cons]
    rcases List.mem_cons.mp hm with rfl | hm'
    · simp
    · have hne : x.id ≠ n.id := by
        intro e
        apply hnd.1
        rw [e]
        exact List.mem_map_of_mem hm'
      have : (x.id == n.id) = false := by simp [hne]
      rw [this]
      exact ih hnd.2 hm'

/-- What a two-site gate on the pair does to the tree: the pair's child moves to the front of its
    parent's child list, nothing else changes (in particular every identifier and every parent). -/
def afterPair (t : List TNode) (p c : Nat) (A B : List Nat) : List TNode :=
  t.map fun x => if x.id = p then { x with children := c :: (A ++ B) } else x

theorem updateNodes_eq (t : List TNode) (p c : Nat) (pp : Option Nat) (A B K : List Nat)
    (l1 l2 : List Leg)
    (hnd : (t.map (·.id)).Nodup)
    (hP : (⟨p, pp, A ++ c :: B⟩ : TNode) ∈ t) (hC : (⟨c, some p, K⟩ : TNode) ∈ t) (hne : p ≠ c) :
    updateNode (updateNode t p ⟨pp, c :: (A ++ B), l1⟩) c ⟨some p, K, l2⟩ = afterPair t p c A B ∧
    updateNode (updateNode t c ⟨some p, K, l2⟩) p ⟨pp, c :: (A ++ B), l1⟩ = afterPair t p c A B := by
  unfold updateNode afterPair
  simp only [List.map_map]
  constructor <;>
  · apply List.map_congr_left
    intro x hx
    simp only [Function.comp]
    by_cases h1 : x.id = p
    · have := inj_on_of_nodup_map (·.id) hnd x hx ⟨p, pp, A ++ c :: B⟩ hP h1
      subst this
      simp [hne]
    · by_cases h2 : x.id = c
      · have := inj_on_of_nodup_map (·.id) hnd x hx ⟨c, some p, K⟩ hC h2
        subst this
        simp [h1]
      · simp [h1, h2]

theorem applyPair_both (t : List TNode) (p c : Nat) (pp : Option Nat) (A B K : List Nat)
    (hnd : (t.map (·.id)).Nodup)
    (hP : (⟨p, pp, A ++ c :: B⟩ : TNode) ∈ t) (hC : (⟨c, some p, K⟩ : TNode) ∈ t)
    (h : PairOK p c pp A B K) :
    applyPair t p c = some (afterPair t p c A B) ∧ applyPair t c p = some (afterPair t p c A B) := by
  have fP := findNode_of_mem t ⟨p, pp, A ++ c :: B⟩ hnd hP
  have fC := findNode_of_mem t ⟨c, some p, K⟩ hnd hC
  simp only at fP fC
  have hu := updateNodes_eq t p c pp A B K
  constructor
  · unfold applyPair
    simp only [fP, fC, Option.bind_some, h.ne, if_false, twoSite_parentFirst 1 1 h, Option.map_some]
    rw [(hu _ _ hnd hP hC h.ne).1]
  · unfold applyPair
    simp only [fP, fC, Option.bind_some, h.ne', if_false, twoSite_childFirst 1 1 h, Option.map_some]
    rw [(hu _ _ hnd hP hC h.ne).2]

end Ptn.C08
