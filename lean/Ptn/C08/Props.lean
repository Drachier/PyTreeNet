import Ptn.C08.Model
import Ptn.C08.Lemmas
import Ptn.C08.Stages
import Ptn.C08.StepLemmas
import Ptn.C08.Value
import Ptn.C08.SwapValue
import Ptn.C08.StepValue
import Ptn.C08.LoopValue
import Ptn.C08.GlobalValue
import Ptn.C08.StepGlobal
/-! Property theorems for C08: a TEBD step is the ordered product of its Trotter gates and SWAPs.
The leg bookkeeping is proved outright; the value theorems assume the exact split `A' = Σ_newbond U·V` of
`split_node_svd`, and `two_site_gate_value` / `tebd_step_value` also the `tensordot` identities, which the
`…_loop_value` theorems derive from the model's own operation sequence.
Not proved here (decided per input by the dense oracle of the harness): that the numbers agree
(`expm`, SVD, dimensions) and the bond bound under truncation. -/
namespace Ptn.C08

/-- `exponentiate_splitting` returns, for the Trotter steps in their order, the swaps before, the
    exponentiated operator, the swaps after - concatenated. -/
theorem splitting_order {α : Type} (steps : List (TStep α)) :
    exponentiateSplitting steps =
      (steps.map fun s => s.before ++ [s.gate] ++ s.after).flatten := by
  unfold exponentiateSplitting
  rw [foldl_stepBody]
  rfl

theorem splitting_length {α : Type} (steps : List (TStep α)) :
    (exponentiateSplitting steps).length =
      (steps.map fun s => s.before.length + 1 + s.after.length).sum := by
  rw [splitting_order]
  induction steps with
  | nil => rfl
  | cons s ss ih =>
    simp only [List.map_cons, List.flatten_cons, List.length_append, List.sum_cons, ih,
      List.length_cons, List.length_nil]

example : exponentiateSplitting [⟨[3, 4], 0, [5]⟩, ⟨[], 1, []⟩, ⟨[6], 2, [7, 8]⟩] =
    [3, 4, 0, 5, 1, 6, 2, 7, 8] := by decide +kernel

/-- For every dimension `d` and all digits `a, b, a', b' < d`: the entry of `swap_gate(d)` in row
    `a*d + b` (outputs `(a, b)`) and column `a'*d + b'` (inputs `(a', b')`) is one exactly when the two
    digits are exchanged, `(a, b) = (b', a')`, and zero otherwise. -/
theorem swap_gate_spec (d a b a' b' : Nat) (ha : a < d) (hb : b < d) (ha' : a' < d) (hb' : b' < d) :
    entry (swapGate d) (a * d + b) (a' * d + b') = some (if a = b' ∧ b = a' then 1 else 0) :=
  entry_swap_eq d a b a' b' ha hb ha' hb'

theorem swap_gate_shape (d i j : Nat) :
    (entry (swapGate d) i j).isSome ↔ (i < d * d ∧ j < d * d) := by
  rw [entry_swapGate]
  by_cases h : i < d * d ∧ j < d * d
  · simp [h]
  · simp [h]

theorem swap_gate_involutive (d i : Nat) (hi : i < d * d) :
    digitSwap d (digitSwap d i) = i ∧ digitSwap d i < d * d ∧
      ∀ j, j < d * d → (entry (swapGate d) i j = some 1 ↔ j = digitSwap d i) := by
  have hd : 0 < d := by
    cases d with
    | zero => simp at hi
    | succ n => omega
  have hq : i / d < d := Nat.div_lt_of_lt_mul hi
  have hr : i % d < d := Nat.mod_lt _ hd
  refine ⟨?_, ?_, ?_⟩
  · unfold digitSwap
    rw [mul_add_div_of_lt hq, mul_add_mod_of_lt hq, Nat.mul_comm]
    exact Nat.div_add_mod i d
  · exact index_lt hr hq
  · intro j hj
    rw [entry_swapGate]
    simp only [hi, hj, and_self, if_true, Option.some.injEq]
    constructor
    · intro h
      have hc : swapCond d i j = true := by
        by_cases hc : swapCond d i j = true
        · exact hc
        · simp [hc] at h
      rw [swapCond_iff] at hc
      unfold digitSwap
      rw [← hc.2, hc.1, Nat.mul_comm]
      exact (Nat.div_add_mod j d).symm
    · intro h
      have hc : swapCond d i j = true := by
        rw [swapCond_iff, h]
        unfold digitSwap
        rw [mul_add_div_of_lt hq, mul_add_mod_of_lt hq]
        exact ⟨rfl, rfl⟩
      simp [hc]

example : (swapGate 2) = [[1, 0, 0, 0], [0, 0, 1, 0], [0, 1, 0, 0], [0, 0, 0, 1]] := by decide +kernel
example : onesOf (swapGate 3) =
    [(0, 0), (1, 3), (2, 6), (3, 1), (4, 4), (5, 7), (6, 2), (7, 5), (8, 8)] := by decide +kernel
example : entry (swapGate 3) (1 * 3 + 2) (2 * 3 + 1) = some 1 := by decide +kernel   -- |1,2⟩⟨2,1|

/-- Mixed dimensions: the row (column) index `a * dB + b` of `numpy.kron(A, B)` is split by the
    C-order `reshape` of `NumericOperator.to_tensor` into the digits `(a, b)`: the first tensor leg of
    the gate belongs to the first dictionary key, the second leg to the second key. -/
theorem kron_index_digits (dB a b : Nat) (hb : b < dB) :
    (a * dB + b) / dB = a ∧ (a * dB + b) % dB = b :=
  ⟨mul_add_div_of_lt hb, mul_add_mod_of_lt hb⟩

/-- **Two-site gate.**  `P` (identifier `p`, parent `pp` or root, children `A ++ c :: B`, `oP` physical
    legs) is the parent of `C` (identifier `c`, children `K`, `oC` physical legs); all identifiers are
    distinct.  For either order in which the operator names the two nodes, the sequence
    `legs_before_combination; contract_nodes; absorb_into_open_legs; split_node_svd` completes and

    * the gate's `k`-th input leg is contracted with the `k`-th physical leg in the order (legs of the
      first-named node, legs of the second-named node);
    * each node comes back with its parent, with its children (the pair's child first among the
      parent's children), and with the gate's output legs where its physical legs were: outputs
      `0 … o₁-1` on the first-named node, `o₁ … o₁+o₂-1` on the second-named one. -/
theorem two_site_gate_legs (p c : Nat) (pp : Option Nat) (A B K : List Nat) (oP oC : Nat)
    (h : PairOK p c pp A B K) :
    (∃ r, twoSite p (mkNode p pp (A ++ c :: B) oP) c (mkNode c (some p) K oC) = some r ∧
      r.binds = (physL p oP ++ physL c oC).zip ((List.range (oP + oC)).map Leg.gin) ∧
      r.node1 = ⟨pp, c :: (A ++ B), parentLegs pp ++ (Leg.bond :: ((A ++ B).map Leg.nb ++ goutL 0 oP))⟩ ∧
      r.node2 = ⟨some p, K, Leg.bond :: (K.map Leg.nb ++ goutL oP oC)⟩) ∧
    (∃ r, twoSite c (mkNode c (some p) K oC) p (mkNode p pp (A ++ c :: B) oP) = some r ∧
      r.binds = (physL c oC ++ physL p oP).zip ((List.range (oC + oP)).map Leg.gin) ∧
      r.node1 = ⟨some p, K, Leg.bond :: (K.map Leg.nb ++ goutL 0 oC)⟩ ∧
      r.node2 = ⟨pp, c :: (A ++ B), parentLegs pp ++ (Leg.bond :: ((A ++ B).map Leg.nb ++ goutL oC oP))⟩) := by
  exact ⟨⟨_, twoSite_parentFirst oP oC h, rfl, rfl, rfl⟩, ⟨_, twoSite_childFirst oP oC h, rfl, rfl, rfl⟩⟩

/-- The case TEBD uses (one physical leg per node), spelled out: input leg 0 meets the physical leg of
    the first-named node, input leg 1 that of the second-named node, whichever of them is the parent. -/
theorem two_site_gate_binding (p c : Nat) (pp : Option Nat) (A B K : List Nat)
    (h : PairOK p c pp A B K) :
    (twoSite p (mkNode p pp (A ++ c :: B) 1) c (mkNode c (some p) K 1)).map (·.binds) =
      some [(Leg.phys p 0, Leg.gin 0), (Leg.phys c 0, Leg.gin 1)] ∧
    (twoSite c (mkNode c (some p) K 1) p (mkNode p pp (A ++ c :: B) 1)).map (·.binds) =
      some [(Leg.phys c 0, Leg.gin 0), (Leg.phys p 0, Leg.gin 1)] := by
  rw [twoSite_parentFirst 1 1 h, twoSite_childFirst 1 1 h]
  exact ⟨rfl, rfl⟩

theorem two_site_structure (p c : Nat) (pp : Option Nat) (A B K : List Nat) (oP oC : Nat)
    (h : PairOK p c pp A B K) :
    (∃ r, twoSite p (mkNode p pp (A ++ c :: B) oP) c (mkNode c (some p) K oC) = some r ∧
      r.node1.parent = pp ∧ r.node1.children.Perm (A ++ c :: B) ∧
      r.node2.parent = some p ∧ r.node2.children = K) ∧
    (∃ r, twoSite c (mkNode c (some p) K oC) p (mkNode p pp (A ++ c :: B) oP) = some r ∧
      r.node1.parent = some p ∧ r.node1.children = K ∧
      r.node2.parent = pp ∧ r.node2.children.Perm (A ++ c :: B)) := by
  have hperm : (c :: (A ++ B)).Perm (A ++ c :: B) := List.perm_middle.symm
  exact ⟨⟨_, twoSite_parentFirst oP oC h, rfl, hperm, rfl, rfl⟩,
         ⟨_, twoSite_childFirst oP oC h, rfl, rfl, rfl, hperm⟩⟩

/-- **Single-site gate**: `absorb_into_open_legs` binds input leg `k` to physical leg `k` and leaves the
    outputs in their places; nothing else changes. -/
theorem single_site_gate_legs (id : Nat) (par : Option Nat) (ch : List Nat) (o : Nat) :
    singleSite (mkNode id par ch o) =
      some (⟨par, ch, parentLegs par ++ (ch.map Leg.nb ++ goutL 0 o)⟩,
            (physL id o).zip ((List.range o).map Leg.gin)) :=
  singleSite_mkNode id par ch o

/-- **Tree level** (every node carries one physical leg, as under TEBD): in a tree with distinct
    identifiers that contains `p` with children `A ++ c :: B` and its child `c`, a two-site gate on the
    pair - named in either order - completes, keeps every identifier and every parent, and permutes
    child lists only (the pair's child moves to the front of `p`'s list). -/
theorem two_site_tree_structure (t : List TNode) (p c : Nat) (pp : Option Nat) (A B K : List Nat)
    (hnd : (t.map (·.id)).Nodup)
    (hP : (⟨p, pp, A ++ c :: B⟩ : TNode) ∈ t) (hC : (⟨c, some p, K⟩ : TNode) ∈ t)
    (h : PairOK p c pp A B K) :
    applyPair t p c = some (afterPair t p c A B) ∧
    applyPair t c p = some (afterPair t p c A B) ∧
    (afterPair t p c A B).map (·.id) = t.map (·.id) ∧
    (afterPair t p c A B).map (·.parent) = t.map (·.parent) ∧
    (∀ y ∈ afterPair t p c A B, ∃ x ∈ t, x.id = y.id ∧ x.parent = y.parent ∧
        y.children.Perm x.children) := by
  have h1 := applyPair_both t p c pp A B K hnd hP hC h
  have hs := afterPair_sim t p c pp A B hnd hP
  exact ⟨h1.1, h1.2, hs.ids, hs.parents, fun y hy =>
    let ⟨x, hx, hxy⟩ := hs.mem_right y hy
    ⟨x, hx, hxy.1.symm, hxy.2.1.symm, hxy.2.2⟩⟩

/-- **One TEBD time step.**  For every well-formed tree (distinct identifiers, consistent parent and
    children fields, acyclic; one physical leg per node) and every list of operators - no site, one
    existing site, or two tree-adjacent sites in either naming order (SWAPs are such two-site
    operators) - the loop of `run_one_time_step` completes in the model; the tree keeps every identifier
    and every parent, child lists are permuted only; and the physical-leg table and the global binding
    record read off the leg-level model gate by gate equal the *composition in list order*
    (`specRun`): input `k` of operator number `g` is bound to the then current physical leg of its
    `k`-th named site, and output `k` becomes that site's physical leg. -/
theorem tebd_step_legs (t : List TNode) (hwf : TreeWF t) (ops : List (List Nat))
    (hv : ∀ op ∈ ops, ValidOp t op) (cur : Nat → GLeg) (rc : List Rec) (g : Nat) :
    ∃ t', runOps ⟨t, cur, rc⟩ g ops =
        some ⟨t', (specRun (cur, rc) g ops).1, (specRun (cur, rc) g ops).2⟩ ∧
      t'.map (·.id) = t.map (·.id) ∧ t'.map (·.parent) = t.map (·.parent) ∧
      (∀ y ∈ t', ∃ x ∈ t, y.id = x.id ∧ y.parent = x.parent ∧ y.children.Perm x.children) ∧
      TreeWF t' := by
  obtain ⟨t', h1, hs⟩ := runOps_spec ops hwf hv cur rc g
  exact ⟨t', h1, hs.ids, hs.parents, fun y hy => hs.mem_right y hy, hwf.sim hs⟩

/-- **Several time steps** are the step list repeated: `k` runs of `run_one_time_step` equal one run
    over the `k`-fold concatenation of the exponent list (gates numbered consecutively); hence, by
    `tebd_step_legs`, they complete and realise the composition over the concatenated list. -/
theorem tebd_steps_compose (ops : List (List Nat)) (k : Nat) (st : GState) (g : Nat) :
    runSteps ops st g k = runOps st g (List.replicate k ops).flatten := by
  induction k generalizing st g with
  | zero => simp [runSteps, runOps]
  | succ k ih =>
    simp only [runSteps, List.replicate_succ, List.flatten_cons, runOps_append]
    cases runOps st g ops with
    | none => simp
    | some st' => simp [ih]

theorem tebd_steps_legs (t : List TNode) (hwf : TreeWF t) (ops : List (List Nat))
    (hv : ∀ op ∈ ops, ValidOp t op) (k : Nat) (cur : Nat → GLeg) (rc : List Rec) (g : Nat) :
    ∃ t', runSteps ops ⟨t, cur, rc⟩ g k =
        some ⟨t', (specRun (cur, rc) g (List.replicate k ops).flatten).1,
                  (specRun (cur, rc) g (List.replicate k ops).flatten).2⟩ ∧
      t'.map (·.id) = t.map (·.id) ∧ t'.map (·.parent) = t.map (·.parent) ∧
      (∀ y ∈ t', ∃ x ∈ t, y.id = x.id ∧ y.parent = x.parent ∧ y.children.Perm x.children) ∧
      TreeWF t' := by
  rw [tebd_steps_compose]
  exact tebd_step_legs t hwf _ (fun op hop => hv op (mem_of_mem_replicate_flatten hop)) cur rc g

/-- **The operators of the splitting.**  `TEBD.exponents` names, in order, for every Trotter step: the
    pairs of `swaps_before` (each as `[first, second]`), the keys of the step's `TensorProduct` in
    dictionary order, the pairs of `swaps_after` - whether the swaps were given as `None`, as a
    `SWAPlist` or as a plain list of pairs. -/
theorem exponents_match_splitting (steps : List SiteStep) :
    exponentSites steps =
      (steps.map fun s =>
        (s.before.norm.map fun pr => [pr.1, pr.2]) ++ [s.keys] ++
          (s.after.norm.map fun pr => [pr.1, pr.2])).flatten := by
  unfold exponentSites
  rw [splitting_order, List.map_map]
  congr 1
  apply List.map_congr_left
  intro s _
  simp [swapSites_eq]

theorem exponents_plain_list (keys : List Nat) (b a : List (Nat × Nat)) (rest : List SiteStep) :
    exponentSites (⟨keys, .plain b, .plain a⟩ :: rest) =
      exponentSites (⟨keys, .swaplist b, .swaplist a⟩ :: rest) := by
  rw [exponents_match_splitting, exponents_match_splitting]
  rfl


/-! The theorems above say WHICH legs are bound; the following say WHAT is computed (`Ptn/Common/Einsum*.lean`:
a tensor is a function of index assignments, a bound pair is a sum over a common index), over every
commutative semiring of scalars and for all dimensions (`dim` is arbitrary: mixed physical dimensions). -/

open Ptn.Ein in
/-- **Two-site gate, value level.**  Pair `P` / `C` as in `two_site_gate_legs`, either naming order.  The
model completes with a result `r` and, for every commutative semiring, all dimensions and every labelled
network consisting of the tensors `TP`, `TC` of the pair joined by their bond, further tensors `rest` and
further bonds `bs` (virtual legs, each bound once): GIVEN the identities the three library routines compute,

* `C  = Σ_bond TP·TC`            (`contract_nodes`: `tensordot` over the pair's bond),
* `A' = Σ_{r.binds} G·C`         (`absorb_into_open_legs`: `tensordot` over the pairs PROVED by the leg theorem:
                                   gate input `k` with the `k`-th physical leg in naming order),
* `A' = Σ_newbond U·V`           (contract of `split_node_svd`, truncation disabled: an exact factorisation),

a gate that reads only gate legs and a rest of the network that reads neither of the two bonds nor the legs
bound to the gate, the new network (`U` = first-named node, `V` = second-named node, new bond between their
`Leg.bond` legs) has for every assignment of the open legs the value
`Σ_in G[out; in] · ψ[…, in, …]`, `ψ` the value of the old network. -/
theorem two_site_gate_value {R : Type} [CommSemiring R] (p c : Nat) (pp : Option Nat) (A B K : List Nat)
    (oP oC : Nat) (h : PairOK p c pp A B K) :
    (∃ r, twoSite p (mkNode p pp (A ++ c :: B) oP) c (mkNode c (some p) K oC) = some r ∧
      ∀ (dim : VLeg → Nat) (bs : List (VLeg × VLeg)) (G TP TC C A' U V : Asg VLeg → R)
        (rest : List (Asg VLeg → R)),
        (Expr.pairLegs bs).Nodup → (∀ l ∈ Expr.pairLegs bs, l.isOwn) →
        (∀ τ, C τ = sumPairs dim [(glob p (Leg.nb c), glob c (Leg.nb p))] (fun ρ => TP ρ * TC ρ) τ) →
        (∀ τ, A' τ = sumPairs dim (gatePairs r.binds) (fun ρ => G ρ * C ρ) τ) →
        (∀ τ, A' τ = sumPairs dim [(glob p Leg.bond, glob c Leg.bond)] (fun ρ => U ρ * V ρ) τ) →
        (∀ f ∈ rest, DependsOn (EnvReads (glob p (Leg.nb c)) (glob c (Leg.nb p)) (glob p Leg.bond)
          (glob c Leg.bond) (gatePairs r.binds)) f) →
        DependsOn GateReads G →
        ∀ σ, netValue dim (bs ++ [(glob p Leg.bond, glob c Leg.bond)]) (U :: V :: rest) σ =
          sumPairs dim (gatePairs r.binds) (fun τ => G τ *
            netValue dim (bs ++ [(glob p (Leg.nb c), glob c (Leg.nb p))]) (TP :: TC :: rest) τ) σ) ∧
    (∃ r, twoSite c (mkNode c (some p) K oC) p (mkNode p pp (A ++ c :: B) oP) = some r ∧
      ∀ (dim : VLeg → Nat) (bs : List (VLeg × VLeg)) (G TP TC C A' U V : Asg VLeg → R)
        (rest : List (Asg VLeg → R)),
        (Expr.pairLegs bs).Nodup → (∀ l ∈ Expr.pairLegs bs, l.isOwn) →
        (∀ τ, C τ = sumPairs dim [(glob p (Leg.nb c), glob c (Leg.nb p))] (fun ρ => TP ρ * TC ρ) τ) →
        (∀ τ, A' τ = sumPairs dim (gatePairs r.binds) (fun ρ => G ρ * C ρ) τ) →
        (∀ τ, A' τ = sumPairs dim [(glob c Leg.bond, glob p Leg.bond)] (fun ρ => U ρ * V ρ) τ) →
        (∀ f ∈ rest, DependsOn (EnvReads (glob p (Leg.nb c)) (glob c (Leg.nb p)) (glob c Leg.bond)
          (glob p Leg.bond) (gatePairs r.binds)) f) →
        DependsOn GateReads G →
        ∀ σ, netValue dim (bs ++ [(glob c Leg.bond, glob p Leg.bond)]) (U :: V :: rest) σ =
          sumPairs dim (gatePairs r.binds) (fun τ => G τ *
            netValue dim (bs ++ [(glob p (Leg.nb c), glob c (Leg.nb p))]) (TP :: TC :: rest) τ) σ) := by
  refine ⟨⟨_, twoSite_parentFirst oP oC h, ?_⟩, ⟨_, twoSite_childFirst oP oC h, ?_⟩⟩
  · intro dim bs G TP TC C A' U V rest hbs1 hbs2 hC hA hUV hrest hG σ
    exact two_site_value_core dim p c p c _ (nodup_gate_legs p c oP oC h.ne) (gatePairs_not_own _)
      bs G TP TC C A' U V rest hbs1 hbs2 hC hA hUV hrest hG σ
  · intro dim bs G TP TC C A' U V rest hbs1 hbs2 hC hA hUV hrest hG σ
    exact two_site_value_core dim p c c p _ (nodup_gate_legs c p oC oP h.ne')
      (gatePairs_not_own _) bs G TP TC C A' U V rest hbs1 hbs2 hC hA hUV hrest hG σ

open Ptn.Ein in
/-- **Single-site gate, value level.**  `absorb_into_open_legs` on the node `id` of a labelled network (its
tensor `T`, further tensors `rest`, bonds `bs`): GIVEN `A' = Σ_{binds} G·T` (one `tensordot` over the pairs
proved by `single_site_gate_legs`), the network with `A'` in the place of `T` has the value
`Σ_in G[out; in] · ψ[…, in, …]`. -/
theorem single_site_gate_value {R : Type} [CommSemiring R] (id : Nat) (par : Option Nat) (ch : List Nat)
    (o : Nat) :
    ∃ n' binds, singleSite (mkNode id par ch o) = some (n', binds) ∧
      ∀ (dim : VLeg → Nat) (bs : List (VLeg × VLeg)) (G T A' : Asg VLeg → R) (rest : List (Asg VLeg → R)),
        (Expr.pairLegs bs).Nodup → (∀ l ∈ Expr.pairLegs bs, l.isOwn) →
        (∀ τ, A' τ = sumPairs dim (gatePairs binds) (fun ρ => G ρ * T ρ) τ) →
        (∀ f ∈ rest, DependsOn (fun l => l ∉ Expr.pairLegs (gatePairs binds)) f) →
        DependsOn GateReads G →
        ∀ σ, netValue dim bs (A' :: rest) σ =
          sumPairs dim (gatePairs binds) (fun τ => G τ * netValue dim bs (T :: rest) τ) σ := by
  refine ⟨_, _, singleSite_mkNode id par ch o, ?_⟩
  intro dim bs G T A' rest hbs1 hbs2 hA hrest hG σ
  exact absorb_gate_value dim bs _ G T A' rest hA hrest (fun l hl h => h hl) hG
    (fun l hl => own_not_gateReads l (hbs2 l hl))
    (nodup_env_gate bs _ hbs1 hbs2 (nodup_gate_legs_single id o) (gatePairs_not_own _)) σ


open Ptn.Ein in
/-- **Applying the SWAP gate exchanges the two physical indices.**  The matrix built by the double loop of
`swap_gate(d)` (entries by `swap_gate_spec`), read as a gate tensor with output legs `go₀, go₁` and input legs
`gi₀, gi₁` and contracted into the physical legs `p₀, p₁` (both of dimension `d`) of ANY state vector `ψ`
that does not read the gate's input legs, gives the vector with the two indices exchanged:
`(SWAP ψ)[…, go₀ = x, go₁ = y, …] = ψ[…, p₀ = y, p₁ = x, …]` — every `d`, every commutative semiring. -/
theorem swap_gate_value {L : Type} [DecidableEq L] {R : Type} [CommSemiring R] (dim : L → Nat) (d : Nat)
    (p0 p1 go0 go1 gi0 gi1 : L) (hnd : [p0, p1, gi0, gi1, go0, go1].Nodup)
    (hd0 : dim p0 = d) (hd1 : dim p1 = d) (ψ : Asg L → R) {S : L → Prop} (hψ : DependsOn S ψ)
    (h0 : ¬ S gi0) (h1 : ¬ S gi1) (σ : Asg L) (ho0 : σ go0 < d) (ho1 : σ go1 < d) :
    sumPairs dim [(p0, gi0), (p1, gi1)] (fun τ => swapTensor d go0 go1 gi0 gi1 τ * ψ τ) σ =
      ψ (upd (upd σ p0 (σ go1)) p1 (σ go0)) :=
  swap_apply dim d p0 p1 go0 go1 gi0 gi1 hnd hd0 hd1 ψ hψ h0 h1 σ ho0 ho1

open Ptn.Ein in
/-- The same inside a TEBD step: operator number `g` on the sites `(a, b)` with the SWAP tensor acts on a
state vector by exchanging the indices of the two sites' current physical legs. -/
theorem swap_gate_act {R : Type} [CommSemiring R] (dim : SLeg → Nat) (d g a b : Nat) (cur : Nat → GLeg)
    (hab : cur a ≠ cur b) (hla : (cur a).lt g) (hlb : (cur b).lt g)
    (hd0 : dim (SLeg.ph (cur a)) = d) (hd1 : dim (SLeg.ph (cur b)) = d)
    (φ : Asg SLeg → R) {S : SLeg → Prop} (hφ : DependsOn S φ)
    (h0 : ¬ S (SLeg.gin g 0)) (h1 : ¬ S (SLeg.gin g 1)) (σ : Asg SLeg)
    (ho0 : σ (SLeg.ph (GLeg.out g 0)) < d) (ho1 : σ (SLeg.ph (GLeg.out g 1)) < d) :
    gateAct dim (swapTensor d (SLeg.ph (GLeg.out g 0)) (SLeg.ph (GLeg.out g 1)) (SLeg.gin g 0) (SLeg.gin g 1))
        cur g [a, b] φ σ =
      φ (upd (upd σ (SLeg.ph (cur a)) (σ (SLeg.ph (GLeg.out g 1)))) (SLeg.ph (cur b))
        (σ (SLeg.ph (GLeg.out g 0)))) := by
  have hne : a ≠ b := fun e => hab (e ▸ rfl)
  have e : recPairs (specOp g (cur, []) 0 [a, b]).2 =
      [(SLeg.ph (cur a), SLeg.gin g 0), (SLeg.ph (cur b), SLeg.gin g 1)] := by
    rw [specOp_two g cur [] a b hne]; rfl
  simp only [gateAct, e]
  apply swap_apply dim d _ _ _ _ _ _ _ hd0 hd1 φ hφ h0 h1 σ ho0 ho1
  have n1 : cur a ≠ GLeg.out g 0 := ne_of_lt_out hla
  have n2 : cur a ≠ GLeg.out g 1 := ne_of_lt_out hla
  have n3 : cur b ≠ GLeg.out g 0 := ne_of_lt_out hlb
  have n4 : cur b ≠ GLeg.out g 1 := ne_of_lt_out hlb
  simp [hab, n1, n2, n3, n4]

open Ptn.Ein in
/-- **One TEBD time step, value level.**  For every well-formed tree and every list of valid operators the
modelled loop completes and its global binding record `rec'` is the specification fold (`tebd_step_legs`);
for every commutative semiring, all dimensions and all gate tensors `G g` (gate `g` reads only its own
output and input legs):

* (record) the flat network "leaves of the old state + gate tensors of the operators that name a site" over
  the model's record `rec'` evaluates to `actRun`: the fold over the exponent list of the gate action
  `φ ↦ Σ_in G_g[out; in] · φ[…, in, …]` applied to the old state — the ordered product of the gates (an
  operator naming no site is skipped, as the code does);
* (networks) for every chain of labelled networks `ψ = ψ₀, ψ₁, …, ψ_m = ψ'` in which consecutive ones are
  related by the contracts of the library routines for that operator (`OpContract`: `tensordot` identities of
  `contract_nodes` / `absorb_into_open_legs` over the pairs of the record, exact factorisation of
  `split_node_svd` as hypothesis), the state vector after the step is the ordered product of the gates applied
  to the state vector before: `ψ' = actRun … ψ`. -/
theorem tebd_step_value {R : Type} [CommSemiring R] (t : List TNode) (hwf : TreeWF t) (ops : List (List Nat))
    (hv : ∀ op ∈ ops, ValidOp t op) (cur : Nat → GLeg) (rc : List Rec) (g : Nat) (hinv : RecInv cur rc g) :
    ∃ t' rec', runOps ⟨t, cur, rc⟩ g ops = some ⟨t', (specRun (cur, rc) g ops).1, rec'⟩ ∧
      ∀ (dim : SLeg → Nat) (G : Nat → Asg SLeg → R), (∀ i, DependsOn (GateReadsS i) (G i)) →
        (∀ (leaves : List (Asg SLeg → R)) (σ : Asg SLeg),
          netValue dim (recPairs rec') (gateLeaves G g ops leaves) σ =
            actRun dim G cur g ops (netValue dim (recPairs rc) leaves) σ) ∧
        (∀ ψ ψ' : Asg SLeg → R, StepChain dim G cur g ops ψ ψ' → ψ' = actRun dim G cur g ops ψ) := by
  obtain ⟨t', h1, _⟩ := tebd_step_legs t hwf ops hv cur rc g
  refine ⟨t', _, h1, ?_⟩
  intro dim G hG
  exact ⟨fun leaves σ => record_value dim G hG ops (fun op hop => validOp_form hwf (hv op hop)) cur rc g hinv
    leaves σ, fun ψ ψ' h => chain_value h⟩

open Ptn.Ein in
/-- **`k` time steps, value level**: the same with the exponent list repeated `k` times (gates numbered
consecutively): the state after `k` steps is the ordered product of all `k · |ops|` gates. -/
theorem tebd_steps_value {R : Type} [CommSemiring R] (t : List TNode) (hwf : TreeWF t) (ops : List (List Nat))
    (hv : ∀ op ∈ ops, ValidOp t op) (k : Nat) (cur : Nat → GLeg) (rc : List Rec) (g : Nat)
    (hinv : RecInv cur rc g) :
    ∃ t' rec', runSteps ops ⟨t, cur, rc⟩ g k =
        some ⟨t', (specRun (cur, rc) g (List.replicate k ops).flatten).1, rec'⟩ ∧
      ∀ (dim : SLeg → Nat) (G : Nat → Asg SLeg → R), (∀ i, DependsOn (GateReadsS i) (G i)) →
        (∀ (leaves : List (Asg SLeg → R)) (σ : Asg SLeg),
          netValue dim (recPairs rec') (gateLeaves G g (List.replicate k ops).flatten leaves) σ =
            actRun dim G cur g (List.replicate k ops).flatten (netValue dim (recPairs rc) leaves) σ) ∧
        (∀ ψ ψ' : Asg SLeg → R, StepChain dim G cur g (List.replicate k ops).flatten ψ ψ' →
          ψ' = actRun dim G cur g (List.replicate k ops).flatten ψ) := by
  rw [tebd_steps_compose]
  exact tebd_step_value t hwf _ (fun op hop => hv op (mem_of_mem_replicate_flatten hop)) cur rc g hinv

/-! In `two_site_gate_value`, `single_site_gate_value` and `tebd_step_value` the `tensordot` identities of
`contract_nodes` / `absorb_into_open_legs` are hypotheses.  Here they are discharged: the leg lists the MODEL FUNCTIONS
compute are `Built` (`Built.lean`, `BuiltFns.lean`: one lemma per model function) by the contraction program `tensordot(tensordot(P, C, bond), G, binds)` over the node
tensors and the gate tensor, the program is strongly well-formed, and its value is `Σ_in G·Σ_bond TP·TC` for all
tensor values.  The only hypothesis about a library routine that remains is the exact split. -/

open Ptn.Ein in
/-- **Two-site gate: the model's operation sequence up to the split, value level.**  Pair `P` / `C` as in
`two_site_gate_legs`, either naming order.  The model completes with a result `r`, and for ALL values `TP`, `TC`
of the two node tensors and `G` of the gate tensor (legs `gateLegs r.contr.nopen`, what the model hands over),
the program `E = tensordot(tensordot(P, C, [(nb c, nb p)]), G, r.binds)`

* builds the legs of the absorbed node (`Built`: the model's `tensordot` calls and transpositions, nothing else),
* has pairwise distinct labels, the absorbed node's legs as its free legs, and is strongly well-formed as soon
  as the three tensors read only their own legs,
* evaluates to `Σ_{r.binds} G · (Σ_bond TP·TC)`: gate input `k` against the `k`-th physical leg in naming order.

Network level (global labels as in `two_site_gate_value`, but WITHOUT the two `tensordot` identities): if that
value factorises exactly over the new bond into `U`, `V` (contract of `split_node_svd`, truncation disabled),
the network with `U`, `V` in the place of `TP`, `TC` has the value `Σ_in G[out; in] · ψ[…, in, …]`. -/
theorem two_site_gate_loop_value {R : Type} [CommSemiring R] (p c : Nat) (pp : Option Nat) (A B K : List Nat)
    (oP oC : Nat) (h : PairOK p c pp A B K) :
    (∃ r, twoSite p (mkNode p pp (A ++ c :: B) oP) c (mkNode c (some p) K oC) = some r ∧
      (∀ (TP TC G : Asg Leg → R),
        Built r.absorbed.legs (gateExpr (mkNode p pp (A ++ c :: B) oP).legs (mkNode c (some p) K oC).legs
            [(Leg.nb c, Leg.nb p)] r.contr.nopen r.binds TP TC G) ∧
        (gateExpr (mkNode p pp (A ++ c :: B) oP).legs (mkNode c (some p) K oC).legs
            [(Leg.nb c, Leg.nb p)] r.contr.nopen r.binds TP TC G).labels.Nodup ∧
        r.absorbed.legs.Perm (gateExpr (mkNode p pp (A ++ c :: B) oP).legs (mkNode c (some p) K oC).legs
            [(Leg.nb c, Leg.nb p)] r.contr.nopen r.binds TP TC G).free ∧
        ((gateExpr (mkNode p pp (A ++ c :: B) oP).legs (mkNode c (some p) K oC).legs
            [(Leg.nb c, Leg.nb p)] r.contr.nopen r.binds TP TC G).LeavesLocal →
          (gateExpr (mkNode p pp (A ++ c :: B) oP).legs (mkNode c (some p) K oC).legs
            [(Leg.nb c, Leg.nb p)] r.contr.nopen r.binds TP TC G).SWF) ∧
        ∀ (dim : Leg → Nat) (σ : Asg Leg),
          (gateExpr (mkNode p pp (A ++ c :: B) oP).legs (mkNode c (some p) K oC).legs
            [(Leg.nb c, Leg.nb p)] r.contr.nopen r.binds TP TC G).eval dim σ =
          sumPairs dim r.binds (fun τ => G τ * sumPairs dim [(Leg.nb c, Leg.nb p)] (fun ρ => TP ρ * TC ρ) τ) σ) ∧
      ∀ (dim : VLeg → Nat) (bs : List (VLeg × VLeg)) (G TP TC U V : Asg VLeg → R) (rest : List (Asg VLeg → R)),
        (Expr.pairLegs bs).Nodup → (∀ l ∈ Expr.pairLegs bs, l.isOwn) →
        (∀ τ, sumPairs dim (gatePairs r.binds) (fun ρ => G ρ *
            sumPairs dim [(glob p (Leg.nb c), glob c (Leg.nb p))] (fun ρ' => TP ρ' * TC ρ') ρ) τ =
          sumPairs dim [(glob p Leg.bond, glob c Leg.bond)] (fun ρ => U ρ * V ρ) τ) →
        (∀ f ∈ rest, DependsOn (EnvReads (glob p (Leg.nb c)) (glob c (Leg.nb p)) (glob p Leg.bond)
          (glob c Leg.bond) (gatePairs r.binds)) f) →
        DependsOn GateReads G →
        ∀ σ, netValue dim (bs ++ [(glob p Leg.bond, glob c Leg.bond)]) (U :: V :: rest) σ =
          sumPairs dim (gatePairs r.binds) (fun τ => G τ *
            netValue dim (bs ++ [(glob p (Leg.nb c), glob c (Leg.nb p))]) (TP :: TC :: rest) τ) σ) ∧
    (∃ r, twoSite c (mkNode c (some p) K oC) p (mkNode p pp (A ++ c :: B) oP) = some r ∧
      (∀ (TP TC G : Asg Leg → R),
        Built r.absorbed.legs (gateExpr (mkNode p pp (A ++ c :: B) oP).legs (mkNode c (some p) K oC).legs
            [(Leg.nb c, Leg.nb p)] r.contr.nopen r.binds TP TC G) ∧
        (gateExpr (mkNode p pp (A ++ c :: B) oP).legs (mkNode c (some p) K oC).legs
            [(Leg.nb c, Leg.nb p)] r.contr.nopen r.binds TP TC G).labels.Nodup ∧
        r.absorbed.legs.Perm (gateExpr (mkNode p pp (A ++ c :: B) oP).legs (mkNode c (some p) K oC).legs
            [(Leg.nb c, Leg.nb p)] r.contr.nopen r.binds TP TC G).free ∧
        ((gateExpr (mkNode p pp (A ++ c :: B) oP).legs (mkNode c (some p) K oC).legs
            [(Leg.nb c, Leg.nb p)] r.contr.nopen r.binds TP TC G).LeavesLocal →
          (gateExpr (mkNode p pp (A ++ c :: B) oP).legs (mkNode c (some p) K oC).legs
            [(Leg.nb c, Leg.nb p)] r.contr.nopen r.binds TP TC G).SWF) ∧
        ∀ (dim : Leg → Nat) (σ : Asg Leg),
          (gateExpr (mkNode p pp (A ++ c :: B) oP).legs (mkNode c (some p) K oC).legs
            [(Leg.nb c, Leg.nb p)] r.contr.nopen r.binds TP TC G).eval dim σ =
          sumPairs dim r.binds (fun τ => G τ * sumPairs dim [(Leg.nb c, Leg.nb p)] (fun ρ => TP ρ * TC ρ) τ) σ) ∧
      ∀ (dim : VLeg → Nat) (bs : List (VLeg × VLeg)) (G TP TC U V : Asg VLeg → R) (rest : List (Asg VLeg → R)),
        (Expr.pairLegs bs).Nodup → (∀ l ∈ Expr.pairLegs bs, l.isOwn) →
        (∀ τ, sumPairs dim (gatePairs r.binds) (fun ρ => G ρ *
            sumPairs dim [(glob p (Leg.nb c), glob c (Leg.nb p))] (fun ρ' => TP ρ' * TC ρ') ρ) τ =
          sumPairs dim [(glob c Leg.bond, glob p Leg.bond)] (fun ρ => U ρ * V ρ) τ) →
        (∀ f ∈ rest, DependsOn (EnvReads (glob p (Leg.nb c)) (glob c (Leg.nb p)) (glob c Leg.bond)
          (glob p Leg.bond) (gatePairs r.binds)) f) →
        DependsOn GateReads G →
        ∀ σ, netValue dim (bs ++ [(glob c Leg.bond, glob p Leg.bond)]) (U :: V :: rest) σ =
          sumPairs dim (gatePairs r.binds) (fun τ => G τ *
            netValue dim (bs ++ [(glob p (Leg.nb c), glob c (Leg.nb p))]) (TP :: TC :: rest) τ) σ) := by
  refine ⟨⟨_, twoSite_parentFirst oP oC h, ?_, ?_⟩, ⟨_, twoSite_childFirst oP oC h, ?_, ?_⟩⟩
  · intro TP TC G
    have f := (pair_built oP oC (twoSite_parentFirst oP oC h) (contr_perm_parentFirst p c pp A B K oP oC) TP TC G).program
      (pair_labels_nodup h oP oC _)
    exact ⟨f.1, f.2.1, f.2.2.1, f.2.2.2, fun dim σ => gateExpr_eval _ _ _ _ _ _ _ _ dim σ⟩
  · intro dim bs G TP TC U V rest hbs1 hbs2 hUV hrest hG σ
    exact two_site_value_core dim p c p c _ (nodup_gate_legs p c oP oC h.ne) (gatePairs_not_own _)
      bs G TP TC _ _ U V rest hbs1 hbs2 (fun _ => rfl) (fun _ => rfl) hUV hrest hG σ
  · intro TP TC G
    have f := (pair_built oP oC (twoSite_childFirst oP oC h) (contr_perm_childFirst p c pp A B K oP oC) TP TC G).program
      (pair_labels_nodup h oP oC _)
    exact ⟨f.1, f.2.1, f.2.2.1, f.2.2.2, fun dim σ => gateExpr_eval _ _ _ _ _ _ _ _ dim σ⟩
  · intro dim bs G TP TC U V rest hbs1 hbs2 hUV hrest hG σ
    exact two_site_value_core dim p c c p _ (nodup_gate_legs c p oC oP h.ne')
      (gatePairs_not_own _) bs G TP TC _ _ U V rest hbs1 hbs2 (fun _ => rfl) (fun _ => rfl) hUV hrest hG σ

open Ptn.Ein in
/-- **Single-site gate: the model's operation, value level.**  `absorb_into_open_legs` on a node whose
neighbours are pairwise distinct: for all values `T` of the node tensor and `G` of the gate tensor the program
`tensordot(T, G, binds)` builds the legs of the new node, is strongly well-formed for local tensors, and
evaluates to `Σ_{binds} G·T`; at network level the network with that tensor in the place of `T` has the value
`Σ_in G[out; in] · ψ[…, in, …]` - no hypothesis about a library routine is left. -/
theorem single_site_gate_loop_value {R : Type} [CommSemiring R] (id : Nat) (par : Option Nat) (ch : List Nat)
    (o : Nat) (hch : (par.toList ++ ch).Nodup) :
    ∃ n' binds, singleSite (mkNode id par ch o) = some (n', binds) ∧
      (∀ (T G : Asg Leg → R),
        Built n'.legs (gateExpr1 (mkNode id par ch o).legs (mkNode id par ch o).nopen binds T G) ∧
        (gateExpr1 (mkNode id par ch o).legs (mkNode id par ch o).nopen binds T G).labels.Nodup ∧
        n'.legs.Perm (gateExpr1 (mkNode id par ch o).legs (mkNode id par ch o).nopen binds T G).free ∧
        ((gateExpr1 (mkNode id par ch o).legs (mkNode id par ch o).nopen binds T G).LeavesLocal →
          (gateExpr1 (mkNode id par ch o).legs (mkNode id par ch o).nopen binds T G).SWF) ∧
        ∀ (dim : Leg → Nat) (σ : Asg Leg),
          (gateExpr1 (mkNode id par ch o).legs (mkNode id par ch o).nopen binds T G).eval dim σ =
            sumPairs dim binds (fun τ => G τ * T τ) σ) ∧
      ∀ (dim : VLeg → Nat) (bs : List (VLeg × VLeg)) (G T : Asg VLeg → R) (rest : List (Asg VLeg → R)),
        (Expr.pairLegs bs).Nodup → (∀ l ∈ Expr.pairLegs bs, l.isOwn) →
        (∀ f ∈ rest, DependsOn (fun l => l ∉ Expr.pairLegs (gatePairs binds)) f) →
        DependsOn GateReads G →
        ∀ σ, netValue dim bs ((fun τ => sumPairs dim (gatePairs binds) (fun ρ => G ρ * T ρ) τ) :: rest) σ =
          sumPairs dim (gatePairs binds) (fun τ => G τ * netValue dim bs (T :: rest) τ) σ := by
  refine ⟨_, _, singleSite_mkNode id par ch o, ?_, ?_⟩
  · intro T G
    have f := (singleSite_built G (Built.fresh (mkNode id par ch o).legs T) (singleSite_mkNode id par ch o)).program
      (single_labels_nodup id par ch hch o _)
    exact ⟨f.1, f.2.1, f.2.2.1, f.2.2.2, fun dim σ => gateExpr1_eval _ _ _ _ _ dim σ⟩
  · intro dim bs G T rest hbs1 hbs2 hrest hG σ
    exact absorb_gate_value dim bs _ G T _ rest (fun _ => rfl) hrest (fun l hl h => h hl) hG
      (fun l hl => own_not_gateReads l (hbs2 l hl))
      (nodup_env_gate bs _ hbs1 hbs2 (nodup_gate_legs_single id o) (gatePairs_not_own _)) σ

open Ptn.Ein in
/-- **One TEBD time step, value level, only exact splits assumed.**  As `tebd_step_value`, but the chain of
networks is a `LoopChain`: between consecutive networks the contracted and the absorbed tensor are the VALUES of
the model's program (`Σ_gp G·Σ_bond T₁·T₂`, `two_site_gate_loop_value`; `Σ_gp G·T`,
`single_site_gate_loop_value`) - no `tensordot` identity is a hypothesis - and the only contract of a library
routine is the exact factorisation of `split_node_svd` for the two-site operators.  Then the state vector after
the step is the ordered product of the gates applied to the state vector before: `ψ' = actRun … ψ`. -/
theorem tebd_step_loop_value {R : Type} [CommSemiring R] (t : List TNode) (hwf : TreeWF t) (ops : List (List Nat))
    (hv : ∀ op ∈ ops, ValidOp t op) (cur : Nat → GLeg) (rc : List Rec) (g : Nat) (hinv : RecInv cur rc g) :
    ∃ t' rec', runOps ⟨t, cur, rc⟩ g ops = some ⟨t', (specRun (cur, rc) g ops).1, rec'⟩ ∧
      ∀ (dim : SLeg → Nat) (G : Nat → Asg SLeg → R), (∀ i, DependsOn (GateReadsS i) (G i)) →
        (∀ (leaves : List (Asg SLeg → R)) (σ : Asg SLeg),
          netValue dim (recPairs rec') (gateLeaves G g ops leaves) σ =
            actRun dim G cur g ops (netValue dim (recPairs rc) leaves) σ) ∧
        (∀ ψ ψ' : Asg SLeg → R, LoopChain dim G cur g ops ψ ψ' → ψ' = actRun dim G cur g ops ψ) := by
  obtain ⟨t', rec', h1, h2⟩ := tebd_step_value (R := R) t hwf ops hv cur rc g hinv
  refine ⟨t', rec', h1, fun dim G hG => ⟨(h2 dim G hG).1, fun ψ ψ' h => loop_chain_value h⟩⟩


/-! `two_site_gate_loop_value` states the program of the local model in the labels `Leg` and the network in the labels
`VLeg`.  With the relabelling theorem (`Ptn/Common/EinsumRename.lean`: `Expr.rn_eval_map`, `rn_sumPairs_map`,
`Expr.rn_swf_map` for an injective renaming that keeps the dimensions) both are statements about ONE program in
the global labels. -/

open Ptn.Ein in
/-- **Two-site gate, program and network in one label space.**  Pair `P` / `C` as in `two_site_gate_legs`, either
naming order.  `pairGlob p c K : Leg → VLeg` (legs of `P` owned by `p`, legs of `C` owned by `c`, physical and gate
legs shared) is injective, the model completes with `r`, and `PairGlobalClause` holds (spelled out at its
definition in `GlobalValue.lean`): the program `E` of the local model renamed by `pairGlob` IS the explicit program
over the labels and pairs of the network-level statement, and if THE VALUE OF THIS PROGRAM factorises exactly over
the new bond into `U`, `V` (contract of `split_node_svd`, truncation disabled) the network with `U`, `V` in the
place of the program's leaves `TP'`, `TC'` has the value `Σ_in G'[out; in] · ψ[…, in, …]`.  By
`pairGlob_pull_surj` the pulled tensors `TP'`, `TC'`, `G'` range over all global tensors on the renamed legs. -/
theorem two_site_gate_loop_value_global {R : Type} [CommSemiring R] (p c : Nat) (pp : Option Nat)
    (A B K : List Nat) (oP oC : Nat) (h : PairOK p c pp A B K) :
    Function.Injective (pairGlob p c K) ∧
    (∃ r, twoSite p (mkNode p pp (A ++ c :: B) oP) c (mkNode c (some p) K oC) = some r ∧
      PairGlobalClause R p c pp A B K oP oC p c r) ∧
    (∃ r, twoSite c (mkNode c (some p) K oC) p (mkNode p pp (A ++ c :: B) oP) = some r ∧
      PairGlobalClause R p c pp A B K oP oC c p r) := by
  refine ⟨pairGlob_injective p c K, ⟨_, twoSite_parentFirst oP oC h, ?_⟩, ⟨_, twoSite_childFirst oP oC h, ?_⟩⟩
  · exact pair_global_core h oP oC (twoSite_parentFirst oP oC h) (contr_perm_parentFirst p c pp A B K oP oC) p c
      (pairGlob_gatePairs p c K _ _ (physL_pair_phys p oP c oC)) (nodup_gate_legs p c oP oC h.ne)
  · exact pair_global_core h oP oC (twoSite_childFirst oP oC h) (contr_perm_childFirst p c pp A B K oP oC) c p
      (pairGlob_gatePairs p c K _ _ (physL_pair_phys c oC p oP)) (nodup_gate_legs c p oC oP h.ne')

open Ptn.Ein in
/-- every global tensor that reads only renamed legs is the pull of a local one (so the quantifier over local
tensors in `PairGlobalClause` loses nothing) -/
theorem two_site_global_tensors_covered {R : Type} (p c : Nat) (K : List Nat) (legs : List Leg)
    (T' : Asg VLeg → R) (hT : DependsOn (· ∈ legs.map (pairGlob p c K)) T') :
    ∃ T : Asg Leg → R, rn_pull (pairGlob p c K) T = T' :=
  ⟨_, pairGlob_pull_surj p c K legs T' hT⟩

open Ptn.Ein in
/-- non-vacuity of the exact-split hypothesis of `PairGlobalClause`: for EVERY program renamed by `pairGlob` and
every `dim` with a new bond of dimension one there are `U`, `V` with `value = Σ_newbond U·V` -/
example {R : Type} [CommSemiring R] (p c : Nat) (K : List Nat) (e : Expr Leg R) (dim : VLeg → Nat) (x y : Nat)
    (hd : dim (glob x Leg.bond) = 1) :
    ∃ U V : Asg VLeg → R, ∀ τ, (e.rn_map (pairGlob p c K)).eval dim τ =
      sumPairs dim [(glob x Leg.bond, glob y Leg.bond)] (fun ρ => U ρ * V ρ) τ :=
  pairGlob_split_exists p c K e dim x y hd

open Ptn.Ein in
/-- concrete renaming for the pair `1 — 2` (children of `2`: `[7]`): the bond and a gate pair in global labels -/
example : PairOK 1 2 (some 0) [5] [6] [7] ∧
    rn_pairs (pairGlob 1 2 [7]) [(Leg.nb 2, Leg.nb 1), (Leg.phys 1 0, Leg.gin 0), (Leg.nb 7, Leg.nb 5)] =
      [(VLeg.own 1 (.nb 2), VLeg.own 2 (.nb 1)), (.shared (.phys 1 0), .shared (.gin 0)),
       (VLeg.own 2 (.nb 7), VLeg.own 1 (.nb 5))] := by
  refine ⟨by unfold PairOK; decide, by decide +kernel⟩

/-! `tebd_step_loop_value` takes a `LoopChain`, whose two-site contract speaks about arbitrary tensors `T₁`, `T₂` and
bond legs in the step labels `SLeg` and about the pairs `recPairs (specOp …)`, not about the model's program.
With the injection `stepGlob cur g p c K ver : Leg → SLeg` (open leg of site `n` ↦ the CURRENT physical leg
`ph (cur n)`, gate output `k` ↦ `ph (out g k)`, gate input `k` ↦ `gin g k`, virtual legs ↦ `virt`; injective by
the record invariant `RecInv`) every contract of the chain is a statement about the value of THE MODEL'S OWN
PROGRAM for that operator, renamed into the step labels (`GlobalLoopContract`, `StepGlobal.lean`). -/

open Ptn.Ein in
/-- **One TEBD time step, value level, one label space, only exact splits assumed.**  As `tebd_step_loop_value`,
but the chain of networks is a `GlobalLoopChain`: for operator number `g` with current physical legs `cur`

* (one site `s`) the new node tensor IS the value of the renamed program `tensordot(T, G, binds)` of
  `singleSite` (`gateExpr1 … binds`, `binds` = what the model function returns) - no hypothesis about a routine;
* (two sites, either naming order of a pair `PairOK`) the old node tensors are the pulled leaves `TP'`, `TC'` of the
  renamed program `E = tensordot(tensordot(P, C, bond), G, r.binds)` of `twoSite`, the gate tensor `G g` is its
  pulled gate leaf, and the ONLY hypothesis about a library routine is the exact factorisation of THE VALUE OF
  THIS PROGRAM over the new bond, `(E.rn_map stepGlob).eval dim τ = Σ_newbond U·V` (contract of `split_node_svd`,
  truncation disabled);

that the renamed pairs of the model are the pairs the specification fold prescribes at that moment
(`rn_pairs stepGlob r.binds = recPairs (specOp g (cur, []) 0 [x, y]).2`) is PROVED (`two_binds_spec`), as is the
injectivity of `stepGlob` along the whole run (the invariant `RecInv` is carried through the chain).  Then the state
vector after the step is the ordered product of the gates applied to the state vector before. -/
theorem tebd_step_loop_value_global {R : Type} [CommSemiring R] (t : List TNode) (hwf : TreeWF t)
    (ops : List (List Nat)) (hv : ∀ op ∈ ops, ValidOp t op) (cur : Nat → GLeg) (rc : List Rec) (g : Nat)
    (hinv : RecInv cur rc g) :
    ∃ t' rec', runOps ⟨t, cur, rc⟩ g ops = some ⟨t', (specRun (cur, rc) g ops).1, rec'⟩ ∧
      ∀ (dim : SLeg → Nat) (G : Nat → Asg SLeg → R), (∀ i, DependsOn (GateReadsS i) (G i)) →
        (∀ (leaves : List (Asg SLeg → R)) (σ : Asg SLeg),
          netValue dim (recPairs rec') (gateLeaves G g ops leaves) σ =
            actRun dim G cur g ops (netValue dim (recPairs rc) leaves) σ) ∧
        (∀ ψ ψ' : Asg SLeg → R, GlobalLoopChain dim G cur g ops ψ ψ' → ψ' = actRun dim G cur g ops ψ) := by
  obtain ⟨t', rec', h1, h2⟩ := tebd_step_value (R := R) t hwf ops hv cur rc g hinv
  exact ⟨t', rec', h1, fun dim G hG => ⟨(h2 dim G hG).1, fun ψ ψ' h => global_loop_chain_value hG hinv h⟩⟩

open Ptn.Ein in
/-- **One operator inside the step, one label space** (the single-site and the two-site analogue at once): under
the record invariant, a `GlobalLoopContract` for operator number `g` has one of the three accepted shapes, and the
network after it is the gate action `Σ_in G[out; in] · ψ[…, in, …]` over the pairs of the specification. -/
theorem tebd_op_loop_value_global {R : Type} [CommSemiring R] (dim : SLeg → Nat) (cur : Nat → GLeg)
    (rc : List Rec) (g : Nat) (hinv : RecInv cur rc g) (Gt : Asg SLeg → R) (hG : DependsOn (GateReadsS g) Gt)
    (op : List Nat) (ψ ψ' : Asg SLeg → R) (h : GlobalLoopContract dim cur g Gt op ψ ψ') :
    OpForm op ∧ ψ' = gateAct dim Gt cur g op ψ :=
  ⟨(h.toLoop hinv hG).1, (h.toLoop hinv hG).2.toOp.value⟩

open Ptn.Ein in
/-- the injection is injective at every moment of a run (hypothesis of the relabelling theorems) -/
example (cur : Nat → GLeg) (rc : List Rec) (g : Nat) (hinv : RecInv cur rc g) (p c : Nat) (K : List Nat)
    (ver : Nat → Nat → Nat) : Function.Injective (stepGlob cur g p c K ver) :=
  hinv.stepGlob_injective p c K ver

open Ptn.Ein in
/-- non-vacuity of `hGt`: every gate tensor reading only the legs of gate `g` is the pull of a local gate tensor -/
example {R : Type} (cur : Nat → GLeg) (g p c : Nat) (K : List Nat) (ver : Nat → Nat → Nat)
    (Gt : Asg SLeg → R) (hG : DependsOn (GateReadsS g) Gt) :
    ∃ G : Asg Leg → R, Gt = rn_pull (stepGlob cur g p c K ver) G :=
  stepGlob_gate_surj cur g p c K ver Gt hG

open Ptn.Ein in
/-- non-vacuity of the exact-split hypothesis `hUV`: at every moment of a run, for EVERY local program and a new
bond `virt a b (v + 3)`, `virt b a (v + 3)` of dimension one (old bonds carry version `v`) the value of the renamed
program factorises exactly -/
example {R : Type} [CommSemiring R] (cur : Nat → GLeg) (rc : List Rec) (g : Nat) (hinv : RecInv cur rc g)
    (p c : Nat) (K : List Nat) (v a b : Nat) (e : Expr Leg R) (dim : SLeg → Nat)
    (hd : dim (SLeg.virt a b (v + 3)) = 1) :
    ∃ U V : Asg SLeg → R, ∀ τ, (e.rn_map (stepGlob cur g p c K (fun _ _ => v))).eval dim τ =
      sumPairs dim [(SLeg.virt a b (v + 3), SLeg.virt b a (v + 3))] (fun ρ => U ρ * V ρ) τ :=
  rn_split_exists_step _ (hinv.stepGlob_injective p c K _) e dim _ _
    (stepGlob_ne_newbond cur g p c K a b v) (stepGlob_ne_newbond cur g p c K b a v) hd

open Ptn.Ein in
/-- concrete renaming at the start of a run (gate `0`, pair `0 — 1`): the pairs of the model in the step labels -/
example : rn_pairs (stepGlob GLeg.init 0 0 1 [] (fun _ _ => 0))
      [(Leg.nb 1, Leg.nb 0), (Leg.phys 0 0, Leg.gin 0), (Leg.phys 1 0, Leg.gin 1)] =
    [(SLeg.virt 0 1 2, SLeg.virt 1 0 2), (.ph (.init 0), .gin 0 0), (.ph (.init 1), .gin 0 1)] := by decide +kernel

open Ptn.Ein in
/-- non-vacuity of the whole two-site contract: at every moment of a run, for EVERY pair `PairOK`, all local
tensors `TP`, `TC`, `G` and a new bond of dimension one there are `U`, `V` with a `GlobalLoopContract` (and hence,
by `tebd_op_loop_value_global`, the network after it is the gate action) -/
example {R : Type} [CommSemiring R] (cur : Nat → GLeg) (rc : List Rec) (g : Nat) (hinv : RecInv cur rc g)
    (p c : Nat) (pp : Option Nat) (A B K : List Nat) (hpair : PairOK p c pp A B K) (v : Nat)
    (TP TC G : Asg Leg → R) (dim : SLeg → Nat) (hd : dim (SLeg.virt p c (v + 3)) = 1) :
    ∃ U V : Asg SLeg → R, GlobalLoopContract dim cur g (rn_pull (stepGlob cur g p c K (fun _ _ => v)) G) [p, c]
      (netValue dim ([] ++ [(stepGlob cur g p c K (fun _ _ => v) (Leg.nb c),
          stepGlob cur g p c K (fun _ _ => v) (Leg.nb p))])
        [rn_pull (stepGlob cur g p c K (fun _ _ => v)) TP, rn_pull (stepGlob cur g p c K (fun _ _ => v)) TC])
      (netValue dim ([] ++ [(SLeg.virt p c (v + 3), SLeg.virt c p (v + 3))]) [U, V]) := by
  -- the result of the model stays a variable: the split is taken of the program over `r.contr.nopen`, `r.binds`
  obtain ⟨r, hr⟩ : ∃ r, twoSite p (mkNode p pp (A ++ c :: B) 1) c (mkNode c (some p) K 1) = some r :=
    ⟨_, twoSite_parentFirst 1 1 hpair⟩
  obtain ⟨U, V, hUV⟩ := rn_split_exists_step _ (hinv.stepGlob_injective p c K (fun _ _ => v))
    (gateExpr (mkNode p pp (A ++ c :: B) 1).legs (mkNode c (some p) K 1).legs [(Leg.nb c, Leg.nb p)]
      r.contr.nopen r.binds TP TC G) dim _ _
    (stepGlob_ne_newbond cur g p c K p c v) (stepGlob_ne_newbond cur g p c K c p v) hd
  exact ⟨U, V, GlobalLoopContract.two p c pp A B K hpair _ p c r
    (Or.inl ⟨rfl, rfl, hr⟩) TP TC G rfl [] U V [] _ _ (fun _ => False) hUV
    (by simp) id id id id (fun _ _ => id) (by simp [Expr.pairLegs]) (by simp [Expr.pairLegs])⟩

section ValueExamples
/-! The definitions and dependence lemmas of this section are the demo tensors of the examples below (the examples
mention them, so they stand with them). -/
open Ptn.Ein

/-- integer tensors on the two-node network `0 — 1` (one physical leg each), a non-product, non-symmetric gate -/
def demoTP : Asg VLeg → Int := fun ρ => ρ (.own 0 (.nb 1)) + 2 * ρ (.shared (.phys 0 0)) + 1
def demoTC : Asg VLeg → Int := fun ρ => ρ (.own 1 (.nb 0)) * ρ (.shared (.phys 1 0)) + 3
def demoG : Asg VLeg → Int := fun ρ =>
  ρ (.shared (.gout 0)) + 2 * ρ (.shared (.gin 0)) + 3 * ρ (.shared (.gout 1)) * ρ (.shared (.gin 1)) + 1
/-- all dimensions two, the new bond of dimension one -/
def demoDim : VLeg → Nat := fun l => if l = .own 0 .bond then 1 else 2
def demoGP : List (VLeg × VLeg) := gatePairs [(Leg.phys 0 0, Leg.gin 0), (Leg.phys 1 0, Leg.gin 1)]
def demoC : Asg VLeg → Int := fun τ =>
  sumPairs demoDim [(glob 0 (Leg.nb 1), glob 1 (Leg.nb 0))] (fun ρ => demoTP ρ * demoTC ρ) τ
def demoA : Asg VLeg → Int := fun τ => sumPairs demoDim demoGP (fun ρ => demoG ρ * demoC ρ) τ

def demoS : VLeg → Prop := fun l => l ≠ glob 0 Leg.bond ∧ l ≠ glob 1 Leg.bond

theorem demoTP_dep : DependsOn demoS demoTP := by
  intro σ τ h
  simp only [demoTP]
  rw [h _ ⟨by decide, by decide⟩, h (.shared (.phys 0 0)) ⟨by decide, by decide⟩]

theorem demoTC_dep : DependsOn demoS demoTC := by
  intro σ τ h
  simp only [demoTC]
  rw [h _ ⟨by decide, by decide⟩, h (.shared (.phys 1 0)) ⟨by decide, by decide⟩]

theorem demoG_dep : DependsOn GateReads demoG := by
  intro σ τ h
  simp only [demoG]
  rw [h (.shared (.gout 0)) trivial, h (.shared (.gin 0)) trivial, h (.shared (.gout 1)) trivial,
    h (.shared (.gin 1)) trivial]

/-- the hypotheses of `two_site_gate_value` (parent named first; `r.binds` is the list below by
`two_site_gate_binding`) are satisfiable: the pair `0 — 1` with integer tensors, a generic gate, and the exact
factorisation of the absorbed tensor over a bond of dimension one -/
example : PairOK 0 1 none [] [] [] ∧
    (twoSite 0 (mkNode 0 none ([] ++ 1 :: []) 1) 1 (mkNode 1 (some 0) [] 1)).map (fun r => gatePairs r.binds)
      = some demoGP ∧
    (Expr.pairLegs ([] : List (VLeg × VLeg))).Nodup ∧
    (∀ τ, demoC τ = sumPairs demoDim [(glob 0 (Leg.nb 1), glob 1 (Leg.nb 0))] (fun ρ => demoTP ρ * demoTC ρ) τ) ∧
    (∀ τ, demoA τ = sumPairs demoDim demoGP (fun ρ => demoG ρ * demoC ρ) τ) ∧
    (∀ τ, demoA τ = sumPairs demoDim [(glob 0 Leg.bond, glob 1 Leg.bond)]
      (fun ρ => demoA ρ * (fun _ => (1 : Int)) ρ) τ) ∧
    DependsOn GateReads demoG := by
  refine ⟨by unfold PairOK; decide, by decide +kernel, by simp [Expr.pairLegs], fun _ => rfl, fun _ => rfl, ?_, demoG_dep⟩
  intro τ
  have hG : DependsOn demoS demoG := demoG_dep.mono (fun l hl => by
    cases l with
    | own n x => exact hl.elim
    | shared x => exact ⟨by simp [glob], by simp [glob]⟩)
  exact trivial_split demoDim demoA _ _
    (dependsOn_contract demoDim demoGP hG (dependsOn_contract demoDim _ demoTP_dep demoTC_dep))
    (fun h => h.1 rfl) (fun h => h.2 rfl) (by decide) τ

/-- … and the conclusion is not an empty identity: at the output assignment `(1, 0)` both sides are the
number 224 (the gate applied to the contracted pair). -/
example : sumPairs demoDim demoGP (fun τ => demoG τ *
      netValue demoDim ([] ++ [(glob 0 (Leg.nb 1), glob 1 (Leg.nb 0))]) [demoTP, demoTC] τ)
      (fun l => if l = .shared (.gout 0) then 1 else 0) = 224 := by decide +kernel

/-- the hypotheses of `single_site_gate_value`: the gate's input bound to the physical leg of node 0 -/
example : (singleSite (mkNode 0 none [1] 1)).map (fun r => gatePairs r.2) =
      some (gatePairs [(Leg.phys 0 0, Leg.gin 0)]) ∧
    DependsOn GateReads (fun ρ : Asg VLeg => (ρ (.shared (.gout 0)) + 2 * ρ (.shared (.gin 0)) : Int)) := by
  refine ⟨by decide +kernel, ?_⟩
  intro σ τ h
  show (σ _ + 2 * σ _ : Int) = τ _ + 2 * τ _
  rw [h (.shared (.gout 0)) trivial, h (.shared (.gin 0)) trivial]

/-- SWAP on two qutrits: the hypotheses of `swap_gate_value` hold for six distinct labels, and the value at the
output assignment `(2, 1)` of the vector `ψ[p₀, p₁] = 10·p₀ + p₁` is `ψ[1, 2] = 12` -/
example : sumPairs (fun _ : Nat => 3) [(0, 2), (1, 3)]
      (fun τ => swapTensor (R := Int) 3 4 5 2 3 τ * ((10 * τ 0 + τ 1 : Nat) : Int))
      (fun l => if l = 4 then 2 else if l = 5 then 1 else 0) = 12 := by decide +kernel

/-- the invariant of the record holds at the start of a run -/
example : RecInv GLeg.init [] 0 := recInv_init

/-- step-level demo tensors: the network `0 — 1` in the labels of a whole step -/
def sT0 : Asg SLeg → Int := fun ρ => ρ (.virt 0 1 0) + 2 * ρ (.ph (.init 0)) + 1
def sT1 : Asg SLeg → Int := fun ρ => ρ (.virt 1 0 0) * ρ (.ph (.init 1)) + 3
def sG : Nat → Asg SLeg → Int := fun g ρ =>
  ρ (.ph (.out g 0)) + 2 * ρ (.gin g 0) + 3 * ρ (.ph (.out g 1)) * ρ (.gin g 1) + 1
def sDim : SLeg → Nat := fun l => if l = .virt 0 1 1 then 1 else 2
def sS : SLeg → Prop := fun l => l ≠ .virt 0 1 1 ∧ l ≠ .virt 1 0 1

theorem sG_dep (g : Nat) : DependsOn (GateReadsS g) (sG g) := by
  intro σ τ h
  simp only [sG]
  rw [h (.ph (.out g 0)) rfl, h (.gin g 0) rfl, h (.ph (.out g 1)) rfl, h (.gin g 1) rfl]

theorem sT0_dep : DependsOn sS sT0 := by
  intro σ τ h
  simp only [sT0]
  rw [h (.virt 0 1 0) ⟨by decide, by decide⟩, h (.ph (.init 0)) ⟨by decide, by decide⟩]

theorem sT1_dep : DependsOn sS sT1 := by
  intro σ τ h
  simp only [sT1]
  rw [h (.virt 1 0 0) ⟨by decide, by decide⟩, h (.ph (.init 1)) ⟨by decide, by decide⟩]

theorem sG_dep_sS : DependsOn sS (sG 0) :=
  (sG_dep 0).mono (fun l hl => by
    cases l with
    | ph x => exact ⟨by simp, by simp⟩
    | gin a b => exact ⟨by simp, by simp⟩
    | virt a b v => exact hl.elim)

/-- a chain of `tebd_step_value` exists: the step `[[0, 1], []]` (a two-site gate on `0 — 1`, then an operator
that names no site) on integer tensors, with the exact factorisation over a bond of dimension one; every gate
reads only its own legs -/
example : (∃ ψ', StepChain sDim sG GLeg.init 0 [[0, 1], []]
      (netValue sDim ([] ++ [(SLeg.virt 0 1 0, SLeg.virt 1 0 0)]) [sT0, sT1]) ψ') ∧
    ∀ g, DependsOn (GateReadsS g) (sG g) := by
  exact ⟨⟨_, StepChain.cons _ _ _ _ _ _ _
    (OpContract.exists_two sDim (sG 0) _ 0 1 sT0 sT1 _ _ (SLeg.virt 0 1 1) (SLeg.virt 1 0 1)
      sT0_dep sT1_dep sG_dep_sS (fun h => h.1 rfl) (fun h => h.2 rfl) (by decide) (sG_dep 0) (by decide))
    (StepChain.cons _ _ _ _ _ _ _ (OpContract.skip _) (StepChain.nil _ _ _))⟩, sG_dep⟩

/-- the exact-split-only chain of `tebd_step_loop_value` exists: the step `[[0, 1], []]` on integer tensors with
the exact factorisation over a bond of dimension one -/
example : ∃ ψ', LoopChain sDim sG GLeg.init 0 [[0, 1], []]
      (netValue sDim ([] ++ [(SLeg.virt 0 1 0, SLeg.virt 1 0 0)]) [sT0, sT1]) ψ' := by
  exact ⟨_, LoopChain.cons _ _ _ _ _ _ _
    (LoopContract.exists_two sDim (sG 0) _ 0 1 sT0 sT1 _ _ (SLeg.virt 0 1 1) (SLeg.virt 1 0 1)
      sT0_dep sT1_dep sG_dep_sS (fun h => h.1 rfl) (fun h => h.2 rfl) (by decide) (sG_dep 0) (by decide))
    (LoopChain.cons _ _ _ _ _ _ _ (LoopContract.skip _) (LoopChain.nil _ _ _))⟩

/-- `two_site_gate_loop_value` / `single_site_gate_loop_value`: the hypotheses hold for the pair `1 — 2` below a
parent with further children, and the program of the model is a concrete one: its binding record -/
example : PairOK 1 2 (some 0) [5] [6] [7] ∧ ((some 0).toList ++ [5, 2, 6]).Nodup ∧
    (twoSite 2 (mkNode 2 (some 1) [7] 1) 1 (mkNode 1 (some 0) [5, 2, 6] 1)).map (fun r =>
      (gateExpr (R := Int) (mkNode 1 (some 0) [5, 2, 6] 1).legs (mkNode 2 (some 1) [7] 1).legs
        [(Leg.nb 2, Leg.nb 1)] r.contr.nopen r.binds (fun _ => 1) (fun _ => 1) (fun _ => 1)).binds) =
      some [(Leg.phys 2 0, Leg.gin 0), (Leg.phys 1 0, Leg.gin 1), (Leg.nb 2, Leg.nb 1)] := by
  refine ⟨by unfold PairOK; decide, by decide +kernel, by decide +kernel⟩

end ValueExamples

-- the tree 0 - {1 - {3}, 2}
example : TreeWF [⟨0, none, [1, 2]⟩, ⟨1, some 0, [3]⟩, ⟨2, some 0, []⟩, ⟨3, some 1, []⟩] := by
  refine ⟨by decide +kernel, by decide +kernel, by decide +kernel, by decide +kernel, ⟨fun n => if n = 0 then 0 else if n = 3 then 2 else 1, by decide +kernel⟩⟩

example : ValidOp [⟨0, none, [1, 2]⟩, ⟨1, some 0, [3]⟩, ⟨2, some 0, []⟩, ⟨3, some 1, []⟩] [3, 1] :=
  ⟨⟨3, some 1, []⟩, by decide, ⟨1, some 0, [3]⟩, by decide, rfl, rfl, Or.inr rfl⟩

-- SWAP(0,2); gate on (3,1) (child first); single-site gate on 1; gate on (1,0): the record composes
example : (runOps ⟨[⟨0, none, [1, 2]⟩, ⟨1, some 0, [3]⟩, ⟨2, some 0, []⟩, ⟨3, some 1, []⟩],
      GLeg.init, []⟩ 0 [[0, 2], [3, 1], [1], [1, 0]]).map (fun st => (st.tree, st.record)) =
    some ([⟨0, none, [1, 2]⟩, ⟨1, some 0, [3]⟩, ⟨2, some 0, []⟩, ⟨3, some 1, []⟩],
          [(GLeg.init 0, 0, 0), (GLeg.init 2, 0, 1), (GLeg.init 3, 1, 0), (GLeg.init 1, 1, 1),
           (GLeg.out 1 1, 2, 0), (GLeg.out 2 0, 3, 0), (GLeg.out 0 0, 3, 1)]) := by decide +kernel

example : exponentSites [⟨[5, 4], .plain [(4, 5)], .none⟩, ⟨[7], .swaplist [(1, 2), (2, 1)], .plain [(3, 4)]⟩] =
    [[4, 5], [5, 4], [1, 2], [2, 1], [7], [3, 4]] := by decide +kernel


-- a four-node tree 0 - {1 - {3}, 2}: gates on (0,2) then (3,1) (child named first)
example : applyPairs [⟨0, none, [1, 2]⟩, ⟨1, some 0, [3]⟩, ⟨2, some 0, []⟩, ⟨3, some 1, []⟩]
    [(0, 2), (3, 1)] =
    some [⟨0, none, [2, 1]⟩, ⟨1, some 0, [3]⟩, ⟨2, some 0, []⟩, ⟨3, some 1, []⟩] := by decide +kernel


example : PairOK 1 2 (some 0) [5] [6] [7] := by unfold PairOK; decide
example : PairOK 1 2 none [] [] [] := by unfold PairOK; decide

-- child named first, parent has a parent and two more children, child has a child
example : (twoSite 2 (mkNode 2 (some 1) [7] 1) 1 (mkNode 1 (some 0) [5, 2, 6] 1)).map
    (fun r => (r.binds, r.node1, r.node2)) =
    some ([(Leg.phys 2 0, Leg.gin 0), (Leg.phys 1 0, Leg.gin 1)],
          ⟨some 1, [7], [Leg.bond, Leg.nb 7, Leg.gout 0]⟩,
          ⟨some 0, [2, 5, 6], [Leg.nb 0, Leg.bond, Leg.nb 5, Leg.nb 6, Leg.gout 1]⟩) := by decide +kernel

-- nodes that are not adjacent: the model raises, as the library does
example : twoSite 1 (mkNode 1 none [3] 1) 2 (mkNode 2 (some 4) [] 1) = none := by decide +kernel

end Ptn.C08
