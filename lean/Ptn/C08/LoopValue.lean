import Ptn.C08.BuiltFns
import Ptn.C08.Value
import Ptn.C08.StepValue
/-! The model's OWN operation sequence for one gate (`contractNodes`; `absorbIntoOpenLegs`) is the contraction
program `tensordot(tensordot(P, C), G)` over the node tensors and the gate tensor (`gateExpr`, `pair_built`).
`LoopContract` / `LoopChain` are the contracts of `StepValue.lean` with the two `tensordot` identities replaced by the
values of that program, so that only the exact split stays a hypothesis; they imply those (`toOp`, `toStep`).  (`Loop`: the operation sequence inside the loop of `run_one_time_step`.) -/
namespace Ptn.C08

open Ptn.Ein

variable {R : Type}

/-- the program of one two-site gate up to the split: `tensordot(tensordot(P, C, bond), G, gp)` -/
def gateExpr (lP lC : List Leg) (bond : List (Leg × Leg)) (n : Nat) (gp : List (Leg × Leg))
    (TP TC G : Asg Leg → R) : Expr Leg R :=
  Expr.dot (Expr.dot (Expr.leaf lP TP) (Expr.leaf lC TC) bond) (Expr.leaf (gateLegs n) G) gp

/-- the program of one single-site gate: `tensordot(T, G, gp)` -/
def gateExpr1 (lT : List Leg) (n : Nat) (gp : List (Leg × Leg)) (T G : Asg Leg → R) : Expr Leg R :=
  Expr.dot (Expr.leaf lT T) (Expr.leaf (gateLegs n) G) gp

theorem pair_labels_nodup {p c : Nat} {pp : Option Nat} {A B K : List Nat} (h : PairOK p c pp A B K)
    (oP oC n : Nat) :
    ((mkNode p pp (A ++ c :: B) oP).legs ++ (mkNode c (some p) K oC).legs ++ gateLegs n).Nodup := by
  have e3 : parentLegs (some p) = [Leg.nb p] := rfl
  refine (List.Perm.nodup_iff ?_).2 (nodup_leg_kinds h (nodup_physL_pair h.ne oP oC) (physL_pair_phys p oP c oC) n n)
  simp only [mkNode, e3]
  rw [parentLegs_eq_map, List.perm_iff_count]
  intro a
  simp only [gateLegs, List.map_append, List.map_cons, List.count_append, List.count_cons, List.count_nil]
  omega

theorem single_labels_nodup (id : Nat) (par : Option Nat) (ch : List Nat) (hch : (par.toList ++ ch).Nodup)
    (o n : Nat) : ((mkNode id par ch o).legs ++ gateLegs n).Nodup := by
  have e2 : (mkNode id par ch o).legs ++ gateLegs n =
      (par.toList ++ ch).map Leg.nb ++ (physL id o ++ ((List.range n).map Leg.gout ++ (List.range n).map Leg.gin)) := by
    simp [mkNode, gateLegs, parentLegs_eq_map]
  rw [e2]
  exact nodup_leg_kinds hch (nodup_physL id o) (physL_phys id o) n n

theorem contr_perm_parentFirst (p c : Nat) (pp : Option Nat) (A B K : List Nat) (oP oC : Nat) :
    (node pp ((A ++ B) ++ K) (physL p oP ++ physL c oC)).legs.Perm (rawLegs p c pp A B K oP oC) := by
  unfold rawLegs
  rw [List.perm_iff_count]; intro a; simp only [node, List.map_append, List.count_append]; omega

theorem contr_perm_childFirst (p c : Nat) (pp : Option Nat) (A B K : List Nat) (oP oC : Nat) :
    (node pp (K ++ (A ++ B)) (physL c oC ++ physL p oP)).legs.Perm (rawLegs p c pp A B K oP oC) := by
  unfold rawLegs
  rw [List.perm_iff_count]; intro a; simp only [node, List.map_append, List.count_append]; omega

section value
variable [CommSemiring R]

theorem gateExpr_eval (lP lC : List Leg) (bond : List (Leg × Leg)) (n : Nat) (gp : List (Leg × Leg))
    (TP TC G : Asg Leg → R) (dim : Leg → Nat) (σ : Asg Leg) :
    (gateExpr lP lC bond n gp TP TC G).eval dim σ =
      sumPairs dim gp (fun τ => G τ * sumPairs dim bond (fun ρ => TP ρ * TC ρ) τ) σ := by
  simp only [gateExpr, Expr.eval]
  exact sumPairs_congr dim gp (fun τ => mul_comm _ _) σ

theorem gateExpr1_eval (lT : List Leg) (n : Nat) (gp : List (Leg × Leg)) (T G : Asg Leg → R)
    (dim : Leg → Nat) (σ : Asg Leg) :
    (gateExpr1 lT n gp T G).eval dim σ = sumPairs dim gp (fun τ => G τ * T τ) σ := by
  simp only [gateExpr1, Expr.eval]
  exact sumPairs_congr dim gp (fun τ => mul_comm _ _) σ

/-- **Contract of `_apply_one_trotter_step` with the `tensordot` identities discharged**: the contracted and the
absorbed tensor ARE the values of the model's program (`gateExpr_eval`: `Σ_gp G · Σ_bond T₁·T₂`); the only
hypothesis about a library routine is the exact factorisation `hUV` of `split_node_svd`.  Here the tensors are any
functions of that shape; that they are the values of the model's own program is `GlobalLoopContract` (StepGlobal.lean). -/
inductive LoopContract (dim : SLeg → Nat) (Gt : Asg SLeg → R) (gp : List (SLeg × SLeg)) :
    List Nat → (Asg SLeg → R) → (Asg SLeg → R) → Prop
  | skip (ψ : Asg SLeg → R) : LoopContract dim Gt gp [] ψ ψ
  | single (s : Nat) (bs : List (SLeg × SLeg)) (T : Asg SLeg → R) (rest : List (Asg SLeg → R))
      (S SG : SLeg → Prop)
      (hrest : ∀ f ∈ rest, DependsOn S f) (hgp : ∀ l ∈ Expr.pairLegs gp, ¬ S l)
      (hG : DependsOn SG Gt) (hdis : ∀ l ∈ Expr.pairLegs bs, ¬ SG l)
      (hnd : (Expr.pairLegs (bs ++ gp)).Nodup) :
      LoopContract dim Gt gp [s] (netValue dim bs (T :: rest))
        (netValue dim bs ((fun τ => sumPairs dim gp (fun ρ => Gt ρ * T ρ) τ) :: rest))
  | two (a b : Nat) (bs : List (SLeg × SLeg)) (T₁ T₂ U V : Asg SLeg → R) (rest : List (Asg SLeg → R))
      (b₁ b₂ q r : SLeg) (S SG : SLeg → Prop)
      (hUV : ∀ τ, sumPairs dim gp (fun ρ => Gt ρ * sumPairs dim [(b₁, b₂)] (fun ρ' => T₁ ρ' * T₂ ρ') ρ) τ =
        sumPairs dim [(q, r)] (fun ρ => U ρ * V ρ) τ)
      (hrest : ∀ f ∈ rest, DependsOn S f)
      (hq : ¬ S q) (hr : ¬ S r) (hb₁ : ¬ S b₁) (hb₂ : ¬ S b₂) (hgp : ∀ l ∈ Expr.pairLegs gp, ¬ S l)
      (hG : DependsOn SG Gt) (hdis : ∀ l ∈ Expr.pairLegs bs, ¬ SG l)
      (hnd : (Expr.pairLegs (bs ++ gp)).Nodup) :
      LoopContract dim Gt gp [a, b] (netValue dim (bs ++ [(b₁, b₂)]) (T₁ :: T₂ :: rest))
        (netValue dim (bs ++ [(q, r)]) (U :: V :: rest))

theorem LoopContract.toOp {dim : SLeg → Nat} {Gt : Asg SLeg → R} {gp : List (SLeg × SLeg)} {op : List Nat}
    {ψ ψ' : Asg SLeg → R} (h : LoopContract dim Gt gp op ψ ψ') : OpContract dim Gt gp op ψ ψ' := by
  cases h with
  | skip => exact OpContract.skip _
  | single s bs T rest S SG hrest hgp hG hdis hnd =>
    exact OpContract.single s bs T _ rest S SG (fun _ => rfl) hrest hgp hG hdis hnd
  | two a b bs T₁ T₂ U V rest b₁ b₂ q r S SG hUV hrest hq hr hb₁ hb₂ hgp hG hdis hnd =>
    exact OpContract.two a b bs T₁ T₂ (fun τ => sumPairs dim [(b₁, b₂)] (fun ρ' => T₁ ρ' * T₂ ρ') τ)
      (fun τ => sumPairs dim gp (fun ρ => Gt ρ * sumPairs dim [(b₁, b₂)] (fun ρ' => T₁ ρ' * T₂ ρ') ρ) τ)
      U V rest b₁ b₂ q r S SG (fun _ => rfl) (fun _ => rfl) hUV hrest hq hr hb₁ hb₂ hgp hG hdis hnd

/-- a run of `run_one_time_step` at value level in which only exact splits are assumed -/
inductive LoopChain (dim : SLeg → Nat) (G : Nat → Asg SLeg → R) :
    (Nat → GLeg) → Nat → List (List Nat) → (Asg SLeg → R) → (Asg SLeg → R) → Prop
  | nil (cur : Nat → GLeg) (g : Nat) (ψ : Asg SLeg → R) : LoopChain dim G cur g [] ψ ψ
  | cons (cur : Nat → GLeg) (g : Nat) (op : List Nat) (ops : List (List Nat)) (ψ ψ' ψ'' : Asg SLeg → R)
      (h1 : LoopContract dim (G g) (recPairs (specOp g (cur, []) 0 op).2) op ψ ψ')
      (h2 : LoopChain dim G (specOp g (cur, []) 0 op).1 (g + 1) ops ψ' ψ'') :
      LoopChain dim G cur g (op :: ops) ψ ψ''

theorem LoopChain.toStep {dim : SLeg → Nat} {G : Nat → Asg SLeg → R} {cur : Nat → GLeg} {g : Nat}
    {ops : List (List Nat)} {ψ ψ'' : Asg SLeg → R} (h : LoopChain dim G cur g ops ψ ψ'') :
    StepChain dim G cur g ops ψ ψ'' := by
  induction h with
  | nil cur g ψ => exact StepChain.nil cur g ψ
  | cons cur g op ops ψ ψ' ψ'' h1 _ ih => exact StepChain.cons cur g op ops ψ ψ' ψ'' h1.toOp ih

theorem loop_chain_value {dim : SLeg → Nat} {G : Nat → Asg SLeg → R} {cur : Nat → GLeg} {g : Nat}
    {ops : List (List Nat)} {ψ ψ'' : Asg SLeg → R} (h : LoopChain dim G cur g ops ψ ψ'') :
    ψ'' = actRun dim G cur g ops ψ :=
  chain_value h.toStep

omit [CommSemiring R] in
/-- **The model's operation sequence for a pair `P` / `C` is `tensordot(tensordot(P, C), G)`**, whichever way
the pair was named, provided the contracted node's legs are a transposition of the raw `tensordot` legs (which
the two stage lemmas `contract_parentFirst` / `contract_childFirst` show). -/
theorem pair_built {p c : Nat} {pp : Option Nat} {A B K : List Nat} (oP oC : Nat)
    {id1 id2 : Nat} {n1 n2 : MNode} {r : TwoSiteResult} (hr : twoSite id1 n1 id2 n2 = some r)
    (hcl : r.contr.legs.Perm (rawLegs p c pp A B K oP oC)) (TP TC G : Asg Leg → R) :
    Built r.absorbed.legs (gateExpr (mkNode p pp (A ++ c :: B) oP).legs (mkNode c (some p) K oC).legs
        [(Leg.nb c, Leg.nb p)] r.contr.nopen r.binds TP TC G) :=
  absorb_built G (Built.transpose
    (Built.dot (Built.fresh _ TP) (Built.fresh _ TC) (by simp) (by simp) (dataContraction oP oC)) hcl)
    (twoSite_stages hr).2

/-- the exact-split-only contract of a two-site operator is satisfiable for every pair of tensors and every gate
(bond of dimension one) -/
theorem LoopContract.exists_two (dim : SLeg → Nat) (Gt : Asg SLeg → R) (gp : List (SLeg × SLeg)) (a b : Nat)
    (T₁ T₂ : Asg SLeg → R) (b₁ b₂ q r : SLeg) {S SG : SLeg → Prop}
    (hT₁ : DependsOn S T₁) (hT₂ : DependsOn S T₂) (hGS : DependsOn S Gt) (hq : ¬ S q) (hr : ¬ S r)
    (hd : dim q = 1) (hG : DependsOn SG Gt) (hnd : (Expr.pairLegs gp).Nodup) :
    LoopContract dim Gt gp [a, b] (netValue dim ([] ++ [(b₁, b₂)]) [T₁, T₂])
      (netValue dim ([] ++ [(q, r)])
        [fun τ => sumPairs dim gp (fun ρ => Gt ρ * sumPairs dim [(b₁, b₂)] (fun ρ' => T₁ ρ' * T₂ ρ') ρ) τ,
         fun _ => 1]) :=
  LoopContract.two a b [] T₁ T₂ _ _ [] b₁ b₂ q r (fun _ => False) SG
    (fun τ => trivial_split dim _ q r
      (dependsOn_contract dim gp hGS (dependsOn_contract dim [(b₁, b₂)] hT₁ hT₂)) hq hr hd τ)
    (by simp) id id id id (fun _ _ => id) hG (by simp [Expr.pairLegs]) (by simpa using hnd)

/-- The contract of a two-site operator is satisfiable for EVERY pair of tensors joined by a bond and every
gate: the absorbed tensor factorises exactly over a new bond of dimension one (`trivial_split`). -/
theorem OpContract.exists_two (dim : SLeg → Nat) (Gt : Asg SLeg → R) (gp : List (SLeg × SLeg)) (a b : Nat)
    (T₁ T₂ : Asg SLeg → R) (b₁ b₂ q r : SLeg) {S SG : SLeg → Prop}
    (hT₁ : DependsOn S T₁) (hT₂ : DependsOn S T₂) (hGS : DependsOn S Gt) (hq : ¬ S q) (hr : ¬ S r)
    (hd : dim q = 1) (hG : DependsOn SG Gt) (hnd : (Expr.pairLegs gp).Nodup) :
    OpContract dim Gt gp [a, b] (netValue dim ([] ++ [(b₁, b₂)]) [T₁, T₂])
      (netValue dim ([] ++ [(q, r)])
        [fun τ => sumPairs dim gp (fun ρ => Gt ρ * sumPairs dim [(b₁, b₂)] (fun ρ' => T₁ ρ' * T₂ ρ') ρ) τ,
         fun _ => 1]) :=
  (LoopContract.exists_two dim Gt gp a b T₁ T₂ b₁ b₂ q r hT₁ hT₂ hGS hq hr hd hG hnd).toOp

end value

end Ptn.C08
