import Ptn.Common.List
import Ptn.C08.Lemmas
import Ptn.Common.Einsum
/-! Value level for C08: the SWAP gate.  `entry_swap_eq` gives the entries of the matrix built by
the double loop of `swap_gate`; here the matrix, reshaped to a gate tensor (`NumericOperator.to_tensor`: row
index `o₀·d + o₁`, column index `i₀·d + i₁`), is applied to a state vector. -/
namespace Ptn.C08

open Ptn.Ein Finset

variable {L : Type} [DecidableEq L] {R : Type} [CommSemiring R]

/-- the gate tensor of `swap_gate(d)`: entry of the modelled matrix at row `(go₀, go₁)`, column `(gi₀, gi₁)` -/
def swapTensor (d : Nat) (go0 go1 gi0 gi1 : L) : Asg L → R :=
  fun τ => (((entry (swapGate d) (τ go0 * d + τ go1) (τ gi0 * d + τ gi1)).getD 0 : Nat) : R)

theorem entry_swap_eq (d a b a' b' : Nat) (ha : a < d) (hb : b < d) (ha' : a' < d) (hb' : b' < d) :
    entry (swapGate d) (a * d + b) (a' * d + b') = some (if a = b' ∧ b = a' then 1 else 0) := by
  rw [entry_swapGate]
  have h1 := index_lt ha hb
  have h2 := index_lt ha' hb'
  simp only [h1, h2, and_self, if_true]
  have hc : swapCond d (a * d + b) (a' * d + b') = true ↔ (a = b' ∧ b = a') := by
    rw [swapCond_iff, mul_add_div_of_lt hb, mul_add_mod_of_lt hb, mul_add_div_of_lt hb', mul_add_mod_of_lt hb']
    constructor
    · intro h; exact ⟨h.1, h.2.symm⟩
    · intro h; exact ⟨h.1, h.2.symm⟩
  by_cases h : a = b' ∧ b = a'
  · rw [if_pos h, if_pos (hc.mpr h)]
  · have : ¬ swapCond d (a * d + b) (a' * d + b') = true := fun x => h (hc.mp x)
    rw [if_neg h, if_neg this]

theorem swap_apply (dim : L → Nat) (d : Nat) (p0 p1 go0 go1 gi0 gi1 : L)
    (hnd : [p0, p1, gi0, gi1, go0, go1].Nodup) (hd0 : dim p0 = d) (hd1 : dim p1 = d)
    (ψ : Asg L → R) {S : L → Prop} (hψ : DependsOn S ψ) (h0 : ¬ S gi0) (h1 : ¬ S gi1)
    (σ : Asg L) (ho0 : σ go0 < d) (ho1 : σ go1 < d) :
    sumPairs dim [(p0, gi0), (p1, gi1)] (fun τ => swapTensor d go0 go1 gi0 gi1 τ * ψ τ) σ =
      ψ (upd (upd σ p0 (σ go1)) p1 (σ go0)) := by
  simp only [List.nodup_cons, List.mem_cons, List.not_mem_nil, or_false, not_or, List.nodup_nil,
    and_true, not_false_eq_true] at hnd
  obtain ⟨⟨n01, n02, n03, n04, n05⟩, ⟨n12, n13, n14, n15⟩, ⟨n23, n24, n25⟩, ⟨n34, n35⟩, n45⟩ := hnd
  simp only [sumPairs, sumR_eq, hd0, hd1]
  have key : ∀ i ∈ range d, ∀ j ∈ range d,
      swapTensor (R := R) d go0 go1 gi0 gi1 (upd (upd (upd (upd σ p0 i) gi0 i) p1 j) gi1 j) *
        ψ (upd (upd (upd (upd σ p0 i) gi0 i) p1 j) gi1 j) =
      if σ go0 = j ∧ σ go1 = i then ψ (upd (upd σ p0 i) p1 j) else 0 := by
    intro i hi j hj
    have hi' := mem_range.1 hi
    have hj' := mem_range.1 hj
    have e1 : (upd (upd (upd (upd σ p0 i) gi0 i) p1 j) gi1 j) go0 = σ go0 := by
      simp [upd, Ne.symm n04, Ne.symm n24, Ne.symm n14, Ne.symm n34]
    have e2 : (upd (upd (upd (upd σ p0 i) gi0 i) p1 j) gi1 j) go1 = σ go1 := by
      simp [upd, Ne.symm n05, Ne.symm n25, Ne.symm n15, Ne.symm n35]
    have e3 : (upd (upd (upd (upd σ p0 i) gi0 i) p1 j) gi1 j) gi0 = i := by
      simp [upd, n23, Ne.symm n12]
    have e4 : (upd (upd (upd (upd σ p0 i) gi0 i) p1 j) gi1 j) gi1 = j := by
      simp [upd]
    have hψ' : ψ (upd (upd (upd (upd σ p0 i) gi0 i) p1 j) gi1 j) = ψ (upd (upd σ p0 i) p1 j) := by
      apply hψ
      intro l hl
      have l0 : l ≠ gi0 := fun e => h0 (e ▸ hl)
      have l1 : l ≠ gi1 := fun e => h1 (e ▸ hl)
      simp [upd, l0, l1]
    unfold swapTensor
    rw [e1, e2, e3, e4, entry_swap_eq d _ _ _ _ ho0 ho1 hi' hj', hψ']
    by_cases hc : σ go0 = j ∧ σ go1 = i
    · simp [hc]
    · simp [hc]
  -- each sum keeps one term: `i = σ go1`, `j = σ go0`
  rw [sum_congr rfl (fun i hi => sum_congr rfl (fun j hj => key i hi j hj))]
  rw [sum_eq_single (σ go1)]
  · rw [sum_eq_single (σ go0)]
    · simp
    · intro j _ hj; simp [Ne.symm hj]
    · intro hj; exact absurd (mem_range.2 ho0) hj
  · intro i _ hi
    apply sum_eq_zero
    intro j _
    simp [Ne.symm hi]
  · intro hi; exact absurd (mem_range.2 ho1) hi

end Ptn.C08
