import Ptn.Common.EinsumBuilt
import Ptn.C08.LegLemmas
/-! `Built l e`: the leg list `l` of the C08 leg model was obtained from fresh tensors (the node tensors and the
gate tensor) by the nesting of `tensordot` calls (`Ptn.C08.tensordot`, the model of `numpy.tensordot` on label
lists) that `e` records, and any transpositions (all the `pop` / `insert` bookkeeping of `Node` is a
transposition).  The analogue of `Ptn/C04/Built.lean` over the C08 label type (the C08 model keeps leg lists and
returns the pairs of each `tensordot` instead of carrying a record in the tensor). -/
namespace Ptn.C08

open Ptn.Ein

theorem tensordot_some {la lb lc : List Leg} {axa axb : List Nat} {ps : List (Leg × Leg)}
    (h : tensordot la lb axa axb = some (lc, ps)) :
    axa.length = axb.length ∧ ∃ xa xb, pick la axa = some xa ∧ pick lb axb = some xb ∧
      lc = removeIdxs axa 0 la ++ removeIdxs axb 0 lb ∧ ps = xa.zip xb := by
  unfold tensordot at h
  split at h
  · simp at h
  · rename_i hlen
    split at h
    · rename_i xa xb hxa hxb
      simp only [Option.some.injEq, Prod.mk.injEq] at h
      exact ⟨by simpa using hlen, xa, xb, hxa, hxb, h.1.symm, h.2.symm⟩
    · simp at h

variable {R : Type}

inductive Built : List Leg → Expr Leg R → Prop
  | fresh (legs : List Leg) (v : Asg Leg → R) : Built legs (Expr.leaf legs v)
  | dot {la lb lc : List Leg} {ea eb : Expr Leg R} {axa axb : List Nat} {ps : List (Leg × Leg)} :
      Built la ea → Built lb eb → axa.Nodup → axb.Nodup → tensordot la lb axa axb = some (lc, ps) →
      Built lc (Expr.dot ea eb ps)
  | transpose {l l' : List Leg} {e : Expr Leg R} : Built l e → l'.Perm l → Built l' e

section sound
variable [CommSemiring R]

theorem Built.sound {l : List Leg} {e : Expr Leg R} (h : Built l e) (hnd : e.labels.Nodup) :
    l.Perm e.free ∧ e.PairsOK := by
  induction h with
  | fresh legs v => exact ⟨List.Perm.refl _, trivial⟩
  | @dot la lb lc ea eb axa axb ps _ _ hia hib htd iha ihb =>
    have hnd' := List.nodup_append.1 hnd
    obtain ⟨hfa, hpa⟩ := iha hnd'.1
    obtain ⟨hfb, hpb⟩ := ihb hnd'.2.1
    obtain ⟨hlen, xa, xb, hxa, hxb, rfl, rfl⟩ := tensordot_some htd
    rw [pick_eq] at hxa hxb
    obtain ⟨h1, h2, h3, h4⟩ := Expr.dot_step hnd hfa hfb hia hib hlen hxa hxb
    rw [removeIdxs_eq, removeIdxs_eq]
    exact ⟨h1, hpa, hpb, h2, h3, h4⟩
  | transpose _ hperm ih =>
    obtain ⟨h1, h2⟩ := ih hnd
    exact ⟨hperm.trans h1, h2⟩

theorem Built.swf {l : List Leg} {e : Expr Leg R} (h : Built l e) (hnd : e.labels.Nodup) (hloc : e.LeavesLocal) :
    e.SWF :=
  Expr.swf_of_clean e hnd hloc (h.sound hnd).2

theorem Built.program {l : List Leg} {e : Expr Leg R} (hb : Built l e) (hnd : e.labels.Nodup) :
    Built l e ∧ e.labels.Nodup ∧ l.Perm e.free ∧ (e.LeavesLocal → e.SWF) :=
  ⟨hb, hnd, (hb.sound hnd).1, hb.swf hnd⟩

/-- **The value of a built leg list is well defined**: two programs that build it from the same leaf tensors
with the same binding record (in any order) evaluate to the same value. -/
theorem Built.value_unique {l : List Leg} {e₁ e₂ : Expr Leg R} (h₁ : Built l e₁) (h₂ : Built l e₂)
    (hb : e₁.binds.Perm e₂.binds) (hl : e₁.leaves.Perm e₂.leaves) (hnd : e₁.labels.Nodup) (hloc : e₁.LeavesLocal)
    (dim : Leg → Nat) (σ : Asg Leg) : e₁.eval dim σ = e₂.eval dim σ := by
  have hnd₂ : e₂.labels.Nodup := by
    rw [Expr.labels_eq_leaves] at hnd ⊢
    exact (hl.flatMap_right _).nodup_iff.1 hnd
  have hloc₂ : e₂.LeavesLocal := fun lf h => hloc lf (hl.mem_iff.2 h)
  exact Expr.eval_unique dim e₁ e₂ (h₁.swf hnd hloc) (h₂.swf hnd₂ hloc₂) hb hl σ

end sound

end Ptn.C08
