import Ptn.C08.Model
/-! The fold of `exponentiate_splitting` and the double loop of `swap_gate` (core Lean only). -/
namespace Ptn.C08

def stepOps {α : Type} (s : TStep α) : List α := s.before ++ [s.gate] ++ s.after

theorem foldl_stepBody {α : Type} (steps : List (TStep α)) (acc : List α) :
    steps.foldl stepBody acc = acc ++ (steps.map stepOps).flatten := by
  induction steps generalizing acc with
  | nil => simp
  | cons s ss ih =>
    simp only [List.foldl_cons, ih, List.map_cons, List.flatten_cons, stepBody, stepOps,
      List.append_assoc]

theorem entry_setEntry (M : Mat) (i j v i' j' : Nat) :
    entry (setEntry M i j v) i' j' =
      if i' = i ∧ j' = j then (entry M i j).map (fun _ => v) else entry M i' j' := by
  unfold entry setEntry
  by_cases hi : i' = i
  · subst hi
    cases h : M[i']? with
    | none => simp [h]
    | some row =>
      by_cases hj : j' = j
      · subst hj
        simp [h, List.getElem?_set]
        by_cases hl : j' < row.length
        · simp [hl]
        · simp [hl]
      · have hj' : j ≠ j' := fun h => hj h.symm
        simp [h, hj, List.getElem?_set_ne hj']
  · have hne : i ≠ i' := fun h => hi h.symm
    simp [List.getElem?_modify_ne _ _ hne, hi]

theorem entry_zeros (n m i j : Nat) :
    entry (zeros n m) i j = if i < n ∧ j < m then some 0 else none := by
  unfold entry zeros
  by_cases hi : i < n
  · by_cases hj : j < m
    · simp [hi, hj]
    · simp [hi, hj]
  · simp [hi]

theorem entry_rowLoop (c : Nat → Bool) (i : Nat) (js : List Nat) (M : Mat) (i' j' : Nat) :
    entry (js.foldl (fun M j => if c j then setEntry M i j 1 else M) M) i' j' =
      if i' = i ∧ j' ∈ js ∧ c j' = true then (entry M i' j').map (fun _ => 1) else entry M i' j' := by
  induction js generalizing M with
  | nil => simp
  | cons j js ih =>
    simp only [List.foldl_cons, ih, List.mem_cons]
    by_cases hc : c j = true
    · simp only [hc, if_true, entry_setEntry]
      by_cases hi : i' = i
      · subst hi
        by_cases hj : j' = j
        · subst hj
          simp [hc, Function.comp_def]
        · simp [hj]
      · simp [hi]
    · simp only [hc]
      by_cases hj : j' = j
      · subst hj
        simp [hc]
      · simp [hj]

theorem entry_swapRow (d i : Nat) (M : Mat) (i' j' : Nat) :
    entry (swapRow d i M) i' j' =
      if i' = i ∧ j' < d * d ∧ swapCond d i j' = true then (entry M i' j').map (fun _ => 1)
      else entry M i' j' := by
  unfold swapRow
  rw [entry_rowLoop (swapCond d i) i]
  simp [List.mem_range]

theorem entry_outerLoop (d : Nat) (is : List Nat) (M : Mat) (i' j' : Nat) :
    entry (is.foldl (fun M i => swapRow d i M) M) i' j' =
      if i' ∈ is ∧ j' < d * d ∧ swapCond d i' j' = true then (entry M i' j').map (fun _ => 1)
      else entry M i' j' := by
  induction is generalizing M with
  | nil => simp
  | cons i is ih =>
    simp only [List.foldl_cons, ih, entry_swapRow, List.mem_cons]
    by_cases hi : i' = i
    · subst hi
      by_cases h2 : j' < d * d ∧ swapCond d i' j' = true
      · simp [h2, Function.comp_def]
      · have : ¬ (j' < d * d ∧ swapCond d i' j' = true) := h2
        simp only [true_and, true_or]
        simp [this]
    · simp [hi]

theorem entry_swapGate (d i j : Nat) :
    entry (swapGate d) i j =
      if i < d * d ∧ j < d * d then some (if swapCond d i j then 1 else 0) else none := by
  unfold swapGate
  rw [entry_outerLoop, entry_zeros]
  by_cases hi : i < d * d
  · by_cases hj : j < d * d
    · by_cases hc : swapCond d i j = true
      · simp [hi, hj, hc, List.mem_range]
      · simp [hi, hj, hc, List.mem_range]
    · simp [hi, hj]
  · simp [hi, List.mem_range]

theorem swapCond_iff (d i j : Nat) :
    swapCond d i j = true ↔ (i / d = j % d ∧ j / d = i % d) := by
  simp [swapCond]

theorem index_lt {d a b : Nat} (ha : a < d) (hb : b < d) : a * d + b < d * d := by
  have h1 : a * d + d ≤ d * d := by
    have : (a + 1) * d ≤ d * d := Nat.mul_le_mul_right d ha
    rw [Nat.add_mul, Nat.one_mul] at this
    exact this
  omega

end Ptn.C08
