import Ptn.C08.EinGate
import Ptn.C08.StepLemmas
/-! The value of a whole TEBD time step.  The flat network "old state + gate tensors" over the record `specRun`
(by `tebd_step_legs` the global binding record of `run_one_time_step`; what the harness evaluates through
the `einrec` command of the C04 driver) evaluates to the ordered product of the gates `actRun` of the old state (`record_value`), and so does
every chain of networks related by the value-level contracts of the library routines (`chain_value`). -/
namespace Ptn.C08

open Ptn.Ein

/-- global leg labels of a whole step: physical legs (initial / gate outputs), gate inputs, virtual legs
(`virt a b v`: the leg of node `a` toward `b` in its version `v`; see `stepGlob`, StepGlobal.lean) -/
inductive SLeg where
  | ph (l : GLeg)
  | gin (g k : Nat)
  | virt (a b v : Nat)
  deriving DecidableEq, Repr

def recPairs (rc : List Rec) : List (SLeg × SLeg) := rc.map fun r => (SLeg.ph r.1, SLeg.gin r.2.1 r.2.2)

/-- what the tensor of gate `g` reads: its outputs `ph (out g k)` and its inputs `gin g k` -/
def GateReadsS (g : Nat) : SLeg → Prop
  | .ph (.out g' _) => g' = g
  | .gin g' _ => g' = g
  | _ => False

section
variable {R : Type} [CommSemiring R]

/-- the action of operator number `g` on a state vector: `Σ_in G[out; in] · φ[…, in, …]` over the pairs the
specification prescribes (input `k` with the current physical leg of the `k`-th site); no site: skipped (`pass`
in `_apply_one_trotter_step`) -/
def gateAct (dim : SLeg → Nat) (Gt : Asg SLeg → R) (cur : Nat → GLeg) (g : Nat) (op : List Nat)
    (φ : Asg SLeg → R) : Asg SLeg → R :=
  match op with
  | [] => φ
  | _ => fun σ => sumPairs dim (recPairs (specOp g (cur, []) 0 op).2) (fun τ => Gt τ * φ τ) σ

/-- the ordered product of the gates of a step, as a fold over the exponent list -/
def actRun (dim : SLeg → Nat) (G : Nat → Asg SLeg → R) :
    (Nat → GLeg) → Nat → List (List Nat) → (Asg SLeg → R) → Asg SLeg → R
  | _, _, [], φ => φ
  | cur, g, op :: ops, φ => actRun dim G (specOp g (cur, []) 0 op).1 (g + 1) ops (gateAct dim (G g) cur g op φ)

/-- the gate tensors of the operators that name at least one site, last operator first, in front of `acc` -/
def gateLeaves (G : Nat → Asg SLeg → R) : Nat → List (List Nat) → List (Asg SLeg → R) → List (Asg SLeg → R)
  | _, [], acc => acc
  | g, [] :: ops, acc => gateLeaves G (g + 1) ops acc
  | g, (_ :: _) :: ops, acc => gateLeaves G (g + 1) ops (G g :: acc)

end

theorem specOp_record (g : Nat) : ∀ (ss : List Nat) (cur : Nat → GLeg) (rc : List Rec) (k : Nat),
    specOp g (cur, rc) k ss = ((specOp g (cur, []) k ss).1, rc ++ (specOp g (cur, []) k ss).2)
  | [], cur, rc, k => by simp [specOp]
  | s :: ss, cur, rc, k => by
    simp only [specOp, List.nil_append]
    rw [specOp_record g ss _ (rc ++ [(cur s, g, k)]), specOp_record g ss _ [(cur s, g, k)]]
    simp

theorem specRun_cons (cur : Nat → GLeg) (rc : List Rec) (g : Nat) (op : List Nat) (ops : List (List Nat)) :
    specRun (cur, rc) g (op :: ops) =
      specRun ((specOp g (cur, []) 0 op).1, rc ++ (specOp g (cur, []) 0 op).2) (g + 1) ops := by
  simp only [specRun]
  rw [specOp_record]

/-- the three shapes of operator `_apply_one_trotter_step` accepts (two sites: distinct) -/
def OpForm (op : List Nat) : Prop := op = [] ∨ (∃ s, op = [s]) ∨ (∃ a b, a ≠ b ∧ op = [a, b])

theorem validOp_form {t : List TNode} (hwf : TreeWF t) : ∀ {op : List Nat}, ValidOp t op → OpForm op
  | [], _ => Or.inl rfl
  | [s], _ => Or.inr (Or.inl ⟨s, rfl⟩)
  | [a, b], h => by
    obtain ⟨x, hx, y, hy, hxa, hyb, hor⟩ := h
    obtain ⟨d, hd⟩ := hwf.depth
    refine Or.inr (Or.inr ⟨a, b, ?_, rfl⟩)
    intro e
    rcases hor with h1 | h1
    · have := hd y hy a h1; rw [hyb, e] at this; exact Nat.lt_irrefl _ this
    · have := hd x hx b h1; rw [hxa, e] at this; exact Nat.lt_irrefl _ this
  | _ :: _ :: _ :: _, h => h.elim

/-- the physical leg exists before gate `g` acts -/
def GLeg.lt (g : Nat) : GLeg → Prop
  | .init _ => True
  | .out g' _ => g' < g

theorem GLeg.lt_mono {g : Nat} : ∀ {l : GLeg}, l.lt g → l.lt (g + 1)
  | .init _, _ => trivial
  | .out _ _, h => Nat.lt_succ_of_lt h

/-- structural part of the invariant: the current physical legs are pairwise distinct and not yet bound; no
leg is bound twice -/
structure RecStr (cur : Nat → GLeg) (rc : List Rec) : Prop where
  inj : ∀ s s', cur s = cur s' → s = s'
  free : ∀ s, ∀ r ∈ rc, r.1 ≠ cur s
  physNodup : (rc.map (·.1)).Nodup
  ginNodup : (rc.map (·.2)).Nodup

/-- the record so far involves only gates before `g`; the current physical legs were created before gate `g` -/
structure RecLt (cur : Nat → GLeg) (rc : List Rec) (g : Nat) : Prop where
  curLt : ∀ s, (cur s).lt g
  recLt : ∀ r ∈ rc, r.1.lt g ∧ r.2.1 < g

/-- the invariant of the record while gate `g` is next -/
def RecInv (cur : Nat → GLeg) (rc : List Rec) (g : Nat) : Prop := RecStr cur rc ∧ RecLt cur rc g

theorem recInv_init : RecInv GLeg.init [] 0 :=
  ⟨⟨fun _ _ h => by cases h; rfl, by simp, by simp, by simp⟩, ⟨fun _ => trivial, by simp⟩⟩

theorem ne_of_lt_out {g k : Nat} {l : GLeg} (h : l.lt g) : l ≠ GLeg.out g k := by
  intro e; subst e; exact Nat.lt_irrefl g h

theorem RecStr.step {cur : Nat → GLeg} {rc : List Rec} (h : RecStr cur rc) (s : Nat) (o : GLeg)
    (gk : Nat × Nat) (ho1 : ∀ x, cur x ≠ o) (ho2 : ∀ r ∈ rc, r.1 ≠ o) (hgk : ∀ r ∈ rc, r.2 ≠ gk) :
    RecStr (setCur cur s o) (rc ++ [(cur s, gk)]) := by
  refine ⟨?_, ?_, ?_, ?_⟩
  · intro x y hxy
    simp only [setCur] at hxy
    by_cases hx : x = s <;> by_cases hy : y = s
    · rw [hx, hy]
    · simp only [hx, hy, if_true, if_false] at hxy
      exact absurd hxy.symm (ho1 y)
    · simp only [hx, hy, if_true, if_false] at hxy
      exact absurd hxy (ho1 x)
    · simp only [hx, hy, if_false] at hxy
      exact h.inj x y hxy
  · intro x r hr
    simp only [setCur]
    rcases List.mem_append.1 hr with hr | hr
    · by_cases hx : x = s
      · simp only [hx, if_true]; exact ho2 r hr
      · simp only [hx, if_false]; exact h.free x r hr
    · simp only [List.mem_singleton] at hr
      subst hr
      by_cases hx : x = s
      · simp only [hx, if_true]; exact ho1 s
      · simp only [hx, if_false]; exact fun e => hx (h.inj s x e).symm
  · exact nodup_map_snoc h.physNodup (h.free s)
  · exact nodup_map_snoc h.ginNodup hgk

theorem RecLt.fresh {cur : Nat → GLeg} {rc : List Rec} {g : Nat} (h : RecLt cur rc g) (k : Nat) :
    (∀ x, cur x ≠ GLeg.out g k) ∧ ∀ r ∈ rc, r.1 ≠ GLeg.out g k ∧ r.2 ≠ (g, k) :=
  ⟨fun x => ne_of_lt_out (h.curLt x), fun r hr => ⟨ne_of_lt_out (h.recLt r hr).1, fun e => by
    have := (h.recLt r hr).2; rw [e] at this; exact Nat.lt_irrefl g this⟩⟩

theorem RecInv.mono {cur : Nat → GLeg} {rc : List Rec} {g : Nat} (h : RecInv cur rc g) : RecInv cur rc (g + 1) :=
  ⟨h.1, fun s => GLeg.lt_mono (h.2.curLt s),
    fun r hr => ⟨GLeg.lt_mono (h.2.recLt r hr).1, Nat.lt_succ_of_lt (h.2.recLt r hr).2⟩⟩

theorem RecInv.bind {cur : Nat → GLeg} {rc : List Rec} {g : Nat} (h : RecInv cur rc (g + 1)) (s k : Nat)
    (hcur : ∀ x, cur x ≠ GLeg.out g k) (hrc : ∀ r ∈ rc, r.1 ≠ GLeg.out g k ∧ r.2 ≠ (g, k)) :
    RecInv (setCur cur s (GLeg.out g k)) (rc ++ [(cur s, g, k)]) (g + 1) := by
  refine ⟨h.1.step s _ (g, k) hcur (fun r hr => (hrc r hr).1) (fun r hr => (hrc r hr).2), ?_, ?_⟩
  · intro x
    simp only [setCur]
    by_cases hx : x = s
    · simp [hx, GLeg.lt]
    · simp only [hx, if_false]; exact h.2.curLt x
  · intro r hr
    rcases List.mem_append.1 hr with hr | hr
    · exact h.2.recLt r hr
    · simp only [List.mem_singleton] at hr
      subst hr
      exact ⟨h.2.curLt s, Nat.lt_succ_self g⟩

/-- inside gate `g`: the sites `ss` get the output legs `k, k + 1, …` and their old legs are bound to the inputs
`k, k + 1, …`, whatever the sites (one that is named twice binds the output it has just been given) -/
theorem RecInv.bindAll {g : Nat} : ∀ (ss : List Nat) {cur : Nat → GLeg} {rc : List Rec} (k : Nat),
    RecInv cur rc (g + 1) →
    (∀ k', k ≤ k' → (∀ x, cur x ≠ GLeg.out g k') ∧ ∀ r ∈ rc, r.1 ≠ GLeg.out g k' ∧ r.2 ≠ (g, k')) →
    RecInv (specOp g (cur, []) k ss).1 (rc ++ (specOp g (cur, []) k ss).2) (g + 1)
  | [], cur, rc, k, h, _ => by simpa [specOp] using h
  | s :: ss, cur, rc, k, h, hf => by
    simp only [specOp, List.nil_append]
    rw [specOp_record, ← List.append_assoc]
    refine RecInv.bindAll ss (k + 1) (h.bind s k (hf k (Nat.le_refl k)).1 (hf k (Nat.le_refl k)).2) ?_
    intro k' hk'
    obtain ⟨h1, h2⟩ := hf k' (Nat.le_of_succ_le hk')
    have hne : k ≠ k' := Nat.ne_of_lt hk'
    refine ⟨fun x => ?_, fun r hr => ?_⟩
    · simp only [setCur]
      split
      · exact fun e => hne (GLeg.out.inj e).2
      · exact h1 x
    · rcases List.mem_append.1 hr with hr | hr
      · exact h2 r hr
      · simp only [List.mem_singleton] at hr
        subst hr
        exact ⟨h1 s, fun e => hne (Prod.mk.inj e).2⟩

theorem RecInv.step {cur : Nat → GLeg} {rc : List Rec} {g : Nat} (h : RecInv cur rc g) (op : List Nat) :
    RecInv (specOp g (cur, []) 0 op).1 (rc ++ (specOp g (cur, []) 0 op).2) (g + 1) :=
  RecInv.bindAll op 0 h.mono fun k' _ => h.2.fresh k'

theorem pairLegs_recPairs (rc : List Rec) :
    Expr.pairLegs (recPairs rc) =
      (rc.map (·.1)).map SLeg.ph ++ (rc.map (·.2)).map (fun x => SLeg.gin x.1 x.2) := by
  simp [Expr.pairLegs, recPairs, List.map_map, Function.comp_def]

theorem RecStr.nodup {cur : Nat → GLeg} {rc : List Rec} (h : RecStr cur rc) :
    (Expr.pairLegs (recPairs rc)).Nodup := by
  rw [pairLegs_recPairs, List.nodup_append]
  refine ⟨h.physNodup.map (fun a b e => by cases e; rfl),
    h.ginNodup.map (fun a b e => by cases a; cases b; cases e; rfl), ?_⟩
  intro a ha b hb hab
  obtain ⟨x, _, rfl⟩ := List.mem_map.1 ha
  obtain ⟨y, _, rfl⟩ := List.mem_map.1 hb
  cases hab

theorem RecLt.gate_fresh {cur : Nat → GLeg} {rc : List Rec} {g : Nat} (h : RecLt cur rc g) :
    ∀ l ∈ Expr.pairLegs (recPairs rc), ¬ GateReadsS g l := by
  intro l hl
  rw [pairLegs_recPairs] at hl
  rcases List.mem_append.1 hl with hl | hl
  · obtain ⟨x, hx, rfl⟩ := List.mem_map.1 hl
    obtain ⟨r, hr, rfl⟩ := List.mem_map.1 hx
    have := (h.recLt r hr).1
    cases hr1 : r.1 with
    | init s => simp [GateReadsS]
    | out g' k =>
      rw [hr1] at this
      simp only [GateReadsS]
      exact fun e => Nat.lt_irrefl g (e ▸ this)
  · obtain ⟨x, hx, rfl⟩ := List.mem_map.1 hl
    obtain ⟨r, hr, rfl⟩ := List.mem_map.1 hx
    have := (h.recLt r hr).2
    simp only [GateReadsS]
    exact fun e => Nat.lt_irrefl g (e ▸ this)

section
variable {R : Type} [CommSemiring R]

theorem recPairs_append (a b : List Rec) : recPairs (a ++ b) = recPairs a ++ recPairs b := by
  simp [recPairs]

theorem gateAct_record (dim : SLeg → Nat) (Gt : Asg SLeg → R) {cur : Nat → GLeg} {rc : List Rec} {g : Nat}
    (hG : DependsOn (GateReadsS g) Gt) (h : RecInv cur rc g) (s : Nat) (ss : List Nat)
    (leaves : List (Asg SLeg → R)) (σ : Asg SLeg) :
    netValue dim (recPairs (rc ++ (specOp g (cur, []) 0 (s :: ss)).2)) (Gt :: leaves) σ =
      gateAct dim Gt cur g (s :: ss) (netValue dim (recPairs rc) leaves) σ := by
  have hn := (h.step (s :: ss)).1.nodup
  rw [recPairs_append] at hn ⊢
  exact apply_gate_value dim (recPairs rc) _ Gt leaves hG h.2.gate_fresh hn σ

/-- **The model's binding record evaluates to the ordered product of the gates.**  The flat network made of
the leaves of the old state (record `rc`) and the tensors of the gates, over the record the step produces
(`specRun`, by `tebd_step_legs` the record of the modelled loop), has the value `actRun` of the old state. -/
theorem record_value (dim : SLeg → Nat) (G : Nat → Asg SLeg → R)
    (hG : ∀ g, DependsOn (GateReadsS g) (G g)) :
    ∀ (ops : List (List Nat)), (∀ op ∈ ops, OpForm op) → ∀ (cur : Nat → GLeg) (rc : List Rec) (g : Nat),
      RecInv cur rc g → ∀ (leaves : List (Asg SLeg → R)) (σ : Asg SLeg),
      netValue dim (recPairs (specRun (cur, rc) g ops).2) (gateLeaves G g ops leaves) σ =
        actRun dim G cur g ops (netValue dim (recPairs rc) leaves) σ
  | [], _, cur, rc, g, _, leaves, σ => rfl
  | [] :: ops, hops, cur, rc, g, h, leaves, σ => by
    rw [specRun_cons]
    have h' := h.step []
    have ih := record_value dim G hG ops (fun op hop => hops op (List.mem_cons_of_mem _ hop)) _ _ _ h' leaves σ
    simp only [gateLeaves, actRun, gateAct]
    simp only [specOp, List.append_nil] at ih ⊢
    exact ih
  | (s :: ss) :: ops, hops, cur, rc, g, h, leaves, σ => by
    rw [specRun_cons]
    have h' := h.step (s :: ss)
    have ih := record_value dim G hG ops (fun op hop => hops op (List.mem_cons_of_mem _ hop)) _ _ _ h'
      (G g :: leaves) σ
    simp only [gateLeaves, actRun]
    rw [ih]
    congr 1
    funext τ
    exact gateAct_record dim (G g) (hG g) h s ss leaves τ

/-- **Value-level contract of `_apply_one_trotter_step`** for one operator whose bindings are `gp`; the two
last arguments are the state vectors (values of the labelled networks) before and after.

* no site: `pass`;
* one site: `absorb_into_open_legs` — `A = Σ_gp G·T` (`tensordot`);
* two sites: `contract_nodes` — `C = Σ_bond T₁·T₂`; `absorb_into_open_legs` — `A = Σ_gp G·C`;
  `split_node_svd` with truncation disabled — `A = Σ_newbond U·V`, an exact factorisation (the contract of
  the SVD; with truncation enabled this identity does not hold and the theorems below do not apply).

The side conditions say that the labelled network is well formed: the rest of the network reads neither the
old / new bond nor the legs bound to the gate, the gate reads no bond, no leg is bound twice. -/
inductive OpContract (dim : SLeg → Nat) (Gt : Asg SLeg → R) (gp : List (SLeg × SLeg)) :
    List Nat → (Asg SLeg → R) → (Asg SLeg → R) → Prop
  | skip (ψ : Asg SLeg → R) : OpContract dim Gt gp [] ψ ψ
  | single (s : Nat) (bs : List (SLeg × SLeg)) (T A : Asg SLeg → R) (rest : List (Asg SLeg → R))
      (S SG : SLeg → Prop)
      (hA : ∀ τ, A τ = sumPairs dim gp (fun ρ => Gt ρ * T ρ) τ)
      (hrest : ∀ f ∈ rest, DependsOn S f) (hgp : ∀ l ∈ Expr.pairLegs gp, ¬ S l)
      (hG : DependsOn SG Gt) (hdis : ∀ l ∈ Expr.pairLegs bs, ¬ SG l)
      (hnd : (Expr.pairLegs (bs ++ gp)).Nodup) :
      OpContract dim Gt gp [s] (netValue dim bs (T :: rest)) (netValue dim bs (A :: rest))
  | two (a b : Nat) (bs : List (SLeg × SLeg)) (T₁ T₂ C A U V : Asg SLeg → R) (rest : List (Asg SLeg → R))
      (b₁ b₂ q r : SLeg) (S SG : SLeg → Prop)
      (hC : ∀ τ, C τ = sumPairs dim [(b₁, b₂)] (fun ρ => T₁ ρ * T₂ ρ) τ)
      (hA : ∀ τ, A τ = sumPairs dim gp (fun ρ => Gt ρ * C ρ) τ)
      (hUV : ∀ τ, A τ = sumPairs dim [(q, r)] (fun ρ => U ρ * V ρ) τ)
      (hrest : ∀ f ∈ rest, DependsOn S f)
      (hq : ¬ S q) (hr : ¬ S r) (hb₁ : ¬ S b₁) (hb₂ : ¬ S b₂) (hgp : ∀ l ∈ Expr.pairLegs gp, ¬ S l)
      (hG : DependsOn SG Gt) (hdis : ∀ l ∈ Expr.pairLegs bs, ¬ SG l)
      (hnd : (Expr.pairLegs (bs ++ gp)).Nodup) :
      OpContract dim Gt gp [a, b] (netValue dim (bs ++ [(b₁, b₂)]) (T₁ :: T₂ :: rest))
        (netValue dim (bs ++ [(q, r)]) (U :: V :: rest))

/-- The contract of a one-site operator is satisfiable for every tensor and every gate. -/
theorem OpContract.exists_single (dim : SLeg → Nat) (Gt : Asg SLeg → R) (gp : List (SLeg × SLeg)) (s : Nat)
    (T : Asg SLeg → R) {SG : SLeg → Prop} (hG : DependsOn SG Gt) (hnd : (Expr.pairLegs gp).Nodup) :
    OpContract dim Gt gp [s] (netValue dim [] [T])
      (netValue dim [] [fun τ => sumPairs dim gp (fun ρ => Gt ρ * T ρ) τ]) :=
  OpContract.single s [] T _ [] (fun _ => False) SG (fun _ => rfl) (by simp) (fun _ _ => id) hG
    (by simp [Expr.pairLegs]) (by simpa using hnd)

theorem OpContract.value {dim : SLeg → Nat} {Gt : Asg SLeg → R} {cur : Nat → GLeg} {g : Nat}
    {op : List Nat} {ψ ψ' : Asg SLeg → R}
    (h : OpContract dim Gt (recPairs (specOp g (cur, []) 0 op).2) op ψ ψ') :
    ψ' = gateAct dim Gt cur g op ψ := by
  cases h with
  | skip => rfl
  | single s bs T A rest S SG hA hrest hgp hG hdis hnd =>
    funext σ
    exact absorb_gate_value dim bs _ Gt T A rest hA hrest hgp hG hdis hnd σ
  | two a b bs T₁ T₂ C A U V rest b₁ b₂ q r S SG hC hA hUV hrest hq hr hb₁ hb₂ hgp hG hdis hnd =>
    funext σ
    exact gate_application_value dim bs _ Gt T₁ T₂ C A U V rest b₁ b₂ q r hC hA hUV hrest hq hr hb₁ hb₂
      hgp hG hdis hnd σ

/-- a run of `run_one_time_step` at value level: operator number `g` acts with the bindings the
specification fold prescribes at that moment -/
inductive StepChain (dim : SLeg → Nat) (G : Nat → Asg SLeg → R) :
    (Nat → GLeg) → Nat → List (List Nat) → (Asg SLeg → R) → (Asg SLeg → R) → Prop
  | nil (cur : Nat → GLeg) (g : Nat) (ψ : Asg SLeg → R) : StepChain dim G cur g [] ψ ψ
  | cons (cur : Nat → GLeg) (g : Nat) (op : List Nat) (ops : List (List Nat)) (ψ ψ' ψ'' : Asg SLeg → R)
      (h1 : OpContract dim (G g) (recPairs (specOp g (cur, []) 0 op).2) op ψ ψ')
      (h2 : StepChain dim G (specOp g (cur, []) 0 op).1 (g + 1) ops ψ' ψ'') :
      StepChain dim G cur g (op :: ops) ψ ψ''

/-- every chain of networks related by the contracts of the library routines ends in the ordered product of
the gates applied to the first one -/
theorem chain_value {dim : SLeg → Nat} {G : Nat → Asg SLeg → R} {cur : Nat → GLeg} {g : Nat}
    {ops : List (List Nat)} {ψ ψ'' : Asg SLeg → R} (h : StepChain dim G cur g ops ψ ψ'') :
    ψ'' = actRun dim G cur g ops ψ := by
  induction h with
  | nil => rfl
  | cons cur g op ops ψ ψ' ψ'' h1 _ ih => rw [ih, h1.value]; rfl

end

end Ptn.C08
