import Ptn.Common.EinsumRename
import Ptn.C08.LoopValue
/-! One label space for one gate.  The program of the local model is written in the local labels `Leg`, the network
around the pair in the global labels `VLeg`.  `pairGlob p c K : Leg → VLeg` is the injection that joins them (`glob p` on
the legs of `P`, `glob c` on the legs of `C`, gate and physical legs shared); by the relabelling theorem
(`Ptn/Common/EinsumRename.lean`) the renamed program IS the program over the labels and pairs of the network-level
statement (`PairGlobalClause`, `pair_global_core`). -/
namespace Ptn.C08

open Ptn.Ein

/-- the injection of the local labels of the program of the pair `P = p`, `C = c` (children of `C`: `K`) into
the global labels: a virtual leg toward `p` or toward a child of `c` is a leg of `C`, every other virtual leg a
leg of `P`; physical and gate legs are shared (the local `bond` label, which no program before the split carries,
is sent to the unused `shared bond`, away from the new bond legs `glob n bond` of the network) -/
def pairGlob (p c : Nat) (K : List Nat) : Leg → VLeg
  | .nb x => if x = p ∨ x ∈ K then .own c (.nb x) else .own p (.nb x)
  | l => .shared l

/-- forget the owner: a left inverse of `glob n` and of `pairGlob p c K` -/
def unglob : VLeg → Leg
  | .own _ l => l
  | .shared l => l

theorem unglob_pairGlob (p c : Nat) (K : List Nat) (l : Leg) : unglob (pairGlob p c K l) = l := by
  cases l with
  | nb x => simp only [pairGlob]; split <;> rfl
  | _ => rfl

theorem pairGlob_injective (p c : Nat) (K : List Nat) : Function.Injective (pairGlob p c K) := by
  intro a b h
  have := congrArg unglob h
  rwa [unglob_pairGlob, unglob_pairGlob] at this

theorem unglob_glob (n : Nat) (l : Leg) : unglob (glob n l) = l := by cases l <;> rfl

theorem glob_injective (n : Nat) : Function.Injective (glob n) := by
  intro a b h
  have := congrArg unglob h
  rwa [unglob_glob, unglob_glob] at this

theorem mem_mkNode_nb {id : Nat} {par : Option Nat} {ch : List Nat} {o x : Nat}
    (h : Leg.nb x ∈ (mkNode id par ch o).legs) : x ∈ par.toList ++ ch := by
  cases par <;> simp [mkNode, parentLegs, physL] at h ⊢ <;> exact h

theorem bond_notin_mkNode (id : Nat) (par : Option Nat) (ch : List Nat) (o : Nat) :
    Leg.bond ∉ (mkNode id par ch o).legs := by
  cases par <;> simp [mkNode, parentLegs, physL]

theorem pairGlob_map_P {p c : Nat} {pp : Option Nat} {A B K : List Nat} (h : PairOK p c pp A B K) (oP : Nat) :
    (mkNode p pp (A ++ c :: B) oP).legs.map (pairGlob p c K) = (mkNode p pp (A ++ c :: B) oP).legs.map (glob p) := by
  apply List.map_congr_left
  intro l hl
  cases l with
  | nb x =>
    have := h.sep x (mem_mkNode_nb hl)
    simp [pairGlob, glob, this.1, this.2]
  | bond => exact absurd hl (bond_notin_mkNode _ _ _ _)
  | _ => rfl

theorem pairGlob_map_C (p c : Nat) (K : List Nat) (oC : Nat) :
    (mkNode c (some p) K oC).legs.map (pairGlob p c K) = (mkNode c (some p) K oC).legs.map (glob c) := by
  apply List.map_congr_left
  intro l hl
  cases l with
  | nb x =>
    have := mem_mkNode_nb hl
    simp only [Option.toList, List.cons_append, List.nil_append, List.mem_cons] at this
    simp [pairGlob, glob, this]
  | bond => exact absurd hl (bond_notin_mkNode _ _ _ _)
  | _ => rfl

theorem pairGlob_map_gate (p c : Nat) (K : List Nat) (n : Nat) :
    (gateLegs n).map (pairGlob p c K) = (gateLegs n).map VLeg.shared := by
  apply List.map_congr_left
  intro l hl
  simp only [gateLegs, List.mem_append, List.mem_map] at hl
  rcases hl with ⟨k, _, rfl⟩ | ⟨k, _, rfl⟩ <;> rfl

theorem pairGlob_bondP {p c : Nat} {pp : Option Nat} {A B K : List Nat} (h : PairOK p c pp A B K) :
    pairGlob p c K (Leg.nb c) = glob p (Leg.nb c) := by
  have := h.sep c (by simp)
  simp [pairGlob, glob, this.1, this.2]

theorem pairGlob_bondC (p c : Nat) (K : List Nat) : pairGlob p c K (Leg.nb p) = glob c (Leg.nb p) := by
  simp [pairGlob, glob]

theorem pairGlob_gatePairs (p c : Nat) (K : List Nat) (xs : List Leg) (n : Nat)
    (hxs : ∀ l ∈ xs, ∃ a k, l = Leg.phys a k) :
    rn_pairs (pairGlob p c K) (xs.zip ((List.range n).map Leg.gin)) =
      gatePairs (xs.zip ((List.range n).map Leg.gin)) := by
  unfold rn_pairs gatePairs
  apply List.map_congr_left
  intro b hb
  have h1 := (List.of_mem_zip hb).1
  have h2 := (List.of_mem_zip hb).2
  obtain ⟨a, k, e1⟩ := hxs _ h1
  obtain ⟨j, _, e2⟩ := List.mem_map.1 h2
  obtain ⟨b1, b2⟩ := b
  simp only at e1 e2
  subst e1; subst e2
  rfl

theorem gateLegs_gateReads (p c : Nat) (K : List Nat) (n : Nat) :
    ∀ l, l ∈ gateLegs n → GateReads (pairGlob p c K l) := by
  intro l hl
  simp only [gateLegs, List.mem_append, List.mem_map] at hl
  rcases hl with ⟨k, _, rfl⟩ | ⟨k, _, rfl⟩ <;> exact trivial

variable {R : Type} [CommSemiring R]

theorem rn_gateExpr_eval {L' : Type} [DecidableEq L'] (f : Leg → L') (lP lC : List Leg) (bond : List (Leg × Leg))
    (n : Nat) (gp : List (Leg × Leg)) (TP TC G : Asg Leg → R) (dim : L' → Nat) (σ : Asg L') :
    ((gateExpr lP lC bond n gp TP TC G).rn_map f).eval dim σ =
      sumPairs dim (rn_pairs f gp) (fun τ => rn_pull f G τ *
        sumPairs dim (rn_pairs f bond) (fun ρ => rn_pull f TP ρ * rn_pull f TC ρ) τ) σ := by
  simp only [gateExpr, Expr.rn_map, Expr.eval]
  exact sumPairs_congr dim _ (fun τ => mul_comm _ _) σ

theorem rn_gateExpr1_eval {L' : Type} [DecidableEq L'] (f : Leg → L') (lT : List Leg) (n : Nat)
    (gp : List (Leg × Leg)) (T G : Asg Leg → R) (dim : L' → Nat) (σ : Asg L') :
    ((gateExpr1 lT n gp T G).rn_map f).eval dim σ =
      sumPairs dim (rn_pairs f gp) (fun τ => rn_pull f G τ * rn_pull f T τ) σ := by
  simp only [gateExpr1, Expr.rn_map, Expr.eval]
  exact sumPairs_congr dim _ (fun τ => mul_comm _ _) σ

/-- **What the relabelling gives for one two-site gate** (naming order `(x, y)`, result `r` of the model):
for ALL values `TP`, `TC`, `G` of the three tensors in the local labels, with `E` the program of the local model
and `f = pairGlob p c K`,

1. `E` builds the absorbed node's legs (provenance, `Built`);
2. the renamed program `E.rn_map f` IS the program in global labels over the legs `glob p` of `P`, `glob c` of
   `C`, the shared gate legs, the bond `(glob p (nb c), glob c (nb p))` and the pairs `gatePairs r.binds` -
   exactly the labels and pairs of the network-level statement; its binding record is those pairs;
3. its labels are pairwise distinct, its free legs are the absorbed node's legs (renamed), and it is strongly
   well-formed when the three tensors read only their own legs;
4. its value at `σ'` is the local value at `σ' ∘ f` (relabelling theorem) and is `Σ_gp G'·Σ_bond TP'·TC'` with
   the pulled tensors;
5. network level, in the SAME labels: if the value of the renamed program factorises exactly over the new bond
   into `U`, `V` (contract of `split_node_svd`, truncation disabled), the rest of the network reads neither bond
   nor the legs bound to the gate and the gate tensor reads only its own legs, then the network with `U`, `V` in
   the place of the leaves `TP'`, `TC'` of the renamed program has the value `Σ_in G'[out; in] · ψ[…, in, …]`. -/
def PairGlobalClause (R : Type) [CommSemiring R] (p c : Nat) (pp : Option Nat) (A B K : List Nat) (oP oC : Nat)
    (x y : Nat) (r : TwoSiteResult) : Prop :=
  ∀ (TP TC G : Asg Leg → R),
    Built r.absorbed.legs (gateExpr (mkNode p pp (A ++ c :: B) oP).legs (mkNode c (some p) K oC).legs
      [(Leg.nb c, Leg.nb p)] r.contr.nopen r.binds TP TC G) ∧
    ((gateExpr (mkNode p pp (A ++ c :: B) oP).legs (mkNode c (some p) K oC).legs
        [(Leg.nb c, Leg.nb p)] r.contr.nopen r.binds TP TC G).rn_map (pairGlob p c K) =
      Expr.dot (Expr.dot
          (Expr.leaf ((mkNode p pp (A ++ c :: B) oP).legs.map (glob p)) (rn_pull (pairGlob p c K) TP))
          (Expr.leaf ((mkNode c (some p) K oC).legs.map (glob c)) (rn_pull (pairGlob p c K) TC))
          [(glob p (Leg.nb c), glob c (Leg.nb p))])
        (Expr.leaf ((gateLegs r.contr.nopen).map VLeg.shared) (rn_pull (pairGlob p c K) G))
        (gatePairs r.binds)) ∧
    ((gateExpr (mkNode p pp (A ++ c :: B) oP).legs (mkNode c (some p) K oC).legs
        [(Leg.nb c, Leg.nb p)] r.contr.nopen r.binds TP TC G).rn_map (pairGlob p c K)).binds =
      gatePairs r.binds ++ [(glob p (Leg.nb c), glob c (Leg.nb p))] ∧
    ((gateExpr (mkNode p pp (A ++ c :: B) oP).legs (mkNode c (some p) K oC).legs
        [(Leg.nb c, Leg.nb p)] r.contr.nopen r.binds TP TC G).rn_map (pairGlob p c K)).labels.Nodup ∧
    (r.absorbed.legs.map (pairGlob p c K)).Perm
      ((gateExpr (mkNode p pp (A ++ c :: B) oP).legs (mkNode c (some p) K oC).legs
        [(Leg.nb c, Leg.nb p)] r.contr.nopen r.binds TP TC G).rn_map (pairGlob p c K)).free ∧
    ((gateExpr (mkNode p pp (A ++ c :: B) oP).legs (mkNode c (some p) K oC).legs
        [(Leg.nb c, Leg.nb p)] r.contr.nopen r.binds TP TC G).LeavesLocal →
      ((gateExpr (mkNode p pp (A ++ c :: B) oP).legs (mkNode c (some p) K oC).legs
        [(Leg.nb c, Leg.nb p)] r.contr.nopen r.binds TP TC G).rn_map (pairGlob p c K)).SWF) ∧
    ∀ (dim : VLeg → Nat),
      (∀ σ, ((gateExpr (mkNode p pp (A ++ c :: B) oP).legs (mkNode c (some p) K oC).legs
          [(Leg.nb c, Leg.nb p)] r.contr.nopen r.binds TP TC G).rn_map (pairGlob p c K)).eval dim σ =
        (gateExpr (mkNode p pp (A ++ c :: B) oP).legs (mkNode c (some p) K oC).legs
          [(Leg.nb c, Leg.nb p)] r.contr.nopen r.binds TP TC G).eval (fun l => dim (pairGlob p c K l))
          (fun l => σ (pairGlob p c K l))) ∧
      (∀ σ, ((gateExpr (mkNode p pp (A ++ c :: B) oP).legs (mkNode c (some p) K oC).legs
          [(Leg.nb c, Leg.nb p)] r.contr.nopen r.binds TP TC G).rn_map (pairGlob p c K)).eval dim σ =
        sumPairs dim (gatePairs r.binds) (fun τ => rn_pull (pairGlob p c K) G τ *
          sumPairs dim [(glob p (Leg.nb c), glob c (Leg.nb p))]
            (fun ρ => rn_pull (pairGlob p c K) TP ρ * rn_pull (pairGlob p c K) TC ρ) τ) σ) ∧
      ∀ (bs : List (VLeg × VLeg)) (U V : Asg VLeg → R) (rest : List (Asg VLeg → R)),
        (Expr.pairLegs bs).Nodup → (∀ l ∈ Expr.pairLegs bs, l.isOwn) →
        (∀ τ, ((gateExpr (mkNode p pp (A ++ c :: B) oP).legs (mkNode c (some p) K oC).legs
            [(Leg.nb c, Leg.nb p)] r.contr.nopen r.binds TP TC G).rn_map (pairGlob p c K)).eval dim τ =
          sumPairs dim [(glob x Leg.bond, glob y Leg.bond)] (fun ρ => U ρ * V ρ) τ) →
        (∀ f ∈ rest, DependsOn (EnvReads (glob p (Leg.nb c)) (glob c (Leg.nb p)) (glob x Leg.bond)
          (glob y Leg.bond) (gatePairs r.binds)) f) →
        DependsOn (· ∈ gateLegs r.contr.nopen) G →
        ∀ σ, netValue dim (bs ++ [(glob x Leg.bond, glob y Leg.bond)]) (U :: V :: rest) σ =
          sumPairs dim (gatePairs r.binds) (fun τ => rn_pull (pairGlob p c K) G τ *
            netValue dim (bs ++ [(glob p (Leg.nb c), glob c (Leg.nb p))])
              (rn_pull (pairGlob p c K) TP :: rn_pull (pairGlob p c K) TC :: rest) τ) σ

theorem pair_global_core {p c : Nat} {pp : Option Nat} {A B K : List Nat} (h : PairOK p c pp A B K) (oP oC : Nat)
    {id1 id2 : Nat} {n1 n2 : MNode} {r : TwoSiteResult} (hr : twoSite id1 n1 id2 n2 = some r)
    (hcl : r.contr.legs.Perm (rawLegs p c pp A B K oP oC)) (x y : Nat)
    (hgp : rn_pairs (pairGlob p c K) r.binds = gatePairs r.binds)
    (hgp1 : (Expr.pairLegs (gatePairs r.binds)).Nodup) :
    PairGlobalClause R p c pp A B K oP oC x y r := by
  intro TP TC G
  obtain ⟨hb, hnd, hfree, hswf⟩ := (pair_built (R := R) oP oC hr hcl TP TC G).program (pair_labels_nodup h oP oC _)
  have hinj := pairGlob_injective p c K
  have hexp : (gateExpr (mkNode p pp (A ++ c :: B) oP).legs (mkNode c (some p) K oC).legs
        [(Leg.nb c, Leg.nb p)] r.contr.nopen r.binds TP TC G).rn_map (pairGlob p c K) =
      Expr.dot (Expr.dot
          (Expr.leaf ((mkNode p pp (A ++ c :: B) oP).legs.map (glob p)) (rn_pull (pairGlob p c K) TP))
          (Expr.leaf ((mkNode c (some p) K oC).legs.map (glob c)) (rn_pull (pairGlob p c K) TC))
          [(glob p (Leg.nb c), glob c (Leg.nb p))])
        (Expr.leaf ((gateLegs r.contr.nopen).map VLeg.shared) (rn_pull (pairGlob p c K) G))
        (gatePairs r.binds) := by
    simp only [gateExpr, Expr.rn_map, hgp, pairGlob_map_P h, pairGlob_map_C, pairGlob_map_gate]
    simp only [rn_pairs, List.map_cons, List.map_nil, pairGlob_bondP h, pairGlob_bondC]
  have hval : ∀ (dim : VLeg → Nat) (σ : Asg VLeg),
      ((gateExpr (mkNode p pp (A ++ c :: B) oP).legs (mkNode c (some p) K oC).legs
          [(Leg.nb c, Leg.nb p)] r.contr.nopen r.binds TP TC G).rn_map (pairGlob p c K)).eval dim σ =
        sumPairs dim (gatePairs r.binds) (fun τ => rn_pull (pairGlob p c K) G τ *
          sumPairs dim [(glob p (Leg.nb c), glob c (Leg.nb p))]
            (fun ρ => rn_pull (pairGlob p c K) TP ρ * rn_pull (pairGlob p c K) TC ρ) τ) σ := by
    intro dim σ
    rw [rn_gateExpr_eval, hgp]
    simp only [rn_pairs, List.map_cons, List.map_nil, pairGlob_bondP h, pairGlob_bondC]
  refine ⟨hb, hexp, ?_, ?_, ?_, ?_, ?_⟩
  · rw [hexp]; simp [Expr.binds]
  · rw [Expr.rn_labels_map]; exact hnd.map hinj
  · rw [Expr.rn_free_map _ hinj]; exact hfree.map _
  · intro hloc; exact Expr.rn_swf_map _ hinj _ (hswf hloc)
  · intro dim
    refine ⟨fun σ => Expr.rn_eval_map _ hinj _ dim (fun _ => rfl) _ σ, hval dim, ?_⟩
    intro bs U V rest hbs1 hbs2 hUV hrest hG σ
    exact two_site_value_core dim p c x y _ hgp1 (gatePairs_not_own _) bs _ _ _ _ _ U V rest hbs1 hbs2
      (fun _ => rfl) (fun _ => rfl) (fun τ => by rw [← hUV τ, hval dim τ])
      hrest (rn_pull_dependsOn _ (gateLegs_gateReads p c K _) hG) σ

theorem pairGlob_ne_bond (p c : Nat) (K : List Nat) (n : Nat) (l : Leg) : pairGlob p c K l ≠ glob n Leg.bond := by
  cases l with
  | nb x => simp only [pairGlob]; split <;> (intro e; cases e)
  | _ => intro e; cases e

/-- The value of a program renamed by an injective `f` reads only renamed labels, so it factorises exactly over
any new bond `(q, r)` outside the range of `f` (dimension one). -/
theorem rn_split_exists {L' : Type} [DecidableEq L'] (f : Leg → L') (hf : Function.Injective f) (e : Expr Leg R)
    (dim : L' → Nat) (q r : L') (hq : ∀ l, f l ≠ q) (hr : ∀ l, f l ≠ r) (hd : dim q = 1) :
    ∃ U V : Asg L' → R, ∀ τ, (e.rn_map f).eval dim τ = sumPairs dim [(q, r)] (fun ρ => U ρ * V ρ) τ := by
  refine ⟨(e.rn_map f).eval dim, fun _ => 1, fun τ => ?_⟩
  have hdep : DependsOn (fun l' => ∃ l, f l = l') ((e.rn_map f).eval dim) := by
    rw [Expr.rn_eval_pull _ hf (fun l => dim (f l)) dim (fun _ => rfl)]
    exact rn_pull_dependsOn (S := fun _ => True) _ (fun l _ => ⟨l, rfl⟩)
      (fun σ τ hst => by rw [show σ = τ from funext (fun l => hst l trivial)])
  exact trivial_split dim _ _ _ hdep (fun ⟨l, e⟩ => hq l e) (fun ⟨l, e⟩ => hr l e) hd τ

/-- the same in the labels of a whole step (exact-split hypothesis of `GlobalLoopContract.two`, StepGlobal.lean) -/
theorem rn_split_exists_step (f : Leg → SLeg) (hf : Function.Injective f) (e : Expr Leg R) (dim : SLeg → Nat)
    (q r' : SLeg) (hq : ∀ l, f l ≠ q) (hr : ∀ l, f l ≠ r') (hd : dim q = 1) :
    ∃ U V : Asg SLeg → R, ∀ τ, (e.rn_map f).eval dim τ = sumPairs dim [(q, r')] (fun ρ => U ρ * V ρ) τ :=
  rn_split_exists f hf e dim q r' hq hr hd

/-- the exact-split hypothesis of `PairGlobalClause` is satisfiable for every program `e` renamed by `pairGlob`
(new bond of dimension one) -/
theorem pairGlob_split_exists (p c : Nat) (K : List Nat) (e : Expr Leg R) (dim : VLeg → Nat) (x y : Nat)
    (hd : dim (glob x Leg.bond) = 1) :
    ∃ U V : Asg VLeg → R, ∀ τ, (e.rn_map (pairGlob p c K)).eval dim τ =
      sumPairs dim [(glob x Leg.bond, glob y Leg.bond)] (fun ρ => U ρ * V ρ) τ :=
  rn_split_exists _ (pairGlob_injective p c K) e dim _ _ (pairGlob_ne_bond p c K x) (pairGlob_ne_bond p c K y) hd

omit [CommSemiring R] in
/-- every tensor in the global labels that reads only renamed legs of the pair's program is the pull of a tensor
in the local labels: "for all local `TP`, `TC`, `G`" covers all global tensors on those legs -/
theorem pairGlob_pull_surj (p c : Nat) (K : List Nat) (legs : List Leg) (T' : Asg VLeg → R)
    (hT : DependsOn (· ∈ legs.map (pairGlob p c K)) T') :
    rn_pull (pairGlob p c K) (fun σ => T' (fun l' => σ (unglob l'))) = T' :=
  rn_pull_surj (pairGlob p c K) unglob (unglob_pairGlob p c K)
    (fun l' hl' => by obtain ⟨l, _, e⟩ := List.mem_map.1 hl'; exact ⟨l, e⟩) T' hT

end Ptn.C08
