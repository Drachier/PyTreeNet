import Ptn.C08.Stages
/-! Lemmas for a whole TEBD time step (C08, core Lean only, through `Ptn/Common/List.lean`): well-formed trees, the relation "same
identifiers and parents, children permuted", evaluation of one operator of the step. -/
namespace Ptn.C08

/-- A rooted forest given as a node table; `depth` excludes cycles (parents have smaller depth). -/
structure TreeWF (t : List TNode) : Prop where
  ids : (t.map (·.id)).Nodup
  kidsNodup : ∀ x ∈ t, x.children.Nodup
  childParent : ∀ x ∈ t, ∀ k ∈ x.children, ∃ y ∈ t, y.id = k ∧ y.parent = some x.id
  parentChild : ∀ y ∈ t, ∀ q, y.parent = some q → ∃ x ∈ t, x.id = q ∧ y.id ∈ x.children
  depth : ∃ d : Nat → Nat, ∀ y ∈ t, ∀ q, y.parent = some q → d q < d y.id

def NodeSim (x y : TNode) : Prop :=
  y.id = x.id ∧ y.parent = x.parent ∧ y.children.Perm x.children

def Sim : List TNode → List TNode → Prop
  | [], [] => True
  | x :: xs, y :: ys => NodeSim x y ∧ Sim xs ys
  | _, _ => False

theorem NodeSim.refl (x : TNode) : NodeSim x x := ⟨rfl, rfl, List.Perm.refl _⟩

theorem NodeSim.trans {x y z : TNode} (h1 : NodeSim x y) (h2 : NodeSim y z) : NodeSim x z :=
  ⟨h2.1.trans h1.1, h2.2.1.trans h1.2.1, h2.2.2.trans h1.2.2⟩

theorem Sim.refl : ∀ t : List TNode, Sim t t
  | [] => trivial
  | x :: xs => ⟨NodeSim.refl x, Sim.refl xs⟩

theorem Sim.trans : ∀ {a b c : List TNode}, Sim a b → Sim b c → Sim a c
  | [], [], [], _, _ => trivial
  | _ :: _, _ :: _, _ :: _, h1, h2 => ⟨h1.1.trans h2.1, Sim.trans h1.2 h2.2⟩
  | [], [], _ :: _, _, h2 => h2.elim
  | [], _ :: _, _, h1, _ => h1.elim
  | _ :: _, [], _, h1, _ => h1.elim
  | _ :: _, _ :: _, [], _, h2 => h2.elim

theorem sim_map (f : TNode → TNode) : ∀ t : List TNode, (∀ x ∈ t, NodeSim x (f x)) → Sim t (t.map f)
  | [], _ => trivial
  | x :: xs, h => ⟨h x List.mem_cons_self, sim_map f xs fun y hy => h y (List.mem_cons_of_mem _ hy)⟩

theorem Sim.mem_right : ∀ {t t' : List TNode}, Sim t t' → ∀ y ∈ t', ∃ x ∈ t, NodeSim x y
  | [], [], _, y, hy => by simp at hy
  | x :: xs, y' :: ys, h, y, hy => by
    rcases List.mem_cons.mp hy with rfl | hy
    · exact ⟨x, List.mem_cons_self, h.1⟩
    · obtain ⟨x', hx', hs⟩ := Sim.mem_right h.2 y hy
      exact ⟨x', List.mem_cons_of_mem _ hx', hs⟩
  | [], _ :: _, h, _, _ => h.elim
  | _ :: _, [], h, _, _ => h.elim

theorem Sim.mem_left : ∀ {t t' : List TNode}, Sim t t' → ∀ x ∈ t, ∃ y ∈ t', NodeSim x y
  | [], [], _, x, hx => by simp at hx
  | x' :: xs, y :: ys, h, x, hx => by
    rcases List.mem_cons.mp hx with rfl | hx
    · exact ⟨y, List.mem_cons_self, h.1⟩
    · obtain ⟨y', hy', hs⟩ := Sim.mem_left h.2 x hx
      exact ⟨y', List.mem_cons_of_mem _ hy', hs⟩
  | [], _ :: _, h, _, _ => h.elim
  | _ :: _, [], h, _, _ => h.elim

theorem Sim.ids : ∀ {t t' : List TNode}, Sim t t' → t'.map (·.id) = t.map (·.id)
  | [], [], _ => rfl
  | x :: xs, y :: ys, h => by
    simp only [List.map_cons]
    rw [h.1.1, Sim.ids h.2]
  | [], _ :: _, h => h.elim
  | _ :: _, [], h => h.elim

theorem Sim.parents : ∀ {t t' : List TNode}, Sim t t' → t'.map (·.parent) = t.map (·.parent)
  | [], [], _ => rfl
  | x :: xs, y :: ys, h => by
    simp only [List.map_cons]
    rw [h.1.2.1, Sim.parents h.2]
  | [], _ :: _, h => h.elim
  | _ :: _, [], h => h.elim

/-- Well-formedness only speaks about identifiers, parents and child *sets*. -/
theorem TreeWF.sim {t t' : List TNode} (hwf : TreeWF t) (hs : Sim t t') : TreeWF t' := by
  refine ⟨?_, ?_, ?_, ?_, ?_⟩
  · rw [hs.ids]; exact hwf.ids
  · intro y hy
    obtain ⟨x, hx, hxy⟩ := hs.mem_right y hy
    exact (hxy.2.2.nodup_iff).mpr (hwf.kidsNodup x hx)
  · intro y hy k hk
    obtain ⟨x, hx, hxy⟩ := hs.mem_right y hy
    have hk' : k ∈ x.children := (hxy.2.2.mem_iff).mp hk
    obtain ⟨z, hz, hzid, hzp⟩ := hwf.childParent x hx k hk'
    obtain ⟨z', hz', hzz⟩ := hs.mem_left z hz
    exact ⟨z', hz', by rw [hzz.1, hzid], by rw [hzz.2.1, hzp, hxy.1]⟩
  · intro y hy q hq
    obtain ⟨x, hx, hxy⟩ := hs.mem_right y hy
    have hq' : x.parent = some q := by rw [← hxy.2.1]; exact hq
    obtain ⟨z, hz, hzid, hzm⟩ := hwf.parentChild x hx q hq'
    obtain ⟨z', hz', hzz⟩ := hs.mem_left z hz
    refine ⟨z', hz', by rw [hzz.1, hzid], ?_⟩
    rw [hxy.1]
    exact (hzz.2.2.mem_iff).mpr hzm
  · obtain ⟨d, hd⟩ := hwf.depth
    refine ⟨d, ?_⟩
    intro y hy q hq
    obtain ⟨x, hx, hxy⟩ := hs.mem_right y hy
    rw [hxy.1]
    exact hd x hx q (by rw [← hxy.2.1]; exact hq)

/-- the operators `_apply_one_trotter_step` can carry out on the tree `t`: no site, one existing site, two
    tree-adjacent sites named in either order -/
def ValidOp (t : List TNode) : List Nat → Prop
  | [] => True
  | [s] => ∃ x ∈ t, x.id = s
  | [a, b] => ∃ x ∈ t, ∃ y ∈ t, x.id = a ∧ y.id = b ∧ (y.parent = some a ∨ x.parent = some b)
  | _ => False

theorem ValidOp.sim {t t' : List TNode} (hs : Sim t t') : ∀ op, ValidOp t op → ValidOp t' op
  | [], _ => trivial
  | [s], h => by
    obtain ⟨x, hx, hid⟩ := h
    obtain ⟨x', hx', hxx⟩ := hs.mem_left x hx
    exact ⟨x', hx', by rw [hxx.1, hid]⟩
  | [a, b], h => by
    obtain ⟨x, hx, y, hy, hxa, hyb, hor⟩ := h
    obtain ⟨x', hx', hxx⟩ := hs.mem_left x hx
    obtain ⟨y', hy', hyy⟩ := hs.mem_left y hy
    refine ⟨x', hx', y', hy', by rw [hxx.1, hxa], by rw [hyy.1, hyb], ?_⟩
    rcases hor with h1 | h1
    · exact Or.inl (by rw [hyy.2.1, h1])
    · exact Or.inr (by rw [hxx.2.1, h1])
  | _ :: _ :: _ :: _, h => h.elim

/-- An adjacent pair of a well-formed tree is in canonical position: the parent's child list splits around the
    child and all identifiers around the pair are distinct (by the depth function). -/
theorem pair_canonical {t : List TNode} (hwf : TreeWF t) {y : TNode} (hy : y ∈ t) {p : Nat}
    (hp : y.parent = some p) :
    ∃ pp A B, (⟨p, pp, A ++ y.id :: B⟩ : TNode) ∈ t ∧ PairOK p y.id pp A B y.children := by
  obtain ⟨d, hd⟩ := hwf.depth
  obtain ⟨x, hx, hxid, hmem⟩ := hwf.parentChild y hy p hp
  obtain ⟨A, B, hAB⟩ := List.append_of_mem hmem
  have hxeq : x = ⟨p, x.parent, A ++ y.id :: B⟩ := by
    cases x; simp only at hxid hAB; subst hxid; subst hAB; rfl
  refine ⟨x.parent, A, B, by rw [← hxeq]; exact hx, ?_⟩
  have dpc : d p < d y.id := hd y hy p hp
  have dkid : ∀ z ∈ t, ∀ k ∈ z.children, d z.id < d k := by
    intro z hz k hk
    obtain ⟨w, hw, hwid, hwp⟩ := hwf.childParent z hz k hk
    have := hd w hw z.id hwp
    rw [hwid] at this; exact this
  have hsub : ∀ k ∈ A ++ B, k ∈ x.children := by
    intro k hk
    rw [hAB]
    simp only [List.mem_append, List.mem_cons] at hk ⊢
    exact hk.elim Or.inl fun h => Or.inr (Or.inr h)
  have dAB : ∀ k ∈ A ++ B, d p < d k := fun k hk => hxid ▸ dkid x hx k (hsub k hk)
  have dK : ∀ k ∈ y.children, d y.id < d k := dkid y hy
  have hnK : y.children.Nodup := hwf.kidsNodup y hy
  obtain ⟨hcAB, hnAB⟩ := List.nodup_cons.mp (List.perm_middle.nodup_iff.mp (hAB ▸ hwf.kidsNodup x hx))
  have hdisj : ∀ k ∈ A ++ B, k ∉ y.children := by
    intro k hk hk'
    obtain ⟨w, hw, hwid, hwp⟩ := hwf.childParent x hx k (hsub k hk)
    obtain ⟨w', hw', hwid', hwp'⟩ := hwf.childParent y hy k hk'
    have : w = w' := inj_on_of_nodup_map (·.id) hwf.ids w hw w' hw' (by rw [hwid, hwid'])
    subst this
    rw [hwp] at hwp'
    have : x.id = y.id := Option.some.inj hwp'
    rw [hxid] at this
    rw [this] at dpc
    exact Nat.lt_irrefl _ dpc
  have hkids : (A ++ (B ++ y.children)).Nodup := by
    rw [← List.append_assoc, List.nodup_append]
    exact ⟨hnAB, hnK, fun a ha b hb e => hdisj a ha (e ▸ hb)⟩
  have hall : ∀ k ∈ A ++ (B ++ y.children), d p < d k := by
    intro k hk
    rw [← List.append_assoc] at hk
    rcases List.mem_append.mp hk with h | h
    · exact dAB k h
    · exact Nat.lt_trans dpc (dK k h)
  unfold PairOK
  have hrest : (p :: y.id :: (A ++ (B ++ y.children))).Nodup := by
    rw [List.nodup_cons, List.nodup_cons]
    refine ⟨?_, ?_, hkids⟩
    · intro hm
      rcases List.mem_cons.mp hm with h | h
      · rw [← h] at dpc; exact Nat.lt_irrefl _ dpc
      · exact Nat.lt_irrefl _ (hall p h)
    · intro hm
      rw [← List.append_assoc] at hm
      rcases List.mem_append.mp hm with h | h
      · exact hcAB h
      · exact Nat.lt_irrefl _ (dK _ h)
  cases hpp : x.parent with
  | none => simpa using hrest
  | some q =>
    have dq : d q < d p := by
      have := hd x hx q hpp
      rw [hxid] at this; exact this
    simp only [Option.toList_some, List.singleton_append]
    rw [List.nodup_cons]
    refine ⟨?_, hrest⟩
    intro hm
    rcases List.mem_cons.mp hm with h | h
    · rw [h] at dq; exact Nat.lt_irrefl _ dq
    · rcases List.mem_cons.mp h with h | h
      · rw [h] at dq; exact Nat.lt_irrefl _ (Nat.lt_trans dq dpc)
      · exact Nat.lt_irrefl _ (Nat.lt_trans dq (hall q h))

theorem goutL_one (s : Nat) : goutL s 1 = [Leg.gout s] := by simp [goutL]

theorem openOut_of (n : MNode) (V : List Leg) (s : Nat) (hl : n.legs = V ++ [Leg.gout s])
    (hv : n.nvirt = V.length) : openOut n = some s := by
  unfold openOut
  rw [hl, hv, List.drop_left]

theorem openOut_parent (pp : Option Nat) (cid : Nat) (AB : List Nat) (s : Nat) :
    openOut ⟨pp, cid :: AB, parentLegs pp ++ (Leg.bond :: (AB.map Leg.nb ++ goutL s 1))⟩ = some s := by
  apply openOut_of _ (parentLegs pp ++ (Leg.bond :: AB.map Leg.nb))
  · simp [goutL_one]
  · simp [MNode.nvirt, nparents_eq] <;> omega

theorem openOut_child (pid : Nat) (K : List Nat) (s : Nat) :
    openOut ⟨some pid, K, Leg.bond :: (K.map Leg.nb ++ goutL s 1)⟩ = some s := by
  apply openOut_of _ (Leg.bond :: K.map Leg.nb)
  · simp [goutL_one]
  · simp [MNode.nvirt, MNode.nparents] <;> omega

theorem openOut_single (par : Option Nat) (ch : List Nat) :
    openOut (node par ch (goutL 0 1)) = some 0 :=
  openOut_of _ _ 0 (node_legs par ch _) (node_nvirt par ch _)

theorem binds_two (cur : Nat → GLeg) (g a b : Nat) :
    bindsToGlobal cur g ((physL a 1 ++ physL b 1).zip ((List.range (1 + 1)).map Leg.gin)) =
      some [(cur a, g, 0), (cur b, g, 1)] := by
  simp [physL, List.range_succ, bindsToGlobal]

theorem binds_one (cur : Nat → GLeg) (g s : Nat) :
    bindsToGlobal cur g ((physL s 1).zip ((List.range 1).map Leg.gin)) = some [(cur s, g, 0)] := by
  simp [physL, List.range_succ, bindsToGlobal]

theorem stepSingle_eval (t : List TNode) (cur : Nat → GLeg) (rc : List Rec) (g : Nat) (x : TNode)
    (hnd : (t.map (·.id)).Nodup) (hx : x ∈ t) :
    stepSingle ⟨t, cur, rc⟩ g x.id =
      some ⟨t, setCur cur x.id (GLeg.out g 0), rc ++ [(cur x.id, g, 0)]⟩ := by
  unfold stepSingle
  simp only [findNode_of_mem t x hnd hx, Option.bind_some, singleSite_mkNode, binds_one,
    openOut_single]

theorem stepTwo_eval (t : List TNode) (cur : Nat → GLeg) (rc : List Rec) (g p c : Nat)
    (pp : Option Nat) (A B K : List Nat) (hnd : (t.map (·.id)).Nodup)
    (hP : (⟨p, pp, A ++ c :: B⟩ : TNode) ∈ t) (hC : (⟨c, some p, K⟩ : TNode) ∈ t)
    (h : PairOK p c pp A B K) :
    stepTwo ⟨t, cur, rc⟩ g p c =
      some ⟨afterPair t p c A B, setCur (setCur cur p (GLeg.out g 0)) c (GLeg.out g 1),
            rc ++ [(cur p, g, 0), (cur c, g, 1)]⟩ ∧
    stepTwo ⟨t, cur, rc⟩ g c p =
      some ⟨afterPair t p c A B, setCur (setCur cur c (GLeg.out g 0)) p (GLeg.out g 1),
            rc ++ [(cur c, g, 0), (cur p, g, 1)]⟩ := by
  have fP := findNode_of_mem t ⟨p, pp, A ++ c :: B⟩ hnd hP
  have fC := findNode_of_mem t ⟨c, some p, K⟩ hnd hC
  simp only at fP fC
  have hu := updateNodes_eq t p c pp A B K
  constructor
  · unfold stepTwo
    simp only [fP, fC, Option.bind_some, h.ne, if_false, twoSite_parentFirst 1 1 h, binds_two,
      openOut_parent, openOut_child]
    rw [(hu _ _ hnd hP hC h.ne).1]
  · unfold stepTwo
    simp only [fP, fC, Option.bind_some, h.ne', if_false, twoSite_childFirst 1 1 h, binds_two,
      openOut_parent, openOut_child]
    rw [(hu _ _ hnd hP hC h.ne).2]

theorem afterPair_sim (t : List TNode) (p c : Nat) (pp : Option Nat) (A B : List Nat)
    (hnd : (t.map (·.id)).Nodup) (hP : (⟨p, pp, A ++ c :: B⟩ : TNode) ∈ t) :
    Sim t (afterPair t p c A B) := by
  unfold afterPair
  apply sim_map
  intro x hx
  by_cases h1 : x.id = p
  · have := inj_on_of_nodup_map (·.id) hnd x hx ⟨p, pp, A ++ c :: B⟩ hP h1
    subst this
    simp only [if_true]
    exact ⟨rfl, rfl, List.perm_middle.symm⟩
  · simp only [h1, if_false]
    exact NodeSim.refl x

theorem specOp_two (g : Nat) (cur : Nat → GLeg) (rc : List Rec) (a b : Nat) (hne : a ≠ b) :
    specOp g (cur, rc) 0 [a, b] =
      (setCur (setCur cur a (GLeg.out g 0)) b (GLeg.out g 1), rc ++ [(cur a, g, 0), (cur b, g, 1)]) := by
  have : setCur cur a (GLeg.out g 0) b = cur b := by
    have hb : ¬ b = a := fun e => hne e.symm
    simp [setCur, hb]
  simp [specOp, this]

theorem specOp_one (g : Nat) (cur : Nat → GLeg) (rc : List Rec) (s : Nat) :
    specOp g (cur, rc) 0 [s] = (setCur cur s (GLeg.out g 0), rc ++ [(cur s, g, 0)]) := by
  simp [specOp]

theorem applyOp_spec {t : List TNode} (hwf : TreeWF t) (cur : Nat → GLeg) (rc : List Rec) (g : Nat) :
    ∀ op, ValidOp t op →
      ∃ t', applyOp ⟨t, cur, rc⟩ g op =
          some ⟨t', (specOp g (cur, rc) 0 op).1, (specOp g (cur, rc) 0 op).2⟩ ∧ Sim t t'
  | [], _ => ⟨t, rfl, Sim.refl t⟩
  | [s], h => by
    obtain ⟨x, hx, hid⟩ := h
    subst hid
    refine ⟨t, ?_, Sim.refl t⟩
    rw [specOp_one]
    exact stepSingle_eval t cur rc g x hwf.ids hx
  | [a, b], h => by
    obtain ⟨x, hx, y, hy, hxa, hyb, hor⟩ := h
    rcases hor with hpar | hpar
    · obtain ⟨pp, A, B, hP, hok⟩ := pair_canonical hwf hy hpar
      have hyeq : y = ⟨b, some a, y.children⟩ := by
        cases y; simp only at hyb hpar; subst hyb; subst hpar; rfl
      rw [hyb] at hP hok
      have hC : (⟨b, some a, y.children⟩ : TNode) ∈ t := by rw [← hyeq]; exact hy
      have hne : a ≠ b := hok.ne
      refine ⟨afterPair t a b A B, ?_, afterPair_sim t a b pp A B hwf.ids hP⟩
      rw [specOp_two g cur rc a b hne]
      exact (stepTwo_eval t cur rc g a b pp A B y.children hwf.ids hP hC hok).1
    · obtain ⟨pp, A, B, hP, hok⟩ := pair_canonical hwf hx hpar
      have hxeq : x = ⟨a, some b, x.children⟩ := by
        cases x; simp only at hxa hpar; subst hxa; subst hpar; rfl
      rw [hxa] at hP hok
      have hC : (⟨a, some b, x.children⟩ : TNode) ∈ t := by rw [← hxeq]; exact hx
      have hne : a ≠ b := hok.ne'
      refine ⟨afterPair t b a A B, ?_, afterPair_sim t b a pp A B hwf.ids hP⟩
      rw [specOp_two g cur rc a b hne]
      exact (stepTwo_eval t cur rc g b a pp A B x.children hwf.ids hP hC hok).2
  | _ :: _ :: _ :: _, h => h.elim

theorem runOps_spec : ∀ (ops : List (List Nat)) {t : List TNode}, TreeWF t →
    (∀ op ∈ ops, ValidOp t op) → ∀ (cur : Nat → GLeg) (rc : List Rec) (g : Nat),
      ∃ t', runOps ⟨t, cur, rc⟩ g ops =
          some ⟨t', (specRun (cur, rc) g ops).1, (specRun (cur, rc) g ops).2⟩ ∧ Sim t t'
  | [], t, _, _, cur, rc, g => ⟨t, rfl, Sim.refl t⟩
  | op :: ops, t, hwf, hv, cur, rc, g => by
    obtain ⟨t1, h1, hs1⟩ := applyOp_spec hwf cur rc g op (hv op List.mem_cons_self)
    have hwf1 := hwf.sim hs1
    have hv1 : ∀ o ∈ ops, ValidOp t1 o := fun o ho =>
      ValidOp.sim hs1 o (hv o (List.mem_cons_of_mem _ ho))
    obtain ⟨t2, h2, hs2⟩ := runOps_spec ops hwf1 hv1 (specOp g (cur, rc) 0 op).1
      (specOp g (cur, rc) 0 op).2 (g + 1)
    refine ⟨t2, ?_, hs1.trans hs2⟩
    simp only [runOps, h1, Option.bind_some, specRun]
    exact h2

theorem runOps_append (l1 l2 : List (List Nat)) : ∀ (st : GState) (g : Nat),
    runOps st g (l1 ++ l2) = (runOps st g l1).bind fun st' => runOps st' (g + l1.length) l2 := by
  induction l1 with
  | nil => intro st g; simp [runOps]
  | cons op ops ih =>
    intro st g
    simp only [List.cons_append, runOps, List.length_cons]
    cases applyOp st g op with
    | none => simp
    | some st' =>
      simp only [Option.bind_some, ih]
      have : g + 1 + ops.length = g + (ops.length + 1) := by omega
      rw [this]

theorem swapSites_eq (l : List (Nat × Nat)) : swapSites l = l.map fun pr => [pr.1, pr.2] := by
  unfold swapSites
  have : ∀ acc : List (List Nat),
      l.foldl (fun acc pr => acc ++ [[pr.1, pr.2]]) acc = acc ++ l.map fun pr => [pr.1, pr.2] := by
    induction l with
    | nil => intro acc; simp
    | cons p ps ih => intro acc; simp [ih]
  simpa using this []

end Ptn.C08
