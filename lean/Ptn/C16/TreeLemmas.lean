import Ptn.C16.Lemmas
/-! Which operations `from_ttns` performs on a given tree (`opsT`): they are valid under `Tagging`, and what they attach to
every copy is read off `Tree.info`.  At the end the facts about suffixes and about the sum along a padded axis that
`Core.lean` and `Props.lean` use. -/
namespace Ptn.C16

set_option linter.unusedSectionVars false

variable {α : Type} [DecidableEq α]

/-- what the identifier maps must satisfy on the identifiers `S` of the state -/
structure Tagging (ket bra : α → α) (r : α) (S : List α) : Prop where
  rS : r ∉ S
  ketR : ∀ i ∈ S, ket i ≠ r
  braR : ∀ i ∈ S, bra i ≠ r
  ketInj : ∀ i ∈ S, ∀ j ∈ S, ket i = ket j → i = j
  braInj : ∀ i ∈ S, ∀ j ∈ S, bra i = bra j → i = j
  ketBra : ∀ i ∈ S, ∀ j ∈ S, ket i ≠ bra j

theorem validOps_nodup (order : List α) (ops : List (α × α)) (hv : validOps order ops) (ho : order.Nodup) :
    (order ++ ops.map (·.1)).Nodup := by
  induction ops generalizing order with
  | nil => simpa using ho
  | cons o rest ih =>
    obtain ⟨c, p⟩ := o
    obtain ⟨hc, _, hr⟩ := hv
    have := ih (order ++ [c]) hr (by
      rw [List.nodup_append]
      exact ⟨ho, by simp, fun a ha b hb => by simp at hb; subst hb; exact fun e => hc (e ▸ ha)⟩)
    simpa using this

mutual
theorem opsT_fst (ket bra : α → α) (r : α) :
    ∀ (t : Tree α) (pk pb : α),
      (opsT ket bra r pk pb t).map (·.1) = t.ids.flatMap (fun i => [ket i, bra i])
  | .node i ks, pk, pb => by
    simp [opsT, Tree.ids, opsL_fst ket bra r ks]
theorem opsL_fst (ket bra : α → α) (r : α) :
    ∀ (ts : List (Tree α)) (pk pb : α),
      (opsL ket bra r pk pb ts).map (·.1) = (Tree.idsL ts).flatMap (fun i => [ket i, bra i])
  | [], pk, pb => by simp [opsL, Tree.idsL]
  | t :: ts, pk, pb => by
    simp [opsL, Tree.idsL, opsT_fst ket bra r t, opsL_fst ket bra r ts]
end

theorem mem_flatMap_pair {ket bra : α → α} {x : α} {l : List α} :
    x ∈ l.flatMap (fun i => [ket i, bra i]) ↔ ∃ i ∈ l, x = ket i ∨ x = bra i := by
  simp [List.mem_flatMap]

/-! `opsT … t` is, for the entries of `Tree.info` in order, the two calls of `pairOps`; what is attached to a copy is then read
off `info`: the entries whose parent is a node are, in order, its children. -/

/-- the two `add_child_to_parent` calls `from_ttns` makes for the state node `e.1` with parent `e.2.1` -/
def pairOps (ket bra : α → α) (r : α) (e : α × α × List α) : List (α × α) :=
  [(ket e.1, if e.2.1 = r then r else ket e.2.1), (bra e.1, if e.2.1 = r then r else bra e.2.1)]

mutual
theorem opsT_eq (ket bra : α → α) (r : α) : ∀ (t : Tree α) (p0 : α),
    opsT ket bra r (if p0 = r then r else ket p0) (if p0 = r then r else bra p0) t =
      (Tree.info p0 t).flatMap (pairOps ket bra r)
  | .node i ks, p0 => by
    simp only [opsT, Tree.info, List.flatMap_cons, pairOps, opsL_eq ket bra r ks i, List.cons_append, List.nil_append]
theorem opsL_eq (ket bra : α → α) (r : α) : ∀ (ts : List (Tree α)) (p0 : α),
    opsL ket bra r (if p0 = r then r else ket p0) (if p0 = r then r else bra p0) ts =
      (Tree.infoL p0 ts).flatMap (pairOps ket bra r)
  | [], _ => rfl
  | t :: ts, p0 => by
    simp only [opsL, Tree.infoL, List.flatMap_append, opsT_eq ket bra r t p0, opsL_eq ket bra r ts p0]
end

mutual
theorem info_keys : ∀ (t : Tree α) (p0 : α), (Tree.info p0 t).map (·.1) = t.ids
  | .node i ks, p0 => by simp [Tree.info, Tree.ids, infoL_keys ks i]
theorem infoL_keys : ∀ (ts : List (Tree α)) (p0 : α), (Tree.infoL p0 ts).map (·.1) = Tree.idsL ts
  | [], _ => rfl
  | t :: ts, p0 => by simp [Tree.infoL, Tree.idsL, info_keys t p0, infoL_keys ts p0]
end

theorem info_ids (t : Tree α) (p0 : α) (e : α × α × List α) (he : e ∈ Tree.info p0 t) : e.1 ∈ t.ids :=
  info_keys t p0 ▸ List.mem_map_of_mem he

theorem infoL_ids (ts : List (Tree α)) (p0 : α) (e : α × α × List α) (he : e ∈ Tree.infoL p0 ts) :
    e.1 ∈ Tree.idsL ts :=
  infoL_keys ts p0 ▸ List.mem_map_of_mem he

mutual
theorem info_par : ∀ (t : Tree α) (p0 : α) (e : α × α × List α), e ∈ Tree.info p0 t → e.2.1 = p0 ∨ e.2.1 ∈ t.ids
  | .node i ks, p0, e, he => by
    simp only [Tree.info, List.mem_cons] at he
    rcases he with rfl | he
    · exact Or.inl rfl
    · exact Or.inr (by simpa [Tree.ids] using infoL_par ks i e he)
theorem infoL_par : ∀ (ts : List (Tree α)) (i : α) (e : α × α × List α), e ∈ Tree.infoL i ts →
    e.2.1 = i ∨ e.2.1 ∈ Tree.idsL ts
  | [], _, e, he => by simp [Tree.infoL] at he
  | t :: ts, i, e, he => by
    simp only [Tree.infoL, List.mem_append] at he
    simp only [Tree.idsL, List.mem_append]
    rcases he with he | he
    · exact (info_par t i e he).imp_right Or.inl
    · exact (infoL_par ts i e he).imp_right Or.inr
end

abbrev kidsIn (x : α) (es : List (α × α × List α)) : List α := (es.filter (fun e => e.2.1 = x)).map (·.1)

theorem kidsIn_infoL_nil (ts : List (Tree α)) (i x : α) (hx : x ∉ Tree.idsL ts) (hi : i ≠ x) :
    kidsIn x (Tree.infoL i ts) = [] := by
  rw [kidsIn, List.filter_eq_nil_iff.2 (fun e he => by
    rcases infoL_par ts i e he with h | h
    · simpa [h] using hi
    · simpa using fun h' : e.2.1 = x => hx (h' ▸ h))]
  rfl

theorem kidsIn_info_out : ∀ (t : Tree α) (p0 x : α), x ∉ t.ids →
    kidsIn x (Tree.info p0 t) = if p0 = x then [t.id] else []
  | .node i ks, p0, x, hx => by
    simp only [Tree.ids, List.mem_cons, not_or] at hx
    have := kidsIn_infoL_nil ks i x hx.2 (fun h => hx.1 h.symm)
    simp only [kidsIn] at this
    by_cases h : p0 = x <;> simp [kidsIn, Tree.info, h, this, Tree.id]

theorem kidsIn_infoL_self : ∀ (ts : List (Tree α)) (x : α), x ∉ Tree.idsL ts →
    kidsIn x (Tree.infoL x ts) = ts.map Tree.id
  | [], _, _ => rfl
  | c :: cs, x, hx => by
    simp only [Tree.idsL, List.mem_append, not_or] at hx
    have h1 := kidsIn_info_out c x x hx.1
    have h2 := kidsIn_infoL_self cs x hx.2
    simp only [kidsIn, if_true] at h1 h2
    simp [kidsIn, Tree.infoL, List.filter_append, h1, h2]

mutual
/-- the entry `e` may be read off the `info` below any parent `q`: its identifier and children do not depend on it -/
theorem kidsIn_info : ∀ (t : Tree α) (p0 q : α), t.ids.Nodup → p0 ∉ t.ids → ∀ e ∈ Tree.info q t,
    kidsIn e.1 (Tree.info p0 t) = e.2.2
  | .node i ks, p0, q, hnd, hp, e, he => by
    simp only [Tree.ids, List.nodup_cons] at hnd
    simp only [Tree.ids, List.mem_cons, not_or] at hp
    simp only [Tree.info, List.mem_cons] at he
    rcases he with rfl | he
    · have := kidsIn_infoL_self ks i hnd.1
      simp only [kidsIn] at this
      simp [kidsIn, Tree.info, hp.1, this]
    · have hi : e.1 ∈ Tree.idsL ks := infoL_ids ks i e he
      have hne : ¬ p0 = e.1 := fun h => hp.2 (h ▸ hi)
      have := kidsIn_infoL ks i i hnd.2 hnd.1 e he
      simp only [kidsIn] at this
      simp [kidsIn, Tree.info, hne, this]
theorem kidsIn_infoL : ∀ (ts : List (Tree α)) (i q : α), (Tree.idsL ts).Nodup → i ∉ Tree.idsL ts →
    ∀ e ∈ Tree.infoL q ts, kidsIn e.1 (Tree.infoL i ts) = e.2.2
  | [], _, _, _, _, e, he => by simp [Tree.infoL] at he
  | c :: cs, i, q, hnd, hi, e, he => by
    simp only [Tree.idsL, List.nodup_append] at hnd
    simp only [Tree.idsL, List.mem_append, not_or] at hi
    simp only [Tree.infoL, List.mem_append] at he
    rcases he with he | he
    · have hc : e.1 ∈ c.ids := info_ids c q e he
      have h1 := kidsIn_info c i q hnd.1 hi.1 e he
      have h2 := kidsIn_infoL_nil cs i e.1 (fun h => hnd.2.2 _ hc _ h rfl) (fun h => hi.1 (h ▸ hc))
      simp only [kidsIn] at h1 h2
      simp [kidsIn, Tree.infoL, List.filter_append, h1, h2]
    · have hc : e.1 ∈ Tree.idsL cs := infoL_ids cs q e he
      have h1 := kidsIn_info_out c i e.1 (fun h => hnd.2.2 _ h _ hc rfl)
      have h2 := kidsIn_infoL cs i q hnd.2.1 hi.2 e he
      rw [if_neg (fun h : i = e.1 => hi.2 (h ▸ hc))] at h1
      simp only [kidsIn] at h1 h2
      simp [kidsIn, Tree.infoL, List.filter_append, h1, h2]
end

theorem childOps_flatMap (ket bra : α → α) (r x : α) (es : List (α × α × List α)) :
    childOps x (es.flatMap (pairOps ket bra r)) =
      es.flatMap (fun e => (if (if e.2.1 = r then r else ket e.2.1) = x then [ket e.1] else []) ++
        (if (if e.2.1 = r then r else bra e.2.1) = x then [bra e.1] else [])) := by
  induction es with
  | nil => rfl
  | cons e es ih =>
    have h0 : childOps x ([] : List (α × α)) = [] := rfl
    rw [List.flatMap_cons, List.flatMap_cons, childOps_append, ih]
    simp only [pairOps, childOps_cons, h0, List.append_nil]

section
variable (ket bra : α → α) (r : α) (S : List α) (H : Tagging ket bra r S)
include H

mutual
theorem opsT_valid :
    ∀ (t : Tree α) (pk pb : α) (order : List α), t.ids.Nodup → (∀ i ∈ t.ids, i ∈ S) →
      pk ∈ order → pb ∈ order → (∀ i ∈ t.ids, ket i ∉ order ∧ bra i ∉ order) →
      validOps order (opsT ket bra r pk pb t)
  | .node i ks, pk, pb, order, hnd, hS, hpk, hpb, hfresh => by
    simp only [Tree.ids, List.nodup_cons] at hnd
    have hiS : i ∈ S := hS i (by simp [Tree.ids])
    have hir : ¬ i = r := fun e => H.rS (e ▸ hiS)
    simp only [opsT, hir, if_false, validOps]
    -- the two copies of `i` are new: not in `order` (`hfresh`), and distinct from each other and from the copies of the other
    -- nodes by `ketInj`, `braInj`, `ketBra` and the distinct identifiers; their parents were added before
    obtain ⟨hk, hb⟩ := hfresh i (by simp [Tree.ids])
    refine ⟨hk, hpk, ?_, by simp [hpb], ?_⟩
    · simp only [List.mem_append, List.mem_singleton, not_or]
      exact ⟨hb, fun e => H.ketBra i hiS i hiS e.symm⟩
    · apply opsL_valid ks (ket i) (bra i) _ hnd.2 (fun j hj => hS j (by simp [Tree.ids, hj])) (by simp) (by simp)
      intro j hj
      have hjS : j ∈ S := hS j (by simp [Tree.ids, hj])
      have hji : j ≠ i := fun e => hnd.1 (e ▸ hj)
      obtain ⟨hk', hb'⟩ := hfresh j (by simp [Tree.ids, hj])
      simp only [List.mem_append, List.mem_singleton, not_or]
      exact ⟨⟨⟨hk', fun e => hji (H.ketInj j hjS i hiS e)⟩, H.ketBra j hjS i hiS⟩,
             ⟨⟨hb', fun e => H.ketBra i hiS j hjS e.symm⟩, fun e => hji (H.braInj j hjS i hiS e)⟩⟩
theorem opsL_valid :
    ∀ (ts : List (Tree α)) (pk pb : α) (order : List α), (Tree.idsL ts).Nodup → (∀ i ∈ Tree.idsL ts, i ∈ S) →
      pk ∈ order → pb ∈ order → (∀ i ∈ Tree.idsL ts, ket i ∉ order ∧ bra i ∉ order) →
      validOps order (opsL ket bra r pk pb ts)
  | [], pk, pb, order, _, _, _, _, _ => by simp [opsL, validOps]
  | t :: ts, pk, pb, order, hnd, hS, hpk, hpb, hfresh => by
    simp only [Tree.idsL, List.nodup_append] at hnd
    obtain ⟨hnd1, hnd2, hdisj⟩ := hnd
    simp only [opsL, validOps_append, opsT_fst]
    refine ⟨opsT_valid t pk pb order hnd1 (fun j hj => hS j (by simp [Tree.idsL, hj])) hpk hpb
      (fun j hj => hfresh j (by simp [Tree.idsL, hj])), ?_⟩
    apply opsL_valid ts pk pb _ hnd2 (fun j hj => hS j (by simp [Tree.idsL, hj])) (by simp [hpk]) (by simp [hpb])
    intro j hj
    have hjS : j ∈ S := hS j (by simp [Tree.idsL, hj])
    obtain ⟨hk', hb'⟩ := hfresh j (by simp [Tree.idsL, hj])
    simp only [List.mem_append, mem_flatMap_pair, not_or, not_exists, not_and]
    refine ⟨⟨hk', fun i hi => ?_⟩, ⟨hb', fun i hi => ?_⟩⟩
    · have hiS : i ∈ S := hS i (by simp [Tree.idsL, hi])
      have hne : i ≠ j := fun e => hdisj i hi j hj e
      exact ⟨fun e => hne (H.ketInj j hjS i hiS e).symm, H.ketBra j hjS i hiS⟩
    · have hiS : i ∈ S := hS i (by simp [Tree.idsL, hi])
      have hne : i ≠ j := fun e => hdisj i hi j hj e
      exact ⟨fun e => H.ketBra i hiS j hjS e.symm, fun e => hne (H.braInj j hjS i hiS e).symm⟩
end

theorem childOps_copy (es : List (α × α × List α)) (hpar : ∀ e ∈ es, e.2.1 = r ∨ e.2.1 ∈ S) (i : α) (hi : i ∈ S) :
    childOps (ket i) (es.flatMap (pairOps ket bra r)) = (kidsIn i es).map ket ∧
    childOps (bra i) (es.flatMap (pairOps ket bra r)) = (kidsIn i es).map bra := by
  rw [childOps_flatMap, childOps_flatMap]
  have hir : i ≠ r := fun h => H.rS (h ▸ hi)
  induction es with
  | nil => exact ⟨rfl, rfl⟩
  | cons e es ih =>
    obtain ⟨ih1, ih2⟩ := ih (fun e' he' => hpar e' (by simp [he']))
    simp only [List.flatMap_cons, ih1, ih2]
    rcases hpar e (by simp) with hr | hS
    · have h1' : ¬ r = i := fun h => hir h.symm
      have h2 : ¬ r = ket i := fun h => H.ketR i hi h.symm
      have h3 : ¬ r = bra i := fun h => H.braR i hi h.symm
      simp [hr, h1', h2, h3]
    · have her : ¬ e.2.1 = r := fun h => H.rS (h ▸ hS)
      by_cases hei : e.2.1 = i
      · have h1 : ¬ bra i = ket i := fun h => H.ketBra i hi i hi h.symm
        have h2 : ¬ ket i = bra i := H.ketBra i hi i hi
        simp [hei, hir, h1, h2]
      · have h1 : ¬ ket e.2.1 = ket i := fun h => hei (H.ketInj _ hS _ hi h)
        have h2 : ¬ bra e.2.1 = bra i := fun h => hei (H.braInj _ hS _ hi h)
        have h3 : ¬ bra e.2.1 = ket i := fun h => H.ketBra i hi _ hS h.symm
        have h4 : ¬ ket e.2.1 = bra i := H.ketBra _ hS i hi
        simp [her, hei, h1, h2, h3, h4]

theorem childOps_root (es : List (α × α × List α)) (hpar : ∀ e ∈ es, e.2.1 = r ∨ e.2.1 ∈ S) :
    childOps r (es.flatMap (pairOps ket bra r)) = (kidsIn r es).flatMap (fun i => [ket i, bra i]) := by
  rw [childOps_flatMap]
  induction es with
  | nil => rfl
  | cons e es ih =>
    simp only [List.flatMap_cons, ih (fun e' he' => hpar e' (by simp [he']))]
    rcases hpar e (by simp) with hr | hS
    · simp [hr, kidsIn]
    · have her : ¬ e.2.1 = r := fun h => H.rS (h ▸ hS)
      simp [her, H.ketR _ hS, H.braR _ hS, kidsIn]

omit H in
theorem childOps_opsL_top (x : α) : ∀ (ts : List (Tree α)) (pk pb pk' pb' : α), pk ≠ x → pb ≠ x → pk' ≠ x → pb' ≠ x →
    childOps x (opsL ket bra r pk pb ts) = childOps x (opsL ket bra r pk' pb' ts)
  | [], _, _, _, _, _, _, _, _ => rfl
  | .node i ks :: ts, pk, pb, pk', pb', h1, h2, h3, h4 => by
    simp only [opsL, opsT, childOps_append, childOps_cons, if_neg h1, if_neg h2, if_neg h3, if_neg h4,
      childOps_opsL_top x ts pk pb pk' pb' h1 h2 h3 h4]

theorem info_mem_opsL :
    ∀ (ts : List (Tree α)) (p0 : α) (e : α × α × List α), e ∈ Tree.infoL p0 ts →
      (ket e.1, if e.2.1 = r then r else ket e.2.1) ∈
          opsL ket bra r (if p0 = r then r else ket p0) (if p0 = r then r else bra p0) ts ∧
      (bra e.1, if e.2.1 = r then r else bra e.2.1) ∈
          opsL ket bra r (if p0 = r then r else ket p0) (if p0 = r then r else bra p0) ts := by
  intro ts p0 e he
  rw [opsL_eq]
  exact ⟨List.mem_flatMap.2 ⟨e, he, by simp [pairOps]⟩, List.mem_flatMap.2 ⟨e, he, by simp [pairOps]⟩⟩

theorem childOps_info_opsL :
    ∀ (ts : List (Tree α)) (pk pb p0 : α) (e : α × α × List α), (Tree.idsL ts).Nodup →
      (∀ i ∈ Tree.idsL ts, i ∈ S) → e ∈ Tree.infoL p0 ts →
      (pk ≠ ket e.1 → pb ≠ ket e.1 → childOps (ket e.1) (opsL ket bra r pk pb ts) = e.2.2.map ket) ∧
      (pk ≠ bra e.1 → pb ≠ bra e.1 → childOps (bra e.1) (opsL ket bra r pk pb ts) = e.2.2.map bra) := by
  intro ts pk pb p0 e hnd hS he
  have hi : e.1 ∈ S := hS _ (infoL_ids ts p0 e he)
  -- below the parent `r`, which is no node of the forest, the operations are the normal form
  have hcopy := childOps_copy ket bra r S H (Tree.infoL r ts)
    (fun e' he' => (infoL_par ts r e' he').imp_right (hS _)) e.1 hi
  rw [kidsIn_infoL ts r p0 hnd (fun h => H.rS (hS r h)) e he, ← opsL_eq] at hcopy
  simp only [if_true] at hcopy
  exact ⟨fun h1 h2 => (childOps_opsL_top ket bra r _ ts pk pb r r h1 h2 (H.ketR _ hi).symm (H.ketR _ hi).symm).trans hcopy.1,
    fun h1 h2 => (childOps_opsL_top ket bra r _ ts pk pb r r h1 h2 (H.braR _ hi).symm (H.braR _ hi).symm).trans hcopy.2⟩

end


theorem endsWith_append_suffix (s sfx : Ident) : endsWith (s ++ sfx) sfx = true := by
  simp [endsWith]

theorem not_endsWith_of_other_suffix (s sfx sfx' : Ident) (hl : sfx.length = sfx'.length) (hne : sfx ≠ sfx') :
    endsWith (s ++ sfx') sfx = false := by
  cases h : endsWith (s ++ sfx') sfx with
  | false => rfl
  | true =>
    simp only [endsWith, List.isSuffixOf_iff_suffix] at h
    obtain ⟨t, ht⟩ := h
    exact absurd (List.append_inj' ht hl).2 hne

theorem sum_map_zero (l : List Nat) : (l.map (fun _ => (0 : Int))).sum = 0 := by
  induction l with
  | nil => rfl
  | cons a as ih => simp [ih]

theorem sum_range_head (g : Nat → Int) (n : Nat) (h : ∀ a, g (a + 1) = 0) :
    ((List.range (n + 1)).map g).sum = g 0 := by
  rw [List.range_succ_eq_map, List.map_cons, List.sum_cons, List.map_map]
  have : g ∘ Nat.succ = fun _ => (0 : Int) := funext (fun a => h a)
  rw [this, sum_map_zero]
  simp


end Ptn.C16
