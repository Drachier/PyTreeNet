import Ptn.C16.TensorProductValue
import Ptn.Common.EinsumRename
/-! The value-level renaming between the two descriptions of `tensor_product_expectation_value`.

`tensor_product_value` is stated on the network whose absorbed ket tensor keeps the NAME `gKetPhys s` on its last
axis; the model's own run calls that axis `gOpOut s`.  `tpSwap sites` exchanges the two names at the named sites (an
involution, hence injective); a program over the first network, renamed by `tpSwap sites`
(`Ptn.Ein.Expr.rn_map`), is a program over the second one with the same value (`Ptn.Ein.Expr.rn_eval_map`), its
physical pairs are the model's `tpPhysPair sites`, and the renamed absorbed leaf IS the value of the `tensordot` of
`absorb_into_open_legs` (`absorbExpr`) read on the model's labels. -/
namespace Ptn.C16.Ttndo

open Ptn.C04 Ptn.Ein

set_option linter.unusedSectionVars false
variable {R : Type} [CommSemiring R]

def tpSwap (sites : List Nat) : Leg → Leg
  | .gKetPhys i => if i ∈ sites then .gOpOut i else .gKetPhys i
  | .gOpOut i => if i ∈ sites then .gKetPhys i else .gOpOut i
  | l => l

theorem tpSwap_invol (sites : List Nat) (l : Leg) : tpSwap sites (tpSwap sites l) = l := by
  cases l with
  | gKetPhys i => by_cases h : i ∈ sites <;> simp [tpSwap, h]
  | gOpOut i => by_cases h : i ∈ sites <;> simp [tpSwap, h]
  | _ => rfl

theorem tpSwap_inj (sites : List Nat) : Function.Injective (tpSwap sites) := by
  intro a b h
  have := congrArg (tpSwap sites) h
  rwa [tpSwap_invol, tpSwap_invol] at this

/-- dimensions are kept when the operator's output leg has the dimension of the physical leg (square operators:
NumPy rejects anything else when the output leg meets the bra copy) -/
theorem tpSwap_dim (sites : List Nat) (dim : Leg → Nat) (hd : ∀ s ∈ sites, dim (Leg.gOpOut s) = dim (Leg.gKetPhys s))
    (l : Leg) : dim (tpSwap sites l) = dim l := by
  cases l with
  | gKetPhys i => by_cases h : i ∈ sites <;> simp [tpSwap, h, hd]
  | gOpOut i => by_cases h : i ∈ sites <;> simp [tpSwap, h, hd]
  | _ => rfl

theorem tpSwap_ketPhys (sites : List Nat) (s : Nat) (hs : s ∈ sites) :
    tpSwap sites (Leg.gKetPhys s) = Leg.gOpOut s := by simp [tpSwap, hs]

theorem tpSwap_opOut (sites : List Nat) (s : Nat) (hs : s ∈ sites) :
    tpSwap sites (Leg.gOpOut s) = Leg.gKetPhys s := by simp [tpSwap, hs]

theorem tpSwap_physPairs (sites : List Nat) (kt : Tree) :
    rn_pairs (tpSwap sites) (physPairs kt) = kt.ids.map (tpPhysPair sites) := by
  simp only [rn_pairs, physPairs, List.map_map]
  apply List.map_congr_left
  intro i _
  simp only [Function.comp, physPair, tpPhysPair, tpSwap]
  split <;> rfl

theorem tpSwap_rootPairs (sites : List Nat) (kt : Tree) :
    rn_pairs (tpSwap sites) (rootPairs kt) = rootPairs kt := by
  simp [rn_pairs, rootPairs, rootKetLeg, rootBraLeg, tpSwap]

/-- **the renamed absorbed leaf is the `tensordot` of `absorb_into_open_legs`**: the tensor
`applyAt (matrix of the operator) (phys s) (ket tensor)` of `tensor_product_value`, read in the model's labels
(output index on `gOpOut s`), is the value of `absorbExpr` - the expression the model's absorbed tensor is built
from (`absorb_value`) - at every assignment. -/
theorem tpSwap_pull_absorb (dim : Leg → Nat) (sites : List Nat) (s : Nat) (hs : s ∈ sites) (node : Node)
    (kvk ov : Asg Leg → R)
    (hk : DependsOn (· ∈ (gKetT s node).legs) kvk) (ho : DependsOn (· ∈ (siteOpT s).legs) ov) (σ' : Asg Leg) :
    rn_pull (tpSwap sites) (applyAt dim (opMat ov s) (Leg.gKetPhys s) kvk) σ' =
      (absorbExpr s node kvk ov).eval dim σ' := by
  unfold rn_pull
  rw [← absorbExpr_value dim s node kvk ov hk ho]
  simp only [absorbExpr, Expr.eval, sumPairs]
  congr 1; funext x
  congr 1
  · apply hk
    intro l hl
    simp only [gKetT, T.fresh, List.mem_append, List.mem_map, List.mem_singleton] at hl
    rcases hl with ⟨n, _, rfl⟩ | rfl
    · simp [upd, tpSwap]
    · simp [upd]
  · apply ho
    intro l hl
    simp only [siteOpT, T.fresh, List.mem_cons, List.not_mem_nil, or_false] at hl
    rcases hl with rfl | rfl
    · simp [upd, tpSwap_ketPhys sites s hs]
    · simp [upd]

end Ptn.C16.Ttndo
