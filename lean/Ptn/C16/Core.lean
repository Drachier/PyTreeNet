import Ptn.C16.TreeLemmas
import Ptn.C16.TtndoTop
import Ptn.C16.TensorProductPerm
/-! The structure and leg-graph property theorems of C16 with their non-vacuity examples: what `from_ttns`,
`trace_ttndo`, `ttndo_ttno_expectation_value`, `absorb_into_open_legs` and `tensor_product_expectation_value` do to
identifiers, legs and binding records.  Core Lean only: no value file and no Mathlib below this module.  `Props.lean`
imports it and adds the value-level theorems. -/
namespace Ptn.C16

/-- **Structure of `from_ttns`.**  For every ordered tree `t` with pairwise distinct identifiers and
identifier maps that are injective, disjoint and avoid the new root identifier `r`, `from_ttns`
succeeds and returns a network with `2n+1` distinct nodes: the root `r` (no parent, children
`[ket root, bra root]`) and for every state node `i` with parent `p` (resp. the root) a ket copy that is
a child of the ket copy of `p` (resp. of `r`) and a bra copy mirrored, each with the copies of `i`'s
children in the child order of the state. -/
theorem ttndo_structure {α : Type} [DecidableEq α] (ket bra : α → α) (r : α) (t : Tree α)
    (hnd : t.ids.Nodup) (H : Tagging ket bra r t.ids) :
    ∃ net, fromTtns ket bra r t = some net ∧
      net.order = r :: t.ids.flatMap (fun i => [ket i, bra i]) ∧
      net.order.length = 2 * t.ids.length + 1 ∧
      net.order.Nodup ∧
      net.parent r = none ∧
      net.children r = [ket t.id, bra t.id] ∧
      ∀ e ∈ Tree.info r t,
        net.parent (ket e.1) = some (if e.2.1 = r then r else ket e.2.1) ∧
        net.parent (bra e.1) = some (if e.2.1 = r then r else bra e.2.1) ∧
        net.children (ket e.1) = e.2.2.map ket ∧
        net.children (bra e.1) = e.2.2.map bra := by
  have hv : validOps [r] (opsT ket bra r r r t) :=
    opsT_valid ket bra r t.ids H t r r [r] hnd (fun _ hi => hi) (by simp) (by simp)
      (fun i hi => ⟨by simpa using H.ketR i hi, by simpa using H.braR i hi⟩)
  obtain ⟨net, h1, h2, h3, h4, h5⟩ := applyOps_spec (Net.trivialRoot r) _ hv
  have hfst := opsT_fst ket bra r t r r
  have hndo : ([r] ++ (opsT ket bra r r r t).map (·.1)).Nodup := validOps_nodup [r] _ hv (by simp)
  have hndf : ((opsT ket bra r r r t).map (·.1)).Nodup := (List.nodup_append.1 hndo).2.1
  have hrf : r ∉ (opsT ket bra r r r t).map (·.1) := by
    rw [hfst, mem_flatMap_pair]
    rintro ⟨i, hi, e | e⟩
    · exact H.ketR i hi e.symm
    · exact H.braR i hi e.symm
  have hlen : (t.ids.flatMap (fun i => [ket i, bra i])).length = 2 * t.ids.length := by
    generalize t.ids = l
    induction l with
    | nil => rfl
    | cons a as ih => simp [List.flatMap_cons, ih]; omega
  -- the operations are the two calls per entry of `info`; what is attached where is read off `info`
  have hops : opsT ket bra r r r t = (Tree.info r t).flatMap (pairOps ket bra r) := by
    simpa using opsT_eq ket bra r t r
  have hpar := info_par t r
  refine ⟨net, by rw [fromTtns_eq]; exact h1, ?_, ?_, ?_, ?_, ?_, ?_⟩
  · rw [h2, hfst]; rfl
  · rw [h2, hfst]; simp [Net.trivialRoot, hlen]
  · rw [h2]; exact hndo
  · rw [h3 r hrf]; rfl
  · rw [h5 r, if_neg hrf, hops, childOps_root ket bra r t.ids H _ hpar, kidsIn_info_out t r r H.rS, if_pos rfl]
    rfl
  · intro e he
    have hi : e.1 ∈ t.ids := info_ids t r e he
    have hmem : ∀ o ∈ pairOps ket bra r e, o ∈ opsT ket bra r r r t := fun o ho =>
      hops ▸ List.mem_flatMap.2 ⟨e, he, ho⟩
    have hkf : ket e.1 ∈ (opsT ket bra r r r t).map (·.1) := by
      rw [hfst, mem_flatMap_pair]; exact ⟨e.1, hi, Or.inl rfl⟩
    have hbf : bra e.1 ∈ (opsT ket bra r r r t).map (·.1) := by
      rw [hfst, mem_flatMap_pair]; exact ⟨e.1, hi, Or.inr rfl⟩
    obtain ⟨hk, hb⟩ := childOps_copy ket bra r t.ids H _ hpar e.1 hi
    rw [kidsIn_info t r r hnd H.rS e he, ← hops] at hk hb
    refine ⟨h4 _ _ (hmem _ (by simp [pairOps])) hndf, h4 _ _ (hmem _ (by simp [pairOps])) hndf, ?_, ?_⟩
    · rw [h5, if_pos hkf, hk]; rfl
    · rw [h5, if_pos hbf, hb]; rfl

/-- **The suffix convention is an injective tagging** for *all* identifier strings: appending `_ket` /
`_bra` is injective, the two images are disjoint (also for identifiers that themselves end in a
suffix); only the freshness of the new root identifier is a precondition on the caller. -/
theorem suffix_tagging (r : Ident) (S : List Ident) (hr : r ∉ S) (hk : ∀ i ∈ S, ketId i ≠ r)
    (hb : ∀ i ∈ S, braId i ≠ r) : Tagging ketId braId r S where
  rS := hr
  ketR := hk
  braR := hb
  ketInj := fun _ _ _ _ e => List.append_cancel_right e
  braInj := fun _ _ _ _ e => List.append_cancel_right e
  ketBra := fun i _ j _ e => by
    have := (List.append_inj' e (by decide)).2
    exact absurd this (by decide)

/-- non-vacuity: identifiers that already end in the suffixes (`a`, `a_ket`, `a_ket_bra`) -/
example : Tagging ketId braId "ttndo_root".toList ["a".toList, "a_ket".toList, "a_ket_bra".toList] :=
  suffix_tagging _ _ (by decide +kernel) (by decide +kernel) (by decide +kernel)

example : (fromTtns ketId braId "R".toList
    (.node "a".toList [.node "a_ket".toList [], .node "b".toList []])).map (·.order.map String.ofList) =
    some ["R", "a_ket", "a_bra", "a_ket_ket", "a_ket_bra", "b_ket", "b_bra"] := by decide +kernel

/-- **`ttndo_contraction_order`** (the test `endswith`; finding F-C16b was a prefix match): filtering `linearise()` with
`endswith(ket_suffix)` returns exactly the ket copies, in linearisation order, for every tree and all
identifier strings — provided only that the root identifier itself does not end with the ket suffix. -/
theorem contraction_order_kets (r : Ident) (t : Tree Ident) (hr : endsWith r ketSuffix = false) :
    contractionOrder ketSuffix (linearisedIds r t) = t.post.map ketId := by
  have h1 : (t.post.map ketId).filter (endsWith · ketSuffix) = t.post.map ketId :=
    List.filter_eq_self.2 (fun x hx => by
      obtain ⟨s, _, rfl⟩ := List.mem_map.1 hx
      exact endsWith_append_suffix s ketSuffix)
  have h2 : (t.post.map braId).filter (endsWith · ketSuffix) = [] :=
    List.filter_eq_nil_iff.2 (fun x hx => by
      obtain ⟨s, _, rfl⟩ := List.mem_map.1 hx
      have := not_endsWith_of_other_suffix s ketSuffix braSuffix (by decide) (by decide)
      simp [braId, this])
  simp [contractionOrder, linearisedIds, List.filter_append, h1, h2, hr]

example : endsWith "ttndo_root".toList ketSuffix = false := by decide +kernel

/-- `reverse_ket_id` / `reverse_bra_id` undo `ket_id` / `bra_id` -/
theorem reverseId_append (s sfx : Ident) : reverseId sfx (s ++ sfx) = some s := by
  simp [reverseId, endsWith_append_suffix]

open Ptn.C04 in
/-- **`trace_ttndo` computes the closed graph of `<psi|psi>` through the root.**  For every state tree `t`
(distinct identifiers) — `ketTree t` is `t` with the identifiers renamed to the ket identifiers, and `ttndoNetK`
tabulates over it the mirrored ket and bra branches below the root that `ttndo_structure` describes for `from_ttns`
(a second model: no theorem joins the two) — the loop of
`trace_ttndo` over the ket nodes in linearisation order (with `ket_to_bra_id` as `id_trafo`, block dictionary
keyed by ket identifiers) and `_contract_final_block` never raise and leave NO free leg; the bound pairs
are, up to order: for every node `(ketPhys n, braPhys n)`, for every edge the two ket legs and the two bra
legs, and the two root-bond legs of the ket and the bra copy of the state's root bound to the two legs of the
root tensor (whose open leg of dimension 1 is indexed away).  What this record evaluates to: `trace_value`,
`trace_value_padded_root` (`Props.lean`). -/
theorem trace_graph (t : Ptn.C04.Tree) (hnd : t.ids.Nodup) :
    ∃ binds, Ttndo.traceTtndo (Ttndo.ttndoNetK (Ttndo.ketTree t)) = some ⟨[], binds⟩ ∧
      binds.Perm (ssSpec (Ttndo.ketTree t) ++
        [(Ttndo.rootKetLeg, Leg.gKet (Ttndo.ketTree t).id 0), (Ttndo.rootBraLeg, Leg.gBra (Ttndo.ketTree t).id 0)]) := by
  obtain ⟨h1, h2⟩ := Ttndo.ketTree_wf t hnd
  refine ⟨_, Ttndo.traceTtndo_eq (Ttndo.ketTree t) h1 h2, List.Perm.append_right _ ?_⟩
  exact List.perm_iff_count.2 (fun x => count_blockBinds x _)

example : Ttndo.traceTtndo (Ttndo.ttndoNetK (Ttndo.ketTree (.node 0 [.node 1 [], .node 2 []]))) =
    some ⟨[], [Ptn.C04.physPair 3, Ptn.C04.ketEdge 1 3, Ptn.C04.physPair 5, Ptn.C04.ketEdge 1 5,
               Ptn.C04.braEdge 1 3, Ptn.C04.braEdge 1 5, Ptn.C04.physPair 1,
               (Ttndo.rootKetLeg, .gKet 1 0), (Ttndo.rootBraLeg, .gBra 1 0)]⟩ := by decide +kernel

open Ptn.C04 in
/-- **`ttndo_ttno_expectation_value` computes the closed graph of `<psi|O|psi>` through the root.**  For every
state tree and every TTNO on it with arbitrary, independent child orders (`opKids k` any permutation of the
children of the ket node `k`): the loop over the ket nodes except the copy of the root (identifier maps
`reverse_ket_id` for the operator, `ket_to_bra_id` for the bra), `_contract_ttno_root` (resp.
`_single_site_contraction` for a single node) and `_contract_final_block` never raise and leave NO free leg;
the bound pairs are, as unordered pairs up to order: for every node the operator's INPUT leg with the ket
copy's physical leg and its OUTPUT leg with the bra copy's, for every edge the ket, operator and bra pairs,
and the two root-bond legs bound to the root tensor. -/
theorem ttndo_ttno_graph (t : Ptn.C04.Tree) (hnd : t.ids.Nodup) (opKids : Nat → List Nat)
    (hperm : ∀ e ∈ Ptn.C04.Tree.info none (Ttndo.ketTree t), (opKids e.1).Perm e.2.2) :
    ∃ binds, Ttndo.ttndoTtnoExpectationValue (Ttndo.ttndoNetK (Ttndo.ketTree t))
        (Ttndo.ttnoNetK (Ttndo.ketTree t) opKids) = some ⟨[], binds⟩ ∧
      (unord binds).Perm (unord (soSpec (Ttndo.ketTree t) ++
        [(Ttndo.rootKetLeg, Leg.gKet (Ttndo.ketTree t).id 0), (Ttndo.rootBraLeg, Leg.gBra (Ttndo.ketTree t).id 0)])) := by
  obtain ⟨h1, h2⟩ := Ttndo.ketTree_wf t hnd
  exact ⟨_, Ttndo.ttndoTtno_eq (Ttndo.ketTree t) opKids h1 h2 hperm, Ttndo.teBinds_perm _⟩

example : Ttndo.ttndoTtnoExpectationValue (Ttndo.ttndoNetK (Ttndo.ketTree (.node 0 [.node 1 [], .node 2 []])))
    (Ttndo.ttnoNetK (Ttndo.ketTree (.node 0 [.node 1 [], .node 2 []])) (fun k => if k = 1 then [5, 3] else [])) =
    some ⟨[], Ttndo.teBinds (Ttndo.ketTree (.node 0 [.node 1 [], .node 2 []]))⟩ := by decide +kernel

example : ∀ e ∈ Ptn.C04.Tree.info none (Ttndo.ketTree (.node 0 [.node 1 [], .node 2 []])),
    ((fun k => if k = 1 then [5, 3] else []) e.1).Perm e.2.2 := by decide +kernel


open Ptn.C04 in
/-- **One absorption, every node shape.**  `absorb_into_open_legs` on the ket copy `k` (any parent, any number of
children) with a single-site operator (axes output, input) never raises; the operator's INPUT leg is bound to the
ket copy's physical leg, its OUTPUT leg takes the physical leg's place as the last axis and the virtual legs keep
their order ("the leg ordering was not changed here"). -/
theorem absorb_graph (k : Nat) (node : Node) :
    Ttndo.absorbIntoOpenLegs node (gKetT k node) (Ttndo.siteOpT k) =
      some ⟨node.nbrs.map (Leg.gKet k) ++ [Leg.gOpOut k], [(Leg.gKetPhys k, Leg.gOpIn k)]⟩ :=
  Ttndo.absorbIntoOpenLegs_gKetT k node

/-- **The empty product is the trace** (every network). -/
theorem tensor_product_empty_is_trace (nd : Ptn.C04.Net) :
    Ttndo.tensorProductExpectationValue nd [] = Ttndo.traceTtndo nd := rfl

open Ptn.C04 in
/-- **The calculus is positional**: `tensordot` after renaming the legs of both operands by ANY map is the renamed
`tensordot` (success, legs and record): a single `tensordot` never looks at a leg's name.  (Not lifted to the routines:
the graph theorems for tensor products carry the logged pairs instead, `Ttndo.tensordot_pre`.) -/
theorem tensordot_positional (f : Leg → Leg) (a b : T) (ia ib : List Nat) :
    tensordot (Ttndo.T.relabel f a) (Ttndo.T.relabel f b) ia ib = (tensordot a b ia ib).map (Ttndo.T.relabel f) := by
  unfold tensordot
  by_cases h1 : ia.length ≠ ib.length
  · simp [h1]
  by_cases h2 : ¬ ia.Nodup ∨ ¬ ib.Nodup
  · simp [h1, h2]
  simp only [h1, h2, if_false, Ttndo.T.relabel, Ttndo.pick_relabel, Ttndo.remaining_relabel]
  cases pick a.legs ia <;> cases pick b.legs ib <;>
    simp [Ttndo.T.relabel, List.map_append, List.zip_map]

open Ptn.C04 in
/-- **`tensor_product_graph` on one tree, by evaluation.**  On the state tree `0 — (1, 2 — 3)` with
factors on the sites 3, 0 (dict order), on one site, on all sites and on none: the routine never raises, leaves no
free leg, and its record is `Ttndo.tpSpec`: the trace record with the operator's output leg in the place of the ket
physical leg at exactly the named sites, one pair (ket physical leg, operator input) per factor — for ALL factors —
and every site not named untouched.  The statement for all trees is `tensor_product_graph`. -/
theorem tensor_product_graph_partial :
    let kt := Ttndo.ketTree (.node 0 [.node 1 [], .node 2 [.node 3 []]])
    ∀ sites ∈ [[7, 1], [5], [1, 3, 5, 7], []],
      Ttndo.tpRecordOk kt sites = true := by
  decide +kernel

open Ptn.C04 in
/-- **`trace_ttndo` after the absorptions, EVERY tree and every set of sites (the second of the three steps of
`tensor_product_graph`).**
For every state tree with distinct identifiers and every list `sites`: on ANY network that has the nodes, the order,
the root tensor and the bra tensors of the TTNDO of `from_ttns` and whose ket tensor at node `k` is the tensor
`absorb_graph` produces at the named sites (last axis `gOpOut k`, one logged pair (ket physical leg, operator input))
and the untouched ket tensor elsewhere (`Ttndo.tpKetT`), `trace_ttndo` never raises, leaves no free leg, and its record is
`Ttndo.tpBlockBinds sites` (the trace record in the order of the code, with the operator's output leg facing the bra
copy at exactly the named sites and the logged pair of every named site) plus the two root pairs.  That the
result of the loop `absorbAll` IS such a network and that `Ttndo.tpBlockBinds sites kt` plus the root pairs is a permutation of
`Ttndo.tpSpec kt sites` are `Ttndo.absorbAll_ttndo` and `Ttndo.tpBlockBinds_perm`; together: `tensor_product_graph`. -/
theorem tensor_product_trace_graph_partial (t : Ptn.C04.Tree) (hnd : t.ids.Nodup) (sites : List Nat) (nd : Ptn.C04.Net)
    (hr0 : nd.root = 0) (hord : nd.order = (Ttndo.ttndoNetK (Ttndo.ketTree t)).order)
    (hnode : nd.node = (Ttndo.ttndoNetK (Ttndo.ketTree t)).node)
    (hrt : nd.tensor 0 = some (T.fresh [Ttndo.rootKetLeg, Ttndo.rootBraLeg, Ttndo.rootOpenLeg]))
    (hket : ∀ e ∈ Ptn.C04.Tree.info (some 0) (Ttndo.ketTree t),
      nd.tensor e.1 = some (Ttndo.tpKetT sites e.1 ⟨e.2.1, e.2.2⟩))
    (hbra : ∀ e ∈ Ptn.C04.Tree.info (some 0) (Ttndo.ketTree t), nd.tensor (e.1 + 1) = some (gBraT e.1 ⟨e.2.1, e.2.2⟩)) :
    Ttndo.traceTtndo nd = some ⟨[], Ttndo.tpBlockBinds sites (Ttndo.ketTree t) ++
      [(Ttndo.rootKetLeg, Leg.gKet (Ttndo.ketTree t).id 0), (Ttndo.rootBraLeg, Leg.gBra (Ttndo.ketTree t).id 0)]⟩ := by
  obtain ⟨h1, h2⟩ := Ttndo.ketTree_wf t hnd
  exact Ttndo.tpTrace_eq sites (Ttndo.ketTree t) h1 h2 nd hr0 hord hnode hrt hket hbra

open Ptn.C04 in
/-- non-vacuity: the network the model's absorption loop produces on the state tree `0 — 1` for the sites `[3]`
satisfies every hypothesis, and the record is the model's own record -/
example : ∃ nd, Ttndo.absorbAll [3] (Ttndo.ttndoNetK (Ttndo.ketTree (.node 0 [.node 1 []]))) = some nd ∧
    nd.root = 0 ∧ nd.order = (Ttndo.ttndoNetK (Ttndo.ketTree (.node 0 [.node 1 []]))).order ∧
    (∀ e ∈ Ptn.C04.Tree.info (some 0) (Ttndo.ketTree (.node 0 [.node 1 []])),
      nd.node e.1 = (Ttndo.ttndoNetK (Ttndo.ketTree (.node 0 [.node 1 []]))).node e.1 ∧
      nd.tensor e.1 = some (Ttndo.tpKetT [3] e.1 ⟨e.2.1, e.2.2⟩) ∧
      nd.tensor (e.1 + 1) = some (gBraT e.1 ⟨e.2.1, e.2.2⟩)) ∧
    Ttndo.traceTtndo nd = some ⟨[], Ttndo.tpBlockBinds [3] (Ttndo.ketTree (.node 0 [.node 1 []])) ++
      [(Ttndo.rootKetLeg, Leg.gKet 1 0), (Ttndo.rootBraLeg, Leg.gBra 1 0)]⟩ :=
  ⟨_, rfl, by decide +kernel⟩

open Ptn.C04 in
/-- **`tensor_product_graph`, EVERY tree and every list of distinct sites.**  For every state tree `t` with
pairwise distinct identifiers and every list `ss` of pairwise distinct nodes of `t` (the keys of the `TensorProduct`
in dict order: none, one, some, all, any order), `tensor_product_expectation_value` on the TTNDO of `from_ttns`
(model `Ttndo.tensorProductExpectationValue`, the sites given by their ket identifiers) never raises, leaves no free
leg, and its record is in the code's order `Ttndo.tpBlockBinds` plus the two root pairs, which is the specification
graph `Ttndo.tpSpec` up to order: one pair (ket physical leg, operator input) per factor - for ALL factors -, the
operator's output leg facing the bra copy's physical leg at exactly the named sites, the ket physical leg facing it at
every other site, every ket edge, every bra edge, the two root pairs. -/
theorem tensor_product_graph (t : Ptn.C04.Tree) (hnd : t.ids.Nodup) (ss : List Nat) (hss : ss.Nodup)
    (hin : ∀ s ∈ ss, s ∈ t.ids) :
    ∃ binds, Ttndo.tensorProductExpectationValue (Ttndo.ttndoNetK (Ttndo.ketTree t)) (ss.map Ttndo.ketOf) =
        some ⟨[], binds⟩ ∧
      binds = Ttndo.tpBlockBinds (ss.map Ttndo.ketOf) (Ttndo.ketTree t) ++
        [(Ttndo.rootKetLeg, Leg.gKet (Ttndo.ketTree t).id 0), (Ttndo.rootBraLeg, Leg.gBra (Ttndo.ketTree t).id 0)] ∧
      binds.Perm (Ttndo.tpSpec (Ttndo.ketTree t) (ss.map Ttndo.ketOf)) := by
  obtain ⟨h1, h2⟩ := Ttndo.ketTree_wf t hnd
  have hs' : (ss.map Ttndo.ketOf).Nodup :=
    nodup_map_of_inj_on _ hss (fun x _ y _ e => by simp [Ttndo.ketOf] at e; omega)
  have hin' : ∀ s ∈ ss.map Ttndo.ketOf, s ∈ (Ttndo.ketTree t).ids := by
    intro s hs
    obtain ⟨a, ha, rfl⟩ := List.mem_map.1 hs
    rw [Ttndo.ketTree_ids]
    exact List.mem_map.2 ⟨a, hin a ha, rfl⟩
  exact ⟨_, Ttndo.tensorProduct_eq _ h1 h2 _ hs' hin', rfl, Ttndo.tpBlockBinds_perm _ h1 _ hs' hin'⟩

/-- the decision procedure `Ttndo.tpRecordOk` (used by `tensor_product_graph_partial` on one tree) answers `true` on
every tree and every list of distinct sites -/
theorem tensor_product_graph_recordOk (t : Ptn.C04.Tree) (hnd : t.ids.Nodup) (ss : List Nat) (hss : ss.Nodup)
    (hin : ∀ s ∈ ss, s ∈ t.ids) :
    Ttndo.tpRecordOk (Ttndo.ketTree t) (ss.map Ttndo.ketOf) = true := by
  obtain ⟨binds, h1, _, h3⟩ := tensor_product_graph t hnd ss hss hin
  simp only [Ttndo.tpRecordOk, h1, List.isEmpty_nil, Bool.true_and]
  exact List.isPerm_iff.2 h3

/-- non-vacuity: the state tree `0 — (1, 2 — 3)` with factors on the sites 3, 0 (dict order) satisfies the hypotheses;
the record has 2 logged pairs, 4 physical pairs, 3 ket edges, 3 bra edges and the 2 root pairs, and the operator
outputs face the bra copy at exactly the ket copies 7 and 1 -/
example : (Ptn.C04.Tree.node 0 [.node 1 [], .node 2 [.node 3 []]]).ids.Nodup ∧ [3, 0].Nodup ∧
    (∀ s ∈ [3, 0], s ∈ (Ptn.C04.Tree.node 0 [.node 1 [], .node 2 [.node 3 []]]).ids) ∧
    (Ttndo.tpSpec (Ttndo.ketTree (.node 0 [.node 1 [], .node 2 [.node 3 []]])) ([3, 0].map Ttndo.ketOf)).length = 14 ∧
    (Ptn.C04.Leg.gOpOut 7, Ptn.C04.Leg.gBraPhys 7) ∈
      Ttndo.tpSpec (Ttndo.ketTree (.node 0 [.node 1 [], .node 2 [.node 3 []]])) ([3, 0].map Ttndo.ketOf) ∧
    (Ptn.C04.Leg.gKetPhys 3, Ptn.C04.Leg.gBraPhys 3) ∈
      Ttndo.tpSpec (Ttndo.ketTree (.node 0 [.node 1 [], .node 2 [.node 3 []]])) ([3, 0].map Ttndo.ketOf) := by
  decide +kernel

end Ptn.C16
