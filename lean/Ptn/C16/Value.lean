import Ptn.C16.ValueGen
import Ptn.C04.GraphSO
import Ptn.C16.TtndoModel
/-! Value level for C16: what the binding records of `trace_graph` and `ttndo_ttno_graph` EVALUATE to.

The specification graphs `ssSpec kt` / `soSpec kt` (C04) are split into their layers as EXPLICIT lists over the
nodes and edges of the ket tree (`ssSpec_split`, `soSpec_split`); a program with the record of the trace
(resp. of the TTNO expectation value) is compared with the reference nesting
`root · ((K · B) over the physical pairs)` (resp. `root · (((K · O) over the inputs) · B over the outputs)`), which
`Ptn.Ein.Expr.eval_eq_full` and Fubini (`sumPairs_perm`, `sumPairs_unord`) allow for every size and every
commutative semiring. -/
namespace Ptn.C16.Ttndo

open Ptn.C04 Ptn.Ein Ptn.C16.Val

/-- legs of the TTNDO root tensor `eye(d).reshape(d, d, 1)` in axis order -/
def rootLegs : List Leg := [rootKetLeg, rootBraLeg, rootOpenLeg]

/-- the two root-bond legs of the copies of the state's root, bound to the root tensor -/
def rootPairs (kt : Tree) : List (Leg × Leg) :=
  [(rootKetLeg, Leg.gKet kt.id 0), (rootBraLeg, Leg.gBra kt.id 0)]

/-- per node: (ket physical leg, bra physical leg) -/
def physPairs (kt : Tree) : List (Leg × Leg) := kt.ids.map physPair
/-- per node: (ket physical leg, operator INPUT leg) -/
def physIns (kt : Tree) : List (Leg × Leg) := kt.ids.map physIn
/-- per node: (operator OUTPUT leg, bra physical leg) -/
def physOuts (kt : Tree) : List (Leg × Leg) := kt.ids.map physOut
/-- per edge: the two ket legs / operator legs / bra legs -/
def ketBonds (kt : Tree) : List (Leg × Leg) := kt.edges.map fun e => ketEdge e.1 e.2
def opBonds (kt : Tree) : List (Leg × Leg) := kt.edges.map fun e => opEdge e.1 e.2
def braBonds (kt : Tree) : List (Leg × Leg) := kt.edges.map fun e => braEdge e.1 e.2


theorem count_ssSpecL (x : Leg × Leg) (i : Nat) : ∀ ts : List Tree, (ssSpecL i ts).count x =
    ((Tree.idsL ts).map physPair).count x + ((Tree.edgesL i ts).map fun e => ketEdge e.1 e.2).count x +
      ((Tree.edgesL i ts).map fun e => braEdge e.1 e.2).count x :=
  count_ssSpecL_split x i

theorem count_soSpecL (x : Leg × Leg) (i : Nat) : ∀ ts : List Tree, (soSpecL i ts).count x =
    ((Tree.idsL ts).map physIn).count x + ((Tree.idsL ts).map physOut).count x +
      ((Tree.edgesL i ts).map fun e => ketEdge e.1 e.2).count x +
      ((Tree.edgesL i ts).map fun e => opEdge e.1 e.2).count x +
      ((Tree.edgesL i ts).map fun e => braEdge e.1 e.2).count x := fun ts => by
  have := count_soSpecL_split x i ts
  omega

theorem ssSpec_split (t : Tree) : (ssSpec t).Perm (physPairs t ++ (ketBonds t ++ braBonds t)) :=
  ssSpec_perm t

theorem soSpec_split (t : Tree) :
    (soSpec t).Perm (physIns t ++ (physOuts t ++ (ketBonds t ++ (opBonds t ++ braBonds t)))) := by
  refine (soSpec_perm t).trans (List.perm_iff_count.2 fun x => ?_)
  simp only [List.count_append, physIns, physOuts, ketBonds, opBonds, braBonds]
  omega


section
set_option linter.unusedSectionVars false
variable {R : Type} [CommSemiring R]

/-- the root tensor `eye(d).reshape(d, d, 1)` of `add_trivial_root` (the open leg has dimension 1) -/
def eyeRoot : Asg Leg → R := fun σ => if σ rootKetLeg = σ rootBraLeg then 1 else 0

theorem eyeRoot_local : DependsOn (· ∈ rootLegs) (eyeRoot (R := R)) := by
  intro σ τ h
  show (if σ rootKetLeg = σ rootBraLeg then (1 : R) else 0) = (if τ rootKetLeg = τ rootBraLeg then (1 : R) else 0)
  rw [h rootKetLeg (by simp [rootLegs]), h rootBraLeg (by simp [rootLegs])]

/-- **What is assumed for the trace.**  `e` is a contraction program (a nesting of `tensordot` calls) with the
binding record `binds`; `K`, `B` are reference contractions of the ket copy and of the bra copy over their own
bonds (the two dense vectors, in any contraction order); `rv` is the root tensor.  `binds` is a parameter so that the instance
can be the model's own output; the value lemmas take its relation to the specification graph as a hypothesis. -/
structure TraceProgram (kt : Tree) (binds : List (Leg × Leg)) (e K B : Expr Leg R) (rv : Asg Leg → R) : Prop where
  /-- the program is strongly well-formed: distinct leaf legs, every leaf reads only its legs, the two operands
  of every `tensordot` share no label, every pair joins a free leg of the left with one of the right operand -/
  e_swf : e.SWF
  K_wf : K.WF
  B_wf : B.WF
  /-- the root tensor reads only its three legs -/
  root_local : DependsOn (· ∈ rootLegs) rv
  disjoint : ∀ l ∈ K.labels, l ∉ B.labels
  root_fresh : ∀ l ∈ rootLegs, l ∉ K.labels ∧ l ∉ B.labels
  /-- the program's record is the one the model of the library routine produces -/
  record : e.binds.Perm binds
  K_bonds : K.binds.Perm (ketBonds kt)
  B_bonds : B.binds.Perm (braBonds kt)
  /-- the physical legs are open in the two dense vectors … -/
  phys_free : ∀ p ∈ physPairs kt, p.1 ∈ K.free ∧ p.2 ∈ B.free
  /-- … and so are the root-bond legs of the two copies of the state's root -/
  rootK_free : Leg.gKet kt.id 0 ∈ K.free
  rootB_free : Leg.gBra kt.id 0 ∈ B.free
  /-- the program contracts exactly the root tensor and the tensors of the two copies -/
  leaves : ∀ σ, e.leafProd σ = rv σ * (K.leafProd σ * B.leafProd σ)

/-- **What is assumed for the expectation value of a TTNO**: as `TraceProgram`, with the operator network `O`. -/
structure TtnoProgram (kt : Tree) (binds : List (Leg × Leg)) (e K O B : Expr Leg R) (rv : Asg Leg → R) : Prop where
  e_swf : e.SWF
  K_wf : K.WF
  O_wf : O.WF
  B_wf : B.WF
  root_local : DependsOn (· ∈ rootLegs) rv
  disjointKO : ∀ l ∈ K.labels, l ∉ O.labels
  disjointKB : ∀ l ∈ K.labels, l ∉ B.labels
  disjointOB : ∀ l ∈ O.labels, l ∉ B.labels
  root_fresh : ∀ l ∈ rootLegs, l ∉ K.labels ∧ l ∉ O.labels ∧ l ∉ B.labels
  record : e.binds.Perm binds
  K_bonds : K.binds.Perm (ketBonds kt)
  O_bonds : O.binds.Perm (opBonds kt)
  B_bonds : B.binds.Perm (braBonds kt)
  /-- the operator's INPUT legs face the ket copy -/
  in_free : ∀ p ∈ physIns kt, p.1 ∈ K.free ∧ p.2 ∈ O.free
  /-- the operator's OUTPUT legs face the bra copy -/
  out_free : ∀ p ∈ physOuts kt, p.1 ∈ O.free ∧ p.2 ∈ B.free
  rootK_free : Leg.gKet kt.id 0 ∈ K.free
  rootB_free : Leg.gBra kt.id 0 ∈ B.free
  leaves : ∀ σ, e.leafProd σ = rv σ * ((K.leafProd σ * O.leafProd σ) * B.leafProd σ)

/-- **The padded root bond of `from_ttns`**: the root tensor of the state got a new leading axis of length 1
padded with zeros to `root_bond_dim` (`padded_root_index`), so the dense vector of either copy vanishes off index
`0` of its root-bond leg; the root bond dimension is positive (`positivity_check`). -/
structure PaddedRoot (dim : Leg → Nat) (kt : Tree) (K B : Expr Leg R) : Prop where
  dimK : 0 < dim rootKetLeg
  dimB : 0 < dim rootBraLeg
  K_zero : ∀ τ : Asg Leg, τ (Leg.gKet kt.id 0) ≠ 0 → K.eval dim τ = 0
  B_zero : ∀ τ : Asg Leg, τ (Leg.gBra kt.id 0) ≠ 0 → B.eval dim τ = 0


theorem rootKet_ne (kt : Tree) :
    rootKetLeg ≠ Leg.gKet kt.id 0 ∧ rootKetLeg ≠ rootBraLeg ∧ rootKetLeg ≠ Leg.gBra kt.id 0 ∧
    Leg.gKet kt.id 0 ≠ rootBraLeg ∧ Leg.gKet kt.id 0 ≠ Leg.gBra kt.id 0 ∧ rootBraLeg ≠ Leg.gBra kt.id 0 := by
  simp [rootKetLeg, rootBraLeg]

/-- the reference nesting of the trace: ket vector and bra vector joined over the physical pairs -/
theorem trace_ref (kt : Tree) (K B : Expr Leg R) (hK : K.WF) (hB : B.WF)
    (hdis : ∀ l ∈ K.labels, l ∉ B.labels)
    (hpp : ∀ p ∈ physPairs kt, p.1 ∈ K.free ∧ p.2 ∈ B.free)
    (hgK : Leg.gKet kt.id 0 ∈ K.free) (hgB : Leg.gBra kt.id 0 ∈ B.free) :
    (Expr.dot K B (physPairs kt)).WF ∧
      ∀ p ∈ rootPairs kt, p.1 ∈ rootLegs ∧ p.2 ∈ (Expr.dot K B (physPairs kt)).free := by
  refine ⟨⟨hK, hB, hdis, hpp⟩, ?_⟩
  intro p hp
  simp only [rootPairs, List.mem_cons, List.not_mem_nil, or_false] at hp
  rcases hp with rfl | rfl
  · refine ⟨by simp [rootLegs], Expr.mem_free_dot.2 (Or.inl ⟨hgK, ?_⟩)⟩
    simp [physPairs, physPair]
  · refine ⟨by simp [rootLegs], Expr.mem_free_dot.2 (Or.inr ⟨hgB, ?_⟩)⟩
    simp [physPairs, physPair]

theorem TraceProgram.value {kt : Tree} {binds : List (Leg × Leg)} {e K B : Expr Leg R} {rv : Asg Leg → R}
    (h : TraceProgram kt binds e K B rv) (hb : binds.Perm (ssSpec kt ++ rootPairs kt)) (dim : Leg → Nat)
    (σ : Asg Leg) :
    e.eval dim σ = sumPairs dim (rootPairs kt)
      (fun τ => rv τ * sumPairs dim (physPairs kt) (fun ρ => K.eval dim ρ * B.eval dim ρ) τ) σ := by
  obtain ⟨hX, hrp⟩ := trace_ref kt K B h.K_wf h.B_wf h.disjoint h.phys_free h.rootK_free h.rootB_free
  have hrec : e.binds.Perm (rootPairs kt ++ (Expr.dot K B (physPairs kt)).binds) := by
    refine h.record.trans (hb.trans (List.perm_append_comm.trans (List.Perm.append_left _ ?_)))
    refine (ssSpec_split kt).trans ?_
    simp only [Expr.binds]
    exact List.Perm.append_left _ (List.Perm.append h.K_bonds.symm h.B_bonds.symm)
  have := root_value_of_record dim e (Expr.dot K B (physPairs kt)) rootLegs rv h.e_swf hX h.root_local
    (fun l hl => by
      simp only [Expr.labels, List.mem_append, not_or]
      exact h.root_fresh l hl)
    (rootPairs kt) hrp hrec (fun σ => by rw [h.leaves, Expr.leafProd_dot]) σ
  simpa only [Expr.eval] using this

theorem inner_dependsOn (dim : Leg → Nat) (pp : List (Leg × Leg)) (K B : Expr Leg R) (hK : K.WF) (hB : B.WF) :
    DependsOn (fun l => l ∈ K.labels ∨ l ∈ B.labels)
      (sumPairs dim pp (fun ρ => K.eval dim ρ * B.eval dim ρ)) :=
  (sumPairs_dependsOn dim pp
    (((eval_dependsOn dim K hK).mono (fun _ h => Or.inl h)).mul
      ((eval_dependsOn dim B hB).mono (fun _ h => Or.inr h)))).mono (fun _ h => h.1)

theorem TraceProgram.value_padded {kt : Tree} {binds : List (Leg × Leg)} {e K B : Expr Leg R}
    (h : TraceProgram kt binds e K B eyeRoot) (hb : binds.Perm (ssSpec kt ++ rootPairs kt)) (dim : Leg → Nat)
    (hp : PaddedRoot dim kt K B) (σ : Asg Leg) :
    e.eval dim σ = sumPairs dim (physPairs kt) (fun ρ => K.eval dim ρ * B.eval dim ρ)
      (upd (upd σ (Leg.gKet kt.id 0) 0) (Leg.gBra kt.id 0) 0) := by
  rw [h.value hb dim σ]
  obtain ⟨n1, n2, n3, n4, n5, n6⟩ := rootKet_ne kt
  have hnotK : Leg.gKet kt.id 0 ∉ Expr.pairLegs (physPairs kt) := by
    simp [Expr.pairLegs, physPairs, physPair]
  have hnotB : Leg.gBra kt.id 0 ∉ Expr.pairLegs (physPairs kt) := by
    simp [Expr.pairLegs, physPairs, physPair]
  have hrK := h.root_fresh rootKetLeg (by simp [rootLegs])
  have hrB := h.root_fresh rootBraLeg (by simp [rootLegs])
  exact identity_root_padded dim rootKetLeg (Leg.gKet kt.id 0) rootBraLeg (Leg.gBra kt.id 0) _
    (inner_dependsOn dim (physPairs kt) K B h.K_wf h.B_wf)
    (fun h => h.elim hrK.1 hrK.2) (fun h => h.elim hrB.1 hrB.2)
    n1 n2 n3 n4 n5 n6
    (fun τ hτ => sumPairs_eq_zero dim _ _ τ (fun ρ hρ => by
      rw [hp.K_zero ρ (by rw [hρ _ hnotK]; exact hτ), zero_mul]))
    (fun τ hτ => sumPairs_eq_zero dim _ _ τ (fun ρ hρ => by
      rw [hp.B_zero ρ (by rw [hρ _ hnotB]; exact hτ), mul_zero]))
    hp.dimK hp.dimB σ


/-- the reference nesting of `<psi|O|psi>`: the operator's inputs summed against the ket vector, then its
outputs against the bra vector -/
theorem ttno_ref (kt : Tree) (K O B : Expr Leg R) (hK : K.WF) (hO : O.WF) (hB : B.WF)
    (hKO : ∀ l ∈ K.labels, l ∉ O.labels) (hKB : ∀ l ∈ K.labels, l ∉ B.labels)
    (hOB : ∀ l ∈ O.labels, l ∉ B.labels)
    (hin : ∀ p ∈ physIns kt, p.1 ∈ K.free ∧ p.2 ∈ O.free)
    (hout : ∀ p ∈ physOuts kt, p.1 ∈ O.free ∧ p.2 ∈ B.free)
    (hgK : Leg.gKet kt.id 0 ∈ K.free) (hgB : Leg.gBra kt.id 0 ∈ B.free) :
    (Expr.dot (Expr.dot K O (physIns kt)) B (physOuts kt)).WF ∧
      ∀ p ∈ rootPairs kt, p.1 ∈ rootLegs ∧
        p.2 ∈ (Expr.dot (Expr.dot K O (physIns kt)) B (physOuts kt)).free := by
  refine ⟨⟨⟨hK, hO, hKO, hin⟩, hB, ?_, ?_⟩, ?_⟩
  · intro l hl
    simp only [Expr.labels, List.mem_append] at hl
    rcases hl with hl | hl
    · exact hKB l hl
    · exact hOB l hl
  · intro p hp
    have h := hout p hp
    obtain ⟨n, _, rfl⟩ := List.mem_map.1 hp
    exact ⟨Expr.mem_free_dot.2 (Or.inr ⟨h.1, by simp [physIns, physIn, physOut]⟩), h.2⟩
  · intro p hp
    simp only [rootPairs, List.mem_cons, List.not_mem_nil, or_false] at hp
    rcases hp with rfl | rfl
    · refine ⟨by simp [rootLegs], Expr.mem_free_dot.2 (Or.inl ⟨Expr.mem_free_dot.2 (Or.inl ⟨hgK, ?_⟩), ?_⟩)⟩
      · simp [physIns, physIn]
      · simp [physOuts, physOut]
    · refine ⟨by simp [rootLegs], Expr.mem_free_dot.2 (Or.inr ⟨hgB, ?_⟩)⟩
      simp [physOuts, physOut]

theorem perm_spec_sandwich {α : Type} [DecidableEq α] (a b c d f r : List α) :
    (a ++ (b ++ (c ++ (d ++ f))) ++ r).Perm (r ++ (b ++ ((a ++ (c ++ d)) ++ f))) := by
  rw [List.perm_iff_count]
  intro x
  simp only [List.count_append]
  omega

/-- the record is compared as a multiset of UNORDERED pairs (`TraceProgram.value`: ordered): the routine binds the pairs of a
single-site tree the other way round (`teBinds`), and `ttndo_ttno_graph` gives the record only up to orientation -/
theorem TtnoProgram.value {kt : Tree} {binds : List (Leg × Leg)} {e K O B : Expr Leg R} {rv : Asg Leg → R}
    (h : TtnoProgram kt binds e K O B rv) (hb : (unordL binds).Perm (unordL (soSpec kt ++ rootPairs kt)))
    (dim : Leg → Nat) (hd : ∀ p ∈ soSpec kt ++ rootPairs kt, dim p.1 = dim p.2) (σ : Asg Leg) :
    e.eval dim σ = sumPairs dim (rootPairs kt) (fun τ => rv τ *
      sumPairs dim (physOuts kt) (fun ρ =>
        sumPairs dim (physIns kt) (fun π => K.eval dim π * O.eval dim π) ρ * B.eval dim ρ) τ) σ := by
  obtain ⟨hX, hrp⟩ := ttno_ref kt K O B h.K_wf h.O_wf h.B_wf h.disjointKO h.disjointKB h.disjointOB h.in_free
    h.out_free h.rootK_free h.rootB_free
  have hperm : (soSpec kt ++ rootPairs kt).Perm
      (rootPairs kt ++ (Expr.dot (Expr.dot K O (physIns kt)) B (physOuts kt)).binds) := by
    refine ((soSpec_split kt).append_right _).trans ((perm_spec_sandwich _ _ _ _ _ _).trans ?_)
    simp only [Expr.binds]
    exact List.Perm.append_left _ (List.Perm.append_left _
      (List.Perm.append (List.Perm.append_left _ (List.Perm.append h.K_bonds.symm h.O_bonds.symm)) h.B_bonds.symm))
  have hrec : (unordL e.binds).Perm
      (unordL (rootPairs kt ++ (Expr.dot (Expr.dot K O (physIns kt)) B (physOuts kt)).binds)) :=
    (unordL_perm h.record).trans (hb.trans (unordL_perm hperm))
  have := root_value_of_unord_record dim e (Expr.dot (Expr.dot K O (physIns kt)) B (physOuts kt)) rootLegs rv
    h.e_swf hX h.root_local
    (fun l hl => by
      simp only [Expr.labels, List.mem_append, not_or]
      exact ⟨⟨(h.root_fresh l hl).1, (h.root_fresh l hl).2.1⟩, (h.root_fresh l hl).2.2⟩)
    (rootPairs kt) hrp hrec (fun p hp => hd p (hperm.mem_iff.2 hp))
    (fun σ => by rw [h.leaves, Expr.leafProd_dot, Expr.leafProd_dot]) σ
  simpa only [Expr.eval] using this

theorem sandwich_dependsOn (dim : Leg → Nat) (pin pout : List (Leg × Leg)) (K O B : Expr Leg R)
    (hK : K.WF) (hO : O.WF) (hB : B.WF) :
    DependsOn (fun l => l ∈ K.labels ∨ l ∈ O.labels ∨ l ∈ B.labels)
      (sumPairs dim pout (fun ρ => sumPairs dim pin (fun π => K.eval dim π * O.eval dim π) ρ * B.eval dim ρ)) :=
  (sumPairs_dependsOn dim pout
    (((sumPairs_dependsOn dim pin
        (((eval_dependsOn dim K hK).mono (fun _ h => Or.inl h)).mul
          ((eval_dependsOn dim O hO).mono (fun _ h => Or.inr (Or.inl h))))).mono (fun _ h => h.1)).mul
      ((eval_dependsOn dim B hB).mono (fun _ h => Or.inr (Or.inr h))))).mono (fun _ h => h.1)

theorem TtnoProgram.value_padded {kt : Tree} {binds : List (Leg × Leg)} {e K O B : Expr Leg R}
    (h : TtnoProgram kt binds e K O B eyeRoot) (hb : (unordL binds).Perm (unordL (soSpec kt ++ rootPairs kt)))
    (dim : Leg → Nat) (hd : ∀ p ∈ soSpec kt ++ rootPairs kt, dim p.1 = dim p.2)
    (hp : PaddedRoot dim kt K B) (σ : Asg Leg) :
    e.eval dim σ = sumPairs dim (physOuts kt) (fun ρ =>
        sumPairs dim (physIns kt) (fun π => K.eval dim π * O.eval dim π) ρ * B.eval dim ρ)
      (upd (upd σ (Leg.gKet kt.id 0) 0) (Leg.gBra kt.id 0) 0) := by
  rw [h.value hb dim hd σ]
  obtain ⟨n1, n2, n3, n4, n5, n6⟩ := rootKet_ne kt
  have hKi : Leg.gKet kt.id 0 ∉ Expr.pairLegs (physIns kt) := by
    simp [Expr.pairLegs, physIns, physIn]
  have hKo : Leg.gKet kt.id 0 ∉ Expr.pairLegs (physOuts kt) := by
    simp [Expr.pairLegs, physOuts, physOut]
  have hBo : Leg.gBra kt.id 0 ∉ Expr.pairLegs (physOuts kt) := by
    simp [Expr.pairLegs, physOuts, physOut]
  have hrK := h.root_fresh rootKetLeg (by simp [rootLegs])
  have hrB := h.root_fresh rootBraLeg (by simp [rootLegs])
  exact identity_root_padded dim rootKetLeg (Leg.gKet kt.id 0) rootBraLeg (Leg.gBra kt.id 0) _
    (sandwich_dependsOn dim (physIns kt) (physOuts kt) K O B h.K_wf h.O_wf h.B_wf)
    (fun h => h.elim hrK.1 (fun h => h.elim hrK.2.1 hrK.2.2))
    (fun h => h.elim hrB.1 (fun h => h.elim hrB.2.1 hrB.2.2))
    n1 n2 n3 n4 n5 n6
    (fun τ hτ => sumPairs_eq_zero dim _ _ τ (fun ρ hρ => by
      rw [sumPairs_eq_zero dim _ _ ρ (fun π hπ => by
        rw [hp.K_zero π (by rw [hπ _ hKi, hρ _ hKo]; exact hτ), zero_mul]), zero_mul]))
    (fun τ hτ => sumPairs_eq_zero dim _ _ τ (fun ρ hρ => by
      rw [hp.B_zero ρ (by rw [hρ _ hBo]; exact hτ), mul_zero]))
    hp.dimK hp.dimB σ

/-- **`PaddedRoot` from the padded root TENSORS.**  It suffices that the tensor of the ket copy of the state's
root (a leaf of `K`) vanishes off index `0` of its root-bond leg — that is `padded_root_index` for the tensor
`from_ttns` builds — and likewise for the bra copy: the zero padding survives the contraction of the copies. -/
theorem PaddedRoot.of_tensors (dim : Leg → Nat) (kt : Tree) (K B : Expr Leg R) (hK : K.SWF) (hB : B.SWF)
    (hgK : Leg.gKet kt.id 0 ∈ K.free) (hgB : Leg.gBra kt.id 0 ∈ B.free)
    (kl bl : List Leg × (Asg Leg → R)) (hkl : kl ∈ K.leaves) (hbl : bl ∈ B.leaves)
    (hkz : ∀ ρ : Asg Leg, ρ (Leg.gKet kt.id 0) ≠ 0 → kl.2 ρ = 0)
    (hbz : ∀ ρ : Asg Leg, ρ (Leg.gBra kt.id 0) ≠ 0 → bl.2 ρ = 0)
    (hdK : 0 < dim rootKetLeg) (hdB : 0 < dim rootBraLeg) : PaddedRoot dim kt K B where
  dimK := hdK
  dimB := hdB
  K_zero := eval_zero_of_leaf_zero dim K hK _ hgK kl hkl hkz
  B_zero := eval_zero_of_leaf_zero dim B hB _ hgB bl hbl hbz

end

end Ptn.C16.Ttndo
