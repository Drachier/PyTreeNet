import Ptn.Common.EinsumBuilt
/-! Generic value-level lemmas used by C16 (any label type, any commutative semiring): a program through a root
tensor evaluates to `Σ_rp rv · X`, and zero padding of an open leg of one leaf survives the contraction. -/
namespace Ptn.C16.Val

open Finset Ptn.Ein Ptn.Ein.Expr

set_option linter.unusedSectionVars false
variable {L : Type} [DecidableEq L] {R : Type} [CommSemiring R]

theorem eval_dependsOn (dim : L → Nat) (e : Expr L R) (h : e.WF) : DependsOn (· ∈ e.labels) (e.eval dim) := by
  intro σ τ hst
  rw [eval_eq_full dim e h, eval_eq_full dim e h]
  exact ((sumPairs_dependsOn dim e.binds (leafProd_dependsOn e h)).mono (fun l hl => hl.1)) σ τ hst

/-- **A network through a root tensor.**  `X` is any well-formed expression, `rv` a tensor on the legs `rlegs`
(none of which occurs in `X`), `rp` joins legs of the root tensor with free legs of `X`.  A strongly well-formed
program `e` whose leaf product is `rv · leaves of X` and whose record is `rp ++ X.binds` up to order evaluates to
`Σ_rp rv · X`: it is compared with the nesting `dot (leaf rlegs rv) X rp`. -/
theorem root_value_of_record (dim : L → Nat) (e X : Expr L R) (rlegs : List L) (rv : Asg L → R)
    (he : e.SWF) (hX : X.WF) (hrv : DependsOn (· ∈ rlegs) rv) (hr : ∀ l ∈ rlegs, l ∉ X.labels)
    (rp : List (L × L)) (hrp : ∀ p ∈ rp, p.1 ∈ rlegs ∧ p.2 ∈ X.free)
    (hrec : e.binds.Perm (rp ++ X.binds))
    (hleaf : ∀ σ, e.leafProd σ = rv σ * X.leafProd σ) (σ : Asg L) :
    e.eval dim σ = sumPairs dim rp (fun τ => rv τ * X.eval dim τ) σ :=
  eval_eq_of_perm dim e (dot (leaf rlegs rv) X rp) he.wf ⟨hrv, hX, hr, hrp⟩ hrec (binds_nodup e he)
    (fun σ => by rw [hleaf, leafProd_dot]; simp [leafProd, leaves, prodL]) σ

/-- the record is known as a multiset of UNORDERED pairs; both legs of every pair have the same dimension -/
theorem root_value_of_unord_record (dim : L → Nat) (e X : Expr L R) (rlegs : List L) (rv : Asg L → R)
    (he : e.SWF) (hX : X.WF) (hrv : DependsOn (· ∈ rlegs) rv) (hr : ∀ l ∈ rlegs, l ∉ X.labels)
    (rp : List (L × L)) (hrp : ∀ p ∈ rp, p.1 ∈ rlegs ∧ p.2 ∈ X.free)
    (hrec : (unordL e.binds).Perm (unordL (rp ++ X.binds)))
    (hd : ∀ p ∈ rp ++ X.binds, dim p.1 = dim p.2)
    (hleaf : ∀ σ, e.leafProd σ = rv σ * X.leafProd σ) (σ : Asg L) :
    e.eval dim σ = sumPairs dim rp (fun τ => rv τ * X.eval dim τ) σ :=
  eval_eq_of_unord dim e (dot (leaf rlegs rv) X rp) he.wf ⟨hrv, hX, hr, hrp⟩ hrec hd (binds_nodup e he)
    (fun σ => by rw [hleaf, leafProd_dot]; simp [leafProd, leaves, prodL]) σ

/-- **The identity root tensor on padded bonds.**  `rK, rB` are the two legs of the root tensor
`eye(d).reshape(d, d, 1)`, bound to the root-bond legs `gK` of the ket copy and `gB` of the bra copy.  If the
rest of the network `G` vanishes whenever the index of `gK` or of `gB` is not `0` (the padded root bond) and does
not read the root tensor's legs, then `Σ_{a < dim rK} Σ_{b < dim rB} δ_ab · G[gK = a, gB = b] = G[gK = 0, gB = 0]`
for all positive dimensions. -/
theorem identity_root_padded (dim : L → Nat) (rK gK rB gB : L) (G : Asg L → R) {S : L → Prop}
    (hG : DependsOn S G) (hrK : ¬ S rK) (hrB : ¬ S rB)
    (h1 : rK ≠ gK) (h2 : rK ≠ rB) (h3 : rK ≠ gB) (h4 : gK ≠ rB) (h5 : gK ≠ gB) (h6 : rB ≠ gB)
    (hK0 : ∀ τ : Asg L, τ gK ≠ 0 → G τ = 0) (hB0 : ∀ τ : Asg L, τ gB ≠ 0 → G τ = 0)
    (hdK : 0 < dim rK) (hdB : 0 < dim rB) (σ : Asg L) :
    sumPairs dim [(rK, gK), (rB, gB)] (fun τ => (if τ rK = τ rB then 1 else 0) * G τ) σ =
      G (upd (upd σ gK 0) gB 0) := by
  simp only [sumPairs, sumR_eq]
  have eK : ∀ a b : Nat, upd (upd (upd (upd σ rK a) gK a) rB b) gB b gK = a := by
    intro a b; simp [upd, h5, h4]
  have eB : ∀ a b : Nat, upd (upd (upd (upd σ rK a) gK a) rB b) gB b gB = b := by
    intro a b; simp [upd]
  have erK : ∀ a b : Nat, upd (upd (upd (upd σ rK a) gK a) rB b) gB b rK = a := by
    intro a b; simp [upd, h1, h2, h3]
  have erB : ∀ a b : Nat, upd (upd (upd (upd σ rK a) gK a) rB b) gB b rB = b := by
    intro a b; simp [upd, h6]
  rw [sum_eq_single 0]
  · rw [sum_eq_single 0]
    · rw [erK, erB, if_pos rfl, one_mul]
      apply hG
      intro l hl
      have n1 : l ≠ rK := fun e => hrK (e ▸ hl)
      have n2 : l ≠ rB := fun e => hrB (e ▸ hl)
      by_cases c1 : l = gB
      · simp [upd, c1]
      · by_cases c2 : l = gK
        · simp [upd, c2, h5, h4]
        · simp [upd, c1, c2, n1, n2]
    · intro b _ hb
      rw [hB0 _ (by rw [eB]; exact hb), mul_zero]
    · intro h; exact absurd (mem_range.2 hdB) h
  · intro a _ ha
    apply sum_eq_zero
    intro b _
    rw [hK0 _ (by rw [eK]; exact ha), mul_zero]
  · intro h; exact absurd (mem_range.2 hdK) h

/-- **A zero slice of one leaf is a zero slice of the whole contraction.**  If a leaf tensor of a strongly
well-formed expression vanishes whenever the index of the leg `g` is not `0`, and `g` is still open, then the
value of the expression vanishes whenever the index of `g` is not `0` (zero padding of a bond survives the
contraction of the rest of the network). -/
theorem eval_zero_of_leaf_zero (dim : L → Nat) (e : Expr L R) (he : e.SWF) (g : L) (hg : g ∈ e.free)
    (lf : List L × (Asg L → R)) (hlf : lf ∈ e.leaves) (hz : ∀ ρ : Asg L, ρ g ≠ 0 → lf.2 ρ = 0)
    (τ : Asg L) (hτ : τ g ≠ 0) : e.eval dim τ = 0 := by
  rw [eval_eq_full dim e he.wf]
  apply sumPairs_eq_zero
  intro ρ hρ
  apply prodL_eq_zero
  refine List.mem_map.2 ⟨lf, hlf, ?_⟩
  exact hz ρ (by rw [hρ g (free_not_bound e he g hg)]; exact hτ)

end Ptn.C16.Val
