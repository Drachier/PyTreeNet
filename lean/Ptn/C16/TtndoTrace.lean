import Ptn.C04.GraphSS
import Ptn.C16.TtndoModel
/-! `trace_ttndo` on the TTNDO of `from_ttns`: the bra copy of a ket node mirrors it, so the routines of C04 called with
`ket_to_bra_id` are those called with the identity on the network's `braView` (`contractAnyNodes_relabel`), the loop is
C04's `ssLoop` (`ssLoop_subtree`), and `_contract_final_block` closes the two root-bond legs. -/
namespace Ptn.C16.Ttndo
open Ptn.C04

theorem post_mem_ids (t : Tree) (k : Nat) (h : k ∈ t.post) : k ∈ t.ids := by
  induction t using Tree.induct with
  | node i ks ih =>
    rw [Tree.post, Tree.postL_eq, List.mem_append, List.mem_flatMap, List.mem_singleton] at h
    rw [Tree.ids, Tree.idsL_eq, List.mem_cons, List.mem_flatMap]
    exact h.symm.imp id fun ⟨c, hc, h⟩ => ⟨c, hc, ih c hc h⟩

theorem postL_mem_ids (ts : List Tree) (k : Nat) (h : k ∈ Tree.postL ts) : k ∈ Tree.idsL ts := by
  rw [Tree.postL_eq, List.mem_flatMap] at h
  obtain ⟨c, hc, h⟩ := h
  exact Tree.kid_ids_sub ts c hc k (post_mem_ids c k h)

theorem info_parent_cases (q : Option Nat) (t : Tree) (e : Nat × Option Nat × List Nat) (he : e ∈ Tree.info q t) :
    e.2.1 = q ∨ ∃ p ∈ t.ids, e.2.1 = some p := by
  induction t using Tree.induct generalizing q with
  | node i ks ih =>
    rcases Tree.mem_info_node.1 he with rfl | ⟨c, hc, he⟩
    · exact Or.inl rfl
    · refine Or.inr ?_
      rcases ih c hc _ he with h | ⟨p, hp, h⟩
      · exact ⟨i, List.mem_cons_self, h⟩
      · exact ⟨p, List.mem_cons_of_mem _ (Tree.kid_ids_sub ks c hc p hp), h⟩

theorem infoL_parent_cases (r : Nat) : ∀ (ts : List Tree) (e : Nat × Option Nat × List Nat),
    e ∈ Tree.infoL r ts → e.2.1 = some r ∨ ∃ p ∈ Tree.idsL ts, e.2.1 = some p := by
  intro ts e he
  rw [Tree.infoL_eq, List.mem_flatMap] at he
  obtain ⟨c, hc, he⟩ := he
  exact (info_parent_cases (some r) c e he).imp_right fun ⟨p, hp, h⟩ => ⟨p, Tree.kid_ids_sub ts c hc p hp, h⟩

theorem info_parent_some (t : Tree) (q : Nat) (e : Nat × Option Nat × List Nat) (he : e ∈ Tree.info (some q) t) :
    ∃ p, e.2.1 = some p :=
  (info_parent_cases _ t e he).elim (fun h => ⟨q, h⟩) fun ⟨p, _, h⟩ => ⟨p, h⟩

theorem infoL_parent_some (ts : List Tree) (q : Nat) (e : Nat × Option Nat × List Nat) (he : e ∈ Tree.infoL q ts) :
    ∃ p, e.2.1 = some p :=
  (infoL_parent_cases q ts e he).elim (fun h => ⟨q, h⟩) fun ⟨p, _, h⟩ => ⟨p, h⟩

theorem info_kids_mem (q : Option Nat) (t : Tree) (e : Nat × Option Nat × List Nat) (he : e ∈ Tree.info q t) :
    ∀ c ∈ e.2.2, c ∈ t.ids := by
  induction t using Tree.induct generalizing q with
  | node i ks ih =>
    intro c hc
    rcases Tree.mem_info_node.1 he with rfl | ⟨k, hk, he⟩
    · exact List.mem_cons_of_mem _ (Tree.kid_id_mem ks c hc)
    · exact List.mem_cons_of_mem _ (Tree.kid_ids_sub ks k hk c (ih k hk _ he c hc))

theorem info_mem_of_id (p : Option Nat) (t : Tree) (k : Nat) (hk : k ∈ t.ids) :
    ∃ e ∈ Tree.info p t, e.1 = k := by
  rw [← Tree.info_keys p t] at hk
  obtain ⟨e, he, rfl⟩ := List.mem_map.1 hk
  exact ⟨e, he, rfl⟩

theorem post_getLast : ∀ t : Tree, t.post.getLast? = some t.id
  | .node i ks => by simp [Tree.post, Tree.id]

theorem post_ne_nil : ∀ t : Tree, t.post ≠ []
  | .node i ks => by simp [Tree.post]

theorem postL_eq_nil : ∀ ks : List Tree, Tree.postL ks = [] → ks = []
  | [], _ => rfl
  | t :: ts, h => by
    simp only [Tree.postL, List.append_eq_nil_iff] at h
    exact absurd h.1 (post_ne_nil t)

theorem info_parent_mem (t : Tree) (e : Nat × Option Nat × List Nat) (he : e ∈ Tree.info none t) (p : Nat)
    (hp : e.2.1 = some p) : p ∈ t.ids := by
  rcases info_parent_cases none t e he with h | ⟨q, hq, h⟩
  · rw [hp] at h; exact absurd h (by simp)
  · rw [hp] at h; exact (Option.some.inj h) ▸ hq

theorem mem_info_of_mem_infoL (r : Nat) (ks : List Tree) (q : Option Nat) (e : Nat × Option Nat × List Nat)
    (he : e ∈ Tree.infoL r ks) : e ∈ Tree.info q (.node r ks) := by
  simp [Tree.info, he]

theorem idxOf_map_of_inj {f : Nat → Nat} (l : List Nat) (n : Nat) (h : ∀ a ∈ l, f a = f n → a = n) :
    (l.map f).idxOf (f n) = l.idxOf n := by
  induction l with
  | nil => rfl
  | cons a as ih =>
    by_cases e : a = n
    · subst e; simp
    · have h1 : (a == n) = false := by simpa using e
      have h2 : (f a == f n) = false := by simpa using fun e' => e (h a (by simp) e')
      simp [List.idxOf_cons, h1, h2, ih (fun c hc => h c (by simp [hc]))]

/-! The routines read the other node only through `neighbourIndex ∘ f` on the neighbours they do not ignore: relabelling a
node by a map that keeps these positions changes nothing. -/

theorem neighbourIndex_map {h : Nat → Nat} (po po' : Option Nat) (co : List Nat) (n : Nat)
    (hpar : po' = some (h n) ↔ po = some n) (hsome : po'.isSome = po.isSome)
    (hinj : ∀ a ∈ co, h a = h n → a = n) :
    (Node.mk po' (co.map h)).neighbourIndex (h n) = (Node.mk po co).neighbourIndex n := by
  have hmem : h n ∈ co.map h ↔ n ∈ co :=
    ⟨fun hm => by obtain ⟨a, ha, e⟩ := List.mem_map.1 hm; exact hinj a ha e ▸ ha, fun hm => List.mem_map.2 ⟨n, hm, rfl⟩⟩
  simp only [Node.neighbourIndex, Node.nparents, hsome, idxOf_map_of_inj co n hinj, hmem, hpar]

theorem equivLoop_congr (n1 : Node) {n2 n2' : Node} {f f' : Trafo} (ign : List Nat) (l : List Nat)
    (h : ∀ n ∈ l, ign.contains n = false → n2.neighbourIndex (f n) = n2'.neighbourIndex (f' n)) :
    equivLoop n1 n2 ign f l = equivLoop n1 n2' ign f' l := by
  induction l with
  | nil => rfl
  | cons n rest ih =>
    simp only [equivLoop, ih (fun m hm => h m (List.mem_cons_of_mem _ hm))]
    cases hc : ign.contains n with
    | true => rfl
    | false => simp only [Bool.false_eq_true, if_false, h n List.mem_cons_self hc]

theorem braIgnoreLoop_congr {n2 n2' : Node} {f f' : Trafo} (n1 : Node) (next nextIdx : Nat) (l : List Nat)
    (h : ∀ n ∈ l, n ≠ next → n2.neighbourIndex (f n) = n2'.neighbourIndex (f' n)) :
    braIgnoreLoop n2 n1 next nextIdx f l = braIgnoreLoop n2' n1 next nextIdx f' l := by
  induction l with
  | nil => rfl
  | cons n rest ih =>
    simp only [braIgnoreLoop, ih (fun m hm => h m (List.mem_cons_of_mem _ hm))]
    by_cases hn : n = next
    · simp [hn]
    · simp only [ne_eq, hn, not_false_eq_true, if_true, h n List.mem_cons_self hn]

/-- `neighbourIndex_map` at the bra copy of a ket node: parent `braP p`, children `+ 1` -/
theorem neighbourIndex_relabel (p : Nat) (kids : List Nat) (n : Nat) (hn : n ≠ p) :
    (Node.mk (some (braP p)) (kids.map (· + 1))).neighbourIndex (ketToBra n) =
      (Node.mk (some p) kids).neighbourIndex n :=
  neighbourIndex_map (h := (· + 1)) (some p) (some (braP p)) kids n
    ⟨fun e => by simp only [braP, Option.some.injEq] at e; split at e <;> omega,
     fun e => absurd (Option.some.inj e).symm hn⟩ rfl (fun _ _ e => Nat.succ.inj e)

theorem braIgnoreLoop_relabel (p : Nat) (kids : List Nat) (nextIdx : Nat) (l : List Nat) :
    braIgnoreLoop ⟨some (braP p), kids.map (· + 1)⟩ ⟨some p, kids⟩ p nextIdx ketToBra l =
      braIgnoreLoop ⟨some p, kids⟩ ⟨some p, kids⟩ p nextIdx id l :=
  braIgnoreLoop_congr _ p nextIdx l (fun n _ hn => neighbourIndex_relabel p kids n hn)

theorem contractAnyNodes_relabel (p : Nat) (kids : List Nat) (t1 t2 : T) (cache : Cache) :
    contractAnyNodes p ⟨some p, kids⟩ ⟨some (braP p), kids.map (· + 1)⟩ t1 t2 cache ketToBra =
      contractAnyNodes p ⟨some p, kids⟩ ⟨some p, kids⟩ t1 t2 cache id := by
  simp only [contractAnyNodes, contractLeafs, contractSubtreesUsingDictionary, contractBraToKetAndBlocksIgnoreOneLeg,
    braIgnoreLoop_relabel, Node.isLeaf, Node.nn, Node.nparents, List.isEmpty_map, List.length_map,
    Option.isSome_some]


section
variable (kt : Tree) (hnd : kt.ids.Nodup) (hodd : ∀ k ∈ kt.ids, k % 2 = 1)
include hnd hodd

theorem ttndo_keys_nodup : (0 :: (kt.ids ++ kt.ids.map (· + 1))).Nodup := by
  rw [List.nodup_cons, List.nodup_append]
  refine ⟨?_, hnd, ?_, ?_⟩
  · simp only [List.mem_append, List.mem_map, not_or, not_exists, not_and]
    exact ⟨fun h => by have := hodd 0 h; omega, fun k _ => by omega⟩
  · exact nodup_map_of_inj_on _ hnd (fun x _ y _ e => by omega)
  · intro a ha b hb e
    obtain ⟨k, hk, rfl⟩ := List.mem_map.1 hb
    have h1 := hodd a ha
    have h2 := hodd k hk
    omega

theorem ttndo_lookup (e : Nat × Option Nat × List Nat) (he : e ∈ Tree.info (some 0) kt) :
    (ttndoNetK kt).node e.1 = some ⟨e.2.1, e.2.2⟩ ∧
    (ttndoNetK kt).tensor e.1 = some (gKetT e.1 ⟨e.2.1, e.2.2⟩) ∧
    (ttndoNetK kt).node (e.1 + 1) = some ⟨e.2.1.map braP, e.2.2.map (· + 1)⟩ ∧
    (ttndoNetK kt).tensor (e.1 + 1) = some (gBraT e.1 ⟨e.2.1, e.2.2⟩) := by
  -- the keys of the table are `0`, the ket identifiers and their successors
  have hk : (((0, (⟨none, [kt.id, kt.id + 1]⟩ : Node), T.fresh [rootKetLeg, rootBraLeg, rootOpenLeg]) ::
      ((Tree.info (some 0) kt).map (fun e => (e.1, (⟨e.2.1, e.2.2⟩ : Node), gKetT e.1 ⟨e.2.1, e.2.2⟩)) ++
       (Tree.info (some 0) kt).map (fun e => (e.1 + 1, (⟨e.2.1.map braP, e.2.2.map (· + 1)⟩ : Node),
          gBraT e.1 ⟨e.2.1, e.2.2⟩)))).map (·.1)).Nodup := by
    simp only [List.map_cons, List.map_append, List.map_map]
    show (0 :: ((Tree.info (some 0) kt).map (·.1) ++ (Tree.info (some 0) kt).map ((· + 1) ∘ (·.1)))).Nodup
    rw [← List.map_map, Tree.info_keys]
    exact ttndo_keys_nodup kt hnd hodd
  have f1 := find?_of_nodup_keys _ hk (e.1, (⟨e.2.1, e.2.2⟩ : Node), gKetT e.1 ⟨e.2.1, e.2.2⟩)
    (by simp only [List.mem_cons, List.mem_append, List.mem_map]; exact Or.inr (Or.inl ⟨e, he, rfl⟩))
  have f2 := find?_of_nodup_keys _ hk (e.1 + 1, (⟨e.2.1.map braP, e.2.2.map (· + 1)⟩ : Node), gBraT e.1 ⟨e.2.1, e.2.2⟩)
    (by simp only [List.mem_cons, List.mem_append, List.mem_map]; exact Or.inr (Or.inr ⟨e, he, rfl⟩))
  simp only at f1 f2
  simp only [ttndoNetK, f1, f2, Option.map_some, and_self]

end

theorem ttndo_root_lookup (kt : Tree) :
    (ttndoNetK kt).node 0 = some ⟨none, [kt.id, kt.id + 1]⟩ ∧
    (ttndoNetK kt).tensor 0 = some (T.fresh [rootKetLeg, rootBraLeg, rootOpenLeg]) := by
  simp [ttndoNetK]

/-- the bra branch of the TTNDO read through the ket identifiers: same nodes, the bra tensors -/
def braView (nd : Net) : Net :=
  { root := nd.root, node := nd.node, tensor := fun k => nd.tensor (k + 1), order := [] }

def kidsOfNet (nd : Net) (k : Nat) : List Nat := ((nd.node k).map (·.children)).getD []

theorem trLoop_eq_ssLoop (nd : Net) (l : List Nat)
    (h : ∀ k ∈ l, ∀ d, trStep nd d k = ssStep nd (braView nd) d k) :
    ∀ d, trLoop nd l d = ssLoop nd (braView nd) l d := by
  induction l with
  | nil => intro d; rfl
  | cons k rest ih =>
    intro d
    simp only [trLoop, ssLoop, h k (by simp) d]
    cases ssStep nd (braView nd) d k with
    | none => rfl
    | some d1 => exact ih (fun k' hk' => h k' (by simp [hk'])) d1

theorem filter_isKet (l : List Nat) (h : ∀ k ∈ l, k % 2 = 1) :
    (l ++ l.map (· + 1) ++ [0]).filter isKet = l := by
  have h1 : l.filter isKet = l := List.filter_eq_self.2 (fun k hk => by simp [isKet, h k hk])
  have h2 : (l.map (· + 1)).filter isKet = [] := List.filter_eq_nil_iff.2 (fun k hk => by
    obtain ⟨m, hm, rfl⟩ := List.mem_map.1 hk
    have := h m hm
    simp [isKet]; omega)
  simp [List.filter_append, h1, h2, isKet]

theorem contractionOrder_ttndoNetK (kt : Tree) (hodd : ∀ k ∈ kt.ids, k % 2 = 1) :
    contractionOrder (ttndoNetK kt) = kt.post := by
  simp only [contractionOrder, ttndoNetK]
  exact filter_isKet kt.post (fun k hk => hodd k (post_mem_ids kt k hk))

/-- the ket node `e`, its bra copy, and the loop step on it, as the TTNDO of `from_ttns` stores them -/
def TrRep (nd : Net) (info : List (Nat × Option Nat × List Nat)) : Prop :=
  ∀ e ∈ info, ∃ p, e.2.1 = some p ∧
    nd.node e.1 = some ⟨some p, e.2.2⟩ ∧ nd.tensor e.1 = some (gKetT e.1 ⟨some p, e.2.2⟩) ∧
    nd.tensor (ketToBra e.1) = some (gBraT e.1 ⟨some p, e.2.2⟩) ∧
    ∀ d, trStep nd d e.1 = ssStep nd (braView nd) d e.1

theorem TrRep.rep {nd : Net} {info : List (Nat × Option Nat × List Nat)} (h : TrRep nd info) :
    Rep nd (braView nd) (kidsOfNet nd) info := by
  intro e he
  obtain ⟨p, hp, l1, l2, l4, _⟩ := h e he
  rw [hp]
  refine ⟨l1, l2, ?_, ?_, ?_⟩
  · simp [braView, l1, kidsOfNet]
  · simpa [braView, kidsOfNet, l1, ketToBra] using l4
  · simp [kidsOfNet, l1]

/-- on a ket node whose bra copy mirrors it, the step of `trace_ttndo` is the step of `contract_two_ttns` on the
network and its bra view, whatever the two tensors are -/
theorem trStep_eq_ssStep {nd : Net} {k p : Nat} {kids : List Nat} {t1 t2 : T}
    (l1 : nd.node k = some ⟨some p, kids⟩) (l2 : nd.tensor k = some t1)
    (l3 : nd.node (k + 1) = some ⟨some (braP p), kids.map (· + 1)⟩) (l4 : nd.tensor (k + 1) = some t2) (d : Dict) :
    trStep nd d k = ssStep nd (braView nd) d k := by
  simp only [trStep, ssStep, ssContractAny, braView, l1, l2, l3, ketToBra, l4, contractAnyNodes_relabel]
  rfl

theorem ttndoNetK_trRep (kt : Tree) (hnd : kt.ids.Nodup) (hodd : ∀ k ∈ kt.ids, k % 2 = 1) :
    TrRep (ttndoNetK kt) (Tree.info (some 0) kt) := by
  intro e he
  obtain ⟨l1, l2, l3, l4⟩ := ttndo_lookup kt hnd hodd e he
  obtain ⟨p, hp⟩ := info_parent_some kt 0 e he
  rw [hp] at l1 l2 l3 l4
  exact ⟨p, hp, l1, l2, l4, trStep_eq_ssStep l1 l2 l3 l4⟩

/-- the loop of `trace_ttndo` over the ket identifiers is the loop of `contract_two_ttns` on the network and its bra
view: it leaves the block of the copy of the state's root -/
theorem ttndoNetK_trLoop (kt : Tree) (hnd : kt.ids.Nodup) (hodd : ∀ k ∈ kt.ids, k % 2 = 1) :
    ∃ d, trLoop (ttndoNetK kt) kt.post Dict.empty = some d ∧
      ∀ k, d k = if k = (kt.id, 0) then some (ssBlock kt 0) else Dict.empty k := by
  have hrep := ttndoNetK_trRep kt hnd hodd
  have hstep : ∀ k ∈ kt.post, ∀ d, trStep (ttndoNetK kt) d k = ssStep (ttndoNetK kt) (braView (ttndoNetK kt)) d k := by
    intro k hk d
    obtain ⟨e, he, rfl⟩ := info_mem_of_id (some 0) kt k (post_mem_ids kt k hk)
    obtain ⟨_, _, _, _, _, hs⟩ := hrep e he
    exact hs d
  rw [trLoop_eq_ssLoop (ttndoNetK kt) kt.post hstep Dict.empty]
  exact ssLoop_subtree (ttndoNetK kt) (braView (ttndoNetK kt)) (kidsOfNet (ttndoNetK kt)) kt 0
    Dict.empty hnd (fun h => by have := hodd 0 h; omega) hrep.rep (fun _ _ _ => rfl)

section
variable {xK xB xO : Leg}

theorem rootDot_eq (a b : Leg) (bs : List (Leg × Leg)) :
    tensordot (T.fresh [xK, xB, xO]) ⟨[a, b], bs⟩ [0, 1] [0, 1] =
      some ⟨[xO], bs ++ [(xK, a), (xB, b)]⟩ := by
  rw [tensordot_eq _ _ [0, 1] [0, 1] [xK, xB] [a, b] rfl
    (by simp) (by simp) (by simp [pick, T.fresh]) (by simp [pick])]
  simp [remaining, T.fresh]

/-- `_contract_final_block` on a network whose root `0` carries the TTNDO root tensor above the copies `r`, `r + 1`
of the state's root -/
theorem contractFinalBlock_eq (nd : Net) (r : Nat) (hid : r % 2 = 1) (hr0 : nd.root = 0)
    (hn0 : nd.node 0 = some ⟨none, [r, r + 1]⟩)
    (hrt : nd.tensor 0 = some (T.fresh [xK, xB, xO])) (bs : List (Leg × Leg)) :
    contractFinalBlock nd ⟨[Leg.gKet r 0, Leg.gBra r 0], bs⟩ =
      some ⟨[], bs ++ [(xK, Leg.gKet r 0), (xB, Leg.gBra r 0)]⟩ := by
  have hnn : (Node.mk none [r, r + 1]).nn = 2 := rfl
  have hfind : [r, r + 1].find? isKet = some r := by simp [isKet, hid]
  have hi1 : (Node.mk none [r, r + 1]).neighbourIndex r = some 0 := by
    simp [Node.neighbourIndex, Node.nparents]
  have hi2 : (Node.mk none [r, r + 1]).neighbourIndex (ketToBra r) = some 1 := by
    have hb : (r == r + 1) = false := by simp
    simp [Node.neighbourIndex, Node.nparents, ketToBra, List.idxOf_cons, hb]
  simp only [contractFinalBlock, hr0, hn0, hrt, hnn, ne_eq, not_true_eq_false, if_false, hfind, hi1, hi2, rootDot_eq]

/-- `trace_ttndo` on a network with the root and the order of the TTNDO of `kt`, given what its loop leaves for the
copy of the state's root -/
theorem traceTtndo_of_loop (kt : Tree) (hodd : ∀ k ∈ kt.ids, k % 2 = 1) (nd : Net) (hr0 : nd.root = 0)
    (hord : nd.order = (ttndoNetK kt).order) (hn0 : nd.node 0 = some ⟨none, [kt.id, kt.id + 1]⟩)
    (hrt : nd.tensor 0 = some (T.fresh [xK, xB, xO])) (d : Dict) (bs : List (Leg × Leg))
    (hd1 : trLoop nd kt.post Dict.empty = some d)
    (hd2 : d (kt.id, 0) = some ⟨[Leg.gKet kt.id 0, Leg.gBra kt.id 0], bs⟩) :
    traceTtndo nd = some ⟨[], bs ++ [(xK, Leg.gKet kt.id 0), (xB, Leg.gBra kt.id 0)]⟩ := by
  have horder : contractionOrder nd = kt.post := by
    rw [contractionOrder, hord]
    exact contractionOrder_ttndoNetK kt hodd
  have hlen : nd.order.length ≠ 1 := by
    have := post_ne_nil kt
    rw [hord]
    simp only [ttndoNetK, List.length_append, List.length_map, List.length_cons, List.length_nil]
    cases hpo : kt.post with
    | nil => exact absurd hpo this
    | cons a as => simp
  simp only [traceTtndo, hlen, if_false, horder, hd1, post_getLast, hr0, hd2]
  exact contractFinalBlock_eq nd kt.id (hodd kt.id (Tree.id_mem_ids kt)) hr0 hn0 hrt bs

end

/-- the record in the code's order; `trace_graph` reads it up to order -/
theorem traceTtndo_eq (kt : Tree) (hnd : kt.ids.Nodup) (hodd : ∀ k ∈ kt.ids, k % 2 = 1) :
    traceTtndo (ttndoNetK kt) =
      some ⟨[], ssBlockBinds kt ++ [(rootKetLeg, Leg.gKet kt.id 0), (rootBraLeg, Leg.gBra kt.id 0)]⟩ := by
  obtain ⟨d, hd1, hd2⟩ := ttndoNetK_trLoop kt hnd hodd
  exact traceTtndo_of_loop kt hodd _ rfl rfl (ttndo_root_lookup kt).1 (ttndo_root_lookup kt).2 d _ hd1
    (by rw [hd2, if_pos rfl]; rfl)

mutual
theorem ketTree_ids : ∀ t : Tree, (ketTree t).ids = t.ids.map ketOf
  | .node i ks => by simp [ketTree, Tree.ids, ketTreeL_ids ks]
theorem ketTreeL_ids : ∀ ts : List Tree, Tree.idsL (ketTree.ketTreeL ts) = (Tree.idsL ts).map ketOf
  | [] => by simp [ketTree.ketTreeL, Tree.idsL]
  | t :: ts => by simp [ketTree.ketTreeL, Tree.idsL, ketTree_ids t, ketTreeL_ids ts]
end

theorem ketTree_zero (t : Tree) : (0 : Nat) ∉ (ketTree t).ids := by
  rw [ketTree_ids]
  intro h
  obtain ⟨i, _, e⟩ := List.mem_map.1 h
  simp [ketOf] at e

theorem ketTree_wf (t : Tree) (hnd : t.ids.Nodup) :
    (ketTree t).ids.Nodup ∧ ∀ k ∈ (ketTree t).ids, k % 2 = 1 := by
  rw [ketTree_ids]
  refine ⟨nodup_map_of_inj_on _ hnd (fun x _ y _ e => by simp [ketOf] at e; omega), ?_⟩
  intro k hk
  obtain ⟨i, _, rfl⟩ := List.mem_map.1 hk
  simp [ketOf]

end Ptn.C16.Ttndo
