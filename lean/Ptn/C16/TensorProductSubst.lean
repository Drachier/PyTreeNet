import Ptn.C16.TensorProductRename
import Ptn.Common.EinsumSubst
/-! Substitution of the absorbed leaf by the `tensordot` of `absorb_into_open_legs`, and the fold lemma for
the absorption loop.

`tensor_product_model_value_partial` speaks about programs in which the absorbed ket tensor of a site `s` is ONE
leaf with the value of `absorbExpr s …`.  `Ptn.Ein.Expr.sb_subst_spec` (generic: `Ptn/Common/EinsumSubst.lean`)
replaces that leaf by the two-leaf expression `absorbExpr s …` itself: same value, same free legs, the record
gains the logged pair `(gKetPhys s, gOpIn s)`. -/
namespace Ptn.C16.Ttndo

open Ptn.C04 Ptn.Ein

set_option linter.unusedSectionVars false
variable {R : Type} [CommSemiring R]

/-- **the absorption loop, tensor by tensor.**  For pairwise distinct sites the ket tensor of a named site is the
original one with the site's operator applied on its physical leg; every other tensor is unchanged. -/
theorem absorbedKv_at (dim : Leg → Nat) (O : Nat → Nat → Nat → R) :
    ∀ (sites : List Nat), sites.Nodup → ∀ (kv : Nat → Asg Leg → R) (k : Nat),
      absorbedKv dim O sites kv k =
        if k ∈ sites then applyAt dim (O k) (Leg.gKetPhys k) (kv k) else kv k := by
  intro sites
  induction sites with
  | nil => intro _ kv k; simp [absorbedKv]
  | cons s ss ih =>
    intro hnd kv k
    obtain ⟨hs, hss⟩ := List.nodup_cons.1 hnd
    have h := ih hss (absorb1 dim (O s) s kv) k
    simp only [absorbedKv, List.foldl_cons] at h ⊢
    rw [h]
    by_cases hk : k ∈ ss
    · have hks : k ≠ s := fun e => hs (e ▸ hk)
      simp [hk, absorb1, hks]
    · by_cases hks : k = s
      · subst hks; simp [hk, absorb1]
      · simp [hk, hks, absorb1]

theorem absorbExpr_swf (s : Nat) (node : Node) (kvk ov : Asg Leg → R) (hnd : node.nbrs.Nodup)
    (hk : DependsOn (· ∈ (gKetT s node).legs) kvk) (ho : DependsOn (· ∈ (siteOpT s).legs) ov) :
    (absorbExpr s node kvk ov).SWF := by
  refine ⟨⟨?_, hk⟩, ⟨by simp [siteOpT, T.fresh], ho⟩, ?_, ?_, by simp, by simp⟩
  · simp only [gKetT, T.fresh]
    rw [List.nodup_append]
    refine ⟨(List.nodup_map_iff (fun a b h => by injection h)).2 hnd, by simp, ?_⟩
    intro a ha b hb hab
    simp only [List.mem_map] at ha
    obtain ⟨x, _, rfl⟩ := ha
    simp at hb; subst hb; cases hab
  · intro l hl hl'
    simp only [Expr.labels, gKetT, siteOpT, T.fresh, List.mem_append, List.mem_map, List.mem_cons,
      List.not_mem_nil, or_false] at hl hl'
    rcases hl with ⟨x, _, rfl⟩ | rfl <;> rcases hl' with h | h <;> cases h
  · intro p hp
    simp only [List.mem_singleton] at hp
    subst hp
    simp [Expr.free, gKetT, siteOpT, T.fresh]

/-- **Substituting the absorbed leaf.**  `e` is any strongly well-formed program (in the model's labels) that has,
at the path `p`, the one-leaf absorbed tensor of site `s ∈ sites`: legs the free legs of `absorbExpr` (neighbour
legs, then `gOpOut s`), value the pulled-back `applyAt (opMat ov s) (gKetPhys s) kvk` of
`tensor_product_model_value_partial`.  If the two labels bound inside the absorption, `gKetPhys s` and `gOpIn s`,
do not occur in `e`, then the program with the leaf replaced by the `tensordot` of `absorb_into_open_legs` is
strongly well-formed, has the same free legs, the record of `e` together with the logged pair
`(gKetPhys s, gOpIn s)` (up to order, no leg bound twice), and the same value at every assignment. -/
theorem tp_subst_absorb (dim : Leg → Nat) (sites : List Nat) (s : Nat) (hs : s ∈ sites) (node : Node)
    (hnbr : node.nbrs.Nodup) (kvk ov : Asg Leg → R)
    (hk : DependsOn (· ∈ (gKetT s node).legs) kvk) (ho : DependsOn (· ∈ (siteOpT s).legs) ov)
    (e : Expr Leg R) (p : List Bool) (he : e.SWF)
    (hat : e.sb_at p = some ((absorbExpr s node kvk ov).free,
      rn_pull (tpSwap sites) (applyAt dim (opMat ov s) (Leg.gKetPhys s) kvk)))
    (h1 : Leg.gKetPhys s ∉ e.labels) (h2 : Leg.gOpIn s ∉ e.labels) :
    (e.sb_subst p (absorbExpr s node kvk ov)).SWF ∧
    (e.sb_subst p (absorbExpr s node kvk ov)).free = e.free ∧
    (e.sb_subst p (absorbExpr s node kvk ov)).binds.Perm (e.binds ++ [(Leg.gKetPhys s, Leg.gOpIn s)]) ∧
    (Expr.pairLegs (e.sb_subst p (absorbExpr s node kvk ov)).binds).Nodup ∧
    ∀ σ, (e.sb_subst p (absorbExpr s node kvk ov)).eval dim σ = e.eval dim σ := by
  have hx := absorbExpr_swf s node kvk ov hnbr hk ho
  refine Expr.sb_subst_spec dim e (absorbExpr s node kvk ov) p _ _ hat he hx rfl
    (fun σ => (tpSwap_pull_absorb dim sites s hs node kvk ov hk ho σ).symm) ?_
  intro l hl hnot hle
  have hfree : ∀ l, l ∈ (absorbExpr s node kvk ov).labels → l ≠ Leg.gKetPhys s → l ≠ Leg.gOpIn s →
      l ∈ (absorbExpr s node kvk ov).free := by
    intro l hl h1 h2
    simp only [absorbExpr, Expr.labels, Expr.free, gKetT, siteOpT, T.fresh, List.mem_append, List.mem_map,
      List.mem_cons, List.not_mem_nil, or_false, List.mem_filter, List.map_cons, List.map_nil] at hl ⊢
    rcases hl with (⟨x, hx, rfl⟩ | rfl) | (rfl | rfl)
    · exact Or.inl ⟨Or.inl ⟨x, hx, rfl⟩, by simp⟩
    · exact absurd rfl h1
    · exact Or.inr ⟨Or.inl rfl, by simp⟩
    · exact absurd rfl h2
  by_cases e1 : l = Leg.gKetPhys s
  · exact h1 (e1 ▸ hle)
  · by_cases e2 : l = Leg.gOpIn s
    · exact h2 (e2 ▸ hle)
    · exact hnot (hfree l hl e1 e2)

end Ptn.C16.Ttndo
