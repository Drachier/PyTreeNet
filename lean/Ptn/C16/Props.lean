import Ptn.C16.Core
import Ptn.C16.TreeLemmas
import Ptn.C16.TtndoTrace
import Ptn.C16.TtndoTop
import Ptn.C16.Value
import Ptn.C16.ValueDemo
import Ptn.C16.ValueLoop
import Ptn.C16.LoopDemo
import Ptn.C16.TensorProduct
import Ptn.C16.TensorProductValue
import Ptn.C16.TensorProductGraph
import Ptn.C16.TensorProductAbsorb
import Ptn.C16.TensorProductPerm
import Ptn.C16.TensorProductRename
import Ptn.C16.TensorProductSubst
/-! Property theorems for C16 with their non-vacuity examples.  The theorems about identifiers, legs and binding records
are core Lean and stand in `Core.lean`, which this file imports (so `import Ptn.C16.Props` reaches all of them); here the
padded root bond and the value-level theorems over `Ptn/Common/Einsum*.lean`. -/
namespace Ptn.C16

/-- **The padded root bond.**  `from_ttns` reshapes the state's root tensor to a leading axis of length 1
and pads that axis to `root_bond_dim = d`: entry `0` is the tensor, every entry `k ≥ 1` is zero. -/
theorem padded_root_index (β : Type) [OfNat β 0] (x : Nat → β) (k : Nat) :
    pad0 0 1 x k = if k = 0 then x 0 else 0 := by
  cases k with
  | zero => simp [pad0]
  | succ k => simp [pad0]

/-- hence the identity matrix on the root couples only index 0 of the ket copy with index 0 of the bra
copy: `Σ_{a,b<d} eye[a,b]·K[a]·B[b] = K₀·B₀` for every root bond dimension `d ≥ 1`. -/
theorem padded_root_no_contribution (d : Nat) (hd : 0 < d) (x y : Nat → Int) :
    ((List.range d).map (fun a => ((List.range d).map
        (fun b => (if a = b then 1 else 0) * pad0 0 1 x a * pad0 0 1 y b)).sum)).sum = x 0 * y 0 := by
  obtain ⟨n, rfl⟩ : ∃ n, d = n + 1 := ⟨d - 1, by omega⟩
  rw [sum_range_head _ n]
  · rw [sum_range_head _ n]
    · simp [padded_root_index]
    · intro b; simp [padded_root_index]
  · intro a
    have : (fun b => (if a + 1 = b then (1 : Int) else 0) * pad0 0 1 x (a + 1) * pad0 0 1 y b) = fun _ => 0 := by
      funext b; simp [padded_root_index]
    rw [this]
    exact sum_map_zero _

example : ((List.range 3).map (fun a => ((List.range 3).map
    (fun b => (if a = b then 1 else 0) * pad0 0 1 (fun _ => (5 : Int)) a * pad0 0 1 (fun _ => (7 : Int)) b)).sum)).sum
    = 35 := by decide

open Ptn.C04 Ptn.Ein in
/-- **`trace_ttndo` computes `Σ_{a,b} root[a,b] · Σ_phys ψ_a(phys) · ψ'_b(phys)` (value level).**  For every
state tree with distinct identifiers the routine returns a closed tensor with some record `binds`
(`trace_graph`), and over every commutative semiring, for all dimensions: EVERY strongly well-formed contraction
program `e` with that record whose leaves are the root tensor `rv` and the tensors of the two copies — in
particular the sequence of `tensordot` calls the routine performs — evaluates to the sum, over the two root-bond
indices, of the root tensor times the sum over one common index per physical pair of the product of the two dense
vectors `K` (ket copy) and `B` (bra copy), each ANY well-formed contraction of its own network over its own
bonds. -/
theorem trace_value {R : Type} [CommSemiring R] (t : Ptn.C04.Tree) (hnd : t.ids.Nodup) :
    ∃ binds, Ttndo.traceTtndo (Ttndo.ttndoNetK (Ttndo.ketTree t)) = some ⟨[], binds⟩ ∧
      ∀ (dim : Leg → Nat) (e K B : Expr Leg R) (rv : Asg Leg → R),
        Ttndo.TraceProgram (Ttndo.ketTree t) binds e K B rv →
        ∀ σ, e.eval dim σ = sumPairs dim (Ttndo.rootPairs (Ttndo.ketTree t)) (fun τ => rv τ *
          sumPairs dim (Ttndo.physPairs (Ttndo.ketTree t)) (fun ρ => K.eval dim ρ * B.eval dim ρ) τ) σ := by
  obtain ⟨binds, hrun, hb⟩ := trace_graph t hnd
  exact ⟨binds, hrun, fun dim e K B rv h σ => h.value hb dim σ⟩

open Ptn.C04 Ptn.Ein in
/-- **`trace()` of the TTNDO of `from_ttns` is `Σ_phys ψ(phys) · ψ'(phys)` for every root bond dimension ≥ 1.**
With the root tensor `eye(d).reshape(d, d, 1)` and the padded root bond (both dense vectors vanish off index 0 of
their root-bond leg, `padded_root_index`) every program with the record of `trace_ttndo` evaluates to the sum over
the physical indices of the product of the two dense vectors at root-bond index 0 — with `ψ'` the conjugated copy
this is `<psi|psi>`.  No hypothesis relates the two root-leg dimensions to each other or bounds them. -/
theorem trace_value_padded_root {R : Type} [CommSemiring R] (t : Ptn.C04.Tree) (hnd : t.ids.Nodup) :
    ∃ binds, Ttndo.traceTtndo (Ttndo.ttndoNetK (Ttndo.ketTree t)) = some ⟨[], binds⟩ ∧
      ∀ (dim : Leg → Nat) (e K B : Expr Leg R),
        Ttndo.TraceProgram (Ttndo.ketTree t) binds e K B Ttndo.eyeRoot →
        Ttndo.PaddedRoot dim (Ttndo.ketTree t) K B →
        ∀ σ, e.eval dim σ =
          sumPairs dim (Ttndo.physPairs (Ttndo.ketTree t)) (fun ρ => K.eval dim ρ * B.eval dim ρ)
            (upd (upd σ (Leg.gKet (Ttndo.ketTree t).id 0) 0) (Leg.gBra (Ttndo.ketTree t).id 0) 0) := by
  obtain ⟨binds, hrun, hb⟩ := trace_graph t hnd
  exact ⟨binds, hrun, fun dim e K B h hp σ => h.value_padded hb dim hp σ⟩

open Ptn.C04 Ptn.Ein Ttndo.Demo in
/-- non-vacuity: on the state tree `0 — 1` the `tensordot` calls of `trace_ttndo` (block of the leaf, root copy,
root tensor), integer node tensors reading all their legs and the padded root bond of dimension 3 satisfy every
hypothesis; the record is the one the model produces -/
example : Ttndo.traceTtndo (Ttndo.ttndoNetK (Ttndo.ketTree st)) = some ⟨[], trBinds⟩ ∧
    Ttndo.TraceProgram (Ttndo.ketTree st) trBinds trProg K B Ttndo.eyeRoot ∧
    Ttndo.PaddedRoot dim (Ttndo.ketTree st) K B :=
  ⟨trace_run, trace_hyps, padded⟩

open Ptn.C04 Ptn.Ein Ttndo.Demo in
/-- … and both sides of the conclusion are the integer 622 -/
example : trProg.eval dim (fun _ => 0) = 622 ∧
    sumPairs dim (Ttndo.physPairs (Ttndo.ketTree st)) (fun ρ => K.eval dim ρ * B.eval dim ρ) (fun _ => 0) = 622 := by
  have h := trace_hyps.value_padded (by decide +kernel) dim padded (fun _ => 0)
  rw [upd_zero] at h
  exact (fun hr => ⟨h.trans hr, hr⟩) (by decide +kernel)

open Ptn.C04 Ptn.Ein in
/-- **`ttndo_ttno_expectation_value` computes `Σ root · Σ_out (Σ_in ψ · O) · ψ'` (value level).**  For every
state tree and every TTNO on it (independent child orders) the routine returns a closed tensor with some record
`binds` (`ttndo_ttno_graph`, which fixes the pairs only as UNORDERED pairs); for all dimensions that agree on the
two legs of every pair of the specification graph (NumPy rejects anything else) EVERY strongly well-formed
program with that record over the root tensor and the tensors of the three layers evaluates to: the root tensor
times — the operator's INPUT legs summed against the ket copy's physical legs, its OUTPUT legs against the bra
copy's — the sandwich of the dense operator `O` between the dense vectors `K` and `B`. -/
theorem ttndo_ttno_value {R : Type} [CommSemiring R] (t : Ptn.C04.Tree) (hnd : t.ids.Nodup)
    (opKids : Nat → List Nat)
    (hperm : ∀ e ∈ Ptn.C04.Tree.info none (Ttndo.ketTree t), (opKids e.1).Perm e.2.2) :
    ∃ binds, Ttndo.ttndoTtnoExpectationValue (Ttndo.ttndoNetK (Ttndo.ketTree t))
        (Ttndo.ttnoNetK (Ttndo.ketTree t) opKids) = some ⟨[], binds⟩ ∧
      ∀ (dim : Leg → Nat),
        (∀ p ∈ soSpec (Ttndo.ketTree t) ++ Ttndo.rootPairs (Ttndo.ketTree t), dim p.1 = dim p.2) →
        ∀ (e K O B : Expr Leg R) (rv : Asg Leg → R),
        Ttndo.TtnoProgram (Ttndo.ketTree t) binds e K O B rv →
        ∀ σ, e.eval dim σ = sumPairs dim (Ttndo.rootPairs (Ttndo.ketTree t)) (fun τ => rv τ *
          sumPairs dim (Ttndo.physOuts (Ttndo.ketTree t)) (fun ρ =>
            sumPairs dim (Ttndo.physIns (Ttndo.ketTree t)) (fun π => K.eval dim π * O.eval dim π) ρ *
              B.eval dim ρ) τ) σ := by
  obtain ⟨binds, hrun, hb⟩ := ttndo_ttno_graph t hnd opKids hperm
  exact ⟨binds, hrun, fun dim hd e K O B rv h σ => h.value hb dim hd σ⟩

open Ptn.C04 Ptn.Ein in
/-- **… and on the TTNDO of `from_ttns` this is `Σ ψ' O ψ` for every root bond dimension ≥ 1**: identity root
tensor and padded root bond, as in `trace_value_padded_root`. -/
theorem ttndo_ttno_value_padded_root {R : Type} [CommSemiring R] (t : Ptn.C04.Tree) (hnd : t.ids.Nodup)
    (opKids : Nat → List Nat)
    (hperm : ∀ e ∈ Ptn.C04.Tree.info none (Ttndo.ketTree t), (opKids e.1).Perm e.2.2) :
    ∃ binds, Ttndo.ttndoTtnoExpectationValue (Ttndo.ttndoNetK (Ttndo.ketTree t))
        (Ttndo.ttnoNetK (Ttndo.ketTree t) opKids) = some ⟨[], binds⟩ ∧
      ∀ (dim : Leg → Nat),
        (∀ p ∈ soSpec (Ttndo.ketTree t) ++ Ttndo.rootPairs (Ttndo.ketTree t), dim p.1 = dim p.2) →
        ∀ (e K O B : Expr Leg R),
        Ttndo.TtnoProgram (Ttndo.ketTree t) binds e K O B Ttndo.eyeRoot →
        Ttndo.PaddedRoot dim (Ttndo.ketTree t) K B →
        ∀ σ, e.eval dim σ =
          sumPairs dim (Ttndo.physOuts (Ttndo.ketTree t)) (fun ρ =>
            sumPairs dim (Ttndo.physIns (Ttndo.ketTree t)) (fun π => K.eval dim π * O.eval dim π) ρ *
              B.eval dim ρ)
            (upd (upd σ (Leg.gKet (Ttndo.ketTree t).id 0) 0) (Leg.gBra (Ttndo.ketTree t).id 0) 0) := by
  obtain ⟨binds, hrun, hb⟩ := ttndo_ttno_graph t hnd opKids hperm
  exact ⟨binds, hrun, fun dim hd e K O B h hp σ => h.value_padded hb dim hd hp σ⟩

open Ptn.C04 Ptn.Ein Ttndo.Demo in
/-- non-vacuity: the `tensordot` calls of `ttndo_ttno_expectation_value` on the tree `0 — 1` with a TTNO whose
tensors read all their legs -/
example : (∀ e ∈ Ptn.C04.Tree.info none (Ttndo.ketTree st), (opKids e.1).Perm e.2.2) ∧
    Ttndo.ttndoTtnoExpectationValue (Ttndo.ttndoNetK (Ttndo.ketTree st))
      (Ttndo.ttnoNetK (Ttndo.ketTree st) opKids) = some ⟨[], Ttndo.teBinds (Ttndo.ketTree st)⟩ ∧
    (∀ p ∈ soSpec (Ttndo.ketTree st) ++ Ttndo.rootPairs (Ttndo.ketTree st), dim p.1 = dim p.2) ∧
    Ttndo.TtnoProgram (Ttndo.ketTree st) (Ttndo.teBinds (Ttndo.ketTree st)) teProg K O B Ttndo.eyeRoot ∧
    Ttndo.PaddedRoot dim (Ttndo.ketTree st) K B :=
  ⟨opKids_perm, ttno_run, dims_ok, ttno_hyps, padded⟩

open Ptn.C04 Ptn.Ein Ttndo.Demo in
/-- … and both sides of the conclusion are the integer 16274 -/
example : teProg.eval dim (fun _ => 0) = 16274 ∧
    sumPairs dim (Ttndo.physOuts (Ttndo.ketTree st)) (fun ρ =>
      sumPairs dim (Ttndo.physIns (Ttndo.ketTree st)) (fun π => K.eval dim π * O.eval dim π) ρ * B.eval dim ρ)
      (fun _ => 0) = 16274 := by
  have h := ttno_hyps.value_padded (Ttndo.teBinds_perm _) dim dims_ok padded (fun _ => 0)
  rw [upd_zero] at h
  exact (fun hr => ⟨h.trans hr, hr⟩) (by decide +kernel)

open Ptn.C04 Ptn.Ein in
/-- **The padding hypothesis follows from the padded root TENSORS.**  `from_ttns` gives the ket and the bra copy of
the state's root a tensor that vanishes off index `0` of the new root-bond axis (`padded_root_index`); for ANY
strongly well-formed contractions `K`, `B` of the two copies in which that tensor is a leaf and the root-bond leg is
still open, the dense vectors vanish off index `0` as well — `PaddedRoot`, the hypothesis of
`trace_value_padded_root` and `ttndo_ttno_value_padded_root` (the root bond dimension is positive:
`positivity_check` in `add_trivial_root`). -/
theorem padded_root_of_tensors {R : Type} [CommSemiring R] (dim : Leg → Nat) (t : Ptn.C04.Tree)
    (K B : Expr Leg R) (hK : K.SWF) (hB : B.SWF)
    (hgK : Leg.gKet (Ttndo.ketTree t).id 0 ∈ K.free) (hgB : Leg.gBra (Ttndo.ketTree t).id 0 ∈ B.free)
    (hkz : ∃ kl ∈ K.leaves, ∀ ρ : Asg Leg, ρ (Leg.gKet (Ttndo.ketTree t).id 0) ≠ 0 → kl.2 ρ = 0)
    (hbz : ∃ bl ∈ B.leaves, ∀ ρ : Asg Leg, ρ (Leg.gBra (Ttndo.ketTree t).id 0) ≠ 0 → bl.2 ρ = 0)
    (hdK : 0 < dim Ttndo.rootKetLeg) (hdB : 0 < dim Ttndo.rootBraLeg) :
    Ttndo.PaddedRoot dim (Ttndo.ketTree t) K B := by
  obtain ⟨kl, hkl, hk⟩ := hkz
  obtain ⟨bl, hbl, hb⟩ := hbz
  exact Ttndo.PaddedRoot.of_tensors dim _ K B hK hB hgK hgB kl bl hkl hbl hk hb hdK hdB

open Ptn.C04 Ptn.Ein Ttndo.Demo in
/-- non-vacuity: the padded root tensors of the demo network (root bond dimension 3) -/
example : K.SWF ∧ B.SWF ∧ Leg.gKet (Ttndo.ketTree st).id 0 ∈ K.free ∧ Leg.gBra (Ttndo.ketTree st).id 0 ∈ B.free ∧
    (∃ kl ∈ K.leaves, ∀ ρ : Asg Leg, ρ (Leg.gKet (Ttndo.ketTree st).id 0) ≠ 0 → kl.2 ρ = 0) ∧
    (∃ bl ∈ B.leaves, ∀ ρ : Asg Leg, ρ (Leg.gBra (Ttndo.ketTree st).id 0) ≠ 0 → bl.2 ρ = 0) ∧
    0 < dim Ttndo.rootKetLeg ∧ 0 < dim Ttndo.rootBraLeg :=
  padded_tensors


open Ptn.C04 Ptn.Ein in
/-- **`trace_ttndo` computes `Σ_{a,b} root[a,b] · Σ_phys ψ_a(phys) · ψ'_b(phys)` — the loop itself, unconditionally
in the program.**  For every state tree with distinct identifiers, every commutative semiring, all dimensions and
ALL values of the root tensor `rv` and of the node tensors `kv` (ket copy), `bv` (bra copy), each reading only its
own legs:

* the routine returns a closed tensor `⟨[], binds⟩`: the result `⟨[rootOpenLeg], binds⟩` of its last `tensordot`
  with the open leg of the root tensor (dimension 1) indexed away (`contraction_result[0]`);
* that last result is BUILT, by the `tensordot` calls the loop over the ket identifiers and
  `_contract_final_block` perform, from an expression whose leaves are exactly the root tensor and the ket and bra
  tensors of all nodes;
* EVERY expression `e` from which it is built over these leaves is strongly well-formed, has the record `binds`,
  has the open leg of the root tensor as its only free leg, and evaluates — for every index of that leg, in
  particular index `0` — to the sum over the two root-bond indices of the root tensor times the sum over one common
  index per physical pair of the product of the dense vectors `ketVec` and `braVec` of the two copies (each branch
  contracted over its own bonds, child by child). -/
theorem trace_loop_value {R : Type} [CommSemiring R] (t : Ptn.C04.Tree) (hnd : t.ids.Nodup)
    (kv bv : Nat → Asg Leg → R) (rv : Asg Leg → R)
    (hkv : Ttndo.KetLocal0 kv (Ttndo.ketTree t)) (hbv : Ttndo.BraLocal0 bv (Ttndo.ketTree t))
    (hrv : DependsOn (· ∈ Ttndo.rootLegs) rv) :
    ∃ binds, Ttndo.traceTtndo (Ttndo.ttndoNetK (Ttndo.ketTree t)) = some ⟨[], binds⟩ ∧
      (∃ e : Expr Leg R, Built ⟨[Ttndo.rootOpenLeg], binds⟩ e ∧
        e.leaves.Perm (Ttndo.traceLeaves rv kv bv (Ttndo.ketTree t))) ∧
      ∀ e : Expr Leg R, Built ⟨[Ttndo.rootOpenLeg], binds⟩ e →
        e.leaves.Perm (Ttndo.traceLeaves rv kv bv (Ttndo.ketTree t)) →
        e.SWF ∧ e.binds.Perm binds ∧ e.free = [Ttndo.rootOpenLeg] ∧
        ∀ (dim : Leg → Nat) (σ : Asg Leg), e.eval dim σ =
          sumPairs dim (Ttndo.rootPairs (Ttndo.ketTree t)) (fun τ => rv τ *
            sumPairs dim (Ttndo.physPairs (Ttndo.ketTree t)) (fun ρ =>
              (Ttndo.ketVec kv (Ttndo.ketTree t)).eval dim ρ * (Ttndo.braVec bv (Ttndo.ketTree t)).eval dim ρ) τ) σ := by
  obtain ⟨h1, h2⟩ := Ttndo.ketTree_wf t hnd
  have h0 := Ttndo.ketTree_zero t
  obtain ⟨binds, hrun, hb, hbuilt⟩ := Ttndo.traceTtndo_built (Ttndo.ketTree t) h1 h2 kv bv rv
  refine ⟨binds, hrun, hbuilt, fun e he hl => ?_⟩
  obtain ⟨hprog, hfree, _⟩ := Ttndo.trace_program (Ttndo.ketTree t) h1 h0 kv bv rv hkv hbv hrv binds e he hl
  exact ⟨hprog.e_swf, hprog.record, hfree, fun dim σ => hprog.value hb dim σ⟩

open Ptn.C04 Ptn.Ein in
/-- **`trace()` of the TTNDO of `from_ttns` is `Σ_phys ψ(phys) · ψ'(phys)` — the loop itself, for every root bond
dimension ≥ 1.**  As `trace_loop_value`, with the root tensor `eye(d).reshape(d, d, 1)` (`Ttndo.eyeRoot`) and the
padded root bond: the tensors of the two copies of the state's root vanish off index `0` of their root-bond leg
(`padded_root_index`).  Every expression the result is built from evaluates to the sum over the physical indices of
the product of the two dense vectors at root-bond index `0` — `<psi|psi>` when the bra tensors are the conjugates.
No hypothesis relates the two root-leg dimensions to each other or bounds them. -/
theorem trace_loop_value_padded_root {R : Type} [CommSemiring R] (t : Ptn.C04.Tree) (hnd : t.ids.Nodup)
    (kv bv : Nat → Asg Leg → R)
    (hkv : Ttndo.KetLocal0 kv (Ttndo.ketTree t)) (hbv : Ttndo.BraLocal0 bv (Ttndo.ketTree t))
    (dim : Leg → Nat) (hdK : 0 < dim Ttndo.rootKetLeg) (hdB : 0 < dim Ttndo.rootBraLeg)
    (hkz : ∀ ρ : Asg Leg, ρ (Leg.gKet (Ttndo.ketTree t).id 0) ≠ 0 → kv (Ttndo.ketTree t).id ρ = 0)
    (hbz : ∀ ρ : Asg Leg, ρ (Leg.gBra (Ttndo.ketTree t).id 0) ≠ 0 → bv (Ttndo.ketTree t).id ρ = 0) :
    ∃ binds, Ttndo.traceTtndo (Ttndo.ttndoNetK (Ttndo.ketTree t)) = some ⟨[], binds⟩ ∧
      (∃ e : Expr Leg R, Built ⟨[Ttndo.rootOpenLeg], binds⟩ e ∧
        e.leaves.Perm (Ttndo.traceLeaves Ttndo.eyeRoot kv bv (Ttndo.ketTree t))) ∧
      ∀ e : Expr Leg R, Built ⟨[Ttndo.rootOpenLeg], binds⟩ e →
        e.leaves.Perm (Ttndo.traceLeaves Ttndo.eyeRoot kv bv (Ttndo.ketTree t)) →
        ∀ σ : Asg Leg, e.eval dim σ =
          sumPairs dim (Ttndo.physPairs (Ttndo.ketTree t)) (fun ρ =>
              (Ttndo.ketVec kv (Ttndo.ketTree t)).eval dim ρ * (Ttndo.braVec bv (Ttndo.ketTree t)).eval dim ρ)
            (upd (upd σ (Leg.gKet (Ttndo.ketTree t).id 0) 0) (Leg.gBra (Ttndo.ketTree t).id 0) 0) := by
  obtain ⟨h1, h2⟩ := Ttndo.ketTree_wf t hnd
  have h0 := Ttndo.ketTree_zero t
  obtain ⟨binds, hrun, hb, hbuilt⟩ := Ttndo.traceTtndo_built (Ttndo.ketTree t) h1 h2 kv bv Ttndo.eyeRoot
  refine ⟨binds, hrun, hbuilt, fun e he hl σ => ?_⟩
  exact (Ttndo.trace_program (Ttndo.ketTree t) h1 h0 kv bv Ttndo.eyeRoot hkv hbv Ttndo.eyeRoot_local binds e he
    hl).1.value_padded hb dim (Ttndo.paddedRoot_vecs _ h1 h0 kv bv hkv hbv dim hdK hdB hkz hbz) σ

open Ptn.C04 Ptn.Ein Ttndo.Demo in
/-- non-vacuity: the node tensors of the demo network as functions of the identifier (state tree `0 — 1`, integer
tensors reading all their legs, padded root bond of dimension 3) satisfy every hypothesis -/
example : st.ids.Nodup ∧ Ttndo.KetLocal0 kvD (Ttndo.ketTree st) ∧ Ttndo.BraLocal0 bvD (Ttndo.ketTree st) ∧
    DependsOn (· ∈ Ttndo.rootLegs) (Ttndo.eyeRoot (R := Int)) ∧
    0 < dim Ttndo.rootKetLeg ∧ 0 < dim Ttndo.rootBraLeg ∧
    (∀ ρ : Asg Leg, ρ (Leg.gKet (Ttndo.ketTree st).id 0) ≠ 0 → kvD (Ttndo.ketTree st).id ρ = 0) ∧
    (∀ ρ : Asg Leg, ρ (Leg.gBra (Ttndo.ketTree st).id 0) ≠ 0 → bvD (Ttndo.ketTree st).id ρ = 0) :=
  ⟨st_nodup, kvD_local, bvD_local, Ttndo.eyeRoot_local, by decide, by decide, kvD_padded, bvD_padded⟩

open Ptn.C04 Ptn.Ein Ttndo.Demo in
/-- … and the right-hand side of the conclusion (the canonical dense vectors of the two copies joined over the
physical pairs, root-bond index 0) is the integer 622 of the example after `trace_value_padded_root` -/
example : sumPairs dim (Ttndo.physPairs (Ttndo.ketTree st)) (fun ρ =>
    (Ttndo.ketVec kvD (Ttndo.ketTree st)).eval dim ρ * (Ttndo.braVec bvD (Ttndo.ketTree st)).eval dim ρ)
    (fun _ => 0) = 622 := by decide +kernel

open Ptn.C04 Ptn.Ein in
/-- **`ttndo_ttno_expectation_value` computes `Σ root · Σ_out (Σ_in ψ · O) · ψ'` — the loop itself, unconditionally
in the program.**  For every state tree with distinct identifiers, every TTNO on it with independent child orders,
every commutative semiring and ALL values of the root tensor `rv` and of the node tensors `kv` (ket copy), `ov`
(operator), `bv` (bra copy), each reading only its own legs:

* the routine returns a closed tensor `⟨[], binds⟩`: the result `⟨[rootOpenLeg], binds⟩` of its last `tensordot`
  with the open leg of the root tensor indexed away;
* that last result is BUILT, by the `tensordot` calls of the loop over the ket identifiers, of
  `_contract_ttno_root` (resp. `_single_site_contraction` for a single node) and of `_contract_final_block`, from
  an expression whose leaves are exactly the root tensor and the ket, operator and bra tensors of all nodes;
* EVERY expression `e` from which it is built over these leaves is strongly well-formed, has the record `binds`
  and the open leg of the root tensor as its only free leg, and evaluates — for all dimensions that agree on the
  two legs of every pair of the specification graph (NumPy rejects anything else), for every index of the open leg —
  to the root tensor times the sandwich of the dense operator `opExpr` between the dense vectors `ketVec` and
  `braVec`: operator INPUT legs summed against the ket copy, OUTPUT legs against the bra copy. -/
theorem ttndo_ttno_loop_value {R : Type} [CommSemiring R] (t : Ptn.C04.Tree) (hnd : t.ids.Nodup)
    (opKids : Nat → List Nat)
    (hperm : ∀ e ∈ Ptn.C04.Tree.info none (Ttndo.ketTree t), (opKids e.1).Perm e.2.2)
    (kv ov bv : Nat → Asg Leg → R) (rv : Asg Leg → R)
    (hkv : Ttndo.KetLocal0 kv (Ttndo.ketTree t)) (hov : OpLocalK ov opKids (Ttndo.ketTree t))
    (hbv : Ttndo.BraLocal0 bv (Ttndo.ketTree t)) (hrv : DependsOn (· ∈ Ttndo.rootLegs) rv) :
    ∃ binds, Ttndo.ttndoTtnoExpectationValue (Ttndo.ttndoNetK (Ttndo.ketTree t))
        (Ttndo.ttnoNetK (Ttndo.ketTree t) opKids) = some ⟨[], binds⟩ ∧
      (∃ e : Expr Leg R, Built ⟨[Ttndo.rootOpenLeg], binds⟩ e ∧
        e.leaves.Perm (Ttndo.ttnoLeaves rv opKids kv ov bv (Ttndo.ketTree t))) ∧
      ∀ e : Expr Leg R, Built ⟨[Ttndo.rootOpenLeg], binds⟩ e →
        e.leaves.Perm (Ttndo.ttnoLeaves rv opKids kv ov bv (Ttndo.ketTree t)) →
        e.SWF ∧ e.binds.Perm binds ∧ e.free = [Ttndo.rootOpenLeg] ∧
        ∀ (dim : Leg → Nat),
          (∀ p ∈ soSpec (Ttndo.ketTree t) ++ Ttndo.rootPairs (Ttndo.ketTree t), dim p.1 = dim p.2) →
          ∀ σ : Asg Leg, e.eval dim σ =
            sumPairs dim (Ttndo.rootPairs (Ttndo.ketTree t)) (fun τ => rv τ *
              sumPairs dim (Ttndo.physOuts (Ttndo.ketTree t)) (fun ρ =>
                sumPairs dim (Ttndo.physIns (Ttndo.ketTree t)) (fun π =>
                  (Ttndo.ketVec kv (Ttndo.ketTree t)).eval dim π * (opExpr ov opKids (Ttndo.ketTree t)).eval dim π) ρ *
                (Ttndo.braVec bv (Ttndo.ketTree t)).eval dim ρ) τ) σ := by
  obtain ⟨h1, h2⟩ := Ttndo.ketTree_wf t hnd
  have h0 := Ttndo.ketTree_zero t
  obtain ⟨binds, hrun, hb, hbuilt⟩ := Ttndo.ttndoTtno_built (Ttndo.ketTree t) opKids h1 h2 hperm kv ov bv rv
  refine ⟨binds, hrun, hbuilt, fun e he hl => ?_⟩
  obtain ⟨hprog, hfree, _⟩ := Ttndo.ttno_program (Ttndo.ketTree t) h1 h0 opKids hperm kv ov bv rv hkv hov hbv hrv
    binds e he hl
  exact ⟨hprog.e_swf, hprog.record, hfree, fun dim hd σ => hprog.value hb dim hd σ⟩

open Ptn.C04 Ptn.Ein in
/-- **… and on the TTNDO of `from_ttns` this is `Σ ψ' O ψ` — the loop itself, for every root bond dimension ≥ 1**:
identity root tensor and padded root bond, as in `trace_loop_value_padded_root`. -/
theorem ttndo_ttno_loop_value_padded_root {R : Type} [CommSemiring R] (t : Ptn.C04.Tree) (hnd : t.ids.Nodup)
    (opKids : Nat → List Nat)
    (hperm : ∀ e ∈ Ptn.C04.Tree.info none (Ttndo.ketTree t), (opKids e.1).Perm e.2.2)
    (kv ov bv : Nat → Asg Leg → R)
    (hkv : Ttndo.KetLocal0 kv (Ttndo.ketTree t)) (hov : OpLocalK ov opKids (Ttndo.ketTree t))
    (hbv : Ttndo.BraLocal0 bv (Ttndo.ketTree t))
    (dim : Leg → Nat)
    (hd : ∀ p ∈ soSpec (Ttndo.ketTree t) ++ Ttndo.rootPairs (Ttndo.ketTree t), dim p.1 = dim p.2)
    (hdK : 0 < dim Ttndo.rootKetLeg) (hdB : 0 < dim Ttndo.rootBraLeg)
    (hkz : ∀ ρ : Asg Leg, ρ (Leg.gKet (Ttndo.ketTree t).id 0) ≠ 0 → kv (Ttndo.ketTree t).id ρ = 0)
    (hbz : ∀ ρ : Asg Leg, ρ (Leg.gBra (Ttndo.ketTree t).id 0) ≠ 0 → bv (Ttndo.ketTree t).id ρ = 0) :
    ∃ binds, Ttndo.ttndoTtnoExpectationValue (Ttndo.ttndoNetK (Ttndo.ketTree t))
        (Ttndo.ttnoNetK (Ttndo.ketTree t) opKids) = some ⟨[], binds⟩ ∧
      (∃ e : Expr Leg R, Built ⟨[Ttndo.rootOpenLeg], binds⟩ e ∧
        e.leaves.Perm (Ttndo.ttnoLeaves Ttndo.eyeRoot opKids kv ov bv (Ttndo.ketTree t))) ∧
      ∀ e : Expr Leg R, Built ⟨[Ttndo.rootOpenLeg], binds⟩ e →
        e.leaves.Perm (Ttndo.ttnoLeaves Ttndo.eyeRoot opKids kv ov bv (Ttndo.ketTree t)) →
        ∀ σ : Asg Leg, e.eval dim σ =
          sumPairs dim (Ttndo.physOuts (Ttndo.ketTree t)) (fun ρ =>
              sumPairs dim (Ttndo.physIns (Ttndo.ketTree t)) (fun π =>
                (Ttndo.ketVec kv (Ttndo.ketTree t)).eval dim π * (opExpr ov opKids (Ttndo.ketTree t)).eval dim π) ρ *
              (Ttndo.braVec bv (Ttndo.ketTree t)).eval dim ρ)
            (upd (upd σ (Leg.gKet (Ttndo.ketTree t).id 0) 0) (Leg.gBra (Ttndo.ketTree t).id 0) 0) := by
  obtain ⟨h1, h2⟩ := Ttndo.ketTree_wf t hnd
  have h0 := Ttndo.ketTree_zero t
  obtain ⟨binds, hrun, hb, hbuilt⟩ := Ttndo.ttndoTtno_built (Ttndo.ketTree t) opKids h1 h2 hperm kv ov bv
    Ttndo.eyeRoot
  refine ⟨binds, hrun, hbuilt, fun e he hl σ => ?_⟩
  exact (Ttndo.ttno_program (Ttndo.ketTree t) h1 h0 opKids hperm kv ov bv Ttndo.eyeRoot hkv hov hbv
    Ttndo.eyeRoot_local binds e he hl).1.value_padded hb dim hd
    (Ttndo.paddedRoot_vecs _ h1 h0 kv bv hkv hbv dim hdK hdB hkz hbz) σ

open Ptn.C04 Ptn.Ein Ttndo.Demo in
/-- non-vacuity: the demo TTNO (tensors reading all their legs, same child order as the state) on the demo
network satisfies every hypothesis -/
example : st.ids.Nodup ∧ (∀ e ∈ Ptn.C04.Tree.info none (Ttndo.ketTree st), (opKids e.1).Perm e.2.2) ∧
    Ttndo.KetLocal0 kvD (Ttndo.ketTree st) ∧ OpLocalK ovD opKids (Ttndo.ketTree st) ∧
    Ttndo.BraLocal0 bvD (Ttndo.ketTree st) ∧
    (∀ p ∈ soSpec (Ttndo.ketTree st) ++ Ttndo.rootPairs (Ttndo.ketTree st), dim p.1 = dim p.2) ∧
    0 < dim Ttndo.rootKetLeg ∧ 0 < dim Ttndo.rootBraLeg ∧
    (∀ ρ : Asg Leg, ρ (Leg.gKet (Ttndo.ketTree st).id 0) ≠ 0 → kvD (Ttndo.ketTree st).id ρ = 0) ∧
    (∀ ρ : Asg Leg, ρ (Leg.gBra (Ttndo.ketTree st).id 0) ≠ 0 → bvD (Ttndo.ketTree st).id ρ = 0) :=
  ⟨st_nodup, opKids_perm, kvD_local, ovD_local, bvD_local, dims_ok, by decide, by decide, kvD_padded, bvD_padded⟩

open Ptn.C04 Ptn.Ein Ttndo.Demo in
/-- … and the right-hand side of the conclusion is the integer 16274 of the example after
`ttndo_ttno_value_padded_root` -/
example : sumPairs dim (Ttndo.physOuts (Ttndo.ketTree st)) (fun ρ =>
      sumPairs dim (Ttndo.physIns (Ttndo.ketTree st)) (fun π =>
        (Ttndo.ketVec kvD (Ttndo.ketTree st)).eval dim π * (opExpr ovD opKids (Ttndo.ketTree st)).eval dim π) ρ *
      (Ttndo.braVec bvD (Ttndo.ketTree st)).eval dim ρ) (fun _ => 0) = 16274 := by
  decide +kernel


open Ptn.C04 Ptn.Ein in
/-- **`absorb_into_open_legs` on a ket copy, graph AND value, every node shape.**  The call succeeds; its result
(virtual legs in order, then the operator's output leg; one logged pair (ket physical leg, operator input)) is built by
its single `tensordot` from the ket tensor and the operator tensor; for ALL values of the two tensors reading only
their own legs, the result evaluated with the output index `a` on `gOpOut k` is
`Σ_x O[a, x] · ket[…, phys = x]` — i.e. `applyAt (matrix of the operator) (phys k) (ket tensor)` when the output
index is read on the physical leg's name. -/
theorem absorb_value {R : Type} [CommSemiring R] (k : Nat) (node : Node) (kvk ov : Asg Leg → R)
    (hk : DependsOn (· ∈ (gKetT k node).legs) kvk) (ho : DependsOn (· ∈ (Ttndo.siteOpT k).legs) ov) :
    ∃ r, Ttndo.absorbIntoOpenLegs node (gKetT k node) (Ttndo.siteOpT k) = some r ∧
      r = ⟨node.nbrs.map (Leg.gKet k) ++ [Leg.gOpOut k], [(Leg.gKetPhys k, Leg.gOpIn k)]⟩ ∧
      Built r (Ttndo.absorbExpr k node kvk ov) ∧
      ∀ (dim : Leg → Nat) (σ : Asg Leg),
        (Ttndo.absorbExpr k node kvk ov).eval dim (upd σ (Leg.gOpOut k) (σ (Leg.gKetPhys k))) =
          Ttndo.applyAt dim (Ttndo.opMat ov k) (Leg.gKetPhys k) kvk σ := by
  obtain ⟨r, h1, h2, h3⟩ := Ttndo.absorb_built k node kvk ov
  exact ⟨r, h1, h2, h3, fun dim σ => Ttndo.absorbExpr_value dim k node kvk ov hk ho σ⟩

open Ptn.C04 Ptn.Ein Ttndo.Demo in
/-- non-vacuity: the root ket tensor of the demo network and an operator tensor reading both its legs satisfy the
hypotheses -/
example : DependsOn (· ∈ (gKetT 1 ⟨some 0, [3]⟩).legs) (kvD 1) ∧
    DependsOn (· ∈ (Ttndo.siteOpT 1).legs)
      (fun σ : Asg Leg => tpOD 1 (σ (Leg.gOpOut 1)) (σ (Leg.gOpIn 1))) := by
  refine ⟨kvD_local (1, some 0, [3]) (by rw [info0]; simp), ?_⟩
  intro σ τ h
  simp only [h (Leg.gOpOut 1) (by simp [Ttndo.siteOpT, T.fresh]), h (Leg.gOpIn 1) (by simp [Ttndo.siteOpT, T.fresh])]

open Ptn.C04 Ptn.Ein in
/-- **The absorption loop applies `⊗_s O_s` to the dense vector of the ket copy — every tree, every list of sites,
every commutative semiring, all dimensions.**  The absorbed ket tensors are local again, and the canonical dense
vector built from them is the tensor product of the single-site operators applied to the dense vector of the
original tensors: `ketVec[kv'](out) = Σ_in Π_s O_s[out_s, in_s] · ketVec[kv](in)`. -/
theorem tensor_product_ket_value {R : Type} [CommSemiring R] (t : Ptn.C04.Tree) (hnd : t.ids.Nodup)
    (dim : Leg → Nat) (O : Nat → Nat → Nat → R) (sites : List Nat)
    (hsites : ∀ s ∈ sites, s ∈ (Ttndo.ketTree t).ids)
    (kv : Nat → Asg Leg → R) (hkv : Ttndo.KetLocal0 kv (Ttndo.ketTree t)) :
    Ttndo.KetLocal0 (Ttndo.absorbedKv dim O sites kv) (Ttndo.ketTree t) ∧
      ∀ σ : Asg Leg, (Ttndo.ketVec (Ttndo.absorbedKv dim O sites kv) (Ttndo.ketTree t)).eval dim σ =
        Ttndo.applySites dim O sites ((Ttndo.ketVec kv (Ttndo.ketTree t)).eval dim) σ := by
  obtain ⟨h1, h2⟩ := Ttndo.ketTree_wf t hnd
  have h0 := Ttndo.ketTree_zero t
  obtain ⟨hl, hv⟩ := Ttndo.ketVec_absorbed dim O (Ttndo.ketTree t) h1 h0 sites hsites kv hkv
  exact ⟨hl, fun σ => congrFun hv σ⟩

open Ptn.C04 Ptn.Ein in
/-- **`tensor_product_expectation_value` computes `Σ_root rv · Σ_phys ((⊗_s O_s) ψ)(phys) · ψ'(phys)`.**  For every
state tree with distinct identifiers, every commutative semiring, all dimensions, every list of sites of the tree
(any order, any number: none, one, all), all single-site matrices `O s`, all values of the root tensor and the node
tensors reading only their own legs: `trace_ttndo` on the network whose ket tensors are the absorbed ones
(`Ttndo.absorbedKv`: the result of `absorb_into_open_legs` at every named site, `absorb_value`) returns a closed
tensor, and EVERY expression its last `tensordot` result is built from over the root tensor, the absorbed ket tensors
and the bra tensors evaluates to the sum over the two root-bond indices of the root tensor times the sum over one
common index per physical pair of `(⊗_s O_s) ketVec` times `braVec`: operator OUTPUT indices meet the bra copy, INPUT
indices the ket copy. -/
theorem tensor_product_value {R : Type} [CommSemiring R] (t : Ptn.C04.Tree) (hnd : t.ids.Nodup)
    (dim : Leg → Nat) (O : Nat → Nat → Nat → R) (sites : List Nat)
    (hsites : ∀ s ∈ sites, s ∈ (Ttndo.ketTree t).ids)
    (kv bv : Nat → Asg Leg → R) (rv : Asg Leg → R)
    (hkv : Ttndo.KetLocal0 kv (Ttndo.ketTree t)) (hbv : Ttndo.BraLocal0 bv (Ttndo.ketTree t))
    (hrv : DependsOn (· ∈ Ttndo.rootLegs) rv) :
    ∃ binds, Ttndo.traceTtndo (Ttndo.ttndoNetK (Ttndo.ketTree t)) = some ⟨[], binds⟩ ∧
      (∃ e : Expr Leg R, Built ⟨[Ttndo.rootOpenLeg], binds⟩ e ∧
        e.leaves.Perm (Ttndo.traceLeaves rv (Ttndo.absorbedKv dim O sites kv) bv (Ttndo.ketTree t))) ∧
      ∀ e : Expr Leg R, Built ⟨[Ttndo.rootOpenLeg], binds⟩ e →
        e.leaves.Perm (Ttndo.traceLeaves rv (Ttndo.absorbedKv dim O sites kv) bv (Ttndo.ketTree t)) →
        ∀ σ : Asg Leg, e.eval dim σ =
          sumPairs dim (Ttndo.rootPairs (Ttndo.ketTree t)) (fun τ => rv τ *
            sumPairs dim (Ttndo.physPairs (Ttndo.ketTree t)) (fun ρ =>
              Ttndo.applySites dim O sites ((Ttndo.ketVec kv (Ttndo.ketTree t)).eval dim) ρ *
                (Ttndo.braVec bv (Ttndo.ketTree t)).eval dim ρ) τ) σ := by
  obtain ⟨hl, hv⟩ := tensor_product_ket_value t hnd dim O sites hsites kv hkv
  obtain ⟨binds, hrun, hex, hall⟩ := trace_loop_value t hnd (Ttndo.absorbedKv dim O sites kv) bv rv hl hbv hrv
  refine ⟨binds, hrun, hex, fun e he hp σ => ?_⟩
  rw [(hall e he hp).2.2.2 dim σ]
  simp only [hv]

open Ptn.C04 Ptn.Ein in
/-- **`tensor_product_expectation_value` of the TTNDO of `from_ttns` is `Σ_phys ((⊗_s O_s) ψ)(phys) · ψ'(phys)` —
`<psi'| ⊗O |psi>` — for every root bond dimension ≥ 1.**  As `tensor_product_value` with the identity root tensor
`eye(d).reshape(d, d, 1)` and the padded root bond of the ORIGINAL tensors (the absorptions keep the padding:
`Ttndo.absorbedKv_zero`): the value is the sum over the physical indices at root-bond index `0` of both copies. -/
theorem tensor_product_value_padded_root {R : Type} [CommSemiring R] (t : Ptn.C04.Tree) (hnd : t.ids.Nodup)
    (dim : Leg → Nat) (O : Nat → Nat → Nat → R) (sites : List Nat)
    (hsites : ∀ s ∈ sites, s ∈ (Ttndo.ketTree t).ids)
    (kv bv : Nat → Asg Leg → R)
    (hkv : Ttndo.KetLocal0 kv (Ttndo.ketTree t)) (hbv : Ttndo.BraLocal0 bv (Ttndo.ketTree t))
    (hdK : 0 < dim Ttndo.rootKetLeg) (hdB : 0 < dim Ttndo.rootBraLeg)
    (hkz : ∀ ρ : Asg Leg, ρ (Leg.gKet (Ttndo.ketTree t).id 0) ≠ 0 → kv (Ttndo.ketTree t).id ρ = 0)
    (hbz : ∀ ρ : Asg Leg, ρ (Leg.gBra (Ttndo.ketTree t).id 0) ≠ 0 → bv (Ttndo.ketTree t).id ρ = 0) :
    ∃ binds, Ttndo.traceTtndo (Ttndo.ttndoNetK (Ttndo.ketTree t)) = some ⟨[], binds⟩ ∧
      (∃ e : Expr Leg R, Built ⟨[Ttndo.rootOpenLeg], binds⟩ e ∧
        e.leaves.Perm (Ttndo.traceLeaves Ttndo.eyeRoot (Ttndo.absorbedKv dim O sites kv) bv (Ttndo.ketTree t))) ∧
      ∀ e : Expr Leg R, Built ⟨[Ttndo.rootOpenLeg], binds⟩ e →
        e.leaves.Perm (Ttndo.traceLeaves Ttndo.eyeRoot (Ttndo.absorbedKv dim O sites kv) bv (Ttndo.ketTree t)) →
        ∀ σ : Asg Leg, e.eval dim σ =
          sumPairs dim (Ttndo.physPairs (Ttndo.ketTree t)) (fun ρ =>
              Ttndo.applySites dim O sites ((Ttndo.ketVec kv (Ttndo.ketTree t)).eval dim) ρ *
                (Ttndo.braVec bv (Ttndo.ketTree t)).eval dim ρ)
            (upd (upd σ (Leg.gKet (Ttndo.ketTree t).id 0) 0) (Leg.gBra (Ttndo.ketTree t).id 0) 0) := by
  obtain ⟨hl, hv⟩ := tensor_product_ket_value t hnd dim O sites hsites kv hkv
  have hkz' := Ttndo.absorbedKv_zero dim O (Leg.gKet (Ttndo.ketTree t).id 0) (fun n h => by cases h)
    (Ttndo.ketTree t).id sites kv hkz
  obtain ⟨binds, hrun, hex, hall⟩ := trace_loop_value_padded_root t hnd (Ttndo.absorbedKv dim O sites kv) bv
    hl hbv dim hdK hdB hkz' hbz
  refine ⟨binds, hrun, hex, fun e he hp σ => ?_⟩
  rw [hall e he hp σ]
  simp only [hv]

open Ptn.C04 Ptn.Ein in
/-- **no factor: the routine is `trace()`** (value-level companion of `tensor_product_empty_is_trace`): with an empty
product the absorbed tensors are the tensors and `⊗O` is the identity, so `tensor_product_value_padded_root` IS
`trace_loop_value_padded_root`. -/
theorem tensor_product_value_no_factor {R : Type} [CommSemiring R] (dim : Leg → Nat) (O : Nat → Nat → Nat → R)
    (kv : Nat → Asg Leg → R) (f : Asg Leg → R) :
    Ttndo.absorbedKv dim O [] kv = kv ∧ Ttndo.applySites dim O [] f = f := ⟨rfl, rfl⟩

open Ptn.C04 Ptn.Ein in
/-- **the order of the factors is irrelevant** (distinct sites — the keys of a dictionary): two orders of the same
sites give the same operator on the dense vector, hence (`tensor_product_value`) the same expectation value. -/
theorem tensor_product_factor_order {R : Type} [CommSemiring R] (dim : Leg → Nat) (O : Nat → Nat → Nat → R)
    (s1 s2 : List Nat) (h : s1.Perm s2) (hnd : s1.Nodup) (f : Asg Leg → R) :
    Ttndo.applySites dim O s1 f = Ttndo.applySites dim O s2 f := by
  induction h generalizing f with
  | nil => rfl
  | cons x _ ih => exact ih (List.nodup_cons.1 hnd).2 _
  | swap x y l =>
    simp only [Ttndo.applySites, List.foldl_cons]
    congr 1
    funext σ
    have hxy : y ≠ x := fun e => by simp [e] at hnd
    exact Ttndo.applyAt_comm dim (O x) (O y) _ _ (fun e => hxy (by injection e with e; exact e.symm)) f σ
  | trans h1 _ ih1 ih2 => rw [ih1 hnd, ih2 (h1.nodup_iff.1 hnd)]

example : [1, 3].Perm [3, 1] ∧ [1, 3].Nodup := by decide

open Ptn.C04 Ptn.Ein Ttndo.Demo in
/-- non-vacuity of `tensor_product_value(_padded_root)`: the demo tensors (state tree `0 — 1`, ket identifiers `1`,
`3`, root bond dimension 3) with an operator on both sites satisfy every hypothesis (the remaining ones are in the
example after `trace_loop_value_padded_root`) -/
example : (∀ s ∈ [1, 3], s ∈ (Ttndo.ketTree st).ids) ∧ (∀ s ∈ [3], s ∈ (Ttndo.ketTree st).ids) := by decide

open Ptn.C04 Ptn.Ein Ttndo.Demo in
/-- … and the right-hand side of `tensor_product_value_padded_root` on the demo network is the dense
`<psi| O_1 ⊗ O_3 |psi> = 24816` (both sites), `<psi| O_3 |psi> = 5206` (one site), `<psi|psi> = 622` (no factor);
the same numbers come out of the dense vector of the ABSORBED tensors (left-hand side of `tensor_product_ket_value`) -/
example : sumPairs dim (Ttndo.physPairs (Ttndo.ketTree st)) (fun ρ =>
      Ttndo.applySites dim tpOD [1, 3] ((Ttndo.ketVec kvD (Ttndo.ketTree st)).eval dim) ρ *
        (Ttndo.braVec bvD (Ttndo.ketTree st)).eval dim ρ) (fun _ => 0) = 24816 ∧
    sumPairs dim (Ttndo.physPairs (Ttndo.ketTree st)) (fun ρ =>
      Ttndo.applySites dim tpOD [3] ((Ttndo.ketVec kvD (Ttndo.ketTree st)).eval dim) ρ *
        (Ttndo.braVec bvD (Ttndo.ketTree st)).eval dim ρ) (fun _ => 0) = 5206 ∧
    sumPairs dim (Ttndo.physPairs (Ttndo.ketTree st)) (fun ρ =>
      Ttndo.applySites dim tpOD [] ((Ttndo.ketVec kvD (Ttndo.ketTree st)).eval dim) ρ *
        (Ttndo.braVec bvD (Ttndo.ketTree st)).eval dim ρ) (fun _ => 0) = 622 ∧
    sumPairs dim (Ttndo.physPairs (Ttndo.ketTree st)) (fun ρ =>
      (Ttndo.ketVec (Ttndo.absorbedKv dim tpOD [1, 3] kvD) (Ttndo.ketTree st)).eval dim ρ *
        (Ttndo.braVec bvD (Ttndo.ketTree st)).eval dim ρ) (fun _ => 0) = 24816 := by decide +kernel


open Ptn.C04 Ptn.Ein in
/-- **`tensor_product_value` in the MODEL's labels (partial: what is missing is said at the end).**  Hypotheses of `tensor_product_value`, and
the operator's output leg has the dimension of the physical leg at every named site (square operators; NumPy rejects
anything else when the output leg meets the bra copy).  Let `f = Ttndo.tpSwap sites` (exchange the names `gKetPhys s`
and `gOpOut s` at the named sites: an involution).  EVERY program `e` the trace is built from over the root tensor,
the absorbed ket tensors and the bra tensors, renamed by `f` - so that the last axis of the absorbed ket tensor at a
named site is called `gOpOut s`, as in the model `tensorProductExpectationValue` and in `tensor_product_graph` - is
strongly well-formed, has the renamed record (its physical pairs are the model's `tpPhysPair sites`:
`Ttndo.tpSwap_physPairs`; root pairs unchanged: `Ttndo.tpSwap_rootPairs`), the open leg of the root tensor as only free
leg, the renamed leaves, and evaluates to the value of `tensor_product_value`.  The renamed absorbed leaf of a site
absorbed once IS the value of the `tensordot` of `absorb_into_open_legs` (`Ttndo.tpSwap_pull_absorb`, with
`absorb_value`).
PARTIAL - missing for the value of the model's own run of `tensorProductExpectationValue`: (1) the absorbed tensor is a
single leaf here (with the value of `absorbExpr`), not the sub-expression `absorbExpr` itself with its logged pair
`(gKetPhys s, gOpIn s)` (substitution of a leaf by an expression of equal value); (2) provenance (`Built`) of the
model's run on tensors that carry a logged pair (`Ttndo.traceTtndo_built` is stated for fresh ket tensors). -/
theorem tensor_product_model_value_partial {R : Type} [CommSemiring R] (t : Ptn.C04.Tree) (hnd : t.ids.Nodup)
    (dim : Leg → Nat) (O : Nat → Nat → Nat → R) (sites : List Nat)
    (hsites : ∀ s ∈ sites, s ∈ (Ttndo.ketTree t).ids)
    (hd : ∀ s ∈ sites, dim (Leg.gOpOut s) = dim (Leg.gKetPhys s))
    (kv bv : Nat → Asg Leg → R) (rv : Asg Leg → R)
    (hkv : Ttndo.KetLocal0 kv (Ttndo.ketTree t)) (hbv : Ttndo.BraLocal0 bv (Ttndo.ketTree t))
    (hrv : DependsOn (· ∈ Ttndo.rootLegs) rv) :
    ∃ binds, Ttndo.traceTtndo (Ttndo.ttndoNetK (Ttndo.ketTree t)) = some ⟨[], binds⟩ ∧
      (∃ e : Expr Leg R, Built ⟨[Ttndo.rootOpenLeg], binds⟩ e ∧
        e.leaves.Perm (Ttndo.traceLeaves rv (Ttndo.absorbedKv dim O sites kv) bv (Ttndo.ketTree t))) ∧
      ∀ e : Expr Leg R, Built ⟨[Ttndo.rootOpenLeg], binds⟩ e →
        e.leaves.Perm (Ttndo.traceLeaves rv (Ttndo.absorbedKv dim O sites kv) bv (Ttndo.ketTree t)) →
        (e.rn_map (Ttndo.tpSwap sites)).SWF ∧
        (e.rn_map (Ttndo.tpSwap sites)).binds.Perm (rn_pairs (Ttndo.tpSwap sites) binds) ∧
        (e.rn_map (Ttndo.tpSwap sites)).free = [Ttndo.rootOpenLeg] ∧
        (e.rn_map (Ttndo.tpSwap sites)).leaves =
          e.leaves.map (fun lf => (lf.1.map (Ttndo.tpSwap sites), rn_pull (Ttndo.tpSwap sites) lf.2)) ∧
        ∀ σ : Asg Leg, (e.rn_map (Ttndo.tpSwap sites)).eval dim σ =
          sumPairs dim (Ttndo.rootPairs (Ttndo.ketTree t)) (fun τ => rv τ *
            sumPairs dim (Ttndo.physPairs (Ttndo.ketTree t)) (fun ρ =>
              Ttndo.applySites dim O sites ((Ttndo.ketVec kv (Ttndo.ketTree t)).eval dim) ρ *
                (Ttndo.braVec bv (Ttndo.ketTree t)).eval dim ρ) τ) (fun l => σ (Ttndo.tpSwap sites l)) := by
  obtain ⟨hl, hv⟩ := tensor_product_ket_value t hnd dim O sites hsites kv hkv
  obtain ⟨binds, hrun, hex, hall⟩ := trace_loop_value t hnd (Ttndo.absorbedKv dim O sites kv) bv rv hl hbv hrv
  refine ⟨binds, hrun, hex, fun e he hp => ?_⟩
  obtain ⟨hswf, hb, hf, hval⟩ := hall e he hp
  have hinj := Ttndo.tpSwap_inj sites
  refine ⟨Expr.rn_swf_map _ hinj e hswf, ?_, ?_, Expr.rn_leaves_map _ e, fun σ => ?_⟩
  · rw [Expr.rn_binds_map]; exact hb.map _
  · rw [Expr.rn_free_map _ hinj, hf]; rfl
  · rw [Expr.rn_eval_map _ hinj dim dim (Ttndo.tpSwap_dim sites dim hd), hval dim]
    simp only [hv]

open Ptn.C04 Ptn.Ein Ttndo.Demo in
/-- non-vacuity: on the demo network (state tree `0 — 1`, ket identifiers `1`, `3`) with operators on both sites the
dimension hypothesis holds (the others are in the examples after `trace_loop_value_padded_root` and
`tensor_product_value`); the renaming is not the identity and turns the trace's physical pairs into the model's -/
example : (∀ s ∈ [1, 3], dim (Leg.gOpOut s) = dim (Leg.gKetPhys s)) ∧
    Ttndo.tpSwap [1, 3] (Leg.gKetPhys 3) = Leg.gOpOut 3 ∧ Ttndo.tpSwap [3] (Leg.gKetPhys 1) = Leg.gKetPhys 1 ∧
    rn_pairs (Ttndo.tpSwap [3]) (Ttndo.physPairs (Ttndo.ketTree st)) =
      [(Leg.gKetPhys 1, Leg.gBraPhys 1), (Leg.gOpOut 3, Leg.gBraPhys 3)] := by decide +kernel

open Ptn.C04 Ptn.Ein in
/-- **The absorption loop, tensor by tensor.**  For pairwise distinct sites (`operator.items()` of a `dict`),
after the loop the ket tensor of a named site is the original tensor with the site's operator applied on its
physical leg, and every other ket tensor is unchanged - every list of sites, every commutative semiring. -/
theorem tensor_product_absorbed_tensor {R : Type} [CommSemiring R] (dim : Leg → Nat) (O : Nat → Nat → Nat → R)
    (sites : List Nat) (hnd : sites.Nodup) (kv : Nat → Asg Leg → R) (k : Nat) :
    Ttndo.absorbedKv dim O sites kv k =
      if k ∈ sites then Ttndo.applyAt dim (O k) (Leg.gKetPhys k) (kv k) else kv k :=
  Ttndo.absorbedKv_at dim O sites hnd kv k

open Ptn.C04 Ptn.Ein Ttndo.Demo in
/-- non-vacuity: two distinct sites; the tensor of site 3 after the loop is `O_3` applied to the original one -/
example : [1, 3].Nodup ∧ Ttndo.absorbedKv dim tpOD [1, 3] kvD 3 =
    Ttndo.applyAt dim (tpOD 3) (Leg.gKetPhys 3) (kvD 3) := by
  refine ⟨by decide, ?_⟩
  rw [tensor_product_absorbed_tensor dim tpOD [1, 3] (by decide) kvD 3]; simp

open Ptn.C04 Ptn.Ein in
/-- **Substituting the absorbed leaf by the `tensordot` of `absorb_into_open_legs` (item (1) of what
`tensor_product_model_value_partial` leaves open).**  `e` is any strongly well-formed program in the model's labels that
has, at the path `p`, the one-leaf absorbed tensor of a site `s ∈ sites` (legs: neighbour legs then `gOpOut s`;
value: the pulled-back `applyAt (opMat ov s) (gKetPhys s) kvk` of `tensor_product_model_value_partial`), and in
which the two labels bound inside the absorption, `gKetPhys s` and `gOpIn s`, do not occur.  Then the program with
that leaf replaced by the two-leaf `tensordot` expression `absorbExpr s …` is strongly well-formed, has the same
free legs, its record is the record of `e` plus the logged pair `(gKetPhys s, gOpIn s)` (up to order, no leg bound
twice), and it has the same value at every assignment.  Generic part: `Ptn.Ein.Expr.sb_subst_spec`.
PARTIAL: one site at a time (to be iterated over `sites`), and not joined with `tensor_product_model_value_partial`
(needs the path of each absorbed leaf in a `Built` program and item 2, provenance with a pre-record). -/
theorem tensor_product_absorbed_leaf_subst_partial {R : Type} [CommSemiring R] (dim : Leg → Nat) (sites : List Nat)
    (s : Nat) (hs : s ∈ sites) (node : Node) (hnbr : node.nbrs.Nodup) (kvk ov : Asg Leg → R)
    (hk : DependsOn (· ∈ (gKetT s node).legs) kvk) (ho : DependsOn (· ∈ (Ttndo.siteOpT s).legs) ov)
    (e : Expr Leg R) (p : List Bool) (he : e.SWF)
    (hat : e.sb_at p = some ((Ttndo.absorbExpr s node kvk ov).free,
      rn_pull (Ttndo.tpSwap sites) (Ttndo.applyAt dim (Ttndo.opMat ov s) (Leg.gKetPhys s) kvk)))
    (h1 : Leg.gKetPhys s ∉ e.labels) (h2 : Leg.gOpIn s ∉ e.labels) :
    (e.sb_subst p (Ttndo.absorbExpr s node kvk ov)).SWF ∧
    (e.sb_subst p (Ttndo.absorbExpr s node kvk ov)).free = e.free ∧
    (e.sb_subst p (Ttndo.absorbExpr s node kvk ov)).binds.Perm (e.binds ++ [(Leg.gKetPhys s, Leg.gOpIn s)]) ∧
    (Expr.pairLegs (e.sb_subst p (Ttndo.absorbExpr s node kvk ov)).binds).Nodup ∧
    ∀ σ, (e.sb_subst p (Ttndo.absorbExpr s node kvk ov)).eval dim σ = e.eval dim σ :=
  Ttndo.tp_subst_absorb dim sites s hs node hnbr kvk ov hk ho e p he hat h1 h2

open Ptn.C04 Ptn.Ein Ttndo.Demo in
/-- non-vacuity: the absorbed root ket tensor of the demo network (site 1, operator `tpOD 1`) as one leaf, contracted
with a bra-side tensor over the model's physical pair `(gOpOut 1, gBraPhys 1)`, satisfies every hypothesis -/
example :
    let ov : Asg Leg → Int := fun σ => tpOD 1 (σ (Leg.gOpOut 1)) (σ (Leg.gOpIn 1))
    let nd : Node := ⟨some 0, [3]⟩
    let v := rn_pull (Ttndo.tpSwap [1]) (Ttndo.applyAt dim (Ttndo.opMat ov 1) (Leg.gKetPhys 1) (kvD 1))
    let e : Expr Leg Int := .dot (.leaf (Ttndo.absorbExpr 1 nd (kvD 1) ov).free v)
      (.leaf [Leg.gBraPhys 1] (fun σ => (σ (Leg.gBraPhys 1) : Int))) [(Leg.gOpOut 1, Leg.gBraPhys 1)]
    nd.nbrs.Nodup ∧ DependsOn (· ∈ (gKetT 1 nd).legs) (kvD 1) ∧ DependsOn (· ∈ (Ttndo.siteOpT 1).legs) ov ∧
    e.SWF ∧ e.sb_at [false] = some ((Ttndo.absorbExpr 1 nd (kvD 1) ov).free, v) ∧
    Leg.gKetPhys 1 ∉ e.labels ∧ Leg.gOpIn 1 ∉ e.labels ∧
    (e.sb_subst [false] (Ttndo.absorbExpr 1 nd (kvD 1) ov)).binds =
      [(Leg.gOpOut 1, Leg.gBraPhys 1), (Leg.gKetPhys 1, Leg.gOpIn 1)] := by
  intro ov nd v e
  have hk : DependsOn (· ∈ (gKetT 1 nd).legs) (kvD 1) := kvD_local (1, some 0, [3]) (by rw [info0]; simp)
  have ho : DependsOn (· ∈ (Ttndo.siteOpT 1).legs) ov := by
    intro σ τ h
    simp only [ov, h (Leg.gOpOut 1) (by simp [Ttndo.siteOpT, T.fresh]),
      h (Leg.gOpIn 1) (by simp [Ttndo.siteOpT, T.fresh])]
  have hx := Ttndo.absorbExpr_swf 1 nd (kvD 1) ov (by decide) hk ho
  have hv : v = (Ttndo.absorbExpr 1 nd (kvD 1) ov).eval dim := by
    funext σ; exact Ttndo.tpSwap_pull_absorb dim [1] 1 (by simp) nd (kvD 1) ov hk ho σ
  refine ⟨by decide, hk, ho, ?_, rfl, by decide, by decide, by decide⟩
  refine ⟨⟨by decide, ?_⟩, ⟨by decide, ?_⟩, by decide, by decide, by decide, by decide⟩
  · rw [hv]; exact Expr.sb_eval_dependsOn_free dim _ hx.wf
  · intro σ τ h; simp only [h (Leg.gBraPhys 1) (by simp)]

end Ptn.C16
