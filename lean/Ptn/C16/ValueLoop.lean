import Ptn.C16.BuiltTree
import Ptn.C16.Value
import Ptn.C04.ValueOp
/-! Value level, unconditional in the program: every expression from which the result of `trace_ttndo` (resp.
`ttndo_ttno_expectation_value`) is BUILT over the root tensor and the node tensors (`BuiltTree.lean`) satisfies
the hypothesis bundles `TraceProgram` / `TtnoProgram` of `Value.lean`, with the canonical dense vectors / operator
of the layers (`Ptn.C04.layExpr`) as the reference contractions. -/
namespace Ptn.C16.Ttndo

open Ptn.C04 Ptn.Ein Ptn.C16.Val

set_option linter.unusedSectionVars false
variable {R : Type} [CommSemiring R]

/-- **the dense vector of the ket copy**: the ket branch contracted over its bonds; the root-bond leg
`gKet kt.id 0` and the physical legs stay open -/
def ketVec (kv : Nat → Asg Leg → R) (kt : Tree) : Expr Leg R := layExpr (ketLayer kv) (some 0) kt
/-- likewise the bra copy (`gBra kt.id 0` and the bra physical legs stay open) -/
def braVec (bv : Nat → Asg Leg → R) (kt : Tree) : Expr Leg R := layExpr (braLayerK bv) (some 0) kt

/-- the hypotheses on the node tensors: each reads only its own legs (the copy of the state's root has the
additional root-bond leg toward the TTNDO root `0`) -/
def KetLocal0 (kv : Nat → Asg Leg → R) (kt : Tree) : Prop :=
  ∀ e ∈ Tree.info (some 0) kt, DependsOn (· ∈ (gKetT e.1 ⟨e.2.1, e.2.2⟩).legs) (kv e.1)
def BraLocal0 (bv : Nat → Asg Leg → R) (kt : Tree) : Prop :=
  ∀ e ∈ Tree.info (some 0) kt, DependsOn (· ∈ (gBraT e.1 ⟨e.2.1, e.2.2⟩).legs) (bv e.1)

/-- the tensors `trace_ttndo` contracts: the root tensor and the ket and bra tensor of every node -/
def traceLeaves (rv : Asg Leg → R) (kv bv : Nat → Asg Leg → R) (kt : Tree) : List (LeafT R) :=
  (rootLegs, rv) :: trLeaves kv bv (some 0) kt

theorem trNodeLeaves_eq (kv bv : Nat → Asg Leg → R) :
    trNodeLeaves kv bv = fun i p k => (ketLayer kv).nodeLeaves i p k ++ (braLayerK bv).nodeLeaves i p k := rfl

theorem tr_nodeOK (kv bv : Nat → Asg Leg → R) (e : Nat × Option Nat × List Nat)
    (hn : (e.2.1.toList ++ e.2.2).Nodup) : NodeOK (trNodeLeaves kv bv) e :=
  ss_nodeOK kv bv (fun _ => e.2.2) e hn (List.Perm.refl _)

theorem braLayerK_inj (bv : Nat → Asg Leg → R) : (braLayerK bv).Inj := by
  intro a b a' b' h
  simp only [braLayerK] at h
  injection h with h1 h2
  exact ⟨h1, h2⟩

theorem rootLegs_not_mem {X : List Leg} (hX : ∀ l ∈ X, ∃ j, legNode l = some j) : ∀ l ∈ rootLegs, l ∉ X := by
  intro l hl hm
  obtain ⟨j, hj⟩ := hX l hm
  simp only [rootLegs, rootKetLeg, rootBraLeg, rootOpenLeg, List.mem_cons, List.not_mem_nil, or_false] at hl
  rcases hl with rfl | rfl | rfl <;> cases hj

/-- an expression built to `⟨[rootOpenLeg], binds⟩` from the root tensor and node tensors `L` with distinct legs, each
reading only its legs, is a strongly well-formed program with the record `binds` and the open leg `rootOpenLeg` -/
theorem rooted_program {rv : Asg Leg → R} {L : List (LeafT R)} {binds : List (Leg × Leg)} {e : Expr Leg R}
    (hlab : (labelsOf L).Nodup) (hnode : ∀ l ∈ labelsOf L, ∃ j, legNode l = some j)
    (hrv : DependsOn (· ∈ rootLegs) rv) (hloc : ∀ lf ∈ L, DependsOn (· ∈ lf.1) lf.2)
    (hbuilt : Built ⟨[rootOpenLeg], binds⟩ e) (hleaves : e.leaves.Perm ((rootLegs, rv) :: L)) :
    e.SWF ∧ binds.Perm e.binds ∧ e.free = [rootOpenLeg] := by
  obtain ⟨h1, h2, h3⟩ := hbuilt.facts hleaves
    (List.nodup_append.2 ⟨by simp [rootLegs, rootKetLeg, rootBraLeg, rootOpenLeg], hlab,
      fun x hx y hy hxy => rootLegs_not_mem hnode x hx (hxy ▸ hy)⟩)
    (List.forall_mem_cons.2 ⟨hrv, hloc⟩)
  exact ⟨h1, h2, List.perm_singleton.1 h3.symm⟩

theorem layExpr_free_root (Λ : Layer R) (hs : Λ.Inj) (kt : Tree) (h0 : (0 : Nat) ∉ kt.ids)
    (hh : Λ.Has (kt.id, some 0, kt.kids.map Tree.id)) : Λ.vleg kt.id 0 ∈ (layExpr Λ (some 0) kt).free := by
  obtain ⟨i, ks⟩ := kt
  simp only [layExpr, Tree.id]
  apply layKids_free_acc Λ i _ ks
  · simp only [Expr.free]
    exact hh 0 (by simp)
  · intro c hc e
    have := (hs _ _ _ _ e).2
    have hm : c.id ∈ Tree.idsL ks := Tree.kid_id_mem ks _ (List.mem_map.2 ⟨c, hc, rfl⟩)
    exact h0 (by simp [Tree.ids, this ▸ hm])


theorem ketLayer_has (kv : Nat → Asg Leg → R) (x : Nat × Option Nat × List Nat) : (ketLayer kv).Has x := fun n hn => by
  simp only [ketLayer, gKetT, T.fresh, Node.nbrs, List.mem_append, List.mem_map]
  exact Or.inl ⟨n, List.mem_append.1 hn, rfl⟩

theorem braLayerK_has (bv : Nat → Asg Leg → R) (x : Nat × Option Nat × List Nat) : (braLayerK bv).Has x := fun n hn => by
  simp only [braLayerK, gBraT, T.fresh, Node.nbrs, List.mem_append, List.mem_map]
  exact Or.inl ⟨n, List.mem_append.1 hn, rfl⟩

theorem not_mem_of_some0 {kt : Tree} (h0 : (0 : Nat) ∉ kt.ids) : ∀ q, (some 0 : Option Nat) = some q → q ∉ kt.ids :=
  fun q hq => by simp only [Option.some.injEq] at hq; subst hq; exact h0

/-- a leg that every node of a layer has among its own (the physical legs) is free in the layer's dense vector -/
theorem layExpr_free_own (Λ : Layer R) (g : Nat → Leg) (hg : ∀ a b n, g n ≠ Λ.vleg a b)
    (hown : ∀ i p k, g i ∈ Λ.legs i p k) (p : Option Nat) (kt : Tree) :
    ∀ n ∈ kt.ids, g n ∈ (layExpr Λ p kt).free := by
  intro n hn
  obtain ⟨x, hx, rfl⟩ := info_mem_of_id p kt n hn
  apply layExpr_free_phys Λ _ (fun a b => hg a b x.1) kt p
  simp only [labelsOf, List.mem_flatMap]
  exact ⟨_, nodeLeaves_sub _ kt p x hx _ (List.mem_singleton.2 rfl), hown _ _ _⟩

theorem ketVec_swf (kt : Tree) (hnd : kt.ids.Nodup) (h0 : (0 : Nat) ∉ kt.ids) (kv : Nat → Asg Leg → R)
    (hkv : KetLocal0 kv kt) :
    (ketVec kv kt).SWF ∧ ∀ n ∈ kt.ids, Leg.gKetPhys n ∈ (ketVec kv kt).free := by
  have hsome := not_mem_of_some0 h0
  have hnb := info_nbrs_nodup kt (some 0) hnd hsome
  -- the one-layer `NodeOK` is a projection of the two-layer one (same values put on both layers)
  have hokK : ∀ x ∈ Tree.info (some 0) kt, NodeOK (ketLayer kv).nodeLeaves x := fun x hx =>
    nodeOK_left (f := (ketLayer kv).nodeLeaves) (g := (braLayerK kv).nodeLeaves) (tr_nodeOK kv kv x (hnb x hx))
  exact ⟨layExpr_swf (ketLayer kv) (ketLayer_inj kv) kt (some 0) hnd hsome (fun x _ => ketLayer_has kv x) hokK hkv,
    layExpr_free_own (ketLayer kv) Leg.gKetPhys (fun a b n => by simp [ketLayer])
      (fun i p k => by simp [ketLayer, gKetT, T.fresh]) (some 0) kt⟩

theorem braVec_swf (kt : Tree) (hnd : kt.ids.Nodup) (h0 : (0 : Nat) ∉ kt.ids) (bv : Nat → Asg Leg → R)
    (hbv : BraLocal0 bv kt) :
    (braVec bv kt).SWF ∧ ∀ n ∈ kt.ids, Leg.gBraPhys n ∈ (braVec bv kt).free := by
  have hsome := not_mem_of_some0 h0
  have hnb := info_nbrs_nodup kt (some 0) hnd hsome
  have hokB : ∀ x ∈ Tree.info (some 0) kt, NodeOK (braLayerK bv).nodeLeaves x := fun x hx =>
    nodeOK_right (f := (ketLayer bv).nodeLeaves) (g := (braLayerK bv).nodeLeaves) (tr_nodeOK bv bv x (hnb x hx))
  exact ⟨layExpr_swf (braLayerK bv) (braLayerK_inj bv) kt (some 0) hnd hsome (fun x _ => braLayerK_has bv x) hokB hbv,
    layExpr_free_own (braLayerK bv) Leg.gBraPhys (fun a b n => by simp [braLayerK])
      (fun i p k => by simp [braLayerK, gBraT, T.fresh]) (some 0) kt⟩

theorem ketVec_binds (kv : Nat → Asg Leg → R) (kt : Tree) : (ketVec kv kt).binds.Perm (ketBonds kt) := by
  have := layExpr_binds (ketLayer kv) kt (some 0)
  simpa [Layer.edge, ketLayer, ketEdge, ketVec, ketBonds] using this

theorem braVec_binds (bv : Nat → Asg Leg → R) (kt : Tree) : (braVec bv kt).binds.Perm (braBonds kt) := by
  have := layExpr_binds (braLayerK bv) kt (some 0)
  simpa [Layer.edge, braLayerK, braEdge, braVec, braBonds] using this

theorem ketVec_root_free (kv : Nat → Asg Leg → R) (kt : Tree) (h0 : (0 : Nat) ∉ kt.ids) :
    Leg.gKet kt.id 0 ∈ (ketVec kv kt).free :=
  layExpr_free_root (ketLayer kv) (ketLayer_inj kv) kt h0 (ketLayer_has kv _)

theorem braVec_root_free (bv : Nat → Asg Leg → R) (kt : Tree) (h0 : (0 : Nat) ∉ kt.ids) :
    Leg.gBra kt.id 0 ∈ (braVec bv kt).free :=
  layExpr_free_root (braLayerK bv) (braLayerK_inj bv) kt h0 (braLayerK_has bv _)

/-- the facts about the two dense vectors and about every expression the result of `trace_ttndo` is built from -/
theorem trace_program (kt : Tree) (hnd : kt.ids.Nodup) (h0 : (0 : Nat) ∉ kt.ids)
    (kv bv : Nat → Asg Leg → R) (rv : Asg Leg → R)
    (hkv : KetLocal0 kv kt) (hbv : BraLocal0 bv kt) (hrv : DependsOn (· ∈ rootLegs) rv)
    (binds : List (Leg × Leg)) (e : Expr Leg R) (hbuilt : Built ⟨[rootOpenLeg], binds⟩ e)
    (hleaves : e.leaves.Perm (traceLeaves rv kv bv kt)) :
    TraceProgram kt binds e (ketVec kv kt) (braVec bv kt) rv ∧ e.free = [rootOpenLeg] ∧
      (ketVec kv kt).SWF ∧ (braVec bv kt).SWF := by
  have hnb := info_nbrs_nodup kt (some 0) hnd (not_mem_of_some0 h0)
  have hok : ∀ x ∈ Tree.info (some 0) kt, NodeOK (trNodeLeaves kv bv) x := fun x hx => tr_nodeOK kv bv x (hnb x hx)
  have hlab := treeLeaves_labels (trNodeLeaves kv bv) kt (some 0) hnd hok
  have hnode : ∀ l ∈ labelsOf (trLeaves kv bv (some 0) kt), ∃ j, legNode l = some j := fun l hl =>
    let ⟨j, _, hj⟩ := hlab.2 l hl; ⟨j, hj⟩
  obtain ⟨hswf, hbinds, hfree⟩ := rooted_program hlab.1 hnode hrv (fun lf h => by
    obtain ⟨x, hx, h⟩ := treeLeaves_sub _ kt (some 0) lf h
    simp only [trNodeLeaves, List.mem_cons, List.not_mem_nil, or_false] at h
    rcases h with rfl | rfl
    · exact hkv x hx
    · exact hbv x hx) hbuilt hleaves
  obtain ⟨hK, hKphys⟩ := ketVec_swf kt hnd h0 kv hkv
  obtain ⟨hB, hBphys⟩ := braVec_swf kt hnd h0 bv hbv
  have hsplit : (trLeaves kv bv (some 0) kt).Perm ((ketVec kv kt).leaves ++ (braVec bv kt).leaves) :=
    (treeLeaves_append (ketLayer kv).nodeLeaves (braLayerK bv).nodeLeaves kt (some 0)).trans
      (List.Perm.append (layExpr_leaves (ketLayer kv) kt (some 0)).symm (layExpr_leaves (braLayerK bv) kt (some 0)).symm)
  -- root tensor against `dot K B []`, whose leaves and labels are those of `K` and `B`
  obtain ⟨hp, hprod⟩ := Expr.split_leaves (e := e) (A := .leaf rootLegs rv)
    (B := .dot (ketVec kv kt) (braVec bv kt) []) (hleaves.trans (List.Perm.cons _ hsplit))
  obtain ⟨_, hKB, hroot⟩ := List.nodup_append.1 (hp.nodup_iff.1 hswf.labels_nodup)
  simp only [Expr.labels] at hKB hroot
  have hfreeP : ∀ p ∈ physPairs kt, p.1 ∈ (ketVec kv kt).free ∧ p.2 ∈ (braVec bv kt).free := by
    intro p hp
    obtain ⟨n, hn, rfl⟩ := List.mem_map.1 hp
    exact ⟨hKphys n hn, hBphys n hn⟩
  refine ⟨⟨hswf, hK.wf, hB.wf, hrv, fun l h h' => (List.nodup_append.1 hKB).2.2 l h l h' rfl,
    fun l hl => ⟨fun h => hroot l hl l (List.mem_append_left _ h) rfl,
      fun h => hroot l hl l (List.mem_append_right _ h) rfl⟩,
    hbinds.symm, ketVec_binds kv kt, braVec_binds bv kt, hfreeP,
    ketVec_root_free kv kt h0, braVec_root_free bv kt h0, fun τ => ?_⟩, hfree, hK, hB⟩
  rw [hprod τ, Expr.leafProd_dot]
  simp [Expr.leafProd, Expr.leaves, prodL]

theorem root_leaf_mem (Λ : Layer R) (kt : Tree) :
    (Λ.legs kt.id (some 0) (kt.kids.map Tree.id), Λ.val kt.id) ∈ (layExpr Λ (some 0) kt).leaves := by
  refine (layExpr_leaves Λ kt (some 0)).mem_iff.2 ?_
  obtain ⟨i, ks⟩ := kt
  simp [treeLeaves, Layer.nodeLeaves, Tree.id, Tree.kids]

theorem paddedRoot_vecs (kt : Tree) (hnd : kt.ids.Nodup) (h0 : (0 : Nat) ∉ kt.ids) (kv bv : Nat → Asg Leg → R)
    (hkv : KetLocal0 kv kt) (hbv : BraLocal0 bv kt) (dim : Leg → Nat)
    (hdK : 0 < dim rootKetLeg) (hdB : 0 < dim rootBraLeg)
    (hkz : ∀ ρ : Asg Leg, ρ (Leg.gKet kt.id 0) ≠ 0 → kv kt.id ρ = 0)
    (hbz : ∀ ρ : Asg Leg, ρ (Leg.gBra kt.id 0) ≠ 0 → bv kt.id ρ = 0) :
    PaddedRoot dim kt (ketVec kv kt) (braVec bv kt) :=
  PaddedRoot.of_tensors dim kt _ _ (ketVec_swf kt hnd h0 kv hkv).1 (braVec_swf kt hnd h0 bv hbv).1
    (ketVec_root_free kv kt h0) (braVec_root_free bv kt h0) _ _
    (root_leaf_mem (ketLayer kv) kt) (root_leaf_mem (braLayerK bv) kt) hkz hbz hdK hdB


theorem opExpr_swf (kt : Tree) (hnd : kt.ids.Nodup) (opKids : Nat → List Nat)
    (hperm : ∀ e ∈ Tree.info none kt, (opKids e.1).Perm e.2.2) (ov : Nat → Asg Leg → R)
    (hov : OpLocalK ov opKids kt) :
    (opExpr ov opKids kt).SWF ∧
      ∀ n ∈ kt.ids, Leg.gOpIn n ∈ (opExpr ov opKids kt).free ∧ Leg.gOpOut n ∈ (opExpr ov opKids kt).free := by
  have hnone : ∀ q, (none : Option Nat) = some q → q ∉ kt.ids := fun q hq => by cases hq
  have hnb := info_nbrs_nodup kt none hnd hnone
  have hok : ∀ x ∈ Tree.info none kt, NodeOK (opLayer ov opKids).nodeLeaves x := fun x hx =>
    nodeOK_left (g := (braLayerK ov).nodeLeaves) (nodeOK_right (f := (ketLayer ov).nodeLeaves)
      (so_nodeOK ov ov ov opKids x (hnb x hx) (hperm x hx)))
  refine ⟨layExpr_swf (opLayer ov opKids)
    (fun a b a' b' h => by simp only [opLayer] at h; injection h with h1 h2; exact ⟨h1, h2⟩) kt none hnd hnone
    (fun x hx n hn => by
      simp only [opLayer, gOpT, T.fresh, Node.nbrs, List.mem_append, List.mem_map]
      exact Or.inl ⟨n, (List.mem_append.1 hn).imp_right (hperm x hx).mem_iff.2, rfl⟩)
    hok hov, fun n hn => ⟨?_, ?_⟩⟩
  · exact layExpr_free_own (opLayer ov opKids) Leg.gOpIn (fun a b n => by simp [opLayer])
      (fun i p k => by simp [opLayer, gOpT, T.fresh]) none kt n hn
  · exact layExpr_free_own (opLayer ov opKids) Leg.gOpOut (fun a b n => by simp [opLayer])
      (fun i p k => by simp [opLayer, gOpT, T.fresh]) none kt n hn

theorem opExpr_binds (ov : Nat → Asg Leg → R) (opKids : Nat → List Nat) (kt : Tree) :
    (opExpr ov opKids kt).binds.Perm (opBonds kt) := by
  have := layExpr_binds (opLayer ov opKids) kt none
  simpa [Layer.edge, opLayer, opEdge, opExpr, opBonds] using this

/-- the tensors `ttndo_ttno_expectation_value` contracts -/
def ttnoLeaves (rv : Asg Leg → R) (opKids : Nat → List Nat) (kv ov bv : Nat → Asg Leg → R) (kt : Tree) :
    List (LeafT R) :=
  (rootLegs, rv) :: teLeaves opKids kv ov bv kt

theorem perm_three_layers {α : Type} (k o b : α) (Fk Fo Fb : List α) :
    ([k, o, b] ++ (Fk ++ (Fo ++ Fb))).Perm ((k :: Fk) ++ ((o :: Fo) ++ (b :: Fb))) := by
  classical
  rw [List.perm_iff_count]
  intro x
  simp only [List.count_append, List.count_cons, List.count_nil]
  omega

/-- the facts about the three dense layers and about every expression the result of
`ttndo_ttno_expectation_value` is built from -/
theorem ttno_program (kt : Tree) (hnd : kt.ids.Nodup) (h0 : (0 : Nat) ∉ kt.ids) (opKids : Nat → List Nat)
    (hperm : ∀ e ∈ Tree.info none kt, (opKids e.1).Perm e.2.2)
    (kv ov bv : Nat → Asg Leg → R) (rv : Asg Leg → R)
    (hkv : KetLocal0 kv kt) (hov : OpLocalK ov opKids kt) (hbv : BraLocal0 bv kt)
    (hrv : DependsOn (· ∈ rootLegs) rv)
    (binds : List (Leg × Leg)) (e : Expr Leg R) (hbuilt : Built ⟨[rootOpenLeg], binds⟩ e)
    (hleaves : e.leaves.Perm (ttnoLeaves rv opKids kv ov bv kt)) :
    TtnoProgram kt binds e (ketVec kv kt) (opExpr ov opKids kt) (braVec bv kt) rv ∧ e.free = [rootOpenLeg] ∧
      (ketVec kv kt).SWF ∧ (braVec bv kt).SWF := by
  obtain ⟨r, ks⟩ := kt
  have hsome := not_mem_of_some0 h0
  have hnb0 := info_nbrs_nodup (.node r ks) (some 0) hnd hsome
  have hperm0 : ∀ x ∈ Tree.info (some 0) (Tree.node r ks), (opKids x.1).Perm x.2.2 := by
    intro x hx
    simp only [Tree.info, List.mem_cons] at hx
    rcases hx with rfl | hx
    · exact hperm (r, none, ks.map Tree.id) (by simp [Tree.info])
    · exact hperm x (by simp [Tree.info, hx])
  let nlS := soNodeLeaves opKids kv ov bv
  let ΛO := opLayer ov opKids
  let ΛB := braLayerK bv
  have hok0 : ∀ x ∈ Tree.info (some 0) (Tree.node r ks), NodeOK nlS x :=
    fun x hx => so_nodeOK kv ov bv opKids x (hnb0 x hx) (hperm0 x hx)
  have hlab0 := treeLeaves_labels nlS (.node r ks) (some 0) hnd hok0
  -- the labels of the actual leaves: those of the three-layer tree below the parent `0` without `gOp r 0`
  have hsub : (labelsOf (teLeaves opKids kv ov bv (.node r ks))).Sublist
      (labelsOf (treeLeaves nlS (some 0) (.node r ks))) := by
    simp only [teLeaves, treeLeaves, nlS, soNodeLeaves, labelsOf, List.flatMap_append, List.flatMap_cons,
      List.flatMap_nil, List.append_nil, gOpT, T.fresh, Node.nbrs, Option.toList_some, Option.toList_none,
      List.nil_append, List.singleton_append, List.map_cons]
    refine List.Sublist.append (List.Sublist.append (List.Sublist.refl _) ?_) (List.Sublist.refl _)
    refine List.Sublist.append ?_ (List.Sublist.refl _)
    exact List.sublist_cons_self _ _
  have hlabA : (labelsOf (teLeaves opKids kv ov bv (.node r ks))).Nodup := hsub.nodup hlab0.1
  have hmemA : ∀ l ∈ labelsOf (teLeaves opKids kv ov bv (.node r ks)), ∃ j, legNode l = some j := by
    intro l hl
    obtain ⟨j, _, hj⟩ := hlab0.2 l (hsub.subset hl)
    exact ⟨j, hj⟩
  have hrootK : (r, some 0, ks.map Tree.id) ∈ Tree.info (some 0) (Tree.node r ks) := by simp [Tree.info]
  have hrootN : (r, none, ks.map Tree.id) ∈ Tree.info none (Tree.node r ks) := by simp [Tree.info]
  obtain ⟨hswf, hbinds, hfree⟩ := rooted_program hlabA hmemA hrv (fun lf h => by
    simp only [teLeaves, List.mem_cons, List.mem_append, List.not_mem_nil, or_false] at h
    rcases h with (rfl | rfl | rfl) | h
    · exact hkv _ hrootK
    · exact hov _ hrootN
    · exact hbv _ hrootK
    · obtain ⟨x, hx, h⟩ := treeLeavesL_sub _ ks r lf h
      simp only [soNodeLeaves, List.mem_cons, List.not_mem_nil, or_false] at h
      rcases h with rfl | rfl | rfl
      · exact hkv x (by simp [Tree.info, hx])
      · exact hov x (by simp [Tree.info, hx])
      · exact hbv x (by simp [Tree.info, hx])) hbuilt hleaves
  obtain ⟨hK, hKphys⟩ := ketVec_swf (.node r ks) hnd h0 kv hkv
  obtain ⟨hB, hBphys⟩ := braVec_swf (.node r ks) hnd h0 bv hbv
  obtain ⟨hO, hOphys⟩ := opExpr_swf (.node r ks) hnd opKids hperm ov hov
  have hLK := layExpr_leaves (ketLayer kv) (.node r ks) (some 0)
  have hLO := layExpr_leaves ΛO (.node r ks) none
  have hLB := layExpr_leaves ΛB (.node r ks) (some 0)
  have hsplit : (teLeaves opKids kv ov bv (.node r ks)).Perm
      ((ketVec kv (.node r ks)).leaves ++ ((opExpr ov opKids (.node r ks)).leaves ++ (braVec bv (.node r ks)).leaves)) := by
    have h1 := treeLeavesL_append (ketLayer kv).nodeLeaves
      (fun i p k => ΛO.nodeLeaves i p k ++ ΛB.nodeLeaves i p k) ks r
    have h2 := treeLeavesL_append ΛO.nodeLeaves ΛB.nodeLeaves ks r
    have h3 : (treeLeavesL nlS r ks).Perm (treeLeavesL (ketLayer kv).nodeLeaves r ks ++
        (treeLeavesL ΛO.nodeLeaves r ks ++ treeLeavesL ΛB.nodeLeaves r ks)) :=
      h1.trans (List.Perm.append_left _ h2)
    refine List.Perm.trans ?_ (List.Perm.append hLK.symm (List.Perm.append hLO.symm hLB.symm))
    simp only [teLeaves, treeLeaves, Layer.nodeLeaves, List.cons_append, List.nil_append]
    exact (List.Perm.append_left _ h3).trans (perm_three_layers _ _ _ _ _ _)
  -- root tensor against `dot K (dot O B []) []`, whose leaves and labels are those of the three layers
  obtain ⟨hp, hprod⟩ := Expr.split_leaves (e := e) (A := .leaf rootLegs rv)
    (B := .dot (ketVec kv (.node r ks)) (.dot (opExpr ov opKids (.node r ks)) (braVec bv (.node r ks)) []) [])
    (hleaves.trans (List.Perm.cons _ hsplit))
  obtain ⟨_, hndAll, hroot⟩ := List.nodup_append.1 (hp.nodup_iff.1 hswf.labels_nodup)
  simp only [Expr.labels] at hndAll hroot
  obtain ⟨_, hndOB, hdisK⟩ := List.nodup_append.1 hndAll
  have hin : ∀ p ∈ physIns (Tree.node r ks), p.1 ∈ (ketVec kv (.node r ks)).free ∧
      p.2 ∈ (opExpr ov opKids (.node r ks)).free := by
    intro p hp
    obtain ⟨n, hn, rfl⟩ := List.mem_map.1 hp
    exact ⟨hKphys n hn, (hOphys n hn).1⟩
  have hout : ∀ p ∈ physOuts (Tree.node r ks), p.1 ∈ (opExpr ov opKids (.node r ks)).free ∧
      p.2 ∈ (braVec bv (.node r ks)).free := by
    intro p hp
    obtain ⟨n, hn, rfl⟩ := List.mem_map.1 hp
    exact ⟨(hOphys n hn).2, hBphys n hn⟩
  refine ⟨⟨hswf, hK.wf, hO.wf, hB.wf, hrv,
    fun l hl hl' => hdisK l hl l (List.mem_append_left _ hl') rfl,
    fun l hl hl' => hdisK l hl l (List.mem_append_right _ hl') rfl,
    fun l hl hl' => (List.nodup_append.1 hndOB).2.2 l hl l hl' rfl,
    fun l hl => ⟨fun h => hroot l hl l (List.mem_append_left _ h) rfl,
      fun h => hroot l hl l (List.mem_append_right _ (List.mem_append_left _ h)) rfl,
      fun h => hroot l hl l (List.mem_append_right _ (List.mem_append_right _ h)) rfl⟩,
    hbinds.symm, ketVec_binds kv _, opExpr_binds ov opKids _,
    braVec_binds bv _, hin, hout, ketVec_root_free kv _ h0, braVec_root_free bv _ h0, fun τ => ?_⟩, hfree, hK, hB⟩
  rw [hprod τ, Expr.leafProd_dot, Expr.leafProd_dot, mul_assoc]
  simp [Expr.leafProd, Expr.leaves, prodL]

end Ptn.C16.Ttndo
