import Ptn.C16.BuiltFns
import Ptn.C16.TtndoTop
import Ptn.C04.Layer
/-! Provenance along the tree: the tensors that `trace_ttndo` and `ttndo_ttno_expectation_value` return are BUILT from
exactly the root tensor of the TTNDO and the ket / (operator) / bra tensors of all nodes.  `BuiltL t ls` is a property of the
tensor `t`, and the graph theorems say which tensors the routines compute: the cached blocks are C04's `ssBlock` / `soBlock`
(built by `ssBlock_built` / `soBlock_built` on the views), the root site goes through `contractTtnoRoot_built`, and the last
`tensordot` is `rootDot_built`. -/
namespace Ptn.C16.Ttndo
open Ptn.C04 Ptn.Ein

variable {R : Type}

section tr
variable (nd : Net) (kv bv : Nat → Asg Leg → R)

/-- the two tensors of the state node behind the ket identifier `i`: the tensor of the ket copy and of the bra
copy (same neighbour order: `from_ttns` mirrors the branches) -/
def trNodeLeaves (i : Nat) (p : Option Nat) (kids : List Nat) : List (LeafT R) :=
  [((gKetT i ⟨p, kids⟩).legs, kv i), ((gBraT i ⟨p, kids⟩).legs, bv i)]

def trLeaves (p : Option Nat) (t : Tree) : List (LeafT R) := treeLeaves (trNodeLeaves kv bv) p t

theorem treeLeaves_congr {f g : Nat → Option Nat → List Nat → List (LeafT R)} (t : Tree) (p : Option Nat)
    (h : ∀ e ∈ Tree.info p t, f e.1 e.2.1 e.2.2 = g e.1 e.2.1 e.2.2) : treeLeaves f p t = treeLeaves g p t := by
  rw [treeLeaves_flatMap, treeLeaves_flatMap]
  exact Ptn.flatMap_congr h

/-- **every block the loop of `trace_ttndo` caches is built from the tensors of its subtree**: the blocks are those
of `contract_two_ttns` on the network and its bra view (`ssBlock_built`), where the bra copy of a node has the child
order of the ket copy -/
theorem trBlock_built (t : Tree) (p : Nat) (hnd : t.ids.Nodup) (hp : p ∉ t.ids)
    (hrep : TrRep nd (Tree.info (some p) t)) : BuiltL (ssBlock t p) (trLeaves kv bv (some p) t) := by
  have h := ssBlock_built nd (braView nd) (kidsOfNet nd) kv bv t p hnd hp hrep.rep
  rwa [ssLeaves, treeLeaves_congr (g := trNodeLeaves kv bv) t (some p) (fun e he => by
    obtain ⟨q, _, hn, _⟩ := hrep e he
    simp only [ssNodeLeaves, trNodeLeaves, kidsOfNet, hn, Option.map_some, Option.getD_some])] at h

end tr

/-- the `tensordot` of `_contract_final_block` (whose result the routine returns with the open leg of the root tensor
indexed away) is built from the root tensor and the leaves of the block -/
theorem rootDot_built (rv : Asg Leg → R) {a b : Leg} {bs : List (Leg × Leg)} {lf : List (LeafT R)}
    (hf : BuiltL ⟨[a, b], bs⟩ lf) :
    BuiltL (⟨[rootOpenLeg], bs ++ [(rootKetLeg, a), (rootBraLeg, b)]⟩ : T)
      (([rootKetLeg, rootBraLeg, rootOpenLeg], rv) :: lf) :=
  BuiltL.dot (BuiltL.fresh _ rv) hf (rootDot_eq a b bs)

/-- **The tensor `trace_ttndo` computes is built from exactly the root tensor and the ket and bra tensors of all
nodes**: the loop over the ket identifiers of `linearise()` with the block dictionary and `_contract_final_block`
are a nesting of `tensordot` calls over these tensors.  The routine returns the result `⟨[rootOpenLeg], binds⟩` of
the last `tensordot` with its only leg (the open leg of the root tensor, dimension 1) indexed away. -/
theorem traceTtndo_built (kt : Tree) (hnd : kt.ids.Nodup) (hodd : ∀ k ∈ kt.ids, k % 2 = 1)
    (kv bv : Nat → Asg Leg → R) (rv : Asg Leg → R) :
    ∃ binds, traceTtndo (ttndoNetK kt) = some ⟨[], binds⟩ ∧
      binds.Perm (ssSpec kt ++ [(rootKetLeg, Leg.gKet kt.id 0), (rootBraLeg, Leg.gBra kt.id 0)]) ∧
      BuiltL (⟨[rootOpenLeg], binds⟩ : T)
        (([rootKetLeg, rootBraLeg, rootOpenLeg], rv) :: trLeaves kv bv (some 0) kt) := by
  refine ⟨_, traceTtndo_eq kt hnd hodd,
    List.Perm.append_right _ (List.perm_iff_count.2 (fun x => count_blockBinds x _)), ?_⟩
  exact rootDot_built rv (trBlock_built (ttndoNetK kt) kv bv kt 0 hnd (fun h => by have := hodd 0 h; omega)
    (ttndoNetK_trRep kt hnd hodd))


section te
variable (ttndo ttno : Net) (opKids : Nat → List Nat) (kv ov bv : Nat → Asg Leg → R)

/-- **every block the loop of `ttndo_ttno_expectation_value` caches is built from the ket, operator and bra
tensors of its subtree**: the blocks are those of the three-layer loop of C04 (`soBlock_built`) on the TTNDO and the
operator view of the TTNO -/
theorem teBlock_built : ∀ (t : Tree) (p : Nat), t.ids.Nodup → p ∉ t.ids →
    TeRep ttndo ttno opKids (Tree.info (some p) t) → BuiltL (soBlock t p) (soLeaves opKids kv ov bv (some p) t) :=
  fun t p hnd hp hrep => soBlock_built ttndo (opView ttno) opKids kv ov bv t p hnd hp hrep.rep

end te

/-- the leaves of the TTNO expectation value below the TTNDO root tensor: the three tensors of the root site — the
ket and the bra copy have the root-bond leg toward the TTNDO root `0`, the operator's root has no parent leg — and
the ket, operator and bra tensors of all other sites -/
def teLeaves (opKids : Nat → List Nat) (kv ov bv : Nat → Asg Leg → R) : Tree → List (LeafT R)
  | .node r ks =>
    [((gKetT r ⟨some 0, ks.map Tree.id⟩).legs, kv r), ((gOpT r ⟨none, opKids r⟩).legs, ov r),
     ((gBraT r ⟨some 0, ks.map Tree.id⟩).legs, bv r)] ++ treeLeavesL (soNodeLeaves opKids kv ov bv) r ks

/-- **The tensor `ttndo_ttno_expectation_value` computes is built from exactly the root tensor and the ket,
operator and bra tensors of all nodes**: the loop over the ket identifiers except the copy of the root,
`_contract_ttno_root` (resp. `_single_site_contraction`) and `_contract_final_block` are a nesting of `tensordot`
calls over these tensors. -/
theorem ttndoTtno_built (kt : Tree) (opKids : Nat → List Nat) (hnd : kt.ids.Nodup)
    (hodd : ∀ k ∈ kt.ids, k % 2 = 1) (hperm : ∀ e ∈ Tree.info none kt, (opKids e.1).Perm e.2.2)
    (kv ov bv : Nat → Asg Leg → R) (rv : Asg Leg → R) :
    ∃ binds, ttndoTtnoExpectationValue (ttndoNetK kt) (ttnoNetK kt opKids) = some ⟨[], binds⟩ ∧
      (unord binds).Perm (unord (soSpec kt ++
        [(rootKetLeg, Leg.gKet kt.id 0), (rootBraLeg, Leg.gBra kt.id 0)])) ∧
      BuiltL (⟨[rootOpenLeg], binds⟩ : T)
        (([rootKetLeg, rootBraLeg, rootOpenLeg], rv) :: teLeaves opKids kv ov bv kt) := by
  refine ⟨_, ttndoTtno_eq kt opKids hnd hodd hperm, teBinds_perm _, ?_⟩
  obtain ⟨r, ks⟩ := kt
  have hrep := ttndoNetK_teRep r ks opKids hnd hodd hperm
  obtain ⟨hrodd, -, hK, -, k1, k2, -, k4, -, r2⟩ := ttndoNetK_rootEntry r ks opKids hnd hodd hperm
  obtain ⟨hK0, hKnd⟩ := List.nodup_cons.1 hK
  have hnd' := List.nodup_cons.1 hnd
  obtain ⟨d, _, hd2⟩ := ttndoNetK_teLoop r ks opKids hnd hodd hperm
  have hrootstep := ttndoNetK_rootStep r ks opKids hnd hodd hperm d hd2
  have hrootT : (ttnoNetK (.node r ks) opKids).root = revKet r := rfl
  have hkids := soBlock_builtL (ttndoNetK (.node r ks)) (opView (ttnoNetK (.node r ks) opKids)) opKids kv ov bv ks r
    hnd'.2 hnd'.1 hrep.rep
  -- `contractTtnoRoot_built` on the three fresh tensors of the root site and the blocks of its children; then the leaf list is
  -- permuted into `teLeaves` (a single node / more)
  obtain ⟨n1, hn1, hb⟩ := contractTtnoRoot_built (R := R)
    (lk := [((gKetT r ⟨some 0, ks.map Tree.id⟩).legs, kv r)])
    (lo := [((gOpT r ⟨none, opKids r⟩).legs, ov r)])
    (lb := [((gBraT r ⟨some 0, ks.map Tree.id⟩).legs, bv r)])
    (lv := lvOf (soLeaves opKids kv ov bv (some r)) ks) hrootstep
    (fun t1 ht1 => by
      rw [hrootT, ketOf_revKet r hrodd, k2] at ht1; simp only [Option.some.injEq] at ht1; subst ht1
      exact BuiltL.fresh _ _)
    (fun t2 ht2 => by
      rw [hrootT, r2] at ht2; simp only [Option.some.injEq] at ht2; subst ht2
      exact BuiltL.fresh _ _)
    (fun t3 ht3 => by
      rw [hrootT, braOf_revKet r hrodd, k4] at ht3; simp only [Option.some.injEq] at ht3; subst ht3
      exact BuiltL.fresh _ _)
    (fun n1 _ m _ _ blk hblk => by
      rw [hrootT, ketOf_revKet r hrodd, hd2 (m, r)] at hblk
      refine kidTable_built (blkOf := soBlock) hkids (?_ : soKidBlock ks r (m, r) = some blk)
      cases h : soKidBlock ks r (m, r) with
      | none => rw [h] at hblk; cases hblk
      | some b => rw [h] at hblk; exact hblk)
  rw [hrootT, ketOf_revKet r hrodd, k1] at hn1
  simp only [Option.some.injEq] at hn1
  subst hn1
  refine rootDot_built rv (hb.perm ?_)
  have hfilter : (Node.mk (some 0) (ks.map Tree.id)).nbrs.filter (· ≠ (ttndoNetK (.node r ks)).root) = ks.map Tree.id :=
    Node.nbrs_filter_parent 0 _ hK0
  rw [hfilter, lvOf_flatMap _ ks hKnd]
  simp only [teLeaves, treeLeavesL_eq]
  by_cases hn : (ttnoNetK (.node r ks) opKids).order.length = 1
  · rw [if_pos hn]
    have hks : ks = [] := by
      have hlen : (Tree.postL ks).length = 0 := by
        simp only [ttnoNetK, Tree.post, List.length_map, List.length_append, List.length_cons,
          List.length_nil] at hn
        omega
      exact postL_eq_nil ks (List.length_eq_zero_iff.1 hlen)
    subst hks
    simp only [List.flatMap_nil, List.append_nil, List.cons_append, List.nil_append]
    exact (List.Perm.swap _ _ _).trans ((List.Perm.cons _ (List.Perm.swap _ _ _)).trans (List.Perm.swap _ _ _))
  · rw [if_neg hn]
    simp only [List.cons_append, List.nil_append, List.append_assoc]
    exact List.Perm.cons _ List.perm_append_comm

end Ptn.C16.Ttndo
