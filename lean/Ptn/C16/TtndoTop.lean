import Ptn.C16.TtndoTtno
/-! `ttndo_ttno_expectation_value`: the loop is C04's `soLoop` on the TTNDO and the `opView` of the TTNO (`ttndoNetK_teLoop`), the
root step `_contract_ttno_root` / `_single_site_contraction` (`ttndoNetK_rootStep`), the whole run (`ttndoTtno_eq`) and its record
up to the orientation of the pairs (`teBinds_perm`). -/
namespace Ptn.C16.Ttndo
open Ptn.C04

theorem teLoop_eq_soLoop (ttndo ttno : Net) (l : List Nat)
    (h : ∀ k ∈ l, ∀ d, teStep ttndo ttno d k = soStep ttndo (opView ttno) gBraT d k) :
    ∀ d, teLoop ttndo ttno l d = soLoop ttndo (opView ttno) gBraT l d := by
  induction l with
  | nil => intro d; rfl
  | cons k rest ih =>
    intro d
    simp only [teLoop, soLoop, h k (by simp) d]
    cases soStep ttndo (opView ttno) gBraT d k with
    | none => rfl
    | some d1 => exact ih (fun k' hk' => h k' (by simp [hk'])) d1

theorem braOf_revKet (q : Nat) (h : q % 2 = 1) : braOf (revKet q) = q + 1 := by
  simp only [braOf, revKet]; omega

theorem singleSite_eq (k0 kp oo oi b0 bp : Leg) :
    singleSiteContraction ⟨[k0, kp], []⟩ ⟨[oo, oi], []⟩ ⟨[b0, bp], []⟩ =
      some ⟨[k0, b0], [(bp, oo), (oi, kp)]⟩ := by
  have h1 : tensordot ⟨[b0, bp], []⟩ ⟨[oo, oi], []⟩ [1] [0] = some ⟨[b0, oi], [(bp, oo)]⟩ := by
    rw [tensordot_one _ _ _ _ bp oo (by simp) (by simp)]; simp
  have h2 : tensordot ⟨[b0, oi], [(bp, oo)]⟩ ⟨[kp, k0], []⟩ [1] [0] = some ⟨[b0, k0], [(bp, oo), (oi, kp)]⟩ := by
    rw [tensordot_one _ _ _ _ oi kp (by simp) (by simp)]; simp
  simp [singleSiteContraction, transpose2, h1, h2]

/-- the binds of the whole contraction, in the order the code produces them -/
def teBinds (kt : Tree) : List (Leg × Leg) :=
  (if kt.kids.isEmpty then [(physOut kt.id).swap, (physIn kt.id).swap] else soBlockBinds kt) ++
    [(rootKetLeg, Leg.gKet kt.id 0), (rootBraLeg, Leg.gBra kt.id 0)]

/-- a non-root ket node `e`, its bra copy, the operator node of the same site, and the loop step on it -/
def TeRep (ttndo ttno : Net) (opKids : Nat → List Nat) (info : List (Nat × Option Nat × List Nat)) : Prop :=
  ∀ e ∈ info, ∃ p, e.2.1 = some p ∧
    ttndo.node e.1 = some ⟨some p, e.2.2⟩ ∧ ttndo.tensor e.1 = some (gKetT e.1 ⟨some p, e.2.2⟩) ∧
    ttndo.tensor (ketToBra e.1) = some (gBraT e.1 ⟨some p, e.2.2⟩) ∧
    (opView ttno).node e.1 = some ⟨some p, opKids e.1⟩ ∧
    ttno.tensor (revKet e.1) = some (gOpT e.1 ⟨some p, opKids e.1⟩) ∧
    (opKids e.1).Perm e.2.2 ∧
    ∀ d, teStep ttndo ttno d e.1 = soStep ttndo (opView ttno) gBraT d e.1

theorem TeRep.rep {ttndo ttno : Net} {opKids : Nat → List Nat} {info : List (Nat × Option Nat × List Nat)}
    (h : TeRep ttndo ttno opKids info) : RepO ttndo (opView ttno) opKids info := by
  intro e he
  obtain ⟨p, hp, l1, l2, _, o1, o2, hperm, _⟩ := h e he
  rw [hp]
  exact ⟨l1, l2, o1, by simpa [opView] using o2, hperm⟩

theorem ttndoNetK_teRep (r : Nat) (ks : List Tree) (opKids : Nat → List Nat) (hnd : (Tree.node r ks).ids.Nodup)
    (hodd : ∀ k ∈ (Tree.node r ks).ids, k % 2 = 1)
    (hperm : ∀ e ∈ Tree.info none (Tree.node r ks), (opKids e.1).Perm e.2.2) :
    TeRep (ttndoNetK (.node r ks)) (ttnoNetK (.node r ks) opKids) opKids (Tree.infoL r ks) := by
  intro e he
  have hlook := ttndo_lookup (.node r ks) hnd hodd
  have holook := ttno_lookup (.node r ks) opKids hnd hodd
  obtain ⟨p, hp, hpodd, hkids, hokids⟩ := infoL_entry_all r ks opKids hodd hperm e he
  obtain ⟨l1, l2, l3, l4⟩ := hlook e (mem_info_of_mem_infoL r ks (some 0) e he)
  obtain ⟨o1, o2⟩ := holook e (mem_info_of_mem_infoL r ks none e he)
  rw [hp] at l1 l2 l3 l4 o1 o2
  simp only [Option.map_some] at l3 o1
  have hov : (opView (ttnoNetK (.node r ks) opKids)).node e.1 = some ⟨some p, opKids e.1⟩ := by
    simp only [opView, o1, Option.map_some, ketOf_revKet p hpodd, map_ketOf_revKet _ hokids]
  have hot : (opView (ttnoNetK (.node r ks) opKids)).tensor e.1 = some (gOpT e.1 ⟨some p, opKids e.1⟩) := by
    simp only [opView, o2]
  refine ⟨p, hp, l1, l2, l4, hov, o2, hperm e (mem_info_of_mem_infoL r ks none e he), fun d => ?_⟩
  have hrel := opAny_relabel p e.2.2 (some p) (opKids e.1) (gKetT e.1 ⟨some p, e.2.2⟩) (gOpT e.1 ⟨some p, opKids e.1⟩)
    (gBraT e.1 ⟨some p, e.2.2⟩) (d.cacheOf e.1) hkids (fun q hq => by cases hq; exact hpodd) hokids
  simp only [Option.map_some] at hrel
  simp only [teStep, soStep, soContractAny, l1, l2, ketToBra, l3, l4, o1, o2, hov, hot, hrel]
  rfl

/-- the loop of `ttndo_ttno_expectation_value` over the ket identifiers below the copy of the state's root is the
three-layer loop of C04 on the TTNDO and the operator view of the TTNO: it leaves the blocks of the root's children -/
theorem ttndoNetK_teLoop (r : Nat) (ks : List Tree) (opKids : Nat → List Nat) (hnd : (Tree.node r ks).ids.Nodup)
    (hodd : ∀ k ∈ (Tree.node r ks).ids, k % 2 = 1)
    (hperm : ∀ e ∈ Tree.info none (Tree.node r ks), (opKids e.1).Perm e.2.2) :
    ∃ d, teLoop (ttndoNetK (.node r ks)) (ttnoNetK (.node r ks) opKids) (Tree.postL ks) Dict.empty = some d ∧
      ∀ k, d k = match soKidBlock ks r k with
                 | some b => some b
                 | none => Dict.empty k := by
  have hrep := ttndoNetK_teRep r ks opKids hnd hodd hperm
  have hnd' := hnd
  simp only [Tree.ids, List.nodup_cons] at hnd'
  have hstep : ∀ k ∈ Tree.postL ks, ∀ d, teStep (ttndoNetK (.node r ks)) (ttnoNetK (.node r ks) opKids) d k =
      soStep (ttndoNetK (.node r ks)) (opView (ttnoNetK (.node r ks) opKids)) gBraT d k := by
    intro k hk d
    have hkid : k ∈ Tree.idsL ks := postL_mem_ids ks k hk
    rw [← Tree.infoL_keys r ks] at hkid
    obtain ⟨e, he, rfl⟩ := List.mem_map.1 hkid
    obtain ⟨_, _, _, _, _, _, _, _, hs⟩ := hrep e he
    exact hs d
  rw [teLoop_eq_soLoop (ttndoNetK (.node r ks)) (ttnoNetK (.node r ks) opKids) (Tree.postL ks) hstep Dict.empty]
  exact soLoop_forest (ttndoNetK (.node r ks)) (opView (ttnoNetK (.node r ks) opKids)) opKids ks r
    Dict.empty hnd'.2 hnd'.1 hrep.rep (fun _ _ _ => rfl)

/-- the entry of the copy of the state's root in the two networks (`TeRep` speaks of the entries below it) -/
theorem ttndoNetK_rootEntry (r : Nat) (ks : List Tree) (opKids : Nat → List Nat) (hnd : (Tree.node r ks).ids.Nodup)
    (hodd : ∀ k ∈ (Tree.node r ks).ids, k % 2 = 1)
    (hperm : ∀ e ∈ Tree.info none (Tree.node r ks), (opKids e.1).Perm e.2.2) :
    r % 2 = 1 ∧ (∀ c ∈ ks.map Tree.id, c % 2 = 1) ∧ (0 :: ks.map Tree.id).Nodup ∧ (opKids r).Perm (ks.map Tree.id) ∧
    (ttndoNetK (.node r ks)).node r = some ⟨some 0, ks.map Tree.id⟩ ∧
    (ttndoNetK (.node r ks)).tensor r = some (gKetT r ⟨some 0, ks.map Tree.id⟩) ∧
    (ttndoNetK (.node r ks)).node (r + 1) = some ⟨some 0, (ks.map Tree.id).map (· + 1)⟩ ∧
    (ttndoNetK (.node r ks)).tensor (r + 1) = some (gBraT r ⟨some 0, ks.map Tree.id⟩) ∧
    (ttnoNetK (.node r ks) opKids).node (revKet r) = some ⟨none, (opKids r).map revKet⟩ ∧
    (ttnoNetK (.node r ks) opKids).tensor (revKet r) = some (gOpT r ⟨none, opKids r⟩) := by
  have hmem0 : (r, some 0, ks.map Tree.id) ∈ Tree.info (some 0) (Tree.node r ks) := List.mem_cons_self
  have hmemN : (r, none, ks.map Tree.id) ∈ Tree.info none (Tree.node r ks) := List.mem_cons_self
  obtain ⟨k1, k2, k3, k4⟩ := ttndo_lookup (.node r ks) hnd hodd _ hmem0
  obtain ⟨r1, r2⟩ := ttno_lookup (.node r ks) opKids hnd hodd _ hmemN
  have hKodd : ∀ c ∈ ks.map Tree.id, c % 2 = 1 := fun c hc =>
    hodd c (List.mem_cons_of_mem _ (Tree.kid_id_mem ks c hc))
  exact ⟨hodd r List.mem_cons_self, hKodd,
    List.nodup_cons.2 ⟨fun h => by have := hKodd 0 h; omega, Tree.nodup_kid_ids ks (List.nodup_cons.1 hnd).2⟩,
    hperm _ hmemN, k1, k2, k3, k4, r1, r2⟩

/-- `_contract_ttno_root` (resp. `_single_site_contraction`) on the dictionary the loop leaves: the block of the copy
of the state's root -/
theorem ttndoNetK_rootStep (r : Nat) (ks : List Tree) (opKids : Nat → List Nat) (hnd : (Tree.node r ks).ids.Nodup)
    (hodd : ∀ k ∈ (Tree.node r ks).ids, k % 2 = 1)
    (hperm : ∀ e ∈ Tree.info none (Tree.node r ks), (opKids e.1).Perm e.2.2) (d : Dict)
    (hd2 : ∀ k, d k = match soKidBlock ks r k with
                     | some b => some b
                     | none => Dict.empty k) :
    contractTtnoRoot (ttndoNetK (.node r ks)) (ttnoNetK (.node r ks) opKids)
        (ttnoNetK (.node r ks) opKids).order.length d (Tree.postL ks).isEmpty =
      some ⟨[Leg.gKet r 0, Leg.gBra r 0],
        if ks.isEmpty then [(physOut r).swap, (physIn r).swap] else soBlockBinds (.node r ks)⟩ := by
  obtain ⟨hrodd, hKodd, hK, hpr, k1, k2, k3, k4, r1, r2⟩ := ttndoNetK_rootEntry r ks opKids hnd hodd hperm
  obtain ⟨hK0, hKnd⟩ := List.nodup_cons.1 hK
  have hOodd : ∀ c ∈ opKids r, c % 2 = 1 := fun c hc => hKodd c (hpr.mem_iff.1 hc)
  have hrootT : (ttnoNetK (.node r ks) opKids).root = revKet r := rfl
  have hnN : (ttnoNetK (.node r ks) opKids).order.length = (Tree.postL ks).length + 1 := by
    simp [ttnoNetK, Tree.post]
  simp only [contractTtnoRoot, hrootT, r1, r2, ketOf_revKet r hrodd, braOf_revKet r hrodd, k1, k2, k3, k4, hnN]
  by_cases hks : ks = []
  · subst hks
    have hop : opKids r = [] := by
      have := hpr; simpa using this.eq_nil
    have := singleSite_eq (Leg.gKet r 0) (Leg.gKetPhys r) (Leg.gOpOut r) (Leg.gOpIn r) (Leg.gBra r 0) (Leg.gBraPhys r)
    simp [Tree.postL, gKetT, gBraT, gOpT, T.fresh, Node.nbrs, hop, this, physOut, physIn]
  · have hne : (Tree.postL ks).length + 1 ≠ 1 := by
      intro e
      have : Tree.postL ks = [] := List.length_eq_zero_iff.1 (by omega)
      exact hks (postL_eq_nil ks this)
    have hnbrs : (Node.mk (some 0) (ks.map Tree.id)).nbrs = 0 :: ks.map Tree.id := by simp [Node.nbrs]
    have hfilter : (0 :: ks.map Tree.id).filter (· ≠ 0) = ks.map Tree.id := Node.nbrs_filter_parent 0 _ hK0
    have hrootdo : (ttndoNetK (.node r ks)).root = 0 := rfl
    -- the ket tensor against the cached blocks (`allButOne_general`), then the operator tensor (`opTensor_dot`), then the bra
    -- tensor (`braTensor_dot`); the four `equivLoop` facts turn the index lists the routine computes into those of the lemmas
    have hab := allButOne_general 0 (Leg.gKet r) (fun n => ⟨[Leg.gKet n r, Leg.gOp n r, Leg.gBra n r], soBbOf ks n⟩)
      (fun n => Leg.gKet n r) [Leg.gKetPhys r] (d.cacheOf r) ⟨some 0, ks.map Tree.id⟩ 0
      (by rw [hnbrs]; exact hK) (by simp [hnbrs])
      (fun n hn hne' => by
        have hn' : n ∈ ks.map Tree.id := by
          rw [hnbrs] at hn
          simp only [List.mem_cons] at hn
          rcases hn with e | hn
          · exact absurd e hne'
          · exact hn
        refine ⟨?_, by simp⟩
        simp only [Dict.cacheOf, hd2 (n, r), soKidBlock_of_mem ks r n hn'])
    rw [hnbrs, hfilter] at hab
    simp only [List.eraseIdx_cons_zero] at hab
    have hkb := soKidsBinds_eq r ks hKnd
    simp only [ketEdge] at hkb
    rw [hkb] at hab
    have hnnK : (Node.mk (some 0) (ks.map Tree.id)).nn = ks.length + 1 := by simp [Node.nn, Node.nparents]
    have heqO := equivLoop_relabel_op ⟨some 0, ks.map Tree.id⟩ none (opKids r) [0] (0 :: ks.map Tree.id)
      (fun q hq => by cases hq) hOodd (fun n hn hc => by
        simp only [List.mem_cons] at hn
        rcases hn with rfl | hn
        · simp at hc
        · exact hKodd n hn)
    simp only [Option.map_none] at heqO
    have heqO2 := equivLoop_eq ⟨some 0, ks.map Tree.id⟩ ⟨none, opKids r⟩ [0] id (0 :: ks.map Tree.id)
      (fun n hn hc => by
        simp only [List.mem_cons] at hn
        rcases hn with rfl | hn
        · simp at hc
        · exact ⟨by simp [hnbrs, hn], by simpa [Node.nbrs] using hpr.mem_iff.2 hn⟩)
    rw [filter_ignore_single, hfilter] at heqO2
    have heqB := equivLoop_relabel_bra ⟨some 0, ks.map Tree.id⟩ 0 (ks.map Tree.id) (0 :: ks.map Tree.id)
    have heqB2 := equivLoop_eq ⟨some 0, ks.map Tree.id⟩ ⟨some 0, ks.map Tree.id⟩ [0] id (0 :: ks.map Tree.id)
      (fun n hn hc => ⟨by simpa [hnbrs] using hn, by simpa [hnbrs] using hn⟩)
    rw [filter_ignore_single, hfilter] at heqB2
    have hbp0 : braP 0 = 0 := rfl
    rw [hbp0] at heqB
    have hopnn : (Node.mk none ((opKids r).map revKet)).nn = (opKids r).length := by simp [Node.nn, Node.nparents]
    have hbrann : (Node.mk (some 0) ((ks.map Tree.id).map (· + 1))).nn = ks.length + 1 := by
      simp [Node.nn, Node.nparents]
    -- the TTNO root has no neighbour for the TTNDO root: none of its virtual legs stays open
    have hopT := opTensor_dot (Leg.gKet r 0) (Leg.gKetPhys r) (Leg.gOpOut r) (Leg.gOpIn r)
      (fun n => Leg.gOp n r) (fun n => Leg.gBra n r) (Leg.gOp r) (ks.map Tree.id) (opKids r) id (soKidsBinds r ks)
      (by rwa [List.map_id]) (hpr.nodup_iff.2 hKnd) (fun n hn => hpr.mem_iff.2 hn)
    rw [List.filter_eq_nil_iff.2 (fun m hm => by simpa using hpr.mem_iff.1 hm)] at hopT
    -- of the bra tensor the leg toward the TTNDO root stays open
    have hbrT := braTensor_dot (Leg.gKet r 0) (Leg.gOpOut r) (Leg.gBraPhys r) (fun n => Leg.gBra n r) (Leg.gBra r)
      (ks.map Tree.id) (0 :: ks.map Tree.id) id []
      (soKidsBinds r ks ++ ((ks.map Tree.id).map (fun n => (Leg.gOp n r, Leg.gOp r n)) ++ [(Leg.gKetPhys r, Leg.gOpIn r)]))
      (by rwa [List.map_id]) (List.nodup_cons.2 ⟨hK0, hKnd⟩) (fun n hn => List.mem_cons_of_mem _ hn)
    rw [List.map_id, List.filter_cons, if_pos (by simpa using hK0),
      List.filter_eq_nil_iff.2 (fun m hm => by simpa using hm)] at hbrT
    have hrange : List.range' 1 ks.length ++ [ks.length + 0 + 1] = List.range' 1 (ks.length + 1) := by
      rw [List.range'_concat]; simp; omega
    simp only [List.length_map, List.length_cons, List.length_nil, List.map_nil, id, hrange] at hopT hbrT
    simp only [hne, if_false, hrootdo, contractAllButOneNeighbourBlockToKet, gKetT,
      contractOperatorTensorIgnoringOneLeg, getEquivalentLegs, heqO, heqO2, hnnK, Nat.add_sub_cancel,
      nodeOperatorInputLeg, hopnn, gOpT, Node.nbrs, Option.toList_none, List.nil_append, List.cons_append,
      heqB, heqB2, hbrann, gBraT, Option.toList_some, List.map_cons,
      id]
    simp only [List.map_cons, List.cons_append, List.nil_append, T.fresh] at hab hopT hbrT ⊢
    simp only [hab, hopT, hbrT]
    have hne2 : ks.isEmpty = false := by
      cases ks with
      | nil => exact absurd rfl hks
      | cons _ _ => rfl
    simp [hne2, soBlockBinds, opEdge, braEdge, physIn, physOut, List.map_map]
    rfl

theorem ttndoTtno_eq (kt : Tree) (opKids : Nat → List Nat) (hnd : kt.ids.Nodup) (hodd : ∀ k ∈ kt.ids, k % 2 = 1)
    (hperm : ∀ e ∈ Tree.info none kt, (opKids e.1).Perm e.2.2) :
    ttndoTtnoExpectationValue (ttndoNetK kt) (ttnoNetK kt opKids) = some ⟨[], teBinds kt⟩ := by
  obtain ⟨r, ks⟩ := kt
  obtain ⟨d, hd1, hd2⟩ := ttndoNetK_teLoop r ks opKids hnd hodd hperm
  have hfinal := ttndoNetK_rootStep r ks opKids hnd hodd hperm d hd2
  have horder : contractionOrder (ttndoNetK (.node r ks)) = Tree.postL ks ++ [r] :=
    contractionOrder_ttndoNetK (.node r ks) hodd
  have hdrop : (Tree.postL ks ++ [r]).dropLast = Tree.postL ks := List.dropLast_concat
  simp only [ttndoTtnoExpectationValue, horder, hdrop, hd1, hfinal]
  rw [contractFinalBlock_eq _ r (hodd r (by simp [Tree.ids])) rfl (ttndo_root_lookup _).1 (ttndo_root_lookup _).2]
  rfl

theorem count_unord (x : Leg × Leg) (l : List (Leg × Leg)) : (unord l).count x = l.count x + l.count x.swap := by
  simp [unord, List.count_append, count_map_swap]

theorem swap_beq (p x : Leg × Leg) : (p.swap == x) = (p == x.swap) := by
  obtain ⟨p1, p2⟩ := p
  obtain ⟨x1, x2⟩ := x
  show ((p2 == x1) && (p1 == x2)) = ((p1 == x2) && (p2 == x1))
  exact Bool.and_comm _ _

/-- up to the orientation of the pairs (the single-site routine binds its two the other way round) that record is `soSpec` plus
the root pairs: the second clause of `ttndo_ttno_graph` -/
theorem teBinds_perm (kt : Tree) :
    (unord (teBinds kt)).Perm (unord (soSpec kt ++
      [(rootKetLeg, Leg.gKet kt.id 0), (rootBraLeg, Leg.gBra kt.id 0)])) := by
  rw [List.perm_iff_count]
  intro x
  obtain ⟨r, ks⟩ := kt
  have hid : (Tree.node r ks).id = r := rfl
  have hkids : (Tree.node r ks).kids = ks := rfl
  rw [count_unord, count_unord]
  simp only [teBinds, hid, hkids, List.count_append]
  cases ks with
  | nil =>
    have e1 := swap_beq (physOut r) x
    have e2 := swap_beq (physIn r) x
    have e3 := swap_beq (physOut r) x.swap
    have e4 := swap_beq (physIn r) x.swap
    rw [Prod.swap_swap] at e3 e4
    simp only [List.isEmpty_nil, if_true, soSpec, soSpecL, List.count_cons, List.count_nil, e1, e2, e3, e4]
    omega
  | cons c cs =>
    have h1 := count_soBlockBinds x (.node r (c :: cs))
    have h2 := count_soBlockBinds x.swap (.node r (c :: cs))
    simp only [List.isEmpty_cons, Bool.false_eq_true, if_false, h1, h2]

end Ptn.C16.Ttndo
