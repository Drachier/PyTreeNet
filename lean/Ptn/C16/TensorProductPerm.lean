import Ptn.C16.TensorProductAbsorb
/-! The record of `trace_ttndo` after the absorptions (`tpBlockBinds`, in the code's order) is the specification graph
`tpSpec` up to order, every tree, every list of distinct sites of the tree; and the top-level statement about
`tensorProductExpectationValue`. -/
namespace Ptn.C16.Ttndo
open Ptn.C04

theorem tpY_pair (sites : List Nat) (i : Nat) : (tpY sites i, Leg.gBraPhys i) = tpPhysPair sites i := by
  unfold tpY tpPhysPair
  by_cases h : i ∈ sites <;> simp [h]

mutual
theorem count_tpBlockBinds (sites : List Nat) (x : Leg × Leg) : ∀ t : Tree,
    (tpBlockBinds sites t).count x =
      (t.ids.flatMap (tpPre sites)).count x + (t.ids.map (tpPhysPair sites)).count x +
      (t.edges.map fun e => ketEdge e.1 e.2).count x + (t.edges.map fun e => braEdge e.1 e.2).count x
  | .node i ks => by
    have := count_tpKidsBinds sites x i ks
    simp only [tpBlockBinds, tpY_pair, Tree.ids, Tree.edges, List.flatMap_cons, List.map_cons, List.count_append,
      List.count_cons, List.count_nil]
    omega
theorem count_tpKidsBinds (sites : List Nat) (x : Leg × Leg) (i : Nat) : ∀ ts : List Tree,
    (tpKidsBinds sites i ts).count x + (ts.map fun c => braEdge i c.id).count x =
      ((Tree.idsL ts).flatMap (tpPre sites)).count x + ((Tree.idsL ts).map (tpPhysPair sites)).count x +
      ((Tree.edgesL i ts).map fun e => ketEdge e.1 e.2).count x +
      ((Tree.edgesL i ts).map fun e => braEdge e.1 e.2).count x
  | [] => by simp [tpKidsBinds, Tree.idsL, Tree.edgesL]
  | c :: cs => by
    have h1 := count_tpBlockBinds sites x c
    have h2 := count_tpKidsBinds sites x i cs
    simp only [tpKidsBinds, Tree.idsL, Tree.edgesL, List.flatMap_append, List.map_append, List.map_cons,
      List.count_append, List.count_cons, List.count_nil]
    omega
end

theorem flatMap_tpPre (sites : List Nat) : ∀ l : List Nat,
    l.flatMap (tpPre sites) = (l.filter (· ∈ sites)).map fun s => (Leg.gKetPhys s, Leg.gOpIn s)
  | [] => rfl
  | a :: l => by
    simp only [List.flatMap_cons, flatMap_tpPre sites l, tpPre, List.filter_cons]
    by_cases h : a ∈ sites <;> simp [h]

theorem tpPre_perm (sites ids : List Nat) (hs : sites.Nodup) (hi : ids.Nodup) (hin : ∀ s ∈ sites, s ∈ ids) :
    (ids.flatMap (tpPre sites)).Perm (tpAbsorbed sites) := by
  rw [flatMap_tpPre, tpAbsorbed]
  apply List.Perm.map
  rw [List.perm_ext_iff_of_nodup (hi.filter _) hs]
  intro a
  simp only [List.mem_filter, decide_eq_true_eq]
  exact ⟨fun h => h.2, fun h => ⟨hin a h, h⟩⟩

theorem tpBlockBinds_perm (kt : Tree) (hnd : kt.ids.Nodup) (sites : List Nat) (hs : sites.Nodup)
    (hin : ∀ s ∈ sites, s ∈ kt.ids) :
    (tpBlockBinds sites kt ++ [(rootKetLeg, Leg.gKet kt.id 0), (rootBraLeg, Leg.gBra kt.id 0)]).Perm
      (tpSpec kt sites) := by
  unfold tpSpec
  apply List.Perm.append_right
  have h1 : (tpBlockBinds sites kt).Perm
      (kt.ids.flatMap (tpPre sites) ++ kt.ids.map (tpPhysPair sites) ++
        (kt.edges.map fun e => ketEdge e.1 e.2) ++ (kt.edges.map fun e => braEdge e.1 e.2)) := by
    rw [List.perm_iff_count]
    intro x
    rw [count_tpBlockBinds]
    simp only [List.count_append]
  exact h1.trans (List.Perm.append_right _ (List.Perm.append_right _
    (List.Perm.append_right _ (tpPre_perm sites kt.ids hs hnd hin))))

theorem tensorProductExpectationValue_eq (nd : Net) (sites : List Nat) :
    tensorProductExpectationValue nd sites = (absorbAll sites nd).bind traceTtndo := by
  cases sites with
  | nil => rfl
  | cons s rest =>
    simp only [tensorProductExpectationValue, List.length_cons, Nat.add_one_ne_zero, if_false]
    cases absorbAll (s :: rest) nd <;> rfl

/-- `tensor_product_expectation_value` on the TTNDO of the ket tree `kt`, distinct sites of the tree: the record in the
code's order -/
theorem tensorProduct_eq (kt : Tree) (hnd : kt.ids.Nodup) (hodd : ∀ k ∈ kt.ids, k % 2 = 1) (sites : List Nat)
    (hs : sites.Nodup) (hin : ∀ s ∈ sites, s ∈ kt.ids) :
    tensorProductExpectationValue (ttndoNetK kt) sites =
      some ⟨[], tpBlockBinds sites kt ++ [(rootKetLeg, Leg.gKet kt.id 0), (rootBraLeg, Leg.gBra kt.id 0)]⟩ := by
  obtain ⟨nd, h1, h2, h3, h4, h5, h6, h7⟩ := absorbAll_ttndo kt hnd hodd sites hs hin
  rw [tensorProductExpectationValue_eq, h1]
  exact tpTrace_eq sites kt hnd hodd nd h2 h3 h4 h5 h6 h7

end Ptn.C16.Ttndo
