import Ptn.C04.BuiltTree
import Ptn.C16.TtndoModel
/-! Provenance, one lemma per function of `TtndoModel.lean`: if the call succeeds and its tensor arguments (and the
dictionary entries it may read) are built (`Ptn.C04.Built`) from given leaf tensors, the result is built — by the `tensordot`
calls the function performs — from exactly the leaves it consumed.  Rests on `Ptn/C04/BuiltFns.lean` for the C04 helpers the
routines call.  `BuiltTree.lean` uses `contractTtnoRoot_built` (with `singleSiteContraction_built`); the lemmas about the loop
steps and `_contract_final_block` say what these functions do but are not on its route (see its head). -/
namespace Ptn.C16.Ttndo
open Ptn.C04 Ptn.Ein

variable {R : Type}


theorem transpose2_built {t r : T} {ls : List (LeafT R)} (h : transpose2 t = some r) (ht : BuiltL t ls) :
    BuiltL r ls := by
  unfold transpose2 at h
  split at h
  · rename_i a b hab
    simp only [Option.some.injEq] at h
    subst h
    exact BuiltL.transpose ht (by rw [hab]; exact List.Perm.swap _ _ _)
  · simp at h

theorem singleSiteContraction_built {ket op bra r : T} {lk lo lb : List (LeafT R)}
    (h : singleSiteContraction ket op bra = some r) (hk : BuiltL ket lk) (ho : BuiltL op lo) (hb : BuiltL bra lb) :
    BuiltL r ((lb ++ lo) ++ lk) := by
  unfold singleSiteContraction at h
  split at h
  · simp at h
  · split at h
    · rename_i braOp ketT hbo hkt
      split at h
      · simp at h
      · rename_i block hblock
        exact transpose2_built h (BuiltL.dot (BuiltL.dot hb ho hbo) (transpose2_built hkt hk) hblock)
    · simp at h

/-- what a successful call of `_contract_final_block` did: it looked up the root node and its tensor, the ket
child, the two legs toward the ket and the bra child, called `tensordot(root, block, ([l1, l2], [0, 1]))` and
returned the result with its first leg indexed away -/
theorem contractFinalBlock_some {ttndo : Net} {fb r : T} (h : contractFinalBlock ttndo fb = some r) :
    ∃ (rootNode : Node) (rt : T) (fk l1 l2 : Nat) (r' : T) (x : Leg),
      ttndo.node ttndo.root = some rootNode ∧ ttndo.tensor ttndo.root = some rt ∧
      rootNode.children.find? isKet = some fk ∧ rootNode.neighbourIndex fk = some l1 ∧
      rootNode.neighbourIndex (ketToBra fk) = some l2 ∧
      tensordot rt fb [l1, l2] [0, 1] = some r' ∧ r'.legs = x :: r.legs ∧ r'.binds = r.binds := by
  unfold contractFinalBlock at h
  split at h
  · rename_i rootNode rootTensor hn ht
    split at h
    · simp at h
    · split at h
      · simp at h
      · rename_i fk hfk
        split at h
        · rename_i l1 l2 hl1 hl2
          split at h
          · simp at h
          · rename_i r' hr'
            split at h
            · simp at h
            · rename_i x rest hlegs
              simp only [Option.some.injEq] at h
              subst h
              exact ⟨rootNode, rootTensor, fk, l1, l2, r', x, hn, ht, hfk, hl1, hl2, hr', hlegs, rfl⟩
        · simp at h
  · simp at h

/-- the `tensordot` result `r'` (whose first leg `x` is indexed away by the routine: `contraction_result[0]`) is
built from the root tensor and the final block -/
theorem contractFinalBlock_built {ttndo : Net} {fb r : T} {lr lf : List (LeafT R)}
    (h : contractFinalBlock ttndo fb = some r)
    (hroot : ∀ rt, ttndo.tensor ttndo.root = some rt → BuiltL rt lr) (hf : BuiltL fb lf) :
    ∃ (rootNode : Node) (rt : T) (fk l1 l2 : Nat) (r' : T) (x : Leg),
      ttndo.node ttndo.root = some rootNode ∧ ttndo.tensor ttndo.root = some rt ∧
      rootNode.children.find? isKet = some fk ∧ rootNode.neighbourIndex fk = some l1 ∧
      rootNode.neighbourIndex (ketToBra fk) = some l2 ∧
      tensordot rt fb [l1, l2] [0, 1] = some r' ∧ r'.legs = x :: r.legs ∧ r'.binds = r.binds ∧
      BuiltL r' (lr ++ lf) := by
  obtain ⟨rn, rt, fk, l1, l2, r', x, hn, ht, hfk, hl1, hl2, hr', hlegs, hbinds⟩ := contractFinalBlock_some h
  exact ⟨rn, rt, fk, l1, l2, r', x, hn, ht, hfk, hl1, hl2, hr', hlegs, hbinds, BuiltL.dot (hroot rt ht) hf hr'⟩

/-- the new dictionary entry is built from the two tensors of the ket node and its bra copy and the blocks of
the ket node's children; every other entry was there before -/
theorem trStep_built {ttndo : Net} {d d' : Dict} {k : Nat} {l1 l2 : List (LeafT R)} {lv : Nat → List (LeafT R)}
    (h : trStep ttndo d k = some d')
    (h1 : ∀ t1, ttndo.tensor k = some t1 → BuiltL t1 l1)
    (h2 : ∀ t2, ttndo.tensor (ketToBra k) = some t2 → BuiltL t2 l2)
    (hc : ∀ n1, ttndo.node k = some n1 → ∀ p, n1.parent = some p → ∀ n ∈ n1.nbrs, n ≠ p →
      ∀ blk, d (n, k) = some blk → BuiltL blk (lv n)) :
    ∃ n1 p, ttndo.node k = some n1 ∧ n1.parent = some p ∧ ∀ key blk, d' key = some blk →
      (key = (k, p) ∧
        BuiltL blk ((l1 ++ (if n1.isLeaf then [] else (n1.nbrs.filter (· ≠ p)).flatMap lv)) ++ l2)) ∨
      (key ≠ (k, p) ∧ d key = some blk) := by
  unfold trStep at h
  split at h
  · rename_i ketNode ketTensor braNode braTensor hkn hkt hbn hbt
    split at h
    · simp at h
    · rename_i p hp
      split at h
      · simp at h
      · rename_i block hblock
        have hb := contractAnyNodes_built (lv := lv) hblock (h1 ketTensor hkt) (h2 braTensor hbt)
          (fun n hn hne blk hblk => hc ketNode hkn p hp n hn hne blk hblk)
        refine ⟨ketNode, p, hkn, hp, fun key blk hk => ?_⟩
        rcases Dict.add_deleteAll_some h hk with ⟨e, rfl⟩ | h'
        · exact Or.inl ⟨e, hb⟩
        · exact Or.inr h'
  · simp at h


theorem teStep_built {ttndo ttno : Net} {d d' : Dict} {k : Nat} {l1 l2 l3 : List (LeafT R)}
    {lv : Nat → List (LeafT R)} (h : teStep ttndo ttno d k = some d')
    (h1 : ∀ t1, ttndo.tensor k = some t1 → BuiltL t1 l1)
    (h2 : ∀ t2, ttno.tensor (revKet k) = some t2 → BuiltL t2 l2)
    (h3 : ∀ t3, ttndo.tensor (ketToBra k) = some t3 → BuiltL t3 l3)
    (hc : ∀ n1, ttndo.node k = some n1 → ∀ p, n1.parent = some p → ∀ n ∈ n1.nbrs, n ≠ p →
      ∀ blk, d (n, k) = some blk → BuiltL blk (lv n)) :
    ∃ n1 p, ttndo.node k = some n1 ∧ n1.parent = some p ∧ ∀ key blk, d' key = some blk →
      (key = (k, p) ∧
        BuiltL blk (((l1 ++ (if n1.isLeaf then [] else (n1.nbrs.filter (· ≠ p)).flatMap lv)) ++ l2) ++ l3)) ∨
      (key ≠ (k, p) ∧ d key = some blk) := by
  unfold teStep at h
  split at h
  · rename_i ketNode ketTensor braNode braTensor opNode opTensor hkn hkt hbn hbt hon hot
    split at h
    · simp at h
    · rename_i p hp
      split at h
      · simp at h
      · rename_i block hblock
        have hb := opContractAnyNodeEnvironmentButOne_built (lv := lv) hblock (h1 ketTensor hkt)
          (h2 opTensor hot) (h3 braTensor hbt)
          (fun n hn hne blk hblk => hc ketNode hkn p hp n hn hne blk hblk)
        refine ⟨ketNode, p, hkn, hp, fun key blk hk => ?_⟩
        rcases Dict.add_deleteAll_some h hk with ⟨e, rfl⟩ | h'
        · exact Or.inl ⟨e, hb⟩
        · exact Or.inr h'
  · simp at h


/-- the block of the root site: built from the three tensors of the root site (ket copy, operator, bra copy) and —
unless the tree has a single node — the blocks of all neighbours of the ket copy except the TTNDO root -/
theorem contractTtnoRoot_built {ttndo ttno : Net} {n : Nat} {d : Dict} {emp : Bool} {r : T}
    {lk lo lb : List (LeafT R)} {lv : Nat → List (LeafT R)}
    (h : contractTtnoRoot ttndo ttno n d emp = some r)
    (hk : ∀ t1, ttndo.tensor (ketOf ttno.root) = some t1 → BuiltL t1 lk)
    (ho : ∀ t2, ttno.tensor ttno.root = some t2 → BuiltL t2 lo)
    (hb : ∀ t3, ttndo.tensor (braOf ttno.root) = some t3 → BuiltL t3 lb)
    (hc : ∀ n1, ttndo.node (ketOf ttno.root) = some n1 → ∀ m ∈ n1.nbrs, m ≠ ttndo.root →
      ∀ blk, d (m, ketOf ttno.root) = some blk → BuiltL blk (lv m)) :
    ∃ n1, ttndo.node (ketOf ttno.root) = some n1 ∧
      BuiltL r (if n = 1 then (lb ++ lo) ++ lk
        else ((lk ++ (n1.nbrs.filter (· ≠ ttndo.root)).flatMap lv) ++ lo) ++ lb) := by
  unfold contractTtnoRoot at h
  simp only at h
  split at h
  · rename_i rootNode rootTensor ketNode ketTensor braNode braTensor hrn hrt hkn hkt hbn hbt
    refine ⟨ketNode, hkn, ?_⟩
    by_cases hn : n = 1
    · rw [if_pos hn] at h ⊢
      split at h
      · simp at h
      · exact singleSiteContraction_built h (hk _ hkt) (ho _ hrt) (hb _ hbt)
    · rw [if_neg hn] at h ⊢
      split at h
      · simp at h
      · rename_i ketblock hkb
        split at h
        · simp at h
        · rename_i ketopblock hkob
          split at h
          · simp at h
          · have h1 : BuiltL ketblock (lk ++ (ketNode.nbrs.filter (· ≠ ttndo.root)).flatMap lv) :=
              allButOneLoop_built (lv := lv) _ _ _ _ hkb (hk _ hkt)
                (fun m hm hne blk hblk => hc ketNode hkn m hm hne blk hblk)
            have h2 := contractOperatorTensorIgnoringOneLeg_built hkob h1 (ho _ hrt)
            exact BuiltL.dot h2 (hb _ hbt) h
  · simp at h


theorem traceTtndo_some {ttndo : Net} {r : T} (h : traceTtndo ttndo = some r) :
    ∃ d finalKet fb, trLoop ttndo (contractionOrder ttndo) Dict.empty = some d ∧
      (contractionOrder ttndo).getLast? = some finalKet ∧ d (finalKet, ttndo.root) = some fb ∧
      contractFinalBlock ttndo fb = some r := by
  unfold traceTtndo at h
  split at h
  · simp at h
  · simp only at h
    split at h
    · simp at h
    · rename_i d hd
      split at h
      · simp at h
      · rename_i fk hfk
        split at h
        · simp at h
        · rename_i fb hfb
          exact ⟨d, fk, fb, hd, hfk, hfb, h⟩

theorem ttndoTtno_some {ttndo ttno : Net} {r : T} (h : ttndoTtnoExpectationValue ttndo ttno = some r) :
    ∃ d fb, teLoop ttndo ttno (contractionOrder ttndo).dropLast Dict.empty = some d ∧
      contractTtnoRoot ttndo ttno ttno.order.length d (contractionOrder ttndo).dropLast.isEmpty = some fb ∧
      contractFinalBlock ttndo fb = some r := by
  unfold ttndoTtnoExpectationValue at h
  simp only at h
  split at h
  · simp at h
  · rename_i d hd
    split at h
    · simp at h
    · rename_i fb hfb
      exact ⟨d, fb, hd, hfb, h⟩

end Ptn.C16.Ttndo
