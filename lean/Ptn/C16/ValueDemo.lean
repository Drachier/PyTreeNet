import Ptn.C16.TtndoTop
import Ptn.C16.Value
/-! A concrete instance for the non-vacuity examples of the value-level theorems of C16: the state tree
`0 — 1` (ket tree `1 — 3`), integer node tensors that read every one of their legs, the root tensor
`eye(d).reshape(d, d, 1)` with `d = 3`, the padded root bond, and the contraction programs in the order in which
`trace_ttndo` / `ttndo_ttno_expectation_value` perform their `tensordot` calls. -/
namespace Ptn.C16.Ttndo.Demo

open Ptn.C04 Ptn.Ein Ptn.C16.Val

def leaf2 (a b : Leg) (g : Nat → Nat → Int) : Expr Leg Int :=
  .leaf [a, b] (fun σ => g (σ a) (σ b))
def leaf3 (a b c : Leg) (g : Nat → Nat → Nat → Int) : Expr Leg Int :=
  .leaf [a, b, c] (fun σ => g (σ a) (σ b) (σ c))

theorem leaf2_local (a b : Leg) (g : Nat → Nat → Int) :
    DependsOn (· ∈ [a, b]) (fun σ : Asg Leg => g (σ a) (σ b)) := by
  intro σ τ h
  show g (σ a) (σ b) = g (τ a) (τ b)
  rw [h a (by simp), h b (by simp)]

theorem leaf3_local (a b c : Leg) (g : Nat → Nat → Nat → Int) :
    DependsOn (· ∈ [a, b, c]) (fun σ : Asg Leg => g (σ a) (σ b) (σ c)) := by
  intro σ τ h
  show g (σ a) (σ b) (σ c) = g (τ a) (τ b) (τ c)
  rw [h a (by simp), h b (by simp), h c (by simp)]

/-- the state tree `0 — 1`; its ket tree is `1 — 3` -/
def st : Tree := .node 0 [.node 1 []]
def kt : Tree := ketTree st

/-- root of the state, padded on its root bond (index `r` of the new leading axis): zero for `r ≥ 1` -/
def gRoot (r b p : Nat) : Int := if r = 0 then (b : Int) + 2 * (p : Int) + 1 else 0
def gLeaf (b p : Nat) : Int := 3 * (b : Int) - (p : Int) + 1
def gOp1 (b o i : Nat) : Int := (b : Int) + 2 * (o : Int) - (i : Int) + 1
def gOp3 (b o i : Nat) : Int := if o = i then 1 else (b : Int) + 2

def k1 : Expr Leg Int := leaf3 (.gKet 1 0) (.gKet 1 3) (.gKetPhys 1) gRoot
def k3 : Expr Leg Int := leaf2 (.gKet 3 1) (.gKetPhys 3) gLeaf
/-- the bra copies carry the same (real) entries: conj of the ket tensors -/
def b1 : Expr Leg Int := leaf3 (.gBra 1 0) (.gBra 1 3) (.gBraPhys 1) gRoot
def b3 : Expr Leg Int := leaf2 (.gBra 3 1) (.gBraPhys 3) gLeaf
def o1 : Expr Leg Int := leaf3 (.gOp 1 3) (.gOpOut 1) (.gOpIn 1) gOp1
def o3 : Expr Leg Int := leaf3 (.gOp 3 1) (.gOpOut 3) (.gOpIn 3) gOp3

def rt : Expr Leg Int := .leaf rootLegs eyeRoot

def K : Expr Leg Int := .dot k1 k3 [ketEdge 1 3]
def B : Expr Leg Int := .dot b3 b1 [braEdge 1 3]
def O : Expr Leg Int := .dot o3 o1 [opEdge 1 3]

/-- the `tensordot` calls of `trace_ttndo`: block of the leaf, then the root copy, then the root tensor -/
def trProg : Expr Leg Int :=
  .dot rt (.dot (.dot k1 (.dot k3 b3 [physPair 3]) [ketEdge 1 3]) b1 [braEdge 1 3, physPair 1]) (rootPairs kt)

/-- the `tensordot` calls of `ttndo_ttno_expectation_value` -/
def teProg : Expr Leg Int :=
  .dot rt (.dot (.dot (.dot k1 (.dot (.dot k3 o3 [physIn 3]) b3 [physOut 3]) [ketEdge 1 3]) o1
    [opEdge 1 3, physIn 1]) b1 [braEdge 1 3, physOut 1]) (rootPairs kt)

/-- root bond dimension 3, everything else 2 (the open leg of the root tensor has dimension 1) -/
def dim : Leg → Nat
  | .blkKet 0 => 3 | .blkBra 0 => 3 | .gKet 1 0 => 3 | .gBra 1 0 => 3 | .blkOp 0 => 1
  | _ => 2

theorem local_leaf {L R : Type} {legs : List L} {v : Asg L → R} (h : DependsOn (· ∈ legs) v) :
    (Expr.leaf legs v).LeavesLocal := fun lf hlf => by
  rw [List.mem_singleton.1 hlf]; exact h

theorem local_dot {L R : Type} {a b : Expr L R} {ps : List (L × L)} (ha : a.LeavesLocal) (hb : b.LeavesLocal) :
    (Expr.dot a b ps).LeavesLocal := fun lf hlf => (List.mem_append.1 hlf).elim (ha lf) (hb lf)

theorem k1_local : k1.LeavesLocal := local_leaf (leaf3_local _ _ _ _)
theorem k3_local : k3.LeavesLocal := local_leaf (leaf2_local _ _ _)
theorem b1_local : b1.LeavesLocal := local_leaf (leaf3_local _ _ _ _)
theorem b3_local : b3.LeavesLocal := local_leaf (leaf2_local _ _ _)
theorem o1_local : o1.LeavesLocal := local_leaf (leaf3_local _ _ _ _)
theorem o3_local : o3.LeavesLocal := local_leaf (leaf3_local _ _ _ _)
theorem rt_local : rt.LeavesLocal := local_leaf eyeRoot_local

section

local instance pairsOKDec {L R : Type} [DecidableEq L] : (e : Expr L R) → Decidable e.PairsOK
  | .leaf _ _ => isTrue trivial
  | .dot a b _ =>
    have := pairsOKDec a
    have := pairsOKDec b
    inferInstanceAs (Decidable (_ ∧ _ ∧ _ ∧ _ ∧ _))

/-- the locality of the leaves follows the nesting of the program; labels and pairs are decided -/
theorem trProg_swf : trProg.SWF :=
  Expr.swf_of_clean trProg (by decide +kernel)
    (local_dot rt_local (local_dot (local_dot k1_local (local_dot k3_local b3_local)) b1_local))
    (by decide +kernel)

theorem teProg_swf : teProg.SWF :=
  Expr.swf_of_clean teProg (by decide +kernel)
    (local_dot rt_local (local_dot (local_dot (local_dot k1_local
      (local_dot (local_dot k3_local o3_local) b3_local)) o1_local) b1_local))
    (by decide +kernel)

theorem K_swf : K.SWF :=
  Expr.swf_of_clean K (by decide +kernel) (local_dot k1_local k3_local) (by decide +kernel)

theorem B_swf : B.SWF :=
  Expr.swf_of_clean B (by decide +kernel) (local_dot b3_local b1_local) (by decide +kernel)

theorem O_swf : O.SWF :=
  Expr.swf_of_clean O (by decide +kernel) (local_dot o3_local o1_local) (by decide +kernel)

end

theorem kt_eq : kt = .node 1 [.node 3 []] := by
  simp [kt, st, ketTree, ketTree.ketTreeL, ketOf]

/-- the record the model of `trace_ttndo` produces on this tree -/
def trBinds : List (Leg × Leg) :=
  [physPair 3, ketEdge 1 3, braEdge 1 3, physPair 1, (rootKetLeg, .gKet 1 0), (rootBraLeg, .gBra 1 0)]

theorem trace_run : traceTtndo (ttndoNetK (ketTree st)) = some ⟨[], trBinds⟩ := by decide +kernel

theorem trace_hyps : TraceProgram (ketTree st) trBinds trProg K B eyeRoot where
  e_swf := trProg_swf
  K_wf := K_swf.wf
  B_wf := B_swf.wf
  root_local := eyeRoot_local
  disjoint := by decide +kernel
  root_fresh := by decide +kernel
  record := by decide +kernel
  K_bonds := by decide +kernel
  B_bonds := by decide +kernel
  phys_free := by decide +kernel
  rootK_free := by decide +kernel
  rootB_free := by decide +kernel
  leaves := by
    intro σ
    simp only [trProg, K, B, rt, k1, k3, b1, b3, leaf2, leaf3, Expr.leafProd, Expr.leaves, List.cons_append,
      List.nil_append, List.map_cons, List.map_nil, prodL]
    ring

/-- the TTNO has the same child order as the state -/
def opKids (k : Nat) : List Nat := if k = 1 then [3] else []

theorem opKids_perm : ∀ e ∈ Tree.info none (ketTree st), (opKids e.1).Perm e.2.2 := by decide +kernel

theorem ttno_run : ttndoTtnoExpectationValue (ttndoNetK (ketTree st)) (ttnoNetK (ketTree st) opKids) =
    some ⟨[], teBinds (ketTree st)⟩ := by decide +kernel

theorem ttno_hyps : TtnoProgram (ketTree st) (teBinds (ketTree st)) teProg K O B eyeRoot where
  e_swf := teProg_swf
  K_wf := K_swf.wf
  O_wf := O_swf.wf
  B_wf := B_swf.wf
  root_local := eyeRoot_local
  disjointKO := by decide +kernel
  disjointKB := by decide +kernel
  disjointOB := by decide +kernel
  root_fresh := by decide +kernel
  record := by decide +kernel
  K_bonds := by decide +kernel
  O_bonds := by decide +kernel
  B_bonds := by decide +kernel
  in_free := by decide +kernel
  out_free := by decide +kernel
  rootK_free := by decide +kernel
  rootB_free := by decide +kernel
  leaves := by
    intro σ
    simp only [teProg, K, O, B, rt, k1, k3, b1, b3, o1, o3, leaf2, leaf3, Expr.leafProd, Expr.leaves,
      List.cons_append, List.nil_append, List.map_cons, List.map_nil, prodL]
    ring

theorem dims_ok : ∀ p ∈ soSpec (ketTree st) ++ rootPairs (ketTree st), dim p.1 = dim p.2 := by decide +kernel

/-- the padded root tensors themselves: leaves of `K` / `B` that vanish off index 0 of the root-bond leg -/
theorem padded_tensors :
    K.SWF ∧ B.SWF ∧ Leg.gKet (ketTree st).id 0 ∈ K.free ∧ Leg.gBra (ketTree st).id 0 ∈ B.free ∧
    (∃ kl ∈ K.leaves, ∀ ρ : Asg Leg, ρ (Leg.gKet (ketTree st).id 0) ≠ 0 → kl.2 ρ = 0) ∧
    (∃ bl ∈ B.leaves, ∀ ρ : Asg Leg, ρ (Leg.gBra (ketTree st).id 0) ≠ 0 → bl.2 ρ = 0) ∧
    0 < dim rootKetLeg ∧ 0 < dim rootBraLeg := by
  refine ⟨K_swf, B_swf, by decide, by decide, ?_, ?_, by decide, by decide⟩
  · refine ⟨([.gKet 1 0, .gKet 1 3, .gKetPhys 1], fun σ => gRoot (σ (.gKet 1 0)) (σ (.gKet 1 3)) (σ (.gKetPhys 1))),
      ?_, ?_⟩
    · simp [K, k1, leaf3, Expr.leaves]
    · intro ρ h
      have h' : ρ (Leg.gKet 1 0) ≠ 0 := h
      simp [gRoot, h']
  · refine ⟨([.gBra 1 0, .gBra 1 3, .gBraPhys 1], fun σ => gRoot (σ (.gBra 1 0)) (σ (.gBra 1 3)) (σ (.gBraPhys 1))),
      ?_, ?_⟩
    · simp [B, b1, leaf3, Expr.leaves]
    · intro ρ h
      have h' : ρ (Leg.gBra 1 0) ≠ 0 := h
      simp [gRoot, h']

theorem upd_zero (a b : Leg) : upd (upd (fun _ => 0) a 0) b 0 = fun _ => 0 := by
  funext l; simp only [upd, ite_self]

theorem padded : PaddedRoot dim (ketTree st) K B :=
  let ⟨hK, hB, hgK, hgB, ⟨kl, hkl, hk⟩, ⟨bl, hbl, hb⟩, hdK, hdB⟩ := padded_tensors
  PaddedRoot.of_tensors dim _ K B hK hB hgK hgB kl bl hkl hbl hk hb hdK hdB

/-- the single-site operators of the non-vacuity example (non-symmetric, different per site) -/
def tpOD (s a x : Nat) : Int := (s : Int) + 2 * (a : Int) - (x : Int) + 1

end Ptn.C16.Ttndo.Demo
