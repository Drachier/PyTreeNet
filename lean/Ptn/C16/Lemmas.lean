import Ptn.C16.Model
/-! `from_ttns` as a sequence of `add_child_to_parent` operations (`applyOps`; `opsT`, `fromTtns_eq`), and what a valid
sequence does to a network (`applyOps_spec`). -/
namespace Ptn.C16

set_option linter.unusedSectionVars false

variable {α : Type} [DecidableEq α]


def applyOps : Net α → List (α × α) → Option (Net α)
  | net, [] => some net
  | net, (c, p) :: rest =>
    match net.addChild c p with
    | none => none
    | some net1 => applyOps net1 rest

theorem applyOps_append (net : Net α) (a b : List (α × α)) :
    applyOps net (a ++ b) = (applyOps net a).bind (fun n => applyOps n b) := by
  induction a generalizing net with
  | nil => simp [applyOps]
  | cons o rest ih =>
    obtain ⟨c, p⟩ := o
    simp only [List.cons_append, applyOps]
    cases net.addChild c p with
    | none => simp
    | some n1 => simp [ih]

/-- no call of the sequence raises: every child is new and every parent present, given the dict order so far -/
def validOps : List α → List (α × α) → Prop
  | _, [] => True
  | order, (c, p) :: rest => c ∉ order ∧ p ∈ order ∧ validOps (order ++ [c]) rest

theorem validOps_append (order : List α) (a b : List (α × α)) :
    validOps order (a ++ b) ↔ validOps order a ∧ validOps (order ++ a.map (·.1)) b := by
  induction a generalizing order with
  | nil => simp [validOps]
  | cons o rest ih =>
    obtain ⟨c, p⟩ := o
    simp only [List.cons_append, validOps, ih, List.map_cons, List.append_assoc]
    constructor
    · rintro ⟨h1, h2, h3, h4⟩; exact ⟨⟨h1, h2, h3⟩, h4⟩
    · rintro ⟨⟨h1, h2, h3⟩, h4⟩; exact ⟨h1, h2, h3, h4⟩

theorem validOps_fresh (order : List α) (ops : List (α × α)) (hv : validOps order ops) :
    ∀ y, y ∈ ops.map (·.1) → y ∉ order := by
  induction ops generalizing order with
  | nil => simp
  | cons o rest ih =>
    obtain ⟨c, p⟩ := o
    obtain ⟨hc, _, hr⟩ := hv
    intro y hy
    simp only [List.map_cons, List.mem_cons] at hy
    rcases hy with rfl | hy
    · exact hc
    · intro hmem
      exact ih (order ++ [c]) hr y hy (by simp [hmem])

/-- what the sequence appends to the child list of `x` -/
def childOps (x : α) (ops : List (α × α)) : List α := (ops.filter (fun o => o.2 = x)).map (·.1)

theorem childOps_append (x : α) (a b : List (α × α)) : childOps x (a ++ b) = childOps x a ++ childOps x b := by
  simp [childOps]

theorem childOps_cons (x : α) (c p : α) (rest : List (α × α)) :
    childOps x ((c, p) :: rest) = (if p = x then [c] else []) ++ childOps x rest := by
  by_cases h : p = x <;> simp [childOps, h]

theorem applyOps_spec (net : Net α) (ops : List (α × α)) (hv : validOps net.order ops) :
    ∃ net', applyOps net ops = some net' ∧
      net'.order = net.order ++ ops.map (·.1) ∧
      (∀ x, x ∉ ops.map (·.1) → net'.parent x = net.parent x) ∧
      (∀ c p, (c, p) ∈ ops → (ops.map (·.1)).Nodup → net'.parent c = some p) ∧
      (∀ x, net'.children x =
        (if x ∈ ops.map (·.1) then [] else net.children x) ++ childOps x ops) := by
  induction ops generalizing net with
  | nil => exact ⟨net, rfl, by simp, by simp, by simp, by simp [childOps]⟩
  | cons o rest ih =>
    obtain ⟨c, p⟩ := o
    obtain ⟨hc, hp, hrest⟩ := hv
    let net1 : Net α :=
      { order := net.order ++ [c]
        parent := fun x => if x = c then some p else net.parent x
        children := fun x => if x = p then net.children p ++ [c] else if x = c then [] else net.children x }
    have hadd : net.addChild c p = some net1 := by
      simp [Net.addChild, hc, hp, net1]
    obtain ⟨net', h1, h2, h3, h4, h5⟩ := ih net1 hrest
    simp only [net1] at h2 h3 h5
    refine ⟨net', by simp [applyOps, hadd, h1], by simp [h2], ?_, ?_, ?_⟩
    · intro x hx
      simp only [List.map_cons, List.mem_cons, not_or] at hx
      rw [h3 x hx.2]
      simp [hx.1]
    · intro c' p' hmem hnd
      simp only [List.map_cons, List.nodup_cons] at hnd
      simp only [List.mem_cons, Prod.mk.injEq] at hmem
      rcases hmem with ⟨rfl, rfl⟩ | hmem
      · rw [h3 c' hnd.1]; simp
      · exact h4 c' p' hmem hnd.2
    · intro x
      rw [h5 x, childOps_cons]
      -- the new identifiers of `rest` are not in `net.order ++ [c]`
      have hfresh := validOps_fresh (net.order ++ [c]) rest hrest
      by_cases hxc : x = c
      · subst hxc
        have hxp : ¬ x = p := fun e => hc (e ▸ hp)
        have hxr : x ∉ rest.map (·.1) := fun hy => hfresh x hy (by simp)
        have hpx : ¬ p = x := fun e => hxp e.symm
        simp [hxr, hxp, hpx]
      · by_cases hxp : x = p
        · subst hxp
          have hxr : x ∉ rest.map (·.1) := fun hy => hfresh x hy (by simp [hp])
          simp [hxr, hxc]
        · have hpx : ¬ p = x := fun e => hxp e.symm
          by_cases hm : x ∈ rest.map (·.1)
          · have hm' : x ∈ ((c, p) :: rest).map (·.1) := by
              simp only [List.map_cons, List.mem_cons]; exact Or.inr hm
            simp only [if_pos hm, if_pos hm', if_neg hpx]
            simp
          · have hm' : x ∉ ((c, p) :: rest).map (·.1) := by
              simp only [List.map_cons, List.mem_cons, not_or]; exact ⟨hxc, hm⟩
            simp only [if_neg hm, if_neg hm', if_neg hxp, if_neg hxc, if_neg hpx]
            simp


mutual
/-- the operations of `recAddNode … (parent copies pk, pb) t` -/
def opsT (ket bra : α → α) (r : α) (pk pb : α) : Tree α → List (α × α)
  | .node i ks =>
    (ket i, pk) :: (bra i, pb) :: opsL ket bra r (if i = r then r else ket i) (if i = r then r else bra i) ks
def opsL (ket bra : α → α) (r : α) (pk pb : α) : List (Tree α) → List (α × α)
  | [] => []
  | t :: ts => opsT ket bra r pk pb t ++ opsL ket bra r pk pb ts
end

theorem addSymmetric_eq (ket bra : α → α) (r : α) (net : Net α) (i p : α) :
    addSymmetric ket bra r net i p =
      applyOps net [(ket i, if p = r then r else ket p), (bra i, if p = r then r else bra p)] := by
  simp only [addSymmetric, applyOps]
  cases net.addChild (ket i) (if p = r then r else ket p) with
  | none => rfl
  | some n1 =>
    dsimp only
    cases n1.addChild (bra i) (if p = r then r else bra p) <;> rfl

mutual
theorem recAddNode_eq (ket bra : α → α) (r : α) (p : α) :
    ∀ (t : Tree α) (net : Net α), recAddNode ket bra r net p t =
      applyOps net (opsT ket bra r (if p = r then r else ket p) (if p = r then r else bra p) t)
  | .node i ks, net => by
    simp only [recAddNode, opsT, addSymmetric_eq]
    have h := applyOps_append net [(ket i, if p = r then r else ket p), (bra i, if p = r then r else bra p)]
      (opsL ket bra r (if i = r then r else ket i) (if i = r then r else bra i) ks)
    simp only [List.cons_append, List.nil_append] at h
    rw [h]
    cases applyOps net [(ket i, if p = r then r else ket p), (bra i, if p = r then r else bra p)] with
    | none => rfl
    | some n1 => simp [recAdd_eq ket bra r i ks n1]
theorem recAdd_eq (ket bra : α → α) (r : α) (p : α) :
    ∀ (ts : List (Tree α)) (net : Net α), recAdd ket bra r net p ts =
      applyOps net (opsL ket bra r (if p = r then r else ket p) (if p = r then r else bra p) ts)
  | [], net => by simp [recAdd, opsL, applyOps]
  | t :: ts, net => by
    simp only [recAdd, opsL, applyOps_append, recAddNode_eq ket bra r p t net]
    cases applyOps net (opsT ket bra r (if p = r then r else ket p) (if p = r then r else bra p) t) with
    | none => rfl
    | some n1 => simp [recAdd_eq ket bra r p ts n1]
end

theorem fromTtns_eq (ket bra : α → α) (r : α) (t : Tree α) :
    fromTtns ket bra r t = applyOps (Net.trivialRoot r) (opsT ket bra r r r t) := by
  cases t with
  | node i ks =>
    simp only [fromTtns, opsT, addSymmetric_eq, if_true]
    have h := applyOps_append (Net.trivialRoot r) [(ket i, r), (bra i, r)]
      (opsL ket bra r (if i = r then r else ket i) (if i = r then r else bra i) ks)
    simp only [List.cons_append, List.nil_append] at h
    rw [h]
    cases applyOps (Net.trivialRoot r) [(ket i, r), (bra i, r)] with
    | none => rfl
    | some n1 => simp [recAdd_eq ket bra r i ks n1]

end Ptn.C16
