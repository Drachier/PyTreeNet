import Ptn.C04.GraphSO
import Ptn.C16.TtndoTrace
/-! `ttndo_ttno_expectation_value`, one loop step: on the operator node (`revKet` of the ket node) and the bra copy the call of
`contract_any_node_environment_but_one` is C04's three-layer step on identity-renamed nodes (`opAny_relabel`); the TTNO read
through the ket identifiers (`opView`) and its table (`ttno_lookup`).  The loop and the root step are in `TtndoTop.lean`. -/
namespace Ptn.C16.Ttndo
open Ptn.C04


theorem revKet_inj {a b : Nat} (ha : a % 2 = 1) (hb : b % 2 = 1) (h : revKet a = revKet b) : a = b := by
  simp only [revKet] at h; omega

/-- `neighbourIndex_map` at the operator node of a site, whose parent and children are `revKet` of the ket node's -/
theorem neighbourIndex_revKet (po : Option Nat) (co : List Nat) (n : Nat) (hpo : ∀ q, po = some q → q % 2 = 1)
    (hco : ∀ c ∈ co, c % 2 = 1) (hn : n % 2 = 1) :
    (Node.mk (po.map revKet) (co.map revKet)).neighbourIndex (revKet n) = (Node.mk po co).neighbourIndex n :=
  neighbourIndex_map po (po.map revKet) co n
    (by cases po with
        | none => simp
        | some q => simpa using ⟨fun e => revKet_inj (hpo q rfl) hn e, fun e => by rw [e]⟩)
    (by cases po <;> rfl) (fun a ha e => revKet_inj (hco a ha) hn e)

theorem equivLoop_relabel_op (n1 : Node) (po : Option Nat) (co : List Nat) (ign : List Nat) (l : List Nat)
    (hpo : ∀ q, po = some q → q % 2 = 1) (hco : ∀ c ∈ co, c % 2 = 1)
    (hl : ∀ n ∈ l, ign.contains n = false → n % 2 = 1) :
    equivLoop n1 ⟨po.map revKet, co.map revKet⟩ ign revKet l = equivLoop n1 ⟨po, co⟩ ign id l :=
  equivLoop_congr n1 ign l (fun n hn hc => neighbourIndex_revKet po co n hpo hco (hl n hn hc))

theorem equivLoop_relabel_bra (n1 : Node) (p : Nat) (kids : List Nat) (l : List Nat) :
    equivLoop n1 ⟨some (braP p), kids.map (· + 1)⟩ [p] ketToBra l = equivLoop n1 ⟨some p, kids⟩ [p] id l :=
  equivLoop_congr n1 [p] l (fun n _ hc => neighbourIndex_relabel p kids n (by simpa using hc))

/-- the step of `ttndo_ttno_expectation_value` on the nodes as the two networks store them is the three-layer step of C04
on the ket node's own parent and children -/
theorem opAny_relabel (p : Nat) (kids : List Nat) (po : Option Nat) (co : List Nat) (t1 tO tB : T) (cache : Cache)
    (hp : ∀ n ∈ kids, n % 2 = 1) (hpo : ∀ q, po = some q → q % 2 = 1) (hco : ∀ c ∈ co, c % 2 = 1) :
    opContractAnyNodeEnvironmentButOne p ⟨some p, kids⟩ t1 ⟨po.map revKet, co.map revKet⟩ tO cache
        ⟨some (braP p), kids.map (· + 1)⟩ tB revKet ketToBra =
      opContractAnyNodeEnvironmentButOne p ⟨some p, kids⟩ t1 ⟨po, co⟩ tO cache ⟨some p, kids⟩ tB id id := by
  have hl : ∀ n ∈ (Node.mk (some p) kids).nbrs, ([p] : List Nat).contains n = false → n % 2 = 1 := by
    intro n hn hc
    simp only [Node.nbrs, Option.toList_some, List.singleton_append, List.mem_cons] at hn
    rcases hn with rfl | hn
    · simp at hc
    · exact hp n hn
  have hnnO : (Node.mk (po.map revKet) (co.map revKet)).nn = (Node.mk po co).nn := by
    cases po <;> simp [Node.nn, Node.nparents]
  have hnnB : (Node.mk (some (braP p)) (kids.map (· + 1))).nn = (Node.mk (some p) kids).nn := by
    simp [Node.nn, Node.nparents]
  simp only [opContractAnyNodeEnvironmentButOne, opContractLeaf, opContractSubtreesUsingDictionary,
    contractOperatorTensorIgnoringOneLeg, contractBraTensorIgnoreOneLeg, getEquivalentLegs,
    equivLoop_relabel_op _ po co [p] _ hpo hco hl, equivLoop_relabel_bra, nodeOperatorInputLeg,
    nodeOperatorOutputLeg, nodeStatePhysLeg, hnnO, hnnB]


theorem ketOf_revKet (q : Nat) (h : q % 2 = 1) : ketOf (revKet q) = q := by
  simp only [ketOf, revKet]; omega

theorem map_ketOf_revKet (l : List Nat) (h : ∀ c ∈ l, c % 2 = 1) : (l.map revKet).map ketOf = l := by
  induction l with
  | nil => rfl
  | cons a as ih =>
    simp [ketOf_revKet a (h a (by simp)), ih (fun c hc => h c (by simp [hc]))]

/-- the TTNO read through the ket identifiers -/
def opView (ttno : Net) : Net :=
  { root := ttno.root
    node := fun k => (ttno.node (revKet k)).map (fun nd => ⟨nd.parent.map ketOf, nd.children.map ketOf⟩)
    tensor := fun k => ttno.tensor (revKet k)
    order := [] }

theorem ttno_lookup (kt : Tree) (opKids : Nat → List Nat) (hnd : kt.ids.Nodup) (hodd : ∀ k ∈ kt.ids, k % 2 = 1)
    (e : Nat × Option Nat × List Nat) (he : e ∈ Tree.info none kt) :
    (ttnoNetK kt opKids).node (revKet e.1) = some ⟨e.2.1.map revKet, (opKids e.1).map revKet⟩ ∧
    (ttnoNetK kt opKids).tensor (revKet e.1) = some (gOpT e.1 ⟨e.2.1, opKids e.1⟩) := by
  have hkeys : (((Tree.info none kt).map fun e => (revKet e.1,
      (⟨e.2.1.map revKet, (opKids e.1).map revKet⟩ : Node), gOpT e.1 ⟨e.2.1, opKids e.1⟩)).map (·.1)).Nodup := by
    rw [List.map_map]
    have : ((fun x : Nat × Node × T => x.1) ∘ fun e : Nat × Option Nat × List Nat =>
        (revKet e.1, (⟨e.2.1.map revKet, (opKids e.1).map revKet⟩ : Node), gOpT e.1 ⟨e.2.1, opKids e.1⟩))
        = revKet ∘ (·.1) := rfl
    rw [this, ← List.map_map, Tree.info_keys]
    exact nodup_map_of_inj_on _ hnd (fun x hx y hy e => revKet_inj (hodd x hx) (hodd y hy) e)
  have := find?_of_nodup_keys _ hkeys (revKet e.1, (⟨e.2.1.map revKet, (opKids e.1).map revKet⟩ : Node),
    gOpT e.1 ⟨e.2.1, opKids e.1⟩) (List.mem_map.2 ⟨e, he, rfl⟩)
  simp only at this
  simp only [ttnoNetK, this, Option.map_some, and_self]

theorem infoL_entry_all {P : Nat → Prop} (r : Nat) (ks : List Tree) (opKids : Nat → List Nat)
    (hall : ∀ k ∈ (Tree.node r ks).ids, P k)
    (hperm : ∀ e ∈ Tree.info none (Tree.node r ks), (opKids e.1).Perm e.2.2) (e : Nat × Option Nat × List Nat)
    (he : e ∈ Tree.infoL r ks) :
    ∃ p, e.2.1 = some p ∧ P p ∧ (∀ c ∈ e.2.2, P c) ∧ ∀ c ∈ opKids e.1, P c := by
  obtain ⟨p, hp⟩ := infoL_parent_some ks r e he
  have hmem : e ∈ Tree.info none (Tree.node r ks) := mem_info_of_mem_infoL r ks none e he
  have hkids := info_kids_mem none (Tree.node r ks) e hmem
  exact ⟨p, hp, hall p (info_parent_mem _ e hmem p hp), fun c hc => hall c (hkids c hc),
    fun c hc => hall c (hkids c ((hperm e hmem).mem_iff.1 hc))⟩

end Ptn.C16.Ttndo
