import Ptn.C16.TensorProductGraph
/-! The absorption loop of `tensor_product_expectation_value` on the TTNDO of `from_ttns`, every tree, every list of
distinct sites of the tree: `absorbAll` never raises and produces exactly the network `tpTrace_eq` is about
(only the ket tensors of the named sites change; node table, root, order are kept). -/
namespace Ptn.C16.Ttndo
open Ptn.C04

/-- the tensor table of the TTNDO of `kt` after the sites `done` were absorbed -/
def tpTensorTab (kt : Tree) (done : List Nat) (k : Nat) : Option T :=
  if k ∈ done then ((ttndoNetK kt).node k).map (fun n => tpKetT done k n) else (ttndoNetK kt).tensor k

theorem tpKetT_mem (sites : List Nat) (k : Nat) (hk : k ∈ sites) (n : Node) :
    tpKetT sites k n = ⟨n.nbrs.map (Leg.gKet k) ++ [Leg.gOpOut k], [(Leg.gKetPhys k, Leg.gOpIn k)]⟩ := by
  simp [tpKetT, tpY, tpPre, hk, T.pre, T.fresh]

theorem tpKetT_not_mem (sites : List Nat) (k : Nat) (hk : k ∉ sites) (n : Node) :
    tpKetT sites k n = gKetT k n := by
  simp [tpKetT, tpY, tpPre, hk, T.pre, T.fresh, gKetT]

theorem tpKetT_congr (s1 s2 : List Nat) (k : Nat) (h : k ∈ s1 ↔ k ∈ s2) (n : Node) :
    tpKetT s1 k n = tpKetT s2 k n := by
  by_cases hk : k ∈ s1
  · rw [tpKetT_mem s1 k hk, tpKetT_mem s2 k (h.1 hk)]
  · rw [tpKetT_not_mem s1 k hk, tpKetT_not_mem s2 k (fun h2 => hk (h.2 h2))]

/-- the loop invariant: `absorbAll rest` on a network with the TTNDO's nodes and the table `tpTensorTab done` succeeds
and yields the table `tpTensorTab (rest.reverse ++ done)` -/
theorem absorbAll_inv (kt : Tree) (hnd : kt.ids.Nodup) (hodd : ∀ k ∈ kt.ids, k % 2 = 1) :
    ∀ (rest done : List Nat) (nd : Net), rest.Nodup → (∀ k ∈ rest, k ∈ kt.ids ∧ k ∉ done) →
      nd.root = 0 → nd.order = (ttndoNetK kt).order → nd.node = (ttndoNetK kt).node →
      (∀ k, nd.tensor k = tpTensorTab kt done k) →
      ∃ nd', absorbAll rest nd = some nd' ∧ nd'.root = 0 ∧ nd'.order = (ttndoNetK kt).order ∧
        nd'.node = (ttndoNetK kt).node ∧ ∀ k, nd'.tensor k = tpTensorTab kt (rest.reverse ++ done) k
  | [], done, nd, _, _, hr, ho, hn, ht => ⟨nd, rfl, hr, ho, hn, by simpa using ht⟩
  | s :: rest, done, nd, hnodup, hmem, hr, ho, hn, ht => by
    simp only [List.nodup_cons] at hnodup
    obtain ⟨hs1, hs2⟩ := hmem s (by simp)
    obtain ⟨e, he, rfl⟩ := info_mem_of_id (some 0) kt s hs1
    obtain ⟨l1, l2, _, _⟩ := ttndo_lookup kt hnd hodd e he
    have hts : nd.tensor e.1 = some (gKetT e.1 ⟨e.2.1, e.2.2⟩) := by
      rw [ht e.1, tpTensorTab, if_neg hs2, l2]
    have hns : nd.node e.1 = some ⟨e.2.1, e.2.2⟩ := by rw [hn, l1]
    have habs : absorbNet nd e.1 = some (Net.setTensor nd e.1 (tpKetT (e.1 :: done) e.1 ⟨e.2.1, e.2.2⟩)) := by
      simp only [absorbNet, hns, hts, absorbIntoOpenLegs_gKetT]
      rw [tpKetT_mem (e.1 :: done) e.1 (by simp)]
    obtain ⟨nd', h1, h2, h3, h4, h5⟩ := absorbAll_inv kt hnd hodd rest (e.1 :: done)
      (Net.setTensor nd e.1 (tpKetT (e.1 :: done) e.1 ⟨e.2.1, e.2.2⟩)) hnodup.2
      (fun k hk => by
        obtain ⟨a, b⟩ := hmem k (by simp [hk])
        refine ⟨a, ?_⟩
        simp only [List.mem_cons, not_or]
        exact ⟨fun e' => hnodup.1 (e' ▸ hk), b⟩)
      hr ho hn
      (fun k => by
        simp only [Net.setTensor, tpTensorTab]
        by_cases hk : k = e.1
        · subst hk
          simp [l1]
        · rw [if_neg hk, ht k, tpTensorTab]
          by_cases hd : k ∈ done
          · have hd' : k ∈ e.1 :: done := by simp [hd]
            rw [if_pos hd, if_pos hd']
            cases (ttndoNetK kt).node k with
            | none => rfl
            | some n =>
              simp only [Option.map_some]
              rw [tpKetT_congr done (e.1 :: done) k (by simp [hd])]
          · have hd' : k ∉ e.1 :: done := by simp [hd, hk]
            rw [if_neg hd, if_neg hd'])
    refine ⟨nd', by simp only [absorbAll, habs, h1], h2, h3, h4, fun k => ?_⟩
    rw [h5 k]
    simp [List.reverse_cons, List.append_assoc]

/-- The absorption loop on the TTNDO of the ket tree `kt`, distinct sites of the tree: never raises, and the
result is a network meeting every hypothesis of `tpTrace_eq` -/
theorem absorbAll_ttndo (kt : Tree) (hnd : kt.ids.Nodup) (hodd : ∀ k ∈ kt.ids, k % 2 = 1) (sites : List Nat)
    (hs : sites.Nodup) (hin : ∀ s ∈ sites, s ∈ kt.ids) :
    ∃ nd, absorbAll sites (ttndoNetK kt) = some nd ∧ nd.root = 0 ∧ nd.order = (ttndoNetK kt).order ∧
      nd.node = (ttndoNetK kt).node ∧
      nd.tensor 0 = some (T.fresh [rootKetLeg, rootBraLeg, rootOpenLeg]) ∧
      (∀ e ∈ Tree.info (some 0) kt, nd.tensor e.1 = some (tpKetT sites e.1 ⟨e.2.1, e.2.2⟩)) ∧
      (∀ e ∈ Tree.info (some 0) kt, nd.tensor (e.1 + 1) = some (gBraT e.1 ⟨e.2.1, e.2.2⟩)) := by
  obtain ⟨nd, h1, h2, h3, h4, h5⟩ := absorbAll_inv kt hnd hodd sites [] (ttndoNetK kt) hs
    (fun k hk => ⟨hin k hk, by simp⟩) rfl rfl rfl (fun k => by simp [tpTensorTab])
  have hmem : ∀ k, k ∈ sites.reverse ++ [] ↔ k ∈ sites := fun k => by simp
  have hoddS : ∀ k ∈ sites.reverse ++ [], k % 2 = 1 := fun k hk => hodd k (hin k ((hmem k).1 hk))
  refine ⟨nd, h1, h2, h3, h4, ?_, ?_, ?_⟩
  · rw [h5 0, tpTensorTab, if_neg (fun h => by have := hoddS 0 h; omega)]
    exact (ttndo_root_lookup kt).2
  · intro e he
    obtain ⟨l1, l2, _, _⟩ := ttndo_lookup kt hnd hodd e he
    rw [h5 e.1, tpTensorTab]
    by_cases hk : e.1 ∈ sites.reverse ++ []
    · rw [if_pos hk, l1, Option.map_some, tpKetT_congr _ sites e.1 (hmem e.1)]
    · rw [if_neg hk, l2, tpKetT_not_mem sites e.1 (fun h => hk ((hmem e.1).2 h))]
  · intro e he
    obtain ⟨_, _, _, l4⟩ := ttndo_lookup kt hnd hodd e he
    have hek : e.1 % 2 = 1 := hodd e.1 (by
      rw [← Tree.info_keys (some 0) kt]; exact List.mem_map.2 ⟨e, he, rfl⟩)
    rw [h5 (e.1 + 1), tpTensorTab, if_neg (fun h => by have := hoddS _ h; omega)]
    exact l4

end Ptn.C16.Ttndo
