import Ptn.C16.TtndoModel
import Ptn.C04.Lemmas
/-! Model of `SymmetricTTNDO.tensor_product_expectation_value` (pytreenet/ttns/ttndo.py) and of `TreeTensorNetwork.absorb_into_open_legs` (pytreenet/core/ttn.py) for nodes with ONE
open leg (every ket copy of a TTNDO).

  absorb_into_open_legs(node_id, tensor)      ↔ absorbIntoOpenLegs / absorbNet
  tensor_product_expectation_value(operator)  ↔ tensorProductExpectationValue

The routine works on a deep copy (the model is a pure function of the network: the argument is never changed),
absorbs EVERY single-site operator of the dictionary into the ket copy of its site and calls `trace()`.
The single-site operator of ket node `k` is the two-leg tensor `[gOpOut k, gOpIn k]`; the state is contracted with
axis 1 (`tensor_legs = [i + nopen_legs …]`), the output leg takes the place of the physical leg (last axis). -/
namespace Ptn.C16.Ttndo
open Ptn.C04

/-- the single-site operator on ket node `k`: axes (output, input) -/
def siteOpT (k : Nat) : T := T.fresh [Leg.gOpOut k, Leg.gOpIn k]

/-- `absorb_into_open_legs` for a node whose open legs are `[nn]` (one physical leg, the last axis) -/
def absorbIntoOpenLegs (node : Node) (nodeTensor op : T) : Option T :=
  if op.legs.length ≠ 2 * 1 then none                       -- assert tensor.ndim == 2 * nopen_legs
  else tensordot nodeTensor op [node.nn] [1]                -- axes = (open_legs, [i + nopen_legs])

/-- `self.tensors[node_id] = new_tensor` -/
def Net.setTensor (nd : Net) (k : Nat) (t : T) : Net :=
  { nd with tensor := fun k' => if k' = k then some t else nd.tensor k' }

/-- `ttn.absorb_into_open_legs(ket_id, single_site_operator)` on the network -/
def absorbNet (nd : Net) (k : Nat) : Option Net :=
  match nd.node k, nd.tensor k with
  | some node, some t =>
    match absorbIntoOpenLegs node t (siteOpT k) with
    | none => none
    | some r => some (Net.setTensor nd k r)
  | _, _ => none                                             -- KeyError

/-- the loop over `operator.items()`: every factor is absorbed (finding F-C16 was that only the last one was) -/
def absorbAll : List Nat → Net → Option Net
  | [], nd => some nd
  | k :: rest, nd =>
    match absorbNet nd k with
    | none => none
    | some nd1 => absorbAll rest nd1

/-- `tensor_product_expectation_value`; `sites` = ket identifiers of the keys of the `TensorProduct` in dict order -/
def tensorProductExpectationValue (nd : Net) (sites : List Nat) : Option T :=
  if sites.length = 0 then traceTtndo nd
  else
    match absorbAll sites nd with
    | none => none
    | some nd1 => traceTtndo nd1


/-- the physical pair of ket node `i`: the operator's output leg faces the bra copy where an operator acts -/
def tpPhysPair (sites : List Nat) (i : Nat) : Leg × Leg :=
  if i ∈ sites then (Leg.gOpOut i, Leg.gBraPhys i) else (Leg.gKetPhys i, Leg.gBraPhys i)

/-- one pair per factor: (physical leg of the ket copy, operator input) -/
def tpAbsorbed (sites : List Nat) : List (Leg × Leg) := sites.map fun s => (Leg.gKetPhys s, Leg.gOpIn s)

/-- the record of the tensor-product expectation value: the trace record with the operator's output leg in
the place of the ket physical leg at the named sites, plus one pair per factor -/
def tpSpec (kt : Tree) (sites : List Nat) : List (Leg × Leg) :=
  tpAbsorbed sites ++ kt.ids.map (tpPhysPair sites) ++
    (kt.edges.map fun e => ketEdge e.1 e.2) ++ (kt.edges.map fun e => braEdge e.1 e.2) ++
    [(rootKetLeg, Leg.gKet kt.id 0), (rootBraLeg, Leg.gBra kt.id 0)]

/-- the run succeeded, left no free leg and its record is `tpSpec` up to order (decision procedure) -/
def tpRecordOk (kt : Tree) (sites : List Nat) : Bool :=
  match tensorProductExpectationValue (ttndoNetK kt) sites with
  | some t => t.legs.isEmpty && t.binds.isPerm (tpSpec kt sites)
  | none => false

def T.relabel (f : Leg → Leg) (t : T) : T := ⟨t.legs.map f, t.binds.map fun p => (f p.1, f p.2)⟩

/-- the name of the last axis after an absorption: at a named site the operator's output leg stands where the physical leg stood -/
def tpRename (sites : List Nat) : Leg → Leg
  | .gKetPhys i => if i ∈ sites then .gOpOut i else .gKetPhys i
  | l => l


theorem pick_relabel (f : Leg → Leg) (l : List Leg) : ∀ idx : List Nat, pick (l.map f) idx = (pick l idx).map (List.map f)
  | [] => rfl
  | i :: is => by
    simp only [pick, List.getElem?_map, pick_relabel f l is]
    cases l[i]? <;> cases pick l is <;> rfl

theorem remaining_relabel (f : Leg → Leg) (idx : List Nat) : ∀ (k : Nat) (l : List Leg),
    remaining idx k (l.map f) = (remaining idx k l).map f
  | _, [] => rfl
  | k, x :: xs => by
    simp only [List.map_cons, remaining, remaining_relabel f idx (k + 1) xs]
    split <;> rfl

theorem getElem?_nbrs_phys (f : Nat → Leg) (x : Leg) (node : Node) :
    (node.nbrs.map f ++ [x])[node.nn]? = some x := by
  have : (node.nbrs.map f).length = node.nn := by
    cases node with
    | mk p c => cases p <;> simp [Node.nbrs, Node.nn, Node.nparents] <;> omega
  rw [List.getElem?_append_right (by omega)]
  simp [this]

theorem eraseIdx_nbrs_phys (f : Nat → Leg) (x : Leg) (node : Node) :
    (node.nbrs.map f ++ [x]).eraseIdx node.nn = node.nbrs.map f := by
  have : (node.nbrs.map f).length = node.nn := by
    cases node with
    | mk p c => cases p <;> simp [Node.nbrs, Node.nn, Node.nparents] <;> omega
  rw [List.eraseIdx_append_of_length_le (by omega)]
  simp [this]

/-- one absorption, for every node shape: the operator's input is bound to the physical leg, its output takes the
physical leg's place as the last axis, the virtual legs keep their order -/
theorem absorbIntoOpenLegs_gKetT (k : Nat) (node : Node) :
    absorbIntoOpenLegs node (gKetT k node) (siteOpT k) =
      some ⟨node.nbrs.map (Leg.gKet k) ++ [Leg.gOpOut k], [(Leg.gKetPhys k, Leg.gOpIn k)]⟩ := by
  simp only [absorbIntoOpenLegs, siteOpT, T.fresh, List.length_cons, List.length_nil, gKetT]
  rw [tensordot_one _ _ node.nn 1 (Leg.gKetPhys k) (Leg.gOpIn k) (getElem?_nbrs_phys _ _ _) rfl]
  simp [eraseIdx_nbrs_phys]

/-- the absorbed tensor is the ket tensor under the renaming, with the one pair logged -/
theorem absorbed_eq_relabel (sites : List Nat) (k : Nat) (hk : k ∈ sites) (node : Node) :
    absorbIntoOpenLegs node (gKetT k node) (siteOpT k) =
      some ⟨(T.relabel (tpRename sites) (gKetT k node)).legs, [(Leg.gKetPhys k, Leg.gOpIn k)]⟩ := by
  rw [absorbIntoOpenLegs_gKetT]
  simp [T.relabel, gKetT, T.fresh, tpRename, hk, Function.comp_def]

end Ptn.C16.Ttndo
