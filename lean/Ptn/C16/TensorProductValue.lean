import Ptn.C16.ValueLoop
import Ptn.C16.TensorProduct
/-! Value level of `tensor_product_expectation_value`: absorbing a single-site operator into the ket tensor of its
site replaces the local tensor `kv s` by `applyAt (O s) (phys s) (kv s)`; on the dense vector of the ket copy this is
the application of the operator at that site (`ketVec_absorb1`), for every tree, every commutative semiring. -/
namespace Ptn.C16.Ttndo

open Ptn.C04 Ptn.Ein Finset

set_option linter.unusedSectionVars false
variable {R : Type} [CommSemiring R]

section generic
variable {L : Type} [DecidableEq L]

/-- the matrix `O[out, in]` applied at the label `p`: `(O f)(σ) = Σ_x O[σ p, x] · f(σ[p ↦ x])` -/
def applyAt (dim : L → Nat) (O : Nat → Nat → R) (p : L) (f : Asg L → R) (σ : Asg L) : R :=
  sumR (dim p) (fun x => O (σ p) x * f (upd σ p x))

theorem applyAt_congr (dim : L → Nat) (O : Nat → Nat → R) (p : L) {f g : Asg L → R} (h : ∀ σ, f σ = g σ)
    (σ : Asg L) : applyAt dim O p f σ = applyAt dim O p g σ := by
  simp only [applyAt, h]

theorem applyAt_sumPairs (dim : L → Nat) (O : Nat → Nat → R) (p : L) (ps : List (L × L))
    (hp : p ∉ Expr.pairLegs ps) (F : Asg L → R) (σ : Asg L) :
    applyAt dim O p (sumPairs dim ps F) σ = sumPairs dim ps (applyAt dim O p F) σ := by
  induction ps generalizing σ with
  | nil => rfl
  | cons q ps ih =>
    obtain ⟨a, b⟩ := q
    have hq : (p ≠ a ∧ p ∉ ps.map Prod.fst) ∧ p ≠ b ∧ p ∉ ps.map Prod.snd := by
      simpa only [Expr.pairLegs, List.map_cons, List.mem_append, List.mem_cons, not_or] using hp
    obtain ⟨⟨hpa, h1⟩, hpb, h2⟩ := hq
    have hp' : p ∉ Expr.pairLegs ps := fun h => (List.mem_append.1 h).elim h1 h2
    show _ = sumR (dim a) (fun i => sumPairs dim ps (applyAt dim O p F) (upd (upd σ a i) b i))
    simp only [← ih hp']
    simp only [applyAt, sumPairs, sumR_eq, mul_sum]
    rw [sum_comm]
    apply sum_congr rfl; intro i _; apply sum_congr rfl; intro x _
    rw [upd_same_of_ne _ hpb, upd_same_of_ne _ hpa, upd_comm _ (Ne.symm hpb), upd_comm σ (Ne.symm hpa)]

theorem applyAt_mul_right (dim : L → Nat) (O : Nat → Nat → R) (p : L) (f g : Asg L → R) {S : L → Prop}
    (hg : DependsOn S g) (hp : ¬ S p) (σ : Asg L) :
    applyAt dim O p (fun σ => f σ * g σ) σ = applyAt dim O p f σ * g σ := by
  simp only [applyAt, sumR_eq, sum_mul]
  apply sum_congr rfl; intro x _
  have : g (upd σ p x) = g σ := hg _ _ (fun l hl => by
    have : l ≠ p := fun h => hp (h ▸ hl)
    simp [upd, this])
  rw [this, mul_assoc]

theorem applyAt_mul_left (dim : L → Nat) (O : Nat → Nat → R) (p : L) (f g : Asg L → R) {S : L → Prop}
    (hg : DependsOn S g) (hp : ¬ S p) (σ : Asg L) :
    applyAt dim O p (fun σ => g σ * f σ) σ = g σ * applyAt dim O p f σ := by
  rw [mul_comm, ← applyAt_mul_right dim O p f g hg hp]
  exact applyAt_congr dim O p (fun _ => mul_comm _ _) σ

theorem applyAt_dependsOn (dim : L → Nat) (O : Nat → Nat → R) (p : L) {f : Asg L → R} {S : L → Prop}
    (hf : DependsOn S f) (hp : S p) : DependsOn S (applyAt dim O p f) := by
  intro σ τ h
  simp only [applyAt, h p hp]
  congr 1; funext x; congr 1
  apply hf
  intro l hl
  by_cases e : l = p
  · simp [upd, e]
  · simp [upd, e, h l hl]

theorem applyAt_comm (dim : L → Nat) (O O' : Nat → Nat → R) (p q : L) (hpq : p ≠ q) (f : Asg L → R) (σ : Asg L) :
    applyAt dim O p (applyAt dim O' q f) σ = applyAt dim O' q (applyAt dim O p f) σ := by
  simp only [applyAt, sumR_eq, mul_sum]
  rw [sum_comm]
  apply sum_congr rfl; intro y _; apply sum_congr rfl; intro x _
  have e1 : upd σ p x q = σ q := by simp [upd, hpq.symm]
  have e2 : upd σ q y p = σ p := by simp [upd, hpq]
  rw [e1, e2, upd_comm σ hpq x y, mul_left_comm]

end generic


/-- the ket tensors after `absorb_into_open_legs(ket s, O)`: the output index is read on the leg that carries the
name of the physical leg (`tensordot` is positional: the output leg takes the physical leg's place) -/
def absorb1 (dim : Leg → Nat) (O : Nat → Nat → R) (s : Nat) (kv : Nat → Asg Leg → R) : Nat → Asg Leg → R :=
  fun k => if k = s then applyAt dim O (Leg.gKetPhys s) (kv s) else kv k

theorem phys_mem_gKetT (s k : Nat) (nd : Node) : Leg.gKetPhys s ∈ (gKetT k nd).legs ↔ s = k := by
  simp [gKetT, T.fresh]

theorem absorb1_local (dim : Leg → Nat) (O : Nat → Nat → R) (s : Nat) (kv : Nat → Asg Leg → R) (kt : Tree)
    (hkv : KetLocal0 kv kt) : KetLocal0 (absorb1 dim O s kv) kt := by
  intro e he
  simp only [absorb1]
  split
  · rename_i h
    have := hkv e he
    rw [h] at this ⊢
    exact applyAt_dependsOn dim O _ this ((phys_mem_gKetT s s _).2 rfl)
  · exact hkv e he

theorem tp_prod_indep (s : Nat) (kv : Nat → Asg Leg → R) : ∀ (es : List (Nat × Option Nat × List Nat)),
    s ∉ es.map (·.1) → (∀ e ∈ es, DependsOn (· ∈ (gKetT e.1 ⟨e.2.1, e.2.2⟩).legs) (kv e.1)) →
    DependsOn (fun l => l ≠ Leg.gKetPhys s) (fun τ => prodL (es.map (fun e => kv e.1 τ)))
  | [], _, _ => fun _ _ _ => rfl
  | e :: es, hs, hloc => by
    simp only [List.map_cons, List.mem_cons, not_or] at hs
    have ih := tp_prod_indep s kv es hs.2 (fun e' he' => hloc e' (by simp [he']))
    have h1 : DependsOn (fun l => l ≠ Leg.gKetPhys s) (kv e.1) :=
      (hloc e (by simp)).mono (fun l hl h => hs.1 ((phys_mem_gKetT s e.1 _).1 (h ▸ hl)))
    exact h1.mul ih

theorem map_absorb1_not_mem (dim : Leg → Nat) (O : Nat → Nat → R) (s : Nat) (kv : Nat → Asg Leg → R)
    (es : List (Nat × Option Nat × List Nat)) (hs : s ∉ es.map (·.1)) (τ : Asg Leg) :
    es.map (fun e => absorb1 dim O s kv e.1 τ) = es.map (fun e => kv e.1 τ) := by
  apply List.map_congr_left
  intro e he
  have : e.1 ≠ s := fun h => hs (List.mem_map.2 ⟨e, he, h⟩)
  simp [absorb1, this]

theorem tp_prod_absorb (dim : Leg → Nat) (O : Nat → Nat → R) (s : Nat) (kv : Nat → Asg Leg → R) :
    ∀ (es : List (Nat × Option Nat × List Nat)), (es.map (·.1)).Nodup → s ∈ es.map (·.1) →
    (∀ e ∈ es, DependsOn (· ∈ (gKetT e.1 ⟨e.2.1, e.2.2⟩).legs) (kv e.1)) → ∀ τ : Asg Leg,
    prodL (es.map (fun e => absorb1 dim O s kv e.1 τ)) =
      applyAt dim O (Leg.gKetPhys s) (fun τ => prodL (es.map (fun e => kv e.1 τ))) τ
  | [], _, hs, _, _ => by simp at hs
  | e :: es, hnd, hs, hloc, τ => by
    simp only [List.map_cons, List.nodup_cons] at hnd
    have hloc' : ∀ e' ∈ es, DependsOn (· ∈ (gKetT e'.1 ⟨e'.2.1, e'.2.2⟩).legs) (kv e'.1) :=
      fun e' he' => hloc e' (by simp [he'])
    simp only [List.map_cons, prodL]
    by_cases h : e.1 = s
    · have hs' : s ∉ es.map (·.1) := h ▸ hnd.1
      rw [map_absorb1_not_mem dim O s kv es hs' τ]
      have hind := tp_prod_indep s kv es hs' hloc'
      rw [applyAt_mul_right dim O _ (kv e.1) _ hind (fun hh => hh rfl) τ]
      simp [absorb1, h]
    · have hs' : s ∈ es.map (·.1) := by
        simp only [List.map_cons, List.mem_cons] at hs
        rcases hs with hs | hs
        · exact absurd hs.symm h
        · exact hs
      rw [tp_prod_absorb dim O s kv es hnd.2 hs' hloc' τ]
      have h1 : DependsOn (fun l => l ≠ Leg.gKetPhys s) (kv e.1) :=
        (hloc e (by simp)).mono (fun l hl hh => h ((phys_mem_gKetT s e.1 _).1 (hh ▸ hl)).symm)
      rw [applyAt_mul_left dim O _ _ (kv e.1) h1 (fun hh => hh rfl) τ]
      simp [absorb1, h]

theorem tp_treeLeaves_info (kv : Nat → Asg Leg → R) (t : Tree) (p : Option Nat) :
    treeLeaves (ketLayer kv).nodeLeaves p t =
      (Tree.info p t).map (fun e => ((gKetT e.1 ⟨e.2.1, e.2.2⟩).legs, kv e.1)) :=
  (treeLeaves_flatMap _ t p).trans (flatMap_single _ _)

theorem tp_treeLeavesL_info (kv : Nat → Asg Leg → R) : ∀ (ts : List Tree) (i : Nat),
    treeLeavesL (ketLayer kv).nodeLeaves i ts =
      (Tree.infoL i ts).map (fun e => ((gKetT e.1 ⟨e.2.1, e.2.2⟩).legs, kv e.1)) :=
  fun ts i => (treeLeavesL_flatMap _ ts i).trans (flatMap_single _ _)

theorem ketVec_leafProd (kv : Nat → Asg Leg → R) (kt : Tree) (τ : Asg Leg) :
    (ketVec kv kt).leafProd τ = prodL ((Tree.info (some 0) kt).map (fun e => kv e.1 τ)) := by
  unfold ketVec
  rw [Expr.leafProd_of_leaves _ _ (layExpr_leaves (ketLayer kv) kt (some 0)) τ, tp_treeLeaves_info,
    List.map_map]
  rfl

theorem ketVec_absorb1 (dim : Leg → Nat) (O : Nat → Nat → R) (s : Nat) (kt : Tree) (hnd : kt.ids.Nodup)
    (h0 : (0 : Nat) ∉ kt.ids) (hs : s ∈ kt.ids) (kv : Nat → Asg Leg → R) (hkv : KetLocal0 kv kt) (σ : Asg Leg) :
    (ketVec (absorb1 dim O s kv) kt).eval dim σ =
      applyAt dim O (Leg.gKetPhys s) ((ketVec kv kt).eval dim) σ := by
  -- both vectors are one sum over the same bonds (`eval_eq_full`); in the product of the leaves only the factor of site `s` reads
  -- `gKetPhys s` (`tp_prod_absorb`), and `applyAt` at the free leg `gKetPhys s` commutes with the sum over the bonds
  obtain ⟨hK, hfree⟩ := ketVec_swf kt hnd h0 kv hkv
  obtain ⟨hK1, _⟩ := ketVec_swf kt hnd h0 _ (absorb1_local dim O s kv kt hkv)
  have hb : (ketVec (absorb1 dim O s kv) kt).binds.Perm (ketVec kv kt).binds :=
    (layExpr_binds (ketLayer (absorb1 dim O s kv)) kt (some 0)).trans (layExpr_binds (ketLayer kv) kt (some 0)).symm
  have hkeys : ((Tree.info (some 0) kt).map (·.1)).Nodup := by rw [Tree.info_keys]; exact hnd
  have hsk : s ∈ (Tree.info (some 0) kt).map (·.1) := by rw [Tree.info_keys]; exact hs
  have hlp : ∀ τ, (ketVec (absorb1 dim O s kv) kt).leafProd τ =
      applyAt dim O (Leg.gKetPhys s) (ketVec kv kt).leafProd τ := by
    intro τ
    rw [ketVec_leafProd, tp_prod_absorb dim O s kv _ hkeys hsk hkv τ]
    exact applyAt_congr dim O _ (fun ρ => (ketVec_leafProd kv kt ρ).symm) τ
  rw [Expr.eval_eq_full dim _ hK1.wf]
  simp only [Expr.full]
  rw [sumPairs_perm dim hb (Expr.binds_nodup _ hK1), sumPairs_congr dim _ hlp,
    ← applyAt_sumPairs dim O _ _ (Expr.free_not_bound _ hK _ (hfree s hs))]
  exact applyAt_congr dim O _ (fun ρ => (Expr.eval_eq_full dim _ hK.wf ρ).symm) σ


/-- the ket tensors after the absorption loop over `sites` -/
def absorbedKv (dim : Leg → Nat) (O : Nat → Nat → Nat → R) (sites : List Nat) (kv : Nat → Asg Leg → R) :
    Nat → Asg Leg → R :=
  sites.foldl (fun kv s => absorb1 dim (O s) s kv) kv

/-- the tensor product `⊗_s O_s` applied to a dense vector, factor by factor -/
def applySites (dim : Leg → Nat) (O : Nat → Nat → Nat → R) (sites : List Nat) (f : Asg Leg → R) : Asg Leg → R :=
  sites.foldl (fun f s => applyAt dim (O s) (Leg.gKetPhys s) f) f

theorem ketVec_absorbed (dim : Leg → Nat) (O : Nat → Nat → Nat → R) (kt : Tree) (hnd : kt.ids.Nodup)
    (h0 : (0 : Nat) ∉ kt.ids) : ∀ (sites : List Nat), (∀ s ∈ sites, s ∈ kt.ids) →
    ∀ (kv : Nat → Asg Leg → R), KetLocal0 kv kt →
    KetLocal0 (absorbedKv dim O sites kv) kt ∧
      (ketVec (absorbedKv dim O sites kv) kt).eval dim = applySites dim O sites ((ketVec kv kt).eval dim)
  | [], _, _, hkv => ⟨hkv, rfl⟩
  | s :: rest, hs, kv, hkv => by
    have h1 := absorb1_local dim (O s) s kv kt hkv
    obtain ⟨hl, hv⟩ := ketVec_absorbed dim O kt hnd h0 rest (fun s' hs' => hs s' (by simp [hs'])) _ h1
    refine ⟨hl, ?_⟩
    have e1 : (ketVec (absorb1 dim (O s) s kv) kt).eval dim =
        applyAt dim (O s) (Leg.gKetPhys s) ((ketVec kv kt).eval dim) :=
      funext (ketVec_absorb1 dim (O s) s kt hnd h0 (hs s (by simp)) kv hkv)
    simp only [absorbedKv, applySites, List.foldl_cons] at hv ⊢
    rw [hv, e1]

theorem absorb1_zero (dim : Leg → Nat) (O : Nat → Nat → R) (s : Nat) (kv : Nat → Asg Leg → R) (g : Leg)
    (hg : ∀ n, g ≠ Leg.gKetPhys n) (r : Nat) (hz : ∀ ρ : Asg Leg, ρ g ≠ 0 → kv r ρ = 0) :
    ∀ ρ : Asg Leg, ρ g ≠ 0 → absorb1 dim O s kv r ρ = 0 := by
  intro ρ hρ
  simp only [absorb1]
  split
  · rename_i h
    subst h
    simp only [applyAt, sumR_eq]
    apply Finset.sum_eq_zero
    intro x _
    rw [hz (upd ρ (Leg.gKetPhys r) x) (by simpa [upd, hg r] using hρ), mul_zero]
  · exact hz ρ hρ

/-- the padded root bond survives the absorptions: the absorbed tensor still vanishes off index 0 -/
theorem absorbedKv_zero (dim : Leg → Nat) (O : Nat → Nat → Nat → R) (g : Leg) (hg : ∀ n, g ≠ Leg.gKetPhys n)
    (r : Nat) : ∀ (sites : List Nat) (kv : Nat → Asg Leg → R), (∀ ρ : Asg Leg, ρ g ≠ 0 → kv r ρ = 0) →
    ∀ ρ : Asg Leg, ρ g ≠ 0 → absorbedKv dim O sites kv r ρ = 0
  | [], _, hz => hz
  | s :: rest, kv, hz => by
    simp only [absorbedKv, List.foldl_cons]
    exact absorbedKv_zero dim O g hg r rest _ (absorb1_zero dim (O s) s kv g hg r hz)


/-- the matrix of a single-site operator tensor with axes (output, input) -/
def opMat (ov : Asg Leg → R) (k : Nat) (a x : Nat) : R :=
  ov (upd (upd (fun _ => 0) (Leg.gOpOut k) a) (Leg.gOpIn k) x)

/-- the `tensordot` of `absorb_into_open_legs`, as an expression over the two tensors -/
def absorbExpr (k : Nat) (node : Node) (kvk ov : Asg Leg → R) : Expr Leg R :=
  Expr.dot (Expr.leaf (gKetT k node).legs kvk) (Expr.leaf (siteOpT k).legs ov) [(Leg.gKetPhys k, Leg.gOpIn k)]

theorem absorb_built (k : Nat) (node : Node) (kvk ov : Asg Leg → R) :
    ∃ r, absorbIntoOpenLegs node (gKetT k node) (siteOpT k) = some r ∧
      r = ⟨node.nbrs.map (Leg.gKet k) ++ [Leg.gOpOut k], [(Leg.gKetPhys k, Leg.gOpIn k)]⟩ ∧
      Built r (absorbExpr k node kvk ov) := by
  have h := absorbIntoOpenLegs_gKetT k node
  refine ⟨_, h, rfl, ?_⟩
  have h' : tensordot (gKetT k node) (siteOpT k) [node.nn] [1] = some
      ⟨node.nbrs.map (Leg.gKet k) ++ [Leg.gOpOut k], [(Leg.gKetPhys k, Leg.gOpIn k)]⟩ := by
    simpa [absorbIntoOpenLegs, siteOpT, T.fresh] using h
  have hb := Built.dot (R := R) (Built.fresh (gKetT k node).legs kvk) (Built.fresh (siteOpT k).legs ov)
    (ia := [node.nn]) (ib := [1]) (la := [Leg.gKetPhys k]) (lb := [Leg.gOpIn k]) h'
    (by simp [pick, gKetT, T.fresh, getElem?_nbrs_phys]) (by simp [pick, siteOpT, T.fresh])
  exact hb

/-- **value of one absorption**: with the output index read on the physical leg's name, the result of
`tensordot(node_tensor, operator, (open_legs, [1]))` is `applyAt (matrix of the operator) (phys k) (ket tensor)` -/
theorem absorbExpr_value (dim : Leg → Nat) (k : Nat) (node : Node) (kvk ov : Asg Leg → R)
    (hk : DependsOn (· ∈ (gKetT k node).legs) kvk) (ho : DependsOn (· ∈ (siteOpT k).legs) ov) (σ : Asg Leg) :
    (absorbExpr k node kvk ov).eval dim (upd σ (Leg.gOpOut k) (σ (Leg.gKetPhys k))) =
      applyAt dim (opMat ov k) (Leg.gKetPhys k) kvk σ := by
  simp only [absorbExpr, Expr.eval, sumPairs, applyAt]
  congr 1; funext x
  rw [mul_comm]
  congr 1
  · apply ho
    intro l hl
    simp only [siteOpT, T.fresh, List.mem_cons, List.not_mem_nil, or_false] at hl
    rcases hl with rfl | rfl <;> simp [upd]
  · apply hk
    intro l hl
    simp only [gKetT, T.fresh, List.mem_append, List.mem_map, List.mem_singleton] at hl
    rcases hl with ⟨n, _, rfl⟩ | rfl <;> simp [upd]

end Ptn.C16.Ttndo
