import Ptn.C16.TensorProduct
import Ptn.C16.TtndoTrace
/-! `tensor_product_expectation_value` along the whole TTNDO, every tree.

The ket tensor of a named site enters `trace_ttndo` with the operator's output leg as its last axis and ONE logged pair
(ket physical leg, operator input).  The routines of C04 are proved for arbitrary leg labels
(`contract_any_nodes_general`), and the ket tensor is the LEFT operand of every `tensordot` it takes part in, so its
logged pairs are carried in front of the record (`tensordot_pre` lifted through every routine:
`contractAnyNodes_pre`).  The tree induction is `loop_subtree` of `Ptn/C04/GraphSS.lean` at the generalised blocks. -/
namespace Ptn.C16.Ttndo
open Ptn.C04

def T.pre (x : List (Leg × Leg)) (t : T) : T := ⟨t.legs, x ++ t.binds⟩

theorem tensordot_pre (x : List (Leg × Leg)) (a b : T) (ia ib : List Nat) :
    tensordot (T.pre x a) b ia ib = (tensordot a b ia ib).map (T.pre x) := by
  unfold tensordot
  by_cases h1 : ia.length ≠ ib.length
  · simp [h1]
  by_cases h2 : ¬ ia.Nodup ∨ ¬ ib.Nodup
  · simp [h1, h2]
  simp only [h1, h2, if_false, T.pre]
  cases pick a.legs ia <;> cases pick b.legs ib <;> simp [T.pre, List.append_assoc]

theorem contractNeighbourBlock_pre (x : List (Leg × Leg)) (ax : Nat) (t : T) (nd : Node) (n : Nat) (cache : Cache)
    (leg : Option Nat) :
    contractNeighbourBlock ax (T.pre x t) nd n cache leg = (contractNeighbourBlock ax t nd n cache leg).map (T.pre x) := by
  unfold contractNeighbourBlock
  cases cache n with
  | none => rfl
  | some blk =>
    cases leg with
    | some l => exact tensordot_pre x t blk [l] [ax]
    | none =>
      simp only
      cases nd.neighbourIndex n with
      | none => rfl
      | some l => exact tensordot_pre x t blk [l] [ax]

theorem contractNeighbourBlockIgnoreOneLeg_pre (x : List (Leg × Leg)) (ax : Nat) (t : T) (nd : Node) (n ig : Nat)
    (cache : Cache) :
    contractNeighbourBlockIgnoreOneLeg ax (T.pre x t) nd n ig cache =
      (contractNeighbourBlockIgnoreOneLeg ax t nd n ig cache).map (T.pre x) := by
  unfold contractNeighbourBlockIgnoreOneLeg
  cases determineIndexWithIgnoredLeg nd n ig with
  | none => rfl
  | some i => exact contractNeighbourBlock_pre x ax t nd n cache (some i)

theorem allButOneLoop_pre (x : List (Leg × Leg)) (ax : Nat) (nd : Node) (next : Nat) (cache : Cache) :
    ∀ (l : List Nat) (t : T), allButOneLoop ax nd next cache l (T.pre x t) =
      (allButOneLoop ax nd next cache l t).map (T.pre x)
  | [], t => rfl
  | n :: rest, t => by
    simp only [allButOneLoop]
    by_cases h : n = next
    · simp [h, allButOneLoop_pre x ax nd next cache rest t]
    · simp only [ne_eq, h, not_false_eq_true, if_true, contractNeighbourBlockIgnoreOneLeg_pre]
      cases contractNeighbourBlockIgnoreOneLeg ax t nd n next cache with
      | none => rfl
      | some t' => exact allButOneLoop_pre x ax nd next cache rest t'

theorem contractAnyNodes_pre (x : List (Leg × Leg)) (next : Nat) (n1 n2 : Node) (t1 t2 : T) (cache : Cache) (f : Trafo) :
    contractAnyNodes next n1 n2 (T.pre x t1) t2 cache f = (contractAnyNodes next n1 n2 t1 t2 cache f).map (T.pre x) := by
  unfold contractAnyNodes
  by_cases hl : n1.isLeaf = true
  · simp only [hl, if_true, contractLeafs]
    have : (T.pre x t1).legs = t1.legs := rfl
    rw [this]
    split
    · rfl
    · split
      · rfl
      · exact tensordot_pre x t1 t2 _ _
  · simp only [hl, contractSubtreesUsingDictionary, contractAllButOneNeighbourBlockToKet, allButOneLoop_pre]
    cases allButOneLoop 0 n1 next cache n1.nbrs t1 with
    | none => rfl
    | some kb =>
      simp only [Option.map_some, contractBraToKetAndBlocksIgnoreOneLeg]
      cases n1.neighbourIndex next with
      | none => rfl
      | some ni =>
        simp only
        cases braIgnoreLoop n2 n1 next ni f n1.nbrs with
        | none => rfl
        | some p => exact tensordot_pre x kb t2 _ _


/-- last axis of the ket tensor of node `i` when `trace_ttndo` starts -/
def tpY (sites : List Nat) (i : Nat) : Leg := if i ∈ sites then Leg.gOpOut i else Leg.gKetPhys i
/-- pairs logged by the absorption at node `i` -/
def tpPre (sites : List Nat) (i : Nat) : List (Leg × Leg) :=
  if i ∈ sites then [(Leg.gKetPhys i, Leg.gOpIn i)] else []
/-- the ket tensor of node `i` after the absorption loop -/
def tpKetT (sites : List Nat) (i : Nat) (nd : Node) : T :=
  T.pre (tpPre sites i) (T.fresh (nd.nbrs.map (Leg.gKet i) ++ [tpY sites i]))

/-! `tpBlockBinds`, `tpKidsBinds`, `tpBlock`, `tpBbOf`, `tpKidBlock`: C04's `ssBlockBinds`, `ssKidsBinds`, `ssBlock`, `bbOf`, `kidTable ssBlock`
for the absorbed ket tensors — the logged pair in front of a block's record, `tpY` as the last ket axis -/

mutual
def tpBlockBinds (sites : List Nat) : Tree → List (Leg × Leg)
  | .node i ks => tpPre sites i ++
      (tpKidsBinds sites i ks ++ ((ks.map fun c => braEdge i c.id) ++ [(tpY sites i, Leg.gBraPhys i)]))
def tpKidsBinds (sites : List Nat) (i : Nat) : List Tree → List (Leg × Leg)
  | [] => []
  | c :: cs => (tpBlockBinds sites c ++ [ketEdge i c.id]) ++ tpKidsBinds sites i cs
end

def tpBlock (sites : List Nat) (c : Tree) (i : Nat) : T := ⟨[Leg.gKet c.id i, Leg.gBra c.id i], tpBlockBinds sites c⟩

variable (sites : List Nat)

def tpBbOf (ts : List Tree) (n : Nat) : List (Leg × Leg) :=
  ((ts.find? (fun c => c.id == n)).map (tpBlockBinds sites)).getD []

def tpKidBlock (ts : List Tree) (i : Nat) (k : Nat × Nat) : Option T :=
  if k.2 = i then (ts.find? (fun c => c.id == k.1)).map (fun c => tpBlock sites c i) else none

theorem tpKidBlock_of_mem (ts : List Tree) (i n : Nat) (hn : n ∈ ts.map Tree.id) :
    tpKidBlock sites ts i (n, i) = some ⟨[Leg.gKet n i, Leg.gBra n i], tpBbOf sites ts n⟩ := by
  obtain ⟨c, hc, hid⟩ := find_kid_of_mem ts n hn
  simp [tpKidBlock, tpBbOf, hc, tpBlock, hid]

theorem tpKidsBinds_eq (i : Nat) (ts : List Tree) (hnd : (ts.map Tree.id).Nodup) :
    (ts.map Tree.id).flatMap (fun n => tpBbOf sites ts n ++ [ketEdge i n]) = tpKidsBinds sites i ts := by
  refine (flatMap_kids (tpBlockBinds sites) (fun n l => l ++ [ketEdge i n]) ts hnd).trans ?_
  induction ts with
  | nil => rfl
  | cons c cs ih => simp only [List.flatMap_cons, tpKidsBinds, ih (List.nodup_cons.1 hnd).2]

/-- the two networks are the two labelled states on the same tree part: same parents, independent
child orders -/
def tpRep (s1 s2 : Net) (braKids : Nat → List Nat) (info : List (Nat × Option Nat × List Nat)) : Prop :=
  ∀ e ∈ info,
    s1.node e.1 = some ⟨e.2.1, e.2.2⟩ ∧ s1.tensor e.1 = some (tpKetT sites e.1 ⟨e.2.1, e.2.2⟩) ∧
    s2.node e.1 = some ⟨e.2.1, braKids e.1⟩ ∧ s2.tensor e.1 = some (gBraT e.1 ⟨e.2.1, braKids e.1⟩) ∧
    (braKids e.1).Perm e.2.2

section
variable (s1 s2 : Net) (braKids : Nat → List Nat)

theorem tpStep_node : NodeStep (ssStep s1 s2) (tpBlock sites) (tpRep sites s1 s2 braKids) := by
  intro i p ks d hnd hp hrep hd
  obtain ⟨⟨h1, h2, h3, h4⟩, hkn, hpk, hK, hB, hpermN, hfilter⟩ := node_nbrs_facts hnd hp hrep
  have hany := contract_any_nodes_general (Leg.gKet i) (Leg.gBra i) (fun n => Leg.gKet n i) (fun n => Leg.gBra n i)
    (tpY sites i) (Leg.gBraPhys i) (tpBbOf sites ks) (d.cacheOf i) ⟨some p, ks.map Tree.id⟩ ⟨some p, braKids i⟩ p id
    hK hB (by simp [Node.nbrs]) hpermN rfl
    (fun n hn hne => by
      have hn' : n ∈ ks.map Tree.id := hfilter ▸ List.mem_filter.2 ⟨hn, by simpa using hne⟩
      simp only [Dict.cacheOf, (hd n hn').trans (tpKidBlock_of_mem sites ks i n hn')])
  have hkb := tpKidsBinds_eq sites i ks hkn
  simp only [ketEdge] at hkb
  rw [hfilter, hkb] at hany
  have hblock : ssContractAny i p s1 s2 d = some (tpBlock sites (Tree.node i ks) p) := by
    simp only [ssContractAny, h1, h2, h3, h4, tpKetT, gBraT]
    rw [contractAnyNodes_pre, hany]
    simp [tpBlock, tpBlockBinds, T.pre, Tree.id, braEdge, List.map_map, Function.comp]
  obtain ⟨d', hdel, hspec⟩ := Dict.add_deleteAll_kids (tpBlock sites (Tree.node i ks) p) p hnd hd
  exact ⟨d', by simp only [ssStep, h1, hblock, hdel], hspec⟩

theorem tpLoop_subtree :
    ∀ (t : Tree) (p : Nat) (d : Dict), t.ids.Nodup → p ∉ t.ids →
      tpRep sites s1 s2 braKids (Tree.info (some p) t) → (∀ j ∈ t.ids, ∀ x, d (j, x) = none) →
      ∃ d', ssLoop s1 s2 t.post d = some d' ∧
        ∀ k, d' k = if k = (t.id, p) then some (tpBlock sites t p) else d k :=
  loop_subtree (fun _ => rfl) (ssLoop_cons s1 s2)
    (tpStep_node sites s1 s2 braKids)

theorem tpLoop_forest :
    ∀ (ts : List Tree) (i : Nat) (d : Dict), (Tree.idsL ts).Nodup → i ∉ Tree.idsL ts →
      tpRep sites s1 s2 braKids (Tree.infoL i ts) → (∀ j ∈ Tree.idsL ts, ∀ x, d (j, x) = none) →
      ∃ d', ssLoop s1 s2 (Tree.postL ts) d = some d' ∧
        ∀ k, d' k = match tpKidBlock sites ts i k with
                    | some b => some b
                    | none => d k := by
  intro ts i d hnd hi hrep hfresh
  obtain ⟨d', h1, h2⟩ := loop_forest (fun _ => rfl) (ssLoop_cons s1 s2)
    (tpStep_node sites s1 s2 braKids) ts i d hnd hi hrep hfresh
  refine ⟨d', h1, fun k => (h2 k).trans ?_⟩
  show (tpKidBlock sites ts i k).or (d k) = _
  cases tpKidBlock sites ts i k <;> rfl

end

/-- `trace_ttndo` on ANY network with the nodes of the TTNDO of the ket tree `kt`, its root and bra tensors, and the
ket tensors left by the absorption loop: succeeds, no free leg, the record in the order the code produces it -/
theorem tpTrace_eq (kt : Tree) (hnd : kt.ids.Nodup) (hodd : ∀ k ∈ kt.ids, k % 2 = 1) (nd : Net)
    (hr0 : nd.root = 0) (hord : nd.order = (ttndoNetK kt).order) (hnode : nd.node = (ttndoNetK kt).node)
    (hrt : nd.tensor 0 = some (T.fresh [rootKetLeg, rootBraLeg, rootOpenLeg]))
    (hket : ∀ e ∈ Tree.info (some 0) kt, nd.tensor e.1 = some (tpKetT sites e.1 ⟨e.2.1, e.2.2⟩))
    (hbra : ∀ e ∈ Tree.info (some 0) kt, nd.tensor (e.1 + 1) = some (gBraT e.1 ⟨e.2.1, e.2.2⟩)) :
    traceTtndo nd =
      some ⟨[], tpBlockBinds sites kt ++ [(rootKetLeg, Leg.gKet kt.id 0), (rootBraLeg, Leg.gBra kt.id 0)]⟩ := by
  have hlook := ttndo_lookup kt hnd hodd
  have hstep : ∀ k ∈ kt.post, ∀ d, trStep nd d k = ssStep nd (braView nd) d k := by
    intro k hk
    obtain ⟨e, he, rfl⟩ := info_mem_of_id (some 0) kt k (post_mem_ids kt k hk)
    obtain ⟨l1, _, l3, _⟩ := hlook e he
    obtain ⟨p, hp⟩ := info_parent_some kt 0 e he
    rw [← hnode, hp] at l1 l3
    exact trStep_eq_ssStep l1 (hket e he) l3 (hbra e he)
  have hrep : tpRep sites nd (braView nd) (kidsOfNet nd) (Tree.info (some 0) kt) := by
    intro e he
    obtain ⟨l1, _, _, _⟩ := hlook e he
    rw [← hnode] at l1
    refine ⟨l1, hket e he, ?_, ?_, ?_⟩
    · simp [braView, l1, kidsOfNet]
    · simp [braView, hbra e he, kidsOfNet, l1]
    · simp [kidsOfNet, l1]
  obtain ⟨d, hd1, hd2⟩ := tpLoop_subtree sites nd (braView nd) (kidsOfNet nd) kt 0
    Dict.empty hnd (fun h => by have := hodd 0 h; omega) hrep (fun _ _ _ => rfl)
  rw [← trLoop_eq_ssLoop nd kt.post hstep Dict.empty] at hd1
  exact traceTtndo_of_loop kt hodd nd hr0 hord (by rw [hnode]; exact (ttndo_root_lookup kt).1) hrt d _ hd1
    (by rw [hd2, if_pos rfl]; rfl)

end Ptn.C16.Ttndo
