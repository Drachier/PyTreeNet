import Ptn.C04.TreeModel
/-! Tree-level model of `pytreenet/contractions/ttndo_contractions.py` (core Lean only), on top of the
leg-label calculus and the block dictionary of `Ptn.C04`.

This is a second model beside `Model.lean` (`fromTtns` over abstract identifiers), and no theorem joins the two: the harness
compares `Model.lean` with the library's structure and contraction order (streams `struct`, `order`) and the records of
this file, contracted over the library's tensors, with the library's values (streams `trace`, `ttno`, `tprod`).

Identifiers of the TTNDO are natural numbers: the root is `0`, the ket copy of state node `i` is `2i+1`
(`ketOf`), its bra copy `2i+2` (`braOf`).  The identifier maps of the code are
`ket_to_bra_id` ↔ `ketToBra` (`k ↦ k+1`), `reverse_ket_id` ↔ `revKet` (`k ↦ (k-1)/2`), and the test
`id.endswith(ket_suffix)` ↔ `isKet` (odd).

  ttndo_contraction_order            ↔ contractionOrder
  trace_ttndo                        ↔ traceTtndo   (loop: `trStep`)
  ttndo_ttno_expectation_value       ↔ ttndoTtnoExpectationValue   (loop: `teStep`)
  _contract_ttno_root                ↔ contractTtnoRoot
  _single_site_contraction           ↔ singleSiteContraction
  _contract_final_block              ↔ contractFinalBlock
-/
namespace Ptn.C16.Ttndo
open Ptn.C04

def ketOf (i : Nat) : Nat := 2 * i + 1
def braOf (i : Nat) : Nat := 2 * i + 2
def ketToBra (k : Nat) : Nat := k + 1
def revKet (k : Nat) : Nat := (k - 1) / 2
def isKet (k : Nat) : Bool := k % 2 == 1

/-- `ttndo_contraction_order`: the ket identifiers of `linearise()` -/
def contractionOrder (ttndo : Net) : List Nat := ttndo.order.filter isKet

/-- legs of the TTNDO root tensor `eye(d).reshape(d, d, 1)`: toward the ket copy, toward the bra copy, open -/
def rootKetLeg : Leg := Leg.blkKet 0
def rootBraLeg : Leg := Leg.blkBra 0
def rootOpenLeg : Leg := Leg.blkOp 0

/-- `_contract_final_block` -/
def contractFinalBlock (ttndo : Net) (finalBlock : T) : Option T :=
  match ttndo.node ttndo.root, ttndo.tensor ttndo.root with
  | some rootNode, some rootTensor =>
    if rootNode.nn ≠ 2 then none                                  -- assert
    else
      match rootNode.children.find? isKet with                    -- [...][0]: IndexError
      | none => none
      | some finalKet =>
        match rootNode.neighbourIndex finalKet, rootNode.neighbourIndex (ketToBra finalKet) with
        | some l1, some l2 =>
          match tensordot rootTensor finalBlock [l1, l2] [0, 1] with
          | none => none
          | some r =>
            match r.legs with                                     -- contraction_result[0]
            | [] => none
            | _ :: rest => some ⟨rest, r.binds⟩
        | _, _ => none
  | _, _ => none

/-- one iteration of the loop of `trace_ttndo` -/
def trStep (ttndo : Net) (d : Dict) (ketId : Nat) : Option Dict :=
  match ttndo.node ketId, ttndo.tensor ketId, ttndo.node (ketToBra ketId), ttndo.tensor (ketToBra ketId) with
  | some ketNode, some ketTensor, some braNode, some braTensor =>
    match ketNode.parent with
    | none => none
    | some next =>
      match contractAnyNodes next ketNode braNode ketTensor braTensor (d.cacheOf ketId) ketToBra with
      | none => none
      | some block => (d.add (ketId, next) block).deleteAll (ketNode.children.map (fun c => (c, ketId)))
  | _, _, _, _ => none

/-- the loop of `trace_ttndo` over the contraction order -/
def trLoop (ttndo : Net) : List Nat → Dict → Option Dict
  | [], d => some d
  | k :: rest, d =>
    match trStep ttndo d k with
    | none => none
    | some d1 => trLoop ttndo rest d1

/-- `trace_ttndo` -/
def traceTtndo (ttndo : Net) : Option T :=
  if ttndo.order.length = 1 then none                             -- only a root: ValueError
  else
    let order := contractionOrder ttndo
    match trLoop ttndo order Dict.empty with
    | none => none
    | some d =>
      match order.getLast? with
      | none => none                                              -- IndexError
      | some finalKet =>
        match d (finalKet, ttndo.root) with
        | none => none                                            -- KeyError
        | some finalBlock => contractFinalBlock ttndo finalBlock

/-! ### with a TTNO -/

/-- a matrix transposed (`.T` of a two-leg tensor) -/
def transpose2 (t : T) : Option T :=
  match t.legs with
  | [a, b] => some ⟨[b, a], t.binds⟩
  | _ => none

/-- `_single_site_contraction`: `(bra @ op @ ket.T).T` -/
def singleSiteContraction (ket op bra : T) : Option T :=
  if ket.legs.length ≠ 2 ∨ op.legs.length ≠ 2 ∨ bra.legs.length ≠ 2 then none       -- asserts
  else
    match tensordot bra op [1] [0], transpose2 ket with
    | some braOp, some ketT =>
      match tensordot braOp ketT [1] [0] with
      | none => none
      | some block => transpose2 block
    | _, _ => none

/-- `_contract_ttno_root` -/
def contractTtnoRoot (ttndo ttno : Net) (nNodesTtno : Nat) (d : Dict) (dEmpty : Bool) : Option T :=
  let rootId := ttno.root
  match ttno.node rootId, ttno.tensor rootId, ttndo.node (ketOf rootId), ttndo.tensor (ketOf rootId),
        ttndo.node (braOf rootId), ttndo.tensor (braOf rootId) with
  | some rootNode, some rootTensor, some ketNode, some ketTensor, some braNode, some braTensor =>
    if nNodesTtno = 1 then
      if ¬ dEmpty then none else singleSiteContraction ketTensor rootTensor braTensor
    else
      match contractAllButOneNeighbourBlockToKet ketTensor ketNode ttndo.root (d.cacheOf (ketOf rootId)) with
      | none => none
      | some ketblock =>
        match contractOperatorTensorIgnoringOneLeg ketblock ketNode rootTensor rootNode ttndo.root revKet with
        | none => none
        | some ketopblock =>
          let legsTensor := List.range' 1 ketNode.nn                         -- range(1, nn+1)
          match getEquivalentLegs ketNode braNode [ttndo.root] ketToBra with
          | none => none
          | some (_, legsBra) => tensordot ketopblock braTensor legsTensor (legsBra ++ [braNode.nn])
  | _, _, _, _, _, _ => none

/-- one iteration of the loop of `ttndo_ttno_expectation_value` -/
def teStep (ttndo ttno : Net) (d : Dict) (ketId : Nat) : Option Dict :=
  match ttndo.node ketId, ttndo.tensor ketId, ttndo.node (ketToBra ketId), ttndo.tensor (ketToBra ketId),
        ttno.node (revKet ketId), ttno.tensor (revKet ketId) with
  | some ketNode, some ketTensor, some braNode, some braTensor, some opNode, some opTensor =>
    match ketNode.parent with
    | none => none
    | some next =>
      match opContractAnyNodeEnvironmentButOne next ketNode ketTensor opNode opTensor (d.cacheOf ketId)
              braNode braTensor revKet ketToBra with
      | none => none
      | some block => (d.add (ketId, next) block).deleteAll (ketNode.children.map (fun c => (c, ketId)))
  | _, _, _, _, _, _ => none

/-- the loop of `ttndo_ttno_expectation_value` -/
def teLoop (ttndo ttno : Net) : List Nat → Dict → Option Dict
  | [], d => some d
  | k :: rest, d =>
    match teStep ttndo ttno d k with
    | none => none
    | some d1 => teLoop ttndo ttno rest d1

/-- `ttndo_ttno_expectation_value` -/
def ttndoTtnoExpectationValue (ttndo ttno : Net) : Option T :=
  let order := (contractionOrder ttndo).dropLast
  match teLoop ttndo ttno order Dict.empty with
  | none => none
  | some d =>
    match contractTtnoRoot ttndo ttno ttno.order.length d order.isEmpty with
    | none => none
    | some finalBlock => contractFinalBlock ttndo finalBlock

/-! ### the TTNDO that `from_ttns` builds (structure: `ttndo_structure`) and a TTNO on the same tree

The networks are described over the KET TREE `kt`: the state's tree with every identifier `i` renamed to the
ket identifier `2i+1` (`ketTree`, below).  Leg labels are names: the legs of the bra copy of ket node `k`
are called `gBra k n` / `gBraPhys k` (`n` = ket identifier of the neighbour, `0` = the TTNDO root), the legs
of the operator tensor of the same site `gOp k n`, `gOpOut k`, `gOpIn k`. -/

/-- the parent of the bra copy of a ket node with parent `p`: the TTNDO root `0` stays, a ket copy becomes its bra copy -/
def braP (p : Nat) : Nat := if p = 0 then 0 else p + 1

def ttndoNetK (kt : Tree) : Net :=
  let inf := Tree.info (some 0) kt
  let kets : List (Nat × Node × T) := inf.map fun e => (e.1, ⟨e.2.1, e.2.2⟩, gKetT e.1 ⟨e.2.1, e.2.2⟩)
  let bras : List (Nat × Node × T) := inf.map fun e =>
    (e.1 + 1, ⟨e.2.1.map braP, e.2.2.map (· + 1)⟩, gBraT e.1 ⟨e.2.1, e.2.2⟩)
  let table : List (Nat × Node × T) :=
    (0, ⟨none, [kt.id, kt.id + 1]⟩, T.fresh [rootKetLeg, rootBraLeg, rootOpenLeg]) :: (kets ++ bras)
  { root := 0
    node := fun k => (table.find? (·.1 == k)).map (·.2.1)
    tensor := fun k => (table.find? (·.1 == k)).map (·.2.2)
    order := kt.post ++ kt.post.map (· + 1) ++ [0] }

/-- a TTNO on the same tree (state identifiers `revKet k`), node `k` with the child order `opKids k` -/
def ttnoNetK (kt : Tree) (opKids : Nat → List Nat) : Net :=
  let inf := Tree.info none kt
  let table : List (Nat × Node × T) := inf.map fun e =>
    (revKet e.1, ⟨e.2.1.map revKet, (opKids e.1).map revKet⟩, gOpT e.1 ⟨e.2.1, opKids e.1⟩)
  { root := revKet kt.id
    node := fun i => (table.find? (·.1 == i)).map (·.2.1)
    tensor := fun i => (table.find? (·.1 == i)).map (·.2.2)
    order := kt.post.map revKet }

/-- the ket tree of a state tree -/
def ketTree : Tree → Tree
  | .node i ks => .node (ketOf i) (ketTreeL ks)
where ketTreeL : List Tree → List Tree
  | [] => []
  | t :: ts => ketTree t :: ketTreeL ts

end Ptn.C16.Ttndo
