import Ptn.C17.Model
/-! Gauge machine of one BUG step (`pytreenet/time_evolution/time_evo_util/common_bug.py`): which
neighbour every tensor of the RETURNED state (`new_state`) is recorded to be an isometry toward, in
the style of the C03 machine (`Ptn.C03.applyOp`).  Core Lean only (imported by the C09 driver).

The events follow the code literally.  `update_node(c)` for a child `c` of `p`:

* `down p c keep`  - `assert parent_id == parent_state.orthogonality_center_id`, working copy
                     (`deepcopy` / `deepcopy_parts`), `move_orthogonalization_center(c, mode)` with
                     `mode = KEEP` for fixed rank, `REDUCED` otherwise: a new frame with centre `c`;
* the recursion into the children of `c` (`frozenset` order = the order of the kids here);
* if `c` is not a leaf: `pull c` - `pull_tensor_from_different_ttn(current_state, new_state, c)`:
  the tensor of `c` in `new_state` is replaced by the CENTRE tensor of the working copy (no isometry),
  `absorb c kids` - `new_state.contract_all_children(c)`: the basis-change nodes `k_basis_change_tensor`
  of all children are contracted into `c` (no isometry; the children then hang below `c` again);
* `evolve c`       - `single_site_time_evolution(c, …)` (result is a local array);
* `basis c p aug`  - the new basis: `Q` of the QR of the evolved tensor (`aug = false`, fixed rank,
                     `compute_fixed_size_new_basis_tensor` / `tensor_qr_decomposition(…, KEEP)`) or of
                     the old tensor stacked on the evolved one along the parent leg (`aug = true`),
                     Q-legs = children + open legs, R-leg = parent leg: `Q` is an isometry toward the
                     PARENT; `split_node_replace` (`bugSplit` in `BugOps.lean`) stores `Q` at `c` and hangs
                     the basis-change tensor between `c` and `p` (pending until `absorb p …`); the frame
                     of `c` ends.
The flags `keep` / `aug` are what `moveOf` / `qrOf` report; `step` does not read them.

`root_update`: the loop over the children, `pull r`, `absorb r kids`, `evolve r`,
`store r` (`replace_tensor(root, updated_tensor)`).

State: `dir n = some v` - the tensor of `n` in `new_state` is recorded as an isometric QR factor
toward (the node behind its leg to) `v`; `pend` - the basis-change nodes `(k, p)` present in
`new_state`; `frames` - the centres of the nested working copies (innermost first; the last is the
start state, centre = root).  A step answers `none` when the code would assert / touch a node that
is not there. -/
namespace Ptn.C09.Gauge
open Ptn.C17 Ptn.C17.RTree

inductive GEv where
  | down (p c : Nat) (keep : Bool)
  | pull (c : Nat)
  | absorb (c : Nat) (kids : List Nat)
  | evolve (c : Nat)
  | basis (c p : Nat) (aug : Bool)
  | store (r : Nat)
deriving Repr, DecidableEq

structure GState where
  dir : Nat → Option Nat
  pend : List (Nat × Nat)
  frames : List Nat

def setDir (dir : Nat → Option Nat) (n : Nat) (v : Option Nat) : Nat → Option Nat :=
  fun x => if x = n then v else dir x

def step (s : GState) : GEv → Option GState
  | .down p c _ => if s.frames.head? = some p then some { s with frames := c :: s.frames } else none
  | .pull c =>
    if s.frames.head? = some c then some { s with dir := setDir s.dir c none } else none
  | .absorb c kids =>
    -- every child of `c` in `new_state` is a basis-change node (else a real node would be swallowed)
    if kids.all (fun k => s.pend.contains (k, c)) then
      some { s with dir := setDir s.dir c none, pend := s.pend.filter (fun e => e.2 != c) }
    else none
  | .evolve c =>
    -- the node evolved is the centre of the innermost frame and has no basis-change node below it
    if s.frames.head? = some c ∧ s.pend.all (fun e => e.2 != c) then some s else none
  | .basis c p _ =>
    if s.frames.head? = some c ∧ !s.pend.contains (c, p) then
      some { dir := setDir s.dir c (some p), pend := s.pend ++ [(c, p)], frames := s.frames.tail }
    else none
  | .store r => if s.frames = [r] then some { s with dir := setDir s.dir r none } else none

def run (s : GState) : List GEv → Option GState
  | [] => some s
  | e :: es => (step s e).bind fun s' => run s' es

mutual
/-- `update_node(c)` for the root `c` of the given subtree, child of `p` -/
def nodeEvents (fixed : Bool) (p : Nat) : RTree → List GEv
  | node c ks =>
    [GEv.down p c fixed] ++ kidsEvents fixed c ks ++
      (if ks.isEmpty then [] else [GEv.pull c, GEv.absorb c (ks.map rid)]) ++
      [GEv.evolve c, GEv.basis c p (!fixed)]
/-- the loop over the children -/
def kidsEvents (fixed : Bool) (c : Nat) : List RTree → List GEv
  | [] => []
  | k :: ks => nodeEvents fixed c k ++ kidsEvents fixed c ks
end

/-- `root_update` (`fixed` = `bug_config.fixed_rank`) -/
def bugEvents (fixed : Bool) : RTree → List GEv
  | node r ks =>
    kidsEvents fixed r ks ++ [GEv.pull r, GEv.absorb r (ks.map rid), GEv.evolve r, GEv.store r]

/-- the start: `new_state = deepcopy(current_state)`, no basis-change node, the only frame is the
    start state, whose centre is the root (`assert orthogonality_center_id == root_id`) -/
def start (dir0 : Nat → Option Nat) (t : RTree) : GState := ⟨dir0, [], [t.rid]⟩

/-- the QR events of a run: (node, neighbour its new tensor is an isometry toward, augmented?) -/
def qrOf : GEv → Option (Nat × Nat × Bool)
  | .basis c p aug => some (c, p, aug)
  | _ => none

/-- the centre moves on the working copies: (from, to, KEEP mode?) -/
def moveOf : GEv → Option (Nat × Nat × Bool)
  | .down p c keep => some (p, c, keep)
  | _ => none

/-! ### printing (driver query `gauge`) -/

def showB (b : Bool) : String := if b then "1" else "0"

def showGEv : GEv → String
  | .down p c keep => s!"down {p}>{c} {showB keep}"
  | .pull c => s!"pull {c}"
  | .absorb c ks => s!"absorb {c} " ++ ",".intercalate (ks.map toString)
  | .evolve c => s!"evolve {c}"
  | .basis c p aug => s!"basis {c}>{p} {showB aug}"
  | .store r => s!"store {r}"

def showState (ids : List Nat) (s : GState) : String :=
  " ".intercalate (ids.map fun n =>
    match s.dir n with
    | some v => s!"{n}>{v}"
    | none => s!"{n}>-") ++ s!" | pend {s.pend.length} | frames " ++
    ",".intercalate (s.frames.map toString)

end Ptn.C09.Gauge
