import Ptn.C09.GaugeModel
import Ptn.C17.Tree
/-! The gauge machine runs through on the events of every tree (core Lean only): one recursion over the tree
(`update_run`: what `update_node` does to frames, pending list and records, `NodeOut` / `KidsOut`), the root on top of
it (`root_run`).  The QR events and centre moves of a step as lists. -/
namespace Ptn.C09.Gauge
open Ptn.C17 Ptn.C17.RTree

theorem run_append (s : GState) (a b : List GEv) :
    run s (a ++ b) = (run s a).bind fun s' => run s' b := by
  induction a generalizing s with
  | nil => simp [run]
  | cons e es ih =>
    simp only [List.cons_append, run]
    cases step s e with
    | none => simp
    | some s' => simp [ih]

theorem run_cons (s : GState) (e : GEv) (es : List GEv) :
    run s (e :: es) = (step s e).bind fun s' => run s' es := rfl

theorem run_append_some {s s1 s' : GState} {a b : List GEv} (h1 : run s a = some s1) (h2 : run s1 b = some s') :
    run s (a ++ b) = some s' := by rw [run_append, h1]; exact h2

theorem run_cons_some {s s1 s' : GState} {e : GEv} {es : List GEv} (h1 : step s e = some s1) (h2 : run s1 es = some s') :
    run s (e :: es) = some s' := by rw [run_cons, h1]; exact h2

theorem run_prefix {g g' : GState} {a b : List GEv} (h : run g (a ++ b) = some g') : ∃ g1, run g a = some g1 := by
  rw [run_append] at h
  cases hg : run g a with
  | none => rw [hg] at h; cases h
  | some g1 => exact ⟨g1, rfl⟩

theorem setDir_same (dir : Nat → Option Nat) (n : Nat) (v : Option Nat) : setDir dir n v n = v := by
  simp [setDir]

theorem setDir_ne (dir : Nat → Option Nat) {n x : Nat} (v : Option Nat) (h : x ≠ n) :
    setDir dir n v x = dir x := by
  simp [setDir, h]

@[simp] theorem nodeEvents_node (fixed : Bool) (p c : Nat) (ks : List RTree) :
    nodeEvents fixed p (node c ks) =
      [GEv.down p c fixed] ++ kidsEvents fixed c ks ++
        (if ks.isEmpty then [] else [GEv.pull c, GEv.absorb c (ks.map rid)]) ++
        [GEv.evolve c, GEv.basis c p (!fixed)] := by
  simp [nodeEvents]

@[simp] theorem kidsEvents_nil (fixed : Bool) (c : Nat) : kidsEvents fixed c [] = [] := by
  simp [kidsEvents]

@[simp] theorem kidsEvents_cons (fixed : Bool) (c : Nat) (k : RTree) (ks : List RTree) :
    kidsEvents fixed c (k :: ks) = nodeEvents fixed c k ++ kidsEvents fixed c ks := by
  simp [kidsEvents]

/-- the filter of `absorb c` (`contract_all_children(c)`) removes exactly the entries of the children of `c` -/
theorem filter_pend {α : Type} {pend : List (Nat × Nat)} {c : Nat} (l : List α) (f : α → Nat)
    (h : ∀ e ∈ pend, e.2 ≠ c) :
    (pend ++ l.map fun k => (f k, c)).filter (fun e => e.2 != c) = pend := by
  rw [List.filter_append]
  have h1 : pend.filter (fun e => e.2 != c) = pend := by
    apply List.filter_eq_self.mpr
    intro e he
    simpa using h e he
  have h2 : (l.map fun k => (f k, c)).filter (fun e => e.2 != c) = [] := by
    apply List.filter_eq_nil_iff.mpr
    intro e he
    obtain ⟨k, _, rfl⟩ := List.mem_map.mp he
    simp
  rw [h1, h2, List.append_nil]

/-- What one `update_node` does to the machine state. -/
structure NodeOut (st st' : GState) (p : Nat) (s : RTree) : Prop where
  frames : st'.frames = st.frames
  pend : st'.pend = st.pend ++ [(s.rid, p)]
  top : st'.dir s.rid = some p
  inner : ∀ e ∈ edges s, st'.dir e.2 = some e.1
  outer : ∀ x, x ∉ ids s → st'.dir x = st.dir x

structure KidsOut (st st' : GState) (c : Nat) (ks : List RTree) : Prop where
  frames : st'.frames = st.frames
  pend : st'.pend = st.pend ++ ks.map fun k => (k.rid, c)
  inner : ∀ e ∈ edgesL c ks, st'.dir e.2 = some e.1
  outer : ∀ x, x ∉ idsL ks → st'.dir x = st.dir x

theorem step_pend {g g1 : GState} {e : GEv} (h : step g e = some g1) :
    g1.pend = match (generalizing := false) e with
      | .absorb c _ => g.pend.filter fun e => e.2 != c
      | .basis c p _ => g.pend ++ [(c, p)]
      | _ => g.pend := by
  cases e <;>
    (simp only [step, Option.ite_none_right_eq_some, Option.some.injEq] at h
     obtain ⟨_, rfl⟩ := h
     rfl)

theorem step_evolve {s : GState} {c : Nat} (hfr : s.frames.head? = some c) (hp : ∀ e ∈ s.pend, e.2 ≠ c) :
    step s (.evolve c) = some s := by
  have hall : s.pend.all (fun e => e.2 != c) = true := List.all_eq_true.mpr fun e he => by simpa using hp e he
  simp [step, hfr, hall]

theorem step_absorb {g g1 : GState} {c : Nat} {kids : List Nat} :
    step g (.absorb c kids) = some g1 ↔ (∀ k ∈ kids, (k, c) ∈ g.pend) ∧
      { g with dir := setDir g.dir c none, pend := g.pend.filter (fun e => e.2 != c) } = g1 := by
  simp only [step, Option.ite_none_right_eq_some, List.all_eq_true, List.contains_eq_mem,
    decide_eq_true_eq, Option.some.injEq]

/-- after the loop over the children of `c`: `pull c`, then `contract_all_children(c)` meets the basis-change nodes of
    exactly these children and leaves the pending list of before the loop -/
theorem pull_absorb_run {st st1 : GState} {c : Nat} {ks : List RTree} (hk : KidsOut st st1 c ks)
    (hfr : st.frames.head? = some c) (hpend : ∀ e ∈ st.pend, e.2 ≠ c) :
    run st1 [GEv.pull c, GEv.absorb c (ks.map rid)] =
      some { st1 with dir := setDir (setDir st1.dir c none) c none, pend := st.pend } := by
  have hfr1 : st1.frames.head? = some c := by rw [hk.frames]; exact hfr
  have hall : ∀ k' ∈ ks.map rid, (k', c) ∈ st1.pend := by
    intro k' hk'
    obtain ⟨kk, hkk, rfl⟩ := List.mem_map.mp hk'
    rw [hk.pend]
    exact List.mem_append_right _ (List.mem_map.mpr ⟨kk, hkk, rfl⟩)
  have hfil : st1.pend.filter (fun e => e.2 != c) = st.pend := by
    rw [hk.pend]
    exact filter_pend ks rid hpend
  refine run_cons_some (s1 := { st1 with dir := setDir st1.dir c none }) ?_
    (run_cons_some (step_absorb.mpr ⟨hall, ?_⟩) rfl)
  · simp only [step, hfr1, if_true]
  · simp only [hfil]

theorem update_run (fixed : Bool) :
    (∀ s, ∀ p st, (ids s).Nodup → p ∉ ids s → st.frames.head? = some p →
      (∀ e ∈ st.pend, e.2 ∉ ids s) → (s.rid, p) ∉ st.pend →
      ∃ st', run st (nodeEvents fixed p s) = some st' ∧ NodeOut st st' p s) ∧
    (∀ ks, ∀ c st, (idsL ks).Nodup → c ∉ idsL ks → st.frames.head? = some c →
      (∀ e ∈ st.pend, e.2 ∉ idsL ks) → (∀ k ∈ ks, (k.rid, c) ∉ st.pend) →
      ∃ st', run st (kidsEvents fixed c ks) = some st' ∧ KidsOut st st' c ks) := by
  apply induct
  · -- `update_node(c)`: `down` opens the frame of `c`; the children by the induction hypothesis (`KidsOut`: their entries
    -- are appended to `pend`); `pull`, `absorb` (if there are children) take exactly these entries out again; `evolve`;
    -- `basis` appends `(c, p)`, records `c` toward `p` and closes the frame
    intro c ks ih p st hnd hp hfr hpend hnew
    rw [ids_node] at hnd hp hpend
    have hndc := List.nodup_cons.mp hnd
    have hpendc : ∀ e ∈ st.pend, e.2 ≠ c := fun e he h => hpend e he (List.mem_cons.mpr (Or.inl h))
    let st0 : GState := { st with frames := c :: st.frames }
    obtain ⟨st1, hrun1, hk⟩ := ih c st0 hndc.2 hndc.1 rfl
      (fun e he h => hpend e he (List.mem_cons_of_mem _ h)) (fun k _ hm => hpendc _ hm rfl)
    obtain ⟨st2, hrun2, hfr2, hpend2, hdir2⟩ : ∃ st2,
        run st1 (if ks.isEmpty then [] else [GEv.pull c, GEv.absorb c (ks.map rid)]) = some st2 ∧
        st2.frames = c :: st.frames ∧ st2.pend = st.pend ∧ (∀ x, x ≠ c → st2.dir x = st1.dir x) := by
      cases ks with
      | nil => exact ⟨st1, rfl, hk.frames, by simpa using hk.pend, fun _ _ => rfl⟩
      | cons k ks' =>
        refine ⟨_, pull_absorb_run hk rfl hpendc, hk.frames, rfl, fun x hx => ?_⟩
        show setDir (setDir st1.dir c none) c none x = st1.dir x
        rw [setDir_ne _ _ hx, setDir_ne _ _ hx]
    have hnotin : (c, p) ∉ st2.pend := by rw [hpend2]; exact hnew
    refine ⟨{ dir := setDir st2.dir c (some p), pend := st2.pend ++ [(c, p)],
              frames := st2.frames.tail }, ?_, ?_⟩
    · rw [nodeEvents_node]
      have hd : step st (GEv.down p c fixed) = some st0 := by simp [step, hfr, st0]
      refine run_append_some (run_append_some (run_cons_some hd hrun1) hrun2)
        (run_cons_some (step_evolve (by rw [hfr2]; rfl) (by rw [hpend2]; exact hpendc)) (run_cons_some ?_ rfl))
      simp [step, hfr2, hnotin]
    · refine ⟨by simp [hfr2], by simp [hpend2, rid], by simp [rid, setDir_same], ?_, ?_⟩
      · intro e he
        have hne : e.2 ≠ c := edge_snd_ne_rid (t := node c ks) hnd he
        rw [edges_node] at he
        show setDir st2.dir c (some p) e.2 = some e.1
        rw [setDir_ne _ _ hne, hdir2 _ hne]
        exact hk.inner e he
      · intro x hx
        rw [ids_node] at hx
        have hxc : x ≠ c := fun h => hx (List.mem_cons.mpr (Or.inl h))
        have hxk : x ∉ idsL ks := fun h => hx (List.mem_cons_of_mem _ h)
        show setDir st2.dir c (some p) x = st.dir x
        rw [setDir_ne _ _ hxc, hdir2 _ hxc, hk.outer x hxk]
  · intro c st _ _ _ _ _
    exact ⟨st, by rw [kidsEvents_nil]; rfl, ⟨rfl, by simp, by simp, fun _ _ => rfl⟩⟩
  · -- the loop over the children: the first child leaves the frames as they were and one more entry, `(t.rid, c)`, which
    -- touches no later sibling
    intro t ts iht ihts c st hnd hc hfr hpend hnew
    rw [idsL_cons] at hnd hc
    have hnd' := List.nodup_append.mp hnd
    have hct : c ∉ ids t := fun h => hc (List.mem_append_left _ h)
    have hcts : c ∉ idsL ts := fun h => hc (List.mem_append_right _ h)
    obtain ⟨st1, hrun1, h1⟩ := iht c st hnd'.1 hct hfr
      (fun e he h => hpend e he (List.mem_append_left _ h)) (hnew t (List.mem_cons_self ..))
    have hdisj : ∀ x, x ∈ ids t → x ∉ idsL ts := fun x hx hx' => hnd'.2.2 x hx x hx' rfl
    obtain ⟨st2, hrun2, h2⟩ := ihts c st1 hnd'.2.1 hcts (by rw [h1.frames]; exact hfr)
      (by
        rw [h1.pend]
        exact List.forall_mem_append.mpr ⟨fun e he h => hpend e he (List.mem_append_right _ h), List.forall_mem_singleton.mpr hcts⟩)
      (by
        intro k hk hm
        rw [h1.pend] at hm
        rcases List.mem_append.mp hm with hm | hm
        · exact hnew k (List.mem_cons_of_mem _ hk) hm
        · have : k.rid = t.rid := (Prod.mk.inj (List.mem_singleton.mp hm)).1
          exact hdisj _ (rid_mem_ids t) (this ▸ ids_subset_idsL hk _ (rid_mem_ids k)))
    refine ⟨st2, ?_, ?_⟩
    · rw [kidsEvents_cons]; exact run_append_some hrun1 hrun2
    · refine ⟨h2.frames.trans h1.frames, by rw [h2.pend, h1.pend]; simp, ?_, ?_⟩
      · intro e he
        rw [edgesL_cons] at he
        rcases List.mem_cons.mp he with rfl | he
        · show st2.dir t.rid = some c
          rw [h2.outer _ (hdisj _ (rid_mem_ids t))]; exact h1.top
        · rcases List.mem_append.mp he with he | he
          · rw [h2.outer _ (hdisj _ (edges_snd_mem he))]; exact h1.inner e he
          · exact h2.inner e he
      · intro x hx
        rw [idsL_cons] at hx
        rw [h2.outer x (fun h => hx (List.mem_append_right _ h)), h1.outer x (fun h => hx (List.mem_append_left _ h))]

theorem qr_events (fixed : Bool) :
    (∀ s p, (nodeEvents fixed p s).filterMap qrOf = (upKeys p s).map fun e => (e.1, e.2, !fixed)) ∧
    (∀ ks c, (kidsEvents fixed c ks).filterMap qrOf =
      (upKeysL c ks).map fun e => (e.1, e.2, !fixed)) := by
  apply induct
  · intro c ks ih p
    have h := ih c
    cases ks with
    | nil => simp [upKeys, upKeysL, List.filterMap_cons, qrOf]
    | cons k ks' =>
      simp only [nodeEvents_node, List.filterMap_append, h]
      simp [upKeys, List.filterMap_cons, qrOf]
  · intro c; simp [upKeysL]
  · intro t ts iht ihts c
    simp [upKeysL, List.filterMap_append, iht c, ihts c]

theorem move_events (fixed : Bool) :
    (∀ s p, (nodeEvents fixed p s).filterMap moveOf =
      ((p, s.rid) :: edges s).map fun e => (e.1, e.2, fixed)) ∧
    (∀ ks c, (kidsEvents fixed c ks).filterMap moveOf =
      (edgesL c ks).map fun e => (e.1, e.2, fixed)) := by
  apply induct
  · intro c ks ih p
    have h := ih c
    cases ks with
    | nil => simp [List.filterMap_cons, moveOf, rid]
    | cons k ks' =>
      simp only [nodeEvents_node, List.filterMap_append, h]
      simp [List.filterMap_cons, moveOf, rid]
  · intro c; simp
  · intro t ts iht ihts c
    simp [List.filterMap_append, iht c, ihts c]

theorem root_run (fixed : Bool) (t : RTree) (hwf : t.WF) (dir0 : Nat → Option Nat) :
    ∃ s, run (start dir0 t) (bugEvents fixed t) = some s ∧
      s.dir t.rid = none ∧ (∀ e ∈ edges t, s.dir e.2 = some e.1) ∧
      s.pend = [] ∧ s.frames = [t.rid] ∧ (∀ x, x ∉ ids t → s.dir x = dir0 x) := by
  cases t with
  | node r ks =>
    have hnd : (r :: idsL ks).Nodup := by simpa [WF] using hwf
    have hndc := List.nodup_cons.mp hnd
    obtain ⟨st1, hrun1, hk⟩ := (update_run fixed).2 ks r (start dir0 (node r ks)) hndc.2 hndc.1 rfl
      (List.forall_mem_nil _) (fun _ _ => List.not_mem_nil)
    have hrun2 := pull_absorb_run hk rfl (List.forall_mem_nil _)
    have hfr1 : st1.frames = [r] := hk.frames
    refine ⟨{ st1 with dir := setDir (setDir (setDir st1.dir r none) r none) r none, pend := [] },
      ?_, by simp [rid, setDir_same], ?_, rfl, hfr1, ?_⟩
    · show run _ (kidsEvents fixed r ks ++ ([GEv.pull r, GEv.absorb r (ks.map rid)] ++ [GEv.evolve r, GEv.store r])) = _
      refine run_append_some hrun1 (run_append_some hrun2 (run_cons_some (step_evolve (by rw [hfr1]; rfl) (List.forall_mem_nil _))
        (run_cons_some ?_ rfl)))
      simp [step, hfr1, start]
    · intro e he
      have hne : e.2 ≠ r := edge_snd_ne_rid hwf he
      rw [edges_node] at he
      show setDir (setDir (setDir st1.dir r none) r none) r none e.2 = some e.1
      rw [setDir_ne _ _ hne, setDir_ne _ _ hne, setDir_ne _ _ hne]
      exact hk.inner e he
    · intro x hx
      rw [ids_node] at hx
      have hxr : x ≠ r := fun h => hx (List.mem_cons.mpr (Or.inl h))
      show setDir (setDir (setDir st1.dir r none) r none) r none x = dir0 x
      rw [setDir_ne _ _ hxr, setDir_ne _ _ hxr, setDir_ne _ _ hxr, hk.outer x (fun h => hx (List.mem_cons_of_mem _ h))]
      rfl

theorem root_qr_events (fixed : Bool) (t : RTree) :
    (bugEvents fixed t).filterMap qrOf = (upKeysL t.rid t.kids).map fun e => (e.1, e.2, !fixed) := by
  cases t with
  | node r ks =>
    simp only [bugEvents, List.filterMap_append, (qr_events fixed).2 ks r, rid, kids]
    simp [List.filterMap_cons, qrOf]

theorem root_move_events (fixed : Bool) (t : RTree) :
    (bugEvents fixed t).filterMap moveOf = (edges t).map fun e => (e.1, e.2, fixed) := by
  cases t with
  | node r ks =>
    simp only [bugEvents, List.filterMap_append, (move_events fixed).2 ks r, edges_node]
    simp [List.filterMap_cons, moveOf]

end Ptn.C09.Gauge
