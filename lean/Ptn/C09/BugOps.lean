import Ptn.C02.Composite
/-! The two structural edits of a BUG step (`root_update` / `update_node`,
`pytreenet/time_evolution/time_evo_util/common_bug.py`) as functions on the structural TTN model of C02 (core Lean; run by
`StepModel.lean` and the driver, theorems in `Structure.lean`).

* `bugAbsorbOne p b` = one iteration `contract_nodes(p, b, new_identifier=p)` of
                       `new_state.contract_all_children(p)` (`b` = a basis-change node below `p`);
* `bugSplit c b bd`  = `new_state.split_node_replace(c, M, Q, c_basis_change_tensor, c,
                       LegSpecification(parent, [], []), LegSpecification(None, children, open_legs))`:
                       OUT node `b` (parent leg only, the basis-change tensor `M`), IN node keeps the identifier
                       `c`, the children and the open legs (`Q`); `bd` = dimension of the new bond = the new rank.
                       (For a leaf the code passes the literal open-leg list `[1]`, which is `open_legs` of the
                       only leaves `update_leaf_node` supports - its QR call has the legs `(1,), (0,)`.)

`bugBasisUp c b bd` = `bugSplit c b bd` followed AT ONCE by `bugAbsorbOne parent b`.  The code does not do that: it
absorbs the basis-change nodes of all children of a node together, after the loop over them (`contract_all_children`),
so that those of finished siblings are pending while a later sibling's subtree is edited.  `bugBasisUp` and the runs
over `BugEvent` (`Structure.lean`) describe the step with that interleaving taken out (the `_partial` statements of
`Props.lean`); the literal order is `Step.sEdit` over the events of the gauge machine (`StepModel.lean`). -/
namespace Ptn.C09
open Ptn.C02 Ptn.C02.NodeS

def bugSplit (t : TTN) (c b : Id) (bd : Nat) : Option TTN := do
  let node ← dget t.nodes c
  let p ← node.parent                                   -- `assert not is_root()` / `LegSpecification(parent_id, …)`
  t.splitNodes c ⟨some p, [], [], false⟩ ⟨none, node.children, TTN.openIdx node, false⟩ b c bd

def bugAbsorbOne (t : TTN) (p b : Id) : Option TTN := t.contractNodes p b p

def bugBasisUp (t : TTN) (c b : Id) (bd : Nat) : Option TTN := do
  let node ← dget t.nodes c
  let p ← node.parent
  let t1 ← bugSplit t c b bd
  bugAbsorbOne t1 p b

end Ptn.C09
