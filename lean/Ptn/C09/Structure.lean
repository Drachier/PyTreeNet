import Ptn.C09.BugOps
import Ptn.C02.CompositeWF
/-! What the edits of `BugOps.lean` do on the structural TTN model of C02 (well-formedness, structure map, legs, open axes:
by the `WFX` rules and `split_legs` of C02), and the runs `BugRun` over `BugEvent`s: the edits of a step with every
basis-change tensor absorbed right after the split that creates it.  Core Lean only. -/
namespace Ptn.C09
open Ptn.C02 Ptn.C02.NodeS

theorem bugSplit_adm {t : TTN} {c b p : Id} {C : NodeS} (hC : t.N c = some C) (hp : C.parent = some p)
    (hl : t.N b = none) :
    SplitAdm t c C ⟨some p, [], [], false⟩ ⟨none, C.children, TTN.openIdx C, false⟩ b c :=
  ⟨hC, Or.inr hl, Or.inl rfl, by simp, Or.inl ⟨p, hp, rfl, rfl, Or.inl ⟨rfl, rfl⟩⟩⟩

/-- **`split_node_replace` of a BUG step** on a non-root node `c` with parent `p`: the basis-change node `b`
    takes the place of `c` below `p` and has the single child `c`; `c` keeps its children (same list) and its open
    legs; well-formedness, label invariant and all open axes are kept. -/
theorem bug_split_full {P : Prop} {O : Id → List Axis} {t t1 : TTN} {c b p : Id} {C : NodeS} {bd : Nat}
    (hx : t.WFX P O) (hC : t.N c = some C) (hp : C.parent = some p) (hl : t.N b = none)
    (hs : t.splitNodes c ⟨some p, [], [], false⟩ ⟨none, C.children, TTN.openIdx C, false⟩ b c bd = some t1) :
    t1.WFX P O ∧ t1.S = splitS t.S c b c (some p) [] C.children ∧ t1.root = t.root := by
  have h := hx.wf
  have adm := bugSplit_adm hC hp hl
  obtain ⟨L, hL, w⟩ := split_wfx hx adm hs
  refine ⟨w.congr fun hq => funext fun k => ?_, ?_⟩
  · -- `b` had no open axes and gets none; `c` is given all of its own
    unfold splitO
    by_cases k1 : k = b
    · rw [if_pos k1, k1, hx.fresh hl hq]; rfl
    · by_cases k2 : k = c
      · obtain ⟨L', hL', hLl⟩ := logical_some h hC
        cases hL.symm.trans hL'
        rw [if_neg k1, if_pos k2, k2, ← hx.op hq c, openAxes_eq hC hL, pick_openIdx hLl (h.node c C hC).virt]
      · rw [if_neg k1, if_neg k2, if_neg k2]
  obtain ⟨a', b', aCh, bCh, hcfg, hS, hR⟩ := split_S_eq h adm hs
  rcases hcfg with ⟨rfl, rfl, rfl, rfl, _⟩ | ⟨_, _, _, _, hc⟩
  · refine ⟨by rw [hS, hp], ?_⟩
    rw [hR, hp]; simp
  · simp at hc

theorem bug_split_legs {t t1 : TTN} {c b p : Id} {C : NodeS} {bd : Nat}
    (h : t.WF) (hC : t.N c = some C) (hp : C.parent = some p) (hl : t.N b = none)
    (hs : t.splitNodes c ⟨some p, [], [], false⟩ ⟨none, C.children, TTN.openIdx C, false⟩ b c bd = some t1) :
    (∀ x ax, t1.Leg b x ax ↔ ((x = c ∧ ax = ⟨t.nextLabel, bd⟩) ∨ (x = p ∧ t.Leg c x ax))) ∧
    (∀ x ax, t1.Leg c x ax ↔ ((x = b ∧ ax = ⟨t.nextLabel, bd⟩) ∨ (x ∈ C.children ∧ t.Leg c x ax))) := by
  obtain ⟨_, _, _, lb, lc, _⟩ := split_legs h (bugSplit_adm hC hp hl) hs
  refine ⟨fun x ax => (lb x ax).trans ?_, lc⟩
  -- the specification of the out-node lists the parent leg only
  have hm : x ∈ TTN.LegSpec.allNeighbourIds ⟨some p, [], [], false⟩ ↔ x = p := by
    rw [mem_allNeighbourIds]; simp [eq_comm]
  rw [hm]

theorem bugSplit_eq {t t1 : TTN} {c b : Id} {bd : Nat} (hs : bugSplit t c b bd = some t1) :
    ∃ C p, t.N c = some C ∧ C.parent = some p ∧
      t.splitNodes c ⟨some p, [], [], false⟩ ⟨none, C.children, TTN.openIdx C, false⟩ b c bd = some t1 := by
  unfold bugSplit at hs
  cases hC : dget t.nodes c with
  | none => simp [hC, bind, Option.bind] at hs
  | some C =>
    simp only [hC, bind, Option.bind] at hs
    cases hp : C.parent with
    | none => simp [hp] at hs
    | some p =>
      simp only [hp] at hs
      exact ⟨C, p, hC, hp, hs⟩

/-- **Basis update of one node followed by the absorption of its basis-change tensor into the parent**:
    `c` becomes the LAST child of its parent, nothing else changes in the structure; well-formedness, label
    invariant and the open axes of every node are kept (the new bond dimension `bd` is arbitrary). -/
theorem bug_basis_up_full {P : Prop} {O : Id → List Axis} {t t' : TTN} {c b : Id} {bd : Nat}
    (hx : t.WFX P O) (hl : t.N b = none) (hs : bugBasisUp t c b bd = some t') :
    t'.WFX P O ∧ t'.root = t.root ∧ ∃ C p, t.N c = some C ∧ C.parent = some p ∧ t'.S = demoteS t.S p c := by
  have h := hx.wf
  unfold bugBasisUp at hs
  cases hC : dget t.nodes c with
  | none => simp [hC, bind, Option.bind] at hs
  | some C =>
    have hCN : t.N c = some C := hC
    simp only [hC, bind, Option.bind] at hs
    cases hp : C.parent with
    | none => simp [hp] at hs
    | some p =>
      simp only [hp] at hs
      cases hs1 : bugSplit t c b bd with
      | none => simp [hs1] at hs
      | some t1 =>
        simp only [hs1] at hs
        obtain ⟨C', p', hC', hp', hsp⟩ := bugSplit_eq hs1
        rw [hCN] at hC'; simp at hC'; subst hC'
        rw [hp] at hp'; simp at hp'; subst hp'
        obtain ⟨w1, S1, _⟩ := bug_split_full hx hCN hp hl hsp
        obtain ⟨B, hB, _⟩ := parent_node h hCN hp
        unfold bugAbsorbOne at hs
        obtain ⟨w', R', S'⟩ := contract_link_up h w1 (hx.fresh hl) hCN hB hp hl S1 (Or.inr ⟨rfl, rfl⟩) hs
        have hne : ¬ p = b := by intro e; rw [e, hl] at hB; simp at hB
        simp only [hne, if_false] at S'
        exact ⟨w', R', C, p, hCN, hp, S'⟩

/-- The edits `root_update` / `update_node` (`common_bug.py`) apply to `new_state`, the absorption of every basis-change
    tensor taken together with the split that creates it (`bugBasisUp`: not the order of the code, see `BugOps.lean`; the
    events in the order of the code are `Gauge.GEv` with the edits `Step.sEdit`):
    `pull c perm` = `pull_tensor_from_different_ttn(current_state, new_state, c, …)`, i.e. `new_state.replace_tensor(c,
    tensor, perm)` with `perm` = `relative_leg_permutation`; `access c` = the tensor reads of `single_site_time_evolution` /
    `contract_any` / `contract_leaf`; `store r` = `new_state.replace_tensor(root, updated_tensor)`. -/
inductive BugEvent where
  | pull (c : Id) (perm : Option (List Nat))
  | access (c : Id)
  | basisUp (c b : Id) (bd : Nat)
  | store (r : Id)

def bugEvent (t : TTN) : BugEvent → Option TTN
  | .pull c q => t.replaceTensorPermuted c q
  | .access c => (t.access c).map (·.1)
  | .basisUp c b bd => bugBasisUp t c b bd
  | .store r => t.replaceTensorPermuted r none

/-- What the library guarantees of the arguments: the basis-change identifier is unused when it is taken
    (`basis_change_tensor_id`), `relative_leg_permutation` returns a permutation. -/
def BugEvent.Adm (t : TTN) : BugEvent → Prop
  | .pull _ q => ∀ l, q = some l → l.Perm (List.range l.length)
  | .access _ => True
  | .basisUp _ b _ => t.N b = none
  | .store _ => True

inductive BugRun : TTN → List BugEvent → TTN → Prop
  | nil (t : TTN) : BugRun t [] t
  | cons {t t1 t' : TTN} {e : BugEvent} {es : List BugEvent} :
      e.Adm t → bugEvent t e = some t1 → BugRun t1 es t' → BugRun t (e :: es) t'

theorem bug_event_structure {P : Prop} {O : Id → List Axis} {t t' : TTN} (hx : t.WFX P O) (e : BugEvent)
    (hf : e.Adm t) (hs : bugEvent t e = some t') :
    t'.WFX P O ∧ t'.root = t.root ∧ TreeEq t.S t'.S := by
  have h := hx.wf
  cases e with
  | pull c q =>
    obtain ⟨S1, R1⟩ := rtp_S_eq hs
    exact ⟨rtp_wfx hx hf hs, R1, by rw [S1]; exact TreeEq.refl _⟩
  | access id =>
    simp only [bugEvent] at hs
    cases ha : t.access id with
    | none => simp [ha] at hs
    | some r =>
      obtain ⟨t1, T⟩ := r
      simp [ha] at hs; subst hs
      obtain ⟨S1, R1⟩ := access_S_eq ha
      exact ⟨access_wfx hx ha, R1, by rw [S1]; exact TreeEq.refl _⟩
  | basisUp c b bd =>
    obtain ⟨w, R, C, p, hC, hp, S'⟩ := bug_basis_up_full hx hf hs
    refine ⟨w, R, ?_⟩
    rw [S']
    apply treeEq_demote
    intro pp ch hs'
    obtain ⟨Tn, hT, hm⟩ := parent_node h hC hp
    rw [TTN.S_eq hT] at hs'; simp at hs'; rw [← hs'.2]; exact hm
  | store r =>
    have hs' : t.replaceTensorPermuted r none = some t' := hs
    obtain ⟨S1, R1⟩ := rtp_S_eq hs'
    exact ⟨rtp_wfx hx (fun l hl => by cases hl) hs', R1, by rw [S1]; exact TreeEq.refl _⟩

theorem bug_run_wfx {P : Prop} {O : Id → List Axis} {t t' : TTN} {es : List BugEvent} (hx : t.WFX P O)
    (hr : BugRun t es t') : t'.WFX P O ∧ t'.root = t.root ∧ TreeEq t.S t'.S := by
  induction hr with
  | nil => exact ⟨hx, rfl, TreeEq.refl _⟩
  | cons hf hs _ ih =>
    obtain ⟨w1, R1, E1⟩ := bug_event_structure hx _ hf hs
    obtain ⟨w2, R2, E2⟩ := ih w1
    exact ⟨w2, R2.trans R1, E1.trans E2⟩

end Ptn.C09
