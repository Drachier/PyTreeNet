import Ptn.C09.GaugeModel
import Ptn.C09.BugOps
/-! # One BUG step on the structural TTN model of C02, in the order of the code (core Lean only)

The gauge machine (`GaugeModel.lean`) emits, for a tree with the children of every node in the order in which
`root_update` / `update_node` visit them, the events of one step.  Here every event gets its edit of `new_state` in the
structural model of `TreeTensorNetwork` (C02), literally as in `common_bug.py`:

* `down p c keep`  - working copies only: `new_state` is untouched;
* `pull c`         - `pull_tensor_from_different_ttn(current_state, new_state, c, …)` =
                     `new_state.replace_tensor(c, tensor, relative_leg_permutation)`: `replaceTensorPermuted c (perm c)`;
* `absorb c kids`  - `new_state.contract_all_children(c)`: the loop over the children LIST of `c` at call time
                     (`TTN.contractAllChildren c c`; the list `kids` of the gauge event is the visiting order and is not used);
* `evolve c`       - `single_site_time_evolution`: reads the tensor of `c` (`access`; for a leaf the code reads the working
                     copy instead - an access changes the storage order of a tensor only, nothing recorded here depends on it);
* `basis c p aug`  - `new_state.split_node_replace(…)` = `bugSplit c (bid c) (bdim c)` (`BugOps.lean`); the basis-change
                     node stays PENDING below `p` until `absorb p …`;
* `store r`        - `new_state.replace_tensor(root, updated_tensor)`.

Parameters the structure does not determine: `bid` (`basis_change_tensor_id`), `bdim c` (the rank the QR chose for the
bond above `c`), `perm c` (the permutation `relative_leg_permutation` returned for the pull of `c`). -/
namespace Ptn.C09.Step
open Ptn.C02 Ptn.C09.Gauge

structure Params where
  bid : Nat → Id
  bdim : Nat → Nat
  perm : Nat → Option (List Nat)

/-- the edit of `new_state` that belongs to one event of the gauge machine -/
def sEdit (P : Params) (t : TTN) : GEv → Option TTN
  | .down _ _ _ => some t
  | .pull c => t.replaceTensorPermuted c (P.perm c)
  | .absorb c _ => t.contractAllChildren c c
  | .evolve c => (t.access c).map (·.1)
  | .basis c _ _ => bugSplit t c (P.bid c) (P.bdim c)
  | .store r => t.replaceTensorPermuted r none

def sRun (P : Params) (t : TTN) : List GEv → Option TTN
  | [] => some t
  | e :: es => (sEdit P t e).bind fun t' => sRun P t' es

/-- the gauge machine and the structural model side by side -/
def jstep (P : Params) (s : GState × TTN) (e : GEv) : Option (GState × TTN) :=
  (step s.1 e).bind fun g => (sEdit P s.2 e).map fun t => (g, t)

def jrun (P : Params) (s : GState × TTN) : List GEv → Option (GState × TTN)
  | [] => some s
  | e :: es => (jstep P s e).bind fun s' => jrun P s' es

/-- all states of a structural run (the start included), `none` from the first failing edit on -/
def sTrace (P : Params) (t : TTN) : List GEv → List (Option TTN)
  | [] => [some t]
  | e :: es =>
    some t :: (match sEdit P t e with
      | some t' => sTrace P t' es
      | none => es.map (fun _ => none) ++ [none])

end Ptn.C09.Step
