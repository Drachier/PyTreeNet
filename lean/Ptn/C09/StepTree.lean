import Ptn.C09.StepRun
/-! `Rep t0 T`: the network `t0` holds the tree `T`.  The events of `update_node` / `root_update` on such a tree find their
nodes (`EvOK`); with the run of the gauge machine (`Gauge.root_run`) both machines run through every prefix of the events
of one whole step and the invariant `Q` holds where they stop (core Lean only). -/
namespace Ptn.C09.Step
open Ptn.C02 Ptn.C02.NodeS Ptn.C09.Gauge Ptn.C17 Ptn.C17.RTree

mutual
/-- the structure map holds the subtree: `pp` is the parent of its root, the children list of every node is the
    list of its kids up to ORDER (the tree lists them in visiting order, a `frozenset` order) -/
def RepAt (S : Id → Option Struct) (pp : Option Id) : RTree → Prop
  | .node c ks => (∃ ch, S c = some (pp, ch) ∧ ch.Perm (ks.map RTree.rid)) ∧ RepL S c ks
def RepL (S : Id → Option Struct) (p : Id) : List RTree → Prop
  | [] => True
  | k :: ks => RepAt S (some p) k ∧ RepL S p ks
end

@[simp] theorem repAt_node (S : Id → Option Struct) (pp : Option Id) (c : Nat) (ks : List RTree) :
    RepAt S pp (.node c ks) ↔ (∃ ch, S c = some (pp, ch) ∧ ch.Perm (ks.map RTree.rid)) ∧ RepL S c ks := by
  simp [RepAt]
@[simp] theorem repL_nil (S : Id → Option Struct) (p : Id) : RepL S p [] ↔ True := by simp [RepL]
@[simp] theorem repL_cons (S : Id → Option Struct) (p : Id) (k : RTree) (ks : List RTree) :
    RepL S p (k :: ks) ↔ RepAt S (some p) k ∧ RepL S p ks := by simp [RepL]

def Rep (t0 : TTN) (T : RTree) : Prop := RepAt t0.S none T

theorem evOK_events {S : Id → Option Struct} {A : Id → Prop} (fixed : Bool) :
    (∀ s p, RepAt S (some p) s → (∀ x ∈ ids s, A x) → ∀ e ∈ nodeEvents fixed p s, EvOK S A e) ∧
    (∀ ks c, RepL S c ks → (∀ x ∈ idsL ks, A x) → ∀ e ∈ kidsEvents fixed c ks, EvOK S A e) := by
  apply induct
  · intro c ks ih p hrep hA
    rw [repAt_node] at hrep
    obtain ⟨⟨ch, hS0, hperm⟩, hrepL⟩ := hrep
    rw [ids_node] at hA
    rw [nodeEvents_node]
    refine List.forall_mem_append.mpr ⟨List.forall_mem_append.mpr ⟨List.forall_mem_append.mpr
      ⟨List.forall_mem_singleton.mpr trivial, ih c hrepL fun x hx => hA x (List.mem_cons_of_mem _ hx)⟩, ?_⟩,
      List.forall_mem_cons.mpr ⟨⟨_, ch, hS0⟩, List.forall_mem_singleton.mpr ⟨hA c (List.mem_cons_self ..), ch, hS0⟩⟩⟩
    cases ks with
    | nil => exact fun _ h => nomatch h
    | cons k ks' =>
      exact List.forall_mem_cons.mpr ⟨⟨_, ch, hS0⟩, List.forall_mem_singleton.mpr ⟨_, ch, hS0, hperm⟩⟩
  · intro c _ _ e he
    rw [kidsEvents_nil] at he
    nomatch he
  · intro k ks ihk ihks c hrep hA
    rw [repL_cons] at hrep
    rw [idsL_cons] at hA
    rw [kidsEvents_cons]
    exact List.forall_mem_append.mpr ⟨ihk c hrep.1 fun x hx => hA x (List.mem_append_left _ hx),
      ihks c hrep.2 fun x hx => hA x (List.mem_append_right _ hx)⟩

/-- **One whole step** (`root_update`): from the start state of the gauge machine and a network that holds the tree, both
    machines run through every prefix of the events and `Q` holds where they stop. -/
theorem root_q {P : Params} {t0 : TTN} (T : RTree) (X : Ctx P t0 (fun x => x ∈ ids T)) (fixed : Bool)
    (hwf : T.WF) (hrep : Rep t0 T) (dir0 : Nat → Option Nat) {es₁ es₂ : List GEv}
    (hes : bugEvents fixed T = es₁ ++ es₂) :
    ∃ g t, Gauge.run (start dir0 T) es₁ = some g ∧ sRun P t0 es₁ = some t ∧ Q P t0 (fun x => x ∈ ids T) g t ∧
      (es₂ = [] → g.pend = [] ∧ t.S = t0.S) := by
  obtain ⟨g', hr, _, _, hp, _⟩ := root_run fixed T hwf dir0
  have hE : ∀ e ∈ bugEvents fixed T, EvOK t0.S (fun x => x ∈ ids T) e := by
    cases T with
    | node r ks =>
      unfold Rep at hrep
      rw [repAt_node] at hrep
      obtain ⟨⟨ch, hS0, hperm⟩, hrepL⟩ := hrep
      refine List.forall_mem_append.mpr ⟨(evOK_events fixed).2 ks r hrepL fun x hx => by simp [hx], ?_⟩
      exact List.forall_mem_cons.mpr ⟨⟨_, ch, hS0⟩, List.forall_mem_cons.mpr ⟨⟨_, ch, hS0, hperm⟩,
        List.forall_mem_cons.mpr ⟨⟨_, ch, hS0⟩, List.forall_mem_singleton.mpr ⟨_, ch, hS0⟩⟩⟩⟩
  have hnoD : ∀ k, ¬ PD (start dir0 T) k := fun _ => List.not_mem_nil
  have q0 : Q P t0 (fun x => x ∈ ids T) (start dir0 T) t0 := by
    refine ⟨TTN.WFX.ofLWF X.wf X.lwf, rfl, ?_, List.forall_mem_nil _, ?_⟩
    · refine ⟨?_, ?_, ?_⟩
      · intro k pp chk hk
        rw [subP_neg (hnoD k), map_sub_none (fun y _ => hnoD y)]
        exact hk
      · intro c hc; exact absurd hc (hnoD c)
      · intro k hk _; exact hk
    · intro _ c p chc ax0 _ hl
      exact ⟨fun _ => ⟨ax0, hl, rfl⟩, fun hc => absurd hc (hnoD c)⟩
  rw [hes] at hr hE
  obtain ⟨g, hg⟩ := run_prefix hr
  obtain ⟨t, ht, q⟩ := q_of_run X hg (fun e he => hE e (List.mem_append_left _ he)) q0
  refine ⟨g, t, hg, ht, q, fun e2 => ?_⟩
  rw [e2, List.append_nil, hg] at hr
  have hp' : g.pend = [] := Option.some.inj hr ▸ hp
  exact ⟨hp', q.pinv.eq_of_empty fun k hk => by simp [PD, hp'] at hk⟩

end Ptn.C09.Step
