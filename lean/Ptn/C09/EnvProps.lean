import Ptn.C09.Env
import Ptn.C05.DiscSeq
import Ptn.C17.Examples
/-! What the environment property asks of every event of a BUG step (`GoodEv`) and the theorems about the cache machine
`bugRun`, all read off the ideal trace (`bug_trace_eq_ideal`); freshness of the `old` blocks by the discipline machine
of C05; the eager variant of the machine, on which isolation fails. -/
namespace Ptn.C09.Env
open Ptn.C17 Ptn.C17.RTree

/-- what the property demands of a single event of the trace -/
def GoodEv : BEv → Prop
  | .init _ _ => True
  | .descend _ _ rs => ∀ r ∈ rs, r.2 = some Gen.old
  | .evolve c (some p) rs =>
      ∃ kids : List Nat, rs = ((p, c), some Gen.old) :: newReads (kids.map fun k => (k, c))
  | .evolve c none rs => ∃ kids : List Nat, rs = newReads (kids.map fun k => (k, c))
  | .build _ _ rs => ∀ r ∈ rs, r.2 = some Gen.new

def descendBlock : BEv → Option Block
  | .descend p c _ => some (p, c)
  | _ => none
def buildBlock : BEv → Option Block
  | .build c p _ => some (c, p)
  | _ => none
def evolveNode : BEv → Option Nat
  | .evolve c _ _ => some c
  | _ => none

theorem mem_oldReads {bs : List Block} {r : Read} (h : r ∈ oldReads bs) : r.2 = some Gen.old := by
  simp only [oldReads, List.mem_map] at h
  obtain ⟨b, _, rfl⟩ := h; rfl

theorem mem_newReads {bs : List Block} {r : Read} (h : r ∈ newReads bs) : r.2 = some Gen.new := by
  simp only [newReads, List.mem_map] at h
  obtain ⟨b, _, rfl⟩ := h; rfl

theorem ideal_good :
    (∀ s p nbP, ∀ e ∈ idealNode p nbP s, GoodEv e) ∧
    (∀ ks c nbC, ∀ e ∈ idealKids c nbC ks, GoodEv e) := by
  apply induct
  · intro c ks ih p nbP e he
    simp only [idealNode, List.mem_append, List.mem_cons, List.not_mem_nil, or_false] at he
    rcases he with (rfl | he) | rfl | rfl
    · exact fun r hr => mem_oldReads hr
    · exact ih c _ e he
    · exact ⟨ks.map rid, rfl⟩
    · exact fun r hr => mem_newReads hr
  · intro c nbC e he; simp [idealKids] at he
  · intro k ks ihk ihks c nbC e he
    simp only [idealKids, List.mem_append] at he
    rcases he with he | he
    · exact ihk c nbC e he
    · exact ihks c nbC e he

theorem ideal_blocks :
    (∀ s p nbP, (idealNode p nbP s).filterMap descendBlock = (p, s.rid) :: edges s ∧
      (idealNode p nbP s).filterMap buildBlock = upKeys p s ∧
      (idealNode p nbP s).filterMap evolveNode = postorder s) ∧
    (∀ ks c nbC, (idealKids c nbC ks).filterMap descendBlock = edgesL c ks ∧
      (idealKids c nbC ks).filterMap buildBlock = upKeysL c ks ∧
      (idealKids c nbC ks).filterMap evolveNode = postorderL ks) := by
  apply induct
  · intro c ks ih p nbP
    obtain ⟨h1, h2, h3⟩ := ih c (p :: ks.map rid)
    simp [idealNode, List.filterMap_append, List.filterMap_cons, descendBlock, buildBlock,
      evolveNode, h1, h2, h3, rid]
  · intro c nbC; simp [idealKids]
  · intro k ks ihk ihks c nbC
    obtain ⟨h1, h2, h3⟩ := ihk c nbC
    obtain ⟨g1, g2, g3⟩ := ihks c nbC
    simp [idealKids, List.filterMap_append, h1, h2, h3, g1, g2, g3]

/-- **Environment sources.**  In one BUG step on any well-formed tree: at the local evolution of
    every non-root node `c` with parent `p` the block `(p, c)` read is `old` and the blocks `(k, c)`
    read (one per child) are `new`; at the root all blocks read are `new`; the rebuild of `(p, c)`
    reads only `old` blocks; the block handed to the parent is built from `new` blocks only; and no
    read fails (every read returns a block). -/
theorem bug_env_sources (t : RTree) (hwf : t.WF) : ∀ e ∈ bugRun t, GoodEv e := by
  rw [bug_trace_eq_ideal t hwf]
  cases t with
  | node r ks =>
    intro e he
    simp only [bugIdeal, List.mem_append, List.mem_cons, List.not_mem_nil, or_false] at he
    rcases he with (rfl | he) | rfl
    · trivial
    · exact ideal_good.2 ks r _ e he
    · exact ⟨ks.map rid, rfl⟩

/-- **Isolation of the children's caches.**  `update_node(c)` rebuilds `(p, c)` from the cache of
    its parent's frame *as it was before the loop over the children*: all blocks it reads - among
    them the blocks `(s, p)` of the siblings `s` of `c` - are `old`; a `new` block of a sibling is
    never read.  (`eagerKids` below merges inside the loop and does read one.) -/
theorem bug_child_cache_isolation (t : RTree) (hwf : t.WF) (p c : Nat) (rs : List Read)
    (h : BEv.descend p c rs ∈ bugRun t) : ∀ r ∈ rs, r.2 = some Gen.old :=
  bug_env_sources t hwf _ h

/-- **Every block is built exactly once, every node evolved exactly once.**  The blocks rebuilt
    on the way down are the edges `(parent, child)` in pre-order, each once; the `new` blocks handed
    upward are exactly the blocks created by `init_cache_but_one(root)` (`(child, parent)`, same
    order), each once; the local evolutions happen in post-order, each node once. -/
theorem bug_each_block_built_once (t : RTree) (hwf : t.WF) :
    (bugRun t).filterMap descendBlock = edges t ∧
    ((bugRun t).filterMap descendBlock).Nodup ∧
    cacheKeys t.rid t = some ((bugRun t).filterMap buildBlock) ∧
    ((bugRun t).filterMap buildBlock).Nodup ∧
    (bugRun t).filterMap evolveNode = postorder t ∧
    ((bugRun t).filterMap evolveNode).Nodup := by
  rw [bug_trace_eq_ideal t hwf]
  cases t with
  | node r ks =>
    obtain ⟨h1, h2, h3⟩ := ideal_blocks.2 ks r (ks.map rid)
    have e1 : (bugIdeal (node r ks)).filterMap descendBlock = edges (node r ks) := by
      unfold bugIdeal
      rw [List.filterMap_append, List.filterMap_append, h1]
      simp [List.filterMap_cons, descendBlock]
    have e2 : (bugIdeal (node r ks)).filterMap buildBlock = upKeysL r ks := by
      unfold bugIdeal
      rw [List.filterMap_append, List.filterMap_append, h2]
      simp [List.filterMap_cons, buildBlock]
    have e3 : (bugIdeal (node r ks)).filterMap evolveNode = postorder (node r ks) := by
      unfold bugIdeal
      rw [List.filterMap_append, List.filterMap_append, h3]
      simp [List.filterMap_cons, evolveNode]
    have hk : cacheKeys r (node r ks) = some (upKeysL r ks) := by simp [cacheKeys_node]
    have hednd : (edges (node r ks)).Nodup := by
      have := edges_unord_nodup (node r ks) hwf
      rw [List.nodup_iff_pairwise_ne] at this ⊢
      exact (List.pairwise_map.mp this).imp (fun hne e => hne (by rw [e]))
    have hknd : (upKeysL r ks).Nodup := by
      obtain ⟨hp, _⟩ := ((cacheKeys_spec r).1 (node r ks)).1 _ hk
      have hnd : ((upKeysL r ks).map (·.1) ++ [r]).Nodup := hp.symm.nodup hwf
      have hnd' := (List.nodup_append.mp hnd).1
      rw [List.nodup_iff_pairwise_ne] at hnd' ⊢
      exact (List.pairwise_map.mp hnd').imp (fun hne e => hne (by rw [e]))
    refine ⟨e1, e1 ▸ hednd, by rw [e2]; exact hk, e2 ▸ hknd, e3, ?_⟩
    rw [e3]
    exact (postorder_perm.1 (node r ks)).symm.nodup hwf

/-- **Freshness of the `old` blocks.**  The working copy of a non-root node `c` is obtained from the
    start state by moving the centre along the way from the root to `c`, rebuilding `(a, b)` after
    every hop `a → b`; in the cache-freshness machine of C05 (`Ptn.C05.Disc`) this sequence keeps
    "every block pointing toward the centre is fresh" after every hop - so the `old` block `(p, c)`
    and all other cached blocks toward `c` are valid for the gauge of the working copy. -/
theorem bug_old_blocks_fresh (t : RTree) (hwf : t.WF) (c : Nat) (hc : c ∈ ids t) :
    ∃ q, pathDown c t = some q ∧ Ptn.C05.Disc.OK t t.rid (Ptn.C05.Disc.movesAlong q) c := by
  obtain ⟨q, hq⟩ := pathDown_some_of_mem hc
  refine ⟨q, hq, ?_⟩
  obtain ⟨h1, h2⟩ := (pathDown_ends c).1 t q hq
  have hch := chain_mono (fun _ _ h => (Or.inl h : Adj t _ _)) ((pathDown_chain c).1 t q hq)
  cases q with
  | nil => simp at h1
  | cons a rest =>
    simp at h1; subst h1
    exact (Ptn.C05.Disc.Route.moves rest t.rid hch h2).ok hwf

example : exTree.WF := by decide
example : (bugRun exTree).filterMap evolveNode = [3, 4, 1, 2, 7, 6, 5, 0] := by decide
example : BEv.evolve 1 (some 0) [((0, 1), some Gen.old), ((3, 1), some Gen.new), ((4, 1), some Gen.new)]
    ∈ bugRun exTree := by decide
example : BEv.descend 0 2 [((1, 0), some Gen.old), ((5, 0), some Gen.old)] ∈ bugRun exTree := by decide

mutual
/-- the variant the code avoids: the cache is updated inside the loop over the children -/
def eagerNode (p : Nat) (nbP : List Nat) (caP : Cache) : RTree → List BEv × Cache
  | node c ks =>
    let rebuildReads := readAll caP ((nbP.filter (fun z => z != c)).map fun z => (z, p))
    let ca1 := (caP.set (p, c) Gen.old).del (c, p)
    let (below, ca2) := eagerKids c (p :: ks.map rid) ca1 ks
    ([BEv.descend p c rebuildReads] ++ below ++
      [BEv.evolve c (some p) (readAll ca2 ((p, c) :: (ks.map rid).map fun k => (k, c)))],
     caP.set (c, p) Gen.new)
def eagerKids (c : Nat) (nbC : List Nat) (ca : Cache) : List RTree → List BEv × Cache
  | [] => ([], ca)
  | k :: ks =>
    let (tr1, ca1) := eagerNode c nbC ca k
    let (tr2, ca2) := eagerKids c nbC ca1 ks
    (tr1 ++ tr2, ca2)
end

/-- with the eager merge the second child of the root of `exTree` would rebuild `(0, 2)` from the
    `new` block of its sibling 1: the isolation theorem is not vacuous -/
example : BEv.descend 0 2 [((1, 0), some Gen.new), ((5, 0), some Gen.old)] ∈
    (eagerKids 0 [1, 2, 5] (((cacheKeys 0 exTree).getD []).map fun b => (b, Gen.old))
      exTree.kids).1 := by decide

end Ptn.C09.Env
