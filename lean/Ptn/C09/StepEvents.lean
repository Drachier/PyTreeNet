import Ptn.C09.Structure
import Ptn.C09.StepInv
import Ptn.C02.LegPush
import Ptn.C02.TruncLegs
/-! Every edit of a BUG step succeeds on a well-formed, label-consistent state with pending basis-change nodes and
keeps the invariant `PInv`; with it rides `DimInvD`, the dimensions of the bonds, which every event lemma hands on through
the legs it reports (core Lean only; on `Structure.lean`, `StepInv.lean`, and `C02`'s `trunc_step2`, progress lemmas
and leg lemmas `Ptn.C10.split_push_other`, `Ptn.C10.leg_step2` of `C02/LegPush.lean`, `C02/TruncLegs.lean`). -/
namespace Ptn.C09.Step
open Ptn.C02 Ptn.C02.NodeS

/-- every bond has the dimension it had in `t0`; the bond above a pending `c` is two legs, `c`-`bid c` and `bid c`-parent -/
def DimInvD (bid : Id → Id) (t0 : TTN) (D : Id → Prop) (t : TTN) : Prop :=
  ∀ c p ch ax0, t0.S c = some (some p, ch) → t0.Leg c p ax0 →
    (¬ D c → ∃ ax, t.Leg c p ax ∧ ax.dim = ax0.dim) ∧
    (D c → (∃ ax, t.Leg c (bid c) ax ∧ ax.dim = ax0.dim) ∧ ∃ ax, t.Leg (bid c) p ax ∧ ax.dim = ax0.dim)

theorem DimInvD.congr {bid : Id → Id} {t0 t : TTN} {D D' : Id → Prop} (h : DimInvD bid t0 D t)
    (e : ∀ k, D k ↔ D' k) : DimInvD bid t0 D' t := by
  have : D = D' := funext fun k => propext (e k)
  rw [← this]; exact h

theorem DimInvD.of_legs {bid : Id → Id} {t0 t t' : TTN} {D : Id → Prop} (h : DimInvD bid t0 D t)
    (e : ∀ k, t'.legPairs k = t.legPairs k) : DimInvD bid t0 D t' := by
  intro c p ch ax0 hS hl
  obtain ⟨a, b⟩ := h c p ch ax0 hS hl
  unfold TTN.Leg at a b ⊢
  simp only [e]
  exact ⟨a, b⟩

/-- `split_node_replace` of a BUG step: succeeds, `c` becomes pending -/
theorem split_event {bid : Id → Id} {t0 t : TTN} {A D : Id → Prop} {O : Id → List Axis}
    (X : SCtx bid t0.S t0.hasT t0.root A) (hD : DOK t0.S A D) (hx : t.WFX True O) (h : PInv bid t0.S t.S D)
    {c p : Id} {ch : List Id} (hA : A c) (hc : ¬ D c) (hS0 : t0.S c = some (some p, ch)) (bd : Nat) :
    ∃ t1, bugSplit t c (bid c) bd = some t1 ∧ t1.WFX True O ∧ t1.root = t.root ∧
      PInv bid t0.S t1.S (fun k => D k ∨ k = c) ∧
      (∃ ax, t1.Leg c (bid c) ax ∧ ax.dim = bd) ∧ (∀ ax, t.Leg c p ax → t1.Leg (bid c) p ax) ∧
      (∀ k x ax, t.Leg k x ax → k ≠ c → (x ≠ c ∨ ∃ y ∈ ch, k = sub bid D y) → t1.Leg k x ax) := by
  have hSc := h.nodes c (some p) ch hS0
  rw [subP_neg hc] at hSc
  obtain ⟨C, hC, eC⟩ := TTN.N_of_S hSc
  simp only [Prod.mk.injEq] at eC
  have hp : C.parent = some p := eC.1.symm
  have hch : C.children = ch.map (sub bid D) := eC.2.symm
  have hl : t.N (bid c) = none := by
    apply N_none_of_S
    refine h.other (bid c) (X.fresh c hA) ?_
    intro c' hc' e
    exact hc (X.inj c c' hA (hD c' hc').1 e ▸ hc')
  have hbc : bid c ≠ c := by intro e; rw [e, hC] at hl; simp at hl
  have adm := bugSplit_adm hC hp hl
  obtain ⟨t1, hs⟩ := split_nodes_progress hx.wf bd adm hbc (by simp [TTN.openIdx, NodeS.nlegs])
  obtain ⟨w1, S1, R1⟩ := bug_split_full hx hC hp hl hs
  obtain ⟨l1, l2⟩ := bug_split_legs hx.wf hC hp hl hs
  refine ⟨t1, ?_, w1, R1, ?_, ⟨_, (l2 (bid c) _).mpr (Or.inl ⟨rfl, rfl⟩), rfl⟩,
    fun ax ha => (l1 p ax).mpr (Or.inr ⟨rfl, ha⟩), ?_⟩
  · have hC' : dget t.nodes c = some C := hC
    simp only [bugSplit, hC', hp, bind, Option.bind]
    exact hs
  · rw [S1, hch]
    exact pinv_split X hD h hA hc hS0
  · intro k x ax hleg hk hx'
    by_cases hxc : x = c
    · subst hxc
      rcases hx' with hx' | ⟨y, hy, rfl⟩
      · exact absurd rfl hx'
      · have hs1 := (hx.lwf trivial).sym _ _ _ hleg
        have hmem : sub bid D y ∈ C.children := by rw [hch]; exact List.mem_map.mpr ⟨y, hy, rfl⟩
        exact (w1.lwf trivial).sym _ _ _ ((l2 _ ax).mpr (Or.inr ⟨hmem, hs1⟩))
    · exact Ptn.C10.split_push_other hx.wf adm hs hleg hk hxc

/-- the bonds keep their dimensions through `split_node_replace` when the new rank is the old dimension -/
theorem split_dims {bid : Id → Id} {t0 t t1 : TTN} {A D : Id → Prop}
    (X : SCtx bid t0.S t0.hasT t0.root A) (hD : DOK t0.S A D) {c p : Id} {ch : List Id} (hA : A c)
    (hc : ¬ D c) (hS0 : t0.S c = some (some p, ch)) {bd : Nat} (hbd : ∀ ax0, t0.Leg c p ax0 → bd = ax0.dim)
    (hdim : DimInvD bid t0 D t)
    (l1 : ∃ ax, t1.Leg c (bid c) ax ∧ ax.dim = bd) (l2 : ∀ ax, t.Leg c p ax → t1.Leg (bid c) p ax)
    (l3 : ∀ k x ax, t.Leg k x ax → k ≠ c → (x ≠ c ∨ ∃ y ∈ ch, k = sub bid D y) → t1.Leg k x ax) :
    DimInvD bid t0 (fun k => D k ∨ k = c) t1 := by
  intro c' p' ch' ax0 hS' hl'
  by_cases hcc : c' = c
  · subst hcc
    rw [hS0] at hS'; simp only [Option.some.injEq, Prod.mk.injEq] at hS'
    obtain ⟨rfl, rfl⟩ := hS'
    refine ⟨fun hn => absurd (Or.inr rfl) hn, fun _ => ?_⟩
    obtain ⟨ax, hleg, hd⟩ := (hdim c' p ch ax0 hS0 hl').1 hc
    obtain ⟨ax1, hleg1, hd1⟩ := l1
    exact ⟨⟨ax1, hleg1, by rw [hd1]; exact hbd ax0 hl'⟩, ax, l2 ax hleg, hd⟩
  · obtain ⟨a, b⟩ := hdim c' p' ch' ax0 hS' hl'
    have hside : ∀ k, (k = sub bid D c') → (p' ≠ c ∨ ∃ y ∈ ch, k = sub bid D y) := by
      intro k hk
      by_cases hpc : p' = c
      · right
        subst hpc
        obtain ⟨pp, pch, hp, hm⟩ := X.swf.up c' p' ch' hS'
        rw [hS0] at hp; simp only [Option.some.injEq, Prod.mk.injEq] at hp
        exact ⟨c', hp.2 ▸ hm, hk⟩
      · exact Or.inl hpc
    constructor
    · intro hn
      have hn' : ¬ D c' := fun h' => hn (Or.inl h')
      obtain ⟨ax, hleg, hd⟩ := a hn'
      exact ⟨ax, l3 _ _ _ hleg hcc (hside c' (sub_neg hn').symm), hd⟩
    · intro hd'
      have hd'' : D c' := hd'.elim id (fun e => absurd e hcc)
      have hA' := (hD c' hd'').1
      obtain ⟨⟨ax1, hl1, hd1⟩, ax2, hl2, hd2⟩ := b hd''
      have hbc : bid c' ≠ c := (node_ne_fresh X hS0 hA').symm
      exact ⟨⟨ax1, l3 _ _ _ hl1 hcc (Or.inl hbc), hd1⟩, ax2, l3 _ _ _ hl2 hbc (hside _ (sub_pos hd'').symm), hd2⟩

/-- the bonds keep their dimensions through one `contract_nodes(n, bid e, new_identifier=n)` -/
theorem absorb_dims {bid : Id → Id} {t0 t t1 : TTN} {A D : Id → Prop}
    (X : SCtx bid t0.S t0.hasT t0.root A) (hD : DOK t0.S A D) {n e : Id} {che : List Id} (he : D e)
    (hS0e : t0.S e = some (some n, che)) (hdim : DimInvD bid t0 D t)
    (lo : ∀ k x ax, t.Leg k x ax → k ≠ bid e → x ≠ bid e → t1.Leg k x ax)
    (ls : ∀ k ax, t.Leg k (bid e) ax → k ≠ n → t1.Leg k n ax) :
    DimInvD bid t0 (fun k => D k ∧ k ≠ e) t1 := by
  have hAe := (hD e he).1
  have hen : e ≠ n := (X.swf.parent_ne hS0e).symm
  intro c' p' ch' ax0 hS' hl'
  obtain ⟨a, b⟩ := hdim c' p' ch' ax0 hS' hl'
  obtain ⟨pp, pch, hp', _⟩ := X.swf.up c' p' ch' hS'
  have h1 : c' ≠ bid e := node_ne_fresh X hS' hAe
  have h2 : p' ≠ bid e := node_ne_fresh X hp' hAe
  by_cases hce : c' = e
  · subst hce
    rw [hS0e] at hS'; simp only [Option.some.injEq, Prod.mk.injEq] at hS'
    obtain ⟨rfl, rfl⟩ := hS'
    refine ⟨fun _ => ?_, fun h' => absurd rfl h'.2⟩
    obtain ⟨⟨ax1, hl1, hd1⟩, _⟩ := b he
    exact ⟨ax1, ls _ _ hl1 hen, hd1⟩
  · constructor
    · intro hn
      have hn' : ¬ D c' := fun h' => hn ⟨h', hce⟩
      obtain ⟨ax, hleg, hd⟩ := a hn'
      exact ⟨ax, lo _ _ _ hleg h1 h2, hd⟩
    · intro hd'
      have hA' := (hD c' hd'.1).1
      obtain ⟨⟨ax1, hl1, hd1⟩, ax2, hl2, hd2⟩ := b hd'.1
      have h3 : bid c' ≠ bid e := fun e' => hce (X.inj c' e hA' hAe e')
      exact ⟨⟨ax1, lo _ _ _ hl1 h1 h3, hd1⟩, ax2, lo _ _ _ hl2 h3 h2, hd2⟩

/-- the loop of `contract_all_children(n)` over the basis-change nodes of the children `F` still to do; `E` = the children
    absorbed so far, which stand at the end of the list of `n`.  `K` switches the dimension rider on: it is `KeepRanks` in
    `StepRun.lean`, where the dimensions are wanted under that hypothesis only -/
theorem absorb_loop {bid : Id → Id} {t0 : TTN} {A : Id → Prop} {O : Id → List Axis}
    (X : SCtx bid t0.S t0.hasT t0.root A) (hO : ∀ c, A c → O (bid c) = []) {n : Id} (K : Prop) :
    ∀ (F E : List Id) (D : Id → Prop) (t : TTN), t.WFX True O → DOK t0.S A D →
      PInvX bid t0.S t.S D n (F.map bid ++ E) → (K → DimInvD bid t0 D t) →
      (∀ e ∈ F, D e ∧ ∃ che, t0.S e = some (some n, che)) → F.Nodup → (∃ pp ch, t0.S n = some (pp, ch)) →
      ∃ t', (F.map bid).foldlM (fun (t : TTN) s => t.contractNodes n s n) t = some t' ∧ t'.WFX True O ∧
        t'.root = t.root ∧ PInvX bid t0.S t'.S (fun k => D k ∧ k ∉ F) n (E ++ F) ∧
        (K → DimInvD bid t0 (fun k => D k ∧ k ∉ F) t') := by
  intro F
  induction F with
  | nil =>
    intro E D t w _ inv hdim _ _ _
    refine ⟨t, rfl, w, rfl, ?_, ?_⟩
    · exact inv.congr (fun k => ⟨fun h => ⟨h, by simp⟩, fun h => h.1⟩) (by simp)
    · exact fun hK => (hdim hK).congr (fun k => ⟨fun h => ⟨h, by simp⟩, fun h => h.1⟩)
  | cons e F ih =>
    intro E D t w hD inv hdim hF hnd hn
    obtain ⟨pp, chn, hS0n⟩ := hn
    obtain ⟨he, che, hS0e⟩ := hF e (by simp)
    have hAe := (hD e he).1
    have hne : e ≠ n := (X.swf.parent_ne hS0e).symm
    have hSn := inv.at_n pp chn hS0n
    have hSb := inv.bc e he n che hS0e
    have hSe := inv.nodes e (some n) che hne hS0e
    rw [subP_pos he] at hSe
    simp only [List.map_cons, List.cons_append] at hSn inv
    obtain ⟨Nn, hNn, _⟩ := TTN.N_of_S hSn
    obtain ⟨Nb, hNb, eNb⟩ := TTN.N_of_S hSb
    simp only [Prod.mk.injEq] at eNb
    have hadm : contractAdmB t n (bid e) n = true :=
      (contractAdmB_iff t n (bid e) n).mpr ⟨⟨Nn, Nb, hNn, hNb, Or.inl eNb.1.symm⟩, Or.inl rfl⟩
    obtain ⟨t1, hc⟩ := contract_nodes_progress w.wf (w.lwf trivial) hadm
    obtain ⟨w1, R1, S1⟩ := trunc_step2 w hSn hSb hSe (fun _ => hO e hAe) hc
    have inv1 := pinvx_absorb X hD inv he hS0e hSn
    rw [← S1] at inv1
    have hD1 : DOK t0.S A (fun k => D k ∧ k ≠ e) := fun c hc => hD c hc.1
    have hF1 : ∀ e' ∈ F, (D e' ∧ e' ≠ e) ∧ ∃ che, t0.S e' = some (some n, che) := by
      intro e' he'
      obtain ⟨a, b⟩ := hF e' (by simp [he'])
      exact ⟨⟨a, fun e'' => (List.nodup_cons.mp hnd).1 (e'' ▸ he')⟩, b⟩
    obtain ⟨lo, ls⟩ := Ptn.C10.leg_step2 w.wf hc
    have hdim1 : K → DimInvD bid t0 (fun k => D k ∧ k ≠ e) t1 := fun hK =>
      absorb_dims X hD he hS0e (hdim hK) lo ls
    obtain ⟨t', hrun, w', R', inv', hdim'⟩ := ih (E ++ [e]) (fun k => D k ∧ k ≠ e) t1 w1 hD1
      (inv1.congr (fun _ => Iff.rfl) (by simp)) hdim1 hF1 (List.nodup_cons.mp hnd).2 ⟨pp, chn, hS0n⟩
    have hiff : ∀ k, ((D k ∧ k ≠ e) ∧ k ∉ F) ↔ (D k ∧ k ∉ e :: F) := by
      intro k
      simp only [List.mem_cons, not_or]
      exact ⟨fun h => ⟨h.1.1, h.1.2, h.2⟩, fun h => ⟨⟨h.1, h.2.1⟩, h.2.2⟩⟩
    refine ⟨t', ?_, w', R'.trans R1, ?_, ?_⟩
    · rw [List.map_cons, List.foldlM_cons]
      simp only [hc, bind, Option.bind]
      exact hrun
    · exact inv'.congr hiff (by simp)
    · exact fun hK => (hdim' hK).congr hiff

/-- `contract_all_children(n)` when the basis-change nodes of ALL children of `n` are pending: succeeds; the
    children are not pending any more and the children LIST of `n` is the original one. -/
theorem absorb_event {bid : Id → Id} {t0 t : TTN} {A D : Id → Prop} {O : Id → List Axis}
    (X : SCtx bid t0.S t0.hasT t0.root A) (hO : ∀ c, A c → O (bid c) = []) (hD : DOK t0.S A D)
    (hx : t.WFX True O) (h : PInv bid t0.S t.S D) (K : Prop) (hdim : K → DimInvD bid t0 D t) {n : Id}
    {pp : Option Id} {ch : List Id} (hS0 : t0.S n = some (pp, ch)) (hall : ∀ e ∈ ch, D e) :
    ∃ t', t.contractAllChildren n n = some t' ∧ t'.WFX True O ∧ t'.root = t.root ∧
      PInv bid t0.S t'.S (fun k => D k ∧ k ∉ ch) ∧ (K → DimInvD bid t0 (fun k => D k ∧ k ∉ ch) t') := by
  have hSn := h.nodes n pp ch hS0
  rw [map_sub_all hall] at hSn
  obtain ⟨Nn, hNn, eNn⟩ := TTN.N_of_S hSn
  simp only [Prod.mk.injEq] at eNn
  have hF : ∀ e ∈ ch, D e ∧ ∃ che, t0.S e = some (some n, che) := fun e he =>
    ⟨hall e he, X.swf.down n pp ch e hS0 he⟩
  have inv0 : PInvX bid t0.S t.S D n (ch.map bid ++ []) := by
    have := h.toX hS0
    rw [map_sub_all hall] at this
    simpa using this
  obtain ⟨t', hrun, w', R', inv', hdim'⟩ := absorb_loop X hO K ch [] D t hx hD inv0 hdim hF
    (X.swf.nodup n pp ch hS0) ⟨pp, ch, hS0⟩
  refine ⟨t', ?_, w', R', ?_, hdim'⟩
  · have hNn' : dget t.nodes n = some Nn := hNn
    simp only [TTN.contractAllChildren, hNn', bind, Option.bind, ← eNn.2]
    exact hrun
  · refine inv'.toPInv hS0 ?_
    rw [List.nil_append, map_sub_none (fun y hy h' => h'.2 hy)]

/-- `replace_tensor` of a node with its own axes: succeeds, nothing recorded changes -/
theorem rtp_event {t : TTN} {P : Prop} {O : Id → List Axis} (hx : t.WFX P O) {c : Id} {n : NodeS}
    (hn : t.N c = some n) {q : Option (List Nat)}
    (hq : ∀ l, q = some l → l.Perm (List.range l.length) ∧ l.length = n.perm.length) :
    ∃ t', t.replaceTensorPermuted c q = some t' ∧ t'.WFX P O ∧ t'.root = t.root ∧ t'.S = t.S ∧
      ∀ k, t'.legPairs k = t.legPairs k := by
  obtain ⟨t', hs⟩ := rtp_progress hx.wf hn hq
  obtain ⟨S1, R1⟩ := rtp_S_eq hs
  exact ⟨t', hs, rtp_wfx hx (fun l hl => (hq l hl).1) hs, R1, S1,
    fun k => (rtp_labels hx.wf (fun l hl => (hq l hl).1) hs k).2.1⟩

theorem access_event {t : TTN} {P : Prop} {O : Id → List Axis} (hx : t.WFX P O) {c : Id} {n : NodeS}
    (hn : t.N c = some n) :
    ∃ t', (t.access c).map (·.1) = some t' ∧ t'.WFX P O ∧ t'.root = t.root ∧ t'.S = t.S ∧
      ∀ k, t'.legPairs k = t.legPairs k := by
  obtain ⟨t1, T, ha⟩ := access_some hx.wf hn
  obtain ⟨S1, R1⟩ := access_S_eq ha
  exact ⟨t1, by simp [ha], access_wfx hx ha, R1, S1, (access_labels ha).2.2.1⟩

end Ptn.C09.Step
