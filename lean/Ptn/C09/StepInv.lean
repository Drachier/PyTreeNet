import Ptn.C09.StepModel
import Ptn.C02.Progress
/-! The structure of `new_state` while basis-change nodes are pending (core Lean only).

`S0` is the structure map of the state at the start of the step, `D` the set of nodes whose basis-change node is
present.  `PInv`: the current structure is `S0` with, for every `c ∈ D` with parent `p`, the node `bid c` put between
`c` and `p` - in the children list of `p` at the POSITION of `c`.  `PInvX` is the same with the children list of one
node `n` given explicitly (the loop of `contract_all_children(n)` rotates it). -/
namespace Ptn.C09.Step
open Ptn.C02 Ptn.C02.NodeS

open Classical in
/-- the child `c` as it is seen from its parent: its basis-change node while that is pending -/
noncomputable def sub (bid : Id → Id) (D : Id → Prop) (c : Id) : Id := if D c then bid c else c

open Classical in
/-- the parent of `k`: its basis-change node while that is pending -/
noncomputable def subP (bid : Id → Id) (D : Id → Prop) (k : Id) (pp : Option Id) : Option Id :=
  if D k then some (bid k) else pp

theorem sub_pos {bid : Id → Id} {D : Id → Prop} {c : Id} (h : D c) : sub bid D c = bid c := by simp [sub, h]
theorem sub_neg {bid : Id → Id} {D : Id → Prop} {c : Id} (h : ¬ D c) : sub bid D c = c := by simp [sub, h]
theorem subP_pos {bid : Id → Id} {D : Id → Prop} {k : Id} {pp : Option Id} (h : D k) :
    subP bid D k pp = some (bid k) := by simp [subP, h]
theorem subP_neg {bid : Id → Id} {D : Id → Prop} {k : Id} {pp : Option Id} (h : ¬ D k) :
    subP bid D k pp = pp := by simp [subP, h]

theorem sub_congr {bid : Id → Id} {D D' : Id → Prop} {c : Id} (h : D c ↔ D' c) : sub bid D c = sub bid D' c := by
  by_cases hc : D c
  · rw [sub_pos hc, sub_pos (h.mp hc)]
  · rw [sub_neg hc, sub_neg (fun h' => hc (h.mpr h'))]

theorem subP_congr {bid : Id → Id} {D D' : Id → Prop} {k : Id} {pp : Option Id} (h : D k ↔ D' k) :
    subP bid D k pp = subP bid D' k pp := by
  by_cases hc : D k
  · rw [subP_pos hc, subP_pos (h.mp hc)]
  · rw [subP_neg hc, subP_neg (fun h' => hc (h.mpr h'))]

theorem map_sub_congr {bid : Id → Id} {D D' : Id → Prop} {l : List Id} (h : ∀ y ∈ l, (D y ↔ D' y)) :
    l.map (sub bid D) = l.map (sub bid D') :=
  List.map_congr_left fun y hy => sub_congr (h y hy)

theorem map_sub_none {bid : Id → Id} {D : Id → Prop} {l : List Id} (h : ∀ y ∈ l, ¬ D y) : l.map (sub bid D) = l := by
  have : l.map (sub bid D) = l.map id := List.map_congr_left fun y hy => sub_neg (h y hy)
  simpa using this

theorem map_sub_all {bid : Id → Id} {D : Id → Prop} {l : List Id} (h : ∀ y ∈ l, D y) :
    l.map (sub bid D) = l.map bid :=
  List.map_congr_left fun y hy => sub_pos (h y hy)

structure PInv (bid : Id → Id) (S0 S : Id → Option Struct) (D : Id → Prop) : Prop where
  nodes : ∀ k pp ch, S0 k = some (pp, ch) → S k = some (subP bid D k pp, ch.map (sub bid D))
  bc : ∀ c, D c → ∀ p ch, S0 c = some (some p, ch) → S (bid c) = some (some p, [c])
  other : ∀ k, S0 k = none → (∀ c, D c → k ≠ bid c) → S k = none

structure PInvX (bid : Id → Id) (S0 S : Id → Option Struct) (D : Id → Prop) (n : Id) (L : List Id) : Prop where
  at_n : ∀ pp ch, S0 n = some (pp, ch) → S n = some (subP bid D n pp, L)
  nodes : ∀ k pp ch, k ≠ n → S0 k = some (pp, ch) → S k = some (subP bid D k pp, ch.map (sub bid D))
  bc : ∀ c, D c → ∀ p ch, S0 c = some (some p, ch) → S (bid c) = some (some p, [c])
  other : ∀ k, S0 k = none → (∀ c, D c → k ≠ bid c) → S k = none

theorem PInv.toX {bid : Id → Id} {S0 S : Id → Option Struct} {D : Id → Prop} (h : PInv bid S0 S D) {n : Id}
    {pp : Option Id} {ch : List Id} (hn : S0 n = some (pp, ch)) : PInvX bid S0 S D n (ch.map (sub bid D)) :=
  ⟨fun pp' ch' e => by
      rw [hn] at e; simp only [Option.some.injEq, Prod.mk.injEq] at e
      rw [← e.1]; exact h.nodes n pp ch hn,
    fun k pp' ch' _ e => h.nodes k pp' ch' e, h.bc, h.other⟩

theorem PInvX.toPInv {bid : Id → Id} {S0 S : Id → Option Struct} {D : Id → Prop} {n : Id} {L : List Id}
    (h : PInvX bid S0 S D n L) {pp : Option Id} {ch : List Id} (hn : S0 n = some (pp, ch))
    (hL : L = ch.map (sub bid D)) : PInv bid S0 S D :=
  ⟨fun k pp' ch' e => by
      by_cases hk : k = n
      · subst hk
        rw [hn] at e; simp only [Option.some.injEq, Prod.mk.injEq] at e
        rw [← e.1, ← e.2, ← hL]; exact h.at_n pp ch hn
      · exact h.nodes k pp' ch' hk e,
    h.bc, h.other⟩

theorem PInv.congr {bid : Id → Id} {S0 S : Id → Option Struct} {D D' : Id → Prop} (h : PInv bid S0 S D)
    (e : ∀ k, D k ↔ D' k) : PInv bid S0 S D' := by
  have : D = D' := funext fun k => propext (e k)
  rw [← this]; exact h

theorem PInvX.congr {bid : Id → Id} {S0 S : Id → Option Struct} {D D' : Id → Prop} {n : Id} {L L' : List Id}
    (h : PInvX bid S0 S D n L) (e : ∀ k, D k ↔ D' k) (eL : L = L') : PInvX bid S0 S D' n L' := by
  have : D = D' := funext fun k => propext (e k)
  rw [← this, ← eL]; exact h

theorem PInv.eq_of_empty {bid : Id → Id} {S0 S : Id → Option Struct} {D : Id → Prop} (h : PInv bid S0 S D)
    (hD : ∀ k, ¬ D k) : S = S0 := by
  funext k
  cases hk : S0 k with
  | none => exact h.other k hk (fun c hc => absurd hc (hD c))
  | some st =>
    obtain ⟨pp, ch⟩ := st
    rw [h.nodes k pp ch hk, subP_neg (hD k), map_sub_none (fun y _ => hD y)]

/-- what is fixed during a step, on structure maps -/
structure SCtx (bid : Id → Id) (S0 : Id → Option Struct) (Tk : Id → Bool) (root : Option Id) (A : Id → Prop) :
    Prop where
  swf : SWF S0 Tk root
  fresh : ∀ c, A c → S0 (bid c) = none
  inj : ∀ c c', A c → A c' → bid c = bid c' → c = c'

def DOK (S0 : Id → Option Struct) (A D : Id → Prop) : Prop :=
  ∀ c, D c → A c ∧ ∃ p ch, S0 c = some (some p, ch)

theorem node_ne_fresh {bid : Id → Id} {S0 : Id → Option Struct} {Tk : Id → Bool} {root : Option Id}
    {A : Id → Prop} (X : SCtx bid S0 Tk root A) {k y : Id} {st : Struct} (hk : S0 k = some st) (hy : A y) :
    k ≠ bid y := by
  intro e
  have := X.fresh y hy
  rw [← e, hk] at this; simp at this

theorem parent_is_node {S0 : Id → Option Struct} {Tk : Id → Bool} {root : Option Id} (h : SWF S0 Tk root)
    {c p : Id} {ch : List Id} (hc : S0 c = some (some p, ch)) : ∃ pp pch, S0 p = some (pp, pch) ∧ c ∈ pch :=
  h.up c p ch hc

theorem not_child_of_self {S0 : Id → Option Struct} {Tk : Id → Bool} {root : Option Id} (h : SWF S0 Tk root)
    {c : Id} {pp : Option Id} {ch : List Id} (hc : S0 c = some (pp, ch)) : c ∉ ch := by
  intro hm
  obtain ⟨cch, e⟩ := h.down c pp ch c hc hm
  exact h.parent_ne e rfl

/-- **`split_node_replace` of a BUG step on the pending structure**: `c` becomes pending. -/
theorem pinv_split {bid : Id → Id} {S0 S : Id → Option Struct} {Tk : Id → Bool} {root : Option Id}
    {A D : Id → Prop} (X : SCtx bid S0 Tk root A) (hD : DOK S0 A D) (h : PInv bid S0 S D) {c p : Id}
    {ch : List Id} (hA : A c) (hc : ¬ D c) (hS0 : S0 c = some (some p, ch)) :
    PInv bid S0 (splitS S c (bid c) c (some p) [] (ch.map (sub bid D))) (fun k => D k ∨ k = c) := by
  refine ⟨?_, ?_, ?_⟩
  · -- an original node `k`: `c` itself gets the parent `bid c` and keeps its list; in every other list (only that of `p`
    -- holds `c`) `splitRen` puts `bid c` for `c`, which is what `sub` does once `c` is pending
    intro k pp chk hk
    have hkb : k ≠ bid c := node_ne_fresh X hk hA
    by_cases hkc : k = c
    · subst hkc
      rw [hS0] at hk; simp only [Option.some.injEq, Prod.mk.injEq] at hk
      obtain ⟨rfl, rfl⟩ := hk
      simp only [splitS, hkb, if_false, if_true]
      rw [subP_pos (D := fun k' => D k' ∨ k' = k) (Or.inr rfl)]
      congr 2
      apply map_sub_congr
      intro y hy
      have hyk : y ≠ k := fun e => not_child_of_self X.swf hS0 (e ▸ hy)
      constructor
      · exact fun h' => Or.inl h'
      · rintro (h' | h')
        · exact h'
        · exact absurd h' hyk
    · simp only [splitS, hkb, hkc, if_false]
      rw [h.nodes k pp chk hk]
      simp only [Option.map_some, splitRen]
      congr 1
      refine Prod.ext ?_ ?_
      · have e1 : subP bid (fun k' => D k' ∨ k' = c) k pp = subP bid D k pp :=
          subP_congr ⟨fun h' => h'.elim id (fun e => absurd e hkc), Or.inl⟩
        rw [e1]
        cases hq : subP bid D k pp with
        | none => rfl
        | some q =>
          by_cases hqc : q = c
          · simp [hqc]
          · simp [hqc]
      · simp only [List.map_map]
        apply List.map_congr_left
        intro y hy
        simp only [Function.comp]
        by_cases hy1 : D y
        · rw [sub_pos hy1, sub_pos (D := fun k' => D k' ∨ k' = c) (Or.inl hy1)]
          have : bid y ≠ c := (node_ne_fresh X hS0 (hD y hy1).1).symm
          simp [this]
        · rw [sub_neg hy1]
          by_cases hyc : y = c
          · subst hyc
            rw [sub_pos (D := fun k' => D k' ∨ k' = y) (Or.inr rfl)]
            simp
          · rw [sub_neg (D := fun k' => D k' ∨ k' = c) (fun h' => h'.elim hy1 hyc)]
            simp [hyc]
  · intro c' hc' p' ch' hS0'
    rcases hc' with hc' | hc'
    · have hcc : c' ≠ c := fun e => hc (e ▸ hc')
      have hA' := (hD c' hc').1
      have h1 : bid c' ≠ bid c := fun e => hcc (X.inj c' c hA' hA e)
      have h2 : bid c' ≠ c := (node_ne_fresh X hS0 hA').symm
      simp only [splitS, h1, h2, if_false]
      rw [h.bc c' hc' p' ch' hS0']
      simp only [Option.map_some, splitRen, List.map_cons, List.map_nil, hcc, if_false]
      by_cases hp : p' = c
      · simp [hp]
      · simp [hp]
    · subst hc'
      rw [hS0] at hS0'; simp only [Option.some.injEq, Prod.mk.injEq] at hS0'
      obtain ⟨hp, _⟩ := hS0'
      subst hp
      simp [splitS]
  · intro k hk hne
    have h1 : k ≠ bid c := hne c (Or.inr rfl)
    have h2 : k ≠ c := by intro e; rw [e, hS0] at hk; simp at hk
    simp only [splitS, h1, h2, if_false]
    rw [h.other k hk (fun c' hc' => hne c' (Or.inl hc'))]
    rfl

/-- **one `contract_nodes(n, bid e, new_identifier=n)` of `contract_all_children(n)` on the pending structure**:
    the basis-change node of `e`, first in the children list of `n`, disappears; `e` goes to the end of the list and
    is not pending any more. -/
theorem pinvx_absorb {bid : Id → Id} {S0 S : Id → Option Struct} {Tk : Id → Bool} {root : Option Id}
    {A D : Id → Prop} (X : SCtx bid S0 Tk root A) (hD : DOK S0 A D) {n e : Id} {L che : List Id} {gp : Option Id}
    (h : PInvX bid S0 S D n (bid e :: L)) (he : D e) (hS0e : S0 e = some (some n, che))
    (hSn : S n = some (gp, bid e :: L)) :
    PInvX bid S0
      (fun k => if k = n then some (gp, (bid e :: L).erase (bid e) ++ [e]) else if k = bid e then none
        else if k = e then some (some n, che.map (sub bid D)) else S k)
      (fun k => D k ∧ k ≠ e) n (L ++ [e]) := by
  have hAe := (hD e he).1
  have hne : n ≠ e := X.swf.parent_ne hS0e
  have hiff : ∀ k, k ≠ e → ((D k ∧ k ≠ e) ↔ D k) := fun k hk => ⟨fun h' => h'.1, fun h' => ⟨h', hk⟩⟩
  refine ⟨?_, ?_, ?_, ?_⟩
  · intro pp ch hn
    have h0 := h.at_n pp ch hn
    rw [hSn] at h0; simp only [Option.some.injEq, Prod.mk.injEq] at h0
    simp only [if_true, List.erase_cons_head]
    rw [h0.1, subP_congr (D' := fun k => D k ∧ k ≠ e) (hiff n hne).symm]
  · intro k pp chk hkn hk
    have hkb : k ≠ bid e := node_ne_fresh X hk hAe
    simp only [hkn, hkb, if_false]
    by_cases hke : k = e
    · subst hke
      rw [hS0e] at hk; simp only [Option.some.injEq, Prod.mk.injEq] at hk
      obtain ⟨rfl, rfl⟩ := hk
      simp only [if_true]
      rw [subP_neg (D := fun k' => D k' ∧ k' ≠ k) (fun h' => h'.2 rfl)]
      congr 2
      apply map_sub_congr
      intro y hy
      exact (hiff y (fun e' => not_child_of_self X.swf hS0e (e' ▸ hy))).symm
    · simp only [hke, if_false]
      rw [h.nodes k pp chk hkn hk, subP_congr (D' := fun k => D k ∧ k ≠ e) (hiff k hke).symm]
      congr 2
      apply map_sub_congr
      intro y hy
      refine (hiff y ?_).symm
      intro e'
      subst e'
      obtain ⟨cch, hdown⟩ := X.swf.down k pp chk y hk hy
      rw [hS0e] at hdown; simp only [Option.some.injEq, Prod.mk.injEq] at hdown
      exact hkn hdown.1.symm
  · intro c' hc' p' ch' hS0'
    have hA' := (hD c' hc'.1).1
    have h1 : bid c' ≠ n := by
      intro e'
      cases hn : S0 n with
      | none =>
        obtain ⟨pp, pch, hp, _⟩ := X.swf.up e n che hS0e
        rw [hn] at hp; simp at hp
      | some st => exact node_ne_fresh X hn hA' e'.symm
    have h2 : bid c' ≠ bid e := fun e' => hc'.2 (X.inj c' e hA' hAe e')
    have h3 : bid c' ≠ e := (node_ne_fresh X hS0e hA').symm
    simp only [h1, h2, h3, if_false]
    exact h.bc c' hc'.1 p' ch' hS0'
  · intro k hk hne'
    have h1 : k ≠ n := by
      intro e'
      obtain ⟨pp, pch, hp, _⟩ := X.swf.up e n che hS0e
      rw [← e', hk] at hp; simp at hp
    have h3 : k ≠ e := by intro e'; rw [e', hS0e] at hk; simp at hk
    simp only [h1, if_false]
    by_cases h2 : k = bid e
    · simp [h2]
    · simp only [h2, h3, if_false]
      refine h.other k hk ?_
      intro c' hc'
      by_cases hce : c' = e
      · subst hce; exact h2
      · exact hne' c' ⟨hc', hce⟩

end Ptn.C09.Step
