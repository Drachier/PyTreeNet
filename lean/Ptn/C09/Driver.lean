import Ptn.C09.Model
import Ptn.C09.GaugeModel
import Ptn.C09.StepModel
import Ptn.C02.Driver
/-! Line-protocol handler for C09 (core Lean only).

  order <id:parent> …   (root has parent `-`; children of a node are taken in order of appearance)
      → `<updates, space separated> | <moves p>c …>`
  gauge <0|1> <id:parent> …   (1 = fixed rank) the gauge machine of one BUG step on that tree
      → `<events, separated by ;> | <final record n>v / n>- per node, in pre-order> | pend k | frames …`
        (`stuck` if the machine cannot run: never on a tree with distinct identifiers, `bug_step_canonical_at_root`;
        the parser does not check that they are distinct)
  sstep <0|1> <id:parent> … / <root:… child:… building ops of the C02 driver> / <b:<c>=<bid> d:<c>=<bdim> p:<c>=<perm>> …
      the same step, event by event, on the structural TTN model of C02 (`Ptn.C09.Step`): the tree entries are those of
      `gauge` (children in visiting order); the building ops (`Ptn.C02.parseHOp`, only `root:` / `child:`) mirror the
      initial `new_state` (children order, leg order, dimensions); parameters: `b` = number of the basis-change node of
      `c`, `d` = rank of the new bond above `c` (both REQUIRED for every non-root node), `p` = the permutation the pull
      of `c` passes to `replace_tensor` (comma list, `-` = empty list; absent = none).
      → `start => <state> # pend -` followed by one field per event of `Gauge.bugEvents`, separated by ` | `:
        `<event as in gauge> => <state> # pend <pending>` with
        <state>   = `Ptn.C02.showTTN` of the structural state after the event (`Step.sTrace`), or `err` from the first
                    failing edit on;
        <pending> = the basis-change nodes pending in the gauge machine after the same prefix of events
                    (`Gauge.run`), as `c>p,…` (the one of `c`, hanging below `p`), `-` if there is none, `stuck` if the
                    gauge machine cannot run that prefix.
      `bad-op` if anything does not parse, a building op fails, or a parameter is missing / given twice.
-/
namespace Ptn.C09

def parseEntry (s : String) : Option (Nat × Option Nat) :=
  match s.splitOn ":" with
  | [a, b] =>
    match a.toNat? with
    | none => none
    | some x => if b = "-" then some (x, none) else (b.toNat?).map fun p => (x, some p)
  | _ => none

mutual
def buildTree (fuel : Nat) (entries : List (Nat × Option Nat)) (id : Nat) : Tree :=
  match fuel with
  | 0 => .node id .nil
  | fuel + 1 =>
    .node id (buildForest fuel entries ((entries.filter (·.2 == some id)).map (·.1)))
def buildForest (fuel : Nat) (entries : List (Nat × Option Nat)) (ids : List Nat) : Forest :=
  match fuel with
  | 0 => .nil
  | fuel + 1 =>
    match ids with
    | [] => .nil
    | i :: rest => .cons (buildTree fuel entries i) (buildForest fuel entries rest)
end

mutual
def Tree.toR : Tree → Ptn.C17.RTree
  | .node id kids => .node id kids.toR
def Forest.toR : Forest → List Ptn.C17.RTree
  | .nil => []
  | .cons t f => t.toR :: f.toR
end

def parseTree (toks : List String) : Option Tree :=
  match toks.mapM parseEntry with
  | none => none
  | some entries =>
    match entries.filter (·.2 == none) with
    | [(r, _)] =>
      let t := buildTree (2 * entries.length + 2) entries r
      if t.ids.length ≠ entries.length then none else some t
    | _ => none

def handleGauge (fixed : Bool) (toks : List String) : String :=
  match parseTree toks with
  | none => "bad-op"
  | some t =>
    let r := t.toR
    let evs := Gauge.bugEvents fixed r
    match Gauge.run (Gauge.start (fun _ => none) r) evs with
    | none => "stuck"
    | some s => " ; ".intercalate (evs.map Gauge.showGEv) ++ " | " ++ Gauge.showState (Ptn.C17.RTree.ids r) s

/-! ### `sstep`: gauge machine and structural model side by side -/

/-- the segments of a token list between lone `/` tokens -/
def splitSlash : List String → List (List String)
  | [] => [[]]
  | tok :: rest =>
    match splitSlash rest with
    | [] => [[tok]]
    | seg :: segs => if tok = "/" then [] :: seg :: segs else (tok :: seg) :: segs

inductive PTok where
  | b (c : Nat) (v : Nat)
  | d (c : Nat) (v : Nat)
  | p (c : Nat) (v : List Nat)

def parsePTok (tok : String) : Option PTok :=
  match tok.splitOn ":" with
  | [k, rest] =>
    match rest.splitOn "=" with
    | [c, v] =>
      match c.toNat? with
      | none => none
      | some c' =>
        if k = "b" then v.toNat?.map (PTok.b c')
        else if k = "d" then v.toNat?.map (PTok.d c')
        else if k = "p" then (Ptn.C02.parseList v).map (PTok.p c')
        else none
    | _ => none
  | _ => none

def lookupN {α : Type} (l : List (Nat × α)) (k : Nat) : Option α := (l.find? (fun e => e.1 == k)).map (·.2)

/-- the parameters: every key at most once, `b` and `d` for every node of `need` -/
def mkParams (ps : List PTok) (need : List Nat) : Option Step.Params :=
  let bs := ps.filterMap fun | .b c v => some (c, v) | _ => none
  let ds := ps.filterMap fun | .d c v => some (c, v) | _ => none
  let qs := ps.filterMap fun | .p c v => some (c, v) | _ => none
  let nodupKeys := fun (l : List Nat) => l.eraseDups.length == l.length
  if !(nodupKeys (bs.map (·.1)) && nodupKeys (ds.map (·.1)) && nodupKeys (qs.map (·.1))) then none
  else if !(need.all fun c => (lookupN bs c).isSome && (lookupN ds c).isSome) then none
  else some ⟨fun c => (lookupN bs c).getD 0, fun c => (lookupN ds c).getD 0, fun c => lookupN qs c⟩

/-- the network built by `root:` / `child:` ops from the empty one (no other op is accepted) -/
def buildTTN (toks : List String) : Option Ptn.C02.TTN :=
  toks.foldlM (fun (t : Ptn.C02.TTN) tok =>
    match Ptn.C02.parseHOp tok with
    | some (.op (.root i ax)) => t.step (.root i ax)
    | some (.op (.child i ax cl p pl)) => t.step (.child i ax cl p pl)
    | _ => none) Ptn.C02.TTN.empty

def showPend (g : Option Gauge.GState) : String :=
  match g with
  | none => "stuck"
  | some s => if s.pend.isEmpty then "-" else ",".intercalate (s.pend.map fun e => s!"{e.1}>{e.2}")

def showSt (t : Option Ptn.C02.TTN) : String :=
  match t with
  | none => "err"
  | some t => Ptn.C02.showTTN t

def handleSStep (fixed : Bool) (toks : List String) : String :=
  match splitSlash toks with
  | [treeToks, opToks, parToks] =>
    match parseTree treeToks, buildTTN opToks, parToks.mapM parsePTok with
    | some t, some net, some ps =>
      let r := t.toR
      let root := Ptn.C17.RTree.rid r
      match mkParams ps ((Ptn.C17.RTree.ids r).filter (· != root)) with
      | none => "bad-op"
      | some P =>
        if opToks.isEmpty then "bad-op" else
        let evs := Gauge.bugEvents fixed r
        let g0 := Gauge.start (fun _ => none) r
        let states := Step.sTrace P net evs              -- the start state, then the state after every event
        let labels := "start" :: evs.map Gauge.showGEv
        let fields := (List.range labels.length).map fun k =>
          s!"{labels.getD k "?"} => {showSt ((states.getD k none))} # pend {showPend (Gauge.run g0 (evs.take k))}"
        " | ".intercalate fields
    | _, _, _ => "bad-op"
  | _ => "bad-op"

def handle (args : List String) : String :=
  match args with
  | "gauge" :: "0" :: toks => handleGauge false toks
  | "sstep" :: "0" :: toks => handleSStep false toks
  | "sstep" :: "1" :: toks => handleSStep true toks
  | "gauge" :: "1" :: toks => handleGauge true toks
  | "order" :: toks =>
    match toks.mapM parseEntry with
    | none => "bad-op"
    | some entries =>
      match entries.filter (·.2 == none) with
      | [(r, _)] =>
        let t := buildTree (2 * entries.length + 2) entries r
        if t.ids.length ≠ entries.length then "bad-op" else
        " ".intercalate (t.updates.map toString) ++ " | " ++
          " ".intercalate (t.moves.map fun m => s!"{m.1}>{m.2}")
      | _ => "bad-op"
  | _ => "bad-op"

end Ptn.C09
