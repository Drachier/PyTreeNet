import Ptn.C09.StepEvents
import Ptn.C09.GaugeLemmas
/-! One whole BUG step on the structural model, in the order of the code (core Lean only).  `Q` is the invariant that
ties the network to the state of the gauge machine; one lemma per kind of event (`q_*`, on the event lemmas of
`StepEvents.lean`); the induction over ANY list of events that the gauge machine accepts (`q_of_run`): what `Gauge.step`
checks is enough for the edits of `new_state` to succeed. -/
namespace Ptn.C09.Step
open Ptn.C02 Ptn.C02.NodeS Ptn.C09.Gauge Ptn.C17 Ptn.C17.RTree

/-- what is assumed of the network before the step and of the parameters, `A` = the nodes of the tree: the hypotheses of
    `bug_step_structure` -/
structure Ctx (P : Params) (t0 : TTN) (A : Id → Prop) : Prop where
  wf : t0.WF
  lwf : t0.LWF
  fresh : ∀ c, A c → t0.N (P.bid c) = none
  inj : ∀ c c', A c → A c' → P.bid c = P.bid c' → c = c'
  perm : ∀ c l, P.perm c = some l →
    l.Perm (List.range l.length) ∧ ∀ n, t0.N c = some n → l.length = n.perm.length

theorem Ctx.sctx {P : Params} {t0 : TTN} {A : Id → Prop} (X : Ctx P t0 A) :
    SCtx P.bid t0.S t0.hasT t0.root A :=
  ⟨X.wf.str, fun c hc => S_none_of_N (X.fresh c hc), X.inj⟩

theorem Ctx.bid_openAxes {P : Params} {t0 : TTN} {A : Id → Prop} (X : Ctx P t0 A) :
    ∀ c, A c → t0.openAxes (P.bid c) = [] := fun c hc => openAxes_none (X.fresh c hc)

/-- the nodes whose basis-change node is pending -/
def PD (g : GState) : Id → Prop := fun c => c ∈ g.pend.map Prod.fst

/-- fixed rank: the new rank of every node of `A` is the dimension of its old parent leg - what the code enforces of
    the `KEEP`-mode QR (`assert new_basis_tensor.shape == updated_tensor.shape`) -/
def KeepRanks (P : Params) (t0 : TTN) (A : Id → Prop) : Prop :=
  ∀ c p ch ax0, A c → t0.S c = some (some p, ch) → t0.Leg c p ax0 → P.bdim c = ax0.dim

/-- the invariant of a joint state: the network is `t0` with the basis-change nodes of the gauge machine's pending list
    spliced in (`PInv`); every pending entry is a tree edge; with `KeepRanks`, every bond has its dimension in `t0` -/
structure Q (P : Params) (t0 : TTN) (A : Id → Prop) (g : GState) (t : TTN) : Prop where
  wfx : t.WFX True t0.openAxes
  root : t.root = t0.root
  pinv : PInv P.bid t0.S t.S (PD g)
  par : ∀ e ∈ g.pend, A e.1 ∧ ∃ ch, t0.S e.1 = some (some e.2, ch)
  dim : KeepRanks P t0 A → DimInvD P.bid t0 (PD g) t

theorem Q.dok {P : Params} {t0 : TTN} {A : Id → Prop} {g : GState} {t : TTN} (q : Q P t0 A g t) :
    DOK t0.S A (PD g) := by
  intro c hc
  obtain ⟨e, he, rfl⟩ := List.mem_map.mp hc
  obtain ⟨a, ch, b⟩ := q.par e he
  exact ⟨a, e.2, ch, b⟩

/-- `Q` looks at the pending list of the gauge state only, and at the recorded structure and legs of the network -/
theorem Q.edit {P : Params} {t0 : TTN} {A : Id → Prop} {g g' : GState} {t t' : TTN} (q : Q P t0 A g t)
    (hp : g'.pend = g.pend) (w : t'.WFX True t0.openAxes) (R : t'.root = t.root) (S : t'.S = t.S)
    (L : ∀ k, t'.legPairs k = t.legPairs k) : Q P t0 A g' t' := by
  have hD : PD g' = PD g := by unfold PD; rw [hp]
  exact ⟨w, R.trans q.root, by rw [hD, S]; exact q.pinv, by rw [hp]; exact q.par,
    fun hK => by rw [hD]; exact (q.dim hK).of_legs L⟩

theorem jrun_split {P : Params} {es : List GEv} : ∀ {g g' : GState} {t t' : TTN},
    Step.jrun P (g, t) es = some (g', t') → Gauge.run g es = some g' ∧ sRun P t es = some t' := by
  induction es with
  | nil =>
    intro g g' t t' h
    simp only [Step.jrun, Option.some.injEq, Prod.mk.injEq] at h
    obtain ⟨rfl, rfl⟩ := h
    exact ⟨rfl, rfl⟩
  | cons e es ih =>
    intro g g' t t' h
    simp only [Step.jrun, jstep] at h
    cases hg : step g e with
    | none => simp [hg] at h
    | some g1 =>
      cases ht : sEdit P t e with
      | none => simp [hg, ht] at h
      | some t1 =>
        simp only [hg, ht, Option.bind_some, Option.map_some] at h
        obtain ⟨a, b⟩ := ih h
        exact ⟨by simp [Gauge.run, hg, a], by simp [sRun, ht, b]⟩

/-- what an event needs of the structure map `S` of the network BEFORE the step -/
def EvOK (S : Id → Option Struct) (A : Id → Prop) : GEv → Prop
  | .down _ _ _ => True
  | .absorb c kl => ∃ pp ch, S c = some (pp, ch) ∧ ch.Perm kl
  | .basis c p _ => A c ∧ ∃ ch, S c = some (some p, ch)
  | .pull c | .evolve c | .store c => ∃ pp ch, S c = some (pp, ch)

section events
variable {P : Params} {t0 : TTN} {A : Id → Prop} {g g1 : GState} {t : TTN}

/-- a pending node is not the root, so it has a parent with and without its basis-change node -/
theorem Q.node (q : Q P t0 A g t) {c : Id} {pp : Option Id} {ch : List Id} (hS0 : t0.S c = some (pp, ch)) :
    ∃ n, t.N c = some n ∧ n.parent.isSome = pp.isSome ∧ n.children.length = ch.length := by
  obtain ⟨n, hn, en⟩ := TTN.N_of_S (q.pinv.nodes c pp ch hS0)
  simp only [Prod.mk.injEq] at en
  refine ⟨n, hn, ?_, by rw [← en.2, List.length_map]⟩
  rw [← en.1]
  by_cases hc : PD g c
  · obtain ⟨_, p, ch', h'⟩ := q.dok c hc
    rw [hS0] at h'; simp only [Option.some.injEq, Prod.mk.injEq] at h'
    rw [subP_pos hc, h'.1]; rfl
  · rw [subP_neg hc]

/-- `step` refuses a second basis-change node above `c` below the same parent; a pending entry is a tree edge, so `c`
    has none at all -/
theorem basis_not_pending (q : Q P t0 A g t) {c p : Nat} {aug : Bool} {ch : List Id}
    (hg : step g (.basis c p aug) = some g1) (hS0 : t0.S c = some (some p, ch)) : ¬ PD g c := by
  intro hc
  obtain ⟨e, he, rfl⟩ := List.mem_map.mp hc
  obtain ⟨_, ch', h'⟩ := q.par e he
  rw [hS0] at h'; simp only [Option.some.injEq, Prod.mk.injEq] at h'
  have : (e.1, p) ∈ g.pend := by rw [h'.1]; exact he
  simp [Gauge.step, this] at hg

theorem q_down (q : Q P t0 A g t) {p c : Nat} {keep : Bool} (hg : step g (.down p c keep) = some g1) :
    Q P t0 A g1 t := q.edit (step_pend hg) q.wfx rfl rfl fun _ => rfl

theorem q_pull (X : Ctx P t0 A) (q : Q P t0 A g t) {c : Nat} {pp : Option Id} {ch : List Id}
    (hg : step g (.pull c) = some g1) (hS0 : t0.S c = some (pp, ch)) :
    ∃ t', t.replaceTensorPermuted c (P.perm c) = some t' ∧ Q P t0 A g1 t' := by
  obtain ⟨n, hn, e1, e2⟩ := q.node hS0
  obtain ⟨n0, hn0, en0⟩ := TTN.N_of_S hS0
  simp only [Prod.mk.injEq] at en0
  have hlen : n.perm.length = n0.perm.length := by
    rw [nlegs_eq q.wfx.wf hn, nlegs_eq X.wf hn0, q.wfx.op trivial c]
    have : n.nvirt = n0.nvirt := by
      simp only [NodeS.nvirt, NodeS.nparents, NodeS.nchildren, e1, e2, ← en0.1, ← en0.2]
    rw [this]
  obtain ⟨t', hs, w', R', S', L'⟩ := rtp_event (q := P.perm c) q.wfx hn (fun l hl => by
    obtain ⟨a, b⟩ := X.perm c l hl
    exact ⟨a, by rw [hlen]; exact b n0 hn0⟩)
  exact ⟨t', hs, q.edit (step_pend hg) w' R' S' L'⟩

theorem q_store (q : Q P t0 A g t) {r : Nat} {pp : Option Id} {ch : List Id}
    (hg : step g (.store r) = some g1) (hS0 : t0.S r = some (pp, ch)) :
    ∃ t', t.replaceTensorPermuted r none = some t' ∧ Q P t0 A g1 t' := by
  obtain ⟨n, hn, _⟩ := q.node hS0
  obtain ⟨t', hs, w', R', S', L'⟩ := rtp_event (q := none) q.wfx hn (fun l hl => by cases hl)
  exact ⟨t', hs, q.edit (step_pend hg) w' R' S' L'⟩

theorem q_evolve (q : Q P t0 A g t) {c : Nat} {pp : Option Id} {ch : List Id}
    (hg : step g (.evolve c) = some g1) (hS0 : t0.S c = some (pp, ch)) :
    ∃ t', (t.access c).map (·.1) = some t' ∧ Q P t0 A g1 t' := by
  obtain ⟨n, hn, _⟩ := q.node hS0
  obtain ⟨t', hs, w', R', S', L'⟩ := access_event q.wfx hn
  exact ⟨t', hs, q.edit (step_pend hg) w' R' S' L'⟩

theorem q_basis (X : Ctx P t0 A) (q : Q P t0 A g t) {c p : Nat} {aug : Bool} {ch : List Id}
    (hg : step g (.basis c p aug) = some g1) (hS0 : t0.S c = some (some p, ch)) (hA : A c) :
    ∃ t', bugSplit t c (P.bid c) (P.bdim c) = some t' ∧ Q P t0 A g1 t' := by
  have hc := basis_not_pending q hg hS0
  obtain ⟨t', hs, w', R', inv', l1, l2, l3⟩ := split_event X.sctx q.dok q.wfx q.pinv hA hc hS0 (P.bdim c)
  have hp : g1.pend = g.pend ++ [(c, p)] := step_pend hg
  have hiff : ∀ k, (PD g k ∨ k = c) ↔ PD g1 k := fun k => by
    unfold PD
    rw [hp, List.map_append, List.mem_append, List.map_singleton, List.mem_singleton]
  refine ⟨t', hs, w', R'.trans q.root, inv'.congr hiff, ?_, ?_⟩
  · intro e he
    rw [hp] at he
    rcases List.mem_append.mp he with he | he
    · exact q.par e he
    · simp only [List.mem_singleton] at he
      subst he
      exact ⟨hA, ch, hS0⟩
  · intro hK
    exact (split_dims X.sctx q.dok hA hc hS0 (fun ax0 h0 => hK c p ch ax0 hA hS0 h0) (q.dim hK) l1 l2 l3).congr hiff

theorem q_absorb (X : Ctx P t0 A) (q : Q P t0 A g t) {c : Nat} {kl : List Nat} {pp : Option Id} {ch : List Id}
    (hg : step g (.absorb c kl) = some g1) (hS0 : t0.S c = some (pp, ch)) (hperm : ch.Perm kl) :
    ∃ t', t.contractAllChildren c c = some t' ∧ Q P t0 A g1 t' := by
  have hallD : ∀ e ∈ ch, PD g e := fun e he =>
    List.mem_map.mpr ⟨(e, c), (step_absorb.mp hg).1 e (hperm.mem_iff.mp he), rfl⟩
  obtain ⟨t', hs, w', R', inv', hdim'⟩ := absorb_event X.sctx X.bid_openAxes q.dok q.wfx q.pinv (KeepRanks P t0 A) q.dim
    hS0 hallD
  have hp : g1.pend = g.pend.filter (fun e => e.2 != c) := step_pend hg
  -- a pending entry `(k, c')` is a tree edge, `c'` the parent of `k`: "second component ≠ c" says "`k` is no child of `c`"
  have hiff : ∀ k, (PD g k ∧ k ∉ ch) ↔ PD g1 k := by
    intro k
    simp only [PD, hp, List.mem_map, List.mem_filter, bne_iff_ne, ne_eq]
    constructor
    · rintro ⟨⟨e, he, rfl⟩, hk⟩
      refine ⟨e, ⟨he, ?_⟩, rfl⟩
      intro e2
      obtain ⟨_, che, hpar⟩ := q.par e he
      rw [e2] at hpar
      obtain ⟨pp', pch, hp', hmem⟩ := X.wf.str.up e.1 c che hpar
      rw [hS0] at hp'; simp only [Option.some.injEq, Prod.mk.injEq] at hp'
      exact hk (hp'.2 ▸ hmem)
    · rintro ⟨e, ⟨he, hne⟩, rfl⟩
      refine ⟨⟨e, he, rfl⟩, ?_⟩
      intro hm
      obtain ⟨cch, hdown⟩ := X.wf.str.down c pp ch e.1 hS0 hm
      obtain ⟨_, che, hpar⟩ := q.par e he
      rw [hpar] at hdown; simp only [Option.some.injEq, Prod.mk.injEq] at hdown
      exact hne hdown.1
  refine ⟨t', hs, w', R'.trans q.root, inv'.congr hiff, fun e he => ?_, fun hK => (hdim' hK).congr hiff⟩
  rw [hp] at he
  exact q.par e (List.mem_filter.mp he).1

/-- **The structural run over any list of events**: where the gauge machine runs through and every event finds its node in
    the structure map of before the step, every structural edit succeeds and `Q` holds again at the end. -/
theorem q_of_run (X : Ctx P t0 A) {es : List GEv} {g' : GState} (hr : Gauge.run g es = some g')
    (hE : ∀ e ∈ es, EvOK t0.S A e) (q : Q P t0 A g t) :
    ∃ t', sRun P t es = some t' ∧ Q P t0 A g' t' := by
  induction es generalizing g t with
  | nil => cases hr; exact ⟨t, rfl, q⟩
  | cons e es ih =>
    rw [run_cons] at hr
    cases hg : step g e with
    | none => rw [hg] at hr; cases hr
    | some g1 =>
      rw [hg] at hr
      have hok := hE e (List.mem_cons_self ..)
      obtain ⟨t1, hs, q1⟩ : ∃ t1, sEdit P t e = some t1 ∧ Q P t0 A g1 t1 := by
        cases e with
        | down p c keep => exact ⟨t, rfl, q_down q hg⟩
        | pull c => obtain ⟨pp, ch, hS0⟩ := hok; exact q_pull X q hg hS0
        | absorb c kl => obtain ⟨pp, ch, hS0, hperm⟩ := hok; exact q_absorb X q hg hS0 hperm
        | evolve c => obtain ⟨pp, ch, hS0⟩ := hok; exact q_evolve q hg hS0
        | basis c p aug => obtain ⟨hA, ch, hS0⟩ := hok; exact q_basis X q hg hS0 hA
        | store r => obtain ⟨pp, ch, hS0⟩ := hok; exact q_store q hg hS0
      obtain ⟨t', hs', q'⟩ := ih hr (fun e he => hE e (List.mem_cons_of_mem _ he)) q1
      exact ⟨t', by simp only [sRun, hs, Option.bind_some, hs'], q'⟩

end events

end Ptn.C09.Step
