import Ptn.C09.EnvModel
import Ptn.C17.HopFacts
/-! Cache algebra and the invariant "every block pointing toward the centre of the working copy is
in the cache with generation `old`". -/
namespace Ptn.C09.Env
open Ptn.C17 Ptn.C17.RTree

theorem lookup_map_set {ca : Cache} {b : Block} {g : Gen} (h : ca.any (fun e => e.1 == b) = true) :
    (ca.map (fun e => if e.1 == b then (b, g) else e)).lookup b = some g := by
  induction ca with
  | nil => simp at h
  | cons e rest ih =>
    obtain ⟨k, v⟩ := e
    by_cases hk : k = b
    · subst hk; simp
    · have hb : (b == k) = false := by simpa using fun e => hk e.symm
      have hk' : (k == b) = false := by simpa using hk
      simp only [List.any_cons, hk', Bool.false_or] at h
      simp only [List.map_cons, hk', Bool.false_eq_true, if_false, List.lookup, hb]
      exact ih h

theorem get_set_same (ca : Cache) (b : Block) (g : Gen) : (ca.set b g).get b = some g := by
  simp only [Cache.get, Cache.set]
  by_cases h : ca.any (fun e => e.1 == b) = true
  · rw [if_pos h]; exact lookup_map_set h
  · have hn : ca.lookup b = none := List.lookup_eq_none_iff.mpr fun p hp =>
      bne_iff_ne.mpr fun e => h (List.any_eq_true.mpr ⟨p, hp, beq_iff_eq.mpr e.symm⟩)
    rw [if_neg h, List.lookup_append, hn, List.lookup_cons_self, Option.none_or]

theorem get_set_ne (ca : Cache) {b b' : Block} (g : Gen) (h : b' ≠ b) :
    (ca.set b g).get b' = ca.get b' := by
  have hb : (b' == b) = false := by simpa using h
  simp only [Cache.get, Cache.set]
  by_cases hany : ca.any (fun e => e.1 == b) = true
  · -- the overwritten entries have the key `b`: `lookup b'` passes them before and after
    rw [if_pos hany, List.lookup_eq_findSome?, List.lookup_eq_findSome?, List.findSome?_map]
    congr
    funext e
    by_cases he : e.1 = b
    · simp [he, hb, h]
    · simp [he]
  · rw [if_neg hany, List.lookup_append]
    simp [List.lookup, hb]

theorem get_del_ne : ∀ (ca : Cache) {b b' : Block}, b' ≠ b → (ca.del b).get b' = ca.get b'
  | [], _, _, _ => rfl
  | (k, v) :: rest, b, b', h => by
    have ih := get_del_ne rest h
    simp only [Cache.get, Cache.del] at ih ⊢
    by_cases hk : k = b
    · subst hk
      have hb : (b' == k) = false := by simpa using h
      have hkk : (k != k) = false := by simp
      simp only [List.filter_cons, hkk, Bool.false_eq_true, if_false, List.lookup, hb]
      exact ih
    · have hk' : (k != b) = true := by simpa using hk
      simp only [List.filter_cons, hk', if_true, List.lookup]
      cases (b' == k) <;> simp [ih]

theorem get_merge (c : Nat) : ∀ (kids : List Nat) (ca : Cache) (blk : Block),
    (kids.foldl (fun ca k => ca.set (k, c) Gen.new) ca).get blk =
      if blk ∈ kids.map (fun k => (k, c)) then some Gen.new else ca.get blk
  | [], ca, blk => by simp
  | k :: kids, ca, blk => by
    rw [List.foldl_cons, get_merge c kids]
    by_cases h2 : blk = (k, c)
    · rw [h2, get_set_same, ite_self, if_pos (by simp)]
    · rw [get_set_ne _ _ h2]
      simp only [List.map_cons, List.mem_cons, h2, false_or]

theorem lookup_map_old : ∀ {bs : List Block} {b : Block}, b ∈ bs →
    ((bs.map fun b => (b, Gen.old)) : Cache).lookup b = some Gen.old
  | b0 :: bs, b, h => by
    simp only [List.map_cons, List.lookup]
    cases hb : b == b0
    · exact lookup_map_old ((List.mem_cons.mp h).resolve_left (by simpa using hb))
    · rfl

def CacheInv (t : RTree) (c : Nat) (ca : Cache) : Prop :=
  ∀ x h, x ∈ ids t → x ≠ c → firstHop t x c = some h → ca.get (x, h) = some Gen.old

/-- after the centre move `p → c`, the rebuild of `(p, c)` and the deletion of `(c, p)` -/
theorem cacheInv_descend {t : RTree} (hwf : t.WF) {p c : Nat} (hpc : Adj t p c) {ca : Cache}
    (h : CacheInv t p ca) : CacheInv t c ((ca.set (p, c) Gen.old).del (c, p)) := by
  intro x hh hx hxc hhop
  have hm := adj_mem hpc
  by_cases hxp : x = p
  · subst hxp
    rw [firstHop_adj hwf hpc] at hhop
    simp at hhop; subst hhop
    have hne : (x, c) ≠ (c, x) := by
      intro e; simp at e; exact hxc e.1
    rw [get_del_ne _ hne, get_set_same]
  · have hhp : firstHop t x p = some hh := by
      rw [← firstHop_adj_same hwf hpc hx hxp hxc]; exact hhop
    have hne1 : (x, hh) ≠ (c, p) := by intro e; simp at e; exact hxc e.1
    have hne2 : (x, hh) ≠ (p, c) := by intro e; simp at e; exact hxp e.1
    rw [get_del_ne _ hne1, get_set_ne _ _ hne2]
    exact h x hh hx hxp hhp

theorem cacheInv_inputs {t : RTree} (hwf : t.WF) {p : Nat} {ca : Cache} (h : CacheInv t p ca)
    {zs : List Nat} (hz : ∀ z ∈ zs, Adj t p z) :
    readAll ca (zs.map fun z => (z, p)) = oldReads (zs.map fun z => (z, p)) := by
  simp only [readAll, oldReads, List.map_map]
  apply List.map_congr_left
  intro z hzm
  have hadj := hz z hzm
  have hm := adj_mem hadj
  simp only [Function.comp, Prod.mk.injEq, true_and]
  exact h z p hm.2 (fun e => adj_ne hwf hadj e.symm) (firstHop_adj hwf (adj_symm hadj))

end Ptn.C09.Env
