import Ptn.C09.EnvLemmas
import Ptn.C17.Segments
/-! BUG environment sources: the trace of the machine that follows `root_update` / `update_node`
with explicit caches equals the ideal trace, in which the local evolution of a non-root node reads
the parent block `old` and the child blocks `new`, the root reads all blocks `new`, and the rebuild
of `(p, c)` reads only `old` blocks - never a `new` block of a sibling. -/
namespace Ptn.C09.Env
open Ptn.C17 Ptn.C17.RTree

theorem reads_after_merge {c : Nat} (kids : List Nat) (ca : Cache) :
    readAll (kids.foldl (fun ca k => ca.set (k, c) Gen.new) ca) (kids.map fun k => (k, c))
      = newReads (kids.map fun k => (k, c)) := by
  simp only [readAll, newReads, List.map_map]
  apply List.map_congr_left
  intro k hk
  simp only [Function.comp, Prod.mk.injEq, true_and]
  rw [get_merge]
  simp [hk]

theorem updNode_eq_ideal {t : RTree} (hwf : t.WF) :
    (∀ s, ∀ p nbP caP, (p, s.rid) ∈ edges t → (∀ e ∈ edges s, e ∈ edges t) →
      (∀ z ∈ nbP, Adj t p z) → CacheInv t p caP → updNode p nbP caP s = idealNode p nbP s) ∧
    (∀ ks, ∀ c nbC ca, (∀ e ∈ edgesL c ks, e ∈ edges t) → (∀ z ∈ nbC, Adj t c z) →
      CacheInv t c ca → updKids c nbC ca ks = idealKids c nbC ks) := by
  apply induct
  · intro c ks ih p nbP caP hpc hedges hnb hinv
    rw [edges_node] at hedges
    simp only [rid] at hpc
    have hadj : Adj t p c := Or.inl hpc
    have hpc_ne : p ≠ c := adj_ne hwf hadj
    have hkedge : ∀ k ∈ ks, (c, k.rid) ∈ edges t := fun k hk => hedges _ (rid_edge hk)
    have hinv1 := cacheInv_descend hwf hadj hinv
    have hkids := ih c (p :: ks.map rid) ((caP.set (p, c) Gen.old).del (c, p)) hedges
      (by
        intro z hz
        rcases List.mem_cons.mp hz with rfl | hz
        · exact adj_symm hadj
        · obtain ⟨k, hk, rfl⟩ := List.mem_map.mp hz
          exact Or.inl (hkedge k hk))
      hinv1
    have hreb : readAll caP ((nbP.filter (fun z => z != c)).map fun z => (z, p))
        = oldReads ((nbP.filter (fun z => z != c)).map fun z => (z, p)) :=
      cacheInv_inputs hwf hinv (fun z hz => hnb z (List.mem_filter.mp hz).1)
    have hparent : (((ks.map rid).foldl (fun ca k => ca.set (k, c) Gen.new)
        ((caP.set (p, c) Gen.old).del (c, p))).get (p, c)) = some Gen.old := by
      rw [get_merge]
      have hnot : (p, c) ∉ (ks.map rid).map (fun k => (k, c)) := by
        intro hm
        simp only [List.mem_map] at hm
        obtain ⟨k', ⟨k, hk, rfl⟩, e⟩ := hm
        simp at e
        exact no_two_cycle hwf hpc (e ▸ hkedge k hk)
      rw [if_neg hnot]
      have hne : (p, c) ≠ (c, p) := by intro e; simp at e; exact hpc_ne e.1
      rw [get_del_ne _ hne, get_set_same]
    have hB := reads_after_merge (c := c) (ks.map rid) ((caP.set (p, c) Gen.old).del (c, p))
    have hA : readAll ((ks.map rid).foldl (fun ca k => ca.set (k, c) Gen.new)
          ((caP.set (p, c) Gen.old).del (c, p))) ((p, c) :: (ks.map rid).map fun k => (k, c))
        = ((p, c), some Gen.old) :: newReads ((ks.map rid).map fun k => (k, c)) := by
      show (_, _) :: readAll _ _ = _
      rw [hparent, hB]
    simp only [updNode, idealNode, hreb, hkids, hA, hB]
  · intro c nbC ca _ _ _; simp [updKids, idealKids]
  · intro k ks ihk ihks c nbC ca hedges hnb hinv
    rw [edgesL_cons] at hedges
    simp only [updKids, idealKids]
    rw [ihk c nbC ca (hedges _ (by simp)) (fun e he => hedges e (by simp [he])) hnb hinv,
      ihks c nbC ca (fun e he => hedges e (by simp [he])) hnb hinv]

/-- the blocks created by `init_cache_but_one(c)`: every node other than `c` has its block toward
    `c` (`Ptn.C17.RTree.cacheKeys_toward`: every block created points toward `c`) -/
theorem toward_mem_cacheKeys {t : RTree} (hwf : t.WF) {c : Nat} (hc : c ∈ ids t) :
    ∃ keys, cacheKeys c t = some keys ∧
      ∀ x h, x ∈ ids t → x ≠ c → firstHop t x c = some h → (x, h) ∈ keys := by
  cases hk : cacheKeys c t with
  | none => exact absurd hc (((cacheKeys_spec c).1 t).2 hk)
  | some keys =>
    refine ⟨keys, rfl, ?_⟩
    obtain ⟨h1, _⟩ := ((cacheKeys_spec c).1 t).1 keys hk
    intro x h hx hxc hhop
    have hxm : x ∈ keys.map (·.1) ++ [c] := h1.symm.subset hx
    simp only [List.mem_append, List.mem_singleton] at hxm
    rcases hxm with hxm | hxm
    · obtain ⟨e, he, rfl⟩ := List.mem_map.mp hxm
      obtain ⟨rest, hr⟩ := Ptn.C17.RTree.cacheKeys_toward hwf hc hk (u := e.1) (v := e.2) he
      have hh := firstHop_of_path hr
      rw [hhop] at hh
      have : h = e.2 := Option.some.inj hh
      rw [this]; exact he
    · exact absurd hxm hxc

/-- the cache after `init_cache_but_one(root)` holds every block toward the root, `old` -/
theorem cacheInv_init (t : RTree) (hwf : t.WF) :
    CacheInv t t.rid (((cacheKeys t.rid t).getD []).map fun b => (b, Gen.old)) := by
  intro x h hx hxr hhop
  obtain ⟨keys, hk, htoward⟩ := toward_mem_cacheKeys hwf (rid_mem_ids t)
  rw [hk]
  exact lookup_map_old (htoward x h hx hxr hhop)

/-- **The trace with real cache look-ups is the trace the property states** (`bugIdeal`: parent side `old`, child side
    `new`, one read per neighbour): what the other statements about `bugRun` are read off. -/
theorem bug_trace_eq_ideal (t : RTree) (hwf : t.WF) : bugRun t = bugIdeal t := by
  cases t with
  | node r ks =>
    have hinv := cacheInv_init (node r ks) hwf
    simp only [rid] at hinv
    have hkids := (updNode_eq_ideal hwf).2 ks r (ks.map rid) _ (fun e he => by simpa using he)
      (by
        intro z hz
        obtain ⟨k, hk, rfl⟩ := List.mem_map.mp hz
        exact Or.inl (by simpa using rid_edge (r := r) hk))
      hinv
    have hB := reads_after_merge (c := r) (ks.map rid)
      (((cacheKeys r (node r ks)).getD []).map fun b => (b, Gen.old))
    simp only [bugRun, bugIdeal, hkids, hB]

end Ptn.C09.Env
