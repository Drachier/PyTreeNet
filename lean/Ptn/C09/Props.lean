import Ptn.C09.Model
import Ptn.C09.EnvProps
import Ptn.C09.GaugeLemmas
import Ptn.C03.Tree
import Ptn.C03.CentreNorm
import Ptn.C09.Structure
import Ptn.C09.StepTree
import Ptn.C10.RuleProps
import Ptn.C10.BondProps
import Ptn.C02.DemoKit
import Ptn.Common.AnalysisLocal
import Ptn.Common.AnalysisProj
/-! The stated results about BUG: the recursion order (`Model.lean`); conservation in the Galerkin step, instances of the
local-flow theorems of `Ptn.Analysis` (the step is an exact flow with an isometric embedding whose range contains the
old state because every new basis contains the old one); the gauge after a step (`GaugeLemmas.lean`); the structure,
shapes and bonds of `new_state`, for single edits (`Structure.lean`) and for the whole step in the order of the code
(`StepTree.lean`); with an example for the hypotheses of each. -/
namespace Ptn.C09

mutual
theorem Tree.updates_perm : (t : Tree) → t.updates.Perm t.ids
  | .node id kids => by
    simp only [Tree.updates, Tree.ids]
    exact (List.perm_append_comm.trans (List.Perm.cons id (Forest.updates_perm kids)))
theorem Forest.updates_perm : (f : Forest) → f.updates.Perm f.ids
  | .nil => by simp [Forest.updates, Forest.ids]
  | .cons t f => by
    simp only [Forest.updates, Forest.ids]
    exact List.Perm.append (Tree.updates_perm t) (Forest.updates_perm f)
end

/-- Every node is evolved exactly once per step (when identifiers are distinct). -/
theorem updates_nodup (t : Tree) (h : t.ids.Nodup) : t.updates.Nodup :=
  (List.Perm.nodup_iff (Tree.updates_perm t)).mpr h

theorem root_last (t : Tree) : t.updates.getLast? = some t.root := by
  cases t with
  | node id kids => simp [Tree.updates, Tree.root]

theorem Tree.root_mem_updates : (t : Tree) → t.root ∈ t.updates
  | .node id kids => by simp [Tree.updates, Tree.root]

theorem Forest.roots_subset_updates : (f : Forest) → ∀ c ∈ f.roots, c ∈ f.updates
  | .nil => by simp [Forest.roots]
  | .cons t f => by
    intro c hc
    simp only [Forest.roots, List.mem_cons] at hc
    simp only [Forest.updates, List.mem_append]
    rcases hc with rfl | hc
    · exact Or.inl (Tree.root_mem_updates t)
    · exact Or.inr (Forest.roots_subset_updates f c hc)

mutual
/-- **Children before parents**: for every edge (p, c) of the tree, `c` is evolved strictly before
    `p`: the update list splits as `… c … p …`. -/
theorem Tree.child_before_parent : (t : Tree) → ∀ e ∈ t.edges,
    ∃ l1 l2 l3, t.updates = l1 ++ [e.2] ++ l2 ++ [e.1] ++ l3
  | .node id kids => by
    intro e he
    simp only [Tree.edges, List.mem_append, List.mem_map] at he
    rcases he with ⟨c, hc, rfl⟩ | he
    · have hmem := Forest.roots_subset_updates kids c hc
      obtain ⟨a, b, hab⟩ := List.append_of_mem hmem
      refine ⟨a, b, [], ?_⟩
      simp [Tree.updates, hab]
    · obtain ⟨l1, l2, l3, h⟩ := Forest.child_before_parent kids e he
      refine ⟨l1, l2, l3 ++ [id], ?_⟩
      simp [Tree.updates, h]
theorem Forest.child_before_parent : (f : Forest) → ∀ e ∈ f.edges,
    ∃ l1 l2 l3, f.updates = l1 ++ [e.2] ++ l2 ++ [e.1] ++ l3
  | .nil => by
    intro e he
    simp only [Forest.edges, List.not_mem_nil] at he
  | .cons t f => by
    intro e he
    simp only [Forest.edges, List.mem_append] at he
    rcases he with he | he
    · obtain ⟨l1, l2, l3, h⟩ := Tree.child_before_parent t e he
      exact ⟨l1, l2, l3 ++ f.updates, by simp [Forest.updates, h]⟩
    · obtain ⟨l1, l2, l3, h⟩ := Forest.child_before_parent f e he
      exact ⟨t.updates ++ l1, l2, l3, by simp [Forest.updates, h]⟩
end

mutual
/-- The centre moves are exactly the tree edges, each once, parent → child. -/
theorem Tree.moves_perm : (t : Tree) → t.moves.Perm t.edges
  | .node id kids => by
    simp only [Tree.moves, Tree.edges]
    exact Forest.movesFrom_perm id kids
theorem Forest.movesFrom_perm (p : Nat) : (f : Forest) →
    (f.movesFrom p).Perm (f.roots.map (fun c => (p, c)) ++ f.edges)
  | .nil => by simp [Forest.movesFrom, Forest.roots, Forest.edges]
  | .cons t f => by
    simp only [Forest.movesFrom, Forest.roots, Forest.edges, List.map_cons, List.cons_append]
    apply List.Perm.cons
    have h1 := Tree.moves_perm t
    have h2 := Forest.movesFrom_perm p f
    refine (List.Perm.append h1 h2).trans ?_
    rw [← List.append_assoc, ← List.append_assoc]
    exact List.Perm.append_right _ List.perm_append_comm
end

open Matrix in
/-- Rank-adaptive BUG, Galerkin step at the root: with `E` the (isometric) embedding given by all
    new bases and `K = EᴴHE`, evolving the root tensor with `exp(-i t K)` conserves the norm of the
    represented state. -/
theorem galerkin_conserves_norm {N d : Type} [Fintype N] [Fintype d] [DecidableEq N] [DecidableEq d]
    (E : Matrix N d ℂ) (H : Matrix N N ℂ) (hE : Eᴴ * E = 1) (hH : Hᴴ = H) (t : ℝ) (φ : d → ℂ) :
    star (E *ᵥ (NormedSpace.exp ((-Complex.I * t) • (Eᴴ * H * E)) *ᵥ φ)) ⬝ᵥ
        (E *ᵥ (NormedSpace.exp ((-Complex.I * t) • (Eᴴ * H * E)) *ᵥ φ)) =
      star (E *ᵥ φ) ⬝ᵥ (E *ᵥ φ) :=
  Ptn.Analysis.local_flow_norm E H hE hH t φ

open Matrix in
/-- The same Galerkin step conserves the energy `⟨ψ|H|ψ⟩` of the represented state (no isometry needed). -/
theorem galerkin_conserves_energy {N d : Type} [Fintype N] [Fintype d] [DecidableEq N] [DecidableEq d]
    (E : Matrix N d ℂ) (H : Matrix N N ℂ) (hH : Hᴴ = H) (t : ℝ) (φ : d → ℂ) :
    star (E *ᵥ (NormedSpace.exp ((-Complex.I * t) • (Eᴴ * H * E)) *ᵥ φ)) ⬝ᵥ
        (H *ᵥ (E *ᵥ (NormedSpace.exp ((-Complex.I * t) • (Eᴴ * H * E)) *ᵥ φ))) =
      star (E *ᵥ φ) ⬝ᵥ (H *ᵥ (E *ᵥ φ)) :=
  Ptn.Analysis.local_flow_energy E H hH t φ

open Matrix in
/-- Rank-adaptive BUG: every new basis contains the old one (it is an orthonormal basis of the span
    of the old basis and the evolved one, i.e. `Eold = Enew * M` with `M` the basis-change
    tensor), so the Galerkin initial value `Enewᴴ ψ` represents the old state exactly. -/
theorem augmented_basis_reproduces_state {N d d' : Type} [Fintype N] [Fintype d] [Fintype d']
    [DecidableEq d'] (Enew : Matrix N d' ℂ) (Eold : Matrix N d ℂ) (M : Matrix d' d ℂ)
    (hE : Enewᴴ * Enew = 1) (hM : Eold = Enew * M) (φ : d → ℂ) :
    Enew *ᵥ (Enewᴴ *ᵥ (Eold *ᵥ φ)) = Eold *ᵥ φ :=
  Ptn.Analysis.galerkin_initial_value_of_factor Enew Eold M hE hM φ

open Matrix in
/-- Fixed-rank BUG: projecting onto the new bases and evolving with the projected Hamiltonian never
    increases the norm. -/
theorem fixed_rank_step_nonexpansive {N d : Type} [Fintype N] [Fintype d] [DecidableEq N]
    [DecidableEq d] (E : Matrix N d ℂ) (H : Matrix N N ℂ) (hE : Eᴴ * E = 1) (hH : Hᴴ = H) (t : ℝ)
    (ψ : N → ℂ) :
    RCLike.re (star (E *ᵥ (NormedSpace.exp ((-Complex.I * (t : ℂ)) • (Eᴴ * H * E)) *ᵥ (Eᴴ *ᵥ ψ))) ⬝ᵥ
        (E *ᵥ (NormedSpace.exp ((-Complex.I * (t : ℂ)) • (Eᴴ * H * E)) *ᵥ (Eᴴ *ᵥ ψ))))
      ≤ RCLike.re (star ψ ⬝ᵥ ψ) :=
  Ptn.Analysis.fixed_rank_step_nonexpansive E H hE hH t ψ

/-! The machine of `GaugeModel.lean` follows `root_update` / `update_node` event by event; `fixed` is
`bug_config.fixed_rank` (it selects the QR mode of the centre moves and whether the basis is augmented,
not the order of events). -/

open Ptn.C17 Ptn.C17.RTree in
/-- **After one BUG step the state is canonical at the root.**  For every well-formed tree (one node
    included), both variants and ANY gauge recorded before the step: the machine runs through (no assertion
    of the code fails, no `contract_all_children` swallows a real node), afterwards the root carries no
    isometry record (it holds the evolved centre tensor), every other node is recorded as an isometric QR
    factor toward its PARENT, no basis-change node is left in the state (identifiers are the old ones) and
    only the frame of the start state remains; records of identifiers outside the tree are untouched. -/
theorem bug_step_canonical_at_root (fixed : Bool) (t : RTree) (hwf : t.WF) (dir0 : Nat → Option Nat) :
    ∃ s, Gauge.run (Gauge.start dir0 t) (Gauge.bugEvents fixed t) = some s ∧
      s.dir t.rid = none ∧ (∀ e ∈ edges t, s.dir e.2 = some e.1) ∧
      s.pend = [] ∧ s.frames = [t.rid] ∧ (∀ x, x ∉ ids t → s.dir x = dir0 x) :=
  Gauge.root_run fixed t hwf dir0

open Ptn.C17 Ptn.C17.RTree in
/-- The QR events of a step are one per non-root node, in post-order (children before parents), each
    toward the parent, augmented exactly for the rank-adaptive variant; the centre moves on the working
    copies are the tree edges parent -> child in pre-order, in `KEEP` mode exactly for fixed rank. -/
theorem bug_step_qr_events (fixed : Bool) (t : RTree) :
    (Gauge.bugEvents fixed t).filterMap Gauge.qrOf =
        (upKeysL t.rid t.kids).map (fun e => (e.1, e.2, !fixed)) ∧
    (Gauge.bugEvents fixed t).filterMap Gauge.moveOf = (edges t).map (fun e => (e.1, e.2, fixed)) :=
  ⟨Gauge.root_qr_events fixed t, Gauge.root_move_events fixed t⟩

open Ptn.C17 Ptn.C17.RTree Ptn.C03 in
/-- **The truncation pass of rank-adaptive BUG keeps the state canonical at the root**
    (`recursive_truncation` without the defect F-C09b of DESIGN.md: `truncate_node` contracts projectors into the tensors,
    so no isometry record survives - the start `fun _ => none` -, then `tree.canonical_form(root_id)`).
    With `dist` the table of `distance_to_node(root)`: no neighbour lookup of `canonical_form` fails and
    afterwards every non-root node is recorded as an isometry toward its parent, the root carries no record.
    (The structure is unchanged by the pass: `Ptn.C10.recursive_truncation_structure`.) -/
theorem rank_adaptive_truncation_keeps_canonical (t : RTree) (hwf : t.WF) :
    ∃ dist : Dist, distanceToNode t t.rid = some dist ∧ canonComplete dist (nbrsOf t) = true ∧
      (∀ e ∈ edges t, applyOps (fun _ => none) (canonOps dist (nbrsOf t)) e.2 = some e.1) ∧
      applyOps (fun _ => none) (canonOps dist (nbrsOf t)) t.rid = none := by
  obtain ⟨dist, hd, _, _, hcomp, hdir, hroot⟩ := canon_gauge_tree t hwf t.rid (rid_mem_ids t)
  refine ⟨dist, hd, hcomp, fun e he => ?_, hroot⟩
  obtain ⟨v, hv, hdv⟩ := hdir e.2 (edge_mem_ids he).2 (edge_snd_ne_rid hwf he)
  rw [firstHop_child hwf he] at hv
  exact Option.some.inj hv ▸ hdv

/-! The structural statements are about the C02 model of `TreeTensorNetwork` (`Ptn/C09/Structure.lean`): the edits
`root_update` / `update_node` apply to `new_state`. -/

open Ptn.C17 Ptn.C17.RTree in
/-- **A step completes on every tree** (one node included), both variants, as far as the cache machine and the
    gauge machine can tell: no cache lookup fails (every read returns a block of the generation the scheme asks
    for), no assertion about the orthogonality centre fails, `contract_all_children` only ever meets
    basis-change nodes, and at the end no basis-change node and no working copy is left.
    `bug_step_completes` adds that the edits of the C02 structural model (`splitNodes`, `contractNodes`,
    `replaceTensorPermuted`) return a network at every event of the step. -/
theorem bug_step_completes_partial (fixed : Bool) (t : RTree) (hwf : t.WF) :
    (∀ e ∈ Env.bugRun t, Env.GoodEv e) ∧
    (∀ dir0, ∃ s, Gauge.run (Gauge.start dir0 t) (Gauge.bugEvents fixed t) = some s ∧
      s.pend = [] ∧ s.frames = [t.rid]) := by
  refine ⟨Env.bug_env_sources t hwf, fun dir0 => ?_⟩
  obtain ⟨s, h1, _, _, h4, h5, _⟩ := bug_step_canonical_at_root fixed t hwf dir0
  exact ⟨s, h1, h4, h5⟩

open Ptn.C02 in
/-- **`split_node_replace` of a BUG step** (`c` any non-root node, `b` its unused basis-change identifier, any
    new rank `bd`): the result is well-formed and label-consistent with the same root; the basis-change node `b`
    takes the place of `c` below the parent `p` and has `c` as its only child, `c` keeps its children list; every
    node keeps exactly its open axes; `b` has exactly two legs - the old parent leg of `c` (same label and
    dimension) and the new bond of dimension `bd` - and `c` has the new bond and, toward its children, exactly the
    legs it had. -/
theorem bug_split_structure {t t1 : TTN} {c b : Id} {bd : Nat} (h : t.WF) (hl : t.LWF)
    (hfresh : t.N b = none) (hs : bugSplit t c b bd = some t1) :
    t1.WF ∧ t1.LWF ∧ t1.root = t.root ∧ (∀ k, t1.openAxes k = t.openAxes k) ∧
    ∃ C p, t.N c = some C ∧ C.parent = some p ∧ t1.S = splitS t.S c b c (some p) [] C.children ∧
      (∀ x ax, t1.Leg b x ax ↔ ((x = c ∧ ax = ⟨t.nextLabel, bd⟩) ∨ (x = p ∧ t.Leg c x ax))) ∧
      (∀ x ax, t1.Leg c x ax ↔ ((x = b ∧ ax = ⟨t.nextLabel, bd⟩) ∨ (x ∈ C.children ∧ t.Leg c x ax))) := by
  obtain ⟨C, p, hC, hp, hsp⟩ := bugSplit_eq hs
  obtain ⟨w, S1, R1⟩ := bug_split_full (TTN.WFX.ofLWF h hl) hC hp hfresh hsp
  obtain ⟨l1, l2⟩ := bug_split_legs h hC hp hfresh hsp
  exact ⟨w.wf, w.lwf trivial, R1, w.op trivial, C, p, hC, hp, S1, l1, l2⟩

open Ptn.C02 in
/-- **Fixed-rank BUG keeps the shape of the tensor it replaces** - for the replacement itself.  The hypothesis is
    what the code enforces of the QR in `KEEP` mode (`assert new_basis_tensor.shape == updated_tensor.shape`;
    `tensor_qr_decomposition(…, mode=SplitMode.KEEP)` for a leaf): the new rank `bd` is the dimension of the old
    parent leg of `c`.  Then the new basis tensor at `c` has, leg by leg, the dimensions of the old tensor (parent
    side `bd`, children legs and open axes identical) and the basis-change tensor is `bd × bd`.
    This is the statement for ONE replacement; `fixed_bug_keeps_shapes` carries it through the absorption
    and the whole step in the order of the code. -/
theorem fixed_bug_keeps_shapes_partial {t t1 : TTN} {c b p : Id} {C : NodeS} {bd : Nat} {lab : Label}
    (h : t.WF) (hl : t.LWF) (hfresh : t.N b = none) (hC : t.N c = some C) (hp : C.parent = some p)
    (hqr : t.Leg c p ⟨lab, bd⟩) (hs : bugSplit t c b bd = some t1) :
    t1.Leg c b ⟨t.nextLabel, bd⟩ ∧ t1.Leg b c ⟨t.nextLabel, bd⟩ ∧ t1.Leg b p ⟨lab, bd⟩ ∧
    (∀ x ∈ C.children, ∀ ax, t1.Leg c x ax ↔ t.Leg c x ax) ∧ (∀ k, t1.openAxes k = t.openAxes k) := by
  obtain ⟨_, _, _, ho, C', p', hC', hp', _, l1, l2⟩ := bug_split_structure h hl hfresh hs
  rw [hC] at hC'; simp at hC'; subst hC'
  rw [hp] at hp'; simp at hp'; subst hp'
  refine ⟨(l2 b _).mpr (Or.inl ⟨rfl, rfl⟩), (l1 c _).mpr (Or.inl ⟨rfl, rfl⟩),
    (l1 p _).mpr (Or.inr ⟨rfl, hqr⟩), ?_, ho⟩
  intro x hx ax
  rw [l2 x ax]
  constructor
  · rintro (⟨e, _⟩ | ⟨_, h2⟩)
    · exfalso
      subst e
      obtain ⟨cch, hcc⟩ := h.str.down c _ _ x (TTN.S_eq hC) hx
      rw [TTN.S, hfresh] at hcc; simp at hcc
    · exact h2
  · exact fun h2 => Or.inr ⟨hx, h2⟩

open Ptn.C02 in
/-- **One absorption of `contract_all_children(p)`**, at any later time (the literal, delayed one): in a
    well-formed, label-consistent state in which the basis-change node `b` (no open axis) hangs below `p` with the
    single child `c`, `contract_nodes(p, b, new_identifier=p)` removes `b`, makes `c` the LAST child of `p` with
    `p` as its parent, changes nothing else in the structure and keeps every open axis. -/
theorem bug_absorb_structure {t t' : TTN} {p b c : Id} {gp : Option Id} {L cch : List Id} (h : t.WF) (hl : t.LWF)
    (hP : t.S p = some (gp, L)) (hB : t.S b = some (some p, [c])) (hC : t.S c = some (some b, cch))
    (hopen : t.openAxes b = []) (hs : bugAbsorbOne t p b = some t') :
    t'.WF ∧ t'.LWF ∧ t'.root = t.root ∧ (∀ k, t'.openAxes k = t.openAxes k) ∧
    t'.S = fun k => if k = p then some (gp, L.erase b ++ [c]) else if k = b then none
             else if k = c then some (some p, cch) else t.S k := by
  obtain ⟨w, R, S'⟩ := trunc_step2 (TTN.WFX.ofLWF h hl) hP hB hC (fun _ => hopen) hs
  exact ⟨w.wf, w.lwf trivial, R, w.op trivial, S'⟩

open Ptn.C02 in
/-- **Basis update of a node and absorption of its basis-change tensor into the parent** (`split_node_replace`,
    then the `contract_nodes(parent, c_basis_change_tensor, new_identifier=parent)` of
    `contract_all_children(parent)`): well-formed, label-consistent result, same root; `c` has become the LAST
    child of its parent and nothing else has changed in the structure; every node keeps exactly its open axes. -/
theorem bug_basis_up_structure {t t' : TTN} {c b : Id} {bd : Nat} (h : t.WF) (hl : t.LWF)
    (hfresh : t.N b = none) (hs : bugBasisUp t c b bd = some t') :
    t'.WF ∧ t'.LWF ∧ t'.root = t.root ∧ (∀ k, t'.openAxes k = t.openAxes k) ∧
    ∃ C P p, t.N c = some C ∧ C.parent = some p ∧ t.N p = some P ∧ c ∈ P.children ∧
      (∀ k, k ≠ p → t'.S k = t.S k) ∧ t'.S p = some (P.parent, P.children.erase c ++ [c]) := by
  obtain ⟨w, R, C, p, hC, hp, S'⟩ := bug_basis_up_full (TTN.WFX.ofLWF h hl) hfresh hs
  obtain ⟨P, hP, hm⟩ := parent_node h hC hp
  exact ⟨w.wf, w.lwf trivial, R, w.op trivial, C, P, p, hC, hp, hP, hm, demote_explicit hP S'⟩

open Ptn.C02 in
/-- **Structure of a BUG step** for any sequence of the edits of `root_update` in which every basis-change tensor
    is absorbed into the parent right after the split that creates it (pulls, tensor reads, basis updates, the
    final `replace_tensor` of the root; any new ranks): the state stays well-formed and label-consistent; same
    root, same identifiers, same parent of every node, same children up to order; **every node keeps exactly its
    open axes (labels, order, dimensions) - only bond dimensions change**.
    The runs are those of `BugRun` (every basis-change tensor absorbed at once: not the order of the code, see
    `BugOps.lean`); the literal order, and that every edit succeeds, is `bug_step_structure`. -/
theorem bug_step_structure_partial {t t' : TTN} {es : List BugEvent} (h : t.WF) (hl : t.LWF)
    (hr : BugRun t es t') :
    t'.WF ∧ t'.LWF ∧ t'.root = t.root ∧
    (∀ k, t'.N k = none ↔ t.N k = none) ∧
    (∀ k n, t.N k = some n →
      ∃ n', t'.N k = some n' ∧ n'.parent = n.parent ∧ n'.children.Perm n.children) ∧
    (∀ k, t'.openAxes k = t.openAxes k) := by
  obtain ⟨w, R, E⟩ := bug_run_wfx (TTN.WFX.ofLWF h hl) hr
  exact ⟨w.wf, w.lwf trivial, R, (treeEq_explicit E).1, (treeEq_explicit E).2, w.op trivial⟩

open Ptn.C17 Ptn.C17.RTree Ptn.C02 in
/-- **Structure of a BUG step in the order of the code** (both variants, every tree with distinct identifiers, one
    node included; any ranks `bdim` of the new bases, any leg permutations of the pulls).  `T` lists the children of
    every node in the order in which `root_update` / `update_node` visit them (`frozenset` order), `t0` is a
    well-formed, label-consistent network that holds this tree (`Step.Rep`: same root, same parent of every node, the
    children LIST of every node is the list of its kids up to order); the identifiers `bid c` of the basis-change
    nodes are unused and pairwise different.  The events are those the gauge machine emits (`Gauge.bugEvents`), every
    event with its edit of `new_state` on the C02 model (`Step.sEdit`: `replace_tensor` for a pull,
    `contract_all_children` - the loop over the children list at call time - for `absorb`, a tensor read for
    `evolve`, `split_node_replace` for `basis`, `replace_tensor` for `store`).  Then
    * **every structural edit succeeds** and after the whole step nothing is pending, the network is well-formed and
      label-consistent, has the same root and EXACTLY the structure map it had (identifiers, parent of every node and
      the children lists, order included - stronger than "up to order") and every node keeps exactly its open axes;
    * **at every intermediate state** (after every prefix of the event sequence) both machines have run through, the
      network is well-formed and label-consistent with the same root and open axes, and **the basis-change nodes
      present are exactly the `pend` of the gauge machine**: for every pending `(c, p)` the node `bid c` hangs below
      `p` with the single child `c`; a node exists iff it is an original node or `bid c` of a pending `c`; every
      original node has its original parent - or its basis-change node while that is pending - and its original
      children list with the pending children replaced, in place, by their basis-change nodes. -/
theorem bug_step_structure (fixed : Bool) (T : RTree) (hwf : T.WF) {t0 : TTN} (h : t0.WF) (hl : t0.LWF)
    (hrep : Step.Rep t0 T) (P : Step.Params)
    (hfresh : ∀ c ∈ ids T, t0.N (P.bid c) = none)
    (hinj : ∀ c ∈ ids T, ∀ c' ∈ ids T, P.bid c = P.bid c' → c = c')
    (hperm : ∀ c l, P.perm c = some l →
      l.Perm (List.range l.length) ∧ ∀ n, t0.N c = some n → l.length = n.nlegs)
    (dir0 : Nat → Option Nat) :
    (∃ g' t', Gauge.run (Gauge.start dir0 T) (Gauge.bugEvents fixed T) = some g' ∧
        Step.sRun P t0 (Gauge.bugEvents fixed T) = some t' ∧ g'.pend = [] ∧
        t'.WF ∧ t'.LWF ∧ t'.root = t0.root ∧ t'.S = t0.S ∧ (∀ k, t'.openAxes k = t0.openAxes k)) ∧
    (∀ es₁ es₂, Gauge.bugEvents fixed T = es₁ ++ es₂ →
      ∃ g t, Gauge.run (Gauge.start dir0 T) es₁ = some g ∧ Step.sRun P t0 es₁ = some t ∧
        t.WF ∧ t.LWF ∧ t.root = t0.root ∧ (∀ k, t.openAxes k = t0.openAxes k) ∧
        (∀ e ∈ g.pend, ∃ ch, t0.S e.1 = some (some e.2, ch) ∧ t.S (P.bid e.1) = some (some e.2, [e.1])) ∧
        (∀ k, t.N k ≠ none ↔ (t0.N k ≠ none ∨ ∃ e ∈ g.pend, k = P.bid e.1)) ∧
        (∀ k pp ch, t0.S k = some (pp, ch) →
          t.S k = some (if k ∈ g.pend.map Prod.fst then some (P.bid k) else pp,
            ch.map fun c => if c ∈ g.pend.map Prod.fst then P.bid c else c))) := by
  have X : Step.Ctx P t0 (fun x => x ∈ ids T) := ⟨h, hl, hfresh, fun c c' hc hc' => hinj c hc c' hc', hperm⟩
  constructor
  · obtain ⟨g', t', hg, ht, q, hfin⟩ := Step.root_q T X fixed hwf hrep dir0 (List.append_nil _).symm
    exact ⟨g', t', hg, ht, (hfin rfl).1, q.wfx.wf, q.wfx.lwf trivial, q.root, (hfin rfl).2, q.wfx.op trivial⟩
  · intro es₁ es₂ hes
    obtain ⟨g, t, hg, ht, q, _⟩ := Step.root_q T X fixed hwf hrep dir0 hes
    -- `sub` / `subP` are these conditionals, up to the decidability instance
    have hsub : ∀ c, Step.sub P.bid (Step.PD g) c = if c ∈ g.pend.map Prod.fst then P.bid c else c :=
      fun c => by unfold Step.sub Step.PD; congr
    have hsubP : ∀ k pp, Step.subP P.bid (Step.PD g) k pp =
        if k ∈ g.pend.map Prod.fst then some (P.bid k) else pp := fun k pp => by unfold Step.subP Step.PD; congr
    refine ⟨g, t, hg, ht, q.wfx.wf, q.wfx.lwf trivial, q.root, q.wfx.op trivial, ?_, ?_, ?_⟩
    · intro e he
      obtain ⟨_, ch, hpar⟩ := q.par e he
      exact ⟨ch, hpar, q.pinv.bc e.1 (List.mem_map.mpr ⟨e, he, rfl⟩) e.2 ch hpar⟩
    · intro k
      constructor
      · intro hk
        by_cases h0 : t0.N k = none
        · right
          apply Classical.byContradiction
          intro hne
          apply hk
          apply N_none_of_S
          refine q.pinv.other k (S_none_of_N h0) ?_
          intro c hc e
          obtain ⟨e', he', rfl⟩ := List.mem_map.mp hc
          exact hne ⟨e', he', e⟩
        · exact Or.inl h0
      · rintro (h0 | ⟨e, he, rfl⟩)
        · cases hk : t0.N k with
          | none => exact absurd hk h0
          | some n =>
            have := q.pinv.nodes k _ _ (TTN.S_eq hk)
            intro hn
            rw [S_none_of_N hn] at this
            simp at this
        · obtain ⟨_, ch, hpar⟩ := q.par e he
          have := q.pinv.bc e.1 (List.mem_map.mpr ⟨e, he, rfl⟩) e.2 ch hpar
          intro hn
          rw [S_none_of_N hn] at this
          simp at this
    · intro k pp ch hk
      rw [q.pinv.nodes k pp ch hk, hsubP]
      congr 2
      exact List.map_congr_left fun c _ => hsub c

open Ptn.C17 Ptn.C17.RTree Ptn.C02 in
/-- **A step completes on every tree** (one node included), both variants: no cache lookup fails (every read
    returns a block of the generation the scheme asks for), no assertion about the orthogonality centre fails,
    `contract_all_children` only ever meets basis-change nodes, no basis-change node and no working copy is left,
    and **every edit of `new_state` succeeds on the C02 model** of `TreeTensorNetwork` - `replace_tensor`,
    `contract_nodes`, `split_node_replace` never take an exception branch - for every well-formed, label-consistent
    network that holds the tree, any new ranks and any leg permutations of the pulls (the hypotheses are those of
    `bug_step_structure`: what `basis_change_tensor_id` / `relative_leg_permutation` guarantee).  What stays outside:
    the numerical routines (QR, `expm`, the contractions of the effective Hamiltonian) are not modelled. -/
theorem bug_step_completes (fixed : Bool) (T : RTree) (hwf : T.WF) {t0 : TTN} (h : t0.WF) (hl : t0.LWF)
    (hrep : Step.Rep t0 T) (P : Step.Params)
    (hfresh : ∀ c ∈ ids T, t0.N (P.bid c) = none)
    (hinj : ∀ c ∈ ids T, ∀ c' ∈ ids T, P.bid c = P.bid c' → c = c')
    (hperm : ∀ c l, P.perm c = some l →
      l.Perm (List.range l.length) ∧ ∀ n, t0.N c = some n → l.length = n.nlegs) :
    (∀ e ∈ Env.bugRun T, Env.GoodEv e) ∧
    (∀ dir0, ∃ s, Gauge.run (Gauge.start dir0 T) (Gauge.bugEvents fixed T) = some s ∧
      s.pend = [] ∧ s.frames = [T.rid]) ∧
    (∃ t', Step.sRun P t0 (Gauge.bugEvents fixed T) = some t' ∧ t'.WF ∧ t'.LWF) := by
  obtain ⟨henv, hgauge⟩ := bug_step_completes_partial fixed T hwf
  obtain ⟨⟨_, t', _, ht, _, w, l, _⟩, _⟩ :=
    bug_step_structure fixed T hwf h hl hrep P hfresh hinj hperm (fun _ => none)
  exact ⟨henv, hgauge, t', ht, w, l⟩

/-- **No bond above the configured maximum after the truncation pass** - for the selection rule.  Every
    truncation of `recursive_truncation` keeps, of a non-empty descending non-negative spectrum, a prefix of
    length between 1 and `max_bond_dim` (`Ptn.C10.trunc_is_prefix`); that length is the dimension of the bond
    after `truncate_node`.
    This is the selection rule alone; that the bonds of the returned state ARE these lengths is
    `rank_adaptive_bonds_le` (below, through `Ptn.C10.recursive_truncation_bonds_le`). -/
theorem rank_adaptive_bonds_le_partial (s : List Rat) (p : Ptn.C10.Params) (D : Nat) (hs : s ≠ [])
    (hnn : Ptn.C10.NonNeg s) (hd : Ptn.C10.Desc s) (hp : p.Valid) (hD : p.maxBond = some D) :
    ∃ kept disc, Ptn.C10.truncate s p = some (kept, disc) ∧ 1 ≤ kept.length ∧ kept.length ≤ D := by
  obtain ⟨k, h1, h2, h3, hcase⟩ := Ptn.C10.trunc_is_prefix s p hs hnn hd hp
  have hk : k ≤ D := h3 D hD
  have hlen : (s.take k).length = k := List.length_take_of_le h2
  rcases hcase with ⟨_, ht⟩ | ⟨_, _, ht⟩
  · exact ⟨_, _, ht, by rw [hlen]; exact h1, by rw [hlen]; exact hk⟩
  · exact ⟨_, _, ht, by rw [List.length_map, hlen]; exact h1, by rw [List.length_map, hlen]; exact hk⟩

open Ptn.C17 Ptn.C17.RTree Ptn.C02 in
/-- **Fixed-rank BUG keeps ALL shapes, through the whole step.**  The step of `bug_step_structure` in the fixed-rank
    variant (`fixed = true`: `KEEP`-mode centre moves, no augmentation), under the one contract of the external QR
    the code itself asserts (`assert new_basis_tensor.shape == updated_tensor.shape` in
    `compute_fixed_size_new_basis_tensor`; `tensor_qr_decomposition(…, mode=SplitMode.KEEP)` for a leaf): the rank
    `bdim c` of every new basis is the dimension of the old parent leg of `c`.  Then the step runs through and in
    the returned network - same root, same structure map - EVERY virtual leg of EVERY node has the dimension of the
    same leg before the step, every node has exactly its open axes, hence **the recorded shape of every node
    (`Node.shape`, all legs in order) equals its shape before the step**.  The bond dimensions are followed event by
    event: the new bond `c - bid c` gets the old dimension, the basis-change node keeps the old parent leg, the
    absorption `contract_nodes(p, bid c)` hands the leg of `c` over to `p` (`Step.DimInvD`, an invariant of EVERY
    intermediate state: both bonds next to a pending basis-change node have the old dimension). -/
theorem fixed_bug_keeps_shapes (T : RTree) (hwf : T.WF) {t0 : TTN} (h : t0.WF) (hl : t0.LWF)
    (hrep : Step.Rep t0 T) (P : Step.Params)
    (hfresh : ∀ c ∈ ids T, t0.N (P.bid c) = none)
    (hinj : ∀ c ∈ ids T, ∀ c' ∈ ids T, P.bid c = P.bid c' → c = c')
    (hperm : ∀ c l, P.perm c = some l →
      l.Perm (List.range l.length) ∧ ∀ n, t0.N c = some n → l.length = n.nlegs)
    (hkeep : ∀ c ∈ ids T, ∀ p ch ax0, t0.S c = some (some p, ch) → t0.Leg c p ax0 → P.bdim c = ax0.dim) :
    (∃ t', Step.sRun P t0 (Gauge.bugEvents true T) = some t' ∧ t'.WF ∧ t'.LWF ∧ t'.root = t0.root ∧
      t'.S = t0.S ∧ (∀ k, t'.openAxes k = t0.openAxes k) ∧
      (∀ k x ax, t'.Leg k x ax → ∃ ax0, t0.Leg k x ax0 ∧ ax0.dim = ax.dim) ∧
      (∀ k n, t0.N k = some n → ∃ n', t'.N k = some n' ∧ n'.parent = n.parent ∧ n'.children = n.children ∧
        n'.shape = n.shape)) ∧
    (∀ es₁ es₂, Gauge.bugEvents true T = es₁ ++ es₂ →
      ∃ g t, Gauge.run (Gauge.start (fun _ => none) T) es₁ = some g ∧ Step.sRun P t0 es₁ = some t ∧
        ∀ c p ch ax0, t0.S c = some (some p, ch) → t0.Leg c p ax0 →
          (c ∉ g.pend.map Prod.fst → ∃ ax, t.Leg c p ax ∧ ax.dim = ax0.dim) ∧
          (c ∈ g.pend.map Prod.fst → (∃ ax, t.Leg c (P.bid c) ax ∧ ax.dim = ax0.dim) ∧
            ∃ ax, t.Leg (P.bid c) p ax ∧ ax.dim = ax0.dim)) := by
  have X : Step.Ctx P t0 (fun x => x ∈ ids T) := ⟨h, hl, hfresh, fun c c' hc hc' => hinj c hc c' hc', hperm⟩
  have hK : Step.KeepRanks P t0 (fun x => x ∈ ids T) := fun c p ch ax0 hc hS0 hl0 => hkeep c hc p ch ax0 hS0 hl0
  refine ⟨?_, fun es₁ es₂ hes => ?_⟩
  · obtain ⟨g, t, hg, ht, q, hfin⟩ := Step.root_q T X true hwf hrep (fun _ => none) (List.append_nil _).symm
    obtain ⟨hp, hS⟩ := hfin rfl
    have w' := q.wfx.wf
    have l' := q.wfx.lwf trivial
    have hO := q.wfx.op trivial
    have hpar : ∀ c p ch ax0, t0.S c = some (some p, ch) → t0.Leg c p ax0 →
        ∃ ax, t.Leg c p ax ∧ ax.dim = ax0.dim := fun c p ch ax0 hS0 hl0 =>
      (q.dim hK c p ch ax0 hS0 hl0).1 (by simp [Step.PD, hp])
    have hlegs := legs_of_parent_legs h hl w' l' hS hpar
    refine ⟨t, ht, w', l', q.root, hS, hO, hlegs, ?_⟩
    intro k n hn
    obtain ⟨n', hn', e1, e2⟩ := (S_eq_explicit hS).2 k n hn
    exact ⟨n', hn', e1, e2, shape_eq_of_legs h w' hn hn' e1 e2 (hlegs k) (hO k)⟩
  · obtain ⟨g, t, hg, ht, q, _⟩ := Step.root_q T X true hwf hrep (fun _ => none) hes
    exact ⟨g, t, hg, ht, q.dim hK⟩

open Ptn.C17 Ptn.C17.RTree Ptn.C02 in
/-- **No bond above `max_bond_dim` in the state a rank-adaptive step returns** (structural model).  The step of
    `bug_step_structure` with the augmented bases (`fixed = false`, any new ranks `bdim` - they may exceed the
    maximum) runs through and yields a well-formed, label-consistent network `t1`; `recursive_truncation` on it (C02
    model `recursiveTruncation`, run with the numbers of singular values the selection model of C10 keeps:
    `spec c` = any non-empty, non-negative, descending spectrum for the bond above `c`, `p` any valid parameter
    object with `max_bond_dim = D`) returns, whenever it returns, a well-formed, label-consistent network with the
    root, the structure map and the open axes of the state BEFORE the step in which EVERY virtual leg of EVERY node
    has a dimension between 1 and `D` - the bond above the non-root node `c` has exactly dimension
    `keptDim (spec c) p` (`Ptn.C10.recursive_truncation_bonds_le`, which discharges the connection between the kept
    counts and the bonds).
    Premise kept explicit: that the truncation pass returns (C10 has no progress theorem for `insert_identity`; the
    step itself is proved to return).  Not modelled: the `canonical_form` sweeps before / after the pass (reduced
    QRs; `rank_adaptive_truncation_keeps_canonical` is the gauge statement). -/
theorem rank_adaptive_bonds_le (T : RTree) (hwf : T.WF) {t0 : TTN} (h : t0.WF) (hl : t0.LWF)
    (hrep : Step.Rep t0 T) (P : Step.Params)
    (hfresh : ∀ c ∈ ids T, t0.N (P.bid c) = none)
    (hinj : ∀ c ∈ ids T, ∀ c' ∈ ids T, P.bid c = P.bid c' → c = c')
    (hperm : ∀ c l, P.perm c = some l →
      l.Perm (List.range l.length) ∧ ∀ n, t0.N c = some n → l.length = n.nlegs)
    (spec : Id → List Rat) (p : Ptn.C10.Params) (D : Nat) (hp : p.Valid) (hD : p.maxBond = some D)
    (hspec : ∀ c, spec c ≠ [] ∧ Ptn.C10.NonNeg (spec c) ∧ Ptn.C10.Desc (spec c)) :
    ∃ t1, Step.sRun P t0 (Gauge.bugEvents false T) = some t1 ∧ t1.WF ∧ t1.LWF ∧
      ∀ t2, t1.recursiveTruncation (fun c => Ptn.C10.keptDim (spec c) p) = some t2 →
        t2.WF ∧ t2.LWF ∧ t2.root = t0.root ∧ t2.S = t0.S ∧ (∀ k, t2.openAxes k = t0.openAxes k) ∧
        (∀ k x ax, t2.Leg k x ax → ∃ c, (c = k ∨ c = x) ∧ ax.dim = Ptn.C10.keptDim (spec c) p) ∧
        (∀ k x ax, t2.Leg k x ax → 1 ≤ ax.dim ∧ ax.dim ≤ D) ∧
        (∀ e ∈ t2.nodes, ∀ q ∈ t2.legPairs e.1, q.2.dim ≤ D) := by
  obtain ⟨⟨_, t1, _, ht, _, w1, l1, R1, S1, O1⟩, _⟩ :=
    bug_step_structure false T hwf h hl hrep P hfresh hinj hperm (fun _ => none)
  refine ⟨t1, ht, w1, l1, ?_⟩
  intro t2 hs
  obtain ⟨hk, ⟨w2, l2, R2, _, O2⟩, hb, hle⟩ :=
    Ptn.C10.recursive_truncation_bonds_le spec p D hp hD hspec w1 l1 hs
  obtain ⟨_, _, _, S2, _⟩ := recursive_truncation_labels w1 l1 hs
  refine ⟨w2, l2, R2.trans R1, S2.trans S1, fun k => (O2 k).trans (O1 k), hb, ?_, hle⟩
  intro k x ax hleg
  obtain ⟨c, _, e⟩ := hb k x ax hleg
  rw [e]
  exact ⟨(hk c).1, (hk c).2.1⟩

def exTree : Tree :=
  .node 0 (.cons (.node 1 .nil) (.cons (.node 2 (.cons (.node 3 .nil) .nil)) .nil))

example : exTree.updates = [1, 3, 2, 0] ∧ exTree.ids.Nodup := by decide
example : exTree.edges = [(0, 1), (0, 2), (2, 3)] := by decide
example : exTree.moves = [(0, 1), (0, 2), (2, 3)] := by decide

/-- the same tree in the C17 vocabulary -/
def exR : Ptn.C17.RTree := .node 0 [.node 1 [], .node 2 [.node 3 []]]

example : exR.WF := by decide
/-- a start gauge that is NOT canonical at the root (everything points away): the step repairs it -/
example : (Gauge.run (Gauge.start (fun n => if n = 0 then some 2 else if n = 2 then some 3 else none) exR)
    (Gauge.bugEvents false exR)).map (fun s => ([0, 1, 2, 3].map s.dir, s.pend, s.frames)) =
    some ([none, some 0, some 0, some 2], [], [0]) := by decide
example : (Gauge.bugEvents true exR).filterMap Gauge.qrOf = [(1, 0, false), (3, 2, false), (2, 0, false)] := by
  decide
/-- an order the code does not use (parent's basis before its child's) leaves a basis-change node that is
    never absorbed and a stale frame: the machine is stuck - `bug_step_canonical_at_root` is not vacuous -/
example : Gauge.run (Gauge.start (fun _ => none) exR)
    [.down 0 2 false, .evolve 2, .basis 2 0 true, .down 2 3 false] = none := by decide

/-! Test network for the structural theorems: root `1` (one open leg) with the leaves `2` (bond 3) and `3` (bond 2) -/

open Ptn.C02 in
def netOps : List TOp :=
  [.root 1 [⟨0, 2⟩, ⟨100, 3⟩, ⟨101, 2⟩],
   .child 2 [⟨100, 3⟩, ⟨1, 2⟩] 0 1 1,
   .child 3 [⟨2, 2⟩, ⟨101, 2⟩] 1 1 2]

open Ptn.C02 in
/-- `netOps` are the steps of `Ptn.C06.buildOps`, so they build the network written out as `Ptn.C06.builtTTN`
    (`Ptn/C02/DemoKit.lean`) -/
theorem netOps_built : TRunL TTN.empty netOps Ptn.C06.builtTTN := Ptn.C06.builtTTN_runL

/-- instance search gives up on tuples of structure entries (its size bound); with this shortcut `decide` reaches them -/
local instance : DecidableEq (Option Ptn.C02.Struct) := inferInstance

open Ptn.C02 in
/-- the network is well-formed and label-consistent, `50` is unused, the leaf `2` has the parent leg
    `⟨100, 3⟩`, and `split_node_replace` with the old rank 3 succeeds: hypotheses of `bug_split_structure` and
    `fixed_bug_keeps_shapes_partial`; the basis-change node `50` then sits between `1` and `2` -/
example : ∃ t t1, TRunL TTN.empty netOps t ∧ t.WF ∧ t.LWF ∧ t.N 50 = none ∧ t.Leg 2 1 ⟨100, 3⟩ ∧
    bugSplit t 2 50 3 = some t1 ∧ t1.S 50 = some (some 1, [2]) ∧ t1.S 2 = some (some 50, []) ∧
    t1.S 1 = some (none, [50, 3]) ∧ t1.openAxes 2 = [⟨1, 2⟩] := by
  -- one evaluation of the split, by the kernel; the conjuncts about its result are read off
  obtain ⟨t1, h1, h⟩ := Option.map_eq_some_iff.mp (show (bugSplit Ptn.C06.builtTTN 2 50 3).map
      (fun t1 => (t1.S 50, t1.S 2, t1.S 1, t1.openAxes 2)) =
    some (some (some 1, [2]), some (some 50, []), some (none, [50, 3]), [⟨1, 2⟩]) by decide +kernel)
  simp only [Prod.mk.injEq] at h
  exact ⟨Ptn.C06.builtTTN, t1, netOps_built, (builtL_labels netOps_built).1, (builtL_labels netOps_built).2, rfl,
    by unfold TTN.Leg; decide, h1, h⟩

open Ptn.C02 in
/-- a whole step on it: basis updates of `2` (rank 3 -> 2) and `3` (rank 2 -> 4), pull, read and store at the
    root; `2` and `3` are children of `1` again (each moved to the end when it was absorbed) -/
example : ∃ t t', TRun TTN.empty netOps t ∧
    BugRun t [.basisUp 2 50 2, .basisUp 3 51 4, .pull 1 (some [0, 2, 1]), .access 1, .store 1] t' ∧
    t'.S 1 = some (none, [2, 3]) ∧ t'.S 2 = some (some 1, []) ∧ t'.N 50 = none ∧ t'.N 51 = none := by
  -- the five edits are evaluated once, by the kernel; `t1.N 51` is the admissibility of the second basis update
  obtain ⟨t1, h1, h⟩ := Option.bind_eq_some_iff.mp (show ((bugEvent Ptn.C06.builtTTN (.basisUp 2 50 2)).bind fun t1 =>
      (bugEvent t1 (.basisUp 3 51 4)).bind fun t2 => (bugEvent t2 (.pull 1 (some [0, 2, 1]))).bind fun t3 =>
        (bugEvent t3 (.access 1)).bind fun t4 => (bugEvent t4 (.store 1)).map fun t' =>
          (t1.N 51, t'.S 1, t'.S 2, t'.N 50, t'.N 51)) =
    some (none, some (none, [2, 3]), some (some 1, []), none, none) by decide +kernel)
  obtain ⟨t2, h2, h⟩ := Option.bind_eq_some_iff.mp h
  obtain ⟨t3, h3, h⟩ := Option.bind_eq_some_iff.mp h
  obtain ⟨t4, h4, h⟩ := Option.bind_eq_some_iff.mp h
  obtain ⟨t', h5, h⟩ := Option.map_eq_some_iff.mp h
  simp only [Prod.mk.injEq] at h
  exact ⟨Ptn.C06.builtTTN, t', netOps_built.toTRun,
    .cons rfl h1 (.cons h.1 h2 (.cons (by intro l hl; cases hl; decide) h3 (.cons trivial h4
      (.cons trivial h5 (.nil _))))), h.2⟩

open Ptn.C02 in
/-- the delayed absorption: both leaves are split first (two basis-change nodes pending), then absorbed in the
    order of the root's children list - hypotheses of `bug_absorb_structure` hold at the first absorption -/
example : ∃ t t1 t2 t3 t4, TRun TTN.empty netOps t ∧ bugSplit t 2 50 2 = some t1 ∧ bugSplit t1 3 51 4 = some t2 ∧
    t2.S 1 = some (none, [50, 51]) ∧ t2.S 50 = some (some 1, [2]) ∧ t2.S 2 = some (some 50, []) ∧
    t2.openAxes 50 = [] ∧ bugAbsorbOne t2 1 50 = some t3 ∧ bugAbsorbOne t3 1 51 = some t4 ∧
    t4.S 1 = some (none, [2, 3]) := by
  obtain ⟨t1, h1, h⟩ := Option.bind_eq_some_iff.mp (show ((bugSplit Ptn.C06.builtTTN 2 50 2).bind fun t1 =>
      (bugSplit t1 3 51 4).bind fun t2 => (bugAbsorbOne t2 1 50).bind fun t3 => (bugAbsorbOne t3 1 51).map fun t4 =>
        (t2.S 1, t2.S 50, t2.S 2, t2.openAxes 50, t4.S 1)) =
    some (some (none, [50, 51]), some (some 1, [2]), some (some 50, []), [], some (none, [2, 3])) by decide +kernel)
  obtain ⟨t2, h2, h⟩ := Option.bind_eq_some_iff.mp h
  obtain ⟨t3, h3, h⟩ := Option.bind_eq_some_iff.mp h
  obtain ⟨t4, h4, h⟩ := Option.map_eq_some_iff.mp h
  simp only [Prod.mk.injEq] at h
  exact ⟨Ptn.C06.builtTTN, t1, t2, t3, t4, netOps_built.toTRun, h1, h2, h.1, h.2.1, h.2.2.1, h.2.2.2.1, h3, h4, h.2.2.2.2⟩

/-! Test network for the step in the order of the code: root `0` with the children list `[1, 2]`, node `2` with the child `3`;
the recursion visits `2` (and `3`) BEFORE `1` - the visiting order is not the order of the children list -/

open Ptn.C02 in
def netOps2 : List TOp :=
  [.root 0 [⟨0, 2⟩, ⟨100, 3⟩, ⟨101, 2⟩],
   .child 1 [⟨100, 3⟩, ⟨1, 2⟩] 0 0 1,
   .child 2 [⟨101, 2⟩, ⟨2, 2⟩, ⟨102, 2⟩] 0 0 2,
   .child 3 [⟨102, 2⟩, ⟨3, 2⟩] 0 2 2]

def exT2 : Ptn.C17.RTree := .node 0 [.node 2 [.node 3 []], .node 1 []]

/-- basis-change node of `c` is `50 + c`; new ranks 2 (above `1`, was 3), 3 (above `2`, was 2), 4 (above `3`, was 2);
    the pull of the root comes with a non-trivial leg permutation -/
def exP2 : Step.Params := ⟨fun c => 50 + c, fun c => c + 1, fun c => if c = 0 then some [0, 2, 1] else none⟩

open Ptn.C02 in
def exNet2 : TTN :=
  ⟨[(0, ⟨[1, 2, 0], [2, 3, 2], none, [1, 2]⟩), (1, ⟨[0, 1], [3, 2], some 0, []⟩),
    (2, ⟨[0, 2, 1], [2, 2, 2], some 0, [3]⟩), (3, ⟨[0, 1], [2, 2], some 2, []⟩)],
   [(0, [⟨0, 2⟩, ⟨100, 3⟩, ⟨101, 2⟩]), (1, [⟨100, 3⟩, ⟨1, 2⟩]), (2, [⟨101, 2⟩, ⟨2, 2⟩, ⟨102, 2⟩]),
    (3, [⟨102, 2⟩, ⟨3, 2⟩])], some 0, 1000000⟩

open Ptn.C02 in
theorem exNet2_built : TRunL TTN.empty netOps2 exNet2 :=
  .cons ⟨rfl, rfl⟩ trivial rfl (.cons trivial ⟨_, rfl, rfl⟩ rfl (.cons trivial ⟨_, rfl, rfl⟩ rfl
    (.cons trivial ⟨_, rfl, rfl⟩ rfl (.nil _))))

open Ptn.C02 Ptn.C17 Ptn.C17.RTree in
/-- the hypotheses of `bug_step_structure` / `bug_step_completes` hold for this network, tree and parameters; before
    `absorb 0` (after 12 of the 15 events) the basis-change nodes `52` (made first) and `51` are BOTH pending below the
    root, at the positions of `2` and `1` in its children list; after the step the children list is `[1, 2]` again -/
example : ∃ t, TRunL TTN.empty netOps2 t ∧ t.WF ∧ t.LWF ∧ exT2.WF ∧ Step.Rep t exT2 ∧
    (∀ c ∈ ids exT2, t.N (exP2.bid c) = none) ∧
    (∀ c ∈ ids exT2, ∀ c' ∈ ids exT2, exP2.bid c = exP2.bid c' → c = c') ∧
    (∀ c l, exP2.perm c = some l →
      l.Perm (List.range l.length) ∧ ∀ n, t.N c = some n → l.length = n.nlegs) ∧
    (Gauge.bugEvents false exT2).length = 15 ∧
    ((Gauge.run (Gauge.start (fun _ => none) exT2) ((Gauge.bugEvents false exT2).take 12)).map (·.pend)) =
      some [(2, 0), (1, 0)] ∧
    ((Step.sRun exP2 t ((Gauge.bugEvents false exT2).take 12)).map fun t' => (t'.S 0, t'.S 52, t'.S 51, t'.S 2)) =
      some (some (none, [51, 52]), some (some 0, [2]), some (some 0, [1]), some (some 52, [3])) ∧
    ((Step.sRun exP2 t (Gauge.bugEvents false exT2)).map fun t' => (t'.S 0, t'.S 52, t'.S 2)) =
      some (some (none, [1, 2]), none, some (some 0, [3])) := by
  refine ⟨exNet2, exNet2_built, (builtL_labels exNet2_built).1, (builtL_labels exNet2_built).2, by decide, ?_,
    by decide +kernel, fun c _ c' _ e => Nat.add_left_cancel e, ?_, by decide, by decide, by decide +kernel,
    by decide +kernel⟩
  · simp only [Step.Rep, exT2, Step.repAt_node, Step.repL_cons, Step.repL_nil, and_true]
    exact ⟨⟨[1, 2], rfl, by decide⟩, ⟨⟨[3], rfl, by decide⟩, ⟨[], rfl, by decide⟩⟩, ⟨[], rfl, by decide⟩⟩
  · intro c l hl
    simp only [exP2] at hl
    split at hl
    · rename_i hc
      subst hc
      simp only [Option.some.injEq] at hl
      subst hl
      refine ⟨by decide, ?_⟩
      intro n hn
      have : n = ⟨[1, 2, 0], [2, 3, 2], none, [1, 2]⟩ := by
        have h0 : _ = some n := hn
        exact (Option.some.inj h0).symm
      subst this
      rfl
    · cases hl

/-- fixed rank on the same network: every new basis has the old bond dimension (3 above `1`, 2 above `2` and `3`) -/
def exP2k : Step.Params :=
  ⟨fun c => 50 + c, fun c => if c = 1 then 3 else 2, fun c => if c = 0 then some [0, 2, 1] else none⟩

set_option maxRecDepth 16384 in
open Ptn.C02 Ptn.C17 Ptn.C17.RTree in
/-- the additional hypothesis of `fixed_bug_keeps_shapes` holds (the other ones do not depend on the ranks: see the
    example above), the step runs through and all four recorded shapes are the ones before the step -/
example : ∃ t, TRunL TTN.empty netOps2 t ∧
    (∀ c ∈ ids exT2, ∀ p ch ax0, t.S c = some (some p, ch) → t.Leg c p ax0 → exP2k.bdim c = ax0.dim) ∧
    ([0, 1, 2, 3].map fun k => (t.N k).map NodeS.shape) =
      [some [3, 2, 2], some [3, 2], some [2, 2, 2], some [2, 2]] ∧
    ((Step.sRun exP2k t (Gauge.bugEvents true exT2)).map fun t' =>
      [0, 1, 2, 3].map fun k => (t'.N k).map NodeS.shape) =
      some [some [3, 2, 2], some [3, 2], some [2, 2, 2], some [2, 2]] := by
  refine ⟨exNet2, exNet2_built, ?_, by decide +kernel, by decide +kernel⟩
  intro c hc p ch ax0 hS hleg
  -- the legs of the four nodes are finitely many: the leg toward the parent has the new rank
  have key : ∀ c ∈ ids exT2, ∀ q ∈ exNet2.legPairs c, (exNet2.S c).bind (·.1) = some q.1 →
      exP2k.bdim c = q.2.dim := by decide +kernel
  exact key c hc (p, ax0) hleg (by rw [hS]; rfl)

set_option maxRecDepth 16384 in
open Ptn.C02 in
/-- `rank_adaptive_bonds_le` on the same network: the step raises the bonds above `2` and `3` to 3 and 4; the
    truncation pass with `max_bond_dim = 2` on the spectra `[4, 2, 1]` returns and leaves every bond with dimension 2 -/
example : ∃ t t1 t2, TRunL TTN.empty netOps2 t ∧ Step.sRun exP2 t (Gauge.bugEvents false exT2) = some t1 ∧
    t1.legPairs 2 = [(0, ⟨1000001, 3⟩), (3, ⟨1000000, 4⟩)] ∧
    (Ptn.C10.exP (some 2) (.fin 0) (.fin 0) false false true).Valid ∧
    Ptn.C10.Desc [4, 2, 1] ∧ Ptn.C10.NonNeg [4, 2, 1] ∧
    t1.recursiveTruncation (fun _ => Ptn.C10.keptDim [4, 2, 1]
      (Ptn.C10.exP (some 2) (.fin 0) (.fin 0) false false true)) = some t2 ∧
    (t2.legPairs 2).map (fun q => (q.1, q.2.dim)) = [(0, 2), (3, 2)] ∧
    (t2.legPairs 0).map (fun q => (q.1, q.2.dim)) = [(1, 2), (2, 2)] := by
  -- the step and the truncation pass are evaluated once, by the kernel; the conjuncts are read off the result
  have key : ((Step.sRun exP2 exNet2 (Gauge.bugEvents false exT2)).bind fun t1 =>
      (t1.recursiveTruncation (fun _ => Ptn.C10.keptDim [4, 2, 1]
        (Ptn.C10.exP (some 2) (.fin 0) (.fin 0) false false true))).map fun t2 =>
        (t1.legPairs 2, (t2.legPairs 2).map (fun q => (q.1, q.2.dim)), (t2.legPairs 0).map (fun q => (q.1, q.2.dim)))) =
      some ([(0, ⟨1000001, 3⟩), (3, ⟨1000000, 4⟩)], [(0, 2), (3, 2)], [(1, 2), (2, 2)]) := by decide +kernel
  obtain ⟨t1, h1, h⟩ := Option.bind_eq_some_iff.mp key
  obtain ⟨t2, h2, h⟩ := Option.map_eq_some_iff.mp h
  simp only [Prod.mk.injEq] at h
  exact ⟨_, t1, t2, exNet2_built, h1, h.1, by decide +kernel, by decide +kernel, by decide +kernel, h2, h.2⟩

/-- hypotheses of `rank_adaptive_bonds_le_partial`: a valid parameter object with `max_bond_dim = 2` on the
    spectrum `[4, 2, 1]` keeps two values -/
example : Ptn.C10.Desc [4, 2, 1] ∧ Ptn.C10.NonNeg [4, 2, 1] ∧
    (Ptn.C10.exP (some 2) (.fin 0) (.fin 0) false false true).Valid ∧
    (Ptn.C10.truncate [4, 2, 1] (Ptn.C10.exP (some 2) (.fin 0) (.fin 0) false false true)).map
      (fun r => r.1.length) = some 2 := by decide +kernel

end Ptn.C09
