import Ptn.C04.TreeInduct
import Ptn.C04.Op
/-! Tree-level composition for C04: the per-node theorems with arbitrary (global) labels and with blocks
that carry the bound pairs of their subtrees; dictionary lemmas; the node table of `netOf`. -/
namespace Ptn.C04

theorem contractLeafs_general (p q : Nat) (a y b z : Leg) :
    contractLeafs ⟨some p, []⟩ ⟨some q, []⟩ (T.fresh [a, y]) (T.fresh [b, z]) = some ⟨[a, b], [(y, z)]⟩ := by
  simp only [contractLeafs, Node.isLeaf, Node.nn, Node.nparents, T.fresh]
  rw [tensordot_one _ _ _ _ y z (by simp) (by simp)]
  simp

/-- a leaf's only neighbour is its parent, and a node with the same (transformed) neighbours is a leaf below the
transformed parent -/
theorem leaf_pair {n1 n2 : Node} {next : Nat} {f : Trafo} (hleaf : n1.isLeaf = true) (hnext : next ∈ n1.nbrs)
    (hperm : n2.nbrs.Perm (n1.nbrs.map f)) (hpar : n2.parent = n1.parent.map f) :
    n1 = ⟨some next, []⟩ ∧ n2 = ⟨some (f next), []⟩ := by
  obtain ⟨p1, c1⟩ := n1
  obtain ⟨p2, c2⟩ := n2
  simp only [Node.isLeaf, List.isEmpty_iff] at hleaf
  subst hleaf
  cases p1 with
  | none => simp [Node.nbrs] at hnext
  | some p =>
    simp only [Node.nbrs, Option.toList_some, List.append_nil, List.mem_singleton] at hnext
    subst hnext
    simp only [Option.map_some] at hpar
    subst hpar
    have hc2 : c2 = [] := by
      have := hperm.length_eq
      simpa [Node.nbrs] using this
    rw [hc2]
    exact ⟨rfl, rfl⟩

/-- `contract_any_nodes` with arbitrary leg labels; the cached block of neighbour `n` is any two-leg
tensor `[a n, b n]` carrying the bindings `bb n` -/
theorem contract_any_nodes_general (mkK mkB a b : Nat → Leg) (y z : Leg) (bb : Nat → List (Leg × Leg))
    (cache : Cache) (n1 n2 : Node) (next : Nat) (f : Trafo)
    (hK : n1.nbrs.Nodup) (hB : n2.nbrs.Nodup) (hnext : next ∈ n1.nbrs)
    (hperm : n2.nbrs.Perm (n1.nbrs.map f)) (hpar : n2.parent = n1.parent.map f)
    (hcache : ∀ n ∈ n1.nbrs, n ≠ next → cache n = some ⟨[a n, b n], bb n⟩) :
    contractAnyNodes next n1 n2 (T.fresh (n1.nbrs.map mkK ++ [y])) (T.fresh (n2.nbrs.map mkB ++ [z])) cache f =
      some ⟨[mkK next, mkB (f next)],
            (n1.nbrs.filter (· ≠ next)).flatMap (fun n => bb n ++ [(mkK n, a n)]) ++
            ((n1.nbrs.filter (· ≠ next)).map (fun n => (b n, mkB (f n))) ++ [(y, z)])⟩ := by
  unfold contractAnyNodes
  by_cases hleaf : n1.isLeaf = true
  · rw [if_pos hleaf]
    obtain ⟨rfl, rfl⟩ := leaf_pair hleaf hnext hperm hpar
    simpa [Node.nbrs] using contractLeafs_general next (f next) (mkK next) y (mkB (f next)) z
  · rw [if_neg hleaf]
    have h1 := allButOne_general 0 mkK (fun n => ⟨[a n, b n], bb n⟩) a [y] cache n1 next hK hnext
      (fun n hn hne => ⟨hcache n hn hne, by simp⟩)
    simp only [List.eraseIdx_cons_zero, flatMap_single] at h1
    simp only [contractSubtreesUsingDictionary, contractAllButOneNeighbourBlockToKet, h1]
    exact braIgnore_general (mkK next) y z b mkB n1 n2 next f _ hK hB hnext hperm

/-- `contract_node_with_environment_nodes` with arbitrary labels and blocks carrying bindings -/
theorem contract_root_general (mkK mkB a b : Nat → Leg) (y z : Leg) (bb : Nat → List (Leg × Leg))
    (cache : Cache) (n1 n2 : Node) (hK : n1.nbrs.Nodup) (hB : n2.nbrs.Nodup) (hperm : n2.nbrs.Perm n1.nbrs)
    (hcache : ∀ n ∈ n1.nbrs, cache n = some ⟨[a n, b n], bb n⟩) :
    contractNodeWithEnvironmentNodes n1 (T.fresh (n1.nbrs.map mkK ++ [y])) n2 (T.fresh (n2.nbrs.map mkB ++ [z]))
        cache =
      some ⟨[], n1.nbrs.flatMap (fun n => bb n ++ [(mkK n, a n)]) ++
                (n2.nbrs.map (fun n => (b n, mkB n)) ++ [(y, z)])⟩ := by
  have h1 := allLoop_general 0 mkK (fun n => ⟨[a n, b n], bb n⟩) a cache n1 n1.nbrs [y] []
    (fun n hn => ⟨hcache n hn, by simp⟩)
  simp only [List.eraseIdx_cons_zero, flatMap_single, List.nil_append] at h1
  simp only [contractNodeWithEnvironmentNodes, contractAllNeighbourBlocksToKet, T.fresh, h1]
  exact braAll_general y z b mkB n1 n2 _ hK hB hperm

/-- `contract_any_node_environment_but_one` with arbitrary labels; three-leg blocks `[a n, o n, b n]`
carrying the bindings `bb n` -/
theorem op_any_general (mkK mkO mkB a o b : Nat → Leg) (y zo zi z : Leg) (bb : Nat → List (Leg × Leg))
    (cache : Cache) (n1 nO nB : Node) (next : Nat) (g f : Trafo)
    (hK : n1.nbrs.Nodup) (hO : nO.nbrs.Nodup) (hB : nB.nbrs.Nodup) (hnext : next ∈ n1.nbrs)
    (hpermO : nO.nbrs.Perm (n1.nbrs.map g)) (hpermB : nB.nbrs.Perm (n1.nbrs.map f))
    (hparO : nO.parent = n1.parent.map g) (hparB : nB.parent = n1.parent.map f)
    (hcache : ∀ n ∈ n1.nbrs, n ≠ next → cache n = some ⟨[a n, o n, b n], bb n⟩) :
    opContractAnyNodeEnvironmentButOne next n1 (T.fresh (n1.nbrs.map mkK ++ [y])) nO
        (T.fresh (nO.nbrs.map mkO ++ [zo, zi])) cache nB (T.fresh (nB.nbrs.map mkB ++ [z])) g f =
      some ⟨[mkK next, mkO (g next), mkB (f next)],
            if n1.isLeaf then [(zo, z), (y, zi)]
            else ((n1.nbrs.filter (· ≠ next)).flatMap (fun n => bb n ++ [(mkK n, a n)]) ++
                  ((n1.nbrs.filter (· ≠ next)).map (fun n => (o n, mkO (g n))) ++ [(y, zi)])) ++
                 ((n1.nbrs.filter (· ≠ next)).map (fun n => (b n, mkB (f n))) ++ [(zo, z)])⟩ := by
  unfold opContractAnyNodeEnvironmentButOne
  by_cases hleaf : n1.isLeaf = true
  · rw [if_pos hleaf, if_pos hleaf]
    obtain ⟨rfl, rfl⟩ := leaf_pair hleaf hnext hpermO hparO
    obtain ⟨-, rfl⟩ := leaf_pair hleaf hnext hpermB hparB
    simpa [Node.nbrs] using
      opContractLeaf_general next (g next) (f next) (mkK next) y (mkO (g next)) zo zi (mkB (f next)) z
  · rw [if_neg hleaf, if_neg hleaf]
    have h1 := allButOne_general 0 mkK (fun n => ⟨[a n, o n, b n], bb n⟩) a [y] cache n1 next hK hnext
      (fun n hn hne => ⟨hcache n hn hne, by simp⟩)
    simp only [List.eraseIdx_cons_zero] at h1
    simp only [opContractSubtreesUsingDictionary, contractAllButOneNeighbourBlockToKet, h1, List.cons_append,
      List.nil_append]
    have h2 := opTensor_general (mkK next) y zo zi o b mkO n1 nO next g
      ((n1.nbrs.filter (· ≠ next)).flatMap (fun n => bb n ++ [(mkK n, a n)])) hK hO hnext hpermO
    simp only [List.cons_append, List.nil_append] at h2
    rw [h2]
    have h3 := braTensor_general (mkK next) zo z b mkB n1 nB next f (mkO (g next))
      ((n1.nbrs.filter (· ≠ next)).flatMap (fun n => bb n ++ [(mkK n, a n)]) ++
        ((n1.nbrs.filter (· ≠ next)).map (fun n => (o n, mkO (g n))) ++ [(y, zi)])) hK hB hnext hpermB
    simp only [List.cons_append, List.nil_append, List.append_assoc] at h3 ⊢
    exact h3

theorem Dict.deleteAll_spec (d : Dict) (keys : List (Nat × Nat)) (hnd : keys.Nodup)
    (hpres : ∀ k ∈ keys, (d k).isSome) :
    ∃ d', d.deleteAll keys = some d' ∧ ∀ k, d' k = if k ∈ keys then none else d k := by
  induction keys generalizing d with
  | nil => exact ⟨d, rfl, by simp⟩
  | cons k ks ih =>
    rw [List.nodup_cons] at hnd
    have hk : (d k).isSome := hpres k (by simp)
    obtain ⟨d', h1, h2⟩ := ih (fun k' => if k' = k then none else d k') hnd.2
      (fun k' hk' => by
        have : k' ≠ k := fun e => hnd.1 (e ▸ hk')
        simp only [this, if_false]
        exact hpres k' (by simp [hk']))
    refine ⟨d', by simp [Dict.deleteAll, Dict.delete, hk, h1], fun k' => ?_⟩
    rw [h2 k']
    by_cases e : k' = k
    · subst e; simp
    · by_cases m : k' ∈ ks <;> simp [e, m]

theorem find?_of_nodup_keys {β : Type} (l : List (Nat × β)) (hnd : (l.map (·.1)).Nodup) (e : Nat × β)
    (he : e ∈ l) : l.find? (·.1 == e.1) = some e :=
  find?_of_nodup_map (·.1) hnd he

theorem netOf_node (t : Tree) (childOrder : Nat → List Nat → List Nat) (mkT : Nat → Node → T)
    (hnd : t.ids.Nodup) (e : Nat × Option Nat × List Nat) (he : e ∈ Tree.info none t) :
    (netOf t childOrder mkT).node e.1 = some ⟨e.2.1, childOrder e.1 e.2.2⟩ ∧
    (netOf t childOrder mkT).tensor e.1 = some (mkT e.1 ⟨e.2.1, childOrder e.1 e.2.2⟩) := by
  have hkeys : (((Tree.info none t).map fun e => (e.1, (⟨e.2.1, childOrder e.1 e.2.2⟩ : Node))).map (·.1)).Nodup := by
    rw [List.map_map]
    have : ((fun x : Nat × Node => x.1) ∘ fun e : Nat × Option Nat × List Nat =>
        (e.1, (⟨e.2.1, childOrder e.1 e.2.2⟩ : Node))) = (·.1) := rfl
    rw [this, Tree.info_keys]; exact hnd
  have := find?_of_nodup_keys _ hkeys (e.1, (⟨e.2.1, childOrder e.1 e.2.2⟩ : Node))
    (List.mem_map.2 ⟨e, he, rfl⟩)
  simp only at this
  simp only [netOf, this, Option.map_some, and_self]

end Ptn.C04
