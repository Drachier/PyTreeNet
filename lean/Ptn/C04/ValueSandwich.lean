import Ptn.C04.ValueReroot
/-! Value level: the canonical environment of the centre drops out of the loop's network (`root_env_netValue`, at any centre of
a re-rooting `centre_env_netValue`), whatever further tensors `Y` and record `B` are linked in at the centre.  Its instances:
the norm network (`Y = []`, `B = [physPair c]`: the shortcut of `scalar_product`) and the two-layer network with ONE operator
tensor `O` (legs `gOpOut c`, `gOpIn c`) inserted between the physical legs of the centre (`Y = [O]`, `B = opPairs c`, record
`sandwichSpec`: the shortcut of `single_site_operator_expectation_value`, `Σ C·O·Cc`).  Also: `BondDims dim t` follows from
`IsoKids` of the re-rooted tree.
The property theorems that put these lemmas together are in `Props.lean`; `obligations/C04.txt` lists some of the lemmas
here by their own names as well. -/
namespace Ptn.C04

open Ptn.Ein

/-- the pairs that replace the physical pair of the centre: ket open leg - operator input, operator output - bra -/
def opPairs (c : Nat) : List (Leg × Leg) :=
  [(Leg.gKetPhys c, Leg.gOpIn c), (Leg.gOpOut c, Leg.gBraPhys c)]

/-- the record of the single-site sandwich: `ssSpec t` with the physical pair of `c` replaced by `opPairs c` -/
def sandwichSpec (c : Nat) (t : Tree) : List (Leg × Leg) := opPairs c ++ (ssSpec t).erase (physPair c)

def isOpLeg : Leg → Bool
  | .gOpOut _ => true
  | .gOpIn _ => true
  | _ => false

theorem c04_ssSpec_noOp (t : Tree) (x : Leg × Leg) (hx : x ∈ ssSpec t) : isOpLeg x.1 = false ∧ isOpLeg x.2 = false := by
  rcases (ss_spec_graph t x).1 hx with ⟨_, _, rfl⟩ | ⟨_, _, rfl | rfl⟩ <;> exact ⟨rfl, rfl⟩

theorem c04_pairLegs_noOp (t : Tree) (l : Leg) (hl : l ∈ Expr.pairLegs (ssSpec t)) : isOpLeg l = false := by
  simp only [Expr.pairLegs, List.mem_append, List.mem_map] at hl
  rcases hl with ⟨x, hx, rfl⟩ | ⟨x, hx, rfl⟩
  · exact (c04_ssSpec_noOp t x hx).1
  · exact (c04_ssSpec_noOp t x hx).2

theorem c04_pairLegs_erase_nodup {L : Type} [DecidableEq L] (l : List (L × L)) (p : L × L)
    (h : (Expr.pairLegs l).Nodup) : (Expr.pairLegs (l.erase p)).Nodup := by
  unfold Expr.pairLegs at h ⊢
  exact h.sublist (List.Sublist.append ((List.erase_sublist (a := p) (l := l)).map _)
    ((List.erase_sublist (a := p) (l := l)).map _))

section
set_option linter.unusedSectionVars false
variable {R : Type} [CommSemiring R]

theorem ssSpec_erase_perm (t : Tree) (c : Nat) :
    ((ssSpec t).erase (physPair c)).Perm ((t.ids.map physPair).erase (physPair c) ++ bonds t) := by
  refine ((ssSpec_perm t).erase _).trans (.of_eq ?_)
  have hb : physPair c ∉ bonds t := by simp [bonds, physPair, ketEdge, braEdge]
  show (t.ids.map physPair ++ bonds t).erase (physPair c) = _
  rw [List.erase_append]
  split
  · rfl
  · rw [List.erase_of_not_mem hb, List.erase_of_not_mem ‹_›]

theorem c04_reroot_value_erase (dim : Leg → Nat) {t t' : Tree} (h : Rerooted t t') (hd : BondDims dim t)
    (hnd : (Expr.pairLegs (ssSpec t)).Nodup) (c : Nat) (f : Asg Leg → R) (σ : Asg Leg) :
    sumPairs dim ((ssSpec t').erase (physPair c)) f σ = sumPairs dim ((ssSpec t).erase (physPair c)) f σ := by
  have hnd1 := c04_pairLegs_erase_nodup _ (physPair c) hnd
  have hnd2 := c04_pairLegs_erase_nodup _ (physPair c) ((ssSpec_reroot_legs h).nodup_iff.2 hnd)
  rw [sumPairs_perm dim (ssSpec_erase_perm t' c) hnd2, sumPairs_perm dim (ssSpec_erase_perm t c) hnd1]
  exact reroot_value dim h hd _ _ (((reroot_same h).1.map _).erase _)
    ((pairLegs_perm (ssSpec_erase_perm t c)).nodup_iff.1 hnd1) f σ

variable (kv bv : Nat → Asg Leg → R) (braKids : Nat → List Nat)

theorem c04_iso_bonds_sub (dim : Leg → Nat) (p : Nat) : ∀ t : Tree, IsoSub kv bv dim p t → BondDims dim t
  | .node i ks, hiso => c04_iso_bonds_kids kv bv dim i ks hiso.2.2

theorem c04_bondDims_of_isoKids (dim : Leg → Nat) (t : Tree) (c : Nat) (ks : List Tree)
    (hr : Rerooted t (.node c ks)) (hiso : IsoKids kv bv dim c ks) : BondDims dim t :=
  (reroot_dims_iff dim hr).1 (c04_iso_bonds_kids kv bv dim c ks hiso)

abbrev kidFns (ks : List Tree) : List (Asg Leg → R) := (Tree.idsL ks).flatMap fun i => [kv i, bv i]

/-- **at the root**: `Y` any further tensors that read nothing inside the subtrees of the kids (none: `scalar_product`; an
operator on the open legs of the root: the single-site sandwich), `B` any record among them and the root's two tensors -/
theorem root_env_netValue (dim : Leg → Nat) (c : Nat) (ks : List Tree)
    (hloc : ∀ e ∈ Tree.info none (.node c ks), NodeLocal kv bv braKids e)
    (hiso : IsoKids kv bv dim c ks) (hnd : (Expr.pairLegs (ssSpec (.node c ks))).Nodup)
    (B : List (Leg × Leg)) (Y : List (Asg Leg → R))
    (hY : ∀ f ∈ Y, DependsOn (· ∉ (c04KidsOf kv bv c ks).inner) f) (σ : Asg Leg) :
    netValue dim (B ++ ssSpecL c ks) (kv c :: bv c :: Y ++ kidFns kv bv ks) σ =
      netValue dim (B ++ downPairs c ks) (kv c :: bv c :: Y) σ := by
  have hc := c04_centre_canon kv bv braKids dim c ks hloc hiso
  have hndl := c04_centre_labels_nodup kv bv _ hnd
  obtain ⟨hC, hCc⟩ := c04_centre_C_outside dim _ hc hndl
  have key := c04_env_absorb dim (c04KidsOf kv bv c ks) hc.2.2 (List.nodup_append.1 hndl).2.1 B (kv c :: bv c :: Y)
    (List.forall_mem_cons.2 ⟨hC, List.forall_mem_cons.2 ⟨hCc, hY⟩⟩) σ
  rw [c04_kids_binds, c04_kids_leaves kv bv braKids, c04_kids_pairs, c04_ssLeavesL_fns] at key
  rw [← key]
  unfold netValue
  rw [sumPairs_append, sumPairs_append]
  exact sumPairs_congr dim _ (fun τ => (c04_sumPairs_flipIf dim isBraEdge _ (fun x hx =>
    braEdge_dims dim (c04_iso_bonds_kids kv bv dim c ks hiso) x (List.mem_cons_of_mem _ hx)) _ τ).symm) σ

theorem op_outside (c : Nat) (ks : List Tree) (O : Asg Leg → R) (hO : DependsOn (· ∈ [Leg.gOpOut c, Leg.gOpIn c]) O) :
    ∀ f ∈ [O], DependsOn (· ∉ (c04KidsOf kv bv c ks).inner) f := by
  refine List.forall_mem_singleton.2 (hO.mono fun l hl hi => ?_)
  have hl' : l ∈ (c04CentreOf kv bv (.node c ks)).labels := by
    simp only [Centre.labels, c04CentreOf, List.mem_append]
    exact Or.inr (Kids.inner_sub _ l hi)
  have := c04_pairLegs_noOp _ l ((c04_centre_labels_perm kv bv _).mem_iff.1 hl')
  simp only [List.mem_cons, List.not_mem_nil, or_false] at hl
  rcases hl with rfl | rfl <;> simp [isOpLeg] at this

theorem leaves_centre_perm {t : Tree} {c : Nat} {ks : List Tree} (hr : Rerooted t (.node c ks)) :
    ((ssLeaves braKids kv bv none t).map Prod.snd).Perm (kv c :: bv c :: kidFns kv bv ks) := by
  rw [c04_ssLeaves_fns]
  exact ((c04_reroot_ids hr).flatMap_right fun i => [kv i, bv i]).symm

/-- **at any centre**: `node c ks` a re-rooting of the tree `t` the loop runs on; `Y` and the tensors of all nodes of `t`,
summed over `B` and over the specification graph of `t` without the physical pair of the centre -/
theorem centre_env_netValue (dim : Leg → Nat) (t : Tree) (hids : t.ids.Nodup) (c : Nat) (ks : List Tree)
    (hr : Rerooted t (.node c ks)) (hloc : ∀ e ∈ Tree.info none t, NodeLocal kv bv braKids e)
    (hiso : IsoKids kv bv dim c ks) (hnd : (Expr.pairLegs (ssSpec t)).Nodup)
    (B : List (Leg × Leg)) (Y : List (Asg Leg → R))
    (hY : ∀ f ∈ Y, DependsOn (· ∉ (c04KidsOf kv bv c ks).inner) f) (σ : Asg Leg) :
    netValue dim (B ++ (ssSpec t).erase (physPair c)) (Y ++ (ssLeaves braKids kv bv none t).map Prod.snd) σ =
      netValue dim (B ++ downPairs c ks) (kv c :: bv c :: Y) σ := by
  -- re-root at `c`, apply the root case with a child-order table of the re-rooted tree, carry record and leaves back
  have hd : BondDims dim t := c04_bondDims_of_isoKids kv bv dim t c ks hr hiso
  have hids' : (Tree.ids (.node c ks)).Nodup := (c04_reroot_ids hr).nodup_iff.2 hids
  obtain ⟨tab, htab⟩ := c04_table_fn (β := Option Nat × List Nat) (none, []) (Tree.info none (.node c ks))
    (by rw [Tree.info_keys]; exact hids')
  have hloc' := c04_reroot_local kv bv braKids hr hloc tab htab
  have hnd' := (ssSpec_reroot_legs hr).nodup_iff.2 hnd
  rw [← root_env_netValue kv bv (fun i => (tab i).2) dim c ks hloc' hiso hnd' B Y hY σ]
  have e1 : ssSpecL c ks = (ssSpec (.node c ks)).erase (physPair c) := by simp [ssSpec]
  rw [netValue_perm_leaves dim _ (((leaves_centre_perm kv bv braKids hr).append_left Y).trans
    (List.perm_append_comm_assoc Y [kv c, bv c] _)) σ]
  unfold netValue
  rw [sumPairs_append, sumPairs_append, e1]
  exact sumPairs_congr dim _ (fun τ => (c04_reroot_value_erase dim hr hd hnd c _ τ).symm) σ

/-- the shortcut of `single_site_operator_expectation_value`: the instance `Y = [O]`, `B = opPairs c` -/
theorem c04_centre_sandwich_netValue (dim : Leg → Nat) (t : Tree) (hids : t.ids.Nodup) (c : Nat) (ks : List Tree)
    (hr : Rerooted t (.node c ks))
    (hloc : ∀ e ∈ Tree.info none t, NodeLocal kv bv braKids e)
    (hiso : IsoKids kv bv dim c ks) (hnd : (Expr.pairLegs (ssSpec t)).Nodup)
    (O : Asg Leg → R) (hO : DependsOn (· ∈ [Leg.gOpOut c, Leg.gOpIn c]) O) (σ : Asg Leg) :
    netValue dim (sandwichSpec c t) (O :: (ssLeaves braKids kv bv none t).map Prod.snd) σ =
      netValue dim (opPairs c ++ downPairs c ks) [kv c, O, bv c] σ :=
  (centre_env_netValue kv bv braKids dim t hids c ks hr hloc hiso hnd (opPairs c) [O] (op_outside kv bv c ks O hO) σ).trans
    (netValue_perm_leaves dim _ ((List.Perm.swap _ _ _).cons _) σ)

/-- the shortcut of `scalar_product`: the instance `Y = []`, `B = [physPair c]` -/
theorem c04_centre_shortcut_netValue (dim : Leg → Nat) (t : Tree) (hids : t.ids.Nodup) (c : Nat) (ks : List Tree)
    (hr : Rerooted t (.node c ks))
    (hloc : ∀ e ∈ Tree.info none t, NodeLocal kv bv braKids e)
    (hiso : IsoKids kv bv dim c ks) (hnd : (Expr.pairLegs (ssSpec t)).Nodup) (σ : Asg Leg) :
    netValue dim (ssSpec t) ((ssLeaves braKids kv bv none t).map Prod.snd) σ =
      netValue dim (physPair c :: downPairs c ks) [kv c, bv c] σ := by
  have hmem : physPair c ∈ ssSpec t := (ss_spec_graph t _).2 (Or.inl ⟨c, (c04_reroot_ids hr).mem_iff.1
    List.mem_cons_self, rfl⟩)
  exact (sumPairs_perm dim (List.perm_cons_erase hmem) hnd _ σ).trans
    (centre_env_netValue kv bv braKids dim t hids c ks hr hloc hiso hnd [physPair c] []
      (fun _ h => absurd h List.not_mem_nil) σ)

end

end Ptn.C04
