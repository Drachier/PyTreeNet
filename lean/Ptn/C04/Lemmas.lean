import Ptn.Common.Picks
import Ptn.C04.Model
/-! `pick` / `remaining` are `pickL` / `dropIdx` on legs; `tensordot` on two operands split by their
index lists (`Picks`, `Common/Picks.lean`): `tensordot_picks`, and `tensordot_eq_some_iff`, the one characterisation of the
model's `tensordot`; neighbour indices as list positions. -/
namespace Ptn.C04

theorem pick_eq (l : List Leg) : ∀ is, pick l is = pickL l is
  | [] => rfl
  | i :: is => by
    rw [pick, pick_eq l is, pickL_cons]
    cases l[i]? <;> cases pickL l is <;> rfl

theorem remaining_eq (idx : List Nat) : ∀ (l : List Leg) (k : Nat), remaining idx k l = dropIdx idx k l
  | [], _ => rfl
  | x :: xs, k => by
    simp only [remaining, dropIdx, remaining_eq idx xs, List.contains_eq_mem, decide_eq_true_eq]

theorem pick_map {β : Type} (l : List Leg) (xs : List β) (g : β → Nat) (h : β → Leg)
    (hx : ∀ x ∈ xs, l[g x]? = some (h x)) : pick l (xs.map g) = some (xs.map h) :=
  (pick_eq _ _).trans (pickL_map l xs g h hx)

theorem pick_append (l : List Leg) (a b : List Nat) (x y : List Leg) (ha : pick l a = some x)
    (hb : pick l b = some y) : pick l (a ++ b) = some (x ++ y) :=
  (pick_eq _ _).trans (pickL_append ((pick_eq _ _).symm.trans ha) ((pick_eq _ _).symm.trans hb))

theorem pick_single (l : List Leg) (i : Nat) (x : Leg) (h : l[i]? = some x) : pick l [i] = some [x] :=
  (pick_eq _ _).trans (pickL_single l i x h)

theorem pick_pairs (c : Bool) (pre : List Leg) (F : List Nat) (p q : Nat → Leg) (suf : List Leg) :
    pick (pre ++ F.flatMap (fun n => [p n, q n]) ++ suf)
      ((List.range F.length).map (fun k => 2 * k + c.toNat + pre.length)) = some (F.map (if c then q else p)) :=
  (pick_eq _ _).trans (pickL_pairs c pre F p q suf)


theorem tensordot_eq (a b : T) (ia ib : List Nat) (la lb : List Leg) (hlen : ia.length = ib.length)
    (ha : ia.Nodup) (hb : ib.Nodup) (pa : pick a.legs ia = some la) (pb : pick b.legs ib = some lb) :
    tensordot a b ia ib =
      some ⟨remaining ia 0 a.legs ++ remaining ib 0 b.legs, a.binds ++ b.binds ++ la.zip lb⟩ := by
  simp [tensordot, hlen, ha, hb, pa, pb]

theorem tensordot_picks {a b : T} {ia ib : List Nat} {la lb ra rb : List Leg} (ha : Picks a.legs ia la ra)
    (hb : Picks b.legs ib lb rb) (hlen : ia.length = ib.length) :
    tensordot a b ia ib = some ⟨ra ++ rb, a.binds ++ b.binds ++ la.zip lb⟩ := by
  rw [tensordot_eq a b ia ib la lb hlen ha.nodup hb.nodup ((pick_eq _ _).trans ha.pick) ((pick_eq _ _).trans hb.pick),
    remaining_eq, remaining_eq, ha.rest, hb.rest]

theorem tensordot_eq_some_iff {a b c : T} {ia ib : List Nat} :
    tensordot a b ia ib = some c ↔ ia.length = ib.length ∧ ∃ la lb ra rb, Picks a.legs ia la ra ∧ Picks b.legs ib lb rb ∧
      c = ⟨ra ++ rb, a.binds ++ b.binds ++ la.zip lb⟩ := by
  constructor
  · intro h
    unfold tensordot at h
    split at h
    · simp at h
    · rename_i hlen
      split at h
      · simp at h
      · rename_i hnd
        split at h
        · rename_i la lb hla hlb
          have hnd' := not_or.1 hnd
          exact ⟨Decidable.not_not.1 hlen, la, lb, _, _,
            ⟨Decidable.not_not.1 hnd'.1, (pick_eq _ _).symm.trans hla, (remaining_eq _ _ _).symm⟩,
            ⟨Decidable.not_not.1 hnd'.2, (pick_eq _ _).symm.trans hlb, (remaining_eq _ _ _).symm⟩,
            (Option.some.inj h).symm⟩
        · simp at h
  · rintro ⟨hlen, la, lb, ra, rb, ha, hb, rfl⟩
    exact tensordot_picks ha hb hlen

theorem tensordot_one (a b : T) (i j : Nat) (x y : Leg) (hx : a.legs[i]? = some x) (hy : b.legs[j]? = some y) :
    tensordot a b [i] [j] =
      some ⟨a.legs.eraseIdx i ++ b.legs.eraseIdx j, a.binds ++ b.binds ++ [(x, y)]⟩ :=
  tensordot_picks (Picks.single hx) (Picks.single hy) rfl

theorem Node.nn_eq (nd : Node) : nd.nn = nd.nbrs.length := by
  cases nd with
  | mk p c => cases p <;> simp [Node.nn, Node.nbrs, Node.nparents] <;> omega

theorem Node.neighbourIndex_eq (nd : Node) (n : Nat) :
    nd.neighbourIndex n = if n ∈ nd.nbrs then some (nd.nbrs.idxOf n) else none := by
  cases nd with
  | mk p c =>
    cases p with
    | none => by_cases hc : n ∈ c <;> simp [Node.neighbourIndex, Node.nbrs, Node.nparents, hc]
    | some q =>
      simp only [Node.neighbourIndex, Node.nbrs, Node.nparents, Option.some.injEq, Option.toList_some,
        List.singleton_append, List.mem_cons, Option.isSome_some, if_true]
      by_cases h : q = n
      · subst h; simp
      · have h' : ¬ n = q := fun e => h e.symm
        simp only [h, h', if_false, false_or]
        by_cases hc : n ∈ c
        · have hb : (q == n) = false := by simpa using h
          simp [hc, List.idxOf_cons, hb]
        · simp [hc]

theorem Node.neighbourIndex_of_mem (nd : Node) (n : Nat) (h : n ∈ nd.nbrs) :
    nd.neighbourIndex n = some (nd.nbrs.idxOf n) := by
  simp [Node.neighbourIndex_eq, h]

theorem Node.neighbourIndex_of_not_mem (nd : Node) (n : Nat) (h : n ∉ nd.nbrs) :
    nd.neighbourIndex n = none := by
  simp [Node.neighbourIndex_eq, h]

theorem idxOf_append_mid (A B : List Nat) (x : Nat) (h : x ∉ A) : (A ++ x :: B).idxOf x = A.length :=
  idxOf_mid B h

theorem getElem?_append_mid (P Q : List Leg) (x : Leg) : (P ++ x :: Q)[P.length]? = some x :=
  getElem?_mid P x Q

theorem flatMap_single {α β : Type} (l : List α) (g : α → β) : l.flatMap (fun n => [g n]) = l.map g :=
  List.map_eq_flatMap.symm

end Ptn.C04
