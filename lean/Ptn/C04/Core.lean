import Ptn.C04.OpRoot
import Ptn.C04.GraphSS
import Ptn.C04.GraphSO
import Ptn.C04.GraphCC
/-! Property theorems for C04 (leg-label calculus).  Only property theorems and non-vacuity examples.

Quantification: every node (optional parent, any number of children in any order, `nbrs` without
repetition), every `next` among its neighbours, every bra / operator node whose neighbour list is a
permutation of the (transformed) ket neighbour list — i.e. any relative child order of the networks. -/
namespace Ptn.C04

/-- `contract_all_but_one_neighbour_block_to_ket`: the result has the legs
`[ketNb next, ketPhys] ++ [block legs of n | n ≠ next]` (ket order) and binds exactly
`(ketNb n, blkKet n)` for every `n ≠ next`; the block of `next` is never looked up.  In particular the
axis `int(ignoring_index < neighbour_index)` is the right one at every iteration. -/
theorem all_but_one_legs (three : Bool) (nd : Node) (next : Nat) (hnd : nd.nbrs.Nodup)
    (hnext : next ∈ nd.nbrs) :
    contractAllButOneNeighbourBlockToKet (ketT nd) nd next (cacheBut three next) =
      some ⟨[Leg.ketNb next, Leg.ketPhys] ++ (nd.nbrs.filter (· ≠ next)).flatMap (blockRest three),
            (nd.nbrs.filter (· ≠ next)).map (fun n => (Leg.ketNb n, Leg.blkKet n))⟩ := by
  have := allButOne_general 0 Leg.ketNb (block three) Leg.blkKet [Leg.ketPhys] (cacheBut three next) nd next
    hnd hnext (fun n _ hne => ⟨by simp [cacheBut, hne], by simp [block, T.fresh]⟩)
  simpa [contractAllButOneNeighbourBlockToKet, ketT, block, T.fresh, flatMap_single] using this

example : contractAllButOneNeighbourBlockToKet (ketT ⟨some 7, [1, 2, 3]⟩) ⟨some 7, [1, 2, 3]⟩ 2 (cacheBut false 2) =
    some ⟨[.ketNb 2, .ketPhys, .blkBra 7, .blkBra 1, .blkBra 3],
          [(.ketNb 7, .blkKet 7), (.ketNb 1, .blkKet 1), (.ketNb 3, .blkKet 3)]⟩ := by decide +kernel

/-- the same loop on an operator node (`…_to_hamiltonian`, block axis 1) -/
theorem all_but_one_legs_hamiltonian (nd : Node) (next : Nat) (hnd : nd.nbrs.Nodup) (hnext : next ∈ nd.nbrs) :
    contractAllButOneNeighbourBlockToHamiltonian (opT nd) nd next (cacheBut true next) =
      some ⟨[Leg.opNb next, Leg.opOut, Leg.opIn] ++
              (nd.nbrs.filter (· ≠ next)).flatMap (fun n => [Leg.blkKet n, Leg.blkBra n]),
            (nd.nbrs.filter (· ≠ next)).map (fun n => (Leg.opNb n, Leg.blkOp n))⟩ := by
  have := allButOne_general 1 Leg.opNb (block true) Leg.blkOp [Leg.opOut, Leg.opIn] (cacheBut true next) nd next
    hnd hnext (fun n _ hne => ⟨by simp [cacheBut, hne], by simp [block, blockRest, T.fresh]⟩)
  simpa [contractAllButOneNeighbourBlockToHamiltonian, opT, block, blockRest, T.fresh, flatMap_single] using this

/-- `contract_all_neighbour_blocks_to_ket`: always axis 0 -/
theorem all_blocks_legs (three : Bool) (nd : Node) :
    contractAllNeighbourBlocksToKet (ketT nd) nd (cacheAll three) =
      some ⟨[Leg.ketPhys] ++ nd.nbrs.flatMap (blockRest three),
            nd.nbrs.map (fun n => (Leg.ketNb n, Leg.blkKet n))⟩ := by
  have := allLoop_general 0 Leg.ketNb (block three) Leg.blkKet (cacheAll three) nd nd.nbrs [Leg.ketPhys] []
    (fun n _ => ⟨rfl, by simp [block, T.fresh]⟩)
  simpa [contractAllNeighbourBlocksToKet, ketT, block, T.fresh, flatMap_single] using this

/-- `contract_all_neighbour_blocks_to_hamiltonian`: always axis 0 of the running tensor, block axis 1 (the
operator leg of a three-layer block): every neighbour leg of the operator tensor is bound to the operator leg
of that neighbour's block, the result has the legs `[opOut, opIn]` followed by the ket leg and the bra leg of
every block in neighbour order -/
theorem all_blocks_legs_hamiltonian (nd : Node) :
    contractAllNeighbourBlocksToHamiltonian (opT nd) nd (cacheAll true) =
      some ⟨[Leg.opOut, Leg.opIn] ++ nd.nbrs.flatMap (fun n => [Leg.blkKet n, Leg.blkBra n]),
            nd.nbrs.map (fun n => (Leg.opNb n, Leg.blkOp n))⟩ := by
  have := allLoop_general 1 Leg.opNb (block true) Leg.blkOp (cacheAll true) nd nd.nbrs [Leg.opOut, Leg.opIn] []
    (fun n _ => ⟨rfl, by simp [block, blockRest, T.fresh]⟩)
  simpa [contractAllNeighbourBlocksToHamiltonian, opT, block, blockRest, T.fresh, flatMap_single] using this

example : contractAllNeighbourBlocksToHamiltonian (opT ⟨some 7, [1, 2]⟩) ⟨some 7, [1, 2]⟩ (cacheAll true) =
    some ⟨[.opOut, .opIn, .blkKet 7, .blkBra 7, .blkKet 1, .blkBra 1, .blkKet 2, .blkBra 2],
          [(.opNb 7, .blkOp 7), (.opNb 1, .blkOp 1), (.opNb 2, .blkOp 2)]⟩ := by decide +kernel

/-- `contract_bra_to_ket_and_blocks_ignore_one_leg`: the final tensordot binds exactly
`(blkBra n, braNb (f n))` for every `n ≠ next` and `(ketPhys, braPhys)`, and leaves
`[ketNb next, braNb (f next)]` — for ANY relative order of the ket's and the bra's neighbours. -/
theorem bra_ignore_one_binds (ketNode braNode : Node) (next : Nat) (f : Trafo) (bs : List (Leg × Leg))
    (hK : ketNode.nbrs.Nodup) (hB : braNode.nbrs.Nodup) (hnext : next ∈ ketNode.nbrs)
    (hperm : braNode.nbrs.Perm (ketNode.nbrs.map f)) :
    contractBraToKetAndBlocksIgnoreOneLeg (braT braNode)
        ⟨[Leg.ketNb next, Leg.ketPhys] ++ (ketNode.nbrs.filter (· ≠ next)).map Leg.blkBra, bs⟩
        braNode ketNode next f =
      some ⟨[Leg.ketNb next, Leg.braNb (f next)],
            bs ++ ((ketNode.nbrs.filter (· ≠ next)).map (fun n => (Leg.blkBra n, Leg.braNb (f n)))
                    ++ [(Leg.ketPhys, Leg.braPhys)])⟩ :=
  braIgnore_general _ _ _ _ _ ketNode braNode next f bs hK hB hnext hperm

/-- the permutation hypothesis of `bra_ignore_one_binds` on an instance -/
example : ([3, 7, 1, 2] : List Nat).Perm ([7, 1, 2, 3].map id) := by decide +kernel

/-- `contract_any_nodes` (leaf or not) for two nodes of the same tree position: the block handed to
`next` has the legs `[ketNb next, braNb (f next)]` and everything else is bound layer by layer. -/
theorem contract_any_nodes_spec (n1 n2 : Node) (next : Nat) (f : Trafo)
    (hK : n1.nbrs.Nodup) (hB : n2.nbrs.Nodup) (hnext : next ∈ n1.nbrs)
    (hperm : n2.nbrs.Perm (n1.nbrs.map f)) (hpar : n2.parent = n1.parent.map f) :
    contractAnyNodes next n1 n2 (ketT n1) (braT n2) (cacheBut false next) f =
      some ⟨[Leg.ketNb next, Leg.braNb (f next)],
            (n1.nbrs.filter (· ≠ next)).map (fun n => (Leg.ketNb n, Leg.blkKet n)) ++
            ((n1.nbrs.filter (· ≠ next)).map (fun n => (Leg.blkBra n, Leg.braNb (f n))) ++
              [(Leg.ketPhys, Leg.braPhys)])⟩ := by
  have := contract_any_nodes_general Leg.ketNb Leg.braNb Leg.blkKet Leg.blkBra Leg.ketPhys Leg.braPhys (fun _ => [])
    (cacheBut false next) n1 n2 next f hK hB hnext hperm hpar
    (fun n _ hne => by simp [cacheBut, hne, block, blockRest, T.fresh])
  simpa [ketT, braT, flatMap_single] using this

example : contractAnyNodes 2 ⟨some 7, [1, 2, 3]⟩ ⟨some 7, [3, 1, 2]⟩ (ketT ⟨some 7, [1, 2, 3]⟩)
    (braT ⟨some 7, [3, 1, 2]⟩) (cacheBut false 2) id =
    some ⟨[.ketNb 2, .braNb 2],
      [(.ketNb 7, .blkKet 7), (.ketNb 1, .blkKet 1), (.ketNb 3, .blkKet 3),
       (.blkBra 7, .braNb 7), (.blkBra 1, .braNb 1), (.blkBra 3, .braNb 3), (.ketPhys, .braPhys)]⟩ := by decide +kernel

/-- `contract_node_with_environment_nodes`: nothing is left open at the root, and every leg is bound to
its partner: ket leg ↔ block ket leg, block bra leg ↔ bra leg of the same neighbour, physical legs. -/
theorem root_contraction_closed (ketNode braNode : Node) (hK : ketNode.nbrs.Nodup) (hB : braNode.nbrs.Nodup)
    (hperm : braNode.nbrs.Perm ketNode.nbrs) :
    contractNodeWithEnvironmentNodes ketNode (ketT ketNode) braNode (braT braNode) (cacheAll false) =
      some ⟨[], ketNode.nbrs.map (fun n => (Leg.ketNb n, Leg.blkKet n)) ++
                (braNode.nbrs.map (fun n => (Leg.blkBra n, Leg.braNb n)) ++ [(Leg.ketPhys, Leg.braPhys)])⟩ := by
  have := contract_root_general Leg.ketNb Leg.braNb Leg.blkKet Leg.blkBra Leg.ketPhys Leg.braPhys (fun _ => [])
    (cacheAll false) ketNode braNode hK hB hperm (fun n _ => by simp [cacheAll, block, blockRest, T.fresh])
  simpa [ketT, braT, flatMap_single] using this

example : contractNodeWithEnvironmentNodes ⟨none, [1, 2, 3]⟩ (ketT ⟨none, [1, 2, 3]⟩) ⟨none, [3, 1, 2]⟩
    (braT ⟨none, [3, 1, 2]⟩) (cacheAll false) =
    some ⟨[], [(.ketNb 1, .blkKet 1), (.ketNb 2, .blkKet 2), (.ketNb 3, .blkKet 3),
               (.blkBra 3, .braNb 3), (.blkBra 1, .braNb 1), (.blkBra 2, .braNb 2), (.ketPhys, .braPhys)]⟩ := by
  decide +kernel

/-- a single node (root and leaf at once): `contract_node_with_environment_nodes` binds the physical legs -/
example : contractNodeWithEnvironmentNodes ⟨none, []⟩ (ketT ⟨none, []⟩) ⟨none, []⟩ (braT ⟨none, []⟩)
    (cacheAll false) = some ⟨[], [(.ketPhys, .braPhys)]⟩ := by decide +kernel

/-- `get_equivalent_legs`: position `i` of both lists refers to the same neighbour (`n` in node 1,
`f n` in node 2), ignored neighbours do not occur, neither list repeats an index. -/
theorem equiv_legs_spec (n1 n2 : Node) (ignore : List Nat) (f : Trafo)
    (h1 : n1.nbrs.Nodup) (h2 : n2.nbrs.Nodup) (hperm : n2.nbrs.Perm (n1.nbrs.map f)) :
    ∃ l1 l2, getEquivalentLegs n1 n2 ignore f = some (l1, l2) ∧ l1.Nodup ∧ l2.Nodup ∧
      l1 = (n1.nbrs.filter (fun n => !ignore.contains n)).map (fun n => n1.nbrs.idxOf n) ∧
      l2 = (n1.nbrs.filter (fun n => !ignore.contains n)).map (fun n => n2.nbrs.idxOf (f n)) ∧
      ∀ n ∈ n1.nbrs, ¬ ignore.contains n →
        n1.nbrs[n1.nbrs.idxOf n]? = some n ∧ n2.nbrs[n2.nbrs.idxOf (f n)]? = some (f n) := by
  have hmemB : ∀ n ∈ n1.nbrs, f n ∈ n2.nbrs := fun n hn => hperm.mem_iff.2 (List.mem_map.2 ⟨n, hn, rfl⟩)
  have hinj := inj_on_of_nodup_map f (hperm.nodup_iff.1 h2)
  have hFnd : (n1.nbrs.filter (fun n => !ignore.contains n)).Nodup := nodup_filter _ h1
  refine ⟨_, _, equivLoop_eq n1 n2 ignore f n1.nbrs (fun n hn _ => ⟨hn, hmemB n hn⟩), ?_, ?_, rfl, rfl, ?_⟩
  · exact nodup_map_of_inj_on _ hFnd (fun x hx y hy e =>
      idxOf_inj (List.mem_filter.1 hx).1 (List.mem_filter.1 hy).1 e)
  · exact nodup_map_of_inj_on _ hFnd (fun x hx y hy e =>
      hinj x (List.mem_filter.1 hx).1 y (List.mem_filter.1 hy).1
        (idxOf_inj (hmemB x (List.mem_filter.1 hx).1) (hmemB y (List.mem_filter.1 hy).1) e))
  · intro n hn _
    exact ⟨getElem?_idxOf hn, getElem?_idxOf (hmemB n hn)⟩

example : getEquivalentLegs ⟨some 7, [1, 2, 3]⟩ ⟨some 107, [103, 101, 102]⟩ [7] (· + 100) =
    some ([1, 2, 3], [2, 3, 1]) := by decide +kernel

/-- `state_operator_contraction.contract_subtrees_using_dictionary`: the operator's INPUT leg is bound to
the ket's physical leg and its OUTPUT leg to the bra's; every block leg is bound to the leg of its own
layer toward the same neighbour; the free legs are `[ketNb next, opNb (g next), braNb (f next)]` — for
any relative neighbour order of ket, operator and bra node. -/
theorem expectation_binds (ketNode opNode braNode : Node) (next : Nat) (g f : Trafo)
    (hK : ketNode.nbrs.Nodup) (hO : opNode.nbrs.Nodup) (hB : braNode.nbrs.Nodup) (hnext : next ∈ ketNode.nbrs)
    (hpermO : opNode.nbrs.Perm (ketNode.nbrs.map g)) (hpermB : braNode.nbrs.Perm (ketNode.nbrs.map f)) :
    opContractSubtreesUsingDictionary next ketNode (ketT ketNode) opNode (opT opNode) (cacheBut true next)
        braNode (braT braNode) g f =
      some ⟨[Leg.ketNb next, Leg.opNb (g next), Leg.braNb (f next)],
            ((ketNode.nbrs.filter (· ≠ next)).map (fun n => (Leg.ketNb n, Leg.blkKet n)) ++
              ((ketNode.nbrs.filter (· ≠ next)).map (fun n => (Leg.blkOp n, Leg.opNb (g n))) ++
                [(Leg.ketPhys, Leg.opIn)])) ++
            ((ketNode.nbrs.filter (· ≠ next)).map (fun n => (Leg.blkBra n, Leg.braNb (f n))) ++
              [(Leg.opOut, Leg.braPhys)])⟩ := by
  simp only [opContractSubtreesUsingDictionary, all_but_one_legs true ketNode next hK hnext,
    flatMap_blockRest_true, opT,
    opTensor_general (Leg.ketNb next) Leg.ketPhys Leg.opOut Leg.opIn Leg.blkOp Leg.blkBra Leg.opNb
      ketNode opNode next g _ hK hO hnext hpermO]
  exact braTensor_general (Leg.ketNb next) Leg.opOut Leg.braPhys Leg.blkBra Leg.braNb ketNode braNode next f _ _
    hK hB hnext hpermB

example : opContractSubtreesUsingDictionary 7 ⟨some 7, [1, 2]⟩ (ketT ⟨some 7, [1, 2]⟩) ⟨some 7, [2, 1]⟩
    (opT ⟨some 7, [2, 1]⟩) (cacheBut true 7) ⟨some 7, [1, 2]⟩ (braT ⟨some 7, [1, 2]⟩) id id =
    some ⟨[.ketNb 7, .opNb 7, .braNb 7],
      [(.ketNb 1, .blkKet 1), (.ketNb 2, .blkKet 2), (.blkOp 1, .opNb 1), (.blkOp 2, .opNb 2), (.ketPhys, .opIn),
       (.blkBra 1, .braNb 1), (.blkBra 2, .braNb 2), (.opOut, .braPhys)]⟩ := by decide +kernel

/-- `contract_leaf`: operator output leg (`nneighbours`) ↔ bra, operator input leg (`nneighbours+1`) ↔ ket -/
theorem expectation_leaf_binds (p p' p'' : Nat) :
    opContractLeaf ⟨some p, []⟩ (ketT ⟨some p, []⟩) ⟨some p', []⟩ (opT ⟨some p', []⟩)
        ⟨some p'', []⟩ (braT ⟨some p'', []⟩) =
      some ⟨[Leg.ketNb p, Leg.opNb p', Leg.braNb p''],
            [(Leg.opOut, Leg.braPhys), (Leg.ketPhys, Leg.opIn)]⟩ :=
  opContractLeaf_general p p' p'' _ _ _ _ _ _ _

/-- the root step of `expectation_value` leaves no free leg; input leg ↔ ket, output leg ↔ conj(ket) -/
theorem expectation_root_closed (ketNode opNode : Node) (hK : ketNode.nbrs.Nodup) (hO : opNode.nbrs.Nodup)
    (hperm : opNode.nbrs.Perm ketNode.nbrs) :
    opContractNodeWithEnvironment ketNode (ketT ketNode) opNode (opT opNode) (braT ketNode) (cacheAll true) =
      some ⟨[], (ketNode.nbrs.map (fun n => (Leg.ketNb n, Leg.blkKet n)) ++
                  (ketNode.nbrs.map (fun n => (Leg.blkOp n, Leg.opNb n)) ++ [(Leg.ketPhys, Leg.opIn)])) ++
                (ketNode.nbrs.map (fun n => (Leg.braNb n, Leg.blkBra n)) ++ [(Leg.braPhys, Leg.opOut)])⟩ := by
  have := opRoot_labels Leg.ketNb Leg.opNb Leg.braNb Leg.blkKet Leg.blkOp Leg.blkBra Leg.ketPhys Leg.opOut Leg.opIn
    Leg.braPhys (fun _ => []) (cacheAll true) ketNode opNode hK hO hperm
    (fun n _ => by simp [cacheAll, block, blockRest, T.fresh])
  simpa [ketT, opT, braT, flatMap_single] using this

example : opContractNodeWithEnvironment ⟨none, [1, 2]⟩ (ketT ⟨none, [1, 2]⟩) ⟨none, [2, 1]⟩ (opT ⟨none, [2, 1]⟩)
    (braT ⟨none, [1, 2]⟩) (cacheAll true) =
    some ⟨[], [(.ketNb 1, .blkKet 1), (.ketNb 2, .blkKet 2), (.blkOp 1, .opNb 1), (.blkOp 2, .opNb 2),
               (.ketPhys, .opIn), (.braNb 1, .blkBra 1), (.braNb 2, .blkBra 2), (.braPhys, .opOut)]⟩ := by decide +kernel

/-- **`contract_two_ttns` computes the closed graph `Σ ket·bra`.**  For every tree with distinct
identifiers and for arbitrary, independent child orders of the bra network at every node
(`braKids i` any permutation of the ket's children of `i`), the loop over `linearise()` with the block
dictionary (`add_entry` / `delete_entry`, never a `KeyError`) followed by the root step returns a tensor
with NO free leg whose bound pairs are, up to order, exactly the specification graph: for every node
`(ketPhys n, braPhys n)`, for every edge `p — c` the two ket legs `(ket p→c, ket c→p)` and the two bra
legs `(bra c→p, bra p→c)` (`ss_spec_graph` below spells the list out).  The cached blocks are eliminated:
their legs are the legs of the subtree's own tensors (`ssLoop_subtree`: every block denotes its
subtree's sub-graph with free legs `[ket c→p, bra c→p]`). -/
theorem contract_two_ttns_graph (t : Tree) (hnd : t.ids.Nodup) (braKids : Nat → List Nat)
    (hperm : ∀ e ∈ Tree.info none t, (braKids e.1).Perm e.2.2) :
    ∃ binds, contractTwoTtns (netOf t (fun _ ks => ks) gKetT) (netOf t (fun i _ => braKids i) gBraT)
        = some ⟨[], binds⟩ ∧ binds.Perm (ssSpec t) := by
  refine ⟨_, contractTwoTtns_eq t hnd braKids hperm, ssRootBinds_perm t _ ?_⟩
  have := hperm (t.id, none, t.kids.map Tree.id) (by cases t; simp [Tree.info, Tree.id, Tree.kids])
  simpa using this

theorem record_perm_ssSpec (t : Tree) (hnd : t.ids.Nodup) (braKids : Nat → List Nat)
    (hperm : ∀ e ∈ Tree.info none t, (braKids e.1).Perm e.2.2) {binds : List (Leg × Leg)}
    (hrun : contractTwoTtns (netOf t (fun _ ks => ks) gKetT) (netOf t (fun i _ => braKids i) gBraT) = some ⟨[], binds⟩) :
    binds.Perm (ssSpec t) := by
  obtain ⟨b', hrun', hb'⟩ := contract_two_ttns_graph t hnd braKids hperm
  rw [hrun] at hrun'
  injection hrun' with h
  injection h with _ h2
  rw [h2]; exact hb'

/-- the specification graph, spelled out: physical pairs of all nodes, ket and bra pairs of all edges -/
theorem ss_spec_graph (t : Tree) (x : Leg × Leg) :
    x ∈ ssSpec t ↔ (∃ n ∈ t.ids, x = physPair n) ∨
      (∃ e ∈ t.edges, x = ketEdge e.1 e.2 ∨ x = braEdge e.1 e.2) :=
  (ssSpec_perm t).mem_iff.trans (by
    simp only [List.mem_append, List.mem_map, exists_or, and_or_left, @eq_comm _ x])

example : contractTwoTtns
    (netOf (.node 0 [.node 1 [.node 3 []], .node 2 []]) (fun _ ks => ks) gKetT)
    (netOf (.node 0 [.node 1 [.node 3 []], .node 2 []]) (fun i _ => if i = 0 then [2, 1] else if i = 1 then [3] else [])
      gBraT) =
    some ⟨[], [physPair 3, ketEdge 1 3, braEdge 1 3, physPair 1, ketEdge 0 1, physPair 2, ketEdge 0 2,
               braEdge 0 2, braEdge 0 1, physPair 0]⟩ := by decide +kernel

/-- **`expectation_value` computes the closed graph `<psi|O|psi>`.**  For every tree and arbitrary,
independent child orders of the operator network at every node, the loop over `linearise()` with the
block dictionary followed by the root step leaves NO free leg, and the bound pairs are — as unordered
pairs, up to order — exactly the specification graph: for every node the operator's INPUT leg with the
ket's physical leg and its OUTPUT leg with the bra's, for every edge the two ket legs, the two operator
legs and the two bra legs (`so_spec_graph`).  The bra is the conjugated ket tensor on the ket's own node,
as in the code. -/
theorem expectation_value_graph (t : Tree) (hnd : t.ids.Nodup) (opKids : Nat → List Nat)
    (hperm : ∀ e ∈ Tree.info none t, (opKids e.1).Perm e.2.2) :
    ∃ binds, expectationValue (netOf t (fun _ ks => ks) gKetT) (netOf t (fun i _ => opKids i) gOpT) gBraT
        = some ⟨[], binds⟩ ∧ (unord binds).Perm (unord (soSpec t)) :=
  ⟨_, expectationValue_eq t hnd opKids hperm, soRootBinds_perm t⟩

/-- the specification graph of `<psi|O|psi>`, spelled out: input and output pair of every node, ket, operator and bra pair of
every edge -/
theorem so_spec_graph (t : Tree) (x : Leg × Leg) :
    x ∈ soSpec t ↔ (∃ n ∈ t.ids, x = physIn n ∨ x = physOut n) ∨
      (∃ e ∈ t.edges, x = ketEdge e.1 e.2 ∨ x = opEdge e.1 e.2 ∨ x = braEdge e.1 e.2) :=
  (soSpec_perm t).mem_iff.trans (by
    simp only [List.mem_append, List.mem_map, exists_or, and_or_left, @eq_comm _ x, or_assoc]
    exact or_left_comm)

example : expectationValue
    (netOf (.node 0 [.node 1 [], .node 2 []]) (fun _ ks => ks) gKetT)
    (netOf (.node 0 [.node 1 [], .node 2 []]) (fun i _ => if i = 0 then [2, 1] else []) gOpT) gBraT =
    some ⟨[], [physOut 1, physIn 1, ketEdge 0 1, physOut 2, physIn 2, ketEdge 0 2, opEdge 0 1, opEdge 0 2, physIn 0,
               (braEdge 0 1).swap, (braEdge 0 2).swap, (physOut 0).swap]⟩ := by decide +kernel

example : (Tree.node 0 [.node 1 [.node 3 []], .node 2 []]).ids.Nodup ∧
    ∀ e ∈ Tree.info none (Tree.node 0 [.node 1 [.node 3 []], .node 2 []]),
      ((fun i => if i = 0 then [2, 1] else if i = 1 then [3] else []) e.1).Perm e.2.2 := by decide +kernel

/-- **`TTNO.as_matrix`** on top of `completely_contract_tree`: the contraction order returned is the
preorder of the tree; the rows of the matrix are ALL OUTPUT legs and the columns ALL INPUT legs, both in
the returned node order; every tree edge is bound (operator leg parent→child with child→parent) and nothing
else.  PARTIAL: `contract_nodes` is modelled by `_data_contraction` (`tensordot(parent, child,
(neighbour_index(child), 0))`), whose leg order coincides with the documented leg order of `contract_nodes`
because a child that is contracted into its parent has no children left; the lazily stored leg permutation
of the implementation (property C02) is not modelled. -/
theorem as_matrix_graph_partial (t : Tree) (hnd : t.ids.Nodup) :
    ∃ binds, asMatrix t = some (t.ids, t.ids.map Leg.gOpOut, t.ids.map Leg.gOpIn, binds) ∧
      binds.Perm (t.edges.map fun e => (Leg.gOp e.1 e.2, Leg.gOp e.2 e.1)) :=
  ⟨_, asMatrix_eq t hnd, List.perm_iff_count.2 (fun x => count_ccBinds x t)⟩

example : asMatrix (.node 0 [.node 1 [.node 3 []], .node 2 []]) =
    some ([0, 1, 3, 2], [.gOpOut 0, .gOpOut 1, .gOpOut 3, .gOpOut 2], [.gOpIn 0, .gOpIn 1, .gOpIn 3, .gOpIn 2],
          [(.gOp 1 3, .gOp 3 1), (.gOp 0 1, .gOp 1 0), (.gOp 0 2, .gOp 2 0)]) := by decide +kernel

end Ptn.C04
