import Ptn.C04.Graph
/-! The loop over `linearise()` with the block dictionary, for any step that enters the block of a node and deletes those of
its kids (`NodeStep`, `loop_subtree`, `loop_forest`: every cached block denotes its subtree); `contract_two_ttns` as its
instance; the record the loop produces against the specification graph `ssSpec` (counting). -/
namespace Ptn.C04

theorem find_kid {ts : List Tree} {n : Nat} {c : Tree} (h : ts.find? (fun c => c.id == n) = some c) :
    c ∈ ts ∧ c.id = n :=
  ⟨List.mem_of_find?_eq_some h, by simpa using List.find?_some h⟩

theorem find_kid_of_mem (ts : List Tree) (n : Nat) (hn : n ∈ ts.map Tree.id) :
    ∃ c, ts.find? (fun c => c.id == n) = some c ∧ c.id = n := by
  obtain ⟨c, hc, hcn⟩ := List.mem_map.1 hn
  have hsome : (ts.find? (fun c => c.id == n)).isSome := by
    rw [List.find?_isSome]; exact ⟨c, hc, by simp [hcn]⟩
  obtain ⟨c', hc'⟩ := Option.isSome_iff_exists.1 hsome
  exact ⟨c', hc', (find_kid hc').2⟩

/-- the dictionary entries of the kids `ts` of node `i`: under the key `(c.id, i)` the block `blkOf c i` -/
def kidTable (blkOf : Tree → Nat → T) (ts : List Tree) (i : Nat) (k : Nat × Nat) : Option T :=
  if k.2 = i then (ts.find? (fun c => c.id == k.1)).map (fun c => blkOf c i) else none

theorem kidTable_none (blkOf : Tree → Nat → T) (ts : List Tree) (i : Nat) (k : Nat × Nat)
    (h : k ∉ (ts.map Tree.id).map (fun c => (c, i))) : kidTable blkOf ts i k = none := by
  unfold kidTable
  by_cases h2 : k.2 = i
  · rw [if_pos h2]
    cases hf : ts.find? (fun c => c.id == k.1) with
    | none => rfl
    | some c =>
      exfalso
      apply h
      obtain ⟨hm, hid⟩ := find_kid hf
      simp only [List.map_map, List.mem_map, Function.comp]
      exact ⟨c, hm, by rw [hid, ← h2]⟩
  · rw [if_neg h2]

theorem kidTable_cons (blkOf : Tree → Nat → T) (c : Tree) (cs : List Tree) (i : Nat) (k : Nat × Nat) :
    kidTable blkOf (c :: cs) i k = if k = (c.id, i) then some (blkOf c i) else kidTable blkOf cs i k := by
  obtain ⟨k1, k2⟩ := k
  unfold kidTable
  by_cases h2 : k2 = i
  · by_cases h1 : c.id = k1
    · subst h1; subst h2; simp
    · have hb : (c.id == k1) = false := by simpa using h1
      have : ¬ ((k1, k2) = (c.id, i)) := by
        intro e; exact h1 (by simpa using (Prod.mk.inj e).1.symm)
      simp [h2, hb]
      intro e; exact absurd e.symm h1
  · have : ¬ ((k1, k2) = (c.id, i)) := fun e => h2 (Prod.mk.inj e).2
    simp [h2, this]

theorem kidTable_of_mem (blkOf : Tree → Nat → T) (ts : List Tree) (i n : Nat) (hn : n ∈ ts.map Tree.id) :
    ∃ c, c.id = n ∧ kidTable blkOf ts i (n, i) = some (blkOf c i) := by
  obtain ⟨c, hc, hid⟩ := find_kid_of_mem ts n hn
  exact ⟨c, hid, by simp [kidTable, hc]⟩

/-- the tail of a loop step at node `i` (parent `p`): `add_entry` of its block, then `delete_entry` of the blocks
of its kids, which are all present -/
theorem Dict.add_deleteAll_kids {d : Dict} {i : Nat} {ks : List Tree} {blkOf : Tree → Nat → T} (blk : T) (p : Nat)
    (hnd : (Tree.node i ks).ids.Nodup) (hd : ∀ n ∈ ks.map Tree.id, d (n, i) = kidTable blkOf ks i (n, i)) :
    ∃ d', (d.add (i, p) blk).deleteAll ((ks.map Tree.id).map (fun c => (c, i))) = some d' ∧
      ∀ k, d' k = if k ∈ (ks.map Tree.id).map (fun c => (c, i)) then none
                  else if k = (i, p) then some blk else d k := by
  simp only [Tree.ids, List.nodup_cons] at hnd
  exact Dict.deleteAll_spec (d.add (i, p) blk) _
    (nodup_map_of_inj_on _ (Tree.nodup_kid_ids ks hnd.2) (fun x _ y _ e => (Prod.mk.inj e).1))
    (fun k hk => by
      obtain ⟨n, hn, rfl⟩ := List.mem_map.1 hk
      have hne : ¬ ((n, i) = (i, p)) := fun e => hnd.1 (Tree.kid_id_mem ks i ((Prod.mk.inj e).1 ▸ hn))
      obtain ⟨c, -, hc⟩ := kidTable_of_mem blkOf ks i n hn
      simp only [Dict.add, hne, if_false, hd n hn, hc, Option.isSome_some])

/-- the bindings of the block of the kid with identifier `n` -/
def bbOf (ts : List Tree) (n : Nat) : List (Leg × Leg) :=
  ((ts.find? (fun c => c.id == n)).map ssBlockBinds).getD []

theorem ssKid_of_mem (ts : List Tree) (i n : Nat) (hn : n ∈ ts.map Tree.id) :
    kidTable ssBlock ts i (n, i) = some ⟨[Leg.gKet n i, Leg.gBra n i], bbOf ts n⟩ := by
  obtain ⟨c, hc, hid⟩ := find_kid_of_mem ts n hn
  simp [kidTable, bbOf, hc, ssBlock, hid]

/-- looking every kid up by its identifier, in the order of the kids, visits the kids in order -/
theorem flatMap_kids {β γ : Type} (f : Tree → List β) (g : Nat → List β → List γ) : ∀ (ts : List Tree),
    (ts.map Tree.id).Nodup →
    (ts.map Tree.id).flatMap (fun n => g n (((ts.find? (fun c => c.id == n)).map f).getD [])) =
      ts.flatMap (fun c => g c.id (f c))
  | [], _ => rfl
  | c :: cs, hnd => by
    simp only [List.map_cons, List.nodup_cons] at hnd
    have htail : ∀ n ∈ cs.map Tree.id, g n ((((c :: cs).find? (fun c => c.id == n)).map f).getD []) =
        g n (((cs.find? (fun c => c.id == n)).map f).getD []) := by
      intro n hn
      have hb : (c.id == n) = false := by simpa using fun e : c.id = n => hnd.1 (e ▸ hn)
      simp [hb]
    simp only [List.map_cons, List.flatMap_cons, flatMap_congr htail, flatMap_kids f g cs hnd.2]
    simp

theorem kidsBinds_eq (i : Nat) (ts : List Tree) (hnd : (ts.map Tree.id).Nodup) :
    (ts.map Tree.id).flatMap (fun n => bbOf ts n ++ [ketEdge i n]) = ssKidsBinds i ts := by
  refine (flatMap_kids ssBlockBinds (fun n l => l ++ [ketEdge i n]) ts hnd).trans ?_
  induction ts with
  | nil => rfl
  | cons c cs ih => simp only [List.flatMap_cons, ssKidsBinds, ih (List.nodup_cons.1 hnd).2]

/-! `ssLoop` and `soLoop` are one loop over two steps.  All that is used of the step is `hstep`: on a dictionary that holds
the blocks of the kids of node `i` it enters the block of the subtree at `i` and deletes theirs.  The invariant: after the
post-order of a subtree the dictionary is the old one with the subtree's block added (`loop_subtree`), after that of a forest the
old one with the kid table of the forest (`loop_forest`).  What is asked of the networks is a predicate `Q` on one entry of
`Tree.info`, for every entry of the subtree. -/

/-- what a loop step does at a non-root node whose kids' blocks are in the dictionary -/
def NodeStep (step : Dict → Nat → Option Dict) (blkOf : Tree → Nat → T)
    (P : List (Nat × Option Nat × List Nat) → Prop) : Prop :=
  ∀ (i p : Nat) (ks : List Tree) (d : Dict), (Tree.node i ks).ids.Nodup → p ∉ (Tree.node i ks).ids →
    P [(i, some p, ks.map Tree.id)] → (∀ n ∈ ks.map Tree.id, d (n, i) = kidTable blkOf ks i (n, i)) →
    ∃ d', step d i = some d' ∧ ∀ k, d' k = if k ∈ (ks.map Tree.id).map (fun c => (c, i)) then none
      else if k = (i, p) then some (blkOf (Tree.node i ks) p) else d k

section loop
variable {loop : List Nat → Dict → Option Dict} {step : Dict → Nat → Option Dict}
  (hnil : ∀ d, loop [] d = some d) (hcons : ∀ i rest d, loop (i :: rest) d = (step d i).bind (loop rest))
include hnil hcons

theorem loop_append (l1 l2 : List Nat) (d : Dict) : loop (l1 ++ l2) d = (loop l1 d).bind (loop l2) := by
  induction l1 generalizing d with
  | nil => rw [List.nil_append, hnil]; rfl
  | cons i rest ih =>
    rw [List.cons_append, hcons, hcons]
    cases step d i with
    | none => rfl
    | some d1 => exact ih d1

variable {blkOf : Tree → Nat → T} {Q : Nat × Option Nat × List Nat → Prop}

mutual
theorem loop_subtree (hstep : NodeStep step blkOf fun l => ∀ e ∈ l, Q e) :
    ∀ (t : Tree) (p : Nat) (d : Dict), t.ids.Nodup → p ∉ t.ids →
      (∀ e ∈ Tree.info (some p) t, Q e) → (∀ j ∈ t.ids, ∀ x, d (j, x) = none) →
      ∃ d', loop t.post d = some d' ∧ ∀ k, d' k = if k = (t.id, p) then some (blkOf t p) else d k
  | .node i ks, p, d, hnd, hp, hrep, hfresh => by
    have hnd' := hnd
    simp only [Tree.ids, List.nodup_cons] at hnd'
    obtain ⟨df, hf1, hf2⟩ := loop_forest hstep ks i d hnd'.2 hnd'.1
      (fun e he => hrep e (by simp [Tree.info, he]))
      (fun j hj x => hfresh j (by simp [Tree.ids, hj]) x)
    have hik : i ∉ ks.map Tree.id := fun hm => hnd'.1 (Tree.kid_id_mem ks i hm)
    obtain ⟨d', hs1, hs2⟩ := hstep i p ks df hnd hp
      (fun e he => hrep e (by simp [Tree.info, List.mem_singleton.1 he]))
      (fun n hn => by
        obtain ⟨c, -, hc⟩ := kidTable_of_mem blkOf ks i n hn
        rw [hf2 (n, i), hc]; rfl)
    refine ⟨d', by simp [Tree.post, loop_append hnil hcons, hf1, hcons, hnil, hs1], fun k => ?_⟩
    show d' k = if k = (i, p) then some (blkOf (Tree.node i ks) p) else d k
    rw [hs2 k]
    by_cases hk : k ∈ (ks.map Tree.id).map (fun c => (c, i))
    · obtain ⟨n, hn, rfl⟩ := List.mem_map.1 hk
      have hne : ¬ ((n, i) = (i, p)) := fun e => hik ((Prod.mk.inj e).1 ▸ hn)
      rw [if_pos hk, if_neg hne]
      exact (hfresh n (by simp [Tree.ids, Tree.kid_id_mem ks n hn]) i).symm
    · rw [if_neg hk]
      by_cases hk2 : k = (i, p)
      · rw [if_pos hk2, if_pos hk2]
      · rw [if_neg hk2, if_neg hk2, hf2 k, kidTable_none blkOf ks i k hk]; rfl
theorem loop_forest (hstep : NodeStep step blkOf fun l => ∀ e ∈ l, Q e) :
    ∀ (ts : List Tree) (i : Nat) (d : Dict), (Tree.idsL ts).Nodup → i ∉ Tree.idsL ts →
      (∀ e ∈ Tree.infoL i ts, Q e) → (∀ j ∈ Tree.idsL ts, ∀ x, d (j, x) = none) →
      ∃ d', loop (Tree.postL ts) d = some d' ∧ ∀ k, d' k = (kidTable blkOf ts i k).or (d k)
  | [], i, d, _, _, _, _ => ⟨d, hnil d, fun k => by simp [kidTable]⟩
  | c :: cs, i, d, hnd, hi, hrep, hfresh => by
    simp only [Tree.idsL, List.nodup_append] at hnd
    simp only [Tree.idsL, List.mem_append, not_or] at hi
    obtain ⟨d1, h11, h12⟩ := loop_subtree hstep c i d hnd.1 hi.1
      (fun e he => hrep e (by simp [Tree.infoL, he]))
      (fun j hj x => hfresh j (by simp [Tree.idsL, hj]) x)
    obtain ⟨d2, h21, h22⟩ := loop_forest hstep cs i d1 hnd.2.1 hi.2
      (fun e he => hrep e (by simp [Tree.infoL, he]))
      (fun j hj x => by
        have hne : ¬ ((j, x) = (c.id, i)) := fun e =>
          hnd.2.2 _ (Tree.id_mem_ids c) _ hj (Prod.mk.inj e).1.symm
        rw [h12 (j, x), if_neg hne]
        exact hfresh j (by simp [Tree.idsL, hj]) x)
    refine ⟨d2, by simp [Tree.postL, loop_append hnil hcons, h11, h21], fun k => ?_⟩
    rw [h22 k, kidTable_cons, h12 k]
    by_cases hk : k = (c.id, i)
    · have hnone : kidTable blkOf cs i k = none := by
        apply kidTable_none
        intro hm
        obtain ⟨n, hn, e⟩ := List.mem_map.1 hm
        rw [hk] at e
        exact hnd.2.2 _ (Tree.id_mem_ids c) _ (Tree.kid_id_mem cs n hn) (Prod.mk.inj e).1.symm
      rw [hnone, if_pos hk, if_pos hk]; rfl
    · rw [if_neg hk, if_neg hk]
end

/-- started on the empty dictionary, the loop over the kids of `i` leaves exactly their blocks -/
theorem loop_forest_empty (hstep : NodeStep step blkOf fun l => ∀ e ∈ l, Q e)
    (ts : List Tree) (i : Nat) (hnd : (Tree.idsL ts).Nodup) (hi : i ∉ Tree.idsL ts)
    (hrep : ∀ e ∈ Tree.infoL i ts, Q e) :
    ∃ d, loop (Tree.postL ts) Dict.empty = some d ∧ ∀ k, d k = kidTable blkOf ts i k := by
  obtain ⟨d, h1, h2⟩ := loop_forest hnil hcons hstep ts i Dict.empty hnd hi hrep (fun _ _ _ => rfl)
  exact ⟨d, h1, fun k => by rw [h2 k]; exact Option.or_none⟩

end loop

theorem ssLoop_cons (s1 s2 : Net) (i : Nat) (rest : List Nat) (d : Dict) :
    ssLoop s1 s2 (i :: rest) d = (ssStep s1 s2 d i).bind (ssLoop s1 s2 rest) := by
  rw [ssLoop]; cases ssStep s1 s2 d i <;> rfl

theorem ssLoop_append (s1 s2 : Net) (l1 l2 : List Nat) (d : Dict) :
    ssLoop s1 s2 (l1 ++ l2) d = (ssLoop s1 s2 l1 d).bind (fun d1 => ssLoop s1 s2 l2 d1) :=
  loop_append (fun _ => rfl) (ssLoop_cons s1 s2) l1 l2 d

/-- two networks on the same tree part: same parents, independent child orders (`kids2` those of the second), node tensors made
by `mk1` / `mk2` -/
def RepG (mk1 mk2 : Nat → Node → T) (s1 s2 : Net) (kids2 : Nat → List Nat)
    (info : List (Nat × Option Nat × List Nat)) : Prop :=
  ∀ e ∈ info,
    s1.node e.1 = some ⟨e.2.1, e.2.2⟩ ∧ s1.tensor e.1 = some (mk1 e.1 ⟨e.2.1, e.2.2⟩) ∧
    s2.node e.1 = some ⟨e.2.1, kids2 e.1⟩ ∧ s2.tensor e.1 = some (mk2 e.1 ⟨e.2.1, kids2 e.1⟩) ∧
    (kids2 e.1).Perm e.2.2

theorem repG_netOf (mk1 mk2 : Nat → Node → T) (t : Tree) (hnd : t.ids.Nodup) (kids2 : Nat → List Nat)
    (hperm : ∀ e ∈ Tree.info none t, (kids2 e.1).Perm e.2.2) :
    RepG mk1 mk2 (netOf t (fun _ ks => ks) mk1) (netOf t (fun i _ => kids2 i) mk2) kids2 (Tree.info none t) := fun e he =>
  let h1 := netOf_node t (fun _ ks => ks) mk1 hnd e he
  let h2 := netOf_node t (fun i _ => kids2 i) mk2 hnd e he
  ⟨h1.1, h1.2, h2.1, h2.2, hperm e he⟩

/-- what the node steps use of a non-root node `i` (parent `p`, kids `ks`) of two such networks -/
theorem node_nbrs_facts {mk1 mk2 : Nat → Node → T} {s1 s2 : Net} {kids2 : Nat → List Nat} {i p : Nat} {ks : List Tree}
    (hnd : (Tree.node i ks).ids.Nodup) (hp : p ∉ (Tree.node i ks).ids)
    (hrep : RepG mk1 mk2 s1 s2 kids2 [(i, some p, ks.map Tree.id)]) :
    let n : Node := ⟨some p, ks.map Tree.id⟩
    let n' : Node := ⟨some p, kids2 i⟩
    (s1.node i = some n ∧ s1.tensor i = some (mk1 i n) ∧ s2.node i = some n' ∧ s2.tensor i = some (mk2 i n')) ∧
      (ks.map Tree.id).Nodup ∧ p ∉ ks.map Tree.id ∧ n.nbrs.Nodup ∧ n'.nbrs.Nodup ∧
      n'.nbrs.Perm (n.nbrs.map id) ∧ n.nbrs.filter (· ≠ p) = ks.map Tree.id := by
  obtain ⟨h1, h2, h3, h4, hperm⟩ := hrep (i, some p, ks.map Tree.id) (by simp)
  simp only [Tree.ids, List.nodup_cons] at hnd
  simp only [Tree.ids, List.mem_cons, not_or] at hp
  have hkn : (ks.map Tree.id).Nodup := Tree.nodup_kid_ids ks hnd.2
  have hpk : p ∉ ks.map Tree.id := fun hm => hp.2 (Tree.kid_id_mem ks p hm)
  have hK : (Node.mk (some p) (ks.map Tree.id)).nbrs.Nodup := by
    simp [Node.nbrs, hpk, hkn]
  have hpermN : (Node.mk (some p) (kids2 i)).nbrs.Perm (Node.mk (some p) (ks.map Tree.id)).nbrs := by
    simp [Node.nbrs, hperm]
  exact ⟨⟨h1, h2, h3, h4⟩, hkn, hpk, hK, hpermN.nodup_iff.2 hK, by rwa [List.map_id],
    Node.nbrs_filter_parent p (ks.map Tree.id) hpk⟩

def Rep (s1 s2 : Net) (braKids : Nat → List Nat) (info : List (Nat × Option Nat × List Nat)) : Prop :=
  RepG gKetT gBraT s1 s2 braKids info

section
variable (s1 s2 : Net) (braKids : Nat → List Nat)

/-- the block of a non-root node, given that the blocks of all kids are in the dictionary -/
theorem ssContractAny_node (i p : Nat) (ks : List Tree) (d : Dict)
    (hnd : (Tree.node i ks).ids.Nodup) (hp : p ∉ (Tree.node i ks).ids)
    (hrep : Rep s1 s2 braKids [(i, some p, ks.map Tree.id)])
    (hd : ∀ n ∈ ks.map Tree.id, d (n, i) = kidTable ssBlock ks i (n, i)) :
    ssContractAny i p s1 s2 d = some (ssBlock (Tree.node i ks) p) := by
  obtain ⟨⟨h1, h2, h3, h4⟩, hkn, hpk, hK, hB, hpermN, hfilter⟩ := node_nbrs_facts hnd hp hrep
  have hany := contract_any_nodes_general (Leg.gKet i) (Leg.gBra i) (fun n => Leg.gKet n i) (fun n => Leg.gBra n i)
    (Leg.gKetPhys i) (Leg.gBraPhys i) (bbOf ks) (d.cacheOf i) ⟨some p, ks.map Tree.id⟩ ⟨some p, braKids i⟩ p id
    hK hB (by simp [Node.nbrs]) hpermN rfl
    (fun n hn hne => by
      have hn' : n ∈ ks.map Tree.id := hfilter ▸ List.mem_filter.2 ⟨hn, by simpa using hne⟩
      simp only [Dict.cacheOf, hd n hn', ssKid_of_mem ks i n hn'])
  have hkb := kidsBinds_eq i ks hkn
  simp only [ketEdge] at hkb
  rw [hfilter, hkb] at hany
  simp only [ssContractAny, h1, h2, h3, h4, gKetT, gBraT]
  rw [hany]
  simp [ssBlock, ssBlockBinds, Tree.id, braEdge, physPair, List.map_map, Function.comp]

theorem ssStep_node : NodeStep (ssStep s1 s2) ssBlock (Rep s1 s2 braKids) := by
  intro i p ks d hnd hp hrep hd
  obtain ⟨d', hdel, hspec⟩ := Dict.add_deleteAll_kids (ssBlock (Tree.node i ks) p) p hnd hd
  exact ⟨d', by simp only [ssStep, (hrep _ (List.mem_singleton_self _)).1,
    ssContractAny_node s1 s2 braKids i p ks d hnd hp hrep hd, hdel], hspec⟩

theorem ssLoop_subtree :
    ∀ (t : Tree) (p : Nat) (d : Dict), t.ids.Nodup → p ∉ t.ids →
      Rep s1 s2 braKids (Tree.info (some p) t) → (∀ j ∈ t.ids, ∀ x, d (j, x) = none) →
      ∃ d', ssLoop s1 s2 t.post d = some d' ∧
        ∀ k, d' k = if k = (t.id, p) then some (ssBlock t p) else d k :=
  loop_subtree (fun _ => rfl) (ssLoop_cons s1 s2) (ssStep_node s1 s2 braKids)

theorem ssLoop_forest_empty (ts : List Tree) (i : Nat) (hnd : (Tree.idsL ts).Nodup) (hi : i ∉ Tree.idsL ts)
    (hrep : Rep s1 s2 braKids (Tree.infoL i ts)) :
    ∃ d, ssLoop s1 s2 (Tree.postL ts) Dict.empty = some d ∧ ∀ k, d k = kidTable ssBlock ts i k :=
  loop_forest_empty (fun _ => rfl) (ssLoop_cons s1 s2) (ssStep_node s1 s2 braKids)
    ts i hnd hi hrep

end

/-- the root step, given that the blocks of all kids are in the dictionary -/
theorem ssRoot_node (s1 s2 : Net) (braKids : Nat → List Nat) (r : Nat) (ks : List Tree) (d : Dict)
    (hnd : (Tree.node r ks).ids.Nodup) (hrep : Rep s1 s2 braKids [(r, none, ks.map Tree.id)])
    (hd : ∀ n ∈ ks.map Tree.id, d (n, r) = kidTable ssBlock ks r (n, r)) :
    ssContractNodeWithEnvironment r s1 s2 d = some ⟨[], ssRootBinds (.node r ks) (braKids r)⟩ := by
  obtain ⟨h1, h2, h3, h4, hp⟩ := hrep (r, none, ks.map Tree.id) (by simp)
  simp only at h1 h2 h3 h4 hp
  simp only [Tree.ids, List.nodup_cons] at hnd
  have hkn : (ks.map Tree.id).Nodup := Tree.nodup_kid_ids ks hnd.2
  have hnb1 : (Node.mk none (ks.map Tree.id)).nbrs = ks.map Tree.id := by simp [Node.nbrs]
  have hnb2 : (Node.mk none (braKids r)).nbrs = braKids r := by simp [Node.nbrs]
  have hroot := contract_root_general (Leg.gKet r) (Leg.gBra r) (fun n => Leg.gKet n r) (fun n => Leg.gBra n r)
    (Leg.gKetPhys r) (Leg.gBraPhys r) (bbOf ks) (d.cacheOf r) ⟨none, ks.map Tree.id⟩ ⟨none, braKids r⟩
    (hnb1 ▸ hkn) (hnb2 ▸ hp.nodup_iff.2 hkn) (by rw [hnb1, hnb2]; exact hp)
    (fun n hn => by
      rw [hnb1] at hn
      simp only [Dict.cacheOf, hd n hn, ssKid_of_mem ks r n hn])
  have hkb := kidsBinds_eq r ks hkn
  simp only [ketEdge] at hkb
  rw [hnb1, hnb2, hkb] at hroot
  simp only [ssContractNodeWithEnvironment, h1, h2, h3, h4, gKetT, gBraT, hnb1, hnb2]
  rw [hroot]
  simp [ssRootBinds, Tree.id, Tree.kids, braEdge, physPair]

/-- the record in the order the code binds: the equality behind `contract_two_ttns_graph` -/
theorem contractTwoTtns_eq (t : Tree) (hnd : t.ids.Nodup) (braKids : Nat → List Nat)
    (hperm : ∀ e ∈ Tree.info none t, (braKids e.1).Perm e.2.2) :
    contractTwoTtns (netOf t (fun _ ks => ks) gKetT) (netOf t (fun i _ => braKids i) gBraT) =
      some ⟨[], ssRootBinds t (braKids t.id)⟩ := by
  obtain ⟨r, ks⟩ := t
  have hrep := repG_netOf gKetT gBraT (.node r ks) hnd braKids hperm
  have hnd' := hnd
  simp only [Tree.ids, List.nodup_cons] at hnd'
  obtain ⟨d, hl, hd⟩ := ssLoop_forest_empty _ _ braKids ks r hnd'.2 hnd'.1
    (fun e he => hrep e (by simp [Tree.info, he]))
  have horder : (netOf (.node r ks) (fun _ ks => ks) gKetT).order = Tree.postL ks ++ [r] := rfl
  have hr1 : (netOf (.node r ks) (fun _ ks => ks) gKetT).root = r := rfl
  have hr2 : (netOf (.node r ks) (fun i _ => braKids i) gBraT).root = r := rfl
  simp only [contractTwoTtns, horder, hr1, hr2, List.getLast?_concat, List.dropLast_concat, ne_eq,
    not_true_eq_false, or_self, if_false, hl]
  exact ssRoot_node _ _ braKids r ks d hnd (fun e he => hrep e (by simp [Tree.info, List.mem_singleton.1 he]))
    (fun n _ => hd (n, r))

mutual
theorem count_blockBinds (x : Leg × Leg) : ∀ t : Tree, (ssBlockBinds t).count x = (ssSpec t).count x
  | .node i ks => by
    have := count_kidsBinds x i ks
    simp only [ssBlockBinds, ssSpec, List.count_append, List.count_cons, List.count_nil]
    omega
theorem count_kidsBinds (x : Leg × Leg) (i : Nat) : ∀ ts : List Tree,
    (ssKidsBinds i ts).count x + (ts.map fun c => braEdge i c.id).count x = (ssSpecL i ts).count x
  | [] => by simp [ssKidsBinds, ssSpecL]
  | c :: cs => by
    have h1 := count_blockBinds x c
    have h2 := count_kidsBinds x i cs
    simp only [ssKidsBinds, ssSpecL, List.map_cons, List.count_append, List.count_cons, List.count_nil]
    omega
end

theorem ssRootBinds_perm (t : Tree) (bk : List Nat) (hp : bk.Perm (t.kids.map Tree.id)) :
    (ssRootBinds t bk).Perm (ssSpec t) := by
  rw [List.perm_iff_count]
  intro x
  obtain ⟨r, ks⟩ := t
  have h1 := count_kidsBinds x r ks
  have h2 : (bk.map (braEdge r)).count x = ((ks.map Tree.id).map (braEdge r)).count x :=
    (hp.map (braEdge r)).count_eq x
  simp only [List.map_map] at h2
  have h3 : (ks.map (braEdge r ∘ Tree.id)) = ks.map fun c => braEdge r c.id := rfl
  rw [h3] at h2
  simp only [ssRootBinds, ssSpec, Tree.id, Tree.kids, List.count_append, List.count_cons, List.count_nil]
  omega

mutual
theorem count_ssSpec_split (x : Leg × Leg) : ∀ t : Tree, (ssSpec t).count x =
    (t.ids.map physPair).count x + (t.edges.map fun e => ketEdge e.1 e.2).count x +
      (t.edges.map fun e => braEdge e.1 e.2).count x
  | .node i ks => by
    have := count_ssSpecL_split x i ks
    simp only [ssSpec, Tree.ids, Tree.edges, List.map_cons, List.count_cons] at this ⊢
    omega
theorem count_ssSpecL_split (x : Leg × Leg) (i : Nat) : ∀ ts : List Tree, (ssSpecL i ts).count x =
    ((Tree.idsL ts).map physPair).count x + ((Tree.edgesL i ts).map fun e => ketEdge e.1 e.2).count x +
      ((Tree.edgesL i ts).map fun e => braEdge e.1 e.2).count x
  | [] => by simp [ssSpecL, Tree.idsL, Tree.edgesL]
  | c :: cs => by
    have h1 := count_ssSpec_split x c
    have h2 := count_ssSpecL_split x i cs
    simp only [ssSpecL, Tree.idsL, Tree.edgesL, List.map_cons, List.map_append, List.count_cons, List.count_append]
      at h1 h2 ⊢
    omega
end

theorem ssSpec_perm (t : Tree) : (ssSpec t).Perm (t.ids.map physPair ++
    ((t.edges.map fun e => ketEdge e.1 e.2) ++ t.edges.map fun e => braEdge e.1 e.2)) :=
  List.perm_iff_count.2 fun x => by simp only [count_ssSpec_split x t, List.count_append, Nat.add_assoc]

theorem mem_ssSpecL (x : Leg × Leg) (i : Nat) : ∀ ts : List Tree,
    x ∈ ssSpecL i ts ↔ (∃ n ∈ Tree.idsL ts, x = physPair n) ∨
      (∃ e ∈ Tree.edgesL i ts, x = ketEdge e.1 e.2 ∨ x = braEdge e.1 e.2) := fun _ => by
    simp only [← List.count_pos_iff, count_ssSpecL_split x i, Nat.add_pos_iff_pos_or_pos]
    simp only [List.count_pos_iff, List.mem_map, exists_or, and_or_left, @eq_comm _ x, or_assoc]

end Ptn.C04
