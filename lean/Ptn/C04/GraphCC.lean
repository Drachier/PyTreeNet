import Ptn.C04.TreeInduct
import Ptn.C04.Lemmas
/-! `completely_contract_tree` and `TTNO.as_matrix` on labels. -/
namespace Ptn.C04

def openLegs (ids : List Nat) : List Leg := ids.flatMap (fun j => [Leg.gOpOut j, Leg.gOpIn j])

theorem nparents_eq (p : Option Nat) (c1 c2 : List Nat) : (Node.mk p c1).nparents = (Node.mk p c2).nparents := rfl

mutual
theorem ccTree_spec : ∀ (t : Tree) (p : Option Nat), t.ids.Nodup → (∀ j ∈ t.ids, p ≠ some j) →
    ccTree p t = some (t.ids, ⟨p.toList.map (Leg.gOp t.id) ++ openLegs t.ids, ccBinds t⟩)
  | .node i ks, p, hnd, hp => by
    simp only [Tree.ids, List.nodup_cons] at hnd
    have h := ccKids_spec ks i p [i] (p.toList.map (Leg.gOp i)) [Leg.gOpOut i, Leg.gOpIn i] [] hnd.2 hnd.1
      (fun j hj => hp j (by simp [Tree.ids, hj])) (by cases p <;> simp [Node.nparents])
    simp only [ccTree, gOpT, T.fresh, Node.nbrs, List.map_append, List.append_assoc, List.map_map]
    rw [h]
    simp [Tree.ids, Tree.id, ccBinds, openLegs, List.flatMap_cons]
theorem ccKids_spec : ∀ (cs : List Tree) (i : Nat) (p : Option Nat) (order : List Nat) (P opens : List Leg)
    (bs : List (Leg × Leg)), (Tree.idsL cs).Nodup → i ∉ Tree.idsL cs → (∀ j ∈ Tree.idsL cs, p ≠ some j) →
    P.length = (Node.mk p []).nparents →
    ccKids i p cs (cs.map Tree.id) order ⟨P ++ (cs.map (Leg.gOp i ∘ Tree.id) ++ opens), bs⟩ =
      some (order ++ Tree.idsL cs, ⟨P ++ (opens ++ openLegs (Tree.idsL cs)), bs ++ ccKidsBinds i cs⟩)
  | [], i, p, order, P, opens, bs, _, _, _, _ => by simp [ccKids, Tree.idsL, openLegs, ccKidsBinds]
  | c :: cs, i, p, order, P, opens, bs, hnd, hi, hp, hP => by
    simp only [Tree.idsL, List.nodup_append] at hnd
    obtain ⟨hnd1, hnd2, hdisj⟩ := hnd
    simp only [Tree.idsL, List.mem_append, not_or] at hi
    have hc := ccTree_spec c (some i) hnd1 (fun j hj e => hi.1 ((Option.some.inj e) ▸ hj))
    have hpc : p ≠ some c.id := hp c.id (by simp [Tree.idsL, Tree.id_mem_ids c])
    have hidx : (Node.mk p (c.id :: cs.map Tree.id)).neighbourIndex c.id = some P.length := by
      simp only [Node.neighbourIndex, hpc, if_false, List.mem_cons, true_or, if_true, List.idxOf_cons_self,
        Nat.zero_add, hP]
      rfl
    have htd : tensordot ⟨P ++ (Leg.gOp i c.id :: (cs.map (Leg.gOp i ∘ Tree.id) ++ opens)), bs⟩
        ⟨[Leg.gOp c.id i] ++ openLegs c.ids, ccBinds c⟩ [P.length] [0] =
        some ⟨P ++ (cs.map (Leg.gOp i ∘ Tree.id) ++ opens) ++ openLegs c.ids,
              bs ++ ccBinds c ++ [(Leg.gOp i c.id, Leg.gOp c.id i)]⟩ := by
      rw [tensordot_one _ _ _ _ (Leg.gOp i c.id) (Leg.gOp c.id i) (by simp) (by simp)]
      simp [eraseIdx_mid]
    have ih := ccKids_spec cs i p (order ++ c.ids) P (opens ++ openLegs c.ids)
      (bs ++ ccBinds c ++ [(Leg.gOp i c.id, Leg.gOp c.id i)]) hnd2 hi.2
      (fun j hj => hp j (by simp [Tree.idsL, hj])) hP
    simp only [ccKids, List.map_cons, Function.comp_apply, hc, Option.toList_some, List.map_nil, hidx,
      List.erase_cons_head, List.cons_append, List.nil_append]
    simp only [List.cons_append, List.nil_append] at htd
    rw [htd]
    simp only [List.append_assoc] at ih ⊢
    rw [ih]
    simp [Tree.idsL, openLegs, ccKidsBinds, List.flatMap_append]
end

/-- the equality behind `as_matrix_graph_partial` -/
theorem asMatrix_eq (t : Tree) (hnd : t.ids.Nodup) :
    asMatrix t = some (t.ids, t.ids.map Leg.gOpOut, t.ids.map Leg.gOpIn, ccBinds t) := by
  have h := ccTree_spec t none hnd (fun _ _ => by simp)
  simp only [Option.toList_none, List.map_nil, List.nil_append] at h
  have hlen : (openLegs t.ids).length = 2 * t.ids.length := length_pairs t.ids Leg.gOpOut Leg.gOpIn
  have hhalf : (openLegs t.ids).length / 2 = t.ids.length := by omega
  have p1 := pick_pairs false [] t.ids Leg.gOpOut Leg.gOpIn []
  have p2 := pick_pairs true [] t.ids Leg.gOpOut Leg.gOpIn []
  simp only [List.nil_append, List.append_nil, List.length_nil, Nat.add_zero, Bool.toNat_true, Bool.toNat_false,
    if_true, Bool.false_eq_true, if_false] at p1 p2
  simp only [asMatrix, h, hhalf]
  unfold openLegs at hlen ⊢
  simp only [p1, p2, hlen, if_true]

mutual
theorem count_ccBinds (x : Leg × Leg) : ∀ t : Tree,
    (ccBinds t).count x = (t.edges.map fun e => (Leg.gOp e.1 e.2, Leg.gOp e.2 e.1)).count x
  | .node i ks => by simp only [ccBinds, Tree.edges, count_ccKidsBinds x i ks]
theorem count_ccKidsBinds (x : Leg × Leg) (i : Nat) : ∀ ts : List Tree,
    (ccKidsBinds i ts).count x = ((Tree.edgesL i ts).map fun e => (Leg.gOp e.1 e.2, Leg.gOp e.2 e.1)).count x
  | [] => by simp [ccKidsBinds, Tree.edgesL]
  | c :: cs => by
    have h1 := count_ccBinds x c
    have h2 := count_ccKidsBinds x i cs
    simp only [ccKidsBinds, Tree.edgesL, List.map_cons, List.map_append, List.count_append, List.count_cons,
      List.count_nil, h1, h2]
    omega
end

end Ptn.C04
