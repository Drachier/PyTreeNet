import Ptn.C04.OpRoot
import Ptn.C04.GraphSS
/-! `expectation_value` along the whole tree: every cached block denotes its subtree (three layers). -/
namespace Ptn.C04

/-- the bindings of the block of the kid with identifier `n` -/
def soBbOf (ts : List Tree) (n : Nat) : List (Leg × Leg) :=
  ((ts.find? (fun c => c.id == n)).map soBlockBinds).getD []

/-- the entry of kid `k.1` of node `i` -/
def soKidBlock (ts : List Tree) (i : Nat) (k : Nat × Nat) : Option T :=
  if k.2 = i then (ts.find? (fun c => c.id == k.1)).map (fun c => soBlock c i) else none

theorem soKidBlock_of_mem (ts : List Tree) (i n : Nat) (hn : n ∈ ts.map Tree.id) :
    soKidBlock ts i (n, i) = some ⟨[Leg.gKet n i, Leg.gOp n i, Leg.gBra n i], soBbOf ts n⟩ := by
  obtain ⟨c, hc, hid⟩ := find_kid_of_mem ts n hn
  simp [soKidBlock, soBbOf, hc, soBlock, hid]

theorem soKidsBinds_eq (i : Nat) : ∀ (ts : List Tree), (ts.map Tree.id).Nodup →
    (ts.map Tree.id).flatMap (fun n => soBbOf ts n ++ [ketEdge i n]) = soKidsBinds i ts := by
  intro ts hnd
  refine (flatMap_kids soBlockBinds (fun n l => l ++ [ketEdge i n]) ts hnd).trans ?_
  induction ts with
  | nil => rfl
  | cons c cs ih => simp only [List.flatMap_cons, soKidsBinds, ih (List.nodup_cons.1 hnd).2]

theorem soLoop_cons (s1 s2 : Net) (braOf : Nat → Node → T) (i : Nat) (rest : List Nat) (d : Dict) :
    soLoop s1 s2 braOf (i :: rest) d = (soStep s1 s2 braOf d i).bind (soLoop s1 s2 braOf rest) := by
  rw [soLoop]; cases soStep s1 s2 braOf d i <;> rfl

def RepO (s1 s2 : Net) (opKids : Nat → List Nat) (info : List (Nat × Option Nat × List Nat)) : Prop :=
  RepG gKetT gOpT s1 s2 opKids info

section
variable (s1 s2 : Net) (opKids : Nat → List Nat)

/-- the block of a non-root node, given that the blocks of all kids are in the dictionary -/
theorem soContractAny_node (i p : Nat) (ks : List Tree) (d : Dict)
    (hnd : (Tree.node i ks).ids.Nodup) (hp : p ∉ (Tree.node i ks).ids)
    (hrep : RepO s1 s2 opKids [(i, some p, ks.map Tree.id)])
    (hd : ∀ n ∈ ks.map Tree.id, d (n, i) = soKidBlock ks i (n, i)) :
    soContractAny i p s1 s2 gBraT d = some (soBlock (Tree.node i ks) p) := by
  obtain ⟨⟨h1, h2, h3, h4⟩, hkn, hpk, hK, hO, hpermN, hfilter⟩ := node_nbrs_facts hnd hp hrep
  have hany := op_any_general (Leg.gKet i) (Leg.gOp i) (Leg.gBra i) (fun n => Leg.gKet n i) (fun n => Leg.gOp n i)
    (fun n => Leg.gBra n i) (Leg.gKetPhys i) (Leg.gOpOut i) (Leg.gOpIn i) (Leg.gBraPhys i) (soBbOf ks) (d.cacheOf i)
    ⟨some p, ks.map Tree.id⟩ ⟨some p, opKids i⟩ ⟨some p, ks.map Tree.id⟩ p id id
    hK hO hK (by simp [Node.nbrs]) hpermN (by simp) rfl rfl
    (fun n hn hne => by
      have hn' : n ∈ ks.map Tree.id := hfilter ▸ List.mem_filter.2 ⟨hn, by simpa using hne⟩
      simp only [Dict.cacheOf, hd n hn', soKidBlock_of_mem ks i n hn'])
  have hkb := soKidsBinds_eq i ks hkn
  simp only [ketEdge] at hkb
  rw [hfilter, hkb] at hany
  simp only [soContractAny, h1, h2, h3, h4, gKetT, gBraT, gOpT]
  rw [hany]
  cases ks with
  | nil => simp [soBlock, soBlockBinds, Tree.id, Node.isLeaf, physOut, physIn]
  | cons c cs =>
    have hid : (Tree.node i (c :: cs)).id = i := rfl
    simp [soBlock, soBlockBinds, hid, Node.isLeaf, braEdge, opEdge, physOut, physIn, List.map_map]
    rfl

theorem soStep_node : NodeStep (soStep s1 s2 gBraT) soBlock (RepO s1 s2 opKids) := by
  intro i p ks d hnd hp hrep hd
  obtain ⟨d', hdel, hspec⟩ := Dict.add_deleteAll_kids (soBlock (Tree.node i ks) p) p hnd hd
  exact ⟨d', by simp only [soStep, (hrep _ (List.mem_singleton_self _)).1,
    soContractAny_node s1 s2 opKids i p ks d hnd hp hrep hd, hdel], hspec⟩

theorem soLoop_forest :
    ∀ (ts : List Tree) (i : Nat) (d : Dict), (Tree.idsL ts).Nodup → i ∉ Tree.idsL ts →
      RepO s1 s2 opKids (Tree.infoL i ts) → (∀ j ∈ Tree.idsL ts, ∀ x, d (j, x) = none) →
      ∃ d', soLoop s1 s2 gBraT (Tree.postL ts) d = some d' ∧
        ∀ k, d' k = match soKidBlock ts i k with
                    | some b => some b
                    | none => d k := by
  intro ts i d hnd hi hrep hfresh
  obtain ⟨d', h1, h2⟩ := loop_forest (fun _ => rfl) (soLoop_cons s1 s2 gBraT)
    (soStep_node s1 s2 opKids) ts i d hnd hi hrep hfresh
  refine ⟨d', h1, fun k => (h2 k).trans ?_⟩
  show (soKidBlock ts i k).or (d k) = _
  cases soKidBlock ts i k <;> rfl

theorem soLoop_forest_empty (ts : List Tree) (i : Nat) (hnd : (Tree.idsL ts).Nodup) (hi : i ∉ Tree.idsL ts)
    (hrep : RepO s1 s2 opKids (Tree.infoL i ts)) :
    ∃ d, soLoop s1 s2 gBraT (Tree.postL ts) Dict.empty = some d ∧ ∀ k, d k = soKidBlock ts i k :=
  loop_forest_empty (fun _ => rfl) (soLoop_cons s1 s2 gBraT)
    (soStep_node s1 s2 opKids) ts i hnd hi hrep

end

/-- the root step, given that the blocks of all kids are in the dictionary -/
theorem soRoot_node (s1 s2 : Net) (opKids : Nat → List Nat) (r : Nat) (ks : List Tree) (d : Dict)
    (hnd : (Tree.node r ks).ids.Nodup) (hrep : RepO s1 s2 opKids [(r, none, ks.map Tree.id)])
    (hd : ∀ n ∈ ks.map Tree.id, d (n, r) = soKidBlock ks r (n, r)) :
    soContractNodeWithEnvironment r s1 s2 gBraT d = some ⟨[], soRootBinds (.node r ks)⟩ := by
  obtain ⟨h1, h2, h3, h4, hp⟩ := hrep (r, none, ks.map Tree.id) (by simp)
  simp only at h1 h2 h3 h4 hp
  simp only [Tree.ids, List.nodup_cons] at hnd
  have hkn : (ks.map Tree.id).Nodup := Tree.nodup_kid_ids ks hnd.2
  have hnb1 : (Node.mk none (ks.map Tree.id)).nbrs = ks.map Tree.id := by simp [Node.nbrs]
  have hnb2 : (Node.mk none (opKids r)).nbrs = opKids r := by simp [Node.nbrs]
  have hroot := opRoot_labels (Leg.gKet r) (Leg.gOp r) (Leg.gBra r) (fun n => Leg.gKet n r) (fun n => Leg.gOp n r)
    (fun n => Leg.gBra n r) (Leg.gKetPhys r) (Leg.gOpOut r) (Leg.gOpIn r) (Leg.gBraPhys r) (soBbOf ks) (d.cacheOf r)
    ⟨none, ks.map Tree.id⟩ ⟨none, opKids r⟩
    (hnb1 ▸ hkn) (hnb2 ▸ hp.nodup_iff.2 hkn) (by rw [hnb1, hnb2]; exact hp)
    (fun n hn => by
      rw [hnb1] at hn
      simp only [Dict.cacheOf, hd n hn, soKidBlock_of_mem ks r n hn])
  have hkb := soKidsBinds_eq r ks hkn
  simp only [ketEdge] at hkb
  rw [hnb1, hnb2, hkb] at hroot
  simp only [soContractNodeWithEnvironment, h1, h2, h3, h4, gKetT, gBraT, gOpT, hnb1, hnb2]
  rw [hroot]
  have hid : (Tree.node r ks).id = r := rfl
  have hkids : (Tree.node r ks).kids = ks := rfl
  simp [soRootBinds, hid, hkids, braEdge, opEdge, physIn, physOut, List.map_map]
  rfl

/-- the record in the order the code binds: the equality behind `expectation_value_graph` -/
theorem expectationValue_eq (t : Tree) (hnd : t.ids.Nodup) (opKids : Nat → List Nat)
    (hperm : ∀ e ∈ Tree.info none t, (opKids e.1).Perm e.2.2) :
    expectationValue (netOf t (fun _ ks => ks) gKetT) (netOf t (fun i _ => opKids i) gOpT) gBraT =
      some ⟨[], soRootBinds t⟩ := by
  obtain ⟨r, ks⟩ := t
  have hrep := repG_netOf gKetT gOpT (.node r ks) hnd opKids hperm
  have hnd' := hnd
  simp only [Tree.ids, List.nodup_cons] at hnd'
  obtain ⟨d, hl, hd⟩ := soLoop_forest_empty _ _ opKids ks r hnd'.2 hnd'.1
    (fun e he => hrep e (by simp [Tree.info, he]))
  have horder : (netOf (.node r ks) (fun _ ks => ks) gKetT).order = Tree.postL ks ++ [r] := rfl
  have hr1 : (netOf (.node r ks) (fun _ ks => ks) gKetT).root = r := rfl
  have hr2 : (netOf (.node r ks) (fun i _ => opKids i) gOpT).root = r := rfl
  simp only [expectationValue, horder, hr1, hr2, List.getLast?_concat, List.dropLast_concat, ne_eq,
    not_true_eq_false, or_self, if_false, hl]
  exact soRoot_node _ _ opKids r ks d hnd (fun e he => hrep e (by simp [Tree.info, List.mem_singleton.1 he]))
    (fun n _ => hd (n, r))

mutual
theorem count_soBlockBinds (x : Leg × Leg) : ∀ t : Tree, (soBlockBinds t).count x = (soSpec t).count x
  | .node i [] => by
    simp only [soBlockBinds, soSpec, soSpecL, List.isEmpty_nil, if_true, List.count_cons, List.count_nil]
    omega
  | .node i (c :: cs) => by
    have := count_soKidsBinds x i (c :: cs)
    simp only [soBlockBinds, soSpec, List.isEmpty_cons, Bool.false_eq_true, if_false, List.count_append,
      List.count_cons, List.count_nil] at this ⊢
    omega
theorem count_soKidsBinds (x : Leg × Leg) (i : Nat) : ∀ ts : List Tree,
    (soKidsBinds i ts).count x + (ts.map fun c => opEdge i c.id).count x + (ts.map fun c => braEdge i c.id).count x
      = (soSpecL i ts).count x
  | [] => by simp [soKidsBinds, soSpecL]
  | c :: cs => by
    have h1 := count_soBlockBinds x c
    have h2 := count_soKidsBinds x i cs
    simp only [soKidsBinds, soSpecL, List.map_cons, List.count_append, List.count_cons, List.count_nil]
    omega
end

/-- a list of bound pairs read as unordered pairs -/
def unord (l : List (Leg × Leg)) : List (Leg × Leg) := l ++ l.map Prod.swap

theorem count_map_swap (x : Leg × Leg) (l : List (Leg × Leg)) : (l.map Prod.swap).count x = l.count x.swap := by
  induction l with
  | nil => rfl
  | cons a as ih =>
    simp only [List.map_cons, List.count_cons, ih]
    have : (a.swap == x) = (a == x.swap) := by
      obtain ⟨a1, a2⟩ := a
      obtain ⟨x1, x2⟩ := x
      show ((a2 == x1) && (a1 == x2)) = ((a1 == x2) && (a2 == x1))
      exact Bool.and_comm _ _
    rw [this]

theorem unord_swap_part (A B spec : List (Leg × Leg)) (h : ∀ y, (A ++ B).count y = spec.count y) :
    (unord (A ++ B.map Prod.swap)).Perm (unord spec) := by
  rw [List.perm_iff_count]
  intro x
  have h1 := h x
  have h2 := h x.swap
  simp only [unord, List.count_append, count_map_swap, List.map_append, Prod.swap_swap] at h1 h2 ⊢
  omega

theorem soRootBinds_perm (t : Tree) : (unord (soRootBinds t)).Perm (unord (soSpec t)) := by
  obtain ⟨r, ks⟩ := t
  have hid : (Tree.node r ks).id = r := rfl
  have hkids : (Tree.node r ks).kids = ks := rfl
  have heq : soRootBinds (Tree.node r ks) =
      (soKidsBinds r ks ++ ((ks.map fun c => opEdge r c.id) ++ [physIn r])) ++
      (((ks.map fun c => braEdge r c.id) ++ [physOut r]).map Prod.swap) := by
    simp [soRootBinds, hid, hkids, List.map_map, Function.comp]
  rw [heq]
  apply unord_swap_part
  intro y
  have := count_soKidsBinds y r ks
  simp only [soSpec, List.count_append, List.count_cons, List.count_nil] at this ⊢
  omega

mutual
theorem count_soSpec_split (x : Leg × Leg) : ∀ t : Tree, (soSpec t).count x =
    (t.ids.map physOut).count x + (t.ids.map physIn).count x + (t.edges.map fun e => ketEdge e.1 e.2).count x +
      (t.edges.map fun e => opEdge e.1 e.2).count x + (t.edges.map fun e => braEdge e.1 e.2).count x
  | .node i ks => by
    have := count_soSpecL_split x i ks
    simp only [soSpec, Tree.ids, Tree.edges, List.map_cons, List.count_cons] at this ⊢
    omega
theorem count_soSpecL_split (x : Leg × Leg) (i : Nat) : ∀ ts : List Tree, (soSpecL i ts).count x =
    ((Tree.idsL ts).map physOut).count x + ((Tree.idsL ts).map physIn).count x +
      ((Tree.edgesL i ts).map fun e => ketEdge e.1 e.2).count x +
      ((Tree.edgesL i ts).map fun e => opEdge e.1 e.2).count x +
      ((Tree.edgesL i ts).map fun e => braEdge e.1 e.2).count x
  | [] => by simp [soSpecL, Tree.idsL, Tree.edgesL]
  | c :: cs => by
    have h1 := count_soSpec_split x c
    have h2 := count_soSpecL_split x i cs
    simp only [soSpecL, Tree.idsL, Tree.edgesL, List.map_cons, List.map_append, List.count_cons, List.count_append]
      at h1 h2 ⊢
    omega
end

theorem soSpec_perm (t : Tree) : (soSpec t).Perm (t.ids.map physOut ++ ((t.ids.map physIn ++
    ((t.edges.map fun e => ketEdge e.1 e.2) ++ t.edges.map fun e => opEdge e.1 e.2)) ++
    t.edges.map fun e => braEdge e.1 e.2)) :=
  List.perm_iff_count.2 fun x => by simp only [count_soSpec_split x t, List.count_append, Nat.add_assoc]

theorem mem_soSpecL (x : Leg × Leg) (i : Nat) : ∀ ts : List Tree,
    x ∈ soSpecL i ts ↔ (∃ n ∈ Tree.idsL ts, x = physIn n ∨ x = physOut n) ∨
      (∃ e ∈ Tree.edgesL i ts, x = ketEdge e.1 e.2 ∨ x = opEdge e.1 e.2 ∨ x = braEdge e.1 e.2) := fun _ => by
    simp only [← List.count_pos_iff, count_soSpecL_split x i, Nat.add_pos_iff_pos_or_pos]
    simp only [List.count_pos_iff, List.mem_map, exists_or, and_or_left, @eq_comm _ x, or_assoc]
    exact or_left_comm

end Ptn.C04

/-! Unordered pairs counted (`unordL` of `Ptn/Common/List.lean` on legs) and the edge list of a child list up to order:
what the contexts and opened trees of C05 (`Ptn/C05/Ctx.lean`, `Opened.lean`) need of the projected-Hamiltonian files;
stated here, below them, so that those two files have no value-level file among their imports. -/
namespace Ptn.C05.Heff
open Ptn.C04 Ptn.Ein

theorem edgesL_perm (i : Nat) : ∀ ts : List Tree,
    (Tree.edgesL i ts).Perm ((ts.map fun c => (i, c.id)) ++ ts.flatMap Tree.edges)
  | [] => List.Perm.refl _
  | c :: cs => by
    simp only [Tree.edgesL, List.map_cons, List.flatMap_cons, List.cons_append]
    refine List.Perm.cons _ ?_
    refine (List.Perm.append_left _ (edgesL_perm i cs)).trans ?_
    rw [← List.append_assoc, ← List.append_assoc]
    refine List.Perm.append_right _ List.perm_append_comm

theorem count_unordL (x : Leg × Leg) (l : List (Leg × Leg)) : (unordL l).count x = l.count x + l.count x.swap := by
  simp [unordL, List.count_append, count_map_swap]

theorem ucount_append (x : Leg × Leg) (a b : List (Leg × Leg)) :
    (unordL (a ++ b)).count x = (unordL a).count x + (unordL b).count x := by
  simp only [count_unordL, List.count_append]
  omega

theorem ucount_nil (x : Leg × Leg) : (unordL ([] : List (Leg × Leg))).count x = 0 := rfl

theorem ucount_cons (x a : Leg × Leg) (l : List (Leg × Leg)) :
    (unordL (a :: l)).count x = [a, a.swap].count x + (unordL l).count x :=
  ((unordL_cons_perm a l).count_eq x).trans (List.count_append (l₁ := [a, a.swap]))

theorem ucount_map_swap {α : Type} (x : Leg × Leg) (l : List α) (f : α → Leg × Leg) :
    (unordL (l.map fun q => (f q).swap)).count x = (unordL (l.map f)).count x := by
  rw [show (l.map fun q => (f q).swap) = (l.map f).map Prod.swap by rw [List.map_map]; rfl]
  exact (unordL_map_swap _).count_eq x

end Ptn.C05.Heff
