import Ptn.C04.Bra
/-! Model (core Lean only) of the parts of `ttns.py` / `ttn.py` that are not the generic loops, and two lemmas on the index lists of
`absorb_into_open_legs` (hence the import of a lemma file):

  TreeTensorNetwork.absorb_into_open_legs            ↔ absorbIntoOpenLegs (+ absorbOrthCentre: what happens to the
                                                        recorded orthogonality centre)
  TreeTensorNetworkState.apply_operator              ↔ applyOperatorOrthCentre (the loop over the dictionary of the
                                                        TensorProduct: what is left of the recorded centre)
  TreeTensorNetworkState.scalar_product (shortcut)   ↔ centreScalarProduct
  …single_site_operator_expectation_value (shortcut) ↔ centreSingleSite
  TreeTensorNetwork.conjugate                        ↔ no leg bookkeeping at all (same structure, every tensor
                                                        replaced entry-wise): value level only, `conjExpr`
-/
namespace Ptn.C04

/-- `absorb_into_open_legs(node_id, tensor)` on labels.  `nvirt` = `node.nvirt_legs()`; the open legs of a node
are the positions `nvirt, …, ndim-1` (`node.open_legs`).  `assert tensor.ndim == 2 * nopen_legs`;
`tensor_legs = [i + nopen_legs for i in range(nopen_legs)]`; `np.tensordot(node_tensor, tensor, axes=(open_legs,
tensor_legs))`.  (The second assertion compares SHAPES and has no counterpart on labels.) -/
def absorbIntoOpenLegs (node op : T) (nvirt : Nat) : Option T :=
  let nopen := node.legs.length - nvirt
  if op.legs.length ≠ 2 * nopen then none
  else tensordot node op ((List.range nopen).map (· + nvirt)) ((List.range nopen).map (· + nopen))

/-- the last three lines of `absorb_into_open_legs`: `if self.orthogonality_center_id not in (None, node_id):
self.orthogonality_center_id = None` — the record survives only if the node IS the centre -/
def absorbOrthCentre (oc : Option Nat) (node : Nat) : Option Nat :=
  match oc with
  | none => none
  | some c => if c = node then some c else none

/-- `apply_operator`: `for node_id, op in operator.items(): self.absorb_into_open_legs(node_id, op)` — the
recorded centre after the whole loop -/
def applyOperatorOrthCentre (oc : Option Nat) : List Nat → Option Nat
  | [] => oc
  | n :: rest => applyOperatorOrthCentre (absorbOrthCentre oc n) rest

/-- the shortcut of `scalar_product()`: `np.tensordot(tensor, tensor.conj(), axes=(legs, legs))` with
`legs = tuple(range(tensor.ndim))` -/
def centreScalarProduct (c cc : T) : Option T :=
  tensordot c cc (List.range c.legs.length) (List.range c.legs.length)

/-- the shortcut of `single_site_operator_expectation_value`: `tensor_op = np.tensordot(tensor, operator,
axes=(-1, 1))`, then `np.tensordot(tensor_op, tensor.conj(), axes=(legs, legs))` -/
def centreSingleSite (c op cc : T) : Option T :=
  if c.legs.length = 0 then none      -- axis -1 of a 0-dimensional array: AxisError
  else
    match tensordot c op [c.legs.length - 1] [1] with
    | none => none
    | some cop => tensordot cop cc (List.range c.legs.length) (List.range c.legs.length)

/-- the last legs of a tensor, all of them, in order: the open legs of a node -/
theorem Picks.suffix (vs ps : List Leg) :
    Picks (vs ++ ps) ((List.range ps.length).map (· + vs.length)) ps vs := by
  have h := ((PicksAt.none 0 vs).append (PicksAt.all _ ps)).picks
  simpa [List.range'_eq_map_range, Nat.add_comm] using h

theorem cm_pick_range (ps : List Leg) : pick ps (List.range ps.length) = some ps :=
  (pick_eq _ _).trans (Picks.whole ps).pick

end Ptn.C04
