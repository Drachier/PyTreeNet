import Ptn.C04.Value
/-! Value level for the operator routines of C04: `expectation_value` (three layers) and `TTNO.as_matrix`. -/
namespace Ptn.C04

open Ptn.Ein

set_option linter.unusedSectionVars false
variable {R : Type} [CommSemiring R]

/-- **`expectation_value` computes the operator sandwich (value level).**  For every tree with distinct
identifiers and every child order of the operator network the loop returns a closed tensor with some binding
record `binds` (that is `expectation_value_graph`; the record agrees with the specification graph `soSpec t`
as a multiset of UNORDERED pairs — the root step binds the bra-side pairs the other way round).  For every
commutative semiring, all dimensions that give both legs of every pair of the specification graph the same
dimension (NumPy rejects anything else), every strongly well-formed contraction program `e` over the node
tensors with that record — in particular the loop's own sequence of `tensordot` calls — and ANY well-formed
contractions `K`, `O`, `B` of the ket, operator and bra tensors over their own bonds, with `ppIn` the pairs
(ket physical leg, operator input leg) and `ppOut` the pairs (operator output leg, bra physical leg):
`e` evaluates to `Σ_out (Σ_in K · O) · B`, the dense `<B| O |K>`. -/
theorem expectation_value_value (t : Tree) (hnd : t.ids.Nodup) (opKids : Nat → List Nat)
    (hperm : ∀ e ∈ Tree.info none t, (opKids e.1).Perm e.2.2) :
    ∃ binds, expectationValue (netOf t (fun _ ks => ks) gKetT) (netOf t (fun i _ => opKids i) gOpT) gBraT
        = some ⟨[], binds⟩ ∧
      ∀ (dim : Leg → Nat) (e K O B : Expr Leg R) (ppIn ppOut : List (Leg × Leg)),
        e.SWF → K.WF → O.WF → B.WF →
        (∀ l ∈ K.labels, l ∉ O.labels) → (∀ l ∈ K.labels, l ∉ B.labels) → (∀ l ∈ O.labels, l ∉ B.labels) →
        e.binds.Perm binds →
        (ppOut ++ ((ppIn ++ (K.binds ++ O.binds)) ++ B.binds)).Perm (soSpec t) →
        (∀ p ∈ ppIn, p.1 ∈ K.free ∧ p.2 ∈ O.free) →
        (∀ p ∈ ppOut, (p.1 ∈ O.free ∧ p.1 ∉ ppIn.map Prod.snd) ∧ p.2 ∈ B.free) →
        (∀ p ∈ soSpec t, dim p.1 = dim p.2) →
        (∀ σ, e.leafProd σ = K.leafProd σ * O.leafProd σ * B.leafProd σ) →
        ∀ σ, e.eval dim σ = sumPairs dim ppOut
          (fun τ => sumPairs dim ppIn (fun ρ => K.eval dim ρ * O.eval dim ρ) τ * B.eval dim τ) σ := by
  obtain ⟨binds, hrun, hb⟩ := expectation_value_graph t hnd opKids hperm
  refine ⟨binds, hrun, ?_⟩
  intro dim e K O B ppIn ppOut he hK hO hB hKO hKB hOB heb hspec hin hout hdim hleaf σ
  exact Expr.sandwich_of_record dim e K O B he hK hO hB hKO hKB hOB ppIn ppOut (soSpec t) hin hout hspec
    ((unordL_perm heb).trans hb) hdim hleaf σ

/-- the operator layer as `completely_contract_tree` sees it: bonds recorded `(parent leg, child leg)` -/
def opLayerCC (ov : Nat → Asg Leg → R) : Layer R :=
  ⟨Leg.gOp, fun i p kids => (gOpT i ⟨p, kids⟩).legs, ov, false⟩

/-- **the dense operator**: the operator network contracted over its bonds -/
def opExprCC (ov : Nat → Asg Leg → R) (t : Tree) : Expr Leg R := layExpr (opLayerCC ov) none t

/-- the operator layer as `completely_contract_tree` sees it, every node with the tree's own child order -/
def OpLocal (ov : Nat → Asg Leg → R) (t : Tree) : Prop :=
  ∀ e ∈ Tree.info none t, DependsOn (· ∈ (gOpT e.1 ⟨e.2.1, e.2.2⟩).legs) (ov e.1)

mutual
/-- `_completely_contract_tree_rec`: the contracted subtree is built from the operator tensors of the subtree -/
theorem ccTree_built (ov : Nat → Asg Leg → R) : ∀ (t : Tree) (p : Option Nat) (o : List Nat) (r : T),
    ccTree p t = some (o, r) → BuiltL r (treeLeaves (opLayerCC ov).nodeLeaves p t)
  | .node i ks, p, o, r, h => by
    simp only [ccTree] at h
    exact ccKids_built ov i p ks _ _ _ _ _ _ h (BuiltL.fresh _ _)
theorem ccKids_built (ov : Nat → Asg Leg → R) (i : Nat) (p : Option Nat) : ∀ (cs : List Tree) (rem order : List Nat)
    (cur : T) (o : List Nat) (r : T) (ls : List (LeafT R)), ccKids i p cs rem order cur = some (o, r) →
    BuiltL cur ls → BuiltL r (ls ++ treeLeavesL (opLayerCC ov).nodeLeaves i cs)
  | [], _, _, cur, o, r, ls, h, hc => by
    simp only [ccKids, Option.some.injEq, Prod.mk.injEq] at h
    obtain ⟨_, rfl⟩ := h
    simpa [treeLeavesL] using hc
  | c :: cs, rem, order, cur, o, r, ls, h, hc => by
    simp only [ccKids] at h
    split at h
    · simp at h
    · rename_i oc tc hcc
      split at h
      · simp at h
      · split at h
        · simp at h
        · rename_i cur' hcur'
          have h1 := ccTree_built ov c (some i) oc tc hcc
          have h2 := ccKids_built ov i p cs _ _ cur' o r _ h (BuiltL.dot hc h1 hcur')
          simpa [treeLeavesL, List.append_assoc] using h2
end

theorem openLegs_perm (ids : List Nat) : (ids.map Leg.gOpOut ++ ids.map Leg.gOpIn).Perm (openLegs ids) := by
  induction ids with
  | nil => exact List.Perm.refl _
  | cons a as ih =>
    simp only [openLegs, List.map_cons, List.flatMap_cons, List.cons_append, List.nil_append] at ih ⊢
    exact List.Perm.cons _ (List.perm_middle.trans (List.Perm.cons _ ih))

theorem op_nodeOK (ov : Nat → Asg Leg → R) (e : Nat × Option Nat × List Nat) (hn : (e.2.1.toList ++ e.2.2).Nodup) :
    NodeOK (opLayerCC ov).nodeLeaves e := by
  obtain ⟨hO, hO'⟩ := gOpT_legs e.1 (nd := ⟨e.2.1, e.2.2⟩) hn
  simp only [NodeOK, labelsOf, Layer.nodeLeaves, opLayerCC, List.flatMap_cons, List.flatMap_nil, List.append_nil]
  exact ⟨hO, fun l hl => (hO' l hl).1⟩

/-- **`TTNO.as_matrix` returns the dense operator (value level).**  For every tree with distinct identifiers,
every commutative semiring, all dimensions and all values of the operator tensors (each reading only its own
legs): the tensor that `completely_contract_tree` produces, transposed to (all output legs, all input legs) —
the matrix before the final reshape —, is BUILT by the model's `tensordot` calls from exactly the operator
tensors of all nodes, and EVERY expression from which it is built over these leaves is strongly well-formed,
has the rows and columns as its free legs and evaluates to the operator network contracted over its bonds
(`opExprCC`), for every assignment of the open legs.  PARTIAL for the same reason as `as_matrix_graph_partial`:
`contract_nodes` is modelled by `_data_contraction`; the lazily stored leg permutation is not modelled (C02). -/
theorem as_matrix_value_partial (t : Tree) (hnd : t.ids.Nodup) (ov : Nat → Asg Leg → R) (hov : OpLocal ov t) :
    ∃ binds, asMatrix t = some (t.ids, t.ids.map Leg.gOpOut, t.ids.map Leg.gOpIn, binds) ∧
      (∃ e : Expr Leg R, Built ⟨t.ids.map Leg.gOpOut ++ t.ids.map Leg.gOpIn, binds⟩ e ∧
        e.leaves.Perm (treeLeaves (opLayerCC ov).nodeLeaves none t)) ∧
      ∀ e : Expr Leg R, Built ⟨t.ids.map Leg.gOpOut ++ t.ids.map Leg.gOpIn, binds⟩ e →
        e.leaves.Perm (treeLeaves (opLayerCC ov).nodeLeaves none t) →
        e.SWF ∧ e.binds.Perm binds ∧ e.free.Perm (t.ids.map Leg.gOpOut ++ t.ids.map Leg.gOpIn) ∧
        ∀ (dim : Leg → Nat) (σ : Asg Leg), e.eval dim σ = (opExprCC ov t).eval dim σ := by
  have hcc := ccTree_spec t none hnd (fun _ _ => by simp)
  simp only [Option.toList_none, List.map_nil, List.nil_append] at hcc
  have hb0 : BuiltL (⟨openLegs t.ids, ccBinds t⟩ : T) (treeLeaves (opLayerCC ov).nodeLeaves none t) :=
    ccTree_built ov t none _ _ hcc
  refine ⟨ccBinds t, asMatrix_eq t hnd, hb0.transpose (openLegs_perm t.ids), ?_⟩
  intro e hbuilt hleaves
  have hnone : ∀ q, (none : Option Nat) = some q → q ∉ t.ids := fun q hq => by simp at hq
  have hnb := info_nbrs_nodup t none hnd hnone
  have hok : ∀ e ∈ Tree.info none t, NodeOK (opLayerCC ov).nodeLeaves e := fun e he => op_nodeOK ov e (hnb e he)
  obtain ⟨hswf, hbinds, hlegs⟩ := built_tree_swf t hnd hok (fun x hx lf h => by
    simp only [Layer.nodeLeaves, List.mem_singleton] at h
    subst h
    exact hov x hx) hbuilt hleaves
  refine ⟨hswf, hbinds.symm, hlegs.symm, ?_⟩
  have hO : (opExprCC ov t).SWF := layExpr_swf (opLayerCC ov)
    (fun _ _ _ _ => Leg.gOp.inj) t none hnd hnone
    (fun _ _ _ hn => List.mem_append_left _ (List.mem_map_of_mem hn)) hok hov
  have hOb : (opExprCC ov t).binds.Perm (ccBinds t) := by
    have h1 := layExpr_binds (opLayerCC ov) t none
    have h2 : (ccBinds t).Perm (t.edges.map fun e => (Leg.gOp e.1 e.2, Leg.gOp e.2 e.1)) :=
      List.perm_iff_count.2 (fun x => count_ccBinds x t)
    refine List.Perm.trans ?_ h2.symm
    simpa [Layer.edge, opLayerCC, opExprCC] using h1
  intro dim σ
  exact Expr.eval_unique dim e _ hswf hO (hbinds.symm.trans hOb.symm)
    (hleaves.trans (layExpr_leaves (opLayerCC ov) t none).symm) σ

/-- the operator layer of `expectation_value`: the operator's own child order, bonds recorded `(child, parent)` -/
def opLayer (ov : Nat → Asg Leg → R) (opKids : Nat → List Nat) : Layer R :=
  ⟨Leg.gOp, fun i p _ => (gOpT i ⟨p, opKids i⟩).legs, ov, true⟩

/-- the bra layer of `expectation_value`: the conjugated ket tensors, on the ket's nodes -/
def braLayerK (bv : Nat → Asg Leg → R) : Layer R :=
  ⟨Leg.gBra, fun i p kids => (gBraT i ⟨p, kids⟩).legs, bv, true⟩

def opExpr (ov : Nat → Asg Leg → R) (opKids : Nat → List Nat) (t : Tree) : Expr Leg R :=
  layExpr (opLayer ov opKids) none t
def braExprK (bv : Nat → Asg Leg → R) (t : Tree) : Expr Leg R := layExpr (braLayerK bv) none t

/-- the operator tensors of `expectation_value` (the operator's own child order `opKids`); suffix `K`: bra tensors that sit on the
KET's nodes with the ket's child order (the conjugated ket), where `BraLocal` / `braLayer` have the bra network's own -/
def OpLocalK (ov : Nat → Asg Leg → R) (opKids : Nat → List Nat) (t : Tree) : Prop :=
  ∀ e ∈ Tree.info none t, DependsOn (· ∈ (gOpT e.1 ⟨e.2.1, opKids e.1⟩).legs) (ov e.1)
def BraLocalK (bv : Nat → Asg Leg → R) (t : Tree) : Prop :=
  ∀ e ∈ Tree.info none t, DependsOn (· ∈ (gBraT e.1 ⟨e.2.1, e.2.2⟩).legs) (bv e.1)

theorem so_nodeOK (kv ov bv : Nat → Asg Leg → R) (opKids : Nat → List Nat) (e : Nat × Option Nat × List Nat)
    (hn : (e.2.1.toList ++ e.2.2).Nodup) (hp : (opKids e.1).Perm e.2.2) :
    NodeOK (soNodeLeaves opKids kv ov bv) e := by
  obtain ⟨i, p, kids⟩ := e
  obtain ⟨hK, hK'⟩ := gKetT_legs i (nd := ⟨p, kids⟩) hn
  obtain ⟨hO, hO'⟩ := gOpT_legs i (nd := ⟨p, opKids i⟩) ((List.Perm.append_left _ hp).nodup_iff.2 hn)
  obtain ⟨hB, hB'⟩ := gBraT_legs i (nd := ⟨p, kids⟩) hn
  simp only [NodeOK, labelsOf, soNodeLeaves, List.flatMap_cons, List.flatMap_nil, List.append_nil]
  have hOB := nodup_append_of_layer hO hB (fun l hl => (hO' l hl).2) (fun l hl => by simp [(hB' l hl).2])
  refine ⟨nodup_append_of_layer hK hOB (fun l hl => (hK' l hl).2) (fun l hl => ?_), fun l hl => ?_⟩
  · rcases List.mem_append.1 hl with h | h
    · simp [(hO' l h).2]
    · simp [(hB' l h).2]
  · rcases List.mem_append.1 hl with h | h
    · exact (hK' l h).1
    · rcases List.mem_append.1 h with h | h
      · exact (hO' l h).1
      · exact (hB' l h).1

theorem soNodeLeaves_eq (kv ov bv : Nat → Asg Leg → R) (opKids : Nat → List Nat) :
    soNodeLeaves opKids kv ov bv = fun i p k => (ketLayer kv).nodeLeaves i p k ++
      ((fun i p k => (opLayer ov opKids).nodeLeaves i p k ++ (braLayerK bv).nodeLeaves i p k) i p k) := rfl

/-- **`expectation_value` computes the dense `<psi| O |psi>` — the loop itself, unconditionally in the program.**
For every tree with distinct identifiers, every child order of the operator network, every commutative semiring
and ALL values of the node tensors (each reading only its own legs): the loop returns a closed tensor; it is
BUILT by the model's `tensordot` calls from exactly the ket, operator and bra tensors of all nodes; and EVERY
expression it is built from over these leaves is strongly well-formed and evaluates — for all dimensions that
give both legs of every pair of the specification graph the same dimension — to `Σ_out (Σ_in K·O)·B` with the
canonical dense ket `ketExpr`, dense operator `opExpr` and dense bra `braExprK`. -/
theorem expectation_value_loop_value (t : Tree) (hnd : t.ids.Nodup) (opKids : Nat → List Nat)
    (hperm : ∀ e ∈ Tree.info none t, (opKids e.1).Perm e.2.2)
    (kv ov bv : Nat → Asg Leg → R) (hkv : KetLocal kv t) (hov : OpLocalK ov opKids t) (hbv : BraLocalK bv t) :
    ∃ binds, expectationValue (netOf t (fun _ ks => ks) gKetT) (netOf t (fun i _ => opKids i) gOpT) gBraT
        = some ⟨[], binds⟩ ∧
      (∃ e : Expr Leg R, Built ⟨[], binds⟩ e ∧ e.leaves.Perm (soLeaves opKids kv ov bv none t)) ∧
      ∀ e : Expr Leg R, Built ⟨[], binds⟩ e → e.leaves.Perm (soLeaves opKids kv ov bv none t) →
        e.SWF ∧ e.binds.Perm binds ∧ e.free = [] ∧
        ∀ (dim : Leg → Nat), (∀ p ∈ soSpec t, dim p.1 = dim p.2) → ∀ σ : Asg Leg, e.eval dim σ =
          sumPairs dim (t.ids.map physOut)
            (fun τ => sumPairs dim (t.ids.map physIn)
              (fun ρ => (ketExpr kv t).eval dim ρ * (opExpr ov opKids t).eval dim ρ) τ *
              (braExprK bv t).eval dim τ) σ := by
  refine ⟨_, expectationValue_eq t hnd opKids hperm, expectationValue_built kv ov bv t hnd opKids hperm, ?_⟩
  intro e hbuilt hleaves
  have hnone : ∀ q, (none : Option Nat) = some q → q ∉ t.ids := fun q hq => by simp at hq
  have hnb := info_nbrs_nodup t none hnd hnone
  have hok : ∀ e ∈ Tree.info none t, NodeOK (soNodeLeaves opKids kv ov bv) e :=
    fun e he => so_nodeOK kv ov bv opKids e (hnb e he) (hperm e he)
  obtain ⟨hswf, hbinds, hlegs⟩ := built_tree_swf t hnd hok (fun x hx lf h => by
    simp only [soNodeLeaves, List.mem_cons, List.not_mem_nil, or_false] at h
    rcases h with rfl | rfl | rfl
    · exact hkv x hx
    · exact hov x hx
    · exact hbv x hx) hbuilt hleaves
  refine ⟨hswf, hbinds.symm, List.Perm.eq_nil hlegs.symm, ?_⟩
  -- the three dense layers
  let ΛO := opLayer ov opKids
  let ΛB := braLayerK bv
  have hokK : ∀ e ∈ Tree.info none t, NodeOK (ketLayer kv).nodeLeaves e := fun e he =>
    nodeOK_left (f := (ketLayer kv).nodeLeaves)
      (g := fun i p k => ΛO.nodeLeaves i p k ++ ΛB.nodeLeaves i p k) (hok e he)
  have hokOB : ∀ e ∈ Tree.info none t, NodeOK (fun i p k => ΛO.nodeLeaves i p k ++ ΛB.nodeLeaves i p k) e :=
    fun e he => nodeOK_right (f := (ketLayer kv).nodeLeaves)
      (g := fun i p k => ΛO.nodeLeaves i p k ++ ΛB.nodeLeaves i p k) (hok e he)
  have hokO : ∀ e ∈ Tree.info none t, NodeOK ΛO.nodeLeaves e := fun e he =>
    nodeOK_left (f := ΛO.nodeLeaves) (g := ΛB.nodeLeaves) (hokOB e he)
  have hokB : ∀ e ∈ Tree.info none t, NodeOK ΛB.nodeLeaves e := fun e he =>
    nodeOK_right (f := ΛO.nodeLeaves) (g := ΛB.nodeLeaves) (hokOB e he)
  have hK := ketExpr_swf kv t hnd hokK hkv
  have hO : (opExpr ov opKids t).SWF := layExpr_swf ΛO
    (fun _ _ _ _ => Leg.gOp.inj) t none hnd hnone
    (fun e he _ hn => List.mem_append_left _ (List.mem_map_of_mem
      (((hperm e he).symm.append_left _).mem_iff.1 hn)))
    hokO hov
  have hB : (braExprK bv t).SWF := layExpr_swf ΛB
    (fun _ _ _ _ => Leg.gBra.inj) t none hnd hnone
    (fun _ _ _ hn => List.mem_append_left _ (List.mem_map_of_mem hn)) hokB hbv
  have hLK := layExpr_leaves (ketLayer kv) t none
  have hLO := layExpr_leaves ΛO t none
  have hLB := layExpr_leaves ΛB t none
  have hsplit : (soLeaves opKids kv ov bv none t).Perm
      ((ketExpr kv t).leaves ++ ((opExpr ov opKids t).leaves ++ (braExprK bv t).leaves)) := by
    have h1 := treeLeaves_append (ketLayer kv).nodeLeaves
      (fun i p k => ΛO.nodeLeaves i p k ++ ΛB.nodeLeaves i p k) t none
    have h2 := treeLeaves_append ΛO.nodeLeaves ΛB.nodeLeaves t none
    exact h1.trans (List.Perm.append hLK.symm (h2.trans (List.Perm.append hLO.symm hLB.symm)))
  obtain ⟨hlp, hprod⟩ := Expr.split_leaves (A := ketExpr kv t)
    (B := .dot (opExpr ov opKids t) (braExprK bv t) []) (hleaves.trans hsplit)
  obtain ⟨_, hndOB, hdisK⟩ := List.nodup_append.1 (hlp.nodup_iff.1 hswf.labels_nodup)
  have hKO : ∀ l ∈ (ketExpr kv t).labels, l ∉ (opExpr ov opKids t).labels :=
    fun l hl hl' => hdisK l hl l (List.mem_append.2 (Or.inl hl')) rfl
  have hKB : ∀ l ∈ (ketExpr kv t).labels, l ∉ (braExprK bv t).labels :=
    fun l hl hl' => hdisK l hl l (List.mem_append.2 (Or.inr hl')) rfl
  have hOB : ∀ l ∈ (opExpr ov opKids t).labels, l ∉ (braExprK bv t).labels :=
    fun l hl hl' => (List.nodup_append.1 hndOB).2.2 l hl l hl' rfl
  have hmemInfo : ∀ n ∈ t.ids, ∃ x ∈ Tree.info none t, x.1 = n := by
    intro n hn
    rw [← Tree.info_keys none t] at hn
    obtain ⟨x, hx, rfl⟩ := List.mem_map.1 hn
    exact ⟨x, hx, rfl⟩
  have hin : ∀ p ∈ t.ids.map physIn, p.1 ∈ (ketExpr kv t).free ∧ p.2 ∈ (opExpr ov opKids t).free := by
    intro p hp
    obtain ⟨n, hn, rfl⟩ := List.mem_map.1 hp
    obtain ⟨x, hx, rfl⟩ := hmemInfo n hn
    constructor
    · exact layExpr_free_of_node (ketLayer kv) t x hx _ (fun a b => by simp [physIn, ketLayer])
        (by simp [ketLayer, gKetT, T.fresh, physIn])
    · exact layExpr_free_of_node ΛO t x hx _ (fun a b => by simp [physIn, ΛO, opLayer])
        (by simp [ΛO, opLayer, gOpT, T.fresh, physIn])
  have hout : ∀ p ∈ t.ids.map physOut, (p.1 ∈ (opExpr ov opKids t).free ∧ p.1 ∉ (t.ids.map physIn).map Prod.snd) ∧
      p.2 ∈ (braExprK bv t).free := by
    intro p hp
    obtain ⟨n, hn, rfl⟩ := List.mem_map.1 hp
    obtain ⟨x, hx, rfl⟩ := hmemInfo n hn
    refine ⟨⟨?_, by simp [physOut, physIn]⟩, ?_⟩
    · exact layExpr_free_of_node ΛO t x hx _ (fun a b => by simp [physOut, ΛO, opLayer])
        (by simp [ΛO, opLayer, gOpT, T.fresh, physOut])
    · exact layExpr_free_of_node ΛB t x hx _ (fun a b => by simp [physOut, ΛB, braLayerK])
        (by simp [ΛB, braLayerK, gBraT, T.fresh, physOut])
  have hKb := ketExpr_binds kv t
  have hOb : (opExpr ov opKids t).binds.Perm (t.edges.map fun e => opEdge e.1 e.2) := by
    have := layExpr_binds ΛO t none
    simpa [Layer.edge, ΛO, opLayer, opEdge, opExpr] using this
  have hBb : (braExprK bv t).binds.Perm (t.edges.map fun e => braEdge e.1 e.2) := by
    have := layExpr_binds ΛB t none
    simpa [Layer.edge, ΛB, braLayerK, braEdge, braExprK] using this
  have hspec : (t.ids.map physOut ++ ((t.ids.map physIn ++ ((ketExpr kv t).binds ++ (opExpr ov opKids t).binds)) ++
      (braExprK bv t).binds)).Perm (soSpec t) :=
    (List.Perm.append_left _ (((hKb.append hOb).append_left _).append hBb)).trans (soSpec_perm t).symm
  have hrec : (unordL e.binds).Perm (unordL (soSpec t)) :=
    (unordL_perm hbinds.symm).trans (soRootBinds_perm t)
  intro dim hdim σ
  exact Expr.sandwich_of_record dim e _ _ _ hswf hK.wf hO.wf hB.wf hKO hKB hOB _ _ (soSpec t) hin hout hspec hrec hdim
    (fun τ => by rw [hprod τ, Expr.leafProd_dot, mul_assoc]) σ

end Ptn.C04
