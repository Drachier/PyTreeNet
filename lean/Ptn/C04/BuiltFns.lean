import Ptn.C04.Built
/-! "Inputs built ⟹ output built" for every function of `Model.lean` that the tree-level loops use.  Each lemma
says: if the call succeeds and its tensor arguments (and the cache entries it may read) are built from given
leaf tensors, then the result is built — by the `tensordot` calls the function performs — from exactly the
leaves of the arguments it consumed. -/
namespace Ptn.C04

open Ptn.Ein

variable {R : Type}

theorem contractNeighbourBlock_built {ax : Nat} {t : T} {nd : Node} {n : Nat} {cache : Cache} {leg : Option Nat}
    {r : T} {ls : List (LeafT R)} {lv : Nat → List (LeafT R)}
    (h : contractNeighbourBlock ax t nd n cache leg = some r) (ht : BuiltL t ls)
    (hc : ∀ blk, cache n = some blk → BuiltL blk (lv n)) : BuiltL r (ls ++ lv n) := by
  unfold contractNeighbourBlock at h
  split at h
  · simp at h
  · rename_i blk hblk
    split at h
    · simp at h
    · exact BuiltL.dot ht (hc blk hblk) h

theorem contractNeighbourBlockIgnoreOneLeg_built {ax : Nat} {t : T} {nd : Node} {n ig : Nat} {cache : Cache}
    {r : T} {ls : List (LeafT R)} {lv : Nat → List (LeafT R)}
    (h : contractNeighbourBlockIgnoreOneLeg ax t nd n ig cache = some r) (ht : BuiltL t ls)
    (hc : ∀ blk, cache n = some blk → BuiltL blk (lv n)) : BuiltL r (ls ++ lv n) := by
  unfold contractNeighbourBlockIgnoreOneLeg at h
  split at h
  · simp at h
  · exact contractNeighbourBlock_built h ht hc

theorem allButOneLoop_built {ax : Nat} {nd : Node} {next : Nat} {cache : Cache} {lv : Nat → List (LeafT R)} :
    ∀ (ns : List Nat) (t r : T) (ls : List (LeafT R)), allButOneLoop ax nd next cache ns t = some r →
      BuiltL t ls → (∀ n ∈ ns, n ≠ next → ∀ blk, cache n = some blk → BuiltL blk (lv n)) →
      BuiltL r (ls ++ (ns.filter (· ≠ next)).flatMap lv)
  | [], t, r, ls, h, ht, _ => by
    simp only [allButOneLoop, Option.some.injEq] at h
    subst h
    simpa using ht
  | n :: rest, t, r, ls, h, ht, hc => by
    unfold allButOneLoop at h
    by_cases hn : n ≠ next
    · rw [if_pos hn] at h
      split at h
      · simp at h
      · rename_i t' ht'
        have h1 := contractNeighbourBlockIgnoreOneLeg_built (lv := lv) ht' ht (hc n (by simp) hn)
        have h2 := allButOneLoop_built rest t' r _ h h1 (fun m hm => hc m (by simp [hm]))
        have hf : (n :: rest).filter (· ≠ next) = n :: rest.filter (· ≠ next) := by
          simp [hn]
        rw [hf]
        simpa [List.flatMap_cons, List.append_assoc] using h2
    · rw [if_neg hn] at h
      have h2 := allButOneLoop_built rest t r ls h ht (fun m hm => hc m (by simp [hm]))
      have hf : (n :: rest).filter (· ≠ next) = rest.filter (· ≠ next) := by
        simp [hn]
      rw [hf]
      exact h2

theorem allLoop_built {ax : Nat} {nd : Node} {cache : Cache} {lv : Nat → List (LeafT R)} :
    ∀ (ns : List Nat) (t r : T) (ls : List (LeafT R)), allLoop ax nd cache ns t = some r →
      BuiltL t ls → (∀ n ∈ ns, ∀ blk, cache n = some blk → BuiltL blk (lv n)) →
      BuiltL r (ls ++ ns.flatMap lv)
  | [], t, r, ls, h, ht, _ => by
    simp only [allLoop, Option.some.injEq] at h
    subst h
    simpa using ht
  | n :: rest, t, r, ls, h, ht, hc => by
    unfold allLoop at h
    split at h
    · simp at h
    · rename_i t' ht'
      have h1 := contractNeighbourBlock_built (lv := lv) ht' ht (hc n (by simp))
      have h2 := allLoop_built rest t' r _ h h1 (fun m hm => hc m (by simp [hm]))
      simpa [List.flatMap_cons, List.append_assoc] using h2

theorem contractLeafs_built {n1 n2 : Node} {t1 t2 r : T} {l1 l2 : List (LeafT R)}
    (h : contractLeafs n1 n2 t1 t2 = some r) (h1 : BuiltL t1 l1) (h2 : BuiltL t2 l2) : BuiltL r (l1 ++ l2) := by
  unfold contractLeafs at h
  split at h
  · simp at h
  · split at h
    · simp at h
    · exact BuiltL.dot h1 h2 h

theorem contractBraToKetAndBlocks_built {bra ketblock : T} {braNode ketNode : Node} {r : T}
    {lb lk : List (LeafT R)} (h : contractBraToKetAndBlocks bra ketblock braNode ketNode = some r)
    (hb : BuiltL bra lb) (hk : BuiltL ketblock lk) : BuiltL r (lk ++ lb) := by
  unfold contractBraToKetAndBlocks at h
  split at h
  · simp at h
  · exact BuiltL.dot hk hb h

theorem contractBraToKetAndBlocksIgnoreOneLeg_built {bra ketblock : T} {braNode ketNode : Node} {next : Nat}
    {f : Trafo} {r : T} {lb lk : List (LeafT R)}
    (h : contractBraToKetAndBlocksIgnoreOneLeg bra ketblock braNode ketNode next f = some r)
    (hb : BuiltL bra lb) (hk : BuiltL ketblock lk) : BuiltL r (lk ++ lb) := by
  unfold contractBraToKetAndBlocksIgnoreOneLeg at h
  split at h
  · simp at h
  · split at h
    · simp at h
    · exact BuiltL.dot hk hb h

theorem contractSubtreesUsingDictionary_built {next : Nat} {n1 n2 : Node} {t1 t2 : T} {cache : Cache} {f : Trafo}
    {r : T} {l1 l2 : List (LeafT R)} {lv : Nat → List (LeafT R)}
    (h : contractSubtreesUsingDictionary next n1 n2 t1 t2 cache f = some r)
    (h1 : BuiltL t1 l1) (h2 : BuiltL t2 l2)
    (hc : ∀ n ∈ n1.nbrs, n ≠ next → ∀ blk, cache n = some blk → BuiltL blk (lv n)) :
    BuiltL r ((l1 ++ (n1.nbrs.filter (· ≠ next)).flatMap lv) ++ l2) := by
  unfold contractSubtreesUsingDictionary at h
  split at h
  · simp at h
  · rename_i kb hkb
    exact contractBraToKetAndBlocksIgnoreOneLeg_built h h2 (allButOneLoop_built _ _ _ _ hkb h1 hc)

/-- `contract_any_nodes`: a leaf consumes no block -/
theorem contractAnyNodes_built {next : Nat} {n1 n2 : Node} {t1 t2 : T} {cache : Cache} {f : Trafo}
    {r : T} {l1 l2 : List (LeafT R)} {lv : Nat → List (LeafT R)}
    (h : contractAnyNodes next n1 n2 t1 t2 cache f = some r)
    (h1 : BuiltL t1 l1) (h2 : BuiltL t2 l2)
    (hc : ∀ n ∈ n1.nbrs, n ≠ next → ∀ blk, cache n = some blk → BuiltL blk (lv n)) :
    BuiltL r ((l1 ++ (if n1.isLeaf then [] else (n1.nbrs.filter (· ≠ next)).flatMap lv)) ++ l2) := by
  unfold contractAnyNodes at h
  by_cases hl : n1.isLeaf = true
  · rw [if_pos hl] at h
    rw [if_pos hl]
    simpa using contractLeafs_built h h1 h2
  · rw [if_neg hl] at h
    rw [if_neg hl]
    exact contractSubtreesUsingDictionary_built h h1 h2 hc

theorem contractNodeWithEnvironmentNodes_built {ketNode braNode : Node} {ket bra : T} {cache : Cache}
    {r : T} {lk lb : List (LeafT R)} {lv : Nat → List (LeafT R)}
    (h : contractNodeWithEnvironmentNodes ketNode ket braNode bra cache = some r)
    (hk : BuiltL ket lk) (hb : BuiltL bra lb)
    (hc : ∀ n ∈ ketNode.nbrs, ∀ blk, cache n = some blk → BuiltL blk (lv n)) :
    BuiltL r ((lk ++ ketNode.nbrs.flatMap lv) ++ lb) := by
  unfold contractNodeWithEnvironmentNodes at h
  split at h
  · simp at h
  · rename_i kb hkb
    exact contractBraToKetAndBlocks_built h hb (allLoop_built _ _ _ _ hkb hk hc)

theorem opContractLeaf_built {stateNode opNode braNode : Node} {state op bra r : T}
    {ls lo lb : List (LeafT R)} (h : opContractLeaf stateNode state opNode op braNode bra = some r)
    (hs : BuiltL state ls) (ho : BuiltL op lo) (hb : BuiltL bra lb) : BuiltL r (ls ++ (lo ++ lb)) := by
  unfold opContractLeaf at h
  split at h
  · simp at h
  · rename_i bh hbh
    exact BuiltL.dot hs (BuiltL.dot ho hb hbh) h

theorem contractOperatorTensorIgnoringOneLeg_built {cur op : T} {ketNode opNode : Node} {ig : Nat} {f : Trafo}
    {r : T} {lc lo : List (LeafT R)}
    (h : contractOperatorTensorIgnoringOneLeg cur ketNode op opNode ig f = some r)
    (hc : BuiltL cur lc) (ho : BuiltL op lo) : BuiltL r (lc ++ lo) := by
  unfold contractOperatorTensorIgnoringOneLeg at h
  split at h
  · simp at h
  · exact BuiltL.dot hc ho h

theorem contractBraTensorIgnoreOneLeg_built {bra kob : T} {braNode ketNode : Node} {ig : Nat} {f : Trafo}
    {r : T} {lb lk : List (LeafT R)}
    (h : contractBraTensorIgnoreOneLeg bra braNode kob ketNode ig f = some r)
    (hb : BuiltL bra lb) (hk : BuiltL kob lk) : BuiltL r (lk ++ lb) := by
  unfold contractBraTensorIgnoreOneLeg at h
  simp only at h
  split at h
  · simp at h
  · exact BuiltL.dot hk hb h

theorem opContractSubtreesUsingDictionary_built {ig : Nat} {ketNode opNode braNode : Node} {ket op bra : T}
    {cache : Cache} {fO fB : Trafo} {r : T} {ls lo lb : List (LeafT R)} {lv : Nat → List (LeafT R)}
    (h : opContractSubtreesUsingDictionary ig ketNode ket opNode op cache braNode bra fO fB = some r)
    (hs : BuiltL ket ls) (ho : BuiltL op lo) (hb : BuiltL bra lb)
    (hc : ∀ n ∈ ketNode.nbrs, n ≠ ig → ∀ blk, cache n = some blk → BuiltL blk (lv n)) :
    BuiltL r (((ls ++ (ketNode.nbrs.filter (· ≠ ig)).flatMap lv) ++ lo) ++ lb) := by
  unfold opContractSubtreesUsingDictionary at h
  split at h
  · simp at h
  · rename_i t1 ht1
    split at h
    · simp at h
    · rename_i t2 ht2
      exact contractBraTensorIgnoreOneLeg_built h hb
        (contractOperatorTensorIgnoringOneLeg_built ht2 (allButOneLoop_built _ _ _ _ ht1 hs hc) ho)

theorem opContractAnyNodeEnvironmentButOne_built {ig : Nat} {ketNode opNode braNode : Node} {ket op bra : T}
    {cache : Cache} {fO fB : Trafo} {r : T} {ls lo lb : List (LeafT R)} {lv : Nat → List (LeafT R)}
    (h : opContractAnyNodeEnvironmentButOne ig ketNode ket opNode op cache braNode bra fO fB = some r)
    (hs : BuiltL ket ls) (ho : BuiltL op lo) (hb : BuiltL bra lb)
    (hc : ∀ n ∈ ketNode.nbrs, n ≠ ig → ∀ blk, cache n = some blk → BuiltL blk (lv n)) :
    BuiltL r (((ls ++ (if ketNode.isLeaf then [] else (ketNode.nbrs.filter (· ≠ ig)).flatMap lv)) ++ lo) ++ lb) := by
  unfold opContractAnyNodeEnvironmentButOne at h
  by_cases hl : ketNode.isLeaf = true
  · rw [if_pos hl] at h
    rw [if_pos hl]
    simpa [List.append_assoc] using opContractLeaf_built h hs ho hb
  · rw [if_neg hl] at h
    rw [if_neg hl]
    exact opContractSubtreesUsingDictionary_built h hs ho hb hc

theorem opContractNodeWithEnvironment_built {ketNode opNode : Node} {ket op bra : T} {cache : Cache}
    {r : T} {ls lo lb : List (LeafT R)} {lv : Nat → List (LeafT R)}
    (h : opContractNodeWithEnvironment ketNode ket opNode op bra cache = some r)
    (hs : BuiltL ket ls) (ho : BuiltL op lo) (hb : BuiltL bra lb)
    (hc : ∀ n ∈ ketNode.nbrs, ∀ blk, cache n = some blk → BuiltL blk (lv n)) :
    BuiltL r (lb ++ ((ls ++ ketNode.nbrs.flatMap lv) ++ lo)) := by
  unfold opContractNodeWithEnvironment at h
  split at h
  · simp at h
  · rename_i kb hkb
    split at h
    · simp at h
    · simp only at h
      split at h
      · simp at h
      · rename_i khb hkhb
        exact BuiltL.dot hb (BuiltL.dot (allLoop_built _ _ _ _ hkb hs hc) ho hkhb) h

end Ptn.C04
