import Ptn.C04.Model
import Ptn.C04.TreeModel
import Ptn.C05.HeffModel
import Ptn.Common.EinsumDriver
/-! Line-protocol handler for C04 (core Lean only).

A node is written `<parent|->/<child,child,…|->`; identifiers are natural numbers; an identifier
transformation is an offset (`id_trafo(n) = n + off`).  Answers are `legs <leg>… | binds <leg>~<leg>…`
(free legs in axis order, bound pairs in binding order) or `error` (the library would raise).
Leg tokens: kN<n> kP bN<n> bP oN<n> oO oI BK<n> BO<n> BB<n>.

  detidx <node> <neighbour> <ignored>                     → `<index>` | error
  equiv <node1> <node2> <ignore,…|-> <off>                → `<l1,…> | <l2,…>` | error
  allbut <axis> <three> <node> <next>                     → contract_all_but_one_neighbour_block_to_ket (axis 0)
                                                             / …_to_hamiltonian (axis 1) on the standard tensors
  all <axis> <three> <node>                               → contract_all_neighbour_blocks_to_ket / …_hamiltonian
  any <ketnode> <branode> <next> <off>                    → state_state contract_any_nodes
  root <ketnode> <branode>                                → contract_node_with_environment_nodes
  opany <ketnode> <opnode> <branode> <next> <offOp> <offBra> → contract_any_node_environment_but_one
  oproot <ketnode> <opnode>                               → state_operator contract_node_with_environment
  tree2 <root> <id>:<ket kids>;<bra kids> …               → contract_two_ttns on the whole tree (global labels
                                                             gK<i>_<n> gKP<i> gB<i>_<n> gBP<i>)
  tree3 <root> <id>:<ket kids>;<operator kids> …          → expectation_value on the whole tree (… gO<i>_<n>
                                                             gOO<i> gOI<i>; the bra is the conjugated ket)
  siteheff <i> <statenode> <hamnode>                      → get_effective_single_site_hamiltonian_nodes for node i:
                                                             `rows <legs> | cols <legs> | binds …` (blocks gK<n>_<i> gO<n>_<i> gB<n>_<i>)
  linkheff <linknode> <node> <next>                       → _get_effective_link_hamiltonian(node, next)
  twoheff <target> <next> <hamtarget> <hamnext> <twosite> → _get_effective_two_site_hamiltonian(target, next)
  asmat <root> <id>:<kids>;- …                            → TTNO.as_matrix: `order <ids> | rows <legs> | cols <legs> | binds …`
  ein … / einrec …                                        → the value-level semantics (`Ptn/Common/EinsumDriver.lean`: a nested expression /
                                                             the value of a flat network)
-/
namespace Ptn.C04

def parseList (s : String) : Option (List Nat) :=
  if s = "-" then some [] else (s.splitOn ",").mapM (·.toNat?)

def parseNode (s : String) : Option Node :=
  match s.splitOn "/" with
  | [p, c] =>
    match parseList c with
    | none => none
    | some cs =>
      if p = "-" then some ⟨none, cs⟩ else
        match p.toNat? with
        | some x => some ⟨some x, cs⟩
        | none => none
  | _ => none

def showLeg : Leg → String
  | .ketNb n => s!"kN{n}" | .ketPhys => "kP"
  | .braNb n => s!"bN{n}" | .braPhys => "bP"
  | .opNb n => s!"oN{n}" | .opOut => "oO" | .opIn => "oI"
  | .blkKet n => s!"BK{n}" | .blkOp n => s!"BO{n}" | .blkBra n => s!"BB{n}"
  | .gKet i n => s!"gK{i}_{n}" | .gKetPhys i => s!"gKP{i}"
  | .gBra i n => s!"gB{i}_{n}" | .gBraPhys i => s!"gBP{i}"
  | .gOp i n => s!"gO{i}_{n}" | .gOpOut i => s!"gOO{i}" | .gOpIn i => s!"gOI{i}"

def showT : Option T → String
  | none => "error"
  | some t =>
    ("legs " ++ " ".intercalate (t.legs.map showLeg)).trimAscii.toString ++ " | " ++
    ("binds " ++ " ".intercalate (t.binds.map fun p => showLeg p.1 ++ "~" ++ showLeg p.2)).trimAscii.toString

def showMat : Option Ptn.C05.Heff.Mat → String
  | none => "error"
  | some m =>
    ("rows " ++ " ".intercalate (m.rows.map showLeg)).trimAscii.toString ++ " | " ++
    ("cols " ++ " ".intercalate (m.cols.map showLeg)).trimAscii.toString ++ " | " ++
    ("binds " ++ " ".intercalate (m.binds.map fun p => showLeg p.1 ++ "~" ++ showLeg p.2)).trimAscii.toString

def showNats (l : List Nat) : String := if l.isEmpty then "-" else ",".intercalate (l.map toString)

def parseBool (s : String) : Option Bool :=
  if s = "0" then some false else if s = "1" then some true else none

def parseTreeEntry (s : String) : Option (Nat × List Nat × List Nat) :=
  match s.splitOn ":" with
  | [a, b] =>
    match a.toNat?, b.splitOn ";" with
    | some i, [k1, k2] =>
      match parseList k1, parseList k2 with
      | some l1, some l2 => some (i, l1, l2)
      | _, _ => none
    | _, _ => none
  | _ => none

/-- rebuild the ordered tree from the first child table (`none`: missing entry / not a finite tree) -/
def buildTree (tbl : List (Nat × List Nat × List Nat)) : Nat → Nat → Option Tree
  | 0, _ => none
  | fuel + 1, i =>
    match tbl.find? (·.1 == i) with
    | none => none
    | some (_, ks, _) =>
      match ks.mapM (buildTree tbl fuel) with
      | none => none
      | some ts => some (.node i ts)

def parseTreeCase (root : String) (entries : List String) : Option (Tree × (Nat → List Nat)) :=
  match root.toNat?, entries.mapM parseTreeEntry with
  | some r, some tbl =>
    if (tbl.map (·.1)).eraseDups.length ≠ tbl.length then none else
    match buildTree tbl (tbl.length + 1) r with
    | none => none
    | some t =>
      if t.ids.length ≠ tbl.length then none
      else some (t, fun i => ((tbl.find? (·.1 == i)).map (·.2.2)).getD [])
  | _, _ => none

def handle (args : List String) : String :=
  match args with
  | "ein" :: rest => Ptn.Ein.handleEin rest   -- value-level semantics (Ptn/Common/EinsumDriver.lean)
  | "einrec" :: rest => Ptn.Ein.handleEinRec rest
  | ["detidx", nd, a, b] =>
    match parseNode nd, a.toNat?, b.toNat? with
    | some nd, some a, some b =>
      match determineIndexWithIgnoredLeg nd a b with
      | some i => toString i
      | none => "error"
    | _, _, _ => "bad-op"
  | ["equiv", n1, n2, ign, off] =>
    match parseNode n1, parseNode n2, parseList ign, off.toNat? with
    | some n1, some n2, some ign, some off =>
      match getEquivalentLegs n1 n2 ign (· + off) with
      | some (a, b) => showNats a ++ " | " ++ showNats b
      | none => "error"
    | _, _, _, _ => "bad-op"
  | ["allbut", axis, three, nd, next] =>
    match parseBool axis, parseBool three, parseNode nd, next.toNat? with
    | some axis, some three, some nd, some next =>
      if axis then showT (contractAllButOneNeighbourBlockToHamiltonian (opT nd) nd next (cacheBut three next))
      else showT (contractAllButOneNeighbourBlockToKet (ketT nd) nd next (cacheBut three next))
    | _, _, _, _ => "bad-op"
  | ["all", axis, three, nd] =>
    match parseBool axis, parseBool three, parseNode nd with
    | some axis, some three, some nd =>
      if axis then showT (contractAllNeighbourBlocksToHamiltonian (opT nd) nd (cacheAll three))
      else showT (contractAllNeighbourBlocksToKet (ketT nd) nd (cacheAll three))
    | _, _, _ => "bad-op"
  | ["any", kn, bn, next, off] =>
    match parseNode kn, parseNode bn, next.toNat?, off.toNat? with
    | some kn, some bn, some next, some off =>
      showT (contractAnyNodes next kn bn (ketT kn) (braT bn) (cacheBut false next) (· + off))
    | _, _, _, _ => "bad-op"
  | ["root", kn, bn] =>
    match parseNode kn, parseNode bn with
    | some kn, some bn => showT (contractNodeWithEnvironmentNodes kn (ketT kn) bn (braT bn) (cacheAll false))
    | _, _ => "bad-op"
  | ["opany", kn, on, bn, next, offOp, offBra] =>
    match parseNode kn, parseNode on, parseNode bn, next.toNat?, offOp.toNat?, offBra.toNat? with
    | some kn, some on, some bn, some next, some offOp, some offBra =>
      showT (opContractAnyNodeEnvironmentButOne next kn (ketT kn) on (opT on) (cacheBut true next) bn (braT bn)
        (· + offOp) (· + offBra))
    | _, _, _, _, _, _ => "bad-op"
  | ["oproot", kn, on] =>
    match parseNode kn, parseNode on with
    | some kn, some on => showT (opContractNodeWithEnvironment kn (ketT kn) on (opT on) (braT kn) (cacheAll true))
    | _, _ => "bad-op"
  | "tree2" :: root :: entries =>
    match parseTreeCase root entries with
    | some (t, other) =>
      showT (contractTwoTtns (netOf t (fun _ ks => ks) gKetT) (netOf t (fun i _ => other i) gBraT))
    | none => "bad-op"
  | "tree3" :: root :: entries =>
    match parseTreeCase root entries with
    | some (t, other) =>
      showT (expectationValue (netOf t (fun _ ks => ks) gKetT) (netOf t (fun i _ => other i) gOpT) gBraT)
    | none => "bad-op"
  | ["siteheff", i, sn, hn] =>
    match i.toNat?, parseNode sn, parseNode hn with
    | some i, some sn, some hn =>
      showMat (Ptn.C05.Heff.getEffectiveSingleSiteHamiltonianNodes sn hn (gOpT i hn)
        (fun n => some (Ptn.C05.Heff.gBlock n i [])))
    | _, _, _ => "bad-op"
  | ["linkheff", ln, a, b] =>
    match parseNode ln, a.toNat?, b.toNat? with
    | some ln, some a, some b =>
      showMat (Ptn.C05.Heff.getEffectiveLinkHamiltonian ln a b (fun k =>
        if k = (a, b) then some (Ptn.C05.Heff.gBlock a b []) else if k = (b, a) then some (Ptn.C05.Heff.gBlock b a [])
        else none))
    | _, _, _ => "bad-op"
  | ["twoheff", t, x, ht, hx, ts] =>
    match t.toNat?, x.toNat?, parseNode ht, parseNode hx, parseNode ts with
    | some t, some x, some ht, some hx, some ts =>
      showMat (Ptn.C05.Heff.getEffectiveTwoSiteHamiltonian ht hx ts (gOpT t ht) (gOpT x hx) t x (fun k =>
        if (k.2 = t ∧ k.1 ∈ ht.nbrs ∧ k.1 ≠ x) ∨ (k.2 = x ∧ k.1 ∈ hx.nbrs ∧ k.1 ≠ t)
        then some (Ptn.C05.Heff.gBlock k.1 k.2 []) else none))
    | _, _, _, _, _ => "bad-op"
  | "asmat" :: root :: entries =>
    match parseTreeCase root entries with
    | some (t, _) =>
      match asMatrix t with
      | none => "error"
      | some (order, rows, cols, binds) =>
        "order " ++ showNats order ++ " | rows " ++ " ".intercalate (rows.map showLeg) ++ " | cols " ++
          " ".intercalate (cols.map showLeg) ++ " | " ++
          ("binds " ++ " ".intercalate (binds.map fun p => showLeg p.1 ++ "~" ++ showLeg p.2)).trimAscii.toString
    | none => "bad-op"
  | _ => "bad-op"

end Ptn.C04
