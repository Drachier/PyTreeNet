import Ptn.C04.Value
import Ptn.C04.ValueCentre
/-! Value level: the `Centre` / `Kids` structure of `Ptn/Common/EinsumIso.lean` built from a C04 `Tree` whose root is the centre
(`c04CentreOf`), with the tree-level labels: its record is the specification graph `ssSpec t` up to the orientation of the bra
bonds, its tensors are the leaves of the loop, and the per-edge isometry hypothesis in C04's labels (`IsoKids`; it contains
`BondDims`) gives `Centre.Canon`.
The property theorems that put these lemmas together are in `Props.lean`; `obligations/C04.txt` lists some of the lemmas
here by their own names as well. -/
namespace Ptn.C04

open Ptn.Ein

section
set_option linter.unusedSectionVars false
variable {R : Type} [CommSemiring R]

/-- turn around the pairs selected by `b` -/
def flipIf {L : Type} (b : L × L → Bool) (p : L × L) : L × L := if b p then p.swap else p

theorem c04_sumPairs_flipIf {L : Type} [DecidableEq L] (dim : L → Nat) (b : L × L → Bool) (ps : List (L × L))
    (hd : ∀ p ∈ ps, b p = true → dim p.1 = dim p.2) (f : Asg L → R) (σ : Asg L) :
    sumPairs dim (ps.map (flipIf b)) f σ = sumPairs dim ps f σ :=
  sumPairs_map_orient dim _ ps (fun p hp => by
    unfold flipIf; split
    · exact Or.inr ⟨rfl, hd p hp ‹_›⟩
    · exact Or.inl rfl) f σ

theorem c04_pairLegs_flipIf {L : Type} [DecidableEq L] (b : L × L → Bool) (ps : List (L × L)) :
    (Expr.pairLegs (ps.map (flipIf b))).Perm (Expr.pairLegs ps) :=
  pairLegs_map_orient _ ps fun p _ => by
    unfold flipIf; split
    · exact Or.inr rfl
    · exact Or.inl rfl

variable (kv bv : Nat → Asg Leg → R)

mutual
/-- the doubled sub-tree of `t` hanging off the bond toward its parent `p`: tensors `kv i`, `bv i`, up-legs
`gKet i p`, `gBra i p`, one pair of open legs -/
def c04SubOf (p : Nat) : Tree → Sub Leg R
  | .node i ks => Sub.node (kv i) (bv i) (Leg.gKet i p) (Leg.gBra i p) [physPair i] (c04KidsOf i ks)
/-- the sub-trees below node `i`: legs `gKet i c`, `gBra i c` of node `i` facing the child `c` -/
def c04KidsOf (i : Nat) : List Tree → Kids Leg R
  | [] => Kids.nil
  | c :: cs => Kids.cons (Leg.gKet i c.id) (Leg.gBra i c.id) (c04SubOf i c) (c04KidsOf i cs)
end

/-- the norm network seen from the root of the tree -/
def c04CentreOf : Tree → Centre Leg R
  | .node c ks => ⟨kv c, bv c, [physPair c], c04KidsOf kv bv c ks⟩

/-- the pairs (ket leg, bra leg) of node `i` facing its children: the legs over which, together with the open
legs, the centre-only contraction and the isometry condition sum -/
def downPairs (i : Nat) (ks : List Tree) : List (Leg × Leg) :=
  ks.map fun c => (Leg.gKet i c.id, Leg.gBra i c.id)

theorem c04SubOf_u (p : Nat) (t : Tree) : (c04SubOf kv bv p t).u = Leg.gKet t.id p := by
  cases t; simp [c04SubOf, Sub.u, Tree.id]

theorem c04SubOf_u' (p : Nat) (t : Tree) : (c04SubOf kv bv p t).u' = Leg.gBra t.id p := by
  cases t; simp [c04SubOf, Sub.u', Tree.id]

theorem c04_kids_pairs (i : Nat) : ∀ ks : List Tree, (c04KidsOf kv bv i ks).pairs = downPairs i ks
  | [] => by simp [c04KidsOf, Kids.pairs, downPairs]
  | c :: cs => by
    have := c04_kids_pairs i cs
    simp only [downPairs] at this
    simp [c04KidsOf, Kids.pairs, downPairs, this]

theorem c04_kids_kd (i : Nat) : ∀ ks : List Tree, (c04KidsOf kv bv i ks).kd = (ks.map Tree.id).map (Leg.gKet i)
  | [] => by simp [c04KidsOf, Kids.kd]
  | c :: cs => by simp [c04KidsOf, Kids.kd, c04_kids_kd i cs]

theorem c04_kids_bd (i : Nat) : ∀ ks : List Tree, (c04KidsOf kv bv i ks).bd = (ks.map Tree.id).map (Leg.gBra i)
  | [] => by simp [c04KidsOf, Kids.bd]
  | c :: cs => by simp [c04KidsOf, Kids.bd, c04_kids_bd i cs]

mutual
theorem c04_sub_binds (p : Nat) : ∀ t : Tree, (c04SubOf kv bv p t).binds = (ssSpec t).map (flipIf isBraEdge)
  | .node i ks => by
    simp only [c04SubOf, Sub.binds, ssSpec, List.map_cons, c04_kids_binds i ks]
    simp [flipIf, physPair, isBraEdge]
theorem c04_kids_binds (i : Nat) : ∀ ks : List Tree,
    (c04KidsOf kv bv i ks).binds = (ssSpecL i ks).map (flipIf isBraEdge)
  | [] => by simp [c04KidsOf, Kids.binds, ssSpecL]
  | c :: cs => by
    simp only [c04KidsOf, Kids.binds, ssSpecL, List.map_cons, List.map_append, c04_sub_binds i c,
      c04_kids_binds i cs, c04SubOf_u, c04SubOf_u']
    simp [flipIf, ketEdge, braEdge, isBraEdge]
end

theorem c04_centre_normBinds (t : Tree) : (c04CentreOf kv bv t).normBinds = (ssSpec t).map (flipIf isBraEdge) := by
  obtain ⟨c, ks⟩ := t
  simp only [c04CentreOf, Centre.normBinds, ssSpec, List.map_cons, c04_kids_binds]
  simp [flipIf, physPair, isBraEdge]

variable (braKids : Nat → List Nat)

mutual
theorem c04_sub_leaves (p : Nat) : ∀ t : Tree,
    (c04SubOf kv bv p t).leaves = (ssLeaves braKids kv bv (some p) t).map Prod.snd
  | .node i ks => by
    have := c04_kids_leaves i ks
    simp only [ssLeaves] at this ⊢
    simp [c04SubOf, Sub.leaves, treeLeaves, ssNodeLeaves, this]
theorem c04_kids_leaves (i : Nat) : ∀ ks : List Tree,
    (c04KidsOf kv bv i ks).leaves = (treeLeavesL (ssNodeLeaves braKids kv bv) i ks).map Prod.snd
  | [] => by simp [c04KidsOf, Kids.leaves, treeLeavesL]
  | c :: cs => by
    have h1 := c04_sub_leaves i c
    have h2 := c04_kids_leaves i cs
    simp only [ssLeaves] at h1
    simp [c04KidsOf, Kids.leaves, treeLeavesL, h1, h2]
end

theorem c04_centre_leaves (t : Tree) :
    (c04CentreOf kv bv t).normLeaves = (ssLeaves braKids kv bv none t).map Prod.snd := by
  obtain ⟨c, ks⟩ := t
  have := c04_kids_leaves kv bv braKids c ks
  simp [c04CentreOf, Centre.normLeaves, ssLeaves, treeLeaves, ssNodeLeaves, this]

theorem c04_centre_labels_perm (t : Tree) :
    (c04CentreOf kv bv t).labels.Perm (Expr.pairLegs (ssSpec t)) := by
  have h1 := Centre.labels_perm (c04CentreOf kv bv t)
  rw [c04_centre_normBinds] at h1
  exact h1.trans (c04_pairLegs_flipIf _ _)

theorem c04_centre_labels_nodup (t : Tree) (h : (Expr.pairLegs (ssSpec t)).Nodup) :
    (c04CentreOf kv bv t).labels.Nodup :=
  (c04_centre_labels_perm kv bv t).nodup_iff.2 h

variable (dim : Leg → Nat)

mutual
/-- **every node of the sub-tree `t` (parent `p`) is an isometry toward `p`, in index form**: the bra copy of the
up-leg has the dimension of the ket's; summing `kv i · bv i` over one common index for the open leg and for every
pair of legs facing a child gives `δ(gKet i p, gBra i p)` (for indices within the bond dimension) -/
def IsoSub (p : Nat) : Tree → Prop
  | .node i ks =>
    dim (Leg.gBra i p) = dim (Leg.gKet i p) ∧
    (∀ τ : Asg Leg, τ (Leg.gKet i p) < dim (Leg.gKet i p) → τ (Leg.gBra i p) < dim (Leg.gBra i p) →
      sumPairs dim (physPair i :: downPairs i ks) (fun ρ => kv i ρ * bv i ρ) τ =
        if τ (Leg.gKet i p) = τ (Leg.gBra i p) then 1 else 0) ∧
    IsoKids i ks
/-- every child sub-tree of node `i` is isometric toward `i`; both ends of every bond have the same dimension -/
def IsoKids (i : Nat) : List Tree → Prop
  | [] => True
  | c :: cs => dim (Leg.gKet i c.id) = dim (Leg.gKet c.id i) ∧ dim (Leg.gBra i c.id) = dim (Leg.gBra c.id i) ∧
      IsoSub i c ∧ IsoKids i cs
end

/-- what is known of one node: both tensors read only their own legs; the bra's child order is a permutation -/
def NodeLocal (e : Nat × Option Nat × List Nat) : Prop :=
  DependsOn (· ∈ (gKetT e.1 ⟨e.2.1, e.2.2⟩).legs) (kv e.1) ∧
  DependsOn (· ∈ (gBraT e.1 ⟨e.2.1, braKids e.1⟩).legs) (bv e.1) ∧ (braKids e.1).Perm e.2.2

/-- the legs of a node tensor: the leg toward the parent (if any), the legs toward the children, the open leg -/
theorem mem_node_legs {mk : Nat → Leg} {ph : Leg} {p : Option Nat} {kids : List Nat} {l : Leg}
    (hl : l ∈ (Node.mk p kids).nbrs.map mk ++ [ph]) : l ∈ p.toList.map mk ∨ l = ph ∨ l ∈ kids.map mk := by
  simp only [Node.nbrs, List.map_append, List.mem_append, List.mem_singleton] at hl
  rcases hl with (h | h) | h
  · exact Or.inl h
  · exact Or.inr (Or.inr h)
  · exact Or.inr (Or.inl h)

theorem c04_ket_legs_sub (i : Nat) (p : Option Nat) (ks : List Tree) (l : Leg)
    (hl : l ∈ (gKetT i ⟨p, ks.map Tree.id⟩).legs) :
    l ∈ p.toList.map (Leg.gKet i) ++ ([physPair i].map Prod.fst ++ (c04KidsOf kv bv i ks).kd) := by
  rw [c04_kids_kd]
  rcases mem_node_legs (mk := Leg.gKet i) (ph := Leg.gKetPhys i) hl with h | rfl | h
  · exact List.mem_append_left _ h
  · exact List.mem_append_right _ (List.mem_append_left _ (List.mem_singleton.2 rfl))
  · exact List.mem_append_right _ (List.mem_append_right _ h)

theorem c04_bra_legs_sub (i : Nat) (p : Option Nat) (ks : List Tree) (hp : (braKids i).Perm (ks.map Tree.id)) (l : Leg)
    (hl : l ∈ (gBraT i ⟨p, braKids i⟩).legs) :
    l ∈ p.toList.map (Leg.gBra i) ++ ([physPair i].map Prod.snd ++ (c04KidsOf kv bv i ks).bd) := by
  rw [c04_kids_bd]
  rcases mem_node_legs (mk := Leg.gBra i) (ph := Leg.gBraPhys i) hl with h | rfl | h
  · exact List.mem_append_left _ h
  · exact List.mem_append_right _ (List.mem_append_left _ (List.mem_singleton.2 rfl))
  · exact List.mem_append_right _ (List.mem_append_right _ ((hp.map _).mem_iff.1 h))

mutual
theorem c04_sub_canon (p : Nat) : ∀ t : Tree, (∀ e ∈ Tree.info (some p) t, NodeLocal kv bv braKids e) →
    IsoSub kv bv dim p t → (c04SubOf kv bv p t).Canon dim
  | .node i ks, hloc, hiso => by
    obtain ⟨hd, his, hk⟩ := hiso
    obtain ⟨h1, h2, h3⟩ := hloc (i, some p, ks.map Tree.id) (by simp [Tree.info])
    simp only [c04SubOf, Sub.Canon]
    refine ⟨h1.mono (c04_ket_legs_sub kv bv i (some p) ks), h2.mono (c04_bra_legs_sub kv bv braKids i (some p) ks h3), hd, ?_,
      c04_kids_canon i ks (fun e he => hloc e (by simp [Tree.info, he])) hk⟩
    intro τ hu hu'
    rw [c04_kids_pairs]
    exact his τ hu hu'
theorem c04_kids_canon (i : Nat) : ∀ ks : List Tree, (∀ e ∈ Tree.infoL i ks, NodeLocal kv bv braKids e) →
    IsoKids kv bv dim i ks → (c04KidsOf kv bv i ks).Canon dim
  | [], _, _ => by simp [c04KidsOf, Kids.Canon]
  | c :: cs, hloc, hiso => by
    obtain ⟨hd1, hd2, hs, hr⟩ := hiso
    simp only [c04KidsOf, Kids.Canon, c04SubOf_u, c04SubOf_u']
    exact ⟨hd1, hd2, c04_sub_canon i c (fun e he => hloc e (by simp [Tree.infoL, he])) hs,
      c04_kids_canon i cs (fun e he => hloc e (by simp [Tree.infoL, he])) hr⟩
end

/-- both ends of every bond have the same dimension (in the ket and in the bra network) -/
def BondDims (dim : Leg → Nat) (t : Tree) : Prop :=
  ∀ e ∈ t.edges, dim (Leg.gKet e.1 e.2) = dim (Leg.gKet e.2 e.1) ∧ dim (Leg.gBra e.1 e.2) = dim (Leg.gBra e.2 e.1)

theorem isoKids_iff (i : Nat) : ∀ ks : List Tree, IsoKids kv bv dim i ks ↔
    ∀ c ∈ ks, dim (Leg.gKet i c.id) = dim (Leg.gKet c.id i) ∧ dim (Leg.gBra i c.id) = dim (Leg.gBra c.id i) ∧
      IsoSub kv bv dim i c
  | [] => ⟨fun _ _ h => absurd h List.not_mem_nil, fun _ => trivial⟩
  | c :: cs => by
    rw [IsoKids, isoKids_iff i cs, List.forall_mem_cons]
    exact ⟨fun ⟨h1, h2, h3, h4⟩ => ⟨⟨h1, h2, h3⟩, h4⟩, fun ⟨⟨h1, h2, h3⟩, h4⟩ => ⟨h1, h2, h3, h4⟩⟩

theorem c04_iso_bonds_kids (i : Nat) (ks : List Tree) : IsoKids kv bv dim i ks → BondDims dim (.node i ks) := by
  refine Tree.induct (P := fun t => IsoKids kv bv dim t.id t.kids → BondDims dim t) (fun i ks ih hiso e he => ?_)
    (.node i ks)
  rw [Tree.edges, Tree.edgesL_eq, List.mem_flatMap] at he
  obtain ⟨c, hc, he⟩ := he
  obtain ⟨h1, h2, h3⟩ := (isoKids_iff kv bv dim i ks).1 hiso c hc
  rcases List.mem_cons.1 he with rfl | he
  · exact ⟨h1, h2⟩
  · exact ih c hc (by cases c; exact h3.2.2) e he

theorem braEdge_dims {t : Tree} (hd : BondDims dim t) :
    ∀ x ∈ ssSpec t, isBraEdge x = true → dim x.1 = dim x.2 := fun x hx hb => by
  rcases (ss_spec_graph t x).1 hx with ⟨_, _, rfl⟩ | ⟨e, he, rfl | rfl⟩
  · exact absurd hb (by simp [physPair, isBraEdge])
  · exact absurd hb (by simp [ketEdge, isBraEdge])
  · exact (hd e he).2.symm

theorem c04_centre_canon (c : Nat) (ks : List Tree)
    (hloc : ∀ e ∈ Tree.info none (.node c ks), NodeLocal kv bv braKids e)
    (hiso : IsoKids kv bv dim c ks) : (c04CentreOf kv bv (.node c ks)).Canon dim := by
  obtain ⟨h1, h2, h3⟩ := hloc (c, none, ks.map Tree.id) (by simp [Tree.info])
  exact ⟨h1.mono (c04_ket_legs_sub kv bv c none ks), h2.mono (c04_bra_legs_sub kv bv braKids c none ks h3),
    c04_kids_canon kv bv braKids dim c ks (fun e he => hloc e (by simp [Tree.info, he])) hiso⟩

end

end Ptn.C04
