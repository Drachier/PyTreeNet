import Ptn.C04.BuiltFns
import Ptn.C04.GraphSO
/-! "Inputs built ⟹ output built" for the functions of `TreeModel.lean` (dictionary, loop step, root step), and
the composition along the tree: the tensor that `contract_two_ttns` / `expectation_value` returns is built
from exactly the node tensors of the networks (`as_matrix`: `ccTree_built` in `ValueOp.lean`). -/
namespace Ptn.C04

open Ptn.Ein

variable {R : Type}

theorem Dict.delete_some {d d1 : Dict} {k0 k : Nat × Nat} {v : T} (h : d.delete k0 = some d1)
    (hk : d1 k = some v) : d k = some v := by
  unfold Dict.delete at h
  split at h
  · simp only [Option.some.injEq] at h
    subst h
    by_cases e : k = k0
    · simp [e] at hk
    · simpa [e] using hk
  · simp at h

theorem Dict.deleteAll_some : ∀ (keys : List (Nat × Nat)) {d d' : Dict} {k : Nat × Nat} {v : T},
    d.deleteAll keys = some d' → d' k = some v → d k = some v
  | [], d, d', k, v, h, hk => by
    simp only [Dict.deleteAll, Option.some.injEq] at h
    subst h; exact hk
  | k0 :: ks, d, d', k, v, h, hk => by
    unfold Dict.deleteAll at h
    split at h
    · simp at h
    · rename_i d1 hd1
      exact Dict.delete_some hd1 (Dict.deleteAll_some ks h hk)

/-- the leaves of the kid with identifier `n` -/
def lvOf (f : Tree → List (LeafT R)) (ts : List Tree) (n : Nat) : List (LeafT R) :=
  ((ts.find? (fun c => c.id == n)).map f).getD []

theorem lvOf_flatMap (f : Tree → List (LeafT R)) : ∀ (ts : List Tree), (ts.map Tree.id).Nodup →
    (ts.map Tree.id).flatMap (lvOf f ts) = ts.flatMap f :=
  flatMap_kids f (fun _ l => l)

/-- an entry of the kid table is built from the leaves of the kid it belongs to -/
theorem kidTable_built {blkOf : Tree → Nat → T} {f : Tree → List (LeafT R)} {ks : List Tree} {i n : Nat} {blk : T}
    (hkids : ∀ c ∈ ks, BuiltL (blkOf c i) (f c)) (hblk : kidTable blkOf ks i (n, i) = some blk) :
    BuiltL blk (lvOf f ks n) := by
  simp only [kidTable, if_true] at hblk
  cases hc : ks.find? (fun c => c.id == n) with
  | none => simp [hc] at hblk
  | some c =>
    simp only [hc, Option.map_some, Option.some.injEq] at hblk
    subst hblk
    simp only [lvOf, hc, Option.map_some, Option.getD_some]
    exact hkids c (find_kid hc).1

/-- after `add_entry` and the deletions an entry is the new one or was there before -/
theorem Dict.add_deleteAll_some {d d' : Dict} {k0 k : Nat × Nat} {v blk : T} {keys : List (Nat × Nat)}
    (h : (d.add k0 v).deleteAll keys = some d') (hk : d' k = some blk) :
    (k = k0 ∧ blk = v) ∨ (k ≠ k0 ∧ d k = some blk) := by
  have := Dict.deleteAll_some _ h hk
  unfold Dict.add at this
  by_cases e : k = k0
  · rw [if_pos e] at this
    exact Or.inl ⟨e, (Option.some.inj this).symm⟩
  · rw [if_neg e] at this
    exact Or.inr ⟨e, this⟩

/-- a table entry known to be a fresh tensor is built from that tensor alone -/
theorem BuiltL.of_tensor {o : Option T} {legs : List Leg} {v : Asg Leg → R} (h : o = some (T.fresh legs)) (t : T)
    (ht : o = some t) : BuiltL t [(legs, v)] := by
  rw [h] at ht
  cases ht
  exact BuiltL.fresh _ _

theorem ssContractAny_built {s1 s2 : Net} {d : Dict} {i next : Nat} {r : T} {l1 l2 : List (LeafT R)}
    {lv : Nat → List (LeafT R)} (h : ssContractAny i next s1 s2 d = some r)
    (h1 : ∀ t1, s1.tensor i = some t1 → BuiltL t1 l1) (h2 : ∀ t2, s2.tensor i = some t2 → BuiltL t2 l2)
    (hc : ∀ n1, s1.node i = some n1 → ∀ n ∈ n1.nbrs, n ≠ next → ∀ blk, d (n, i) = some blk → BuiltL blk (lv n)) :
    ∃ n1, s1.node i = some n1 ∧
      BuiltL r ((l1 ++ (if n1.isLeaf then [] else (n1.nbrs.filter (· ≠ next)).flatMap lv)) ++ l2) := by
  unfold ssContractAny at h
  split at h
  · rename_i n1 t1 n2 t2 hn1 ht1 hn2 ht2
    exact ⟨n1, hn1, contractAnyNodes_built h (h1 t1 ht1) (h2 t2 ht2) (hc n1 hn1)⟩
  · simp at h

/-- one iteration of the loop: the new entry is built from the node's two tensors and the blocks of its
children; every other entry was there before -/
theorem ssStep_built {s1 s2 : Net} {d d' : Dict} {i : Nat} {l1 l2 : List (LeafT R)} {lv : Nat → List (LeafT R)}
    (h : ssStep s1 s2 d i = some d')
    (h1 : ∀ t1, s1.tensor i = some t1 → BuiltL t1 l1) (h2 : ∀ t2, s2.tensor i = some t2 → BuiltL t2 l2)
    (hc : ∀ n1, s1.node i = some n1 → ∀ p, n1.parent = some p → ∀ n ∈ n1.nbrs, n ≠ p →
      ∀ blk, d (n, i) = some blk → BuiltL blk (lv n)) :
    ∃ n1 p, s1.node i = some n1 ∧ n1.parent = some p ∧ ∀ k blk, d' k = some blk →
      (k = (i, p) ∧
        BuiltL blk ((l1 ++ (if n1.isLeaf then [] else (n1.nbrs.filter (· ≠ p)).flatMap lv)) ++ l2)) ∨
      (k ≠ (i, p) ∧ d k = some blk) := by
  unfold ssStep at h
  split at h
  · simp at h
  · rename_i node hnode
    split at h
    · simp at h
    · rename_i p hp
      split at h
      · simp at h
      · rename_i block hblock
        obtain ⟨n1, hn1, hb⟩ := ssContractAny_built hblock h1 h2 (fun n1 hn1 => hc n1 hn1 p (by
          rw [hnode] at hn1; simp only [Option.some.injEq] at hn1; subst hn1; exact hp))
        rw [hnode] at hn1; simp only [Option.some.injEq] at hn1; subst hn1
        refine ⟨node, p, hnode, hp, fun k blk hk => ?_⟩
        rcases Dict.add_deleteAll_some h hk with ⟨e, rfl⟩ | hold
        · exact Or.inl ⟨e, hb⟩
        · exact Or.inr hold

theorem ssContractNodeWithEnvironment_built {s1 s2 : Net} {d : Dict} {i : Nat} {r : T} {l1 l2 : List (LeafT R)}
    {lv : Nat → List (LeafT R)} (h : ssContractNodeWithEnvironment i s1 s2 d = some r)
    (h1 : ∀ t1, s1.tensor i = some t1 → BuiltL t1 l1) (h2 : ∀ t2, s2.tensor i = some t2 → BuiltL t2 l2)
    (hc : ∀ n1, s1.node i = some n1 → ∀ n ∈ n1.nbrs, ∀ blk, d (n, i) = some blk → BuiltL blk (lv n)) :
    ∃ n1, s1.node i = some n1 ∧ BuiltL r ((l1 ++ n1.nbrs.flatMap lv) ++ l2) := by
  unfold ssContractNodeWithEnvironment at h
  split at h
  · rename_i n1 t1 n2 t2 hn1 ht1 hn2 ht2
    exact ⟨n1, hn1, contractNodeWithEnvironmentNodes_built h (h1 t1 ht1) (h2 t2 ht2) (hc n1 hn1)⟩
  · simp at h

/-- `contract_two_ttns` is the loop followed by the root step -/
theorem contractTwoTtns_some {s1 s2 : Net} {r : T} (h : contractTwoTtns s1 s2 = some r) :
    ∃ d, ssLoop s1 s2 s1.order.dropLast Dict.empty = some d ∧
      ssContractNodeWithEnvironment s1.root s1 s2 d = some r := by
  unfold contractTwoTtns at h
  simp only at h
  split at h
  · simp at h
  · split at h
    · simp at h
    · rename_i d hd
      exact ⟨d, hd, h⟩

section ss
variable (s1 s2 : Net) (braKids : Nat → List Nat) (kv bv : Nat → Asg Leg → R)

/-- the two node tensors of node `i`: the ket tensor with the ket's child order, the bra tensor with the bra's -/
def ssNodeLeaves (i : Nat) (p : Option Nat) (kids : List Nat) : List (LeafT R) :=
  [((gKetT i ⟨p, kids⟩).legs, kv i), ((gBraT i ⟨p, braKids i⟩).legs, bv i)]

/-- all node tensors of the two networks -/
def ssLeaves (p : Option Nat) (t : Tree) : List (LeafT R) := treeLeaves (ssNodeLeaves braKids kv bv) p t

/-- **every cached block is built from the tensors of its subtree** (the blocks are those of `ssLoop_subtree`) -/
theorem ssBlock_built : ∀ (t : Tree) (p : Nat), t.ids.Nodup → p ∉ t.ids →
    Rep s1 s2 braKids (Tree.info (some p) t) → BuiltL (ssBlock t p) (ssLeaves braKids kv bv (some p) t) := by
  refine Tree.induct fun i ks ih p hnd hp hrep => ?_
  have hkids : ∀ c ∈ ks, BuiltL (ssBlock c i) (ssLeaves braKids kv bv (some i) c) := fun c hc =>
    ih c hc i (Tree.kid_hyps hc hnd).1 (Tree.kid_hyps hc hnd).2 fun e he => hrep e (Tree.info_kid hc he)
  have hrep1 : Rep s1 s2 braKids [(i, some p, ks.map Tree.id)] :=
    fun e he => hrep e (by simp [Tree.info, List.mem_singleton.1 he])
  obtain ⟨⟨h1, h2, -, h4⟩, hkn, -, -, -, -, hfilter⟩ := node_nbrs_facts hnd hp hrep1
  obtain ⟨n1, hn1, hb⟩ := ssContractAny_built (R := R)
    (l1 := [((gKetT i ⟨some p, ks.map Tree.id⟩).legs, kv i)])
    (l2 := [((gBraT i ⟨some p, braKids i⟩).legs, bv i)])
    (lv := lvOf (ssLeaves braKids kv bv (some i)) ks)
    (ssContractAny_node s1 s2 braKids i p ks (kidTable ssBlock ks i) hnd hp hrep1 (fun _ _ => rfl))
    (BuiltL.of_tensor h2) (BuiltL.of_tensor h4)
    (fun _ _ n _ _ blk hblk => kidTable_built (blkOf := ssBlock) hkids hblk)
  rw [h1] at hn1; simp only [Option.some.injEq] at hn1; subst hn1
  refine hb.perm ?_
  rw [hfilter, lvOf_flatMap _ ks hkn]
  simp only [ssLeaves, treeLeaves, ssNodeLeaves, treeLeavesL_eq]
  cases ks with
  | nil => simp [Node.isLeaf]
  | cons c cs =>
    simp only [Node.isLeaf, List.map_cons, List.isEmpty_cons, Bool.false_eq_true, if_false]
    simp only [List.cons_append, List.nil_append]
    exact List.Perm.cons _ List.perm_append_comm

/-- **The tensor `contract_two_ttns` returns is built from exactly the node tensors of the two networks**: the
loop over `linearise()` with the block dictionary and the root step are a nesting of `tensordot` calls over
the ket and bra tensors of all nodes. -/
theorem contractTwoTtns_built (kv bv : Nat → Asg Leg → R) (t : Tree) (hnd : t.ids.Nodup) (braKids : Nat → List Nat)
    (hperm : ∀ e ∈ Tree.info none t, (braKids e.1).Perm e.2.2) :
    BuiltL (⟨[], ssRootBinds t (braKids t.id)⟩ : T) (ssLeaves braKids kv bv none t) := by
  obtain ⟨r, ks⟩ := t
  have hrep := repG_netOf gKetT gBraT (.node r ks) hnd braKids hperm
  have hnd' := hnd
  simp only [Tree.ids, List.nodup_cons] at hnd'
  have hkids : ∀ c ∈ ks, BuiltL (ssBlock c r) (ssLeaves braKids kv bv (some r) c) := fun c hc =>
    ssBlock_built _ _ braKids kv bv c r (Tree.kid_hyps hc hnd).1 (Tree.kid_hyps hc hnd).2 fun e he => hrep e (Tree.info_kid hc he)
  have hrep1 : Rep _ _ braKids [(r, none, ks.map Tree.id)] :=
    fun e he => hrep e (by simp [Tree.info, List.mem_singleton.1 he])
  obtain ⟨h1, h2, h3, h4, hp⟩ := hrep1 (r, none, ks.map Tree.id) (by simp)
  simp only at h1 h2 h3 h4 hp
  have hkn : (ks.map Tree.id).Nodup := Tree.nodup_kid_ids ks hnd'.2
  obtain ⟨n1, hn1, hb⟩ := ssContractNodeWithEnvironment_built (R := R)
    (l1 := [((gKetT r ⟨none, ks.map Tree.id⟩).legs, kv r)])
    (l2 := [((gBraT r ⟨none, braKids r⟩).legs, bv r)])
    (lv := lvOf (ssLeaves braKids kv bv (some r)) ks)
    (ssRoot_node _ _ braKids r ks (kidTable ssBlock ks r) hnd hrep1 (fun _ _ => rfl))
    (BuiltL.of_tensor h2) (BuiltL.of_tensor h4)
    (fun _ _ n _ blk hblk => kidTable_built (blkOf := ssBlock) hkids hblk)
  rw [h1] at hn1; simp only [Option.some.injEq] at hn1; subst hn1
  refine hb.perm ?_
  have hnb : (Node.mk none (ks.map Tree.id)).nbrs = ks.map Tree.id := by simp [Node.nbrs]
  rw [hnb, lvOf_flatMap _ ks hkn]
  simp only [ssLeaves, treeLeaves, ssNodeLeaves, treeLeavesL_eq]
  simp only [List.cons_append, List.nil_append]
  exact List.Perm.cons _ (List.perm_append_comm.trans (List.Perm.refl _))

end ss

theorem soContractAny_built {state op : Net} {braOf : Nat → Node → T} {d : Dict} {i next : Nat} {r : T}
    {l1 l2 : List (LeafT R)} {l3 : Node → List (LeafT R)} {lv : Nat → List (LeafT R)}
    (h : soContractAny i next state op braOf d = some r)
    (h1 : ∀ t1, state.tensor i = some t1 → BuiltL t1 l1) (h2 : ∀ t2, op.tensor i = some t2 → BuiltL t2 l2)
    (h3 : ∀ n1, state.node i = some n1 → BuiltL (braOf i n1) (l3 n1))
    (hc : ∀ n1, state.node i = some n1 → ∀ n ∈ n1.nbrs, n ≠ next → ∀ blk, d (n, i) = some blk → BuiltL blk (lv n)) :
    ∃ n1, state.node i = some n1 ∧
      BuiltL r (((l1 ++ (if n1.isLeaf then [] else (n1.nbrs.filter (· ≠ next)).flatMap lv)) ++ l2) ++ l3 n1) := by
  unfold soContractAny at h
  split at h
  · rename_i n1 t1 n2 t2 hn1 ht1 hn2 ht2
    exact ⟨n1, hn1, opContractAnyNodeEnvironmentButOne_built h (h1 t1 ht1) (h2 t2 ht2) (h3 n1 hn1) (hc n1 hn1)⟩
  · simp at h

theorem soStep_built {state op : Net} {braOf : Nat → Node → T} {d d' : Dict} {i : Nat}
    {l1 l2 : List (LeafT R)} {l3 : Node → List (LeafT R)} {lv : Nat → List (LeafT R)}
    (h : soStep state op braOf d i = some d')
    (h1 : ∀ t1, state.tensor i = some t1 → BuiltL t1 l1) (h2 : ∀ t2, op.tensor i = some t2 → BuiltL t2 l2)
    (h3 : ∀ n1, state.node i = some n1 → BuiltL (braOf i n1) (l3 n1))
    (hc : ∀ n1, state.node i = some n1 → ∀ p, n1.parent = some p → ∀ n ∈ n1.nbrs, n ≠ p →
      ∀ blk, d (n, i) = some blk → BuiltL blk (lv n)) :
    ∃ n1 p, state.node i = some n1 ∧ n1.parent = some p ∧ ∀ k blk, d' k = some blk →
      (k = (i, p) ∧
        BuiltL blk (((l1 ++ (if n1.isLeaf then [] else (n1.nbrs.filter (· ≠ p)).flatMap lv)) ++ l2) ++ l3 n1)) ∨
      (k ≠ (i, p) ∧ d k = some blk) := by
  unfold soStep at h
  split at h
  · simp at h
  · rename_i node hnode
    split at h
    · simp at h
    · rename_i p hp
      split at h
      · simp at h
      · rename_i block hblock
        obtain ⟨n1, hn1, hb⟩ := soContractAny_built hblock h1 h2 h3 (fun n1 hn1 => hc n1 hn1 p (by
          rw [hnode] at hn1; simp only [Option.some.injEq] at hn1; subst hn1; exact hp))
        rw [hnode] at hn1; simp only [Option.some.injEq] at hn1; subst hn1
        refine ⟨node, p, hnode, hp, fun k blk hk => ?_⟩
        rcases Dict.add_deleteAll_some h hk with ⟨e, rfl⟩ | hold
        · exact Or.inl ⟨e, hb⟩
        · exact Or.inr hold

theorem soContractNodeWithEnvironment_built {state op : Net} {braOf : Nat → Node → T} {d : Dict} {i : Nat} {r : T}
    {l1 l2 : List (LeafT R)} {l3 : Node → List (LeafT R)} {lv : Nat → List (LeafT R)}
    (h : soContractNodeWithEnvironment i state op braOf d = some r)
    (h1 : ∀ t1, state.tensor i = some t1 → BuiltL t1 l1) (h2 : ∀ t2, op.tensor i = some t2 → BuiltL t2 l2)
    (h3 : ∀ n1, state.node i = some n1 → BuiltL (braOf i n1) (l3 n1))
    (hc : ∀ n1, state.node i = some n1 → ∀ n ∈ n1.nbrs, ∀ blk, d (n, i) = some blk → BuiltL blk (lv n)) :
    ∃ n1, state.node i = some n1 ∧ BuiltL r (l3 n1 ++ ((l1 ++ n1.nbrs.flatMap lv) ++ l2)) := by
  unfold soContractNodeWithEnvironment at h
  split at h
  · rename_i n1 t1 n2 t2 hn1 ht1 hn2 ht2
    exact ⟨n1, hn1, opContractNodeWithEnvironment_built h (h1 t1 ht1) (h2 t2 ht2) (h3 n1 hn1) (hc n1 hn1)⟩
  · simp at h

theorem expectationValue_some {state op : Net} {braOf : Nat → Node → T} {r : T}
    (h : expectationValue state op braOf = some r) :
    ∃ d, soLoop state op braOf state.order.dropLast Dict.empty = some d ∧
      soContractNodeWithEnvironment state.root state op braOf d = some r := by
  unfold expectationValue at h
  simp only at h
  split at h
  · simp at h
  · split at h
    · simp at h
    · rename_i d hd
      exact ⟨d, hd, h⟩

section so
variable (s1 s2 : Net) (opKids : Nat → List Nat) (kv ov bv : Nat → Asg Leg → R)

/-- the three node tensors of node `i`: ket, operator (with the operator's child order), bra (= the conjugated
ket tensor, on the ket's node) -/
def soNodeLeaves (i : Nat) (p : Option Nat) (kids : List Nat) : List (LeafT R) :=
  [((gKetT i ⟨p, kids⟩).legs, kv i), ((gOpT i ⟨p, opKids i⟩).legs, ov i), ((gBraT i ⟨p, kids⟩).legs, bv i)]

def soLeaves (p : Option Nat) (t : Tree) : List (LeafT R) := treeLeaves (soNodeLeaves opKids kv ov bv) p t

theorem soBlock_built : ∀ (t : Tree) (p : Nat), t.ids.Nodup → p ∉ t.ids →
    RepO s1 s2 opKids (Tree.info (some p) t) → BuiltL (soBlock t p) (soLeaves opKids kv ov bv (some p) t) := by
  refine Tree.induct fun i ks ih p hnd hp hrep => ?_
  have hkids : ∀ c ∈ ks, BuiltL (soBlock c i) (soLeaves opKids kv ov bv (some i) c) := fun c hc =>
    ih c hc i (Tree.kid_hyps hc hnd).1 (Tree.kid_hyps hc hnd).2 fun e he => hrep e (Tree.info_kid hc he)
  have hrep1 : RepO s1 s2 opKids [(i, some p, ks.map Tree.id)] :=
    fun e he => hrep e (by simp [Tree.info, List.mem_singleton.1 he])
  obtain ⟨⟨h1, h2, -, h4⟩, hkn, -, -, -, -, hfilter⟩ := node_nbrs_facts hnd hp hrep1
  obtain ⟨n1, hn1, hb⟩ := soContractAny_built (R := R)
    (l1 := [((gKetT i ⟨some p, ks.map Tree.id⟩).legs, kv i)])
    (l2 := [((gOpT i ⟨some p, opKids i⟩).legs, ov i)])
    (l3 := fun n1 => [((gBraT i n1).legs, bv i)])
    (lv := lvOf (soLeaves opKids kv ov bv (some i)) ks)
    (soContractAny_node s1 s2 opKids i p ks (soKidBlock ks i) hnd hp hrep1 (fun _ _ => rfl))
    (BuiltL.of_tensor h2) (BuiltL.of_tensor h4) (fun n1 _ => BuiltL.fresh _ _)
    (fun _ _ n _ _ blk hblk => kidTable_built (blkOf := soBlock) hkids hblk)
  rw [h1] at hn1; simp only [Option.some.injEq] at hn1; subst hn1
  refine hb.perm ?_
  rw [hfilter, lvOf_flatMap _ ks hkn]
  simp only [soLeaves, treeLeaves, soNodeLeaves, treeLeavesL_eq]
  cases ks with
  | nil => simp [Node.isLeaf]
  | cons c cs =>
    simp only [Node.isLeaf, List.map_cons, List.isEmpty_cons, Bool.false_eq_true, if_false]
    simp only [List.cons_append, List.nil_append, List.append_assoc]
    exact List.Perm.cons _ List.perm_append_comm

theorem soBlock_builtL : ∀ (ts : List Tree) (i : Nat), (Tree.idsL ts).Nodup → i ∉ Tree.idsL ts →
    RepO s1 s2 opKids (Tree.infoL i ts) →
    ∀ c ∈ ts, BuiltL (soBlock c i) (soLeaves opKids kv ov bv (some i) c) := fun ts i hnd hi hrep c hc =>
  soBlock_built s1 s2 opKids kv ov bv c i (nodup_of_flatMap (Tree.idsL_eq ts ▸ hnd) c hc) (fun hm => hi (Tree.kid_ids_sub ts c hc _ hm))
    fun e he => hrep e (Tree.infoL_eq i ts ▸ List.mem_flatMap.2 ⟨c, hc, he⟩)

/-- **The tensor `expectation_value` returns is built from exactly the ket, operator and bra tensors of all
nodes.** -/
theorem expectationValue_built (kv ov bv : Nat → Asg Leg → R) (t : Tree) (hnd : t.ids.Nodup)
    (opKids : Nat → List Nat) (hperm : ∀ e ∈ Tree.info none t, (opKids e.1).Perm e.2.2) :
    BuiltL (⟨[], soRootBinds t⟩ : T) (soLeaves opKids kv ov bv none t) := by
  obtain ⟨r, ks⟩ := t
  have hrep := repG_netOf gKetT gOpT (.node r ks) hnd opKids hperm
  have hnd' := hnd
  simp only [Tree.ids, List.nodup_cons] at hnd'
  have hkids := soBlock_builtL _ _ opKids kv ov bv ks r hnd'.2 hnd'.1 (fun e he => hrep e (by simp [Tree.info, he]))
  have hrep1 : RepO _ _ opKids [(r, none, ks.map Tree.id)] :=
    fun e he => hrep e (by simp [Tree.info, List.mem_singleton.1 he])
  obtain ⟨h1, h2, h3, h4, hp⟩ := hrep1 (r, none, ks.map Tree.id) (by simp)
  simp only at h1 h2 h3 h4 hp
  have hkn : (ks.map Tree.id).Nodup := Tree.nodup_kid_ids ks hnd'.2
  obtain ⟨n1, hn1, hb⟩ := soContractNodeWithEnvironment_built (R := R)
    (l1 := [((gKetT r ⟨none, ks.map Tree.id⟩).legs, kv r)])
    (l2 := [((gOpT r ⟨none, opKids r⟩).legs, ov r)])
    (l3 := fun n1 => [((gBraT r n1).legs, bv r)])
    (lv := lvOf (soLeaves opKids kv ov bv (some r)) ks)
    (soRoot_node _ _ opKids r ks (soKidBlock ks r) hnd hrep1 (fun _ _ => rfl))
    (BuiltL.of_tensor h2) (BuiltL.of_tensor h4) (fun n1 _ => BuiltL.fresh _ _)
    (fun _ _ n _ blk hblk => kidTable_built (blkOf := soBlock) hkids hblk)
  rw [h1] at hn1; simp only [Option.some.injEq] at hn1; subst hn1
  refine hb.perm ?_
  have hnb : (Node.mk none (ks.map Tree.id)).nbrs = ks.map Tree.id := by simp [Node.nbrs]
  rw [hnb, lvOf_flatMap _ ks hkn]
  simp only [soLeaves, treeLeaves, soNodeLeaves, treeLeavesL_eq]
  simp only [List.cons_append, List.nil_append]
  refine (List.Perm.swap _ _ _).trans (List.Perm.cons _ ?_)
  refine (List.Perm.cons _ List.perm_append_comm).trans ?_
  exact List.Perm.swap _ _ _

end so

end Ptn.C04
