import Ptn.Common.EinsumIso
import Ptn.Common.EinsumMap
/-! Value level for the parts of C04 that are not the generic loops, over an arbitrary commutative semiring and labels of
any type: canonical environments drop out of any network they are linked into (the centre shortcuts; instances of
`Kids.absorb_net`, `Common/EinsumIso.lean`), and the conjugated program `conjExpr` (`conjugate`; ring homomorphisms through
the sums: `Common/EinsumMap.lean`).
The property theorems that put these lemmas together are in `Props.lean`; `obligations/C04.txt` lists some of the lemmas
here by their own names as well. -/
namespace Ptn.C04

open Ptn.Ein

section
set_option linter.unusedSectionVars false
variable {L : Type} [DecidableEq L] {R : Type} [CommSemiring R]

/-- `X`: any tensors that read nothing inside the sub-trees `k` (the centre tensor, its conjugate, an operator
on the centre's open legs, …), `B`: any binding record among them.  If every node of `k` is canonical toward
the centre, the network `X ∪ k` summed over `B` and the whole record of `k` has the value of `X` alone summed
over `B` and one common index per pair `(d, d')` of centre legs facing a sub-tree. -/
theorem c04_env_absorb (dim : L → Nat) (k : Kids L R) (hk : k.Canon dim) (hnd : k.labels.Nodup)
    (B : List (L × L)) (X : List (Asg L → R)) (hX : ∀ f ∈ X, DependsOn (· ∉ k.inner) f) (σ : Asg L) :
    netValue dim (B ++ k.binds) (X ++ k.leaves) σ = netValue dim (B ++ k.pairs) X σ :=
  Kids.absorb_net dim k hk hnd B X hX σ

theorem c04_centre_C_outside (dim : L → Nat) (c : Centre L R) (hc : c.Canon dim) (hnd : c.labels.Nodup) :
    DependsOn (· ∉ c.kids.inner) c.C ∧ DependsOn (· ∉ c.kids.inner) c.Cc :=
  ⟨(hc.reads _ List.mem_cons_self).mono (Kids.outside_not_inner hnd),
    (hc.reads _ (List.mem_cons_of_mem _ List.mem_cons_self)).mono (Kids.outside_not_inner hnd)⟩

variable {R' : Type} [CommSemiring R']

/-- **`sumPairs_map`**: a ring homomorphism goes through the sum over the binding record -/
theorem sumPairs_map (cj : R →+* R') (dim : L → Nat) (ps : List (L × L)) (f : Asg L → R) (σ : Asg L) :
    cj (sumPairs dim ps f σ) = sumPairs dim ps (fun τ => cj (f τ)) σ :=
  sumPairs_ringHom cj dim ps f σ

/-- the conjugated program: every leaf tensor replaced by its image, same structure -/
def conjExpr (cj : R → R') : Expr L R → Expr L R'
  | .leaf legs v => .leaf legs (fun σ => cj (v σ))
  | .dot a b ps => .dot (conjExpr cj a) (conjExpr cj b) ps

theorem conjExpr_binds (cj : R → R') : ∀ e : Expr L R, (conjExpr cj e).binds = e.binds
  | .leaf _ _ => rfl
  | .dot a b ps => by simp only [conjExpr, Expr.binds, conjExpr_binds cj a, conjExpr_binds cj b]

theorem conjExpr_free (cj : R → R') : ∀ e : Expr L R, (conjExpr cj e).free = e.free
  | .leaf _ _ => rfl
  | .dot a b ps => by simp only [conjExpr, Expr.free, conjExpr_free cj a, conjExpr_free cj b]

theorem conjExpr_eval (cj : R →+* R') (dim : L → Nat) : ∀ (e : Expr L R) (σ : Asg L),
    (conjExpr cj e).eval dim σ = cj (e.eval dim σ)
  | .leaf _ _, _ => rfl
  | .dot a b ps, σ => by
    simp only [conjExpr, Expr.eval]
    rw [sumPairs_map]
    apply sumPairs_congr
    intro τ
    rw [map_mul, conjExpr_eval cj dim a τ, conjExpr_eval cj dim b τ]

end

end Ptn.C04
