import Ptn.C04.BuiltTree
import Ptn.Common.EinsumNet
import Ptn.C04.Core
import Ptn.C04.Layer
/-! Value level for C04: what the binding record of `contract_two_ttns` (`contract_two_ttns_graph`: the specification graph
`ssSpec t`) EVALUATES to (`Ptn/Common/Einsum*.lean`).  `scalar_product_value`: every strongly well-formed program over the node
tensors with that record evaluates — over every commutative semiring, for all dimensions — to `Σ_phys ψ_ket · ψ_bra`, the dense
inner product.  `contract_two_ttns_value`: the loop's own `tensordot` calls are such a program (`Built`, `Layer.lean`), with the
two dense vectors `ketExpr`, `braExpr`. -/
namespace Ptn.C04

open Ptn.Ein

def isPhysPair : Leg × Leg → Bool
  | (Leg.gKetPhys _, Leg.gBraPhys _) => true
  | _ => false

def isKetEdge : Leg × Leg → Bool
  | (Leg.gKet _ _, Leg.gKet _ _) => true
  | _ => false

def isBraEdge : Leg × Leg → Bool
  | (Leg.gBra _ _, Leg.gBra _ _) => true
  | _ => false

/-- the physical pairs / ket bonds / bra bonds of the specification graph -/
def physPairs (t : Tree) : List (Leg × Leg) := (ssSpec t).filter isPhysPair
def ketBonds (t : Tree) : List (Leg × Leg) := (ssSpec t).filter isKetEdge
def braBonds (t : Tree) : List (Leg × Leg) := (ssSpec t).filter isBraEdge

theorem physPairs_perm (t : Tree) : (physPairs t).Perm (t.ids.map physPair) := by
  simpa [physPairs, List.filter_map, Function.comp_def, isPhysPair, physPair, ketEdge, braEdge]
    using (ssSpec_perm t).filter isPhysPair

mutual
theorem filter_ket_ssSpec : ∀ t : Tree, (ssSpec t).filter isKetEdge = t.edges.map fun e => ketEdge e.1 e.2
  | .node i ks => by
    simp only [ssSpec, Tree.edges, List.filter_cons]
    simpa [physPair, isKetEdge] using filter_ket_ssSpecL i ks
theorem filter_ket_ssSpecL (i : Nat) : ∀ ts : List Tree,
    (ssSpecL i ts).filter isKetEdge = (Tree.edgesL i ts).map fun e => ketEdge e.1 e.2
  | [] => rfl
  | c :: cs => by
    simp only [ssSpecL, Tree.edgesL, List.filter_cons, List.filter_append, List.map_cons, List.map_append,
      filter_ket_ssSpec c, filter_ket_ssSpecL i cs]
    simp [ketEdge, braEdge, isKetEdge]
end

mutual
theorem filter_bra_ssSpec : ∀ t : Tree, (ssSpec t).filter isBraEdge = t.edges.map fun e => braEdge e.1 e.2
  | .node i ks => by
    simp only [ssSpec, Tree.edges, List.filter_cons]
    simpa [physPair, isBraEdge] using filter_bra_ssSpecL i ks
theorem filter_bra_ssSpecL (i : Nat) : ∀ ts : List Tree,
    (ssSpecL i ts).filter isBraEdge = (Tree.edgesL i ts).map fun e => braEdge e.1 e.2
  | [] => rfl
  | c :: cs => by
    simp only [ssSpecL, Tree.edgesL, List.filter_cons, List.filter_append, List.map_cons, List.map_append,
      filter_bra_ssSpec c, filter_bra_ssSpecL i cs]
    simp [ketEdge, braEdge, isBraEdge]
end

theorem ketBonds_perm (t : Tree) : (ketBonds t).Perm (t.edges.map fun e => ketEdge e.1 e.2) :=
  .of_eq (filter_ket_ssSpec t)

theorem braBonds_perm (t : Tree) : (braBonds t).Perm (t.edges.map fun e => braEdge e.1 e.2) :=
  .of_eq (filter_bra_ssSpec t)

theorem mem_physPairs (t : Tree) (x : Leg × Leg) : x ∈ physPairs t ↔ ∃ n ∈ t.ids, x = physPair n :=
  (physPairs_perm t).mem_iff.trans (by simp only [List.mem_map, @eq_comm _ x])

theorem mem_ketBonds (t : Tree) (x : Leg × Leg) : x ∈ ketBonds t ↔ ∃ e ∈ t.edges, x = ketEdge e.1 e.2 :=
  (ketBonds_perm t).mem_iff.trans (by simp only [List.mem_map, @eq_comm _ x])

theorem mem_braBonds (t : Tree) (x : Leg × Leg) : x ∈ braBonds t ↔ ∃ e ∈ t.edges, x = braEdge e.1 e.2 :=
  (braBonds_perm t).mem_iff.trans (by simp only [List.mem_map, @eq_comm _ x])

theorem ssSpec_split (t : Tree) : (ssSpec t).Perm (physPairs t ++ (ketBonds t ++ braBonds t)) :=
  (ssSpec_perm t).trans
    ((physPairs_perm t).symm.append ((ketBonds_perm t).symm.append (braBonds_perm t).symm))

/-- **`contract_two_ttns` computes the dense inner product (value level).**  For every tree with distinct
identifiers and every child order of the bra network the loop returns a closed tensor with some binding
record `binds` (that is `contract_two_ttns_graph`), and for every commutative semiring of scalars, all
dimensions, every strongly well-formed contraction program `e` over the node tensors with that record —
in particular the sequence of `tensordot` calls the loop performs — and ANY strongly well-formed
contractions `K`, `B` of the ket tensors over the ket bonds and of the bra tensors over the bra bonds
(the two dense state vectors, in any contraction order): `e` evaluates to the sum over one common index
per physical pair of `K · B`. -/
theorem scalar_product_value {R : Type} [CommSemiring R] (t : Tree) (hnd : t.ids.Nodup)
    (braKids : Nat → List Nat) (hperm : ∀ e ∈ Tree.info none t, (braKids e.1).Perm e.2.2) :
    ∃ binds, contractTwoTtns (netOf t (fun _ ks => ks) gKetT) (netOf t (fun i _ => braKids i) gBraT)
        = some ⟨[], binds⟩ ∧
      ∀ (dim : Leg → Nat) (e K B : Expr Leg R), e.SWF → K.SWF → B.SWF →
        (∀ l ∈ K.labels, l ∉ B.labels) →
        e.binds.Perm binds → K.binds.Perm (ketBonds t) → B.binds.Perm (braBonds t) →
        (∀ p ∈ physPairs t, p.1 ∈ K.free ∧ p.2 ∈ B.free) →
        (∀ σ, e.leafProd σ = K.leafProd σ * B.leafProd σ) →
        ∀ σ, e.eval dim σ = sumPairs dim (physPairs t) (fun τ => K.eval dim τ * B.eval dim τ) σ := by
  obtain ⟨binds, hrun, hb⟩ := contract_two_ttns_graph t hnd braKids hperm
  refine ⟨binds, hrun, ?_⟩
  intro dim e K B he hK hB hdis heb hKb hBb hfree hleaf σ
  apply Expr.inner_of_record dim e K B he hK hB hdis (physPairs t) hfree _ hleaf σ
  refine heb.trans (hb.trans ((ssSpec_split t).trans ?_))
  exact List.Perm.append_left _ (List.Perm.append hKb.symm hBb.symm)

section provenance
set_option linter.unusedSectionVars false
variable {R : Type} [CommSemiring R]

/-- the ket layer: virtual legs `gKet i n`, axis order of `gKetT`, bonds recorded `(parent leg, child leg)` -/
def ketLayer (kv : Nat → Asg Leg → R) : Layer R :=
  ⟨Leg.gKet, fun i p kids => (gKetT i ⟨p, kids⟩).legs, kv, false⟩

/-- the bra layer: axis order of `gBraT` with the bra's own child order, bonds recorded `(child leg, parent leg)` -/
def braLayer (bv : Nat → Asg Leg → R) (braKids : Nat → List Nat) : Layer R :=
  ⟨Leg.gBra, fun i p _ => (gBraT i ⟨p, braKids i⟩).legs, bv, true⟩

/-- **the dense ket vector**: the ket network contracted over its bonds, every node absorbing its subtrees child
by child -/
def ketExpr (kv : Nat → Asg Leg → R) (t : Tree) : Expr Leg R := layExpr (ketLayer kv) none t

/-- **the dense bra vector** -/
def braExpr (bv : Nat → Asg Leg → R) (braKids : Nat → List Nat) (t : Tree) : Expr Leg R :=
  layExpr (braLayer bv braKids) none t

theorem ssNodeLeaves_eq (kv bv : Nat → Asg Leg → R) (braKids : Nat → List Nat) :
    ssNodeLeaves braKids kv bv =
      fun i p k => (ketLayer kv).nodeLeaves i p k ++ (braLayer bv braKids).nodeLeaves i p k := rfl

theorem ketLayer_inj (kv : Nat → Asg Leg → R) : (ketLayer kv).Inj := fun _ _ _ _ => Leg.gKet.inj

theorem braLayer_inj (bv : Nat → Asg Leg → R) (braKids : Nat → List Nat) : (braLayer bv braKids).Inj :=
  fun _ _ _ _ => Leg.gBra.inj

/-- the hypotheses on the node tensors: each reads only its own legs -/
def KetLocal (kv : Nat → Asg Leg → R) (t : Tree) : Prop :=
  ∀ e ∈ Tree.info none t, DependsOn (· ∈ (gKetT e.1 ⟨e.2.1, e.2.2⟩).legs) (kv e.1)
def BraLocal (bv : Nat → Asg Leg → R) (braKids : Nat → List Nat) (t : Tree) : Prop :=
  ∀ e ∈ Tree.info none t, DependsOn (· ∈ (gBraT e.1 ⟨e.2.1, braKids e.1⟩).legs) (bv e.1)

/-- the layer of a global label: ket, bra, operator -/
def legLayer : Leg → Nat
  | .gKet _ _ => 0 | .gKetPhys _ => 0
  | .gBra _ _ => 1 | .gBraPhys _ => 1
  | .gOp _ _ => 2 | .gOpOut _ => 2 | .gOpIn _ => 2
  | _ => 3

/-- the legs of a node tensor: toward distinct neighbours, then open legs of other constructors -/
theorem nodup_nbr_legs {mk : Nat → Leg} {ns : List Nat} {tail : List Leg} (hinj : ∀ a b, mk a = mk b → a = b)
    (hn : ns.Nodup) (ht : tail.Nodup) (hd : ∀ n, mk n ∉ tail) : (ns.map mk ++ tail).Nodup :=
  List.nodup_append.2 ⟨nodup_map_of_inj_on _ hn (fun a _ b _ => hinj a b), ht, fun x hx y hy e => by
    obtain ⟨n, _, rfl⟩ := List.mem_map.1 hx
    exact hd n (e ▸ hy)⟩

/-- labels of different layers are different -/
theorem nodup_append_of_layer {l1 l2 : List Leg} {a : Nat} (h1 : l1.Nodup) (h2 : l2.Nodup)
    (hl1 : ∀ l ∈ l1, legLayer l = a) (hl2 : ∀ l ∈ l2, legLayer l ≠ a) : (l1 ++ l2).Nodup :=
  List.nodup_append.2 ⟨h1, h2, fun x hx _ hy e => hl2 _ hy (e ▸ hl1 x hx)⟩

theorem gKetT_legs (i : Nat) {nd : Node} (hn : nd.nbrs.Nodup) :
    (gKetT i nd).legs.Nodup ∧ ∀ l ∈ (gKetT i nd).legs, legNode l = some i ∧ legLayer l = 0 := by
  refine ⟨nodup_nbr_legs (fun a b h => by injection h) hn (List.nodup_singleton _) (by simp), fun l hl => ?_⟩
  simp only [gKetT, T.fresh, List.mem_append, List.mem_map, List.mem_singleton] at hl
  rcases hl with ⟨_, _, rfl⟩ | rfl <;> exact ⟨rfl, rfl⟩

theorem gBraT_legs (i : Nat) {nd : Node} (hn : nd.nbrs.Nodup) :
    (gBraT i nd).legs.Nodup ∧ ∀ l ∈ (gBraT i nd).legs, legNode l = some i ∧ legLayer l = 1 := by
  refine ⟨nodup_nbr_legs (fun a b h => by injection h) hn (List.nodup_singleton _) (by simp), fun l hl => ?_⟩
  simp only [gBraT, T.fresh, List.mem_append, List.mem_map, List.mem_singleton] at hl
  rcases hl with ⟨_, _, rfl⟩ | rfl <;> exact ⟨rfl, rfl⟩

theorem gOpT_legs (i : Nat) {nd : Node} (hn : nd.nbrs.Nodup) :
    (gOpT i nd).legs.Nodup ∧ ∀ l ∈ (gOpT i nd).legs, legNode l = some i ∧ legLayer l = 2 := by
  refine ⟨nodup_nbr_legs (fun a b h => by injection h) hn (by simp) (by simp), fun l hl => ?_⟩
  simp only [gOpT, T.fresh, List.mem_append, List.mem_map, List.mem_cons, List.not_mem_nil, or_false] at hl
  rcases hl with ⟨_, _, rfl⟩ | rfl | rfl <;> exact ⟨rfl, rfl⟩

theorem ss_nodeOK (kv bv : Nat → Asg Leg → R) (braKids : Nat → List Nat) (e : Nat × Option Nat × List Nat)
    (hn : (e.2.1.toList ++ e.2.2).Nodup) (hp : (braKids e.1).Perm e.2.2) :
    NodeOK (ssNodeLeaves braKids kv bv) e := by
  obtain ⟨i, p, kids⟩ := e
  obtain ⟨hK, hK'⟩ := gKetT_legs i (nd := ⟨p, kids⟩) hn
  obtain ⟨hB, hB'⟩ := gBraT_legs i (nd := ⟨p, braKids i⟩) ((List.Perm.append_left _ hp).nodup_iff.2 hn)
  simp only [NodeOK, labelsOf, ssNodeLeaves, List.flatMap_cons, List.flatMap_nil, List.append_nil]
  refine ⟨nodup_append_of_layer hK hB (fun l hl => (hK' l hl).2) (fun l hl => by simp [(hB' l hl).2]),
    fun l hl => ?_⟩
  rcases List.mem_append.1 hl with h | h
  · exact (hK' l h).1
  · exact (hB' l h).1

theorem nodeOK_left {f g : Nat → Option Nat → List Nat → List (LeafT R)} {e : Nat × Option Nat × List Nat}
    (h : NodeOK (fun i p k => f i p k ++ g i p k) e) : NodeOK f e := by
  obtain ⟨h1, h2⟩ := h
  simp only [labelsOf, List.flatMap_append] at h1 h2
  exact ⟨(List.nodup_append.1 h1).1, fun l hl => h2 l (List.mem_append.2 (Or.inl hl))⟩

theorem nodeOK_right {f g : Nat → Option Nat → List Nat → List (LeafT R)} {e : Nat × Option Nat × List Nat}
    (h : NodeOK (fun i p k => f i p k ++ g i p k) e) : NodeOK g e := by
  obtain ⟨h1, h2⟩ := h
  simp only [labelsOf, List.flatMap_append] at h1 h2
  exact ⟨(List.nodup_append.1 h1).2.1, fun l hl => h2 l (List.mem_append.2 (Or.inr hl))⟩

theorem ketExpr_swf (kv : Nat → Asg Leg → R) (t : Tree) (hnd : t.ids.Nodup)
    (hok : ∀ e ∈ Tree.info none t, NodeOK (ketLayer kv).nodeLeaves e) (hkv : KetLocal kv t) : (ketExpr kv t).SWF :=
  layExpr_swf (ketLayer kv) (ketLayer_inj kv) t none hnd (fun q hq => by simp at hq)
    (fun _ _ _ hn => List.mem_append_left _ (List.mem_map_of_mem hn)) hok hkv

theorem ketExpr_binds (kv : Nat → Asg Leg → R) (t : Tree) :
    (ketExpr kv t).binds.Perm (t.edges.map fun e => ketEdge e.1 e.2) := by
  have := layExpr_binds (ketLayer kv) t none
  simpa [Layer.edge, ketLayer, ketEdge, ketExpr] using this

/-- **`contract_two_ttns` computes the dense inner product — unconditionally.**  For every tree with distinct
identifiers, every child order of the bra network, every commutative semiring, all dimensions and ALL values of
the node tensors (each reading only its own legs):

* the loop returns a closed tensor `⟨[], binds⟩`;
* that tensor is BUILT, by the `tensordot` calls the loop performs (`Built`, one lemma per function of the
  model), from an expression `e` whose leaves are exactly the ket and bra tensors of all nodes;
* EVERY expression `e` from which the result is built over these leaves is strongly well-formed, has the
  record `binds`, and evaluates to `Σ_phys K · B`, the sum over one common index per physical pair of the
  product of the dense ket vector `ketExpr` and the dense bra vector `braExpr` (each network contracted over its
  own bonds, child by child).

So the number the loop's own sequence of `tensordot` calls computes IS the dense inner product. -/
theorem contract_two_ttns_value (t : Tree) (hnd : t.ids.Nodup)
    (braKids : Nat → List Nat) (hperm : ∀ e ∈ Tree.info none t, (braKids e.1).Perm e.2.2)
    (kv bv : Nat → Asg Leg → R) (hkv : KetLocal kv t) (hbv : BraLocal bv braKids t) :
    ∃ binds, contractTwoTtns (netOf t (fun _ ks => ks) gKetT) (netOf t (fun i _ => braKids i) gBraT)
        = some ⟨[], binds⟩ ∧
      (∃ e : Expr Leg R, Built ⟨[], binds⟩ e ∧ e.leaves.Perm (ssLeaves braKids kv bv none t)) ∧
      ∀ e : Expr Leg R, Built ⟨[], binds⟩ e → e.leaves.Perm (ssLeaves braKids kv bv none t) →
        e.SWF ∧ e.binds.Perm binds ∧ e.free = [] ∧
        ∀ (dim : Leg → Nat) (σ : Asg Leg), e.eval dim σ =
          sumPairs dim (physPairs t)
            (fun τ => (ketExpr kv t).eval dim τ * (braExpr bv braKids t).eval dim τ) σ := by
  refine ⟨_, contractTwoTtns_eq t hnd braKids hperm, contractTwoTtns_built kv bv t hnd braKids hperm, ?_⟩
  intro e hbuilt hleaves
  have hnone : ∀ q, (none : Option Nat) = some q → q ∉ t.ids := fun q hq => by simp at hq
  have hnb := info_nbrs_nodup t none hnd hnone
  have hok : ∀ e ∈ Tree.info none t, NodeOK (ssNodeLeaves braKids kv bv) e :=
    fun e he => ss_nodeOK kv bv braKids e (hnb e he) (hperm e he)
  obtain ⟨hswf, hbinds, hlegs⟩ := built_tree_swf t hnd hok (fun x hx lf h => by
    simp only [ssNodeLeaves, List.mem_cons, List.not_mem_nil, or_false] at h
    rcases h with rfl | rfl
    · exact hkv x hx
    · exact hbv x hx) hbuilt hleaves
  have hfree : e.free = [] := List.Perm.eq_nil (hlegs.symm)
  refine ⟨hswf, hbinds.symm, hfree, ?_⟩
  -- the two dense vectors
  have hokK : ∀ e ∈ Tree.info none t, NodeOK (ketLayer kv).nodeLeaves e := fun e he =>
    nodeOK_left (f := (ketLayer kv).nodeLeaves) (g := (braLayer bv braKids).nodeLeaves) (hok e he)
  have hokB : ∀ e ∈ Tree.info none t, NodeOK (braLayer bv braKids).nodeLeaves e := fun e he =>
    nodeOK_right (f := (ketLayer kv).nodeLeaves) (g := (braLayer bv braKids).nodeLeaves) (hok e he)
  have hK := ketExpr_swf kv t hnd hokK hkv
  have hB : (braExpr bv braKids t).SWF := layExpr_swf (braLayer bv braKids) (braLayer_inj bv braKids) t none hnd hnone
    (fun e he _ hn => List.mem_append_left _ (List.mem_map_of_mem
      (((hperm e he).symm.append_left _).mem_iff.1 hn)))
    hokB hbv
  have hLK := layExpr_leaves (ketLayer kv) t none
  have hLB := layExpr_leaves (braLayer bv braKids) t none
  have hsplit : (ssLeaves braKids kv bv none t).Perm ((ketExpr kv t).leaves ++ (braExpr bv braKids t).leaves) := by
    have := treeLeaves_append (ketLayer kv).nodeLeaves (braLayer bv braKids).nodeLeaves t none
    exact this.trans (List.Perm.append hLK.symm hLB.symm)
  obtain ⟨hlp, hprod⟩ := Expr.split_leaves (hleaves.trans hsplit)
  have hdis : ∀ l ∈ (ketExpr kv t).labels, l ∉ (braExpr bv braKids t).labels := fun l hl hl' =>
    (List.nodup_append.1 (hlp.nodup_iff.1 hswf.labels_nodup)).2.2 l hl l hl' rfl
  have hfreeP : ∀ p ∈ physPairs t, p.1 ∈ (ketExpr kv t).free ∧ p.2 ∈ (braExpr bv braKids t).free := by
    intro p hp
    obtain ⟨n, hn, rfl⟩ := (mem_physPairs t p).1 hp
    rw [← Tree.info_keys none t] at hn
    obtain ⟨x, hx, rfl⟩ := List.mem_map.1 hn
    constructor
    · exact layExpr_free_of_node (ketLayer kv) t x hx _ (fun a b => by simp [physPair, ketLayer])
        (by simp [ketLayer, gKetT, T.fresh, physPair])
    · exact layExpr_free_of_node (braLayer bv braKids) t x hx _ (fun a b => by simp [physPair, braLayer])
        (by simp [braLayer, gBraT, T.fresh, physPair])
  have hKb : (ketExpr kv t).binds.Perm (ketBonds t) := (ketExpr_binds kv t).trans (ketBonds_perm t).symm
  have hBb : (braExpr bv braKids t).binds.Perm (braBonds t) := by
    refine List.Perm.trans ?_ (braBonds_perm t).symm
    simpa [Layer.edge, braLayer, braEdge, braExpr] using layExpr_binds (braLayer bv braKids) t none
  have hrec : e.binds.Perm (physPairs t ++ ((ketExpr kv t).binds ++ (braExpr bv braKids t).binds)) := by
    have hb := ssRootBinds_perm t (braKids t.id) (by
      have := hperm (t.id, none, t.kids.map Tree.id) (by cases t; simp [Tree.info, Tree.id, Tree.kids])
      simpa using this)
    refine hbinds.symm.trans (hb.trans ((ssSpec_split t).trans ?_))
    exact List.Perm.append_left _ (List.Perm.append hKb.symm hBb.symm)
  intro dim σ
  exact Expr.inner_of_record dim e _ _ hswf hK hB hdis (physPairs t) hfreeP hrec hprod σ

end provenance

end Ptn.C04
