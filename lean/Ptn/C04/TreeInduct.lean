import Ptn.Common.List
import Ptn.C04.TreeModel
import Ptn.Common.EinsumModel
/-! Induction over a `Tree` (core Lean only; rests on `TreeModel.lean` and `Common/List.lean`); at the end the leaf tensors
of a tree, `LeafT` and `treeLeaves` (over `Common/EinsumModel.lean` for `Asg`), which the core-Lean files of C05 read too.

`Tree` is nested in `List`, so the functions of `TreeModel.lean` come in pairs (`ids` / `idsL`, `info` / `infoL`, …).
A fact about trees is proved by `Tree.induct`: a node from its kids, taken as a list.  The list halves are
`flatMap`s over the kids (`Tree.idsL_eq`, …), and `Tree.kid_hyps`, `Tree.info_kid` carry the usual hypotheses — distinct
identifiers, a predicate on `Tree.info` — from a node to each of its kids. -/
namespace Ptn.C04

theorem Tree.induct {P : Tree → Prop} (node : ∀ i ks, (∀ c ∈ ks, P c) → P (.node i ks)) (t : Tree) : P t :=
  Tree.rec (motive_1 := P) (motive_2 := fun ks => ∀ c ∈ ks, P c) node (fun _ hc => absurd hc List.not_mem_nil)
    (fun _ _ h1 h2 c hc => (List.mem_cons.1 hc).elim (· ▸ h1) (h2 c)) t

theorem nodup_of_flatMap {α β : Type} {f : α → List β} :
    ∀ {l : List α}, (l.flatMap f).Nodup → ∀ a ∈ l, (f a).Nodup
  | [], _, _, h => absurd h List.not_mem_nil
  | _ :: _, hnd, a, h => by
    rw [List.flatMap_cons, List.nodup_append] at hnd
    rcases List.mem_cons.1 h with rfl | h
    · exact hnd.1
    · exact nodup_of_flatMap hnd.2.1 a h

namespace Tree

theorem idsL_eq : ∀ ts : List Tree, idsL ts = ts.flatMap ids
  | [] => rfl
  | t :: ts => by rw [idsL, idsL_eq ts, List.flatMap_cons]

theorem postL_eq : ∀ ts : List Tree, postL ts = ts.flatMap post
  | [] => rfl
  | t :: ts => by rw [postL, postL_eq ts, List.flatMap_cons]

theorem infoL_eq (i : Nat) : ∀ ts : List Tree, infoL i ts = ts.flatMap (info (some i))
  | [] => rfl
  | t :: ts => by rw [infoL, infoL_eq i ts, List.flatMap_cons]

theorem edgesL_eq (i : Nat) : ∀ ts : List Tree, edgesL i ts = ts.flatMap fun c => (i, c.id) :: c.edges
  | [] => rfl
  | t :: ts => by rw [edgesL, edgesL_eq i ts, List.flatMap_cons]; rfl

theorem idsL_append (a b : List Tree) : idsL (a ++ b) = idsL a ++ idsL b := by
  simp only [idsL_eq, List.flatMap_append]

theorem infoL_append (i : Nat) (a b : List Tree) : infoL i (a ++ b) = infoL i a ++ infoL i b := by
  simp only [infoL_eq, List.flatMap_append]

theorem edgesL_append (i : Nat) (a b : List Tree) : edgesL i (a ++ b) = edgesL i a ++ edgesL i b := by
  simp only [edgesL_eq, List.flatMap_append]

theorem id_mem_ids : ∀ t : Tree, t.id ∈ t.ids
  | .node _ _ => List.mem_cons_self

theorem kid_ids_sub (ts : List Tree) (c : Tree) (hc : c ∈ ts) : ∀ j ∈ c.ids, j ∈ idsL ts := fun _ hj =>
  idsL_eq ts ▸ List.mem_flatMap.2 ⟨c, hc, hj⟩

theorem kid_id_mem (ts : List Tree) (n : Nat) (hn : n ∈ ts.map Tree.id) : n ∈ idsL ts := by
  obtain ⟨c, hc, rfl⟩ := List.mem_map.1 hn
  exact kid_ids_sub ts c hc _ (id_mem_ids c)

theorem nodup_kid_ids : ∀ (ts : List Tree), (idsL ts).Nodup → (ts.map Tree.id).Nodup
  | [], _ => List.nodup_nil
  | t :: ts, h => by
    rw [idsL, List.nodup_append] at h
    rw [List.map_cons, List.nodup_cons]
    exact ⟨fun hm => h.2.2 _ (id_mem_ids t) _ (kid_id_mem ts _ hm) rfl, nodup_kid_ids ts h.2.1⟩

/-- what a node with distinct identifiers hands to each of its kids -/
theorem kid_hyps {i : Nat} {ks : List Tree} {c : Tree} (hc : c ∈ ks) (hnd : (node i ks).ids.Nodup) :
    c.ids.Nodup ∧ i ∉ c.ids := by
  rw [ids, idsL_eq, List.nodup_cons, List.mem_flatMap] at hnd
  exact ⟨nodup_of_flatMap hnd.2 c hc, fun h => hnd.1 ⟨c, hc, h⟩⟩

theorem mem_info_node {i : Nat} {p : Option Nat} {ks : List Tree} {e : Nat × Option Nat × List Nat} :
    e ∈ info p (node i ks) ↔ e = (i, p, ks.map Tree.id) ∨ ∃ c ∈ ks, e ∈ info (some i) c := by
  rw [info, infoL_eq, List.mem_cons, List.mem_flatMap]

theorem info_kid {i : Nat} {p : Option Nat} {ks : List Tree} {c : Tree} (hc : c ∈ ks)
    {e : Nat × Option Nat × List Nat} (he : e ∈ info (some i) c) : e ∈ info p (node i ks) :=
  mem_info_node.2 (Or.inr ⟨c, hc, he⟩)

theorem info_keys (p : Option Nat) (t : Tree) : (info p t).map (·.1) = t.ids := by
  induction t using Tree.induct generalizing p with
  | node i ks ih =>
    rw [info, ids, infoL_eq, idsL_eq, List.map_cons, List.map_flatMap]
    exact congrArg _ (flatMap_congr fun c hc => ih c hc _)

theorem infoL_keys (p : Nat) (ts : List Tree) : (infoL p ts).map (·.1) = idsL ts := by
  rw [infoL_eq, idsL_eq, List.map_flatMap]
  exact flatMap_congr fun c _ => info_keys _ c

end Tree

section leaves
open Ptn.Ein
variable {R : Type}

abbrev LeafT (R : Type) := List Leg × (Asg Leg → R)

mutual
/-- the leaf tensors of a (sub)tree: `nl i parent kids` for every node -/
def treeLeaves (nl : Nat → Option Nat → List Nat → List (LeafT R)) (p : Option Nat) : Tree → List (LeafT R)
  | .node i ks => nl i p (ks.map Tree.id) ++ treeLeavesL nl i ks
def treeLeavesL (nl : Nat → Option Nat → List Nat → List (LeafT R)) (i : Nat) : List Tree → List (LeafT R)
  | [] => []
  | c :: cs => treeLeaves nl (some i) c ++ treeLeavesL nl i cs
end

theorem treeLeavesL_eq (nl : Nat → Option Nat → List Nat → List (LeafT R)) (i : Nat) :
    ∀ ts : List Tree, treeLeavesL nl i ts = ts.flatMap (treeLeaves nl (some i))
  | [] => rfl
  | c :: cs => by simp [treeLeavesL, treeLeavesL_eq nl i cs]

end leaves

end Ptn.C04
