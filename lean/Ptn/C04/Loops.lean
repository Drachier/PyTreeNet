import Ptn.C04.Lemmas
/-! The two loops of `contraction_util` over `neighbouring_nodes()`, for an arbitrary layer
(`mk = ketNb`, block axis 0: `…_to_ket`; `mk = opNb`, block axis 1: `…_to_hamiltonian`). -/
namespace Ptn.C04

theorem determineIndex_left (nd : Node) (A B : List Nat) (next n : Nat) (hL : nd.nbrs = A ++ next :: B)
    (hnd : nd.nbrs.Nodup) (hn : n ∈ A) : determineIndexWithIgnoredLeg nd n next = some 0 := by
  rw [hL] at hnd
  obtain ⟨hxA, _, _, _, _⟩ := nodup_mid hnd
  have hne : n ≠ next := fun e => hxA (e ▸ hn)
  have h1 : nd.neighbourIndex n = some (A.idxOf n) := by
    rw [Node.neighbourIndex_of_mem nd n (by simp [hL, hn]), hL]; simp [List.idxOf_append, hn]
  have h2 : nd.neighbourIndex next = some A.length := by
    rw [Node.neighbourIndex_of_mem nd next (by simp [hL]), hL, idxOf_append_mid A B next hxA]
  have hlt := List.idxOf_lt_length_of_mem hn
  simp only [determineIndexWithIgnoredLeg, h1, h2]
  have : ¬ A.length = A.idxOf n := by omega
  have h3 : ¬ A.length < A.idxOf n := by omega
  simp [this, h3]

theorem determineIndex_right (nd : Node) (A B : List Nat) (next n : Nat) (hL : nd.nbrs = A ++ next :: B)
    (hnd : nd.nbrs.Nodup) (hn : n ∈ B) : determineIndexWithIgnoredLeg nd n next = some 1 := by
  rw [hL] at hnd
  obtain ⟨hxA, hxB, _, _, hd⟩ := nodup_mid hnd
  have hne : n ≠ next := fun e => hxB (e ▸ hn)
  have hnA : n ∉ A := fun ha => hd n ha hn
  have h1 : nd.neighbourIndex n = some (B.idxOf n + 1 + A.length) := by
    rw [Node.neighbourIndex_of_mem nd n (by simp [hL, hn]), hL]
    have hb : (next == n) = false := by simpa using fun e => hne e.symm
    simp [List.idxOf_append, hnA, List.idxOf_cons, hb]
  have h2 : nd.neighbourIndex next = some A.length := by
    rw [Node.neighbourIndex_of_mem nd next (by simp [hL]), hL, idxOf_append_mid A B next hxA]
  simp only [determineIndexWithIgnoredLeg, h1, h2]
  have : ¬ A.length = B.idxOf n + 1 + A.length := by omega
  have h3 : A.length < B.idxOf n + 1 + A.length := by omega
  simp [h3]

/-- one loop iteration with a known tensor leg -/
theorem contractNeighbourBlock_step (axis : Nat) (mk : Nat → Leg) (blk : Nat → T) (bl : Nat → Leg)
    (cache : Cache) (nd : Node) (n : Nat) (P Q : List Leg) (bs : List (Leg × Leg))
    (hc : cache n = some (blk n)) (hb : (blk n).legs[axis]? = some (bl n)) :
    contractNeighbourBlock axis ⟨P ++ mk n :: Q, bs⟩ nd n cache (some P.length) =
      some ⟨P ++ Q ++ (blk n).legs.eraseIdx axis, bs ++ ((blk n).binds ++ [(mk n, bl n)])⟩ := by
  simp only [contractNeighbourBlock, hc]
  rw [tensordot_one _ _ _ _ (mk n) (bl n) (by simp) hb]
  simp [eraseIdx_mid]

theorem allButOneLoop_seg (axis : Nat) (mk : Nat → Leg) (blk : Nat → T) (bl : Nat → Leg)
    (cache : Cache) (nd : Node) (next : Nat) (P : List Leg) (seg : List Nat) (R : List Leg)
    (bs : List (Leg × Leg))
    (h : ∀ n ∈ seg, n ≠ next ∧ determineIndexWithIgnoredLeg nd n next = some P.length ∧
      cache n = some (blk n) ∧ (blk n).legs[axis]? = some (bl n)) :
    allButOneLoop axis nd next cache seg ⟨P ++ seg.map mk ++ R, bs⟩ =
      some ⟨P ++ R ++ seg.flatMap (fun n => (blk n).legs.eraseIdx axis),
            bs ++ seg.flatMap (fun n => (blk n).binds ++ [(mk n, bl n)])⟩ := by
  induction seg generalizing R bs with
  | nil => simp [allButOneLoop]
  | cons n rest ih =>
    obtain ⟨hne, hdet, hc, hb⟩ := h n (by simp)
    simp only [allButOneLoop, hne, ne_eq, not_false_eq_true, if_true, contractNeighbourBlockIgnoreOneLeg, hdet]
    have hstep := contractNeighbourBlock_step axis mk blk bl cache nd n P (rest.map mk ++ R) bs hc hb
    simp only [List.map_cons, List.cons_append, List.append_assoc] at hstep ⊢
    rw [hstep]
    have := ih (R ++ (blk n).legs.eraseIdx axis) (bs ++ ((blk n).binds ++ [(mk n, bl n)]))
      (fun m hm => h m (by simp [hm]))
    simp only [List.append_assoc] at this
    dsimp only
    rw [this]
    simp

theorem allButOneLoop_skip (axis : Nat) (nd : Node) (next : Nat) (cache : Cache) (rest : List Nat) (t : T) :
    allButOneLoop axis nd next cache (next :: rest) t = allButOneLoop axis nd next cache rest t := by
  simp [allButOneLoop]

theorem allButOneLoop_append (axis : Nat) (nd : Node) (next : Nat) (cache : Cache) (l1 l2 : List Nat) (t t' : T)
    (h : allButOneLoop axis nd next cache l1 t = some t') :
    allButOneLoop axis nd next cache (l1 ++ l2) t = allButOneLoop axis nd next cache l2 t' := by
  induction l1 generalizing t with
  | nil => simp [allButOneLoop] at h; subst h; rfl
  | cons n rest ih =>
    simp only [List.cons_append, allButOneLoop] at h ⊢
    by_cases hne : n ≠ next
    · rw [if_pos hne] at h ⊢
      cases hc : contractNeighbourBlockIgnoreOneLeg axis t nd n next cache with
      | none => rw [hc] at h; simp at h
      | some t1 => rw [hc] at h; exact ih t1 h
    · rw [if_neg hne] at h ⊢; exact ih t h

theorem filter_ne_mid (A B : List Nat) (x : Nat) (hA : x ∉ A) (hB : x ∉ B) :
    (A ++ x :: B).filter (· ≠ x) = A ++ B := by
  have h1 : A.filter (fun a => !decide (a = x)) = A :=
    List.filter_eq_self.2 (fun a ha => by have : a ≠ x := fun e => hA (e ▸ ha); simp [this])
  have h2 : B.filter (fun a => !decide (a = x)) = B :=
    List.filter_eq_self.2 (fun a ha => by have : a ≠ x := fun e => hB (e ▸ ha); simp [this])
  simp [List.filter_append, h1, h2]

/-- the neighbours of a non-root node other than its parent are its children -/
theorem Node.nbrs_filter_parent (p : Nat) (kids : List Nat) (hp : p ∉ kids) :
    (Node.mk (some p) kids).nbrs.filter (· ≠ p) = kids :=
  filter_ne_mid [] kids p (List.not_mem_nil) hp

/-- `contract_all_but_one_neighbour_block_to_{ket,hamiltonian}` in general form -/
theorem allButOne_general (axis : Nat) (mk : Nat → Leg) (blk : Nat → T) (bl : Nat → Leg) (tail : List Leg)
    (cache : Cache) (nd : Node) (next : Nat) (hnd : nd.nbrs.Nodup) (hnext : next ∈ nd.nbrs)
    (h : ∀ n ∈ nd.nbrs, n ≠ next →
      cache n = some (blk n) ∧ (blk n).legs[axis]? = some (bl n)) :
    allButOneLoop axis nd next cache nd.nbrs (T.fresh (nd.nbrs.map mk ++ tail)) =
      some ⟨mk next :: tail ++ (nd.nbrs.filter (· ≠ next)).flatMap (fun n => (blk n).legs.eraseIdx axis),
            (nd.nbrs.filter (· ≠ next)).flatMap (fun n => (blk n).binds ++ [(mk n, bl n)])⟩ := by
  obtain ⟨A, B, hL⟩ := List.append_of_mem hnext
  have hnd' := hnd
  rw [hL] at hnd'
  obtain ⟨hxA, hxB, _, _, _⟩ := nodup_mid hnd'
  have hA := allButOneLoop_seg axis mk blk bl cache nd next [] A (mk next :: B.map mk ++ tail) []
    (fun n hn => by
      have hne : n ≠ next := fun e => hxA (e ▸ hn)
      exact ⟨hne, determineIndex_left nd A B next n hL hnd hn, h n (by simp [hL, hn]) hne⟩)
  have hB := allButOneLoop_seg axis mk blk bl cache nd next [mk next] B
    (tail ++ A.flatMap (fun n => (blk n).legs.eraseIdx axis))
    (A.flatMap (fun n => (blk n).binds ++ [(mk n, bl n)]))
    (fun n hn => by
      have hne : n ≠ next := fun e => hxB (e ▸ hn)
      exact ⟨hne, determineIndex_right nd A B next n hL hnd hn, h n (by simp [hL, hn]) hne⟩)
  rw [hL, filter_ne_mid A B next hxA hxB]
  simp only [T.fresh, List.map_append, List.map_cons, List.append_assoc, List.nil_append, List.cons_append,
    List.flatMap_append] at hA hB ⊢
  rw [allButOneLoop_append axis nd next cache A (next :: B) _ _ hA, allButOneLoop_skip]
  rw [hB]

theorem allLoop_general (axis : Nat) (mk : Nat → Leg) (blk : Nat → T) (bl : Nat → Leg)
    (cache : Cache) (nd : Node) (seg : List Nat) (R : List Leg) (bs : List (Leg × Leg))
    (h : ∀ n ∈ seg, cache n = some (blk n) ∧ (blk n).legs[axis]? = some (bl n)) :
    allLoop axis nd cache seg ⟨seg.map mk ++ R, bs⟩ =
      some ⟨R ++ seg.flatMap (fun n => (blk n).legs.eraseIdx axis),
            bs ++ seg.flatMap (fun n => (blk n).binds ++ [(mk n, bl n)])⟩ := by
  induction seg generalizing R bs with
  | nil => simp [allLoop]
  | cons n rest ih =>
    obtain ⟨hc, hb⟩ := h n (by simp)
    have hstep := contractNeighbourBlock_step axis mk blk bl cache nd n [] (rest.map mk ++ R) bs hc hb
    simp only [List.nil_append, List.length_nil] at hstep
    simp only [allLoop, List.map_cons, List.cons_append, hstep, List.append_assoc]
    have := ih (R ++ (blk n).legs.eraseIdx axis) (bs ++ ((blk n).binds ++ [(mk n, bl n)]))
      (fun m hm => h m (by simp [hm]))
    simp only [List.append_assoc] at this
    rw [this]
    simp

end Ptn.C04
