import Ptn.C04.Op
/-! `state_operator_contraction.contract_node_with_environment` (the root step of `expectation_value`). -/
namespace Ptn.C04

theorem map_idxOf_self (l : List Nat) (h : l.Nodup) : l.map (fun n => l.idxOf n) = List.range l.length := by
  simpa [List.range_eq_range'] using map_idxOf_add h 0

theorem filter_ignore_nil (K : List Nat) : K.filter (fun n => !([] : List Nat).contains n) = K := by
  apply List.filter_eq_self.2
  intro n _
  simp

/-- `contract_node_with_environment` of `state_operator_contraction` with arbitrary labels (`y` the ket's open leg, `zo`/`zi`
the operator's output/input leg, `z` the bra's) and three-leg blocks `[a n, o n, b n]` carrying the bindings `bb n` -/
theorem opRoot_labels (mkK mkO mkB a o b : Nat → Leg) (y zo zi z : Leg) (bb : Nat → List (Leg × Leg))
    (cache : Cache) (ketNode opNode : Node) (hK : ketNode.nbrs.Nodup) (hO : opNode.nbrs.Nodup)
    (hperm : opNode.nbrs.Perm ketNode.nbrs)
    (hcache : ∀ n ∈ ketNode.nbrs, cache n = some ⟨[a n, o n, b n], bb n⟩) :
    opContractNodeWithEnvironment ketNode (T.fresh (ketNode.nbrs.map mkK ++ [y])) opNode
        (T.fresh (opNode.nbrs.map mkO ++ [zo, zi])) (T.fresh (ketNode.nbrs.map mkB ++ [z])) cache =
      some ⟨[], (ketNode.nbrs.flatMap (fun n => bb n ++ [(mkK n, a n)]) ++
                  (ketNode.nbrs.map (fun n => (o n, mkO n)) ++ [(y, zi)])) ++
                (ketNode.nbrs.map (fun n => (mkB n, b n)) ++ [(z, zo)])⟩ := by
  have hmemO : ∀ n ∈ ketNode.nbrs, n ∈ opNode.nbrs := fun n hn => hperm.mem_iff.2 hn
  have hall := allLoop_general 0 mkK (fun n => ⟨[a n, o n, b n], bb n⟩) a cache ketNode ketNode.nbrs
    [y] [] (fun n hn => ⟨hcache n hn, by simp⟩)
  have hall' : contractAllNeighbourBlocksToKet (T.fresh (ketNode.nbrs.map mkK ++ [y])) ketNode cache =
      some ⟨[y] ++ ketNode.nbrs.flatMap (fun n => [o n, b n]),
            ketNode.nbrs.flatMap (fun n => bb n ++ [(mkK n, a n)])⟩ := by
    simpa [contractAllNeighbourBlocksToKet, T.fresh] using hall
  have heq := equivLoop_eq ketNode opNode [] id ketNode.nbrs (fun n hn _ => ⟨hn, hmemO n hn⟩)
  rw [filter_ignore_nil, map_idxOf_self _ hK] at heq
  simp only [opContractNodeWithEnvironment, hall', getEquivalentLegs, heq, nodeOperatorInputLeg, Node.nn_eq, id]
  generalize ketNode.nbrs = K at *
  generalize opNode.nbrs = On at *
  have h1 := ((PicksAt.one 0 y).append' (PicksAt.pairs 1 K o b)).picks
  have h2 := ((PicksAt.block 0 On K id mkO (by simpa using hK) hO hmemO).append
    ((PicksAt.none _ [zo]).append (PicksAt.one _ zi))).picks
  rw [filter_not_mem_of_sub fun m hm => hperm.mem_iff.1 hm] at h2
  simp only [id, List.length_map, List.length_cons, List.length_nil, Nat.zero_add, Nat.add_zero, List.nil_append,
    List.map_nil, List.append_nil] at h1 h2
  rw [tensordot_picks (a := ⟨_, _⟩) (b := T.fresh (_ ++ [zo, zi])) h1 h2 (by simp)]
  simp only [List.length_range, T.fresh, ← List.range_succ]
  have p1 : Picks (K.map mkB ++ [z]) (List.range (K.length + 1)) (K.map mkB ++ [z]) [] := by
    simpa using Picks.whole (K.map mkB ++ [z])
  have p2 : Picks (K.map b ++ [zo]) (List.range (K.length + 1)) (K.map b ++ [zo]) [] := by
    simpa using Picks.whole (K.map b ++ [zo])
  rw [tensordot_picks (a := ⟨_, []⟩) (b := ⟨_, _⟩) p1 p2 rfl]
  simp [List.zip_append, zip_map_same]

end Ptn.C04
