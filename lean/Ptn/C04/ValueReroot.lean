import Ptn.C04.ValueShortcut
/-! Value level: re-rooting the tree of the loop, for the centre shortcuts at every centre (`ValueSandwich.lean`).  `Rerooted t t'`:
`t'` is `t` with the root moved along edges; the labels do not depend on the rooting.  A re-rooting keeps the identifiers and
the edges as unordered pairs (`reroot_same`); since `ssSpec t` is the physical pairs and the `bonds` of the edges up to order
(`ssSpec_perm`), legs, value and bond dimensions of the specification graph, the node tensors and every node's set of
neighbours are kept.  Rests on `ValueShortcut.lean` and `sumPairs_unord` (`Common/EinsumBuilt.lean`). -/
namespace Ptn.C04

open Ptn.Ein

/-- **`t'` is a re-rooting of `t`**: one step makes the child `j` of the root `r` the new root; `r` (with its other
children) becomes the last child of `j`. -/
inductive Rerooted (t : Tree) : Tree → Prop
  | refl : Rerooted t t
  | step (r j : Nat) (pre post js : List Tree) :
      Rerooted t (.node r (pre ++ .node j js :: post)) → Rerooted t (.node j (js ++ [.node r (pre ++ post)]))

section
set_option linter.unusedSectionVars false
variable {R : Type} [CommSemiring R]

theorem c04_step_ids (r j : Nat) (pre post js : List Tree) :
    (Tree.ids (.node j (js ++ [.node r (pre ++ post)]))).Perm (Tree.ids (.node r (pre ++ .node j js :: post))) := by
  rw [List.perm_iff_count]
  intro x
  simp only [Tree.ids, Tree.idsL, Tree.idsL_append, List.count_append, List.count_cons, List.count_nil]
  omega

theorem c04_step_edges_old (r j : Nat) (pre post js : List Tree) :
    (Tree.edges (.node r (pre ++ .node j js :: post))).Perm
      ((r, j) :: (Tree.edgesL j js ++ (Tree.edgesL r pre ++ Tree.edgesL r post))) := by
  simp only [Tree.edges, Tree.edgesL, Tree.edgesL_append, Tree.id]
  exact List.perm_middle.trans (List.Perm.cons _ (List.perm_append_comm_assoc _ _ _))

theorem c04_step_edges_new (r j : Nat) (pre post js : List Tree) :
    (Tree.edges (.node j (js ++ [.node r (pre ++ post)]))).Perm
      ((j, r) :: (Tree.edgesL j js ++ (Tree.edgesL r pre ++ Tree.edgesL r post))) := by
  simp only [Tree.edges, Tree.edgesL, Tree.edgesL_append, Tree.id, List.append_nil]
  exact List.perm_middle

/-- two entries of `Tree.info` describe the same node with the same set of neighbours -/
def NbrEq (e' e : Nat × Option Nat × List Nat) : Prop :=
  e.1 = e'.1 ∧ ∀ n, n ∈ e'.2.1.toList ++ e'.2.2 ↔ n ∈ e.2.1.toList ++ e.2.2

theorem NbrEq.refl (e : Nat × Option Nat × List Nat) : NbrEq e e := ⟨rfl, fun _ => Iff.rfl⟩

theorem c04_step_nbrs (r j : Nat) (pre post js : List Tree) (e' : Nat × Option Nat × List Nat)
    (he : e' ∈ Tree.info none (.node j (js ++ [.node r (pre ++ post)]))) :
    ∃ e ∈ Tree.info none (.node r (pre ++ .node j js :: post)), NbrEq e' e := by
  simp only [Tree.info, Tree.infoL, Tree.infoL_append, List.mem_append, List.mem_cons, List.append_nil] at he
  rcases he with rfl | he | rfl | he | he
  · refine ⟨(j, some r, js.map Tree.id), by simp [Tree.info, Tree.infoL, Tree.infoL_append], rfl, ?_⟩
    intro n
    simp only [Option.toList, List.map_append, List.map_cons, List.map_nil, Tree.id, List.mem_append, List.mem_cons,
      List.not_mem_nil, List.nil_append, or_false]
    exact or_comm
  · exact ⟨e', by simp [Tree.info, Tree.infoL, Tree.infoL_append, he], NbrEq.refl _⟩
  · refine ⟨(r, none, (pre ++ .node j js :: post).map Tree.id), by simp [Tree.info], rfl, ?_⟩
    intro n
    simp only [Option.toList, List.map_append, List.map_cons, Tree.id, List.mem_append, List.mem_cons,
      List.not_mem_nil, List.nil_append, or_false]
    exact or_left_comm
  · exact ⟨e', by simp [Tree.info, Tree.infoL, Tree.infoL_append, he], NbrEq.refl _⟩
  · exact ⟨e', by simp [Tree.info, Tree.infoL, Tree.infoL_append, he], NbrEq.refl _⟩

theorem c04_reroot_nbrs {t t' : Tree} (h : Rerooted t t') :
    ∀ e' ∈ Tree.info none t', ∃ e ∈ Tree.info none t, NbrEq e' e := by
  induction h with
  | refl => exact fun e' he => ⟨e', he, NbrEq.refl _⟩
  | step r j pre post js _ ih =>
    intro e' he
    obtain ⟨e1, he1, h1⟩ := c04_step_nbrs r j pre post js e' he
    obtain ⟨e, he0, h0⟩ := ih e1 he1
    exact ⟨e, he0, h0.1.trans h1.1, fun n => (h1.2 n).trans (h0.2 n)⟩

/-- **a re-rooting keeps the identifiers and the edges as unordered pairs**; the network does not know its root, so
everything else that a re-rooting keeps is read off this through `ssSpec_perm` -/
theorem reroot_same {t t' : Tree} (h : Rerooted t t') :
    t'.ids.Perm t.ids ∧ (unordL t'.edges).Perm (unordL t.edges) := by
  induction h with
  | refl => exact ⟨.refl _, .refl _⟩
  | step r j pre post js _ ih =>
    refine ⟨(c04_step_ids r j pre post js).trans ih.1, List.Perm.trans ?_ ih.2⟩
    exact (unordL_perm (c04_step_edges_new r j pre post js)).trans
      ((unordL_swap_head (r, j) _).trans (unordL_perm (c04_step_edges_old r j pre post js)).symm)

theorem c04_reroot_ids {t t' : Tree} (h : Rerooted t t') : t'.ids.Perm t.ids := (reroot_same h).1

theorem bondDims_iff (dim : Leg → Nat) (t : Tree) : BondDims dim t ↔ ∀ e ∈ unordL t.edges,
    dim (Leg.gKet e.1 e.2) = dim (Leg.gKet e.2 e.1) ∧ dim (Leg.gBra e.1 e.2) = dim (Leg.gBra e.2 e.1) := by
  refine ⟨fun h e he => ?_, fun h e he => h e (List.mem_append_left _ he)⟩
  rcases List.mem_append.1 he with he | he
  · exact h e he
  · obtain ⟨e', he', rfl⟩ := List.mem_map.1 he
    exact ⟨(h e' he').1.symm, (h e' he').2.symm⟩

theorem reroot_dims_iff (dim : Leg → Nat) {t t' : Tree} (h : Rerooted t t') : BondDims dim t' ↔ BondDims dim t := by
  rw [bondDims_iff, bondDims_iff]
  exact ⟨fun H e he => H e ((reroot_same h).2.mem_iff.2 he), fun H e he => H e ((reroot_same h).2.mem_iff.1 he)⟩

/-- the bonds of the specification graph: `ssSpec t` is `t.ids.map physPair ++ bonds t` up to order (`ssSpec_perm`) -/
def bonds (t : Tree) : List (Leg × Leg) :=
  (t.edges.map fun e => ketEdge e.1 e.2) ++ t.edges.map fun e => braEdge e.1 e.2

theorem unordL_bonds (t : Tree) : (unordL (bonds t)).Perm
    (((unordL t.edges).map fun e => ketEdge e.1 e.2) ++ (unordL t.edges).map fun e => braEdge e.1 e.2) := by
  simp only [unordL, bonds, List.map_append, List.map_map, List.append_assoc]
  exact List.Perm.append_left _ (List.perm_append_comm_assoc _ _ _)

theorem reroot_bonds {t t' : Tree} (h : Rerooted t t') : (unordL (bonds t')).Perm (unordL (bonds t)) :=
  (unordL_bonds t').trans ((List.Perm.append ((reroot_same h).2.map _) ((reroot_same h).2.map _)).trans
    (unordL_bonds t).symm)

theorem ssSpec_reroot_legs {t t' : Tree} (h : Rerooted t t') :
    (Expr.pairLegs (ssSpec t')).Perm (Expr.pairLegs (ssSpec t)) := by
  refine (pairLegs_perm (ssSpec_perm t')).trans (List.Perm.trans ?_ (pairLegs_perm (ssSpec_perm t)).symm)
  refine (Expr.pairLegs_append _ _).trans (List.Perm.trans ?_ (Expr.pairLegs_append _ _).symm)
  refine List.Perm.append (pairLegs_perm ((reroot_same h).1.map _)) ?_
  show (Expr.pairLegs (bonds t')).Perm (Expr.pairLegs (bonds t))
  rw [← map_fst_unordL, ← map_fst_unordL]
  exact (reroot_bonds h).map _

/-- summing over the bonds of the re-rooted tree and over any part `P` of the physical pairs (all of them:
`ssSpec_reroot_value`; all but the pair of the centre: `c04_reroot_value_erase`) -/
theorem reroot_value (dim : Leg → Nat) {t t' : Tree} (h : Rerooted t t') (hd : BondDims dim t)
    (P P' : List (Leg × Leg)) (hP : P'.Perm P) (hnd : (Expr.pairLegs (P ++ bonds t)).Nodup)
    (f : Asg Leg → R) (σ : Asg Leg) :
    sumPairs dim (P' ++ bonds t') f σ = sumPairs dim (P ++ bonds t) f σ := by
  have hb := reroot_bonds h
  have hdb : ∀ p ∈ bonds t, dim p.1 = dim p.2 := by
    intro p hp
    rcases List.mem_append.1 hp with hp | hp <;> obtain ⟨e, he, rfl⟩ := List.mem_map.1 hp
    · exact (hd e he).1
    · exact (hd e he).2.symm
  have hnd0 := (Expr.pairLegs_append _ _).nodup_iff.1 hnd
  have hndb' : (Expr.pairLegs (bonds t')).Nodup := by
    rw [← map_fst_unordL, (hb.map _).nodup_iff, map_fst_unordL]
    exact hnd0.of_append_right
  rw [sumPairs_append, sumPairs_append, sumPairs_perm dim hP ((pairLegs_perm hP).nodup_iff.2 hnd0.of_append_left)]
  exact sumPairs_congr dim _ (fun τ => sumPairs_unord dim _ _ hb hdb hndb' f τ) σ

/-- **the specification graph of a re-rooted tree is that of the tree up to the order of the pairs and the
orientation of the bonds**: summing over it gives the same value (both ends of every bond of equal dimension) -/
theorem ssSpec_reroot_value (dim : Leg → Nat) {t t' : Tree} (h : Rerooted t t') (hd : BondDims dim t)
    (hnd : (Expr.pairLegs (ssSpec t)).Nodup) (f : Asg Leg → R) (σ : Asg Leg) :
    sumPairs dim (ssSpec t') f σ = sumPairs dim (ssSpec t) f σ := by
  rw [sumPairs_perm dim (ssSpec_perm t') ((ssSpec_reroot_legs h).nodup_iff.2 hnd), sumPairs_perm dim (ssSpec_perm t) hnd]
  exact reroot_value dim h hd _ _ ((reroot_same h).1.map _) ((pairLegs_perm (ssSpec_perm t)).nodup_iff.1 hnd) f σ

variable (kv bv : Nat → Asg Leg → R) (braKids : Nat → List Nat)

theorem c04_ssLeaves_fns (p : Option Nat) : ∀ t : Tree,
    (ssLeaves braKids kv bv p t).map Prod.snd = t.ids.flatMap fun i => [kv i, bv i] := fun t => by
  rw [ssLeaves, treeLeaves_flatMap, ← Tree.info_keys p t, List.map_flatMap, List.flatMap_map]
  rfl

theorem c04_ssLeavesL_fns (i : Nat) : ∀ ks : List Tree,
    (treeLeavesL (ssNodeLeaves braKids kv bv) i ks).map Prod.snd = (Tree.idsL ks).flatMap fun i => [kv i, bv i] :=
  fun ks => by
  rw [treeLeavesL_flatMap, ← Tree.infoL_keys i ks, List.map_flatMap, List.flatMap_map]
  rfl

/-- **the node tensors of a re-rooted tree are those of the tree, up to order** (whatever child orders the bra
network uses in either) -/
theorem ssLeaves_reroot_perm {t t' : Tree} (h : Rerooted t t') (braKids' : Nat → List Nat) :
    ((ssLeaves braKids' kv bv none t').map Prod.snd).Perm ((ssLeaves braKids kv bv none t).map Prod.snd) := by
  rw [c04_ssLeaves_fns, c04_ssLeaves_fns]
  exact (c04_reroot_ids h).flatMap_right _

/-- a table with distinct keys is a function -/
theorem c04_table_fn {β : Type} (d : β) : ∀ l : List (Nat × β), (l.map (·.1)).Nodup →
    ∃ f : Nat → β, ∀ e ∈ l, f e.1 = e.2 := fun l hnd => ⟨fun k => (l.lookup k).getD d, fun e he => by
  show (l.lookup e.1).getD d = e.2
  rw [lookup_of_nodup_keys hnd (k := e.1) (v := e.2) he]; rfl⟩

/-- the tensors read only their own legs, whatever the rooting -/
theorem c04_reroot_local {t t' : Tree} (hr : Rerooted t t')
    (hloc : ∀ e ∈ Tree.info none t, NodeLocal kv bv braKids e)
    (tab : Nat → Option Nat × List Nat) (htab : ∀ e ∈ Tree.info none t', tab e.1 = e.2) :
    ∀ e ∈ Tree.info none t', NodeLocal kv bv (fun i => (tab i).2) e := by
  intro e' he'
  obtain ⟨e, he, hid, hn⟩ := c04_reroot_nbrs hr e' he'
  obtain ⟨h1, h2, h3⟩ := hloc e he
  have ht : (tab e'.1).2 = e'.2.2 := by rw [htab e' he']
  refine ⟨?_, ?_, by show ((tab e'.1).2).Perm _; rw [ht]⟩
  · rw [← hid]
    refine h1.mono ?_
    intro l hl
    simp only [gKetT, T.fresh, Node.nbrs, List.mem_append, List.mem_map, List.mem_singleton] at hl ⊢
    rcases hl with ⟨n, hn', rfl⟩ | rfl
    · exact Or.inl ⟨n, List.mem_append.1 ((hn n).2 (List.mem_append.2 hn')), rfl⟩
    · exact Or.inr rfl
  · simp only [ht]
    rw [← hid]
    refine h2.mono ?_
    intro l hl
    simp only [gBraT, T.fresh, Node.nbrs, List.mem_append, List.mem_map, List.mem_singleton] at hl ⊢
    rcases hl with ⟨n, hn', rfl⟩ | rfl
    · refine Or.inl ⟨n, List.mem_append.1 ((hn n).2 (List.mem_append.2 ?_)), rfl⟩
      rcases hn' with h | h
      · exact Or.inl h
      · exact Or.inr (h3.mem_iff.1 h)
    · exact Or.inr rfl

end

theorem Rerooted.step_kid {T : Tree} (r : Nat) (pre post : List Tree) (k : Tree)
    (h : Rerooted T (.node r (pre ++ k :: post))) : Rerooted T (.node k.id (k.kids ++ [.node r (pre ++ post)])) := by
  cases k; exact Rerooted.step r _ pre post _ h

theorem c04_reroot_reach (T : Tree) : ∀ (t : Tree) (extra : List Tree) (c : Nat), c ∈ t.ids →
    Rerooted T (.node t.id (t.kids ++ extra)) → ∃ t', Rerooted T t' ∧ t'.id = c := by
  refine Tree.induct fun r ks ih extra c hc hr => ?_
  rcases List.mem_cons.1 hc with rfl | hc
  · exact ⟨_, hr, rfl⟩
  · rw [Tree.idsL_eq, List.mem_flatMap] at hc
    obtain ⟨k, hk, hck⟩ := hc
    obtain ⟨pre, post, rfl⟩ := List.append_of_mem hk
    exact ih k hk _ c hck (Rerooted.step_kid r pre (post ++ extra) k (by simpa [Tree.id, Tree.kids] using hr))

theorem c04_reroot_reachL (T : Tree) (r : Nat) : ∀ (pre ks extra : List Tree) (c : Nat), c ∈ Tree.idsL ks →
    Rerooted T (.node r (pre ++ ks ++ extra)) → ∃ t', Rerooted T t' ∧ t'.id = c := fun pre ks extra c hc hr => by
  rw [Tree.idsL_eq, List.mem_flatMap] at hc
  obtain ⟨k, hk, hck⟩ := hc
  obtain ⟨a, b, rfl⟩ := List.append_of_mem hk
  exact c04_reroot_reach T k _ c hck (Rerooted.step_kid r (pre ++ a) (b ++ extra) k (by simpa using hr))

theorem c04_reroot_exists (t : Tree) (c : Nat) (hc : c ∈ t.ids) : ∃ t', Rerooted t t' ∧ t'.id = c := by
  obtain ⟨r, ks⟩ := t
  exact c04_reroot_reach (.node r ks) (.node r ks) [] c hc (by simpa [Tree.id, Tree.kids] using Rerooted.refl)

end Ptn.C04
