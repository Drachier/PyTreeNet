import Ptn.C04.BuiltTree
import Ptn.C04.Core
import Ptn.C04.Value
import Ptn.C04.ValueOp
import Ptn.C04.ValueCentre
import Ptn.C04.CentreModel
import Ptn.C04.ValueShortcut
import Ptn.C04.ValueReroot
import Ptn.C04.ValueSandwich
import Ptn.C06.Demo
/-! Property theorems for C04: the leg-graph theorems are in `Core.lean` (core Lean only), the value-level
theorems of the two loops in `Value.lean` / `ValueOp.lean` (over `Ptn/Common/Einsum*.lean`, single Mathlib modules).
This file adds their non-vacuity examples on a two-node tree, and the theorems about the orthogonality-centre
shortcuts, `apply_operator` and `conjugate`. -/
namespace Ptn.C04

open Ptn.Ein

/-- a leaf tensor with integer entries that reads exactly the two given legs -/
def demoLeaf (a b : Leg) (k : Int) : Expr Leg Int :=
  Expr.leaf [a, b] (fun σ => (σ a : Int) + k * (σ b : Int) + 1)

theorem demoLeaf_swf (a b : Leg) (k : Int) (h : a ≠ b) : (demoLeaf a b k).SWF := by
  refine ⟨by simp [h], ?_⟩
  intro σ τ hst
  show (σ a : Int) + k * (σ b : Int) + 1 = (τ a : Int) + k * (τ b : Int) + 1
  rw [hst a (by simp), hst b (by simp)]

/-- the two-node tree `0 — 1` -/
def demoTree : Tree := .node 0 [.node 1 []]

/-- a statement about every node of a two-node tree is one about its root and one about its leaf -/
theorem forall_info_two (a b : Nat) (P : Nat × Option Nat × List Nat → Prop) (h0 : P (a, none, [b]))
    (h1 : P (b, some a, [])) : ∀ e ∈ Tree.info none (.node a [.node b []]), P e := by
  intro e he
  simp only [Tree.info, Tree.infoL, List.map_cons, List.map_nil, Tree.id, List.append_nil, List.mem_cons,
    List.not_mem_nil, or_false] at he
  rcases he with rfl | rfl
  · exact h0
  · exact h1

def demoK : Expr Leg Int :=
  Expr.dot (demoLeaf (Leg.gKet 0 1) (Leg.gKetPhys 0) 2) (demoLeaf (Leg.gKet 1 0) (Leg.gKetPhys 1) 3) [ketEdge 0 1]
def demoB : Expr Leg Int :=
  Expr.dot (demoLeaf (Leg.gBra 1 0) (Leg.gBraPhys 1) 5) (demoLeaf (Leg.gBra 0 1) (Leg.gBraPhys 0) 7) [braEdge 0 1]
def demoE : Expr Leg Int := Expr.dot demoK demoB (physPairs demoTree)

theorem demoK_swf : demoK.SWF := by
  refine ⟨demoLeaf_swf _ _ _ (by decide +kernel), demoLeaf_swf _ _ _ (by decide +kernel), ?_, ?_, ?_, ?_⟩ <;> decide +kernel

theorem demoB_swf : demoB.SWF := by
  refine ⟨demoLeaf_swf _ _ _ (by decide +kernel), demoLeaf_swf _ _ _ (by decide +kernel), ?_, ?_, ?_, ?_⟩ <;> decide +kernel

/-- the hypotheses of `scalar_product_value` are satisfiable: on the two-node tree the program "contract
the ket network, contract the bra network, then sum over the physical pairs" meets every premise -/
example : demoE.SWF ∧ demoK.SWF ∧ demoB.SWF ∧ (∀ l ∈ demoK.labels, l ∉ demoB.labels) ∧
    demoK.binds.Perm (ketBonds demoTree) ∧ demoB.binds.Perm (braBonds demoTree) ∧
    (∀ p ∈ physPairs demoTree, p.1 ∈ demoK.free ∧ p.2 ∈ demoB.free) ∧
    (∀ σ, demoE.leafProd σ = demoK.leafProd σ * demoB.leafProd σ) ∧
    demoE.binds.Perm (physPairs demoTree ++ (ketBonds demoTree ++ braBonds demoTree)) := by
  have hdis : ∀ l ∈ demoK.labels, l ∉ demoB.labels := by decide +kernel
  have hfree : ∀ p ∈ physPairs demoTree, p.1 ∈ demoK.free ∧ p.2 ∈ demoB.free := by decide +kernel
  exact ⟨⟨demoK_swf, demoB_swf, hdis, hfree, by decide +kernel, by decide +kernel⟩, demoK_swf, demoB_swf, hdis, by decide +kernel, by decide +kernel,
    hfree, fun σ => Expr.leafProd_dot _ _ _ σ, by decide +kernel⟩

/-- node tensor of the two-node tree that reads its bond leg and its physical leg -/
def demoKv (i : Nat) : Asg Leg → Int := fun σ => (σ (Leg.gKet i (1 - i)) : Int) + 2 * (σ (Leg.gKetPhys i) : Int) + 1
def demoBv (i : Nat) : Asg Leg → Int := fun σ => 3 * (σ (Leg.gBra i (1 - i)) : Int) + (σ (Leg.gBraPhys i) : Int) + 2
def demoBraKids (i : Nat) : List Nat := if i = 0 then [1] else []

/-- the hypotheses of `contract_two_ttns_value` are satisfiable by tensors that depend on every one of their
legs: distinct identifiers, a bra child order, locality of all four node tensors -/
example : demoTree.ids.Nodup ∧ (∀ e ∈ Tree.info none demoTree, (demoBraKids e.1).Perm e.2.2) ∧
    KetLocal demoKv demoTree ∧ BraLocal demoBv demoBraKids demoTree := by
  refine ⟨by decide +kernel, by decide +kernel, forall_info_two 0 1 _ ?_ ?_, forall_info_two 0 1 _ ?_ ?_⟩ <;> intro σ τ h
  · simp only [demoKv]; rw [h _ (by decide), h _ (by decide)]
  · simp only [demoKv]; rw [h _ (by decide), h _ (by decide)]
  · simp only [demoBv]; rw [h _ (by decide), h _ (by decide)]
  · simp only [demoBv]; rw [h _ (by decide), h _ (by decide)]

/-- and the conclusion is about a real computation: on the two-node tree with all dimensions 2 the loop's value
is the dense inner product, here the integer 2062 -/
example : sumPairs (fun _ => 2) (physPairs demoTree)
    (fun τ => (ketExpr demoKv demoTree).eval (fun _ => 2) τ * (braExpr demoBv demoBraKids demoTree).eval (fun _ => 2) τ)
    (fun _ => 0) = 2062 := by decide +kernel

/-- a leaf tensor with integer entries that reads exactly the three given legs -/
def demoLeaf3 (a b c : Leg) (k : Int) : Expr Leg Int :=
  Expr.leaf [a, b, c] (fun σ => (σ a : Int) + k * (σ b : Int) + (σ b : Int) * (σ c : Int) + 1)

theorem demoLeaf3_swf (a b c : Leg) (k : Int) (h : [a, b, c].Nodup) : (demoLeaf3 a b c k).SWF := by
  refine ⟨h, ?_⟩
  intro σ τ hst
  show (σ a : Int) + k * (σ b : Int) + (σ b : Int) * (σ c : Int) + 1 =
    (τ a : Int) + k * (τ b : Int) + (τ b : Int) * (τ c : Int) + 1
  rw [hst a (by simp), hst b (by simp), hst c (by simp)]

def demoO : Expr Leg Int :=
  Expr.dot (demoLeaf3 (Leg.gOp 1 0) (Leg.gOpOut 1) (Leg.gOpIn 1) 2) (demoLeaf3 (Leg.gOp 0 1) (Leg.gOpOut 0) (Leg.gOpIn 0) 3)
    [opEdge 0 1]
def demoIn : List (Leg × Leg) := [physIn 0, physIn 1]
def demoOut : List (Leg × Leg) := [physOut 0, physOut 1]
def demoE3 : Expr Leg Int := Expr.dot (Expr.dot demoK demoO demoIn) demoB demoOut

theorem demoO_swf : demoO.SWF := by
  refine ⟨demoLeaf3_swf _ _ _ _ (by decide +kernel), demoLeaf3_swf _ _ _ _ (by decide +kernel), ?_, ?_, ?_, ?_⟩ <;> decide +kernel

/-- the hypotheses of `expectation_value_value` are satisfiable: on the two-node tree the program "apply the
operator to the ket, then contract with the bra" meets every premise (all dimensions 2) -/
example : demoE3.SWF ∧ demoK.WF ∧ demoO.WF ∧ demoB.WF ∧
    (∀ l ∈ demoK.labels, l ∉ demoO.labels) ∧ (∀ l ∈ demoK.labels, l ∉ demoB.labels) ∧
    (∀ l ∈ demoO.labels, l ∉ demoB.labels) ∧
    (demoOut ++ ((demoIn ++ (demoK.binds ++ demoO.binds)) ++ demoB.binds)).Perm (soSpec demoTree) ∧
    (∀ p ∈ demoIn, p.1 ∈ demoK.free ∧ p.2 ∈ demoO.free) ∧
    (∀ p ∈ demoOut, (p.1 ∈ demoO.free ∧ p.1 ∉ demoIn.map Prod.snd) ∧ p.2 ∈ demoB.free) ∧
    (∀ p ∈ soSpec demoTree, (fun _ : Leg => 2) p.1 = (fun _ : Leg => 2) p.2) ∧
    (∀ σ, demoE3.leafProd σ = demoK.leafProd σ * demoO.leafProd σ * demoB.leafProd σ) := by
  have hin : ∀ p ∈ demoIn, p.1 ∈ demoK.free ∧ p.2 ∈ demoO.free := by decide +kernel
  have hKO : ∀ l ∈ demoK.labels, l ∉ demoO.labels := by decide +kernel
  have hswf : demoE3.SWF :=
    ⟨⟨demoK_swf, demoO_swf, hKO, hin, by decide +kernel, by decide +kernel⟩, demoB_swf, by decide +kernel, by decide +kernel, by decide +kernel, by decide +kernel⟩
  exact ⟨hswf, demoK_swf.wf, demoO_swf.wf, demoB_swf.wf, hKO, by decide +kernel, by decide +kernel, by decide +kernel, hin, by decide +kernel,
    fun _ _ => rfl, fun σ => by rw [demoE3, Expr.leafProd_dot, Expr.leafProd_dot]⟩

/-- operator tensors of the two-node tree that read all their legs -/
def demoOv (i : Nat) : Asg Leg → Int :=
  fun σ => (σ (Leg.gOp i (1 - i)) : Int) + 2 * (σ (Leg.gOpOut i) : Int) + 3 * (σ (Leg.gOpIn i) : Int) + 1

example : demoTree.ids.Nodup ∧ OpLocal demoOv demoTree := by
  refine ⟨by decide +kernel, forall_info_two 0 1 _ ?_ ?_⟩ <;> intro σ τ h
  · simp only [demoOv]; rw [h _ (by decide), h _ (by decide), h _ (by decide)]
  · simp only [demoOv]; rw [h _ (by decide), h _ (by decide), h _ (by decide)]

/-- the hypotheses of `expectation_value_loop_value` are satisfiable (operator child order = `demoBraKids`), and
with all dimensions 2 every pair of the specification graph joins legs of equal dimension -/
example : demoTree.ids.Nodup ∧ (∀ e ∈ Tree.info none demoTree, (demoBraKids e.1).Perm e.2.2) ∧
    KetLocal demoKv demoTree ∧ OpLocalK demoOv demoBraKids demoTree ∧ BraLocalK demoBv demoTree ∧
    (∀ p ∈ soSpec demoTree, (fun _ : Leg => 2) p.1 = (fun _ : Leg => 2) p.2) := by
  refine ⟨by decide +kernel, by decide +kernel, forall_info_two 0 1 _ ?_ ?_, forall_info_two 0 1 _ ?_ ?_,
    forall_info_two 0 1 _ ?_ ?_, fun _ _ => rfl⟩ <;> intro σ τ h
  · simp only [demoKv]; rw [h _ (by decide), h _ (by decide)]
  · simp only [demoKv]; rw [h _ (by decide), h _ (by decide)]
  · simp only [demoOv]; rw [h _ (by decide), h _ (by decide), h _ (by decide)]
  · simp only [demoOv]; rw [h _ (by decide), h _ (by decide), h _ (by decide)]
  · simp only [demoBv]; rw [h _ (by decide), h _ (by decide)]
  · simp only [demoBv]; rw [h _ (by decide), h _ (by decide)]


section centre
set_option linter.unusedSectionVars false
variable {L : Type} [DecidableEq L] {R : Type} [CommSemiring R]

/-- **The shortcut of `scalar_product()` is sound for canonical states.**  GIVEN the network is canonical with
centre `c` in index form (`Centre.Canon`: what C03 `canonical_form_centre_norm` establishes after
`canonical_form`), (1) the full norm network has the value of `Σ C · Cc` over one common index per leg of the
centre tensor — what `np.tensordot(tensor, tensor.conj(), axes=(legs, legs))` computes — and (2) EVERY strongly
well-formed contraction program over the tensors of the norm network with the norm network's record — by
`contract_two_ttns_value` the loop of `contract_two_ttns(self, self.conjugate())` is one — evaluates to that
shortcut value. -/
theorem centre_shortcut_value (dim : L → Nat) (c : Centre L R) (hc : c.Canon dim) (hnd : c.labels.Nodup) :
    (∀ σ, netValue dim c.normBinds c.normLeaves σ = netValue dim (c.phys ++ c.kids.pairs) [c.C, c.Cc] σ) ∧
    ∀ e : Expr L R, e.SWF → e.binds.Perm c.normBinds → (e.leaves.map Prod.snd).Perm c.normLeaves →
      ∀ σ, e.eval dim σ = netValue dim (c.phys ++ c.kids.pairs) [c.C, c.Cc] σ := by
  refine ⟨fun σ => centre_norm_eq_full_norm_value dim c hc hnd σ, ?_⟩
  intro e he hb hl σ
  rw [Expr.eval_eq_netValue dim e he _ _ hb hl σ]
  exact centre_norm_eq_full_norm_value dim c hc hnd σ

/-- **The shortcut of `single_site_operator_expectation_value` is sound for canonical states** (environment =
identity ⟹ `⟨ψ|O_c|ψ⟩ = Σ C·O·Cc`).  `O`: an operator tensor reading only its own legs `ops` (pairs
`(out, in)`), which occur nowhere else; `B`: ANY binding record among `C`, `O`, `Cc` — for the library
`(ket open leg, in)` and `(out, bra open leg)`.  The full sandwich network (all tensors of all nodes, the
operator, all conjugated tensors; `B` and every bond of both copies and every pair of open legs of the other
nodes) has the value of the three-tensor network `C, O, Cc` summed over `B` and one common index per bond of the
centre; and every strongly well-formed program with that record evaluates to it. -/
theorem centre_operator_value (dim : L → Nat) (c : Centre L R) (hc : c.Canon dim) (O : Asg L → R)
    (ops : List (L × L)) (hO : DependsOn (· ∈ Expr.pairLegs ops) O)
    (hnd : (Expr.pairLegs ops ++ c.labels).Nodup) (B : List (L × L)) :
    (∀ σ, netValue dim (B ++ c.kids.binds) (c.C :: O :: c.Cc :: c.kids.leaves) σ =
        netValue dim (B ++ c.kids.pairs) [c.C, O, c.Cc] σ) ∧
    ∀ e : Expr L R, e.SWF → e.binds.Perm (B ++ c.kids.binds) →
      (e.leaves.map Prod.snd).Perm (c.C :: O :: c.Cc :: c.kids.leaves) →
      ∀ σ, e.eval dim σ = netValue dim (B ++ c.kids.pairs) [c.C, O, c.Cc] σ := by
  obtain ⟨hndo, hndc, hdis⟩ := List.nodup_append.1 hnd
  obtain ⟨hC, hCc⟩ := c04_centre_C_outside dim c hc hndc
  have hk : c.kids.labels.Nodup := by
    simp only [Centre.labels, List.nodup_append] at hndc
    exact hndc.2.1
  have hO' : DependsOn (· ∉ c.kids.inner) O := by
    refine hO.mono ?_
    intro l hl hi
    exact hdis l hl l (by simp [Centre.labels, Kids.inner_sub c.kids l hi]) rfl
  have main : ∀ σ, netValue dim (B ++ c.kids.binds) (c.C :: O :: c.Cc :: c.kids.leaves) σ =
      netValue dim (B ++ c.kids.pairs) [c.C, O, c.Cc] σ := by
    intro σ
    have := c04_env_absorb dim c.kids hc.2.2 hk B [c.C, O, c.Cc] (by
      intro f hf
      simp only [List.mem_cons, List.not_mem_nil, or_false] at hf
      rcases hf with rfl | rfl | rfl <;> assumption) σ
    simpa using this
  refine ⟨main, ?_⟩
  intro e he hb hl σ
  rw [Expr.eval_eq_netValue dim e he _ _ hb hl σ]
  exact main σ

/-- **`apply_operator` on one node multiplies the state vector by the operator.**  `ψ`: the state network
(leaf tensors `rest`, record `binds`); `G`: the operator tensor, reading only legs `S` that are not bound in
`ψ`; `pp`: the pairs `absorb_into_open_legs` binds (`absorb_into_open_legs_legs`: every open leg of the node with
the operator's input leg of the same position).  The new network evaluates to `Σ_in G[out, in] · ψ[… in …]`. -/
theorem apply_operator_node_value (dim : L → Nat) (binds : List (L × L)) (G : Asg L → R)
    (rest : List (Asg L → R)) (pp : List (L × L)) {S : L → Prop}
    (hG : DependsOn S G) (hdis : ∀ l ∈ Expr.pairLegs binds, ¬ S l)
    (hnd : (Expr.pairLegs (binds ++ pp)).Nodup) (σ : Asg L) :
    netValue dim (binds ++ pp) (G :: rest) σ =
      sumPairs dim pp (fun τ => G τ * netValue dim binds rest τ) σ :=
  apply_gate_value dim binds pp G rest hG hdis hnd σ

/-- **`conjugate()` conjugates the value.**  For every ring homomorphism `cj` (complex conjugation on `ℂ`):
the network with the same record in which every tensor is replaced entry-wise by its image has the value
`cj(ψ)`; and the same for every contraction program (`conjExpr`: same nesting, same pairs, images of the
leaves) — with no well-formedness hypothesis at all. -/
theorem conjugate_value {R' : Type} [CommSemiring R'] (cj : R →+* R') (dim : L → Nat) :
    (∀ (binds : List (L × L)) (leaves : List (Asg L → R)) (σ : Asg L),
      netValue dim binds (leaves.map (fun f τ => cj (f τ))) σ = cj (netValue dim binds leaves σ)) ∧
    ∀ (e : Expr L R) (σ : Asg L), (conjExpr cj e).eval dim σ = cj (e.eval dim σ) ∧
      (conjExpr cj e).binds = e.binds ∧ (conjExpr cj e).free = e.free := by
  refine ⟨?_, fun e σ => ⟨conjExpr_eval cj dim e σ, conjExpr_binds cj e, conjExpr_free cj e⟩⟩
  intro binds leaves σ
  unfold netValue
  rw [sumPairs_map]
  apply sumPairs_congr
  intro τ
  rw [prodL_map, List.map_map, List.map_map]
  rfl

end centre

/-- **`absorb_into_open_legs` on labels.**  Node tensor with virtual legs `vs` then open legs `ps`, operator with
legs `outs ++ ins` (as many of each as the node has open legs): the call succeeds, binds every open leg to the
input leg of the same position, keeps the virtual legs in place and puts the output legs where the open legs
were. -/
theorem absorb_into_open_legs_legs (vs ps outs ins : List Leg) (bs bs' : List (Leg × Leg))
    (h1 : outs.length = ps.length) (h2 : ins.length = ps.length) :
    absorbIntoOpenLegs ⟨vs ++ ps, bs⟩ ⟨outs ++ ins, bs'⟩ vs.length =
      some ⟨vs ++ outs, bs ++ bs' ++ ps.zip ins⟩ := by
  have hn : (vs ++ ps).length - vs.length = ps.length := by simp
  have hlen : ¬ (outs ++ ins).length ≠ 2 * ps.length := by simp [h1, h2]; omega
  simp only [absorbIntoOpenLegs, hn, hlen, if_false]
  have hb := Picks.suffix outs ins
  rw [h1, h2] at hb
  exact tensordot_picks (a := ⟨_, bs⟩) (b := ⟨_, bs'⟩) (Picks.suffix vs ps) hb (by simp)

example : absorbIntoOpenLegs ⟨[.gKet 0 1, .gKet 0 2, .gKetPhys 0], []⟩ ⟨[.gOpOut 0, .gOpIn 0], []⟩ 2 =
    some ⟨[.gKet 0 1, .gKet 0 2, .gOpOut 0], [(.gKetPhys 0, .gOpIn 0)]⟩ := by decide +kernel

/-- a tensor with the wrong number of legs is rejected (`assert tensor.ndim == 2 * nopen_legs`) -/
example : absorbIntoOpenLegs ⟨[.gKet 0 1, .gKetPhys 0], []⟩ ⟨[.gOpOut 0, .gOpIn 0, .gOpIn 1], []⟩ 1 = none := by
  decide +kernel

/-- **What `apply_operator` does to the recorded orthogonality centre (the rule of the library's code).**
After absorbing operators into the nodes `ns` the record is kept exactly if there was one and every touched node
is the centre itself; otherwise it is dropped. -/
theorem apply_operator_orth_centre (oc : Option Nat) (ns : List Nat) :
    applyOperatorOrthCentre oc ns =
      match oc with
      | none => none
      | some c => if ∀ n ∈ ns, n = c then some c else none := by
  induction ns generalizing oc with
  | nil => cases oc <;> simp [applyOperatorOrthCentre]
  | cons n rest ih =>
    cases oc with
    | none => simp [applyOperatorOrthCentre, absorbOrthCentre, ih]
    | some c =>
      by_cases h : c = n
      · subst h
        simp [applyOperatorOrthCentre, absorbOrthCentre, ih]
      · have h' : ¬ n = c := fun e => h e.symm
        simp [applyOperatorOrthCentre, absorbOrthCentre, ih, h, h']

example : applyOperatorOrthCentre (some 3) [3, 3] = some 3 ∧ applyOperatorOrthCentre (some 3) [3, 4] = none ∧
    applyOperatorOrthCentre none [3] = none := by decide +kernel

/-- the shortcuts on labels: all legs of the centre tensor are bound to the same positions of its conjugate; with
an operator the last leg goes through the operator (`axes=(-1, 1)`) -/
example : centreScalarProduct ⟨[.gKet 0 1, .gKetPhys 0], []⟩ ⟨[.gBra 0 1, .gBraPhys 0], []⟩ =
      some ⟨[], [(.gKet 0 1, .gBra 0 1), (.gKetPhys 0, .gBraPhys 0)]⟩ ∧
    centreSingleSite ⟨[.gKet 0 1, .gKetPhys 0], []⟩ ⟨[.gOpOut 0, .gOpIn 0], []⟩ ⟨[.gBra 0 1, .gBraPhys 0], []⟩ =
      some ⟨[], [(.gKetPhys 0, .gOpIn 0), (.gKet 0 1, .gBra 0 1), (.gOpOut 0, .gBraPhys 0)]⟩ := by decide +kernel

/-- the hypotheses of `centre_shortcut_value` hold for a concrete canonical network with non-trivial isometries -/
example : Ptn.C06.Demo.centre.Canon Ptn.C06.Demo.dim ∧ Ptn.C06.Demo.centre.labels.Nodup :=
  ⟨Ptn.C06.Demo.centre_canon, Ptn.C06.Demo.centre_nodup⟩

/-- an operator on the centre's open leg: legs 29 (out), 39 (in), reading both -/
def demoCentreOp : Asg Nat → ℂ := fun σ => (σ 29 : ℂ) + 2 * σ 39 + 1

/-- the hypotheses of `centre_operator_value` hold for the demo tree with that operator -/
example : DependsOn (· ∈ Expr.pairLegs [((29 : Nat), (39 : Nat))]) demoCentreOp ∧
    (Expr.pairLegs [((29 : Nat), (39 : Nat))] ++ Ptn.C06.Demo.centre.labels).Nodup := by
  constructor
  · intro σ τ h
    simp only [demoCentreOp]
    rw [h 29 (by decide +kernel), h 39 (by decide +kernel)]
  · decide +kernel

/-- the hypotheses of `apply_operator_node_value`: a two-tensor state `ψ = Σ_b A[b, p]·B[b']`, gate on `p` -/
example : DependsOn (· ∈ [(10 : Nat), 11]) (fun σ : Asg Nat => ((σ 10 : Int) + 2 * σ 11 + 1)) ∧
    (∀ l ∈ Expr.pairLegs [((0 : Nat), (1 : Nat))], ¬ l ∈ [(10 : Nat), 11]) ∧
    (Expr.pairLegs ([((0 : Nat), (1 : Nat))] ++ [(11, 2)])).Nodup := by
  refine ⟨?_, by decide +kernel, by decide +kernel⟩
  intro σ τ h
  show ((σ 10 : Int) + 2 * σ 11 + 1) = ((τ 10 : Int) + 2 * τ 11 + 1)
  rw [h 10 (by simp), h 11 (by simp)]

/-- the hypotheses of `scalar_product_centre_shortcut_root_partial` hold for a concrete canonical state: the tree
`0 — 1`, all dimensions 2, node 1 the isometry `δ(bond, phys)` (and its copy), node 0 an arbitrary tensor -/
def demoIsoKv : Nat → Asg Leg → Int := fun i σ =>
  if i = 1 then (if σ (Leg.gKet 1 0) = σ (Leg.gKetPhys 1) then 1 else 0)
  else (σ (Leg.gKet 0 1) : Int) + 2 * σ (Leg.gKetPhys 0) + 1
def demoIsoBv : Nat → Asg Leg → Int := fun i σ =>
  if i = 1 then (if σ (Leg.gBra 1 0) = σ (Leg.gBraPhys 1) then 1 else 0)
  else (σ (Leg.gBra 0 1) : Int) + 2 * σ (Leg.gBraPhys 0) + 1

example : IsoKids demoIsoKv demoIsoBv (fun _ => 2) 0 [.node 1 []] := by
  refine ⟨rfl, rfl, ⟨rfl, ?_, trivial⟩, trivial⟩
  intro τ h1 h2
  simp only at h1 h2
  have h1' : τ (Leg.gKet 1 0) = 0 ∨ τ (Leg.gKet 1 0) = 1 := by omega
  have h2' : τ (Leg.gBra 1 0) = 0 ∨ τ (Leg.gBra 1 0) = 1 := by omega
  rcases h1' with h1' | h1' <;> rcases h2' with h2' | h2' <;>
    simp [downPairs, physPair, sumPairs, sumR, upd, demoIsoKv, demoIsoBv, List.range_succ, h1', h2']

example : KetLocal demoIsoKv (.node 0 [.node 1 []]) ∧ BraLocal demoIsoBv (fun i => if i = 0 then [1] else [])
    (.node 0 [.node 1 []]) := by
  refine ⟨forall_info_two 0 1 _ ?_ ?_, forall_info_two 0 1 _ ?_ ?_⟩ <;> intro σ τ h
  · simp only [demoIsoKv]; rw [h (Leg.gKet 0 1) (by decide +kernel), h (Leg.gKetPhys 0) (by decide +kernel)]; simp
  · simp only [demoIsoKv]; rw [h (Leg.gKet 1 0) (by decide +kernel), h (Leg.gKetPhys 1) (by decide +kernel)]; simp
  · simp only [demoIsoBv]; rw [h (Leg.gBra 0 1) (by decide +kernel), h (Leg.gBraPhys 0) (by decide +kernel)]; simp
  · simp only [demoIsoBv]; rw [h (Leg.gBra 1 0) (by decide +kernel), h (Leg.gBraPhys 1) (by decide +kernel)]; simp

/-- **every node of the tree is the root of one of its re-rootings** (so `scalar_product_centre_shortcut` covers
every position of the orthogonality centre) -/
theorem reroot_exists (t : Tree) (c : Nat) (hc : c ∈ t.ids) : ∃ ks, Rerooted t (.node c ks) := by
  obtain ⟨t', hr, hid⟩ := c04_reroot_exists t c hc
  obtain ⟨c', ks⟩ := t'
  simp only [Tree.id] at hid
  subst hid
  exact ⟨ks, hr⟩

/-- **a re-rooting keeps the network**: the identifiers are permuted, the specification graph keeps its legs and -
both ends of every bond of equal dimension - its value as a summation record (it is permuted and the pairs of the
crossed edges are turned around), the node tensors are the same up to order. -/
theorem ssSpec_reroot_perm {R : Type} [CommSemiring R] (dim : Leg → Nat) {t t' : Tree} (h : Rerooted t t')
    (hd : BondDims dim t) (hnd : (Expr.pairLegs (ssSpec t)).Nodup)
    (kv bv : Nat → Asg Leg → R) (braKids braKids' : Nat → List Nat) :
    t'.ids.Perm t.ids ∧ (Expr.pairLegs (ssSpec t')).Perm (Expr.pairLegs (ssSpec t)) ∧
      (∀ (f : Asg Leg → R) σ, sumPairs dim (ssSpec t') f σ = sumPairs dim (ssSpec t) f σ) ∧
      ((ssLeaves braKids' kv bv none t').map Prod.snd).Perm ((ssLeaves braKids kv bv none t).map Prod.snd) :=
  ⟨c04_reroot_ids h, ssSpec_reroot_legs h, ssSpec_reroot_value dim h hd hnd,
    ssLeaves_reroot_perm kv bv braKids h braKids'⟩

/-- **The loop of `contract_two_ttns` returns the centre-only contraction for EVERY position of the orthogonality
centre.**  The loop runs on the tree `t` as it is rooted (distinct identifiers, any child order of the bra network,
any commutative semiring, all dimensions with both ends of every bond equal, node tensors reading only their own
legs).  `node c ks` is any re-rooting of `t` (`Rerooted`; by `reroot_exists` every node `c` has one), and every node
other than `c` is an isometry TOWARD `c` in index form (`IsoKids … c ks`: the edges oriented toward the centre - what
C03 `canonical_form` establishes).  Then the loop returns a closed tensor, it is built by its own `tensordot` calls
from the tensors of all nodes, and EVERY expression from which it is built evaluates to `Σ C · Cc` over one common
index per leg of the centre tensor (`np.tensordot(tensor, tensor.conj(), axes=(legs, legs))`, the shortcut of
`scalar_product`), which therefore equals the dense inner product `Σ_phys ketExpr·braExpr` of the tree as rooted. -/
theorem scalar_product_centre_shortcut {R : Type} [CommSemiring R] (t : Tree) (hnd : t.ids.Nodup)
    (braKids : Nat → List Nat) (hperm : ∀ e ∈ Tree.info none t, (braKids e.1).Perm e.2.2)
    (kv bv : Nat → Asg Leg → R) (hkv : KetLocal kv t) (hbv : BraLocal bv braKids t)
    (dim : Leg → Nat) (hd : BondDims dim t)
    (c : Nat) (ks : List Tree) (hr : Rerooted t (.node c ks)) (hiso : IsoKids kv bv dim c ks) :
    ∃ binds, contractTwoTtns (netOf t (fun _ ks => ks) gKetT) (netOf t (fun i _ => braKids i) gBraT)
        = some ⟨[], binds⟩ ∧
      (∃ e : Expr Leg R, Built ⟨[], binds⟩ e ∧ e.leaves.Perm (ssLeaves braKids kv bv none t)) ∧
      ∀ e : Expr Leg R, Built ⟨[], binds⟩ e → e.leaves.Perm (ssLeaves braKids kv bv none t) →
        ∀ σ : Asg Leg,
          e.eval dim σ = netValue dim (physPair c :: downPairs c ks) [kv c, bv c] σ ∧
          sumPairs dim (physPairs t)
            (fun τ => (ketExpr kv t).eval dim τ * (braExpr bv braKids t).eval dim τ) σ =
            netValue dim (physPair c :: downPairs c ks) [kv c, bv c] σ := by
  have _ := hd  -- not needed: it follows from `hiso` (`bond_dims_of_iso_kids`)
  obtain ⟨binds, hrun, hex, hall⟩ := contract_two_ttns_value t hnd braKids hperm kv bv hkv hbv
  refine ⟨binds, hrun, hex, ?_⟩
  intro e hb hl σ
  obtain ⟨hswf, hbinds, _, hval⟩ := hall e hb hl
  have hrec := hbinds.trans (record_perm_ssSpec t hnd braKids hperm hrun)
  have hnd2 := (pairLegs_perm hrec).nodup_iff.1 (Expr.binds_nodup e hswf)
  have key : e.eval dim σ = netValue dim (physPair c :: downPairs c ks) [kv c, bv c] σ := by
    rw [Expr.eval_eq_netValue dim e hswf _ _ hrec (hl.map _) σ]
    exact c04_centre_shortcut_netValue kv bv braKids dim t hnd c ks hr
      (fun x hx => ⟨hkv x hx, hbv x hx, hperm x hx⟩) hiso hnd2 σ
  exact ⟨key, by rw [← hval dim σ]; exact key⟩

/-- the hypotheses of `scalar_product_centre_shortcut` hold with the centre NOT at the root: the loop runs on the
tree `1 — 0` rooted at `1`, the centre is node `0` (tensors `demoIsoKv` / `demoIsoBv`: node 1 the isometry
`δ(bond, phys)`, node 0 reading both of its legs; `IsoKids … 0 [node 1 []]` is the example above) -/
example : Rerooted (.node 1 [.node 0 []]) (.node 0 [.node 1 []]) :=
  Rerooted.step 1 0 [] [] [] Rerooted.refl

example : BondDims (fun _ => 2) (.node 1 [.node 0 []]) := fun _ _ => ⟨rfl, rfl⟩

example : KetLocal demoIsoKv (.node 1 [.node 0 []]) ∧ BraLocal demoIsoBv (fun i => if i = 1 then [0] else [])
    (.node 1 [.node 0 []]) := by
  refine ⟨forall_info_two 1 0 _ ?_ ?_, forall_info_two 1 0 _ ?_ ?_⟩ <;> intro σ τ h
  · simp only [demoIsoKv]; rw [h (Leg.gKet 1 0) (by decide +kernel), h (Leg.gKetPhys 1) (by decide +kernel)]; simp
  · simp only [demoIsoKv]; rw [h (Leg.gKet 0 1) (by decide +kernel), h (Leg.gKetPhys 0) (by decide +kernel)]; simp
  · simp only [demoIsoBv]; rw [h (Leg.gBra 1 0) (by decide +kernel), h (Leg.gBraPhys 1) (by decide +kernel)]; simp
  · simp only [demoIsoBv]; rw [h (Leg.gBra 0 1) (by decide +kernel), h (Leg.gBraPhys 0) (by decide +kernel)]; simp

/-- **`BondDims` follows from the isometry hypothesis of the re-rooted tree**: `IsoKids … c ks` contains, per edge,
the equality of the dimensions of both ends in both layers; the edges of `t` are those of its re-rooting, possibly
turned around. -/
theorem bond_dims_of_iso_kids {R : Type} [CommSemiring R] (kv bv : Nat → Asg Leg → R) (dim : Leg → Nat) (t : Tree)
    (c : Nat) (ks : List Tree) (hr : Rerooted t (.node c ks)) (hiso : IsoKids kv bv dim c ks) : BondDims dim t :=
  c04_bondDims_of_isoKids kv bv dim t c ks hr hiso

/-- `scalar_product_centre_shortcut` without the hypothesis `BondDims dim t` (it is `bond_dims_of_iso_kids`). -/
theorem scalar_product_centre_shortcut_iso {R : Type} [CommSemiring R] (t : Tree) (hnd : t.ids.Nodup)
    (braKids : Nat → List Nat) (hperm : ∀ e ∈ Tree.info none t, (braKids e.1).Perm e.2.2)
    (kv bv : Nat → Asg Leg → R) (hkv : KetLocal kv t) (hbv : BraLocal bv braKids t)
    (dim : Leg → Nat)
    (c : Nat) (ks : List Tree) (hr : Rerooted t (.node c ks)) (hiso : IsoKids kv bv dim c ks) :
    ∃ binds, contractTwoTtns (netOf t (fun _ ks => ks) gKetT) (netOf t (fun i _ => braKids i) gBraT)
        = some ⟨[], binds⟩ ∧
      (∃ e : Expr Leg R, Built ⟨[], binds⟩ e ∧ e.leaves.Perm (ssLeaves braKids kv bv none t)) ∧
      ∀ e : Expr Leg R, Built ⟨[], binds⟩ e → e.leaves.Perm (ssLeaves braKids kv bv none t) →
        ∀ σ : Asg Leg,
          e.eval dim σ = netValue dim (physPair c :: downPairs c ks) [kv c, bv c] σ ∧
          sumPairs dim (physPairs t)
            (fun τ => (ketExpr kv t).eval dim τ * (braExpr bv braKids t).eval dim τ) σ =
            netValue dim (physPair c :: downPairs c ks) [kv c, bv c] σ :=
  scalar_product_centre_shortcut t hnd braKids hperm kv bv hkv hbv dim
    (bond_dims_of_iso_kids kv bv dim t c ks hr hiso) c ks hr hiso

/-- **The loop of `contract_two_ttns` returns the centre-only contraction when the state is canonical toward the
root.**  For every tree `node c ks` with distinct identifiers, every child order of the bra network, every
commutative semiring, all dimensions, all node tensors `kv i` / `bv i` (each reading only its own legs; `bv` the
conjugated copies), GIVEN the index-form isometry of every non-root node toward the root in C04's own labels
(`IsoKids`: per edge `p — i`, `Σ_{phys, legs to children} kv i · bv i = δ(gKet i p, gBra i p)`, both ends of every
bond of equal dimension — what C03 `canonical_form` establishes): the loop returns a closed tensor, it is built
by its own `tensordot` calls from the tensors of all nodes, and EVERY expression from which it is built evaluates
to `Σ C · Cc` over one common index per leg of the root tensor (`np.tensordot(tensor, tensor.conj(), axes=(legs,
legs))`, the shortcut of `scalar_product`) — which therefore equals the dense inner product `Σ_phys ketExpr·braExpr`.

`_root_partial`: the centre is the ROOT of the tree handed to the loop; for a centre elsewhere the tree has to be
re-rooted first (the labels `gKet i n` do not depend on the rooting, the `Tree` does): that is
`scalar_product_centre_shortcut_iso`, of which this is the instance `Rerooted.refl`. -/
theorem scalar_product_centre_shortcut_root_partial {R : Type} [CommSemiring R] (c : Nat) (ks : List Tree)
    (hnd : (Tree.node c ks).ids.Nodup)
    (braKids : Nat → List Nat) (hperm : ∀ e ∈ Tree.info none (.node c ks), (braKids e.1).Perm e.2.2)
    (kv bv : Nat → Asg Leg → R) (hkv : KetLocal kv (.node c ks)) (hbv : BraLocal bv braKids (.node c ks))
    (dim : Leg → Nat) (hiso : IsoKids kv bv dim c ks) :
    ∃ binds, contractTwoTtns (netOf (.node c ks) (fun _ ks => ks) gKetT) (netOf (.node c ks) (fun i _ => braKids i) gBraT)
        = some ⟨[], binds⟩ ∧
      (∃ e : Expr Leg R, Built ⟨[], binds⟩ e ∧ e.leaves.Perm (ssLeaves braKids kv bv none (.node c ks))) ∧
      ∀ e : Expr Leg R, Built ⟨[], binds⟩ e → e.leaves.Perm (ssLeaves braKids kv bv none (.node c ks)) →
        ∀ σ : Asg Leg,
          e.eval dim σ = netValue dim (physPair c :: downPairs c ks) [kv c, bv c] σ ∧
          sumPairs dim (physPairs (.node c ks))
            (fun τ => (ketExpr kv (.node c ks)).eval dim τ * (braExpr bv braKids (.node c ks)).eval dim τ) σ =
            netValue dim (physPair c :: downPairs c ks) [kv c, bv c] σ :=
  scalar_product_centre_shortcut_iso (.node c ks) hnd braKids hperm kv bv hkv hbv dim c ks Rerooted.refl hiso

/-- **The single-site operator sandwich at the orthogonality centre is the centre-only contraction `Σ C·O·Cc`.**
For every tree `t` as rooted (distinct identifiers, any child order of the bra network, any commutative semiring, all
dimensions, node tensors `kv i` / `bv i` reading only their own legs), every node `c` (`node c ks` any re-rooting of
`t`, `reroot_exists`), every operator tensor `O` reading only its two legs `gOpOut c`, `gOpIn c`, GIVEN that every
node other than `c` is an isometry toward `c` in index form (`IsoKids … c ks`, what C03 `canonical_form` establishes):
the two-layer network of the loop with `O` inserted between the physical legs of `c` - record `sandwichSpec c t` =
`ssSpec t` with the physical pair of `c` replaced by `(gKetPhys c, gOpIn c)`, `(gOpOut c, gBraPhys c)`; tensors: `O`
and the tensors of all nodes of both layers - has the value of the three tensors `C = kv c`, `O`, `Cc = bv c` alone,
summed over those two pairs and one common index per bond of the centre:
`np.tensordot(np.tensordot(C, O, (phys, in)), C.conj(), (all, all))`, the shortcut of
`single_site_operator_expectation_value`.  And EVERY strongly well-formed program (any nesting of `tensordot` calls)
with that record and those tensors evaluates to it. -/
theorem single_site_expectation_centre_shortcut {R : Type} [CommSemiring R] (t : Tree) (hnd : t.ids.Nodup)
    (braKids : Nat → List Nat) (hperm : ∀ e ∈ Tree.info none t, (braKids e.1).Perm e.2.2)
    (kv bv : Nat → Asg Leg → R) (hkv : KetLocal kv t) (hbv : BraLocal bv braKids t)
    (dim : Leg → Nat)
    (c : Nat) (ks : List Tree) (hr : Rerooted t (.node c ks)) (hiso : IsoKids kv bv dim c ks)
    (O : Asg Leg → R) (hO : DependsOn (· ∈ [Leg.gOpOut c, Leg.gOpIn c]) O) :
    (∀ σ : Asg Leg, netValue dim (sandwichSpec c t) (O :: (ssLeaves braKids kv bv none t).map Prod.snd) σ =
        netValue dim (opPairs c ++ downPairs c ks) [kv c, O, bv c] σ) ∧
    ∀ e : Expr Leg R, e.SWF → e.binds.Perm (sandwichSpec c t) →
      (e.leaves.map Prod.snd).Perm (O :: (ssLeaves braKids kv bv none t).map Prod.snd) →
      ∀ σ : Asg Leg, e.eval dim σ = netValue dim (opPairs c ++ downPairs c ks) [kv c, O, bv c] σ := by
  have hnd2 : (Expr.pairLegs (ssSpec t)).Nodup := by
    obtain ⟨binds, hrun, ⟨e, hb, hl⟩, hall⟩ := contract_two_ttns_value t hnd braKids hperm kv bv hkv hbv
    obtain ⟨hswf, hbinds, _, _⟩ := hall e hb hl
    exact (pairLegs_perm (hbinds.trans (record_perm_ssSpec t hnd braKids hperm hrun))).nodup_iff.1
      (Expr.binds_nodup e hswf)
  have main := c04_centre_sandwich_netValue kv bv braKids dim t hnd c ks hr
    (fun x hx => ⟨hkv x hx, hbv x hx, hperm x hx⟩) hiso hnd2 O hO
  refine ⟨main, ?_⟩
  intro e he hb hl σ
  rw [Expr.eval_eq_netValue dim e he _ _ hb hl σ]
  exact main σ

/-- an operator on the open leg of the centre `0` that reads both of its legs; with the examples above
(`Rerooted (node 1 [node 0 []]) (node 0 [node 1 []])`, `IsoKids demoIsoKv demoIsoBv (fun _ => 2) 0 [node 1 []]`,
`KetLocal` / `BraLocal` on the tree rooted at 1) every hypothesis of `single_site_expectation_centre_shortcut` holds
with the centre NOT at the root -/
def demoSandwichOp : Asg Leg → Int := fun σ => (σ (Leg.gOpOut 0) : Int) + 2 * σ (Leg.gOpIn 0) + 1

example : DependsOn (· ∈ [Leg.gOpOut 0, Leg.gOpIn 0]) demoSandwichOp := by
  intro σ τ h
  simp only [demoSandwichOp]
  rw [h (Leg.gOpOut 0) (by simp), h (Leg.gOpIn 0) (by simp)]

/-- the record of the sandwich on the tree `1 - 0` (rooted at 1) with the centre 0 -/
example : sandwichSpec 0 (.node 1 [.node 0 []]) =
    [(Leg.gKetPhys 0, Leg.gOpIn 0), (Leg.gOpOut 0, Leg.gBraPhys 0), physPair 1, ketEdge 1 0, braEdge 1 0] := by
  decide +kernel

/-- both sides of `single_site_expectation_centre_shortcut` on that instance, computed: the full sandwich network and
the centre-only contraction are 160 (not a degenerate value) -/
example :
    netValue (fun _ => 2) (sandwichSpec 0 (.node 1 [.node 0 []]))
      (demoSandwichOp :: (ssLeaves (fun i => if i = 1 then [0] else []) demoIsoKv demoIsoBv none
        (.node 1 [.node 0 []])).map Prod.snd) (fun _ => 0) = 160 ∧
    netValue (fun _ => 2) (opPairs 0 ++ downPairs 0 [.node 1 []]) [demoIsoKv 0, demoSandwichOp, demoIsoBv 0]
      (fun _ => 0) = 160 := by
  decide +kernel

end Ptn.C04
