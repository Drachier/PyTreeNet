import Ptn.Common.EinsumBuilt
import Ptn.C04.Lemmas
import Ptn.C04.TreeInduct
/-! Provenance: the tensors of the leg-label calculus (`Model.lean`) are BUILT by `tensordot` calls from fresh
tensors, and the expression that records the calls is a strongly well-formed value-level program.

`Built t e`: the model tensor `t` (legs + binding record) was obtained from fresh tensors by the nesting of
`tensordot` calls that `e` records (and any transpositions).  `Built.sound`: if the labels of the leaves are
pairwise distinct, then `e` has `t`'s binding record, `t`'s legs are `e`'s free legs, and every pair of every
call joins a free leg of the left operand with a free leg of the right one — so `e` is strongly well-formed as
soon as the leaves read only their own legs (`Built.swf`).  `BuiltL t ls`: `t` is built from exactly the leaf
tensors `ls` (in any order). -/
namespace Ptn.C04

open Ptn.Ein

variable {R : Type}

/-- `Built t e`: the tensor `t` of the calculus is the result of the nesting of `tensordot` calls `e` -/
inductive Built : T → Expr Leg R → Prop
  /-- a fresh tensor is a leaf with any values -/
  | fresh (legs : List Leg) (v : Asg Leg → R) : Built (T.fresh legs) (Expr.leaf legs v)
  /-- a successful `tensordot` of two built tensors: the pairs are the picked legs, in order -/
  | dot {a b c : T} {ea eb : Expr Leg R} {ia ib : List Nat} {la lb : List Leg} :
      Built a ea → Built b eb → tensordot a b ia ib = some c →
      pick a.legs ia = some la → pick b.legs ib = some lb → Built c (Expr.dot ea eb (la.zip lb))
  /-- a transposition of the legs keeps the expression -/
  | transpose {t : T} {e : Expr Leg R} {legs' : List Leg} :
      Built t e → legs'.Perm t.legs → Built ⟨legs', t.binds⟩ e

section sound
variable [CommSemiring R]

/-- **What a built tensor records.**  If the labels of the leaves are pairwise distinct then the binding record
of the tensor is the binding record of the expression, its legs are the free legs of the expression, and all
pairs are admissible. -/
theorem Built.sound {t : T} {e : Expr Leg R} (h : Built t e) (hnd : e.labels.Nodup) :
    t.binds.Perm e.binds ∧ t.legs.Perm e.free ∧ e.PairsOK := by
  induction h with
  | fresh legs v => exact ⟨List.Perm.refl _, List.Perm.refl _, trivial⟩
  | @dot a b c ea eb ia ib la lb _ _ htd hla hlb iha ihb =>
    have hnd' := List.nodup_append.1 hnd
    obtain ⟨hba, hfa, hpa⟩ := iha hnd'.1
    obtain ⟨hbb, hfb, hpb⟩ := ihb hnd'.2.1
    obtain ⟨hlen, la', lb', _, _, ha, hb, rfl⟩ := tensordot_eq_some_iff.1 htd
    rw [pick_eq] at hla hlb
    obtain rfl := Option.some.inj (hla.symm.trans ha.pick)
    obtain rfl := Option.some.inj (hlb.symm.trans hb.pick)
    obtain ⟨h1, h2, h3, h4⟩ := Expr.dot_step hnd hfa hfb ha.nodup hb.nodup hlen hla hlb
    refine ⟨?_, ?_, hpa, hpb, h2, h3, h4⟩
    · exact List.perm_append_comm.trans (List.Perm.append_left _ (List.Perm.append hba hbb))
    · rw [← ha.rest, ← hb.rest]; exact h1
  | transpose _ hperm ih =>
    obtain ⟨h1, h2, h3⟩ := ih hnd
    exact ⟨h1, hperm.trans h2, h3⟩

/-- a built expression over pairwise distinct labels whose leaves read only their own legs is strongly
well-formed -/
theorem Built.swf {t : T} {e : Expr Leg R} (h : Built t e) (hnd : e.labels.Nodup) (hloc : e.LeavesLocal) :
    e.SWF :=
  Expr.swf_of_clean e hnd hloc (h.sound hnd).2.2

theorem Built.facts {t : T} {e : Expr Leg R} {ls : List (List Leg × (Asg Leg → R))} (hb : Built t e)
    (hl : e.leaves.Perm ls) (hnd : (ls.flatMap (·.1)).Nodup) (hloc : ∀ lf ∈ ls, DependsOn (· ∈ lf.1) lf.2) :
    e.SWF ∧ t.binds.Perm e.binds ∧ t.legs.Perm e.free := by
  have hend : e.labels.Nodup := by
    rw [Expr.labels_eq_leaves]
    exact (hl.flatMap_right _).nodup_iff.2 hnd
  exact ⟨hb.swf hend fun lf h => hloc lf (hl.mem_iff.1 h), (hb.sound hend).1, (hb.sound hend).2.1⟩

/-- **The value of a built tensor is well defined**: any two ways of building the same tensor from the same
leaf tensors (pairwise distinct labels, local leaves) evaluate to the same value. -/
theorem Built.value_unique {t : T} {e₁ e₂ : Expr Leg R} (h₁ : Built t e₁) (h₂ : Built t e₂)
    (hl : e₁.leaves.Perm e₂.leaves) (hnd : e₁.labels.Nodup) (hloc : e₁.LeavesLocal)
    (dim : Leg → Nat) (σ : Asg Leg) : e₁.eval dim σ = e₂.eval dim σ := by
  have hnd₂ : e₂.labels.Nodup := by
    rw [Expr.labels_eq_leaves] at hnd ⊢
    exact (hl.flatMap_right _).nodup_iff.1 hnd
  have hloc₂ : e₂.LeavesLocal := fun lf h => hloc lf (hl.mem_iff.2 h)
  exact Expr.eval_unique dim e₁ e₂ (h₁.swf hnd hloc) (h₂.swf hnd₂ hloc₂)
    ((h₁.sound hnd).1.symm.trans (h₂.sound hnd₂).1) hl σ

end sound

/-- `t` is built by `tensordot` calls from exactly the leaf tensors `ls` (in any order) -/
def BuiltL (t : T) (ls : List (LeafT R)) : Prop := ∃ e : Expr Leg R, Built t e ∧ e.leaves.Perm ls

theorem BuiltL.fresh (legs : List Leg) (v : Asg Leg → R) : BuiltL (T.fresh legs) [(legs, v)] :=
  ⟨_, Built.fresh legs v, List.Perm.refl _⟩

theorem BuiltL.perm {t : T} {ls ls' : List (LeafT R)} (h : BuiltL t ls) (hp : ls.Perm ls') : BuiltL t ls' := by
  obtain ⟨e, he, hl⟩ := h
  exact ⟨e, he, hl.trans hp⟩

theorem BuiltL.dot {a b c : T} {la lb : List (LeafT R)} {ia ib : List Nat} (ha : BuiltL a la) (hb : BuiltL b lb)
    (h : tensordot a b ia ib = some c) : BuiltL c (la ++ lb) := by
  obtain ⟨ea, hea, hla⟩ := ha
  obtain ⟨eb, heb, hlb⟩ := hb
  obtain ⟨_, xa, xb, _, _, hxa, hxb, _⟩ := tensordot_eq_some_iff.1 h
  exact ⟨_, Built.dot hea heb h ((pick_eq _ _).trans hxa.pick) ((pick_eq _ _).trans hxb.pick), by simpa [Expr.leaves] using List.Perm.append hla hlb⟩

theorem BuiltL.transpose {t : T} {ls : List (LeafT R)} {legs' : List Leg} (h : BuiltL t ls)
    (hp : legs'.Perm t.legs) : BuiltL ⟨legs', t.binds⟩ ls := by
  obtain ⟨e, he, hl⟩ := h
  exact ⟨e, Built.transpose he hp, hl⟩

end Ptn.C04
