import Ptn.C04.Bra
/-! `contract_bra_to_ket_and_blocks` (no ignored leg), `get_equivalent_legs`, `contract_leafs`. -/
namespace Ptn.C04

theorem braAllLoop_eq (ketNode : Node) (seg : List Nat) (h : ∀ n ∈ seg, n ∈ ketNode.nbrs) :
    braAllLoop ketNode seg = some (seg.map (fun n => ketNode.nbrs.idxOf n + 1)) := by
  induction seg with
  | nil => rfl
  | cons n rest ih =>
    simp [braAllLoop, Node.neighbourIndex_of_mem _ _ (h n (by simp)), ih (fun m hm => h m (by simp [hm]))]

/-- `contract_bra_to_ket_and_blocks` on the tensor delivered by `contract_all_neighbour_blocks_to_ket`
(two-layer blocks) -/
theorem braAll_general (y z : Leg) (q mkB : Nat → Leg) (ketNode braNode : Node) (bs : List (Leg × Leg))
    (hK : ketNode.nbrs.Nodup) (hB : braNode.nbrs.Nodup) (hperm : braNode.nbrs.Perm ketNode.nbrs) :
    contractBraToKetAndBlocks (T.fresh (braNode.nbrs.map mkB ++ [z])) ⟨[y] ++ ketNode.nbrs.map q, bs⟩ braNode ketNode =
      some ⟨[], bs ++ (braNode.nbrs.map (fun n => (q n, mkB n)) ++ [(y, z)])⟩ := by
  have hmemK : ∀ n ∈ braNode.nbrs, n ∈ ketNode.nbrs := fun n hn => hperm.mem_iff.1 hn
  simp only [contractBraToKetAndBlocks, braAllLoop_eq ketNode braNode.nbrs hmemK, Node.nn_eq, T.fresh]
  generalize ketNode.nbrs = K at *
  generalize braNode.nbrs = Bn at *
  have ha := ((PicksAt.one 0 y).append' (PicksAt.block 1 K Bn id q (by simpa using hB) hK hmemK)).picks
  have hb := Picks.whole (Bn.map mkB ++ [z])
  rw [filter_not_mem_of_sub fun m hm => hperm.mem_iff.2 hm] at ha
  simp only [id, List.length_map, List.length_cons, List.length_nil, List.length_append, Nat.zero_add,
    List.map_nil, List.append_nil] at ha hb
  rw [tensordot_picks (a := ⟨_, bs⟩) (b := ⟨_, []⟩) ha hb (by simp)]
  simp [List.zip_append, zip_map_same]

/-- `get_equivalent_legs` -/
theorem equivLoop_eq (n1 n2 : Node) (ignore : List Nat) (f : Trafo) (seg : List Nat)
    (h : ∀ n ∈ seg, ignore.contains n = false → n ∈ n1.nbrs ∧ f n ∈ n2.nbrs) :
    equivLoop n1 n2 ignore f seg =
      some ((seg.filter (fun n => !ignore.contains n)).map (fun n => n1.nbrs.idxOf n),
            (seg.filter (fun n => !ignore.contains n)).map (fun n => n2.nbrs.idxOf (f n))) := by
  induction seg with
  | nil => simp [equivLoop]
  | cons n rest ih =>
    have ih' := ih (fun m hm => h m (by simp [hm]))
    simp only [equivLoop, ih']
    cases hc : ignore.contains n with
    | true =>
      have hc' : n ∈ ignore := by simpa using hc
      simp [hc']
    | false =>
      obtain ⟨h1, h2⟩ := h n (by simp) hc
      have hc' : n ∉ ignore := by simpa using hc
      simp [hc', Node.neighbourIndex_of_mem _ _ h1, Node.neighbourIndex_of_mem _ _ h2]

theorem flatMap_blockRest_true (l : List Nat) :
    l.flatMap (blockRest true) = l.flatMap (fun n => [Leg.blkOp n, Leg.blkBra n]) := by
  induction l with
  | nil => rfl
  | cons a as ih => simp [List.flatMap_cons, blockRest, ih]

theorem contractLeafs_root :
    contractLeafs ⟨none, []⟩ ⟨none, []⟩ (ketT ⟨none, []⟩) (braT ⟨none, []⟩) =
      some ⟨[], [(Leg.ketPhys, Leg.braPhys)]⟩ := by
  simp only [contractLeafs, Node.isLeaf, Node.nn, Node.nparents, ketT, braT, T.fresh, Node.nbrs]
  rw [tensordot_one _ _ _ _ Leg.ketPhys Leg.braPhys (by simp) (by simp)]
  simp

end Ptn.C04
