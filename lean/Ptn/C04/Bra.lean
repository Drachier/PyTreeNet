import Ptn.C04.Loops
/-! The final `tensordot` with the bra tensor, `contract_bra_to_ket_and_blocks_ignore_one_leg`: positions of the block legs
(`blockPos`), the loop that builds the two index lists, and what is left of the other node when it has exactly the images of
the ket's neighbours (`filter_other_side`, `side_of_perm`). -/
namespace Ptn.C04

theorem zip_map_same {β γ : Type} (l : List Nat) (g : Nat → β) (h : Nat → γ) :
    (l.map g).zip (l.map h) = l.map (fun n => (g n, h n)) :=
  List.zip_map' ..

theorem nodup_filter {l : List Nat} (p : Nat → Bool) (h : l.Nodup) : (l.filter p).Nodup :=
  List.Pairwise.filter p h

/-- position of a block leg in the tensor returned by `contract_all_but_one_neighbour_block_to_ket` -/
theorem blockPos (A B : List Nat) (next n : Nat) (hnd : (A ++ next :: B).Nodup) (hn : n ∈ A ++ B) :
    (A ++ next :: B).idxOf n + 1 + (if A.length > (A ++ next :: B).idxOf n then 1 else 0)
      = (A ++ B).idxOf n + 2 := by
  obtain ⟨hxA, hxB, _, _, hd⟩ := nodup_mid hnd
  by_cases hA : n ∈ A
  · have hlt := List.idxOf_lt_length_of_mem hA
    simp only [List.idxOf_append, hA, if_true]
    simp [hlt]
  · have hB : n ∈ B := by simpa [hA] using hn
    have hne' : next ≠ n := fun e => hxB (e ▸ hB)
    have hne : (next == n) = false := by simpa using hne'
    simp only [List.idxOf_append, hA, if_false, List.idxOf_cons, hne, cond_false]
    have : ¬ A.length > B.idxOf n + 1 + A.length := by omega
    simp only [this, if_false]
    omega

/-- the loop of `contract_bra_to_ket_and_blocks_ignore_one_leg` -/
theorem braIgnoreLoop_eq (braNode ketNode : Node) (next nextIdx : Nat) (f : Trafo) (seg : List Nat)
    (h : ∀ n ∈ seg, n ∈ ketNode.nbrs ∧ f n ∈ braNode.nbrs) :
    braIgnoreLoop braNode ketNode next nextIdx f seg =
      some ((seg.filter (· ≠ next)).map
              (fun n => ketNode.nbrs.idxOf n + 1 + (if nextIdx > ketNode.nbrs.idxOf n then 1 else 0)),
            (seg.filter (· ≠ next)).map (fun n => braNode.nbrs.idxOf (f n))) := by
  induction seg with
  | nil => simp [braIgnoreLoop]
  | cons n rest ih =>
    obtain ⟨hk, hb⟩ := h n (by simp)
    have ih' := ih (fun m hm => h m (by simp [hm]))
    simp only [braIgnoreLoop, ih', Node.neighbourIndex_of_mem _ _ hk, Node.neighbourIndex_of_mem _ _ hb]
    by_cases hne : n = next
    · simp [hne]
    · simp [hne]

theorem getElem?_two_add (x y : Leg) (l : List Leg) (i : Nat) : (x :: y :: l)[i + 2]? = l[i]? := by
  simp

theorem filter_other_side {K N2 : List Nat} {next : Nat} {f : Trafo} (hN : N2.Nodup) (hnext : next ∈ K)
    (hperm : N2.Perm (K.map f)) :
    N2.filter (fun m => decide (m ∉ (K.filter (· ≠ next)).map f)) = [f next] := by
  have hinj := inj_on_of_nodup_map f (hperm.nodup_iff.1 hN)
  apply List.perm_singleton.1
  rw [List.perm_ext_iff_of_nodup (hN.sublist List.filter_sublist) (by simp)]
  intro m
  simp only [List.mem_filter, decide_eq_true_eq, List.mem_singleton, List.mem_map, not_exists, not_and]
  constructor
  · rintro ⟨hm, h⟩
    obtain ⟨n, hn, rfl⟩ := List.mem_map.1 (hperm.mem_iff.1 hm)
    by_cases e : n = next
    · rw [e]
    · exact absurd rfl (h n ⟨hn, by simpa using e⟩)
  · rintro rfl
    refine ⟨hperm.mem_iff.2 (List.mem_map.2 ⟨next, hnext, rfl⟩), fun n hn e => ?_⟩
    have := hinj n hn.1 next hnext e
    simp [this] at hn

theorem side_of_perm {K N2 : List Nat} {f : Trafo} (next : Nat) (hN : N2.Nodup) (hperm : N2.Perm (K.map f)) :
    ((K.filter (· ≠ next)).map f).Nodup ∧ ∀ n ∈ K.filter (· ≠ next), f n ∈ N2 :=
  ⟨(hperm.nodup_iff.1 hN).sublist (List.filter_sublist.map f),
    fun n hn => hperm.mem_iff.2 (List.mem_map.2 ⟨n, (List.mem_filter.1 hn).1, rfl⟩)⟩

/-- `contract_bra_to_ket_and_blocks_ignore_one_leg` on the tensor delivered by
`contract_all_but_one_neighbour_block_to_ket` (two-layer blocks) -/
theorem braIgnore_general (x y z : Leg) (q mkB : Nat → Leg) (ketNode braNode : Node) (next : Nat) (f : Trafo)
    (bs : List (Leg × Leg))
    (hK : ketNode.nbrs.Nodup) (hB : braNode.nbrs.Nodup) (hnext : next ∈ ketNode.nbrs)
    (hperm : braNode.nbrs.Perm (ketNode.nbrs.map f)) :
    contractBraToKetAndBlocksIgnoreOneLeg (T.fresh (braNode.nbrs.map mkB ++ [z]))
        ⟨[x, y] ++ (ketNode.nbrs.filter (· ≠ next)).map q, bs⟩
        braNode ketNode next f =
      some ⟨[x, mkB (f next)],
            bs ++ ((ketNode.nbrs.filter (· ≠ next)).map (fun n => (q n, mkB (f n)))
                    ++ [(y, z)])⟩ := by
  have hmemB : ∀ n ∈ ketNode.nbrs, f n ∈ braNode.nbrs := fun n hn =>
    hperm.mem_iff.2 (List.mem_map.2 ⟨n, hn, rfl⟩)
  obtain ⟨A, B, hL⟩ := List.append_of_mem hnext
  have hK' := hK
  rw [hL] at hK'
  obtain ⟨hxA, hxB, _, _, _⟩ := nodup_mid hK'
  have hF : ketNode.nbrs.filter (· ≠ next) = A ++ B := by rw [hL]; exact filter_ne_mid A B next hxA hxB
  have hnextIdx : ketNode.neighbourIndex next = some A.length := by
    rw [Node.neighbourIndex_of_mem _ _ hnext, hL, idxOf_append_mid A B next hxA]
  have hloop := braIgnoreLoop_eq braNode ketNode next A.length f ketNode.nbrs
    (fun n hn => ⟨hn, hmemB n hn⟩)
  rw [hF] at hloop
  have hpos : (A ++ B).map (fun n => ketNode.nbrs.idxOf n + 1 + (if A.length > ketNode.nbrs.idxOf n then 1 else 0))
      = (A ++ B).map (fun n => (A ++ B).idxOf n + 2) := by
    apply List.map_congr_left
    intro n hn
    rw [hL]
    exact blockPos A B next n hK' hn
  rw [hpos] at hloop
  simp only [contractBraToKetAndBlocksIgnoreOneLeg, hnextIdx, hloop, hF, Node.nn_eq, T.fresh]
  clear hloop hpos
  generalize A ++ B = F at hF
  have hFnd : F.Nodup := hF ▸ nodup_filter _ hK
  obtain ⟨hFf, hsub⟩ := side_of_perm next hB hperm
  have hrest := filter_other_side hB hnext hperm
  rw [hF] at hFf hsub hrest
  have ha := ((PicksAt.none 0 [x]).append ((PicksAt.one 1 y).append'
    (PicksAt.block 2 F F id q (by simpa using hFnd) hFnd fun _ h => h))).picks
  have hb := ((PicksAt.block 0 braNode.nbrs F f mkB hFf hB hsub).append (PicksAt.one _ z)).picks
  rw [filter_not_mem_of_sub fun _ h => h] at ha
  rw [hrest] at hb
  simp only [id, List.length_map, Nat.zero_add, Nat.add_zero, List.nil_append, List.map_nil, List.append_nil] at ha hb
  exact (tensordot_picks (a := ⟨_, bs⟩) (b := ⟨_, []⟩) ha hb (by simp)).trans
    (by simp [List.zip_append, zip_map_same])

end Ptn.C04
