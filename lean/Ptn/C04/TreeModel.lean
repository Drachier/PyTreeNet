import Ptn.C04.Model
/-! Tree-level model for C04 (core Lean only): `contract_two_ttns` and `expectation_value` as they are
written — a loop over `linearise()` (children before parents, the root last) with the block dictionary
(`add_entry` / `delete_entry` / `get_entry`) and the root step — on top of the per-node helpers of
`Model.lean`, with GLOBAL leg labels (`gKet i n`: the leg of node `i`'s ket tensor toward neighbour `n`).
The result is the complete list of bound leg pairs of the whole contraction and the free legs left. -/
namespace Ptn.C04

inductive Tree where
  | node (id : Nat) (kids : List Tree)

namespace Tree

def id : Tree → Nat
  | node i _ => i

def kids : Tree → List Tree
  | node _ ks => ks

mutual
/-- identifiers in preorder -/
def ids : Tree → List Nat
  | node i ks => i :: idsL ks
def idsL : List Tree → List Nat
  | [] => []
  | t :: ts => ids t ++ idsL ts
end

mutual
/-- `linearise()`: every node after its children -/
def post : Tree → List Nat
  | node i ks => postL ks ++ [i]
def postL : List Tree → List Nat
  | [] => []
  | t :: ts => post t ++ postL ts
end

mutual
/-- every node with its parent and its ordered child identifiers -/
def info (p : Option Nat) : Tree → List (Nat × Option Nat × List Nat)
  | node i ks => (i, p, ks.map Tree.id) :: infoL i ks
def infoL (p : Nat) : List Tree → List (Nat × Option Nat × List Nat)
  | [] => []
  | t :: ts => info (some p) t ++ infoL p ts
end

end Tree

/-- what the contraction routines read of a network -/
structure Net where
  root : Nat
  node : Nat → Option Node          -- `ttn.nodes[id]` (none: KeyError)
  tensor : Nat → Option T           -- `ttn.tensors[id]`
  order : List Nat                  -- `ttn.linearise()`

/-- the network of a tree whose node `i` has the child order `childOrder i ks` (`ks` its children as the tree lists them:
`fun _ ks => ks` keeps the tree's order, `fun i _ => table i` takes it from a table) and whose tensors are `mkT i node` -/
def netOf (t : Tree) (childOrder : Nat → List Nat → List Nat) (mkT : Nat → Node → T) : Net :=
  let table := (Tree.info none t).map fun e => (e.1, (⟨e.2.1, childOrder e.1 e.2.2⟩ : Node))
  { root := t.id
    node := fun i => (table.find? (·.1 == i)).map (·.2)
    tensor := fun i => (table.find? (·.1 == i)).map (fun e => mkT i e.2)
    order := t.post }

def gKetT (i : Nat) (nd : Node) : T := T.fresh (nd.nbrs.map (Leg.gKet i) ++ [Leg.gKetPhys i])
def gBraT (i : Nat) (nd : Node) : T := T.fresh (nd.nbrs.map (Leg.gBra i) ++ [Leg.gBraPhys i])
def gOpT (i : Nat) (nd : Node) : T := T.fresh (nd.nbrs.map (Leg.gOp i) ++ [Leg.gOpOut i, Leg.gOpIn i])

/-! ### the block dictionary -/

abbrev Dict := Nat × Nat → Option T

def Dict.empty : Dict := fun _ => none
/-- `add_entry(node_id, next_node_id, tensor)` -/
def Dict.add (d : Dict) (k : Nat × Nat) (v : T) : Dict := fun k' => if k' = k then some v else d k'
/-- `delete_entry(node_id, next_node_id)`: `KeyError` when absent -/
def Dict.delete (d : Dict) (k : Nat × Nat) : Option Dict :=
  if (d k).isSome then some (fun k' => if k' = k then none else d k') else none

def Dict.deleteAll : Dict → List (Nat × Nat) → Option Dict
  | d, [] => some d
  | d, k :: ks =>
    match d.delete k with
    | none => none
    | some d1 => Dict.deleteAll d1 ks

/-- the cache as a node sees it: `get_entry(neighbour_id, node.identifier)` -/
def Dict.cacheOf (d : Dict) (i : Nat) : Cache := fun n => d (n, i)

/-! ### contract_two_ttns -/

/-- `state_state_contraction.contract_any` -/
def ssContractAny (nodeId next : Nat) (s1 s2 : Net) (d : Dict) : Option T :=
  match s1.node nodeId, s1.tensor nodeId, s2.node nodeId, s2.tensor nodeId with
  | some n1, some t1, some n2, some t2 => contractAnyNodes next n1 n2 t1 t2 (d.cacheOf nodeId) id
  | _, _, _, _ => none

/-- one iteration of the loop of `contract_two_ttns` -/
def ssStep (s1 s2 : Net) (d : Dict) (nodeId : Nat) : Option Dict :=
  match s1.node nodeId with
  | none => none
  | some node =>
    match node.parent with
    | none => none                      -- `next_node_id = None` is no neighbour
    | some parentId =>
      match ssContractAny nodeId parentId s1 s2 d with
      | none => none
      | some block => (d.add (nodeId, parentId) block).deleteAll (node.children.map (fun c => (c, nodeId)))

def ssLoop (s1 s2 : Net) : List Nat → Dict → Option Dict
  | [], d => some d
  | i :: rest, d =>
    match ssStep s1 s2 d i with
    | none => none
    | some d1 => ssLoop s1 s2 rest d1

/-- `contract_node_with_environment(node_id, state1, state2, dictionary)` -/
def ssContractNodeWithEnvironment (nodeId : Nat) (s1 s2 : Net) (d : Dict) : Option T :=
  match s1.node nodeId, s1.tensor nodeId, s2.node nodeId, s2.tensor nodeId with
  | some n1, some t1, some n2, some t2 => contractNodeWithEnvironmentNodes n1 t1 n2 t2 (d.cacheOf nodeId)
  | _, _, _, _ => none

/-- `contract_two_ttns(ttn1, ttn2)` -/
def contractTwoTtns (s1 s2 : Net) : Option T :=
  let order := s1.order
  if order.getLast? ≠ some s1.root ∨ order.getLast? ≠ some s2.root then none     -- the two asserts
  else
    match ssLoop s1 s2 order.dropLast Dict.empty with
    | none => none
    | some d => ssContractNodeWithEnvironment s1.root s1 s2 d

/-! ### expectation_value -/

/-- `state_operator_contraction.contract_any`: the bra is the conjugated ket tensor on the ket's node -/
def soContractAny (nodeId next : Nat) (state op : Net) (braOf : Nat → Node → T) (d : Dict) : Option T :=
  match state.node nodeId, state.tensor nodeId, op.node nodeId, op.tensor nodeId with
  | some n1, some t1, some n2, some t2 =>
    opContractAnyNodeEnvironmentButOne next n1 t1 n2 t2 (d.cacheOf nodeId) n1 (braOf nodeId n1) id id
  | _, _, _, _ => none

def soStep (state op : Net) (braOf : Nat → Node → T) (d : Dict) (nodeId : Nat) : Option Dict :=
  match state.node nodeId with
  | none => none
  | some node =>
    match node.parent with
    | none => none
    | some parentId =>
      match soContractAny nodeId parentId state op braOf d with
      | none => none
      | some block => (d.add (nodeId, parentId) block).deleteAll (node.children.map (fun c => (c, nodeId)))

def soLoop (state op : Net) (braOf : Nat → Node → T) : List Nat → Dict → Option Dict
  | [], d => some d
  | i :: rest, d =>
    match soStep state op braOf d i with
    | none => none
    | some d1 => soLoop state op braOf rest d1

def soContractNodeWithEnvironment (nodeId : Nat) (state op : Net) (braOf : Nat → Node → T) (d : Dict) :
    Option T :=
  match state.node nodeId, state.tensor nodeId, op.node nodeId, op.tensor nodeId with
  | some n1, some t1, some n2, some t2 =>
    opContractNodeWithEnvironment n1 t1 n2 t2 (braOf nodeId n1) (d.cacheOf nodeId)
  | _, _, _, _ => none

/-- `expectation_value(state, operator)` -/
def expectationValue (state op : Net) (braOf : Nat → Node → T) : Option T :=
  let order := state.order
  if order.getLast? ≠ some state.root ∨ order.getLast? ≠ some op.root then none
  else
    match soLoop state op braOf order.dropLast Dict.empty with
    | none => none
    | some d => soContractNodeWithEnvironment state.root state op braOf d

/-! ### the specification graph and the order in which the code produces it -/

/-- ket legs of the edge `p — c` -/
def ketEdge (p c : Nat) : Leg × Leg := (Leg.gKet p c, Leg.gKet c p)
/-- bra legs of the edge `p — c` (in the orientation in which the code binds them) -/
def braEdge (p c : Nat) : Leg × Leg := (Leg.gBra c p, Leg.gBra p c)
def physPair (i : Nat) : Leg × Leg := (Leg.gKetPhys i, Leg.gBraPhys i)

namespace Tree
mutual
/-- the edges `(parent, child)` of a tree -/
def edges : Tree → List (Nat × Nat)
  | node i ks => edgesL i ks
def edgesL (i : Nat) : List Tree → List (Nat × Nat)
  | [] => []
  | c :: cs => (i, c.id) :: (edges c ++ edgesL i cs)
end
end Tree

mutual
/-- SPECIFICATION GRAPH of `Σ ket·bra`: for every node its physical pair, for every edge its ket pair
and its bra pair -/
def ssSpec : Tree → List (Leg × Leg)
  | .node i ks => physPair i :: ssSpecL i ks
def ssSpecL (i : Nat) : List Tree → List (Leg × Leg)
  | [] => []
  | c :: cs => ketEdge i c.id :: braEdge i c.id :: (ssSpec c ++ ssSpecL i cs)
end

mutual
/-- the bindings carried by the block of a (non-root) subtree, in the order the code produces them -/
def ssBlockBinds : Tree → List (Leg × Leg)
  | .node i ks => ssKidsBinds i ks ++ ((ks.map fun c => braEdge i c.id) ++ [physPair i])
def ssKidsBinds (i : Nat) : List Tree → List (Leg × Leg)
  | [] => []
  | c :: cs => (ssBlockBinds c ++ [ketEdge i c.id]) ++ ssKidsBinds i cs
end

/-- the bindings of the whole contraction (the root step runs over the BRA's child order) -/
def ssRootBinds (t : Tree) (braRootKids : List Nat) : List (Leg × Leg) :=
  ssKidsBinds t.id t.kids ++ (braRootKids.map (braEdge t.id) ++ [physPair t.id])

/-- the cached block of subtree `c` toward its parent `i` -/
def ssBlock (c : Tree) (i : Nat) : T := ⟨[Leg.gKet c.id i, Leg.gBra c.id i], ssBlockBinds c⟩

/-! ### the same for `<psi|O|psi>` -/

/-- operator legs of the edge `p — c` -/
def opEdge (p c : Nat) : Leg × Leg := (Leg.gOp c p, Leg.gOp p c)
/-- the operator's INPUT leg meets the ket -/
def physIn (i : Nat) : Leg × Leg := (Leg.gKetPhys i, Leg.gOpIn i)
/-- the operator's OUTPUT leg meets the bra -/
def physOut (i : Nat) : Leg × Leg := (Leg.gOpOut i, Leg.gBraPhys i)

mutual
/-- SPECIFICATION GRAPH of `<psi|O|psi>` -/
def soSpec : Tree → List (Leg × Leg)
  | .node i ks => physIn i :: physOut i :: soSpecL i ks
def soSpecL (i : Nat) : List Tree → List (Leg × Leg)
  | [] => []
  | c :: cs => ketEdge i c.id :: opEdge i c.id :: braEdge i c.id :: (soSpec c ++ soSpecL i cs)
end

mutual
/-- the bindings carried by the block of a (non-root) subtree, in the order the code produces them
(`contract_leaf` for a leaf, `contract_subtrees_using_dictionary` otherwise) -/
def soBlockBinds : Tree → List (Leg × Leg)
  | .node i ks =>
    if ks.isEmpty then [physOut i, physIn i]
    else (soKidsBinds i ks ++ ((ks.map fun c => opEdge i c.id) ++ [physIn i])) ++
         ((ks.map fun c => braEdge i c.id) ++ [physOut i])
def soKidsBinds (i : Nat) : List Tree → List (Leg × Leg)
  | [] => []
  | c :: cs => (soBlockBinds c ++ [ketEdge i c.id]) ++ soKidsBinds i cs
end

/-- the bindings of the whole contraction; the root step binds bra-side pairs in the other orientation -/
def soRootBinds (t : Tree) : List (Leg × Leg) :=
  (soKidsBinds t.id t.kids ++ ((t.kids.map fun c => opEdge t.id c.id) ++ [physIn t.id])) ++
  ((t.kids.map fun c => (braEdge t.id c.id).swap) ++ [(physOut t.id).swap])

def soBlock (c : Tree) (i : Nat) : T := ⟨[Leg.gKet c.id i, Leg.gOp c.id i, Leg.gBra c.id i], soBlockBinds c⟩

/-! ### `TTNO.as_matrix` on top of `completely_contract_tree`

`_completely_contract_tree_rec` appends the current node to the contraction order and then, for every
child of a snapshot of its child list, contracts the child's whole subtree into the child and the child
into the current node (`contract_nodes`, i.e. `_data_contraction`: `tensordot(parent, child,
axes=(parent.neighbour_index(child), 0))`).  A child that is contracted into its parent has no children
left, so the tensordot order `(parent's remaining legs, child's open legs)` IS the documented leg order of
`contract_nodes`; the lazily stored permutation of the real implementation is not modelled (C02). -/

mutual
def ccTree (p : Option Nat) : Tree → Option (List Nat × T)
  | .node i ks => ccKids i p ks (ks.map Tree.id) [i] (gOpT i ⟨p, ks.map Tree.id⟩)
/-- the loop over the children; `remaining` = the current node's child list, `order` the contraction order -/
def ccKids (i : Nat) (p : Option Nat) : List Tree → List Nat → List Nat → T → Option (List Nat × T)
  | [], _, order, cur => some (order, cur)
  | c :: cs, remaining, order, cur =>
    match ccTree (some i) c with
    | none => none
    | some (oc, tc) =>
      match (Node.mk p remaining).neighbourIndex c.id with
      | none => none
      | some idx =>
        match tensordot cur tc [idx] [0] with
        | none => none
        | some cur' => ccKids i p cs (remaining.erase c.id) (order ++ oc) cur'
end

/-- `as_matrix`: `(order, row legs, column legs, bound pairs)`; the permutation
`range(0, ndim, 2) + range(1, ndim, 2)` followed by the reshape to `(dim, dim)` -/
def asMatrix (t : Tree) : Option (List Nat × List Leg × List Leg × List (Leg × Leg)) :=
  match ccTree none t with
  | none => none
  | some (order, ten) =>
    let half := ten.legs.length / 2
    match pick ten.legs ((List.range half).map (fun k => 2 * k)),
          pick ten.legs ((List.range half).map (fun k => 2 * k + 1)) with
    | some rows, some cols => if ten.legs.length = 2 * half then some (order, rows, cols, ten.binds) else none
    | _, _ => none

mutual
def ccBinds : Tree → List (Leg × Leg)
  | .node i ks => ccKidsBinds i ks
def ccKidsBinds (i : Nat) : List Tree → List (Leg × Leg)
  | [] => []
  | c :: cs => (ccBinds c ++ [(Leg.gOp i c.id, Leg.gOp c.id i)]) ++ ccKidsBinds i cs
end

end Ptn.C04
