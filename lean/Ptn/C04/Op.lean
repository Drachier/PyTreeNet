import Ptn.C04.Root
/-! The operator versions: `contract_operator_tensor_ignoring_one_leg`,
`contract_bra_tensor_ignore_one_leg`, `contract_leaf` of `state_operator_contraction.py`. -/
namespace Ptn.C04

theorem filter_ignore_single (K : List Nat) (next : Nat) :
    K.filter (fun n => ![next].contains n) = K.filter (· ≠ next) := by
  apply List.filter_congr
  intro n _
  simp

theorem length_filter_ne (K : List Nat) (next : Nat) (hK : K.Nodup) (hnext : next ∈ K) :
    K.length = (K.filter (· ≠ next)).length + 1 := by
  obtain ⟨A, B, rfl⟩ := List.append_of_mem hnext
  obtain ⟨hxA, hxB, _, _, _⟩ := nodup_mid hK
  rw [filter_ne_mid A B next hxA hxB]
  simp
  omega

/-- the `tensordot` of `contract_operator_tensor_ignoring_one_leg`: the operator node `On` has the `g`-images of the
neighbours `F` whose blocks were contracted; its legs toward other neighbours stay open -/
theorem opTensor_dot (x y zo zi : Leg) (pO q mkO : Nat → Leg) (F On : List Nat) (g : Trafo) (bs : List (Leg × Leg))
    (hF : (F.map g).Nodup) (hO : On.Nodup) (hsub : ∀ n ∈ F, g n ∈ On) :
    tensordot ⟨[x, y] ++ F.flatMap (fun n => [pO n, q n]), bs⟩ (T.fresh (On.map mkO ++ [zo, zi]))
        ((List.range F.length).map (fun k => 2 * k + 2) ++ [1])
        (F.map (fun n => On.idxOf (g n)) ++ [On.length + 1]) =
      some ⟨[x] ++ F.map q ++ ((On.filter (fun m => decide (m ∉ F.map g))).map mkO ++ [zo]),
            bs ++ (F.map (fun n => (pO n, mkO (g n))) ++ [(y, zi)])⟩ := by
  have ha := ((PicksAt.none 0 [x]).append ((PicksAt.one 1 y).append' (PicksAt.pairs 2 F pO q))).picks
  have hb := ((PicksAt.block 0 On F g mkO hF hO hsub).append
    ((PicksAt.none _ [zo]).append (PicksAt.one _ zi))).picks
  simp only [List.length_map, List.length_cons, List.length_nil, Nat.zero_add, Nat.add_zero, List.append_nil,
    List.nil_append] at ha hb
  exact (tensordot_picks (a := ⟨_, bs⟩) (b := T.fresh _) ha hb (by simp)).trans
    (by simp [T.fresh, List.zip_append, zip_map_same])

/-- the `tensordot` with the bra tensor after the operator tensor; `rest`: what the block has between the bra-side block
legs and the operator's output leg `v` (the operator's leg toward the ignored neighbour, if it has one) -/
theorem braTensor_dot (x0 v z : Leg) (q mkB : Nat → Leg) (F Bn : List Nat) (f : Trafo) (rest : List Leg)
    (bs : List (Leg × Leg)) (hF : (F.map f).Nodup) (hB : Bn.Nodup) (hsub : ∀ n ∈ F, f n ∈ Bn) :
    tensordot ⟨[x0] ++ F.map q ++ (rest ++ [v]), bs⟩ (T.fresh (Bn.map mkB ++ [z]))
        (List.range' 1 F.length ++ [F.length + rest.length + 1])
        (F.map (fun n => Bn.idxOf (f n)) ++ [Bn.length]) =
      some ⟨[x0] ++ rest ++ (Bn.filter (fun m => decide (m ∉ F.map f))).map mkB,
            bs ++ (F.map (fun n => (q n, mkB (f n))) ++ [(v, z)])⟩ := by
  have ha := (((PicksAt.none 0 [x0]).append (PicksAt.all 1 (F.map q))).append
    ((PicksAt.none _ rest).append (PicksAt.one _ v))).picks
  have hb := ((PicksAt.block 0 Bn F f mkB hF hB hsub).append (PicksAt.one _ z)).picks
  simp only [List.length_map, List.length_cons, List.length_nil, List.length_append,
    Nat.zero_add, Nat.add_zero, List.append_nil, List.nil_append] at ha hb
  rw [show F.length + rest.length + 1 = 1 + F.length + rest.length by omega]
  exact (tensordot_picks (a := ⟨_, bs⟩) (b := T.fresh _) ha hb (by simp)).trans
    (by simp [T.fresh, List.zip_append, zip_map_same])

/-- `contract_operator_tensor_ignoring_one_leg` on the tensor delivered by
`contract_all_but_one_neighbour_block_to_ket` (three-layer blocks) -/
theorem opTensor_general (x y zo zi : Leg) (pO q mkO : Nat → Leg) (ketNode opNode : Node) (next : Nat) (g : Trafo)
    (bs : List (Leg × Leg))
    (hK : ketNode.nbrs.Nodup) (hO : opNode.nbrs.Nodup) (hnext : next ∈ ketNode.nbrs)
    (hperm : opNode.nbrs.Perm (ketNode.nbrs.map g)) :
    contractOperatorTensorIgnoringOneLeg
        ⟨[x, y] ++
          (ketNode.nbrs.filter (· ≠ next)).flatMap (fun n => [pO n, q n]), bs⟩
        ketNode (T.fresh (opNode.nbrs.map mkO ++ [zo, zi])) opNode next g =
      some ⟨[x] ++ (ketNode.nbrs.filter (· ≠ next)).map q ++ [mkO (g next), zo],
            bs ++ ((ketNode.nbrs.filter (· ≠ next)).map (fun n => (pO n, mkO (g n)))
                    ++ [(y, zi)])⟩ := by
  obtain ⟨hinj, hsub⟩ := side_of_perm next hO hperm
  have hlen := length_filter_ne ketNode.nbrs next hK hnext
  have heq := equivLoop_eq ketNode opNode [next] g ketNode.nbrs (fun n hn hc =>
    ⟨hn, hsub n (List.mem_filter.2 ⟨hn, by simpa using hc⟩)⟩)
  rw [filter_ignore_single] at heq
  simp only [contractOperatorTensorIgnoringOneLeg, getEquivalentLegs, heq, nodeOperatorInputLeg, Node.nn_eq]
  have hnn : ketNode.nbrs.length - 1 = (ketNode.nbrs.filter (· ≠ next)).length := by omega
  rw [hnn, opTensor_dot x y zo zi pO q mkO _ opNode.nbrs g bs hinj hO hsub, filter_other_side hO hnext hperm]
  rfl

/-- `contract_bra_tensor_ignore_one_leg` on the tensor delivered by
`contract_operator_tensor_ignoring_one_leg` -/
theorem braTensor_general (x0 v z : Leg) (q mkB : Nat → Leg) (ketNode braNode : Node) (next : Nat) (f : Trafo) (x : Leg)
    (bs : List (Leg × Leg))
    (hK : ketNode.nbrs.Nodup) (hB : braNode.nbrs.Nodup) (hnext : next ∈ ketNode.nbrs)
    (hperm : braNode.nbrs.Perm (ketNode.nbrs.map f)) :
    contractBraTensorIgnoreOneLeg (T.fresh (braNode.nbrs.map mkB ++ [z])) braNode
        ⟨[x0] ++ (ketNode.nbrs.filter (· ≠ next)).map q ++ [x, v], bs⟩
        ketNode next f =
      some ⟨[x0, x, mkB (f next)],
            bs ++ ((ketNode.nbrs.filter (· ≠ next)).map (fun n => (q n, mkB (f n)))
                    ++ [(v, z)])⟩ := by
  obtain ⟨hinj, hsub⟩ := side_of_perm next hB hperm
  have hlen := length_filter_ne ketNode.nbrs next hK hnext
  have heq := equivLoop_eq ketNode braNode [next] f ketNode.nbrs (fun n hn hc =>
    ⟨hn, hsub n (List.mem_filter.2 ⟨hn, by simpa using hc⟩)⟩)
  rw [filter_ignore_single] at heq
  simp only [contractBraTensorIgnoreOneLeg, getEquivalentLegs, heq, nodeStatePhysLeg, Node.nn_eq]
  have hnn : ketNode.nbrs.length - 1 = (ketNode.nbrs.filter (· ≠ next)).length := by omega
  have hnn2 : ketNode.nbrs.length + 1 = (ketNode.nbrs.filter (· ≠ next)).length + [x].length + 1 := by
    simp only [List.length_cons, List.length_nil]; omega
  rw [hnn, hnn2]
  exact (braTensor_dot x0 v z q mkB _ braNode.nbrs f [x] bs hinj hB hsub).trans
    (by rw [filter_other_side hB hnext hperm]; rfl)

/-- `contract_leaf` (state, operator and bra nodes are leaves below `p`, `p'`, `p''`), arbitrary labels -/
theorem opContractLeaf_general (p p' p'' : Nat) (a y o zo zi b z : Leg) :
    opContractLeaf ⟨some p, []⟩ (T.fresh [a, y]) ⟨some p', []⟩ (T.fresh [o, zo, zi])
        ⟨some p'', []⟩ (T.fresh [b, z]) =
      some ⟨[a, o, b], [(zo, z), (y, zi)]⟩ := by
  simp only [opContractLeaf, nodeOperatorOutputLeg, nodeStatePhysLeg, nodeOperatorInputLeg, Node.nn,
    Node.nparents, T.fresh]
  rw [tensordot_one _ _ _ _ zo z (by simp) (by simp)]
  simp only [List.nil_append]
  rw [tensordot_one _ _ _ _ y zi (by simp) (by simp)]
  simp

end Ptn.C04
