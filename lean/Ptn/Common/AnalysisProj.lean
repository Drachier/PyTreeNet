/-
Abstract linear algebra behind the BUG integrators (property C09).

`E : Matrix N d ℂ` with `Eᴴ * E = 1` is an orthonormal basis (as columns) of a subspace of the
full state space; `E * Eᴴ` is the orthogonal projector onto it and `Eᴴ *ᵥ ψ` are the Galerkin
coefficients of a full state `ψ` in that basis.

* (P1) rank-adaptive BUG: the augmented basis contains the old one, so the Galerkin initial
  value reproduces the old state exactly (`galerkin_initial_value`);
* (P2) fixed-rank BUG: projecting onto the new basis never increases the norm
  (`projection_nonexpansive`), hence the whole step is norm non-increasing
  (`fixed_rank_step_nonexpansive`).
-/
import Ptn.Common.AnalysisIso
import Ptn.Common.AnalysisLocal

namespace Ptn.Analysis

open Matrix NormedSpace

section Galerkin

variable {R : Type*} [CommRing R] [StarRing R]
variable {N d d' : Type*} [Fintype N] [Fintype d] [Fintype d']

/-- **P1 (C09, rank-adaptive BUG).** If the orthogonal projector `Enew * Enewᴴ` onto the range
of the new basis fixes the range of the old basis (`Enew * Enewᴴ * Eold = Eold`, "the new basis
contains the old one"), then the Galerkin initial value `Enewᴴ (Eold φ)` re-expanded in the new
basis is the old state itself: nothing is lost by changing to the augmented basis.
(Only the containment is needed here; `Enewᴴ * Enew = 1` is what makes `Enew * Enewᴴ` the
orthogonal projector and is used in `galerkin_contains_of_factor`.) -/
theorem galerkin_initial_value (Enew : Matrix N d' R) (Eold : Matrix N d R)
    (hcont : Enew * Enewᴴ * Eold = Eold) (φ : d → R) :
    Enew *ᵥ (Enewᴴ *ᵥ (Eold *ᵥ φ)) = Eold *ᵥ φ := by
  rw [mulVec_mulVec, mulVec_mulVec, hcont]

omit [Fintype d] in
/-- **P1, sufficient condition.** If the old basis is expressed in the new one,
`Eold = Enew * M` (this is what the augmentation `Enew = orth [Eold, Eupdated]` provides, with
`M = Enewᴴ * Eold`), and `Enew` is an isometry, then the containment hypothesis of
`galerkin_initial_value` holds. -/
theorem galerkin_contains_of_factor [DecidableEq d'] (Enew : Matrix N d' R) (Eold : Matrix N d R)
    (M : Matrix d' d R) (hE : Enewᴴ * Enew = 1) (hM : Eold = Enew * M) :
    Enew * Enewᴴ * Eold = Eold := by
  rw [hM, Matrix.mul_assoc, ← Matrix.mul_assoc Enewᴴ, hE, Matrix.one_mul]

/-- **P1, factorised form.** `Enewᴴ * Enew = 1` and `Eold = Enew * M` give
`Enew (Enewᴴ (Eold φ)) = Eold φ`. -/
theorem galerkin_initial_value_of_factor [DecidableEq d'] (Enew : Matrix N d' R)
    (Eold : Matrix N d R) (M : Matrix d' d R) (hE : Enewᴴ * Enew = 1) (hM : Eold = Enew * M)
    (φ : d → R) :
    Enew *ᵥ (Enewᴴ *ᵥ (Eold *ᵥ φ)) = Eold *ᵥ φ :=
  galerkin_initial_value Enew Eold (galerkin_contains_of_factor Enew Eold M hE hM) φ

/-- **P1, coefficients.** In the factorised situation the Galerkin coefficients are `M φ`. -/
theorem galerkin_coefficients_of_factor [DecidableEq d'] (Enew : Matrix N d' R)
    (Eold : Matrix N d R) (M : Matrix d' d R) (hE : Enewᴴ * Enew = 1) (hM : Eold = Enew * M)
    (φ : d → R) :
    Enewᴴ *ᵥ (Eold *ᵥ φ) = M *ᵥ φ := by
  rw [hM, mulVec_mulVec, ← Matrix.mul_assoc, hE, Matrix.one_mul]

end Galerkin

section Projection

variable {N d : Type*} [Fintype N] [Fintype d] [DecidableEq d]

/-- **P2, Pythagoras.** For an isometry `E` and any `ψ`, with residual `r = ψ - E (Eᴴ ψ)`:
`‖ψ‖² = ‖Eᴴ ψ‖² + ‖r‖²`. -/
theorem projection_pythagoras (E : Matrix N d ℂ) (hE : Eᴴ * E = 1) (ψ : N → ℂ) :
    star ψ ⬝ᵥ ψ = star (Eᴴ *ᵥ ψ) ⬝ᵥ (Eᴴ *ᵥ ψ)
      + star (ψ - E *ᵥ (Eᴴ *ᵥ ψ)) ⬝ᵥ (ψ - E *ᵥ (Eᴴ *ᵥ ψ)) := by
  have h1 : star (Eᴴ *ᵥ ψ) ⬝ᵥ (Eᴴ *ᵥ ψ) = star ψ ⬝ᵥ (E *ᵥ (Eᴴ *ᵥ ψ)) := by
    rw [star_mulVec, conjTranspose_conjTranspose, ← dotProduct_mulVec]
  have h2 : star (E *ᵥ (Eᴴ *ᵥ ψ)) ⬝ᵥ ψ = star ψ ⬝ᵥ (E *ᵥ (Eᴴ *ᵥ ψ)) := by
    rw [star_mulVec, star_mulVec, conjTranspose_conjTranspose, ← dotProduct_mulVec,
      ← dotProduct_mulVec]
  have h3 : star (E *ᵥ (Eᴴ *ᵥ ψ)) ⬝ᵥ (E *ᵥ (Eᴴ *ᵥ ψ)) = star ψ ⬝ᵥ (E *ᵥ (Eᴴ *ᵥ ψ)) := by
    rw [isometry_norm E hE, h1]
  rw [star_sub, sub_dotProduct, dotProduct_sub, dotProduct_sub, h1, h2, h3]
  ring

/-- **P2 (C09, fixed-rank BUG).** Projecting a state onto an orthonormal basis never increases
its norm: `‖Eᴴ ψ‖² ≤ ‖ψ‖²` (real parts of the squared norms; both are real). -/
theorem projection_nonexpansive (E : Matrix N d ℂ) (hE : Eᴴ * E = 1) (ψ : N → ℂ) :
    RCLike.re (star (Eᴴ *ᵥ ψ) ⬝ᵥ (Eᴴ *ᵥ ψ)) ≤ RCLike.re (star ψ ⬝ᵥ ψ) := by
  open scoped ComplexOrder in
  have hr : 0 ≤ star (ψ - E *ᵥ (Eᴴ *ᵥ ψ)) ⬝ᵥ (ψ - E *ᵥ (Eᴴ *ᵥ ψ)) :=
    dotProduct_star_self_nonneg _
  have hr' := (Complex.nonneg_iff.mp hr).1
  rw [projection_pythagoras E hE ψ]
  simp only [RCLike.re_to_complex, Complex.add_re]
  linarith

/-- **P2.** Same with `Complex.re`. -/
theorem projection_nonexpansive' (E : Matrix N d ℂ) (hE : Eᴴ * E = 1) (ψ : N → ℂ) :
    (star (Eᴴ *ᵥ ψ) ⬝ᵥ (Eᴴ *ᵥ ψ)).re ≤ (star ψ ⬝ᵥ ψ).re := by
  simpa only [RCLike.re_to_complex] using projection_nonexpansive E hE ψ

/-- **P2.** The orthogonal projector `E Eᴴ` itself is non-expansive: `‖E Eᴴ ψ‖² ≤ ‖ψ‖²`. -/
theorem projector_nonexpansive (E : Matrix N d ℂ) (hE : Eᴴ * E = 1) (ψ : N → ℂ) :
    RCLike.re (star (E *ᵥ (Eᴴ *ᵥ ψ)) ⬝ᵥ (E *ᵥ (Eᴴ *ᵥ ψ))) ≤ RCLike.re (star ψ ⬝ᵥ ψ) := by
  rw [isometry_norm E hE]
  exact projection_nonexpansive E hE ψ

/-- **P2, corollary (C09, fixed-rank BUG step).** Project the state `ψ` onto the new basis `E`,
evolve the coefficients with the effective Hamiltonian `Eᴴ H E` (`H` Hermitian, `t` real) and
re-expand: the norm does not increase. (The evolution itself preserves the norm by
`local_flow_norm`; only the projection can lose norm.) -/
theorem fixed_rank_step_nonexpansive (E : Matrix N d ℂ) (H : Matrix N N ℂ)
    (hE : Eᴴ * E = 1) (hH : Hᴴ = H) (t : ℝ) (ψ : N → ℂ) :
    RCLike.re (star (E *ᵥ (exp ((-Complex.I * (t : ℂ)) • (Eᴴ * H * E)) *ᵥ (Eᴴ *ᵥ ψ))) ⬝ᵥ
        (E *ᵥ (exp ((-Complex.I * (t : ℂ)) • (Eᴴ * H * E)) *ᵥ (Eᴴ *ᵥ ψ))))
      ≤ RCLike.re (star ψ ⬝ᵥ ψ) := by
  rw [local_flow_norm E H hE hH t (Eᴴ *ᵥ ψ)]
  exact projector_nonexpansive E hE ψ

/-- **P2, corollary, equality case.** If `ψ` already lies in the range of `E` (`ψ = E φ`) the
fixed-rank step preserves the norm exactly. -/
theorem fixed_rank_step_norm_of_mem (E : Matrix N d ℂ) (H : Matrix N N ℂ)
    (hE : Eᴴ * E = 1) (hH : Hᴴ = H) (t : ℝ) (φ : d → ℂ) :
    star (E *ᵥ (exp ((-Complex.I * (t : ℂ)) • (Eᴴ * H * E)) *ᵥ (Eᴴ *ᵥ (E *ᵥ φ)))) ⬝ᵥ
        (E *ᵥ (exp ((-Complex.I * (t : ℂ)) • (Eᴴ * H * E)) *ᵥ (Eᴴ *ᵥ (E *ᵥ φ))))
      = star (E *ᵥ φ) ⬝ᵥ (E *ᵥ φ) := by
  rw [mulVec_mulVec φ Eᴴ E, hE, one_mulVec, local_flow_norm E H hE hH t φ]

end Projection

/-! ### Non-vacuity -/

section Examples

/-- P1 with a genuinely larger new basis: old basis `e0` (`2 × 1`), new basis `swap2` (`2 × 2`,
a unitary that is not the identity); `e0 = swap2 * (swap2ᴴ * e0)`. -/
example (φ : Fin 1 → ℂ) : swap2 *ᵥ (swap2ᴴ *ᵥ (e0 *ᵥ φ)) = e0 *ᵥ φ := by
  refine galerkin_initial_value_of_factor swap2 e0 (swap2ᴴ * e0) swap2_isometry ?_ φ
  rw [← Matrix.ext_iff]
  simp [swap2, e0, Matrix.mul_apply, Fin.sum_univ_two]

/-- P1, rectangular new basis: old basis = first column of `emb32`, new basis `emb32`. -/
example (φ : Fin 1 → ℂ) :
    emb32 *ᵥ (emb32ᴴ *ᵥ ((emb32 * e0) *ᵥ φ)) = (emb32 * e0) *ᵥ φ :=
  galerkin_initial_value_of_factor emb32 (emb32 * e0) e0 emb32_isometry rfl φ

/-- The containment hypothesis is not automatic: `e0 e0ᴴ` does not fix the second basis vector. -/
example : e0 * e0ᴴ * swap2 ≠ swap2 := by
  intro h
  rw [Matrix.mul_assoc] at h
  have := congrFun (congrFun h 1) 0
  simp [e0, swap2, Matrix.mul_apply] at this

/-- P2 on the proper isometry `emb32` (its projector is not the identity, so the inequality can
be strict). -/
example (ψ : Fin 3 → ℂ) :
    RCLike.re (star (emb32ᴴ *ᵥ ψ) ⬝ᵥ (emb32ᴴ *ᵥ ψ)) ≤ RCLike.re (star ψ ⬝ᵥ ψ) :=
  projection_nonexpansive emb32 emb32_isometry ψ

/-- The inequality is strict for `ψ = (0,0,1)`: `‖emb32ᴴ ψ‖² = 0 < 1 = ‖ψ‖²`. -/
example : RCLike.re (star (emb32ᴴ *ᵥ ![0, 0, 1]) ⬝ᵥ (emb32ᴴ *ᵥ ![0, 0, 1]))
    < RCLike.re (star (![0, 0, 1] : Fin 3 → ℂ) ⬝ᵥ ![0, 0, 1]) := by
  have h : emb32ᴴ *ᵥ ![0, 0, 1] = 0 := by
    rw [funext_iff]
    simp [Fin.forall_fin_two, emb32, mulVec, dotProduct, Fin.sum_univ_three]
  rw [h]
  simp [dotProduct, Fin.sum_univ_three]

example (t : ℝ) (ψ : Fin 3 → ℂ) :
    RCLike.re (star (emb32 *ᵥ (exp ((-Complex.I * (t : ℂ)) • (emb32ᴴ * ham3 * emb32)) *ᵥ
        (emb32ᴴ *ᵥ ψ))) ⬝ᵥ
        (emb32 *ᵥ (exp ((-Complex.I * (t : ℂ)) • (emb32ᴴ * ham3 * emb32)) *ᵥ (emb32ᴴ *ᵥ ψ))))
      ≤ RCLike.re (star ψ ⬝ᵥ ψ) :=
  fixed_rank_step_nonexpansive emb32 ham3 emb32_isometry ham3_hermitian t ψ

end Examples

end Ptn.Analysis
