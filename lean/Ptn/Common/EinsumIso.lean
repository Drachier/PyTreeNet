import Ptn.Common.EinsumBuilt
/-! Canonical form at value level: the environment of the orthogonality centre is the identity.

The norm network `⟨ψ|ψ⟩` of a tree tensor network, seen from a centre node: every other node `n` carries
its tensor `T` and the (already conjugated) tensor `Tc` of the bra copy.  `T` has the leg `u` toward the
centre, `Tc` the leg `u'`; the open (physical) legs of `T` are bound to those of `Tc` (`phys`); for every
sub-tree hanging below `n` there is a leg `d` of `T` bound to the up-leg of the sub-tree's ket tensor and a
leg `d'` of `Tc` bound to the up-leg of its bra tensor.  `Sub` / `Kids` is that tree (a mutual inductive: any
number of children, any depth, any number of open legs per node).

The isometry condition toward the centre, in index form (`Sub.Canon`):
`Σ_{phys, (d, d') of every child} T · Tc = δ(u, u')`, for indices within the bond dimension.

All over an arbitrary commutative semiring, all dimensions, all trees. -/
namespace Ptn.Ein

open Finset

variable {L : Type} [DecidableEq L] {R : Type} [CommSemiring R]

mutual
/-- a doubled sub-tree hanging off a bond toward the centre: the ket tensor `T` with its up-leg `u`, the bra
tensor `Tc` with its up-leg `u'`, the pairs of open legs, the sub-trees below -/
inductive Sub (L R : Type) where
  | node (T Tc : Asg L → R) (u u' : L) (phys : List (L × L)) (kids : Kids L R)
/-- the sub-trees below a node: the leg `d` of the node's ket tensor and `d'` of its bra tensor that face
the sub-tree `s` -/
inductive Kids (L R : Type) where
  | nil
  | cons (d d' : L) (s : Sub L R) (rest : Kids L R)
end

omit [DecidableEq L] [CommSemiring R] in
/-- induction over both types at once: the two statements of a `mutual` pair as one conjunction -/
theorem Sub.both {P : Sub L R → Prop} {Q : Kids L R → Prop}
    (node : ∀ T Tc u u' phys kids, Q kids → P (.node T Tc u u' phys kids)) (nil : Q .nil)
    (cons : ∀ d d' s rest, P s → Q rest → Q (.cons d d' s rest)) : (∀ s, P s) ∧ ∀ k, Q k :=
  ⟨fun s => Sub.rec node nil cons s, fun k => Kids.rec (motive_1 := P) node nil cons k⟩

omit [DecidableEq L] [CommSemiring R] in
theorem Kids.induct {Q : Kids L R → Prop} (nil : Q .nil)
    (cons : ∀ d d' s rest, Q rest → Q (.cons d d' s rest)) : ∀ k, Q k :=
  (Sub.both (P := fun _ => True) (fun _ _ _ _ _ _ _ => trivial) nil fun d d' s rest _ => cons d d' s rest).2

namespace Sub
def u : Sub L R → L | node _ _ u _ _ _ => u
def u' : Sub L R → L | node _ _ _ u' _ _ => u'
def T : Sub L R → Asg L → R | node T _ _ _ _ _ => T
def Tc : Sub L R → Asg L → R | node _ Tc _ _ _ _ => Tc
def phys : Sub L R → List (L × L) | node _ _ _ _ p _ => p
def kids : Sub L R → Kids L R | node _ _ _ _ _ k => k
end Sub

mutual
/-- all labels of the doubled sub-tree, its up-legs included -/
def Sub.labels : Sub L R → List L
  | .node _ _ u u' phys kids => u :: u' :: (Expr.pairLegs phys ++ kids.labels)
def Kids.labels : Kids L R → List L
  | .nil => []
  | .cons d d' s rest => d :: d' :: (s.labels ++ rest.labels)
end

mutual
/-- the binding record of the doubled sub-tree (its own up-legs stay open): the open-leg pairs of every
node and both bonds to every sub-tree -/
def Sub.binds : Sub L R → List (L × L)
  | .node _ _ _ _ phys kids => phys ++ kids.binds
def Kids.binds : Kids L R → List (L × L)
  | .nil => []
  | .cons d d' s rest => (d, s.u) :: (d', s.u') :: (s.binds ++ rest.binds)
end

mutual
def Sub.leaves : Sub L R → List (Asg L → R)
  | .node T Tc _ _ _ kids => T :: Tc :: kids.leaves
def Kids.leaves : Kids L R → List (Asg L → R)
  | .nil => []
  | .cons _ _ s rest => s.leaves ++ rest.leaves
end

namespace Kids
/-- the pairs `(d, d')`: the node's legs facing its sub-trees, ket leg with bra leg -/
def pairs : Kids L R → List (L × L)
  | nil => []
  | cons d d' _ rest => (d, d') :: rest.pairs
/-- the up-legs `(u, u')` of the sub-trees -/
def ups : Kids L R → List (L × L)
  | nil => []
  | cons _ _ s rest => (s.u, s.u') :: rest.ups
/-- all labels inside the sub-trees (their up-legs included, the node's own legs `d`, `d'` not) -/
def inner : Kids L R → List L
  | nil => []
  | cons _ _ s rest => s.labels ++ rest.inner
/-- the binding record inside the sub-trees (the bonds to the node itself not included) -/
def inBinds : Kids L R → List (L × L)
  | nil => []
  | cons _ _ s rest => s.binds ++ rest.inBinds
/-- the legs of the node's ket / bra tensor facing the sub-trees -/
def kd : Kids L R → List L
  | nil => []
  | cons d _ _ rest => d :: rest.kd
def bd : Kids L R → List L
  | nil => []
  | cons _ d' _ rest => d' :: rest.bd
end Kids

mutual
/-- **Canonical toward the centre.**  For every node of the doubled sub-tree: `T` reads only its own legs
(up-leg, open legs, legs facing the sub-trees), `Tc` likewise; bonded legs have equal dimensions and the bra
copy has the dimensions of the ket; and the ISOMETRY CONDITION in index form: summing `T · Tc` over a
common index for every pair of open legs and for every pair `(d, d')` of legs facing a sub-tree gives
`δ(u, u')` — demanded for indices within the bond dimension only. -/
def Sub.Canon (dim : L → Nat) : Sub L R → Prop
  | .node T Tc u u' phys kids =>
    DependsOn (· ∈ u :: (phys.map Prod.fst ++ kids.kd)) T ∧
    DependsOn (· ∈ u' :: (phys.map Prod.snd ++ kids.bd)) Tc ∧
    dim u' = dim u ∧
    (∀ τ : Asg L, τ u < dim u → τ u' < dim u' →
      sumPairs dim (phys ++ kids.pairs) (fun ρ => T ρ * Tc ρ) τ = if τ u = τ u' then 1 else 0) ∧
    kids.Canon dim
def Kids.Canon (dim : L → Nat) : Kids L R → Prop
  | .nil => True
  | .cons d d' s rest => dim d = dim s.u ∧ dim d' = dim s.u' ∧ s.Canon dim ∧ rest.Canon dim
end

section
-- the definitions name every field of the constructors, also where a half does not use it
set_option linter.unusedVariables false

mutual
/-- the bonds of the ket half of the doubled sub-tree -/
def Sub.ketBinds : Sub L R → List (L × L)
  | .node _ _ _ _ _ kids => kids.ketBinds
def Kids.ketBinds : Kids L R → List (L × L)
  | .nil => []
  | .cons d d' s rest => (d, s.u) :: (s.ketBinds ++ rest.ketBinds)
end

mutual
def Sub.ketLeaves : Sub L R → List (Asg L → R)
  | .node T Tc _ _ _ kids => T :: kids.ketLeaves
def Kids.ketLeaves : Kids L R → List (Asg L → R)
  | .nil => []
  | .cons _ _ s rest => s.ketLeaves ++ rest.ketLeaves
end

mutual
def Sub.ketLabels : Sub L R → List L
  | .node _ _ u u' phys kids => u :: (phys.map Prod.fst ++ kids.ketLabels)
def Kids.ketLabels : Kids L R → List L
  | .nil => []
  | .cons d d' s rest => d :: (s.ketLabels ++ rest.ketLabels)
end

/-- the ket bonds inside the sub-trees (the bonds to the node itself not included) -/
def Kids.ketIn : Kids L R → List (L × L)
  | .nil => []
  | .cons _ _ s rest => s.ketBinds ++ rest.ketIn
/-- the ket labels inside the sub-trees -/
def Kids.ketInner : Kids L R → List L
  | .nil => []
  | .cons _ _ s rest => s.ketLabels ++ rest.ketInner

mutual
def Sub.braBinds : Sub L R → List (L × L)
  | .node _ _ _ _ _ kids => kids.braBinds
def Kids.braBinds : Kids L R → List (L × L)
  | .nil => []
  | .cons d d' s rest => (d', s.u') :: (s.braBinds ++ rest.braBinds)
end

mutual
def Sub.braLeaves : Sub L R → List (Asg L → R)
  | .node T Tc _ _ _ kids => Tc :: kids.braLeaves
def Kids.braLeaves : Kids L R → List (Asg L → R)
  | .nil => []
  | .cons _ _ s rest => s.braLeaves ++ rest.braLeaves
end

mutual
def Sub.braLabels : Sub L R → List L
  | .node _ _ u u' phys kids => u' :: (phys.map Prod.snd ++ kids.braLabels)
def Kids.braLabels : Kids L R → List L
  | .nil => []
  | .cons d d' s rest => d' :: (s.braLabels ++ rest.braLabels)
end

/-- the bra bonds inside the sub-trees (the bonds to the node itself not included) -/
def Kids.braIn : Kids L R → List (L × L)
  | .nil => []
  | .cons _ _ s rest => s.braBinds ++ rest.braIn
/-- the bra labels inside the sub-trees -/
def Kids.braInner : Kids L R → List L
  | .nil => []
  | .cons _ _ s rest => s.braLabels ++ rest.braInner

end

mutual
/-- all pairs of open legs of the doubled sub-tree -/
def Sub.physAll : Sub L R → List (L × L)
  | .node _ _ _ _ phys kids => phys ++ kids.physAll
def Kids.physAll : Kids L R → List (L × L)
  | .nil => []
  | .cons _ _ s rest => s.physAll ++ rest.physAll
end

theorem count_pairLegs_cons (a : L) (p : L × L) (ps : List (L × L)) :
    (Expr.pairLegs (p :: ps)).count a = [p.1, p.2].count a + (Expr.pairLegs ps).count a := by
  rw [(pairLegs_cons_perm p ps).count_eq]
  simp only [List.count_cons, List.count_nil]
  omega

theorem count_pairLegs_append (a : L) (ps qs : List (L × L)) :
    (Expr.pairLegs (ps ++ qs)).count a = (Expr.pairLegs ps).count a + (Expr.pairLegs qs).count a := by
  rw [(Expr.pairLegs_append ps qs).count_eq, List.count_append]

theorem count_pairLegs_nil (a : L) : (Expr.pairLegs ([] : List (L × L))).count a = 0 := by
  simp [Expr.pairLegs]

section
-- list facts about the doubled tree; the stated ones among them carry `[CommSemiring R]` unused
set_option linter.unusedSectionVars false

theorem labels_perm_both : (∀ s : Sub L R, s.labels.Perm (s.u :: s.u' :: Expr.pairLegs s.binds)) ∧
    ∀ k : Kids L R, k.labels.Perm (Expr.pairLegs k.binds) := by
  apply Sub.both
  · intro _ _ u u' phys kids ih
    rw [List.perm_iff_count]
    intro a
    have := ih.count_eq a
    simp only [Sub.labels, Sub.binds, Sub.u, Sub.u', List.count_cons, List.count_append, count_pairLegs_append]
    omega
  · simp [Kids.labels, Kids.binds, Expr.pairLegs]
  · intro d d' s rest ih1 ih2
    rw [List.perm_iff_count]
    intro a
    have h1 := ih1.count_eq a
    have h2 := ih2.count_eq a
    simp only [Kids.labels, Kids.binds, List.count_cons, List.count_append, count_pairLegs_cons,
      count_pairLegs_append, List.count_nil] at h1 h2 ⊢
    omega

theorem Sub.labels_perm : ∀ s : Sub L R, s.labels.Perm (s.u :: s.u' :: Expr.pairLegs s.binds) :=
  labels_perm_both.1

theorem Kids.labels_perm : ∀ k : Kids L R, k.labels.Perm (Expr.pairLegs k.binds) :=
  labels_perm_both.2

theorem Kids.inner_perm (k : Kids L R) : k.inner.Perm (Expr.pairLegs k.ups ++ Expr.pairLegs k.inBinds) := by
  induction k using Kids.induct with
  | nil => simp [Kids.inner, Kids.ups, Kids.inBinds, Expr.pairLegs]
  | cons d d' s rest ih =>
    rw [List.perm_iff_count]
    intro a
    have h1 := (Sub.labels_perm s).count_eq a
    have h2 := ih.count_eq a
    simp only [Kids.inner, Kids.ups, Kids.inBinds, List.count_cons, List.count_append, count_pairLegs_cons,
      count_pairLegs_append, List.count_nil] at h1 h2 ⊢
    omega

theorem Kids.labels_perm_inner : ∀ k : Kids L R, k.labels.Perm (k.kd ++ (k.bd ++ k.inner)) := by
  intro k
  induction k using Kids.induct with
  | nil => simp [Kids.labels, Kids.kd, Kids.bd, Kids.inner]
  | cons d d' s rest ih =>
    rw [List.perm_iff_count]
    intro a
    have h2 := ih.count_eq a
    simp only [Kids.labels, Kids.kd, Kids.bd, Kids.inner, List.count_cons, List.count_append] at h2 ⊢
    omega

theorem binds_split_both : (∀ s : Sub L R, s.binds.Perm (s.physAll ++ (s.ketBinds ++ s.braBinds))) ∧
    ∀ k : Kids L R, k.binds.Perm (k.physAll ++ (k.ketBinds ++ k.braBinds)) := by
  apply Sub.both
  · intro _ _ u u' phys kids ih
    rw [List.perm_iff_count]
    intro a
    have := ih.count_eq a
    simp only [Sub.binds, Sub.physAll, Sub.ketBinds, Sub.braBinds, List.count_append] at this ⊢
    omega
  · simp [Kids.binds, Kids.physAll, Kids.ketBinds, Kids.braBinds]
  · intro d d' s rest ih1 ih2
    rw [List.perm_iff_count]
    intro a
    have h1 := ih1.count_eq a
    have h2 := ih2.count_eq a
    simp only [Kids.binds, Kids.physAll, Kids.ketBinds, Kids.braBinds, List.count_cons, List.count_append]
      at h1 h2 ⊢
    omega

theorem Kids.binds_split : ∀ k : Kids L R, k.binds.Perm (k.physAll ++ (k.ketBinds ++ k.braBinds)) :=
  binds_split_both.2

theorem Kids.inBinds_split (k : Kids L R) : k.inBinds.Perm (k.physAll ++ (k.ketIn ++ k.braIn)) := by
  induction k using Kids.induct with
  | nil => simp [Kids.inBinds, Kids.physAll, Kids.ketIn, Kids.braIn]
  | cons d d' s rest ih =>
    rw [List.perm_iff_count]
    intro a
    have h1 := (binds_split_both.1 s).count_eq a
    have h2 := ih.count_eq a
    simp only [Kids.inBinds, Kids.physAll, Kids.ketIn, Kids.braIn, List.count_append] at h1 h2 ⊢
    omega

theorem leaves_split_both : (∀ s : Sub L R, s.leaves.Perm (s.ketLeaves ++ s.braLeaves)) ∧
    ∀ k : Kids L R, k.leaves.Perm (k.ketLeaves ++ k.braLeaves) := by
  apply Sub.both
  · intro T Tc _ _ _ kids ih
    simp only [Sub.leaves, Sub.ketLeaves, Sub.braLeaves, List.cons_append]
    exact List.Perm.cons T ((ih.cons Tc).trans List.perm_middle.symm)
  · simp [Kids.leaves, Kids.ketLeaves, Kids.braLeaves]
  · intro _ _ s rest ih1 ih2
    simp only [Kids.leaves, Kids.ketLeaves, Kids.braLeaves]
    exact (ih1.append ih2).trans (perm_append_interleave _ _ _ _)

theorem Sub.leaves_split : ∀ s : Sub L R, s.leaves.Perm (s.ketLeaves ++ s.braLeaves) :=
  leaves_split_both.1

theorem Kids.leaves_split : ∀ k : Kids L R, k.leaves.Perm (k.ketLeaves ++ k.braLeaves) :=
  leaves_split_both.2

theorem labels_split_both : (∀ s : Sub L R, s.labels.Perm (s.ketLabels ++ s.braLabels)) ∧
    ∀ k : Kids L R, k.labels.Perm (k.ketLabels ++ k.braLabels) := by
  apply Sub.both
  · intro _ _ u u' phys kids ih
    rw [List.perm_iff_count]
    intro a
    have := ih.count_eq a
    simp only [Sub.labels, Sub.ketLabels, Sub.braLabels, Expr.pairLegs, List.count_cons, List.count_append]
      at this ⊢
    omega
  · simp [Kids.labels, Kids.ketLabels, Kids.braLabels]
  · intro d d' s rest ih1 ih2
    rw [List.perm_iff_count]
    intro a
    have h1 := ih1.count_eq a
    have h2 := ih2.count_eq a
    simp only [Kids.labels, Kids.ketLabels, Kids.braLabels, List.count_cons, List.count_append] at h1 h2 ⊢
    omega

theorem Sub.labels_split : ∀ s : Sub L R, s.labels.Perm (s.ketLabels ++ s.braLabels) :=
  labels_split_both.1

theorem Kids.labels_split : ∀ k : Kids L R, k.labels.Perm (k.ketLabels ++ k.braLabels) :=
  labels_split_both.2

theorem Kids.inner_split (k : Kids L R) : k.inner.Perm (k.ketInner ++ k.braInner) := by
  induction k using Kids.induct with
  | nil => simp [Kids.inner, Kids.ketInner, Kids.braInner]
  | cons d d' s rest ih =>
    rw [List.perm_iff_count]
    intro a
    have h1 := (Sub.labels_split s).count_eq a
    have h2 := ih.count_eq a
    simp only [Kids.inner, Kids.ketInner, Kids.braInner, List.count_append] at h1 h2 ⊢
    omega

theorem Sub.u_mem_labels : ∀ s : Sub L R, s.u ∈ s.labels
  | .node .. => List.mem_cons_self

theorem Sub.u'_mem_labels : ∀ s : Sub L R, s.u' ∈ s.labels
  | .node .. => List.mem_cons_of_mem _ List.mem_cons_self

theorem Sub.u_ne_u' {s : Sub L R} (h : s.labels.Nodup) : s.u ≠ s.u' := by
  cases s
  simp only [Sub.labels, List.nodup_cons, List.mem_cons, not_or] at h
  exact h.1.1

theorem Sub.Canon.dim_u' {dim : L → Nat} : ∀ {s : Sub L R}, s.Canon dim → dim s.u' = dim s.u
  | .node .., h => h.2.2.1

theorem Sub.binds_sub (s : Sub L R) (l : L) (h : l ∈ Expr.pairLegs s.binds) : l ∈ s.labels :=
  (Sub.labels_perm s).mem_iff.2 (List.mem_cons_of_mem _ (List.mem_cons_of_mem _ h))

theorem Kids.binds_sub (k : Kids L R) (l : L) (h : l ∈ Expr.pairLegs k.binds) : l ∈ k.labels :=
  (Kids.labels_perm k).mem_iff.2 h

theorem Kids.inner_sub : ∀ (k : Kids L R) (l : L), l ∈ k.inner → l ∈ k.labels :=
  fun k _ h => (Kids.labels_perm_inner k).mem_iff.2 (List.mem_append_right _ (List.mem_append_right _ h))

theorem Kids.kd_not_inner : ∀ (k : Kids L R), k.labels.Nodup → ∀ l ∈ k.kd, l ∉ k.inner :=
  fun k hnd l h hi => (List.nodup_append.1 ((Kids.labels_perm_inner k).nodup_iff.1 hnd)).2.2 l h l
    (List.mem_append_right _ hi) rfl

theorem Kids.bd_not_inner : ∀ (k : Kids L R), k.labels.Nodup → ∀ l ∈ k.bd, l ∉ k.inner :=
  fun k hnd l h hi =>
    (List.nodup_append.1 (List.nodup_append.1 ((Kids.labels_perm_inner k).nodup_iff.1 hnd)).2.1).2.2 l h l hi rfl

/-- labels outside the sub-trees and the legs facing the sub-trees are not labels inside the sub-trees -/
theorem Kids.outside_not_inner {k : Kids L R} {out : List L} (hnd : (out ++ k.labels).Nodup) :
    ∀ l ∈ out ++ (k.kd ++ k.bd), l ∉ k.inner := by
  have h := ((Kids.labels_perm_inner k).append_left out).nodup_iff.1 hnd
  rw [← List.append_assoc k.kd, ← List.append_assoc out] at h
  exact fun l hl hi => (List.nodup_append.1 h).2.2 l hl l hi rfl

theorem Kids.inner_nodup {k : Kids L R} (h : k.labels.Nodup) : k.inner.Nodup := by
  have := (Kids.labels_perm_inner k).nodup_iff.1 h
  exact (List.nodup_append.1 (List.nodup_append.1 this).2.1).2.1

theorem Kids.inBinds_nodup {k : Kids L R} (h : k.labels.Nodup) : (Expr.pairLegs k.inBinds).Nodup :=
  (List.nodup_append.1 ((Kids.inner_perm k).nodup_iff.1 (Kids.inner_nodup h))).2.1

theorem Kids.inBinds_sub (k : Kids L R) (l : L) (h : l ∈ Expr.pairLegs k.inBinds) : l ∈ k.inner :=
  (Kids.inner_perm k).mem_iff.2 (List.mem_append.2 (Or.inr h))

theorem Kids.ups_sub (k : Kids L R) (l : L) (h : l ∈ Expr.pairLegs k.ups) : l ∈ k.inner :=
  (Kids.inner_perm k).mem_iff.2 (List.mem_append.2 (Or.inl h))

theorem Kids.ket_bra_disjoint {k : Kids L R} (h : k.labels.Nodup) : ∀ l ∈ k.ketInner, l ∉ k.braInner := by
  have := (Kids.inner_split k).nodup_iff.1 (Kids.inner_nodup h)
  intro l h1 h2
  exact (List.nodup_append.1 this).2.2 l h1 l h2 rfl

theorem Sub.u_mem_ketLabels : ∀ s : Sub L R, s.u ∈ s.ketLabels
  | .node .. => List.mem_cons_self

theorem Sub.u'_mem_braLabels : ∀ s : Sub L R, s.u' ∈ s.braLabels
  | .node .. => List.mem_cons_self

theorem Kids.kd_sub_ketLabels (k : Kids L R) (l : L) (h : l ∈ k.kd) : l ∈ k.ketLabels := by
  induction k using Kids.induct with
  | nil => exact absurd h List.not_mem_nil
  | cons _ _ _ rest ih =>
    exact List.mem_cons.2 ((List.mem_cons.1 h).imp_right fun h => List.mem_append_right _ (ih h))

theorem Kids.ketInner_sub (k : Kids L R) (l : L) (h : l ∈ k.ketInner) : l ∈ k.ketLabels := by
  induction k using Kids.induct with
  | nil => exact absurd h List.not_mem_nil
  | cons _ _ _ rest ih =>
    exact List.mem_cons_of_mem _ (List.mem_append.2 ((List.mem_append.1 h).imp_right ih))

theorem ketBinds_sub_both :
    (∀ (s : Sub L R) (l : L), l ∈ Expr.pairLegs s.ketBinds → l ∈ s.ketLabels) ∧
    ∀ (k : Kids L R) (l : L), l ∈ Expr.pairLegs k.ketBinds → l ∈ k.ketLabels := by
  apply Sub.both
  · exact fun _ _ _ _ _ _ ih l h => List.mem_cons_of_mem _ (List.mem_append_right _ (ih l h))
  · exact fun _ h => absurd h List.not_mem_nil
  · intro d d' s rest ih1 ih2 l h
    rcases mem_pairLegs_cons.1 h with rfl | rfl | h
    · exact List.mem_cons_self
    · exact List.mem_cons_of_mem _ (List.mem_append_left _ s.u_mem_ketLabels)
    · exact List.mem_cons_of_mem _ (List.mem_append.2 ((Expr.mem_pairLegs_append.1 h).imp (ih1 l) (ih2 l)))

theorem Kids.ketBinds_sub : ∀ (k : Kids L R) (l : L), l ∈ Expr.pairLegs k.ketBinds → l ∈ k.ketLabels :=
  ketBinds_sub_both.2

theorem Kids.ketIn_sub (k : Kids L R) (l : L) (h : l ∈ Expr.pairLegs k.ketIn) : l ∈ k.ketInner := by
  induction k using Kids.induct with
  | nil => exact absurd h List.not_mem_nil
  | cons _ _ s rest ih =>
    exact List.mem_append.2 ((Expr.mem_pairLegs_append.1 h).imp (ketBinds_sub_both.1 s l) ih)

theorem ketLeaves_local_both (dim : L → Nat) :
    (∀ s : Sub L R, s.Canon dim → ∀ f ∈ s.ketLeaves, DependsOn (· ∈ s.ketLabels) f) ∧
    ∀ k : Kids L R, k.Canon dim → ∀ f ∈ k.ketLeaves, DependsOn (· ∈ k.ketInner) f := by
  apply Sub.both
  · intro T Tc u u' phys kids ih hc f hf
    obtain ⟨hT, hTc, _, _, hk⟩ := hc
    rcases List.mem_cons.1 hf with rfl | hf
    · exact hT.mono fun l hl => List.mem_cons.2 ((List.mem_cons.1 hl).imp_right fun hl =>
        List.mem_append.2 ((List.mem_append.1 hl).imp_right (Kids.kd_sub_ketLabels kids l)))
    · exact (ih hk f hf).mono fun l hl =>
        List.mem_cons_of_mem _ (List.mem_append_right _ (Kids.ketInner_sub kids l hl))
  · exact fun _ f hf => absurd hf List.not_mem_nil
  · intro d d' s rest ih1 ih2 hc f hf
    obtain ⟨_, _, hs, hr⟩ := hc
    rcases List.mem_append.1 hf with hf | hf
    · exact (ih1 hs f hf).mono fun l hl => List.mem_append_left _ hl
    · exact (ih2 hr f hf).mono fun l hl => List.mem_append_right _ hl

theorem Sub.ketLeaves_local (dim : L → Nat) : ∀ (s : Sub L R), s.Canon dim →
    ∀ f ∈ s.ketLeaves, DependsOn (· ∈ s.ketLabels) f :=
  (ketLeaves_local_both dim).1

theorem Kids.ketLeaves_local (dim : L → Nat) : ∀ (k : Kids L R), k.Canon dim →
    ∀ f ∈ k.ketLeaves, DependsOn (· ∈ k.ketInner) f :=
  (ketLeaves_local_both dim).2

theorem Kids.bd_sub_braLabels (k : Kids L R) (l : L) (h : l ∈ k.bd) : l ∈ k.braLabels := by
  induction k using Kids.induct with
  | nil => exact absurd h List.not_mem_nil
  | cons _ _ _ rest ih =>
    exact List.mem_cons.2 ((List.mem_cons.1 h).imp_right fun h => List.mem_append_right _ (ih h))

theorem Kids.braInner_sub (k : Kids L R) (l : L) (h : l ∈ k.braInner) : l ∈ k.braLabels := by
  induction k using Kids.induct with
  | nil => exact absurd h List.not_mem_nil
  | cons _ _ _ rest ih =>
    exact List.mem_cons_of_mem _ (List.mem_append.2 ((List.mem_append.1 h).imp_right ih))

theorem braBinds_sub_both :
    (∀ (s : Sub L R) (l : L), l ∈ Expr.pairLegs s.braBinds → l ∈ s.braLabels) ∧
    ∀ (k : Kids L R) (l : L), l ∈ Expr.pairLegs k.braBinds → l ∈ k.braLabels := by
  apply Sub.both
  · exact fun _ _ _ _ _ _ ih l h => List.mem_cons_of_mem _ (List.mem_append_right _ (ih l h))
  · exact fun _ h => absurd h List.not_mem_nil
  · intro d d' s rest ih1 ih2 l h
    rcases mem_pairLegs_cons.1 h with rfl | rfl | h
    · exact List.mem_cons_self
    · exact List.mem_cons_of_mem _ (List.mem_append_left _ s.u'_mem_braLabels)
    · exact List.mem_cons_of_mem _ (List.mem_append.2 ((Expr.mem_pairLegs_append.1 h).imp (ih1 l) (ih2 l)))

theorem Kids.braBinds_sub : ∀ (k : Kids L R) (l : L), l ∈ Expr.pairLegs k.braBinds → l ∈ k.braLabels :=
  braBinds_sub_both.2

theorem Kids.braIn_sub (k : Kids L R) (l : L) (h : l ∈ Expr.pairLegs k.braIn) : l ∈ k.braInner := by
  induction k using Kids.induct with
  | nil => exact absurd h List.not_mem_nil
  | cons _ _ s rest ih =>
    exact List.mem_append.2 ((Expr.mem_pairLegs_append.1 h).imp (braBinds_sub_both.1 s l) ih)

theorem braLeaves_local_both (dim : L → Nat) :
    (∀ s : Sub L R, s.Canon dim → ∀ f ∈ s.braLeaves, DependsOn (· ∈ s.braLabels) f) ∧
    ∀ k : Kids L R, k.Canon dim → ∀ f ∈ k.braLeaves, DependsOn (· ∈ k.braInner) f := by
  apply Sub.both
  · intro T Tc u u' phys kids ih hc f hf
    obtain ⟨hT, hTc, _, _, hk⟩ := hc
    rcases List.mem_cons.1 hf with rfl | hf
    · exact hTc.mono fun l hl => List.mem_cons.2 ((List.mem_cons.1 hl).imp_right fun hl =>
        List.mem_append.2 ((List.mem_append.1 hl).imp_right (Kids.bd_sub_braLabels kids l)))
    · exact (ih hk f hf).mono fun l hl =>
        List.mem_cons_of_mem _ (List.mem_append_right _ (Kids.braInner_sub kids l hl))
  · exact fun _ f hf => absurd hf List.not_mem_nil
  · intro d d' s rest ih1 ih2 hc f hf
    obtain ⟨_, _, hs, hr⟩ := hc
    rcases List.mem_append.1 hf with hf | hf
    · exact (ih1 hs f hf).mono fun l hl => List.mem_append_left _ hl
    · exact (ih2 hr f hf).mono fun l hl => List.mem_append_right _ hl

theorem Sub.braLeaves_local (dim : L → Nat) : ∀ (s : Sub L R), s.Canon dim →
    ∀ f ∈ s.braLeaves, DependsOn (· ∈ s.braLabels) f :=
  (braLeaves_local_both dim).1

theorem Kids.braLeaves_local (dim : L → Nat) : ∀ (k : Kids L R), k.Canon dim →
    ∀ f ∈ k.braLeaves, DependsOn (· ∈ k.braInner) f :=
  (braLeaves_local_both dim).2

theorem Sub.leaves_local (dim : L → Nat) (s : Sub L R) (hc : s.Canon dim) :
    ∀ f ∈ s.leaves, DependsOn (· ∈ s.labels) f := fun f hf =>
  (List.mem_append.1 ((Sub.leaves_split s).mem_iff.1 hf)).elim
    (fun h => (Sub.ketLeaves_local dim s hc f h).mono fun _ hl =>
      (Sub.labels_split s).mem_iff.2 (List.mem_append_left _ hl))
    (fun h => (Sub.braLeaves_local dim s hc f h).mono fun _ hl =>
      (Sub.labels_split s).mem_iff.2 (List.mem_append_right _ hl))

theorem Kids.leaves_local (dim : L → Nat) (k : Kids L R) (hc : k.Canon dim) :
    ∀ f ∈ k.leaves, DependsOn (· ∈ k.inner) f := fun f hf =>
  (List.mem_append.1 ((Kids.leaves_split k).mem_iff.1 hf)).elim
    (fun h => (Kids.ketLeaves_local dim k hc f h).mono fun _ hl =>
      (Kids.inner_split k).mem_iff.2 (List.mem_append_left _ hl))
    (fun h => (Kids.braLeaves_local dim k hc f h).mono fun _ hl =>
      (Kids.inner_split k).mem_iff.2 (List.mem_append_right _ hl))

theorem Kids.ups_fst_sub : ∀ (k : Kids L R) (l : L), l ∈ k.ups.map Prod.fst → l ∈ k.ketInner := by
  intro k l h
  induction k using Kids.induct with
  | nil => exact absurd h List.not_mem_nil
  | cons _ _ s rest ih =>
    exact List.mem_append.2 ((List.mem_cons.1 h).imp (fun (e : l = s.u) => e ▸ s.u_mem_ketLabels) ih)

theorem Kids.ups_snd_sub : ∀ (k : Kids L R) (l : L), l ∈ k.ups.map Prod.snd → l ∈ k.braInner := by
  intro k l h
  induction k using Kids.induct with
  | nil => exact absurd h List.not_mem_nil
  | cons _ _ s rest ih =>
    exact List.mem_append.2 ((List.mem_cons.1 h).imp (fun (e : l = s.u') => e ▸ s.u'_mem_braLabels) ih)

end

theorem Kids.ups_nodup {k : Kids L R} (h : k.labels.Nodup) : (Expr.pairLegs k.ups).Nodup :=
  (List.nodup_append.1 ((Kids.inner_perm k).nodup_iff.1 (Kids.inner_nodup h))).1

theorem Kids.Canon.ups_dim {dim : L → Nat} : ∀ {k : Kids L R}, k.Canon dim → ∀ p ∈ k.ups, dim p.2 = dim p.1 := by
  intro k hc p hp
  induction k using Kids.induct with
  | nil => simp [Kids.ups] at hp
  | cons d d' s rest ih =>
    obtain ⟨_, _, hs, hr⟩ := hc
    simp only [Kids.ups, List.mem_cons] at hp
    rcases hp with rfl | hp
    · exact hs.dim_u'
    · exact ih hr hp

/-- `Sub.env_eq_delta` and `Kids.absorb` (stated below) by one induction over the doubled tree: a node first absorbs the
sub-trees below it and is then the isometry `Sub.Canon` demands; a family absorbs its members one at a time, each an identity
matrix on its bond -/
theorem absorb_both (dim : L → Nat) :
    (∀ (s : Sub L R), s.Canon dim → s.labels.Nodup →
      ∀ σ : Asg L, σ s.u < dim s.u → σ s.u' < dim s.u' →
        netValue dim s.binds s.leaves σ = if σ s.u = σ s.u' then 1 else 0) ∧
    ∀ (k : Kids L R), k.Canon dim → k.labels.Nodup →
      ∀ (S : L → Prop) (f : Asg L → R), DependsOn S f → (∀ l ∈ k.inner, ¬ S l) → ∀ σ : Asg L,
        sumPairs dim k.binds (fun τ => f τ * prodL (k.leaves.map (fun g => g τ))) σ = sumPairs dim k.pairs f σ := by
  apply Sub.both
  · intro T Tc u u' phys kids ihk hc hnd σ h1 h2
    obtain ⟨hT, hTc, _, hiso, hk⟩ := hc
    have hno := Kids.outside_not_inner (out := u :: u' :: Expr.pairLegs phys) hnd
    have hndk : kids.labels.Nodup := ((List.nodup_append (l₁ := u :: u' :: Expr.pairLegs phys)).1 hnd).2.1
    have hf : DependsOn (· ∉ kids.inner) (fun ρ => T ρ * Tc ρ) := by
      apply DependsOn.mul
      · refine hT.mono fun l hl => hno l ?_
        rcases List.mem_cons.1 hl with rfl | hl
        · exact List.mem_append_left _ List.mem_cons_self
        · rcases List.mem_append.1 hl with h | h
          · exact List.mem_append_left _
              (List.mem_cons_of_mem _ (List.mem_cons_of_mem _ (List.mem_append_left _ h)))
          · exact List.mem_append_right _ (List.mem_append_left _ h)
      · refine hTc.mono fun l hl => hno l ?_
        rcases List.mem_cons.1 hl with rfl | hl
        · exact List.mem_append_left _ (List.mem_cons_of_mem _ List.mem_cons_self)
        · rcases List.mem_append.1 hl with h | h
          · exact List.mem_append_left _
              (List.mem_cons_of_mem _ (List.mem_cons_of_mem _ (List.mem_append_right _ h)))
          · exact List.mem_append_right _ (List.mem_append_right _ h)
    have habs : ∀ τ, sumPairs dim kids.binds
        (fun τ => prodL ((T :: Tc :: kids.leaves).map (fun g => g τ))) τ =
        sumPairs dim kids.pairs (fun ρ => T ρ * Tc ρ) τ := by
      intro τ
      rw [← ihk hk hndk (· ∉ kids.inner) (fun ρ => T ρ * Tc ρ) hf (fun l hl h => h hl) τ]
      exact sumPairs_congr dim _ (fun ρ => by simp only [List.map_cons, prodL, mul_assoc]) τ
    show netValue dim (phys ++ kids.binds) (T :: Tc :: kids.leaves) σ = _
    unfold netValue
    rw [sumPairs_append, sumPairs_congr dim phys habs, ← sumPairs_append]
    exact hiso σ h1 h2
  · intro _ _ S f _ _ σ
    simp [Kids.binds, Kids.leaves, Kids.pairs, sumPairs, prodL]
  · intro d d' s rest ihs ihr hc hnd S f hf hS σ
    obtain ⟨hd1, hd2, hs, hr⟩ := hc
    simp only [Kids.labels, List.nodup_cons, List.mem_cons, List.mem_append, not_or, List.nodup_append] at hnd
    obtain ⟨⟨hdd', hds, hdr⟩, ⟨hd's, hd'r⟩, hnds, hndr, hsr⟩ := hnd
    have hSs : ∀ l ∈ s.labels, ¬ S l := fun l hl => hS l (by simp [Kids.inner, hl])
    have hSr : ∀ l ∈ rest.inner, ¬ S l := fun l hl => hS l (by simp [Kids.inner, hl])
    set g : Asg L → R := sumPairs dim rest.pairs f with hgdef
    have hg : DependsOn S g := (sumPairs_dependsOn dim rest.pairs hf).mono (fun _ h => h.1)
    have hPs : DependsOn (· ∈ s.labels) (fun τ => prodL (s.leaves.map (fun g => g τ))) :=
      prodL_dependsOn s.leaves (Sub.leaves_local dim s hs)
    -- the sum over everything inside
    have hin : ∀ τ, sumPairs dim (s.binds ++ rest.binds)
        (fun τ => f τ * prodL ((s.leaves ++ rest.leaves).map (fun g => g τ))) τ =
        netValue dim s.binds s.leaves τ * g τ := by
      intro τ
      rw [sumPairs_append]
      have h1 : ∀ ρ, sumPairs dim rest.binds
          (fun τ => f τ * prodL ((s.leaves ++ rest.leaves).map (fun g => g τ))) ρ =
          prodL (s.leaves.map (fun g => g ρ)) * g ρ := by
        intro ρ
        rw [hgdef, ← ihr hr hndr S f hf hSr ρ,
          ← sumPairs_mul_left dim rest.binds _ _ hPs
            (fun l hl hls => hsr l hls l (Kids.binds_sub rest l hl) rfl) ρ]
        apply sumPairs_congr
        intro ρ'
        rw [List.map_append, prodL_append]
        ring
      rw [sumPairs_congr dim s.binds h1]
      exact sumPairs_mul_right dim s.binds _ g hg (fun l hl => hSs l (Sub.binds_sub s l hl)) τ
    -- what is left is the identity matrix `netValue dim s.binds s.leaves` on the bond `d — s.u s.u' — d'`
    have hne1 : s.u ≠ d' := fun e => hd's (e ▸ s.u_mem_labels)
    simp only [Kids.binds, Kids.leaves, Kids.pairs]
    show sumPairs dim ([(d, s.u), (d', s.u')] ++ (s.binds ++ rest.binds)) _ σ =
      sumPairs dim ([(d, d')] ++ rest.pairs) f σ
    rw [sumPairs_append, sumPairs_congr dim _ hin, sumPairs_append]
    refine ((netValue_pair dim _ _ g σ).symm.trans ((netValue_flip dim [(d, s.u)] [] d' s.u' hd2 _ σ).trans
      (netValue_delta dim [] _ [g] d d' s.u s.u' (List.forall_mem_singleton.2 hg) (hSs _ s.u_mem_labels)
        (hSs _ s.u'_mem_labels) (Sub.u_ne_u' hnds) hne1 (hs.dim_u'.trans hd1.symm)
        (fun τ h1 h2 => ihs hs hnds τ (hd1 ▸ h1) (by rw [hs.dim_u', ← hd1]; exact h2)) σ))).trans ?_
    exact sumPairs_congr dim _ (fun τ => by simp only [List.map_cons, List.map_nil, prodL, mul_one]; rfl) σ

/-- **The contracted doubled sub-tree is the identity on its bond toward the centre.** -/
theorem Sub.env_eq_delta (dim : L → Nat) : ∀ (s : Sub L R), s.Canon dim → s.labels.Nodup →
    ∀ σ : Asg L, σ s.u < dim s.u → σ s.u' < dim s.u' →
      netValue dim s.binds s.leaves σ = if σ s.u = σ s.u' then 1 else 0 :=
  (absorb_both dim).1

/-- **Canonical sub-trees drop out of every sum they are linked into.**  `f` is anything that does not read
labels inside the sub-trees (the product of the node's own two tensors, or of the centre's): summing
`f · Π (all tensors of the sub-trees)` over the whole binding record of the sub-trees and their bonds to the
node equals summing `f` alone over one common index per pair `(d, d')`. -/
theorem Kids.absorb (dim : L → Nat) : ∀ (k : Kids L R), k.Canon dim → k.labels.Nodup →
    ∀ (S : L → Prop) (f : Asg L → R), DependsOn S f → (∀ l ∈ k.inner, ¬ S l) → ∀ σ : Asg L,
      sumPairs dim k.binds (fun τ => f τ * prodL (k.leaves.map (fun g => g τ))) σ = sumPairs dim k.pairs f σ :=
  (absorb_both dim).2

/-- **Canonical sub-trees drop out of every network they are linked into.**  `X`, `B`: any tensors that read
nothing inside the sub-trees `k` and any binding record among them. -/
theorem Kids.absorb_net (dim : L → Nat) (k : Kids L R) (hk : k.Canon dim) (hnd : k.labels.Nodup)
    (B : List (L × L)) (X : List (Asg L → R)) (hX : ∀ f ∈ X, DependsOn (· ∉ k.inner) f) (σ : Asg L) :
    netValue dim (B ++ k.binds) (X ++ k.leaves) σ = netValue dim (B ++ k.pairs) X σ := by
  unfold netValue
  rw [sumPairs_append, sumPairs_append]
  refine sumPairs_congr dim B (fun τ => ?_) σ
  rw [← Kids.absorb dim k hk hnd (· ∉ k.inner) _ (prodL_dependsOn X hX) (fun l hl h => h hl) τ]
  exact sumPairs_congr dim _ (fun ρ => by rw [List.map_append, prodL_append]) τ

/-- the identity on the centre's bonds: `Π_k δ(u_k, u_k')` -/
def deltaProd (ups : List (L × L)) (σ : Asg L) : R :=
  prodL (ups.map (fun p => if σ p.1 = σ p.2 then (1 : R) else 0))

/-- **The contracted environment of the centre is the identity.**  `k`: the doubled sub-trees around the
centre, every node canonical toward the centre.  The environment — the sum, over one common index per pair
of open legs and per bond NOT at the centre, of the product of all tensors and conjugated tensors of all
non-centre nodes — as a function of the indices `(u_k, u_k')` of the centre's bonds is `Π_k δ(u_k, u_k')`. -/
theorem environment_is_identity (dim : L → Nat) : ∀ (k : Kids L R), k.Canon dim → k.labels.Nodup →
    ∀ σ : Asg L, (∀ p ∈ k.ups, σ p.1 < dim p.1 ∧ σ p.2 < dim p.2) →
      netValue dim k.inBinds k.leaves σ = deltaProd k.ups σ := by
  intro k hc hnd σ hr
  induction k using Kids.induct with
  | nil => simp [Kids.inBinds, Kids.leaves, Kids.ups, netValue, sumPairs, prodL, deltaProd]
  | cons d d' s rest ih =>
    obtain ⟨_, _, hs, hrc⟩ := hc
    simp only [Kids.labels, List.nodup_cons, List.mem_cons, List.mem_append, not_or, List.nodup_append] at hnd
    obtain ⟨_, _, hnds, hndr, hsr⟩ := hnd
    have h0 := hr (s.u, s.u') (by simp [Kids.ups])
    simp only [Kids.inBinds, Kids.leaves, Kids.ups, deltaProd, List.map_cons, prodL]
    rw [netValue_append dim s.binds rest.inBinds s.leaves rest.leaves (Sub.leaves_local dim s hs)
      (Kids.leaves_local dim rest hrc)
      (fun l hl hi => hsr l (Sub.binds_sub s l hl) l (Kids.inner_sub rest l hi) rfl)
      (fun l hl hi => hsr l hi l (Kids.inner_sub rest l (Kids.inBinds_sub rest l hl)) rfl) σ,
      Sub.env_eq_delta dim s hs hnds σ h0.1 h0.2,
      ih hrc hndr (fun p hp => hr p (by simp [Kids.ups, hp]))]
    rfl

/-- the ket half of the environment: all ket tensors of the non-centre nodes contracted over the ket bonds
that are not at the centre — `E[phys; u⃗]` -/
def Kids.E (dim : L → Nat) (k : Kids L R) : Asg L → R := netValue dim k.ketIn k.ketLeaves
/-- the bra half: `Ec[phys'; u⃗']` -/
def Kids.Ec (dim : L → Nat) (k : Kids L R) : Asg L → R := netValue dim k.braIn k.braLeaves

theorem Kids.E_dependsOn (dim : L → Nat) (k : Kids L R) (hc : k.Canon dim) :
    DependsOn (· ∈ k.ketInner) (k.E dim) :=
  netValue_dependsOn dim _ _ (Kids.ketLeaves_local dim k hc)

theorem Kids.Ec_dependsOn (dim : L → Nat) (k : Kids L R) (hc : k.Canon dim) :
    DependsOn (· ∈ k.braInner) (k.Ec dim) :=
  netValue_dependsOn dim _ _ (Kids.braLeaves_local dim k hc)

theorem Kids.env_eq_E_Ec (dim : L → Nat) (k : Kids L R) (hc : k.Canon dim) (hnd : k.labels.Nodup) (σ : Asg L) :
    netValue dim k.inBinds k.leaves σ = sumPairs dim k.physAll (fun τ => k.E dim τ * k.Ec dim τ) σ := by
  rw [netValue_perm dim (Kids.inBinds_split k) (Kids.leaves_split k) (Kids.inBinds_nodup hnd) σ]
  unfold netValue
  rw [sumPairs_append]
  apply sumPairs_congr
  intro τ
  exact netValue_append dim k.ketIn k.braIn k.ketLeaves k.braLeaves (Kids.ketLeaves_local dim k hc)
    (Kids.braLeaves_local dim k hc)
    (fun l hl hb => Kids.ket_bra_disjoint hnd l (Kids.ketIn_sub k l hl) hb)
    (fun l hl hk => Kids.ket_bra_disjoint hnd l hk (Kids.braIn_sub k l hl)) τ

/-- **The embedding of the centre tensor is an isometry (index form).**  `E[phys; u⃗]`: all ket tensors of the
non-centre nodes contracted over their own bonds — the map that embeds the centre tensor into the full
state; `Ec[phys'; u⃗']`: the same for the conjugated copies.  If every non-centre node is canonical toward the
centre, summing `E · Ec` over one common index per pair of open legs gives `Π_k δ(u_k, u_k')`:
`Σ_phys conj(E[phys; r]) · E[phys; c] = δ_rc`. -/
theorem embedding_isometry_of_canonical (dim : L → Nat) (k : Kids L R) (hc : k.Canon dim)
    (hnd : k.labels.Nodup) (σ : Asg L) (hr : ∀ p ∈ k.ups, σ p.1 < dim p.1 ∧ σ p.2 < dim p.2) :
    sumPairs dim k.physAll (fun τ => k.E dim τ * k.Ec dim τ) σ = deltaProd k.ups σ := by
  rw [← Kids.env_eq_E_Ec dim k hc hnd σ]
  exact environment_is_identity dim k hc hnd σ hr

/-- the centre: its tensor `C`, the conjugated copy `Cc`, the pairs of its open legs, the doubled sub-trees
around it -/
structure Centre (L R : Type) where
  C : Asg L → R
  Cc : Asg L → R
  phys : List (L × L)
  kids : Kids L R

namespace Centre
/-- all labels of the norm network -/
def labels (c : Centre L R) : List L := Expr.pairLegs c.phys ++ c.kids.labels
/-- the binding record of the norm network `⟨ψ|ψ⟩` -/
def normBinds (c : Centre L R) : List (L × L) := c.phys ++ c.kids.binds
/-- all tensors of the norm network -/
def normLeaves (c : Centre L R) : List (Asg L → R) := c.C :: c.Cc :: c.kids.leaves
/-- canonical form with centre `c`: the centre's tensors read only their own legs, every other node is
canonical toward the centre -/
def Canon (dim : L → Nat) (c : Centre L R) : Prop :=
  DependsOn (· ∈ c.phys.map Prod.fst ++ c.kids.kd) c.C ∧
  DependsOn (· ∈ c.phys.map Prod.snd ++ c.kids.bd) c.Cc ∧ c.kids.Canon dim
end Centre

theorem Centre.labels_perm (c : Centre L R) : c.labels.Perm (Expr.pairLegs c.normBinds) :=
  ((Kids.labels_perm c.kids).append_left _).trans (Expr.pairLegs_append _ _).symm

theorem Centre.Canon.reads {dim : L → Nat} {c : Centre L R} (hc : c.Canon dim) :
    ∀ f ∈ [c.C, c.Cc], DependsOn (· ∈ Expr.pairLegs c.phys ++ (c.kids.kd ++ c.kids.bd)) f := by
  intro f hf
  rcases List.mem_cons.1 hf with rfl | hf
  · exact hc.1.mono fun l hl => (List.mem_append.1 hl).elim
      (fun h => List.mem_append_left _ (List.mem_append_left _ h))
      (fun h => List.mem_append_right _ (List.mem_append_left _ h))
  · obtain rfl := List.mem_singleton.1 hf
    exact hc.2.1.mono fun l hl => (List.mem_append.1 hl).elim
      (fun h => List.mem_append_left _ (List.mem_append_right _ h))
      (fun h => List.mem_append_right _ (List.mem_append_right _ h))

/-- **The norm computed from the centre tensor alone equals the full norm.**  For a network in canonical
form with centre `c` the norm network `⟨ψ|ψ⟩` — all tensors and conjugated tensors of all nodes, summed over
every bond of both copies and every pair of open legs — has the value of `Σ C · Cc` over one common index
per leg of the centre tensor. -/
theorem centre_norm_eq_full_norm_value (dim : L → Nat) (c : Centre L R) (hc : c.Canon dim)
    (hnd : c.labels.Nodup) (σ : Asg L) :
    netValue dim c.normBinds c.normLeaves σ = netValue dim (c.phys ++ c.kids.pairs) [c.C, c.Cc] σ :=
  Kids.absorb_net dim c.kids hc.2.2 (List.nodup_append.1 hnd).2.1 c.phys [c.C, c.Cc]
    (fun f hf => (hc.reads f hf).mono (Kids.outside_not_inner hnd)) σ

end Ptn.Ein
