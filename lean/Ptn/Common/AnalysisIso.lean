/-
Abstract linear algebra, part L1 (isometries) and L6 (rank bound).

Everything is stated for matrices over a commutative star ring `R` with arbitrary finite index
types; the instances used by the property proofs are `R = ℂ` and index types `Fin n`.
An *isometry* is a (possibly rectangular) matrix `A` with `Aᴴ * A = 1`.
-/
import Mathlib.Data.Complex.Basic
import Mathlib.Data.Matrix.ColumnRowPartitioned
import Mathlib.LinearAlgebra.Matrix.Rank

namespace Ptn.Analysis

open Matrix
open scoped Kronecker

section Iso

variable {R : Type*} [CommRing R] [StarRing R]
variable {l m n p q : Type*}

/-- **L1.** The product of two isometries is an isometry.
Used by C03 (canonical form: contracting orthogonalised tensors along a path keeps the
environment an isometry). -/
theorem isometry_mul [Fintype l] [Fintype m] [DecidableEq m] [DecidableEq n]
    (A : Matrix l m R) (B : Matrix m n R)
    (hA : Aᴴ * A = 1) (hB : Bᴴ * B = 1) : (A * B)ᴴ * (A * B) = 1 := by
  rw [conjTranspose_mul, Matrix.mul_assoc, ← Matrix.mul_assoc Aᴴ, hA, Matrix.one_mul, hB]

/-- **L1.** The Kronecker product of two isometries is an isometry.
Used by C03/C06: the environment of a node is the tensor product of the isometries of the
separate subtrees hanging off it. -/
theorem isometry_kronecker [Fintype l] [Fintype p] [DecidableEq m] [DecidableEq q]
    (A : Matrix l m R) (B : Matrix p q R)
    (hA : Aᴴ * A = 1) (hB : Bᴴ * B = 1) : (A ⊗ₖ B)ᴴ * (A ⊗ₖ B) = 1 := by
  rw [conjTranspose_kronecker, ← mul_kronecker_mul, hA, hB, one_kronecker_one]

/-- **L1.** An isometry preserves the (squared) norm of every vector: the norm obtained from
the orthogonality-centre tensor alone equals the norm of the full state vector (C03, C06, C10, C20). -/
theorem isometry_norm [Fintype l] [Fintype m] [DecidableEq m]
    (A : Matrix l m R) (hA : Aᴴ * A = 1) (v : m → R) :
    star (A *ᵥ v) ⬝ᵥ (A *ᵥ v) = star v ⬝ᵥ v := by
  rw [star_mulVec, dotProduct_mulVec, vecMul_vecMul, hA, vecMul_one]

/-- **L1.** More generally an isometry preserves all inner products. -/
theorem isometry_inner [Fintype l] [Fintype m] [DecidableEq m]
    (A : Matrix l m R) (hA : Aᴴ * A = 1) (v w : m → R) :
    star (A *ᵥ v) ⬝ᵥ (A *ᵥ w) = star v ⬝ᵥ w := by
  rw [star_mulVec, dotProduct_mulVec, vecMul_vecMul, hA, vecMul_one]

omit [StarRing R] in
/-- **L1 (KEEP split mode), product part.** Zero-padding the columns of `Q` and the rows of `R`
does not change the product: `[Q 0] * [R; 0] = Q * R`.  Holds for arbitrary `Q`, `R`
(`SplitMode.KEEP` pads the factors back to the original bond dimension). -/
theorem pad_mul_pad [Fintype m] [Fintype p]
    (Q : Matrix l m R) (T : Matrix m n R) :
    fromCols Q (0 : Matrix l p R) * fromRows T (0 : Matrix p n R) = Q * T := by
  rw [fromCols_mul_fromRows, Matrix.zero_mul, add_zero]

/-- The Gram matrix of a zero-padded isometry is the block projector `diag(1, 0)`. -/
theorem pad_gram [Fintype l] [DecidableEq m]
    (Q : Matrix l m R) (hQ : Qᴴ * Q = 1) :
    (fromCols Q (0 : Matrix l p R))ᴴ * fromCols Q (0 : Matrix l p R)
      = fromBlocks 1 0 0 0 := by
  rw [conjTranspose_fromCols_eq_fromRows_conjTranspose, fromRows_mul_fromCols, hQ]
  simp

/-- **L1 (KEEP split mode).** If `Q` is an isometry then for the zero-padded factors
`Q' = [Q 0]`, `R' = [R; 0]`: `Q' * R' = Q * R`, and `P = Q'ᴴ * Q'` is an orthogonal projector
(`P * P = P`, `Pᴴ = P`), i.e. `Q'` is a partial isometry. Used by C03 (`keep_mode_padding`); the
projector is the `P` of the partial-isometry version of the local step (`local_flow_norm_partial`). -/
theorem partial_isometry_pad [Fintype l] [Fintype m] [Fintype p] [DecidableEq m]
    (Q : Matrix l m R) (T : Matrix m n R) (hQ : Qᴴ * Q = 1) :
    fromCols Q (0 : Matrix l p R) * fromRows T (0 : Matrix p n R) = Q * T ∧
    ((fromCols Q (0 : Matrix l p R))ᴴ * fromCols Q (0 : Matrix l p R)) *
      ((fromCols Q (0 : Matrix l p R))ᴴ * fromCols Q (0 : Matrix l p R))
        = (fromCols Q (0 : Matrix l p R))ᴴ * fromCols Q (0 : Matrix l p R) ∧
    ((fromCols Q (0 : Matrix l p R))ᴴ * fromCols Q (0 : Matrix l p R))ᴴ
        = (fromCols Q (0 : Matrix l p R))ᴴ * fromCols Q (0 : Matrix l p R) := by
  refine ⟨pad_mul_pad Q T, ?_, ?_⟩
  · rw [pad_gram Q hQ, fromBlocks_multiply]
    simp
  · rw [conjTranspose_mul, conjTranspose_conjTranspose]

/-- A padded isometry is a partial isometry in the usual sense `Q' * Q'ᴴ * Q' = Q'`. -/
theorem partial_isometry_pad_mul [Fintype l] [Fintype m] [Fintype p] [DecidableEq m]
    (Q : Matrix l m R) (hQ : Qᴴ * Q = 1) :
    fromCols Q (0 : Matrix l p R) * ((fromCols Q (0 : Matrix l p R))ᴴ *
      fromCols Q (0 : Matrix l p R)) = fromCols Q (0 : Matrix l p R) := by
  rw [pad_gram Q hQ, fromCols_mul_fromBlocks]
  simp

end Iso

section Rank

variable {F : Type*} [Field F]
variable {m k n : Type*} [Fintype k] [Fintype n]

/-- **L6.** The rank of a product is bounded by the inner dimension: any exact TTNO has bond
dimension at least the operator Schmidt rank across that bond, because a bond of dimension `k`
factorises the matricised operator as `A * B` with inner dimension `k`. -/
theorem rank_mul_le_inner (A : Matrix m k F) (B : Matrix k n F) :
    (A * B).rank ≤ Fintype.card k :=
  (rank_mul_le_left A B).trans (rank_le_card_width A)

/-- **L6.** The rank of a product is bounded by the rank of either factor. -/
theorem rank_mul_le_min (A : Matrix m k F) (B : Matrix k n F) :
    (A * B).rank ≤ min A.rank B.rank :=
  rank_mul_le A B

end Rank

/-! ### Non-vacuity: concrete instances over `ℂ` -/

section Examples

/-- The `2 × 1` isometry `e₀`. -/
def e0 : Matrix (Fin 2) (Fin 1) ℂ := !![1; 0]

/-- A `2 × 2` unitary which is not the identity: the swap. -/
def swap2 : Matrix (Fin 2) (Fin 2) ℂ := !![0, 1; 1, 0]

theorem e0_isometry : e0ᴴ * e0 = 1 := by
  ext i j
  fin_cases i; fin_cases j
  simp [e0, Matrix.mul_apply, Fin.sum_univ_two]

theorem swap2_isometry : swap2ᴴ * swap2 = 1 := by
  rw [← Matrix.ext_iff]
  simp [Fin.forall_fin_two, swap2, Matrix.mul_apply, Fin.sum_univ_two]

/-- `e0` is a genuine (non-square) isometry: `e0 * e0ᴴ ≠ 1`. -/
example : e0 * e0ᴴ ≠ 1 := by
  intro h
  have := congrFun (congrFun h 1) 1
  simp [e0, Matrix.mul_apply] at this

example : (swap2 * e0)ᴴ * (swap2 * e0) = 1 :=
  isometry_mul swap2 e0 swap2_isometry e0_isometry

example : (swap2 ⊗ₖ e0)ᴴ * (swap2 ⊗ₖ e0) = 1 :=
  isometry_kronecker swap2 e0 swap2_isometry e0_isometry

example (v : Fin 1 → ℂ) : star (e0 *ᵥ v) ⬝ᵥ (e0 *ᵥ v) = star v ⬝ᵥ v :=
  isometry_norm e0 e0_isometry v

example (T : Matrix (Fin 1) (Fin 3) ℂ) :
    fromCols e0 (0 : Matrix (Fin 2) (Fin 1) ℂ) * fromRows T (0 : Matrix (Fin 1) (Fin 3) ℂ)
      = e0 * T :=
  (partial_isometry_pad e0 T e0_isometry).1

/-- The projector of the padded `e0` is not the identity (so the padded matrix is a *proper*
partial isometry). -/
example : (fromCols e0 (0 : Matrix (Fin 2) (Fin 1) ℂ))ᴴ * fromCols e0 (0 : Matrix (Fin 2) (Fin 1) ℂ)
    ≠ 1 := by
  rw [pad_gram e0 e0_isometry]
  intro h
  have := congrFun (congrFun h (Sum.inr 0)) (Sum.inr 0)
  simp at this

/-- The rank bound is attained: `e0 * e0ᴴ` has inner dimension `1`. -/
example : (e0 * e0ᴴ).rank ≤ 1 := by
  simpa using rank_mul_le_inner e0 e0ᴴ

end Examples

end Ptn.Analysis
