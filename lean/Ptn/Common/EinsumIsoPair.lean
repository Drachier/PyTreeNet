import Ptn.Common.EinsumIso
/-! The doubled tree around a MERGED PAIR of neighbouring nodes `a`, `b` (two-site update).

Seen from `a`, the node `b` is one of the children (at any position of the child list): the family of doubled
sub-trees around `a` is `pair_kidsAppend k1 (cons d d' (node Tb Tbc u u' physb kb) k2)`.  The family around the
merged pair is `pair_merged k1 k2 kb = (k1 ++ k2) ++ kb`: the children of `a` other than `b` together with the
children of `b`.

`pair_centre_norm`: if the sub-trees off `a` (other than `b`) and off `b` are canonical toward `a` resp. `b`, the norm
network equals the network of the four tensors of the pair alone (`C`, `Cc`, `Tb`, `Tbc` over the shared bond in both copies
and one common index per remaining leg: the merged two-site tensor against its conjugate).  `b` need NOT be canonical
toward `a`.  (Names carry `pair_`: BUILDERS.md, unique names.) -/
namespace Ptn.Ein

variable {L : Type} [DecidableEq L] {R : Type} [CommSemiring R]

/-- concatenation of two families of doubled sub-trees -/
def pair_kidsAppend : Kids L R → Kids L R → Kids L R
  | .nil, k2 => k2
  | .cons d d' s rest, k2 => .cons d d' s (pair_kidsAppend rest k2)

omit [DecidableEq L] [CommSemiring R] in
theorem pair_append_labels : ∀ k1 k2 : Kids L R, (pair_kidsAppend k1 k2).labels = k1.labels ++ k2.labels := by
  intro k1 k2
  induction k1 using Kids.induct with
  | nil => simp [pair_kidsAppend, Kids.labels]
  | cons d d' s rest ih => simp [pair_kidsAppend, Kids.labels, ih]

omit [DecidableEq L] [CommSemiring R] in
theorem pair_append_binds : ∀ k1 k2 : Kids L R, (pair_kidsAppend k1 k2).binds = k1.binds ++ k2.binds := by
  intro k1 k2
  induction k1 using Kids.induct with
  | nil => simp [pair_kidsAppend, Kids.binds]
  | cons d d' s rest ih => simp [pair_kidsAppend, Kids.binds, ih]

omit [DecidableEq L] [CommSemiring R] in
theorem pair_append_leaves : ∀ k1 k2 : Kids L R, (pair_kidsAppend k1 k2).leaves = k1.leaves ++ k2.leaves := by
  intro k1 k2
  induction k1 using Kids.induct with
  | nil => simp [pair_kidsAppend, Kids.leaves]
  | cons d d' s rest ih => simp [pair_kidsAppend, Kids.leaves, ih]

set_option linter.unusedSectionVars false in
theorem pair_append_pairs : ∀ k1 k2 : Kids L R, (pair_kidsAppend k1 k2).pairs = k1.pairs ++ k2.pairs := by
  intro k1 k2
  induction k1 using Kids.induct with
  | nil => simp [pair_kidsAppend, Kids.pairs]
  | cons d d' s rest ih => simp [pair_kidsAppend, Kids.pairs, ih]

omit [DecidableEq L] [CommSemiring R] in
theorem pair_append_kd : ∀ k1 k2 : Kids L R, (pair_kidsAppend k1 k2).kd = k1.kd ++ k2.kd := by
  intro k1 k2
  induction k1 using Kids.induct with
  | nil => simp [pair_kidsAppend, Kids.kd]
  | cons d d' s rest ih => simp [pair_kidsAppend, Kids.kd, ih]

omit [DecidableEq L] [CommSemiring R] in
theorem pair_append_bd : ∀ k1 k2 : Kids L R, (pair_kidsAppend k1 k2).bd = k1.bd ++ k2.bd := by
  intro k1 k2
  induction k1 using Kids.induct with
  | nil => simp [pair_kidsAppend, Kids.bd]
  | cons d d' s rest ih => simp [pair_kidsAppend, Kids.bd, ih]

set_option linter.unusedSectionVars false in
theorem pair_append_inner : ∀ k1 k2 : Kids L R, (pair_kidsAppend k1 k2).inner = k1.inner ++ k2.inner := by
  intro k1 k2
  induction k1 using Kids.induct with
  | nil => simp [pair_kidsAppend, Kids.inner]
  | cons d d' s rest ih => simp [pair_kidsAppend, Kids.inner, ih]

set_option linter.unusedSectionVars false in
theorem pair_append_ups : ∀ k1 k2 : Kids L R, (pair_kidsAppend k1 k2).ups = k1.ups ++ k2.ups := by
  intro k1 k2
  induction k1 using Kids.induct with
  | nil => simp [pair_kidsAppend, Kids.ups]
  | cons d d' s rest ih => simp [pair_kidsAppend, Kids.ups, ih]

set_option linter.unusedSectionVars false in
theorem pair_append_physAll : ∀ k1 k2 : Kids L R, (pair_kidsAppend k1 k2).physAll = k1.physAll ++ k2.physAll := by
  intro k1 k2
  induction k1 using Kids.induct with
  | nil => simp [pair_kidsAppend, Kids.physAll]
  | cons d d' s rest ih => simp [pair_kidsAppend, Kids.physAll, ih]

theorem pair_kids_append_canon_iff (dim : L → Nat) : ∀ k1 k2 : Kids L R,
    (pair_kidsAppend k1 k2).Canon dim ↔ k1.Canon dim ∧ k2.Canon dim := by
  intro k1 k2
  induction k1 using Kids.induct with
  | nil => simp [pair_kidsAppend, Kids.Canon]
  | cons d d' s rest ih =>
    simp only [pair_kidsAppend, Kids.Canon, ih, and_assoc]

omit [DecidableEq L] [CommSemiring R] in
theorem pair_kids_append_labels_nodup (k1 k2 : Kids L R) :
    (pair_kidsAppend k1 k2).labels.Nodup ↔
      k1.labels.Nodup ∧ k2.labels.Nodup ∧ ∀ l ∈ k1.labels, l ∉ k2.labels := by
  rw [pair_append_labels, List.nodup_append]
  constructor
  · rintro ⟨h1, h2, h3⟩
    exact ⟨h1, h2, fun l hl hl2 => h3 l hl l hl2 rfl⟩
  · rintro ⟨h1, h2, h3⟩
    exact ⟨h1, h2, fun l hl m hm e => h3 l hl (e ▸ hm)⟩

/-- **Concatenation of two disjoint canonical families of doubled sub-trees**: canonical, labels distinct. -/
theorem pair_kids_append_canon (dim : L → Nat) (k1 k2 : Kids L R) (h1 : k1.Canon dim) (h2 : k2.Canon dim)
    (n1 : k1.labels.Nodup) (n2 : k2.labels.Nodup) (hdis : ∀ l ∈ k1.labels, l ∉ k2.labels) :
    (pair_kidsAppend k1 k2).Canon dim ∧ (pair_kidsAppend k1 k2).labels.Nodup :=
  ⟨(pair_kids_append_canon_iff dim k1 k2).2 ⟨h1, h2⟩, (pair_kids_append_labels_nodup k1 k2).2 ⟨n1, n2, hdis⟩⟩

/-- the sub-trees around `a` when its neighbour `b` (tensors `Tb`, `Tbc`, bond ends `u`, `u'`, open legs `physb`,
children `kb`) sits between the children `k1` and `k2`; `d`, `d'`: the legs of `a` facing `b` -/
def pair_around (k1 k2 : Kids L R) (d d' : L) (Tb Tbc : Asg L → R) (u u' : L) (physb : List (L × L))
    (kb : Kids L R) : Kids L R :=
  pair_kidsAppend k1 (.cons d d' (.node Tb Tbc u u' physb kb) k2)

/-- the sub-trees around the merged pair: the children of `a` other than `b`, then the children of `b` -/
def pair_merged (k1 k2 kb : Kids L R) : Kids L R := pair_kidsAppend (pair_kidsAppend k1 k2) kb

omit [CommSemiring R] in
theorem pair_around_labels_perm (k1 k2 : Kids L R) (d d' : L) (Tb Tbc : Asg L → R) (u u' : L)
    (physb : List (L × L)) (kb : Kids L R) :
    (pair_around k1 k2 d d' Tb Tbc u u' physb kb).labels.Perm
      ((Expr.pairLegs physb ++ [d, d', u, u']) ++ (pair_merged k1 k2 kb).labels) := by
  rw [List.perm_iff_count]
  intro x
  simp only [pair_around, pair_merged, pair_append_labels, Kids.labels, Sub.labels, List.count_append,
    List.count_cons, List.count_nil]
  omega

omit [CommSemiring R] in
theorem pair_around_binds_perm (k1 k2 : Kids L R) (d d' : L) (Tb Tbc : Asg L → R) (u u' : L)
    (physb : List (L × L)) (kb : Kids L R) :
    (pair_around k1 k2 d d' Tb Tbc u u' physb kb).binds.Perm
      ((physb ++ [(d, u), (d', u')]) ++ (pair_merged k1 k2 kb).binds) := by
  rw [List.perm_iff_count]
  intro x
  simp only [pair_around, pair_merged, pair_append_binds, Kids.binds, Sub.binds, Sub.u, Sub.u',
    List.count_append, List.count_cons, List.count_nil]
  omega

omit [DecidableEq L] [CommSemiring R] in
theorem pair_around_leaves_perm (k1 k2 : Kids L R) (d d' : L) (Tb Tbc : Asg L → R) (u u' : L)
    (physb : List (L × L)) (kb : Kids L R) :
    (pair_around k1 k2 d d' Tb Tbc u u' physb kb).leaves.Perm
      (Tb :: Tbc :: (pair_merged k1 k2 kb).leaves) := by
  simp only [pair_around, pair_merged, pair_append_leaves, Kids.leaves, Sub.leaves, List.cons_append]
  refine List.perm_append_comm.trans ?_
  simp only [List.cons_append]
  refine List.Perm.cons _ (List.Perm.cons _ ?_)
  rw [List.append_assoc]
  exact List.perm_append_comm.trans (List.Perm.append_right _ List.perm_append_comm)

theorem pair_merged_canon (dim : L → Nat) (k1 k2 kb : Kids L R) (h1 : k1.Canon dim) (h2 : k2.Canon dim)
    (hb : kb.Canon dim) : (pair_merged k1 k2 kb).Canon dim :=
  (pair_kids_append_canon_iff dim _ _).2 ⟨(pair_kids_append_canon_iff dim _ _).2 ⟨h1, h2⟩, hb⟩

/-- `Kids.Canon` of the family around `a` gives `Kids.Canon` of the merged family (the record of `b` is dropped) -/
theorem pair_merged_canon_of_around (dim : L → Nat) (k1 k2 : Kids L R) (d d' : L) (Tb Tbc : Asg L → R) (u u' : L)
    (physb : List (L × L)) (kb : Kids L R) (h : (pair_around k1 k2 d d' Tb Tbc u u' physb kb).Canon dim) :
    (pair_merged k1 k2 kb).Canon dim := by
  obtain ⟨h1, h2⟩ := (pair_kids_append_canon_iff dim _ _).1 h
  obtain ⟨_, _, hs, h3⟩ := h2
  exact pair_merged_canon dim k1 k2 kb h1 h3 hs.2.2.2.2

set_option linter.unusedSectionVars false in
theorem pair_merged_labels_nodup (k1 k2 : Kids L R) (d d' : L) (Tb Tbc : Asg L → R) (u u' : L)
    (physb : List (L × L)) (kb : Kids L R) (h : (pair_around k1 k2 d d' Tb Tbc u u' physb kb).labels.Nodup) :
    (pair_merged k1 k2 kb).labels.Nodup :=
  (List.nodup_append.1 ((pair_around_labels_perm k1 k2 d d' Tb Tbc u u' physb kb).nodup_iff.1 h)).2.1

/-- **The norm from the merged two-site tensor alone.**  Centre `a` (tensors `C`, `Cc`, open legs `phys`), its
neighbour `b` (tensors `Tb`, `Tbc`, open legs `physb`, bond ends `u`, `u'` facing the legs `d`, `d'` of `a`) at any
position among the children of `a`.  If the sub-trees off `a` other than `b` (`k1`, `k2`) and the sub-trees off `b`
(`kb`) are canonical toward `a` resp. `b`, all four tensors read only their own legs and all labels are distinct,
then the norm network `⟨ψ|ψ⟩` has the value of the network of the pair alone: `C · Tb · Cc · Tbc` summed over the
shared bond (both copies) and one common index per open leg and per outer bond of the pair - the norm of the merged
two-site tensor.  `b` need not be an isometry: the statement holds for the evolved pair too. -/
theorem pair_centre_norm (dim : L → Nat) (C Cc : Asg L → R) (phys : List (L × L)) (k1 k2 : Kids L R) (d d' : L)
    (Tb Tbc : Asg L → R) (u u' : L) (physb : List (L × L)) (kb : Kids L R)
    (hC : DependsOn (· ∈ phys.map Prod.fst ++ (pair_around k1 k2 d d' Tb Tbc u u' physb kb).kd) C)
    (hCc : DependsOn (· ∈ phys.map Prod.snd ++ (pair_around k1 k2 d d' Tb Tbc u u' physb kb).bd) Cc)
    (hT : DependsOn (· ∈ u :: (physb.map Prod.fst ++ kb.kd)) Tb)
    (hTc : DependsOn (· ∈ u' :: (physb.map Prod.snd ++ kb.bd)) Tbc)
    (h1 : k1.Canon dim) (h2 : k2.Canon dim) (hb : kb.Canon dim)
    (hnd : (Centre.mk C Cc phys (pair_around k1 k2 d d' Tb Tbc u u' physb kb)).labels.Nodup) (σ : Asg L) :
    netValue dim (Centre.mk C Cc phys (pair_around k1 k2 d d' Tb Tbc u u' physb kb)).normBinds
        (Centre.mk C Cc phys (pair_around k1 k2 d d' Tb Tbc u u' physb kb)).normLeaves σ =
      netValue dim ((phys ++ (physb ++ [(d, u), (d', u')])) ++ (pair_merged k1 k2 kb).pairs) [C, Cc, Tb, Tbc] σ := by
  set K := pair_around k1 k2 d d' Tb Tbc u u' physb kb with hK
  set M := pair_merged k1 k2 kb with hM
  -- the labels outside the merged family, then the merged family
  have hnd' : ((Expr.pairLegs phys ++ (Expr.pairLegs physb ++ [d, d', u, u'])) ++ M.labels).Nodup := by
    rw [List.append_assoc]
    exact ((pair_around_labels_perm k1 k2 d d' Tb Tbc u u' physb kb).append_left _).nodup_iff.1 hnd
  have hKkd : K.kd = k1.kd ++ (d :: k2.kd) := by simp [hK, pair_around, pair_append_kd, Kids.kd]
  have hKbd : K.bd = k1.bd ++ (d' :: k2.bd) := by simp [hK, pair_around, pair_append_bd, Kids.bd]
  have hMkd : M.kd = (k1.kd ++ k2.kd) ++ kb.kd := by simp [hM, pair_merged, pair_append_kd]
  have hMbd : M.bd = (k1.bd ++ k2.bd) ++ kb.bd := by simp [hM, pair_merged, pair_append_bd]
  -- the legs of the four tensors of the pair are, together, the labels outside the merged family and the legs
  -- facing its sub-trees: none of them is a label inside the sub-trees
  have hlegs : (((phys.map Prod.fst ++ K.kd) ++ (phys.map Prod.snd ++ K.bd)) ++
      ((u :: (physb.map Prod.fst ++ kb.kd)) ++ (u' :: (physb.map Prod.snd ++ kb.bd)))).Perm
      ((Expr.pairLegs phys ++ (Expr.pairLegs physb ++ [d, d', u, u'])) ++ (M.kd ++ M.bd)) := by
    rw [List.perm_iff_count]
    intro x
    simp only [hKkd, hKbd, hMkd, hMbd, Expr.pairLegs, List.count_append, List.count_cons, List.count_nil]
    omega
  have hno := fun l hl => Kids.outside_not_inner hnd' l (hlegs.subset hl)
  have hls : ∀ f ∈ [C, Cc, Tb, Tbc], DependsOn (· ∉ M.inner) f := by
    simp only [List.forall_mem_cons, List.not_mem_nil, false_imp_iff, implies_true, and_true]
    exact ⟨hC.mono fun l hl => hno l (List.mem_append_left _ (List.mem_append_left _ hl)),
      hCc.mono fun l hl => hno l (List.mem_append_left _ (List.mem_append_right _ hl)),
      hT.mono fun l hl => hno l (List.mem_append_right _ (List.mem_append_left _ hl)),
      hTc.mono fun l hl => hno l (List.mem_append_right _ (List.mem_append_right _ hl))⟩
  -- reorder the network: the pair first, then the merged family
  have hbp : (Centre.mk C Cc phys K).normBinds.Perm ((phys ++ (physb ++ [(d, u), (d', u')])) ++ M.binds) := by
    simp only [Centre.normBinds]
    rw [List.append_assoc]
    exact List.Perm.append_left phys (pair_around_binds_perm k1 k2 d d' Tb Tbc u u' physb kb)
  have hlp : (Centre.mk C Cc phys K).normLeaves.Perm ([C, Cc, Tb, Tbc] ++ M.leaves) := by
    simp only [Centre.normLeaves, List.cons_append, List.nil_append]
    exact List.Perm.cons _ (List.Perm.cons _ (pair_around_leaves_perm k1 k2 d d' Tb Tbc u u' physb kb))
  rw [netValue_perm dim hbp hlp ((Centre.labels_perm _).nodup_iff.1 hnd) σ]
  exact Kids.absorb_net dim M (pair_merged_canon dim k1 k2 kb h1 h2 hb) (List.nodup_append.1 hnd').2.1 _ _ hls σ

/-- the merged pair as a `Centre`: its tensor is the two-site tensor `Σ_{shared bond} C · Tb` (on the legs of `a`
and `b` other than the shared bond), its open legs those of both nodes, its sub-trees the merged family -/
def pair_mergedCentre (dim : L → Nat) (C Cc : Asg L → R) (phys : List (L × L)) (k1 k2 : Kids L R) (d d' : L)
    (Tb Tbc : Asg L → R) (u u' : L) (physb : List (L × L)) (kb : Kids L R) : Centre L R :=
  ⟨sumPairs dim [(d, u)] (fun ρ => C ρ * Tb ρ), sumPairs dim [(d', u')] (fun ρ => Cc ρ * Tbc ρ),
    phys ++ physb, pair_merged k1 k2 kb⟩

end Ptn.Ein
