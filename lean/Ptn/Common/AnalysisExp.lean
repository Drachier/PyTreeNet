/-
Abstract linear algebra, part L2: the matrix exponential `NormedSpace.exp` on square matrices
over `𝕜` (`RCLike 𝕜`, in applications `𝕜 = ℂ`).  No norm on matrices has to be chosen by the
user: the statements only mention `NormedSpace.exp`, and the proofs reuse the norm-free lemmas of
`Mathlib.Analysis.Normed.Algebra.MatrixExponential`.
-/
import Mathlib.Analysis.Normed.Algebra.MatrixExponential

namespace Ptn.Analysis

open Matrix NormedSpace

section Exp

variable {𝕜 : Type*} [RCLike 𝕜] {n : Type*} [Fintype n] [DecidableEq n]

/-- **L2.** A time step of length `0`, or a zero Hamiltonian, leaves the state unchanged. -/
theorem exp_zero' : exp (0 : Matrix n n 𝕜) = 1 :=
  NormedSpace.exp_zero

/-- **L2.** Forward evolution followed by backward evolution is the identity: a backward link/site
update undoes a forward update with the same effective Hamiltonian. -/
theorem exp_mul_exp_neg (A : Matrix n n 𝕜) : exp A * exp (-A) = 1 := by
  rw [← Matrix.exp_add_of_commute A (-A) (Commute.neg_right (Commute.refl A)), add_neg_cancel,
    NormedSpace.exp_zero]

/-- **L2.** Backward then forward is the identity as well. -/
theorem exp_neg_mul_exp (A : Matrix n n 𝕜) : exp (-A) * exp A = 1 := by
  rw [← Matrix.exp_add_of_commute (-A) A (Commute.neg_left (Commute.refl A)), neg_add_cancel,
    NormedSpace.exp_zero]

/-- **L2.** The exponential of a skew-Hermitian matrix is unitary (left inverse form).
With `A = (-i t) • H`, `H` Hermitian: Hermitian Hamiltonians preserve the norm
(`local_propagator_unitary`). -/
theorem exp_unitary_of_skewHermitian (A : Matrix n n 𝕜) (hA : Aᴴ = -A) :
    (exp A)ᴴ * exp A = 1 := by
  rw [← Matrix.exp_conjTranspose, hA, exp_neg_mul_exp]

/-- **L2.** The exponential of a skew-Hermitian matrix is unitary (right inverse form). -/
theorem exp_unitary_of_skewHermitian' (A : Matrix n n 𝕜) (hA : Aᴴ = -A) :
    exp A * (exp A)ᴴ = 1 := by
  rw [← Matrix.exp_conjTranspose, hA, exp_mul_exp_neg]

/-- **L2.** Semigroup law in the time parameter: two half steps are one full step
(second-order splitting, C07). -/
theorem exp_add_same (A : Matrix n n 𝕜) (s t : 𝕜) :
    exp (s • A) * exp (t • A) = exp ((s + t) • A) := by
  rw [add_smul, Matrix.exp_add_of_commute _ _
    (((Commute.refl A).smul_left s).smul_right t)]

/-- **L2.** `j` equal steps are one step of `j`-fold duration. -/
theorem exp_nsmul' (A : Matrix n n 𝕜) (j : ℕ) : exp A ^ j = exp (j • A) :=
  (Matrix.exp_nsmul j A).symm

/-- **L2.** `j` steps of duration `t` are one step of duration `j * t` (C18: repeated
application of the one-step propagator). -/
theorem exp_smul_pow (A : Matrix n n 𝕜) (t : 𝕜) (j : ℕ) :
    exp (t • A) ^ j = exp (((j : 𝕜) * t) • A) := by
  rw [← Matrix.exp_nsmul, ← Nat.cast_smul_eq_nsmul 𝕜, smul_smul]

/-- **L2.** Anything commuting with the generator commutes with the flow. -/
theorem commute_exp_of_commute (P K : Matrix n n 𝕜) (c : 𝕜) (h : P * K = K * P) :
    P * exp (c • K) = exp (c • K) * P :=
  ((Commute.smul_right (show Commute P K from h) c).exp_right).eq

/-- **L2.** A generator commutes with its own flow. Used in L3 (energy conservation of the
local TDVP/BUG step). -/
theorem commute_exp (K : Matrix n n 𝕜) (c : 𝕜) : K * exp (c • K) = exp (c • K) * K :=
  commute_exp_of_commute K K c rfl

/-- **L2.** Conjugating the generator by a unitary conjugates the flow:
`U * exp A * Uᴴ = exp (U * A * Uᴴ)` (change of basis / gauge freedom on a bond, C06). -/
theorem exp_unitary_conj (U A : Matrix n n 𝕜) (hU : Uᴴ * U = 1) :
    U * exp A * Uᴴ = exp (U * A * Uᴴ) := by
  have hinv : U⁻¹ = Uᴴ := Matrix.inv_eq_left_inv hU
  have hunit : IsUnit U := by
    rw [Matrix.isUnit_iff_isUnit_det]
    exact Matrix.isUnit_det_of_left_inverse hU
  rw [← hinv, Matrix.exp_conj U A hunit]

end Exp

/-! ### Non-vacuity: concrete instances over `ℂ` -/

section Examples

/-- A Hermitian `2 × 2` matrix that is not diagonal (Pauli `X`). -/
def pauliX : Matrix (Fin 2) (Fin 2) ℂ := !![0, 1; 1, 0]

theorem pauliX_hermitian : pauliXᴴ = pauliX := by
  rw [← Matrix.ext_iff]
  simp [Fin.forall_fin_two, pauliX]

/-- `(-i t) • X` is skew-Hermitian and non-zero for `t ≠ 0`, so `exp_unitary_of_skewHermitian`
has non-trivial instances. -/
theorem skew_pauliX (t : ℝ) :
    (((-Complex.I * t) : ℂ) • pauliX)ᴴ = -(((-Complex.I * t) : ℂ) • pauliX) := by
  rw [conjTranspose_smul, pauliX_hermitian, ← neg_smul]
  congr 1
  simp

example (t : ℝ) :
    (exp (((-Complex.I * t) : ℂ) • pauliX))ᴴ * exp (((-Complex.I * t) : ℂ) • pauliX) = 1 :=
  exp_unitary_of_skewHermitian _ (skew_pauliX t)

example : ((-Complex.I * (1 : ℝ)) : ℂ) • pauliX ≠ 0 := by
  intro h
  have := congrFun (congrFun h 0) 1
  simp [pauliX] at this

example : exp pauliX * exp (-pauliX) = 1 := exp_mul_exp_neg pauliX

example (t : ℂ) : exp ((t / 2) • pauliX) * exp ((t / 2) • pauliX) = exp (t • pauliX) := by
  rw [exp_add_same, add_halves]

example : exp pauliX ^ 3 = exp ((3 : ℕ) • pauliX) := exp_nsmul' pauliX 3

example (c : ℂ) : pauliX * exp (c • pauliX) = exp (c • pauliX) * pauliX := commute_exp pauliX c

example : pauliX * exp pauliX * pauliXᴴ = exp (pauliX * pauliX * pauliXᴴ) :=
  exp_unitary_conj pauliX pauliX (by
    rw [pauliX_hermitian, ← Matrix.ext_iff]
    simp [Fin.forall_fin_two, pauliX, Matrix.mul_apply, Fin.sum_univ_two])

end Examples

end Ptn.Analysis
