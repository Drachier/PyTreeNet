import Ptn.Common.List
import Ptn.Common.EinsumNet
/-! What a contraction program builds.  When the built expression is strongly well-formed (`Expr.swf_of_clean`; one
`tensordot` call keeps the criteria: `Expr.dot_step`), and what its value then depends on: the leaves and the binding
record, each up to order (`Expr.eval_unique`), the record even up to the orientation of its pairs (`OrientRel`, `unordL`:
`sumPairs_unord`, `sumPairs_orient_subset`, `Expr.sandwich_of_record`). -/
namespace Ptn.Ein

variable {L : Type} [DecidableEq L] {R : Type} [CommSemiring R]

namespace Expr

set_option linter.unusedSectionVars false in
theorem labels_eq_leaves (e : Expr L R) : e.labels = e.leaves.flatMap (·.1) := by
  induction e with
  | leaf legs v => simp [labels, leaves]
  | dot a b ps iha ihb => simp [labels, leaves, iha, ihb]

set_option linter.unusedSectionVars false in
theorem free_nodup (e : Expr L R) (h : e.labels.Nodup) : e.free.Nodup :=
  (free_sublist_labels e).nodup h

/-- what a successful `tensordot` guarantees about the pairs of every contraction of the expression -/
def PairsOK : Expr L R → Prop
  | leaf _ _ => True
  | dot a b ps => a.PairsOK ∧ b.PairsOK ∧ (∀ p ∈ ps, p.1 ∈ a.free ∧ p.2 ∈ b.free) ∧
      (ps.map Prod.fst).Nodup ∧ (ps.map Prod.snd).Nodup

/-- every leaf tensor reads only its own legs -/
def LeavesLocal (e : Expr L R) : Prop := ∀ lf ∈ e.leaves, DependsOn (· ∈ lf.1) lf.2

set_option linter.unusedSectionVars false in
theorem swf_of_clean (e : Expr L R) (hnd : e.labels.Nodup) (hloc : e.LeavesLocal) (hp : e.PairsOK) : e.SWF := by
  induction e with
  | leaf legs v => exact ⟨hnd, hloc (legs, v) (by simp [leaves])⟩
  | dot a b ps iha ihb =>
    obtain ⟨hpa, hpb, hps, hn1, hn2⟩ := hp
    simp only [labels, List.nodup_append] at hnd
    refine ⟨iha hnd.1 (fun lf h => hloc lf (by simp [leaves, h])) hpa,
      ihb hnd.2.1 (fun lf h => hloc lf (by simp [leaves, h])) hpb, ?_, hps, hn1, hn2⟩
    intro l hla hlb
    exact hnd.2.2 l hla l hlb rfl

omit [CommSemiring R] in
theorem SWF.labels_nodup {e : Expr L R} (h : e.SWF) : e.labels.Nodup := by
  induction e with
  | leaf legs v => exact h.1
  | dot a b ps iha ihb =>
    exact List.nodup_append.2 ⟨iha h.1, ihb h.2.1, fun _ hx _ hy e => h.2.2.1 _ hx (e ▸ hy)⟩

/-- **One `tensordot` call.**  The operands are recorded by `ea`, `eb` (jointly distinct labels) and have the leg lists
`la`, `lb`; the call contracts the positions `ia` with the positions `ib`.  Then the legs that remain are the free legs of
the recorded contraction, and its pairs are admissible. -/
theorem dot_step {ea eb : Expr L R} {la lb xa xb : List L} {ia ib : List Nat}
    (hnd : (ea.labels ++ eb.labels).Nodup) (hfa : la.Perm ea.free) (hfb : lb.Perm eb.free)
    (hia : ia.Nodup) (hib : ib.Nodup) (hlen : ia.length = ib.length)
    (hxa : pickL la ia = some xa) (hxb : pickL lb ib = some xb) :
    (dropIdx ia 0 la ++ dropIdx ib 0 lb).Perm (dot ea eb (xa.zip xb)).free ∧
      (∀ p ∈ xa.zip xb, p.1 ∈ ea.free ∧ p.2 ∈ eb.free) ∧
      ((xa.zip xb).map Prod.fst).Nodup ∧ ((xa.zip xb).map Prod.snd).Nodup := by
  rw [List.nodup_append] at hnd
  have hna : la.Nodup := hfa.nodup_iff.2 (free_nodup ea hnd.1)
  have hnb : lb.Nodup := hfb.nodup_iff.2 (free_nodup eb hnd.2.1)
  have hl : xa.length = xb.length := by rw [pickL_length hxa, pickL_length hxb, hlen]
  have hfst : (xa.zip xb).map Prod.fst = xa := List.map_fst_zip (Nat.le_of_eq hl)
  have hsnd : (xa.zip xb).map Prod.snd = xb := List.map_snd_zip (Nat.le_of_eq hl.symm)
  refine ⟨?_, fun p hp => ?_, hfst.symm ▸ pickL_nodup hxa hna hia, hsnd.symm ▸ pickL_nodup hxb hnb hib⟩
  · simp only [free, hfst, hsnd]
    rw [dropIdx_eq_filter hxa hna, dropIdx_eq_filter hxb hnb]
    exact List.Perm.append (hfa.filter _) (hfb.filter _)
  · exact ⟨hfa.mem_iff.1 (pickL_sub hxa _ (hfst ▸ List.mem_map.2 ⟨p, hp, rfl⟩)),
      hfb.mem_iff.1 (pickL_sub hxb _ (hsnd ▸ List.mem_map.2 ⟨p, hp, rfl⟩))⟩

set_option linter.unusedSectionVars false in
theorem leafProd_of_leaves (e : Expr L R) (ls : List (List L × (Asg L → R))) (h : e.leaves.Perm ls)
    (σ : Asg L) : e.leafProd σ = prodL (ls.map (fun lf => lf.2 σ)) :=
  prodL_perm (h.map _)

/-- For three layers `K`, `O`, `B` apply it twice, the second time to `dot O B []`, whose leaves are `O.leaves ++ B.leaves`. -/
theorem split_leaves {e A B : Expr L R} (hl : e.leaves.Perm (A.leaves ++ B.leaves)) :
    e.labels.Perm (A.labels ++ B.labels) ∧ ∀ σ, e.leafProd σ = A.leafProd σ * B.leafProd σ :=
  ⟨by simpa only [labels_eq_leaves, List.flatMap_append] using hl.flatMap_right (·.1),
   fun σ => by rw [leafProd_of_leaves e _ hl σ, List.map_append, prodL_append]; rfl⟩

/-- **The value is determined by the record and the leaves.**  Two strongly well-formed programs with the same
leaves (any order) and the same binding record (any order) evaluate to the same tensor. -/
theorem eval_unique (dim : L → Nat) (e₁ e₂ : Expr L R) (h₁ : e₁.SWF) (h₂ : e₂.SWF)
    (hb : e₁.binds.Perm e₂.binds) (hl : e₁.leaves.Perm e₂.leaves) (σ : Asg L) :
    e₁.eval dim σ = e₂.eval dim σ :=
  eval_eq_of_perm dim e₁ e₂ h₁.wf h₂.wf hb (binds_nodup e₁ h₁) (leafProd_of_leaves e₁ _ hl) σ

end Expr

/-- the pairs of `ps` and `qs` agree position by position up to orientation -/
def OrientRel : List (L × L) → List (L × L) → Prop
  | [], [] => True
  | p :: ps, q :: qs => (p = q ∨ p = q.swap) ∧ OrientRel ps qs
  | _, _ => False

theorem sumPairs_orient_rel (dim : L → Nat) : ∀ (ps qs : List (L × L)), OrientRel ps qs →
    (∀ p ∈ qs, dim p.1 = dim p.2) → ∀ (f : Asg L → R) (σ : Asg L), sumPairs dim ps f σ = sumPairs dim qs f σ
  | [], [], _, _, _, _ => rfl
  | [], _ :: _, h, _, _, _ => by simp [OrientRel] at h
  | _ :: _, [], h, _, _, _ => by simp [OrientRel] at h
  | p :: ps, q :: qs, h, hd, f, σ => by
    obtain ⟨hpq, hrest⟩ := h
    obtain ⟨a, b⟩ := q
    have hab : dim a = dim b := hd (a, b) (by simp)
    have ih := sumPairs_orient_rel dim ps qs hrest (fun p hp => hd p (by simp [hp])) f
    rcases hpq with rfl | rfl
    · simp only [sumPairs]; congr 1; funext i; exact ih _
    · simp only [Prod.swap, sumPairs, hab]; congr 1; funext i
      rw [upd_pair_swap]; exact ih _

theorem unordL_swap_head (p : L × L) (l : List (L × L)) : (unordL (p.swap :: l)).Perm (unordL (p :: l)) := by
  refine (unordL_cons_perm _ _).trans (List.Perm.trans ?_ (unordL_cons_perm _ _).symm)
  rw [Prod.swap_swap]
  exact List.Perm.swap _ _ _

omit [DecidableEq L] in
theorem map_fst_unordL (l : List (L × L)) : (unordL l).map Prod.fst = Expr.pairLegs l := by
  simp [unordL, Expr.pairLegs, List.map_map, Function.comp_def]

/-- records that agree as multisets of unordered pairs agree, after a reordering, pair by pair up to
orientation -/
theorem exists_orient_of_unordL : ∀ (b a : List (L × L)), (unordL a).Perm (unordL b) →
    ∃ c, a.Perm c ∧ OrientRel c b
  | [], a, h => by
    have : a = [] := by
      have h' := h.length_eq
      simp only [unordL, List.length_append, List.length_map, List.length_nil] at h'
      exact List.eq_nil_of_length_eq_zero (by omega)
    subst this
    exact ⟨[], List.Perm.refl _, trivial⟩
  | q :: b', a, h => by
    have hq : q ∈ unordL a := h.mem_iff.2 (List.mem_append_left _ List.mem_cons_self)
    obtain ⟨p, hp, hpq⟩ : ∃ p ∈ a, p = q ∨ p = q.swap := by
      rcases List.mem_append.1 hq with hq | hq
      · exact ⟨q, hq, Or.inl rfl⟩
      · obtain ⟨p, hp, rfl⟩ := List.mem_map.1 hq
        exact ⟨p, hp, Or.inr (Prod.swap_swap p).symm⟩
    have ha : a.Perm (p :: a.erase p) := List.perm_cons_erase hp
    have h1 : (p :: p.swap :: unordL (a.erase p)).Perm (q :: q.swap :: unordL b') :=
      (unordL_cons_perm p _).symm.trans (((unordL_perm ha).symm.trans h).trans (unordL_cons_perm q b'))
    have h2 : (unordL (a.erase p)).Perm (unordL b') := by
      rcases hpq with rfl | rfl
      · exact h1.cons_inv.cons_inv
      · rw [Prod.swap_swap] at h1
        exact ((List.Perm.swap _ _ _).trans h1).cons_inv.cons_inv
    obtain ⟨c', hc1, hc2⟩ := exists_orient_of_unordL b' (a.erase p) h2
    exact ⟨p :: c', ha.trans (hc1.cons p), hpq, hc2⟩

theorem pairLegs_perm_of_orientRel : ∀ (ps qs : List (L × L)), OrientRel ps qs →
    (Expr.pairLegs ps).Perm (Expr.pairLegs qs)
  | [], [], _ => List.Perm.refl _
  | [], _ :: _, h => by simp [OrientRel] at h
  | _ :: _, [], h => by simp [OrientRel] at h
  | p :: ps, q :: qs, h => by
    obtain ⟨hpq, hrest⟩ := h
    have ih := pairLegs_perm_of_orientRel ps qs hrest
    refine (pairLegs_cons_perm p ps).trans (List.Perm.trans ?_ (pairLegs_cons_perm q qs).symm)
    rcases hpq with rfl | rfl
    · exact (ih.cons _).cons _
    · exact (List.Perm.swap _ _ _).trans ((ih.cons _).cons _)

omit [DecidableEq L] in
theorem orientRel_map (g : L × L → L × L) : ∀ ps : List (L × L), (∀ p ∈ ps, g p = p ∨ g p = p.swap) →
    OrientRel (ps.map g) ps
  | [], _ => trivial
  | p :: ps, hg => ⟨hg p List.mem_cons_self, orientRel_map g ps fun q hq => hg q (List.mem_cons_of_mem _ hq)⟩

theorem pairLegs_map_orient (g : L × L → L × L) (ps : List (L × L)) (hg : ∀ p ∈ ps, g p = p ∨ g p = p.swap) :
    (Expr.pairLegs (ps.map g)).Perm (Expr.pairLegs ps) :=
  pairLegs_perm_of_orientRel _ _ (orientRel_map g ps hg)

/-- every pair of `bs` occurs in `cs` in one of its two orientations, no leg of `bs` is bound twice and `cs` is not longer
(so the pairs of `bs`, each turned the way it occurs in `cs`, are all of `cs`), both ends of every pair have one
dimension: the two sums agree -/
theorem sumPairs_orient_subset (dim : L → Nat) {bs cs : List (L × L)}
    (hnd : (Expr.pairLegs bs).Nodup) (hlen : cs.length ≤ bs.length)
    (hsub : ∀ x ∈ bs, x ∈ cs ∨ x.swap ∈ cs) (hd : ∀ x ∈ bs, dim x.1 = dim x.2)
    (f : Asg L → R) (σ : Asg L) : sumPairs dim bs f σ = sumPairs dim cs f σ := by
  let g : L × L → L × L := fun x => if x ∈ cs then x else x.swap
  have hg : ∀ p, g p = p ∨ g p = p.swap := fun p => (ite_eq_or_eq _ _ _)
  have hnd' : (Expr.pairLegs (bs.map g)).Nodup := (pairLegs_map_orient g bs fun p _ => hg p).nodup_iff.2 hnd
  rw [← sumPairs_map_orient dim g bs (fun p hp => (hg p).imp_right fun e => ⟨e, hd p hp⟩) f σ]
  have hsub' : bs.map g ⊆ cs := by
    intro p hp
    obtain ⟨x, hx, rfl⟩ := List.mem_map.1 hp
    by_cases h : x ∈ cs
    · simpa only [g, if_pos h] using h
    · simpa only [g, if_neg h] using (hsub x hx).resolve_left h
  have hnd2 : (bs.map g).Nodup := List.Nodup.of_map Prod.fst (List.nodup_append.1 hnd').1
  exact sumPairs_perm dim ((List.subperm_of_subset hnd2 hsub').perm_of_length_le (by simpa using hlen)) hnd' f σ

/-- **Records that agree as multisets of unordered pairs give the same sum**, provided both legs of every
pair have the same dimension and no leg is bound twice. -/
theorem sumPairs_unord (dim : L → Nat) (ps qs : List (L × L)) (h : (unordL ps).Perm (unordL qs))
    (hdq : ∀ p ∈ qs, dim p.1 = dim p.2) (hnd : (Expr.pairLegs ps).Nodup) (f : Asg L → R) (σ : Asg L) :
    sumPairs dim ps f σ = sumPairs dim qs f σ := by
  obtain ⟨c, hc1, hc2⟩ := exists_orient_of_unordL qs ps h
  rw [sumPairs_perm dim hc1 hnd]
  exact sumPairs_orient_rel dim c qs hc2 hdq f σ

/-- two well-formed nestings whose binding records agree as multisets of UNORDERED pairs (no leg bound twice, both
legs of every pair of equal dimension) and whose leaf products agree have the same value -/
theorem Expr.eval_eq_of_unord (dim : L → Nat) (e₁ e₂ : Expr L R) (h₁ : e₁.WF) (h₂ : e₂.WF)
    (hb : (unordL e₁.binds).Perm (unordL e₂.binds)) (hd : ∀ p ∈ e₂.binds, dim p.1 = dim p.2)
    (hnd : (Expr.pairLegs e₁.binds).Nodup) (hl : ∀ σ, e₁.leafProd σ = e₂.leafProd σ) (σ : Asg L) :
    e₁.eval dim σ = e₂.eval dim σ := by
  rw [Expr.eval_eq_full dim e₁ h₁, Expr.eval_eq_full dim e₂ h₂]
  unfold Expr.full
  rw [sumPairs_unord dim _ _ hb hd hnd]
  exact sumPairs_congr dim _ hl σ

/-- **A contraction program with the (unoriented) record of `⟨B| O |K⟩` computes `⟨B| O |K⟩`.**  `K`, `O`, `B` are
well-formed nestings (ket network, operator network, bra network, each contracted over its own bonds) with
pairwise disjoint labels; `ppIn` joins free legs of `K` with free legs of `O` (operator inputs), `ppOut` joins
the remaining free legs of `O` with free legs of `B` (operator outputs); `spec` is the specification graph:
these pairs together with the bonds of the three layers.  Every strongly well-formed program `e` over the same
leaf tensors whose binding record agrees with `spec` AS A MULTISET OF UNORDERED PAIRS evaluates — provided both
legs of every pair have the same dimension (NumPy rejects anything else) — to `Σ_out (Σ_in K·O) · B`. -/
theorem Expr.sandwich_of_record (dim : L → Nat) (e K O B : Expr L R) (he : e.SWF) (hK : K.WF) (hO : O.WF)
    (hB : B.WF) (hKO : ∀ l ∈ K.labels, l ∉ O.labels) (hKB : ∀ l ∈ K.labels, l ∉ B.labels)
    (hOB : ∀ l ∈ O.labels, l ∉ B.labels) (ppIn ppOut spec : List (L × L))
    (hin : ∀ p ∈ ppIn, p.1 ∈ K.free ∧ p.2 ∈ O.free)
    (hout : ∀ p ∈ ppOut, (p.1 ∈ O.free ∧ p.1 ∉ ppIn.map Prod.snd) ∧ p.2 ∈ B.free)
    (hspec : (ppOut ++ ((ppIn ++ (K.binds ++ O.binds)) ++ B.binds)).Perm spec)
    (hrec : (unordL e.binds).Perm (unordL spec))
    (hdim : ∀ p ∈ spec, dim p.1 = dim p.2)
    (hleaf : ∀ σ, e.leafProd σ = K.leafProd σ * O.leafProd σ * B.leafProd σ) (σ : Asg L) :
    e.eval dim σ =
      sumPairs dim ppOut (fun τ => sumPairs dim ppIn (fun ρ => K.eval dim ρ * O.eval dim ρ) τ * B.eval dim τ) σ := by
  have h2 : (Expr.dot (Expr.dot K O ppIn) B ppOut).WF := by
    refine ⟨⟨hK, hO, hKO, hin⟩, hB, ?_, ?_⟩
    · intro l hl
      simp only [Expr.labels, List.mem_append] at hl
      rcases hl with hl | hl
      · exact hKB l hl
      · exact hOB l hl
    · intro p hp
      exact ⟨Expr.mem_free_dot.2 (Or.inr (hout p hp).1), (hout p hp).2⟩
  exact Expr.eval_eq_of_unord dim e (Expr.dot (Expr.dot K O ppIn) B ppOut) he.wf h2
    (hrec.trans (unordL_perm hspec.symm)) (fun p hp => hdim p (hspec.mem_iff.1 hp)) (Expr.binds_nodup e he)
    (fun τ => by rw [hleaf, Expr.leafProd_dot, Expr.leafProd_dot]) σ

end Ptn.Ein
