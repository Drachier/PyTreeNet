import Mathlib.Tactic.Ring
import Ptn.Common.EinsumPart
/-! Strongly well-formed expressions (`Expr.SWF`: no leg is bound twice; the record of an inner product), the orientation
of pairs, and the flat-network identities for exact factorisations, centre moves and gates. -/
namespace Ptn.Ein

open Finset

variable {L : Type} [DecidableEq L] {R : Type} [CommSemiring R]

namespace Expr

/-- strongly well-formed: `WF`, leaf legs distinct, no leg named twice in the pairs of one contraction -/
def SWF : Expr L R → Prop
  | leaf legs v => legs.Nodup ∧ DependsOn (· ∈ legs) v
  | dot a b ps => a.SWF ∧ b.SWF ∧ (∀ l ∈ a.labels, l ∉ b.labels) ∧ (∀ p ∈ ps, p.1 ∈ a.free ∧ p.2 ∈ b.free) ∧
      (ps.map Prod.fst).Nodup ∧ (ps.map Prod.snd).Nodup

set_option linter.unusedSectionVars false in
theorem SWF.wf : ∀ {e : Expr L R}, e.SWF → e.WF
  | leaf _ _, h => h.2
  | dot _ _ _, ⟨ha, hb, hd, hp, _, _⟩ => ⟨ha.wf, hb.wf, hd, hp⟩

theorem free_not_bound (e : Expr L R) (h : e.SWF) : ∀ l ∈ e.free, l ∉ pairLegs e.binds := by
  induction e with
  | leaf legs v => intro l _ hl; simp [binds, pairLegs] at hl
  | dot a b ps iha ihb =>
    obtain ⟨ha, hb, hdis, hps, _, _⟩ := h
    intro l hl hb'
    simp only [binds, mem_pairLegs_append] at hb'
    have hfa : ∀ p ∈ ps, p.1 ∈ a.labels := fun p hp => free_sub_labels a _ (hps p hp).1
    have hfb : ∀ p ∈ ps, p.2 ∈ b.labels := fun p hp => free_sub_labels b _ (hps p hp).2
    rcases mem_free_dot.1 hl with ⟨hla, hnot⟩ | ⟨hlb, hnot⟩
    · rcases hb' with h1 | h1 | h1
      · simp only [pairLegs, List.mem_append, List.mem_map] at h1
        rcases h1 with ⟨p, hp, rfl⟩ | ⟨p, hp, rfl⟩
        · exact hnot (List.mem_map.2 ⟨p, hp, rfl⟩)
        · exact hdis _ (free_sub_labels a _ hla) (hfb p hp)
      · exact iha ha l hla h1
      · exact hdis _ (free_sub_labels a _ hla) (binds_sub_labels b hb.wf l h1)
    · rcases hb' with h1 | h1 | h1
      · simp only [pairLegs, List.mem_append, List.mem_map] at h1
        rcases h1 with ⟨p, hp, rfl⟩ | ⟨p, hp, rfl⟩
        · exact hdis _ (hfa p hp) (free_sub_labels b _ hlb)
        · exact hnot (List.mem_map.2 ⟨p, hp, rfl⟩)
      · exact hdis _ (binds_sub_labels a ha.wf l h1) (free_sub_labels b _ hlb)
      · exact ihb hb l hlb h1

theorem binds_nodup (e : Expr L R) (h : e.SWF) : (pairLegs e.binds).Nodup := by
  induction e with
  | leaf legs v => simp [binds, pairLegs]
  | dot a b ps iha ihb =>
    obtain ⟨ha, hb, hdis, hps, hn1, hn2⟩ := h
    have hfa : ∀ p ∈ ps, p.1 ∈ a.labels := fun p hp => free_sub_labels a _ (hps p hp).1
    have hfb : ∀ p ∈ ps, p.2 ∈ b.labels := fun p hp => free_sub_labels b _ (hps p hp).2
    have hperm : (pairLegs (dot a b ps).binds).Perm
        (pairLegs ps ++ (pairLegs a.binds ++ pairLegs b.binds)) := by
      simp only [binds]
      exact (pairLegs_append _ _).trans (List.Perm.append_left _ (pairLegs_append _ _))
    rw [hperm.nodup_iff, List.nodup_append, List.nodup_append]
    refine ⟨?_, ⟨iha ha, ihb hb, ?_⟩, ?_⟩
    · simp only [pairLegs, List.nodup_append]
      refine ⟨hn1, hn2, ?_⟩
      intro x hx y hy hxy
      subst hxy
      obtain ⟨p, hp, rfl⟩ := List.mem_map.1 hx
      obtain ⟨q, hq, hpq⟩ := List.mem_map.1 hy
      exact hdis _ (hfa p hp) (hpq ▸ hfb q hq)
    · intro x hx y hy hxy
      subst hxy
      exact hdis _ (binds_sub_labels a ha.wf x hx) (binds_sub_labels b hb.wf x hy)
    · intro x hx y hy hxy
      subst hxy
      simp only [pairLegs, List.mem_append, List.mem_map] at hx
      rcases hx with ⟨p, hp, rfl⟩ | ⟨p, hp, rfl⟩
      · rcases List.mem_append.1 hy with h1 | h1
        · exact free_not_bound a ha _ (hps p hp).1 h1
        · exact hdis _ (hfa p hp) (binds_sub_labels b hb.wf _ h1)
      · rcases List.mem_append.1 hy with h1 | h1
        · exact hdis _ (binds_sub_labels a ha.wf _ h1) (hfb p hp)
        · exact free_not_bound b hb _ (hps p hp).2 h1

/-- **A contraction program with the binding record of `⟨B|K⟩` computes `⟨B|K⟩`.**  `K` and `B` are any
strongly well-formed nestings (the ket network and the — already conjugated — bra network, each contracted
over its own bonds), `pp` joins free legs of `K` with free legs of `B` (the physical pairs).  Every
strongly well-formed program `e` over the same leaf tensors whose binding record is, up to order, `pp`
together with the bonds of `K` and of `B` evaluates to `Σ_pp K·B`: the sum over a common index per
physical pair of the product of the two dense vectors. -/
theorem inner_of_record (dim : L → Nat) (e K B : Expr L R) (he : e.SWF) (hK : K.SWF) (hB : B.SWF)
    (hdis : ∀ l ∈ K.labels, l ∉ B.labels) (pp : List (L × L))
    (hpp : ∀ p ∈ pp, p.1 ∈ K.free ∧ p.2 ∈ B.free)
    (hrec : e.binds.Perm (pp ++ (K.binds ++ B.binds)))
    (hleaf : ∀ σ, e.leafProd σ = K.leafProd σ * B.leafProd σ) (σ : Asg L) :
    e.eval dim σ = sumPairs dim pp (fun τ => K.eval dim τ * B.eval dim τ) σ := by
  have h2 : (dot K B pp).WF := ⟨hK.wf, hB.wf, hdis, hpp⟩
  exact eval_eq_of_perm dim e (dot K B pp) he.wf h2 hrec (binds_nodup e he)
    (fun σ => by rw [hleaf, leafProd_dot]) σ

end Expr

theorem sumPairs_map_orient (dim : L → Nat) (g : L × L → L × L) (ps : List (L × L))
    (hg : ∀ p ∈ ps, g p = p ∨ g p = p.swap ∧ dim p.1 = dim p.2) (f : Asg L → R) (σ : Asg L) :
    sumPairs dim (ps.map g) f σ = sumPairs dim ps f σ := by
  induction ps generalizing σ with
  | nil => rfl
  | cons p ps ih =>
    obtain ⟨a, b⟩ := p
    have ih' := fun τ => ih (fun q hq => hg q (List.mem_cons_of_mem _ hq)) τ
    rcases hg (a, b) List.mem_cons_self with e | ⟨e, hab⟩
    · simp only [List.map_cons, e, sumPairs, ih']
    · have hab' : dim b = dim a := hab.symm
      simp only [List.map_cons, e, Prod.swap, sumPairs, hab', ih', upd_pair_swap _ b a]

theorem sumPairs_orient (dim : L → Nat) (ps : List (L × L)) (hd : ∀ p ∈ ps, dim p.1 = dim p.2)
    (f : Asg L → R) (σ : Asg L) : sumPairs dim (ps.map Prod.swap) f σ = sumPairs dim ps f σ :=
  sumPairs_map_orient dim Prod.swap ps (fun p hp => Or.inr ⟨rfl, hd p hp⟩) f σ

theorem netValue_dependsOn (dim : L → Nat) (bs : List (L × L)) (ls : List (Asg L → R)) {S : L → Prop}
    (hls : ∀ f ∈ ls, DependsOn S f) : DependsOn S (netValue dim bs ls) :=
  (sumPairs_dependsOn dim bs (prodL_dependsOn ls hls)).mono (fun _ h => h.1)

theorem netValue_append (dim : L → Nat) (as bs : List (L × L)) (la lb : List (Asg L → R))
    {Sa Sb : L → Prop} (ha : ∀ f ∈ la, DependsOn Sa f) (hb : ∀ f ∈ lb, DependsOn Sb f)
    (hab : ∀ l ∈ Expr.pairLegs as, ¬ Sb l) (hba : ∀ l ∈ Expr.pairLegs bs, ¬ Sa l) (σ : Asg L) :
    netValue dim (as ++ bs) (la ++ lb) σ = netValue dim as la σ * netValue dim bs lb σ := by
  -- the second network is one tensor among the leaves of the first, and reads none of its bound legs
  rw [netValue_perm_leaves dim _ List.perm_append_comm, netValue_collapse dim as bs lb la ha hba]
  exact (sumPairs_mul_left dim as (fun τ => prodL (la.map fun f => f τ)) _
    (netValue_dependsOn dim bs lb hb) hab σ).trans (mul_comm _ _)

/-- a leaf `A` that is the contraction of `Q` and `Rm` over the pairs `ps` (one `tensordot` call over several axes) may be
replaced by the two factors, with `ps` added to the record, if the other leaves read none of the legs of `ps` -/
theorem split_leaf_pairs_value (dim : L → Nat) (binds ps : List (L × L)) (A Q Rm : Asg L → R)
    (rest : List (Asg L → R)) {S : L → Prop}
    (hA : ∀ τ, A τ = sumPairs dim ps (fun ρ => Q ρ * Rm ρ) τ)
    (hrest : ∀ f ∈ rest, DependsOn S f) (hps : ∀ l ∈ Expr.pairLegs ps, ¬ S l) (σ : Asg L) :
    netValue dim (binds ++ ps) (Q :: Rm :: rest) σ = netValue dim binds (A :: rest) σ :=
  netValue_expand dim binds ps A [Q, Rm] rest (fun τ => (hA τ).trans (netValue_pair dim ps Q Rm τ).symm) hrest hps σ

/-- **Exact factorisations leave the network unchanged.**  If the tensor `A` is the contraction of `Q` and
`Rm` over a new bond `(q, r)` that nothing else in the network reads — the contract of `split_node_qr`,
`split_node_svd` without truncation, `split_node_replace` — then the network with `A` replaced by the
two factors and the bond added to the binding record has the same value for every assignment of the open
legs.  Read from right to left this is `contract_nodes`. -/
theorem split_leaf_value (dim : L → Nat) (binds : List (L × L)) (A Q Rm : Asg L → R)
    (rest : List (Asg L → R)) (q r : L) {S : L → Prop}
    (hA : ∀ τ, A τ = sumPairs dim [(q, r)] (fun ρ => Q ρ * Rm ρ) τ)
    (hrest : ∀ f ∈ rest, DependsOn S f) (hq : ¬ S q) (hr : ¬ S r) (σ : Asg L) :
    netValue dim (binds ++ [(q, r)]) (Q :: Rm :: rest) σ = netValue dim binds (A :: rest) σ :=
  split_leaf_pairs_value dim binds [(q, r)] A Q Rm rest hA hrest
    (fun _ hl => (mem_pairLegs_cons.1 hl).elim (· ▸ hq) fun h => h.elim (· ▸ hr) (absurd · List.not_mem_nil)) σ

/-- **A centre move leaves the represented state unchanged.**  `A` and `B` are joined by the bond
`(a, b)`; `A` is split as `Q·R` over a new bond `(q, r)` and `R` is absorbed into `B` over the old bond,
giving `B'`.  GIVEN the two contraction identities (the QR contract and the definition of `tensordot`),
the network in which `A, B` are replaced by `Q, B'` and the bond `(a, b)` by `(q, r)` has the same value
as the original one for every assignment of the open legs, whatever the rest of the network is (`bs`: all
other bonds).  `S₁`: what `B` and the rest read (not the new bond); `S₂`: what `Q` and the rest read (not
the old bond). -/
theorem gauge_move_value (dim : L → Nat) (bs : List (L × L)) (A B Q Rm B' : Asg L → R)
    (rest : List (Asg L → R)) (a b q r : L) {S₁ S₂ : L → Prop}
    (hA : ∀ τ, A τ = sumPairs dim [(q, r)] (fun ρ => Q ρ * Rm ρ) τ)
    (hB' : ∀ τ, B' τ = sumPairs dim [(a, b)] (fun ρ => Rm ρ * B ρ) τ)
    (hrest₁ : ∀ f ∈ rest, DependsOn S₁ f) (hrest₂ : ∀ f ∈ rest, DependsOn S₂ f)
    (hB : DependsOn S₁ B) (hQ : DependsOn S₂ Q)
    (hq : ¬ S₁ q) (hr : ¬ S₁ r) (ha : ¬ S₂ a) (hb : ¬ S₂ b)
    (hnd : (Expr.pairLegs ((bs ++ [(a, b)]) ++ [(q, r)])).Nodup) (σ : Asg L) :
    netValue dim (bs ++ [(q, r)]) (B' :: Q :: rest) σ = netValue dim (bs ++ [(a, b)]) (A :: B :: rest) σ := by
  have hp : ((bs ++ [(a, b)]) ++ [(q, r)]).Perm ((bs ++ [(q, r)]) ++ [(a, b)]) := by
    rw [List.append_assoc, List.append_assoc]
    exact List.Perm.append_left _ (List.Perm.swap _ _ _)
  -- both sides are the network with all of `Q`, `Rm`, `B` and both bonds
  rw [← split_leaf_value dim (bs ++ [(a, b)]) A Q Rm (B :: rest) q r hA
      (List.forall_mem_cons.2 ⟨hB, hrest₁⟩) hq hr σ,
    ← split_leaf_value dim (bs ++ [(q, r)]) B' Rm B (Q :: rest) a b hB'
      (List.forall_mem_cons.2 ⟨hQ, hrest₂⟩) ha hb σ]
  exact (netValue_perm dim hp ((List.Perm.swap _ _ _).trans ((List.Perm.swap _ _ _).cons _)) hnd σ).symm

/-- **Contracting a gate into `k` open legs multiplies the state vector by the gate.**  The network `ψ`
(leaf tensors `rest`, record `binds`) has the open legs `gp.map Prod.fst`; a gate tensor `G` is added and its
input legs `gp.map Prod.snd` are bound to them. -/
theorem apply_gate_value (dim : L → Nat) (binds gp : List (L × L)) (G : Asg L → R)
    (rest : List (Asg L → R)) {S : L → Prop}
    (hG : DependsOn S G) (hdis : ∀ l ∈ Expr.pairLegs binds, ¬ S l)
    (hnd : (Expr.pairLegs (binds ++ gp)).Nodup) (σ : Asg L) :
    netValue dim (binds ++ gp) (G :: rest) σ =
      sumPairs dim gp (fun τ => G τ * netValue dim binds rest τ) σ := by
  unfold netValue
  rw [sumPairs_perm dim (List.perm_append_comm) hnd, sumPairs_append]
  apply sumPairs_congr
  intro τ
  simp only [List.map_cons, prodL]
  exact sumPairs_mul_left dim binds _ G hG hdis τ

/-- **Contracting a gate into a leg multiplies the state vector by the gate.**  The network `ψ` (leaf
tensors `rest`, record `binds`) has the open leg `p`; a gate tensor `G` with input leg `gi` (and any other
legs, e.g. its output leg) is added and `(gi, p)` bound.  If the gate reads none of the network's bound
legs and no leg is bound twice, the new network evaluates to `Σ_k G[…, gi = k] · ψ[…, p = k]`. -/
theorem apply_operator_value (dim : L → Nat) (binds : List (L × L)) (G : Asg L → R)
    (rest : List (Asg L → R)) (gi p : L) {S : L → Prop}
    (hG : DependsOn S G) (hdis : ∀ l ∈ Expr.pairLegs binds, ¬ S l)
    (hnd : (Expr.pairLegs (binds ++ [(gi, p)])).Nodup) (σ : Asg L) :
    netValue dim (binds ++ [(gi, p)]) (G :: rest) σ =
      sumPairs dim [(gi, p)] (fun τ => G τ * netValue dim binds rest τ) σ :=
  apply_gate_value dim binds [(gi, p)] G rest hG hdis hnd σ

end Ptn.Ein
