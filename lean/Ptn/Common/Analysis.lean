/-
Abstract linear algebra and analysis used by several property proofs (L1-L4, L6, P1-P2 of notes/analysis.md).
This module only re-exports the parts.
-/
import Ptn.Common.AnalysisIso
import Ptn.Common.AnalysisExp
import Ptn.Common.AnalysisLocal
import Ptn.Common.AnalysisTelescope
import Ptn.Common.AnalysisProj
