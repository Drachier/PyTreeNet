import Mathlib.Algebra.BigOperators.Group.Finset.Sigma
import Mathlib.Algebra.BigOperators.Ring.Finset
import Ptn.Common.EinsumModel
/-! The calculus of the value-level semantics of labelled tensor networks (`EinsumModel.lean`) over an arbitrary commutative
semiring: `upd`, `prodL`, `pairLegs`, `DependsOn`, pulling a factor out of `sumPairs`, Fubini (`sumPairs_perm`), and for
expressions `Expr.WF`, `Expr.eval_eq_full` (any nesting of contractions is the one big sum) and `Expr.eval_eq_of_perm`. -/
namespace Ptn.Ein

open Finset

variable {L : Type} [DecidableEq L] {R : Type} [CommSemiring R]

theorem sumR_eq (n : Nat) (f : Nat → R) : sumR n f = ∑ i ∈ range n, f i := by
  unfold sumR
  induction n with
  | zero => simp
  | succ n ih => rw [List.range_succ, List.map_append, List.sum_append, ih, sum_range_succ]; simp

theorem sumR_congr (n : Nat) {f g : Nat → R} (h : ∀ i, i < n → f i = g i) : sumR n f = sumR n g :=
  congrArg List.sum (List.map_congr_left fun i hi => h i (List.mem_range.1 hi))

theorem sumR_zero (n : Nat) (g : Nat → R) (h : ∀ i, i < n → g i = 0) : sumR n g = 0 := by
  rw [sumR_eq]
  exact sum_eq_zero (fun i hi => h i (mem_range.1 hi))

theorem delta_sumR (n : Nat) (f : Nat → Nat → R) :
    sumR n (fun i => sumR n (fun j => (if i = j then (1 : R) else 0) * f i j)) = sumR n (fun i => f i i) := by
  simp only [sumR_eq]
  apply sum_congr rfl
  intro i hi
  simp only [ite_mul, one_mul, zero_mul]
  rw [sum_ite_eq, if_pos hi]

theorem prodL_append (xs ys : List R) : prodL (xs ++ ys) = prodL xs * prodL ys := by
  induction xs with
  | nil => simp [prodL]
  | cons x xs ih => simp [prodL, ih, mul_assoc]

theorem prodL_perm {xs ys : List R} (h : xs.Perm ys) : prodL xs = prodL ys := by
  induction h with
  | nil => rfl
  | cons x _ ih => simp [prodL, ih]
  | swap x y l => simp only [prodL]; rw [← mul_assoc, ← mul_assoc, mul_comm y x]
  | trans _ _ ih1 ih2 => rw [ih1, ih2]

theorem prodL_eq_zero (xs : List R) (h : (0 : R) ∈ xs) : prodL xs = 0 := by
  induction xs with
  | nil => cases h
  | cons x xs ih =>
    rcases List.mem_cons.1 h with h | h
    · simp [prodL, ← h]
    · simp [prodL, ih h]

theorem upd_self (σ : Asg L) (a : L) (i : Nat) : upd σ a i a = i := if_pos rfl

theorem upd_same_of_ne (σ : Asg L) {a x : L} (h : x ≠ a) (i : Nat) : upd σ a i x = σ x := if_neg h

theorem upd_comm (σ : Asg L) {a b : L} (h : a ≠ b) (i j : Nat) :
    upd (upd σ a i) b j = upd (upd σ b j) a i := by
  funext x
  by_cases hb : x = b
  · subst hb; rw [upd_self, upd_same_of_ne _ h.symm, upd_self]
  · rw [upd_same_of_ne _ hb]
    by_cases ha : x = a
    · subst ha; rw [upd_self, upd_self]
    · rw [upd_same_of_ne _ ha, upd_same_of_ne _ ha, upd_same_of_ne _ hb]

theorem upd_pair_swap (σ : Asg L) (a b : L) (i : Nat) : upd (upd σ a i) b i = upd (upd σ b i) a i := by
  by_cases h : a = b
  · rw [h]
  · exact upd_comm σ h i i

set_option linter.unusedSectionVars false in
theorem pairLegs_cons_perm (p : L × L) (ps : List (L × L)) :
    (Expr.pairLegs (p :: ps)).Perm (p.1 :: p.2 :: Expr.pairLegs ps) :=
  List.Perm.cons _ List.perm_middle

theorem mem_pairLegs_cons {p : L × L} {ps : List (L × L)} {l : L} :
    l ∈ Expr.pairLegs (p :: ps) ↔ l = p.1 ∨ l = p.2 ∨ l ∈ Expr.pairLegs ps := by
  rw [(pairLegs_cons_perm p ps).mem_iff, List.mem_cons, List.mem_cons]

set_option linter.unusedSectionVars false in
theorem pairLegs_perm {ps qs : List (L × L)} (h : ps.Perm qs) :
    (Expr.pairLegs ps).Perm (Expr.pairLegs qs) :=
  List.Perm.append (h.map _) (h.map _)

omit [DecidableEq L] in
theorem mem_pairLegs_of_mem {p : L × L} {bs : List (L × L)} (hp : p ∈ bs) :
    p.1 ∈ Expr.pairLegs bs ∧ p.2 ∈ Expr.pairLegs bs :=
  ⟨List.mem_append_left _ (List.mem_map_of_mem hp), List.mem_append_right _ (List.mem_map_of_mem hp)⟩

omit [DecidableEq L] in
theorem pairLegs_length (ps : List (L × L)) : (Expr.pairLegs ps).length = 2 * ps.length := by
  simp [Expr.pairLegs]; omega

theorem pairLegs_disjoint {bs : List (L × L)} (hnd : (Expr.pairLegs bs).Nodup)
    {x y : L × L} (hx : x ∈ bs) (hy : y ∈ bs) (hxy : x ≠ y) : x.1 ≠ y.1 ∧ x.1 ≠ y.2 := by
  have hy' : y ∈ bs.erase x := (List.mem_erase_of_ne (Ne.symm hxy)).2 hy
  have hp : bs.Perm (x :: y :: (bs.erase x).erase y) :=
    (List.perm_cons_erase hx).trans ((List.perm_cons_erase hy').cons x)
  have h1 := ((pairLegs_perm hp).trans ((pairLegs_cons_perm x _).trans
    (((pairLegs_cons_perm y _).cons x.2).cons x.1))).nodup_iff.1 hnd
  simp only [List.nodup_cons, List.mem_cons, not_or] at h1
  exact ⟨h1.1.2.1, h1.1.2.2.1⟩

theorem sumPairs_congr (dim : L → Nat) (ps : List (L × L)) {f g : Asg L → R} (h : ∀ σ, f σ = g σ)
    (σ : Asg L) : sumPairs dim ps f σ = sumPairs dim ps g σ := by
  induction ps generalizing σ with
  | nil => exact h σ
  | cons p ps ih => obtain ⟨a, b⟩ := p; simp only [sumPairs]; congr 1; funext i; exact ih _

theorem sumPairs_eq_zero (dim : L → Nat) (ps : List (L × L)) (f : Asg L → R) (σ : Asg L)
    (h : ∀ τ : Asg L, (∀ l, l ∉ Expr.pairLegs ps → τ l = σ l) → f τ = 0) : sumPairs dim ps f σ = 0 := by
  induction ps generalizing σ with
  | nil => exact h σ (fun _ _ => rfl)
  | cons p ps ih =>
    obtain ⟨a, b⟩ := p
    refine sumR_zero _ _ fun i _ => ih _ fun τ hτ => h τ fun l hl => ?_
    have hl' := not_or.1 (fun e => hl (mem_pairLegs_cons.2 (or_assoc.1 e)))
    rw [hτ l hl'.2, upd_same_of_ne _ (not_or.1 hl'.1).2, upd_same_of_ne _ (not_or.1 hl'.1).1]

/-- `f` reads only the labels satisfying `S` -/
def DependsOn (S : L → Prop) (f : Asg L → R) : Prop := ∀ σ τ : Asg L, (∀ l, S l → σ l = τ l) → f σ = f τ

set_option linter.unusedSectionVars false in
theorem DependsOn.mono {S S' : L → Prop} {f : Asg L → R} (h : DependsOn S f) (hs : ∀ l, S l → S' l) :
    DependsOn S' f := fun σ τ hst => h σ τ (fun l hl => hst l (hs l hl))

set_option linter.unusedSectionVars false in
theorem DependsOn.mul {S : L → Prop} {f g : Asg L → R} (hf : DependsOn S f) (hg : DependsOn S g) :
    DependsOn S (fun σ => f σ * g σ) := fun σ τ h => by show f σ * g σ = f τ * g τ; rw [hf σ τ h, hg σ τ h]

theorem prodL_dependsOn {S : L → Prop} (rest : List (Asg L → R)) (hrest : ∀ f ∈ rest, DependsOn S f) :
    DependsOn S (fun τ => prodL (rest.map (fun f => f τ))) := by
  induction rest with
  | nil => exact fun _ _ _ => rfl
  | cons f fs ih =>
    exact (hrest f List.mem_cons_self).mul (ih fun g hg => hrest g (List.mem_cons_of_mem _ hg))

/-- the sum over the pairs no longer reads the summed labels -/
theorem sumPairs_dependsOn (dim : L → Nat) (ps : List (L × L)) {S : L → Prop} {f : Asg L → R}
    (hf : DependsOn S f) : DependsOn (fun l => S l ∧ l ∉ Expr.pairLegs ps) (sumPairs dim ps f) := by
  induction ps with
  | nil => exact hf.mono fun l hl => ⟨hl, List.not_mem_nil⟩
  | cons p ps ih =>
    obtain ⟨a, b⟩ := p
    intro σ τ h
    simp only [sumPairs]; congr 1; funext i
    apply ih
    intro l ⟨hl, hnot⟩
    by_cases hb : l = b
    · subst hb; rw [upd_self, upd_self]
    · rw [upd_same_of_ne _ hb, upd_same_of_ne _ hb]
      by_cases ha : l = a
      · subst ha; rw [upd_self, upd_self]
      · rw [upd_same_of_ne _ ha, upd_same_of_ne _ ha]
        exact h l ⟨hl, fun hm => (mem_pairLegs_cons.1 hm).elim ha fun hm => hm.elim hb hnot⟩

/-- a factor that does not read the summed labels can be pulled out of the sum (on the right) -/
theorem sumPairs_mul_right (dim : L → Nat) (ps : List (L × L)) (f g : Asg L → R) {S : L → Prop}
    (hg : DependsOn S g) (hdis : ∀ l ∈ Expr.pairLegs ps, ¬ S l) (σ : Asg L) :
    sumPairs dim ps (fun σ => f σ * g σ) σ = sumPairs dim ps f σ * g σ := by
  induction ps generalizing σ with
  | nil => rfl
  | cons p ps ih =>
    obtain ⟨a, b⟩ := p
    have ha : ¬ S a := hdis a (mem_pairLegs_cons.2 (Or.inl rfl))
    have hb : ¬ S b := hdis b (mem_pairLegs_cons.2 (Or.inr (Or.inl rfl)))
    simp only [sumPairs, sumR_eq]
    rw [sum_mul]
    apply sum_congr rfl
    intro i _
    rw [ih fun l hl => hdis l (mem_pairLegs_cons.2 (Or.inr (Or.inr hl)))]
    congr 1
    apply hg
    intro l hl
    have hlb : l ≠ b := fun h => hb (h ▸ hl)
    have hla : l ≠ a := fun h => ha (h ▸ hl)
    rw [upd_same_of_ne _ hlb, upd_same_of_ne _ hla]

theorem sumPairs_mul_left (dim : L → Nat) (ps : List (L × L)) (f g : Asg L → R) {S : L → Prop}
    (hg : DependsOn S g) (hdis : ∀ l ∈ Expr.pairLegs ps, ¬ S l) (σ : Asg L) :
    sumPairs dim ps (fun σ => g σ * f σ) σ = g σ * sumPairs dim ps f σ := by
  rw [mul_comm, ← sumPairs_mul_right dim ps f g hg hdis]
  exact sumPairs_congr dim ps (fun _ => mul_comm _ _) σ

theorem sumPairs_append (dim : L → Nat) (ps qs : List (L × L)) (f : Asg L → R) (σ : Asg L) :
    sumPairs dim (ps ++ qs) f σ = sumPairs dim ps (sumPairs dim qs f) σ := by
  induction ps generalizing σ with
  | nil => rfl
  | cons p ps ih => obtain ⟨a, b⟩ := p; simp only [List.cons_append, sumPairs]; congr 1; funext i; exact ih _

theorem sumPairs_swap (dim : L → Nat) (p q : L × L) (ps : List (L × L)) (f : Asg L → R) (σ : Asg L)
    (h1 : p.1 ≠ q.1) (h2 : p.1 ≠ q.2) (h3 : p.2 ≠ q.1) (h4 : p.2 ≠ q.2) :
    sumPairs dim (p :: q :: ps) f σ = sumPairs dim (q :: p :: ps) f σ := by
  obtain ⟨a, b⟩ := p; obtain ⟨c, d⟩ := q
  simp only [sumPairs, sumR_eq]
  rw [sum_comm]
  apply sum_congr rfl; intro j _; apply sum_congr rfl; intro i _
  -- move the two updates of `q` past the two updates of `p`
  rw [upd_comm _ h3, upd_comm _ h1, upd_comm _ h4, upd_comm (upd σ c j) h2]

/-- **Fubini.**  The big sum does not depend on the order of the binding record, as long as no leg is
bound twice. -/
theorem sumPairs_perm (dim : L → Nat) {ps qs : List (L × L)} (h : ps.Perm qs)
    (hnd : (Expr.pairLegs ps).Nodup) (f : Asg L → R) (σ : Asg L) :
    sumPairs dim ps f σ = sumPairs dim qs f σ := by
  induction h generalizing σ with
  | nil => rfl
  | cons p _ ih =>
    obtain ⟨a, b⟩ := p
    have hnd' := ((pairLegs_cons_perm _ _).nodup_iff.1 hnd)
    simp only [sumPairs]; congr 1; funext i
    exact ih (List.Nodup.of_cons (List.Nodup.of_cons hnd')) _
  | swap p q l =>
    have h1 := (pairLegs_cons_perm q (p :: l)).nodup_iff.1 hnd
    have h2 : (q.1 :: q.2 :: p.1 :: p.2 :: Expr.pairLegs l).Nodup :=
      (((pairLegs_cons_perm p l).cons q.2).cons q.1).nodup_iff.1 h1
    simp only [List.nodup_cons, List.mem_cons, not_or] at h2
    obtain ⟨⟨_, hq1p1, hq1p2, _⟩, ⟨hq2p1, hq2p2, _⟩, _⟩ := h2
    exact sumPairs_swap dim q p l f σ hq1p1 hq1p2 hq2p1 hq2p2
  | trans h1 _ ih1 ih2 =>
    rw [ih1 hnd, ih2 ((pairLegs_perm h1).nodup_iff.1 hnd)]

namespace Expr

/-- well-formed: every leaf reads only its own legs; the two sides of a contraction share no label; each
pair joins a free leg of the left side with a free leg of the right side -/
def WF : Expr L R → Prop
  | leaf legs v => DependsOn (· ∈ legs) v
  | dot a b ps => a.WF ∧ b.WF ∧ (∀ l ∈ a.labels, l ∉ b.labels) ∧ (∀ p ∈ ps, p.1 ∈ a.free ∧ p.2 ∈ b.free)

omit [CommSemiring R] in
theorem mem_free_dot {a b : Expr L R} {ps : List (L × L)} {l : L} :
    l ∈ (dot a b ps).free ↔ l ∈ a.free ∧ l ∉ ps.map Prod.fst ∨ l ∈ b.free ∧ l ∉ ps.map Prod.snd := by
  simp only [free, List.mem_append, List.mem_filter, Bool.not_eq_true', List.contains_eq_mem,
    decide_eq_false_iff_not]

omit [CommSemiring R] in
theorem free_sublist_labels (e : Expr L R) : e.free.Sublist e.labels := by
  induction e with
  | leaf legs v => exact List.Sublist.refl _
  | dot a b ps iha ihb =>
    exact List.Sublist.append ((List.filter_sublist).trans iha) ((List.filter_sublist).trans ihb)

set_option linter.unusedSectionVars false in
theorem free_sub_labels (e : Expr L R) : ∀ l ∈ e.free, l ∈ e.labels :=
  fun _ h => (free_sublist_labels e).subset h

set_option linter.unusedSectionVars false in
theorem pairLegs_append (ps qs : List (L × L)) :
    (pairLegs (ps ++ qs)).Perm (pairLegs ps ++ pairLegs qs) := by
  simp only [pairLegs, List.map_append, List.append_assoc]
  apply List.Perm.append_left
  rw [← List.append_assoc, ← List.append_assoc]
  exact List.Perm.append_right _ List.perm_append_comm

theorem mem_pairLegs_append {ps qs : List (L × L)} {l : L} :
    l ∈ pairLegs (ps ++ qs) ↔ l ∈ pairLegs ps ∨ l ∈ pairLegs qs := by
  rw [(pairLegs_append ps qs).mem_iff, List.mem_append]

theorem binds_sub_labels (e : Expr L R) (h : e.WF) : ∀ l ∈ pairLegs e.binds, l ∈ e.labels := by
  induction e with
  | leaf legs v => intro l hl; simp [binds, pairLegs] at hl
  | dot a b ps iha ihb =>
    obtain ⟨ha, hb, _, hps⟩ := h
    intro l hl
    rcases mem_pairLegs_append.1 hl with hl | hl
    · rcases List.mem_append.1 hl with hl | hl
      · obtain ⟨p, hp, rfl⟩ := List.mem_map.1 hl
        exact List.mem_append_left _ (free_sub_labels a _ (hps p hp).1)
      · obtain ⟨p, hp, rfl⟩ := List.mem_map.1 hl
        exact List.mem_append_right _ (free_sub_labels b _ (hps p hp).2)
    · exact List.mem_append.2 ((mem_pairLegs_append.1 hl).imp (iha ha l) (ihb hb l))

set_option linter.unusedSectionVars false in
theorem leafProd_dot (a b : Expr L R) (ps : List (L × L)) (σ : Asg L) :
    (dot a b ps).leafProd σ = a.leafProd σ * b.leafProd σ := by
  simp [leafProd, leaves, prodL_append]

theorem leafProd_dependsOn (e : Expr L R) (h : e.WF) : DependsOn (· ∈ e.labels) e.leafProd := by
  induction e with
  | leaf legs v =>
    intro σ τ hst
    simp only [leafProd, leaves, List.map_cons, List.map_nil, prodL, mul_one]
    exact h σ τ hst
  | dot a b ps iha ihb =>
    obtain ⟨ha, hb, _, _⟩ := h
    intro σ τ hst
    rw [leafProd_dot, leafProd_dot]
    rw [iha ha σ τ (fun l hl => hst l (by simp [labels, hl])),
        ihb hb σ τ (fun l hl => hst l (by simp [labels, hl]))]

/-- the product of the two big sums of disjoint sub-networks is the big sum of the joint network -/
theorem full_mul_full (dim : L → Nat) (a b : Expr L R) (ha : a.WF) (hb : b.WF)
    (hdis : ∀ l ∈ a.labels, l ∉ b.labels) (σ : Asg L) :
    a.full dim σ * b.full dim σ =
      sumPairs dim (a.binds ++ b.binds) (fun σ => a.leafProd σ * b.leafProd σ) σ := by
  rw [sumPairs_append]
  have hPa := leafProd_dependsOn a ha
  have hPb := leafProd_dependsOn b hb
  have h1 : ∀ τ, sumPairs dim b.binds (fun σ => a.leafProd σ * b.leafProd σ) τ
      = a.leafProd τ * sumPairs dim b.binds b.leafProd τ := by
    intro τ
    exact sumPairs_mul_left dim b.binds b.leafProd a.leafProd hPa
      (fun l hl hla => hdis l hla (binds_sub_labels b hb l hl)) τ
  rw [sumPairs_congr dim a.binds h1]
  have hg : DependsOn (· ∈ b.labels) (sumPairs dim b.binds b.leafProd) :=
    (sumPairs_dependsOn dim b.binds hPb).mono (fun l hl => hl.1)
  rw [sumPairs_mul_right dim a.binds a.leafProd _ hg
      (fun l hl hlb => hdis l (binds_sub_labels a ha l hl) hlb) σ]
  rfl

/-- **Nested pairwise contraction = one big sum.**  For every well-formed expression — any nesting of
`tensordot` calls over leaf tensors with pairwise distinct labels — evaluating the way the program does
gives the sum, over one common index per bound pair of the binding record, of the product of all leaf
tensors.  No size bound, any commutative semiring. -/
theorem eval_eq_full (dim : L → Nat) (e : Expr L R) (h : e.WF) (σ : Asg L) :
    e.eval dim σ = e.full dim σ := by
  induction e generalizing σ with
  | leaf legs v => simp [eval, full, binds, sumPairs, leafProd, leaves, prodL]
  | dot a b ps iha ihb =>
    obtain ⟨ha, hb, hdis, hps⟩ := h
    simp only [eval, full, binds]
    rw [sumPairs_append]
    apply sumPairs_congr
    intro τ
    rw [iha ha, ihb hb, full_mul_full dim a b ha hb hdis]
    exact sumPairs_congr dim _ (fun ρ => (leafProd_dot a b ps ρ).symm) τ

/-- **The value of a contraction program is determined by its leg graph.**  Two well-formed nestings
whose binding records agree up to order (no leg bound twice) and whose leaf products agree have the same
value — whatever the order and grouping of the `tensordot` calls. -/
theorem eval_eq_of_perm (dim : L → Nat) (e₁ e₂ : Expr L R) (h₁ : e₁.WF) (h₂ : e₂.WF)
    (hb : e₁.binds.Perm e₂.binds) (hnd : (pairLegs e₁.binds).Nodup)
    (hl : ∀ σ, e₁.leafProd σ = e₂.leafProd σ) (σ : Asg L) :
    e₁.eval dim σ = e₂.eval dim σ := by
  rw [eval_eq_full dim e₁ h₁, eval_eq_full dim e₂ h₂]
  simp only [full]
  rw [sumPairs_perm dim hb hnd]
  exact sumPairs_congr dim _ hl σ

end Expr

end Ptn.Ein

/- Mathlib declares a root `DependsOn`; under `open Ptn.Ein` every mention of `DependsOn` would be overloaded and
elaborated once per reading.  The alias `Ptn.DependsOn` is found first from inside every namespace `Ptn.*`. -/
namespace Ptn
export Ein (DependsOn)
end Ptn
