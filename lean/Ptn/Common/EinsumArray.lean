import Ptn.Common.EinsumBuilt
import Ptn.C11.TensordotLemmas
/-! Bridge between the array model of C11 (`Ptn.C11.Arr`: shape + flat C-order data; `arrTensordot` = NumPy's
implementation of `tensordot`) and the semantics `Ptn.Ein`.  An array is a leaf tensor through a labelling of its axes
(`Ptn.C11.Arr.toLeaf`; here `Labelling`, `axisLegs`); then transposition is relabelling, `tensordot` is `sumPairs` over the
zipped labels, and a program of `tensordot` calls (`Prog`) computes the `eval` of the expression it denotes.  Rests on the
entry formula `Ptn.C11.arrTensordot_get`.  By content and imports a file of C11 (only `Ptn/C11/Props.lean` imports it); it
stands in `Common` beside the semantics it bridges to (DESIGN.md, "Modules across directories"). -/
namespace Ptn.Ein

open Ptn.C11

variable {L : Type} [DecidableEq L] {α : Type} [CommSemiring α]

theorem sumPairs_eq_sumIdx (dim : L → Nat) (ps : List (L × L)) (f : Asg L → α) (σ : Asg L) :
    sumPairs dim ps f σ = sumIdx (ps.map (fun p => dim p.1)) (fun ks => f (updPairs σ ps ks)) := by
  induction ps generalizing σ with
  | nil => rfl
  | cons p ps ih =>
    obtain ⟨a, b⟩ := p
    simp only [sumPairs, List.map_cons, sumIdx]
    congr 1
    funext i
    rw [ih]
    rfl

theorem updPairs_of_not_mem (σ : Asg L) (ps : List (L × L)) (ks : List Nat) (l : L)
    (h : l ∉ Expr.pairLegs ps) : updPairs σ ps ks l = σ l := by
  induction ps generalizing σ ks with
  | nil => rfl
  | cons p ps ih =>
    obtain ⟨a, b⟩ := p
    cases ks with
    | nil => rfl
    | cons k ks =>
      have hm := (pairLegs_cons_perm (a, b) ps).mem_iff.not.1 h
      simp only [List.mem_cons, not_or] at hm
      show updPairs (upd (upd σ a k) b k) ps ks l = σ l
      rw [ih _ _ hm.2.2, upd_same_of_ne _ hm.2.1, upd_same_of_ne _ hm.1]

/-- at the assignment `sumPairs` visits for the indices `ks`, both legs of the `m`-th pair carry `ks[m]` -/
theorem map_updPairs (σ : Asg L) (ps : List (L × L)) (ks : List Nat)
    (hnd : (Expr.pairLegs ps).Nodup) (hl : ks.length = ps.length) :
    (ps.map Prod.fst).map (updPairs σ ps ks) = ks ∧ (ps.map Prod.snd).map (updPairs σ ps ks) = ks := by
  induction ps generalizing σ ks with
  | nil =>
    cases ks with
    | nil => exact ⟨rfl, rfl⟩
    | cons _ _ => simp at hl
  | cons p ps ih =>
    obtain ⟨a, b⟩ := p
    cases ks with
    | nil => simp at hl
    | cons k ks =>
      have hnd' := (pairLegs_cons_perm (a, b) ps).nodup_iff.1 hnd
      simp only [List.nodup_cons, List.mem_cons, not_or] at hnd'
      obtain ⟨⟨hab, ha⟩, hb, hps⟩ := hnd'
      obtain ⟨ih1, ih2⟩ := ih (upd (upd σ a k) b k) ks hps (by simpa using hl)
      have ea : updPairs (upd (upd σ a k) b k) ps ks a = k := by
        rw [updPairs_of_not_mem _ _ _ _ ha, upd_same_of_ne _ hab, upd_self]
      have eb : updPairs (upd (upd σ a k) b k) ps ks b = k := by
        rw [updPairs_of_not_mem _ _ _ _ hb, upd_self]
      exact ⟨congrArg₂ List.cons ea ih1, congrArg₂ List.cons eb ih2⟩

omit [DecidableEq L] [CommSemiring α] in
theorem toLeaf_dependsOn (A : Arr α) (legs : List L) : DependsOn (· ∈ legs) (A.toLeaf legs) := by
  intro σ τ h
  show A.get (legs.map σ) = A.get (legs.map τ)
  rw [List.map_congr_left h]

omit [DecidableEq L] in
/-- the multi-index an assignment gives the labelled axes, seen through any permutation of the axes -/
theorem map_labels_eq_unpermute (n : Nat) (lab : Nat → L) (τ : Asg L) (axes : List Nat)
    (hp : axes.Perm (List.range n)) :
    ((List.range n).map lab).map τ = unpermute axes (axes.map (fun x => τ (lab x))) := by
  rw [unpermute_map_fn axes n hp, List.map_map]
  rfl

theorem validIdx_length_eq (sh idx : List Nat) (h : ValidIdx sh idx) : idx.length = sh.length :=
  validIdx_length sh idx h

/-- `lab x` is the label of axis `x` of an array of shape `sh`: distinct axes carry distinct labels and the
    dimension table `dim` agrees with the shape -/
structure Labelling (dim : L → Nat) (sh : List Nat) (lab : Nat → L) : Prop where
  dim_eq : ∀ x, x < sh.length → dim (lab x) = dimAt sh x
  inj : ∀ x y, x < sh.length → y < sh.length → lab x = lab y → x = y

/-- the labels of the axes `0 … n-1`, in axis order -/
def axisLegs (lab : Nat → L) (n : Nat) : List L := (List.range n).map lab

omit [DecidableEq L] in
theorem Labelling.nodup_map {dim : L → Nat} {sh : List Nat} {lab : Nat → L} (hL : Labelling dim sh lab)
    {xs : List Nat} (hxs : xs.Nodup) (hlt : ∀ x ∈ xs, x < sh.length) : (xs.map lab).Nodup :=
  List.Nodup.map_on (fun x hx y hy hxy => hL.inj x y (hlt x hx) (hlt y hy) hxy) hxs

omit [DecidableEq L] in
theorem Labelling.not_mem_map {dim : L → Nat} {sh : List Nat} {lab : Nat → L} (hL : Labelling dim sh lab)
    {xs : List Nat} (hlt : ∀ y ∈ xs, y < sh.length) {x : Nat} (hx : x < sh.length) (hxs : x ∉ xs) :
    lab x ∉ xs.map lab := fun hm =>
  let ⟨y, hy, e⟩ := List.mem_map.1 hm
  hxs (hL.inj y x (hlt y hy) hx e ▸ hy)

set_option linter.unusedSectionVars false in
/-- **Transposition = relabelling.**  The array transposed by `first ++ last`, read through the labels permuted
    the same way, is the same leaf tensor as the input read through its own labels. -/
theorem arrTranspose_relabel (dim : L → Nat) (A At : Arr α) (first last : List Nat) (lab : Nat → L)
    (h : Bipartition A.shape first last) (ht : A.transposeBy first last = some At)
    (hdim : ∀ x, x < A.shape.length → dim (lab x) = dimAt A.shape x)
    (σ : Asg L) (hσ : ∀ x, x < A.shape.length → σ (lab x) < dim (lab x)) :
    At.toLeaf ((first ++ last).map lab) σ = A.toLeaf (axisLegs lab A.shape.length) σ := by
  show At.get (((first ++ last).map lab).map σ) = A.get ((axisLegs lab A.shape.length).map σ)
  have hlt := perm_range_lt h
  rw [axisLegs, map_labels_eq_unpermute A.shape.length lab σ (first ++ last) h, List.map_map]
  apply transposeBy_get_unpermute A At first last h ht
  rw [← List.map_append]
  refine (validIdx_map_iff _ _ _).2 fun x hx => ?_
  rw [← hdim x (hlt x hx)]
  exact hσ x (hlt x hx)

/-- **`numpy.tensordot` computes `sumPairs`.** -/
theorem arrTensordot_sumPairs (dim : L → Nat) (a b : Arr α) (ia ib : List Nat) (la lb : Nat → L)
    (hia : ia.Nodup) (hib : ib.Nodup)
    (hlta : ∀ x ∈ ia, x < a.shape.length) (hltb : ∀ x ∈ ib, x < b.shape.length)
    (hd : ia.map (dimAt a.shape) = ib.map (dimAt b.shape))
    (hLa : Labelling dim a.shape la) (hLb : Labelling dim b.shape lb)
    (hdis : ∀ x y, x < a.shape.length → y < b.shape.length → la x ≠ lb y) :
    ∃ C, arrTensordot a b ia ib = some C ∧
      C.shape = ((notIn a.shape.length ia).map la ++ (notIn b.shape.length ib).map lb).map dim ∧
      ∀ σ : Asg L,
        (∀ l ∈ (notIn a.shape.length ia).map la ++ (notIn b.shape.length ib).map lb, σ l < dim l) →
        C.toLeaf ((notIn a.shape.length ia).map la ++ (notIn b.shape.length ib).map lb) σ =
          sumPairs dim (List.zip (ia.map la) (ib.map lb))
            (fun τ => a.toLeaf (axisLegs la a.shape.length) τ * b.toLeaf (axisLegs lb b.shape.length) τ) σ := by
  obtain ⟨C, hC, hsh, hget⟩ := arrTensordot_get a b ia ib hia hib hlta hltb hd
  have hra_lt : ∀ x ∈ notIn a.shape.length ia, x < a.shape.length := fun x hx => ((mem_notIn _ _ _).1 hx).1
  have hrb_lt : ∀ x ∈ notIn b.shape.length ib, x < b.shape.length := fun x hx => ((mem_notIn _ _ _).1 hx).1
  have hA := bipartition_notIn_left a.shape ia hia hlta
  have hB := bipartition_notIn_right b.shape ib hib hltb
  refine ⟨C, hC, ?_, ?_⟩
  · rw [hsh, List.map_append, List.map_map, List.map_map]
    congr 1 <;> apply List.map_congr_left <;> intro x hx
    · exact (hLa.dim_eq x (hra_lt x hx)).symm
    · exact (hLb.dim_eq x (hrb_lt x hx)).symm
  · intro σ hσ
    have hlen : ia.length = ib.length := by simpa using congrArg List.length hd
    have hfst : (List.zip (ia.map la) (ib.map lb)).map Prod.fst = ia.map la :=
      List.map_fst_zip (by simp [hlen])
    have hsnd : (List.zip (ia.map la) (ib.map lb)).map Prod.snd = ib.map lb :=
      List.map_snd_zip (by simp [hlen])
    have hpl : Expr.pairLegs (List.zip (ia.map la) (ib.map lb)) = ia.map la ++ ib.map lb := by
      simp only [Expr.pairLegs, hfst, hsnd]
    have hab : ∀ x, x < a.shape.length → la x ∉ ib.map lb := fun x hx hm => by
      obtain ⟨y, hy, e⟩ := List.mem_map.1 hm
      exact hdis x y hx (hltb y hy) e.symm
    have hba : ∀ y, y < b.shape.length → lb y ∉ ia.map la := fun y hy hm => by
      obtain ⟨x, hx, e⟩ := List.mem_map.1 hm
      exact hdis x y (hlta x hx) hy e
    have hnd : (Expr.pairLegs (List.zip (ia.map la) (ib.map lb))).Nodup := by
      rw [hpl, List.nodup_append]
      refine ⟨hLa.nodup_map hia hlta, hLb.nodup_map hib hltb, fun l hl1 l' hl2 hll => ?_⟩
      obtain ⟨x, hx, rfl⟩ := List.mem_map.1 hl1
      exact hab x (hlta x hx) (hll ▸ hl2)
    -- free labels are not bound
    have hfa : ∀ x ∈ notIn a.shape.length ia, la x ∉ Expr.pairLegs (List.zip (ia.map la) (ib.map lb)) := by
      intro x hx
      rw [hpl, List.mem_append, not_or]
      exact ⟨hLa.not_mem_map hlta (hra_lt x hx) ((mem_notIn _ _ _).1 hx).2, hab x (hra_lt x hx)⟩
    have hfb : ∀ x ∈ notIn b.shape.length ib, lb x ∉ Expr.pairLegs (List.zip (ia.map la) (ib.map lb)) := by
      intro x hx
      rw [hpl, List.mem_append, not_or]
      exact ⟨hba x (hrb_lt x hx), hLb.not_mem_map hltb (hrb_lt x hx) ((mem_notIn _ _ _).1 hx).2⟩
    have hdims : (List.zip (ia.map la) (ib.map lb)).map (fun p => dim p.1) = ia.map (dimAt a.shape) := by
      have : (List.zip (ia.map la) (ib.map lb)).map (fun p => dim p.1) =
          ((List.zip (ia.map la) (ib.map lb)).map Prod.fst).map dim := by rw [List.map_map]; rfl
      rw [this, hfst, List.map_map]
      apply List.map_congr_left
      intro x hx
      exact hLa.dim_eq x (hlta x hx)
    rw [sumPairs_eq_sumIdx, hdims]
    have his : ValidIdx ((notIn a.shape.length ia).map (dimAt a.shape))
        ((notIn a.shape.length ia).map (fun x => σ (la x))) :=
      (validIdx_map_iff _ _ _).2 fun x hx =>
        hLa.dim_eq x (hra_lt x hx) ▸ hσ _ (List.mem_append_left _ (List.mem_map_of_mem hx))
    have hjs : ValidIdx ((notIn b.shape.length ib).map (dimAt b.shape))
        ((notIn b.shape.length ib).map (fun x => σ (lb x))) :=
      (validIdx_map_iff _ _ _).2 fun x hx =>
        hLb.dim_eq x (hrb_lt x hx) ▸ hσ _ (List.mem_append_right _ (List.mem_map_of_mem hx))
    have hL : C.toLeaf ((notIn a.shape.length ia).map la ++ (notIn b.shape.length ib).map lb) σ =
        C.get ((notIn a.shape.length ia).map (fun x => σ (la x)) ++
          (notIn b.shape.length ib).map (fun x => σ (lb x))) := by
      show C.get _ = _
      rw [List.map_append, List.map_map, List.map_map]
      rfl
    rw [hL, hget _ _ his hjs]
    apply sumIdx_congr
    intro ks hks
    have hkl : ks.length = (List.zip (ia.map la) (ib.map lb)).length := by
      rw [validIdx_length _ _ hks]; simp [hlen]
    have hka : ia.map (fun x => updPairs σ (List.zip (ia.map la) (ib.map lb)) ks (la x)) = ks := by
      have := (map_updPairs σ _ ks hnd hkl).1
      rwa [hfst, List.map_map] at this
    have hkb : ib.map (fun x => updPairs σ (List.zip (ia.map la) (ib.map lb)) ks (lb x)) = ks := by
      have := (map_updPairs σ _ ks hnd hkl).2
      rwa [hsnd, List.map_map] at this
    show _ = a.get ((axisLegs la a.shape.length).map _) * b.get ((axisLegs lb b.shape.length).map _)
    rw [axisLegs, axisLegs, map_labels_eq_unpermute a.shape.length la _ _ hA,
      map_labels_eq_unpermute b.shape.length lb _ _ hB, List.map_append, List.map_append]
    have e1 : (notIn a.shape.length ia).map
        (fun x => updPairs σ (List.zip (ia.map la) (ib.map lb)) ks (la x)) =
        (notIn a.shape.length ia).map (fun x => σ (la x)) :=
      List.map_congr_left fun x hx => updPairs_of_not_mem σ _ ks _ (hfa x hx)
    have e2 : (notIn b.shape.length ib).map
        (fun x => updPairs σ (List.zip (ia.map la) (ib.map lb)) ks (lb x)) =
        (notIn b.shape.length ib).map (fun x => σ (lb x)) :=
      List.map_congr_left fun x hx => updPairs_of_not_mem σ _ ks _ (hfb x hx)
    rw [e1, e2, hka, hkb]

theorem filter_axisLegs (n : Nat) (lab : Nat → L) (axes : List Nat)
    (hinj : ∀ x y, x < n → y < n → lab x = lab y → x = y) (hlt : ∀ x ∈ axes, x < n) :
    (axisLegs lab n).filter (fun l => !(axes.map lab).contains l) = (notIn n axes).map lab := by
  unfold axisLegs notIn
  rw [List.filter_map]
  congr 1
  apply List.filter_congr
  intro x hx
  have hx' : x < n := by simpa using hx
  simp only [Function.comp, List.contains_eq_mem, List.mem_map]
  congr 2
  apply propext
  constructor
  · rintro ⟨y, hy, hxy⟩
    exact (hinj y x (hlt y hy) hx' hxy) ▸ hy
  · intro h
    exact ⟨x, h, rfl⟩

/-- the call `numpy.tensordot(a, b, axes=(ia, ib))` as an expression of the network semantics: the two arrays as
    leaves named by their axis labels, contracted over the zipped labels of the listed axes -/
def tensordotExpr (a b : Arr α) (ia ib : List Nat) (la lb : Nat → L) : Expr L α :=
  Expr.dot (Expr.leaf (axisLegs la a.shape.length) (a.toLeaf (axisLegs la a.shape.length)))
    (Expr.leaf (axisLegs lb b.shape.length) (b.toLeaf (axisLegs lb b.shape.length)))
    (List.zip (ia.map la) (ib.map lb))

/-- **`numpy.tensordot` is `Expr.dot`.**  The two labelled arrays as leaves, contracted over the zipped labels of
    the listed axes: the expression is strongly well formed, the result array has the dimensions of the free legs
    in NumPy's order and, read through them, is the value of the expression. -/
theorem arrTensordot_dot (dim : L → Nat) (a b : Arr α) (ia ib : List Nat) (la lb : Nat → L)
    (hia : ia.Nodup) (hib : ib.Nodup)
    (hlta : ∀ x ∈ ia, x < a.shape.length) (hltb : ∀ x ∈ ib, x < b.shape.length)
    (hd : ia.map (dimAt a.shape) = ib.map (dimAt b.shape))
    (hLa : Labelling dim a.shape la) (hLb : Labelling dim b.shape lb)
    (hdis : ∀ x y, x < a.shape.length → y < b.shape.length → la x ≠ lb y) :
    ∃ C, arrTensordot a b ia ib = some C ∧
      (tensordotExpr a b ia ib la lb).SWF ∧
      C.shape = (tensordotExpr a b ia ib la lb).free.map dim ∧
      ∀ σ : Asg L,
        (∀ l ∈ (tensordotExpr a b ia ib la lb).free, σ l < dim l) →
        C.toLeaf (tensordotExpr a b ia ib la lb).free σ =
        (tensordotExpr a b ia ib la lb).eval dim σ := by
  obtain ⟨C, hC, hsh, hval⟩ := arrTensordot_sumPairs dim a b ia ib la lb hia hib hlta hltb hd hLa hLb hdis
  have hlen : ia.length = ib.length := by simpa using congrArg List.length hd
  have hfst : (List.zip (ia.map la) (ib.map lb)).map Prod.fst = ia.map la :=
    List.map_fst_zip (by simp [hlen])
  have hsnd : (List.zip (ia.map la) (ib.map lb)).map Prod.snd = ib.map lb :=
    List.map_snd_zip (by simp [hlen])
  have hfree : (tensordotExpr a b ia ib la lb).free =
      (notIn a.shape.length ia).map la ++ (notIn b.shape.length ib).map lb := by
    simp only [tensordotExpr, Expr.free, hfst, hsnd]
    rw [filter_axisLegs _ la ia hLa.inj hlta, filter_axisLegs _ lb ib hLb.inj hltb]
  have hndA : (axisLegs la a.shape.length).Nodup :=
    hLa.nodup_map List.nodup_range fun _ hx => List.mem_range.1 hx
  have hndB : (axisLegs lb b.shape.length).Nodup :=
    hLb.nodup_map List.nodup_range fun _ hx => List.mem_range.1 hx
  refine ⟨C, hC, ?_, ?_, ?_⟩
  · refine ⟨⟨hndA, toLeaf_dependsOn a _⟩, ⟨hndB, toLeaf_dependsOn b _⟩, ?_, ?_, ?_, ?_⟩
    · intro l hl1 hl2
      simp only [Expr.labels, axisLegs, List.mem_map, List.mem_range] at hl1 hl2
      obtain ⟨x, hx, rfl⟩ := hl1
      obtain ⟨y, hy, hxy⟩ := hl2
      exact hdis x y hx hy hxy.symm
    · rintro ⟨p1, p2⟩ hp
      have := List.of_mem_zip hp
      simp only [Expr.free, axisLegs, List.mem_map, List.mem_range]
      obtain ⟨⟨x, hx, rfl⟩, ⟨y, hy, rfl⟩⟩ := this.imp List.mem_map.1 List.mem_map.1
      exact ⟨⟨x, hlta x hx, rfl⟩, ⟨y, hltb y hy, rfl⟩⟩
    · rw [hfst]
      exact hLa.nodup_map hia hlta
    · rw [hsnd]
      exact hLb.nodup_map hib hltb
  · rw [hfree]; exact hsh
  · rw [hfree]
    intro σ hσ
    exact hval σ hσ

theorem foldl_mul_eq_prod (ds : List Nat) (c : Nat) : ds.foldl (· * ·) c = c * prod ds := by
  induction ds generalizing c with
  | nil => simp [prod]
  | cons d ds ih => simp [List.foldl_cons, ih, prod, Nat.mul_assoc]

theorem ravel_eq_some {L : Type} (dim : L → Nat) (σ : Asg L) : ∀ legs : List L, (∀ l ∈ legs, σ l < dim l) →
    Ptn.Ein.ravel dim σ legs = some (Ptn.C11.ravel (legs.map dim) (legs.map σ))
  | [], _ => rfl
  | l :: ls, h => by
    have ih := ravel_eq_some dim σ ls (fun x hx => h x (by simp [hx]))
    have hl : σ l < dim l := h l (by simp)
    simp only [Ptn.Ein.ravel, hl, if_true, ih, List.map_cons, Ptn.C11.ravel, foldl_mul_eq_prod, Nat.one_mul]

/-- the leaf tensors of the line protocol (`einrec`, `ein`) are arrays of shape `legs.map dim` read through
    `legs`, at every assignment within the dimensions -/
theorem leafOfData_eq_toLeaf {L : Type} (dim : L → Nat) (legs : List L) (data : Array Int) (σ : Asg L)
    (h : ∀ l ∈ legs, σ l < dim l) :
    leafOfData dim legs data σ = (⟨legs.map dim, fun k => data.getD k 0⟩ : Arr Int).toLeaf legs σ := by
  simp only [leafOfData, ravel_eq_some dim σ legs h]
  rfl

/-- a contraction program on arrays: the leaves carry an array and the labels of its axes -/
inductive Prog (L α : Type) where
  | leaf (legs : List L) (A : Arr α)
  | dot (p q : Prog L α) (pairs : List (L × L))

namespace Prog

/-- the expression of the network semantics the program denotes -/
def expr : Prog L α → Expr L α
  | leaf legs A => Expr.leaf legs (A.toLeaf legs)
  | dot p q ps => Expr.dot p.expr q.expr ps

/-- running the program with `numpy.tensordot`: the axes of a call are the positions of the pair labels among
    the legs of the two operands (`fa.index(x)`); `none` = NumPy raises somewhere -/
def run : Prog L α → Option (Arr α)
  | leaf _ A => some A
  | dot p q ps =>
    match p.run, q.run with
    | some A, some B =>
      arrTensordot A B (ps.map (fun pr => p.expr.free.idxOf pr.1)) (ps.map (fun pr => q.expr.free.idxOf pr.2))
    | _, _ => none

/-- the arrays have the dimensions of their labels, bound legs have equal dimensions -/
def Dims (dim : L → Nat) : Prog L α → Prop
  | leaf legs A => A.shape = legs.map dim
  | dot p q ps => p.Dims dim ∧ q.Dims dim ∧ ∀ pr ∈ ps, dim pr.1 = dim pr.2

end Prog

theorem dimAt_map_idxOf (dim : L → Nat) (fa : List L) (l : L) (h : l ∈ fa) :
    dimAt (fa.map dim) (fa.idxOf l) = dim l := by
  have hlt := List.idxOf_lt_length_of_mem h
  simp [dimAt, List.getD_eq_getElem?_getD, hlt, List.getElem_idxOf]

/-- the positions in `fa` of distinct members of `fa` are distinct -/
theorem nodup_map_idxOf [Inhabited L] {β : Type} (fa : List L) (g : β → L) (ps : List β)
    (hnd : (ps.map g).Nodup) (h : ∀ pr ∈ ps, g pr ∈ fa) : (ps.map (fun pr => fa.idxOf (g pr))).Nodup :=
  List.Nodup.map_on (fun x hx y hy hxy => List.inj_on_of_nodup_map hnd hx hy (by
    rw [← getD_idxOf (h x hx) default, ← getD_idxOf (h y hy) default, hxy])) (List.Nodup.of_map g hnd)

theorem map_getD_idxOf [Inhabited L] {β : Type} (fa : List L) (g : β → L) (ps : List β)
    (h : ∀ pr ∈ ps, g pr ∈ fa) :
    (ps.map (fun pr => fa.idxOf (g pr))).map (fun x => fa.getD x default) = ps.map g := by
  rw [List.map_map]
  exact List.map_congr_left fun pr hpr => getD_idxOf (h pr hpr) default

omit [DecidableEq L] in
/-- distinct labels, read by position, label an array whose shape is their dimensions -/
theorem labelling_getD [Inhabited L] (dim : L → Nat) (fa : List L) (hnd : fa.Nodup) :
    Labelling dim (fa.map dim) (fun x => fa.getD x default) := by
  constructor
  · intro x hx
    rw [List.length_map] at hx
    simp [dimAt, List.getD_eq_getElem?_getD, hx]
  · intro x y hx hy hxy
    rw [List.length_map] at hx hy
    simp only [List.getD_eq_getElem?_getD, List.getElem?_eq_getElem hx, List.getElem?_eq_getElem hy,
      Option.getD_some] at hxy
    exact hnd.getElem_inj_iff.1 hxy

omit [DecidableEq L] in
theorem zip_map_fst_snd (ps : List (L × L)) : List.zip (ps.map Prod.fst) (ps.map Prod.snd) = ps :=
  (List.zip_of_prod rfl rfl).symm

/-- **Programs of `numpy.tensordot` calls compute `Expr.eval`.**  For every strongly well-formed contraction
    program on arrays whose arrays have the dimensions of their labels and whose bound legs have equal dimensions:
    running it with `arrTensordot` (axes = positions of the pair labels among the operands' legs) succeeds, the
    result has the dimensions of the free legs in NumPy's order, and read through the free legs it is the value
    `Expr.eval` of the denoted expression at every assignment within the dimensions of the free legs. -/
theorem Prog.run_eq_eval [Inhabited L] (dim : L → Nat) (p : Prog L α) (hswf : p.expr.SWF) (hdim : p.Dims dim) :
    ∃ C, p.run = some C ∧ C.shape = p.expr.free.map dim ∧
      ∀ σ : Asg L, (∀ l ∈ p.expr.free, σ l < dim l) → C.toLeaf p.expr.free σ = p.expr.eval dim σ := by
  induction p with
  | leaf legs A => exact ⟨A, rfl, hdim, fun σ _ => rfl⟩
  | dot p q ps ihp ihq =>
    obtain ⟨hp, hq, hdis, hps, hn1, hn2⟩ := hswf
    obtain ⟨hdp, hdq, hpd⟩ := hdim
    obtain ⟨Ca, hCa, hsa, hva⟩ := ihp hp hdp
    obtain ⟨Cb, hCb, hsb, hvb⟩ := ihq hq hdq
    have hfa := Expr.free_nodup p.expr hp.labels_nodup
    have hfb := Expr.free_nodup q.expr hq.labels_nodup
    have hna : Ca.shape.length = p.expr.free.length := by rw [hsa]; simp
    have hnb : Cb.shape.length = q.expr.free.length := by rw [hsb]; simp
    -- the request
    have hia : (ps.map (fun pr => p.expr.free.idxOf pr.1)).Nodup :=
      nodup_map_idxOf _ Prod.fst ps hn1 fun pr hpr => (hps pr hpr).1
    have hib : (ps.map (fun pr => q.expr.free.idxOf pr.2)).Nodup :=
      nodup_map_idxOf _ Prod.snd ps hn2 fun pr hpr => (hps pr hpr).2
    have hlta : ∀ x ∈ ps.map (fun pr => p.expr.free.idxOf pr.1), x < Ca.shape.length := by
      intro x hx
      obtain ⟨pr, hpr, rfl⟩ := List.mem_map.1 hx
      rw [hna]; exact List.idxOf_lt_length_of_mem (hps pr hpr).1
    have hltb : ∀ x ∈ ps.map (fun pr => q.expr.free.idxOf pr.2), x < Cb.shape.length := by
      intro x hx
      obtain ⟨pr, hpr, rfl⟩ := List.mem_map.1 hx
      rw [hnb]; exact List.idxOf_lt_length_of_mem (hps pr hpr).2
    have hd : (ps.map (fun pr => p.expr.free.idxOf pr.1)).map (dimAt Ca.shape) =
        (ps.map (fun pr => q.expr.free.idxOf pr.2)).map (dimAt Cb.shape) := by
      rw [List.map_map, List.map_map]
      apply List.map_congr_left
      intro pr hpr
      simp only [Function.comp, hsa, hsb]
      rw [dimAt_map_idxOf dim _ _ (hps pr hpr).1, dimAt_map_idxOf dim _ _ (hps pr hpr).2]
      exact hpd pr hpr
    have hLa : Labelling dim Ca.shape (fun x => p.expr.free.getD x default) := by
      rw [hsa]; exact labelling_getD dim _ hfa
    have hLb : Labelling dim Cb.shape (fun y => q.expr.free.getD y default) := by
      rw [hsb]; exact labelling_getD dim _ hfb
    have hdisj : ∀ x y, x < Ca.shape.length → y < Cb.shape.length →
        (fun x => p.expr.free.getD x default) x ≠ (fun y => q.expr.free.getD y default) y := by
      intro x y hx hy hxy
      rw [hna] at hx
      rw [hnb] at hy
      simp only [List.getD_eq_getElem?_getD, List.getElem?_eq_getElem hx, List.getElem?_eq_getElem hy,
        Option.getD_some] at hxy
      exact hdis _ (Expr.free_sub_labels p.expr _ (List.getElem_mem hx))
        (hxy ▸ Expr.free_sub_labels q.expr _ (List.getElem_mem hy))
    obtain ⟨C, hC, hsh, hval⟩ := arrTensordot_sumPairs dim Ca Cb _ _ _ _ hia hib hlta hltb hd hLa hLb hdisj
    -- translate back to labels
    have eA : axisLegs (fun x => p.expr.free.getD x default) Ca.shape.length = p.expr.free := by
      rw [hna]; exact map_getD_range _ default
    have eB : axisLegs (fun y => q.expr.free.getD y default) Cb.shape.length = q.expr.free := by
      rw [hnb]; exact map_getD_range _ default
    have eia : (ps.map (fun pr => p.expr.free.idxOf pr.1)).map (fun x => p.expr.free.getD x default) =
        ps.map Prod.fst := map_getD_idxOf _ Prod.fst ps fun pr hpr => (hps pr hpr).1
    have eib : (ps.map (fun pr => q.expr.free.idxOf pr.2)).map (fun y => q.expr.free.getD y default) =
        ps.map Prod.snd := map_getD_idxOf _ Prod.snd ps fun pr hpr => (hps pr hpr).2
    have efa := filter_axisLegs Ca.shape.length (fun x => p.expr.free.getD x default) _ hLa.inj hlta
    have efb := filter_axisLegs Cb.shape.length (fun y => q.expr.free.getD y default) _ hLb.inj hltb
    rw [eA, eia] at efa
    rw [eB, eib] at efb
    have hfree : (Prog.dot p q ps).expr.free =
        (notIn Ca.shape.length (ps.map (fun pr => p.expr.free.idxOf pr.1))).map
            (fun x => p.expr.free.getD x default) ++
          (notIn Cb.shape.length (ps.map (fun pr => q.expr.free.idxOf pr.2))).map
            (fun y => q.expr.free.getD y default) := by
      simp only [Prog.expr, Expr.free]
      rw [efa, efb]
    refine ⟨C, ?_, ?_, ?_⟩
    · simp only [Prog.run, hCa, hCb]
      exact hC
    · rw [hfree]; exact hsh
    · intro σ hσ
      rw [hfree, hval σ (hfree ▸ hσ), eA, eB, eia, eib, zip_map_fst_snd]
      show _ = sumPairs dim ps (fun τ => p.expr.eval dim τ * q.expr.eval dim τ) σ
      rw [sumPairs_eq_sumIdx, sumPairs_eq_sumIdx]
      apply sumIdx_congr
      intro ks hks
      -- the assignments the sum visits are within the dimensions of the operands' free legs
      have hpl : (Expr.pairLegs ps).Nodup :=
        (List.nodup_append.1 ((Expr.pairLegs_append ps _).nodup_iff.1
          (Expr.binds_nodup (.dot p.expr q.expr ps) ⟨hp, hq, hdis, hps, hn1, hn2⟩))).1
      have hkl : ks.length = ps.length := by rw [validIdx_length _ _ hks]; simp
      obtain ⟨hk1, hk2⟩ := map_updPairs σ ps ks hpl hkl
      have hv1 : ∀ l ∈ ps.map Prod.fst, updPairs σ ps ks l < dim l :=
        (validIdx_map_iff dim _ _).1 (by rw [hk1, List.map_map]; exact hks)
      have hv2 : ∀ l ∈ ps.map Prod.snd, updPairs σ ps ks l < dim l :=
        (validIdx_map_iff dim _ _).1 (by
          rw [hk2, List.map_map, List.map_congr_left (f := dim ∘ Prod.snd) (g := fun p => dim p.1) fun pr hpr => (hpd pr hpr).symm]
          exact hks)
      -- a free leg of an operand is bound by the call (and carries a valid index) or is free in the result
      have hr : ∀ l, l ∈ p.expr.free ∨ l ∈ q.expr.free → updPairs σ ps ks l < dim l := by
        intro l hl
        by_cases h : l ∈ Expr.pairLegs ps
        · exact (List.mem_append.1 h).elim (hv1 l) (hv2 l)
        · rw [updPairs_of_not_mem σ ps ks l h]
          have h' := not_or.1 fun h' => h (List.mem_append.2 h')
          exact hσ l (Expr.mem_free_dot.2 (hl.imp (⟨·, h'.1⟩) (⟨·, h'.2⟩)))
      show Ca.toLeaf p.expr.free _ * Cb.toLeaf q.expr.free _ = _
      rw [hva _ fun l hl => hr l (Or.inl hl), hvb _ fun l hl => hr l (Or.inr hl)]

end Ptn.Ein
