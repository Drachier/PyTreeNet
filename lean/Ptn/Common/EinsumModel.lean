/-! Value-level semantics of labelled tensor networks (core Lean only, executable).

The leg-label calculi of C02/C04/C05/C08/C16 record WHICH legs a run of `numpy.tensordot` calls binds
(`T.binds`).  This file gives those records a VALUE: a tensor is a function from index assignments
(`Asg L = L → Nat`, one index per leg label) to a scalar; binding a pair of legs `(a, b)` sums over a
common index for both; `Expr` is an arbitrary nesting of pairwise contractions (what a program built
from `tensordot` calls computes), `Expr.eval` evaluates it the way the program does — pair by pair,
inner results first — and `Expr.full` is the one big sum over all bound pairs of the product of all
leaf tensors (what `numpy.einsum` over the binding record computes, and what the dense definitions of
state vectors, inner products and operator sandwiches are).  `Ptn/Common/Einsum.lean` proves
`eval = full` for every well-formed expression over every commutative semiring, and that `full` does not
depend on the order of the binding record.

Everything is generic in the scalar type `R` (only `+`, `*`, `0`, `1` are used), except the integer leaves and tables of
the driver at the end of the file; the driver instantiates `R := Int`. -/
namespace Ptn.Ein

abbrev Asg (L : Type) := L → Nat

/-- `σ[l ↦ i]` -/
def upd {L : Type} [DecidableEq L] (σ : Asg L) (l : L) (i : Nat) : Asg L :=
  fun x => if x = l then i else σ x

section
variable {L : Type} [DecidableEq L] {R : Type} [Add R] [Mul R] [Zero R] [One R]

/-- `Σ_{i < n} f i` -/
def sumR (n : Nat) (f : Nat → R) : R := ((List.range n).map f).sum

/-- product of a list of scalars -/
def prodL : List R → R
  | [] => 1
  | x :: xs => x * prodL xs

/-- sum over a common index for every pair of the list (the first pair is the outermost sum); the range
of the index is the dimension of the FIRST leg of the pair (NumPy rejects a pair of unequal dimensions) -/
def sumPairs (dim : L → Nat) : List (L × L) → (Asg L → R) → Asg L → R
  | [], f, σ => f σ
  | (a, b) :: ps, f, σ => sumR (dim a) (fun i => sumPairs dim ps f (upd (upd σ a i) b i))

/-- value of the flat network with the given leaf tensors and binding record: one big sum over a common
index per bound pair of the product of all leaves -/
def netValue (dim : L → Nat) (binds : List (L × L)) (leaves : List (Asg L → R)) : Asg L → R :=
  sumPairs dim binds (fun τ => prodL (leaves.map (fun f => f τ)))

/-- an arbitrary nesting of pairwise contractions over leaf tensors -/
inductive Expr (L R : Type) where
  | leaf (legs : List L) (val : Asg L → R)
  | dot (a b : Expr L R) (pairs : List (L × L))

namespace Expr

/-- legs of the pairs -/
def pairLegs (ps : List (L × L)) : List L := ps.map Prod.fst ++ ps.map Prod.snd

/-- free legs: `a`'s remaining legs followed by `b`'s (NumPy's `tensordot` order) -/
def free : Expr L R → List L
  | leaf legs _ => legs
  | dot a b ps => (a.free.filter (fun l => !(ps.map Prod.fst).contains l)) ++
                  (b.free.filter (fun l => !(ps.map Prod.snd).contains l))

/-- the binding record: the pairs of the outermost contraction first -/
def binds : Expr L R → List (L × L)
  | leaf _ _ => []
  | dot a b ps => ps ++ (a.binds ++ b.binds)

/-- all leg labels that occur in the leaves -/
def labels : Expr L R → List L
  | leaf legs _ => legs
  | dot a b _ => a.labels ++ b.labels

/-- the leaf tensors, left to right -/
def leaves : Expr L R → List (List L × (Asg L → R))
  | leaf legs v => [(legs, v)]
  | dot a b _ => a.leaves ++ b.leaves

/-- product of all leaf tensors at one assignment -/
def leafProd (e : Expr L R) (σ : Asg L) : R := prodL (e.leaves.map (fun lf => lf.2 σ))

/-- evaluation as the program does it: inner contractions first, then the sum over this node's pairs -/
def eval (dim : L → Nat) : Expr L R → Asg L → R
  | leaf _ v => v
  | dot a b ps => sumPairs dim ps (fun σ => a.eval dim σ * b.eval dim σ)

/-- the one big sum over the whole binding record -/
def full (dim : L → Nat) (e : Expr L R) : Asg L → R := sumPairs dim e.binds e.leafProd

end Expr
end

/-! ### concrete leaf tensors for the driver: shape + C-order data -/

/-- C-order flat index of the assignment restricted to `legs` (`none`: an index is out of range) -/
def ravel {L : Type} (dim : L → Nat) (σ : Asg L) : List L → Option Nat
  | [] => some 0
  | l :: ls =>
    if σ l < dim l then
      match ravel dim σ ls with
      | some r => some (σ l * (ls.map dim).foldl (· * ·) 1 + r)
      | none => none
    else none

def leafOfData {L : Type} (dim : L → Nat) (legs : List L) (data : Array Int) : Asg L → Int :=
  fun σ => match ravel dim σ legs with
    | some k => data.getD k 0
    | none => 0

/-- all assignments of `legs` within `dim`, C order (last leg fastest), as updates of `σ` -/
def allAsg {L : Type} [DecidableEq L] (dim : L → Nat) : List L → Asg L → List (Asg L)
  | [], σ => [σ]
  | l :: ls, σ => (List.range (dim l)).flatMap (fun i => allAsg dim ls (upd σ l i))

/-- the dense table of a tensor-valued function over the given free legs, C order -/
def table {L : Type} [DecidableEq L] (dim : L → Nat) (legs : List L) (f : Asg L → Int) : List Int :=
  (allAsg dim legs (fun _ => 0)).map f

end Ptn.Ein
