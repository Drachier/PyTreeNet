/-
Abstract analysis, part L4: telescoping bounds for the error of a sequence of truncations.

Three shapes are provided.  C10 uses the first two: `Ptn.C10.trunc_error_bound_partial` (`RuleProps.lean`) is
`telescope_seq` with the bounds `N * δ j`, `Ptn.C10.telescoping` (`Telescoping.lean`) is `telescope_nonexpansive` for maps
applied in the order of their indices.  The other statements have no user.

* `telescope_seq` / `telescope_orbit`: the error of each step is measured *along the orbit*
  (`‖x_{j-1} - P_j x_{j-1}‖ ≤ δ_j`); then `‖x₀ - x_k‖ ≤ Σ δ_j` (pure triangle inequality);
* `telescope_nonexpansive` / `telescope_contraction`: the error of each map is measured *at the
  initial point* (`‖x - P_j x‖ ≤ δ_j`) and the maps are contractions (`‖P_j‖ ≤ 1`); then
  `‖x - P_k ⋯ P₁ x‖ ≤ Σ δ_j`;
* `telescope_scaled`: each step changes the state by `A_j d_j` with `‖A_j‖ ≤ N`, `‖d_j‖ ≤ δ_j`;
  then the total change is at most `N * Σ δ_j` (the bound of `Ptn.C10.trunc_error_bound_partial` with the factors `A_j` explicit).
-/
import Mathlib.Analysis.Normed.Operator.Basic

namespace Ptn.Analysis

section Seq

variable {E : Type*} [SeminormedAddCommGroup E]

/-- **L4 (sequence form).** If consecutive members of a sequence differ by at most `δ j` then
the first and the `k`-th member differ by at most `Σ_{j<k} δ j` (sweeping truncation: `x j` is the
state after `j` local truncations). -/
theorem telescope_seq (x : ℕ → E) (δ : ℕ → ℝ) (k : ℕ)
    (h : ∀ j, j < k → ‖x j - x (j + 1)‖ ≤ δ j) :
    ‖x 0 - x k‖ ≤ ∑ j ∈ Finset.range k, δ j := by
  induction k with
  | zero => simp
  | succ k ih =>
    rw [Finset.sum_range_succ]
    calc ‖x 0 - x (k + 1)‖ ≤ ‖x 0 - x k‖ + ‖x k - x (k + 1)‖ :=
          norm_sub_le_norm_sub_add_norm_sub _ _ _
      _ ≤ ∑ j ∈ Finset.range k, δ j + δ k :=
          add_le_add (ih fun j hj => h j (Nat.lt_succ_of_lt hj)) (h k (Nat.lt_succ_self k))

/-- The hypothesis of `telescope_orbit`: along the orbit `x, f₁ x, f₂ (f₁ x), …` the `j`-th map
moves the current point by at most `δ j`. -/
def OrbitBound {ι : Type*} (f : ι → E → E) (δ : ι → ℝ) : List ι → E → Prop
  | [], _ => True
  | i :: rest, x => ‖x - f i x‖ ≤ δ i ∧ OrbitBound f δ rest (f i x)

/-- **L4 (orbit form, for a list of maps).** Maps `f i`, `i ∈ L`, are applied one after the
other (head of the list first). If along the orbit each map moves the current point by at most
`δ i`, the end point is within `Σ δ i` of the start. No linearity or contractivity is needed.
In C10's terms: `f i` = truncation of bond `i`, `δ i` = discarded weight at the time of truncation. -/
theorem telescope_orbit {ι : Type*} (f : ι → E → E) (δ : ι → ℝ) (L : List ι) (x : E)
    (h : OrbitBound f δ L x) :
    ‖x - L.foldl (fun y i => f i y) x‖ ≤ (L.map δ).sum := by
  induction L generalizing x with
  | nil => simp
  | cons i rest ih =>
    obtain ⟨h1, h2⟩ := h
    rw [List.foldl_cons, List.map_cons, List.sum_cons]
    calc ‖x - rest.foldl (fun y i => f i y) (f i x)‖
        ≤ ‖x - f i x‖ + ‖f i x - rest.foldl (fun y i => f i y) (f i x)‖ :=
          norm_sub_le_norm_sub_add_norm_sub _ _ _
      _ ≤ δ i + (rest.map δ).sum := add_le_add h1 (ih (f i x) h2)

/-- **L4 (initial-point form, non-expansive maps).** If every map `f i` is non-expansive and
moves the *initial* point `x` by at most `δ i`, then the composition of all of them (head of
the list applied first) moves `x` by at most `Σ δ i`. -/
theorem telescope_nonexpansive {ι : Type*} (f : ι → E → E) (δ : ι → ℝ) (L : List ι) (x : E)
    (hf : ∀ i ∈ L, ∀ y z, ‖f i y - f i z‖ ≤ ‖y - z‖)
    (hx : ∀ i ∈ L, ‖x - f i x‖ ≤ δ i) :
    ‖x - L.foldl (fun y i => f i y) x‖ ≤ (L.map δ).sum := by
  induction L using List.reverseRecOn with
  | nil => simp
  | append_singleton L i ih =>
    have hi : i ∈ L ++ [i] := by simp
    have ih' := ih (fun j hj => hf j (List.mem_append_left _ hj))
      (fun j hj => hx j (List.mem_append_left _ hj))
    rw [List.foldl_append, List.foldl_cons, List.foldl_nil, List.map_append, List.sum_append,
      List.map_cons, List.map_nil, List.sum_cons, List.sum_nil, add_zero]
    calc ‖x - f i (L.foldl (fun y i => f i y) x)‖
        ≤ ‖x - f i x‖ + ‖f i x - f i (L.foldl (fun y i => f i y) x)‖ :=
          norm_sub_le_norm_sub_add_norm_sub _ _ _
      _ ≤ δ i + ‖x - L.foldl (fun y i => f i y) x‖ := add_le_add (hx i hi) (hf i hi _ _)
      _ ≤ δ i + (L.map δ).sum := by gcongr
      _ = (L.map δ).sum + δ i := add_comm _ _

end Seq

section Linear

variable {𝕜 : Type*} [NontriviallyNormedField 𝕜]
variable {E : Type*} [SeminormedAddCommGroup E] [NormedSpace 𝕜 E]
variable {F : Type*} [SeminormedAddCommGroup F] [NormedSpace 𝕜 F]

/-- A continuous linear map of norm at most one is non-expansive. -/
theorem contraction_nonexpansive (P : E →L[𝕜] E) (hP : ‖P‖ ≤ 1) (y z : E) :
    ‖P y - P z‖ ≤ ‖y - z‖ := by
  rw [← map_sub]
  exact (P.le_opNorm _).trans (mul_le_of_le_one_left (norm_nonneg _) hP)

/-- **L4 (initial-point form, contractions).** Contractions `P₁, …, P_k` (`‖P_j‖ ≤ 1`, e.g. orthogonal
projectors onto the kept singular subspaces) each moving `x` by at most `δ_j`
(`‖x - P_j x‖ ≤ δ_j`): then `‖x - P_k ⋯ P₁ x‖ ≤ Σ δ_j`. The list holds pairs `(P_j, δ_j)`, the
head of the list is applied first. -/
theorem telescope_contraction (L : List ((E →L[𝕜] E) × ℝ)) (x : E)
    (h : ∀ Pd ∈ L, ‖Pd.1‖ ≤ 1 ∧ ‖x - Pd.1 x‖ ≤ Pd.2) :
    ‖x - L.foldl (fun y Pd => Pd.1 y) x‖ ≤ (L.map Prod.snd).sum :=
  telescope_nonexpansive (fun Pd : (E →L[𝕜] E) × ℝ => (Pd.1 : E → E)) Prod.snd L x
    (fun Pd hPd => contraction_nonexpansive Pd.1 (h Pd hPd).1) (fun Pd hPd => (h Pd hPd).2)

/-- **L4 (orbit form for continuous linear maps).** Pairs `(P_j, δ_j)`; along the orbit
`x_j = P_j x_{j-1}` each step satisfies `‖x_{j-1} - P_j x_{j-1}‖ ≤ δ_j`; then
`‖x₀ - x_k‖ ≤ Σ δ_j`. -/
theorem telescope_orbit_clm (L : List ((E →L[𝕜] E) × ℝ)) (x : E)
    (h : OrbitBound (fun Pd : (E →L[𝕜] E) × ℝ => (Pd.1 : E → E)) Prod.snd L x) :
    ‖x - L.foldl (fun y Pd => Pd.1 y) x‖ ≤ (L.map Prod.snd).sum :=
  telescope_orbit _ _ L x h

/-- **L4 (scaled form).** If the `j`-th local replacement changes the state by `A_j d_j` with
`‖A_j‖ ≤ N` (the rest of the network, as a linear map of the replaced tensor) and `‖d_j‖ ≤ δ_j`
(the discarded part), then the total change after `k` replacements is at most `N * Σ δ_j`.
In `Ptn.C10.trunc_error_bound_partial`: `N = max 1 ‖ψ‖`. -/
theorem telescope_scaled (x : ℕ → E) (A : ℕ → F →L[𝕜] E) (d : ℕ → F) (δ : ℕ → ℝ) (N : ℝ)
    (k : ℕ) (hx : ∀ j, j < k → x (j + 1) - x j = A j (d j))
    (hA : ∀ j, j < k → ‖A j‖ ≤ N) (hd : ∀ j, j < k → ‖d j‖ ≤ δ j) :
    ‖x k - x 0‖ ≤ N * ∑ j ∈ Finset.range k, δ j := by
  rw [norm_sub_rev, Finset.mul_sum]
  refine telescope_seq x (fun j => N * δ j) k fun j hj => ?_
  rw [norm_sub_rev, hx j hj]
  exact ((A j).le_opNorm _).trans
    (mul_le_mul (hA j hj) (hd j hj) (norm_nonneg _) ((norm_nonneg _).trans (hA j hj)))

end Linear

/-! ### Non-vacuity -/

section Examples

/-- Halving on `ℝ` as a continuous linear map; it is a contraction. -/
noncomputable def half : ℝ →L[ℝ] ℝ := (1 / 2 : ℝ) • ContinuousLinearMap.id ℝ ℝ

theorem half_apply (y : ℝ) : half y = y / 2 := by
  simp [half]; ring

theorem half_norm_le : ‖half‖ ≤ 1 := by
  refine ContinuousLinearMap.opNorm_le_bound _ zero_le_one fun y => ?_
  rw [half_apply, one_mul, norm_div, Real.norm_ofNat]
  exact half_le_self (norm_nonneg y)

/-- Two contractions each moving `x = 1` by `1/2`: the composition moves it by `3/4 ≤ 1`. -/
example : ‖(1 : ℝ) - [(half, (1 / 2 : ℝ)), (half, (1 / 2 : ℝ))].foldl (fun y Pd => Pd.1 y) 1‖
    ≤ ([(half, (1 / 2 : ℝ)), (half, (1 / 2 : ℝ))].map Prod.snd).sum := by
  refine telescope_contraction _ 1 fun Pd hPd => ?_
  have : Pd = (half, (1 / 2 : ℝ)) := by simpa using hPd
  subst this
  refine ⟨half_norm_le, ?_⟩
  rw [half_apply]
  norm_num

/-- Orbit form: `1 ↦ 1/2 ↦ 1/4`, step errors `1/2` and `1/4`. -/
example : ‖(1 : ℝ) - [(half, (1 / 2 : ℝ)), (half, (1 / 4 : ℝ))].foldl (fun y Pd => Pd.1 y) 1‖
    ≤ ([(half, (1 / 2 : ℝ)), (half, (1 / 4 : ℝ))].map Prod.snd).sum := by
  refine telescope_orbit_clm _ 1 ?_
  simp only [OrbitBound, half_apply, and_true]
  norm_num

/-- Sequence form with a geometric sequence. -/
example (k : ℕ) : ‖(1 / 2 : ℝ) ^ 0 - (1 / 2 : ℝ) ^ k‖
    ≤ ∑ j ∈ Finset.range k, (1 / 2 : ℝ) ^ (j + 1) := by
  refine telescope_seq (fun j => (1 / 2 : ℝ) ^ j) (fun j => (1 / 2 : ℝ) ^ (j + 1)) k fun j _ => ?_
  have e : (1 / 2 : ℝ) ^ j - (1 / 2) ^ (j + 1) = (1 / 2) ^ (j + 1) := by ring
  rw [e, Real.norm_of_nonneg (by positivity)]

/-- Scaled form: every step adds `half 2 = 1`; `‖half‖ ≤ 1`, `‖2‖ ≤ 2`. -/
example (k : ℕ) : ‖((k : ℕ) : ℝ) - ((0 : ℕ) : ℝ)‖ ≤ 1 * ∑ _j ∈ Finset.range k, (2 : ℝ) := by
  refine telescope_scaled (𝕜 := ℝ) (fun j : ℕ => (j : ℝ)) (fun _ => half) (fun _ => (2 : ℝ))
    (fun _ => (2 : ℝ)) 1 k (fun j _ => ?_) (fun _ _ => half_norm_le) (fun _ _ => ?_)
  · rw [half_apply]; push_cast; ring
  · norm_num

end Examples

end Ptn.Analysis
