import Mathlib.Algebra.Ring.Hom.Defs
import Ptn.Common.EinsumBuilt
/-! A program against the flat network of its record; ring homomorphisms (conjugation) through the big sums. -/
namespace Ptn.Ein

section
variable {L : Type} [DecidableEq L] {R : Type} [CommSemiring R]

theorem Expr.eval_eq_netValue (dim : L → Nat) (e : Expr L R) (he : e.SWF) (bs : List (L × L))
    (ls : List (Asg L → R)) (hb : e.binds.Perm bs) (hl : (e.leaves.map Prod.snd).Perm ls) (σ : Asg L) :
    e.eval dim σ = netValue dim bs ls σ := by
  rw [Expr.eval_eq_full dim e he.wf σ, ← netValue_perm dim hb hl (Expr.binds_nodup e he) σ]
  unfold Expr.full netValue
  apply sumPairs_congr
  intro τ
  simp [Expr.leafProd, List.map_map, Function.comp_def]

variable {R' : Type} [CommSemiring R']

theorem sumR_map (cj : R →+* R') (n : Nat) (f : Nat → R) :
    cj (sumR n f) = sumR n (fun i => cj (f i)) := by
  unfold sumR
  induction n with
  | zero => simp
  | succ n ih =>
    rw [List.range_succ, List.map_append, List.sum_append, map_add, ih, List.map_append, List.sum_append]
    simp

theorem prodL_map (cj : R →+* R') (xs : List R) : cj (prodL xs) = prodL (xs.map cj) := by
  induction xs with
  | nil => simp [prodL]
  | cons x xs ih => simp [prodL, ih]

theorem sumPairs_ringHom (cj : R →+* R') (dim : L → Nat) (ps : List (L × L)) (f : Asg L → R) (σ : Asg L) :
    cj (sumPairs dim ps f σ) = sumPairs dim ps (fun τ => cj (f τ)) σ := by
  induction ps generalizing σ with
  | nil => rfl
  | cons p ps ih =>
    obtain ⟨a, b⟩ := p
    simp only [sumPairs]
    rw [sumR_map]
    congr 1
    funext i
    exact ih _

end

end Ptn.Ein
