import Ptn.Common.EinsumBuilt
/-! Relabelling of labelled tensor networks along an injective map `f : L → L'` of leg labels with
`dim' (f l) = dim l`.  A tensor `v : Asg L → R` is read in the new labels through
`rn_pull f v = fun σ' => v (σ' ∘ f)`; `Expr.rn_map f e` renames every leaf's legs and every pair and pulls every
leaf value.  Sums, network values and `eval` commute with the renaming over any scalar type (only `+`, `*`, `0`, `1`
are used); well-formedness is preserved.  `rn_pull_surj`: with a left inverse of `f` every tensor in the new labels
that reads only labels in the range of `f` is a pull, so statements "for all local tensors" transfer to "for all
global tensors on the renamed legs". -/
namespace Ptn.Ein


section
variable {L L' : Type} [DecidableEq L] [DecidableEq L'] {R : Type}

/-- a tensor over the old labels read in the new ones -/
def rn_pull (f : L → L') (v : Asg L → R) : Asg L' → R := fun σ' => v (fun l => σ' (f l))

def rn_pairs (f : L → L') (ps : List (L × L)) : List (L' × L') := ps.map (fun p => (f p.1, f p.2))

theorem rn_upd_comp (f : L → L') (hf : Function.Injective f) (σ' : Asg L') (a : L) (i : Nat) :
    (fun l => upd σ' (f a) i (f l)) = upd (fun l => σ' (f l)) a i := by
  funext l
  unfold upd
  by_cases h : l = a
  · simp [h]
  · have : f l ≠ f a := fun e => h (hf e)
    simp [h, this]

omit [DecidableEq L] [DecidableEq L'] in
theorem rn_pairs_fst (f : L → L') (ps : List (L × L)) : (rn_pairs f ps).map Prod.fst = (ps.map Prod.fst).map f := by
  simp [rn_pairs, List.map_map, Function.comp_def]

omit [DecidableEq L] [DecidableEq L'] in
theorem rn_pairs_snd (f : L → L') (ps : List (L × L)) : (rn_pairs f ps).map Prod.snd = (ps.map Prod.snd).map f := by
  simp [rn_pairs, List.map_map, Function.comp_def]

set_option linter.unusedSectionVars false in
theorem rn_pairLegs (f : L → L') (ps : List (L × L)) :
    Expr.pairLegs (rn_pairs f ps) = (Expr.pairLegs ps).map f := by
  simp only [Expr.pairLegs, rn_pairs_fst, rn_pairs_snd, List.map_append]

omit [DecidableEq L] [DecidableEq L'] in
theorem rn_pairs_append (f : L → L') (ps qs : List (L × L)) :
    rn_pairs f (ps ++ qs) = rn_pairs f ps ++ rn_pairs f qs := by
  simp [rn_pairs]

section sums
variable [Add R] [Mul R] [Zero R] [One R]

set_option linter.unusedSectionVars false in
theorem rn_sumPairs_map (f : L → L') (hf : Function.Injective f) (dim : L → Nat) (dim' : L' → Nat)
    (hd : ∀ l, dim' (f l) = dim l) (ps : List (L × L)) (g : Asg L → R) (σ' : Asg L') :
    sumPairs dim' (rn_pairs f ps) (rn_pull f g) σ' = sumPairs dim ps g (fun l => σ' (f l)) := by
  induction ps generalizing σ' with
  | nil => rfl
  | cons p ps ih =>
    obtain ⟨a, b⟩ := p
    simp only [rn_pairs, List.map_cons, sumPairs, hd]
    congr 1; funext i
    have := ih (upd (upd σ' (f a) i) (f b) i)
    simp only [rn_pairs] at this
    rw [this, rn_upd_comp f hf, rn_upd_comp f hf]

theorem rn_pull_sumPairs (f : L → L') (hf : Function.Injective f) (dim : L → Nat) (dim' : L' → Nat)
    (hd : ∀ l, dim' (f l) = dim l) (ps : List (L × L)) (g : Asg L → R) :
    sumPairs dim' (rn_pairs f ps) (rn_pull f g) = rn_pull f (sumPairs dim ps g) := by
  funext σ'; exact rn_sumPairs_map f hf dim dim' hd ps g σ'

set_option linter.unusedSectionVars false in
theorem rn_pull_mul (f : L → L') (u v : Asg L → R) :
    rn_pull f (fun σ => u σ * v σ) = fun σ' => rn_pull f u σ' * rn_pull f v σ' := rfl

omit [DecidableEq L] [DecidableEq L'] [Add R] [Zero R] in
theorem rn_prodL_map (f : L → L') (leaves : List (Asg L → R)) (σ' : Asg L') :
    prodL ((leaves.map (rn_pull f)).map (fun v => v σ')) = prodL (leaves.map (fun v => v (fun l => σ' (f l)))) := by
  induction leaves with
  | nil => rfl
  | cons v vs ih => simp only [List.map_cons, prodL, ih]; rfl

theorem rn_netValue_map (f : L → L') (hf : Function.Injective f) (dim : L → Nat) (dim' : L' → Nat)
    (hd : ∀ l, dim' (f l) = dim l) (binds : List (L × L)) (leaves : List (Asg L → R)) (σ' : Asg L') :
    netValue dim' (rn_pairs f binds) (leaves.map (rn_pull f)) σ' = netValue dim binds leaves (fun l => σ' (f l)) := by
  unfold netValue
  rw [← rn_sumPairs_map f hf dim dim' hd]
  congr 1
  funext τ'
  exact rn_prodL_map f leaves τ'

end sums

set_option linter.unusedSectionVars false in
theorem rn_pull_dependsOn (f : L → L') {S : L → Prop} {S' : L' → Prop} (hS : ∀ l, S l → S' (f l))
    {v : Asg L → R} (hv : DependsOn S v) : DependsOn S' (rn_pull f v) :=
  fun _ _ h => hv _ _ (fun l hl => h (f l) (hS l hl))

theorem rn_pull_dependsOn_mem (f : L → L') (legs : List L) {v : Asg L → R} (hv : DependsOn (· ∈ legs) v) :
    DependsOn (· ∈ legs.map f) (rn_pull f v) :=
  rn_pull_dependsOn f (fun _ hl => List.mem_map_of_mem hl) hv

set_option linter.unusedSectionVars false in
/-- with a left inverse of the renaming, every tensor over the new labels that reads only renamed labels is the
pull of a tensor over the old labels -/
theorem rn_pull_surj (f : L → L') (g : L' → L) (hgf : ∀ l, g (f l) = l) {S' : L' → Prop}
    (hS : ∀ l', S' l' → ∃ l, f l = l') (v' : Asg L' → R) (hv : DependsOn S' v') :
    rn_pull f (fun σ => v' (fun l' => σ (g l'))) = v' := by
  funext σ'
  apply hv
  intro l' hl'
  obtain ⟨l, rfl⟩ := hS l' hl'
  show σ' (f (g (f l))) = σ' (f l)
  rw [hgf]

namespace Expr

/-- the expression with every label renamed and every leaf value pulled -/
def rn_map (f : L → L') : Expr L R → Expr L' R
  | leaf legs v => leaf (legs.map f) (rn_pull f v)
  | dot a b ps => dot (rn_map f a) (rn_map f b) (rn_pairs f ps)

set_option linter.unusedSectionVars false in
theorem rn_labels_map (f : L → L') (e : Expr L R) : (e.rn_map f).labels = e.labels.map f := by
  induction e with
  | leaf legs v => rfl
  | dot a b ps iha ihb => simp [rn_map, labels, iha, ihb]

set_option linter.unusedSectionVars false in
theorem rn_binds_map (f : L → L') (e : Expr L R) : (e.rn_map f).binds = rn_pairs f e.binds := by
  induction e with
  | leaf legs v => rfl
  | dot a b ps iha ihb => simp [rn_map, binds, iha, ihb, rn_pairs_append]

set_option linter.unusedSectionVars false in
theorem rn_leaves_map (f : L → L') (e : Expr L R) :
    (e.rn_map f).leaves = e.leaves.map (fun lf => (lf.1.map f, rn_pull f lf.2)) := by
  induction e with
  | leaf legs v => rfl
  | dot a b ps iha ihb => simp [rn_map, leaves, iha, ihb]

theorem rn_filter_map (f : L → L') (hf : Function.Injective f) (xs ys : List L) :
    ((xs.map f).filter (fun l => !(ys.map f).contains l)) = (xs.filter (fun l => !ys.contains l)).map f := by
  rw [List.filter_map]
  congr 1
  apply List.filter_congr
  intro x _
  simp only [Function.comp, List.contains_eq_mem, List.mem_map]
  congr 2
  apply propext
  constructor
  · rintro ⟨y, hy, e⟩; exact hf e ▸ hy
  · intro h; exact ⟨x, h, rfl⟩

theorem rn_free_map (f : L → L') (hf : Function.Injective f) (e : Expr L R) : (e.rn_map f).free = e.free.map f := by
  induction e with
  | leaf legs v => rfl
  | dot a b ps iha ihb =>
    simp only [rn_map, free, iha, ihb, rn_pairs_fst, rn_pairs_snd, rn_filter_map f hf, List.map_append]

section value
variable [Add R] [Mul R] [Zero R] [One R]

theorem rn_eval_map (f : L → L') (hf : Function.Injective f) (dim : L → Nat) (dim' : L' → Nat)
    (hd : ∀ l, dim' (f l) = dim l) (e : Expr L R) (σ' : Asg L') :
    (e.rn_map f).eval dim' σ' = e.eval dim (fun l => σ' (f l)) := by
  induction e generalizing σ' with
  | leaf legs v => rfl
  | dot a b ps iha ihb =>
    simp only [rn_map, eval]
    rw [← rn_sumPairs_map f hf dim dim' hd]
    congr 1
    funext τ'
    show eval dim' (rn_map f a) τ' * eval dim' (rn_map f b) τ' = _
    rw [iha, ihb]; rfl

theorem rn_eval_pull (f : L → L') (hf : Function.Injective f) (dim : L → Nat) (dim' : L' → Nat)
    (hd : ∀ l, dim' (f l) = dim l) (e : Expr L R) : (e.rn_map f).eval dim' = rn_pull f (e.eval dim) := by
  funext σ'; exact rn_eval_map f hf dim dim' hd e σ'

end value

theorem rn_leavesLocal_map (f : L → L') (e : Expr L R) (h : e.LeavesLocal) : (e.rn_map f).LeavesLocal := by
  intro lf hlf
  rw [rn_leaves_map] at hlf
  obtain ⟨lf0, h0, rfl⟩ := List.mem_map.1 hlf
  exact rn_pull_dependsOn_mem f lf0.1 (h lf0 h0)

section wf
variable [CommSemiring R]

set_option linter.unusedSectionVars false in
theorem rn_wf_map (f : L → L') (hf : Function.Injective f) (e : Expr L R) (h : e.WF) : (e.rn_map f).WF := by
  induction e with
  | leaf legs v => exact rn_pull_dependsOn_mem f legs h
  | dot a b ps iha ihb =>
    obtain ⟨ha, hb, hdis, hps⟩ := h
    refine ⟨iha ha, ihb hb, ?_, ?_⟩
    · intro l hl hl'
      rw [rn_labels_map] at hl hl'
      obtain ⟨x, hx, rfl⟩ := List.mem_map.1 hl
      obtain ⟨y, hy, e⟩ := List.mem_map.1 hl'
      exact hdis x hx (hf e ▸ hy)
    · intro p hp
      obtain ⟨q, hq, rfl⟩ := List.mem_map.1 hp
      rw [rn_free_map f hf, rn_free_map f hf]
      exact ⟨List.mem_map_of_mem (hps q hq).1, List.mem_map_of_mem (hps q hq).2⟩

theorem rn_swf_map (f : L → L') (hf : Function.Injective f) (e : Expr L R) (h : e.SWF) : (e.rn_map f).SWF := by
  induction e with
  | leaf legs v => exact ⟨h.1.map hf, rn_pull_dependsOn_mem f legs h.2⟩
  | dot a b ps iha ihb =>
    obtain ⟨ha, hb, hdis, hps, hn1, hn2⟩ := h
    obtain ⟨-, -, hdis', hps'⟩ := rn_wf_map f hf (dot a b ps) ⟨ha.wf, hb.wf, hdis, hps⟩
    exact ⟨iha ha, ihb hb, hdis', hps', rn_pairs_fst f ps ▸ hn1.map hf, rn_pairs_snd f ps ▸ hn2.map hf⟩

end wf

end Expr
end

end Ptn.Ein
