import Ptn.Common.List
/-! How an index list splits a list (core only).  `Picks l is la ra`: `is` has no repetition, reads `la` (`pickL`) and leaves
`ra` (`dropIdx`) — the three facts a `tensordot` needs of one operand.  `PicksAt k l is la ra` says the same of a SEGMENT
that starts at position `k`, whatever stands around it, so a list is put together from its segments by the two append
rules; the index arithmetic sits in the atoms (`none`, `one`, `all`, `pairs`, `block`). -/
namespace Ptn

variable {α : Type}

theorem dropIdx_notin (idx : List Nat) (k : Nat) (l : List α) (h : ∀ i, i < l.length → k + i ∉ idx) :
    dropIdx idx k l = l := by
  induction l generalizing k with
  | nil => rfl
  | cons x xs ih =>
    rw [dropIdx, if_neg (by simpa using h 0 (Nat.zero_lt_succ _)), ih (k + 1) fun i hi => by
      have := h (i + 1) (Nat.succ_lt_succ hi); rwa [show k + (i + 1) = k + 1 + i by omega] at this]

theorem dropIdx_all (idx : List Nat) (k : Nat) (l : List α) (h : ∀ i, i < l.length → k + i ∈ idx) :
    dropIdx idx k l = [] := by
  induction l generalizing k with
  | nil => rfl
  | cons x xs ih =>
    rw [dropIdx, if_pos (by simpa using h 0 (Nat.zero_lt_succ _)), ih (k + 1) fun i hi => by
      have := h (i + 1) (Nat.succ_lt_succ hi); rwa [show k + (i + 1) = k + 1 + i by omega] at this]

theorem dropIdx_append (idx : List Nat) (k : Nat) (l1 l2 : List α) :
    dropIdx idx k (l1 ++ l2) = dropIdx idx k l1 ++ dropIdx idx (k + l1.length) l2 := by
  induction l1 generalizing k with
  | nil => rfl
  | cons x xs ih =>
    simp only [List.cons_append, dropIdx, ih (k + 1), List.length_cons,
      show k + 1 + xs.length = k + (xs.length + 1) by omega]
    split <;> rfl

theorem dropIdx_one_drop (idx : List Nat) (k : Nat) (a : α) (h : k ∈ idx) : dropIdx idx k [a] = [] := by
  simp [dropIdx, h]

theorem dropIdx_single (k i : Nat) (l : List α) : dropIdx [k + i] k l = l.eraseIdx i := by
  induction l generalizing k i with
  | nil => rfl
  | cons x xs ih =>
    cases i with
    | zero =>
      rw [dropIdx, if_pos (by simp), List.eraseIdx_cons_zero]
      exact dropIdx_notin _ _ _ fun i _ => by simp; omega
    | succ i =>
      rw [dropIdx, if_neg (by simp), List.eraseIdx_cons_succ, show k + (i + 1) = k + 1 + i by omega, ih]

theorem pickL_single (l : List α) (i : Nat) (x : α) (h : l[i]? = some x) : pickL l [i] = some [x] :=
  pickL_eq_some_iff.2 (by simp [h])

theorem pickL_map {β : Type} (l : List α) (xs : List β) (g : β → Nat) (h : β → α)
    (hx : ∀ x ∈ xs, l[g x]? = some (h x)) : pickL l (xs.map g) = some (xs.map h) :=
  pickL_eq_some_iff.2 (by rw [List.map_map, List.map_map]; exact List.map_congr_left hx)

theorem pickL_range' (pre l suf : List α) :
    pickL (pre ++ l ++ suf) (List.range' pre.length l.length) = some l := by
  rw [pickL_eq_some_iff, List.range'_eq_map_range, List.map_map, ← map_getElem?_range l]
  refine List.map_congr_left fun i hi => ?_
  have hi' := List.mem_range.1 hi
  show (pre ++ l ++ suf)[pre.length + i]? = l[i]?
  rw [List.append_assoc, List.getElem?_append_right (Nat.le_add_right _ _), Nat.add_sub_cancel_left,
    List.getElem?_append_left hi']

theorem pickL_pairs (c : Bool) (pre : List α) (F : List Nat) (p q : Nat → α) (suf : List α) :
    pickL (pre ++ F.flatMap (fun n => [p n, q n]) ++ suf)
      ((List.range F.length).map (fun k => 2 * k + c.toNat + pre.length)) = some (F.map (if c then q else p)) := by
  induction F generalizing pre with
  | nil => rfl
  | cons n rest ih =>
    have h := ih (pre ++ [p n, q n])
    have hx : (pre ++ p n :: q n :: (rest.flatMap (fun n => [p n, q n]) ++ suf))[c.toNat + pre.length]? =
        some ((if c then q else p) n) := by
      cases c
      · simp
      · rw [show true.toNat + pre.length = pre.length + 1 by simp; omega, List.getElem?_append_right (by omega)]
        simp
    have hfun : ((fun k => 2 * k + c.toNat + pre.length) ∘ Nat.succ) =
        fun k => 2 * k + c.toNat + (pre ++ [p n, q n]).length := by
      funext k; simp; omega
    simp only [List.append_assoc, List.cons_append, List.nil_append] at h
    simp only [List.length_cons, List.range_succ_eq_map, List.map_cons, List.map_map, Nat.mul_zero,
      Nat.zero_add, List.flatMap_cons, List.append_assoc, List.cons_append, List.nil_append, pickL_cons, hx, hfun, h]
    rfl

theorem dropIdx_pairs (idx : List Nat) (k : Nat) (F : List Nat) (p q : Nat → α)
    (hin : ∀ i, i < F.length → k + 2 * i ∈ idx) (hout : ∀ i, i < F.length → k + 2 * i + 1 ∉ idx) :
    dropIdx idx k (F.flatMap (fun n => [p n, q n])) = F.map q := by
  induction F generalizing k with
  | nil => rfl
  | cons n rest ih =>
    have m0 : k ∈ idx := by simpa using hin 0 (by simp)
    have m1 : k + 1 ∉ idx := by simpa using hout 0 (by simp)
    have ihk := ih (k + 1 + 1)
      (fun i hi => by
        have := hin (i + 1) (by simpa using hi)
        rwa [show k + 2 * (i + 1) = k + 1 + 1 + 2 * i by omega] at this)
      (fun i hi => by
        have := hout (i + 1) (by simpa using hi)
        rwa [show k + 2 * (i + 1) + 1 = k + 1 + 1 + 2 * i + 1 by omega] at this)
    simp [dropIdx, m0, m1, ihk]

structure Picks (l : List α) (is : List Nat) (la ra : List α) : Prop where
  nodup : is.Nodup
  pick : pickL l is = some la
  rest : dropIdx is 0 l = ra

theorem Picks.single {l : List α} {i : Nat} {x : α} (h : l[i]? = some x) : Picks l [i] [x] (l.eraseIdx i) :=
  ⟨by simp, pickL_single l i x h, by simpa using dropIdx_single 0 i l⟩

/-- the segment `l`, which starts at position `k` of a list, is split by the index list `is` (all of whose members
point into the segment) into the picked entries `la` and the others `ra` — whatever stands before and after the segment (`pick`: any `pre`, `suf`)
and whatever else an index list contains (`rest`: any `idx` that agrees with `is` on the positions of the segment) -/
structure PicksAt (k : Nat) (l : List α) (is : List Nat) (la ra : List α) : Prop where
  range : ∀ i ∈ is, k ≤ i ∧ i < k + l.length
  nodup : is.Nodup
  pick : ∀ pre suf : List α, pre.length = k → pickL (pre ++ l ++ suf) is = some la
  rest : ∀ idx : List Nat, (∀ i, k ≤ i → i < k + l.length → (i ∈ idx ↔ i ∈ is)) → dropIdx idx k l = ra

theorem PicksAt.picks {l : List α} {is : List Nat} {la ra : List α} (h : PicksAt 0 l is la ra) : Picks l is la ra :=
  ⟨h.nodup, by simpa using h.pick [] [] rfl, h.rest is fun _ _ _ => Iff.rfl⟩

section append
variable {k : Nat} {l1 l2 : List α} {is1 is2 : List Nat} {la1 la2 ra1 ra2 : List α}
  (h1 : PicksAt k l1 is1 la1 ra1) (h2 : PicksAt (k + l1.length) l2 is2 la2 ra2)
include h1 h2

theorem PicksAt.disjoint : ∀ i ∈ is1, i ∉ is2 := fun i hi hi' => by
  have := h1.range i hi; have := h2.range i hi'; omega

theorem PicksAt.rest_append (is : List Nat) (his : ∀ i, i ∈ is ↔ i ∈ is1 ∨ i ∈ is2) (idx : List Nat)
    (hidx : ∀ i, k ≤ i → i < k + (l1 ++ l2).length → (i ∈ idx ↔ i ∈ is)) :
    dropIdx idx k (l1 ++ l2) = ra1 ++ ra2 := by
  rw [List.length_append] at hidx
  rw [dropIdx_append, h1.rest idx fun i hk hi => ?_, h2.rest idx fun i hk hi => ?_]
  · rw [hidx i (by omega) (by omega), his]
    exact ⟨fun h => h.resolve_left fun h' => by have := h1.range i h'; omega, Or.inr⟩
  · rw [hidx i hk (by omega), his]
    exact ⟨fun h => h.resolve_right fun h' => by have := h2.range i h'; omega, Or.inl⟩

theorem PicksAt.append : PicksAt k (l1 ++ l2) (is1 ++ is2) (la1 ++ la2) (ra1 ++ ra2) where
  range i hi := by
    rw [List.length_append]
    rcases List.mem_append.1 hi with h | h
    · have := h1.range i h; omega
    · have := h2.range i h; omega
  nodup := List.nodup_append.2 ⟨h1.nodup, h2.nodup, fun a ha b hb e => h1.disjoint h2 a ha (e ▸ hb)⟩
  pick pre suf hp := pickL_append
    (by simpa using h1.pick pre (l2 ++ suf) hp) (by simpa using h2.pick (pre ++ l1) suf (by simp [hp]))
  rest := h1.rest_append h2 _ fun _ => List.mem_append

theorem PicksAt.append' : PicksAt k (l1 ++ l2) (is2 ++ is1) (la2 ++ la1) (ra1 ++ ra2) where
  range i hi := by
    rw [List.length_append]
    rcases List.mem_append.1 hi with h | h
    · have := h2.range i h; omega
    · have := h1.range i h; omega
  nodup := List.nodup_append.2 ⟨h2.nodup, h1.nodup, fun a ha b hb e => h1.disjoint h2 b hb (e ▸ ha)⟩
  pick pre suf hp := pickL_append
    (by simpa using h2.pick (pre ++ l1) suf (by simp [hp])) (by simpa using h1.pick pre (l2 ++ suf) hp)
  rest := h1.rest_append h2 _ fun _ => List.mem_append.trans Or.comm

end append

theorem PicksAt.none (k : Nat) (l : List α) : PicksAt k l [] [] l where
  range _ h := absurd h List.not_mem_nil
  nodup := List.nodup_nil
  pick _ _ _ := rfl
  rest idx h := dropIdx_notin idx k l fun i hi hm => by
    have := (h (k + i) (Nat.le_add_right _ _) (by omega)).1 hm; simp at this

theorem PicksAt.one (k : Nat) (v : α) : PicksAt k [v] [k] [v] [] where
  range i h := by simp at h ⊢; omega
  nodup := by simp
  pick pre suf hp := pickL_single _ _ _ (by rw [← hp, List.append_assoc]; exact getElem?_mid _ _ _)
  rest idx h := dropIdx_one_drop idx k v ((h k (Nat.le_refl _) (by simp)).2 (by simp))

theorem PicksAt.all (k : Nat) (l : List α) : PicksAt k l (List.range' k l.length) l [] where
  range i h := by simpa [List.mem_range'_1] using h
  nodup := List.nodup_range'
  pick pre suf hp := hp ▸ pickL_range' pre l suf
  rest idx h := dropIdx_all idx k l fun i hi =>
    (h (k + i) (Nat.le_add_right _ _) (by omega)).2 (List.mem_range'_1.2 ⟨Nat.le_add_right _ _, by omega⟩)

theorem length_pairs (F : List Nat) (p q : Nat → α) : (F.flatMap fun n => [p n, q n]).length = 2 * F.length := by
  induction F with
  | nil => rfl
  | cons a as ih => rw [List.flatMap_cons, List.length_append, ih, List.length_cons, List.length_cons]; simp; omega

/-- interleaved two-leg groups: the first leg of every group is picked -/
theorem PicksAt.pairs (k : Nat) (F : List Nat) (p q : Nat → α) :
    PicksAt k (F.flatMap fun n => [p n, q n]) ((List.range F.length).map fun i => 2 * i + k) (F.map p) (F.map q) where
  range i h := by
    obtain ⟨j, hj, rfl⟩ := List.mem_map.1 h
    have := length_pairs F p q
    simp at hj; omega
  nodup := nodup_map_of_inj_on _ List.nodup_range fun _ _ _ _ e => by omega
  pick pre suf hp := by
    have := pickL_pairs false pre F p q suf
    rwa [hp] at this
  rest idx h := by
    have hlen := length_pairs F p q
    refine dropIdx_pairs idx k F p q (fun i hi => (h _ (by omega) (by omega)).2 ?_) fun i hi hm => ?_
    · exact List.mem_map.2 ⟨i, by simpa using hi, by omega⟩
    · obtain ⟨j, _, e⟩ := List.mem_map.1 ((h _ (by omega) (by omega)).1 hm)
      omega

theorem dropIdx_block (idx : List Nat) (mk : Nat → α) (k : Nat) (N : List Nat) (hN : N.Nodup) :
    dropIdx idx k (N.map mk) = (N.filter (fun m => decide (N.idxOf m + k ∉ idx))).map mk := by
  have key : ∀ (pre l : List Nat), (pre ++ l).Nodup →
      dropIdx idx (pre.length + k) (l.map mk) = (l.filter (fun m => decide ((pre ++ l).idxOf m + k ∉ idx))).map mk := by
    intro pre l
    induction l generalizing pre with
    | nil => intro _; rfl
    | cons x xs ih =>
      intro hnd
      have hx : x ∉ pre := fun h => (List.nodup_append.1 hnd).2.2 x h x (by simp) rfl
      have hpos : (pre ++ x :: xs).idxOf x = pre.length := by simp [List.idxOf_append, hx]
      have ih' := ih (pre ++ [x]) (by simpa using hnd)
      simp only [List.length_append, List.length_cons, List.length_nil, List.append_assoc, List.cons_append,
        List.nil_append, Nat.add_right_comm _ 1 k] at ih'
      simp only [List.map_cons, dropIdx, List.filter_cons, hpos, ih']
      by_cases hc : pre.length + k ∈ idx <;> simp [hc]
  simpa using key [] N (by simpa using hN)

/-- the legs toward the neighbours `N`; those toward `f n`, `n ∈ F`, are picked through `idxOf`.  For the node of another
layer `F` are the ket neighbours whose blocks were contracted: the node need only have their images, the identifier map
`f` is never applied to the ignored neighbour, and the legs toward its other neighbours stay open in the order of `N`. -/
theorem PicksAt.block (k : Nat) (N F : List Nat) (f : Nat → Nat) (mk : Nat → α) (hF : (F.map f).Nodup) (hN : N.Nodup)
    (hsub : ∀ n ∈ F, f n ∈ N) :
    PicksAt k (N.map mk) (F.map fun n => N.idxOf (f n) + k) (F.map fun n => mk (f n))
      ((N.filter fun m => decide (m ∉ F.map f)).map mk) where
  range i h := by
    obtain ⟨n, hn, rfl⟩ := List.mem_map.1 h
    have := List.idxOf_lt_length_of_mem (hsub n hn)
    simp; omega
  nodup := nodup_map_of_inj_on _ (nodup_of_nodup_map f hF) fun a ha b hb e =>
    inj_on_of_nodup_map f hF a ha b hb (idxOf_inj (hsub a ha) (hsub b hb) (Nat.add_right_cancel e))
  pick pre suf hp := pickL_map _ _ _ _ fun n hn => by
    have hlt := List.idxOf_lt_length_of_mem (hsub n hn)
    rw [List.append_assoc, Nat.add_comm, ← hp, List.getElem?_append_right (Nat.le_add_right _ _),
      Nat.add_sub_cancel_left, List.getElem?_append_left (by simpa using hlt), List.getElem?_map,
      getElem?_idxOf (hsub n hn)]
    rfl
  rest idx h := by
    rw [dropIdx_block _ mk _ N hN]
    congr 1
    apply List.filter_congr
    intro m hm
    have hml := List.idxOf_lt_length_of_mem hm
    have := h (N.idxOf m + k) (Nat.le_add_left _ _) (by simp; omega)
    have e : N.idxOf m + k ∈ idx ↔ m ∈ F.map f := by
      rw [this, List.mem_map, List.mem_map]
      exact ⟨fun ⟨n, hn, e⟩ => ⟨n, hn, idxOf_inj (hsub n hn) hm (Nat.add_right_cancel e)⟩,
        fun ⟨n, hn, e⟩ => ⟨n, hn, by rw [e]⟩⟩
    by_cases hc : m ∈ F.map f <;> simp [hc, e]


theorem filter_not_mem_of_sub {N F : List Nat} (h : ∀ m ∈ N, m ∈ F) : N.filter (fun m => decide (m ∉ F.map id)) = [] := by
  simpa [List.filter_eq_nil_iff] using h

theorem Picks.whole (l : List α) : Picks l (List.range l.length) l [] := by
  simpa [List.range_eq_range'] using (PicksAt.all 0 l).picks

end Ptn
