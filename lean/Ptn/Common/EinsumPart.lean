import Ptn.Common.Einsum
/-! A sub-network with open legs is a tensor: for a part `(ps, la)` of a flat network — some pairs of the record and the
leaves they join — `netValue dim ps la` is a function of the legs the part leaves open.  If the other leaves do not read
the legs bound inside the part, the part may be replaced by that one tensor (`netValue_collapse`), and a leaf that is the
value of a part by the part (`netValue_expand`): the value of the whole network is kept.  `netValue_delta` and
`netValue_flip` are the two rewrites that are not of this form, because the legs they bind are read by the rest: an
identity matrix on a bond, and the orientation of a pair. -/
namespace Ptn.Ein

variable {L : Type} [DecidableEq L] {R : Type} [CommSemiring R]

theorem netValue_perm_leaves (dim : L → Nat) (binds : List (L × L)) {ls ls' : List (Asg L → R)}
    (h : ls.Perm ls') (σ : Asg L) : netValue dim binds ls σ = netValue dim binds ls' σ := by
  unfold netValue
  exact sumPairs_congr dim binds (fun τ => prodL_perm (h.map _)) σ

theorem netValue_perm (dim : L → Nat) {bs bs' : List (L × L)} {ls ls' : List (Asg L → R)}
    (hb : bs.Perm bs') (hl : ls.Perm ls') (hnd : (Expr.pairLegs bs).Nodup) (σ : Asg L) :
    netValue dim bs ls σ = netValue dim bs' ls' σ :=
  (netValue_perm_leaves dim bs hl σ).trans (sumPairs_perm dim hb hnd _ σ)

theorem netValue_pair (dim : L → Nat) (ps : List (L × L)) (Q Rm : Asg L → R) (τ : Asg L) :
    netValue dim ps [Q, Rm] τ = sumPairs dim ps (fun ρ => Q ρ * Rm ρ) τ :=
  sumPairs_congr dim ps (fun ρ => by simp only [List.map_cons, List.map_nil, prodL, mul_one]) τ

theorem netValue_collapse (dim : L → Nat) (bs ps : List (L × L)) (la rest : List (Asg L → R)) {S : L → Prop}
    (hrest : ∀ f ∈ rest, DependsOn S f) (hps : ∀ l ∈ Expr.pairLegs ps, ¬ S l) (σ : Asg L) :
    netValue dim (bs ++ ps) (la ++ rest) σ = netValue dim bs (netValue dim ps la :: rest) σ := by
  unfold netValue
  rw [sumPairs_append]
  refine sumPairs_congr dim bs (fun τ => ?_) σ
  rw [List.map_cons, prodL, ← sumPairs_mul_right dim ps _ _ (prodL_dependsOn rest hrest) hps τ]
  exact sumPairs_congr dim ps (fun ρ => by rw [List.map_append, prodL_append]) τ

theorem netValue_expand (dim : L → Nat) (bs ps : List (L × L)) (A : Asg L → R) (la rest : List (Asg L → R))
    {S : L → Prop} (hA : ∀ τ, A τ = netValue dim ps la τ)
    (hrest : ∀ f ∈ rest, DependsOn S f) (hps : ∀ l ∈ Expr.pairLegs ps, ¬ S l) (σ : Asg L) :
    netValue dim (bs ++ ps) (la ++ rest) σ = netValue dim bs (A :: rest) σ := by
  rw [netValue_collapse dim bs ps la rest hrest hps, show A = netValue dim ps la from funext hA]

theorem netValue_flip (dim : L → Nat) (bs cs : List (L × L)) (a b : L) (hd : dim a = dim b)
    (ls : List (Asg L → R)) (σ : Asg L) :
    netValue dim (bs ++ (a, b) :: cs) ls σ = netValue dim (bs ++ (b, a) :: cs) ls σ := by
  unfold netValue
  rw [sumPairs_append, sumPairs_append]
  refine sumPairs_congr dim bs (fun τ => ?_) σ
  simp only [sumPairs, hd]
  exact sumR_congr _ fun i _ => by rw [upd_pair_swap]

/-- **Delta rule.**  A leaf that is the identity matrix between its legs `a'` and `b'` (for indices within the bond
dimension) and sits on the bond `a — a' b' — b` may be removed: the bond becomes `a — b`. -/
theorem netValue_delta (dim : L → Nat) (bs : List (L × L)) (Pm : Asg L → R) (leaves : List (Asg L → R))
    (a b a' b' : L) {S : L → Prop} (hleaves : ∀ f ∈ leaves, DependsOn S f) (ha' : ¬ S a') (hb' : ¬ S b')
    (h1 : a' ≠ b') (h2 : a' ≠ b) (hdim : dim b' = dim a)
    (hid : ∀ τ : Asg L, τ a' < dim a → τ b' < dim a → Pm τ = if τ a' = τ b' then 1 else 0) (σ : Asg L) :
    netValue dim (bs ++ [(a, a'), (b', b)]) (Pm :: leaves) σ = netValue dim (bs ++ [(a, b)]) leaves σ := by
  unfold netValue
  rw [sumPairs_append, sumPairs_append]
  refine sumPairs_congr dim bs (fun τ => ?_) σ
  simp only [sumPairs]
  rw [hdim, ← delta_sumR (dim a) (fun u v => prodL (leaves.map (fun f => f (upd (upd τ a u) b v))))]
  refine sumR_congr _ fun i hi => sumR_congr _ fun j hj => ?_
  -- at the assignment the double sum visits, `a'` carries `i` and `b'` carries `j`
  have e1 : upd (upd (upd (upd τ a i) a' i) b' j) b j a' = i := by
    rw [upd_same_of_ne _ h2, upd_same_of_ne _ h1, upd_self]
  have e2 : upd (upd (upd (upd τ a i) a' i) b' j) b j b' = j := by
    by_cases h : b' = b
    · rw [h, upd_self]
    · rw [upd_same_of_ne _ h, upd_self]
  rw [List.map_cons, prodL, hid _ (e1.symm ▸ hi) (e2.symm ▸ hj), e1, e2]
  congr 1
  refine prodL_dependsOn leaves hleaves _ _ fun l hl => ?_
  have g1 : l ≠ a' := fun e => ha' (e ▸ hl)
  have g2 : l ≠ b' := fun e => hb' (e ▸ hl)
  by_cases hb : l = b
  · subst hb; rw [upd_self, upd_self]
  · rw [upd_same_of_ne _ hb, upd_same_of_ne _ g2, upd_same_of_ne _ g1, upd_same_of_ne _ hb]

end Ptn.Ein
