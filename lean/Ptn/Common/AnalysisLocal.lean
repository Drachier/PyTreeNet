/-
Abstract linear algebra, part L3: conservation laws of one *local step* of a projector-splitting
integrator (TDVP, BUG).

Setting: `E : Matrix N d ℂ` embeds the local tensor `φ : d → ℂ` into the full state space
(`E` is the contraction of all the other, orthogonalised, tensors), `H : Matrix N N ℂ` is the
full Hamiltonian, `K = Eᴴ * H * E` is the effective Hamiltonian handed to the local
time evolution and `U = exp ((-i t) • K)` is the local propagator.  The full state before the
step is `E *ᵥ φ`, after the step it is `E *ᵥ (U *ᵥ φ)`.

The squared norm of `ψ` is written `star ψ ⬝ᵥ ψ`, the energy `star ψ ⬝ᵥ (H *ᵥ ψ)`.
-/
import Ptn.Common.AnalysisIso
import Ptn.Common.AnalysisExp

namespace Ptn.Analysis

open Matrix NormedSpace

section Local

variable {N d : Type*} [Fintype N] [Fintype d] [DecidableEq d]

omit [Fintype d] [DecidableEq d] in
/-- **L3.** The effective Hamiltonian of a Hermitian Hamiltonian is Hermitian (for *any* `E`). -/
theorem effective_hermitian (E : Matrix N d ℂ) (H : Matrix N N ℂ) (hH : Hᴴ = H) :
    (Eᴴ * H * E)ᴴ = Eᴴ * H * E := by
  rw [conjTranspose_mul, conjTranspose_mul, conjTranspose_conjTranspose, hH, Matrix.mul_assoc]

omit [DecidableEq d] in
/-- **L3.** The energy of the embedded state is the quadratic form of the effective Hamiltonian
on the local tensor (for *any* `E`). -/
theorem energy_eq_effective (E : Matrix N d ℂ) (H : Matrix N N ℂ) (φ : d → ℂ) :
    star (E *ᵥ φ) ⬝ᵥ (H *ᵥ (E *ᵥ φ)) = star φ ⬝ᵥ ((Eᴴ * H * E) *ᵥ φ) := by
  simp only [star_mulVec, mulVec_mulVec, dotProduct_mulVec, vecMul_vecMul, Matrix.mul_assoc]

omit [Fintype N] in
/-- A unitary that commutes with `K` leaves the quadratic form of `K` invariant. -/
theorem quadratic_form_unitary_commute (K U : Matrix d d ℂ) (hU : Uᴴ * U = 1)
    (hUK : U * K = K * U) (φ : d → ℂ) :
    star (U *ᵥ φ) ⬝ᵥ (K *ᵥ (U *ᵥ φ)) = star φ ⬝ᵥ (K *ᵥ φ) := by
  rw [star_mulVec, mulVec_mulVec, ← hUK, dotProduct_mulVec, vecMul_vecMul, ← Matrix.mul_assoc, hU,
    Matrix.one_mul, ← dotProduct_mulVec]

/-- **L3 (a), abstract propagator.** If `E` is an isometry and `U` is unitary then the local
step preserves the norm of the full state. -/
theorem local_flow_norm_of_unitary (E : Matrix N d ℂ) (U : Matrix d d ℂ)
    (hE : Eᴴ * E = 1) (hU : Uᴴ * U = 1) (φ : d → ℂ) :
    star (E *ᵥ (U *ᵥ φ)) ⬝ᵥ (E *ᵥ (U *ᵥ φ)) = star (E *ᵥ φ) ⬝ᵥ (E *ᵥ φ) := by
  rw [isometry_norm E hE, isometry_norm U hU, isometry_norm E hE]

/-- **L3 (b), abstract propagator.** If `U` is unitary and commutes with the effective
Hamiltonian `K = Eᴴ H E` then the local step preserves the energy of the full state.
(Neither `EᴴE = 1` nor `Hᴴ = H` is needed at this level of generality.) -/
theorem local_flow_energy_of_unitary (E : Matrix N d ℂ) (H : Matrix N N ℂ) (U : Matrix d d ℂ)
    (hU : Uᴴ * U = 1) (hUK : U * (Eᴴ * H * E) = (Eᴴ * H * E) * U) (φ : d → ℂ) :
    star (E *ᵥ (U *ᵥ φ)) ⬝ᵥ (H *ᵥ (E *ᵥ (U *ᵥ φ))) = star (E *ᵥ φ) ⬝ᵥ (H *ᵥ (E *ᵥ φ)) := by
  rw [energy_eq_effective E H (U *ᵥ φ), energy_eq_effective E H φ,
    quadratic_form_unitary_commute _ U hU hUK]

omit [Fintype N] [Fintype d] [DecidableEq d] in
theorem skew_smul_hermitian (K : Matrix d d ℂ) (hK : Kᴴ = K) (c : ℂ) (hc : star c = -c) :
    (c • K)ᴴ = -(c • K) := by
  rw [conjTranspose_smul, hK, hc, neg_smul]

theorem star_neg_I_mul (t : ℝ) : star (-Complex.I * (t : ℂ)) = -(-Complex.I * (t : ℂ)) := by
  simp

theorem star_I_mul (t : ℝ) : star (Complex.I * (t : ℂ)) = -(Complex.I * (t : ℂ)) := by
  simp

/-- **L3.** The local propagator `exp (c • K)`, `c` purely imaginary, of a Hermitian Hamiltonian
is unitary. -/
theorem local_propagator_unitary (E : Matrix N d ℂ) (H : Matrix N N ℂ) (hH : Hᴴ = H)
    (c : ℂ) (hc : star c = -c) :
    (exp (c • (Eᴴ * H * E)))ᴴ * exp (c • (Eᴴ * H * E)) = 1 :=
  exp_unitary_of_skewHermitian _ (skew_smul_hermitian _ (effective_hermitian E H hH) c hc)

/-- **L3 (a), purely imaginary coefficient** (covers both `-i t` and `+i t`). -/
theorem local_flow_norm_of_imag (E : Matrix N d ℂ) (H : Matrix N N ℂ)
    (hE : Eᴴ * E = 1) (hH : Hᴴ = H) (c : ℂ) (hc : star c = -c) (φ : d → ℂ) :
    star (E *ᵥ (exp (c • (Eᴴ * H * E)) *ᵥ φ)) ⬝ᵥ (E *ᵥ (exp (c • (Eᴴ * H * E)) *ᵥ φ))
      = star (E *ᵥ φ) ⬝ᵥ (E *ᵥ φ) :=
  local_flow_norm_of_unitary E _ hE (local_propagator_unitary E H hH c hc) φ

/-- **L3 (b), purely imaginary coefficient** (covers both `-i t` and `+i t`). -/
theorem local_flow_energy_of_imag (E : Matrix N d ℂ) (H : Matrix N N ℂ)
    (hH : Hᴴ = H) (c : ℂ) (hc : star c = -c) (φ : d → ℂ) :
    star (E *ᵥ (exp (c • (Eᴴ * H * E)) *ᵥ φ)) ⬝ᵥ
        (H *ᵥ (E *ᵥ (exp (c • (Eᴴ * H * E)) *ᵥ φ)))
      = star (E *ᵥ φ) ⬝ᵥ (H *ᵥ (E *ᵥ φ)) :=
  local_flow_energy_of_unitary E H _ (local_propagator_unitary E H hH c hc)
    (commute_exp _ c).symm φ

/-- **L3 (a).** One local step `φ ↦ exp (-i t K) φ`, `K = Eᴴ H E`, with `E` an isometry and `H`
Hermitian, preserves the norm of the full state `E φ`.
Used by C06 (site and link updates of TDVP) and C09 (BUG). -/
theorem local_flow_norm (E : Matrix N d ℂ) (H : Matrix N N ℂ)
    (hE : Eᴴ * E = 1) (hH : Hᴴ = H) (t : ℝ) (φ : d → ℂ) :
    star (E *ᵥ (exp ((-Complex.I * (t : ℂ)) • (Eᴴ * H * E)) *ᵥ φ)) ⬝ᵥ
        (E *ᵥ (exp ((-Complex.I * (t : ℂ)) • (Eᴴ * H * E)) *ᵥ φ))
      = star (E *ᵥ φ) ⬝ᵥ (E *ᵥ φ) :=
  local_flow_norm_of_imag E H hE hH _ (star_neg_I_mul t) φ

/-- **L3 (b).** One local step `φ ↦ exp (-i t K) φ`, `K = Eᴴ H E`, `H` Hermitian, preserves the
energy `⟨E φ, H E φ⟩` of the full state.  (The isometry hypothesis on `E` is not needed for
the energy.)  Used by C06 and C09. -/
theorem local_flow_energy (E : Matrix N d ℂ) (H : Matrix N N ℂ)
    (hH : Hᴴ = H) (t : ℝ) (φ : d → ℂ) :
    star (E *ᵥ (exp ((-Complex.I * (t : ℂ)) • (Eᴴ * H * E)) *ᵥ φ)) ⬝ᵥ
        (H *ᵥ (E *ᵥ (exp ((-Complex.I * (t : ℂ)) • (Eᴴ * H * E)) *ᵥ φ)))
      = star (E *ᵥ φ) ⬝ᵥ (H *ᵥ (E *ᵥ φ)) :=
  local_flow_energy_of_imag E H hH _ (star_neg_I_mul t) φ

/-- **L3 (a), backward step** `φ ↦ exp (+i t K) φ` (the link update of one-site TDVP). -/
theorem local_flow_norm_backward (E : Matrix N d ℂ) (H : Matrix N N ℂ)
    (hE : Eᴴ * E = 1) (hH : Hᴴ = H) (t : ℝ) (φ : d → ℂ) :
    star (E *ᵥ (exp ((Complex.I * (t : ℂ)) • (Eᴴ * H * E)) *ᵥ φ)) ⬝ᵥ
        (E *ᵥ (exp ((Complex.I * (t : ℂ)) • (Eᴴ * H * E)) *ᵥ φ))
      = star (E *ᵥ φ) ⬝ᵥ (E *ᵥ φ) :=
  local_flow_norm_of_imag E H hE hH _ (star_I_mul t) φ

/-- **L3 (b), backward step** `φ ↦ exp (+i t K) φ`. -/
theorem local_flow_energy_backward (E : Matrix N d ℂ) (H : Matrix N N ℂ)
    (hH : Hᴴ = H) (t : ℝ) (φ : d → ℂ) :
    star (E *ᵥ (exp ((Complex.I * (t : ℂ)) • (Eᴴ * H * E)) *ᵥ φ)) ⬝ᵥ
        (H *ᵥ (E *ᵥ (exp ((Complex.I * (t : ℂ)) • (Eᴴ * H * E)) *ᵥ φ)))
      = star (E *ᵥ φ) ⬝ᵥ (H *ᵥ (E *ᵥ φ)) :=
  local_flow_energy_of_imag E H hH _ (star_I_mul t) φ

/-! ### Partial isometries (zero-padded bonds, KEEP mode)

`Eᴴ * E = P` with `P * P = P` (then `Pᴴ = P` automatically) and the local tensor lives in the
range of `P`: `P *ᵥ φ = φ`. -/

omit [DecidableEq d] in
/-- **L3 (partial).** A partial isometry absorbs its initial projector on both sides: `E * P = E`,
`P * Eᴴ = Eᴴ`; so the effective Hamiltonian `K = Eᴴ * H * E` lives in the range of the projector
(`P * K = K = K * P`). -/
theorem partial_isometry_absorb (E : Matrix N d ℂ) (P : Matrix d d ℂ)
    (hE : Eᴴ * E = P) (hP : P * P = P) : E * P = E ∧ P * Eᴴ = Eᴴ := by
  open scoped ComplexOrder in
  -- `D = E P - E` satisfies `Eᴴ D = P P - P = 0`, hence `Dᴴ D = (Pᴴ Eᴴ - Eᴴ) D = 0`
  have hD : Eᴴ * (E * P - E) = 0 := by rw [Matrix.mul_sub, ← Matrix.mul_assoc, hE, hP, sub_self]
  have h0 : (E * P - E)ᴴ * (E * P - E) = 0 := by
    rw [conjTranspose_sub, conjTranspose_mul, Matrix.sub_mul, Matrix.mul_assoc, hD, Matrix.mul_zero, sub_self]
  have hEP : E * P = E := sub_eq_zero.mp (conjTranspose_mul_self_eq_zero.mp h0)
  refine ⟨hEP, ?_⟩
  have hPh : Pᴴ = P := hE ▸ isHermitian_conjTranspose_mul_self E
  have := congrArg conjTranspose hEP
  rwa [conjTranspose_mul, hPh] at this

/-- **L3 (partial).** The local flow keeps the tensor in the range of the projector:
`P φ = φ → P (exp (c K) φ) = exp (c K) φ` (zero-padded bond components stay zero). -/
theorem local_flow_range (E : Matrix N d ℂ) (H : Matrix N N ℂ) (P : Matrix d d ℂ)
    (hE : Eᴴ * E = P) (hP : P * P = P) (c : ℂ) (φ : d → ℂ) (hφ : P *ᵥ φ = φ) :
    P *ᵥ (exp (c • (Eᴴ * H * E)) *ᵥ φ) = exp (c • (Eᴴ * H * E)) *ᵥ φ := by
  obtain ⟨h1, h2⟩ := partial_isometry_absorb E P hE hP
  have hc : P * (Eᴴ * H * E) = (Eᴴ * H * E) * P := by
    rw [← Matrix.mul_assoc, ← Matrix.mul_assoc, h2, Matrix.mul_assoc (Eᴴ * H), h1]
  rw [mulVec_mulVec, commute_exp_of_commute P _ c hc, ← mulVec_mulVec, hφ]

omit [DecidableEq d] in
/-- The squared norm of `E ψ` for a partial isometry and `ψ` in the range of its projector. -/
theorem partial_isometry_norm (E : Matrix N d ℂ) (P : Matrix d d ℂ) (hE : Eᴴ * E = P)
    (ψ : d → ℂ) (hψ : P *ᵥ ψ = ψ) : star (E *ᵥ ψ) ⬝ᵥ (E *ᵥ ψ) = star ψ ⬝ᵥ ψ := by
  rw [star_mulVec, dotProduct_mulVec, vecMul_vecMul, hE, ← dotProduct_mulVec, hψ]

/-- **L3 (a), partial isometry.** Norm conservation of the local step when `E` is only a partial
isometry (`EᴴE = P`, `P² = P`) and `φ` lies in the range of `P`. Used by C06 with
zero-padded bonds (KEEP mode of C11). -/
theorem local_flow_norm_partial (E : Matrix N d ℂ) (H : Matrix N N ℂ) (P : Matrix d d ℂ)
    (hE : Eᴴ * E = P) (hP : P * P = P) (hH : Hᴴ = H) (c : ℂ) (hc : star c = -c)
    (φ : d → ℂ) (hφ : P *ᵥ φ = φ) :
    star (E *ᵥ (exp (c • (Eᴴ * H * E)) *ᵥ φ)) ⬝ᵥ (E *ᵥ (exp (c • (Eᴴ * H * E)) *ᵥ φ))
      = star (E *ᵥ φ) ⬝ᵥ (E *ᵥ φ) := by
  rw [partial_isometry_norm E P hE _ (local_flow_range E H P hE hP c φ hφ),
    partial_isometry_norm E P hE φ hφ,
    isometry_norm _ (local_propagator_unitary E H hH c hc)]

end Local

/-! ### Non-vacuity: a concrete instance -/

section Examples

/-- A `3 × 2` isometry (embedding of the first two coordinates). -/
def emb32 : Matrix (Fin 3) (Fin 2) ℂ := !![1, 0; 0, 1; 0, 0]

/-- A Hermitian `3 × 3` matrix, not diagonal, not commuting with `emb32 * emb32ᴴ`. -/
def ham3 : Matrix (Fin 3) (Fin 3) ℂ := !![0, 1, 0; 1, 0, Complex.I; 0, -Complex.I, 2]

theorem emb32_isometry : emb32ᴴ * emb32 = 1 := by
  rw [← Matrix.ext_iff]
  simp [Fin.forall_fin_two, emb32, Matrix.mul_apply, Fin.sum_univ_three]

theorem ham3_hermitian : ham3ᴴ = ham3 := by
  rw [← Matrix.ext_iff]
  simp [Fin.forall_fin_succ, ham3, map_ofNat]

/-- The effective Hamiltonian of the example is Pauli `X`, so the flow is not trivial. -/
theorem emb32_effective : emb32ᴴ * ham3 * emb32 = pauliX := by
  rw [← Matrix.ext_iff]
  simp [Fin.forall_fin_two, emb32, ham3, pauliX, Matrix.mul_apply, Fin.sum_univ_three]

example (t : ℝ) (φ : Fin 2 → ℂ) :
    star (emb32 *ᵥ (exp ((-Complex.I * (t : ℂ)) • (emb32ᴴ * ham3 * emb32)) *ᵥ φ)) ⬝ᵥ
        (emb32 *ᵥ (exp ((-Complex.I * (t : ℂ)) • (emb32ᴴ * ham3 * emb32)) *ᵥ φ))
      = star (emb32 *ᵥ φ) ⬝ᵥ (emb32 *ᵥ φ) :=
  local_flow_norm emb32 ham3 emb32_isometry ham3_hermitian t φ

example (t : ℝ) (φ : Fin 2 → ℂ) :
    star (emb32 *ᵥ (exp ((-Complex.I * (t : ℂ)) • (emb32ᴴ * ham3 * emb32)) *ᵥ φ)) ⬝ᵥ
        (ham3 *ᵥ (emb32 *ᵥ (exp ((-Complex.I * (t : ℂ)) • (emb32ᴴ * ham3 * emb32)) *ᵥ φ)))
      = star (emb32 *ᵥ φ) ⬝ᵥ (ham3 *ᵥ (emb32 *ᵥ φ)) :=
  local_flow_energy emb32 ham3 ham3_hermitian t φ

/-- A proper partial isometry: `emb32` padded with a zero column; its projector is
`diag(1,1,0) ≠ 1`, and `φ = (a, b, 0)` lies in its range. -/
example (H : Matrix (Fin 3) (Fin 3) ℂ) (hH : Hᴴ = H) (t : ℝ) (a b : ℂ) :
    let E : Matrix (Fin 3) (Fin 2 ⊕ Fin 1) ℂ := fromCols emb32 0
    let φ : Fin 2 ⊕ Fin 1 → ℂ := Sum.elim ![a, b] ![0]
    star (E *ᵥ (exp ((-Complex.I * (t : ℂ)) • (Eᴴ * H * E)) *ᵥ φ)) ⬝ᵥ
        (E *ᵥ (exp ((-Complex.I * (t : ℂ)) • (Eᴴ * H * E)) *ᵥ φ))
      = star (E *ᵥ φ) ⬝ᵥ (E *ᵥ φ) := by
  intro E φ
  have hP := partial_isometry_pad (p := Fin 1) emb32 (1 : Matrix (Fin 2) (Fin 2) ℂ) emb32_isometry
  refine local_flow_norm_partial E H _ rfl hP.2.1 hH _ (star_neg_I_mul t) φ ?_
  rw [pad_gram emb32 emb32_isometry]
  ext i
  rcases i with i | i
  · simp [φ, fromBlocks_mulVec]
  · simp [φ, fromBlocks_mulVec]

end Examples

end Ptn.Analysis
