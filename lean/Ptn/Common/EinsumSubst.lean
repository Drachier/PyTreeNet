import Ptn.Common.EinsumNet
/-! Substitution of an expression for a leaf.

A leaf of a contraction program is addressed by a path (`false`: left operand, `true`: right operand).
`Expr.sb_subst e p x` puts the expression `x` in the place of the leaf at `p`.  If `x` evaluates to the
leaf's tensor, has the leaf's legs as free legs and its other ("inner") labels do not occur in `e`, then the
value, the free legs and strong well-formedness are kept and the binding record is the outer record followed by
the inner one, up to order (`Expr.sb_subst_spec`).  The value is kept at every assignment without any
well-formedness (`Expr.sb_eval_subst`).

Any commutative semiring, any size.  (Names carry `sb_`, also the two general facts `sb_label_free_or_bound` and
`sb_eval_dependsOn_free`: BUILDERS.md, unique names.) -/
namespace Ptn.Ein

variable {L : Type} [DecidableEq L] {R : Type} [CommSemiring R]

namespace Expr

/-- the leaf at a path (`none`: the path does not end in a leaf) -/
def sb_at : Expr L R → List Bool → Option (List L × (Asg L → R))
  | leaf legs v, [] => some (legs, v)
  | leaf _ _, _ :: _ => none
  | dot _ _ _, [] => none
  | dot a _ _, false :: p => a.sb_at p
  | dot _ b _, true :: p => b.sb_at p

/-- replace the leaf at a path by an expression (unchanged if the path does not end in a leaf) -/
def sb_subst : Expr L R → List Bool → Expr L R → Expr L R
  | leaf _ _, [], x => x
  | leaf legs v, _ :: _, _ => leaf legs v
  | dot a b ps, [], _ => dot a b ps
  | dot a b ps, false :: p, x => dot (a.sb_subst p x) b ps
  | dot a b ps, true :: p, x => dot a (b.sb_subst p x) ps

omit [DecidableEq L] [CommSemiring R] in
/-- Induction along the path to a leaf: a property of `(e, p)` that holds at the addressed leaf itself and passes
from an operand to the contraction holds whenever `p` addresses the leaf `(legs, v)` of `e`. -/
theorem sb_at_induction {legs : List L} {v : Asg L → R} {motive : Expr L R → List Bool → Prop}
    (here : motive (leaf legs v) [])
    (left : ∀ a b ps p, a.sb_at p = some (legs, v) → motive a p → motive (dot a b ps) (false :: p))
    (right : ∀ a b ps p, b.sb_at p = some (legs, v) → motive b p → motive (dot a b ps) (true :: p)) :
    ∀ (e : Expr L R) (p : List Bool), e.sb_at p = some (legs, v) → motive e p
  | leaf lg w, [], h => by
    simp only [sb_at, Option.some.injEq, Prod.mk.injEq] at h
    obtain ⟨rfl, rfl⟩ := h
    exact here
  | leaf _ _, _ :: _, h => by simp [sb_at] at h
  | dot _ _ _, [], h => by simp [sb_at] at h
  | dot a b ps, false :: p, h => left a b ps p h (sb_at_induction here left right a p h)
  | dot a b ps, true :: p, h => right a b ps p h (sb_at_induction here left right b p h)

/-- **Substitution keeps the value.**  Replacing a leaf by an expression that evaluates to the leaf's
tensor does not change what the program computes. -/
theorem sb_eval_subst (dim : L → Nat) (e x : Expr L R) (p : List Bool) (legs : List L) (v : Asg L → R)
    (hat : e.sb_at p = some (legs, v)) (hx : ∀ σ, x.eval dim σ = v σ) (σ : Asg L) :
    (e.sb_subst p x).eval dim σ = e.eval dim σ := by
  revert σ
  refine sb_at_induction (motive := fun e p => ∀ σ, (e.sb_subst p x).eval dim σ = e.eval dim σ) hx ?_ ?_ e p hat
  · intro a b ps p _ ih σ
    exact sumPairs_congr dim ps (fun τ => by rw [ih τ]) σ
  · intro a b ps p _ ih σ
    exact sumPairs_congr dim ps (fun τ => by rw [ih τ]) σ

omit [CommSemiring R] in
/-- the free legs are unchanged when the replacement has the leaf's legs as free legs -/
theorem sb_free_subst (e x : Expr L R) (p : List Bool) (legs : List L) (v : Asg L → R)
    (hat : e.sb_at p = some (legs, v)) (hx : x.free = legs) :
    (e.sb_subst p x).free = e.free := by
  refine sb_at_induction (motive := fun e p => (e.sb_subst p x).free = e.free) hx ?_ ?_ e p hat
  · intro a b ps p _ ih; simp only [sb_subst, free, ih]
  · intro a b ps p _ ih; simp only [sb_subst, free, ih]

set_option linter.unusedSectionVars false in
/-- **The record gains the inner record.**  The binding record after the substitution is the outer
record followed by the record of the replacement, up to order. -/
theorem sb_binds_subst (e x : Expr L R) (p : List Bool) (legs : List L) (v : Asg L → R)
    (hat : e.sb_at p = some (legs, v)) :
    (e.sb_subst p x).binds.Perm (e.binds ++ x.binds) := by
  refine sb_at_induction (motive := fun e p => (e.sb_subst p x).binds.Perm (e.binds ++ x.binds))
    (List.Perm.refl _) ?_ ?_ e p hat
  · intro a b ps p _ ih
    simp only [sb_subst, binds, List.append_assoc]
    apply List.Perm.append_left
    refine (ih.append_right _).trans ?_
    rw [List.append_assoc]
    exact List.Perm.append_left _ List.perm_append_comm
  · intro a b ps p _ ih
    simp only [sb_subst, binds, List.append_assoc]
    exact List.Perm.append_left _ (List.Perm.append_left _ ih)

omit [DecidableEq L] [CommSemiring R] in
theorem sb_at_labels (e : Expr L R) (p : List Bool) (legs : List L) (v : Asg L → R)
    (hat : e.sb_at p = some (legs, v)) : ∀ l ∈ legs, l ∈ e.labels :=
  sb_at_induction (motive := fun e _ => ∀ l ∈ legs, l ∈ e.labels) (fun _ hl => hl)
    (fun _ _ _ _ _ ih l hl => List.mem_append_left _ (ih l hl))
    (fun _ _ _ _ _ ih l hl => List.mem_append_right _ (ih l hl)) e p hat

omit [DecidableEq L] [CommSemiring R] in
theorem sb_labels_subst (x : Expr L R) : ∀ (e : Expr L R) (p : List Bool),
    ∀ l ∈ (e.sb_subst p x).labels, l ∈ e.labels ∨ l ∈ x.labels
  | leaf _ _, [], _, hl => Or.inr hl
  | leaf _ _, _ :: _, _, hl => Or.inl hl
  | dot _ _ _, [], _, hl => Or.inl hl
  | dot a _ _, false :: p, l, hl => (List.mem_append.1 hl).elim
      (fun h => (sb_labels_subst x a p l h).imp_left (List.mem_append_left _))
      (fun h => Or.inl (List.mem_append_right _ h))
  | dot _ b _, true :: p, l, hl => (List.mem_append.1 hl).elim
      (fun h => Or.inl (List.mem_append_left _ h))
      (fun h => (sb_labels_subst x b p l h).imp_left (List.mem_append_right _))

set_option linter.unusedSectionVars false in
/-- **Substitution keeps strong well-formedness.**  The replacement is strongly well-formed, its free
legs are the leaf's legs, and its inner labels (those that are not legs of the leaf) do not occur in `e`. -/
theorem sb_swf_subst (e x : Expr L R) (p : List Bool) (legs : List L) (v : Asg L → R)
    (hat : e.sb_at p = some (legs, v)) (he : e.SWF) (hx : x.SWF) (hfree : x.free = legs)
    (hfresh : ∀ l ∈ x.labels, l ∉ legs → l ∉ e.labels) :
    (e.sb_subst p x).SWF := by
  revert he hfresh
  refine sb_at_induction (motive := fun e p => e.SWF → (∀ l ∈ x.labels, l ∉ legs → l ∉ e.labels) →
    (e.sb_subst p x).SWF) (fun _ _ => hx) ?_ ?_ e p hat
  · intro a b ps p hat ih ⟨ha, hb, hdis, hps, hn1, hn2⟩ hfresh
    have hfa : ∀ l ∈ x.labels, l ∉ legs → l ∉ a.labels := fun l hl hn hla =>
      hfresh l hl hn (List.mem_append_left _ hla)
    refine ⟨ih ha hfa, hb, ?_, ?_, hn1, hn2⟩
    · intro l hl hlb
      rcases sb_labels_subst x a p l hl with h | h
      · exact hdis l h hlb
      · by_cases hlg : l ∈ legs
        · exact hdis l (sb_at_labels a p legs v hat l hlg) hlb
        · exact hfresh l h hlg (List.mem_append_right _ hlb)
    · intro q hq
      rw [sb_free_subst a x p legs v hat hfree]
      exact hps q hq
  · intro a b ps p hat ih ⟨ha, hb, hdis, hps, hn1, hn2⟩ hfresh
    have hfb : ∀ l ∈ x.labels, l ∉ legs → l ∉ b.labels := fun l hl hn hlb =>
      hfresh l hl hn (List.mem_append_right _ hlb)
    refine ⟨ha, ih hb hfb, ?_, ?_, hn1, hn2⟩
    · intro l hla hl
      rcases sb_labels_subst x b p l hl with h | h
      · exact hdis l hla h
      · by_cases hlg : l ∈ legs
        · exact hdis l hla (sb_at_labels b p legs v hat l hlg)
        · exact hfresh l h hlg (List.mem_append_left _ hla)
    · intro q hq
      rw [sb_free_subst b x p legs v hat hfree]
      exact hps q hq

/-- the leaves after the substitution, as a product: the factor of the addressed leaf is replaced by the
product of the leaves of the replacement.  Stated multiplicatively: `leafProd e · leafProd x =
leafProd (subst) · v`. -/
theorem sb_leafProd_subst (e x : Expr L R) (p : List Bool) (legs : List L) (v : Asg L → R)
    (hat : e.sb_at p = some (legs, v)) (σ : Asg L) :
    (e.sb_subst p x).leafProd σ * v σ = e.leafProd σ * x.leafProd σ := by
  refine sb_at_induction (motive := fun e p => (e.sb_subst p x).leafProd σ * v σ = e.leafProd σ * x.leafProd σ)
    ?_ ?_ ?_ e p hat
  · simp only [sb_subst, leafProd, leaves, List.map_cons, List.map_nil, prodL, mul_one]
    exact mul_comm _ _
  · intro a b ps p _ ih
    simp only [sb_subst, leafProd_dot]
    rw [mul_right_comm, ih, mul_right_comm]
  · intro a b ps p _ ih
    simp only [sb_subst, leafProd_dot]
    rw [mul_assoc, ih, mul_assoc]

omit [CommSemiring R] in
theorem sb_label_free_or_bound (e : Expr L R) : ∀ l ∈ e.labels, l ∈ e.free ∨ l ∈ pairLegs e.binds := by
  induction e with
  | leaf legs v => intro l hl; exact Or.inl hl
  | dot a b ps iha ihb =>
    intro l hl
    simp only [labels, List.mem_append] at hl
    simp only [mem_free_dot, binds, mem_pairLegs_append]
    rcases hl with h | h
    · rcases iha l h with h' | h'
      · by_cases hp : l ∈ ps.map Prod.fst
        · exact Or.inr (Or.inl (by simp only [pairLegs, List.mem_append]; exact Or.inl hp))
        · exact Or.inl (Or.inl ⟨h', hp⟩)
      · exact Or.inr (Or.inr (Or.inl h'))
    · rcases ihb l h with h' | h'
      · by_cases hp : l ∈ ps.map Prod.snd
        · exact Or.inr (Or.inl (by simp only [pairLegs, List.mem_append]; exact Or.inr hp))
        · exact Or.inl (Or.inr ⟨h', hp⟩)
      · exact Or.inr (Or.inr (Or.inr h'))

/-- **The value of a well-formed program reads only its free legs** (so it can serve as a leaf with those legs). -/
theorem sb_eval_dependsOn_free (dim : L → Nat) (e : Expr L R) (h : e.WF) :
    DependsOn (· ∈ e.free) (e.eval dim) := by
  intro σ τ hst
  rw [eval_eq_full dim e h, eval_eq_full dim e h]
  refine ((sumPairs_dependsOn dim e.binds (leafProd_dependsOn e h)).mono (S' := (· ∈ e.free)) ?_) σ τ hst
  intro l hl
  rcases sb_label_free_or_bound e l hl.1 with h' | h'
  · exact h'
  · exact absurd h' hl.2

/-- **Substitution, all in one.**  Strongly well-formed outer program `e`, strongly well-formed
replacement `x` for the leaf at `p` with the leaf's legs as free legs, the leaf's value, and fresh inner
labels: the result is strongly well-formed, has the same free legs, the record `e.binds ++ x.binds` up to
order (no leg bound twice), and the same value at every assignment. -/
theorem sb_subst_spec (dim : L → Nat) (e x : Expr L R) (p : List Bool) (legs : List L) (v : Asg L → R)
    (hat : e.sb_at p = some (legs, v)) (he : e.SWF) (hx : x.SWF) (hfree : x.free = legs)
    (hval : ∀ σ, x.eval dim σ = v σ)
    (hfresh : ∀ l ∈ x.labels, l ∉ legs → l ∉ e.labels) :
    (e.sb_subst p x).SWF ∧ (e.sb_subst p x).free = e.free ∧
    (e.sb_subst p x).binds.Perm (e.binds ++ x.binds) ∧
    (pairLegs (e.sb_subst p x).binds).Nodup ∧
    ∀ σ, (e.sb_subst p x).eval dim σ = e.eval dim σ := by
  have hs := sb_swf_subst e x p legs v hat he hx hfree hfresh
  exact ⟨hs, sb_free_subst e x p legs v hat hfree, sb_binds_subst e x p legs v hat,
    binds_nodup _ hs, sb_eval_subst dim e x p legs v hat hval⟩

end Expr

/-! ### non-vacuity: a concrete instance of every hypothesis -/

section Example

/-- inner program: `Q[0,3] · Rm[4,1]` over the bond `(3,4)` -/
private def sbX : Expr Nat Int :=
  .dot (.leaf [0, 3] (fun σ => (σ 0 + 2 * σ 3 + 1 : Nat))) (.leaf [4, 1] (fun σ => (3 * σ 4 + σ 1 + 1 : Nat))) [(3, 4)]

/-- outer program: the leaf `A[0,1]` (the value of `sbX`) contracted with `w[2]` over `(1,2)` -/
private def sbE : Expr Nat Int :=
  .dot (.leaf [0, 1] (sbX.eval (fun _ => 2))) (.leaf [2] (fun σ => (σ 2 + 5 : Nat))) [(1, 2)]

private theorem sbX_swf : sbX.SWF := by
  refine ⟨⟨by decide, ?_⟩, ⟨by decide, ?_⟩, by decide, by decide, by decide, by decide⟩
  · intro σ τ h; simp only; rw [h 0 (by simp), h 3 (by simp)]
  · intro σ τ h; simp only; rw [h 4 (by simp), h 1 (by simp)]

example : let dim : Nat → Nat := fun _ => 2
    (sbE.sb_subst [false] sbX).SWF ∧ (sbE.sb_subst [false] sbX).free = sbE.free ∧
    (sbE.sb_subst [false] sbX).binds.Perm (sbE.binds ++ sbX.binds) ∧
    (Expr.pairLegs (sbE.sb_subst [false] sbX).binds).Nodup ∧
    ∀ σ, (sbE.sb_subst [false] sbX).eval dim σ = sbE.eval dim σ := by
  intro dim
  refine Expr.sb_subst_spec dim sbE sbX [false] [0, 1] (sbX.eval dim) rfl ?_ sbX_swf (by decide)
    (fun _ => rfl) (by decide)
  refine ⟨⟨by decide, ?_⟩, ⟨by decide, ?_⟩, by decide, by decide, by decide, by decide⟩
  · exact Expr.sb_eval_dependsOn_free dim sbX sbX_swf.wf
  · intro σ τ h; simp only; rw [h 2 (by simp)]

/-- the substituted program really is the three-leaf program with the two-pair record -/
example : (sbE.sb_subst [false] sbX).binds = [(1, 2), (3, 4)] := by decide

end Example

end Ptn.Ein
