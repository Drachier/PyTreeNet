import Ptn.C20.Core
import Ptn.C20.Lemmas
import Ptn.C20.ExpLemmas
import Ptn.C20.Flow
/-! C20, the stated results over `ℂ` (the dispatch theorems are core Lean and stand in `Core.lean`, which this file
  imports): theorems about the matrix exponential over `ℂ` instantiated at the exponent `t · c · H` that the model
  hands to the selected routine.  What is NOT proved: that scipy's routines meet their contracts (validated
  numerically by the oracle). -/
namespace Ptn.C20
open Matrix NormedSpace

/-- The scalar in front of `H` as a complex number: `−i` forward, `+i` backward. -/
theorem sign_spec_complex :
    (rhsCoeff true).toComplex = -Complex.I ∧ (rhsCoeff false).toComplex = Complex.I := by
  simp [rhsCoeff, sign, GInt.mul, GInt.ofInt, GInt.I, GInt.toComplex]

/-- Whatever `eigsh` returns: a matrix `V · W` with `V : n × k`, `k < n` (here
    `W = diag(exp w) · pinv(V)`) is never the propagator `exp(E)`, for any exponent `E` — the
    propagator is invertible.  So for `n ≥ 4` the `eigsh` route cannot satisfy the property on
    all vectors (finding F-C20). -/
theorem eigsh_not_exact_witness (n k : Nat) (hk : k < n) (V : Matrix (Fin n) (Fin k) ℂ)
    (W : Matrix (Fin k) (Fin n) ℂ) (E : Matrix (Fin n) (Fin n) ℂ) :
    V * W ≠ exp E ∧ ∃ v : Fin n → ℂ, (V * W) *ᵥ v ≠ exp E *ᵥ v := by
  have hne : V * W ≠ exp E :=
    lowrank_ne_exp (by rw [Fintype.card_fin, Fintype.card_fin]; exact hk) V W E
  exact ⟨hne, not_forall.mp fun hall => hne (Matrix.ext_iff_mulVec.mpr hall)⟩

section analytic
variable {ι : Type} [Fintype ι] [DecidableEq ι]

/-- Forward followed by backward evolution (and backward followed by forward) with the exact
    propagators of the model's exponents is the identity. -/
theorem forward_backward_id (H : Matrix ι ι ℂ) (t : ℝ) :
    exp (exponent (rhsCoeff false) H t) * exp (exponent (rhsCoeff true) H t) = 1 ∧
    exp (exponent (rhsCoeff true) H t) * exp (exponent (rhsCoeff false) H t) = 1 ∧
    ∀ v : ι → ℂ, exp (exponent (rhsCoeff false) H t) *ᵥ
        (exp (exponent (rhsCoeff true) H t) *ᵥ v) = v := by
  have hneg : exponent (rhsCoeff false) H t = -exponent (rhsCoeff true) H t := by
    have : rhsCoeff false = (rhsCoeff true).neg := by decide
    rw [this, exponent_neg]
  rw [hneg]
  refine ⟨Analysis.exp_neg_mul_exp _, Analysis.exp_mul_exp_neg _, fun v => ?_⟩
  rw [Matrix.mulVec_mulVec, Analysis.exp_neg_mul_exp, Matrix.one_mulVec]

/-- A Hermitian Hamiltonian gives a unitary propagator in both directions, hence the Euclidean
    norm (its square `ψᴴψ`) of every vector is preserved. -/
theorem hermitian_norm_preserved (H : Matrix ι ι ℂ) (hH : Hᴴ = H) (t : ℝ) (f : Bool) :
    let U := exp (exponent (rhsCoeff f) H t)
    Uᴴ * U = 1 ∧ ∀ v : ι → ℂ, star (U *ᵥ v) ⬝ᵥ (U *ᵥ v) = star v ⬝ᵥ v := by
  have hc : (rhsCoeff f).re = 0 := by cases f <;> decide
  have hU := Analysis.exp_unitary_of_skewHermitian _ (exponent_skew (rhsCoeff f) hc H hH t)
  exact ⟨hU, Analysis.isometry_norm _ hU⟩

/-- Duration 0: the exact propagator of the model's exponent is the identity, in both directions. -/
theorem zero_duration_id (H : Matrix ι ι ℂ) (f : Bool) :
    exp (exponent (rhsCoeff f) H 0) = 1 ∧
    ∀ v : ι → ℂ, exp (exponent (rhsCoeff f) H 0) *ᵥ v = v := by
  rw [exponent, Complex.ofReal_zero, zero_mul, zero_smul, NormedSpace.exp_zero]
  exact ⟨rfl, Matrix.one_mulVec⟩

omit [Fintype ι] [DecidableEq ι] in
/-- The exponent handed to the routine is `−i t H` forward and `+i t H` backward. -/
theorem exponent_spec (H : Matrix ι ι ℂ) (t : ℝ) :
    exponent (rhsCoeff true) H t = (-(Complex.I * t)) • H ∧
    exponent (rhsCoeff false) H t = (Complex.I * t) • H := by
  obtain ⟨h1, h2⟩ := sign_spec_complex
  unfold exponent
  rw [h1, h2]
  constructor <;> congr 1 <;> ring

/-- The ODE branch (`time=span`): `solve_ivp` integrates `y' = (c·H) y` from `0`.  In matrix form
    (the columns of `V` are simultaneous solution vectors): `u ↦ exp(u·c·H) V₀` solves the equation
    with `V(0) = V₀`, and every solution equals it — so the exact value at the end `t` of the span is
    `exp(exponent) V₀`, the same propagator the `fast_exp_action` branch (`time=factor`) applies. -/
theorem ode_branch_flow (H : Matrix ι ι ℂ) (f : Bool) :
    (∀ (V0 : Matrix ι ι ℂ) (u : ℝ),
      HasDerivAt (fun u : ℝ => exp (exponent (rhsCoeff f) H u) * V0)
        (((rhsCoeff f).toComplex • H) * (exp (exponent (rhsCoeff f) H u) * V0)) u) ∧
    (∀ V0 : Matrix ι ι ℂ, exp (exponent (rhsCoeff f) H 0) * V0 = V0) ∧
    (∀ V : ℝ → Matrix ι ι ℂ, (∀ u, HasDerivAt V (((rhsCoeff f).toComplex • H) * V u) u) →
      ∀ t, V t = exp (exponent (rhsCoeff f) H t) * V 0) := by
  refine ⟨?_, ?_, ?_⟩
  · intro V0 u
    have := flow_solves ((rhsCoeff f).toComplex • H) V0 u
    simpa only [exponent_eq_real_smul] using this
  · intro V0
    rw [(zero_duration_id H f).1, Matrix.one_mul]
  · intro V hV t
    rw [exponent_eq_real_smul]
    exact flow_unique _ V hV t

end analytic

/-- a Hermitian matrix that is not real symmetric: the hypothesis of `hermitian_norm_preserved`
    is satisfiable non-trivially -/
example : (!![0, Complex.I; -Complex.I, 1] : Matrix (Fin 2) (Fin 2) ℂ)ᴴ =
    !![0, Complex.I; -Complex.I, 1] := by
  ext i j; fin_cases i <;> fin_cases j <;> simp [Matrix.conjTranspose_apply]

end Ptn.C20
