import Ptn.Common.AnalysisExp
import Mathlib.Analysis.SpecialFunctions.Exponential
import Mathlib.Analysis.Calculus.MeanValue
/-! The linear ODE `V' = G V` has the unique solution
    `V(t) = exp(t G) V(0)` (matrix form: the columns of `V` are simultaneous solution vectors).  Nothing of the
    model of C20 enters: `Props.lean` puts `G = c • H` (`ode_branch_flow`). -/
namespace Ptn.C20
open Matrix NormedSpace

variable {n : Type} [Fintype n] [DecidableEq n]

open scoped Matrix.Norms.Operator in
/-- `u ↦ exp(uG) V₀` solves the equation.  (The statements use the product topology on matrices; the derivative
    rules of Mathlib are those of a normed algebra, so the proofs run under the `L∞` operator norm, whose topology
    is that one by definition.) -/
theorem flow_solves (G : Matrix n n ℂ) (V0 : Matrix n n ℂ) (t : ℝ) :
    HasDerivAt (fun u : ℝ => exp (u • G) * V0) (G * (exp (t • G) * V0)) t := by
  rw [← mul_assoc]
  exact (hasDerivAt_exp_smul_const' (𝕂 := ℝ) G t).mul_const V0

open scoped Matrix.Norms.Operator in
/-- `u ↦ exp(-uG) V u` has derivative `0`, hence is constant; multiply by `exp(tG)`. -/
theorem flow_unique (G : Matrix n n ℂ) (V : ℝ → Matrix n n ℂ)
    (hV : ∀ t, HasDerivAt V (G * V t) t) (t : ℝ) : V t = exp (t • G) * V 0 := by
  have hW (u : ℝ) : HasDerivAt (fun u => exp (u • -G) * V u) 0 u := by
    have h := (hasDerivAt_exp_smul_const (𝕂 := ℝ) (-G) u).mul (hV u)
    rwa [mul_assoc, ← mul_add, neg_mul, neg_add_cancel, mul_zero] at h
  have hconst :=
    is_const_of_deriv_eq_zero (fun u => (hW u).differentiableAt) (fun u => (hW u).deriv) t 0
  simp only [zero_smul, exp_zero, one_mul] at hconst
  rw [← hconst, ← mul_assoc, smul_neg, Analysis.exp_mul_exp_neg, one_mul]

end Ptn.C20
