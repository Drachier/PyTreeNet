import Ptn.C20.Model
import Ptn.Common.List
/-! Two facts about the dispatch of C20, and: row-major `ravel` / `unravel` are mutually inverse
    (core Lean only, on `Ptn.Common.List`). -/
namespace Ptn.C20

theorem isScipy_iff (m : Mode) :
    m.isScipy = true ↔ m ∈ [Mode.rk45, Mode.rk23, Mode.dop853, Mode.bdf] := by
  unfold Mode.isScipy Mode.inScipyList
  split
  · subst m; decide
  · exact List.contains_iff_mem

theorem ite_ne {α : Type} {c : Prop} [Decidable c] {a b x : α} (ha : a ≠ x) (hb : b ≠ x) :
    (if c then a else b) ≠ x := by
  split
  · exact ha
  · exact hb

/-- No branch of the `if` cascade of `fast_exp_action` calls `solve_ivp`. -/
theorem fastExpAction_ne_solveIvp (mode method : String) (n : Nat) :
    fastExpAction mode n ≠ .solveIvp method :=
  ite_ne nofun (ite_ne (ite_ne nofun nofun) (ite_ne nofun (ite_ne nofun (ite_ne nofun nofun))))

theorem size_cons (d : Nat) (ds : List Nat) : size (d :: ds) = d * size ds := by
  simp [size]

theorem ravel_lt_size : ∀ (shape idx : List Nat), ValidIdx shape idx → ravel shape idx < size shape
  | [], [], _ => by simp [ravel, size]
  | [], _ :: _, h => by simp [ValidIdx] at h
  | _ :: _, [], h => by simp [ValidIdx] at h
  | d :: ds, i :: is, h => by
    obtain ⟨hi, hv⟩ := h
    have ih := ravel_lt_size ds is hv
    rw [size_cons]
    show i * size ds + ravel ds is < d * size ds
    have h1 : (i + 1) * size ds ≤ d * size ds := Nat.mul_le_mul_right _ hi
    rw [Nat.add_mul, Nat.one_mul] at h1
    omega

theorem unravel_ravel : ∀ (shape idx : List Nat), ValidIdx shape idx →
    unravel shape (ravel shape idx) = idx
  | [], [], _ => by simp [unravel]
  | [], _ :: _, h => by simp [ValidIdx] at h
  | _ :: _, [], h => by simp [ValidIdx] at h
  | d :: ds, i :: is, h => by
    obtain ⟨_, hv⟩ := h
    have hr := ravel_lt_size ds is hv
    have ih := unravel_ravel ds is hv
    show (i * size ds + ravel ds is) / size ds ::
        unravel ds ((i * size ds + ravel ds is) % size ds) = i :: is
    rw [mul_add_div_of_lt hr, mul_add_mod_of_lt hr, ih]

theorem valid_unravel : ∀ (shape : List Nat) (k : Nat), k < size shape →
    ValidIdx shape (unravel shape k)
  | [], _, _ => by simp [unravel, ValidIdx]
  | d :: ds, k, h => by
    rw [size_cons] at h
    have hs : 0 < size ds := by
      rcases Nat.eq_zero_or_pos (size ds) with h0 | h0
      · rw [h0] at h; omega
      · exact h0
    show k / size ds < d ∧ ValidIdx ds (unravel ds (k % size ds))
    refine ⟨?_, valid_unravel ds _ (Nat.mod_lt _ hs)⟩
    exact Nat.div_lt_of_lt_mul (by rw [Nat.mul_comm]; exact h)

theorem ravel_unravel : ∀ (shape : List Nat) (k : Nat), k < size shape →
    ravel shape (unravel shape k) = k
  | [], k, h => by
    simp [size] at h
    simp [ravel, h]
  | d :: ds, k, h => by
    rw [size_cons] at h
    have hs : 0 < size ds := by
      rcases Nat.eq_zero_or_pos (size ds) with h0 | h0
      · rw [h0] at h; omega
      · exact h0
    show k / size ds * size ds + ravel ds (unravel ds (k % size ds)) = k
    rw [ravel_unravel ds _ (Nat.mod_lt _ hs)]
    exact Nat.div_add_mod' k (size ds)

end Ptn.C20
