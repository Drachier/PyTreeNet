import Ptn.C20.Model
import Ptn.Common.AnalysisExp
import Ptn.Common.AnalysisIso
/-! C20 over complex matrices: the denotation of the model's scalar `rhsCoeff` as a complex number,
    the exponent `t · c · H` built from it, and: a product through a smaller inner dimension is never
    a matrix exponential. -/
namespace Ptn.C20
open Matrix NormedSpace

variable {n : Type} [Fintype n] [DecidableEq n]

noncomputable def GInt.toComplex (c : GInt) : ℂ := (c.re : ℂ) + (c.im : ℂ) * Complex.I

/-- The exponent `t · c · H` seen by the routine (`time=factor`), which is also `t` times the
    generator `c · H` of the differential equation (`time=span`). -/
noncomputable def exponent (c : GInt) (H : Matrix n n ℂ) (t : ℝ) : Matrix n n ℂ :=
  ((t : ℂ) * c.toComplex) • H

theorem toComplex_neg (c : GInt) : c.neg.toComplex = -c.toComplex := by
  simp [GInt.neg, GInt.toComplex]; ring

omit [Fintype n] [DecidableEq n] in
theorem exponent_neg (c : GInt) (H : Matrix n n ℂ) (t : ℝ) :
    exponent c.neg H t = -exponent c H t := by
  simp [exponent, toComplex_neg]

omit [Fintype n] [DecidableEq n] in
theorem exponent_skew (c : GInt) (hc : c.re = 0) (H : Matrix n n ℂ) (hH : Hᴴ = H) (t : ℝ) :
    (exponent c H t)ᴴ = -exponent c H t := by
  unfold exponent
  rw [Matrix.conjTranspose_smul, hH, ← neg_smul]
  congr 1
  simp [GInt.toComplex, hc]

omit [Fintype n] [DecidableEq n] in
theorem exponent_eq_real_smul (c : GInt) (H : Matrix n n ℂ) (t : ℝ) :
    exponent c H t = t • (c.toComplex • H) := by
  rw [exponent, ← Complex.coe_smul t (c.toComplex • H), smul_smul]

/-- A product through an inner dimension `k` smaller than `n` is never an exponential: the
    exponential is invertible, a product `V * W` with `V : n × k` has rank at most `k`. -/
theorem lowrank_ne_exp {k : Type} [Fintype k] [DecidableEq k]
    (hk : Fintype.card k < Fintype.card n) (V : Matrix n k ℂ) (W : Matrix k n ℂ)
    (E : Matrix n n ℂ) : V * W ≠ exp E := by
  intro h
  have h1 : (exp E).rank = Fintype.card n := Matrix.rank_of_isUnit _ (Matrix.isUnit_exp E)
  have h2 : (V * W).rank ≤ Fintype.card k := Analysis.rank_mul_le_inner V W
  rw [h, h1] at h2
  omega

end Ptn.C20
