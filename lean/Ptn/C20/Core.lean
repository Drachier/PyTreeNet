import Ptn.C20.Lemmas
/-! The dispatch theorems of C20 with their instances: theorems about the executable model `Ptn.C20.timeEvolve` /
`fastExpAction` alone (tied to `/repo` by the correspondence stage).  Core Lean only, no Mathlib below this module;
`Props.lean` imports it and adds the analytic consequences over `ℂ`.  `timeEvolve m f n shape` takes the dimension
`n` of the Hamiltonian and the shape of `psi` as unrelated arguments, and every theorem here holds for all of them;
the code raises when `prod(shape) ≠ n`, which the driver answers with `mismatch` before it asks the model. -/
namespace Ptn.C20

/-- The enum values are pairwise distinct: looking a member up by its value returns the member.
    (This is what makes the string dispatch inside `fast_exp_action` well defined.) -/
theorem value_roundtrip (m : Mode) : Mode.ofValue? m.value = some m := by
  cases m <;> decide

/-- The complete routing table: for every mode, direction, dimension and shape exactly this
    routine is called. -/
theorem dispatch_spec (m : Mode) (f : Bool) (n : Nat) (shape : List Nat) :
    (timeEvolve m f n shape).routine =
      match m with
      | .rk45 => .solveIvp "RK45"
      | .rk23 => .solveIvp "RK23"
      | .dop853 => .solveIvp "DOP853"
      | .bdf => .solveIvp "BDF"
      | .fastest => .expmMultiply
      | .chebyshev => .expmMultiply
      | .expm => .expmDense
      | .sparse => .expmSparse
      | .eigsh => if n < 4 then .expmDense else .eigshTrunc (min (n - 2) 8) := by
  cases m <;> simp [timeEvolve, Mode.isScipy, Mode.inScipyList, Mode.fastestEquivalent,
    Mode.value, fastExpAction]

/-- Under the contracts of the external routines the selected routine computes `exp(E)·v` for
    every mode and dimension *except* `eigsh` with `n ≥ 4`. -/
theorem exact_routine_spec (m : Mode) (f : Bool) (n : Nat) (shape : List Nat) :
    (timeEvolve m f n shape).routine.exactByContract = true ↔ (m ≠ .eigsh ∨ n < 4) := by
  rw [dispatch_spec]
  cases m
  case eigsh =>
    by_cases h : n < 4
    · simp [h, Routine.exactByContract]
    · simp [h, Routine.exactByContract]
  all_goals simp [Routine.exactByContract]

/-- From dimension 4 on the `eigsh` mode uses `k = min(n − 2, 8)` eigenpairs, and `2 ≤ k < n`:
    the matrix applied to the vector has rank at most `k < n`. -/
theorem eigsh_rank_deficient (f : Bool) (n : Nat) (shape : List Nat) (h : 4 ≤ n) :
    ∃ k, (timeEvolve .eigsh f n shape).routine = .eigshTrunc k ∧ k = min (n - 2) 8 ∧
      2 ≤ k ∧ k ≤ 8 ∧ k < n := by
  refine ⟨min (n - 2) 8, ?_, rfl, by omega, by omega, by omega⟩
  rw [dispatch_spec]
  exact if_neg (by omega)

/-- Every mode is routed to a real routine (never to the `"none"` branch and never to
    `NotImplementedError`); the ODE branch is taken exactly by the four solver modes, which pass
    their own value as `method`; every other mode goes through `fast_exp_action` with its own
    value; `FASTEST` is routed like `CHEBYSHEV`. -/
theorem dispatch_total (m : Mode) (f : Bool) (n : Nat) (shape : List Nat) :
    let r := timeEvolve m f n shape
    r.routine ≠ .noAction ∧ r.routine ≠ .notImplemented ∧
    (m.isScipy = true ↔ r.routine = .solveIvp m.value) ∧
    (m.isScipy = true ↔ m ∈ [Mode.rk45, Mode.rk23, Mode.dop853, Mode.bdf]) ∧
    (m.isScipy = true → r.timeUse = .span ∧ r.feaArg = none ∧ r.castComplex = true) ∧
    (m.isScipy = false → r.timeUse = .factor ∧ r.feaArg = some m.value) ∧
    (timeEvolve .fastest f n shape).routine = (timeEvolve .chebyshev f n shape).routine := by
  intro r
  -- a routine that is exact by contract, or a truncated `eigsh`, is a real routine
  have hreal : r.routine ≠ .noAction ∧ r.routine ≠ .notImplemented := by
    by_cases h : m ≠ .eigsh ∨ n < 4
    · have he := (exact_routine_spec m f n shape).mpr h
      constructor <;> (intro hr; rw [hr] at he; cases he)
    · obtain ⟨rfl, hn⟩ : m = .eigsh ∧ 4 ≤ n := by
        rw [not_or, Decidable.not_not] at h; exact ⟨h.1, by omega⟩
      obtain ⟨k, hk, -⟩ := eigsh_rank_deficient f n shape hn
      constructor <;> (intro hr; rw [hr] at hk; cases hk)
  refine ⟨hreal.1, hreal.2, ?_, isScipy_iff m, ?_, ?_,
    (dispatch_spec .fastest f n shape).trans (dispatch_spec .chebyshev f n shape).symm⟩
  · cases hm : m.isScipy
    · have hr : r.routine = fastExpAction m.value n := by
        simp only [r, timeEvolve, hm, Bool.false_eq_true, if_false]
      simp only [hr, Bool.false_eq_true, false_iff]
      exact fastExpAction_ne_solveIvp _ _ _
    · simp only [r, timeEvolve, hm, if_true]
  · intro hm
    simp only [r, timeEvolve, hm, if_true, and_self]
  · intro hm
    simp only [r, timeEvolve, hm, Bool.false_eq_true, if_false, and_self]

/-- `FASTEST` takes exactly the `CHEBYSHEV` route: `expm_multiply` with `traceA`, through
    `fast_exp_action`, time as a factor — in `is_scipy` via `fastest_equivalent()`, in
    `fast_exp_action` via `"fastest" ↦ "chebyshev"`; only the string handed over differs. -/
theorem fastest_is_chebyshev_route (f : Bool) (n : Nat) (shape : List Nat) :
    (timeEvolve .fastest f n shape).routine = .expmMultiply ∧
    { timeEvolve .fastest f n shape with feaArg := some "chebyshev" } =
      timeEvolve .chebyshev f n shape := by
  constructor <;> simp [timeEvolve, Mode.isScipy, Mode.inScipyList, Mode.fastestEquivalent,
    Mode.value, fastExpAction]

/-- A mode string outside the six known ones raises `NotImplementedError`; `"none"` returns the
    vector unchanged (unreachable from `TimeEvoMode` by `dispatch_total`). -/
theorem fea_unknown_raises (mode : String) (n : Nat)
    (h : mode ∉ ["fastest", "expm", "eigsh", "chebyshev", "sparse", "none"]) :
    fastExpAction mode n = .notImplemented ∧ fastExpAction "none" n = .noAction := by
  simp only [List.mem_cons, List.not_mem_nil, or_false, not_or] at h
  obtain ⟨h1, h2, h3, h4, h5, h6⟩ := h
  simp [fastExpAction, h1, h2, h3, h4, h5, h6]

/-- `forward ↦ −1 ↦ −i`, `backward ↦ +1 ↦ +i`; the scalar reaches the routine unchanged in both
    branches; reversing the direction negates it. -/
theorem sign_spec :
    sign true = -1 ∧ sign false = 1 ∧
    rhsCoeff true = ⟨0, -1⟩ ∧ rhsCoeff false = ⟨0, 1⟩ ∧
    (∀ m f n shape, (timeEvolve m f n shape).coeff = rhsCoeff f) ∧
    (∀ f, rhsCoeff (!f) = (rhsCoeff f).neg) := by
  refine ⟨by decide, by decide, by decide, by decide, ?_, by decide⟩
  intro m f n shape
  unfold timeEvolve
  split <;> rfl

/-- The result has the shape of the input, and C-order `flatten` / `reshape` are mutually inverse:
    the entry of the result at a (valid) multi-index `idx` is the entry of the routine's flat
    output at `ravel shape idx`, the flat input at `k` is `psi` at `unravel shape k`, and with the
    identity in place of the routine `psi` comes back entry by entry. -/
theorem reshape_spec (m : Mode) (f : Bool) (n : Nat) (shape : List Nat) :
    (timeEvolve m f n shape).outShape = shape ∧
    (∀ idx, ValidIdx shape idx → ravel shape idx < size shape ∧
        unravel shape (ravel shape idx) = idx) ∧
    (∀ k, k < size shape → ValidIdx shape (unravel shape k) ∧
        ravel shape (unravel shape k) = k) ∧
    (∀ (α : Type) (psi : List Nat → α) idx, ValidIdx shape idx →
        timeEvolveValue shape id psi idx = psi idx) ∧
    (∀ (α : Type) (v : Nat → α) k, k < size shape →
        flatten shape (reshape shape v) k = v k) := by
  refine ⟨?_, ?_, ?_, ?_, ?_⟩
  · unfold timeEvolve; split <;> rfl
  · exact fun idx h => ⟨ravel_lt_size shape idx h, unravel_ravel shape idx h⟩
  · exact fun k h => ⟨valid_unravel shape k h, ravel_unravel shape k h⟩
  · intro α psi idx h
    simp [timeEvolveValue, reshape, flatten, unravel_ravel shape idx h]
  · intro α v k h
    simp [reshape, flatten, ravel_unravel shape k h]

/-- Below dimension 4 the `eigsh` mode is `scipy.linalg.expm`, an exact routine. -/
theorem eigsh_small_exact (f : Bool) (n : Nat) (shape : List Nat) (h : n < 4) :
    (timeEvolve .eigsh f n shape).routine = .expmDense := by
  rw [dispatch_spec]
  exact if_pos h

example : (timeEvolve .rk45 true 6 [2, 3]).routine = .solveIvp "RK45" := by decide
example : (timeEvolve .eigsh false 12 [12]).routine = .eigshTrunc 8 := by decide
example : (timeEvolve .eigsh false 5 [5, 1]).routine = .eigshTrunc 3 := by decide
example : (timeEvolve .eigsh true 3 [3]).routine = .expmDense := by decide
example : (timeEvolve .fastest true 4 [2, 2]).feaArg = some "fastest" := by decide
example : ValidIdx [2, 3, 1] [1, 2, 0] ∧ ravel [2, 3, 1] [1, 2, 0] = 5 ∧
    unravel [2, 3, 1] 5 = [1, 2, 0] := by
  refine ⟨?_, by decide, by decide⟩
  simp [ValidIdx]
example : ("Fastest" : String) ∉ ["fastest", "expm", "eigsh", "chebyshev", "sparse", "none"] := by
  decide

end Ptn.C20
