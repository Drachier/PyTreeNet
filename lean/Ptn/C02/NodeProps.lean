import Ptn.C02.NodeSpec
/-! The Node leg-permutation machine (`pytreenet/core/node.py`).
The `_spec` theorems are in *segment form*: the logical legs `perm` are written as
`P ++ C ++ O` (parent leg, child legs, open legs; `|P| = nparents`, `|C| = nchildren`) and every
theorem says which stored axis ends up where – these are the "documented leg-order rules" of the
node methods.  They also state that the call succeeds for these (admissible) arguments. -/
namespace Ptn.C02
open NodeS

/-- Every method of the Node machine, called with valid arguments, keeps
    "the permutation is a permutation of `range n`, the stored shape has `n` entries, `nvirt ≤ nlegs`". -/
theorem node_ops_preserve_perm {s s' : NodeS} (h : WFN s) (op : NodeOp) (hv : op.Valid s)
    (hs : s.step op = some s') : WFN s' := by
  cases op with
  | link sh => simp only [step, Option.some.injEq] at hs; subst hs; exact wfn_linkTensor sh hv
  | reset => simp only [step, Option.some.injEq] at hs; subst hs; exact wfn_resetPermutation h
  | replaceTensor sh p => exact wfn_replaceTensor h sh p hv hs
  | o2p pid k => exact wfn_openLegToParent h pid k hs
  | o2c cid k => exact wfn_openLegToChild h cid k hs
  | o2cs d => exact wfn_openLegsToChildren h d hv hs
  | p2o => exact wfn_parentLegToOpenLeg h hs
  | c2o cid => exact wfn_childLegToOpenLeg h cid hs
  | cs2o cs => exact wfn_childrenLegsToOpenLegs h cs hs
  | xch a0 a1 b0 b1 => exact wfn_exchangeOpenLegRanges h a0 a1 b0 b1 hs
  | swap c1 c2 => exact wfn_swapTwoChildLegs h c1 c2 hs

theorem node_op_sequences_preserve_perm (ops : List NodeOp) {s s' : NodeS} (h : WFN s)
    (hrun : NodeRun s ops s') : WFN s' := by
  induction hrun with
  | nil => exact h
  | cons hv hstep _ ih => exact ih (node_ops_preserve_perm h _ hv hstep)

example : NodeRun (NodeS.empty.linkTensor [2, 3, 4]) [.o2p 7 (some 1), .o2c 8 2, .p2o]
    ⟨[2, 0, 1], [2, 3, 4], none, [8]⟩ :=
  .cons trivial rfl (.cons trivial rfl (.cons trivial rfl (.nil _)))

example : WFN (NodeS.empty.linkTensor [2, 3, 4]) := wfn_linkTensor _ (by decide)

/-- `link_tensor`: the legs are in stored order, the visible shape is that of the array, the neighbours stay. -/
theorem link_tensor_spec (s : NodeS) (sh : List Nat) :
    (s.linkTensor sh).perm = List.range sh.length ∧ (s.linkTensor sh).shape = sh ∧
      (s.linkTensor sh).parent = s.parent ∧ (s.linkTensor sh).children = s.children := by
  refine ⟨rfl, ?_, rfl, rfl⟩
  simp only [shape, linkTensor]
  exact map_getD_range sh 0

/-- `_reset_permutation`: the stored array is now in logical order – the visible shape is unchanged. -/
theorem reset_permutation_spec (s : NodeS) :
    s.resetPermutation.perm = List.range s.perm.length ∧ s.resetPermutation.shp = s.shape ∧
      s.resetPermutation.shape = s.shape ∧
      s.resetPermutation.parent = s.parent ∧ s.resetPermutation.children = s.children := by
  refine ⟨rfl, rfl, ?_, rfl, rfl⟩
  have h := map_getD_range s.shape 0
  rw [shape_length] at h
  exact h

/-- `replace_tensor(tensor, permutation)` succeeds exactly when the permuted shape of the new tensor
    is the node's shape; afterwards the permutation is the given one and the visible shape is unchanged. -/
theorem replace_tensor_spec (s : NodeS) (tsh p : List Nat) (s' : NodeS)
    (hs : s.replaceTensor tsh (some p) = some s') :
    s'.perm = p ∧ s'.shp = tsh ∧ s'.shape = s.shape ∧ tsh.length = p.length ∧
      s'.parent = s.parent ∧ s'.children = s.children := by
  unfold replaceTensor at hs
  simp only at hs
  split at hs
  · simp at hs
  · rename_i sh hpi
    split at hs
    · rename_i heq
      simp only [Option.some.injEq] at hs
      subst hs
      refine ⟨rfl, rfl, ?_, (permuteIterator_length hpi).2, rfl, rfl⟩
      unfold permuteIterator at hpi
      split at hpi
      · simp at hpi
      · rw [← heq, mapM_getElem?_eq hpi]; rfl
    · simp at hs

/-- `replace_tensor` without a permutation: the array must have the visible shape as it is, and becomes the stored
    array in logical order. -/
theorem replace_tensor_none_spec (s : NodeS) (tsh : List Nat) :
    s.replaceTensor tsh none = if s.shape = tsh then some s.resetPermutation else none := rfl

example : (NodeS.mk [2, 0, 1] [5, 6, 7] (some 9) []).replaceTensor [6, 7, 5] (some [1, 2, 0]) =
    some ⟨[1, 2, 0], [6, 7, 5], some 9, []⟩ := by decide

/-- `open_leg_to_parent`: open leg number `|O1|` (stored axis `v`) becomes the parent leg, i.e. logical
    leg 0; all other legs keep their relative order. -/
theorem open_leg_to_parent_spec (s : NodeS) (pid : Id) (C O1 O2 : List Nat) (v : Nat)
    (hroot : s.parent = none) (hperm : s.perm = C ++ (O1 ++ v :: O2))
    (hC : C.length = s.nchildren) :
    s.openLegToParent pid (some (s.nvirt + O1.length)) =
      some { s with perm := [v] ++ C ++ (O1 ++ O2), parent := some pid } := by
  have hnv : s.nvirt = C.length := by simp [nvirt_def, nparents_none hroot, hC, nchildren]
  have hchk : s.openLegChecks (s.nvirt + O1.length) = true :=
    openLegChecks_of (by rw [hperm, hnv]; simp; omega) (by omega)
  have hpop : pyPop s.perm (s.nvirt + O1.length) = some (v, C ++ O1 ++ O2) := by
    rw [hperm, hnv]
    have := pyPop_append_len (C ++ O1) O2 v
    simpa using this
  simp [openLegToParent, isRoot, hroot, hchk, hpop, pyInsert_zero]

/-- `open_leg_to_child`: the moved leg becomes the **last child leg**, the child list grows at the
    end, the relative order of all other legs is unchanged. -/
theorem open_leg_to_child_spec (s : NodeS) (cid : Id) (P C O1 O2 : List Nat) (v : Nat)
    (hperm : s.perm = P ++ C ++ (O1 ++ v :: O2))
    (hP : P.length = s.nparents) (hC : C.length = s.nchildren) :
    s.openLegToChild cid (s.nvirt + O1.length) =
      some { s with perm := P ++ (C ++ [v]) ++ (O1 ++ O2), children := s.children ++ [cid] } := by
  have hnv : s.nvirt = (P ++ C).length := by simp [nvirt, hP, hC]
  have hchk : s.openLegChecks (s.nvirt + O1.length) = true :=
    openLegChecks_of (by rw [hperm, hnv]; simp; omega) (by omega)
  have hpop : pyPop s.perm (s.nvirt + O1.length) = some (v, P ++ C ++ O1 ++ O2) := by
    rw [hperm, hnv]
    have := pyPop_append_len (P ++ C ++ O1) O2 v
    simpa [Nat.add_assoc] using this
  have hins : pyInsert (P ++ (C ++ (O1 ++ O2))) (s.nparents + s.nchildren) v = P ++ (C ++ v :: (O1 ++ O2)) := by
    have := pyInsert_append_len (P ++ C) (O1 ++ O2) v
    rw [← hP, ← hC]
    simpa using this
  simp [openLegToChild, hchk, hpop, hins]

/-- `open_legs_to_children(child_dict)` with its read-all-values-first semantics: the legs named in
    the dict (positions in the **original** leg order) become the last child legs **in dict order**,
    whatever their original positions; the remaining open legs keep their relative order. -/
theorem open_legs_to_children_spec (s : NodeS) (d : List (Id × Nat)) (PC O vs : List Nat)
    (hperm : s.perm = PC ++ O) (hPC : PC.length = s.nvirt) (hnd : s.perm.Nodup)
    (hopen : ∀ e ∈ d, s.nvirt ≤ e.2) (hread : d.map (fun e => s.perm[e.2]?) = vs.map some)
    (hdist : (d.map Prod.snd).Nodup) :
    s.openLegsToChildren d =
      some { s with perm := PC ++ vs ++ O.filter (fun x => !vs.contains x),
                    children := s.children ++ d.map Prod.fst } := by
  have hlen : vs.length = d.length := by
    have := congrArg List.length hread
    simpa using this.symm
  unfold openLegsToChildren
  rw [o2cs_read_spec s.perm d vs hread]
  simp only
  have hmap1 : ((d.zip vs).map (fun t => (t.1.1, t.1.2, t.2))).map (·.1) = d.map Prod.fst := by
    rw [List.map_map]
    have : d.map Prod.fst = (d.zip vs).map (fun t => t.1.1) := by
      conv => lhs; rw [← List.map_fst_zip (l₁ := d) (l₂ := vs) (by omega)]
      rw [List.map_map]; rfl
    rw [this]; rfl
  have hmap3 : ((d.zip vs).map (fun t => (t.1.1, t.1.2, t.2))).map (·.2.2) = vs := by
    rw [List.map_map]
    conv => rhs; rw [← List.map_snd_zip (l₁ := d) (l₂ := vs) (by omega)]
    rfl
  have hread' : (d.map Prod.snd).map (fun k => s.perm[k]?) = vs.map some := by
    rw [List.map_map]; exact hread
  have hpick : pickL s.perm (d.map Prod.snd) = some vs := pickL_eq_some_iff.2 hread'
  have hvs_nd : vs.Nodup := pickL_nodup hpick hnd hdist
  have hvs_O : ∀ x ∈ vs, x ∈ O := fun x hx => by
    obtain ⟨k, hk, e⟩ := (mem_pickL_iff hpick).1 hx
    obtain ⟨e', he', rfl⟩ := List.mem_map.mp hk
    rw [hperm, List.getElem?_append_right (hPC ▸ hopen e' he')] at e
    exact List.mem_of_getElem? e
  have hfold := o2cs_fold_spec s.nvirt ((d.zip vs).map (fun t => (t.1.1, t.1.2, t.2))) s PC O hperm hPC
    (by rw [← hperm]; exact hnd)
    (by
      intro e he
      obtain ⟨t, ht, rfl⟩ := List.mem_map.mp he
      exact hopen t.1 (List.of_mem_zip ht).1)
    (by
      intro e he
      obtain ⟨t, ht, rfl⟩ := List.mem_map.mp he
      exact hvs_O _ (List.of_mem_zip ht).2)
    (by rw [hmap3]; exact hvs_nd)
  rw [hfold, hmap1, hmap3]

example : (NodeS.mk [0, 1, 2, 3, 4] [2, 3, 4, 5, 6] (some 9) []).openLegsToChildren [(7, 4), (8, 2)] =
    some ⟨[0, 4, 2, 1, 3], [2, 3, 4, 5, 6], some 9, [7, 8]⟩ := by decide

/-- `parent_leg_to_open_leg`: the former parent leg becomes the **last** open leg. -/
theorem parent_leg_to_open_leg_spec (s : NodeS) (p : Id) (v : Nat) (rest : List Nat)
    (hpar : s.parent = some p) (hperm : s.perm = v :: rest) :
    s.parentLegToOpenLeg = some { s with perm := rest ++ [v], parent := none } := by
  simp [parentLegToOpenLeg, isRoot, hpar, hperm, pyPop]

/-- `parent_leg_to_open_leg` on a root does nothing. -/
theorem parent_leg_to_open_leg_root_spec (s : NodeS) (hroot : s.parent = none) :
    s.parentLegToOpenLeg = some s := by
  cases s
  simp_all [parentLegToOpenLeg, isRoot]

/-- `child_leg_to_open_leg`: the leg of that child becomes the **last** open leg, the child leaves
    the child list, everything else keeps its relative order. -/
theorem child_leg_to_open_leg_spec (s : NodeS) (cid : Id) (K1 K2 : List Id) (P C1 C2 O : List Nat)
    (v : Nat) (hch : s.children = K1 ++ cid :: K2) (hnot : cid ∉ K1) (hpar : s.parent ≠ some cid)
    (hperm : s.perm = P ++ (C1 ++ v :: C2) ++ O) (hP : P.length = s.nparents)
    (hC1 : C1.length = K1.length) :
    s.childLegToOpenLeg cid =
      some { s with perm := P ++ (C1 ++ C2) ++ (O ++ [v]), children := K1 ++ K2 } := by
  have hmem : cid ∈ s.children := by rw [hch]; simp
  have hidx : s.neighbourIndex cid = some (K1.length + s.nparents) := by
    simp [neighbourIndex, hpar, hch, idxOf_mid K2 hnot]
  have hpop : pyPop s.perm (K1.length + s.nparents) = some (v, P ++ C1 ++ (C2 ++ O)) := by
    rw [hperm, ← hP, ← hC1]
    have := pyPop_append_len (P ++ C1) (C2 ++ O) v
    simpa [Nat.add_comm] using this
  have her : s.children.erase cid = K1 ++ K2 := by
    rw [hch, List.erase_append_right _ hnot, List.erase_cons_head]
  simp [childLegToOpenLeg, hmem, hidx, hpop, her]

/-- `children_legs_to_open_legs`: the children are opened one after the other in list order (so the
    new open legs are the last legs, in the order of the list – by `child_leg_to_open_leg_spec`). -/
theorem children_legs_to_open_legs_spec (s : NodeS) (c : Id) (cs : List Id) :
    s.childrenLegsToOpenLegs [] = some s ∧
    s.childrenLegsToOpenLegs (c :: cs) =
      (s.childLegToOpenLeg c).bind (fun s1 => s1.childrenLegsToOpenLegs cs) := by
  constructor
  · simp [childrenLegsToOpenLegs]
  · simp only [childrenLegsToOpenLegs, List.foldlM_cons]
    rfl

example : (NodeS.mk [0, 1, 2, 3, 4] [2, 3, 4, 5, 6] (some 9) [7, 8]).childrenLegsToOpenLegs [8, 7] =
    some ⟨[0, 3, 4, 2, 1], [2, 3, 4, 5, 6], some 9, []⟩ := by decide

/-- `exchange_open_leg_ranges`: the two batches `R1`, `R2` trade places, what lies before, between
    and after them stays.  (Lengths may be zero.) -/
theorem exchange_open_leg_ranges_spec (s : NodeS) (A R1 M R2 Z : List Nat)
    (hperm : s.perm = A ++ R1 ++ M ++ R2 ++ Z) :
    s.exchangeOpenLegRanges A.length (A.length + R1.length) (A.length + R1.length + M.length)
        (A.length + R1.length + M.length + R2.length) =
      some { s with perm := A ++ R2 ++ M ++ R1 ++ Z } := by
  have h0 : ¬ (A.length + R1.length + M.length < A.length) := by omega
  have hp2 : popMany s.perm (A.length + R1.length + M.length) R2.length = some (R2, A ++ R1 ++ M ++ Z) := by
    have := popMany_append (A ++ R1 ++ M) R2 Z
    have e : (A ++ R1 ++ M).length = A.length + R1.length + M.length := by
      simp only [List.length_append]
    rw [hperm, ← e]
    exact this
  have hp1 : popMany (A ++ R1 ++ M ++ Z) A.length R1.length = some (R1, A ++ (M ++ Z)) := by
    have := popMany_append A R1 (M ++ Z)
    have e : A ++ R1 ++ M ++ Z = A ++ R1 ++ (M ++ Z) := by simp
    rw [e]
    exact this
  have hs1 : sliceInsert (A ++ (M ++ Z)) A.length R2 = A ++ R2 ++ (M ++ Z) := sliceInsert_append_len _ _ _
  have hs2 : sliceInsert (A ++ R2 ++ (M ++ Z))
      (A.length + R2.length + (A.length + R1.length + M.length - (A.length + R1.length))) R1 =
      A ++ R2 ++ M ++ R1 ++ Z := by
    have := sliceInsert_append_len (A ++ R2 ++ M) Z R1
    have e : A.length + R2.length + (A.length + R1.length + M.length - (A.length + R1.length)) =
        (A ++ R2 ++ M).length := by simp; omega
    rw [e]
    simpa using this
  have e2 : A.length + R1.length + M.length + R2.length - (A.length + R1.length + M.length) = R2.length := by
    omega
  have e1 : A.length + R1.length - A.length = R1.length := by omega
  have hle : A.length + R1.length ≤ A.length + R1.length + M.length := by omega
  simp only [exchangeOpenLegRanges, h0, if_false, exchangeCore, hle, not_true_eq_false, e2, hp2, e1, hp1, hs1,
    hs2]

/-- Same result when the ranges are given in the other order (second batch first), provided the
    call passes the assertion `open_1.stop <= open_2.start` (it does not when both ranges start at
    the same position and the first one given is non-empty). -/
theorem exchange_open_leg_ranges_comm_spec (s : NodeS) (A R1 M R2 Z : List Nat)
    (hperm : s.perm = A ++ R1 ++ M ++ R2 ++ Z) (hpos : 0 < R1.length + M.length) :
    s.exchangeOpenLegRanges (A.length + R1.length + M.length)
        (A.length + R1.length + M.length + R2.length) A.length (A.length + R1.length) =
      some { s with perm := A ++ R2 ++ M ++ R1 ++ Z } := by
  have h0 : A.length < A.length + R1.length + M.length := by omega
  have := exchange_open_leg_ranges_spec s A R1 M R2 Z hperm
  have h1 : ¬ (A.length + R1.length + M.length < A.length) := by omega
  simp only [exchangeOpenLegRanges, h1, if_false] at this
  simp only [exchangeOpenLegRanges, h0, if_true]
  exact this

example : (NodeS.mk [0, 1, 2, 3, 4, 5] [2, 3, 4, 5, 6, 7] none [1]).exchangeOpenLegRanges 1 3 3 6 =
    some ⟨[0, 3, 4, 5, 1, 2], [2, 3, 4, 5, 6, 7], none, [1]⟩ := by decide

/-- `swap_two_child_legs`: the two children and their two legs trade places (stated with `c1` before `c2` in the
    child list). -/
theorem swap_two_child_legs_spec (s : NodeS) (c1 c2 : Id) (K1 K2 K3 : List Id)
    (P C1 C2 C3 O : List Nat) (v1 v2 : Nat) (hne : c1 ≠ c2)
    (hch : s.children = K1 ++ c1 :: K2 ++ c2 :: K3)
    (hn1 : c1 ∉ K1) (hn2 : c2 ∉ K1 ∧ c2 ∉ K2)
    (hperm : s.perm = P ++ (C1 ++ v1 :: C2 ++ v2 :: C3) ++ O) (hP : P.length = s.nparents)
    (hC1 : C1.length = K1.length) (hC2 : C2.length = K2.length) :
    s.swapTwoChildLegs c1 c2 =
      some { s with perm := P ++ (C1 ++ v2 :: C2 ++ v1 :: C3) ++ O,
                    children := K1 ++ c2 :: K2 ++ c1 :: K3 } := by
  -- the two `index` calls (`hi1`, `hi2`), the two reads at these positions plus `nparents` (`hg1`, `hg2`), and
  -- what the two pairs of writes leave in the child list and in the permutation (`hset_ch`, `hset_p`)
  have hm1 : c1 ∈ s.children := by rw [hch]; simp
  have hm2 : c2 ∈ s.children := by rw [hch]; simp
  have hi1 : s.children.idxOf c1 = K1.length := by
    rw [hch]
    have : K1 ++ c1 :: K2 ++ c2 :: K3 = K1 ++ c1 :: (K2 ++ c2 :: K3) := by simp
    rw [this]; exact idxOf_mid _ hn1
  have hi2 : s.children.idxOf c2 = (K1 ++ c1 :: K2).length := by
    rw [hch]
    apply idxOf_mid
    simp [hn2.1, hn2.2, Ne.symm hne]
  have hg1 : s.perm[K1.length + s.nparents]? = some v1 := by
    rw [hperm, ← hP, ← hC1]
    have := getElem?_mid (P ++ C1) v1 (C2 ++ v2 :: C3 ++ O)
    simpa [Nat.add_comm] using this
  have hg2 : s.perm[(K1 ++ c1 :: K2).length + s.nparents]? = some v2 := by
    rw [hperm, ← hP]
    have := getElem?_mid (P ++ C1 ++ v1 :: C2) v2 (C3 ++ O)
    simp only [List.length_append, List.length_cons, hC1, hC2] at this ⊢
    have e : K1.length + (K2.length + 1) + P.length = P.length + K1.length + (K2.length + 1) := by omega
    rw [e]
    simpa using this
  have hset_ch : (s.children.set K1.length c2).set (K1 ++ c1 :: K2).length c1 = K1 ++ c2 :: K2 ++ c1 :: K3 := by
    rw [hch]
    have a1 : (K1 ++ c1 :: K2 ++ c2 :: K3).set K1.length c2 = K1 ++ c2 :: K2 ++ c2 :: K3 := by simp
    rw [a1]
    simp
  have hset_p : (s.perm.set (K1.length + s.nparents) v2).set ((K1 ++ c1 :: K2).length + s.nparents) v1 =
      P ++ (C1 ++ v2 :: C2 ++ v1 :: C3) ++ O := by
    rw [hperm, ← hP]
    have a1 : (P ++ (C1 ++ v1 :: C2 ++ v2 :: C3) ++ O).set (K1.length + P.length) v2 =
        P ++ C1 ++ v2 :: (C2 ++ v2 :: C3 ++ O) := by
      have := set_mid (P ++ C1) v1 v2 (C2 ++ v2 :: C3 ++ O)
      simp only [List.length_append, hC1] at this
      rw [Nat.add_comm K1.length]
      simpa using this
    rw [a1]
    have a2 := set_mid (P ++ C1 ++ v2 :: C2) v2 v1 (C3 ++ O)
    simp only [List.length_append, List.length_cons, hC1, hC2] at a2 ⊢
    have e : K1.length + (K2.length + 1) + P.length = P.length + K1.length + (K2.length + 1) := by omega
    rw [e]
    simpa using a2
  simp only [swapTwoChildLegs, hm1, hm2, hne, not_true_eq_false, if_false, hi1, hi2, hg1, hg2, hset_ch, hset_p]

example : (NodeS.mk [0, 1, 2, 3, 4] [2, 3, 4, 5, 6] (some 9) [5, 6, 7]).swapTwoChildLegs 7 5 =
    some ⟨[0, 3, 2, 1, 4], [2, 3, 4, 5, 6], some 9, [7, 6, 5]⟩ := by decide

end Ptn.C02
