import Ptn.C02.Sim
/-! The edits of the structural model whose value-level image changes no tensor: plain accesses and `replace_tensor`
with a permutation (the valued network stays as it is: `RSim.of_same`), `change_node_identifier` (`renameStep`). -/
namespace Ptn.C02
open NodeS Ptn.Ein Ptn.C03

set_option linter.unusedSectionVars false
variable {R : Type} [CommSemiring R]

theorem RSim.of_same {dim : Nat → Nat} {e : Label → Nat} {g : LegMap} {t t1 : TTN} {v : VNet R}
    (hs : RSim dim e g t v) (hN : ∀ k, t1.N k = none ↔ t.N k = none)
    (hL : ∀ k, t1.legPairs k = t.legPairs k) (hO : ∀ k, t1.openAxes k = t.openAxes k) : RSim dim e g t1 v := by
  have hnbs : ∀ k, t1.nbs k = t.nbs k := fun k => by unfold TTN.nbs; rw [hL k]
  refine ⟨?_, ?_, ?_, ?_, ?_, ?_⟩
  · intro k; rw [hs.ids k, not_iff_not]; exact (hN k).symm
  · intro k hk
    rw [hs.legs k hk]; unfold simLegs; rw [hnbs k, hO k]
  · intro k x ax hl
    unfold TTN.Leg at hl; rw [hL k] at hl
    exact hs.dimV k x ax hl
  · intro k ax hax
    rw [hO k] at hax; exact hs.dimO k ax hax
  · intro k x hx
    rw [hnbs k] at hx; exact hs.bondsIn k x hx
  · intro p hp
    obtain ⟨k, x, hx, e'⟩ := hs.bondsOut p hp
    exact ⟨k, x, by rw [hnbs k]; exact hx, e'⟩

theorem N_none_iff_of_S {t t1 : TTN} (hS : t1.S = t.S) (k : Id) : t1.N k = none ↔ t.N k = none := by
  rw [← Option.map_eq_none_iff (f := structOf), ← Option.map_eq_none_iff (f := structOf)]
  show t1.S k = none ↔ t.S k = none
  rw [hS]

/-- **a plain access (`ttn.tensors[id]`: lazy transposition) is simulated by doing nothing** -/
theorem access_simulates (dim : Nat → Nat) (e : Label → Nat) {g : LegMap} {t t1 : TTN} {v : VNet R} {id : Id}
    {T : Tensor} (hs : RSim dim e g t v) (ha : t.access id = some (t1, T)) : RSim dim e g t1 v :=
  hs.of_same (N_none_iff_of_S (access_S_eq ha).1) (access_labels ha).2.2.1 (access_labels ha).2.2.2

/-- **`replace_tensor(id, the same array with permuted axes, permutation)` is simulated by doing nothing**: no logical
axis moves (`rtp_labels`), so the leg lists of the valued network are still in axis order -/
theorem replace_tensor_simulates (dim : Nat → Nat) (e : Label → Nat) {g : LegMap} {t t1 : TTN} {v : VNet R} {id : Id}
    {p : Option (List Nat)} (h : t.WF) (hs : RSim dim e g t v)
    (hp : ∀ q, p = some q → q.Perm (List.range q.length)) (hr : t.replaceTensorPermuted id p = some t1) :
    RSim dim e g t1 v :=
  hs.of_same (N_none_iff_of_S (rtp_S_eq hr).1) (fun k => (rtp_labels h hp hr k).2.1)
    (fun k => (rtp_labels h hp hr k).2.2)

/-- the leg map after `change_node_identifier`: the labels of `old` are read at `new` -/
def renG (old new : Id) (g : LegMap) : LegMap := fun k x => g (renInv old new k) (renInv old new x)

/-- the valued network after `change_node_identifier`: `renameStep`, then the legs in axis order -/
def simRename (e : Label → Nat) (g : LegMap) (t1 : TTN) (v : VNet R) (old new : Id) : VNet R :=
  reLeg (renameStep v old new) (simLegs e (renG old new g) t1)

/-- The same three facts as `contract_sim_core`, for `change_node_identifier`. -/
theorem rename_sim_core (dim : Nat → Nat) (e : Label → Nat) {g : LegMap} {t t1 : TTN} {v : VNet R} {new old : Id}
    (h : t.WF) (hs : RSim dim e g t v) (hnew : new = old ∨ t.N new = none)
    (hr : t.changeNodeIdentifier new old = some t1) :
    (new = old ∨ new ∉ v.ids) ∧
    (∀ k ∈ (renameStep v old new).ids,
      (simLegs e (renG old new g) t1 k).Perm ((renameStep v old new).legs k)) ∧
    RSim dim e (renG old new g) t1 (simRename e g t1 v old new) := by
  obtain ⟨hold, cnew, conew, _, cby⟩ := rename_labels h hnew hr
  obtain ⟨X, _, _, _, _, _, hNn, hNo, hbyN, _⟩ := rename_core h hr
  have hnewv : new = old ∨ new ∉ v.ids := by
    rcases hnew with e' | e'
    · exact Or.inl e'
    · exact Or.inr (fun hm => (hs.ids new).1 hm e')
  have holdv : old ∈ v.ids := (hs.ids old).2 hold
  have fresh : ∀ x, t.N x ≠ none → x ≠ old → x ≠ new := by
    intro x hx hxo e'
    rcases hnew with e'' | e''
    · exact hxo (e'.trans e'')
    · rw [e'] at hx; exact hx e''
  have hinv : ∀ x, t.N x ≠ none → renInv old new (renRho old new x) = x := fun x hx => renInv_renRho (fresh x hx)
  have GC : ∀ k x, x ∈ t.nbs k → renG old new g (renRho old new k) (renRho old new x) = g k x := by
    intro k x hx
    unfold renG
    rw [hinv k (nbs_node hx), hinv x (nbs_node (nbs_symm h hx))]
  have hlegs : ∀ k, k ∈ v.ids → simLegs e (renG old new g) t1 (renRho old new k) = simLegs e g t k := by
    intro k hk
    have hkN : t.N k ≠ none := (hs.ids k).1 hk
    unfold simLegs
    by_cases hko : k = old
    · subst k
      rw [renRho_old]
      have : t1.nbs new = t.nbs old := by unfold TTN.nbs; rw [cnew]
      rw [this, conew]
      congr 1
      apply List.map_congr_left
      intro x hx
      have := GC old x hx
      rwa [renRho_old, renRho_ne (fun e' => nbs_ne h hx e'.symm)] at this
    · have hkn : k ≠ new := fresh k hkN hko
      rw [renRho_ne hko]
      refine simLegs_of_map (cby k hkn hko).1 (cby k hkn hko).2 (fun x hx => ?_)
      have := GC k x hx
      rwa [renRho_ne hko] at this
  refine ⟨hnewv, ?_, ?_⟩
  · intro k' hk'
    obtain ⟨k, hk, rfl⟩ := List.mem_map.1 (show k' ∈ v.ids.map (renRho old new) from hk')
    rw [hlegs k hk, (renameStep_legs hnewv hk).1, hs.legs k hk]
  · -- `RSim` of the result: along the edge correspondence; no fresh edge, the binding record is unchanged
    refine hs.transport h (rename_edges h hnew hr) (ids := ?_) (legs := fun k _ => rfl)
      (hp := rename_openList h hnew hr) (GC := fun k x hx _ => GC k x hx) (hfresh := fun _ _ _ f => f.elim)
      (bkeep := fun _ _ _ _ hb => hb) (bout := fun q hq => Or.inr ⟨hq, fun _ _ _ _ => trivial⟩)
    refine hs.ids_of (old := fun k => k = old) (new := fun k => k = new) (fun k' => ?_)
      (fun k hk => by rw [hk, hNn]; exact Option.some_ne_none _) (fun k ho hn => ho ▸ hNo fun e' => hn (ho.trans e'.symm))
      fun k ho hn => by rw [hbyN k hn ho, Option.map_eq_none_iff]
    rw [show k' ∈ (simRename e g t1 v old new).ids ↔ k' ∈ v.ids.map (renRho old new) from Iff.rfl, List.mem_map]
    constructor
    · rintro ⟨k, hk, rfl⟩
      by_cases hko : k = old
      · rw [hko, renRho_old]; exact Or.inl rfl
      · rw [renRho_ne hko]; exact Or.inr ⟨hk, hko⟩
    · rintro (rfl | ⟨hk, hko⟩)
      · exact ⟨old, holdv, renRho_old ..⟩
      · exact ⟨k', hk, renRho_ne hko⟩

/-- **`change_node_identifier(new, old)` of the structural model is simulated by the renaming of the node** (`new` is
`old` or unused): a pure renaming, the value does not change. -/
theorem change_node_identifier_simulates (dim : Nat → Nat) (e : Label → Nat) {g : LegMap} {t t1 : TTN} {v : VNet R}
    {new old : Id} (h : t.WF) (hv : v.WF) (hs : RSim dim e g t v) (hnew : new = old ∨ t.N new = none)
    (hr : t.changeNodeIdentifier new old = some t1) :
    SRun dim v (simRename e g t1 v old new) ∧ RSim dim e (renG old new g) t1 (simRename e g t1 v old new) := by
  obtain ⟨hnewv, hperm, hsim⟩ := rename_sim_core dim e h hs hnew hr
  exact ⟨.cons (.rename hnewv) (.cons (.releg hperm) (.nil _)), hsim⟩

end Ptn.C02
