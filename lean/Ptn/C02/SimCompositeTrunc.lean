import Ptn.C02.SimContract
import Ptn.C02.SimOps
import Ptn.C02.SimSplit
import Ptn.C02.SimComposite
import Ptn.C10.Value
/-! Value level, composite edits: the per-child step of `truncate_node` — `insert_projection_operator_and_conjugate`
(`TTN.insertProjectors`: `insert_identity` on the bond, then the identity node is split into the projector pair).  At the
value level the split is NOT a factorisation of the identity: the identity is REPLACED by `Π = P·Pc` (the local update),
and the pair is an exact factorisation of `Π` — `Π` is the matrix `Ptn.C10.projMat` of `Ptn.C10.projector_matrix_value`. -/
namespace Ptn.C02
open NodeS Ptn.Ein Ptn.C03

set_option linter.unusedSectionVars false
variable {R : Type} [CommSemiring R]

theorem insertProjectors_of_steps {t t1 t' : TTN} {n c : Id} {ids : TTN.TempIds} {k : Nat}
    (h1 : t.step (.ident c n (ids.ident c)) = some t1)
    (h2 : t1.step (.split (ids.ident c) ⟨some n, [], [], false⟩ ⟨none, [c], [], false⟩ (ids.star c) (ids.proj c) k)
      = some t') :
    t.insertProjectors n c ids k = some t' := by
  simp only [TTN.step] at h1 h2
  unfold TTN.insertProjectors
  simp [h1, h2, bind, Option.bind]

/-- the tensor a split factorises is the matrix product of the two factors over the new bond (`Ptn.C10.projMat`) -/
theorem splitFact_projMat {dim : Nat → Nat} {A : Asg Nat → R} {o i : List Nat} {q r : Nat}
    (F : SplitFact dim A o i q r) : A = Ptn.C10.projMat dim F.O F.I q r := funext F.exact

/-- the value-level image of an identity insertion carries the identity matrix on its two fresh legs -/
theorem simrun_ident_tens {dim : Nat → Nat} {e : Label → Nat} {t t1 : TTN} {g g1 : LegMap} {v v1 : VNet R}
    {c n i : Id} (hr : SimRun dim e t g v [.ident c n i] t1 g1 v1) :
    v1.tens i = (fun ρ => if ρ v.next = ρ (v.next + 1) then 1 else 0) ∧ v1.next = v.next + 2 := by
  cases hr with
  | cons _ hst hr1 =>
    cases hr1
    cases hst with
    | ident _ _ _ _ => simp [simIdent, reLeg, identStep]

/-- **`insert_projection_operator_and_conjugate(c, n, projector)` at the value level** (the per-child step of
`truncate_node`).  The history: `insert_identity(c, n)` giving the intermediate network `v1`, which has the value of the
network before and carries the IDENTITY matrix at the new node `i` on the two fresh legs `(v.next, v.next + 1)`; the
identity is replaced by any two-leg tensor `Π` on the same legs; `split_nodes(i)` into the conjugated projector (next to
`n`) and the projector (next to `c`) with an exact factorisation of `Π` over the new bond of the kept dimension `k` — so
`Π = projMat P Pc` (`splitFact_projMat`), the matrix of `Ptn.C10.projector_matrix_value`.  Then: the history is the
composite edit `insertProjectors`; **the value after it is the value of the network with `Π` on the bond in place of the
identity**; if `Π` is the identity on the bond (nothing discarded) the value is unchanged. -/
theorem truncate_node_value (dim : Nat → Nat) (e : Label → Nat) {t t1 t' : TTN} {g g1 g' : LegMap}
    {v v1 v' : VNet R} {n c : Id} {ids : TTN.TempIds} {k : Nat} {Pi : Asg Nat → R}
    (h : t.WF) (hl : t.LWF) (hv : v.WF) (hs : RSim dim e g t v)
    (hr1 : SimRun dim e t g v [.ident c n (ids.ident c)] t1 g1 v1)
    (hPi : DependsOn (· ∈ v1.legs (ids.ident c)) Pi)
    (hr2 : SimRun dim e t1 g1 (setTens v1 (ids.ident c) Pi)
      [.split (ids.ident c) ⟨some n, [], [], false⟩ ⟨none, [c], [], false⟩ (ids.star c) (ids.proj c) k] t' g' v') :
    t.insertProjectors n c ids k = some t' ∧ t'.WF ∧ t'.LWF ∧ v'.WF ∧ RSim dim e g' t' v' ∧
    v1.WF ∧ (∀ σ, v1.value dim σ = v.value dim σ) ∧
    v1.tens (ids.ident c) = (fun ρ => if ρ v.next = ρ (v.next + 1) then 1 else 0) ∧
    (∀ σ, v'.value dim σ = (setTens v1 (ids.ident c) Pi).value dim σ) ∧
    (Pi = v1.tens (ids.ident c) → ∀ σ, v'.value dim σ = v.value dim σ) := by
  obtain ⟨run1, run2, w2, l2, vw2, s2, _, vw1, val1, rest⟩ :=
    update_between_histories dim e h hl hv hs hr1 hPi hr2
  exact ⟨insertProjectors_of_steps (trun_one run1) (trun_one run2), w2, l2, vw2, s2, vw1, val1,
    (simrun_ident_tens hr1).1, rest⟩

/-- the factorisation used by the split of `truncate_node_value` exhibits `Π` as `projMat P Pc` over the new bond -/
theorem truncate_node_projMat {dim : Nat → Nat} {e : Label → Nat} {t1 t' : TTN} {g1 g' : LegMap} {v1 v' : VNet R}
    {i s p : Id} {k : Nat} {oL iL : TTN.LegSpec} {Pi : Asg Nat → R}
    (hr2 : SimRun dim e t1 g1 (setTens v1 i Pi) [.split i oL iL s p k] t' g' v') :
    ∃ P Pc : Asg Nat → R, Pi = Ptn.C10.projMat dim P Pc v1.next (v1.next + 1) ∧ dim v1.next = k ∧
      dim (v1.next + 1) = k := by
  cases hr2 with
  | cons _ hst hr1 =>
    cases hr1
    cases hst with
    | split F _ hd =>
      refine ⟨F.O, F.I, ?_, hd.1, hd.2⟩
      have := splitFact_projMat F
      simpa [setTens] using this

end Ptn.C02
