import Ptn.C02.Composite
import Ptn.C02.SimHistory
/-! Value level: the COMPOSITE edits of `Composite.lean` (`centreMove`, `contractSplit`, `linkUpdate`,
`twoSiteUpdate`) as simulated histories of their basic steps (`*_of_steps`: the steps make up the composite; the
converses `*_run` are in `CompositeWF.lean`).

`setTens` is the one value-level step that is NOT value preserving: the tensor of one node is replaced (the local
update of a TDVP step: the link tensor / two-site tensor / site tensor is evolved and stored back).  The abstraction
relation `RSim` does not mention tensors, so it is kept (`RSim.setTens`); well-formedness is kept when the new tensor
reads only the legs of its node (`setTens_wf`). -/
namespace Ptn.C02
open NodeS Ptn.Ein Ptn.C03

set_option linter.unusedSectionVars false
variable {R : Type} [CommSemiring R]

/-- `N` with the tensor of node `k` replaced by `X`, legs and bonds as they are. -/
def setTens (N : VNet R) (k : Nat) (X : Asg Nat → R) : VNet R :=
  { N with tens := fun j => if j = k then X else N.tens j }

theorem setTens_self (N : VNet R) (k : Nat) : setTens N k (N.tens k) = N := by
  unfold setTens
  have : (fun j => if j = k then N.tens k else N.tens j) = N.tens := by
    funext j; by_cases hj : j = k <;> simp [hj]
  rw [this]

theorem setTens_wf {N : VNet R} (h : N.WF) {k : Nat} {X : Asg Nat → R} (hX : DependsOn (· ∈ N.legs k) X) :
    (setTens N k X).WF := by
  refine h.of_tens _ fun n hn => ?_
  show DependsOn (· ∈ N.legs n) (if n = k then X else N.tens n)
  by_cases hnk : n = k
  · subst hnk; simpa using hX
  · simpa [hnk] using h.reads n hn

theorem RSim.setTens {dim : Nat → Nat} {e : Label → Nat} {g : LegMap} {t : TTN} {v : VNet R}
    (hs : RSim dim e g t v) (k : Nat) (X : Asg Nat → R) : RSim dim e g t (setTens v k X) :=
  ⟨hs.ids, hs.legs, hs.dimV, hs.dimO, hs.bondsIn, hs.bondsOut⟩

theorem trun_one {t t' : TTN} {o1 : TOp} (hr : TRun t [o1] t') : t.step o1 = some t' := by
  obtain ⟨_, _, h1, hr⟩ := hr.cons_inv
  exact hr.nil_inv ▸ h1

theorem trun_two {t t' : TTN} {o1 o2 : TOp} (hr : TRun t [o1, o2] t') :
    ∃ t1, t.step o1 = some t1 ∧ t1.step o2 = some t' := by
  obtain ⟨t1, _, h1, hr⟩ := hr.cons_inv
  exact ⟨t1, h1, trun_one hr⟩

theorem centreMove_of_steps {t t1 t' : TTN} {a b rid : Id} {bd : Nat} {node : NodeS} {q r : TTN.LegSpec}
    (hn : t.N a = some node) (hsp : TTN.canonSpecs node b = some (q, r))
    (h1 : t.step (.split a q r a rid bd) = some t1) (h2 : t1.step (.contract b rid b) = some t') :
    t.centreMove a b rid bd = some t' := by
  have hn' : dget t.nodes a = some node := hn
  simp only [TTN.step] at h1 h2
  unfold TTN.centreMove
  simp [hn', hsp, h1, h2, bind, Option.bind]

theorem contractSplit_of_steps {t t1 t' : TTN} {a b ts : Id} {bd : Nat} {u w : TTN.LegSpec}
    (hsp : t.legsBeforeCombination a b = some (u, w))
    (h1 : t.step (.contract a b ts) = some t1) (h2 : t1.step (.split ts u w a b bd) = some t') :
    t.contractSplit a b ts bd = some t' := by
  simp only [TTN.step] at h1 h2
  unfold TTN.contractSplit
  simp [hsp, h1, h2, bind, Option.bind]

theorem linkUpdate_of_steps {t t1 t2 t' : TTN} {a b link : Id} {bd : Nat} {node : NodeS} {q r : TTN.LegSpec}
    (hn : t.N a = some node) (hsp : TTN.tdvpSpecs node b = some (q, r))
    (h1 : t.step (.split a q r a link bd) = some t1) (h2 : t1.step (.access link) = some t2)
    (h3 : t2.step (.contract link b b) = some t') :
    t.linkUpdate a b link bd = some t' := by
  have hn' : dget t.nodes a = some node := hn
  obtain ⟨T, ha⟩ := step_access_eq h2
  simp only [TTN.step] at h1 h3
  unfold TTN.linkUpdate
  simp [hn', hsp, h1, ha, h3, bind, Option.bind]

theorem twoSiteUpdate_of_steps {t t1 t2 t' : TTN} {a b ts : Id} {bd : Nat} {u w : TTN.LegSpec}
    (hsp : t.legsBeforeCombination a b = some (u, w))
    (h1 : t.step (.contract a b ts) = some t1) (h2 : t1.step (.access ts) = some t2)
    (h3 : t2.step (.split ts u w a b bd) = some t') :
    t.twoSiteUpdate a b ts bd = some t' := by
  obtain ⟨T, ha⟩ := step_access_eq h2
  simp only [TTN.step] at h1 h3
  unfold TTN.twoSiteUpdate
  simp [hsp, h1, ha, h3, bind, Option.bind]

theorem access_node_mem {dim : Nat → Nat} {e : Label → Nat} {g : LegMap} {t t1 : TTN} {v : VNet R} {id : Id}
    (hs : RSim dim e g t v) (h : t.step (.access id) = some t1) : id ∈ v.ids := by
  obtain ⟨T, ha⟩ := step_access_eq h
  obtain ⟨n, Ts, e1, _⟩ := access_eq ha
  have hn : t.N id = some n := e1
  exact (hs.ids id).2 (by rw [hn]; simp)

/-- **Centre move** `split_qr_contract_r_to_neighbour(a, b)` at the value level.  Hypothesis: the simulated history of
its two basic steps — `split_nodes(a)` along the leg specifications of `_build_qr_leg_specs` WITH AN EXACT FACTORISATION
(the contract of the QR routine: the `SplitFact` carried by `SimStep.split`), then `contract_nodes(b, r, new = b)`.
Then: the history is the composite edit of the structural model (`centreMove` returns `t'`), all invariants hold after
it, the valued network stays related to the structural state, and **the value of the network is unchanged**. -/
theorem centre_move_preserves_value (dim : Nat → Nat) (e : Label → Nat) {t t' : TTN} {g g' : LegMap}
    {v v' : VNet R} {a b rid : Id} {bd : Nat} {node : NodeS} {q r : TTN.LegSpec}
    (h : t.WF) (hl : t.LWF) (hv : v.WF) (hs : RSim dim e g t v)
    (hn : t.N a = some node) (hsp : TTN.canonSpecs node b = some (q, r))
    (hr : SimRun dim e t g v [.split a q r a rid bd, .contract b rid b] t' g' v') :
    t.centreMove a b rid bd = some t' ∧ t'.WF ∧ t'.LWF ∧ v'.WF ∧ RSim dim e g' t' v' ∧
    ∀ σ, v'.value dim σ = v.value dim σ := by
  obtain ⟨run, _, w, l, vw, s, _, val⟩ := structural_history_preserves_value dim e h hl hv hs hr
  obtain ⟨t1, h1, h2⟩ := trun_two run
  exact ⟨centreMove_of_steps hn hsp h1 h2, w, l, vw, s, val⟩

/-- **`contract_and_split_with_parent(a, b)`** at the value level: `contract_nodes(a, b, new = ts)` then
`split_nodes(ts)` along `legs_before_combination(a, b)` with an exact factorisation (for the truncated SVD: exact on the
kept part — the truncation itself is the replacement treated in `two_site_update_value`).  The value is unchanged. -/
theorem contract_split_preserves_value (dim : Nat → Nat) (e : Label → Nat) {t t' : TTN} {g g' : LegMap}
    {v v' : VNet R} {a b ts : Id} {bd : Nat} {u w : TTN.LegSpec}
    (h : t.WF) (hl : t.LWF) (hv : v.WF) (hs : RSim dim e g t v)
    (hsp : t.legsBeforeCombination a b = some (u, w))
    (hr : SimRun dim e t g v [.contract a b ts, .split ts u w a b bd] t' g' v') :
    t.contractSplit a b ts bd = some t' ∧ t'.WF ∧ t'.LWF ∧ v'.WF ∧ RSim dim e g' t' v' ∧
    ∀ σ, v'.value dim σ = v.value dim σ := by
  obtain ⟨run, _, w', l, vw, s, _, val⟩ := structural_history_preserves_value dim e h hl hv hs hr
  obtain ⟨t1, h1, h2⟩ := trun_two run
  exact ⟨contractSplit_of_steps hsp h1 h2, w', l, vw, s, val⟩

/-- a simulated history, a local update (the tensor of node `k` of the network reached is replaced by any tensor on
the same legs), a second simulated history: both are runs of the structural model, all invariants hold at the end, the
value is unchanged up to the update and **the value at the end is that of the intermediate network with the tensor
replaced** -/
theorem update_between_histories (dim : Nat → Nat) (e : Label → Nat) {t t1 t' : TTN} {g g1 g' : LegMap}
    {v v1 v' : VNet R} {ops1 ops2 : List TOp} {k : Nat} {X' : Asg Nat → R}
    (h : t.WF) (hl : t.LWF) (hv : v.WF) (hs : RSim dim e g t v)
    (hr1 : SimRun dim e t g v ops1 t1 g1 v1) (hX' : DependsOn (· ∈ v1.legs k) X')
    (hr2 : SimRun dim e t1 g1 (setTens v1 k X') ops2 t' g' v') :
    TRun t ops1 t1 ∧ TRun t1 ops2 t' ∧ t'.WF ∧ t'.LWF ∧ v'.WF ∧ RSim dim e g' t' v' ∧ RSim dim e g1 t1 v1 ∧
    v1.WF ∧ (∀ σ, v1.value dim σ = v.value dim σ) ∧ (∀ σ, v'.value dim σ = (setTens v1 k X').value dim σ) ∧
    (X' = v1.tens k → ∀ σ, v'.value dim σ = v.value dim σ) := by
  obtain ⟨run1, _, w1, l1, vw1, s1, _, val1⟩ := structural_history_preserves_value dim e h hl hv hs hr1
  obtain ⟨run2, _, w2, l2, vw2, s2, _, val2⟩ :=
    structural_history_preserves_value dim e w1 l1 (setTens_wf vw1 hX') (s1.setTens k X') hr2
  refine ⟨run1, run2, w2, l2, vw2, s2, s1, vw1, val1, val2, fun hX σ => ?_⟩
  rw [val2 σ, hX, setTens_self, val1 σ]

/-- **One-site TDVP link update** `_update_link(a, b)` at the value level.  The history: `split_nodes(a)` along the
specifications of `_split_updated_site` with an exact factorisation (QR), giving the intermediate network `v1` whose node
`link` carries the link tensor `X = v1.tens link`; the link tensor is read, evolved to ANY tensor `X'` on the same legs
and stored back; `contract_nodes(link, b, new = b)`.  Then: the history is the composite edit; the intermediate network
has the value of the network before; and **the value after the edit is the value of the intermediate network with `X`
replaced by `X'`** — the two networks differ in that leaf only.  In particular (`X' = X`) without evolution the value is
unchanged. -/
theorem link_update_value (dim : Nat → Nat) (e : Label → Nat) {t t1 t' : TTN} {g g1 g' : LegMap}
    {v v1 v' : VNet R} {a b link : Id} {bd : Nat} {node : NodeS} {q r : TTN.LegSpec} {X' : Asg Nat → R}
    (h : t.WF) (hl : t.LWF) (hv : v.WF) (hs : RSim dim e g t v)
    (hn : t.N a = some node) (hsp : TTN.tdvpSpecs node b = some (q, r))
    (hr1 : SimRun dim e t g v [.split a q r a link bd] t1 g1 v1)
    (hX' : DependsOn (· ∈ v1.legs link) X')
    (hr2 : SimRun dim e t1 g1 (setTens v1 link X') [.access link, .contract link b b] t' g' v') :
    t.linkUpdate a b link bd = some t' ∧ t'.WF ∧ t'.LWF ∧ v'.WF ∧ RSim dim e g' t' v' ∧
    link ∈ v1.ids ∧ v1.WF ∧ (∀ σ, v1.value dim σ = v.value dim σ) ∧
    (∀ σ, v'.value dim σ = (setTens v1 link X').value dim σ) ∧
    (X' = v1.tens link → ∀ σ, v'.value dim σ = v.value dim σ) := by
  obtain ⟨run1, run2, w2, l2, vw2, s2, s1, rest⟩ := update_between_histories dim e h hl hv hs hr1 hX' hr2
  obtain ⟨t2, h2, h3⟩ := trun_two run2
  exact ⟨linkUpdate_of_steps hn hsp (trun_one run1) h2 h3, w2, l2, vw2, s2, access_node_mem s1 h2, rest⟩

/-- **Two-site TDVP update** `_update_two_site_nodes(a, b)` at the value level.  The history: `contract_nodes(a, b,
new = ts)`, giving the intermediate network `v1` whose node `ts` carries the two-site tensor `X = v1.tens ts`; the tensor
is read, evolved (and truncated) to ANY tensor `X'` on the same legs and stored back; `split_nodes(ts)` along
`legs_before_combination(a, b)` with an exact factorisation OF `X'` (SVD of the stored tensor).  Then: the history is the
composite edit; the intermediate network has the value of the network before; **the value after the edit is the value of
the intermediate network with `X` replaced by `X'`**. -/
theorem two_site_update_value (dim : Nat → Nat) (e : Label → Nat) {t t1 t' : TTN} {g g1 g' : LegMap}
    {v v1 v' : VNet R} {a b ts : Id} {bd : Nat} {u w : TTN.LegSpec} {X' : Asg Nat → R}
    (h : t.WF) (hl : t.LWF) (hv : v.WF) (hs : RSim dim e g t v)
    (hsp : t.legsBeforeCombination a b = some (u, w))
    (hr1 : SimRun dim e t g v [.contract a b ts] t1 g1 v1)
    (hX' : DependsOn (· ∈ v1.legs ts) X')
    (hr2 : SimRun dim e t1 g1 (setTens v1 ts X') [.access ts, .split ts u w a b bd] t' g' v') :
    t.twoSiteUpdate a b ts bd = some t' ∧ t'.WF ∧ t'.LWF ∧ v'.WF ∧ RSim dim e g' t' v' ∧
    ts ∈ v1.ids ∧ v1.WF ∧ (∀ σ, v1.value dim σ = v.value dim σ) ∧
    (∀ σ, v'.value dim σ = (setTens v1 ts X').value dim σ) ∧
    (X' = v1.tens ts → ∀ σ, v'.value dim σ = v.value dim σ) := by
  obtain ⟨run1, run2, w2, l2, vw2, s2, s1, rest⟩ := update_between_histories dim e h hl hv hs hr1 hX' hr2
  obtain ⟨t2, h2, h3⟩ := trun_two run2
  exact ⟨twoSiteUpdate_of_steps hsp (trun_one run1) h2 h3, w2, l2, vw2, s2, access_node_mem s1 h2, rest⟩

/-- the replacement changes the value only through the replaced leaf: the value of the network is the bound sum of
the product of the leaves, with the leaf of `k` exposed -/
theorem setTens_value_expose (dim : Nat → Nat) {N : VNet R} (h : N.WF) {k : Nat} (hk : k ∈ N.ids) (X : Asg Nat → R)
    (σ : Asg Nat) :
    (setTens N k X).value dim σ = netValue dim N.bonds (X :: (N.ids.erase k).map N.tens) σ := by
  rw [VNet.value_expose1 dim (setTens N k X) hk σ]
  have hrest : ((setTens N k X).ids.erase k).map (setTens N k X).tens = (N.ids.erase k).map N.tens := by
    apply List.map_congr_left
    intro j hj
    have : j ≠ k := ((h.ids_nodup.mem_erase_iff).1 hj).1
    simp [setTens, this]
  rw [hrest]
  simp [setTens]

end Ptn.C02
