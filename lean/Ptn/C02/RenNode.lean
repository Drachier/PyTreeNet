import Ptn.C02.Labels
/-! Every structural edit of the network overwrites a few records and leaves every other record with its
array bookkeeping and with its references renamed: `renNode ρ`.  `replace_node_in_neighbours` and
`replace_node_in_some_neighbours` are such renamings, and what is read off one record and its array (structure,
node invariant, legs, open axes) follows the renaming. -/
namespace Ptn.C02
open NodeS

def renNode (ρ : Id → Id) (n : NodeS) : NodeS :=
  { n with parent := n.parent.map ρ, children := n.children.map ρ }

section renNode
variable (ρ σ : Id → Id) (n : NodeS)

@[simp] theorem renNode_parent : (renNode ρ n).parent = n.parent.map ρ := rfl
@[simp] theorem renNode_children : (renNode ρ n).children = n.children.map ρ := rfl

theorem neighbours_renNode : (renNode ρ n).neighbours = n.neighbours.map ρ := by
  unfold NodeS.neighbours
  rw [renNode_parent, renNode_children, List.map_append]
  cases n.parent <;> rfl

theorem wfn_renNode {n : NodeS} (hw : WFN n) : WFN (renNode ρ n) :=
  wfn_of_renamed (n := n) rfl rfl (by simp) (by simp) hw

variable {ρ σ n}

theorem renNode_congr (h : ∀ x ∈ n.neighbours, ρ x = σ x) : renNode ρ n = renNode σ n := by
  have hp : n.parent.map ρ = n.parent.map σ := by
    cases hp : n.parent with
    | none => rfl
    | some p => simp [h p ((mem_neighbours n p).mpr (Or.inl hp))]
  have hc : n.children.map ρ = n.children.map σ :=
    List.map_congr_left fun c hc => h c ((mem_neighbours n c).mpr (Or.inr hc))
  simp only [renNode, hp, hc]

theorem renNode_eq_self (h : ∀ x ∈ n.neighbours, ρ x = x) : renNode ρ n = n := by
  rw [renNode_congr (σ := id) h]
  cases n
  simp [renNode]

theorem renNode_comp : renNode σ (renNode ρ n) = renNode (σ ∘ ρ) n := by
  cases n
  simp [renNode, Option.map_map]

end renNode

theorem renNode_id (n : NodeS) : renNode id n = n := renNode_eq_self fun _ _ => rfl

theorem map_renNode_id (o : Option NodeS) : o.map (renNode id) = o := by
  rw [(funext renNode_id : renNode id = id), Option.map_id_fun, id]

theorem renRho_self (x : Id) : renRho x x = id := by
  funext c; unfold renRho; split <;> simp [*]

theorem renRho_eq_iff {a new b x : Id} (hab : a ≠ b) (hnb : new ≠ b) : renRho a new x = b ↔ x = b := by
  unfold renRho
  by_cases h : x = a
  · rw [if_pos h, h]; exact ⟨fun e => absurd e hnb, fun e => absurd e hab⟩
  · rw [if_neg h]

/-! The three ways the model edits one reference are all `renNode (renRho old new)`. -/

theorem setParent_eq_ren {n : NodeS} {old new : Id} (hp : n.parent = some old) (hc : old ∉ n.children) :
    setParent new n = renNode (renRho old new) n := by
  have : n.children.map (renRho old new) = n.children := map_ite_not_mem _ _ _ hc
  simp only [setParent, renNode, hp, this, Option.map_some, renRho, if_true]

theorem replaceChild_eq_ren {n n' : NodeS} {old new : Id} (hnd : n.children.Nodup) (hp : n.parent ≠ some old)
    (h : TTN.replaceChild n old new = some n') : n' = renNode (renRho old new) n := by
  obtain ⟨_, e1, e2, e3, e4⟩ := replaceChild_eq hnd h
  have : n.parent.map (renRho old new) = n.parent := by
    cases hpp : n.parent with
    | none => rfl
    | some p => rw [Option.map_some, renRho, if_neg fun e : p = old => hp (by rw [hpp, e])]
  cases n; cases n'
  simp only [renNode, NodeS.mk.injEq] at *
  exact ⟨e1, e2, e3.trans this.symm, e4⟩

theorem replaceNeighbour_eq_ren {n n' : NodeS} {old new : Id} (hnd : n.children.Nodup)
    (hx : n.parent = some old → old ∉ n.children)
    (h : TTN.replaceNeighbour n old new = some n') : n' = renNode (renRho old new) n := by
  unfold TTN.replaceNeighbour at h
  by_cases hp : n.parent = some old
  · rw [if_pos hp] at h
    cases h
    exact setParent_eq_ren hp (hx hp)
  · rw [if_neg hp] at h
    split at h
    · exact replaceChild_eq_ren hnd hp h
    · cases h

theorem S_of_renNode {t t' : TTN} {k : Id} {ρ : Id → Id} (hN : t'.N k = (t.N k).map (renNode ρ)) :
    t'.S k = (t.S k).map fun s => (s.1.map ρ, s.2.map ρ) := by
  simp only [TTN.S, hN, Option.map_map]
  rfl

theorem labels_of_renNode {t t' : TTN} {k : Id} (ρ : Id → Id) (hN : t'.N k = (t.N k).map (renNode ρ))
    (hT : dget t'.tensors k = dget t.tensors k) :
    t'.logical k = t.logical k ∧
    t'.legPairs k = (t.legPairs k).map (fun e => (ρ e.1, e.2)) ∧ t'.openAxes k = t.openAxes k := by
  cases hn : t.N k with
  | none =>
    have hn' : t'.N k = none := by rw [hN, hn]; rfl
    refine ⟨by rw [logical_none_of_N hn, logical_none_of_N hn'],
      by rw [legPairs_none hn, legPairs_none hn']; rfl, by rw [openAxes_none hn, openAxes_none hn']⟩
  | some n =>
    exact labels_of_neighbours_map (n' := renNode ρ n) ρ hn (by rw [hN, hn]; rfl) rfl (neighbours_renNode ρ n) hT

/-- An edit described key by key keeps the network well-formed if the new structure is a tree, each `touched` key
    is dropped from both dictionaries or holds a consistent node that fits its array, and every other node keeps its
    array and has only its references renamed.  The key set `Tk` of the tree is immaterial: that the two dictionaries
    have the same keys follows from the description. -/
theorem wf_of_edit {t t' : TTN} (h : t.WF) (touched : Id → Prop) (ρ : Id → Id → Id) {Tk : Id → Bool}
    (hstr : SWF t'.S Tk t'.root)
    (hnew : ∀ k, touched k → (t'.N k = none ∧ dget t'.tensors k = none) ∨
      ∃ n' T', t'.N k = some n' ∧ dget t'.tensors k = some T' ∧ WFN n' ∧ shapeOf T' = n'.shp)
    (hby : ∀ k, ¬ touched k → t'.N k = (t.N k).map (renNode (ρ k)) ∧ dget t'.tensors k = dget t.tensors k) :
    t'.WF := by
  have hkeys : ∀ k, (t'.S k).isSome = t'.hasT k := by
    intro k
    rw [TTN.hasT, dhas_eq_isSome, TTN.S]
    by_cases hto : touched k
    · rcases hnew k hto with ⟨e1, e2⟩ | ⟨n', T', e1, e2, _⟩ <;> rw [e1, e2] <;> rfl
    · have := h.str.keys k
      rw [TTN.hasT, dhas_eq_isSome, TTN.S] at this
      rw [(hby k hto).1, (hby k hto).2, Option.map_map, ← this]
      cases t.N k <;> rfl
  have key : ∀ k n', t'.N k = some n' →
      WFN n' ∧ ∀ T', dget t'.tensors k = some T' → shapeOf T' = n'.shp := by
    intro k n' hk
    by_cases hto : touched k
    · rcases hnew k hto with ⟨e1, _⟩ | ⟨n, T, e1, e2, w, f⟩
      · rw [e1] at hk; cases hk
      · rw [e1] at hk; cases hk
        exact ⟨w, fun T' hT' => by rw [e2] at hT'; cases hT'; exact f⟩
    · obtain ⟨b1, b2⟩ := hby k hto
      rw [b1] at hk
      obtain ⟨n, hn, rfl⟩ := Option.map_eq_some_iff.mp hk
      exact ⟨wfn_renNode _ (h.node k n hn), fun T' hT' => h.fit k n T' hn (b2 ▸ hT')⟩
  exact ⟨{ hstr with keys := hkeys }, fun k n' hk => (key k n' hk).1, fun k n' T' hk hT' => (key k n' hk).2 T' hT'⟩

theorem S_of_reset_at {t t' : TTN} {id : Id} {n : NodeS} (hn : t.N id = some n)
    (hN : ∀ k, t'.N k = if k = id then some n.resetPermutation else t.N k) : t'.S = t.S := by
  funext k
  rw [TTN.S, hN]
  split
  · next e => rw [e, TTN.S, hn]; rfl
  · rfl

/-- Shared by `access` and the identity renaming. -/
theorem wf_of_reset_at {t t' : TTN} {id : Id} {n : NodeS} {Ts T : Tensor} (h : t.WF)
    (hn : t.N id = some n) (hTs : dget t.tensors id = some Ts) (hT : transposeT Ts n.perm = some T)
    (hN : ∀ k, t'.N k = if k = id then some n.resetPermutation else t.N k)
    (hD : ∀ k, dget t'.tensors k = if k = id then some T else dget t.tensors k)
    (hR : t'.root = t.root) : t'.WF := by
  refine wf_of_edit h (· = id) (fun _ => _root_.id) (by rw [S_of_reset_at hn hN, hR]; exact h.str)
    (fun k hk => Or.inr ⟨_, T, by rw [hN, if_pos hk], by rw [hD, if_pos hk], wfn_resetPermutation (h.node _ n hn), ?_⟩)
    fun k hk => ⟨by rw [hN, if_neg hk, map_renNode_id], by rw [hD, if_neg hk]⟩
  rw [shapeOf_transposeT hT, h.fit _ n Ts hn hTs]; rfl

theorem access_wf {t t1 : TTN} {id : Id} {T : Tensor} (h : t.WF) (ha : t.access id = some (t1, T)) :
    t1.WF := by
  obtain ⟨n, Ts, e1, e2, e3, rfl⟩ := access_eq ha
  exact wf_of_reset_at h e1 e2 e3 (fun k => by simp only [TTN.N, dget_dset]) (fun k => by simp only [dget_dset]) rfl

theorem access_S_eq {t t1 : TTN} {id : Id} {T : Tensor} (ha : t.access id = some (t1, T)) :
    t1.S = t.S ∧ t1.root = t.root := by
  obtain ⟨n, Ts, e1, e2, e3, rfl⟩ := access_eq ha
  exact ⟨S_of_reset_at e1 fun k => by simp only [TTN.N, dget_dset], rfl⟩

/-- How the other records refer to `old` mirrors the record `O` of `old`. -/
theorem TTN.WF.links {t : TTN} (h : t.WF) {old k : Id} {O n : NodeS} (hO : t.N old = some O)
    (hn : t.N k = some n) :
    (n.parent = some old ↔ k ∈ O.children) ∧ (old ∈ n.children ↔ O.parent = some k) ∧ n.children.Nodup ∧
      (n.parent = some old → old ∉ n.children) :=
  ⟨h.parent_iff_mem hn hO, (h.parent_iff_mem hO hn).symm, h.str.nodup k _ _ (TTN.S_eq hn), fun e hm =>
    h.str.no_two_cycle (a := k) (b := old) (by rw [TTN.S_eq hn, e])
      (by rw [TTN.S_eq hO, (h.parent_iff_mem hO hn).mpr hm])⟩

/-- A node of a well-formed network does not refer to itself: renaming `x` changes nothing in a record with the
    parent and children of `x` (`X` itself, `X.resetPermutation`). -/
theorem TTN.WF.renNode_self {t : TTN} (h : t.WF) {x new : Id} {X : NodeS} (hX : t.N x = some X) (Y : NodeS)
    (hp : Y.parent = X.parent) (hc : Y.children = X.children) : renNode (renRho x new) Y = Y := by
  obtain ⟨l1, _, _, l4⟩ := h.links hX hX
  refine renNode_eq_self fun y hy => if_neg ?_
  rintro rfl
  rw [mem_neighbours, hp, hc] at hy
  exact hy.elim (fun e => l4 e (l1.mp e)) fun e => l4 (l1.mpr e) e

/-- `replace_node_in_neighbours(new, old)` renames `old` to `new` in every record but that of `new`, drops the key
    `old` if asked to, and moves the root with `old`.  The hypothesis is about the links at `old` only, not `t.WF`:
    the second call inside `contract_nodes` runs on a network in which the references to the first operand already
    point to a node that is not there yet. -/
theorem rnin_ren {t t' : TTN} {new old : Id} {del : Bool} {O : NodeS} (hne : new ≠ old) (hO : t.N old = some O)
    (hlink : ∀ k n, k ≠ new → t.N k = some n →
      (n.parent = some old ↔ k ∈ O.children) ∧ (old ∈ n.children ↔ O.parent = some k) ∧ n.children.Nodup ∧
      (n.parent = some old → old ∉ n.children))
    (h : t.replaceNodeInNeighbours new old del = some t') :
    (∀ k, k ≠ new → t'.N k = if del = true ∧ k = old then none else (t.N k).map (renNode (renRho old new))) ∧
    t'.root = (if O.parent = none then some new else t.root) ∧ t'.tensors = t.tensors := by
  unfold TTN.replaceNodeInNeighbours at h
  have hO' : dget t.nodes old = some O := hO
  simp only [hne, if_false, hO', bind, Option.bind] at h
  split at h
  · simp at h
  rename_i nodes1 hfold
  have hf := reparent_fold_eq new O.children t.nodes nodes1 hfold
  -- after the loop over the children every record is final, except that of the parent of `old`
  have hnone : ∀ k, t.N k = none → dget nodes1 k = none := fun k hk => by
    rw [hf k, show dget t.nodes k = none from hk]; split <;> rfl
  have hsome : ∀ k n, k ≠ new → t.N k = some n → O.parent ≠ some k →
      dget nodes1 k = some (renNode (renRho old new) n) := by
    intro k n hk hn hg
    obtain ⟨l1, l2, _, _⟩ := hlink k n hk hn
    rw [hf k, show dget t.nodes k = some n from hn]
    by_cases hm : k ∈ O.children
    · rw [if_pos ⟨hm, hk⟩, Option.map_some, setParent_eq_ren (l1.mpr hm) fun e => hg (l2.mp e)]
    · have : renNode (renRho old new) n = n := renNode_eq_self fun x hx => if_neg fun (e : x = old) =>
        ((mem_neighbours n old).mp (e ▸ hx)).elim (fun e => hm (l1.mp e)) fun e => hg (l2.mp e)
      rw [if_neg fun c => hm c.1, this]
  have hrest : ∀ k, k ≠ new → O.parent ≠ some k → dget nodes1 k = (t.N k).map (renNode (renRho old new)) := by
    intro k hk hg
    cases hn : t.N k with
    | none => exact hnone k hn
    | some n => exact hsome k n hk hn hg
  -- the records after the step at the parent are the renamed ones; then the old key is dropped, or not
  have close : ∀ nodes2 : List (Id × NodeS),
      (∀ k, k ≠ new → dget nodes2 k = (t.N k).map (renNode (renRho old new))) →
      (∀ k, t'.N k = if del = true ∧ k = old then none else dget nodes2 k) →
      ∀ k, k ≠ new → t'.N k = if del = true ∧ k = old then none else (t.N k).map (renNode (renRho old new)) :=
    fun nodes2 h2 hN k hk => by rw [hN k, h2 k hk]
  cases hp : O.parent with
  | none =>
    simp only [hp] at h
    obtain ⟨hN, hr, ht⟩ := rnin_tail h
    exact ⟨close nodes1 (fun k hk => hrest k hk (by rw [hp]; exact nofun)) hN, by rw [hr, if_pos rfl], ht⟩
  | some p =>
    simp only [hp] at h
    by_cases hpn : p = new
    · simp only [hpn, ne_eq, not_true_eq_false, if_false] at h
      obtain ⟨hN, hr, ht⟩ := rnin_tail h
      exact ⟨close nodes1 (fun k hk => hrest k hk (by rw [hp, hpn]; exact fun e => hk (Option.some.inj e).symm)) hN,
        by rw [hr, if_neg (Option.some_ne_none p)], ht⟩
    · simp only [ne_eq, hpn, not_false_eq_true, if_true] at h
      cases hpn1 : dget nodes1 p with
      | none => simp [hpn1] at h
      | some pn =>
        simp only [hpn1] at h
        cases hrc : TTN.replaceChild pn old new with
        | none => simp [hrc] at h
        | some pn' =>
          simp only [hrc] at h
          obtain ⟨hN, hr, ht⟩ := rnin_tail h
          refine ⟨close _ (fun k hk => ?_) hN, by rw [hr, if_neg (Option.some_ne_none p)], ht⟩
          rw [dget_dset]
          by_cases hkp : k = p
          · -- the parent of `old`: its child `old` is replaced
            subst hkp
            rw [if_pos rfl]
            cases hn : t.N k with
            | none => rw [hnone k hn] at hpn1; cases hpn1
            | some n =>
              obtain ⟨l1, l2, l3, l4⟩ := hlink k n hk hn
              have hpo : n.parent ≠ some old := fun e => l4 e (l2.mpr hp)
              rw [hf k, if_neg fun c => hpo (l1.mpr c.1), show dget t.nodes k = some n from hn] at hpn1
              cases hpn1
              rw [Option.map_some, replaceChild_eq_ren l3 hpo hrc]
          · rw [if_neg hkp]
            exact hrest k hk (by rw [hp]; exact fun e => hkp (Option.some.inj e).symm)

theorem rnisn_ren {t t' : TTN} {new old : Id} {nbs : List Id} (hnd : nbs.Nodup)
    (hnode : ∀ k n, k ∈ nbs → t.N k = some n → old ∈ n.neighbours ∧ n.children.Nodup ∧
      (n.parent = some old → old ∉ n.children))
    (h : t.replaceNodeInSomeNeighbours new old nbs = some t') :
    (∀ k, t'.N k = if k ∈ nbs then (t.N k).map (renNode (renRho old new)) else t.N k) ∧
      t'.tensors = t.tensors ∧ t'.root = t.root := by
  obtain ⟨hN, r⟩ := rnisn_eq hnd h
  refine ⟨fun k => ?_, r⟩
  rw [hN k]
  by_cases hk : k ∈ nbs
  · rw [if_pos hk, if_pos hk]
    cases hn : t.N k with
    | none => rfl
    | some n =>
      obtain ⟨q1, q2, q3⟩ := hnode k n hk hn
      have : ∃ n', TTN.replaceNeighbour n old new = some n' := by
        unfold TTN.replaceNeighbour
        by_cases hp : n.parent = some old
        · exact ⟨_, if_pos hp⟩
        · have hm : old ∈ n.children := ((mem_neighbours n old).mp q1).resolve_left hp
          rw [if_neg hp, if_pos hm]
          exact replaceChild_some n old new hm
      obtain ⟨n', hn'⟩ := this
      rw [Option.bind_some, hn', Option.map_some, replaceNeighbour_eq_ren q2 q3 hn']
  · rw [if_neg hk, if_neg hk]

end Ptn.C02
