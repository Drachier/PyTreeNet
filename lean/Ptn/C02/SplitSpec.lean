import Ptn.C02.Shows
/-! The two nodes built by `split_nodes`, whatever the splitting function: the array of the in-node is
`(bond, parent?, children…, open…)`, that of the out-node `(parent?, children…, open…, bond)`.  The side that keeps the
role of the split node (`*_keeper_logical`: its parent `par`, or the root) shows `(parent?, bond, children…, open…)`
with the other node as its first child; the other side (`*_child_logical`) shows `(bond, children…, open…)` with the
keeper as its parent. -/
namespace Ptn.C02
open NodeS

theorem length_parentAxis {par : Option Id} {Pa : Tensor} {n : NodeS}
    (hPa : (par = none ∧ Pa = []) ∨ (∃ p a, par = some p ∧ Pa = [a])) (hn : n.parent = par) :
    Pa.length = n.nparents := by
  rcases hPa with ⟨rfl, rfl⟩ | ⟨p, a, rfl, rfl⟩
  · exact (nparents_none hn).symm
  · exact (nparents_some hn).symm

/-- The in-node keeps the role of the split node: the parent axis `Pa`, if any, comes to the front. -/
theorem in_node_keeper_logical (inL outL : TTN.LegSpec) (outId : Id) (b : Axis) (Pa Ic Io : Tensor)
    {par : Option Id} (hp : inL.parentLeg = par) (hroot : inL.isRoot = par.isNone)
    (hPa : (par = none ∧ Pa = []) ∨ (∃ p a, par = some p ∧ Pa = [a])) (hop : par = none → outL.parentLeg = none)
    (hIc : Ic.length = inL.childLegs.length) (hnd : (outId :: inL.childLegs).Nodup) :
    ∃ nn, TTN.buildInNode (b :: (Pa ++ (Ic ++ Io))) inL outL outId = some nn ∧ WFN nn ∧
      nn.shp = shapeOf (b :: (Pa ++ (Ic ++ Io))) ∧ nn.parent = par ∧ nn.children = outId :: inL.childLegs ∧
      transposeT (b :: (Pa ++ (Ic ++ Io))) nn.perm = some (Pa ++ b :: (Ic ++ Io)) := by
  obtain ⟨n1, hn1, hpar1, hch1, hs1, hdict⟩ : ∃ n1,
      TTN.setInParentLeg (nodeOfTensor (b :: (Pa ++ (Ic ++ Io)))) inL outId = some n1 ∧ n1.parent = par ∧
      n1.children = [] ∧ Shows n1 (b :: (Pa ++ (Ic ++ Io))) (Pa ++ (b :: Ic) ++ Io) ∧
      TTN.findInChildren inL outL outId = some (TTN.enumFrom (outId :: inL.childLegs) Pa.length) := by
    rcases hPa with ⟨rfl, rfl⟩ | ⟨p, a, rfl, rfl⟩
    · refine ⟨nodeOfTensor (b :: ([] ++ (Ic ++ Io))), by simp [TTN.setInParentLeg, hp, hroot], rfl, rfl,
        by simpa using shows_nodeOfTensor (b :: (Ic ++ Io)), ?_⟩
      have hr : inL.isRoot = true := hroot
      simp only [TTN.findInChildren, hr, if_true, hop rfl, Option.isSome_none, Bool.false_eq_true, if_false]
      rw [enumFrom_cons, dupdate_eq_append _ _ (by simpa [enumFrom_map_fst] using hnd)]
      rfl
    · obtain ⟨n1, e, hpar, hc, hs⟩ := shows_fresh_o2p [b] (Ic ++ Io) a p
      refine ⟨n1, by simpa [TTN.setInParentLeg, hp] using e, hpar, hc, by simpa using hs, ?_⟩
      have hr : inL.isRoot = false := hroot
      simp only [TTN.findInChildren, hr, Bool.false_eq_true, if_false, hp, Option.isSome_some, if_true]
      rw [enumFrom_cons, dupdate_eq_append _ _ (by simpa [enumFrom_map_fst] using hnd)]
      rfl
  have hLp : Pa.length = n1.nparents := length_parentAxis hPa hpar1
  obtain ⟨n2, hn2, hpar2, hch2, hs2⟩ := hs1.o2cs_prefix (outId :: inL.childLegs) hch1 hLp (by simp [hIc])
  refine ⟨n2, by simp only [TTN.buildInNode, hn1, hdict, bind, Option.bind, hn2], hs2.wfn ?_, hs2.shp,
    hpar2.trans hpar1, hch2, by simpa using hs2.legs⟩
  rw [nvirt_def, nparents_congr hpar2, ← hLp, hch2]
  simp [hIc]

/-- The out-node keeps the role of the split node: the new bond, last axis of its array, becomes the first child leg. -/
theorem out_node_keeper_logical (outL inL : TTN.LegSpec) (inId : Id) (b : Axis) (Pa Oc Oo : Tensor)
    {par : Option Id} (hp : outL.parentLeg = par) (hroot : outL.isRoot = par.isNone)
    (hPa : (par = none ∧ Pa = []) ∨ (∃ p a, par = some p ∧ Pa = [a]))
    (hin1 : inL.isRoot = false) (hin2 : inL.parentLeg = none)
    (hOc : Oc.length = outL.childLegs.length) (hnd : (inId :: outL.childLegs).Nodup) :
    ∃ nn, TTN.buildOutNode (Pa ++ (Oc ++ Oo) ++ [b]) outL inL inId = some nn ∧ WFN nn ∧
      nn.shp = shapeOf (Pa ++ (Oc ++ Oo) ++ [b]) ∧ nn.parent = par ∧ nn.children = inId :: outL.childLegs ∧
      transposeT (Pa ++ (Oc ++ Oo) ++ [b]) nn.perm = some (Pa ++ b :: (Oc ++ Oo)) := by
  -- the parent leg, if there is one, is the first axis already: the node shows its array as it is
  obtain ⟨n1, hn1, hpar1, hch1, hs1⟩ : ∃ n1,
      TTN.setOutParentLeg (nodeOfTensor (Pa ++ (Oc ++ Oo) ++ [b])) outL inId = some n1 ∧ n1.parent = par ∧
      n1.children = [] ∧ Shows n1 (Pa ++ (Oc ++ Oo) ++ [b]) (Pa ++ Oc ++ Oo ++ [b] ++ []) := by
    rcases hPa with ⟨rfl, rfl⟩ | ⟨p, a, rfl, rfl⟩
    · exact ⟨nodeOfTensor ([] ++ (Oc ++ Oo) ++ [b]), by simp [TTN.setOutParentLeg, hp, hroot], rfl, rfl,
        by simpa using shows_nodeOfTensor (Oc ++ Oo ++ [b])⟩
    · obtain ⟨n1, e, hpar, hc, hs⟩ := shows_fresh_o2p [] (Oc ++ Oo ++ [b]) a p
      exact ⟨n1, by simpa [TTN.setOutParentLeg, hp] using e, hpar, hc, by simpa using hs⟩
  have hLp : Pa.length = n1.nparents := length_parentAxis hPa hpar1
  have hnl : n1.nlegs = Pa.length + Oc.length + Oo.length + 1 := by
    rw [nlegs, hs1.length]; simp only [List.length_append, List.length_cons, List.length_nil]
  -- the dictionary names the bond, the last leg, before the children
  have hdict : TTN.findOutChildren outL inL n1 inId =
      some (TTN.enumFrom [inId] (Pa.length + Oc.length + Oo.length) ++ TTN.enumFrom outL.childLegs Pa.length) := by
    have hd : ∀ k, dupdate [(inId, Pa.length + Oc.length + Oo.length)] (TTN.enumFrom outL.childLegs k) =
        TTN.enumFrom [inId] (Pa.length + Oc.length + Oo.length) ++ TTN.enumFrom outL.childLegs k := fun k => by
      rw [dupdate_eq_append _ _ (by simpa [enumFrom_map_fst] using hnd), enumFrom_cons, enumFrom_nil]
    rcases hPa with ⟨rfl, rfl⟩ | ⟨p, a, rfl, rfl⟩
    · have hr : outL.isRoot = true := hroot
      simp [TTN.findOutChildren, hin1, hin2, hr, hnl]
      simpa using hd 0
    · have hr : outL.isRoot = false := hroot
      simp [TTN.findOutChildren, hin1, hin2, hr, hp, hnl]
      simpa using hd 1
  obtain ⟨n2, hn2, hpar2, hch2, hs2⟩ := (hs1.o2cs_two outL.childLegs [inId] hch1 hLp hOc rfl).2
  refine ⟨n2, by simp only [TTN.buildOutNode, hn1, hdict, bind, Option.bind, hn2], hs2.wfn ?_, hs2.shp,
    hpar2.trans hpar1, hch2, by simpa using hs2.legs⟩
  rw [nvirt_def, nparents_congr hpar2, ← hLp, hch2]
  simp [hOc]

/-- The in-node is the new child: the bond, first axis of its array, is its parent leg. -/
theorem in_node_child_logical (inL outL : TTN.LegSpec) (outId : Id) (b : Axis) (Ic Io : Tensor)
    (hp : inL.parentLeg = none) (hroot : inL.isRoot = false)
    (hIc : Ic.length = inL.childLegs.length) (hnd : inL.childLegs.Nodup) :
    ∃ nn, TTN.buildInNode (b :: (Ic ++ Io)) inL outL outId = some nn ∧ WFN nn ∧
      nn.shp = shapeOf (b :: (Ic ++ Io)) ∧ nn.parent = some outId ∧ nn.children = inL.childLegs ∧
      transposeT (b :: (Ic ++ Io)) nn.perm = some (b :: (Ic ++ Io)) := by
  obtain ⟨n1, hn1, hpar1, hch1, hs1⟩ := shows_fresh_o2p [] (Ic ++ Io) b outId
  have hstep : TTN.setInParentLeg (nodeOfTensor (b :: (Ic ++ Io))) inL outId = some n1 := by
    simpa [TTN.setInParentLeg, hp, hroot] using hn1
  have hdict : TTN.findInChildren inL outL outId = some (TTN.enumFrom inL.childLegs 1) := by
    simp only [TTN.findInChildren, hroot, Bool.false_eq_true, if_false, hp, Option.isSome_none]
    rw [dupdate_eq_append _ _ (by simpa [enumFrom_map_fst] using hnd)]
    rfl
  have hs1' : Shows n1 (b :: (Ic ++ Io)) ([b] ++ Ic ++ Io) := by simpa using hs1
  obtain ⟨n2, hn2, hpar2, hch2, hs2⟩ := hs1'.o2cs_prefix inL.childLegs hch1 (nparents_some hpar1).symm hIc
  refine ⟨n2, by simp only [TTN.buildInNode, hstep, hdict, bind, Option.bind]; exact hn2, hs2.wfn ?_, hs2.shp,
    hpar2.trans hpar1, hch2, by simpa using hs2.legs⟩
  rw [nvirt_def, nparents_some (hpar2.trans hpar1), hch2]
  simp [hIc]; omega

/-- The out-node is the new child: the bond, last axis of its array, comes to the front as its parent leg. -/
theorem out_node_child_logical (outL inL : TTN.LegSpec) (inId : Id) (b : Axis) (Oc Oo : Tensor)
    (hp : outL.parentLeg = none) (hroot : outL.isRoot = false)
    (hin : inL.isRoot = true ∨ inL.parentLeg.isSome = true)
    (hOc : Oc.length = outL.childLegs.length) (hnd : outL.childLegs.Nodup) :
    ∃ nn, TTN.buildOutNode (Oc ++ Oo ++ [b]) outL inL inId = some nn ∧ WFN nn ∧
      nn.shp = shapeOf (Oc ++ Oo ++ [b]) ∧ nn.parent = some inId ∧ nn.children = outL.childLegs ∧
      transposeT (Oc ++ Oo ++ [b]) nn.perm = some (b :: (Oc ++ Oo)) := by
  obtain ⟨n1, hn1, hpar1, hch1, hs1⟩ := shows_fresh_o2p (Oc ++ Oo) [] b inId
  have hstep : TTN.setOutParentLeg (nodeOfTensor (Oc ++ Oo ++ [b])) outL inId = some n1 := by
    have hnl : (nodeOfTensor (Oc ++ Oo ++ [b])).nlegs = (Oc ++ Oo).length + 1 := by
      simp only [nodeOfTensor, nlegs, List.length_range, List.length_append, List.length_cons, List.length_nil]
    simp only [TTN.setOutParentLeg, hp, hroot, Bool.not_false, if_true, hnl, Nat.add_sub_cancel]
    exact hn1
  have hdict : TTN.findOutChildren outL inL n1 inId = some (TTN.enumFrom outL.childLegs 1) := by
    have hd : dupdate [] (TTN.enumFrom outL.childLegs 1) = TTN.enumFrom outL.childLegs 1 := by
      rw [dupdate_eq_append _ _ (by simpa [enumFrom_map_fst] using hnd)]
      rfl
    unfold TTN.findOutChildren
    rcases hin with h | h <;> simp [h, hp, hd]
  have hs1' : Shows n1 (Oc ++ Oo ++ [b]) ([b] ++ Oc ++ Oo) := by simpa using hs1
  obtain ⟨n2, hn2, hpar2, hch2, hs2⟩ := hs1'.o2cs_prefix outL.childLegs hch1 (nparents_some hpar1).symm hOc
  refine ⟨n2, by simp only [TTN.buildOutNode, hstep, hdict, bind, Option.bind]; exact hn2, hs2.wfn ?_, hs2.shp,
    hpar2.trans hpar1, hch2, by simpa using hs2.legs⟩
  rw [nvirt_def, nparents_some (hpar2.trans hpar1), hch2]
  simp [hOc]; omega

end Ptn.C02
