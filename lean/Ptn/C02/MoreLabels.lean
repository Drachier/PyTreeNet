import Ptn.C02.BuildWF
import Ptn.C02.IdentWF
import Ptn.C02.RenameWF
import Ptn.C02.EdgeCorr
/-! `insert_identity`, `change_node_identifier`, `replace_tensor` (with a permutation) and `access` at the level of
labels: node by node (`*_labels`), for the first two also edge by edge (`*_edges`); the last two keep every leg pair
(`TTN.LWF.of_legPairs`).  Each preserves the label invariant `LWF`. -/
namespace Ptn.C02
open NodeS

/-- **Where the legs go in `insert_identity`.**  The identity node has exactly two legs – to the parent and
    to the child – both carrying the axis of the bond they subdivide (a partner pair; no open axis); the
    child and the parent keep their axes, their mutual references now point to the identity; nothing else
    changes. -/
theorem ident_labels {t t' : TTN} {cid pid new : Id} (h : t.WF) (hnew : t.N new = none)
    (hs : t.insertIdentity cid pid new = some t') :
    ∃ ax, t.Leg cid pid ax ∧ t'.legPairs new = [(pid, ax), (cid, ax)] ∧ t'.openAxes new = [] ∧
      (∀ k, k ≠ new →
        t'.legPairs k = (t.legPairs k).map (fun e => (identRho cid pid new k e.1, e.2)) ∧
        t'.openAxes k = t.openAxes k) := by
  obtain ⟨_, C, P, _, _, _, hS, _, hT, ⟨ax, hax, hlog⟩, hN⟩ := insert_identity_full h hnew hs
  have hSnew : t'.S new = some (some pid, [cid]) := by rw [hS]; simp [subdivideS]
  obtain ⟨nn, hnn, enn⟩ := TTN.N_of_S hSnew
  simp only [Prod.mk.injEq] at enn
  have hnb : nn.neighbours = [pid, cid] := by
    unfold NodeS.neighbours; rw [← enn.1, ← enn.2]; rfl
  refine ⟨ax, hax, ?_, ?_, ?_⟩
  · rw [legPairs_eq hnn hlog, hnb]; rfl
  · rw [openAxes_eq hnn hlog]
    have : nn.nvirt = 2 := by rw [← neighbours_length, hnb]; rfl
    rw [this]; rfl
  · exact fun k hk => (labels_of_renNode _ (hN k hk) (hT k hk)).2

theorem identRho_cp {cid pid new : Id} : identRho cid pid new cid pid = new := if_pos (Or.inl ⟨rfl, rfl⟩)

theorem identRho_pc {cid pid new : Id} : identRho cid pid new pid cid = new := if_pos (Or.inr ⟨rfl, rfl⟩)

theorem identRho_ne {cid pid new k x : Id} (h : offEdge cid pid k x) : identRho cid pid new k x = x :=
  if_neg (not_or.2 h)

/-- `insert_identity`: every edge but `cid – pid` stays where it is; the four fresh edges are the two legs of the
identity node and their partners, all with the axis of the subdivided bond (at each end the axis that end had). -/
theorem ident_edges {t t' : TTN} {cid pid new : Id} (h : t.WF) (hnew : t.N new = none)
    (hs : t.insertIdentity cid pid new = some t') :
    EdgeCorr t t' (fun k _ => k) (offEdge cid pid)
      (fun k' x' ax => (k' = new ∧ (x' = pid ∨ x' = cid) ∧ t.Leg cid pid ax) ∨
        (x' = new ∧ ((k' = cid ∧ t.Leg cid pid ax) ∨ (k' = pid ∧ t.Leg pid cid ax)))) := by
  obtain ⟨ax0, hax, cnew, _, cby⟩ := ident_labels h hnew hs
  have hnode_ne : ∀ {k x ax}, t.Leg k x ax → k ≠ new := fun hl e' => leg_isNode hl (e' ▸ hnew)
  refine ⟨fun _ _ => offEdge.symm, ?_, ?_, ?_⟩
  · rintro k x ax (⟨rfl, hx, hl⟩ | ⟨rfl, ⟨rfl, hl⟩ | ⟨rfl, hl⟩⟩)
    · cases leg_unique h hax hl
      unfold TTN.Leg
      rw [cnew]
      rcases hx with rfl | rfl
      · exact List.mem_cons_self
      · exact List.mem_cons_of_mem _ List.mem_cons_self
    · exact (leg_of_map (cby k (hnode_ne hl)).1).2 ⟨pid, hl, identRho_cp.symm⟩
    · exact (leg_of_map (cby k (hnode_ne hl)).1).2 ⟨cid, hl, identRho_pc.symm⟩
  · intro k' x' ax hl
    by_cases hk : k' = new
    · subst k'
      unfold TTN.Leg at hl
      rw [cnew] at hl
      simp only [List.mem_cons, Prod.mk.injEq, List.not_mem_nil, or_false] at hl
      rcases hl with ⟨rfl, rfl⟩ | ⟨rfl, rfl⟩
      · exact Or.inl (Or.inl ⟨rfl, Or.inl rfl, hax⟩)
      · exact Or.inl (Or.inl ⟨rfl, Or.inr rfl, hax⟩)
    · obtain ⟨x, hm, rfl⟩ := (leg_of_map (cby k' hk).1).1 hl
      by_cases h1 : k' = cid ∧ x = pid
      · obtain ⟨rfl, rfl⟩ := h1
        exact Or.inl (Or.inr ⟨identRho_cp, Or.inl ⟨rfl, hm⟩⟩)
      · by_cases h2 : k' = pid ∧ x = cid
        · obtain ⟨rfl, rfl⟩ := h2
          exact Or.inl (Or.inr ⟨identRho_pc, Or.inr ⟨rfl, hm⟩⟩)
        · exact Or.inr ⟨k', x, hm, ⟨h1, h2⟩, rfl, identRho_ne ⟨h1, h2⟩⟩
  · intro k x ax hl hk
    exact (leg_of_map (cby k (hnode_ne hl)).1).2 ⟨x, hl, (identRho_ne hk).symm⟩

/-- **`insert_identity` preserves the label invariant** (it adds one partner pair of the bond's own label). -/
theorem ident_lwf {t t' : TTN} {cid pid new : Id} (h : t.WF) (hl : t.LWF) (hnew : t.N new = none)
    (hs : t.insertIdentity cid pid new = some t') : t'.LWF := by
  refine (ident_edges h hnew hs).lwf hl ?_
  rintro k x ax (⟨rfl, hx, hm⟩ | ⟨rfl, ⟨rfl, hm⟩ | ⟨rfl, hm⟩⟩)
  · rcases hx with rfl | rfl
    · exact Or.inr ⟨rfl, Or.inr ⟨rfl, hl.sym _ _ _ hm⟩⟩
    · exact Or.inr ⟨rfl, Or.inl ⟨rfl, hm⟩⟩
  · exact Or.inl ⟨rfl, Or.inr rfl, hm⟩
  · exact Or.inl ⟨rfl, Or.inl rfl, hl.sym _ _ _ hm⟩

/-- **Where the legs go in `change_node_identifier(new, old)`**: the renamed node keeps all its legs and
    open axes; every other node keeps its axes, its reference to `old` now reads `new`. -/
theorem rename_labels {t t' : TTN} {new old : Id} (h : t.WF) (hnew : new = old ∨ t.N new = none)
    (hs : t.changeNodeIdentifier new old = some t') :
    t.N old ≠ none ∧ t'.legPairs new = t.legPairs old ∧ t'.openAxes new = t.openAxes old ∧
    (new ≠ old → t'.legPairs old = [] ∧ t'.openAxes old = []) ∧
    (∀ k, k ≠ new → k ≠ old →
      t'.legPairs k = (t.legPairs k).map (fun e => (renRho old new e.1, e.2)) ∧
      t'.openAxes k = t.openAxes k) := by
  obtain ⟨X, Ts, L, hX, hTs, hL, hNn, hNo, hby, hT, _⟩ := rename_core h hs
  have hlogo : t.logical old = some L := by rw [logical_eq hX hTs]; exact hL
  have hTl := (transposeT_length hL).1
  have hlogn : t'.logical new = some L := by
    have hTn : dget t'.tensors new = some L := by rw [hT]; simp
    rw [logical_eq hNn hTn]
    simp only [resetPermutation]
    rw [← hTl]
    exact transposeT_range L
  refine ⟨by rw [hX]; simp, ?_, ?_, ?_, ?_⟩
  · rw [legPairs_eq hNn hlogn, legPairs_eq hX hlogo]; rfl
  · rw [openAxes_eq hNn hlogn, openAxes_eq hX hlogo]
    have : X.resetPermutation.nvirt = X.nvirt := nvirt_congr rfl rfl
    rw [this]
  · intro hne
    exact ⟨legPairs_none (hNo hne), openAxes_none (hNo hne)⟩
  · intro k hk1 hk2
    exact (labels_of_renNode (renRho old new) (hby k hk1 hk2) (by rw [hT, if_neg hk1, if_neg hk2])).2

theorem rename_edges {t t' : TTN} {new old : Id} (h : t.WF) (hnew : new = old ∨ t.N new = none)
    (hr : t.changeNodeIdentifier new old = some t') :
    EdgeCorr t t' (fun k _ => renRho old new k) (fun _ _ => True) (fun _ _ _ => False) := by
  obtain ⟨_, cnew, _, cgone, cby⟩ := rename_labels h hnew hr
  have fresh : ∀ x, t.N x ≠ none → x ≠ old → x ≠ new := by
    intro x hx hxo e'
    rcases hnew with e'' | e''
    · exact hxo (e'.trans e'')
    · rw [e'] at hx; exact hx e''
  refine ⟨fun _ _ _ => trivial, fun _ _ _ f => f.elim, ?_, ?_⟩
  · intro k' x' ax hl
    right
    by_cases hkn : k' = new
    · subst k'
      unfold TTN.Leg at hl
      rw [cnew] at hl
      have hxo : x' ≠ old := fun e' => leg_ne h hl e'.symm
      exact ⟨old, x', hl, trivial, (renRho_old ..).symm, (renRho_ne hxo).symm⟩
    · by_cases hko : k' = old
      · subst k'
        unfold TTN.Leg at hl
        rw [(cgone (Ne.symm hkn)).1] at hl
        cases hl
      · obtain ⟨x, hm, he⟩ := (leg_of_map (cby k' hkn hko).1).1 hl
        exact ⟨k', x, hm, trivial, (renRho_ne hko).symm, he⟩
  · intro k x ax hl _
    by_cases hko : k = old
    · subst k
      rw [renRho_old, renRho_ne (fun e' => leg_ne h hl e'.symm)]
      unfold TTN.Leg
      rw [cnew]; exact hl
    · have hkn : k ≠ new := fresh k (leg_isNode hl) hko
      rw [renRho_ne hko]
      exact (leg_of_map (cby k hkn hko).1).2 ⟨x, hl, rfl⟩

theorem rename_lwf {t t' : TTN} {new old : Id} (h : t.WF) (hl : t.LWF) (hnew : new = old ∨ t.N new = none)
    (hs : t.changeNodeIdentifier new old = some t') : t'.LWF :=
  (rename_edges h hnew hs).lwf hl fun _ _ _ f => f

/-- **`replace_tensor(id, same array with permuted axes, permutation)` changes no leg and no open axis.** -/
theorem rtp_labels {t t' : TTN} {id : Id} {p : Option (List Nat)} (h : t.WF)
    (hp : ∀ q, p = some q → q.Perm (List.range q.length))
    (hs : t.replaceTensorPermuted id p = some t') :
    ∀ k, t'.logical k = t.logical k ∧ t'.legPairs k = t.legPairs k ∧ t'.openAxes k = t.openAxes k := by
  obtain ⟨cur, newT, hl, hrt, hnone, hsome⟩ := replaceTensorPermuted_some hs
  obtain ⟨n, hn, n', hr, rfl⟩ := replaceTensor_eq_some.mp hrt
  obtain ⟨e1, e2, _, e4⟩ := replaceTensor_node hr
  -- the new pair (array, permutation) shows `cur`
  have e3 : transposeT newT n'.perm = some cur := by
    rw [e4]
    cases p with
    | none =>
      obtain ⟨T, hT, _⟩ := tensor_of_node h hn
      rw [logical_eq hn hT] at hl
      rw [hnone rfl, Option.getD_none, ← (transposeT_length hl).1]
      exact transposeT_range cur
    | some q =>
      obtain ⟨hlen, hnew⟩ := hsome q rfl
      exact transposeT_inverse (hp q rfl) hlen hnew
  intro k
  by_cases hk : k = id
  · subst hk
    have a1 : TTN.N { t with nodes := dset t.nodes k n', tensors := dset t.tensors k newT } k = some n' := by
      simp [TTN.N, dget_dset]
    have hlog := (logical_eq a1 (by simp [dget_dset])).trans e3
    refine ⟨by rw [hlog, hl], ?_, ?_⟩
    · rw [legPairs_eq a1 hlog, legPairs_eq hn hl]
      unfold NodeS.neighbours; rw [e1, e2]
    · rw [openAxes_eq a1 hlog, openAxes_eq hn hl, nvirt_congr e1 e2]
  · exact labels_of_same (by simp [TTN.N, dget_dset, hk]) (by simp [dget_dset, hk])

theorem TTN.LWF.of_legPairs {t t' : TTN} (hl : t.LWF) (c : ∀ k, t'.legPairs k = t.legPairs k) : t'.LWF := by
  constructor
  intro k x ax hk
  unfold TTN.Leg at hk ⊢
  rw [c k] at hk
  rw [c x]
  exact hl.sym _ _ _ hk

theorem rtp_lwf {t t' : TTN} {id : Id} {p : Option (List Nat)} (h : t.WF) (hl : t.LWF)
    (hp : ∀ q, p = some q → q.Perm (List.range q.length))
    (hs : t.replaceTensorPermuted id p = some t') : t'.LWF :=
  hl.of_legPairs fun k => (rtp_labels h hp hs k).2.1

theorem access_lwf {t t1 : TTN} {id : Id} {T : Tensor} (hl : t.LWF) (ha : t.access id = some (t1, T)) :
    t1.LWF :=
  hl.of_legPairs (access_labels ha).2.2.1

end Ptn.C02
