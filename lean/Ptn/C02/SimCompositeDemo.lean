import Ptn.C02.SimOps
import Ptn.C02.SimSplit
import Ptn.C02.SimDemo
import Ptn.C02.SimCompositeTdvp
import Ptn.C02.SimCompositeTrunc
/-! Concrete instances of the composite edits at the value level (used by the non-vacuity examples of `Props.lean`):
on the two-node network `1 — 2` of `SimDemo` (integer tensors): `contract_and_split_with_parent(2, 1)`, the two-site
update of `(2, 1)` with the two-site tensor doubled, the centre move `2 → 1` with an exact rank-3 factorisation of the
tensor of node `2`, and the link update `2 → 1` with the link tensor multiplied by 7. -/
namespace Ptn.C02
open NodeS Ptn.Ein Ptn.C03

namespace SimDemo

def uS : TTN.LegSpec := ⟨none, [], [0], false⟩
def wS : TTN.LegSpec := ⟨none, [], [1, 2], true⟩

theorem lbc21 : t0.legsBeforeCombination 2 1 = some (uS, wS) := rfl

/-- after `split_nodes(3, u, w, out = 2, in = 1)` -/
def t2c : TTN :=
  ⟨[(2, ⟨[1, 0], [2, 3], some 1, []⟩), (1, ⟨[0, 1, 2], [3, 2, 2], none, [2]⟩)],
   [(2, [⟨2, 2⟩, ⟨1000000, 3⟩]), (1, [⟨1000000, 3⟩, ⟨0, 2⟩, ⟨1, 2⟩])], some 1, 1000001⟩

theorem step2c : t1.step (.split 3 uS wS 2 1 3) = some t2c := rfl

theorem adm2c : (TOp.split 3 uS wS 2 1 3).Adm t1 :=
  ⟨_, ⟨rfl, Or.inr rfl, Or.inr rfl, List.Perm.refl _, Or.inr ⟨rfl, rfl, rfl, Or.inr ⟨rfl, rfl⟩⟩⟩⟩

theorem outLegs2c : splitOutLegs e g1 t2c 3 2 1 = [2] := by decide
theorem inLegs2c : splitInLegs e g1 t2c 3 2 1 = [0, 1] := by decide

def fact2c : SplitFact dim (v1.tens 3) (splitOutLegs e g1 t2c 3 2 1) (splitInLegs e g1 t2c 3 2 1) v1.next
    (v1.next + 1) where
  O := fun ρ => 5 * (ρ 2 : Int) - (ρ 100 : Int) + 2
  I := fun ρ => (ρ 0 : Int) + 2 * (ρ 101 : Int) + 3 * (ρ 1 : Int) + 1
  exact := v1_tens_exact
  readsO := by rw [outLegs2c]; exact v1_readsO
  readsI := by rw [inLegs2c]; exact v1_readsI

theorem simstep_contract21 : SimStep dim e t0 g v0 (.contract 2 1 3) t1 g1 v1 :=
  .contract (pid := 1) (cid := 2) (p := (50, 51)) step1 (Or.inr ⟨rfl, rfl⟩) rfl rfl (by simp [v0]) (Or.inl rfl)

/-- the simulated history of `contract_and_split_with_parent(2, 1)` -/
theorem simrun_contract_split : ∃ g' v', SimRun dim e t0 g v0 [.contract 2 1 3, .split 3 uS wS 2 1 3] t2c g' v' :=
  ⟨_, _, .cons (Or.inr (Or.inr rfl)) simstep_contract21 (.cons adm2c (.split fact2c step2c ⟨rfl, rfl⟩) (.nil _ _ _))⟩

/-- the two-site tensor after the local update: twice the contracted tensor -/
def X2 : Asg Nat → Int := fun ρ => 2 * v1.tens 3 ρ

theorem simrun_two_site_1 : SimRun dim e t0 g v0 [.contract 2 1 3] t1 g1 v1 :=
  .cons (Or.inr (Or.inr rfl)) simstep_contract21 (.nil _ _ _)

theorem simrun_wf {ops : List TOp} {t' : TTN} {g' : LegMap} {v' : VNet Int}
    (hr : SimRun dim e t0 g v0 ops t' g' v') : v'.WF ∧ RSim dim e g' t' v' ∧ t'.WF ∧ t'.LWF := by
  obtain ⟨_, _, w, l, vw, s, _, _⟩ := structural_history_preserves_value dim e t0_wf.1 t0_wf.2 v0_wf rsim0 hr
  exact ⟨vw, s, w, l⟩

theorem X2_reads : DependsOn (· ∈ v1.legs 3) X2 :=
  fun σ τ h => congrArg (2 * ·) ((simrun_wf simrun_two_site_1).1.reads 3 (by decide) σ τ h)

/-- after the access to node 3 (the permutation is reset) -/
def t1a : TTN :=
  ⟨[(3, ⟨[0, 1, 2], [2, 2, 2], none, []⟩)], [(3, [⟨2, 2⟩, ⟨0, 2⟩, ⟨1, 2⟩])], some 3, 1000000⟩

theorem step1a : t1.step (.access 3) = some t1a := rfl
theorem step2a : t1a.step (.split 3 uS wS 2 1 3) = some t2c := rfl

theorem adm2a : (TOp.split 3 uS wS 2 1 3).Adm t1a :=
  ⟨_, ⟨rfl, Or.inr rfl, Or.inr rfl, List.Perm.refl _, Or.inr ⟨rfl, rfl, rfl, Or.inr ⟨rfl, rfl⟩⟩⟩⟩

def fact2a : SplitFact dim ((setTens v1 3 X2).tens 3) (splitOutLegs e g1 t2c 3 2 1) (splitInLegs e g1 t2c 3 2 1)
    (setTens v1 3 X2).next ((setTens v1 3 X2).next + 1) where
  O := fun ρ => 2 * (5 * (ρ 2 : Int) - (ρ 100 : Int) + 2)
  I := fun ρ => (ρ 0 : Int) + 2 * (ρ 101 : Int) + 3 * (ρ 1 : Int) + 1
  exact := by
    intro τ
    show 2 * v1.tens 3 τ = _
    rw [v1_tens_exact, ← sumPairs_mul_left dim _ _ (fun _ => 2) (S := fun _ => False) (fun _ _ _ => rfl)
      (fun _ _ h => h)]
    exact sumPairs_congr dim _ (fun ρ => (mul_assoc _ _ _).symm) τ
  readsO := by
    rw [outLegs2c]
    exact fun σ τ h => congrArg (2 * ·) (v1_readsO σ τ h)
  readsI := by rw [inLegs2c]; exact v1_readsI

theorem simrun_two_site_2 : ∃ g' v', SimRun dim e t1 g1 (setTens v1 3 X2) [.access 3, .split 3 uS wS 2 1 3] t2c g' v' :=
  ⟨_, _, .cons trivial (.access step1a) (.cons adm2a (.split fact2a step2a ⟨rfl, rfl⟩) (.nil _ _ _))⟩

def node2 : NodeS := ⟨[1, 0], [2, 3], some 1, []⟩
def qS : TTN.LegSpec := ⟨none, [], [1], false⟩
def rS : TTN.LegSpec := ⟨some 1, [], [], false⟩

theorem t0_N2 : t0.N 2 = some node2 := rfl
theorem canon2 : TTN.canonSpecs node2 1 = some (qS, rS) := rfl
theorem tdvp2 : TTN.tdvpSpecs node2 1 = some (qS, rS) := rfl

/-- after `split_nodes(2, q, r, out = 2, in = 7)` with new bond dimension 3 -/
def tm1 : TTN :=
  ⟨[(1, ⟨[1, 0, 2], [2, 3, 2], none, [7]⟩), (2, ⟨[1, 0], [2, 3], some 7, []⟩), (7, ⟨[1, 0], [3, 3], some 1, [2]⟩)],
   [(1, [⟨0, 2⟩, ⟨100, 3⟩, ⟨1, 2⟩]), (2, [⟨2, 2⟩, ⟨1000000, 3⟩]), (7, [⟨1000000, 3⟩, ⟨100, 3⟩])], some 1, 1000001⟩

theorem stepm1 : t0.step (.split 2 qS rS 2 7 3) = some tm1 := rfl

theorem admm1 : (TOp.split 2 qS rS 2 7 3).Adm t0 :=
  ⟨_, ⟨rfl, Or.inl rfl, Or.inr rfl, List.Perm.refl _, Or.inl ⟨1, rfl, rfl, rfl, Or.inr ⟨rfl, rfl⟩⟩⟩⟩

theorem outLegsm : splitOutLegs e g tm1 2 2 7 = [2] := by decide
theorem inLegsm : splitInLegs e g tm1 2 2 7 = [51] := by decide

/-- an exact factorisation of `5·x₂ − x₅₁ + 2` over a bond of dimension 3 (the third column is zero) -/
def factm : SplitFact dim (v0.tens 2) (splitOutLegs e g tm1 2 2 7) (splitInLegs e g tm1 2 2 7) v0.next
    (v0.next + 1) where
  O := fun ρ => if ρ 100 = 0 then 5 * (ρ 2 : Int) + 2 else if ρ 100 = 1 then -1 else 0
  I := fun ρ => if ρ 101 = 0 then 1 else if ρ 101 = 1 then (ρ 51 : Int) else 0
  exact := by
    intro τ
    simp [v0, dim, sumPairs, sumR, upd, List.range_succ]
    try ring
  readsO := by
    rw [outLegsm]
    intro σ τ h
    have h0 := h 2 (by simp); have h1 := h 100 (by simp [v0])
    simp [h0, h1]
  readsI := by
    rw [inLegsm]
    intro σ τ h
    have h0 := h 51 (by simp); have h1 := h 101 (by simp [v0])
    simp [h0, h1]

def gm1 : LegMap := splitG 2 2 7 v0.next g
def vm1 : VNet Int := simSplit dim e g tm1 v0 2 2 7 factm

theorem simstep_split2 : SimStep dim e t0 g v0 (.split 2 qS rS 2 7 3) tm1 gm1 vm1 :=
  .split factm stepm1 ⟨rfl, rfl⟩

theorem simrun_link_1 : SimRun dim e t0 g v0 [.split 2 qS rS 2 7 3] tm1 gm1 vm1 :=
  .cons admm1 simstep_split2 (.nil _ _ _)

theorem vm1_wf : vm1.WF ∧ RSim dim e gm1 tm1 vm1 ∧ tm1.WF ∧ tm1.LWF := simrun_wf simrun_link_1

/-- after `contract_nodes(1, 7, new = 1)` (= after `contract_nodes(7, 1, new = 1)`) -/
def tm2 : TTN :=
  ⟨[(1, ⟨[2, 0, 1], [2, 2, 3], none, [2]⟩), (2, ⟨[1, 0], [2, 3], some 1, []⟩)],
   [(2, [⟨2, 2⟩, ⟨1000000, 3⟩]), (1, [⟨0, 2⟩, ⟨1, 2⟩, ⟨1000000, 3⟩])], some 1, 1000001⟩

theorem stepm2 : tm1.step (.contract 1 7 1) = some tm2 := rfl

/-- the simulated history of the centre move `2 → 1` -/
theorem simrun_centre_move : ∃ g' v', SimRun dim e t0 g v0 [.split 2 qS rS 2 7 3, .contract 1 7 1] tm2 g' v' := by
  obtain ⟨vw, s, w, l⟩ := vm1_wf
  obtain ⟨g2, v2, hst⟩ := simstep_complete dim e (op := .contract 1 7 1) w vw s trivial (Or.inl rfl) stepm2
    (by intro _ _ _ _ _ _ h; cases h) (by intro _ _ _ h; cases h)
  exact ⟨g2, v2, .cons admm1 simstep_split2 (.cons (Or.inl rfl) hst (.nil _ _ _))⟩

/-- the link tensor after the local update: 7 times the `R` factor -/
def X7 : Asg Nat → Int := fun ρ => 7 * vm1.tens 7 ρ

theorem mem7 : 7 ∈ vm1.ids := (vm1_wf.2.1.ids 7).2 (by decide)

theorem X7_reads : DependsOn (· ∈ vm1.legs 7) X7 :=
  fun σ τ h => congrArg (7 * ·) (vm1_wf.1.reads 7 mem7 σ τ h)

/-- after the access to the link node -/
def tm1a : TTN :=
  ⟨[(1, ⟨[1, 0, 2], [2, 3, 2], none, [7]⟩), (2, ⟨[1, 0], [2, 3], some 7, []⟩), (7, ⟨[0, 1], [3, 3], some 1, [2]⟩)],
   [(1, [⟨0, 2⟩, ⟨100, 3⟩, ⟨1, 2⟩]), (2, [⟨2, 2⟩, ⟨1000000, 3⟩]), (7, [⟨100, 3⟩, ⟨1000000, 3⟩])], some 1, 1000001⟩

theorem stepm1a : tm1.step (.access 7) = some tm1a := rfl
theorem stepm2a : ∃ t', tm1a.step (.contract 7 1 1) = some t' := ⟨_, rfl⟩

/-- the simulated second half of the link update `2 → 1`, from the network with the link tensor replaced -/
theorem simrun_link_2 : ∃ t' g' v', SimRun dim e tm1 gm1 (setTens vm1 7 X7) [.access 7, .contract 7 1 1] t' g' v' := by
  obtain ⟨vw, s, w, l⟩ := vm1_wf
  obtain ⟨t', hstep⟩ := stepm2a
  have s' : RSim dim e gm1 tm1a (setTens vm1 7 X7) :=
    (access_simulates dim e s (step_access_eq stepm1a).choose_spec).setTens 7 X7
  have w' : tm1a.WF := step_wf w (.access 7) trivial stepm1a
  obtain ⟨g2, v2, hst⟩ := simstep_complete dim e (op := .contract 7 1 1) w' (setTens_wf vw X7_reads) s' trivial
    (Or.inr (Or.inl rfl)) hstep (by intro _ _ _ _ _ _ h; cases h) (by intro _ _ _ h; cases h)
  exact ⟨t', g2, v2, .cons trivial (.access stepm1a) (.cons (Or.inr (Or.inl rfl)) hst (.nil _ _ _))⟩

def tids : TTN.TempIds := ⟨fun _ => 7, fun _ => 8, fun _ => 9⟩

/-- after `insert_identity(2, 1, 7)` -/
def ti1 : TTN :=
  ⟨[(1, ⟨[1, 0, 2], [2, 3, 2], none, [7]⟩), (2, ⟨[1, 0], [2, 3], some 7, []⟩), (7, ⟨[0, 1], [3, 3], some 1, [2]⟩)],
   [(1, [⟨0, 2⟩, ⟨100, 3⟩, ⟨1, 2⟩]), (2, [⟨2, 2⟩, ⟨100, 3⟩]), (7, [⟨100, 3⟩, ⟨100, 3⟩])], some 1, 1000000⟩

theorem stepi1 : t0.step (.ident 2 1 (tids.ident 2)) = some ti1 := rfl

def gi1 : LegMap := identG 2 1 7 v0.next (50, 51) g
def vi1 : VNet Int := simIdent e g ti1 v0 2 1 7 (50, 51)

/-- the fresh labels have the dimension of the bond `2 – 1` -/
theorem t0_bond_dim (ax : Axis) (hl : t0.Leg 2 1 ax) : dim v0.next = ax.dim ∧ dim (v0.next + 1) = ax.dim := by
  unfold TTN.Leg at hl
  rw [t0_legPairs] at hl
  simp at hl
  subst hl
  exact ⟨rfl, rfl⟩

theorem simrun_trunc_1 : SimRun dim e t0 g v0 [.ident 2 1 (tids.ident 2)] ti1 gi1 vi1 :=
  .cons (show t0.N 7 = none from rfl) (.ident stepi1 (by simp [v0]) (Or.inr (by decide)) t0_bond_dim) (.nil _ _ _)

theorem vi1_wf : vi1.WF ∧ RSim dim e gi1 ti1 vi1 ∧ ti1.WF ∧ ti1.LWF := simrun_wf simrun_trunc_1

/-- the matrix put on the bond: the projector on the first two of the three basis vectors -/
def Pi2 : Asg Nat → Int := fun ρ => if ρ 100 = ρ 101 ∧ ρ 100 < 2 then 1 else 0

theorem Pi2_reads : DependsOn (· ∈ vi1.legs (tids.ident 2)) Pi2 := by
  intro σ τ h
  have h0 := h 100 (by decide); have h1 := h 101 (by decide)
  simp [Pi2, h0, h1]

/-- after `split_nodes(7, (parent 1), (child 2), out = 8, in = 9)` -/
def ti2 : TTN :=
  ⟨[(1, ⟨[1, 0, 2], [2, 3, 2], none, [8]⟩), (2, ⟨[1, 0], [2, 3], some 9, []⟩),
    (8, ⟨[0, 1], [3, 3], some 1, [9]⟩), (9, ⟨[0, 1], [3, 3], some 8, [2]⟩)],
   [(1, [⟨0, 2⟩, ⟨100, 3⟩, ⟨1, 2⟩]), (2, [⟨2, 2⟩, ⟨100, 3⟩]), (8, [⟨100, 3⟩, ⟨1000000, 3⟩]),
    (9, [⟨1000000, 3⟩, ⟨100, 3⟩])], some 1, 1000001⟩

theorem stepi2 : ti1.step (.split (tids.ident 2) ⟨some 1, [], [], false⟩ ⟨none, [2], [], false⟩ (tids.star 2)
    (tids.proj 2) 3) = some ti2 := rfl

theorem admi2 : (TOp.split (tids.ident 2) ⟨some 1, [], [], false⟩ ⟨none, [2], [], false⟩ (tids.star 2)
    (tids.proj 2) 3).Adm ti1 :=
  ⟨_, ⟨rfl, Or.inr rfl, Or.inr rfl, List.Perm.refl _, Or.inl ⟨1, rfl, rfl, rfl, Or.inl ⟨rfl, rfl⟩⟩⟩⟩

theorem outLegsi : splitOutLegs e gi1 ti2 7 8 9 = [100] := by decide
theorem inLegsi : splitInLegs e gi1 ti2 7 8 9 = [101] := by decide

theorem pi2_sum (a b : Nat) : (if a = b ∧ a < 2 then (1 : Int) else 0) =
    (if a = 0 ∧ a < 2 then 1 else 0) * (if 0 = b then 1 else 0) +
    (if a = 1 ∧ a < 2 then 1 else 0) * (if 1 = b then 1 else 0) +
    (if a = 2 ∧ a < 2 then 1 else 0) * (if 2 = b then 1 else 0) := by
  rcases a with _ | _ | a
  · simp
  · simp
  · have h1 : ¬ (a + 1 + 1 < 2) := by omega
    simp [h1]

/-- the projector pair: `Π = P·Pc` over the new bond `(102, 103)` of dimension 3 -/
def facti : SplitFact dim ((setTens vi1 (tids.ident 2) Pi2).tens (tids.ident 2)) (splitOutLegs e gi1 ti2 7 8 9)
    (splitInLegs e gi1 ti2 7 8 9) (setTens vi1 (tids.ident 2) Pi2).next
    ((setTens vi1 (tids.ident 2) Pi2).next + 1) where
  O := fun ρ => if ρ 100 = ρ 102 ∧ ρ 100 < 2 then 1 else 0
  I := fun ρ => if ρ 103 = ρ 101 then 1 else 0
  exact := by
    intro τ
    show Pi2 τ = sumPairs dim [(102, 103)] _ τ
    have := pi2_sum (τ 100) (τ 101)
    simp [Pi2, dim, sumPairs, sumR, upd, List.range_succ]
    simpa [Int.add_assoc] using this
  readsO := by
    rw [outLegsi]
    intro σ τ h
    have h0 := h 100 (by decide)
    have h1 := h 102 (by decide)
    simp [h0, h1]
  readsI := by
    rw [inLegsi]
    intro σ τ h
    have h0 := h 101 (by decide)
    have h1 := h 103 (by decide)
    simp [h0, h1]

theorem simrun_trunc_2 : ∃ g' v', SimRun dim e ti1 gi1 (setTens vi1 (tids.ident 2) Pi2)
    [.split (tids.ident 2) ⟨some 1, [], [], false⟩ ⟨none, [2], [], false⟩ (tids.star 2) (tids.proj 2) 3] ti2 g' v' :=
  ⟨_, _, .cons admi2 (.split facti stepi2 ⟨rfl, rfl⟩) (.nil _ _ _)⟩

end SimDemo

end Ptn.C02
