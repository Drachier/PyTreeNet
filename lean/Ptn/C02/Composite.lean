import Ptn.C02.TTN
/-! Model for property C02: composite edits used by the algorithms.

* `linkUpdate`    ↔ `OneSiteTDVP._update_link` (`_split_updated_site` + `contract_nodes(link, next, new=next)`)
* `centreMove`    ↔ `canonical_form.split_qr_contract_r_to_neighbour` (`_build_qr_leg_specs`,
                     `split_node_qr(q_identifier=node)`, `contract_nodes(neighbour, r, new=neighbour)`)
* `twoSiteUpdate` ↔ `TwoSiteTDVP._update_two_site_nodes` (`legs_before_combination`, `contract_nodes`,
                     `split_node_svd(u_identifier=a, v_identifier=b)`)
* `contractSplit` ↔ `svd_truncation.contract_and_split_with_parent`
* `insertProjectors`, `truncateNode`, `recursiveTruncation` ↔ `pytreenet/core/truncation/recursive_truncation.py`
  (`insert_projection_operator_and_conjugate`, `truncate_node`, `recursive_truncation` without the
  canonicalisations before / after, which are sequences of `centreMove`s)

New bond dimensions are parameters (`bd`, `kdim`): the structure does not depend on them. -/
namespace Ptn.C02
namespace TTN

/-- `node.open_legs`. -/
def openIdx (n : NodeS) : List Nat := List.range' n.nvirt (n.nlegs - n.nvirt)

/-- Leg specifications of `OneSiteTDVP._split_updated_site(node_id, next_node_id)`. -/
def tdvpSpecs (node : NodeS) (next : Id) : Option (LegSpec × LegSpec) :=
  if next ∈ node.children then
    some (⟨node.parent, node.children.erase next, openIdx node, node.isRoot⟩, ⟨none, [next], [], false⟩)
  else if node.parent = some next then
    some (⟨none, node.children, openIdx node, false⟩, ⟨node.parent, [], [], false⟩)
  else none

/-- `_build_qr_leg_specs(node, min_neighbour_id)`. -/
def canonSpecs (node : NodeS) (nb : Id) : Option (LegSpec × LegSpec) :=
  if node.parent = some nb then
    some (⟨none, node.children, openIdx node, node.isRoot⟩, ⟨some nb, [], [], false⟩)
  else if nb ∉ node.children then none                              -- list.remove raises
  else some (⟨node.parent, node.children.erase nb, openIdx node, node.isRoot⟩, ⟨none, [nb], [], false⟩)

/-- `OneSiteTDVP._update_link(a, b)`; `link` = `create_link_id(a, b)`; `bd` = dimension of the new bond. -/
def linkUpdate (t : TTN) (a b link : Id) (bd : Nat) : Option TTN := do
  let node ← dget t.nodes a
  let (q, r) ← tdvpSpecs node b
  let t1 ← t.splitNodes a q r a link bd
  let (t2, _) ← t1.access link                     -- the link tensor is read, evolved and stored back
  t2.contractNodes link b b

/-- `split_qr_contract_r_to_neighbour(ttn, a, b)`; `rid` = the uuid of the R tensor. -/
def centreMove (t : TTN) (a b rid : Id) (bd : Nat) : Option TTN := do
  let node ← dget t.nodes a
  let (q, r) ← canonSpecs node b
  let t1 ← t.splitNodes a q r a rid bd
  t1.contractNodes b rid b

/-- `TwoSiteTDVP._update_two_site_nodes(a, b)`; `ts` = `create_two_site_id(a, b)`. -/
def twoSiteUpdate (t : TTN) (a b ts : Id) (bd : Nat) : Option TTN := do
  let (u, v) ← t.legsBeforeCombination a b
  let t1 ← t.contractNodes a b ts
  let (t2, _) ← t1.access ts                       -- psi = tensors[ts]; tensors[ts] = evolved psi
  t2.splitNodes ts u v a b bd

/-- `svd_truncation.contract_and_split_with_parent(a, parent)`; `ts` = the uuid of the contracted node. -/
def contractSplit (t : TTN) (a b ts : Id) (bd : Nat) : Option TTN := do
  let (u, v) ← t.legsBeforeCombination a b
  let t1 ← t.contractNodes a b ts
  t1.splitNodes ts u v a b bd

/-! ### recursive truncation -/

/-- Identifiers of the temporary nodes for the edge to child `c`: `identity_id`, `projector_identifier(…, True)`
    (the conjugated projector, stays next to the node), `projector_identifier(…, False)`. -/
structure TempIds where
  ident : Id → Id
  star : Id → Id
  proj : Id → Id

/-- `insert_projection_operator_and_conjugate(child, node, projector, tree)`; `k` = kept bond dimension. -/
def insertProjectors (t : TTN) (n c : Id) (ids : TempIds) (k : Nat) : Option TTN := do
  let t1 ← t.insertIdentity c n (ids.ident c)
  t1.splitNodes (ids.ident c) ⟨some n, [], [], false⟩ ⟨none, [c], [], false⟩ (ids.star c) (ids.proj c) k

/-- `contract_all_children(node_id, new_identifier)`. -/
def contractAllChildren (t : TTN) (n new : Id) : Option TTN := do
  let node ← dget t.nodes n
  node.children.foldlM (fun (t : TTN) c => t.contractNodes n c new) t

/-- First loop of `truncate_node`: for every original child, read the node tensor (for the projector) and
    insert projector and conjugate. -/
def truncLoop1 (t : TTN) (n : Id) (ids : TempIds) (kdim : Id → Nat) (cs : List Id) : Option TTN :=
  cs.foldlM (fun (t : TTN) c => do
    let (t', _) ← t.access n
    insertProjectors t' n c ids (kdim c)) t

/-- Third loop of `truncate_node`: every (projector) child of the node is contracted with its only child. -/
def truncLoop3 (t : TTN) (ps : List Id) : Option TTN :=
  ps.foldlM (fun (t : TTN) p => do
    let pn ← dget t.nodes p
    if pn.children.length ≠ 1 then none                          -- assert
    let oc ← pn.children[0]?
    t.contractAllChildren p oc) t

/-- `truncate_node` without the recursive calls. -/
def truncateNodeStep (t : TTN) (n : Id) (ids : TempIds) (kdim : Id → Nat) : Option TTN := do
  let node ← dget t.nodes n
  let t1 ← truncLoop1 t n ids kdim node.children
  let t2 ← t1.contractAllChildren n n
  let node2 ← dget t2.nodes n
  truncLoop3 t2 node2.children

/-- `truncate_node(node_id, tree, svd_params)`; `fuel` bounds the recursion depth (the height of the tree). -/
def truncateNode : Nat → TTN → Id → TempIds → (Id → Nat) → Option TTN
  | 0, _, _, _, _ => none
  | fuel + 1, t, n, ids, kdim => do
    let node ← dget t.nodes n
    let t3 ← truncateNodeStep t n ids kdim
    node.children.foldlM (fun (t : TTN) c => truncateNode fuel t c ids kdim) t3

/-- The temporary identifiers used by the driver: beyond every identifier in use (`m`), three per child. -/
def arithIds (m : Nat) : TempIds := ⟨fun c => m + 3 * c, fun c => m + 3 * c + 1, fun c => m + 3 * c + 2⟩

/-- `recursive_truncation` between its two canonicalisations (those are `centreMove`s). -/
def recursiveTruncation (t : TTN) (kdim : Id → Nat) : Option TTN := do
  let r ← t.root
  let m := (t.nodes.map (·.1)).foldl max 0 + 1
  truncateNode (t.nodes.length + 1) t r (arithIds m) kdim

end TTN
end Ptn.C02
