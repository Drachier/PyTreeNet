import Ptn.C02.RenNode
/-! `change_node_identifier`: the network after it key by key (`rename_core`), its structure as the graph
operation `renameS`, well-formedness. -/
namespace Ptn.C02
open NodeS

/-- `change_node_identifier` returns exactly when each of its steps does. -/
theorem changeNodeIdentifier_eq_some {t t' : TTN} {new old : Id} :
    t.changeNodeIdentifier new old = some t' ↔
      ∃ t1 L, t.access old = some (t1, L) ∧ ∃ ts, dpop t1.tensors old = some ts ∧
        if old = new then { t1 with tensors := dset ts new L } = t' else
          dhas t1.nodes old = true ∧ dhas t1.nodes new = false ∧
          ∃ t3, TTN.replaceNodeInNeighbours { t1 with tensors := dset ts new L } new old false = some t3 ∧
          ∃ node, dget t3.nodes old = some node ∧ ∃ ns, dpop t3.nodes old = some ns ∧
          { t3 with nodes := dset ns new node } = t' := by
  by_cases h : old = new <;>
  simp only [TTN.changeNodeIdentifier, h, Option.bind_eq_bind, Option.bind_none, Option.bind_eq_some_iff,
    Option.ite_none_left_eq_some, Prod.exists, ne_eq, not_true_eq_false, not_false_eq_true, if_true, if_false,
    Option.some.injEq, Bool.not_eq_true, Bool.not_eq_eq_eq_not, Bool.not_true, Bool.not_eq_false]

/-- Extensional description of `change_node_identifier(new, old)`: the node object and its array (now in
    logical order) move to the key `new`; every other node has its references renamed; the root follows. -/
theorem rename_core {t t' : TTN} {new old : Id} (h : t.WF)
    (hs : t.changeNodeIdentifier new old = some t') :
    ∃ X Ts L, t.N old = some X ∧ dget t.tensors old = some Ts ∧ transposeT Ts X.perm = some L ∧
      t'.N new = some X.resetPermutation ∧ (new ≠ old → t'.N old = none) ∧
      (∀ k, k ≠ new → k ≠ old → t'.N k = (t.N k).map (renNode (renRho old new))) ∧
      (∀ k, dget t'.tensors k = if k = new then some L else if k = old then none else dget t.tensors k) ∧
      t'.root = (if new = old ∨ ¬ X.parent = none then t.root else some new) := by
  obtain ⟨t1, L, hacc, ts, hpop, hs⟩ := changeNodeIdentifier_eq_some.mp hs
  obtain ⟨X, Ts, e1, e2, e3, rfl⟩ := access_eq hacc
  have hXN : t.N old = some X := e1
  obtain ⟨_, hts⟩ := dpop_eq_some _ _ _ hpop
  have hts' : ∀ k, dget ts k = if k = old then none else dget t.tensors k := by
    intro k; rw [hts k, dget_dset]; by_cases hk : k = old <;> simp [hk]
  by_cases hon : old = new
  · -- identity renaming
    rw [if_pos hon] at hs
    subst hs hon
    refine ⟨X, Ts, L, hXN, e2, e3, by simp [TTN.N, dget_dset], fun e => absurd rfl e, fun k hk _ => ?_,
      fun k => by simp only [dget_dset, hts' k], by simp⟩
    rw [renRho_self, map_renNode_id]
    simp [TTN.N, dget_dset, hk]
  · rw [if_neg hon] at hs
    obtain ⟨_, _, t3, hr, node, hnode, ns, hpop2, rfl⟩ := hs
    have hne : new ≠ old := fun e => hon e.symm
    have hN2 : ∀ k, TTN.N (⟨dset t.nodes old X.resetPermutation, dset ts new L, t.root,
        t.nextLabel⟩ : TTN) k = if k = old then some X.resetPermutation else t.N k := by
      intro k; simp [TTN.N, dget_dset]
    obtain ⟨hN3, hroot3, hten3⟩ := rnin_ren (O := X.resetPermutation) hne (by rw [hN2, if_pos rfl])
      (fun k n _ hk => by
        rw [hN2] at hk
        by_cases e : k = old
        · rw [if_pos e] at hk; cases hk; subst e; have := h.links hXN hXN; exact this
        · rw [if_neg e] at hk; have := h.links hXN hk; exact this) hr
    obtain ⟨_, hns⟩ := dpop_eq_some _ _ _ hpop2
    -- the record of `old` does not mention `old`
    obtain rfl : node = X.resetPermutation := by
      have : t3.N old = some node := hnode
      rw [hN3 old hon, hN2, if_pos rfl, if_neg (by simp), Option.map_some,
        h.renNode_self hXN X.resetPermutation rfl rfl] at this
      exact (Option.some.inj this).symm
    have hNf : ∀ k, TTN.N (⟨dset ns new X.resetPermutation, t3.tensors, t3.root, t3.nextLabel⟩ : TTN) k =
        if k = new then some X.resetPermutation else if k = old then none else t3.N k := by
      intro k
      simp only [TTN.N, dget_dset, hns k]
    refine ⟨X, Ts, L, hXN, e2, e3, by rw [hNf]; simp, fun _ => by rw [hNf]; simp [hon], fun k hk1 hk2 => ?_,
      fun k => ?_, ?_⟩
    · rw [hNf, if_neg hk1, if_neg hk2, hN3 k hk1, if_neg (by simp), hN2, if_neg hk2]
    · show dget t3.tensors k = _
      rw [hten3]
      simp only [dget_dset, hts' k]
    · show t3.root = _
      rw [hroot3]
      by_cases hg : X.parent = none <;> simp [hne, hg, resetPermutation]

theorem rename_S_eq {t t' : TTN} {new old : Id} {X : NodeS} (h : t.WF) (hX : t.N old = some X)
    (hNn : t'.N new = some X.resetPermutation) (hNo : t'.N old = none)
    (hby : ∀ k, k ≠ new → k ≠ old → t'.N k = (t.N k).map (renNode (renRho old new))) :
    t'.S = renameS t.S old new := by
  funext k
  unfold renameS
  by_cases hk1 : k = new
  · simp only [TTN.S, hk1, hNn, hX, Option.map_some, if_true]
    exact congrArg (fun n => some (structOf n)) (h.renNode_self (new := new) hX X rfl rfl).symm
  · rw [if_neg hk1]
    by_cases hk2 : k = old
    · rw [if_pos hk2, hk2, TTN.S, hNo]; rfl
    · rw [if_neg hk2, S_of_renNode (hby k hk1 hk2)]; rfl

/-- **`change_node_identifier(new, old)` keeps the network well-formed** when `new` is `old` or unused. -/
theorem changeNodeIdentifier_wf {t t' : TTN} {new old : Id} (h : t.WF) (hnew : new = old ∨ t.N new = none)
    (hs : t.changeNodeIdentifier new old = some t') : t'.WF := by
  obtain ⟨X, Ts, L, hXN, e2, e3, hNn, hNo, hby, hT', hroot'⟩ := rename_core h hs
  by_cases hon : old = new
  · subst hon
    refine wf_of_reset_at h hXN e2 e3 (fun k => ?_) (fun k => ?_) (by simpa using hroot')
    · by_cases hk : k = old
      · rw [hk, hNn]; simp
      · rw [hby k hk hk, renRho_self, map_renNode_id, if_neg hk]
    · rw [hT' k]; by_cases hk : k = old <;> simp [hk]
  have hne : new ≠ old := fun e => hon e.symm
  have hstr := renameS_swf h.str old new X.parent X.children (TTN.S_eq hXN) (by simp [TTN.S, hnew.resolve_left hne])
  have hroot : t'.root = if X.parent = none then some new else t.root := by
    rw [hroot']
    by_cases hg : X.parent = none <;> simp [hne, hg]
  rw [← rename_S_eq h hXN hNn (hNo hne) hby, ← hroot] at hstr
  refine wf_of_edit h (fun k => k = new ∨ k = old) (fun _ => renRho old new) hstr (fun k hto => ?_) fun k hto =>
    ⟨hby k (fun e => hto (Or.inl e)) (fun e => hto (Or.inr e)),
      by rw [hT', if_neg fun e => hto (Or.inl e), if_neg fun e => hto (Or.inr e)]⟩
  by_cases hk1 : k = new
  · subst hk1
    exact Or.inr ⟨_, L, hNn, by rw [hT', if_pos rfl], wfn_resetPermutation (h.node old X hXN),
      by rw [shapeOf_transposeT e3, h.fit old X Ts hXN e2]; rfl⟩
  · obtain rfl : k = old := hto.resolve_left hk1
    exact Or.inl ⟨hNo hne, by rw [hT', if_neg hk1, if_pos rfl]⟩

end Ptn.C02
