import Ptn.C02.SplitSpec
import Ptn.C02.SplitLogical
import Ptn.C02.RenNode
/-! `split_nodes`: admissible arguments (`SplitAdm`), the network after it key by key (`split_full`: the two nodes
of SplitSpec.lean with their legs from SplitLogical.lean, the two `replace_node_in_some_neighbours` calls rename the
references of everybody else, `split_rewire`), from that its structure as the graph operation `splitS` (`split_S_eq`)
and well-formedness. -/
namespace Ptn.C02
open NodeS

/-- Admissible arguments of `split_nodes` for the node `id` (= `X`) of `t`: the child identifiers of
    the two specifications partition the children of `X`; exactly one side takes the parent (or, for the
    root, exactly one side is flagged `is_root`); each new identifier is `id` itself or unused. -/
structure SplitAdm (t : TTN) (id : Id) (X : NodeS) (outL inL : TTN.LegSpec) (outId inId : Id) : Prop where
  node : t.N id = some X
  outFresh : outId = id ∨ t.N outId = none
  inFresh : inId = id ∨ t.N inId = none
  children : (outL.childLegs ++ inL.childLegs).Perm X.children
  parent :
    (∃ p, X.parent = some p ∧ outL.isRoot = false ∧ inL.isRoot = false ∧
      ((outL.parentLeg = some p ∧ inL.parentLeg = none) ∨ (outL.parentLeg = none ∧ inL.parentLeg = some p))) ∨
    (X.parent = none ∧ outL.parentLeg = none ∧ inL.parentLeg = none ∧
      ((outL.isRoot = true ∧ inL.isRoot = false) ∨ (outL.isRoot = false ∧ inL.isRoot = true)))

namespace SplitAdm
variable {t : TTN} {id : Id} {X : NodeS} {outL inL : TTN.LegSpec} {outId inId : Id}

theorem ne_of_node (adm : SplitAdm t id X outL inL outId inId) {k : Id} {n : NodeS} (hk : t.N k = some n)
    (hkid : k ≠ id) : k ≠ outId ∧ k ≠ inId := by
  constructor
  · intro e; subst e
    rcases adm.outFresh with e' | e'
    · exact hkid e'
    · rw [hk] at e'; simp at e'
  · intro e; subst e
    rcases adm.inFresh with e' | e'
    · exact hkid e'
    · rw [hk] at e'; simp at e'

/-- The children of the split node are genuine other nodes. -/
theorem child_node (adm : SplitAdm t id X outL inL outId inId) (h : t.WF) {c : Id} (hc : c ∈ X.children) :
    ∃ cn, t.N c = some cn ∧ cn.parent = some id ∧ c ≠ id ∧ c ≠ outId ∧ c ≠ inId := by
  obtain ⟨cn, hcn, hp⟩ := C02.child_node h adm.node hc
  have hcid : c ≠ id := (h.str.parent_ne (by rw [TTN.S_eq hcn, hp])).symm
  exact ⟨cn, hcn, hp, hcid, adm.ne_of_node hcn hcid⟩

/-- So is its parent, which is none of its children. -/
theorem parent_node (adm : SplitAdm t id X outL inL outId inId) (h : t.WF) {p : Id} (hp : X.parent = some p) :
    ∃ pn, t.N p = some pn ∧ id ∈ pn.children ∧ p ≠ id ∧ p ≠ outId ∧ p ≠ inId ∧ p ∉ X.children := by
  have hSX := TTN.S_eq adm.node
  obtain ⟨pn, hpn, hm⟩ := C02.parent_node h adm.node hp
  have hpid : p ≠ id := h.str.parent_ne (by rw [hSX, hp])
  refine ⟨pn, hpn, hm, hpid, (adm.ne_of_node hpn hpid).1, (adm.ne_of_node hpn hpid).2, fun hm' => ?_⟩
  obtain ⟨cch, hcS⟩ := h.str.down id _ _ p hSX hm'
  exact h.str.no_two_cycle (by rw [hSX, hp]) hcS

/-- Exactly one side keeps the role of the split node: its parent, or being the root. -/
theorem keeper (adm : SplitAdm t id X outL inL outId inId) :
    (outL.parentLeg = X.parent ∧ outL.isRoot = X.parent.isNone ∧ inL.parentLeg = none ∧ inL.isRoot = false) ∨
    (inL.parentLeg = X.parent ∧ inL.isRoot = X.parent.isNone ∧ outL.parentLeg = none ∧ outL.isRoot = false) := by
  rcases adm.parent with ⟨p, hXp, hro, hri, ⟨hop, hip⟩ | ⟨hop, hip⟩⟩ | ⟨hXp, hop, hip, ⟨hro, hri⟩ | ⟨hro, hri⟩⟩
  · exact Or.inl ⟨by rw [hop, hXp], by rw [hro, hXp]; rfl, hip, hri⟩
  · exact Or.inr ⟨by rw [hip, hXp], by rw [hri, hXp]; rfl, hop, hro⟩
  · exact Or.inl ⟨by rw [hop, hXp], by rw [hro, hXp]; rfl, hip, hri⟩
  · exact Or.inr ⟨by rw [hip, hXp], by rw [hri, hXp]; rfl, hop, hro⟩

theorem of_keeper (node : t.N id = some X) (outFresh : outId = id ∨ t.N outId = none)
    (inFresh : inId = id ∨ t.N inId = none) (children : (outL.childLegs ++ inL.childLegs).Perm X.children)
    (hk : (outL.parentLeg = X.parent ∧ outL.isRoot = X.parent.isNone ∧ inL.parentLeg = none ∧ inL.isRoot = false) ∨
      (inL.parentLeg = X.parent ∧ inL.isRoot = X.parent.isNone ∧ outL.parentLeg = none ∧ outL.isRoot = false)) :
    SplitAdm t id X outL inL outId inId := by
  refine ⟨node, outFresh, inFresh, children, ?_⟩
  revert hk
  cases X.parent with
  | none =>
    rintro (⟨hop, hro, hip, hri⟩ | ⟨hip, hri, hop, hro⟩)
    · exact Or.inr ⟨rfl, hop, hip, Or.inl ⟨hro, hri⟩⟩
    · exact Or.inr ⟨rfl, hop, hip, Or.inr ⟨hro, hri⟩⟩
  | some p =>
    rintro (⟨hop, hro, hip, hri⟩ | ⟨hip, hri, hop, hro⟩)
    · exact Or.inl ⟨p, rfl, hro, hri, Or.inl ⟨hop, hip⟩⟩
    · exact Or.inl ⟨p, rfl, hro, hri, Or.inr ⟨hop, hip⟩⟩

/-- Between them the two specifications name each neighbour of the split node once. -/
theorem nbrs_perm (adm : SplitAdm t id X outL inL outId inId) :
    (outL.allNeighbourIds ++ inL.allNeighbourIds).Perm X.neighbours := by
  unfold TTN.LegSpec.allNeighbourIds NodeS.neighbours
  rcases adm.keeper with ⟨hop, _, hip, _⟩ | ⟨hip, _, hop, _⟩
  · rw [hop, hip]
    cases X.parent with
    | none => exact adm.children
    | some p => exact adm.children.cons p
  · rw [hop, hip]
    cases X.parent with
    | none => exact adm.children
    | some p => exact List.perm_middle.trans (adm.children.cons p)

theorem mem_nbrs (adm : SplitAdm t id X outL inL outId inId) (x : Id) :
    (x ∈ outL.allNeighbourIds ∨ x ∈ inL.allNeighbourIds) ↔ x ∈ X.neighbours := by
  rw [← List.mem_append]
  exact adm.nbrs_perm.mem_iff

theorem nbrs_disjoint (adm : SplitAdm t id X outL inL outId inId) (h : t.WF) {x : Id}
    (ho : x ∈ outL.allNeighbourIds) (hi : x ∈ inL.allNeighbourIds) : False :=
  (List.nodup_append.1 (adm.nbrs_perm.nodup_iff.2 (neighbours_nodup h adm.node))).2.2 x ho x hi rfl

theorem children_split (adm : SplitAdm t id X outL inL outId inId) (h : t.WF) :
    outL.childLegs.Nodup ∧ inL.childLegs.Nodup ∧ (∀ c, c ∈ outL.childLegs → c ∉ inL.childLegs) ∧
      ∀ c, c ∈ X.children ↔ (c ∈ outL.childLegs ∨ c ∈ inL.childLegs) := by
  have d := List.nodup_append.mp (adm.children.symm.nodup (h.str.nodup id _ _ (TTN.S_eq adm.node)))
  exact ⟨d.1, d.2.1, fun c h1 h2 => d.2.2 c h1 c h2 rfl, fun c => by rw [← adm.children.mem_iff, List.mem_append]⟩

end SplitAdm

/-- `n'` is `n` with its references renamed (`splitRen`) and the same array bookkeeping: the relation in which
    `split_nodes_structure` (Props.lean) speaks; `renNode (splitSide ..)` gives it (`srel_splitSide`). -/
def SRel (x a b : Id) (aCh : List Id) (k : Id) (n n' : NodeS) : Prop :=
  n'.perm = n.perm ∧ n'.shp = n.shp ∧ structOf n' = splitRen x a b aCh k (structOf n)

/-- The reference `y` held by the node `k` after `split_nodes(id, …)`: a reference to the split node reads `inId` if
    the in-specification lists `k`, else `outId` (the second `replace_node_in_some_neighbours` call overrides nothing
    of the first: the two lists are disjoint). -/
def splitSide (id : Id) (inL : TTN.LegSpec) (outId inId : Id) (k y : Id) : Id :=
  if y = id then (if k ∈ inL.allNeighbourIds then inId else outId) else y

theorem splitSide_self (id : Id) (inL : TTN.LegSpec) (outId inId k : Id) :
    splitSide id inL outId inId k id = if k ∈ inL.allNeighbourIds then inId else outId := if_pos rfl

theorem splitSide_ne {id outId inId k y : Id} {inL : TTN.LegSpec} (h : y ≠ id) :
    splitSide id inL outId inId k y = y := if_neg h

/-- `splitRen` (by role: `a` in the place of `x`, `b` its new child, `aCh` the children `a` takes) is `splitSide` once
    it is known where `splitSide` sends the children on either side and the parent of `x`. -/
theorem TTN.WF.srel_splitSide {t : TTN} (h : t.WF) {x a b k outId inId : Id} {inL : TTN.LegSpec} {X n : NodeS}
    {aCh bCh : List Id} (hX : t.N x = some X) (hn : t.N k = some n)
    (hpart : ∀ c, c ∈ X.children ↔ (c ∈ aCh ∨ c ∈ bCh))
    (hA : ∀ c ∈ aCh, splitSide x inL outId inId c x = a) (hB : ∀ c ∈ bCh, splitSide x inL outId inId c x = b)
    (hP : ∀ p, X.parent = some p → splitSide x inL outId inId p x = a) :
    SRel x a b aCh k n (renNode (splitSide x inL outId inId k) n) := by
  refine ⟨rfl, rfl, ?_⟩
  rw [structOf, structOf, splitRen_mk, renNode_parent, renNode_children]
  congr 1
  · cases hp : n.parent with
    | none => rfl
    | some p =>
      rw [Option.map_some, Option.map_some]
      congr 1
      by_cases hpx : p = x
      · have hkX : k ∈ X.children := (h.parent_iff_mem hn hX).mp (hpx ▸ hp)
        rw [if_pos hpx, hpx]
        by_cases hka : k ∈ aCh
        · rw [if_pos hka, hA k hka]
        · rw [if_neg hka, hB k (((hpart k).mp hkX).resolve_left hka)]
      · rw [if_neg hpx, splitSide_ne hpx]
  · refine List.map_congr_left fun c hcm => ?_
    by_cases hcx : c = x
    · rw [if_pos hcx, hcx, hP k ((h.parent_iff_mem hX hn).mpr (hcx ▸ hcm))]
    · rw [if_neg hcx, splitSide_ne hcx]

theorem setRoot_eq {t t5 : TTN} {inL outL : TTN.LegSpec} {inId outId : Id}
    (h : t.setRootFromLegSpecs inL outL inId outId = some t5) :
    t5.nodes = t.nodes ∧ t5.tensors = t.tensors ∧
      t5.root = (if inL.isRoot then some inId else if outL.isRoot then some outId else t.root) := by
  unfold TTN.setRootFromLegSpecs at h
  by_cases h1 : inL.isRoot = true
  · by_cases h2 : outL.isRoot = true
    · simp [h1, h2] at h
    · simp only [h1, if_true, h2, Bool.false_eq_true, if_false, Option.some.injEq] at h
      subst h; simp [h1]
  · by_cases h2 : outL.isRoot = true
    · simp only [h1, Bool.false_eq_true, if_false, h2, if_true, Option.some.injEq] at h
      subst h; simp [h1, h2]
    · simp only [h1, Bool.false_eq_true, if_false, h2, Option.some.injEq] at h
      subst h; simp [h1, h2]

theorem mem_allNeighbourIds (ls : TTN.LegSpec) (k : Id) :
    k ∈ ls.allNeighbourIds ↔ (ls.parentLeg = some k ∨ k ∈ ls.childLegs) := by
  unfold TTN.LegSpec.allNeighbourIds
  cases hp : ls.parentLeg with
  | none => simp
  | some p =>
    simp only [List.mem_append, List.mem_cons, List.not_mem_nil, or_false, Option.some.injEq]
    constructor
    · rintro (e | e)
      · exact Or.inl e.symm
      · exact Or.inr e
    · rintro (e | e)
      · exact Or.inl e.symm
      · exact Or.inr e

theorem renRho_eq_splitSide {id outId inId k new : Id} {inL : TTN.LegSpec}
    (hs : new = if k ∈ inL.allNeighbourIds then inId else outId) :
    renRho id new = splitSide id inL outId inId k := by
  funext y
  unfold renRho splitSide
  rw [hs]

/-- The two `replace_node_in_some_neighbours` calls of `split_nodes`: every record other than the three touched
    ones has its reference to `id` renamed to the side that lists it, the three are left alone. -/
theorem split_rewire {t t2 t3 t4 : TTN} {id : Id} {X : NodeS} {outL inL : TTN.LegSpec} {outId inId : Id}
    (h : t.WF) (hXN : t.N id = some X)
    (hnb : ∀ k, k ∈ X.neighbours → k ≠ id ∧ k ≠ outId ∧ k ≠ inId)
    (hN2 : ∀ k, k ≠ outId → k ≠ inId → k ≠ id → t2.N k = t.N k)
    (hr3 : t2.replaceNodeInSomeNeighbours outId id outL.allNeighbourIds = some t3)
    (hr4 : t3.replaceNodeInSomeNeighbours inId id inL.allNeighbourIds = some t4)
    (hmem : ∀ k, k ∈ outL.allNeighbourIds ∨ k ∈ inL.allNeighbourIds ↔ k ∈ X.neighbours)
    (nd : (outL.allNeighbourIds ++ inL.allNeighbourIds).Nodup) :
    (∀ k, k ≠ outId → k ≠ inId → k ≠ id → t4.N k = (t.N k).map (renNode (splitSide id inL outId inId k))) ∧
    (∀ k, (k = outId ∨ k = inId ∨ k = id) → t4.N k = t2.N k) ∧
    t4.tensors = t2.tensors ∧ t4.root = t2.root := by
  obtain ⟨nd1, nd2, ndd⟩ := List.nodup_append.mp nd
  have hlisted : ∀ k n, k ∈ outL.allNeighbourIds ∨ k ∈ inL.allNeighbourIds → t2.N k = some n →
      t.N k = some n ∧ id ∈ n.neighbours ∧ n.children.Nodup ∧ (n.parent = some id → id ∉ n.children) := by
    intro k n hk hn
    have hX := (mem_neighbours X k).mp ((hmem k).mp hk)
    obtain ⟨q1, q2, q3⟩ := hnb k ((hmem k).mp hk)
    rw [hN2 k q2 q3 q1] at hn
    obtain ⟨l1, l2, l3, l4⟩ := h.links hXN hn
    exact ⟨hn, (mem_neighbours n id).mpr (hX.symm.imp l1.mpr l2.mpr), l3, l4⟩
  obtain ⟨hN3, hten3, hroot3⟩ := rnisn_ren nd1 (fun k n hk hn => (hlisted k n (Or.inl hk) hn).2) hr3
  obtain ⟨hN4, hten4, hroot4⟩ := rnisn_ren nd2 (fun k n hk hn => by
    rw [hN3, if_neg fun hk' => ndd k hk' k hk rfl] at hn
    exact (hlisted k n (Or.inr hk) hn).2) hr4
  refine ⟨fun k h1 h2 h3 => ?_, fun k hk => ?_, hten4.trans hten3, hroot4.trans hroot3⟩
  · rw [hN4, hN3, hN2 k h1 h2 h3]
    by_cases hi : k ∈ inL.allNeighbourIds
    · rw [if_pos hi, if_neg fun hk' => ndd k hk' k hi rfl, renRho_eq_splitSide (if_pos hi).symm]
    · rw [if_neg hi]
      by_cases ho : k ∈ outL.allNeighbourIds
      · rw [if_pos ho, renRho_eq_splitSide (if_neg hi).symm]
      · rw [if_neg ho]
        cases hn : t.N k with
        | none => rfl
        | some n =>
          -- not a neighbour of the split node: no reference to rename
          obtain ⟨l1, l2, _, _⟩ := h.links hXN hn
          have : renNode (splitSide id inL outId inId k) n = n := renNode_eq_self fun y hy => if_neg fun (e : y = id) =>
            (not_or.mpr ⟨ho, hi⟩) ((hmem k).mpr ((mem_neighbours X k).mpr
              (((mem_neighbours n id).mp (e ▸ hy)).symm.imp l2.mp l1.mp)))
          rw [Option.map_some, this]
  · have : k ∉ outL.allNeighbourIds ∧ k ∉ inL.allNeighbourIds := by
      refine not_or.mp fun hk' => ?_
      obtain ⟨q1, q2, q3⟩ := hnb k ((hmem k).mp hk')
      rcases hk with e | e | e
      · exact q2 e
      · exact q3 e
      · exact q1 e
    rw [hN4, if_neg this.2, hN3, if_neg this.1]

/-- The last steps of `split_nodes` (redirecting the neighbours of `id` to the two new nodes, setting the root,
    dropping `id`) in terms of the state `t2` in which the two new nodes are in place. -/
theorem split_closing {t t2 t3 t4 t5 t' : TTN} {id : Id} {X : NodeS} {outL inL : TTN.LegSpec} {outId inId : Id}
    (h : t.WF) (hXN : t.N id = some X) (hoi : ¬ outId = inId)
    (hnb : ∀ k, k ∈ X.neighbours → k ≠ id ∧ k ≠ outId ∧ k ≠ inId)
    {outNode inNode : NodeS} {outT inT L : Tensor}
    (hN2 : ∀ k, t2.N k = if k = outId then some outNode else if k = inId then some inNode
      else if k = id then some X.resetPermutation else t.N k)
    (hT2 : ∀ k, dget t2.tensors k = if k = inId then some inT else if k = outId then some outT
      else if k = id then some L else dget t.tensors k)
    (hroot2 : t2.root = t.root)
    (hr3 : t2.replaceNodeInSomeNeighbours outId id outL.allNeighbourIds = some t3)
    (hr4 : t3.replaceNodeInSomeNeighbours inId id inL.allNeighbourIds = some t4)
    (hr5 : t4.setRootFromLegSpecs inL outL inId outId = some t5)
    (hs : (if id ≠ outId ∧ id ≠ inId then
        (t5.tensorsPop id).bind fun t6 => (dpop t6.nodes id).bind fun ns => some { t6 with nodes := ns }
       else some t5) = some t')
    (hmem : ∀ k, k ∈ outL.allNeighbourIds ∨ k ∈ inL.allNeighbourIds ↔ k ∈ X.neighbours)
    (nd : (outL.allNeighbourIds ++ inL.allNeighbourIds).Nodup) :
    (∀ k, t'.N k = if k = outId then some outNode else if k = inId then some inNode else if k = id then none
                   else (t.N k).map (renNode (splitSide id inL outId inId k))) ∧
    (∀ k, dget t'.tensors k = if k = inId then some inT else if k = outId then some outT
                              else if k = id then none else dget t.tensors k) ∧
    t'.root = (if inL.isRoot then some inId else if outL.isRoot then some outId else t.root) := by
  -- the three steps in turn: the two redirections (`split_rewire`), the root (`setRoot_eq`), the drop of `id`
  -- unless one of the new nodes took its key (`hfinal`); then the three clauses are read off key by key
  obtain ⟨r1, r2, hten4, hroot4⟩ := split_rewire h hXN hnb
    (fun k k1 k2 k3 => by rw [hN2, if_neg k1, if_neg k2, if_neg k3]) hr3 hr4 hmem nd
  obtain ⟨hnodes5, hten5, hroot5'⟩ := setRoot_eq hr5
  rw [hroot4, hroot2] at hroot5'
  have hfinal : (∀ k, t'.N k = if (id ≠ outId ∧ id ≠ inId) ∧ k = id then none else t4.N k) ∧
      (∀ k, dget t'.tensors k =
        if (id ≠ outId ∧ id ≠ inId) ∧ k = id then none else dget t2.tensors k) ∧
      t'.root = t5.root := by
    by_cases hdrop : id ≠ outId ∧ id ≠ inId
    · rw [if_pos hdrop] at hs
      obtain ⟨t6, hpop, ns, hdp, hs⟩ : ∃ t6, t5.tensorsPop id = some t6 ∧ ∃ ns, dpop t6.nodes id = some ns ∧
          some { t6 with nodes := ns } = some t' := by
        simpa only [Option.bind_eq_some_iff] using hs
      simp only [Option.some.injEq] at hs
      subst hs
      obtain ⟨n6, Ts6, T6, ts6, g1, g2, g3, g4, rfl⟩ := tensorsPop_eq hpop
      obtain ⟨_, q1⟩ := dpop_eq_some _ _ _ hdp
      obtain ⟨_, q2⟩ := dpop_eq_some _ _ _ g4
      refine ⟨fun k => ?_, fun k => ?_, rfl⟩
      · simp only [TTN.N, q1 k, dget_dset, hnodes5]
        by_cases hk : k = id <;> simp [hk, hdrop]
      · simp only [q2 k, dget_dset, hten5, hten4]
        by_cases hk : k = id <;> simp [hk, hdrop]
    · rw [if_neg hdrop] at hs
      simp only [Option.some.injEq] at hs
      subst hs
      refine ⟨fun k => ?_, fun k => ?_, rfl⟩
      · simp [TTN.N, hdrop, hnodes5]
      · simp [hdrop, hten5, hten4]
  obtain ⟨fN, fT, fR⟩ := hfinal
  have hkeep : ∀ k, (k = outId ∨ k = inId) → ¬ ((id ≠ outId ∧ id ≠ inId) ∧ k = id) := fun k hk hcon =>
    hk.elim (fun e => hcon.1.1 (hcon.2.symm.trans e)) fun e => hcon.1.2 (hcon.2.symm.trans e)
  refine ⟨fun k => ?_, fun k => ?_, by rw [fR, hroot5']⟩
  · rw [fN]
    by_cases ko : k = outId
    · rw [if_pos ko, if_neg (hkeep k (Or.inl ko)), r2 k (Or.inl ko), hN2, if_pos ko]
    rw [if_neg ko]
    by_cases ki : k = inId
    · rw [if_pos ki, if_neg (hkeep k (Or.inr ki)), r2 k (Or.inr (Or.inl ki)), hN2, if_neg ko, if_pos ki]
    rw [if_neg ki]
    by_cases hkid : k = id
    · rw [if_pos hkid, if_pos ⟨⟨hkid ▸ ko, hkid ▸ ki⟩, hkid⟩]
    · rw [if_neg hkid, if_neg fun c => hkid c.2, r1 k ko ki hkid]
  · have hTin : dget t2.tensors inId = some inT := by rw [hT2, if_pos rfl]
    have hTout : dget t2.tensors outId = some outT := by rw [hT2, if_neg hoi, if_pos rfl]
    rw [fT]
    by_cases ki : k = inId
    · rw [if_pos ki, if_neg (hkeep k (Or.inr ki)), ki, hTin]
    rw [if_neg ki]
    by_cases ko : k = outId
    · rw [if_pos ko, if_neg (hkeep k (Or.inl ko)), ko, hTout]
    rw [if_neg ko]
    by_cases hkid : k = id
    · rw [if_pos hkid, if_pos ⟨⟨hkid ▸ ko, hkid ▸ ki⟩, hkid⟩]
    · rw [if_neg hkid, if_neg fun c => hkid c.2, hT2, if_neg ki, if_neg ko, if_neg hkid]

/-- `split_nodes` returns exactly when each of its steps does. -/
theorem splitNodes_eq_some {t t' : TTN} {id : Id} {outL inL : TTN.LegSpec} {outId inId : Id} {bd : Nat} :
    t.splitNodes id outL inL outId inId bd = some t' ↔
      ¬ outId = inId ∧ ∃ t1 L, t.access id = some (t1, L) ∧ ∃ node1, dget t1.nodes id = some node1 ∧
      ∃ outInt, outL.findLegValues node1 = some outInt ∧ ∃ inInt, inL.findLegValues node1 = some inInt ∧
      ∃ outT inT, TTN.splitAxes L outInt inInt ⟨t.nextLabel, bd⟩ = some (outT, inT) ∧
      ∃ inNode, TTN.buildInNode inT inL outL outId = some inNode ∧
      ∃ outNode, TTN.buildOutNode outT outL inL inId = some outNode ∧
      ∃ t3, TTN.replaceNodeInSomeNeighbours
          { nodes := dset (dset (dset (dset t1.nodes outId (nodeOfTensor outT)) inId (nodeOfTensor inT)) inId inNode)
              outId outNode,
            tensors := dset (dset t1.tensors outId outT) inId inT, root := t1.root,
            nextLabel := t.nextLabel + 1 } outId id outL.allNeighbourIds = some t3 ∧
      ∃ t4, t3.replaceNodeInSomeNeighbours inId id inL.allNeighbourIds = some t4 ∧
      ∃ t5, t4.setRootFromLegSpecs inL outL inId outId = some t5 ∧
      (if id ≠ outId ∧ id ≠ inId then
        (t5.tensorsPop id).bind fun t6 => (dpop t6.nodes id).bind fun ns => some { t6 with nodes := ns }
       else some t5) = some t' := by
  simp only [TTN.splitNodes, Option.bind_eq_bind, Option.bind_none, Option.bind_eq_some_iff,
    Option.ite_none_left_eq_some, Prod.exists]

/-- **What `split_nodes` does**, in the names of the call: `t'` is `t` with the node `id` (record `X`, logical axes
    `L`) replaced by the two nodes `outId`, `inId` with records `outNode`, `inNode` and arrays `outT`, `inT`, which
    they show as `Lo`, `Li`. -/
structure SplitFull (t t' : TTN) (id : Id) (X : NodeS) (outL inL : TTN.LegSpec) (outId inId : Id) (bd : Nat)
    (outNode inNode : NodeS) (outT inT L Lo Li : Tensor) : Prop where
  ne : outId ≠ inId
  logical : t.logical id = some L
  N : ∀ k, t'.N k = if k = outId then some outNode else if k = inId then some inNode else if k = id then none
                    else (t.N k).map (renNode (splitSide id inL outId inId k))
  tensors : ∀ k, dget t'.tensors k = if k = inId then some inT else if k = outId then some outT
                                     else if k = id then none else dget t.tensors k
  root : t'.root = (if inL.isRoot then some inId else if outL.isRoot then some outId else t.root)
  wfn_out : WFN outNode
  wfn_in : WFN inNode
  shp_out : outNode.shp = shapeOf outT
  shp_in : inNode.shp = shapeOf inT
  -- which side keeps the role of the split node (its parent, or being the root) and has the other as first child
  keeper :
    (outL.parentLeg = X.parent ∧ outL.isRoot = X.parent.isNone ∧ inL.parentLeg = none ∧ inL.isRoot = false ∧
        outNode.parent = X.parent ∧ outNode.children = inId :: outL.childLegs ∧
        inNode.parent = some outId ∧ inNode.children = inL.childLegs) ∨
    (inL.parentLeg = X.parent ∧ inL.isRoot = X.parent.isNone ∧ outL.parentLeg = none ∧ outL.isRoot = false ∧
        inNode.parent = X.parent ∧ inNode.children = outId :: inL.childLegs ∧
        outNode.parent = some inId ∧ outNode.children = outL.childLegs)
  shows_out : transposeT outT outNode.perm = some Lo
  shows_in : transposeT inT inNode.perm = some Li
  legs_out : ∀ x ax, (x, ax) ∈ outNode.neighbours.zip Lo ↔
    ((x = inId ∧ ax = ⟨t.nextLabel, bd⟩) ∨ (x ∈ outL.allNeighbourIds ∧ legAx X L x = some ax))
  legs_in : ∀ x ax, (x, ax) ∈ inNode.neighbours.zip Li ↔
    ((x = outId ∧ ax = ⟨t.nextLabel, bd⟩) ∨ (x ∈ inL.allNeighbourIds ∧ legAx X L x = some ax))
  open_out : Lo.drop outNode.nvirt = pick L outL.openLegs
  open_in : Li.drop inNode.nvirt = pick L inL.openLegs
  open_perm : (outL.openLegs ++ inL.openLegs).Perm (List.range' X.nvirt (X.nlegs - X.nvirt))

theorem split_full {t t' : TTN} {id : Id} {X : NodeS} {outL inL : TTN.LegSpec} {outId inId : Id}
    {bd : Nat} (h : t.WF) (adm : SplitAdm t id X outL inL outId inId)
    (hs : t.splitNodes id outL inL outId inId bd = some t') :
    ∃ outNode inNode outT inT L Lo Li,
      SplitFull t t' id X outL inL outId inId bd outNode inNode outT inT L Lo Li := by
  obtain ⟨hoi, t1, L, hacc, X', hX', outInt, hoint, inInt, hiint, outT, inT, hsa, inNode, hbi, outNode, hbo,
    t3, hr3, t4, hr4, t5, hr5, hs⟩ := splitNodes_eq_some.mp hs
  obtain ⟨X'', Ts, e1, e2, e3, rfl⟩ := access_eq hacc
  have hXn := adm.node
  unfold TTN.N at hXn
  rw [hXn] at e1; simp at e1; subst e1
  simp only [dget_dset, if_true, Option.some.injEq] at hX'
  subst hX'
  generalize ht2 : (TTN.mk _ _ _ _) = t2 at hr3
  have hN2 : ∀ k, t2.N k = if k = outId then some outNode else if k = inId then some inNode
      else if k = id then some X.resetPermutation else t.N k := by
    intro k
    rw [← ht2]
    simp only [TTN.N, dget_dset]
    by_cases h1 : k = outId
    · simp [h1]
    · by_cases h2 : k = inId
      · simp [h2]
      · simp [h1, h2]
  have hT2 : ∀ k, dget t2.tensors k = if k = inId then some inT else if k = outId then some outT
      else if k = id then some L else dget t.tensors k := by
    intro k
    rw [← ht2]
    simp only [dget_dset]
  have hroot2 : t2.root = t.root := by rw [← ht2]
  clear ht2
  have hstr := h.str
  have hXN : t.N id = some X := adm.node
  have hSX := TTN.S_eq hXN
  have hXnd : X.children.Nodup := hstr.nodup id _ _ hSX
  obtain ⟨hond, hind, hdisj, hmemX⟩ := adm.children_split h
  have hchild : ∀ c, c ∈ X.children → ∃ cn, t.N c = some cn ∧ c ≠ id ∧ c ≠ outId ∧ c ≠ inId := fun c hc =>
    let ⟨cn, q, _, q'⟩ := adm.child_node h hc
    ⟨cn, q, q'⟩
  have hgp : ∀ p, X.parent = some p → ∃ pn, t.N p = some pn ∧ p ≠ id ∧ p ≠ outId ∧ p ≠ inId ∧
      p ∉ X.children := fun p hp =>
    let ⟨pn, q, _, q'⟩ := adm.parent_node h hp
    ⟨pn, q, q'⟩
  have hio : ¬ inId = outId := fun e => hoi e.symm
  have hout_notin : outId ∉ X.children := fun hm => by
    obtain ⟨_, _, _, q, _⟩ := hchild outId hm; exact q rfl
  have hin_notin : inId ∉ X.children := fun hm => by
    obtain ⟨_, _, _, _, q⟩ := hchild inId hm; exact q rfl
  have hnd_in_out : (inId :: outL.childLegs).Nodup :=
    List.nodup_cons.mpr ⟨fun hm => hin_notin ((hmemX inId).mpr (Or.inl hm)), hond⟩
  have hnd_out_in : (outId :: inL.childLegs).Nodup :=
    List.nodup_cons.mpr ⟨fun hm => hout_notin ((hmemX outId).mpr (Or.inr hm)), hind⟩
  -- the two arrays in blocks `(parent?, children…, open…)`, as the leg specifications order them
  obtain ⟨Om, Im, hOm, hIm, houtT, hinT⟩ := splitAxes_blocks hsa
  obtain ⟨PaO, Oc, Oo, cvO, hOmB, hPaO, hcvO, hOc, hOo⟩ := side_blocks hoint hOm
  obtain ⟨PaI, Ic, Io, cvI, hImB, hPaI, hcvI, hIc, hIo⟩ := side_blocks hiint hIm
  obtain ⟨hOcl, hOcm⟩ := zip_children_axes (L := L) hcvO hOc
  obtain ⟨hIcl, hIcm⟩ := zip_children_axes (L := L) hcvI hIc
  have hlogL : t.logical id = some L := by rw [logical_eq hXN e2]; exact e3
  have hpickO : pick L outL.openLegs = Oo := pick_of_mapM hOo
  have hpickI : pick L inL.openLegs = Io := pick_of_mapM hIo
  have hopen : (outL.openLegs ++ inL.openLegs).Perm
      (List.range' X.nvirt (X.nlegs - X.nvirt)) := by
    obtain ⟨moved, hmoved, -, -⟩ := splitAxes_eq_some.mp hsa
    refine split_open_perm (X := X) hXnd ?_ (transposeT_length e3).1 (h.node id X hXN).virt
      adm.children ?_ hoint hiint hmoved
    · intro c hc e
      obtain ⟨_, _, _, _, _, q⟩ := hgp c e
      exact q hc
    · exact adm.keeper.imp (fun c => ⟨c.1, c.2.2.1⟩) fun c => ⟨c.1, c.2.2.1⟩
  have hnd := adm.nbrs_perm.symm.nodup (neighbours_nodup h hXN)
  have hnb : ∀ k, k ∈ X.neighbours → k ≠ id ∧ k ≠ outId ∧ k ≠ inId := fun k hk =>
    ((mem_neighbours X k).mp hk).elim (fun e => let ⟨_, _, q⟩ := hgp k e; ⟨q.1, q.2.1, q.2.2.1⟩)
      fun e => let ⟨_, _, q⟩ := hchild k e; q
  have hpar_ids : X.parent ≠ some outId ∧ X.parent ≠ some inId :=
    ⟨fun e => let ⟨_, _, _, q, _⟩ := hgp _ e; q rfl, fun e => let ⟨_, _, _, _, q, _⟩ := hgp _ e; q rfl⟩
  obtain ⟨cN, cT, cR⟩ := split_closing h hXN hoi hnb hN2 hT2 hroot2 hr3 hr4 hr5 hs adm.mem_nbrs hnd
  rcases adm.keeper with ⟨hop, hro, hip, hri⟩ | ⟨hip, hri, hop, hro⟩
  · -- out keeps the parent or becomes the root
    rw [hop] at hPaO
    obtain rfl : PaI = [] := by
      rcases hPaI with ⟨_, q⟩ | ⟨_, _, q, _⟩
      · exact q
      · rw [hip] at q; cases q
    have houtT' : outT = PaO ++ (Oc ++ Oo) ++ [⟨t.nextLabel, bd⟩] := by rw [houtT, hOmB]; simp
    have hinT' : inT = ⟨t.nextLabel, bd⟩ :: (Ic ++ Io) := by rw [hinT, hImB]; simp
    subst houtT' hinT'
    obtain ⟨on', u1, u2, u3, u4, u5, u6⟩ := out_node_keeper_logical outL inL inId ⟨t.nextLabel, bd⟩ PaO Oc Oo
      hop hro (hPaO.imp (fun q => q) fun ⟨p, a0, q, r, _⟩ => ⟨p, a0, q, r⟩) hri hip hOcl hnd_in_out
    obtain rfl : on' = outNode := Option.some.inj (u1.symm.trans hbo)
    obtain ⟨in', v1, v2, v3, v4, v5, v6⟩ := in_node_child_logical inL outL outId
      ⟨t.nextLabel, bd⟩ Ic Io hip hri hIcl hind
    obtain rfl : in' = inNode := Option.some.inj (v1.symm.trans hbi)
    obtain ⟨k1, k2⟩ := keeper_legs (X := X) (L := L) (bond := ⟨t.nextLabel, bd⟩) (Ao := Oo)
      u4 u5 hPaO hOcl hOcm hpar_ids.2
    obtain ⟨m1, m2⟩ := other_legs (X := X) (L := L) (bond := ⟨t.nextLabel, bd⟩) (Bo := Io) v4 v5 hIcl hIcm
    exact ⟨_, _, _, _, L, _, _, hoi, hlogL, cN, cT, cR, u2, v2, u3, v3,
      Or.inl ⟨hop, hro, hip, hri, u4, u5, v4, v5⟩, u6, v6,
      fun x ax => by rw [mem_allNeighbourIds, hop]; exact k1 x ax,
      fun x ax => by rw [mem_allNeighbourIds, hip, or_iff_right (a := none = some x) nofun]; exact m1 x ax,
      k2.trans hpickO.symm, m2.trans hpickI.symm, hopen⟩
  · -- in keeps the parent or becomes the root
    rw [hip] at hPaI
    obtain rfl : PaO = [] := by
      rcases hPaO with ⟨_, q⟩ | ⟨_, _, q, _⟩
      · exact q
      · rw [hop] at q; cases q
    have houtT' : outT = Oc ++ Oo ++ [⟨t.nextLabel, bd⟩] := by rw [houtT, hOmB]; simp
    have hinT' : inT = ⟨t.nextLabel, bd⟩ :: (PaI ++ (Ic ++ Io)) := by rw [hinT, hImB]; simp
    subst houtT' hinT'
    obtain ⟨in', v1, v2, v3, v4, v5, v6⟩ := in_node_keeper_logical inL outL outId ⟨t.nextLabel, bd⟩ PaI Ic Io
      hip hri (hPaI.imp (fun q => q) fun ⟨p, a0, q, r, _⟩ => ⟨p, a0, q, r⟩) (fun _ => hop) hIcl hnd_out_in
    obtain rfl : in' = inNode := Option.some.inj (v1.symm.trans hbi)
    obtain ⟨on', u1, u2, u3, u4, u5, u6⟩ := out_node_child_logical outL inL inId
      ⟨t.nextLabel, bd⟩ Oc Oo hop hro (by rw [hri, hip]; cases X.parent <;> simp) hOcl hond
    obtain rfl : on' = outNode := Option.some.inj (u1.symm.trans hbo)
    obtain ⟨k1, k2⟩ := keeper_legs (X := X) (L := L) (bond := ⟨t.nextLabel, bd⟩) (Ao := Io)
      v4 v5 hPaI hIcl hIcm hpar_ids.1
    obtain ⟨m1, m2⟩ := other_legs (X := X) (L := L) (bond := ⟨t.nextLabel, bd⟩) (Bo := Oo) u4 u5 hOcl hOcm
    exact ⟨_, _, _, _, L, _, _, hoi, hlogL, cN, cT, cR, u2, v2, u3, v3,
      Or.inr ⟨hip, hri, hop, hro, v4, v5, u4, u5⟩, u6, v6,
      fun x ax => by rw [mem_allNeighbourIds, hop, or_iff_right (a := none = some x) nofun]; exact m1 x ax,
      fun x ax => by rw [mem_allNeighbourIds, hip]; exact k1 x ax,
      m2.trans hpickO.symm, k2.trans hpickI.symm, hopen⟩

theorem ite_ite_swap {α : Type} {k x y : Id} (hxy : x ≠ y) (u v w : α) :
    (if k = x then u else if k = y then v else w) = if k = y then v else if k = x then u else w := by
  by_cases h1 : k = x
  · rw [if_pos h1, if_neg (h1 ▸ hxy), if_pos h1]
  · rw [if_neg h1, if_neg h1]

/-- `SplitFull` with the two sides named by their role in the tree: `a` (record `na`, array `Ta`) takes the place of the
    split node, `b` (`nb`, `Tb`) is its new first child; `aCh`, `bCh` the children they take. -/
structure SplitRoles (t t' : TTN) (id : Id) (X : NodeS) (outL inL : TTN.LegSpec) (outId inId : Id)
    (a b : Id) (aCh bCh : List Id) (na nb : NodeS) (Ta Tb : Tensor) : Prop where
  cfg : (a = outId ∧ b = inId ∧ aCh = outL.childLegs ∧ bCh = inL.childLegs) ∨
        (a = inId ∧ b = outId ∧ aCh = inL.childLegs ∧ bCh = outL.childLegs)
  ne : a ≠ b
  part : ∀ c, c ∈ X.children ↔ (c ∈ aCh ∨ c ∈ bCh)
  disj : ∀ c, c ∈ aCh → c ∉ bCh
  nodup_a : aCh.Nodup
  nodup_b : bCh.Nodup
  side_a : ∀ c ∈ aCh, splitSide id inL outId inId c id = a
  side_b : ∀ c ∈ bCh, splitSide id inL outId inId c id = b
  side_parent : ∀ p, X.parent = some p → splitSide id inL outId inId p id = a
  parent_a : na.parent = X.parent
  children_a : na.children = b :: aCh
  parent_b : nb.parent = some a
  children_b : nb.children = bCh
  wfn_a : WFN na
  wfn_b : WFN nb
  shp_a : na.shp = shapeOf Ta
  shp_b : nb.shp = shapeOf Tb
  N : ∀ k, t'.N k = if k = a then some na else if k = b then some nb else if k = id then none
                    else (t.N k).map (renNode (splitSide id inL outId inId k))
  tensors : ∀ k, dget t'.tensors k = if k = a then some Ta else if k = b then some Tb
                                     else if k = id then none else dget t.tensors k
  root : t'.root = (if X.parent = none then some a else t.root)
  takes : (a = outId ∧ (outL.parentLeg.isSome = true ∨ outL.isRoot = true)) ∨
          (a = inId ∧ (inL.parentLeg.isSome = true ∨ inL.isRoot = true))

theorem split_full_roles {t t' : TTN} {id : Id} {X : NodeS} {outL inL : TTN.LegSpec} {outId inId : Id}
    {bd : Nat} (h : t.WF) (adm : SplitAdm t id X outL inL outId inId)
    (hs : t.splitNodes id outL inL outId inId bd = some t') :
    ∃ a b aCh bCh na nb Ta Tb, SplitRoles t t' id X outL inL outId inId a b aCh bCh na nb Ta Tb := by
  obtain ⟨outNode, inNode, outT, inT, L, _, _, F⟩ := split_full h adm hs
  obtain ⟨hond, hind, hdisj, hmemX⟩ := adm.children_split h
  have hout : ∀ c, c ∈ outL.allNeighbourIds → splitSide id inL outId inId c id = outId := fun c hc => by
    rw [splitSide_self, if_neg fun hi => adm.nbrs_disjoint h hc hi]
  have hin : ∀ c, c ∈ inL.allNeighbourIds → splitSide id inL outId inId c id = inId := fun c hc => by
    rw [splitSide_self, if_pos hc]
  rcases F.keeper with ⟨hop, hro, hip, hri, q1, q2, q3, q4⟩ | ⟨hip, hri, hop, hro, q1, q2, q3, q4⟩
  · refine ⟨outId, inId, outL.childLegs, inL.childLegs, outNode, inNode, outT, inT, Or.inl ⟨rfl, rfl, rfl, rfl⟩, F.ne,
      hmemX, hdisj, hond, hind, fun c hc => hout c ((mem_allNeighbourIds _ _).mpr (Or.inr hc)),
      fun c hc => hin c ((mem_allNeighbourIds _ _).mpr (Or.inr hc)),
      fun p hp => hout p ((mem_allNeighbourIds _ _).mpr (Or.inl (hop.trans hp))), q1, q2, q3, q4,
      F.wfn_out, F.wfn_in, F.shp_out, F.shp_in, F.N, fun k => by rw [F.tensors, ite_ite_swap (Ne.symm F.ne)], ?_,
      Or.inl ⟨rfl, ?_⟩⟩
    · rw [F.root, hri, hro]; cases X.parent <;> rfl
    · rw [hro, hop]; cases X.parent <;> simp
  · refine ⟨inId, outId, inL.childLegs, outL.childLegs, inNode, outNode, inT, outT, Or.inr ⟨rfl, rfl, rfl, rfl⟩,
      Ne.symm F.ne, fun c => (hmemX c).trans Or.comm, fun c h1 h2 => hdisj c h2 h1, hind, hond,
      fun c hc => hin c ((mem_allNeighbourIds _ _).mpr (Or.inr hc)),
      fun c hc => hout c ((mem_allNeighbourIds _ _).mpr (Or.inr hc)),
      fun p hp => hin p ((mem_allNeighbourIds _ _).mpr (Or.inl (hip.trans hp))), q1, q2, q3, q4,
      F.wfn_in, F.wfn_out, F.shp_in, F.shp_out, fun k => by rw [F.N, ite_ite_swap F.ne], F.tensors, ?_,
      Or.inr ⟨rfl, ?_⟩⟩
    · rw [F.root, hri, hro]; cases X.parent <;> rfl
    · rw [hri, hip]; cases X.parent <;> simp

theorem splitS_of_N {t t' : TTN} {id a b outId inId : Id} {outL inL : TTN.LegSpec} {X na nb : NodeS}
    {aCh bCh : List Id} {Ta Tb : Tensor} (h : t.WF) (hX : t.N id = some X)
    (R : SplitRoles t t' id X outL inL outId inId a b aCh bCh na nb Ta Tb) :
    t'.S = splitS t.S id a b X.parent aCh bCh := by
  funext k
  unfold splitS
  rw [TTN.S, R.N]
  by_cases hka : k = a
  · rw [if_pos hka, if_pos hka, Option.map_some, structOf, R.parent_a, R.children_a]
  rw [if_neg hka, if_neg hka]
  by_cases hkb : k = b
  · rw [if_pos hkb, if_pos hkb, Option.map_some, structOf, R.parent_b, R.children_b]
  rw [if_neg hkb, if_neg hkb]
  by_cases hkid : k = id
  · rw [if_pos hkid, if_pos hkid]; rfl
  rw [if_neg hkid, if_neg hkid]
  cases hn : t.N k with
  | none => simp [TTN.S, hn]
  | some n =>
    rw [TTN.S_eq hn, Option.map_some, Option.map_some]
    exact congrArg some (h.srel_splitSide hX hn R.part R.side_a R.side_b R.side_parent).2.2

/-- `split_nodes` on the structure: `a` = the side that takes the parent / the root flag. -/
theorem split_S_eq {t t' : TTN} {id : Id} {X : NodeS} {outL inL : TTN.LegSpec} {outId inId : Id}
    {bd : Nat} (h : t.WF) (adm : SplitAdm t id X outL inL outId inId)
    (hs : t.splitNodes id outL inL outId inId bd = some t') :
    ∃ a b aCh bCh,
      ((a = outId ∧ b = inId ∧ aCh = outL.childLegs ∧ bCh = inL.childLegs ∧
          (outL.parentLeg.isSome = true ∨ outL.isRoot = true)) ∨
       (a = inId ∧ b = outId ∧ aCh = inL.childLegs ∧ bCh = outL.childLegs ∧
          (inL.parentLeg.isSome = true ∨ inL.isRoot = true))) ∧
      t'.S = splitS t.S id a b X.parent aCh bCh ∧
      t'.root = (if X.parent = none then some a else t.root) := by
  obtain ⟨a, b, aCh, bCh, na, nb, Ta, Tb, R⟩ := split_full_roles h adm hs
  have hoi : outId ≠ inId := by
    rcases R.cfg with ⟨e1, e2, _⟩ | ⟨e1, e2, _⟩
    · rw [← e1, ← e2]; exact R.ne
    · rw [← e1, ← e2]; exact fun e => R.ne e.symm
  refine ⟨a, b, aCh, bCh, ?_, splitS_of_N h adm.node R, R.root⟩
  rcases R.cfg with ⟨e1, e2, e3, e4⟩ | ⟨e1, e2, e3, e4⟩
  · rcases R.takes with ⟨_, q⟩ | ⟨f1, _⟩
    · exact Or.inl ⟨e1, e2, e3, e4, q⟩
    · exact absurd (e1.symm.trans f1) hoi
  · rcases R.takes with ⟨f1, _⟩ | ⟨_, q⟩
    · exact absurd (f1.symm.trans e1) hoi
    · exact Or.inr ⟨e1, e2, e3, e4, q⟩

/-- **`split_nodes` keeps the network well-formed** (any splitting function, any admissible leg
    specifications and identifiers). -/
theorem splitNodes_wf {t t' : TTN} {id : Id} {X : NodeS} {outL inL : TTN.LegSpec} {outId inId : Id}
    {bd : Nat} (h : t.WF) (adm : SplitAdm t id X outL inL outId inId)
    (hs : t.splitNodes id outL inL outId inId bd = some t') : t'.WF := by
  obtain ⟨a, b, aCh, bCh, na, nb, Ta, Tb, R⟩ := split_full_roles h adm hs
  have hXN := adm.node
  have hfr : ∀ k, (k = id ∨ t.N k = none) → (k = id ∨ t.S k = none) :=
    fun k hk => hk.imp_right fun e => by rw [TTN.S, e]; rfl
  obtain ⟨ga, gb⟩ : (a = id ∨ t.S a = none) ∧ (b = id ∨ t.S b = none) := by
    rcases R.cfg with ⟨e1, e2, _⟩ | ⟨e1, e2, _⟩
    · rw [e1, e2]; exact ⟨hfr _ adm.outFresh, hfr _ adm.inFresh⟩
    · rw [e1, e2]; exact ⟨hfr _ adm.inFresh, hfr _ adm.outFresh⟩
  have hstr := splitS_swf h.str id a b X.parent X.children aCh bCh (TTN.S_eq hXN) R.ne ga gb R.part R.disj R.nodup_a R.nodup_b
  rw [← splitS_of_N h hXN R, ← R.root] at hstr
  refine wf_of_edit h (fun k => k = a ∨ k = b ∨ k = id) (splitSide id inL outId inId) hstr (fun k hto => ?_)
    fun k hto => ?_
  · by_cases hka : k = a
    · exact Or.inr ⟨na, Ta, by rw [R.N, if_pos hka], by rw [R.tensors, if_pos hka], R.wfn_a, R.shp_a.symm⟩
    by_cases hkb : k = b
    · exact Or.inr ⟨nb, Tb, by rw [R.N, if_neg hka, if_pos hkb], by rw [R.tensors, if_neg hka, if_pos hkb], R.wfn_b, R.shp_b.symm⟩
    have hkid := (hto.resolve_left hka).resolve_left hkb
    exact Or.inl ⟨by rw [R.N, if_neg hka, if_neg hkb, if_pos hkid], by rw [R.tensors, if_neg hka, if_neg hkb, if_pos hkid]⟩
  · have h1 : ¬ k = a := fun e => hto (Or.inl e)
    have h2 : ¬ k = b := fun e => hto (Or.inr (Or.inl e))
    have h3 : ¬ k = id := fun e => hto (Or.inr (Or.inr e))
    exact ⟨by rw [R.N, if_neg h1, if_neg h2, if_neg h3], by rw [R.tensors, if_neg h1, if_neg h2, if_neg h3]⟩

end Ptn.C02
