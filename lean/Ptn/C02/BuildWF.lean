import Ptn.C02.RenNode
/-! `add_root`, `add_child_to_parent` and `replace_tensor`: what each does to the dictionaries, and that the result is
well-formed – by `singleS_swf` / `addLeafS_swf` (SGraph.lean) for the structure and `wf_of_edit` (RenNode.lean) for
the records. -/
namespace Ptn.C02
open NodeS

theorem lt_length_of_pyPop {l rest : List Nat} {k v : Nat} (h : pyPop l k = some (v, rest)) : k < l.length := by
  obtain ⟨A, B, rfl, rfl, _⟩ := pyPop_eq_some h
  simp

theorem openLegToParent_facts {s s' : NodeS} {pid : Id} {k : Nat}
    (h : s.openLegToParent pid (some k) = some s') :
    s.parent = none ∧ s'.parent = some pid ∧ s'.children = s.children ∧ s'.shp = s.shp ∧ k < s.perm.length := by
  unfold openLegToParent at h
  split at h
  · simp at h
  · rename_i hr
    simp only at h
    split at h
    · simp at h
    · split at h
      · simp at h
      · rename_i v rest hpop
        simp only [Option.some.injEq] at h
        subst h
        simp [isRoot] at hr
        exact ⟨hr, rfl, rfl, rfl, lt_length_of_pyPop hpop⟩

theorem openLegToChild_facts {s s' : NodeS} {cid : Id} {k : Nat}
    (h : s.openLegToChild cid k = some s') :
    s'.parent = s.parent ∧ s'.children = s.children ++ [cid] ∧ s'.shp = s.shp ∧ s.nvirt ≤ k ∧
      k < s.perm.length := by
  unfold openLegToChild at h
  split at h
  · simp at h
  · rename_i hchk
    split at h
    · simp at h
    · rename_i v rest hpop
      simp only [Option.some.injEq] at h
      subst h
      exact ⟨rfl, rfl, rfl, (openLegChecks_true (by simpa using hchk)).2, lt_length_of_pyPop hpop⟩

theorem addRoot_wf {t t' : TTN} {id : Id} {T : Tensor} (hn : t.nodes = []) (ht : t.tensors = [])
    (h : t.addRoot id T = some t') : t'.WF := by
  unfold TTN.addRoot at h
  split at h
  · simp at h
  · simp only [Option.some.injEq] at h
    subst h
    have hN : ∀ k, TTN.N (⟨dset t.nodes id (NodeS.empty.linkTensor (shapeOf T)), dset t.tensors id T, some id, t.nextLabel⟩ : TTN) k =
        if k = id then some (NodeS.empty.linkTensor (shapeOf T)) else none := by
      intro k; simp [TTN.N, dget_dset, hn, dget_nil]
    have hS : TTN.S (⟨dset t.nodes id (NodeS.empty.linkTensor (shapeOf T)), dset t.tensors id T, some id, t.nextLabel⟩ : TTN) =
        fun k => if k = id then some (none, []) else none := by
      funext k
      simp only [TTN.S, hN k]
      by_cases hk : k = id <;> simp [hk, structOf, linkTensor, NodeS.empty]
    have hs := singleS_swf id
    rw [← hS] at hs
    refine ⟨{ hs with keys := fun k => ?_ }, ?_, ?_⟩
    · rw [hS]
      simp only [TTN.hasT, dhas_dset, ht]
      by_cases hk : k = id <;> simp [hk, dhas]
    · intro k n hk
      rw [hN] at hk
      by_cases hki : k = id
      · simp only [hki, if_true, Option.some.injEq] at hk
        subst hk
        exact wfn_linkTensor _ (by simp [NodeS.empty, nvirt, nparents, nchildren])
      · simp [hki] at hk
    · intro k n T' hk hT'
      rw [hN] at hk
      simp only [dget_dset, ht, dget_nil] at hT'
      by_cases hki : k = id
      · simp only [hki, if_true, Option.some.injEq] at hk hT'
        subst hk; subst hT'
        rfl
      · simp [hki] at hk

theorem addChildToParent_eq_some {t t' : TTN} {cid pid : Id} {T : Tensor} {cl pl : Nat} :
    t.addChildToParent cid T cl pid pl = some t' ↔
      ∃ P, dget t.nodes pid = some P ∧ ∃ u, TTN.ensureShapeMatching T cl P pl = some u ∧
      dhas t.nodes cid = false ∧
      ∃ child', (NodeS.empty.linkTensor (shapeOf T)).openLegToParent pid (some cl) = some child' ∧
      ∃ P', P.openLegToChild cid pl = some P' ∧
      { t with nodes := dset (dset (dset t.nodes cid (NodeS.empty.linkTensor (shapeOf T))) cid child') pid P',
               tensors := dset t.tensors cid T } = t' := by
  simp only [TTN.addChildToParent, Option.bind_eq_bind, Option.bind_none, Option.bind_eq_some_iff,
    Option.ite_none_left_eq_some, Option.some.injEq, Bool.not_eq_true]

theorem addChildToParent_spec {t t' : TTN} {cid pid : Id} {T : Tensor} {cl pl : Nat}
    (hs : t.addChildToParent cid T cl pid pl = some t') :
    ∃ P child' P', t.N pid = some P ∧ t.N cid = none ∧ cid ≠ pid ∧
      (NodeS.empty.linkTensor (shapeOf T)).openLegToParent pid (some cl) = some child' ∧
      P.openLegToChild cid pl = some P' ∧
      (∀ k, t'.N k = if k = pid then some P' else if k = cid then some child' else t.N k) ∧
      (∀ k, dget t'.tensors k = if k = cid then some T else dget t.tensors k) ∧ t'.root = t.root := by
  obtain ⟨P, hP, _, _, hhas, child', hc1, P', hp1, rfl⟩ := addChildToParent_eq_some.mp hs
  have hcN : t.N cid = none := by
    have := dhas_eq_isSome t.nodes cid
    cases hg : dget t.nodes cid with
    | none => exact hg
    | some _ => rw [hg, hhas] at this; simp at this
  have hcp : cid ≠ pid := by intro e; rw [e] at hcN; rw [show t.N pid = some P from hP] at hcN; simp at hcN
  refine ⟨P, child', P', hP, hcN, hcp, hc1, hp1, fun k => ?_, fun k => by simp only [dget_dset], rfl⟩
  simp only [TTN.N, dget_dset]
  by_cases h1 : k = pid
  · simp [h1]
  · by_cases h2 : k = cid <;> simp [h1, h2]

theorem addChildToParent_wf {t t' : TTN} {cid pid : Id} {T : Tensor} {cl pl : Nat} (h : t.WF)
    (hs : t.addChildToParent cid T cl pid pl = some t') : t'.WF := by
  obtain ⟨P, child', P', hPN, hcN, hcp, hc1, hp1, hN, hT, hR⟩ := addChildToParent_spec hs
  obtain ⟨_, c1, c2, c3, _⟩ := openLegToParent_facts hc1
  obtain ⟨q1, q2, q3, _⟩ := openLegToChild_facts hp1
  have hwc : WFN child' := wfn_openLegToParent
    (wfn_linkTensor _ (by simp [NodeS.empty, nvirt, nparents, nchildren])) pid (some cl) hc1
  have hwp : WFN P' := wfn_openLegToChild (h.node pid P hPN) cid pl hp1
  have hS : t'.S =
      fun k => if k = cid then some (some pid, []) else
        if k = pid then some (P.parent, P.children ++ [cid]) else t.S k := by
    funext k
    simp only [TTN.S, hN k]
    by_cases h1 : k = pid
    · have : ¬ pid = cid := fun e => hcp e.symm
      simp [h1, this, structOf, q1, q2]
    · by_cases h2 : k = cid
      · simp [h2, hcp, structOf, c1, c2, linkTensor, NodeS.empty]
      · simp [h1, h2]
  have hstr := addLeafS_swf h.str cid pid P.parent P.children (TTN.S_eq hPN) (by simp [TTN.S, hcN])
  rw [← hS, ← hR] at hstr
  obtain ⟨Tp, hTp, _⟩ := tensor_of_node h hPN
  refine wf_of_edit h (fun k => k = pid ∨ k = cid) (fun _ => id) hstr (fun k hto => ?_) fun k hto => ?_
  · rcases hto with rfl | rfl
    · exact Or.inr ⟨P', Tp, by rw [hN, if_pos rfl], by rw [hT, if_neg fun e => hcp e.symm, hTp], hwp,
        by rw [q3]; exact h.fit k P Tp hPN hTp⟩
    · exact Or.inr ⟨child', T, by rw [hN, if_neg hcp, if_pos rfl], by rw [hT, if_pos rfl], hwc, by rw [c3]; rfl⟩
  · obtain ⟨h1, h2⟩ := not_or.mp hto
    rw [hN, if_neg h1, if_neg h2, map_renNode_id, hT, if_neg h2]
    exact ⟨rfl, rfl⟩

theorem replaceTensor_eq_some {t t' : TTN} {id : Id} {newT : Tensor} {p : Option (List Nat)} :
    t.replaceTensor id newT p = some t' ↔
      ∃ n, t.N id = some n ∧ ∃ n', n.replaceTensor (shapeOf newT) p = some n' ∧
        { t with nodes := dset t.nodes id n', tensors := dset t.tensors id newT } = t' := by
  simp only [TTN.replaceTensor, TTN.N, Option.bind_eq_bind, Option.bind_eq_some_iff, Option.some.injEq]

theorem replaceTensor_node {n n' : NodeS} {sh : List Nat} {p : Option (List Nat)}
    (h : n.replaceTensor sh p = some n') :
    n'.parent = n.parent ∧ n'.children = n.children ∧ n'.shp = sh ∧
      n'.perm = p.getD (List.range n.perm.length) := by
  unfold replaceTensor at h
  cases p with
  | none =>
    simp only at h
    split at h
    · rename_i heq
      simp only [Option.some.injEq] at h; subst h
      exact ⟨rfl, rfl, heq, rfl⟩
    · simp at h
  | some q =>
    simp only at h
    split at h
    · simp at h
    · split at h
      · simp only [Option.some.injEq] at h; subst h; exact ⟨rfl, rfl, rfl, rfl⟩
      · simp at h

/-- The harness' `replace_tensor` is `replace_tensor` with the present logical array `cur` itself (no permutation
    given), or with `cur` with its axes permuted by the inverse of the permutation. -/
theorem replaceTensorPermuted_some {t t' : TTN} {id : Id} {p : Option (List Nat)}
    (hs : t.replaceTensorPermuted id p = some t') :
    ∃ cur newT, t.logical id = some cur ∧ t.replaceTensor id newT p = some t' ∧ (p = none → newT = cur) ∧
      ∀ q, p = some q → q.length = cur.length ∧
        (List.range cur.length).mapM (fun j => cur[q.idxOf j]?) = some newT := by
  unfold TTN.replaceTensorPermuted at hs
  cases hl : t.logical id with
  | none => simp [hl, bind, Option.bind] at hs
  | some cur =>
    simp only [hl, bind, Option.bind] at hs
    cases p with
    | none => exact ⟨cur, cur, rfl, hs, fun _ => rfl, nofun⟩
    | some q =>
      simp only at hs
      split at hs
      · simp at hs
      · rename_i hlen
        split at hs
        · simp at hs
        · rename_i newT hnew
          refine ⟨cur, newT, rfl, hs, nofun, fun q' e => ?_⟩
          cases e
          exact ⟨Decidable.of_not_not hlen, hnew⟩

theorem replaceTensor_S_eq {t t' : TTN} {id : Id} {newT : Tensor} {p : Option (List Nat)}
    (hs : t.replaceTensor id newT p = some t') : t'.S = t.S ∧ t'.root = t.root := by
  obtain ⟨n, hn, n', hn', rfl⟩ := replaceTensor_eq_some.mp hs
  obtain ⟨e1, e2, _⟩ := replaceTensor_node hn'
  refine ⟨funext fun k => ?_, rfl⟩
  simp only [TTN.S, TTN.N, dget_dset]
  by_cases hk : k = id
  · subst hk
    have hn0 : dget t.nodes k = some n := hn
    simp [hn0, structOf, e1, e2]
  · simp [hk]

/-- `replace_tensor(node_id, new_tensor, permutation)` keeps the network well-formed when the permutation
    (if given) is a permutation. -/
theorem replaceTensor_wf {t t' : TTN} {id : Id} {newT : Tensor} {p : Option (List Nat)} (h : t.WF)
    (hp : ∀ q, p = some q → q.Perm (List.range q.length))
    (hs : t.replaceTensor id newT p = some t') : t'.WF := by
  obtain ⟨hS, hR⟩ := replaceTensor_S_eq hs
  obtain ⟨n, hnN, n', hr, rfl⟩ := replaceTensor_eq_some.mp hs
  have hN : ∀ k, TTN.N { t with nodes := dset t.nodes id n', tensors := dset t.tensors id newT } k =
      if k = id then some n' else t.N k := fun k => dget_dset _ _ _ _
  have hw : WFN n' := wfn_replaceTensor (h.node id n hnN) (shapeOf newT) p
    (by cases p with
        | none => trivial
        | some q => exact hp q rfl) hr
  obtain ⟨_, _, e3, _⟩ := replaceTensor_node hr
  refine wf_of_edit h (· = id) (fun _ => _root_.id) (by rw [hS, hR]; exact h.str)
    (fun k hk => Or.inr ⟨n', newT, by rw [hN, if_pos hk], by rw [hk]; exact dget_dset_self _ _ _, hw, e3.symm⟩)
    fun k hk => ⟨by rw [hN, if_neg hk, map_renNode_id], dget_dset_ne _ _ _ _ hk⟩

theorem replaceTensorPermuted_wf {t t' : TTN} {id : Id} {p : Option (List Nat)} (h : t.WF)
    (hp : ∀ q, p = some q → q.Perm (List.range q.length))
    (hs : t.replaceTensorPermuted id p = some t') : t'.WF := by
  obtain ⟨_, _, _, hrt, _⟩ := replaceTensorPermuted_some hs
  exact replaceTensor_wf h hp hrt

theorem rtp_S_eq {t t' : TTN} {id : Id} {p : Option (List Nat)} (hs : t.replaceTensorPermuted id p = some t') :
    t'.S = t.S ∧ t'.root = t.root := by
  obtain ⟨_, _, _, hr, _⟩ := replaceTensorPermuted_some hs
  exact replaceTensor_S_eq hr

end Ptn.C02
