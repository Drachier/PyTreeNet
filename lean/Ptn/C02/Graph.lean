import Ptn.C02.Dict
import Ptn.C02.SGraph
import Ptn.C02.NodeSpec
import Ptn.C02.TTNLemmas
/-! Graph-level well-formedness of the TTN model (`TTN.WF`) and extensional descriptions of the dictionary
steps (`access`, `tensorsPop`, `dataContraction`, `replaceNodeInNeighbours` = `rnin`,
`replaceNodeInSomeNeighbours` = `rnisn`): the record and the array at every key after the step. -/
namespace Ptn.C02
open NodeS

def TTN.N (t : TTN) (k : Id) : Option NodeS := dget t.nodes k
/-- Extensional view of the tensor dictionary (keys only). -/
def TTN.hasT (t : TTN) (k : Id) : Bool := dhas t.tensors k

def structOf (n : NodeS) : Struct := (n.parent, n.children)
/-- The tree of a network, as `SGraph.lean` speaks of it. -/
def TTN.S (t : TTN) (k : Id) : Option Struct := (t.N k).map structOf

/-- Well-formedness of a network (the structural clauses of property C02): `SWF` of its structure
    (identical key sets; exactly one root, recorded in `root`; symmetric parent/child links; no duplicate
    children; every node reaches the root), every node satisfies the Node invariant, and the recorded
    shapes are the shapes of the stored arrays. -/
structure TTN.WF (t : TTN) : Prop where
  str : SWF t.S t.hasT t.root
  node : ∀ k n, t.N k = some n → WFN n
  fit : ∀ k n T, t.N k = some n → dget t.tensors k = some T → shapeOf T = n.shp

theorem TTN.S_eq {t : TTN} {k : Id} {n : NodeS} (h : t.N k = some n) :
    t.S k = some (n.parent, n.children) := by
  simp [TTN.S, h, structOf]

theorem TTN.N_of_S {t : TTN} {k : Id} {s : Struct} (h : t.S k = some s) :
    ∃ n, t.N k = some n ∧ s = (n.parent, n.children) := by
  unfold TTN.S at h
  cases hn : t.N k with
  | none => rw [hn] at h; simp at h
  | some n => rw [hn] at h; simp [structOf] at h; exact ⟨n, rfl, h.symm⟩

theorem S_none_of_N {t : TTN} {k : Id} (h : t.N k = none) : t.S k = none := by simp [TTN.S, h]

theorem N_none_of_S {t : TTN} {k : Id} (h : t.S k = none) : t.N k = none := by
  unfold TTN.S at h
  cases hn : t.N k with
  | none => rfl
  | some n => rw [hn] at h; simp at h

/-- Under well-formedness the root is determined by the parent map. -/
theorem TTN.WF.root_congr {t t' : TTN} (h : t.WF) (h' : t'.WF)
    (hp : ∀ r ch, t.S r = some (none, ch) → ∃ ch', t'.S r = some (none, ch')) : t'.root = t.root := by
  obtain ⟨r, ch, hr, hSr⟩ := h.str.root_ok
  obtain ⟨ch', e⟩ := hp r ch hSr
  rw [hr, h'.str.root_uniq r ch' e]

theorem TTN.WF.parent_iff_mem {t : TTN} (h : t.WF) {k x : Id} {n X : NodeS} (hn : t.N k = some n)
    (hX : t.N x = some X) : n.parent = some x ↔ k ∈ X.children := by
  have hSk := TTN.S_eq hn
  have hSX := TTN.S_eq hX
  constructor
  · intro e
    obtain ⟨pp, pch, e1, e2⟩ := h.str.up k x n.children (by rw [hSk, e])
    rw [hSX] at e1; simp at e1; rw [e1.2]; exact e2
  · intro hm
    obtain ⟨cch, e1⟩ := h.str.down x _ _ k hSX hm
    rw [hSk] at e1; simp at e1; exact e1.1

theorem resetPermutation_idem (n : NodeS) : n.resetPermutation.resetPermutation = n.resetPermutation := by
  have h := (reset_shape n)
  cases n
  simp only [resetPermutation, List.length_range] at h ⊢
  congr 1
where
  reset_shape (n : NodeS) : n.resetPermutation.shape = n.shape := by
    have h := map_getD_range n.shape 0
    rw [shape_length] at h
    exact h

theorem access_eq {t t1 : TTN} {id : Id} {T : Tensor} (h : t.access id = some (t1, T)) :
    ∃ n Ts, dget t.nodes id = some n ∧ dget t.tensors id = some Ts ∧ transposeT Ts n.perm = some T ∧
      t1 = { t with nodes := dset t.nodes id n.resetPermutation, tensors := dset t.tensors id T } := by
  simp only [TTN.access, bind, Option.bind_eq_some_iff, Option.some.injEq, Prod.mk.injEq] at h
  obtain ⟨n, h1, Ts, h2, T', h3, rfl, rfl⟩ := h
  exact ⟨n, Ts, h1, h2, h3, rfl⟩

theorem tensorsPop_eq {t t' : TTN} {id : Id} (h : t.tensorsPop id = some t') :
    ∃ n Ts T ts, dget t.nodes id = some n ∧ dget t.tensors id = some Ts ∧ transposeT Ts n.perm = some T ∧
      dpop (dset t.tensors id T) id = some ts ∧
      t' = { t with nodes := dset t.nodes id n.resetPermutation, tensors := ts } := by
  simp only [TTN.tensorsPop, bind, Option.bind_eq_some_iff, Prod.exists, Option.some.injEq] at h
  obtain ⟨t1, T, h1, ts, h2, rfl⟩ := h
  obtain ⟨n, Ts, e1, e2, e3, rfl⟩ := access_eq h1
  exact ⟨n, Ts, T, ts, e1, e2, e3, h2, rfl⟩

/-- What the loop over the children in `replace_node_in_neighbours` does to one of them. -/
def setParent (new : Id) (n : NodeS) : NodeS := { n with parent := some new }

/-- The loop over the children in `replace_node_in_neighbours`, key by key. -/
theorem reparent_fold_eq (new : Id) (cs : List Id) (ns ns' : List (Id × NodeS))
    (h : cs.foldlM (fun (ns : List (Id × NodeS)) c =>
      if c ≠ new then do
        let cn ← dget ns c
        some (dset ns c { cn with parent := some new })
      else some ns) ns = some ns') :
    ∀ k, dget ns' k = if k ∈ cs ∧ k ≠ new then (dget ns k).map (setParent new) else dget ns k := by
  induction cs generalizing ns with
  | nil => simp at h; subst h; simp
  | cons c cs ih =>
    rw [List.foldlM_cons] at h
    by_cases hc : c = new
    · simp only [hc, ne_eq, not_true_eq_false, if_false, bind, Option.bind] at h
      intro k
      rw [ih ns h k]
      by_cases hk : k = new
      · simp [hk]
      · simp [hk, hc]
    · simp only [ne_eq, hc, not_false_eq_true, if_true] at h
      cases hcn : dget ns c with
      | none => simp [hcn, bind, Option.bind] at h
      | some cn =>
        simp only [hcn, bind, Option.bind] at h
        intro k
        rw [ih _ h k]
        simp only [dget_dset]
        by_cases hkc : k = c
        · subst hkc
          simp [hc, hcn, setParent]
        · by_cases hm : k ∈ cs
          · simp [hkc, hm]
          · have : ¬ (k = c ∨ k ∈ cs) := by
              intro h'; rcases h' with h' | h' <;> contradiction
            simp [hkc, hm]

theorem replaceChild_eq {n n' : NodeS} {old new : Id} (hnd : n.children.Nodup)
    (h : TTN.replaceChild n old new = some n') :
    old ∈ n.children ∧ n'.perm = n.perm ∧ n'.shp = n.shp ∧ n'.parent = n.parent ∧
      n'.children = n.children.map (fun c => if c = old then new else c) := by
  unfold TTN.replaceChild at h
  split at h
  · simp at h
  · rename_i hm
    have hm' : old ∈ n.children := by simpa using hm
    split at h
    · rename_i heq
      simp only [Option.some.injEq] at h
      subst h
      refine ⟨hm', rfl, rfl, rfl, ?_⟩
      subst heq
      have : (fun c => if c = old then old else c) = (id : Id → Id) := by
        funext c; by_cases hc : c = old <;> simp [hc]
      rw [this]; simp
    · simp only [Option.some.injEq] at h
      subst h
      exact ⟨hm', rfl, rfl, rfl, set_idxOf_eq_map _ _ _ hnd⟩

theorem replaceChild_some (n : NodeS) (old new : Id) (hm : old ∈ n.children) :
    ∃ n', TTN.replaceChild n old new = some n' := by
  unfold TTN.replaceChild
  by_cases e : old = new
  · subst e; simp [hm]
  · simp [hm, e]

theorem rnin_self (t : TTN) (x : Id) (d : Bool) : t.replaceNodeInNeighbours x x d = some t := by
  simp [TTN.replaceNodeInNeighbours]

/-- The last step of `replace_node_in_neighbours`: dropping the old key, or not. -/
theorem rnin_tail {nodes2 : List (Id × NodeS)} {root2 : Option Id} {t t' : TTN} {old : Id} {delOld : Bool}
    (h : (if delOld = true then
            (dpop nodes2 old).bind fun nodes3 =>
              some ({ nodes := nodes3, tensors := t.tensors, root := root2, nextLabel := t.nextLabel } : TTN)
          else some { nodes := nodes2, tensors := t.tensors, root := root2, nextLabel := t.nextLabel }) = some t') :
    (∀ k, t'.N k = if delOld = true ∧ k = old then none else dget nodes2 k) ∧ t'.root = root2 ∧
      t'.tensors = t.tensors := by
  cases hd : delOld with
  | false =>
    simp only [hd, Bool.false_eq_true, if_false, Option.some.injEq] at h
    subst h
    exact ⟨fun k => by simp [TTN.N], rfl, rfl⟩
  | true =>
    simp only [hd, if_true] at h
    obtain ⟨ns3, hpop, h⟩ := Option.bind_eq_some_iff.mp h
    simp only [Option.some.injEq] at h
    subst h
    obtain ⟨_, hg⟩ := dpop_eq_some _ _ _ hpop
    refine ⟨fun k => ?_, rfl, rfl⟩
    simp only [TTN.N, hg k]
    by_cases hk : k = old <;> simp [hk]

/-- What `_data_contraction(pid, cid, new)` does: both arrays (`TsP`, `TsC`) are read in logical order (`LP`, `LC`) and
    contracted over the bond (axis `idx` of the parent, axis 0 of the child) into `newT`, both records are reset, the
    two arrays dropped and `newT` stored under `new`. -/
structure DataContraction (t t' : TTN) (pid cid new : Id) (newT : Tensor) (P C : NodeS) (TsP TsC LP LC : Tensor)
    (idx : Nat) : Prop where
  nodeP : t.N pid = some P
  nodeC : t.N cid = some C
  tensP : dget t.tensors pid = some TsP
  tensC : dget t.tensors cid = some TsC
  showsP : transposeT TsP P.perm = some LP
  showsC : transposeT TsC C.perm = some LC
  index : P.neighbourIndex cid = some idx
  dot : tensordot1 LP LC idx 0 = some newT
  N : ∀ k, t'.N k = if k = cid then some C.resetPermutation else if k = pid then some P.resetPermutation else t.N k
  tensors : ∀ k, dget t'.tensors k = if k = new then some newT
                                     else if k = pid ∨ k = cid then none else dget t.tensors k
  root : t'.root = t.root

theorem dataContraction_eq {t t' : TTN} {pid cid new : Id} {newT : Tensor} (hpc : pid ≠ cid)
    (h : t.dataContraction pid cid new = some (t', newT)) :
    ∃ P C TsP TsC LP LC idx, DataContraction t t' pid cid new newT P C TsP TsC LP LC idx := by
  simp only [TTN.dataContraction, bind, Option.bind_eq_some_iff, Prod.exists, Option.some.injEq,
    Prod.mk.injEq] at h
  obtain ⟨P, hP, t1, LP, ha1, t2, LC, ha2, idx, hidx, nt, htd, t3, hpop1, t4, hpop2, rfl, rfl⟩ := h
  obtain ⟨n1, TsP, e1, e2, e3, rfl⟩ := access_eq ha1
  obtain rfl : P = n1 := Option.some.inj (hP.symm.trans e1)
  obtain ⟨C, TsC, f1, f2, f3, rfl⟩ := access_eq ha2
  have hcp : cid ≠ pid := fun e => hpc e.symm
  simp only [dget_dset, hcp, if_false] at f1 f2
  obtain ⟨n3, Ts3, T3, ts3, g1, g2, g3, g4, rfl⟩ := tensorsPop_eq hpop1
  obtain ⟨n4, Ts4, T4, ts4, k1, k2, k3, k4, rfl⟩ := tensorsPop_eq hpop2
  simp only [dget_dset, hcp, hpc, if_false, if_true, Option.some.injEq] at g1 k1
  subst g1 k1
  refine ⟨P, C, TsP, TsC, LP, LC, idx, hP, f1, e2, f2, e3, f3, hidx, htd, ?_, ?_, rfl⟩
  · intro k
    simp only [TTN.N, dget_dset, resetPermutation_idem]
    by_cases hkc : k = cid
    · simp [hkc]
    · by_cases hkp : k = pid
      · simp [hkp, hpc]
      · simp [hkc, hkp]
  · intro k
    obtain ⟨_, q3⟩ := dpop_eq_some _ _ _ g4
    obtain ⟨_, q4⟩ := dpop_eq_some _ _ _ k4
    simp only [dget_dset]
    by_cases hkn : k = new
    · simp [hkn]
    · simp only [hkn, if_false]
      rw [q4 k]
      by_cases hkc : k = cid
      · simp [hkc]
      · simp only [hkc, if_false, dget_dset]
        rw [q3 k]
        by_cases hkp : k = pid
        · simp [hkp]
        · simp [hkp, hkc, dget_dset]

theorem rnisn_fold_eq (new old : Id) (nbs : List Id) (hnd : nbs.Nodup) (ns ns' : List (Id × NodeS))
    (h : nbs.foldlM (fun (ns : List (Id × NodeS)) nb => do
      let n ← dget ns nb
      let n' ← TTN.replaceNeighbour n old new
      some (dset ns nb n')) ns = some ns') :
    ∀ k, dget ns' k = if k ∈ nbs then (dget ns k).bind (fun n => TTN.replaceNeighbour n old new)
                      else dget ns k := by
  induction nbs generalizing ns with
  | nil => simp at h; subst h; simp
  | cons nb nbs ih =>
    rw [List.nodup_cons] at hnd
    rw [List.foldlM_cons] at h
    cases hn : dget ns nb with
    | none => simp [hn, bind, Option.bind] at h
    | some n =>
      cases hr : TTN.replaceNeighbour n old new with
      | none => simp [hn, hr, bind, Option.bind] at h
      | some n' =>
        simp only [hn, hr, bind, Option.bind] at h
        intro k
        rw [ih hnd.2 _ h k]
        simp only [dget_dset]
        by_cases hk : k = nb
        · subst hk
          simp [hnd.1, hn, hr]
        · by_cases hm : k ∈ nbs
          · simp [hk, hm]
          · simp [hk, hm]

/-- Extensional description of `replace_node_in_some_neighbours(new, old, nbs)`. -/
theorem rnisn_eq {t t' : TTN} {new old : Id} {nbs : List Id} (hnd : nbs.Nodup)
    (h : t.replaceNodeInSomeNeighbours new old nbs = some t') :
    (∀ k, t'.N k = if k ∈ nbs then (t.N k).bind (fun n => TTN.replaceNeighbour n old new) else t.N k) ∧
      t'.tensors = t.tensors ∧ t'.root = t.root := by
  unfold TTN.replaceNodeInSomeNeighbours at h
  simp only [bind, Option.bind] at h
  split at h
  · simp at h
  · rename_i ns' hf
    simp only [Option.some.injEq] at h
    subst h
    exact ⟨fun k => rnisn_fold_eq new old nbs hnd _ _ hf k, rfl, rfl⟩

end Ptn.C02
