import Ptn.C02.Sim
/-! `insert_identity` of the structural model is simulated by `identStep` on the bond between child and parent
(followed by the reordering of the two legs of the identity node into the order (parent, child)). -/
namespace Ptn.C02
open NodeS Ptn.Ein Ptn.C03

set_option linter.unusedSectionVars false
variable {R : Type} [CommSemiring R]

/-- the leg map after `insert_identity(cid, pid, new)` over the bond `p`: the child and the parent keep the labels of
their ends; `identStep` binds `p.1` to the fresh label `nxt` and `nxt + 1` to `p.2`, so the leg of the identity node
towards the child is `nxt` when `p.1` is the child's end and `nxt + 1` otherwise -/
def identG (cid pid new : Id) (nxt : Nat) (p : Nat × Nat) (g : LegMap) : LegMap := fun k x =>
  if k = new then
    (if x = cid then (if p.1 = g cid pid then nxt else nxt + 1) else (if p.1 = g cid pid then nxt + 1 else nxt))
  else if x = new then (if k = cid then g cid pid else g pid cid)
  else g k x

section
variable {cid pid new k x : Id} {nxt : Nat} {p : Nat × Nat} {g : LegMap}

theorem identG_new : identG cid pid new nxt p g new x =
    if x = cid then (if p.1 = g cid pid then nxt else nxt + 1) else (if p.1 = g cid pid then nxt + 1 else nxt) := by
  unfold identG
  rw [if_pos rfl]

theorem identG_to_new (hk : k ≠ new) :
    identG cid pid new nxt p g k new = if k = cid then g cid pid else g pid cid := by
  unfold identG
  rw [if_neg hk, if_pos rfl]

theorem identG_ne (hk : k ≠ new) (hx : x ≠ new) : identG cid pid new nxt p g k x = g k x := by
  unfold identG
  rw [if_neg hk, if_neg hx]

end

/-- the valued network after `insert_identity`: `identStep` on the bond `p`, then the legs in axis order -/
def simIdent (e : Label → Nat) (g : LegMap) (t1 : TTN) (v : VNet R) (cid pid new : Id) (p : Nat × Nat) : VNet R :=
  reLeg (identStep v p new) (simLegs e (identG cid pid new v.next p g) t1)

/-- The same three facts as `contract_sim_core`, for `insert_identity` over the bond `p`. -/
theorem ident_sim_core (dim : Nat → Nat) (e : Label → Nat) {g : LegMap} {t t1 : TTN} {v : VNet R}
    {cid pid new : Id} {p : Nat × Nat}
    (h : t.WF) (hl : t.LWF) (hv : v.WF) (hs : RSim dim e g t v) (hnew : t.N new = none)
    (hi : t.insertIdentity cid pid new = some t1)
    (hp : p ∈ v.bonds) (hpab : p = (g cid pid, g pid cid) ∨ p = (g pid cid, g cid pid))
    (hdim : ∀ ax, t.Leg cid pid ax → dim v.next = ax.dim ∧ dim (v.next + 1) = ax.dim) :
    (new ∉ v.ids ∧ dim (v.next + 1) = dim p.1) ∧
    (∀ k ∈ (identStep v p new).ids,
      (simLegs e (identG cid pid new v.next p g) t1 k).Perm ((identStep v p new).legs k)) ∧
    RSim dim e (identG cid pid new v.next p g) t1 (simIdent e g t1 v cid pid new p) := by
  obtain ⟨ax, hax, cnew, conew, cby⟩ := ident_labels h hnew hi
  obtain ⟨_, _, _, _, _, _, _, _, _, _, hN⟩ := insert_identity_full h hnew hi
  have hax' : t.Leg pid cid ax := hl.sym _ _ _ hax
  have hpnb : pid ∈ t.nbs cid := mem_nbs.2 ⟨ax, hax⟩
  have hcnb : cid ∈ t.nbs pid := mem_nbs.2 ⟨ax, hax'⟩
  have hcp : cid ≠ pid := nbs_ne h hpnb
  have hnewv : new ∉ v.ids := fun hm => (hs.ids new).1 hm hnew
  have hnode_ne : ∀ x, t.N x ≠ none → x ≠ new := fun x hx e' => hx (e' ▸ hnew)
  have hcn : cid ≠ new := hnode_ne cid (nbs_node hpnb)
  have hpn : pid ≠ new := hnode_ne pid (nbs_node hcnb)
  have hNnew : t1.N new ≠ none := by
    intro hn
    have := legPairs_none hn
    rw [cnew] at this
    simp at this
  have hgne : g cid pid ≠ g pid cid := fun e' => hcp (hs.g_eq hv hpnb hcnb e').1
  obtain ⟨hd1, hd2⟩ := hdim ax hax
  have hdimp : dim (v.next + 1) = dim p.1 := by
    rcases hpab with e' | e'
    · rw [e', hd2]; exact (hs.dimV cid pid ax hax).symm
    · rw [e', hd2]; exact (hs.dimV pid cid ax hax').symm
  -- which of the two fresh labels the identity node shows towards the child depends on the orientation of `p`
  have hcase : (p = (g cid pid, g pid cid) ∧
        identG cid pid new v.next p g new cid = v.next ∧ identG cid pid new v.next p g new pid = v.next + 1) ∨
      (p = (g pid cid, g cid pid) ∧
        identG cid pid new v.next p g new cid = v.next + 1 ∧ identG cid pid new v.next p g new pid = v.next) := by
    rcases hpab with e' | e'
    · left
      refine ⟨e', ?_, ?_⟩
      · rw [identG_new, if_pos rfl, e', if_pos rfl]
      · rw [identG_new, if_neg (Ne.symm hcp), e', if_pos rfl]
    · right
      refine ⟨e', ?_, ?_⟩
      · rw [identG_new, if_pos rfl, e', if_neg (Ne.symm hgne)]
      · rw [identG_new, if_neg (Ne.symm hcp), e', if_neg (Ne.symm hgne)]
  have hgc : identG cid pid new v.next p g cid new = g cid pid := by rw [identG_to_new hcn, if_pos rfl]
  have hgp : identG cid pid new v.next p g pid new = g pid cid := by rw [identG_to_new hpn, if_neg (Ne.symm hcp)]
  have GC : ∀ k x, x ∈ t.nbs k → identG cid pid new v.next p g k (identRho cid pid new k x) = g k x := by
    intro k x hx
    have hkn : k ≠ new := hnode_ne k (nbs_node hx)
    have hxn : x ≠ new := hnode_ne x (nbs_node (nbs_symm h hx))
    by_cases h1 : k = cid ∧ x = pid
    · obtain ⟨rfl, rfl⟩ := h1
      rw [identRho_cp, hgc]
    · by_cases h2 : k = pid ∧ x = cid
      · obtain ⟨rfl, rfl⟩ := h2
        rw [identRho_pc, hgp]
      · rw [identRho_ne ⟨h1, h2⟩, identG_ne hkn hxn]
  have hnbs_new : t1.nbs new = [pid, cid] := by unfold TTN.nbs; rw [cnew]; rfl
  have hlegs_by : ∀ k, k ≠ new → simLegs e (identG cid pid new v.next p g) t1 k = simLegs e g t k :=
    fun k hk => simLegs_of_map (cby k hk).1 (cby k hk).2 (GC k)
  have hmem0 : ∀ q, q ∈ (identStep v p new).bonds ↔ (q ∈ v.bonds.erase p ∨ q = (p.1, v.next) ∨ q = (v.next + 1, p.2)) := by
    intro q
    simp [identStep, List.mem_append]
  -- the two bonds `identStep` makes are the bonds of the two new edges
  have E1 : (g cid pid, identG cid pid new v.next p g new cid) ∈ (identStep v p new).bonds ∨
      (identG cid pid new v.next p g new cid, g cid pid) ∈ (identStep v p new).bonds := by
    rcases hcase with ⟨e', e1, _⟩ | ⟨e', e1, _⟩
    · left; rw [hmem0, e1, e']; exact Or.inr (Or.inl rfl)
    · right; rw [hmem0, e1, e']; exact Or.inr (Or.inr rfl)
  have E2 : (g pid cid, identG cid pid new v.next p g new pid) ∈ (identStep v p new).bonds ∨
      (identG cid pid new v.next p g new pid, g pid cid) ∈ (identStep v p new).bonds := by
    rcases hcase with ⟨e', _, e2⟩ | ⟨e', _, e2⟩
    · right; rw [hmem0, e2, e']; exact Or.inr (Or.inr rfl)
    · left; rw [hmem0, e2, e']; exact Or.inr (Or.inl rfl)
  have hnew_c : new ∈ t1.nbs cid := mem_nbs.2 ⟨ax, (leg_of_map (cby cid hcn).1).2 ⟨pid, hax, identRho_cp.symm⟩⟩
  have hnew_p : new ∈ t1.nbs pid := mem_nbs.2 ⟨ax, (leg_of_map (cby pid hpn).1).2 ⟨cid, hax', identRho_pc.symm⟩⟩
  refine ⟨⟨hnewv, hdimp⟩, ?_, ?_⟩
  · intro k hk
    rcases mem_identStep_ids.1 hk with rfl | hk'
    · rw [identStep_legs_new]
      unfold simLegs
      rw [hnbs_new, conew]
      simp only [List.map_cons, List.map_nil, List.append_nil]
      rcases hcase with ⟨_, e1, e2⟩ | ⟨_, e1, e2⟩
      · rw [e1, e2]; exact List.Perm.swap _ _ _
      · rw [e1, e2]
    · have hkn : k ≠ new := fun e' => hnewv (e' ▸ hk')
      rw [identStep_legs_ne hkn, hlegs_by k hkn, hs.legs k hk']
  · -- `RSim` of the result: along the edge correspondence; the subdivided bond leaves the binding record, the four
    -- fresh edges have the dimension of the bond and the bonds `E1`, `E2`
    obtain ⟨bkeep, bout⟩ := hs.bonds_erase h hv hpnb hp hpab
    refine hs.transport h (ident_edges h hnew hi) (ids := ?_) (legs := fun k _ => rfl)
      (hp := ident_openList h hnew hi) (GC := ?_) (hfresh := ?_)
      (bkeep := fun k x hx hk hb => (hmem0 _).2 (Or.inl (bkeep k x hx hk hb))) (bout := ?_)
    · exact hs.ids_of (old := fun _ => False) (new := fun k => k = new)
        (fun k => List.mem_cons.trans (or_congr_right (and_iff_left not_false).symm))
        (fun k hk => hk ▸ hNnew) (fun _ ho => ho.elim) fun k _ hn => by rw [hN k hn, Option.map_eq_none_iff]
    · intro k x hx hk
      have := GC k x hx
      rwa [identRho_ne hk] at this
    · rintro k' x' ax' (⟨rfl, hx, hm⟩ | ⟨rfl, ⟨rfl, hm⟩ | ⟨rfl, hm⟩⟩)
      · obtain ⟨hd1, hd2⟩ := hdim ax' hm
        rcases hx with rfl | rfl
        · rw [hgp]
          refine ⟨?_, E2.symm⟩
          rcases hcase with ⟨_, _, e2⟩ | ⟨_, _, e2⟩ <;> rw [e2]
          · exact hd2
          · exact hd1
        · rw [hgc]
          refine ⟨?_, E1.symm⟩
          rcases hcase with ⟨_, e1, _⟩ | ⟨_, e1, _⟩ <;> rw [e1]
          · exact hd1
          · exact hd2
      · rw [hgc]
        exact ⟨hs.dimV _ _ _ hm, E1⟩
      · rw [hgp]
        exact ⟨hs.dimV _ _ _ hm, E2⟩
    · intro q hq
      rcases (hmem0 q).1 hq with hq' | hp' | hp'
      · exact Or.inr (bout q hq')
      · rcases hcase with ⟨e', e1, _⟩ | ⟨e', _, e2⟩
        · exact Or.inl ⟨cid, new, hnew_c, by rw [hp', hgc, e1, e']⟩
        · exact Or.inl ⟨pid, new, hnew_p, by rw [hp', hgp, e2, e']⟩
      · rcases hcase with ⟨e', _, e2⟩ | ⟨e', e1, _⟩
        · exact Or.inl ⟨new, pid, by rw [hnbs_new]; simp, by rw [hp', hgp, e2, e']⟩
        · exact Or.inl ⟨new, cid, by rw [hnbs_new]; simp, by rw [hp', hgc, e1, e']⟩

/-- **`insert_identity(child, parent, new)` of the structural model is simulated at the value level**: the bond `p`
between child and parent is in the binding record; `identStep` subdivides it by the identity matrix over a fresh pair
of labels (which must have the dimension of the bond); with the two legs of the identity node in the order
(parent, child) the result is related to the new state, well-formed, and has the same value. -/
theorem insert_identity_simulates (dim : Nat → Nat) (e : Label → Nat) {g : LegMap} {t t1 : TTN} {v : VNet R}
    {cid pid new : Id} (h : t.WF) (hl : t.LWF) (hv : v.WF) (hs : RSim dim e g t v) (hnew : t.N new = none)
    (hi : t.insertIdentity cid pid new = some t1)
    (hdim : ∀ ax, t.Leg cid pid ax → dim v.next = ax.dim ∧ dim (v.next + 1) = ax.dim) :
    ∃ p, p ∈ v.bonds ∧ (p = (g cid pid, g pid cid) ∨ p = (g pid cid, g cid pid)) ∧
      SRun dim v (simIdent e g t1 v cid pid new p) ∧
      RSim dim e (identG cid pid new v.next p g) t1 (simIdent e g t1 v cid pid new p) := by
  obtain ⟨ax, hax, _⟩ := ident_labels h hnew hi
  obtain ⟨p, hp, hpab⟩ := hs.exists_bond (mem_nbs.2 ⟨ax, hax⟩)
  obtain ⟨⟨hnewv, hdimp⟩, hperm, hsim⟩ := ident_sim_core dim e h hl hv hs hnew hi hp hpab hdim
  exact ⟨p, hp, hpab, .cons (.base (.ident hp hnewv hdimp)) (.cons (.releg hperm) (.nil _)), hsim⟩

end Ptn.C02
