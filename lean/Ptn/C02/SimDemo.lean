import Ptn.C02.SimContract
import Ptn.C02.SimOps
import Ptn.C02.SimSplit
import Ptn.C02.SimHistory
import Ptn.C02.BuildLabels
/-! A concrete instance of the simulation (used by the non-vacuity examples of `Props.lean`): the two-node
network `1 — 2` of the structural examples (root `1` with open axes `0, 1`, child `2` with open axis `2`, bond of
dimension 3), integer tensors, and the history "contract (2, 1) -> 3; split 3 back (out-node 3 takes the open axis of the
old node 2, in-node 4, the new root, the two others) with the exact factorisation given by the two original tensors;
rename 4 -> 5; access; replace_tensor with a permutation". -/
namespace Ptn.C02
open NodeS Ptn.Ein Ptn.C03

namespace SimDemo

/-- the structural state: what `add_root(1)`, `add_child_to_parent(2, …)` build -/
def t0 : TTN :=
  ⟨[(1, ⟨[1, 0, 2], [2, 3, 2], none, [2]⟩), (2, ⟨[1, 0], [2, 3], some 1, []⟩)],
   [(1, [⟨0, 2⟩, ⟨100, 3⟩, ⟨1, 2⟩]), (2, [⟨2, 2⟩, ⟨100, 3⟩])], some 1, 1000000⟩

theorem t0_built : TRunL TTN.empty
    [.root 1 [⟨0, 2⟩, ⟨100, 3⟩, ⟨1, 2⟩], .child 2 [⟨2, 2⟩, ⟨100, 3⟩] 1 1 1] t0 :=
  .cons ⟨rfl, rfl⟩ trivial rfl (.cons trivial ⟨_, rfl, rfl⟩ rfl (.nil _))

theorem t0_wf : t0.WF ∧ t0.LWF := builtL_labels t0_built

def e : Label → Nat := fun l => l

/-- the end of the bond at node 1 is label 50, the end at node 2 label 51 -/
def g : LegMap := fun k _ => if k = 1 then 50 else 51

/-- open legs have dimension 2, bond legs (old and fresh) dimension 3 -/
def dim : Nat → Nat := fun l => if l = 0 ∨ l = 1 ∨ l = 2 then 2 else 3

def v0 : VNet Int where
  ids := [1, 2]
  legs := fun k => if k = 1 then [50, 0, 1] else if k = 2 then [51, 2] else []
  tens := fun k σ => if k = 1 then (σ 0 : Int) + 2 * (σ 50 : Int) + 3 * (σ 1 : Int) + 1
    else 5 * (σ 2 : Int) - (σ 51 : Int) + 2
  bonds := [(50, 51)]
  next := 100

theorem v0_wf : v0.WF := by
  refine .of_flat (by decide +kernel) (by decide +kernel) ?_ (by decide +kernel) (by decide +kernel)
    (by decide +kernel)
  intro n hn σ τ h
  simp only [v0, List.mem_cons, List.not_mem_nil, or_false] at hn
  rcases hn with rfl | rfl
  · have h0 := h 0 (by decide); have h1 := h 50 (by decide); have h2 := h 1 (by decide)
    simp [v0, h0, h1, h2]
  · have h0 := h 2 (by decide); have h1 := h 51 (by decide)
    simp [v0, h0, h1]

theorem t0_N (k : Id) : t0.N k = none ↔ (k ≠ 1 ∧ k ≠ 2) := by
  by_cases h1 : k = 1
  · subst h1; simp [TTN.N, t0, dget]
  · by_cases h2 : k = 2
    · subst h2; simp [TTN.N, t0, dget]
    · have e1 : (1 == k) = false := beq_eq_false_iff_ne.2 (Ne.symm h1)
      have e2 : (2 == k) = false := beq_eq_false_iff_ne.2 (Ne.symm h2)
      have : t0.N k = none := by
        simp [TTN.N, t0, dget, List.find?, e1, e2]
      simp [this, h1, h2]

theorem t0_legPairs (k : Id) :
    t0.legPairs k = if k = 1 then [(2, ⟨100, 3⟩)] else if k = 2 then [(1, ⟨100, 3⟩)] else [] := by
  by_cases h1 : k = 1
  · subst h1; rfl
  · by_cases h2 : k = 2
    · subst h2; rfl
    · rw [legPairs_none ((t0_N k).2 ⟨h1, h2⟩)]; simp [h1, h2]

theorem t0_openAxes (k : Id) :
    t0.openAxes k = if k = 1 then [⟨0, 2⟩, ⟨1, 2⟩] else if k = 2 then [⟨2, 2⟩] else [] := by
  by_cases h1 : k = 1
  · subst h1; rfl
  · by_cases h2 : k = 2
    · subst h2; rfl
    · rw [openAxes_none ((t0_N k).2 ⟨h1, h2⟩)]; simp [h1, h2]

theorem t0_nbs (k : Id) : t0.nbs k = if k = 1 then [2] else if k = 2 then [1] else [] := by
  unfold TTN.nbs
  rw [t0_legPairs]
  by_cases h1 : k = 1
  · simp [h1]
  · by_cases h2 : k = 2
    · simp [h2]
    · simp [h1, h2]

theorem rsim0 : RSim dim e g t0 v0 := by
  refine ⟨?_, ?_, ?_, ?_, ?_, ?_⟩
  · intro k
    rw [ne_eq, t0_N]
    simp only [v0, List.mem_cons, List.not_mem_nil, or_false]
    by_cases h1 : k = 1 <;> by_cases h2 : k = 2 <;> simp [h1, h2]
  · intro k hk
    simp only [v0, List.mem_cons, List.not_mem_nil, or_false] at hk
    unfold simLegs
    rw [t0_nbs, t0_openAxes]
    rcases hk with rfl | rfl <;> simp [v0, g, e]
  · intro k x ax hl
    unfold TTN.Leg at hl
    rw [t0_legPairs] at hl
    by_cases h1 : k = 1
    · simp [h1] at hl; obtain ⟨_, rfl⟩ := hl; simp [g, dim, h1]
    · by_cases h2 : k = 2
      · simp [h2] at hl; obtain ⟨_, rfl⟩ := hl; simp [g, dim, h2]
      · simp [h1, h2] at hl
  · intro k ax hax
    rw [t0_openAxes] at hax
    by_cases h1 : k = 1
    · simp [h1] at hax; rcases hax with rfl | rfl <;> simp [e, dim]
    · by_cases h2 : k = 2
      · simp [h2] at hax; subst hax; simp [e, dim]
      · simp [h1, h2] at hax
  · intro k x hx
    rw [t0_nbs] at hx
    by_cases h1 : k = 1
    · simp [h1] at hx; subst hx; subst h1; left; simp [g, v0]
    · by_cases h2 : k = 2
      · simp [h2] at hx; subst hx; subst h2; right; simp [g, v0]
      · simp [h1, h2] at hx
  · intro p hp
    simp only [v0, List.mem_cons, List.not_mem_nil, or_false] at hp
    subst hp
    exact ⟨1, 2, by rw [t0_nbs]; simp, by simp [g]⟩

/-- after `contract_nodes(2, 1, new_identifier = 3)` -/
def t1 : TTN :=
  ⟨[(3, ⟨[2, 0, 1], [2, 2, 2], none, []⟩)], [(3, [⟨0, 2⟩, ⟨1, 2⟩, ⟨2, 2⟩])], some 3, 1000000⟩

theorem step1 : t0.step (.contract 2 1 3) = some t1 := rfl

def g1 : LegMap := contrG t0 1 2 3 g
def v1 : VNet Int := simContract dim e g t0 t1 v0 1 2 3 (50, 51)

/-- after `split_nodes(3, out = (open leg 0), in = (open legs 1, 2; root), out_identifier = 3, in_identifier = 4)`
with new bond dimension 3 -/
def t2 : TTN :=
  ⟨[(3, ⟨[1, 0], [2, 3], some 4, []⟩), (4, ⟨[0, 1, 2], [3, 2, 2], none, [3]⟩)],
   [(3, [⟨2, 2⟩, ⟨1000000, 3⟩]), (4, [⟨1000000, 3⟩, ⟨0, 2⟩, ⟨1, 2⟩])], some 4, 1000001⟩

theorem step2 : t1.step (.split 3 ⟨none, [], [0], false⟩ ⟨none, [], [1, 2], true⟩ 3 4 3) = some t2 := rfl

theorem adm2 : (TOp.split 3 ⟨none, [], [0], false⟩ ⟨none, [], [1, 2], true⟩ 3 4 3).Adm t1 :=
  ⟨_, ⟨rfl, Or.inl rfl, Or.inr rfl, List.Perm.refl _, Or.inr ⟨rfl, rfl, rfl, Or.inr ⟨rfl, rfl⟩⟩⟩⟩

theorem outLegs2 : splitOutLegs e g1 t2 3 3 4 = [2] := by decide
theorem inLegs2 : splitInLegs e g1 t2 3 3 4 = [0, 1] := by decide

/-- the contracted tensor is the sum over the fresh bond `(100, 101)` of the product of the two original tensors -/
theorem v1_tens_exact (τ : Asg Nat) : v1.tens 3 τ = sumPairs dim [(v1.next, v1.next + 1)]
    (fun ρ => (5 * (ρ 2 : Int) - (ρ 100 : Int) + 2) * ((ρ 0 : Int) + 2 * (ρ 101 : Int) + 3 * (ρ 1 : Int) + 1)) τ := by
  simp [v1, simContract, reLeg, contractStep, v0, dim, sumPairs, sumR, upd, List.range_succ]
  ring

theorem v1_readsO : Ein.DependsOn (· ∈ [2] ++ [v1.next]) (fun ρ => 5 * (ρ 2 : Int) - (ρ 100 : Int) + 2) := by
  intro σ τ h
  have h0 := h 2 (by decide); have h1 := h 100 (by decide)
  simp [h0, h1]

theorem v1_readsI : Ein.DependsOn (· ∈ (v1.next + 1) :: [0, 1])
    (fun ρ => (ρ 0 : Int) + 2 * (ρ 101 : Int) + 3 * (ρ 1 : Int) + 1) := by
  intro σ τ h
  have h0 := h 0 (by decide); have h1 := h 101 (by decide); have h2 := h 1 (by decide)
  simp [h0, h1, h2]

/-- the exact factorisation of the contracted tensor: the two original tensors over the fresh bond `(100, 101)` -/
def fact2 : SplitFact dim (v1.tens 3) (splitOutLegs e g1 t2 3 3 4) (splitInLegs e g1 t2 3 3 4) v1.next (v1.next + 1) where
  O := fun ρ => 5 * (ρ 2 : Int) - (ρ 100 : Int) + 2
  I := fun ρ => (ρ 0 : Int) + 2 * (ρ 101 : Int) + 3 * (ρ 1 : Int) + 1
  exact := v1_tens_exact
  readsO := by rw [outLegs2]; exact v1_readsO
  readsI := by rw [inLegs2]; exact v1_readsI

def g2 : LegMap := splitG 3 3 4 v1.next g1
def v2 : VNet Int := simSplit dim e g1 t2 v1 3 3 4 fact2

theorem simrun : ∃ t' g' v', SimRun dim e t0 g v0
    [.contract 2 1 3, .split 3 ⟨none, [], [0], false⟩ ⟨none, [], [1, 2], true⟩ 3 4 3, .rename 5 4, .access 5,
     .rtp 5 (some [2, 0, 1])] t' g' v' :=
  ⟨_, _, _,
    .cons (Or.inr (Or.inr rfl))
      (.contract (pid := 1) (cid := 2) (p := (50, 51)) step1 (Or.inr ⟨rfl, rfl⟩) rfl rfl (by simp [v0])
        (Or.inl rfl))
    (.cons adm2 (.split fact2 step2 ⟨rfl, rfl⟩)
    (.cons (Or.inr rfl) (.rename rfl)
    (.cons trivial (.access rfl)
    (.cons (fun q hq => by cases hq; decide) (.rtp rfl)
    (.nil _ _ _)))))⟩

end SimDemo

end Ptn.C02
