import Ptn.C02.ContractWF
import Ptn.C02.EdgeCorr
/-! `contract_nodes` at the level of labels: where every leg and every open axis goes, node by node
(`contract_labels`) and edge by edge (`contract_edges`), and preservation of the label invariant `LWF`. -/
namespace Ptn.C02
open NodeS

/-- **Where the legs go in `contract_nodes`.**  The new node has the legs of the parent (without the one
    to the child) and of the child (without the one to the parent), each with the axis it had; its open
    axes are those of `node_id1` followed by those of `node_id2`; every other node keeps its axes, only the
    references to the two contracted nodes are renamed. -/
theorem contract_labels {t t' : TTN} {id1 id2 new : Id} (h : t.WF)
    (hnew : new = id1 ∨ new = id2 ∨ t.N new = none)
    (hc : t.contractNodes id1 id2 new = some t') :
    ∃ pid cid, ((pid = id1 ∧ cid = id2) ∨ (pid = id2 ∧ cid = id1)) ∧ pid ≠ cid ∧
      t.N pid ≠ none ∧ t.N cid ≠ none ∧
      (new = pid ∨ new = cid ∨ t.N new = none) ∧
      (∀ x ax, t'.Leg new x ax ↔ ((t.Leg pid x ax ∧ x ≠ cid) ∨ (t.Leg cid x ax ∧ x ≠ pid))) ∧
      t'.openAxes new = t.openAxes id1 ++ t.openAxes id2 ∧
      (∀ k, k ≠ new → (k = pid ∨ k = cid) → t'.legPairs k = [] ∧ t'.openAxes k = []) ∧
      (∀ k, k ≠ new → k ≠ pid → k ≠ cid →
        t'.legPairs k = (t.legPairs k).map (fun e => (contrRho pid cid new e.1, e.2)) ∧
        t'.openAxes k = t.openAxes k) := by
  obtain ⟨pid, cid, P, C, _, _, F⟩ := contract_full h hnew hc
  exact ⟨pid, cid, F.ids, F.ne h, by rw [F.nodeP]; exact Option.some_ne_none P,
    by rw [F.nodeC]; exact Option.some_ne_none C, F.new_adm, F.leg_new, F.open_new, F.dropped, F.others⟩

/-- **Where the legs go in `contract_nodes`, in the names of the call**: every clause of `contract_labels` is symmetric
in the two contracted nodes. -/
theorem contract_legs {t t' : TTN} {id1 id2 new : Id} (h : t.WF)
    (hnew : new = id1 ∨ new = id2 ∨ t.N new = none)
    (hc : t.contractNodes id1 id2 new = some t') :
    id1 ≠ id2 ∧ t.N id1 ≠ none ∧ t.N id2 ≠ none ∧
      (∀ x ax, t'.Leg new x ax ↔ ((t.Leg id1 x ax ∧ x ≠ id2) ∨ (t.Leg id2 x ax ∧ x ≠ id1))) ∧
      t'.openAxes new = t.openAxes id1 ++ t.openAxes id2 ∧
      (∀ k, k ≠ new → (k = id1 ∨ k = id2) → t'.legPairs k = [] ∧ t'.openAxes k = []) ∧
      (∀ k, k ≠ new → k ≠ id1 → k ≠ id2 →
        t'.legPairs k = (t.legPairs k).map (fun e => (contrRho id1 id2 new e.1, e.2)) ∧
        t'.openAxes k = t.openAxes k) := by
  obtain ⟨pid, cid, hids, hpc, hP, hC, _, cnew, copen, cgone, cby⟩ := contract_labels h hnew hc
  rcases hids with ⟨rfl, rfl⟩ | ⟨rfl, rfl⟩
  · exact ⟨hpc, hP, hC, cnew, copen, cgone, cby⟩
  · refine ⟨hpc.symm, hC, hP, fun x ax => (cnew x ax).trans Or.comm, copen, fun k hk hk2 => cgone k hk hk2.symm,
      fun k hk h1 h2 => ?_⟩
    rw [contrRho_comm]
    exact cby k hk h2 h1

/-- `contract_nodes`: every edge but the contracted one survives; its ends at the two contracted nodes move to `new`. -/
theorem contract_edges {t t' : TTN} {id1 id2 new : Id} (h : t.WF)
    (hnew : new = id1 ∨ new = id2 ∨ t.N new = none) (hc : t.contractNodes id1 id2 new = some t') :
    EdgeCorr t t' (fun k _ => contrRho id1 id2 new k) (offEdge id1 id2) (fun _ _ _ => False) := by
  obtain ⟨hpc, _, _, cnew, _, cgone', cby'⟩ := contract_legs h hnew hc
  have cgone := fun k a b => (cgone' k a b).1
  have cby := fun k a b c => (cby' k a b c).1
  have fresh : ∀ x, t.N x ≠ none → x ≠ id1 → x ≠ id2 → x ≠ new := by
    intro x hx h1 h2 e
    rcases hnew with e' | e' | e'
    · exact h1 (e.trans e')
    · exact h2 (e.trans e')
    · rw [e] at hx; exact hx e'
  refine ⟨fun _ _ => offEdge.symm, fun _ _ _ f => f.elim, ?_, ?_⟩
  · intro k' x' ax hl
    right
    by_cases hk : k' = new
    · subst k'
      rcases (cnew x' ax).1 hl with ⟨hl', hne⟩ | ⟨hl', hne⟩
      · have : x' ≠ id1 := fun e => leg_ne h hl' e.symm
        exact ⟨id1, x', hl', ⟨fun e => hne e.2, fun e => hpc e.1⟩, (contrRho_pid ..).symm, (contrRho_ne this hne).symm⟩
      · have : x' ≠ id2 := fun e => leg_ne h hl' e.symm
        exact ⟨id2, x', hl', ⟨fun e => hpc e.1.symm, fun e => hne e.2⟩, (contrRho_cid ..).symm,
          (contrRho_ne hne this).symm⟩
    · by_cases hk2 : k' = id1 ∨ k' = id2
      · unfold TTN.Leg at hl
        rw [cgone k' hk hk2] at hl
        cases hl
      · have hkp : k' ≠ id1 := fun e => hk2 (Or.inl e)
        have hkc : k' ≠ id2 := fun e => hk2 (Or.inr e)
        obtain ⟨x, hm, he⟩ := (leg_of_map (cby k' hk hkp hkc)).1 hl
        exact ⟨k', x, hm, offEdge_of_ne hkp hkc, (contrRho_ne hkp hkc).symm, he⟩
  · intro k x ax hl ⟨n1, n2⟩
    have hkx : k ≠ x := leg_ne h hl
    by_cases hkp : k = id1
    · subst k
      have hxc : x ≠ id2 := fun e => n1 ⟨rfl, e⟩
      rw [contrRho_pid, contrRho_ne (Ne.symm hkx) hxc]
      exact (cnew x ax).2 (Or.inl ⟨hl, hxc⟩)
    · by_cases hkc : k = id2
      · subst k
        have hxp : x ≠ id1 := fun e => n2 ⟨rfl, e⟩
        rw [contrRho_cid, contrRho_ne hxp (Ne.symm hkx)]
        exact (cnew x ax).2 (Or.inr ⟨hl, hxp⟩)
      · have hkn : k ≠ new := fresh k (leg_isNode hl) hkp hkc
        rw [contrRho_ne hkp hkc]
        exact (leg_of_map (cby k hkn hkp hkc)).2 ⟨x, hl, rfl⟩

theorem contract_edges_swap {t t' : TTN} {a b new : Id}
    (c : EdgeCorr t t' (fun k _ => contrRho a b new k) (offEdge a b) (fun _ _ _ => False)) :
    EdgeCorr t t' (fun k _ => contrRho b a new k) (offEdge b a) (fun _ _ _ => False) := by
  rw [contrRho_comm]
  exact ⟨fun _ _ => offEdge.symm, fun _ _ _ f => f.elim,
    fun k' x' ax hl => (c.pull k' x' ax hl).imp id fun ⟨k, x, p, q, r⟩ => ⟨k, x, p, q.swap, r⟩,
    fun k x ax hl hk => c.push k x ax hl hk.swap⟩

theorem contract_lwf {t t' : TTN} {id1 id2 new : Id} (h : t.WF) (hl : t.LWF)
    (hnew : new = id1 ∨ new = id2 ∨ t.N new = none)
    (hc : t.contractNodes id1 id2 new = some t') : t'.LWF :=
  (contract_edges h hnew hc).lwf hl fun _ _ _ f => f

end Ptn.C02
