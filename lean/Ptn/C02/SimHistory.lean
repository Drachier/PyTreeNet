import Ptn.C02.SimContract
import Ptn.C02.SimOps
import Ptn.C02.SimSplit
import Ptn.C02.SimIdent
/-! Histories: every admissible history of edits of the structural model, together with a choice of exact
factorisations for its splits, is simulated step by step at the value level; the abstracted network value is the same
before and after. -/
namespace Ptn.C02
open NodeS Ptn.Ein Ptn.C03

set_option linter.unusedSectionVars false
variable {R : Type} [CommSemiring R]

/-- **One step of the structural model together with its value-level image.**  The structural part is `t.step op = some
t1`.  The value-level part is determined by it, except for: the exact factorisation `F` of a split (the contract of the
external splitting routine) and the premises that the fresh labels have the dimension of the new bond (`split`,
`ident`); for `contract` / `ident` the bond `p` is the one between the two nodes (it exists and is unique:
`contract_nodes_simulates`, `insert_identity_simulates`). -/
inductive SimStep (dim : Nat → Nat) (e : Label → Nat) :
    TTN → LegMap → VNet R → TOp → TTN → LegMap → VNet R → Prop
  | access {t t1 : TTN} {g : LegMap} {v : VNet R} {id : Id} :
      t.step (.access id) = some t1 → SimStep dim e t g v (.access id) t1 g v
  | rtp {t t1 : TTN} {g : LegMap} {v : VNet R} {id : Id} {q : Option (List Nat)} :
      t.step (.rtp id q) = some t1 → SimStep dim e t g v (.rtp id q) t1 g v
  | contract {t t1 : TTN} {g : LegMap} {v : VNet R} {id1 id2 new pid cid : Id} {p : Nat × Nat} {C : NodeS} :
      t.step (.contract id1 id2 new) = some t1 →
      ((pid = id1 ∧ cid = id2) ∨ (pid = id2 ∧ cid = id1)) → t.N cid = some C → C.parent = some pid →
      p ∈ v.bonds → (p = (g pid cid, g cid pid) ∨ p = (g cid pid, g pid cid)) →
      SimStep dim e t g v (.contract id1 id2 new) t1 (contrG t pid cid new g)
        (simContract dim e g t t1 v pid cid new p)
  | split {t t1 : TTN} {g : LegMap} {v : VNet R} {id : Id} {outL inL : TTN.LegSpec} {outId inId : Id} {bd : Nat}
      (F : SplitFact dim (v.tens id) (splitOutLegs e g t1 id outId inId) (splitInLegs e g t1 id outId inId)
        v.next (v.next + 1)) :
      t.step (.split id outL inL outId inId bd) = some t1 → (dim v.next = bd ∧ dim (v.next + 1) = bd) →
      SimStep dim e t g v (.split id outL inL outId inId bd) t1 (splitG id outId inId v.next g)
        (simSplit dim e g t1 v id outId inId F)
  | ident {t t1 : TTN} {g : LegMap} {v : VNet R} {cid pid new : Id} {p : Nat × Nat} :
      t.step (.ident cid pid new) = some t1 →
      p ∈ v.bonds → (p = (g cid pid, g pid cid) ∨ p = (g pid cid, g cid pid)) →
      (∀ ax, t.Leg cid pid ax → dim v.next = ax.dim ∧ dim (v.next + 1) = ax.dim) →
      SimStep dim e t g v (.ident cid pid new) t1 (identG cid pid new v.next p g) (simIdent e g t1 v cid pid new p)
  | rename {t t1 : TTN} {g : LegMap} {v : VNet R} {new old : Id} :
      t.step (.rename new old) = some t1 →
      SimStep dim e t g v (.rename new old) t1 (renG old new g) (simRename e g t1 v old new)

/-- **Soundness of one simulated step**: the value-level image is reached by value-level steps (so it is well-formed and
has the same value) and is related to the new state of the structural model. -/
theorem simstep_sound (dim : Nat → Nat) (e : Label → Nat) {t t1 : TTN} {g g1 : LegMap} {v v1 : VNet R} {op : TOp}
    (h : t.WF) (hl : t.LWF) (hv : v.WF) (hs : RSim dim e g t v) (hadm : op.Adm t)
    (hst : SimStep dim e t g v op t1 g1 v1) :
    t.step op = some t1 ∧ op.isEdit ∧ SRun dim v v1 ∧ RSim dim e g1 t1 v1 := by
  cases hst with
  | access hstep =>
    obtain ⟨T, ha⟩ := step_access_eq hstep
    exact ⟨hstep, trivial, .nil _, access_simulates dim e hs ha⟩
  | rtp hstep =>
    exact ⟨hstep, trivial, .nil _, replace_tensor_simulates dim e h hs hadm hstep⟩
  | contract hstep hcfg _ _ hp hpab =>
    obtain ⟨adm, hperm, hsim⟩ := contract_sim_core dim e h hv hs hadm hstep hcfg hp hpab
    exact ⟨hstep, trivial, .cons (.base (.contract adm)) (.cons (.releg hperm) (.nil _)), hsim⟩
  | split F hstep hdim =>
    obtain ⟨X, hX⟩ := hadm
    obtain ⟨hrun, hsim⟩ := split_nodes_simulates dim e h hv hs hX hstep hdim F
    exact ⟨hstep, trivial, hrun, hsim⟩
  | ident hstep hp hpab hdim =>
    obtain ⟨⟨hnewv, hdimp⟩, hperm, hsim⟩ := ident_sim_core dim e h hl hv hs hadm hstep hp hpab hdim
    exact ⟨hstep, trivial, .cons (.base (.ident hp hnewv hdimp)) (.cons (.releg hperm) (.nil _)), hsim⟩
  | rename hstep =>
    obtain ⟨hrun, hsim⟩ := change_node_identifier_simulates dim e h hv hs hadm hstep
    exact ⟨hstep, trivial, hrun, hsim⟩

/-- **Completeness of the simulation**: every admissible edit of the structural model that succeeds has a value-level
image — for a split GIVEN an exact factorisation along the bipartition of the legs it describes, with fresh labels of
the new bond's dimension; for an identity insertion given fresh labels of the bond's dimension; for the other edits
unconditionally. -/
theorem simstep_complete (dim : Nat → Nat) (e : Label → Nat) {t t1 : TTN} {g : LegMap} {v : VNet R} {op : TOp}
    (h : t.WF) (hv : v.WF) (hs : RSim dim e g t v) (he : op.isEdit) (hadm : op.Adm t) (hstep : t.step op = some t1)
    (hsplit : ∀ id outL inL outId inId bd, op = .split id outL inL outId inId bd →
      dim v.next = bd ∧ dim (v.next + 1) = bd ∧
      Nonempty (SplitFact dim (v.tens id) (splitOutLegs e g t1 id outId inId) (splitInLegs e g t1 id outId inId)
        v.next (v.next + 1)))
    (hident : ∀ c p n, op = .ident c p n → ∀ ax, t.Leg c p ax → dim v.next = ax.dim ∧ dim (v.next + 1) = ax.dim) :
    ∃ g1 v1, SimStep dim e t g v op t1 g1 v1 := by
  cases op with
  | root id T => exact absurd he (by simp [TOp.isEdit])
  | child id T cl pid pl => exact absurd he (by simp [TOp.isEdit])
  | access id => exact ⟨_, _, .access hstep⟩
  | rtp id q => exact ⟨_, _, .rtp hstep⟩
  | contract a b n =>
    obtain ⟨pid, cid, p, hcfg, ⟨C, hC, hCp⟩, hp, hpab, _, _⟩ := contract_nodes_simulates dim e h hv hs hadm hstep
    exact ⟨_, _, .contract hstep hcfg hC hCp hp hpab⟩
  | split id o i oid iid bd =>
    obtain ⟨d1, d2, ⟨F⟩⟩ := hsplit id o i oid iid bd rfl
    exact ⟨_, _, .split F hstep ⟨d1, d2⟩⟩
  | ident c p n =>
    obtain ⟨ax, hax, _⟩ := ident_labels h hadm hstep
    obtain ⟨q, hq, hqab⟩ := hs.exists_bond (mem_nbs.2 ⟨ax, hax⟩)
    exact ⟨_, _, .ident hstep hq hqab (hident c p n rfl)⟩
  | rename n o => exact ⟨_, _, .rename hstep⟩

/-- a history of simulated steps: every operation is admissible in the state it is applied to (the hypothesis of
`ops_preserve_wf`) and comes with its value-level image -/
inductive SimRun (dim : Nat → Nat) (e : Label → Nat) :
    TTN → LegMap → VNet R → List TOp → TTN → LegMap → VNet R → Prop
  | nil (t : TTN) (g : LegMap) (v : VNet R) : SimRun dim e t g v [] t g v
  | cons {t t1 t' : TTN} {g g1 g' : LegMap} {v v1 v' : VNet R} {op : TOp} {ops : List TOp} :
      op.Adm t → SimStep dim e t g v op t1 g1 v1 → SimRun dim e t1 g1 v1 ops t' g' v' →
      SimRun dim e t g v (op :: ops) t' g' v'

/-- **The structural history preserves the value.**  Let `t` be a well-formed, label-consistent state of the structural
model of the library's operations and `v` a well-formed valued network related to it (`RSim`: same nodes, the legs of
every node are its axis labels in axis order, the binding record is the set of edges of the tree).  For every
admissible history of edits `ops` (contractions, splits, identity insertions, identifier changes, tensor replacements
with a permutation, plain accesses — the hypothesis of `ops_preserve_wf`) and every choice of exact factorisations for
its splits (`SimRun`): the history is a run of the structural model (`TRun`) ending in a well-formed, label-consistent
state `t'`; the value-level images form a run ending in a well-formed valued network `v'` that is related to `t'` — in
particular the legs of every node of `v'`, open legs included, are where the structural model (the documented leg-order
rules: `contract_nodes_labels`, `split_nodes_labels`, …) places them — and the value of the network, as a function of
the assignment of its open legs, is the same before and after. -/
theorem structural_history_preserves_value (dim : Nat → Nat) (e : Label → Nat) {t t' : TTN} {g g' : LegMap}
    {v v' : VNet R} {ops : List TOp} (h : t.WF) (hl : t.LWF) (hv : v.WF) (hs : RSim dim e g t v)
    (hr : SimRun dim e t g v ops t' g' v') :
    TRun t ops t' ∧ (∀ op ∈ ops, op.isEdit) ∧ t'.WF ∧ t'.LWF ∧ v'.WF ∧ RSim dim e g' t' v' ∧ SRun dim v v' ∧
    ∀ σ, v'.value dim σ = v.value dim σ := by
  induction hr with
  | nil t g v => exact ⟨.nil _, by simp, h, hl, hv, hs, .nil _, fun _ => rfl⟩
  | cons hadm hst _ ih =>
    obtain ⟨hstep, hedit, hrun, hsim⟩ := simstep_sound dim e h hl hv hs hadm hst
    have hw1 := step_wf h _ hadm hstep
    have hl1 := (edit_step_labels h hl _ hadm hedit hstep).1
    obtain ⟨hv1, hval1⟩ := srun_value dim hv hrun
    obtain ⟨r2, e2, w2, l2, v2, s2, run2, val2⟩ := ih hw1 hl1 hv1 hsim
    refine ⟨.cons hadm hstep r2, ?_, w2, l2, v2, s2, hrun.trans run2, fun σ => (val2 σ).trans (hval1 σ)⟩
    intro op hop
    rcases List.mem_cons.1 hop with rfl | hop
    · exact hedit
    · exact e2 op hop

theorem SimRun.append {dim : Nat → Nat} {e : Label → Nat} {t t1 t2 : TTN} {g g1 g2 : LegMap} {v v1 v2 : VNet R}
    {o1 o2 : List TOp} (h1 : SimRun dim e t g v o1 t1 g1 v1) (h2 : SimRun dim e t1 g1 v1 o2 t2 g2 v2) :
    SimRun dim e t g v (o1 ++ o2) t2 g2 v2 := by
  induction h1 with
  | nil t g v => exact h2
  | cons hadm hst _ ih => exact .cons hadm hst (ih h2)

/-- One admissible edit of the model as a simulated run of one step, with the invariants after it; `hsplit`, `hident` are
the contracts `simstep_complete` asks of a split and of an identity insertion. -/
theorem simrun_one_exists (dim : Nat → Nat) (e : Label → Nat) {t t1 : TTN} {g : LegMap} {v : VNet R} {op : TOp}
    (h : t.WF) (hl : t.LWF) (hv : v.WF) (hs : RSim dim e g t v) (he : op.isEdit) (hadm : op.Adm t)
    (hstep : t.step op = some t1)
    (hsplit : ∀ id outL inL outId inId bd, op = .split id outL inL outId inId bd →
      dim v.next = bd ∧ dim (v.next + 1) = bd ∧
      Nonempty (SplitFact dim (v.tens id) (splitOutLegs e g t1 id outId inId) (splitInLegs e g t1 id outId inId)
        v.next (v.next + 1)))
    (hident : ∀ c p n, op = .ident c p n → ∀ ax, t.Leg c p ax → dim v.next = ax.dim ∧ dim (v.next + 1) = ax.dim) :
    ∃ g1 v1, SimRun dim e t g v [op] t1 g1 v1 ∧ t1.WF ∧ t1.LWF ∧ v1.WF ∧ RSim dim e g1 t1 v1 := by
  obtain ⟨g1, v1, st⟩ := simstep_complete dim e h hv hs he hadm hstep hsplit hident
  have run : SimRun dim e t g v [op] t1 g1 v1 := .cons hadm st (.nil _ _ _)
  obtain ⟨_, _, w1, l1, vw1, s1, _, _⟩ := structural_history_preserves_value dim e h hl hv hs run
  exact ⟨g1, v1, run, w1, l1, vw1, s1⟩

theorem structural_history_preserves_value_hidden (dim : Nat → Nat) (e : Label → Nat) {t t' : TTN} {g g' : LegMap}
    {v v' : VNet R} {ops : List TOp} (h : t.WF) (hl : t.LWF) (hv : v.WF) (hs : RSim dim e g t v)
    (hr : SimRun dim e t g v ops t' g' v') :
    R_sim dim e t' v' ∧ v'.WF ∧ ∀ σ, v'.value dim σ = v.value dim σ := by
  obtain ⟨_, _, _, _, v2, s2, _, val2⟩ := structural_history_preserves_value dim e h hl hv hs hr
  exact ⟨⟨g', s2⟩, v2, val2⟩

end Ptn.C02
