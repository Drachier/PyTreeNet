import Ptn.C02.Sim
/-! `split_nodes` of the structural model is simulated by `splitStep` — GIVEN an exact factorisation of the tensor of
the split node over the fresh bond (`SplitFact`: the contract of QR / untruncated SVD / `split_node_replace`) —
followed by a reordering of the legs of the two new nodes into the documented order. -/
namespace Ptn.C02
open NodeS Ptn.Ein Ptn.C03

set_option linter.unusedSectionVars false
variable {R : Type} [CommSemiring R]

/-- the leg map after `split_nodes`: the fresh bond gets the fresh pair of labels (`nxt` at the out-node, `nxt + 1` at
the in-node), every other leg of the split node goes with its label to the side that takes it, the other nodes keep
theirs (their reference to the split node now reads `outId` / `inId`) -/
def splitG (id outId inId : Id) (nxt : Nat) (g : LegMap) : LegMap := fun k x =>
  if k = outId then (if x = inId then nxt else g id x)
  else if k = inId then (if x = outId then nxt + 1 else g id x)
  else if x = outId ∨ x = inId then g k id else g k x

section
variable {id outId inId k x : Id} {nxt : Nat} {g : LegMap}

theorem splitG_out : splitG id outId inId nxt g outId x = if x = inId then nxt else g id x := by
  unfold splitG
  rw [if_pos rfl]

theorem splitG_in (hoi : outId ≠ inId) :
    splitG id outId inId nxt g inId x = if x = outId then nxt + 1 else g id x := by
  unfold splitG
  rw [if_neg (Ne.symm hoi), if_pos rfl]

theorem splitG_other (h1 : k ≠ outId) (h2 : k ≠ inId) :
    splitG id outId inId nxt g k x = if x = outId ∨ x = inId then g k id else g k x := by
  unfold splitG
  rw [if_neg h1, if_neg h2]

end

/-- the legs the out-node takes over from the split node, in the order (parent, children, open) of the new state -/
def splitOutLegs (e : Label → Nat) (g : LegMap) (t1 : TTN) (id outId inId : Id) : List Nat :=
  ((t1.nbs outId).erase inId).map (g id) ++ (t1.openAxes outId).map (fun ax => e ax.lab)

/-- the legs the in-node takes over from the split node -/
def splitInLegs (e : Label → Nat) (g : LegMap) (t1 : TTN) (id outId inId : Id) : List Nat :=
  ((t1.nbs inId).erase outId).map (g id) ++ (t1.openAxes inId).map (fun ax => e ax.lab)

/-- the valued network after `split_nodes`: `splitStep` with the factorisation `F`, then the legs of every node in the
axis order of the structural model -/
def simSplit (dim : Nat → Nat) (e : Label → Nat) (g : LegMap) (t1 : TTN) (v : VNet R) (id outId inId : Id)
    (F : SplitFact dim (v.tens id) (splitOutLegs e g t1 id outId inId) (splitInLegs e g t1 id outId inId)
      v.next (v.next + 1)) : VNet R :=
  reLeg (splitStep dim v id outId inId _ _ F) (simLegs e (splitG id outId inId v.next g) t1)

/-- one side `s` of a split (`o` the other side): its neighbours apart from `o` are the neighbours of the split node
that the side takes (`P`) -/
theorem split_side_nbs {t t1 : TTN} (h1 : t1.WF) {id s o : Id} {P : Id → Prop} {ax0 : Axis}
    (c : ∀ x ax, t1.Leg s x ax ↔ (x = o ∧ ax = ax0) ∨ (P x ∧ t.Leg id x ax))
    (hne : ∀ x ∈ t.nbs id, x ≠ o) (x : Id) : x ∈ (t1.nbs s).erase o ↔ (P x ∧ x ∈ t.nbs id) := by
  rw [(nbs_nodup h1 s).mem_erase_iff, mem_nbs]
  constructor
  · rintro ⟨hne', ax, hl⟩
    rcases (c x ax).1 hl with ⟨e', _⟩ | ⟨hx, hl'⟩
    · exact absurd e' hne'
    · exact ⟨hx, mem_nbs.2 ⟨ax, hl'⟩⟩
  · rintro ⟨hx, hm⟩
    obtain ⟨ax, hl'⟩ := mem_nbs.1 hm
    exact ⟨hne x hm, ax, (c x ax).2 (Or.inr ⟨hx, hl'⟩)⟩

/-- the virtual legs of one side `s` of a split: the fresh label `q` towards the other side `o`, the old labels of
the split node towards the rest -/
theorem split_side_legs {t1 : TTN} (h1 : t1.WF) {s o : Id} {G : LegMap} {f : Id → Nat} {q : Nat}
    (ho : o ∈ t1.nbs s) (hq : G s o = q) (hf : ∀ x, x ≠ o → G s x = f x) :
    ((t1.nbs s).map (G s)).Perm (q :: ((t1.nbs s).erase o).map f) := by
  refine ((List.perm_cons_erase ho).map (G s)).trans ?_
  rw [List.map_cons, hq]
  exact .cons _ (.of_eq (List.map_congr_left fun x hx => hf x ((nbs_nodup h1 s).mem_erase_iff.1 hx).1))

/-- The same three facts as `contract_sim_core`, for `split_nodes` with the factorisation `F`. -/
theorem split_sim_core (dim : Nat → Nat) (e : Label → Nat) {g : LegMap} {t t1 : TTN} {v : VNet R}
    {id : Id} {X : NodeS} {outL inL : TTN.LegSpec} {outId inId : Id} {bd : Nat}
    (h : t.WF) (hv : v.WF) (hs : RSim dim e g t v) (adm : SplitAdm t id X outL inL outId inId)
    (hsp : t.splitNodes id outL inL outId inId bd = some t1)
    (hdim : dim v.next = bd ∧ dim (v.next + 1) = bd)
    (F : SplitFact dim (v.tens id) (splitOutLegs e g t1 id outId inId) (splitInLegs e g t1 id outId inId)
      v.next (v.next + 1)) :
    SplitAdmV v id outId inId (splitOutLegs e g t1 id outId inId) (splitInLegs e g t1 id outId inId) ∧
    (∀ k ∈ (splitStep dim v id outId inId _ _ F).ids,
      (simLegs e (splitG id outId inId v.next g) t1 k).Perm ((splitStep dim v id outId inId _ _ F).legs k)) ∧
    RSim dim e (splitG id outId inId v.next g) t1 (simSplit dim e g t1 v id outId inId F) := by
  obtain ⟨hoi, L, _, cO, cI, _, _, hopen, _, cby⟩ := split_legs h adm hsp
  obtain ⟨hgone, hbyN'⟩ := split_N h adm hsp
  have h1 : t1.WF := splitNodes_wf h adm hsp
  have hXN := adm.node
  have fresh : ∀ x, t.N x ≠ none → x ≠ id → x ≠ outId ∧ x ≠ inId := by
    intro x hx hxid
    cases hn : t.N x with
    | none => exact absurd hn hx
    | some n => exact adm.ne_of_node hn hxid
  have hidv : id ∈ v.ids := (hs.ids id).2 (by rw [hXN]; simp)
  have hne_oi : ∀ x ∈ t.nbs id, x ≠ outId ∧ x ≠ inId :=
    fun x hm => fresh x (nbs_node (nbs_symm h hm)) fun e' => nbs_ne h hm e'.symm
  have hmem_o : ∀ x, x ∈ (t1.nbs outId).erase inId ↔ (x ∈ outL.allNeighbourIds ∧ x ∈ t.nbs id) :=
    split_side_nbs h1 cO fun x hm => (hne_oi x hm).2
  have hmem_i : ∀ x, x ∈ (t1.nbs inId).erase outId ↔ (x ∈ inL.allNeighbourIds ∧ x ∈ t.nbs id) :=
    split_side_nbs h1 cI fun x hm => (hne_oi x hm).1
  have hin_out : inId ∈ t1.nbs outId := mem_nbs.2 ⟨_, (cO inId _).2 (Or.inl ⟨rfl, rfl⟩)⟩
  have hout_in : outId ∈ t1.nbs inId := nbs_symm h1 hin_out
  have hNo : t1.N outId ≠ none := nbs_node hin_out
  have hNi : t1.N inId ≠ none := nbs_node hout_in
  -- between them the two new nodes have the neighbours of the split node, each once: value-level admissibility
  have hnbs_perm : ((t1.nbs outId).erase inId ++ (t1.nbs inId).erase outId).Perm (t.nbs id) := by
    rw [List.perm_ext_iff_of_nodup _ (nbs_nodup h id)]
    · intro x
      rw [List.mem_append, hmem_o, hmem_i]
      constructor
      · rintro (⟨_, hm⟩ | ⟨_, hm⟩) <;> exact hm
      · intro hm
        exact ((adm.mem_nbrs x).2 (nbs_eq h hXN ▸ hm)).imp (fun ho => ⟨ho, hm⟩) fun hi => ⟨hi, hm⟩
    · rw [List.nodup_append]
      refine ⟨(nbs_nodup h1 outId).erase _, (nbs_nodup h1 inId).erase _, ?_⟩
      intro x hx y hy hxy
      subst hxy
      exact adm.nbrs_disjoint h ((hmem_o x).1 hx).1 ((hmem_i x).1 hy).1
  have admV : SplitAdmV v id outId inId (splitOutLegs e g t1 id outId inId) (splitInLegs e g t1 id outId inId) := by
    refine ⟨hidv, hoi, ?_, ?_, ?_⟩
    · rcases adm.outFresh with e' | e'
      · exact Or.inl e'
      · exact Or.inr (fun hm => (hs.ids outId).1 hm e')
    · rcases adm.inFresh with e' | e'
      · exact Or.inl e'
      · exact Or.inr (fun hm => (hs.ids inId).1 hm e')
    · rw [hs.legs id hidv]
      unfold splitOutLegs splitInLegs simLegs
      refine (perm_append_interleave _ _ _ _).trans ?_
      rw [← List.map_append, ← List.map_append]
      exact List.Perm.append (hnbs_perm.map _) (hopen.map _)
  -- the new leg map gives every old edge the labels it had
  have GC : ∀ k x, x ∈ t.nbs k → splitG id outId inId v.next g (splitSide id inL outId inId x k)
      (splitSide id inL outId inId k x) = g k x := by
    intro k x hx
    have hkx : k ≠ x := nbs_ne h hx
    have hxk := nbs_symm h hx
    by_cases hk : k = id
    · subst k
      obtain ⟨f1, f2⟩ := fresh x (nbs_node hxk) (Ne.symm hkx)
      rw [splitSide_ne (Ne.symm hkx), splitSide_self]
      by_cases hxi : x ∈ inL.allNeighbourIds
      · rw [if_pos hxi, splitG_in hoi, if_neg f1]
      · rw [if_neg hxi, splitG_out, if_neg f2]
    · obtain ⟨f1, f2⟩ := fresh k (nbs_node hx) hk
      rw [splitSide_ne hk, splitG_other f1 f2]
      by_cases hxid : x = id
      · subst x
        rw [splitSide_self]
        by_cases hki : k ∈ inL.allNeighbourIds
        · rw [if_pos hki, if_pos (Or.inr rfl)]
        · rw [if_neg hki, if_pos (Or.inl rfl)]
      · obtain ⟨f3, f4⟩ := fresh x (nbs_node hxk) hxid
        rw [splitSide_ne hxid, if_neg (not_or.2 ⟨f3, f4⟩)]
  have gab : (splitG id outId inId v.next g outId inId = v.next) ∧
      (splitG id outId inId v.next g inId outId = v.next + 1) :=
    ⟨by rw [splitG_out, if_pos rfl], by rw [splitG_in hoi, if_pos rfl]⟩
  have hlegs_by : ∀ k, k ≠ outId → k ≠ inId → k ≠ id →
      simLegs e (splitG id outId inId v.next g) t1 k = simLegs e g t k := by
    intro k g1 g2 g3
    refine simLegs_of_map (cby k g1 g2 g3).1 (cby k g1 g2 g3).2 (fun x hx => ?_)
    have := GC k x hx
    rwa [splitSide_ne g3] at this
  -- the legs of the two new nodes in axis order: what `splitStep` makes, with the fresh label moved to its place
  have hlegs_out : (simLegs e (splitG id outId inId v.next g) t1 outId).Perm
      (splitOutLegs e g t1 id outId inId ++ [v.next]) := by
    unfold simLegs splitOutLegs
    have hp1 : ((t1.nbs outId).map (splitG id outId inId v.next g outId)).Perm
        (v.next :: ((t1.nbs outId).erase inId).map (g id)) :=
      split_side_legs h1 hin_out gab.1 fun x hx => by rw [splitG_out, if_neg hx]
    refine (List.Perm.append_right _ hp1).trans ?_
    rw [List.cons_append]
    exact (List.perm_append_singleton _ _).symm
  have hlegs_in : (simLegs e (splitG id outId inId v.next g) t1 inId).Perm
      ((v.next + 1) :: splitInLegs e g t1 id outId inId) := by
    unfold simLegs splitInLegs
    have hp1 : ((t1.nbs inId).map (splitG id outId inId v.next g inId)).Perm
        ((v.next + 1) :: ((t1.nbs inId).erase outId).map (g id)) :=
      split_side_legs h1 hout_in gab.2 fun x hx => by rw [splitG_in hoi, if_neg hx]
    exact List.Perm.append_right _ hp1
  have hrest : ∀ k, k ∈ v.ids.erase id → k ∈ v.ids ∧ k ≠ id ∧ k ≠ outId ∧ k ≠ inId := by
    intro k hk
    exact ⟨((hv.ids_nodup.mem_erase_iff).1 hk).2, ((hv.ids_nodup.mem_erase_iff).1 hk).1,
      rest1_ne hv admV.hout hk, rest1_ne hv admV.hinn hk⟩
  refine ⟨admV, ?_, ?_⟩
  · intro k hk
    rcases mem_splitStep_ids.1 hk with rfl | rfl | hk'
    · rw [splitStep_legs_out]; exact hlegs_out
    · rw [splitStep_legs_inn hoi]; exact hlegs_in
    · obtain ⟨g0, g3, g1, g2⟩ := hrest k hk'
      rw [splitStep_legs_ne g1 g2, hlegs_by k g1 g2 g3, hs.legs k g0]
  · -- `RSim` of the result: along the edge correspondence; the one fresh edge is the new bond `(v.next, v.next + 1)`
    have hm : (v.next, v.next + 1) ∈ (simSplit dim e g t1 v id outId inId F).bonds :=
      List.mem_append_right _ (List.mem_singleton.2 rfl)
    refine hs.transport h (split_edges h adm hsp)
      (ids := ?_) (legs := fun k _ => rfl) (hp := split_openList h adm hsp) (GC := fun k x hx _ => GC k x hx)
      (hfresh := ?_) (bkeep := fun _ _ _ _ hb => List.mem_append_left _ hb) (bout := ?_)
    · refine hs.ids_of (old := fun k => k = id) (new := fun k => k = outId ∨ k = inId) (fun k => ?_)
        (fun k hk => hk.elim (fun e' => e' ▸ hNo) fun e' => e' ▸ hNi)
        (fun k ho hn => ho ▸ hgone (fun e' => hn (Or.inl (ho.trans e'))) fun e' => hn (Or.inr (ho.trans e')))
        fun k ho hn => hbyN' k (fun e' => hn (Or.inl e')) (fun e' => hn (Or.inr e')) ho
      rw [show k ∈ (simSplit dim e g t1 v id outId inId F).ids ↔ _ from
        List.mem_cons.trans (or_congr_right List.mem_cons), hv.ids_nodup.mem_erase_iff, ← or_assoc, and_comm]
    · rintro k' x' ax ⟨⟨e1, e2⟩ | ⟨e1, e2⟩, rfl⟩
      · rw [e1, e2, gab.1, gab.2]; exact ⟨hdim.1, Or.inl hm⟩
      · rw [e1, e2, gab.1, gab.2]; exact ⟨hdim.2, Or.inr hm⟩
    · intro q hq
      rcases List.mem_append.1 hq with hq' | hq'
      · exact Or.inr ⟨hq', fun _ _ _ _ => trivial⟩
      · exact Or.inl ⟨outId, inId, hin_out, by rw [gab.1, gab.2]; exact List.mem_singleton.1 hq'⟩

/-- **`split_nodes` of the structural model is simulated at the value level**, for every exact factorisation of the
tensor of the split node along the bipartition of its legs that the two leg specifications describe
(`splitOutLegs` / `splitInLegs`: the legs of the out- resp. in-node in the order (parent, children, open)), over the
fresh pair of labels; the dimension of the fresh labels is the new bond dimension.  `splitStep` with that
factorisation followed by putting the new bond where the structural model puts it (a permutation of the legs of the
two new nodes) gives a valued network related to the new state; it is still well-formed and has the same value. -/
theorem split_nodes_simulates (dim : Nat → Nat) (e : Label → Nat) {g : LegMap} {t t1 : TTN} {v : VNet R}
    {id : Id} {X : NodeS} {outL inL : TTN.LegSpec} {outId inId : Id} {bd : Nat}
    (h : t.WF) (hv : v.WF) (hs : RSim dim e g t v) (adm : SplitAdm t id X outL inL outId inId)
    (hsp : t.splitNodes id outL inL outId inId bd = some t1)
    (hdim : dim v.next = bd ∧ dim (v.next + 1) = bd)
    (F : SplitFact dim (v.tens id) (splitOutLegs e g t1 id outId inId) (splitInLegs e g t1 id outId inId)
      v.next (v.next + 1)) :
    SRun dim v (simSplit dim e g t1 v id outId inId F) ∧
    RSim dim e (splitG id outId inId v.next g) t1 (simSplit dim e g t1 v id outId inId F) := by
  obtain ⟨admV, hperm, hsim⟩ := split_sim_core dim e h hv hs adm hsp hdim F
  exact ⟨.cons (.base (.split admV F)) (.cons (.releg hperm) (.nil _)), hsim⟩

end Ptn.C02
