import Ptn.C02.TTN
/-! Association lists seen through `dget`: what `dset`, `dpop`, `dupdate` do to a lookup. -/
namespace Ptn.C02

variable {α : Type}

theorem dget_nil (k : Id) : dget ([] : List (Id × α)) k = none := rfl

theorem dget_cons (e : Id × α) (d : List (Id × α)) (k : Id) :
    dget (e :: d) k = if e.1 = k then some e.2 else dget d k := by
  unfold dget
  by_cases h : e.1 = k
  · simp [h]
  · have : (e.1 == k) = false := by simpa using h
    simp [this, h]

theorem dhas_cons (e : Id × α) (d : List (Id × α)) (k : Id) :
    dhas (e :: d) k = (e.1 == k || dhas d k) := by
  simp [dhas]

theorem dhas_eq_isSome (d : List (Id × α)) (k : Id) : dhas d k = (dget d k).isSome := by
  induction d with
  | nil => rfl
  | cons e d ih =>
    rw [dhas_cons, dget_cons, ih]
    by_cases h : e.1 = k <;> simp [h]

theorem dget_append (d1 d2 : List (Id × α)) (k : Id) :
    dget (d1 ++ d2) k = match dget d1 k with
      | some v => some v
      | none => dget d2 k := by
  induction d1 with
  | nil => simp [dget_nil]
  | cons e d1 ih =>
    rw [List.cons_append, dget_cons, dget_cons]
    by_cases h : e.1 = k <;> simp [h, ih]

theorem dget_map_replace (d : List (Id × α)) (k k' : Id) (v : α) :
    dget (d.map (fun e => if e.1 == k then (k, v) else e)) k' =
      if k' = k then (if dhas d k then some v else none) else dget d k' := by
  induction d with
  | nil => simp [dget_nil, dhas]
  | cons e d ih =>
    rw [List.map_cons, dget_cons, ih, dhas_cons, dget_cons]
    by_cases h1 : e.1 = k
    · subst h1
      by_cases h2 : k' = e.1
      · subst h2; simp
      · have : ¬ e.1 = k' := fun h => h2 h.symm
        simp [h2, this]
    · have hb : (e.1 == k) = false := by simpa using h1
      simp only [hb, Bool.false_eq_true, if_false, Bool.false_or]
      by_cases h2 : k' = k
      · subst h2
        have : ¬ e.1 = k' := h1
        simp [this]
      · simp [h2]

theorem dget_dset (d : List (Id × α)) (k k' : Id) (v : α) :
    dget (dset d k v) k' = if k' = k then some v else dget d k' := by
  unfold dset
  by_cases h : dhas d k
  · simp only [h, if_true]
    rw [dget_map_replace]
    simp [h]
  · simp only [h, Bool.false_eq_true, if_false]
    rw [dget_append]
    have hn : dget d k = none := by
      have := dhas_eq_isSome d k
      cases hg : dget d k with
      | none => rfl
      | some _ => rw [hg] at this; simp at this; exact absurd this h
    by_cases h2 : k' = k
    · subst h2
      simp [hn, dget_cons]
    · have : ¬ k = k' := fun h => h2 h.symm
      cases hg : dget d k' <;> simp [h2, dget_cons, dget_nil, this]

theorem dget_dset_self (d : List (Id × α)) (k : Id) (v : α) : dget (dset d k v) k = some v := by
  simp [dget_dset]

theorem dget_dset_ne (d : List (Id × α)) (k k' : Id) (v : α) (h : k' ≠ k) :
    dget (dset d k v) k' = dget d k' := by
  simp [dget_dset, h]

theorem dget_filter_ne (d : List (Id × α)) (k k' : Id) :
    dget (d.filter (fun e => e.1 != k)) k' = if k' = k then none else dget d k' := by
  induction d with
  | nil => simp [dget_nil]
  | cons e d ih =>
    by_cases h1 : e.1 = k
    · have : (e.1 != k) = false := by simp [h1]
      rw [List.filter_cons_of_neg (by simp [this]), ih, dget_cons]
      by_cases h2 : k' = k
      · simp [h2]
      · have : ¬ e.1 = k' := by rw [h1]; exact fun h => h2 h.symm
        simp [h2, this]
    · have : (e.1 != k) = true := by simp [h1]
      rw [List.filter_cons_of_pos (by simp [this]), dget_cons, ih, dget_cons]
      by_cases h2 : k' = k
      · subst h2
        simp [h1]
      · simp [h2]

theorem dpop_eq_some (d d' : List (Id × α)) (k : Id) (h : dpop d k = some d') :
    dhas d k = true ∧ ∀ k', dget d' k' = if k' = k then none else dget d k' := by
  unfold dpop at h
  by_cases hh : dhas d k
  · simp only [hh, if_true, Option.some.injEq] at h
    subst h
    exact ⟨hh, fun k' => dget_filter_ne d k k'⟩
  · simp [hh] at h

theorem dpop_of_has (d : List (Id × α)) (k : Id) (h : dhas d k = true) :
    ∃ d', dpop d k = some d' ∧ ∀ k', dget d' k' = if k' = k then none else dget d k' := by
  refine ⟨d.filter (fun e => e.1 != k), by simp [dpop, h], fun k' => dget_filter_ne d k k'⟩

theorem dhas_of_dget {d : List (Id × α)} {k : Id} {v : α} (h : dget d k = some v) : dhas d k = true := by
  rw [dhas_eq_isSome, h]; rfl

theorem dhas_dset (d : List (Id × α)) (k k' : Id) (v : α) :
    dhas (dset d k v) k' = (k' == k || dhas d k') := by
  rw [dhas_eq_isSome, dget_dset, dhas_eq_isSome]
  by_cases h : k' = k <;> simp [h]

theorem dhas_of_dpop (d d' : List (Id × α)) (k k' : Id) (h : dpop d k = some d') :
    dhas d' k' = (dhas d k' && k' != k) := by
  obtain ⟨_, hg⟩ := dpop_eq_some d d' k h
  rw [dhas_eq_isSome, hg k', dhas_eq_isSome]
  by_cases h' : k' = k <;> simp [h']

end Ptn.C02
