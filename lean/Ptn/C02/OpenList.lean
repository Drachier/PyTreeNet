import Ptn.C02.Labels
import Ptn.C02.TTNLemmas
import Ptn.Common.List
/-! The open axes of the whole network in a canonical order (by node identifier, then by position), and a
criterion for two networks to have the same open axes up to order. -/
namespace Ptn.C02
open NodeS

/-- One more than the largest identifier in use. -/
def TTN.bound (t : TTN) : Nat := (t.nodes.map (·.1)).foldl max 0 + 1

/-- The open axes of the nodes with identifier `< M`, by identifier, then by position. -/
def TTN.openUpTo (t : TTN) (M : Nat) : List Axis := (List.range M).flatMap t.openAxes

/-- **The open axes of the network in canonical order**: by node identifier, then by position in the node. -/
def TTN.openList (t : TTN) : List Axis := t.openUpTo t.bound

theorem N_none_above (t : TTN) (k : Nat) (hk : t.bound ≤ k) : t.N k = none := by
  unfold TTN.N
  cases hg : dget t.nodes k with
  | none => rfl
  | some v =>
    have hmem : k ∈ t.nodes.map (·.1) := (dhas_eq_mem_keys t.nodes k).mp (dhas_of_dget hg)
    have := (le_foldl_max (t.nodes.map (·.1)) 0).2 k hmem
    unfold TTN.bound at hk
    omega

theorem openAxes_above (t : TTN) (k : Nat) (hk : t.bound ≤ k) : t.openAxes k = [] :=
  openAxes_none (N_none_above t k hk)

theorem openUpTo_ge (t : TTN) (M : Nat) (hM : t.bound ≤ M) : t.openUpTo M = t.openList := by
  unfold TTN.openList TTN.openUpTo
  rw [range_eq_append hM, List.flatMap_append]
  have : (List.range' t.bound (M - t.bound)).flatMap t.openAxes = [] := by
    rw [List.flatMap_eq_nil_iff]
    intro x hx
    rw [List.mem_range'_1] at hx
    exact openAxes_above t x hx.1
  rw [this, List.append_nil]

theorem mem_openList {t : TTN} {ax : Axis} : ax ∈ t.openList ↔ ∃ k, ax ∈ t.openAxes k := by
  unfold TTN.openList TTN.openUpTo
  rw [List.mem_flatMap]
  constructor
  · rintro ⟨k, _, hk⟩; exact ⟨k, hk⟩
  · rintro ⟨k, hk⟩
    refine ⟨k, List.mem_range.2 (Nat.lt_of_not_le fun hb => ?_), hk⟩
    rw [openAxes_above t k hb] at hk
    cases hk

theorem openList_perm_of_local {t t' : TTN} (D : List Id) (hD : D.Nodup)
    (hsame : ∀ k, k ∉ D → t'.openAxes k = t.openAxes k)
    (hperm : (D.flatMap t'.openAxes).Perm (D.flatMap t.openAxes)) :
    t'.openList.Perm t.openList := by
  -- read both networks up to a common bound `M` above all keys and all of `D`
  let M := max (max t.bound t'.bound) (D.foldl max 0 + 1)
  have hM1 : t.bound ≤ M := Nat.le_trans (Nat.le_max_left _ _) (Nat.le_max_left _ _)
  have hM2 : t'.bound ≤ M := Nat.le_trans (Nat.le_max_right _ _) (Nat.le_max_left _ _)
  have hMD : ∀ x ∈ D, x < M := by
    intro x hx
    have := (le_foldl_max D 0).2 x hx
    exact Nat.lt_of_lt_of_le (Nat.lt_succ_of_le this) (Nat.le_max_right _ _)
  rw [← openUpTo_ge t M hM1, ← openUpTo_ge t' M hM2]
  unfold TTN.openUpTo
  -- `range M` is `D` followed by the rest `R` up to order; on `R` the two networks agree, on `D` they agree up to order
  let R := (List.range M).filter (fun k => decide (k ∉ D))
  have hRnd : R.Nodup := List.Nodup.sublist List.filter_sublist List.nodup_range
  have hsplit : (List.range M).Perm (D ++ R) := by
    rw [List.perm_ext_iff_of_nodup List.nodup_range]
    · intro a
      simp only [List.mem_range, List.mem_append, R, List.mem_filter, decide_eq_true_eq]
      constructor
      · intro ha
        by_cases hd : a ∈ D
        · exact Or.inl hd
        · exact Or.inr ⟨ha, hd⟩
      · rintro (hd | ⟨ha, _⟩)
        · exact hMD a hd
        · exact ha
    · rw [List.nodup_append]
      refine ⟨hD, hRnd, ?_⟩
      intro a ha b hb e
      subst e
      simp only [R, List.mem_filter, decide_eq_true_eq] at hb
      exact hb.2 ha
  have h1 := List.Perm.flatMap_right t'.openAxes hsplit
  have h2 := List.Perm.flatMap_right t.openAxes hsplit
  rw [List.flatMap_append] at h1 h2
  have hR : R.flatMap t'.openAxes = R.flatMap t.openAxes := by
    have e : R.map t'.openAxes = R.map t.openAxes := List.map_congr_left fun k hk =>
      hsame k (by simpa [R] using (List.mem_filter.mp hk).2)
    rw [List.flatMap_def, List.flatMap_def, e]
  rw [hR] at h1
  exact h1.trans ((List.Perm.append_right _ hperm).trans h2.symm)

theorem openList_perm_of_two {t t' : TTN} {a b : Id} (hab : a ≠ b)
    (hsame : ∀ k, k ≠ a → k ≠ b → t'.openAxes k = t.openAxes k)
    (hperm : (t'.openAxes a ++ t'.openAxes b).Perm (t.openAxes a ++ t.openAxes b)) :
    t'.openList.Perm t.openList := by
  refine openList_perm_of_local [a, b] (by simp [hab]) (fun k hk => ?_) (by simpa using hperm)
  simp only [List.mem_cons, List.not_mem_nil, or_false, not_or] at hk
  exact hsame k hk.1 hk.2

theorem openList_perm_of_three {t t' : TTN} {a b c : Id} (hab : a ≠ b) (hac : a ≠ c) (hbc : b ≠ c)
    (hsame : ∀ k, k ≠ a → k ≠ b → k ≠ c → t'.openAxes k = t.openAxes k)
    (hperm : (t'.openAxes a ++ (t'.openAxes b ++ t'.openAxes c)).Perm
      (t.openAxes a ++ (t.openAxes b ++ t.openAxes c))) :
    t'.openList.Perm t.openList := by
  refine openList_perm_of_local [a, b, c] (by simp [hab, hac, hbc]) (fun k hk => ?_) (by simpa using hperm)
  simp only [List.mem_cons, List.not_mem_nil, or_false, not_or] at hk
  exact hsame k hk.1 hk.2.1 hk.2.2

theorem openList_perm_of_same {t t' : TTN} (hsame : ∀ k, t'.openAxes k = t.openAxes k) :
    t'.openList.Perm t.openList :=
  openList_perm_of_local [] List.nodup_nil (fun k _ => hsame k) (List.Perm.refl _)

end Ptn.C02
