import Ptn.C02.LegPush
import Ptn.C02.TruncWF
/-! `truncate_node` / `recursive_truncation` on the structural model: the structure is restored exactly and every bond
carries the axis one expects - after `truncate_node(n)` the leg of every child `c` towards `n` is the fresh axis of the
projector pair of `c`, of dimension `kdim c`; every other leg is the axis it was.  One induction per loop over the rounds
`loop#_step` of `TruncWF.lean` with legs and the run of basic edits riding along, one composition of the loops, one recursion
over the tree.  The leg statements are declared in `Ptn.C10` (the bond bound uses them), the structure statements in `Ptn.C02`. -/
namespace Ptn.C02

/-- one round of the first loop of `truncate_node(n)` for the child `c` -/
def truncRound (n : Id) (ids : TTN.TempIds) (kdim : Id → Nat) (c : Id) : List TOp :=
  [.access n, .ident c n (ids.ident c),
    .split (ids.ident c) ⟨some n, [], [], false⟩ ⟨none, [c], [], false⟩ (ids.star c) (ids.proj c) (kdim c)]

/-- the basic edits of `truncate_node(n)` without the recursive calls, over the children `cs` of `n` -/
def truncOps (n : Id) (ids : TTN.TempIds) (kdim : Id → Nat) (cs : List Id) : List TOp :=
  cs.flatMap (truncRound n ids kdim) ++
    (cs.map (fun c => TOp.contract n (ids.star c) n) ++ cs.map (fun c => TOp.contract (ids.proj c) c c))

end Ptn.C02

namespace Ptn.C10
open Ptn.C02

/-- One iteration of the first loop (`insert_identity` + `split_node_replace`): the projector `proj c` is joined to
    its conjugate `star c` by a fresh axis of dimension `k`; every leg that is not an end of the bond `c – n`
    stays where it is. -/
theorem leg_step1 {t t' : TTN} {n c : Id} {ids : TTN.TempIds} {k : Nat}
    {gp : Option Id} {L cch : List Id}
    (h : t.WF) (hN : t.S n = some (gp, L)) (hC : t.S c = some (some n, cch))
    (hi : t.S (ids.ident c) = none) (hs : t.S (ids.star c) = none) (hp : t.S (ids.proj c) = none)
    (his : ids.ident c ≠ ids.star c) (hip : ids.ident c ≠ ids.proj c)
    (hrun : (do let (t0, _) ← t.access n; TTN.insertProjectors t0 n c ids k) = some t') :
    (∃ ax, t'.Leg (ids.proj c) (ids.star c) ax ∧ ax.dim = k) ∧
    (∀ k' x ax, t.Leg k' x ax → ¬ ((k' = c ∧ x = n) ∨ (k' = n ∧ x = c)) → t'.Leg k' x ax) := by
  obtain ⟨t0, T, t1, X, hacc, w0, _, hnew, hins, w1, adm, hsplit⟩ :=
    insertProjectors_stages h hN hC hi hs hp his hip hrun
  constructor
  · exact ⟨_, (split_push_fresh w1 adm hsplit).2, rfl⟩
  · intro k' x ax hl hne
    have l0 := access_push hacc hl
    have l1 := ident_push w0 hnew hins l0 hne
    have hk' : k' ≠ ids.ident c := by
      intro e; rw [e] at l0; exact leg_isNode l0 hnew
    have hx : x ≠ ids.ident c := by
      intro e; rw [e] at l0; exact leg_target_isNode w0 l0 hnew
    exact split_push_other w1 adm hsplit l1 hk' hx

/-- One iteration of `contract_all_children(n)`: the conjugate `s` is merged into `n`. -/
theorem leg_step2 {t t' : TTN} {n s : Id} (h : t.WF) (hc : t.contractNodes n s n = some t') :
    (∀ k x ax, t.Leg k x ax → k ≠ s → x ≠ s → t'.Leg k x ax) ∧
    (∀ k ax, t.Leg k s ax → k ≠ n → t'.Leg k n ax) := by
  have hnew : n = n ∨ n = s ∨ t.N n = none := Or.inl rfl
  constructor
  · intro k x ax hl hk hx
    by_cases hkn : k = n
    · subst hkn
      exact contract_push_new h hnew hc (Or.inl ⟨hl, hx⟩)
    · have := contract_push_other h hnew hc hl hkn hk
      by_cases hxn : x = n
      · simpa [hxn] using this
      · simpa [hxn, hx] using this
  · intro k ax hl hk
    have hks : k ≠ s := leg_ne h hl
    have := contract_push_other h hnew hc hl hk hks
    simpa using this

/-- One iteration of the last loop: the projector `p` is merged into the original child `c`. -/
theorem leg_step3 {t t' : TTN} {p c : Id} (h : t.WF) (hc : t.contractNodes p c c = some t') :
    (∀ k x ax, t.Leg k x ax → k ≠ p → x ≠ p → t'.Leg k x ax) ∧
    (∀ x ax, t.Leg p x ax → x ≠ c → t'.Leg c x ax) := by
  have hnew : c = p ∨ c = c ∨ t.N c = none := Or.inr (Or.inl rfl)
  constructor
  · intro k x ax hl hk1 hx
    by_cases hk2 : k = c
    · subst hk2
      exact contract_push_new h hnew hc (Or.inr ⟨hl, hx⟩)
    · have := contract_push_other h hnew hc hl hk1 hk2
      by_cases hxc : x = c
      · simpa [hxc] using this
      · simpa [hxc, hx] using this
  · intro x ax hl hx
    exact contract_push_new h hnew hc (Or.inl ⟨hl, hx⟩)

/-- every leg of `t0` that is not an end of a bond `n – c`, `c ∈ cs`, is the same leg of `t` -/
def KeepLegs (t0 t : TTN) (n : Id) (cs : List Id) : Prop :=
  ∀ k x ax, t0.Leg k x ax → ¬ ((k ∈ cs ∧ x = n) ∨ (k = n ∧ x ∈ cs)) → t.Leg k x ax

/-- for every child `c ∈ l` the bond between the nodes `a c` and `b c` has the kept dimension `kdim c`; which two nodes
carry the truncated bond of `c` changes from loop to loop (`proj c – star c`, `proj c – n`, `c – n`) -/
def DimLegs (t : TTN) (kdim : Id → Nat) (a b : Id → Id) (l : List Id) : Prop :=
  ∀ c ∈ l, ∃ ax, t.Leg (a c) (b c) ax ∧ ax.dim = kdim c

theorem DimLegs.nil {t : TTN} {kdim : Id → Nat} {a b : Id → Id} : DimLegs t kdim a b [] := by
  intro c hc; simp at hc

theorem ne_fresh {t0 : TTN} {k f : Id} (hk : t0.N k ≠ none) (hf : t0.S f = none) : k ≠ f := by
  intro e; subst e; exact hk (N_none_of_S hf)

theorem loop1_legs {P : Prop} {O : Id → List Axis} {t0 : TTN} {ids : TTN.TempIds} {n : Id}
    {gp : Option Id} {cs : List Id}
    (X : TruncCtx t0.S ids n gp cs) (kdim : Id → Nat) (R D : List Id) (t t' : TTN) (hcs : cs = D ++ R) (w : t.WFX P O)
    (inv : Inv1 t0.S t.S ids n gp D R) (hk : KeepLegs t0 t n cs) (hd : DimLegs t kdim ids.proj ids.star D)
    (hops : TRun t0 (D.flatMap (truncRound n ids kdim)) t) (hrun : TTN.truncLoop1 t n ids kdim R = some t') :
    t'.WFX P O ∧ t'.root = t.root ∧ Inv1 t0.S t'.S ids n gp cs [] ∧
    KeepLegs t0 t' n cs ∧ DimLegs t' kdim ids.proj ids.star cs ∧ TRun t0 (cs.flatMap (truncRound n ids kdim)) t' := by
  refine foldlM_split_induction
    (fun D R u => u.WFX P O ∧ u.root = t.root ∧ Inv1 t0.S u.S ids n gp D R ∧
      KeepLegs t0 u n cs ∧ DimLegs u kdim ids.proj ids.star D ∧ TRun t0 (D.flatMap (truncRound n ids kdim)) u)
    ?_ R D t t' hcs ⟨w, rfl, inv, hk, hd, hops⟩ hrun
  intro D c R t t1 hcs ⟨w, hr, inv, hk, hd, hops⟩ hstep
  have hc_mem : c ∈ cs := by rw [hcs]; simp
  obtain ⟨w1, R1, inv1, ⟨cch, hSc⟩, hSi, hSs, hSp⟩ := loop1_step X hcs w inv hstep
  obtain ⟨lf, lo⟩ := leg_step1 w.wf inv.n_ hSc hSi hSs hSp (X.ok.is_ c c) (X.ok.ip c c) hstep
  refine ⟨w1, R1.trans hr, inv1, ?_, ?_, ?_⟩
  · intro k x ax hl hne
    refine lo k x ax (hk k x ax hl hne) ?_
    rintro (⟨e1, e2⟩ | ⟨e1, e2⟩)
    · exact hne (Or.inl ⟨e1 ▸ hc_mem, e2⟩)
    · exact hne (Or.inr ⟨e1, e2 ▸ hc_mem⟩)
  · intro d hdm
    rcases List.mem_append.mp hdm with hdm | hdm
    · obtain ⟨ax, l, e⟩ := hd d hdm
      refine ⟨ax, lo _ _ _ l ?_, e⟩
      rintro (⟨e1, _⟩ | ⟨e1, _⟩)
      · exact X.child_ne_proj hc_mem d e1.symm
      · exact X.node_ne_proj X.hn d e1.symm
    · simp at hdm; subst hdm; exact lf
  · obtain ⟨_, _, _, Y, hacc, _, _, hnew, hins, _, adm, hsplit⟩ :=
      insertProjectors_stages w.wf inv.n_ hSc hSi hSs hSp (X.ok.is_ c c) (X.ok.ip c c) hstep
    rw [List.flatMap_append, List.flatMap_singleton]
    exact hops.append (.cons trivial (step_access hacc) (.cons hnew hins (.cons ⟨Y, adm⟩ hsplit (.nil _))))

/-- `ts`: the state the loop started from; its run of edits is recorded from there and appended in `truncate_step_legs` -/
theorem loop2_legs {P : Prop} {O : Id → List Axis} {t0 ts : TTN} {ids : TTN.TempIds} {n : Id}
    {gp : Option Id} {cs : List Id} (h0 : t0.WF)
    (X : TruncCtx t0.S ids n gp cs) (hO : P → ∀ k, t0.S k = none → O k = []) (kdim : Id → Nat)
    (F E : List Id) (t t' : TTN) (hcs : cs = E ++ F) (w : t.WFX P O) (inv : Inv2 t0.S t.S ids n gp cs E F)
    (hk : KeepLegs t0 t n cs) (hdF : DimLegs t kdim ids.proj ids.star F) (hdE : DimLegs t kdim ids.proj (fun _ => n) E)
    (hops : TRun ts (E.map fun c => TOp.contract n (ids.star c) n) t)
    (hrun : (F.map ids.star).foldlM (fun (t : TTN) s => t.contractNodes n s n) t = some t') :
    t'.WFX P O ∧ t'.root = t.root ∧ Inv2 t0.S t'.S ids n gp cs cs [] ∧
    KeepLegs t0 t' n cs ∧ DimLegs t' kdim ids.proj (fun _ => n) cs ∧
    TRun ts (cs.map fun c => TOp.contract n (ids.star c) n) t' := by
  rw [List.foldlM_map] at hrun
  have ⟨w', R', I', K', _, D', T'⟩ := foldlM_split_induction
    (fun E F u => u.WFX P O ∧ u.root = t.root ∧ Inv2 t0.S u.S ids n gp cs E F ∧ KeepLegs t0 u n cs ∧
      DimLegs u kdim ids.proj ids.star F ∧ DimLegs u kdim ids.proj (fun _ => n) E ∧
      TRun ts (E.map fun c => TOp.contract n (ids.star c) n) u)
    ?_ F E t t' hcs ⟨w, rfl, inv, hk, hdF, hdE, hops⟩ hrun
  · exact ⟨w', R', I', K', D', T'⟩
  intro E c F t t1 hcs ⟨w, hr, inv, hk, hdF, hdE, hops⟩ hstep
  have hcF := (nodup_mid (hcs ▸ X.nd)).2.1
  obtain ⟨w1, R1, inv1⟩ := loop2_step X hO hcs w inv hstep
  obtain ⟨lo, ls⟩ := leg_step2 w.wf hstep
  have hps : ∀ d, ids.proj d ≠ ids.star c := fun d e => X.ok.sp c d e.symm
  have hns : n ≠ ids.star c := X.node_ne_star X.hn c
  refine ⟨w1, R1.trans hr, inv1, ?_, ?_, ?_, by
    rw [List.map_append]; exact hops.append (.cons (Or.inl rfl) hstep (.nil _))⟩
  · intro k x ax hl hne
    exact lo k x ax (hk k x ax hl hne) (ne_fresh (leg_isNode hl) (X.ok.fs c))
      (ne_fresh (leg_target_isNode h0 hl) (X.ok.fs c))
  · intro d hdm
    obtain ⟨ax, l, e⟩ := hdF d (by simp [hdm])
    exact ⟨ax, lo _ _ _ l (hps d) (fun e' => hcF (X.ok.sinj _ _ e' ▸ hdm)), e⟩
  · intro d hdm
    rcases List.mem_append.mp hdm with hdm | hdm
    · obtain ⟨ax, l, e⟩ := hdE d hdm
      exact ⟨ax, lo _ _ _ l (hps d) hns, e⟩
    · simp at hdm; subst hdm
      obtain ⟨ax, l, e⟩ := hdF d (by simp)
      exact ⟨ax, ls _ _ l (X.proj_ne_n d), e⟩

theorem loop3_legs {P : Prop} {O : Id → List Axis} {t0 ts : TTN} {ids : TTN.TempIds} {n : Id}
    {gp : Option Id} {cs : List Id} (h0 : t0.WF)
    (X : TruncCtx t0.S ids n gp cs) (hO : P → ∀ k, t0.S k = none → O k = []) (kdim : Id → Nat)
    (H G : List Id) (t t' : TTN) (hcs : cs = G ++ H) (w : t.WFX P O) (inv : Inv3 t0.S t.S ids n gp cs G H)
    (hk : KeepLegs t0 t n cs) (hdH : DimLegs t kdim ids.proj (fun _ => n) H) (hdG : DimLegs t kdim id (fun _ => n) G)
    (hops : TRun ts (G.map fun c => TOp.contract (ids.proj c) c c) t)
    (hrun : TTN.truncLoop3 t (H.map ids.proj) = some t') :
    t'.WFX P O ∧ t'.root = t.root ∧ Inv3 t0.S t'.S ids n gp cs cs [] ∧
    KeepLegs t0 t' n cs ∧ DimLegs t' kdim id (fun _ => n) cs ∧
    TRun ts (cs.map fun c => TOp.contract (ids.proj c) c c) t' := by
  unfold TTN.truncLoop3 at hrun
  rw [List.foldlM_map] at hrun
  have ⟨w', R', I', K', _, D', T'⟩ := foldlM_split_induction
    (fun G H u => u.WFX P O ∧ u.root = t.root ∧ Inv3 t0.S u.S ids n gp cs G H ∧ KeepLegs t0 u n cs ∧
      DimLegs u kdim ids.proj (fun _ => n) H ∧ DimLegs u kdim id (fun _ => n) G ∧
      TRun ts (G.map fun c => TOp.contract (ids.proj c) c c) u)
    ?_ H G t t' hcs ⟨w, rfl, inv, hk, hdH, hdG, hops⟩ hrun
  · exact ⟨w', R', I', K', D', T'⟩
  intro G c H t t1 hcs ⟨w, hr, inv, hk, hdH, hdG, hops⟩ hstep
  have hstep : t.contractNodes (ids.proj c) c c = some t1 :=
    (truncLoop3_body (inv.prH c (by simp))).symm.trans hstep
  have hc_mem : c ∈ cs := by rw [hcs]; simp
  have hcH := (nodup_mid (hcs ▸ X.nd)).2.1
  obtain ⟨w1, R1, inv1⟩ := loop3_step X hO hcs w inv hstep
  obtain ⟨lo, lp⟩ := leg_step3 w.wf hstep
  have hnp : n ≠ ids.proj c := X.node_ne_proj X.hn c
  refine ⟨w1, R1.trans hr, inv1, ?_, ?_, ?_, by
    rw [List.map_append]; exact hops.append (.cons (Or.inr (Or.inl rfl)) hstep (.nil _))⟩
  · intro k x ax hl hne
    exact lo k x ax (hk k x ax hl hne) (ne_fresh (leg_isNode hl) (X.ok.fp c))
      (ne_fresh (leg_target_isNode h0 hl) (X.ok.fp c))
  · intro d hdm
    obtain ⟨ax, l, e⟩ := hdH d (by simp [hdm])
    exact ⟨ax, lo _ _ _ l (fun e' => hcH (X.ok.pinj _ _ e' ▸ hdm)) hnp, e⟩
  · intro d hdm
    rcases List.mem_append.mp hdm with hdm | hdm
    · obtain ⟨ax, l, e⟩ := hdG d hdm
      have hdcs : d ∈ cs := by rw [hcs]; simp [hdm]
      exact ⟨ax, lo _ _ _ l (X.child_ne_proj hdcs c) hnp, e⟩
    · simp at hdm; subst hdm
      obtain ⟨ax, l, e⟩ := hdH d (by simp)
      exact ⟨ax, lp _ _ l (fun e' => X.ne d hc_mem e'.symm), e⟩

/-- **One `truncate_node(n)` without the recursive calls, at the level of legs**: the structure is restored, the
    leg of every child `c` of `n` towards `n` has dimension `kdim c`, and every leg of the network that is not an
    end of such a bond is the axis it was. -/
theorem truncate_step_legs {P : Prop} {O : Id → List Axis} {t t' : TTN} {n : Id} {ids : TTN.TempIds}
    {kdim : Id → Nat} (hx : t.WFX P O) (hO : P → ∀ k, t.S k = none → O k = [])
    (hok : TempOK t.S ids) (hs : t.truncateNodeStep n ids kdim = some t') :
    t'.WFX P O ∧ t'.root = t.root ∧ t'.S = t.S ∧
    ∃ Nn, t.N n = some Nn ∧ KeepLegs t t' n Nn.children ∧ DimLegs t' kdim id (fun _ => n) Nn.children ∧
      TRun t (truncOps n ids kdim Nn.children) t' := by
  have h := hx.wf
  unfold TTN.truncateNodeStep at hs
  cases hN : dget t.nodes n with
  | none => simp [hN, bind, Option.bind] at hs
  | some Nn =>
    have hNn : t.N n = some Nn := hN
    have hSn := TTN.S_eq hNn
    simp only [hN, bind, Option.bind] at hs
    have X : TruncCtx t.S ids n Nn.parent Nn.children := by
      refine ⟨hok, hSn, h.str.nodup n _ _ hSn, fun c hc => h.str.down n _ _ c hSn hc, ?_⟩
      intro c hc e
      obtain ⟨cch, e2⟩ := h.str.down n _ _ c hSn hc
      rw [e] at e2
      exact h.str.parent_ne e2 rfl
    cases h1 : TTN.truncLoop1 t n ids kdim Nn.children with
    | none => simp [h1] at hs
    | some t1 =>
      simp only [h1] at hs
      obtain ⟨w1, R1, I1, K1, D1, T1⟩ := loop1_legs X kdim Nn.children [] t t1 (by simp) hx
        ⟨by simpa using hSn, by simp, by simp, by simp, fun _ _ _ _ => rfl⟩ (fun _ _ _ hl _ => hl) DimLegs.nil (.nil _) h1
      -- the children of `n` after a loop say over which list the next loop runs
      have I2 := inv2_of_inv1 I1
      cases h2 : t1.contractAllChildren n n with
      | none => simp [h2] at hs
      | some t2 =>
        simp only [h2] at hs
        unfold TTN.contractAllChildren at h2
        obtain ⟨N1, hN1, e1⟩ := TTN.N_of_S I2.n_
        simp only [Prod.mk.injEq] at e1
        have hN1' : dget t1.nodes n = some N1 := hN1
        simp only [hN1', bind, Option.bind] at h2
        have hch1 : N1.children = Nn.children.map ids.star := by rw [← e1.2]; simp
        rw [hch1] at h2
        obtain ⟨w2, R2, I2', K2, D2, T2⟩ :=
          loop2_legs h X hO kdim Nn.children [] t1 t2 (by simp) w1 I2 K1 D1 DimLegs.nil (.nil t1) h2
        have I3 := inv3_of_inv2 I2'
        obtain ⟨N2, hN2, e2⟩ := TTN.N_of_S I3.n_
        simp only [Prod.mk.injEq] at e2
        have hN2' : dget t2.nodes n = some N2 := hN2
        simp only [hN2'] at hs
        have hch2 : N2.children = Nn.children.map ids.proj := by rw [← e2.2]; simp
        rw [hch2] at hs
        obtain ⟨w3, R3, I3', K3, D3, T3⟩ :=
          loop3_legs h X hO kdim Nn.children [] t2 t' (by simp) w2 I3 K2 D2 DimLegs.nil (.nil t2) hs
        exact ⟨w3, R3.trans (R2.trans R1), final_of_inv3 X I3', Nn, hNn, K3, D3, T1.append (T2.append T3)⟩

/-- `c` is a strict descendant of `n` in the structure map (no fuel) -/
inductive SDesc (S : Id → Option Struct) : Id → Id → Prop
  | child {n c : Id} {pp : Option Id} {cs : List Id} : S n = some (pp, cs) → c ∈ cs → SDesc S n c
  | step {n ci c : Id} {pp : Option Id} {cs : List Id} : S n = some (pp, cs) → ci ∈ cs → SDesc S ci c → SDesc S n c

theorem SDesc.inv {S : Id → Option Struct} {n c : Id} {pp : Option Id} {cs : List Id} (hS : S n = some (pp, cs))
    (h : SDesc S n c) : c ∈ cs ∨ ∃ ci ∈ cs, SDesc S ci c := by
  cases h with
  | child h1 h2 => rw [hS] at h1; simp at h1; rw [h1.2]; exact Or.inl h2
  | step h1 h2 h3 => rw [hS] at h1; simp at h1; rw [h1.2]; exact Or.inr ⟨_, h2, h3⟩

/-- the parent leg of every node in `A` has its kept dimension -/
def GoodOn (t0 t : TTN) (kdim : Id → Nat) (A : Id → Prop) : Prop :=
  ∀ c p cch, t0.S c = some (some p, cch) → A c → ∃ ax, t.Leg c p ax ∧ ax.dim = kdim c

/-- the parent leg of every node outside `A` is the axis it was -/
def SameOff (t0 t : TTN) (A : Id → Prop) : Prop :=
  ∀ c p cch ax, t0.S c = some (some p, cch) → ¬ A c → t0.Leg c p ax → t.Leg c p ax

/-- **`truncate_node(n)` with the recursion, at the level of legs**: the structure is restored; the leg towards
    its parent of EVERY strict descendant `c` of `n` has dimension `kdim c`; the parent leg of every other node is
    the axis it was. -/
theorem truncate_node_legs {P : Prop} {O : Id → List Axis} {ids : TTN.TempIds} {kdim : Id → Nat} :
    ∀ (fuel : Nat) (t t' : TTN) (n : Id), t.WFX P O → (P → ∀ k, t.S k = none → O k = []) → TempOK t.S ids →
      TTN.truncateNode fuel t n ids kdim = some t' →
      t'.WFX P O ∧ t'.root = t.root ∧ t'.S = t.S ∧
      GoodOn t t' kdim (SDesc t.S n) ∧ SameOff t t' (SDesc t.S n) := by
  intro fuel
  induction fuel with
  | zero => intro t t' n _ _ _ h; simp [TTN.truncateNode] at h
  | succ fuel ih =>
    intro t t' n w hO hok h
    have hwf := w.wf
    obtain ⟨Nn, t3, hNn, h3, h⟩ := truncateNode_succ h
    obtain ⟨w3, R3, S3, Nn', hNn', K3, D3, _⟩ := truncate_step_legs w hO hok h3
    rw [hNn] at hNn'; simp at hNn'; subst hNn'
    have hSn := TTN.S_eq hNn
    have fold := foldlM_split_induction (cs := Nn.children)
      (f := fun (t : TTN) c => TTN.truncateNode fuel t c ids kdim)
      -- after the recursive calls on `Dn`: done are the children of `n` and the strict descendants of the children in `Dn`
      (fun Dn _ u => u.WFX P O ∧ u.root = t.root ∧ u.S = t.S ∧
        GoodOn t u kdim (fun c => c ∈ Nn.children ∨ ∃ ci ∈ Dn, SDesc t.S ci c) ∧
        SameOff t u (fun c => c ∈ Nn.children ∨ ∃ ci ∈ Dn, SDesc t.S ci c)) (by
      intro Dn ci Rn u u1 hcs ⟨wu, Ru, Su, G, U⟩ h1
      obtain ⟨w1, R1, S1, G1, U1⟩ := ih u u1 ci wu (by rw [Su]; exact hO) (by rw [Su]; exact hok) h1
      rw [Su] at G1 U1
      refine ⟨w1, R1.trans Ru, S1.trans Su, ?_, ?_⟩
      · intro c p cch hS hA
        by_cases hd : SDesc t.S ci c
        · exact G1 c p cch (by rw [Su]; exact hS) hd
        · have hA' : c ∈ Nn.children ∨ ∃ cj ∈ Dn, SDesc t.S cj c := by
            rcases hA with hA | ⟨cj, hcj, hdj⟩
            · exact Or.inl hA
            · rcases List.mem_append.mp hcj with hcj | hcj
              · exact Or.inr ⟨cj, hcj, hdj⟩
              · simp at hcj; subst hcj; exact absurd hdj hd
          obtain ⟨ax, l, e⟩ := G c p cch hS hA'
          exact ⟨ax, U1 c p cch ax (by rw [Su]; exact hS) hd l, e⟩
      · intro c p cch ax hS hA hl
        have hd : ¬ SDesc t.S ci c := fun hd => hA (Or.inr ⟨ci, by simp, hd⟩)
        have hA' : ¬ (c ∈ Nn.children ∨ ∃ cj ∈ Dn, SDesc t.S cj c) := by
          rintro (hA' | ⟨cj, hcj, hdj⟩)
          · exact hA (Or.inl hA')
          · exact hA (Or.inr ⟨cj, by simp [hcj], hdj⟩)
        exact U1 c p cch ax (by rw [Su]; exact hS) hd (U c p cch ax hS hA' hl))
    have G0 : GoodOn t t3 kdim (fun c => c ∈ Nn.children ∨ ∃ ci ∈ ([] : List Id), SDesc t.S ci c) := by
      intro c p cch hS hA
      have hc : c ∈ Nn.children := by
        rcases hA with hA | ⟨_, hm, _⟩
        · exact hA
        · simp at hm
      obtain ⟨cch', e⟩ := hwf.str.down n _ _ c hSn hc
      rw [hS] at e; simp at e
      obtain ⟨ax, l, e'⟩ := D3 c hc
      exact ⟨ax, by rw [e.1]; exact l, e'⟩
    have U0 : SameOff t t3 (fun c => c ∈ Nn.children ∨ ∃ ci ∈ ([] : List Id), SDesc t.S ci c) := by
      intro c p cch ax hS hA hl
      refine K3 c p ax hl ?_
      rintro (⟨e1, _⟩ | ⟨e1, e2⟩)
      · exact hA (Or.inl e1)
      · obtain ⟨cch', e⟩ := hwf.str.down n _ _ p hSn e2
        rw [e1] at hS
        exact hwf.str.no_two_cycle hS e
    obtain ⟨w', R', S', G', U'⟩ := fold Nn.children [] t3 t' rfl ⟨w3, R3, S3, G0, U0⟩ h
    refine ⟨w', R', S', ?_, ?_⟩
    · intro c p cch hS hA
      exact G' c p cch hS (SDesc.inv hSn hA)
    · intro c p cch ax hS hA hl
      refine U' c p cch ax hS ?_ hl
      rintro (hc | ⟨ci, hci, hd⟩)
      · exact hA (SDesc.child hSn hc)
      · exact hA (SDesc.step hSn hci hd)

end Ptn.C10

namespace Ptn.C02
open NodeS

theorem truncate_step_full {P : Prop} {O : Id → List Axis} {t t' : TTN} {n : Id} {ids : TTN.TempIds}
    {kdim : Id → Nat} (hx : t.WFX P O) (hok : TempOK t.S ids) (hs : t.truncateNodeStep n ids kdim = some t') :
    t'.WFX P O ∧ t'.root = t.root ∧ t'.S = t.S :=
  let ⟨w, r, s, _⟩ := Ptn.C10.truncate_step_legs hx (fun hp _ hk => hx.fresh (N_none_of_S hk) hp) hok hs
  ⟨w, r, s⟩

/-- `truncate_node(n)` without the recursive calls is an admissible run of basic edits -/
theorem truncateNodeStep_run {t t' : TTN} {n : Id} {ids : TTN.TempIds} {kdim : Id → Nat}
    (h : t.WF) (hok : TempOK t.S ids) (hs : t.truncateNodeStep n ids kdim = some t') :
    ∃ Nn, t.N n = some Nn ∧ TRun t (truncOps n ids kdim Nn.children) t' :=
  let ⟨_, _, _, Nn, hN, _, _, r⟩ := Ptn.C10.truncate_step_legs (TTN.WFX.ofWF h) (fun hp => hp.elim) hok hs
  ⟨Nn, hN, r⟩

/-- **`truncate_node` (with the recursion) restores the structure exactly**: same identifiers, same root,
    same parent of every node and the same child **lists** (order included). -/
theorem truncate_node_full {P : Prop} {O : Id → List Axis} {ids : TTN.TempIds} {kdim : Id → Nat} :
    ∀ (fuel : Nat) (t t' : TTN) (n : Id), t.WFX P O → TempOK t.S ids →
      TTN.truncateNode fuel t n ids kdim = some t' → t'.WFX P O ∧ t'.root = t.root ∧ t'.S = t.S :=
  fun fuel t t' n hx hok hs =>
    let ⟨w, r, s, _⟩ :=
      Ptn.C10.truncate_node_legs fuel t t' n hx (fun hp _ hk => hx.fresh (N_none_of_S hk) hp) hok hs
    ⟨w, r, s⟩

theorem recursive_truncation_wfx {P : Prop} {O : Id → List Axis} {t t' : TTN} {kdim : Id → Nat}
    (hx : t.WFX P O) (hs : t.recursiveTruncation kdim = some t') : t'.WFX P O ∧ t'.root = t.root ∧ t'.S = t.S :=
  let ⟨r, _, hs⟩ := recursiveTruncation_some hs
  truncate_node_full _ t t' r hx (arithIds_ok t) hs

/-- **`recursive_truncation`** (between its canonicalisations) restores the structure exactly. -/
theorem recursive_truncation_full {t t' : TTN} {kdim : Id → Nat} (h : t.WF)
    (hs : t.recursiveTruncation kdim = some t') : t'.WF ∧ t'.root = t.root ∧ t'.S = t.S :=
  have ⟨w, e⟩ := recursive_truncation_wfx (TTN.WFX.ofWF h) hs
  ⟨w.wf, e⟩

/-- **`recursive_truncation` at the level of labels**: the result is well-formed, satisfies the label
    invariant, has the same root and exactly the same structure, and **every node has exactly the open axes
    it had – same labels, same order, same dimensions**. -/
theorem recursive_truncation_labels {t t' : TTN} {kdim : Id → Nat} (h : t.WF) (hl : t.LWF)
    (hs : t.recursiveTruncation kdim = some t') :
    t'.WF ∧ t'.LWF ∧ t'.root = t.root ∧ t'.S = t.S ∧ ∀ k, t'.openAxes k = t.openAxes k :=
  have ⟨w, r, e⟩ := recursive_truncation_wfx (TTN.WFX.ofLWF h hl) hs
  ⟨w.wf, w.lwf trivial, r, e, w.op trivial⟩

theorem S_eq_explicit {t t' : TTN} (h : t'.S = t.S) :
    (∀ k, t'.N k = none ↔ t.N k = none) ∧
    (∀ k n, t.N k = some n → ∃ n', t'.N k = some n' ∧ n'.parent = n.parent ∧ n'.children = n.children) := by
  constructor
  · intro k
    have hk := congrFun h k
    constructor
    · intro e; exact N_none_of_S (by rw [← hk]; exact S_none_of_N e)
    · intro e; exact N_none_of_S (by rw [hk]; exact S_none_of_N e)
  · intro k n hn
    have hk := congrFun h k
    rw [TTN.S_eq hn] at hk
    obtain ⟨n', hn', e⟩ := TTN.N_of_S hk
    simp at e
    exact ⟨n', hn', e.1.symm, e.2.symm⟩

end Ptn.C02
