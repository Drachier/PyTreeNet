import Ptn.C02.TTN
import Ptn.Common.List
/-! What the node-building routines compute with: `enumFrom`, dictionaries as lists in insertion order (`dset` and
`dupdate` with fresh keys append; what a lookup sees is in Dict.lean), `transposeT`, segments of `range n`. -/
namespace Ptn.C02

theorem enumFrom_map_fst (l : List Id) (a : Nat) : (TTN.enumFrom l a).map Prod.fst = l := by
  simp only [TTN.enumFrom, List.map_map]
  have : (Prod.fst ∘ fun (e : Id × Nat) => (e.1, e.2 + a)) = Prod.fst := by funext e; rfl
  rw [this]
  exact List.zipIdx_map_fst 0 l

theorem enumFrom_map_snd (l : List Id) (a : Nat) :
    (TTN.enumFrom l a).map Prod.snd = List.range' a l.length := by
  simp only [TTN.enumFrom, List.map_map]
  have : (Prod.snd ∘ fun (e : Id × Nat) => (e.1, e.2 + a)) = (fun i => i + a) ∘ Prod.snd := by
    funext e; rfl
  rw [this, ← List.map_map, List.zipIdx_map_snd]
  apply List.ext_getElem
  · simp
  · intro i h1 h2
    simp
    omega

theorem enumFrom_length (l : List Id) (a : Nat) : (TTN.enumFrom l a).length = l.length := by
  simp [TTN.enumFrom]

theorem enumFrom_cons (x : Id) (l : List Id) (a : Nat) :
    TTN.enumFrom (x :: l) a = (x, a) :: TTN.enumFrom l (a + 1) := by
  simp only [TTN.enumFrom, List.zipIdx_cons, List.map_cons, Nat.zero_add]
  congr 1
  rw [List.zipIdx_succ]
  simp [List.map_map, Function.comp_def, Nat.add_assoc, Nat.add_comm 1 a]

theorem enumFrom_nil (a : Nat) : TTN.enumFrom [] a = [] := rfl

theorem nodeOfTensor_nvirt (T : Tensor) : (nodeOfTensor T).nvirt = 0 := by
  simp [nodeOfTensor, NodeS.nvirt, NodeS.nparents, NodeS.nchildren]

theorem dhas_eq_mem_keys {α : Type} (d : List (Id × α)) (k : Id) :
    dhas d k = true ↔ k ∈ d.map Prod.fst := by
  simp only [dhas, List.any_eq_true, beq_iff_eq, List.mem_map]

theorem dset_of_not_has {α : Type} (d : List (Id × α)) (k : Id) (v : α) (h : k ∉ d.map Prod.fst) :
    dset d k v = d ++ [(k, v)] := by
  unfold dset
  have : dhas d k = false := by
    cases hh : dhas d k with
    | false => rfl
    | true => exact absurd ((dhas_eq_mem_keys d k).mp hh) h
  simp [this]

/-- `d1.update(d2)` is concatenation when the keys of `d2` are new and distinct. -/
theorem dupdate_eq_append {α : Type} (d1 d2 : List (Id × α))
    (hnd : (d1.map Prod.fst ++ d2.map Prod.fst).Nodup) : dupdate d1 d2 = d1 ++ d2 := by
  unfold dupdate
  induction d2 generalizing d1 with
  | nil => simp
  | cons e d2 ih =>
    simp only [List.foldl_cons]
    have hk : e.1 ∉ d1.map Prod.fst := by
      intro hmem
      have := List.nodup_append.mp hnd
      exact this.2.2 e.1 hmem e.1 (by simp) rfl
    rw [dset_of_not_has d1 e.1 e.2 hk]
    have hnd' : ((d1 ++ [(e.1, e.2)]).map Prod.fst ++ d2.map Prod.fst).Nodup := by
      simpa [List.append_assoc] using hnd
    rw [ih (d1 ++ [(e.1, e.2)]) hnd']
    simp

/-- Keeping what is not in `S1 ++ S3` out of `S1 ++ S2 ++ S3 ++ S4` (all distinct) leaves `S2 ++ S4`. -/
theorem filter_segments (S1 S2 S3 S4 : List Nat) (hnd : (S1 ++ S2 ++ S3 ++ S4).Nodup) (vs : List Nat)
    (hvs : ∀ x, x ∈ vs ↔ (x ∈ S1 ∨ x ∈ S3)) :
    (S1 ++ S2 ++ S3 ++ S4).filter (fun x => !vs.contains x) = S2 ++ S4 := by
  have h := List.nodup_append.mp hnd
  have h123 := List.nodup_append.mp h.1
  have h12 := List.nodup_append.mp h123.1
  simp only [List.filter_append]
  have f1 : S1.filter (fun x => !vs.contains x) = [] := by
    rw [List.filter_eq_nil_iff]
    intro x hx
    simp [(hvs x).mpr (Or.inl hx)]
  have f3 : S3.filter (fun x => !vs.contains x) = [] := by
    rw [List.filter_eq_nil_iff]
    intro x hx
    simp [(hvs x).mpr (Or.inr hx)]
  have f2 : S2.filter (fun x => !vs.contains x) = S2 := by
    rw [List.filter_eq_self]
    intro x hx
    have n1 : x ∉ S1 := fun h1 => h12.2.2 x h1 x hx rfl
    have n3 : x ∉ S3 := fun h3 => h123.2.2 x (by simp [hx]) x h3 rfl
    have : x ∉ vs := fun hv => by rcases (hvs x).mp hv with a | a <;> contradiction
    simp [this]
  have f4 : S4.filter (fun x => !vs.contains x) = S4 := by
    rw [List.filter_eq_self]
    intro x hx
    have n1 : x ∉ S1 := fun h1 => h.2.2 x (by simp [h1]) x hx rfl
    have n3 : x ∉ S3 := fun h3 => h.2.2 x (by simp [h3]) x hx rfl
    have : x ∉ vs := fun hv => by rcases (hvs x).mp hv with a | a <;> contradiction
    simp [this]
  rw [f1, f2, f3, f4]
  simp


theorem map_getElem?_range' {α : Type} (A B C : List α) :
    (List.range' A.length B.length).map (fun i => (A ++ B ++ C)[i]?) = B.map some := by
  apply List.ext_getElem
  · simp
  · intro i h1 h2
    simp at h1
    simp only [List.getElem_map, List.getElem_range', Nat.one_mul]
    rw [List.append_assoc, List.getElem?_append_right (by omega)]
    have : A.length + i - A.length = i := by omega
    rw [this, List.getElem?_append_left h1]
    simp [h1]

theorem tensordot1_eq_some {A B R : Tensor} {i j : Nat} :
    tensordot1 A B i j = some R ↔
      ∃ x y, A[i]? = some x ∧ B[j]? = some y ∧ x.dim = y.dim ∧ R = A.eraseIdx i ++ B.eraseIdx j := by
  unfold tensordot1
  cases A[i]? <;> cases B[j]? <;> simp [eq_comm]

theorem transposeT_eq_some {T R : Tensor} {perm : List Nat} :
    transposeT T perm = some R ↔
      perm.length = T.length ∧ perm.Nodup ∧ perm.mapM (fun i => T[i]?) = some R := by
  unfold transposeT
  by_cases h1 : perm.length = T.length
  · by_cases h2 : perm.Nodup <;> simp [h1, h2]
  · simp [h1]

theorem transposeT_of_map (T : Tensor) (perm : List Nat) (R : Tensor) (hlen : perm.length = T.length)
    (hnd : perm.Nodup) (hmap : perm.map (fun i => T[i]?) = R.map some) : transposeT T perm = some R :=
  transposeT_eq_some.mpr ⟨hlen, hnd, mapM_eq_some_iff.2 hmap⟩

theorem shapeOf_transposeT {T R : Tensor} {perm : List Nat} (h : transposeT T perm = some R) :
    shapeOf R = perm.map (fun i => (shapeOf T).getD i 0) := by
  replace h := (transposeT_eq_some.mp h).2.2
  induction perm generalizing R with
  | nil => simp at h; subst h; rfl
  | cons a p ih =>
    obtain ⟨x, r, ha, hp, rfl⟩ := (mapM_cons_eq_some _ _ _ _).mp h
    have := ih hp
    simp only [shapeOf] at this ⊢
    simp [this, ha]

end Ptn.C02
