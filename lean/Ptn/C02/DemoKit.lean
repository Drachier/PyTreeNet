import Ptn.C02.BuildLabels
import Ptn.C02.CompositeWF
/-! The demonstration inputs of the structural model, shared by the instances in `Ptn/C02/Props.lean`,
`Ptn/C06/Structure.lean`, `Ptn/C09/Props.lean`, `Ptn/C10/Tree.lean` and `Ptn/C10/Props.lean`: two small networks built
from nothing, written out, with the proof that the construction steps build them; `TdvpRun` as a function.

`TTN` has no decidable equality, so a fact about the result of a run on a written-out network is stated as
`∃ t' ∈ run, fact t'`: that is decidable, the kernel evaluates the run once, and the fact is read off the result. -/
namespace Ptn.C06
open Ptn.C02

/-- The network `1 — {2, 3}` (root `1` with one open leg, leaves `2`, `3`), built from nothing. -/
def buildOps : List TOp :=
  [.root 1 [⟨0, 2⟩, ⟨100, 3⟩, ⟨101, 2⟩],
   .child 2 [⟨100, 3⟩, ⟨1, 2⟩] 0 1 1,
   .child 3 [⟨2, 2⟩, ⟨101, 2⟩] 1 1 2]

def builtTTN : TTN :=
  { nodes := [(1, { perm := [1, 2, 0], shp := [2, 3, 2], parent := none, children := [2, 3] }),
              (2, { perm := [0, 1], shp := [3, 2], parent := some 1, children := [] }),
              (3, { perm := [1, 0], shp := [2, 2], parent := some 1, children := [] })],
    tensors := [(1, [⟨0, 2⟩, ⟨100, 3⟩, ⟨101, 2⟩]), (2, [⟨100, 3⟩, ⟨1, 2⟩]), (3, [⟨2, 2⟩, ⟨101, 2⟩])],
    root := some 1,
    nextLabel := 1000000 }

/-- it is built with matching bond labels `100`, `101`, so the hypotheses of the label-level theorems are satisfiable -/
theorem builtTTN_runL : TRunL TTN.empty buildOps builtTTN :=
  .cons ⟨rfl, rfl⟩ trivial rfl (.cons trivial ⟨_, rfl, rfl⟩ rfl (.cons trivial ⟨_, rfl, rfl⟩ rfl (.nil _)))

theorem builtTTN_run : TRun TTN.empty buildOps builtTTN := builtTTN_runL.toTRun

end Ptn.C06

namespace Ptn.C10
open Ptn.C02

/-- The chain-with-a-branch `1 — {2 — {4}, 3}`: root `1` (one open leg), `2` (one open leg) with the leaf `4`,
    leaf `3`; built from nothing. -/
def buildOps : List TOp :=
  [.root 1 [⟨0, 2⟩, ⟨100, 3⟩, ⟨101, 2⟩],
   .child 2 [⟨100, 3⟩, ⟨1, 2⟩, ⟨102, 2⟩] 0 1 1,
   .child 3 [⟨2, 2⟩, ⟨101, 2⟩] 1 1 2,
   .child 4 [⟨102, 2⟩, ⟨3, 3⟩] 0 2 2]

def exTree : TTN :=
  ⟨[(1, ⟨[1, 2, 0], [2, 3, 2], none, [2, 3]⟩), (2, ⟨[0, 2, 1], [3, 2, 2], some 1, [4]⟩),
    (3, ⟨[1, 0], [2, 2], some 1, []⟩), (4, ⟨[0, 1], [2, 3], some 2, []⟩)],
   [(1, [⟨0, 2⟩, ⟨100, 3⟩, ⟨101, 2⟩]), (2, [⟨100, 3⟩, ⟨1, 2⟩, ⟨102, 2⟩]), (3, [⟨2, 2⟩, ⟨101, 2⟩]),
    (4, [⟨102, 2⟩, ⟨3, 3⟩])], some 1, 1000000⟩

theorem exTree_built : TRunL TTN.empty buildOps exTree :=
  .cons ⟨rfl, rfl⟩ trivial rfl (.cons trivial ⟨_, rfl, rfl⟩ rfl (.cons trivial ⟨_, rfl, rfl⟩ rfl
    (.cons trivial ⟨_, rfl, rfl⟩ rfl (.nil _))))

theorem exTree_wf : exTree.WF ∧ exTree.LWF := builtL_labels exTree_built

instance (t : TTN) : (e : TdvpEvent) → Decidable (e.Fresh t)
  | .access _ => inferInstanceAs (Decidable True)
  | .link _ _ l _ | .twoSite _ _ l _ | .move _ _ l _ | .contractSplit _ _ l _ =>
    inferInstanceAs (Decidable (t.N l = none))

/-- `TdvpRun` as a function: a run on a concrete network is then one evaluation. -/
def tdvpRun? (t : TTN) : List TdvpEvent → Option TTN
  | [] => some t
  | e :: es => if e.Fresh t then (t.event e).bind (tdvpRun? · es) else none

theorem tdvpRun?_sound {t t' : TTN} {es : List TdvpEvent} (h : tdvpRun? t es = some t') : TdvpRun t es t' := by
  induction es generalizing t with
  | nil => cases h; exact .nil _
  | cons e es ih =>
    unfold tdvpRun? at h
    split at h
    · next hf =>
      obtain ⟨t1, h1, h2⟩ := Option.bind_eq_some_iff.mp h
      exact .cons hf h1 (ih h2)
    · cases h

/-- `recursive_truncation` proper on it, the bond above `2` cut to 2, the others to 1: one evaluation for every
    instance that speaks of it (`Ptn/C10/Tree.lean`, `Ptn/C02/Props.lean`) -/
theorem exTree_trunc : ∃ t' ∈ exTree.recursiveTruncation (fun c => if c = 2 then 2 else 1),
    (t'.S 1 = some (none, [2, 3]) ∧ t'.S 2 = some (some 1, [4])) ∧
    t'.openAxes 1 = [⟨0, 2⟩] ∧ t'.openAxes 2 = [⟨1, 2⟩] ∧ t'.openAxes 3 = [⟨2, 2⟩] ∧ t'.openAxes 4 = [⟨3, 3⟩] := by
  decide +kernel

end Ptn.C10
