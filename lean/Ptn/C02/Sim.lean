import Ptn.C02.Value
import Ptn.C02.OpsLabels
/-! The abstraction relation `RSim` between a state of the structural model (`TTN.lean`) and a valued network
(`VNet` of `Ptn/C03/Net.lean`, edited in `Value.lean`); `RSim.transport`: the relation goes along the edge
correspondence of an edit (`EdgeCorr`); the value-level steps `SStep` / `SRun` (those of `Value.lean`, a reordering of
legs, a renaming) keep `VNet.WF` and the value (`srun_value`).  Rests on the label files
(`MoreLabels`, `OpsLabels`) and `Value.lean`. -/
namespace Ptn.C02
open NodeS Ptn.Ein Ptn.C03

set_option linter.unusedSectionVars false
variable {R : Type} [CommSemiring R]

/-- ghost data of the abstraction: `g k x` is the `VNet` label of the leg of node `k` towards its neighbour `x` -/
abbrev LegMap := Id → Id → Nat

/-- the neighbours of `k` in the order of its virtual legs (parent, then children) -/
def TTN.nbs (t : TTN) (k : Id) : List Id := (t.legPairs k).map Prod.fst

theorem mem_nbs {t : TTN} {k x : Id} : x ∈ t.nbs k ↔ ∃ ax, t.Leg k x ax := by
  unfold TTN.nbs TTN.Leg
  rw [List.mem_map]
  constructor
  · rintro ⟨⟨x', ax⟩, hm, rfl⟩
    exact ⟨ax, hm⟩
  · rintro ⟨ax, hm⟩
    exact ⟨(x, ax), hm, rfl⟩

theorem nbs_eq {t : TTN} (h : t.WF) {k : Id} {n : NodeS} (hn : t.N k = some n) : t.nbs k = n.neighbours := by
  obtain ⟨L, hL, hLl⟩ := logical_some h hn
  unfold TTN.nbs
  rw [legPairs_eq hn hL]
  apply List.map_fst_zip
  rw [neighbours_length, hLl]
  exact (h.node k n hn).virt

theorem nbs_none {t : TTN} {k : Id} (hn : t.N k = none) : t.nbs k = [] := by
  unfold TTN.nbs; rw [legPairs_none hn]; rfl

theorem nbs_node {t : TTN} {k x : Id} (hx : x ∈ t.nbs k) : t.N k ≠ none := by
  obtain ⟨ax, hl⟩ := mem_nbs.1 hx
  exact leg_isNode hl

theorem nbs_nodup {t : TTN} (h : t.WF) (k : Id) : (t.nbs k).Nodup := by
  cases hn : t.N k with
  | none => rw [nbs_none hn]; exact List.nodup_nil
  | some n => rw [nbs_eq h hn]; exact neighbours_nodup h hn

theorem nbs_symm {t : TTN} (h : t.WF) {k x : Id} (hx : x ∈ t.nbs k) : k ∈ t.nbs x := by
  cases hn : t.N k with
  | none => exact absurd hn (nbs_node hx)
  | some n =>
    rw [nbs_eq h hn] at hx
    obtain ⟨m, hm, hk⟩ := neighbours_symm h hn hx
    rw [nbs_eq h hm]; exact hk

theorem nbs_ne {t : TTN} (h : t.WF) {k x : Id} (hx : x ∈ t.nbs k) : k ≠ x := by
  obtain ⟨ax, hl⟩ := mem_nbs.1 hx
  exact leg_ne h hl

/-- the legs of node `k` in axis order: one ghost label per neighbour, then the embedded label of every open axis -/
def simLegs (e : Label → Nat) (g : LegMap) (t : TTN) (k : Id) : List Nat :=
  (t.nbs k).map (g k) ++ (t.openAxes k).map (fun ax => e ax.lab)

section
variable {t t1 : TTN} {k : Id} {ρ : Id → Id}

theorem simLegs_of_map {e : Label → Nat} {g G : LegMap}
    (hL : t1.legPairs k = (t.legPairs k).map (fun q => (ρ q.1, q.2))) (hO : t1.openAxes k = t.openAxes k)
    (hG : ∀ x ∈ t.nbs k, G k (ρ x) = g k x) : simLegs e G t1 k = simLegs e g t k := by
  unfold simLegs TTN.nbs
  rw [hL, hO]
  simp only [List.map_map]
  congr 1
  exact List.map_congr_left (fun q hq => hG q.1 (List.mem_map_of_mem hq))

end

/-- The abstraction relation.  Same node identifiers (`ids`); the legs of node `k` in `v` are, in axis order, the labels
of the logical axes of `k` in `t` (`legs`); dimensions agree (`dimV`, `dimO`); the binding record of `v` is, up to
orientation, exactly the set of edges of the tree (`bondsIn`, `bondsOut`).  `g` (which label the end at `k` of the bond
`k – x` carries) is ghost data: in the structural model both ends of a bond carry the same label (`LWF`), in `VNet` the
two ends are distinguished; `e` embeds the labels of the open axes and is fixed along a history. -/
structure RSim (dim : Nat → Nat) (e : Label → Nat) (g : LegMap) (t : TTN) (v : VNet R) : Prop where
  ids : ∀ k, k ∈ v.ids ↔ t.N k ≠ none
  legs : ∀ k, k ∈ v.ids → v.legs k = simLegs e g t k
  dimV : ∀ k x ax, t.Leg k x ax → dim (g k x) = ax.dim
  dimO : ∀ k ax, ax ∈ t.openAxes k → dim (e ax.lab) = ax.dim
  bondsIn : ∀ k x, x ∈ t.nbs k → (g k x, g x k) ∈ v.bonds ∨ (g x k, g k x) ∈ v.bonds
  bondsOut : ∀ p ∈ v.bonds, ∃ k x, x ∈ t.nbs k ∧ p = (g k x, g x k)

def R_sim (dim : Nat → Nat) (e : Label → Nat) (t : TTN) (v : VNet R) : Prop := ∃ g, RSim dim e g t v

namespace RSim
variable {dim : Nat → Nat} {e : Label → Nat} {g : LegMap} {t : TTN} {v : VNet R}

theorem id_of_nbs (hs : RSim dim e g t v) {k x : Id} (hx : x ∈ t.nbs k) : k ∈ v.ids :=
  (hs.ids k).2 (nbs_node hx)

theorem g_mem (hs : RSim dim e g t v) {k x : Id} (hx : x ∈ t.nbs k) : g k x ∈ v.legs k := by
  rw [hs.legs k (hs.id_of_nbs hx)]
  exact List.mem_append_left _ (List.mem_map_of_mem hx)

theorem exists_bond (hs : RSim dim e g t v) {k x : Id} (hx : x ∈ t.nbs k) :
    ∃ p, p ∈ v.bonds ∧ (p = (g k x, g x k) ∨ p = (g x k, g k x)) :=
  (hs.bondsIn k x hx).elim (fun hb => ⟨_, hb, Or.inl rfl⟩) (fun hb => ⟨_, hb, Or.inr rfl⟩)

theorem open_mem (hs : RSim dim e g t v) {k : Id} (hk : k ∈ v.ids) {ax : Axis} (hax : ax ∈ t.openAxes k) :
    e ax.lab ∈ v.legs k := by
  rw [hs.legs k hk]
  exact List.mem_append_right _ (List.mem_map_of_mem (f := fun ax => e ax.lab) hax)

/-- a label identifies its end: node and neighbour -/
theorem g_eq (hs : RSim dim e g t v) (hv : v.WF) {k k' x y : Id} (hx : x ∈ t.nbs k) (hy : y ∈ t.nbs k')
    (he : g k x = g k' y) : k = k' ∧ x = y := by
  have hk := hs.id_of_nbs hx
  have hk' := hs.id_of_nbs hy
  have h1 := hs.g_mem hx
  have h2 := hs.g_mem hy
  have hkk : k = k' := hv.owner k hk k' hk' _ h1 (he ▸ h2)
  subst hkk
  refine ⟨rfl, ?_⟩
  have hnd := hv.legs_nodup k hk
  rw [hs.legs k hk] at hnd
  exact List.inj_on_of_nodup_map (List.nodup_append.1 hnd).1 hx hy he

theorem g_ne_open (hs : RSim dim e g t v) (hv : v.WF) {k k' x : Id} (hx : x ∈ t.nbs k) (hk' : k' ∈ v.ids)
    {ax : Axis} (hax : ax ∈ t.openAxes k') : g k x ≠ e ax.lab := by
  intro he
  have hk := hs.id_of_nbs hx
  have h1 := hs.g_mem hx
  have h2 := hs.open_mem hk' hax
  have hkk : k = k' := hv.owner k hk k' hk' _ h1 (he ▸ h2)
  subst hkk
  have hnd := hv.legs_nodup k hk
  rw [hs.legs k hk] at hnd
  exact (List.nodup_append.1 hnd).2.2 _ (List.mem_map_of_mem hx) _
    (List.mem_map_of_mem (f := fun ax => e ax.lab) hax) he

end RSim

/-- what the relation says about the open legs: behind the virtual legs (one per neighbour) the leg list of node `k`
is the list of the open axes of `k` in the structural model, in order -/
theorem RSim.open_legs {dim : Nat → Nat} {e : Label → Nat} {g : LegMap} {t : TTN} {v : VNet R}
    (hs : RSim dim e g t v) {k : Id} (hk : k ∈ v.ids) :
    (v.legs k).drop (t.nbs k).length = (t.openAxes k).map (fun ax => e ax.lab) ∧
    (v.legs k).take (t.nbs k).length = (t.nbs k).map (g k) := by
  rw [hs.legs k hk]
  unfold simLegs
  constructor
  · rw [List.drop_left' (by simp)]
  · rw [List.take_left' (by simp)]

theorem bonds_no_swap {bs : List (Nat × Nat)} (hnd : (Expr.pairLegs bs).Nodup) {a b : Nat} (h1 : (a, b) ∈ bs)
    (h2 : (b, a) ∈ bs) : False := by
  unfold Expr.pairLegs at hnd
  exact (List.nodup_append.1 hnd).2.2 a (List.mem_map.2 ⟨(a, b), h1, rfl⟩) a (List.mem_map.2 ⟨(b, a), h2, rfl⟩) rfl

theorem bonds_nodup_of_pairLegs {bs : List (Nat × Nat)} (hnd : (Expr.pairLegs bs).Nodup) : bs.Nodup := by
  unfold Expr.pairLegs at hnd
  exact List.Nodup.of_map _ (List.nodup_append.1 hnd).1

section transport
variable {dim : Nat → Nat} {e : Label → Nat} {g G : LegMap} {t t1 : TTN} {v v1 : VNet R}

/-- no edit makes an open axis: the field `dimO` after an edit that keeps the open axes of the network -/
theorem RSim.dimO_of_perm (hs : RSim dim e g t v) (hp : t1.openList.Perm t.openList) :
    ∀ k ax, ax ∈ t1.openAxes k → dim (e ax.lab) = ax.dim := by
  intro k ax hax
  obtain ⟨k0, h0⟩ := mem_openList.1 (hp.mem_iff.1 (mem_openList.2 ⟨k, hax⟩))
  exact hs.dimO k0 ax h0

/-- the field `ids` after an edit that takes the nodes `old` away and makes the nodes `new` -/
theorem RSim.ids_of (hs : RSim dim e g t v) {old new : Id → Prop}
    (hv1 : ∀ k, k ∈ v1.ids ↔ new k ∨ (k ∈ v.ids ∧ ¬ old k))
    (made : ∀ k, new k → t1.N k ≠ none) (gone : ∀ k, old k → ¬ new k → t1.N k = none)
    (stay : ∀ k, ¬ old k → ¬ new k → (t1.N k = none ↔ t.N k = none)) :
    ∀ k, k ∈ v1.ids ↔ t1.N k ≠ none := by
  intro k
  rw [hv1]
  by_cases hn : new k
  · exact ⟨fun _ => made k hn, fun _ => Or.inl hn⟩
  · by_cases ho : old k
    · exact ⟨fun hh => hh.elim (fun a => absurd a hn) (fun a => absurd ho a.2), fun hh => absurd (gone k ho hn) hh⟩
    · rw [hs.ids k, ne_eq, ne_eq, stay k ho hn]
      exact ⟨fun hh => hh.elim (fun a => absurd a hn) (fun a => a.1), fun hh => Or.inr ⟨hh, ho⟩⟩

/-- **`RSim` is transported along a correspondence of edges.**  The surviving edges keep the labels of both ends
(`GC`) and their bonds (`bkeep`); a fresh edge has the dimension and the bond it needs (`hfresh`); whatever else the
binding record holds is the bond of an edge of the new tree (`bout`). -/
theorem RSim.transport (h : t.WF) (hs : RSim dim e g t v) {ρ : Id → Id → Id} {keep : Id → Id → Prop}
    {fresh : Id → Id → Axis → Prop} (c : EdgeCorr t t1 ρ keep fresh)
    (ids : ∀ k, k ∈ v1.ids ↔ t1.N k ≠ none) (legs : ∀ k, k ∈ v1.ids → v1.legs k = simLegs e G t1 k)
    (hp : t1.openList.Perm t.openList)
    (GC : ∀ k x, x ∈ t.nbs k → keep k x → G (ρ k x) (ρ x k) = g k x)
    (hfresh : ∀ k' x' ax, fresh k' x' ax →
      dim (G k' x') = ax.dim ∧ ((G k' x', G x' k') ∈ v1.bonds ∨ (G x' k', G k' x') ∈ v1.bonds))
    (bkeep : ∀ k x, x ∈ t.nbs k → keep k x → (g k x, g x k) ∈ v.bonds → (g k x, g x k) ∈ v1.bonds)
    (bout : ∀ q ∈ v1.bonds, (∃ k' x', x' ∈ t1.nbs k' ∧ q = (G k' x', G x' k')) ∨
      (q ∈ v.bonds ∧ ∀ k x, x ∈ t.nbs k → q = (g k x, g x k) → keep k x)) :
    RSim dim e G t1 v1 := by
  refine ⟨ids, legs, ?_, hs.dimO_of_perm hp, ?_, ?_⟩
  · intro k' x' ax hl
    rcases c.pull k' x' ax hl with hf | ⟨k, x, hl', hk, rfl, rfl⟩
    · exact (hfresh _ _ _ hf).1
    · rw [GC k x (mem_nbs.2 ⟨ax, hl'⟩) hk]
      exact hs.dimV k x ax hl'
  · intro k' x' hx'
    obtain ⟨ax, hl⟩ := mem_nbs.1 hx'
    rcases c.pull k' x' ax hl with hf | ⟨k, x, hl', hk, rfl, rfl⟩
    · exact (hfresh _ _ _ hf).2
    · have hx : x ∈ t.nbs k := mem_nbs.2 ⟨ax, hl'⟩
      have hxk := nbs_symm h hx
      rw [GC k x hx hk, GC x k hxk (c.ksymm k x hk)]
      rcases hs.bondsIn k x hx with hb | hb
      · exact Or.inl (bkeep k x hx hk hb)
      · exact Or.inr (bkeep x k hxk (c.ksymm k x hk) hb)
  · intro q hq
    rcases bout q hq with hf | ⟨hq', hk⟩
    · exact hf
    · obtain ⟨k, x, hx, rfl⟩ := hs.bondsOut q hq'
      have hkx := hk k x hx rfl
      obtain ⟨ax, hl⟩ := mem_nbs.1 hx
      refine ⟨ρ k x, ρ x k, mem_nbs.2 ⟨ax, c.push k x ax hl hkx⟩, ?_⟩
      rw [GC k x hx hkx, GC x k (nbs_symm h hx) (c.ksymm k x hkx)]

/-- taking the bond `p` of the edge `a – b` out of the binding record removes that edge and no other: the hypotheses
`bkeep` and `bout` of `RSim.transport` for the steps that consume a bond -/
theorem RSim.bonds_erase (h : t.WF) (hv : v.WF) (hs : RSim dim e g t v) {a b : Id} (hb : b ∈ t.nbs a)
    {p : Nat × Nat} (hp : p ∈ v.bonds) (hpab : p = (g a b, g b a) ∨ p = (g b a, g a b)) :
    (∀ k x, x ∈ t.nbs k → offEdge a b k x → (g k x, g x k) ∈ v.bonds → (g k x, g x k) ∈ v.bonds.erase p) ∧
    (∀ q ∈ v.bonds.erase p, q ∈ v.bonds ∧ ∀ k x, x ∈ t.nbs k → q = (g k x, g x k) → offEdge a b k x) := by
  have ha := nbs_symm h hb
  constructor
  · intro k x hx hk hm
    refine (List.mem_erase_of_ne ?_).2 hm
    intro e'
    rcases hpab with e'' | e''
    · rw [e'', Prod.mk.injEq] at e'
      exact hk.1 (hs.g_eq hv hx hb e'.1)
    · rw [e'', Prod.mk.injEq] at e'
      exact hk.2 (hs.g_eq hv hx ha e'.1)
  · intro q hq
    obtain ⟨hne, hq'⟩ := ((bonds_nodup_of_pairLegs hv.bonds_nodup).mem_erase_iff).1 hq
    refine ⟨hq', ?_⟩
    rintro k x - rfl
    constructor
    · rintro ⟨rfl, rfl⟩
      rcases hpab with e' | e'
      · exact hne e'.symm
      · rw [e'] at hp; exact bonds_no_swap hv.bonds_nodup hq' hp
    · rintro ⟨rfl, rfl⟩
      rcases hpab with e' | e'
      · rw [e'] at hp; exact bonds_no_swap hv.bonds_nodup hq' hp
      · exact hne e'.symm

end transport

/-- `change_node_identifier(new, old)`: a pure renaming -/
def renameStep (N : VNet R) (old new : Nat) : VNet R where
  ids := N.ids.map (renRho old new)
  legs := fun k => if k = new then N.legs old else N.legs k
  tens := fun k => if k = new then N.tens old else N.tens k
  bonds := N.bonds
  next := N.next

def renInv (old new : Id) (y : Id) : Id := if y = new then old else y

theorem renInv_renRho {old new x : Id} (hx : x ≠ old → x ≠ new) : renInv old new (renRho old new x) = x := by
  by_cases hxo : x = old
  · rw [hxo, renRho_old, renInv, if_pos rfl]
  · rw [renRho_ne hxo, renInv, if_neg (hx hxo)]

theorem ren_fresh {N : VNet R} {old new : Nat} (hnew : new = old ∨ new ∉ N.ids) {k : Nat} (hk : k ∈ N.ids)
    (hko : k ≠ old) : k ≠ new := by
  rcases hnew with e | e
  · rw [e]; exact hko
  · exact fun e' => e (e' ▸ hk)

theorem renameStep_legs {N : VNet R} {old new : Nat} (hnew : new = old ∨ new ∉ N.ids) {k : Nat} (hk : k ∈ N.ids) :
    (renameStep N old new).legs (renRho old new k) = N.legs k ∧
    (renameStep N old new).tens (renRho old new k) = N.tens k := by
  by_cases hko : k = old
  · subst hko
    rw [renRho_old]
    simp [renameStep]
  · rw [renRho_ne hko]
    simp [renameStep, ren_fresh hnew hk hko]

theorem renameStep_value (dim : Nat → Nat) {N : VNet R} {old new : Nat} (hnew : new = old ∨ new ∉ N.ids)
    (σ : Asg Nat) : (renameStep N old new).value dim σ = N.value dim σ := by
  unfold VNet.value
  have : (renameStep N old new).ids.map (renameStep N old new).tens = N.ids.map N.tens := by
    show (N.ids.map (renRho old new)).map (renameStep N old new).tens = _
    rw [List.map_map]
    apply List.map_congr_left
    intro k hk
    exact (renameStep_legs hnew hk).2
  rw [this]
  rfl

theorem renameStep_wf {N : VNet R} (h : N.WF) {old new : Nat} (hnew : new = old ∨ new ∉ N.ids) :
    (renameStep N old new).WF := by
  have hinj : ∀ x ∈ N.ids, ∀ y ∈ N.ids, renRho old new x = renRho old new y → x = y := fun x hx y hy he => by
    rw [← renInv_renRho (ren_fresh hnew hx), he, renInv_renRho (ren_fresh hnew hy)]
  have hflat : (renameStep N old new).ids.flatMap (renameStep N old new).legs = N.ids.flatMap N.legs := by
    show (N.ids.map (renRho old new)).flatMap (renameStep N old new).legs = _
    rw [List.flatMap_map]
    exact List.flatMap_congr fun k hk => (renameStep_legs hnew hk).1
  refine .of_flat (List.Nodup.map_on hinj h.ids_nodup) (hflat ▸ h.flat_nodup) ?_ h.bonds_nodup
    (fun l hl => hflat ▸ h.bonds_flat l hl) (fun l hl => h.flat_lt l (hflat ▸ hl))
  intro k' hk'
  obtain ⟨k, hk, rfl⟩ := List.mem_map.1 hk'
  rw [(renameStep_legs hnew hk).1, (renameStep_legs hnew hk).2]
  exact h.reads k hk

/-- a value-level step: one of `Value.lean` (`VStep`), a reordering of the leg lists of all nodes, or a renaming -/
inductive SStep (dim : Nat → Nat) : VNet R → VNet R → Prop
  | base {N N' : VNet R} : VStep dim N N' → SStep dim N N'
  | releg {N : VNet R} {L : Nat → List Nat} : (∀ k ∈ N.ids, (L k).Perm (N.legs k)) → SStep dim N (reLeg N L)
  | rename {N : VNet R} {old new : Nat} : (new = old ∨ new ∉ N.ids) → SStep dim N (renameStep N old new)

inductive SRun (dim : Nat → Nat) : VNet R → VNet R → Prop
  | nil (N : VNet R) : SRun dim N N
  | cons {N N₁ N₂ : VNet R} : SStep dim N N₁ → SRun dim N₁ N₂ → SRun dim N N₂

theorem SRun.trans {dim : Nat → Nat} {N N₁ N₂ : VNet R} (h1 : SRun dim N N₁) (h2 : SRun dim N₁ N₂) :
    SRun dim N N₂ := by
  induction h1 with
  | nil => exact h2
  | cons hs _ ih => exact .cons hs (ih h2)

theorem SRun.one {dim : Nat → Nat} {N N₁ : VNet R} (h : SStep dim N N₁) : SRun dim N N₁ := .cons h (.nil _)

theorem sstep_value (dim : Nat → Nat) {N N' : VNet R} (h : N.WF) (hs : SStep dim N N') :
    N'.WF ∧ ∀ σ, N'.value dim σ = N.value dim σ := by
  cases hs with
  | base hb => exact vstep_value dim h hb
  | releg hperm => exact ⟨reLeg_wf h hperm, fun σ => reLeg_value dim _ _ σ⟩
  | rename hnew => exact ⟨renameStep_wf h hnew, fun σ => renameStep_value dim hnew σ⟩

theorem srun_value (dim : Nat → Nat) {N N' : VNet R} (h : N.WF) (hr : SRun dim N N') :
    N'.WF ∧ ∀ σ, N'.value dim σ = N.value dim σ := by
  induction hr with
  | nil N => exact ⟨h, fun _ => rfl⟩
  | cons hs _ ih =>
    obtain ⟨h1, v1⟩ := sstep_value dim h hs
    obtain ⟨h2, v2⟩ := ih h1
    exact ⟨h2, fun σ => (v2 σ).trans (v1 σ)⟩

theorem VRun.toSRun {dim : Nat → Nat} {N N' : VNet R} (hr : VRun dim N N') : SRun dim N N' := by
  induction hr with
  | nil N => exact .nil N
  | cons hs _ ih => exact .cons (.base hs) ih

/-- **Every history of value-level edits (`VRun`) leaves the dense tensor of the network unchanged** (and keeps the
valued network well-formed): contractions, splits with exact factorisations, tensor replacements with a permutation,
identity insertions, in any order and number.  For histories of the structural model see
`structural_history_preserves_value` (SimHistory.lean). -/
theorem ops_preserve_value (dim : Nat → Nat) {N N' : VNet R} (h : N.WF) (hr : VRun dim N N') :
    N'.WF ∧ ∀ σ, N'.value dim σ = N.value dim σ :=
  srun_value dim h hr.toSRun

end Ptn.C02
