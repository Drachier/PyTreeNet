import Ptn.C02.OpsLabels
/-! Building a network (`add_root`, `add_child_to_parent`) at the level of labels – what the child and the parent show
afterwards is read off `Shows.o2p` / `Shows.o2c` –: a network built with matching bond labels satisfies the label
invariant `LWF`; hence every admissible history does. -/
namespace Ptn.C02
open NodeS

/-- After `add_root` there is a single node, without virtual legs. -/
theorem add_root_lwf {t t' : TTN} {id : Id} {T : Tensor} (hn : t.nodes = [])
    (hs : t.addRoot id T = some t') : t'.LWF := by
  unfold TTN.addRoot at hs
  split at hs
  · simp at hs
  · simp only [Option.some.injEq] at hs
    subst hs
    constructor
    intro k x ax hk
    exfalso
    obtain ⟨n, L, hN, _, hm⟩ := leg_node hk
    have hx := (List.of_mem_zip hm).1
    have hN' : n = NodeS.empty.linkTensor (shapeOf T) := by
      simp only [TTN.N, dget_dset, hn, dget_nil] at hN
      by_cases hki : k = id
      · simp [hki] at hN; exact hN.symm
      · simp [hki] at hN
    subst hN'
    simp [NodeS.neighbours, linkTensor, NodeS.empty] at hx

/-- Label admissibility of `add_child_to_parent(child, tensor, child_leg, parent, parent_leg)`: the axis
    of the new tensor that becomes the bond is the axis (label and dimension) of the parent's open leg it is
    attached to.  (The code itself only compares the dimensions.) -/
def ChildLAdm (t : TTN) (T : Tensor) (cl : Nat) (pid : Id) (pl : Nat) : Prop :=
  ∃ ax, T[cl]? = some ax ∧ (t.logical pid).bind (fun L => L[pl]?) = some ax

/-- **Where the legs go in `add_child_to_parent`**: the child gets one leg, to the parent, with the bond axis
    of its tensor; the parent gets one more leg, to the child, with the axis of the open leg that was used;
    all other legs are unchanged. -/
theorem add_child_labels {t t' : TTN} {cid pid : Id} {T : Tensor} {cl pl : Nat} (h : t.WF)
    (hs : t.addChildToParent cid T cl pid pl = some t') :
    t.N cid = none ∧ t.N pid ≠ none ∧
    ∃ ac ap, T[cl]? = some ac ∧ (t.logical pid).bind (fun L => L[pl]?) = some ap ∧
      t'.legPairs cid = [(pid, ac)] ∧ t'.legPairs pid = t.legPairs pid ++ [(cid, ap)] ∧
      (∀ k, k ≠ cid → k ≠ pid → t'.legPairs k = t.legPairs k ∧ t'.openAxes k = t.openAxes k) := by
  obtain ⟨P, child', P', hPN, hcN, hcp, hc1, hp1, hN, hT, _⟩ := addChildToParent_spec hs
  have hNc : t'.N cid = some child' := by rw [hN]; simp [hcp]
  have hNp : t'.N pid = some P' := by rw [hN]; simp
  -- the child: the axis `cl` of its array is shown first
  have e0 : NodeS.empty.linkTensor (shapeOf T) = nodeOfTensor T := by
    simp [linkTensor, NodeS.empty, nodeOfTensor, shapeOf]
  rw [e0] at hc1
  have hcl : cl < T.length := by
    have := (openLegToParent_facts hc1).2.2.2.2
    rwa [show (nodeOfTensor T).perm.length = T.length from List.length_range] at this
  have hTs : T.take cl ++ T[cl] :: T.drop (cl + 1) = T := by
    rw [← List.drop_eq_getElem_cons hcl, List.take_append_drop]
  obtain ⟨n1, f1, p1, c1, s1⟩ := shows_fresh_o2p (T.take cl) (T.drop (cl + 1)) T[cl] pid
  rw [hTs, List.length_take, Nat.min_eq_left (Nat.le_of_lt hcl), hc1] at f1
  cases f1
  rw [hTs] at s1
  have hlogc : t'.logical cid = some (T[cl] :: (T.take cl ++ T.drop (cl + 1))) :=
    (logical_eq hNc (by rw [hT, if_pos rfl])).trans s1.legs
  -- the parent: the open axis `pl` is shown behind the child legs
  obtain ⟨TP, Lp, hTP, hLp, hLl, sP⟩ := h.shows hPN
  obtain ⟨q1, hpl⟩ : P.nvirt ≤ pl ∧ pl < Lp.length := by
    obtain ⟨_, _, _, hge, hlt⟩ := openLegToChild_facts hp1
    exact ⟨hge, hLl ▸ hlt⟩
  obtain ⟨Tp, Tc, To1, Ta, To2, hLps, l1, l2, l3, l4⟩ :=
    five_split Lp P.nparents P.nchildren (pl - P.nvirt) 1 (by have : P.nvirt = P.nparents + P.nchildren := rfl; omega)
  obtain ⟨ap, rfl⟩ := List.length_eq_one_iff.mp l4
  have hLps' : Lp = Tp ++ Tc ++ (To1 ++ ap :: To2) := by rw [hLps]; simp
  rw [hLps'] at sP
  obtain ⟨P2, g1, p2, c2, s2⟩ := sP.o2c cid l1 l2
  rw [l3, Nat.add_sub_cancel' q1, hp1] at g1
  cases g1
  have hlogp : t'.logical pid = some (Tp ++ (Tc ++ [ap]) ++ (To1 ++ To2)) :=
    (logical_eq hNp (by rw [hT, if_neg fun e => hcp e.symm]; exact hTP)).trans s2.legs
  refine ⟨hcN, by rw [hPN]; simp, T[cl], ap, List.getElem?_eq_getElem hcl, ?_, ?_, ?_, ?_⟩
  · have hnv : P.nvirt = P.nparents + P.nchildren := rfl
    have hlen : (Tp ++ Tc ++ To1).length = pl := by simp [l1, l2, l3]; omega
    rw [hLp, hLps, Option.bind_some, List.getElem?_append_left (by simp [l1, l2, l3]; omega),
      List.getElem?_append_right (Nat.le_of_eq hlen), hlen, Nat.sub_self]
    rfl
  · rw [legPairs_eq hNc hlogc]
    unfold NodeS.neighbours
    rw [p1, c1]; rfl
  · rw [legPairs_eq hNp hlogp, legPairs_eq hPN hLp, hLps',
      (zip_neighbours P' Tp (Tc ++ [ap]) (To1 ++ To2) (l1.trans (nparents_congr p2).symm)
        (by rw [c2]; simp [l2, nchildren])).1,
      (zip_neighbours P Tp Tc (To1 ++ ap :: To2) l1 l2).1, p2, c2, List.zip_append (by rw [l2]; rfl)]
    simp
  · intro k hk1 hk2
    exact (labels_of_same (by rw [hN]; simp [hk1, hk2]) (by rw [hT]; simp [hk1])).2

/-- **`add_child_to_parent` with a matching bond axis preserves the label invariant.** -/
theorem add_child_lwf {t t' : TTN} {cid pid : Id} {T : Tensor} {cl pl : Nat} (h : t.WF) (hl : t.LWF)
    (hadm : ChildLAdm t T cl pid pl)
    (hs : t.addChildToParent cid T cl pid pl = some t') : t'.LWF := by
  obtain ⟨hcN, _, ac, ap, e1, e2, c1, c2, c3⟩ := add_child_labels h hs
  obtain ⟨ax, a1, a2⟩ := hadm
  rw [e1] at a1; rw [e2] at a2
  cases a1; cases a2
  refine (addLeaf_edgeCorr (fun k x a hk e => leg_isNode hk (e ▸ hcN)) c1 c2 fun k k1 k2 => (c3 k k1 k2).1).lwf hl ?_
  rintro k x a (⟨rfl, rfl, rfl⟩ | ⟨rfl, rfl, rfl⟩)
  · exact Or.inr ⟨rfl, rfl, rfl⟩
  · exact Or.inl ⟨rfl, rfl, rfl⟩

/-- Label admissibility of an operation: only `add_child_to_parent` has a condition (`ChildLAdm`). -/
def TOp.LAdm (t : TTN) : TOp → Prop
  | .child _ T cl pid pl => ChildLAdm t T cl pid pl
  | _ => True

/-- Runs in which every operation is admissible, label-admissible, and succeeds. -/
inductive TRunL : TTN → List TOp → TTN → Prop
  | nil (t : TTN) : TRunL t [] t
  | cons {t t1 t' : TTN} {op : TOp} {ops : List TOp} :
      op.Adm t → op.LAdm t → t.step op = some t1 → TRunL t1 ops t' → TRunL t (op :: ops) t'

theorem TRunL.toTRun {t t' : TTN} {ops : List TOp} (hr : TRunL t ops t') : TRun t ops t' := by
  induction hr with
  | nil => exact .nil _
  | cons a _ s _ ih => exact .cons a s ih

theorem step_lwf {t t' : TTN} (h : t.WF) (hl : t.LWF) (op : TOp) (hadm : op.Adm t) (hladm : op.LAdm t)
    (hs : t.step op = some t') : t'.LWF := by
  cases op with
  | root id T => exact add_root_lwf hadm.1 hs
  | child id T cl pid pl => exact add_child_lwf h hl hladm hs
  | access id => exact (edit_step_labels h hl _ hadm trivial hs).1
  | contract a b n => exact (edit_step_labels h hl _ hadm trivial hs).1
  | split id o i oid iid bd => exact (edit_step_labels h hl _ hadm trivial hs).1
  | ident c p n => exact (edit_step_labels h hl _ hadm trivial hs).1
  | rename n o => exact (edit_step_labels h hl _ hadm trivial hs).1
  | rtp id p => exact (edit_step_labels h hl _ hadm trivial hs).1

theorem runL_labels {t t' : TTN} {ops : List TOp} (h : t.WF) (hl : t.LWF) (hr : TRunL t ops t') :
    t'.WF ∧ t'.LWF := by
  induction hr with
  | nil => exact ⟨h, hl⟩
  | cons hadm hladm hs _ ih => exact ih (step_wf h _ hadm hs) (step_lwf h hl _ hadm hladm hs)

/-- Networks built from nothing with matching bond labels are well-formed and label-consistent. -/
theorem builtL_labels {t' : TTN} {id : Id} {T : Tensor} {ops : List TOp}
    (hr : TRunL TTN.empty (.root id T :: ops) t') : t'.WF ∧ t'.LWF := by
  cases hr with
  | cons hadm _ hs hrest =>
    exact runL_labels (addRoot_wf hadm.1 hadm.2 hs) (add_root_lwf hadm.1 hs) hrest

end Ptn.C02
