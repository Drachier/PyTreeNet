import Ptn.C02.NodeProps
import Ptn.C02.TruncLegs
import Ptn.C02.DemoKit
import Ptn.C02.Progress
import Ptn.C02.SimCompositeDemo
import Ptn.C02.SimCompositeExists
/-! The property theorems of C02 about `TreeTensorNetwork` (`TTN.lean`), each with a non-vacuity example; those about
the Node machine are in `NodeProps.lean`.  The value-level theorems stand in `Value.lean` and `Sim*.lean`; their
non-vacuity examples (on the instances of `SimDemo.lean`, `SimCompositeDemo.lean`) are at the end of this file. -/
namespace Ptn.C02
open NodeS

/-- **Leg order of `contract_nodes`** (`_create_contracted_node`).  Let the contracted array be
    `T = Tp ++ Tc ++ To ++ Tcc ++ Tco` – what `tensordot(parent, child)` delivers: the parent's parent leg,
    its remaining child legs, its open legs, then the child's child legs and open legs.  For every parent
    `P` (root or not, the contracted child anywhere among its children) and child `C`, the node that is
    built has `P`'s parent, is well-formed, and its logical legs (what `ttn.tensors[new]` shows) are

    * `node_id1 = parent`: `(parent, P-children…, C-children…, P-open…, C-open…)`, children `K1 ++ K2 ++ C.children`;
    * `node_id1 = child` : `(parent, C-children…, P-children…, C-open…, P-open…)`, children `C.children ++ K1 ++ K2`

    which is the documented rule `(parent_parent_leg, node1_children_legs, node2_children_legs,
    node1_open_legs, node2_open_legs)`. -/
theorem create_contracted_node_spec (t : TTN) (pid cid id1 : Id) (P C : NodeS)
    (hP : dget t.nodes pid = some P) (hC : dget t.nodes cid = some C)
    (K1 K2 : List Id) (hPch : P.children = K1 ++ cid :: K2) (hcid : cid ∉ K1)
    (hKnd : (K1 ++ K2 ++ C.children).Nodup)
    (Tp Tc To Tcc Tco : Tensor) (hTp : Tp.length = P.nparents) (hTc : Tc.length = K1.length + K2.length)
    (hTo : To.length + P.nvirt = P.nlegs) (hTcc : Tcc.length = C.children.length) :
    ∃ nn, t.createContractedNode (Tp ++ Tc ++ To ++ Tcc ++ Tco) pid cid id1 = some nn ∧
      nn.parent = P.parent ∧ nn.shp = shapeOf (Tp ++ Tc ++ To ++ Tcc ++ Tco) ∧ WFN nn ∧
      (id1 = pid → nn.children = K1 ++ K2 ++ C.children ∧
        transposeT (Tp ++ Tc ++ To ++ Tcc ++ Tco) nn.perm = some (Tp ++ (Tc ++ Tcc) ++ (To ++ Tco))) ∧
      (id1 ≠ pid → nn.children = C.children ++ (K1 ++ K2) ∧
        transposeT (Tp ++ Tc ++ To ++ Tcc ++ Tco) nn.perm = some (Tp ++ (Tcc ++ Tc) ++ (Tco ++ To))) :=
  create_contracted_node_aux t pid cid id1 P C _ hP hC K1 K2 hPch hcid hKnd Tp Tc To Tcc Tco rfl hTp hTc hTo hTcc

/-- Non-vacuity: a parent `1` (child of `9`, children `[2, 3]`, one open leg) contracted with its child `3`
    (children `[4]`, one open leg), both argument orders. -/
example :
    let t : TTN := ⟨[(1, ⟨[0, 1, 2, 3], [2, 2, 2, 2], some 9, [2, 3]⟩), (3, ⟨[0, 1, 2], [2, 2, 2], some 1, [4]⟩)],
      [], some 9, 0⟩
    let T : Tensor := [⟨10, 2⟩, ⟨11, 2⟩, ⟨12, 2⟩, ⟨13, 2⟩, ⟨14, 2⟩]
    (t.createContractedNode T 1 3 1).map (fun n => (n.children, transposeT T n.perm)) =
      some ([2, 4], some [⟨10, 2⟩, ⟨11, 2⟩, ⟨13, 2⟩, ⟨12, 2⟩, ⟨14, 2⟩]) ∧
    (t.createContractedNode T 1 3 3).map (fun n => (n.children, transposeT T n.perm)) =
      some ([4, 2], some [⟨10, 2⟩, ⟨13, 2⟩, ⟨11, 2⟩, ⟨14, 2⟩, ⟨12, 2⟩]) := by
  decide +kernel

/-! Leg order of `split_nodes`.

The splitting function returns `out = (out legs…, bond)` and `in = (bond, in legs…)` where the legs of
each side come in the order `(parent, children…, open…)` of its `LegSpecification`.  The six theorems
below cover every admissible configuration of "who keeps the parent / who becomes the root":
the in-node may keep the parent, become the root, or become the child of the out-node, and likewise
the out-node.  Each states parent, children (the new neighbour is always the **first** child) and
the logical leg order `(parent, children…, open…)`; open legs stay in the order of the specification. -/

theorem split_in_node_keeps_parent_spec (inL outL : TTN.LegSpec) (outId p : Id) (b a : Axis)
    (Ic Io : Tensor) (hp : inL.parentLeg = some p) (hroot : inL.isRoot = false)
    (hIc : Ic.length = inL.childLegs.length) (hnd : (outId :: inL.childLegs).Nodup) :
    ∃ nn, TTN.buildInNode (b :: a :: (Ic ++ Io)) inL outL outId = some nn ∧ WFN nn ∧
      nn.shp = shapeOf (b :: a :: (Ic ++ Io)) ∧ nn.parent = some p ∧ nn.children = outId :: inL.childLegs ∧
      transposeT (b :: a :: (Ic ++ Io)) nn.perm = some (a :: b :: (Ic ++ Io)) :=
  in_node_keeper_logical inL outL outId b [a] Ic Io hp hroot (Or.inr ⟨p, a, rfl, rfl⟩) (fun h => nomatch h) hIc hnd

/-- in becomes the root (its specification has `is_root`). -/
theorem split_in_node_root_spec (inL outL : TTN.LegSpec) (outId : Id) (b : Axis) (Ic Io : Tensor)
    (hp : inL.parentLeg = none) (hroot : inL.isRoot = true) (hop : outL.parentLeg = none)
    (hIc : Ic.length = inL.childLegs.length) (hnd : (outId :: inL.childLegs).Nodup) :
    ∃ nn, TTN.buildInNode (b :: (Ic ++ Io)) inL outL outId = some nn ∧ WFN nn ∧
      nn.shp = shapeOf (b :: (Ic ++ Io)) ∧ nn.parent = none ∧ nn.children = outId :: inL.childLegs ∧
      transposeT (b :: (Ic ++ Io)) nn.perm = some (b :: (Ic ++ Io)) :=
  in_node_keeper_logical inL outL outId b [] Ic Io hp hroot (Or.inl ⟨rfl, rfl⟩) (fun _ => hop) hIc hnd

theorem split_in_node_child_spec (inL outL : TTN.LegSpec) (outId : Id) (b : Axis) (Ic Io : Tensor)
    (hp : inL.parentLeg = none) (hroot : inL.isRoot = false)
    (hIc : Ic.length = inL.childLegs.length) (hnd : inL.childLegs.Nodup) :
    ∃ nn, TTN.buildInNode (b :: (Ic ++ Io)) inL outL outId = some nn ∧ WFN nn ∧
      nn.shp = shapeOf (b :: (Ic ++ Io)) ∧ nn.parent = some outId ∧ nn.children = inL.childLegs ∧
      transposeT (b :: (Ic ++ Io)) nn.perm = some (b :: (Ic ++ Io)) :=
  in_node_child_logical inL outL outId b Ic Io hp hroot hIc hnd

/-- out becomes the child of the in-node (in keeps the parent or becomes the root): the new bond, last
    axis of the out array, becomes the parent leg. -/
theorem split_out_node_child_spec (outL inL : TTN.LegSpec) (inId : Id) (b : Axis) (Oc Oo : Tensor)
    (hp : outL.parentLeg = none) (hroot : outL.isRoot = false)
    (hin : inL.isRoot = true ∨ inL.parentLeg.isSome = true)
    (hOc : Oc.length = outL.childLegs.length) (hnd : outL.childLegs.Nodup) :
    ∃ nn, TTN.buildOutNode (Oc ++ Oo ++ [b]) outL inL inId = some nn ∧ WFN nn ∧
      nn.shp = shapeOf (Oc ++ Oo ++ [b]) ∧ nn.parent = some inId ∧ nn.children = outL.childLegs ∧
      transposeT (Oc ++ Oo ++ [b]) nn.perm = some (b :: (Oc ++ Oo)) :=
  out_node_child_logical outL inL inId b Oc Oo hp hroot hin hOc hnd

/-- out keeps the parent: the new bond becomes the **first child** leg. -/
theorem split_out_node_keeps_parent_spec (outL inL : TTN.LegSpec) (inId p : Id) (b a : Axis)
    (Oc Oo : Tensor) (hp : outL.parentLeg = some p) (hroot : outL.isRoot = false)
    (hin1 : inL.isRoot = false) (hin2 : inL.parentLeg = none)
    (hOc : Oc.length = outL.childLegs.length) (hnd : (inId :: outL.childLegs).Nodup) :
    ∃ nn, TTN.buildOutNode (a :: (Oc ++ Oo) ++ [b]) outL inL inId = some nn ∧ WFN nn ∧
      nn.shp = shapeOf (a :: (Oc ++ Oo) ++ [b]) ∧ nn.parent = some p ∧ nn.children = inId :: outL.childLegs ∧
      transposeT (a :: (Oc ++ Oo) ++ [b]) nn.perm = some (a :: b :: (Oc ++ Oo)) :=
  out_node_keeper_logical outL inL inId b [a] Oc Oo hp hroot (Or.inr ⟨p, a, rfl, rfl⟩) hin1 hin2 hOc hnd

/-- out becomes the root: the new bond becomes the first child leg. -/
theorem split_out_node_root_spec (outL inL : TTN.LegSpec) (inId : Id) (b : Axis) (Oc Oo : Tensor)
    (hp : outL.parentLeg = none) (hroot : outL.isRoot = true)
    (hin1 : inL.isRoot = false) (hin2 : inL.parentLeg = none)
    (hOc : Oc.length = outL.childLegs.length) (hnd : (inId :: outL.childLegs).Nodup) :
    ∃ nn, TTN.buildOutNode (Oc ++ Oo ++ [b]) outL inL inId = some nn ∧ WFN nn ∧
      nn.shp = shapeOf (Oc ++ Oo ++ [b]) ∧ nn.parent = none ∧ nn.children = inId :: outL.childLegs ∧
      transposeT (Oc ++ Oo ++ [b]) nn.perm = some (b :: (Oc ++ Oo)) :=
  out_node_keeper_logical outL inL inId b [] Oc Oo hp hroot (Or.inl ⟨rfl, rfl⟩) hin1 hin2 hOc hnd

/-! Non-vacuity: the six configurations on concrete arrays (bond label 99). -/
example :
    (TTN.buildInNode [⟨99, 2⟩, ⟨10, 2⟩, ⟨11, 2⟩, ⟨12, 2⟩] ⟨some 7, [5], [3], false⟩ ⟨none, [], [], false⟩ 8).map (fun n => (n.parent, n.children, transposeT [⟨99, 2⟩, ⟨10, 2⟩, ⟨11, 2⟩, ⟨12, 2⟩] n.perm)) =
      some (some 7, [8, 5], some [⟨10, 2⟩, ⟨99, 2⟩, ⟨11, 2⟩, ⟨12, 2⟩]) := by decide +kernel
example :
    (TTN.buildInNode [⟨99, 2⟩, ⟨10, 2⟩, ⟨11, 2⟩, ⟨12, 2⟩] ⟨none, [5, 6], [3], true⟩ ⟨none, [], [], false⟩ 8).map (fun n => (n.parent, n.children, transposeT [⟨99, 2⟩, ⟨10, 2⟩, ⟨11, 2⟩, ⟨12, 2⟩] n.perm)) =
      some (none, [8, 5, 6], some [⟨99, 2⟩, ⟨10, 2⟩, ⟨11, 2⟩, ⟨12, 2⟩]) := by decide +kernel
example :
    (TTN.buildInNode [⟨99, 2⟩, ⟨10, 2⟩, ⟨11, 2⟩, ⟨12, 2⟩] ⟨none, [5], [3, 4], false⟩ ⟨some 7, [], [], false⟩ 8).map (fun n => (n.parent, n.children, transposeT [⟨99, 2⟩, ⟨10, 2⟩, ⟨11, 2⟩, ⟨12, 2⟩] n.perm)) =
      some (some 8, [5], some [⟨99, 2⟩, ⟨10, 2⟩, ⟨11, 2⟩, ⟨12, 2⟩]) := by decide +kernel
example :
    (TTN.buildOutNode [⟨20, 2⟩, ⟨21, 2⟩, ⟨22, 2⟩, ⟨99, 2⟩] ⟨none, [5], [3, 4], false⟩ ⟨some 7, [], [], false⟩ 9).map (fun n => (n.parent, n.children, transposeT [⟨20, 2⟩, ⟨21, 2⟩, ⟨22, 2⟩, ⟨99, 2⟩] n.perm)) =
      some (some 9, [5], some [⟨99, 2⟩, ⟨20, 2⟩, ⟨21, 2⟩, ⟨22, 2⟩]) := by decide +kernel
example :
    (TTN.buildOutNode [⟨20, 2⟩, ⟨21, 2⟩, ⟨22, 2⟩, ⟨99, 2⟩] ⟨some 7, [5], [4], false⟩ ⟨none, [], [], false⟩ 9).map (fun n => (n.parent, n.children, transposeT [⟨20, 2⟩, ⟨21, 2⟩, ⟨22, 2⟩, ⟨99, 2⟩] n.perm)) =
      some (some 7, [9, 5], some [⟨20, 2⟩, ⟨99, 2⟩, ⟨21, 2⟩, ⟨22, 2⟩]) := by decide +kernel
example :
    (TTN.buildOutNode [⟨20, 2⟩, ⟨21, 2⟩, ⟨22, 2⟩, ⟨99, 2⟩] ⟨none, [5, 6], [4], true⟩ ⟨none, [], [], false⟩ 9).map (fun n => (n.parent, n.children, transposeT [⟨20, 2⟩, ⟨21, 2⟩, ⟨22, 2⟩, ⟨99, 2⟩] n.perm)) =
      some (none, [9, 5, 6], some [⟨99, 2⟩, ⟨20, 2⟩, ⟨21, 2⟩, ⟨22, 2⟩]) := by decide +kernel

/-! Graph level: operations keep the network well-formed.

`TTN.WF` (see `Graph.lean`, `SGraph.lean`): node keys = tensor keys; exactly one parentless node and
`root` names it; parent/child links symmetric; no duplicate children; a rank strictly decreasing
towards the root (every node reaches the root – the graph is a tree); every node satisfies the Node
invariant `WFN`; every recorded `_shape` is the shape of the stored array. -/

/-- A plain access (`ttn.tensors[id]`, `ttn[id]`: lazy transposition + `_reset_permutation`) keeps the
    network well-formed. -/
theorem access_preserves_wf {t t1 : TTN} {id : Id} {T : Tensor} (h : t.WF)
    (ha : t.access id = some (t1, T)) : t1.WF :=
  access_wf h ha

/-- **`contract_nodes` keeps the network well-formed** – every well-formed network, both argument orders,
    every admissible identifier (either operand's identifier or an unused one). -/
theorem contract_nodes_wf {t t' : TTN} {id1 id2 new : Id} (h : t.WF)
    (hnew : new = id1 ∨ new = id2 ∨ t.N new = none)
    (hc : t.contractNodes id1 id2 new = some t') : t'.WF :=
  contractNodes_wf h hnew hc

/-- … and what the contraction does to the structure: the two nodes are replaced by `new`, which has the
    parent's parent and exactly the other children of both; everybody else keeps its array bookkeeping and
    has its references to the two old identifiers renamed (`contractRen`); the root is transferred when
    the parent was the root; the tensor dictionary loses the two keys and gains `new`. -/
theorem contract_nodes_structure {t t' : TTN} {id1 id2 new : Id} (h : t.WF)
    (hnew : new = id1 ∨ new = id2 ∨ t.N new = none)
    (hc : t.contractNodes id1 id2 new = some t') :
    ∃ pid cid P C nn newT, t.N pid = some P ∧ t.N cid = some C ∧ C.parent = some pid ∧
      ((pid = id1 ∧ cid = id2) ∨ (pid = id2 ∧ cid = id1)) ∧
      t'.N new = some nn ∧ nn.parent = P.parent ∧
      (∀ x, x ∈ nn.children ↔ ((x ∈ P.children ∧ x ≠ cid) ∨ x ∈ C.children)) ∧
      (pid ≠ new → t'.N pid = none) ∧ (cid ≠ new → t'.N cid = none) ∧
      (∀ k, k ≠ new → k ≠ pid → k ≠ cid →
        (t.N k = none → t'.N k = none) ∧
        (∀ n, t.N k = some n → ∃ n', t'.N k = some n' ∧ CRel pid cid new n n')) ∧
      (∀ k, dget t'.tensors k = if k = new then some newT
                                else if k = pid ∨ k = cid then none else dget t.tensors k) ∧
      t'.root = (if P.parent = none then some new else t.root) := by
  obtain ⟨pid, cid, P, C, nn, newT, F⟩ := contract_full h hnew hc
  refine ⟨pid, cid, P, C, nn, newT, F.nodeP, F.nodeC, F.edge, F.ids, by rw [F.N, if_pos rfl], F.parent, F.mem_children,
    fun e => by rw [F.N, if_neg e, if_pos (Or.inl rfl)], fun e => by rw [F.N, if_neg e, if_pos (Or.inr rfl)],
    fun k hk hkp hkc => ?_, F.tensors, F.root⟩
  rw [F.N, if_neg hk, if_neg (not_or.mpr ⟨hkp, hkc⟩)]
  exact ⟨fun e => by rw [e]; rfl, fun n hn => ⟨_, by rw [hn]; rfl,
    crel_renNode (other_node_facts h F.nodeP F.nodeC F.edge hn hkp).1⟩⟩

/-- **`split_nodes` keeps the network well-formed** – every well-formed network, every splitting function
    (QR, SVD, replacement: only the new bond dimension enters), every admissible pair of leg
    specifications (`SplitAdm`: the child identifiers partition the children, exactly one side takes the
    parent resp. the root flag) and identifiers (the old one on either side, or unused ones). -/
theorem split_nodes_wf {t t' : TTN} {id : Id} {X : NodeS} {outL inL : TTN.LegSpec} {outId inId : Id}
    {bd : Nat} (h : t.WF) (adm : SplitAdm t id X outL inL outId inId)
    (hs : t.splitNodes id outL inL outId inId bd = some t') : t'.WF :=
  splitNodes_wf h adm hs

/-- … and what the split does to the structure.  `a` is the side that takes the place of the old node
    towards its parent (or as root), `b` the other side: `a` has the old parent and children `b :: aCh`,
    `b` has parent `a` and children `bCh`; the old identifier disappears unless reused; every former
    child points to the side that lists it, the former parent points to `a` (`splitRen`); everybody else
    is untouched; the root is transferred to `a` when the old node was the root. -/
theorem split_nodes_structure {t t' : TTN} {id : Id} {X : NodeS} {outL inL : TTN.LegSpec} {outId inId : Id}
    {bd : Nat} (h : t.WF) (adm : SplitAdm t id X outL inL outId inId)
    (hs : t.splitNodes id outL inL outId inId bd = some t') :
    ∃ a b aCh bCh na nb,
      ((a = outId ∧ b = inId ∧ aCh = outL.childLegs ∧ bCh = inL.childLegs) ∨
       (a = inId ∧ b = outId ∧ aCh = inL.childLegs ∧ bCh = outL.childLegs)) ∧
      t'.N a = some na ∧ t'.N b = some nb ∧
      na.parent = X.parent ∧ na.children = b :: aCh ∧ nb.parent = some a ∧ nb.children = bCh ∧
      (id ≠ a → id ≠ b → t'.N id = none) ∧
      (∀ k, k ≠ a → k ≠ b → k ≠ id →
        (t.N k = none → t'.N k = none) ∧
        (∀ n, t.N k = some n → ∃ n', t'.N k = some n' ∧ SRel id a b aCh k n n')) ∧
      t'.root = (if X.parent = none then some a else t.root) := by
  obtain ⟨a, b, aCh, bCh, na, nb, _, _, R⟩ := split_full_roles h adm hs
  refine ⟨a, b, aCh, bCh, na, nb, R.cfg, by rw [R.N, if_pos rfl], by rw [R.N, if_neg R.ne.symm, if_pos rfl],
    R.parent_a, R.children_a, R.parent_b, R.children_b, fun h1 h2 => by rw [R.N, if_neg h1, if_neg h2, if_pos rfl],
    fun k hka hkb hkid => ?_, R.root⟩
  rw [R.N, if_neg hka, if_neg hkb, if_neg hkid]
  exact ⟨fun e => by rw [e]; rfl, fun n hn => ⟨_, by rw [hn]; rfl,
    h.srel_splitSide adm.node hn R.part R.side_a R.side_b R.side_parent⟩⟩

/-- `add_root` on the empty network yields a well-formed one-node network. -/
theorem add_root_wf {t t' : TTN} {id : Id} {T : Tensor} (hn : t.nodes = []) (ht : t.tensors = [])
    (h : t.addRoot id T = some t') : t'.WF :=
  addRoot_wf hn ht h

/-- `add_child_to_parent` keeps the network well-formed (whatever raw leg positions are used). -/
theorem add_child_to_parent_wf {t t' : TTN} {cid pid : Id} {T : Tensor} {cl pl : Nat} (h : t.WF)
    (hs : t.addChildToParent cid T cl pid pl = some t') : t'.WF :=
  addChildToParent_wf h hs

/-- `replace_tensor(node_id, new_tensor, permutation)` keeps the network well-formed when the permutation
    (if any) is a permutation of the axes. -/
theorem replace_tensor_wf {t t' : TTN} {id : Id} {newT : Tensor} {p : Option (List Nat)} (h : t.WF)
    (hp : ∀ q, p = some q → q.Perm (List.range q.length))
    (hs : t.replaceTensor id newT p = some t') : t'.WF :=
  replaceTensor_wf h hp hs

/-- `change_node_identifier(new, old)` keeps the network well-formed when `new` is `old` or unused. -/
theorem change_node_identifier_wf {t t' : TTN} {new old : Id} (h : t.WF)
    (hnew : new = old ∨ t.N new = none) (hs : t.changeNodeIdentifier new old = some t') : t'.WF :=
  changeNodeIdentifier_wf h hnew hs

/-- `insert_identity(child, parent, new)` keeps the network well-formed when `new` is unused. -/
theorem insert_identity_wf {t t' : TTN} {cid pid new : Id} (h : t.WF) (hnew : t.N new = none)
    (hs : t.insertIdentity cid pid new = some t') : t'.WF :=
  insertIdentity_wf h hnew hs

/-- **Every finite history of admissible operations** (contractions, splits of every kind, identity
    insertions, identifier changes, tensor replacements with a permutation, plain accesses, additions of
    children – in any interleaving) **keeps the network well-formed**: one root, symmetric links, a tree,
    identical key sets, Node invariants, recorded shapes = stored shapes. -/
theorem ops_preserve_wf {t t' : TTN} {ops : List TOp} (h : t.WF) (hr : TRun t ops t') : t'.WF :=
  run_wf h hr

/-- … in particular every network built from nothing. -/
theorem built_networks_wf {t' : TTN} {id : Id} {T : Tensor} {ops : List TOp}
    (hr : TRun TTN.empty (.root id T :: ops) t') : t'.WF :=
  built_wf hr

/-- a label-admissible history from the empty network: root `1`, child `2` (raw legs in the "wrong" order, matching
    bond label `100`), access, contraction `(2, 1) ↦ 3`, split of `3` (in-side becomes the root, identifier `3` reused
    for the out-side), renaming, identity insertion, tensor replacement; with the open axes at its end -/
theorem demo_history : ∃ t', TRunL TTN.empty
    [.root 1 [⟨0, 2⟩, ⟨100, 3⟩, ⟨1, 2⟩],
     .child 2 [⟨2, 2⟩, ⟨100, 3⟩] 1 1 1,
     .access 1,
     .contract 2 1 3,
     .split 3 ⟨none, [], [1], false⟩ ⟨none, [], [0, 2], true⟩ 3 4 2,
     .rename 5 4,
     .ident 3 5 6,
     .rtp 5 (some [2, 0, 1])] t' ∧
    t'.openAxes 3 = [⟨0, 2⟩] ∧ t'.openAxes 5 = [⟨2, 2⟩, ⟨1, 2⟩] ∧ t'.openAxes 6 = [] :=
  ⟨_,
    .cons ⟨rfl, rfl⟩ trivial rfl
    (.cons trivial ⟨_, rfl, rfl⟩ rfl
    (.cons trivial trivial rfl
    (.cons (Or.inr (Or.inr rfl)) trivial rfl
    (.cons ⟨_, ⟨rfl, Or.inl rfl, Or.inr rfl, List.Perm.refl _,
        Or.inr ⟨rfl, rfl, rfl, Or.inr ⟨rfl, rfl⟩⟩⟩⟩ trivial rfl
    (.cons (Or.inr rfl) trivial rfl
    (.cons rfl trivial rfl
    (.cons (fun q hq => by cases hq; decide) trivial rfl
    (.nil _)))))))), rfl, rfl, rfl⟩

/-- Non-vacuity: a concrete history from the empty network – root `1`, child `2` (raw legs in the
    "wrong" order), access, contraction `(2, 1) ↦ 3`, split of `3` (in-side becomes the root, identifier
    `3` reused for the out-side), renaming, identity insertion, tensor replacement – is a `TRun`; hence
    the final network (and every intermediate one) is well-formed. -/
example : ∃ t', TRun TTN.empty
    [.root 1 [⟨0, 2⟩, ⟨100, 3⟩, ⟨1, 2⟩],
     .child 2 [⟨2, 2⟩, ⟨100, 3⟩] 1 1 1,
     .access 1,
     .contract 2 1 3,
     .split 3 ⟨none, [], [1], false⟩ ⟨none, [], [0, 2], true⟩ 3 4 2,
     .rename 5 4,
     .ident 3 5 6,
     .rtp 5 (some [2, 0, 1])] t' ∧ t'.WF := by
  obtain ⟨t', hr, _⟩ := demo_history
  exact ⟨t', hr.toTRun, built_networks_wf hr.toTRun⟩

/-! Composite edits (TDVP updates, centre moves, truncation) restore the tree.

The algorithms never call a structural edit alone: they split a node and contract the piece into the
neighbour (`_update_link`, `split_qr_contract_r_to_neighbour`), contract two nodes and split them again
(`_update_two_site_nodes`, `contract_and_split_with_parent`), or insert, split and re-contract projectors
(`recursive_truncation`).  `Composite.lean` models these line by line; the readable, per-operation statements
(including the exact child order afterwards and the open legs of every node) are exported as
`Ptn.C06.*_structure` (`Ptn/C06/Structure.lean`) and `Ptn.C10.*_structure` (`Ptn/C10/Tree.lean`). -/

/-- **Every sequence of composite edits** – tensor accesses, one-site link updates, two-site updates, centre
    moves, `contract_and_split_with_parent` – each with an unused temporary identifier and any new bond
    dimension, keeps the network well-formed and preserves the root and the tree (`TreeEq`: same
    identifiers, same parent of every node, children lists equal up to order). -/
theorem composite_edits_preserve_tree {t t' : TTN} {es : List TdvpEvent} (h : t.WF) (hr : TdvpRun t es t') :
    t'.WF ∧ t'.root = t.root ∧ TreeEq t.S t'.S :=
  tdvp_run_structure h hr

/-- **`recursive_truncation`** (between its canonicalisations; any kept bond dimensions) returns a well-formed
    network with the same root and exactly the same structure: identifiers, parents, children lists in the
    same order. -/
theorem recursive_truncation_restores_structure {t t' : TTN} {kdim : Id → Nat} (h : t.WF)
    (hs : t.recursiveTruncation kdim = some t') : t'.WF ∧ t'.root = t.root ∧ t'.S = t.S :=
  recursive_truncation_full h hs

set_option maxRecDepth 8192 in
/-- Non-vacuity: on the network `1 — {2 — {4}, 3}` built from nothing, a run of composite edits
    (`3 → 1` centre move, access, link update `1 → 2`, two-site update `(2, 4)`, contract-and-split `(3, 1)`)
    exists and changes the child order of `1` from `[2, 3]` to `[3, 2]`; `recursive_truncation` succeeds on
    the same network and gives back the structure. -/
example : ∃ t t' t'', TRun TTN.empty
      [.root 1 [⟨0, 2⟩, ⟨100, 3⟩, ⟨101, 2⟩], .child 2 [⟨100, 3⟩, ⟨1, 2⟩, ⟨102, 2⟩] 0 1 1,
       .child 3 [⟨2, 2⟩, ⟨101, 2⟩] 1 1 2, .child 4 [⟨102, 2⟩, ⟨3, 3⟩] 0 2 2] t ∧
    TdvpRun t [.move 3 1 60 2, .access 1, .link 1 2 61 3, .twoSite 2 4 62 1, .contractSplit 3 1 63 2] t' ∧
    t.S 1 = some (none, [2, 3]) ∧ t'.S 1 = some (none, [3, 2]) ∧
    t.recursiveTruncation (fun c => if c = 2 then 2 else 1) = some t'' ∧ t''.S 1 = some (none, [2, 3]) :=
  -- the network is `Ptn.C10.exTree` (`DemoKit.lean`), where its truncation is evaluated; the run is evaluated here
  let ⟨t', h, h1⟩ := (by decide +kernel : ∃ t' ∈ Ptn.C10.tdvpRun? Ptn.C10.exTree
      [.move 3 1 60 2, .access 1, .link 1 2 61 3, .twoSite 2 4 62 1, .contractSplit 3 1 63 2],
      t'.S 1 = some (none, [3, 2]))
  let ⟨t'', h2, hS, _⟩ := Ptn.C10.exTree_trunc
  ⟨Ptn.C10.exTree, t', t'', Ptn.C10.exTree_built.toTRun, Ptn.C10.tdvpRun?_sound h, rfl, h1, h2, hS.1⟩

/-! The network-level label invariant.

Every stored axis carries a label and a dimension (`Axis`).  For a node `k`, `t.Leg k x ax` says that the
leg of `k` towards its neighbour `x` is the axis `ax`; `t.openAxes k` are its open axes in order;
`t.openList` lists the open axes of the whole network by node identifier, then by position.

`TTN.LWF` (**label well-formedness**): `∀ k x ax, t.Leg k x ax → t.Leg x k ax` – the two ends of every bond
are the same axis: *partner labels, equal dimension*.

The theorems below say, operation by operation, where every leg and every open axis goes; that `LWF` is
preserved; and that open axes are never created, lost or duplicated (`openList` changes by a permutation
only).  `insert_identity` adds a partner pair carrying the label of the bond it subdivides, nothing else. -/

/-- A plain access changes no logical tensor, no leg, no open axis. -/
theorem access_preserves_labels {t t1 : TTN} {id : Id} {T : Tensor} (hl : t.LWF)
    (ha : t.access id = some (t1, T)) :
    t1.LWF ∧ t.logical id = some T ∧ (∀ k, t1.openAxes k = t.openAxes k) ∧ t1.openList.Perm t.openList :=
  ⟨access_lwf hl ha, (access_labels ha).1, (access_labels ha).2.2.2, access_openList ha⟩

/-- **`contract_nodes` at the level of labels.**  The label invariant is preserved; the new node has the legs
    of the two contracted nodes except the contracted bond, each with the axis it had (`contract_legs` has
    the leg-by-leg statement); its open axes are those of `node_id1` followed by those of `node_id2`; the two
    old identifiers have no axes any more; every other node keeps its open axes; the open axes of the network
    are the same up to order. -/
theorem contract_nodes_labels {t t' : TTN} {id1 id2 new : Id} (h : t.WF) (hl : t.LWF)
    (hnew : new = id1 ∨ new = id2 ∨ t.N new = none)
    (hc : t.contractNodes id1 id2 new = some t') :
    t'.LWF ∧ t'.openAxes new = t.openAxes id1 ++ t.openAxes id2 ∧
    (∀ k, k ≠ new → (k = id1 ∨ k = id2) → t'.openAxes k = []) ∧
    (∀ k, k ≠ new → k ≠ id1 → k ≠ id2 → t'.openAxes k = t.openAxes k) ∧
    t'.openList.Perm t.openList := by
  obtain ⟨_, _, _, _, cnew, cgone, cby⟩ := contract_legs h hnew hc
  exact ⟨contract_lwf h hl hnew hc, cnew, fun k hk hk2 => (cgone k hk hk2).2, fun k hk h1 h2 => (cby k hk h1 h2).2,
    contract_openList h hnew hc⟩

/-- **`split_nodes` at the level of labels.**  The label invariant is preserved (the new bond carries the
    fresh label at both ends; `split_legs` has the leg-by-leg statement); the open axes of the out- and of the
    in-node are those their specifications select, in that order (`pick L legs` reads the logical axes `L` of
    the split node at the given positions); together they are exactly the open axes of the split node; every
    other node keeps its open axes; the open axes of the network are the same up to order. -/
theorem split_nodes_labels {t t' : TTN} {id : Id} {X : NodeS} {outL inL : TTN.LegSpec} {outId inId : Id}
    {bd : Nat} (h : t.WF) (hl : t.LWF) (adm : SplitAdm t id X outL inL outId inId)
    (hs : t.splitNodes id outL inL outId inId bd = some t') :
    t'.LWF ∧ (∃ L, t.logical id = some L ∧
      t'.openAxes outId = pick L outL.openLegs ∧ t'.openAxes inId = pick L inL.openLegs) ∧
    (t'.openAxes outId ++ t'.openAxes inId).Perm (t.openAxes id) ∧
    (∀ k, k ≠ outId → k ≠ inId → k ≠ id → t'.openAxes k = t.openAxes k) ∧
    t'.openList.Perm t.openList := by
  obtain ⟨_, L, hlogL, _, _, so, si, hopen, _, sby⟩ := split_legs h adm hs
  exact ⟨split_lwf h hl adm hs, ⟨L, hlogL, so, si⟩, hopen, fun k h1 h2 h3 => (sby k h1 h2 h3).2,
    split_openList h adm hs⟩

/-- **`insert_identity` at the level of labels**: the identity node has exactly two legs, both carrying the
    axis of the bond it subdivides (a partner pair), and no open axis; nothing else changes. -/
theorem insert_identity_labels {t t' : TTN} {cid pid new : Id} (h : t.WF) (hl : t.LWF) (hnew : t.N new = none)
    (hs : t.insertIdentity cid pid new = some t') :
    t'.LWF ∧ (∃ ax, t.Leg cid pid ax ∧ t'.legPairs new = [(pid, ax), (cid, ax)]) ∧ t'.openAxes new = [] ∧
    (∀ k, k ≠ new → t'.openAxes k = t.openAxes k) ∧ t'.openList.Perm t.openList := by
  obtain ⟨ax, hax, c1, c2, c3⟩ := ident_labels h hnew hs
  exact ⟨ident_lwf h hl hnew hs, ⟨ax, hax, c1⟩, c2, fun k hk => (c3 k hk).2, ident_openList h hnew hs⟩

/-- **`change_node_identifier` at the level of labels**: the renamed node keeps all its legs and open axes. -/
theorem change_node_identifier_labels {t t' : TTN} {new old : Id} (h : t.WF) (hl : t.LWF)
    (hnew : new = old ∨ t.N new = none) (hs : t.changeNodeIdentifier new old = some t') :
    t'.LWF ∧ t'.legPairs new = t.legPairs old ∧ t'.openAxes new = t.openAxes old ∧
    (∀ k, k ≠ new → k ≠ old → t'.openAxes k = t.openAxes k) ∧ t'.openList.Perm t.openList := by
  obtain ⟨_, c1, c2, _, c4⟩ := rename_labels h hnew hs
  exact ⟨rename_lwf h hl hnew hs, c1, c2, fun k h1 h2 => (c4 k h1 h2).2, rename_openList h hnew hs⟩

/-- **`replace_tensor` with a permutation** (the same array, axes stored in another order) changes no logical
    tensor, no leg, no open axis. -/
theorem replace_tensor_labels {t t' : TTN} {id : Id} {p : Option (List Nat)} (h : t.WF) (hl : t.LWF)
    (hp : ∀ q, p = some q → q.Perm (List.range q.length))
    (hs : t.replaceTensorPermuted id p = some t') :
    t'.LWF ∧ (∀ k, t'.logical k = t.logical k) ∧ (∀ k, t'.openAxes k = t.openAxes k) ∧
    t'.openList.Perm t.openList :=
  ⟨rtp_lwf h hl hp hs, fun k => (rtp_labels h hp hs k).1, fun k => (rtp_labels h hp hs k).2.2,
    rtp_openList h hp hs⟩

/-- **`add_child_to_parent` at the level of labels**: when the bond axis of the new tensor is the axis of the
    parent's open leg it is attached to (`ChildLAdm`; the code compares only the dimensions), the label
    invariant is preserved. -/
theorem add_child_to_parent_labels {t t' : TTN} {cid pid : Id} {T : Tensor} {cl pl : Nat} (h : t.WF)
    (hl : t.LWF) (hadm : ChildLAdm t T cl pid pl) (hs : t.addChildToParent cid T cl pid pl = some t') :
    t'.LWF :=
  add_child_lwf h hl hadm hs

/-- **Every admissible, label-admissible history keeps the network well-formed and label-consistent**
    (extension of `ops_preserve_wf`): after any interleaving of contractions, splits, identity insertions,
    identifier changes, tensor replacements, accesses and additions of children with matching bond axes, the
    two ends of every bond carry the same label and dimension. -/
theorem ops_preserve_labels {t t' : TTN} {ops : List TOp} (h : t.WF) (hl : t.LWF) (hr : TRunL t ops t') :
    t'.WF ∧ t'.LWF :=
  runL_labels h hl hr

/-- … in particular every network built from nothing with matching bond labels. -/
theorem built_networks_labels {t' : TTN} {id : Id} {T : Tensor} {ops : List TOp}
    (hr : TRunL TTN.empty (.root id T :: ops) t') : t'.WF ∧ t'.LWF :=
  builtL_labels hr

/-- **The open labels of the network are invariant**: after any history of admissible edits (everything
    except the construction steps) the list of open axes of the network, in canonical order (by node identifier,
    then position), is a permutation of the initial one – open legs move between nodes as the per-operation
    theorems say, but are never created, lost or duplicated; and the network is still well-formed and
    label-consistent. -/
theorem contraction_labels_invariant {t t' : TTN} {ops : List TOp} (h : t.WF) (hl : t.LWF)
    (hr : TRun t ops t') (he : ∀ op ∈ ops, op.isEdit) :
    t'.WF ∧ t'.LWF ∧ t'.openList.Perm t.openList :=
  edits_run_labels h hl hr he

/-- **Composite edits keep every open leg where it is**: after any sequence of accesses, link updates, two-site
    updates, centre moves and contract-and-splits the network is well-formed and label-consistent, root and tree
    are preserved, and every node has exactly the open axes it had (labels, order, dimensions). -/
theorem composite_edits_preserve_labels {t t' : TTN} {es : List TdvpEvent} (h : t.WF) (hl : t.LWF)
    (hr : TdvpRun t es t') :
    t'.WF ∧ t'.LWF ∧ t'.root = t.root ∧ TreeEq t.S t'.S ∧ ∀ k, t'.openAxes k = t.openAxes k :=
  tdvp_run_labels h hl hr

/-- **`recursive_truncation` keeps every open leg where it is.** -/
theorem recursive_truncation_preserves_labels {t t' : TTN} {kdim : Id → Nat} (h : t.WF) (hl : t.LWF)
    (hs : t.recursiveTruncation kdim = some t') :
    t'.WF ∧ t'.LWF ∧ t'.root = t.root ∧ t'.S = t.S ∧ ∀ k, t'.openAxes k = t.openAxes k :=
  recursive_truncation_labels h hl hs

/-- Non-vacuity: the history `demo_history` (root, child with matching bond label `100`, access, contraction, split
    with identifier reuse and root transfer, renaming, identity insertion, tensor replacement) is label-admissible;
    so the final network is well-formed and label-consistent.  Its edits leave the open axes `⟨0,2⟩, ⟨1,2⟩, ⟨2,2⟩`
    of the network in place up to order. -/
example : ∃ t', TRunL TTN.empty
    [.root 1 [⟨0, 2⟩, ⟨100, 3⟩, ⟨1, 2⟩],
     .child 2 [⟨2, 2⟩, ⟨100, 3⟩] 1 1 1,
     .access 1,
     .contract 2 1 3,
     .split 3 ⟨none, [], [1], false⟩ ⟨none, [], [0, 2], true⟩ 3 4 2,
     .rename 5 4,
     .ident 3 5 6,
     .rtp 5 (some [2, 0, 1])] t' ∧ t'.WF ∧ t'.LWF ∧
    t'.openAxes 3 = [⟨0, 2⟩] ∧ t'.openAxes 5 = [⟨2, 2⟩, ⟨1, 2⟩] ∧ t'.openAxes 6 = [] := by
  obtain ⟨t', hr, o1, o2, o3⟩ := demo_history
  exact ⟨t', hr, (built_networks_labels hr).1, (built_networks_labels hr).2, o1, o2, o3⟩

/-! Progress: admissible calls never raise.

The theorems above have the form "if the call returns, then …".  Here the converse for the two central
operations: under a *computable* admissibility test on the state and the arguments (`admissibleB`:
`contractAdmB` – the two nodes exist and are adjacent, the new identifier is one of the two or unused;
`splitAdmB` – the node exists, the new identifiers differ and are the old one or unused, the child identifiers
of the two specifications partition the children, their open legs partition the open legs, exactly one side
takes the parent resp. the root flag) no exception branch of the model is taken.  For `contract_nodes` this
needs the label invariant: it is what makes the two dimensions compared by `tensordot` agree. -/

/-- **`contract_nodes` on two adjacent nodes never raises** (well-formed, label-consistent network; new
    identifier one of the two or unused). -/
theorem contract_nodes_never_errors {t : TTN} (h : t.WF) (hl : t.LWF) {id1 id2 new : Id}
    (hadm : contractAdmB t id1 id2 new = true) : ∃ t', t.contractNodes id1 id2 new = some t' :=
  contract_nodes_progress h hl hadm

/-- **`split_nodes` with leg specifications that partition the legs never raises** (well-formed network,
    `SplitAdm`, distinct new identifiers, every open leg named exactly once; any new bond dimension). -/
theorem split_nodes_never_errors {t : TTN} (h : t.WF) {id : Id} {X : NodeS} {outL inL : TTN.LegSpec}
    {outId inId : Id} (bd : Nat) (adm : SplitAdm t id X outL inL outId inId) (hoi : outId ≠ inId)
    (hopen : (outL.openLegs ++ inL.openLegs).Perm (List.range' X.nvirt (X.nlegs - X.nvirt))) :
    ∃ t', t.splitNodes id outL inL outId inId bd = some t' :=
  split_nodes_progress h bd adm hoi hopen

/-- **Admissible calls never raise**: for accesses, contractions and splits that pass the computable test
    `admissibleB` the model call returns a network, the call is admissible in the sense of `ops_preserve_wf`,
    and the result is again well-formed and label-consistent (so the statement can be iterated). -/
theorem admissible_never_errors {t : TTN} (h : t.WF) (hl : t.LWF) (op : TOp)
    (hadm : admissibleB t op = true) :
    ∃ t', t.step op = some t' ∧ op.Adm t ∧ t'.WF ∧ t'.LWF := by
  cases op with
  | root id T => simp [admissibleB] at hadm
  | child id T cl pid pl => simp [admissibleB] at hadm
  | ident c p n => simp [admissibleB] at hadm
  | rename n o => simp [admissibleB] at hadm
  | rtp id p => simp [admissibleB] at hadm
  | access id =>
    simp only [admissibleB] at hadm
    cases hn : dget t.nodes id with
    | none => rw [hn] at hadm; simp at hadm
    | some n =>
      obtain ⟨t1, T, ha⟩ := access_some h (show t.N id = some n from hn)
      refine ⟨t1, step_access ha, trivial, access_wf h ha, access_lwf hl ha⟩
  | contract a b n =>
    simp only [admissibleB] at hadm
    obtain ⟨t', hs⟩ := contract_nodes_progress h hl hadm
    have hnew := ((contractAdmB_iff t a b n).mp hadm).2
    exact ⟨t', hs, hnew, contractNodes_wf h hnew hs, contract_lwf h hl hnew hs⟩
  | split id o i oid iid bd =>
    simp only [admissibleB] at hadm
    obtain ⟨X, adm, hoi, hopen⟩ := splitAdmB_spec hadm
    obtain ⟨t', hs⟩ := split_nodes_progress h bd adm hoi hopen
    exact ⟨t', hs, ⟨X, adm⟩, splitNodes_wf h adm hs, split_lwf h hl adm hs⟩

/-- Non-vacuity: on the two-node network `1 — 2` built from nothing the contraction `(2, 1) ↦ 3` passes the
    test, and so does – on the result – the split of `3` with the out-side taking open leg `1`, the in-side (the
    root) open legs `0, 2`; a contraction of non-adjacent / missing nodes and a split that forgets an open leg
    do not. -/
example : ∃ t, TRunL TTN.empty
    [.root 1 [⟨0, 2⟩, ⟨100, 3⟩, ⟨1, 2⟩], .child 2 [⟨2, 2⟩, ⟨100, 3⟩] 1 1 1] t ∧
    admissibleB t (.contract 2 1 3) = true ∧ admissibleB t (.contract 2 5 3) = false ∧
    (∃ t1, t.step (.contract 2 1 3) = some t1 ∧
      admissibleB t1 (.split 3 ⟨none, [], [1], false⟩ ⟨none, [], [0, 2], true⟩ 3 4 2) = true ∧
      admissibleB t1 (.split 3 ⟨none, [], [1], false⟩ ⟨none, [], [0], true⟩ 3 4 2) = false) :=
  ⟨_, SimDemo.t0_built, rfl, rfl, _, SimDemo.step1, rfl, rfl⟩

section ValueDemo
open Ptn.Ein Ptn.C03

/-- the two-node network `1 — 2` of the example above with integer tensors: node 1 has the legs `10, 11, 12`
(`11` the bond), node 2 the legs `20, 21` (`21` the bond); all dimensions 2 -/
def vDemo : VNet Int where
  ids := [1, 2]
  legs := fun k => if k = 1 then [10, 11, 12] else if k = 2 then [20, 21] else []
  tens := fun k σ => if k = 1 then (σ 10 : Int) + 2 * (σ 11 : Int) + 3 * (σ 12 : Int) + 1
    else 5 * (σ 20 : Int) - (σ 21 : Int) + 2
  bonds := [(11, 21)]
  next := 100

def vDim : Nat → Nat := fun _ => 2

theorem vDemo_wf : vDemo.WF := by
  refine .of_flat (by decide +kernel) (by decide +kernel) ?_ (by decide +kernel) (by decide +kernel)
    (by decide +kernel)
  intro n hn σ τ h
  simp only [vDemo, List.mem_cons, List.not_mem_nil, or_false] at hn
  rcases hn with rfl | rfl
  · have h0 := h 10 (by decide); have h1 := h 11 (by decide); have h2 := h 12 (by decide)
    simp [vDemo, h0, h1, h2]
  · have h0 := h 20 (by decide); have h1 := h 21 (by decide)
    simp [vDemo, h0, h1]

/-- `contract_nodes(2, 1, new_identifier=3)` is admissible on the demo network -/
theorem vDemo_contract : ContractAdm vDemo 2 1 3 (11, 21) 21 11 :=
  ⟨by decide, by decide, by decide, ⟨by decide, Or.inr rfl, by decide, by decide⟩, by decide⟩

def vDemo1 : VNet Int := contractStep vDim vDemo 2 1 3 (11, 21) 21 11

/-- splitting the contracted node back (out: the open leg of the old node 2, in: the two open legs of node 1) with
the exact factorisation given by the two original tensors over the fresh bond `(100, 101)` -/
def vDemoFact : SplitFact vDim (vDemo1.tens 3) [20] [10, 12] vDemo1.next (vDemo1.next + 1) where
  O := fun ρ => 5 * (ρ 20 : Int) - (ρ 100 : Int) + 2
  I := fun ρ => (ρ 10 : Int) + 2 * (ρ 101 : Int) + 3 * (ρ 12 : Int) + 1
  exact := by
    intro τ
    simp [vDemo1, contractStep, vDemo, vDim, sumPairs, sumR, upd, List.range_succ]
    try ring
  readsO := by
    intro σ τ h
    have h0 := h 20 (by simp); have h1 := h 100 (by simp [vDemo1, contractStep, vDemo])
    simp [h0, h1]
  readsI := by
    intro σ τ h
    have h0 := h 10 (by simp); have h1 := h 101 (by simp [vDemo1, contractStep, vDemo]); have h2 := h 12 (by simp)
    simp [h0, h1, h2]

theorem vDemo_split : SplitAdmV vDemo1 3 3 4 [20] [10, 12] :=
  ⟨by decide, by decide, by decide, by decide, by decide⟩

/-- the premises of `ops_preserve_value` are satisfiable by a history with a contraction, a split with an exact
factorisation and a tensor replacement with a permutation -/
example : vDemo.WF ∧ ∃ N', VRun vDim vDemo N' :=
  ⟨vDemo_wf, _, VRun.cons (VStep.contract vDemo_contract)
    (VRun.cons (VStep.split vDemo_split vDemoFact)
      (VRun.cons (VStep.perm (id := 4) (legs' := [12, 101, 10]) (by decide)) (VRun.nil _)))⟩

/-- `insert_identity` on the bond of the demo network: the premises of `insert_identity_value` hold -/
example : (11, 21) ∈ vDemo.bonds ∧ 7 ∉ vDemo.ids ∧ vDim (vDemo.next + 1) = vDim (11, 21).1 :=
  ⟨by decide, by decide, rfl⟩

end ValueDemo

section SimDemoExamples
open Ptn.Ein Ptn.C03 SimDemo

/-- the premises of `contract_nodes_simulates` hold on the demo instance: a well-formed, label-consistent structural
state built from nothing, a well-formed valued network related to it, an admissible contraction that succeeds -/
example : t0.WF ∧ t0.LWF ∧ v0.WF ∧ RSim SimDemo.dim SimDemo.e SimDemo.g t0 v0 ∧
    (3 = 2 ∨ 3 = 1 ∨ t0.N 3 = none) ∧ t0.contractNodes 2 1 3 = some t1 :=
  ⟨t0_wf.1, t0_wf.2, v0_wf, rsim0, Or.inr (Or.inr rfl), step1⟩

/-- the premises of `split_nodes_simulates` hold after that contraction: `SplitAdm`, the split succeeds, the fresh
labels `100, 101` have the new bond dimension 3, and there is an exact factorisation (`fact2`: the two original
tensors) along `out = [2]`, `in = [0, 1]` -/
example : (∃ X, SplitAdm t1 3 X ⟨none, [], [0], false⟩ ⟨none, [], [1, 2], true⟩ 3 4) ∧
    t1.splitNodes 3 ⟨none, [], [0], false⟩ ⟨none, [], [1, 2], true⟩ 3 4 3 = some t2 ∧
    (SimDemo.dim v1.next = 3 ∧ SimDemo.dim (v1.next + 1) = 3) ∧
    splitOutLegs SimDemo.e g1 t2 3 3 4 = [2] ∧ splitInLegs SimDemo.e g1 t2 3 3 4 = [0, 1] ∧
    Nonempty (SplitFact SimDemo.dim (v1.tens 3) (splitOutLegs SimDemo.e g1 t2 3 3 4)
      (splitInLegs SimDemo.e g1 t2 3 3 4) v1.next (v1.next + 1)) :=
  ⟨adm2, step2, ⟨rfl, rfl⟩, outLegs2, inLegs2, ⟨fact2⟩⟩

/-- the premises of `insert_identity_simulates` hold on the demo instance: `7` is unused, the insertion between the
child `2` and the parent `1` succeeds, the fresh labels have the dimension of the subdivided bond -/
example : t0.N 7 = none ∧ (∃ t', t0.insertIdentity 2 1 7 = some t') ∧
    (∀ ax, t0.Leg 2 1 ax → SimDemo.dim v0.next = ax.dim ∧ SimDemo.dim (v0.next + 1) = ax.dim) :=
  ⟨rfl, ⟨_, stepi1⟩, t0_bond_dim⟩

/-- the premises of `structural_history_preserves_value` (and of `simstep_sound` at every step) hold for the history
"contract (2, 1) -> 3; split 3 with the exact factorisation `fact2`; rename 4 -> 5; access 5; replace_tensor(5) with a
permutation" — which covers `change_node_identifier_simulates`, `access_simulates`, `replace_tensor_simulates` — so
its conclusion holds: the final valued network is related to the final structural state and has the value of `v0`. -/
example : ∃ t' g' v', SimRun SimDemo.dim SimDemo.e t0 SimDemo.g v0
      [.contract 2 1 3, .split 3 ⟨none, [], [0], false⟩ ⟨none, [], [1, 2], true⟩ 3 4 3, .rename 5 4, .access 5,
       .rtp 5 (some [2, 0, 1])] t' g' v' ∧
    t'.WF ∧ v'.WF ∧ RSim SimDemo.dim SimDemo.e g' t' v' ∧ ∀ σ, v'.value SimDemo.dim σ = v0.value SimDemo.dim σ := by
  obtain ⟨t', g', v', hr⟩ := simrun
  obtain ⟨_, _, w, _, vw, s, _, val⟩ :=
    structural_history_preserves_value SimDemo.dim SimDemo.e t0_wf.1 t0_wf.2 v0_wf rsim0 hr
  exact ⟨t', g', v', hr, w, vw, s, val⟩

end SimDemoExamples

section SimCompositeExamples
open Ptn.Ein Ptn.C03 SimDemo

/-- `centre_move_preserves_value`: the premises hold for the move `2 → 1` (exact rank-3 factorisation `factm` of the
tensor of node 2), so the conclusion holds: the composite edit returns the final state and the value is that of `v0` -/
example : ∃ g' v', SimRun SimDemo.dim SimDemo.e t0 SimDemo.g v0 [.split 2 qS rS 2 7 3, .contract 1 7 1] tm2 g' v' ∧
    t0.centreMove 2 1 7 3 = some tm2 ∧ v'.WF ∧ ∀ σ, v'.value SimDemo.dim σ = v0.value SimDemo.dim σ := by
  obtain ⟨g', v', hr⟩ := simrun_centre_move
  obtain ⟨a1, _, _, a4, _, a6⟩ :=
    centre_move_preserves_value SimDemo.dim SimDemo.e t0_wf.1 t0_wf.2 v0_wf rsim0 t0_N2 canon2 hr
  exact ⟨g', v', hr, a1, a4, a6⟩

/-- `contract_split_preserves_value`: `contract_and_split_with_parent(2, 1)` with the exact factorisation `fact2c` -/
example : ∃ g' v', SimRun SimDemo.dim SimDemo.e t0 SimDemo.g v0 [.contract 2 1 3, .split 3 uS wS 2 1 3] t2c g' v' ∧
    t0.contractSplit 2 1 3 3 = some t2c ∧ v'.WF ∧ ∀ σ, v'.value SimDemo.dim σ = v0.value SimDemo.dim σ := by
  obtain ⟨g', v', hr⟩ := simrun_contract_split
  obtain ⟨a1, _, _, a4, _, a6⟩ :=
    contract_split_preserves_value SimDemo.dim SimDemo.e t0_wf.1 t0_wf.2 v0_wf rsim0 lbc21 hr
  exact ⟨g', v', hr, a1, a4, a6⟩

/-- `link_update_value`: link update `2 → 1`, the link tensor multiplied by 7 (a genuine change: `X7 ≠` the old
tensor); the value after is the value of the intermediate network with the link tensor replaced -/
example : ∃ (t' : TTN) (v' : VNet Int), t0.linkUpdate 2 1 7 3 = some t' ∧ v'.WF ∧
    (∀ σ, vm1.value SimDemo.dim σ = v0.value SimDemo.dim σ) ∧
    (∀ σ, v'.value SimDemo.dim σ = (setTens vm1 7 X7).value SimDemo.dim σ) := by
  obtain ⟨t', g', v', hr2⟩ := simrun_link_2
  obtain ⟨a1, _, _, a4, _, _, _, a8, a9, _⟩ :=
    link_update_value SimDemo.dim SimDemo.e t0_wf.1 t0_wf.2 v0_wf rsim0 t0_N2 tdvp2 simrun_link_1 X7_reads hr2
  exact ⟨t', v', a1, a4, a8, a9⟩

/-- `two_site_update_value`: two-site update of `(2, 1)`, the two-site tensor doubled, split with the exact
factorisation `fact2a` of the doubled tensor -/
example : ∃ v' : VNet Int, t0.twoSiteUpdate 2 1 3 3 = some t2c ∧ v'.WF ∧
    (∀ σ, v1.value SimDemo.dim σ = v0.value SimDemo.dim σ) ∧
    (∀ σ, v'.value SimDemo.dim σ = (setTens v1 3 X2).value SimDemo.dim σ) := by
  obtain ⟨g', v', hr2⟩ := simrun_two_site_2
  obtain ⟨a1, _, _, a4, _, _, _, a8, a9, _⟩ :=
    two_site_update_value SimDemo.dim SimDemo.e t0_wf.1 t0_wf.2 v0_wf rsim0 lbc21 simrun_two_site_1 X2_reads hr2
  exact ⟨v', a1, a4, a8, a9⟩

/-- `truncate_node_value`: identity inserted on the bond `2 — 1`, replaced by the rank-2 projector `Pi2`, split into
the projector pair (`facti`); the value after is the value of the network with `Pi2` on the bond -/
example : ∃ v' : VNet Int, t0.insertProjectors 1 2 tids 3 = some ti2 ∧ v'.WF ∧
    (∀ σ, vi1.value SimDemo.dim σ = v0.value SimDemo.dim σ) ∧
    vi1.tens 7 = (fun ρ => if ρ v0.next = ρ (v0.next + 1) then 1 else 0) ∧
    (∀ σ, v'.value SimDemo.dim σ = (setTens vi1 7 Pi2).value SimDemo.dim σ) := by
  obtain ⟨g', v', hr2⟩ := simrun_trunc_2
  obtain ⟨a1, _, _, a4, _, _, a7, a8, a9, _⟩ :=
    truncate_node_value SimDemo.dim SimDemo.e t0_wf.1 t0_wf.2 v0_wf rsim0 simrun_trunc_1 Pi2_reads hr2
  exact ⟨v', a1, a4, a7, a8, a9⟩

/-- `tdvp_step_preserves_value_structure` / `moves_preserve_value`: the event sequence consisting of one
`contract_and_split_with_parent(2, 1)` is simulated; it is a `TdvpRun`, no replacement is recorded, the value is constant -/
example : ∃ g' v' us, SimTdvpRun SimDemo.dim SimDemo.e t0 SimDemo.g v0 [.contractSplit 2 1 3 3] t2c g' v' us ∧
    TdvpRun t0 [.contractSplit 2 1 3 3] t2c ∧ UpdTrace SimDemo.dim v0 us v' ∧ us = [] := by
  obtain ⟨g', v', hr⟩ := simrun_contract_split
  have hrun : SimTdvpRun SimDemo.dim SimDemo.e t0 SimDemo.g v0 [.contractSplit 2 1 3 3] t2c g' v' [] :=
    .cons (u := none) (show t0.N 3 = none from rfl) (.contractSplit lbc21 hr) (.nil _ _ _)
  obtain ⟨a1, _, _, _, _, a6, _⟩ :=
    tdvp_step_preserves_value_structure SimDemo.dim SimDemo.e t0_wf.1 t0_wf.2 v0_wf rsim0 hrun
  exact ⟨g', v', [], hrun, a1, a6, rfl⟩

/-- an event sequence WITH an update: the two-site update of `(2, 1)` with the two-site tensor doubled records exactly
that replacement -/
example : ∃ g' v', SimTdvpRun SimDemo.dim SimDemo.e t0 SimDemo.g v0 [.twoSite 2 1 3 3] t2c g' v' [(v1, 3, X2)] ∧
    UpdTrace SimDemo.dim v0 [(v1, 3, X2)] v' := by
  obtain ⟨g', v', hr2⟩ := simrun_two_site_2
  have hrun : SimTdvpRun SimDemo.dim SimDemo.e t0 SimDemo.g v0 [.twoSite 2 1 3 3] t2c g' v' [(v1, 3, X2)] :=
    .cons (u := some (v1, 3, X2)) (show t0.N 3 = none from rfl)
      (.twoSite lbc21 simrun_two_site_1 X2_reads hr2) (.nil _ _ _)
  obtain ⟨_, _, _, _, _, a6, _⟩ :=
    tdvp_step_preserves_value_structure SimDemo.dim SimDemo.e t0_wf.1 t0_wf.2 v0_wf rsim0 hrun
  exact ⟨g', v', hrun, a6⟩

/-- `centre_move_simrun_exists`: its premises hold on the demo instance (`7` unused, the move `2 → 1` succeeds, the
factorisation `factm` is exact for the state the split produces) -/
example : t0.N 7 = none ∧ t0.centreMove 2 1 7 3 = some tm2 ∧
    ∀ node q r t1, t0.N 2 = some node → TTN.canonSpecs node 1 = some (q, r) →
      t0.splitNodes 2 q r 2 7 3 = some t1 → SimDemo.dim v0.next = 3 ∧ SimDemo.dim (v0.next + 1) = 3 ∧
      Nonempty (SplitFact SimDemo.dim (v0.tens 2) (splitOutLegs SimDemo.e SimDemo.g t1 2 2 7)
        (splitInLegs SimDemo.e SimDemo.g t1 2 2 7) v0.next (v0.next + 1)) := by
  refine ⟨rfl, centreMove_of_steps t0_N2 canon2 stepm1 stepm2, ?_⟩
  intro node q r t1 hn hsp hs1
  rw [t0_N2] at hn; cases hn
  rw [canon2] at hsp; cases hsp
  rw [show t0.splitNodes 2 qS rS 2 7 3 = some tm1 from stepm1] at hs1; cases hs1
  exact ⟨rfl, rfl, ⟨factm⟩⟩

end SimCompositeExamples

end Ptn.C02
