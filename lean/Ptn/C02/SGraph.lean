import Ptn.C02.Model
/-! The structure of a network as a partial map `Id → (parent, children)`, the structural clauses `SWF` of
well-formedness, which hold of a single node (`singleS_swf`), and their preservation when an edge is contracted (`contractS`), a node split (`splitSG`, of which
`splitS`, attaching a leaf and subdividing an edge are instances) or a node renamed (`renameS`).  The preservation
theorems conclude `STree`: which keys the tensor dictionary has after an edit is the business of `wf_of_edit`
(RenNode.lean).  Rests on `Model.lean` only. -/
namespace Ptn.C02

/-- what the structure reads of a node record: `(node.parent, node.children)` -/
abbrev Struct := Option Id × List Id

/-- Structural well-formedness: identical key sets (`Tk` = keys of the tensor dictionary), exactly one
    root and `root` names it, symmetric links, no duplicate children, and a rank that strictly
    decreases towards the root (so every node reaches the root: the graph is a tree). -/
structure SWF (S : Id → Option Struct) (Tk : Id → Bool) (root : Option Id) : Prop where
  keys : ∀ k, (S k).isSome = Tk k
  root_ok : ∃ r ch, root = some r ∧ S r = some (none, ch)
  root_uniq : ∀ k ch, S k = some (none, ch) → root = some k
  up : ∀ k p ch, S k = some (some p, ch) → ∃ pp pch, S p = some (pp, pch) ∧ k ∈ pch
  down : ∀ k pp ch c, S k = some (pp, ch) → c ∈ ch → ∃ cch, S c = some (some k, cch)
  nodup : ∀ k pp ch, S k = some (pp, ch) → ch.Nodup
  depth : ∃ dp : Id → Nat, ∀ k p ch, S k = some (some p, ch) → dp p < dp k

namespace SWF
variable {S : Id → Option Struct} {Tk : Id → Bool} {root : Option Id}

theorem parent_ne (h : SWF S Tk root) {k p : Id} {ch : List Id} (hk : S k = some (some p, ch)) : p ≠ k := by
  obtain ⟨dp, hd⟩ := h.depth
  exact fun e => Nat.lt_irrefl (dp k) (e ▸ hd k p ch hk)

theorem no_two_cycle (h : SWF S Tk root) {a b : Id} {ca cb : List Id} (ha : S a = some (some b, ca))
    (hb : S b = some (some a, cb)) : False := by
  obtain ⟨dp, hd⟩ := h.depth
  exact Nat.lt_asymm (hd a b ca ha) (hd b a cb hb)

theorem child_ne (h : SWF S Tk root) {k c : Id} {pp : Option Id} {ch : List Id} (hk : S k = some (pp, ch))
    (hc : c ∈ ch) : c ≠ k := by
  obtain ⟨cch, hcS⟩ := h.down k pp ch c hk hc
  exact (h.parent_ne hcS).symm

theorem root_unique (h : SWF S Tk root) {k r : Id} {ch rch : List Id} (hk : S k = some (none, ch))
    (hr : S r = some (none, rch)) : k = r :=
  Option.some.inj ((h.root_uniq k ch hk).symm.trans (h.root_uniq r rch hr))

theorem fresh_not_child (h : SWF S Tk root) {f k : Id} {pp : Option Id} {ch : List Id}
    (hf : S f = none) (hk : S k = some (pp, ch)) : f ∉ ch := by
  intro hm
  obtain ⟨x, e⟩ := h.down k pp ch f hk hm
  rw [hf] at e; simp at e

theorem fresh_not_parent (h : SWF S Tk root) {f k : Id} {ch : List Id}
    (hf : S f = none) : S k ≠ some (some f, ch) := by
  intro hk
  obtain ⟨pp, pch, e, _⟩ := h.up k f ch hk
  rw [hf] at e; simp at e

theorem child_of_iff (h : SWF S Tk root) {a k : Id} {gp pp : Option Id} {Ach ch : List Id}
    (hA : S a = some (gp, Ach)) (hk : S k = some (pp, ch)) : pp = some a ↔ k ∈ Ach := by
  constructor
  · intro e
    obtain ⟨pp', pch, e1, e2⟩ := h.up k a ch (by rw [hk, e])
    rw [hA] at e1; simp at e1; rw [e1.2]; exact e2
  · intro hm
    obtain ⟨cch, e1⟩ := h.down a gp Ach k hA hm
    rw [hk] at e1; simp at e1; exact e1.1

end SWF

/-- `SWF` with the key set read off `S` itself: the clauses that speak of the tree alone. -/
abbrev STree (S : Id → Option Struct) (root : Option Id) : Prop := SWF S (fun k => (S k).isSome) root

/-- The structure of a network with the single node `id` (the state after `add_root`). -/
theorem singleS_swf (id : Id) : STree (fun k => if k = id then some (none, []) else none) (some id) := by
  have hcases : ∀ {k : Id} {s : Struct}, (if k = id then some ((none : Option Id), ([] : List Id)) else none) = some s →
      k = id ∧ s = (none, []) := by
    intro k s hk
    by_cases hki : k = id
    · rw [if_pos hki] at hk; exact ⟨hki, (Option.some.inj hk).symm⟩
    · rw [if_neg hki] at hk; cases hk
  refine ⟨fun _ => rfl, ⟨id, [], rfl, if_pos rfl⟩, fun k ch hk => by rw [(hcases hk).1],
    fun k p ch hk => ?_, fun k pp ch c hk hc => ?_, fun k pp ch hk => ?_, ⟨fun _ => 0, fun k p ch hk => ?_⟩⟩
  · cases (Prod.mk.inj (hcases hk).2).1
  · rw [(Prod.mk.inj (hcases hk).2).2] at hc; cases hc
  · rw [(Prod.mk.inj (hcases hk).2).2]; exact List.nodup_nil
  · cases (Prod.mk.inj (hcases hk).2).1

/-- What contracting `pid – cid` into `new` does to the entry of another node: a parent `pid` or `cid` reads `new`,
    a child `pid` reads `new` (a child `cid` is left: in a tree only `pid` has it). -/
def contractRen (pid cid new : Id) (s : Struct) : Struct :=
  ((match s.1 with
    | some p => if p = pid ∨ p = cid then some new else some p
    | none => none),
   s.2.map (fun c => if c = pid then new else c))

theorem contractRen_mk (pid cid new : Id) (pp : Option Id) (ch : List Id) :
    contractRen pid cid new (pp, ch) =
      (pp.map fun p => if p = pid ∨ p = cid then new else p,
       ch.map fun c => if c = pid then new else c) := by
  cases pp with
  | none => rfl
  | some p => simp only [contractRen, Option.map_some, apply_ite some]

/-- The structure after `contract_nodes`: `pid` and `cid` disappear, `new` holds `(gp, K')`, every other
    node has its references to `pid` / `cid` replaced by `new`. -/
def contractS (S : Id → Option Struct) (pid cid new : Id) (gp : Option Id) (K' : List Id) :
    Id → Option Struct :=
  fun k => if k = new then some (gp, K')
           else if k = pid ∨ k = cid then none
           else (S k).map (contractRen pid cid new)

theorem map_ite_nodup (l : List Id) (a b : Id) (hl : l.Nodup) (hb : b ∈ l → a ∉ l ∨ a = b) :
    (l.map (fun c => if c = a then b else c)).Nodup := by
  rw [List.Nodup, List.pairwise_map]
  refine hl.imp_of_mem (fun {x y} hx hy hxy e => ?_)
  -- two members of `l` with the same image: one of them is `a` and the other is `b`
  by_cases hxa : x = a
  · by_cases hya : y = a
    · exact hxy (hxa.trans hya.symm)
    · rw [if_pos hxa, if_neg hya] at e
      rcases hb (e ▸ hy) with h1 | h1
      · exact h1 (hxa ▸ hx)
      · exact hxy (hxa.trans (h1.trans e))
  · by_cases hya : y = a
    · rw [if_neg hxa, if_pos hya] at e
      rcases hb (e ▸ hx) with h1 | h1
      · exact h1 (hya ▸ hy)
      · exact hxy (e.trans (h1.symm.trans hya.symm))
    · rw [if_neg hxa, if_neg hya] at e
      exact hxy e

theorem map_ite_not_mem (l : List Id) (a b : Id) (h : a ∉ l) :
    l.map (fun c => if c = a then b else c) = l :=
  (List.map_congr_left fun x hx => if_neg fun e : x = a => h (e ▸ hx)).trans (List.map_id' l)

theorem map_ite_self (l : List Id) (a : Id) : l.map (fun c => if c = a then a else c) = l :=
  (List.map_congr_left fun _ _ => ite_eq_right_iff.mpr Eq.symm).trans (List.map_id' l)

theorem map_eq_self {α : Type} {o : Option α} {f : α → α} (h : ∀ a, o = some a → f a = a) : o.map f = o := by
  cases o with
  | none => rfl
  | some a => exact congrArg some (h a rfl)

theorem contractRen_eq_self {pid cid new : Id} {pp : Option Id} {ch : List Id}
    (hp : pp = some pid ∨ pp = some cid → pp = some new) (hc : pid ∉ ch ∨ new = pid) :
    contractRen pid cid new (pp, ch) = (pp, ch) := by
  rw [contractRen_mk, Prod.mk.injEq]
  refine ⟨map_eq_self fun p e => ite_eq_right_iff.mpr fun e' => ?_,
    hc.elim (map_ite_not_mem ch pid new) fun e => e ▸ map_ite_self ch pid⟩
  exact Option.some.inj ((hp (e'.imp (e.trans ∘ congrArg some) (e.trans ∘ congrArg some))).symm.trans e)

theorem contractS_swf {S : Id → Option Struct} {Tk : Id → Bool} {root : Option Id}
    (h : SWF S Tk root) (pid cid new : Id) (gp : Option Id) (Pch Cch K' : List Id)
    (hP : S pid = some (gp, Pch)) (hC : S cid = some (some pid, Cch))
    (hnew : new = pid ∨ new = cid ∨ S new = none)
    (hK : ∀ x, x ∈ K' ↔ ((x ∈ Pch ∧ x ≠ cid) ∨ x ∈ Cch)) (hKnd : K'.Nodup) :
    STree (contractS S pid cid new gp K') (if gp = none then some new else root) := by
  have hnew_some : ∀ k s, S k = some s → k ≠ pid → k ≠ cid → k ≠ new := by
    intro k s hk h1 h2 e
    subst e
    rcases hnew with e | e | e
    · exact h1 e
    · exact h2 e
    · rw [hk] at e; cases e
  have hSnew : contractS S pid cid new gp K' new = some (gp, K') := if_pos rfl
  have hby : ∀ k pp ch, S k = some (pp, ch) → k ≠ pid → k ≠ cid →
      contractS S pid cid new gp K' k =
        some (pp.map fun p => if p = pid ∨ p = cid then new else p,
              ch.map fun c => if c = pid then new else c) := by
    intro k pp ch hk h2 h3
    have h1 := hnew_some k _ hk h2 h3
    simp only [contractS, h1, h2, h3, hk, if_false, or_self, Option.map_some, contractRen_mk]
  have hcases : ∀ k pp' ch', contractS S pid cid new gp K' k = some (pp', ch') →
      (new = k ∧ gp = pp' ∧ K' = ch') ∨
      (k ≠ new ∧ k ≠ pid ∧ k ≠ cid ∧ ∃ pp ch, S k = some (pp, ch) ∧
        pp.map (fun p => if p = pid ∨ p = cid then new else p) = pp' ∧
        ch.map (fun c => if c = pid then new else c) = ch') := by
    intro k pp' ch' hk
    unfold contractS at hk
    by_cases h1 : k = new
    · rw [if_pos h1] at hk
      cases hk
      exact Or.inl ⟨h1.symm, rfl, rfl⟩
    · by_cases h2 : k = pid ∨ k = cid
      · rw [if_neg h1, if_pos h2] at hk
        cases hk
      · rw [if_neg h1, if_neg h2] at hk
        obtain ⟨⟨pp, ch⟩, hs, e⟩ := Option.map_eq_some_iff.mp hk
        rw [contractRen_mk] at e
        cases e
        exact Or.inr ⟨h1, fun e => h2 (Or.inl e), fun e => h2 (Or.inr e), pp, ch, hs, rfl, rfl⟩
  obtain ⟨dp, hd⟩ := h.depth
  -- `new` gets the rank of `pid`
  have hup : ∀ k p' ch', contractS S pid cid new gp K' k = some (some p', ch') →
      (∃ pp pch, contractS S pid cid new gp K' p' = some (pp, pch) ∧ k ∈ pch) ∧
      (if p' = new then dp pid else dp p') < (if k = new then dp pid else dp k) := by
    intro k p' ch' hk
    rcases hcases k _ _ hk with ⟨rfl, e, -⟩ | ⟨h1, h2, h3, pp, ch, hs, e, -⟩
    · -- the parent of `new` is the former parent of `pid`
      have hPg : S pid = some (some p', Pch) := by rw [hP, e]
      obtain ⟨gpp, gch, hg, hmem⟩ := h.up pid p' Pch hPg
      have hg1 : p' ≠ pid := h.parent_ne hPg
      have hg2 : p' ≠ cid := fun e => h.no_two_cycle (e ▸ hPg) hC
      rw [if_neg (hnew_some p' _ hg hg1 hg2), if_pos rfl]
      exact ⟨⟨_, _, hby p' _ _ hg hg1 hg2, List.mem_map.mpr ⟨pid, hmem, if_pos rfl⟩⟩, hd pid p' Pch hPg⟩
    · obtain ⟨p0, rfl, e'⟩ := Option.map_eq_some_iff.mp e
      obtain ⟨pp0, pch0, hp0, hkmem⟩ := h.up k p0 ch hs
      have hkd := hd k p0 ch hs
      rw [if_neg h1]
      by_cases hp : p0 = pid ∨ p0 = cid
      · rw [if_pos hp] at e'
        subst e'
        rw [if_pos rfl]
        refine ⟨⟨gp, K', hSnew, (hK k).mpr ?_⟩, ?_⟩
        · rcases hp with rfl | rfl
          · rw [hP] at hp0; cases hp0; exact Or.inl ⟨hkmem, h3⟩
          · rw [hC] at hp0; cases hp0; exact Or.inr hkmem
        · rcases hp with rfl | rfl
          · exact hkd
          · exact Nat.lt_trans (hd _ pid Cch hC) hkd
      · rw [if_neg hp] at e'
        subst e'
        obtain ⟨hp1, hp2⟩ := not_or.mp hp
        rw [if_neg (hnew_some p0 _ hp0 hp1 hp2)]
        exact ⟨⟨_, _, hby p0 _ _ hp0 hp1 hp2, List.mem_map.mpr ⟨k, hkmem, if_neg h2⟩⟩, hkd⟩
  refine ⟨fun _ => rfl, ?_, ?_, fun k p' ch' hk => (hup k p' ch' hk).1, ?_, ?_,
    ⟨fun k => if k = new then dp pid else dp k, fun k p' ch' hk => (hup k p' ch' hk).2⟩⟩
  · by_cases hgp : gp = none
    · rw [if_pos hgp]
      exact ⟨new, K', rfl, by rw [hSnew, hgp]⟩
    · rw [if_neg hgp]
      obtain ⟨r, rch, hr, hSr⟩ := h.root_ok
      have hrp : r ≠ pid := fun e => by rw [e, hP] at hSr; cases hSr; exact hgp rfl
      have hrc : r ≠ cid := fun e => by rw [e, hC] at hSr; cases hSr
      exact ⟨r, _, hr, hby r _ _ hSr hrp hrc⟩
  · intro k ch' hk
    rcases hcases k _ _ hk with ⟨rfl, e, -⟩ | ⟨h1, h2, h3, pp, ch, hs, e, -⟩
    · rw [if_pos e]
    · rw [Option.map_eq_none_iff] at e
      subst e
      by_cases hgp : gp = none
      · -- then `pid` is a root as well
        exact absurd (h.root_unique hs (hgp ▸ hP)) h2
      · rw [if_neg hgp]
        exact h.root_uniq k ch hs
  · intro k pp' ch' c hk hc
    rcases hcases k _ _ hk with ⟨rfl, -, e⟩ | ⟨h1, h2, h3, pp, ch, hs, -, e⟩
    · subst e
      -- a child of `new` was a child of `pid` or of `cid`, and is neither of them
      have key : ∀ q cch, S c = some (some q, cch) → (q = pid ∨ q = cid) → c ≠ pid → c ≠ cid →
          ∃ cch, contractS S pid cid new gp K' c = some (some new, cch) := fun q cch hcS hq c1 c2 =>
        ⟨_, by rw [hby c _ _ hcS c1 c2, Option.map_some, if_pos hq]⟩
      rcases (hK c).mp hc with ⟨hcP, hcne⟩ | hcC
      · obtain ⟨cch, hcS⟩ := h.down pid gp Pch c hP hcP
        exact key pid cch hcS (Or.inl rfl) (h.child_ne hP hcP) hcne
      · obtain ⟨cch, hcS⟩ := h.down cid (some pid) Cch c hC hcC
        exact key cid cch hcS (Or.inr rfl) (fun e => h.no_two_cycle (e ▸ hcS) hC) (h.child_ne hC hcC)
    · subst e
      obtain ⟨c0, hc0, rfl⟩ := List.mem_map.mp hc
      obtain ⟨cch0, hc0S⟩ := h.down k pp ch c0 hs hc0
      by_cases hcp : c0 = pid
      · rw [hcp, hP] at hc0S
        cases hc0S
        rw [if_pos hcp]
        exact ⟨K', hSnew⟩
      · have c2 : c0 ≠ cid := fun e => by rw [e, hC] at hc0S; cases hc0S; exact h2 rfl
        rw [if_neg hcp]
        exact ⟨_, by rw [hby c0 _ _ hc0S hcp c2, Option.map_some, if_neg (not_or.mpr ⟨h2, h3⟩)]⟩
  · intro k pp' ch' hk
    rcases hcases k _ _ hk with ⟨rfl, -, e⟩ | ⟨h1, h2, h3, pp, ch, hs, -, e⟩
    · rw [← e]; exact hKnd
    · rw [← e]
      apply map_ite_nodup _ _ _ (h.nodup k pp ch hs)
      intro hnewmem
      -- `new` among the children of `k`: then `new` is a node, so `new = pid` or `new = cid`
      obtain ⟨nch, hnS⟩ := h.down k pp ch new hs hnewmem
      rcases hnew with e' | e' | e'
      · exact Or.inr e'.symm
      · rw [e', hC] at hnS; cases hnS; exact absurd rfl h2
      · rw [hnS] at e'; cases e'

/-- What splitting `x` into `a`, `b` does to the entry of another node `k`: its reference to `x` reads the side that
    lists `k`. -/
def splitRen (x a b : Id) (aCh : List Id) (k : Id) (s : Struct) : Struct :=
  ((match s.1 with
    | some p => if p = x then some (if k ∈ aCh then a else b) else some p
    | none => none),
   s.2.map (fun c => if c = x then a else c))

theorem splitRen_mk (x a b : Id) (aCh : List Id) (k : Id) (pp : Option Id) (ch : List Id) :
    splitRen x a b aCh k (pp, ch) =
      (pp.map fun p => if p = x then (if k ∈ aCh then a else b) else p,
       ch.map fun c => if c = x then a else c) := by
  cases pp with
  | none => rfl
  | some p => simp only [splitRen, Option.map_some, apply_ite some]

theorem splitRen_nil (x a k : Id) (s : Struct) :
    splitRen x a x [] k s = (s.1, s.2.map (fun c => if c = x then a else c)) := by
  obtain ⟨pp, ch⟩ := s
  cases pp with
  | none => rfl
  | some q =>
    simp only [splitRen, List.not_mem_nil, if_false, Prod.mk.injEq, and_true, ite_eq_right_iff]
    exact fun hq => hq ▸ rfl

theorem splitRen_eq_self {x a b k : Id} {aCh : List Id} {pp : Option Id} {ch : List Id}
    (hp : pp = some x → (if k ∈ aCh then a else b) = x) (hc : x ∉ ch ∨ a = x) :
    splitRen x a b aCh k (pp, ch) = (pp, ch) := by
  rw [splitRen_mk, Prod.mk.injEq]
  exact ⟨map_eq_self fun p e => ite_eq_right_iff.mpr fun e' => (hp (e.trans (congrArg some e'))).trans e'.symm,
    hc.elim (map_ite_not_mem ch x a) fun e => e ▸ map_ite_self ch x⟩

/-- The structure after `split_nodes`: `a` takes the place of `x` towards the parent (or as root) and holds
    `b :: aCh`, `b` holds `(a, bCh)`, `x` disappears (unless its identifier is reused), the former children
    of `x` point to the side that took them. -/
def splitS (S : Id → Option Struct) (x a b : Id) (gp : Option Id) (aCh bCh : List Id) :
    Id → Option Struct :=
  fun k => if k = a then some (gp, b :: aCh)
           else if k = b then some (some a, bCh)
           else if k = x then none
           else (S k).map (splitRen x a b aCh k)

theorem two_mul_lt {m n : Nat} (h : m < n) : 2 * m < 2 * n ∧ 2 * m + 1 < 2 * n := by omega

/-- `splitS` with the child list `A'` of `a` left open: `b` may stand anywhere among the children `aCh` that stay
    with `a` (`splitS` puts it first, attaching a leaf puts it last). -/
def splitSG (S : Id → Option Struct) (x a b : Id) (gp : Option Id) (A' aCh bCh : List Id) :
    Id → Option Struct :=
  fun k => if k = a then some (gp, A')
           else if k = b then some (some a, bCh)
           else if k = x then none
           else (S k).map (splitRen x a b aCh k)

/-- Any partition of the children is allowed, and either new identifier may be the old one. -/
theorem splitSG_swf {S : Id → Option Struct} {Tk : Id → Bool} {root : Option Id}
    (h : SWF S Tk root) (x a b : Id) (gp : Option Id) (Xch A' aCh bCh : List Id)
    (hX : S x = some (gp, Xch)) (hab : a ≠ b)
    (ha : a = x ∨ S a = none) (hb : b = x ∨ S b = none)
    (hpart : ∀ c, c ∈ Xch ↔ (c ∈ aCh ∨ c ∈ bCh)) (hdisj : ∀ c, c ∈ aCh → c ∉ bCh)
    (hA : ∀ c, c ∈ A' ↔ (c = b ∨ c ∈ aCh)) (hnda : A'.Nodup) (hndb : bCh.Nodup) :
    STree (splitSG S x a b gp A' aCh bCh) (if gp = none then some a else root) := by
  have hfresh : ∀ k s, S k = some s → k ≠ x → k ≠ a ∧ k ≠ b := by
    have : ∀ n, (n = x ∨ S n = none) → ∀ k s, S k = some s → k ≠ x → k ≠ n := by
      intro n hn k s hk hkx e
      subst e
      rcases hn with e | e
      · exact hkx e
      · rw [hk] at e; cases e
    exact fun k s hk hkx => ⟨this a ha k s hk hkx, this b hb k s hk hkx⟩
  have hSa : splitSG S x a b gp A' aCh bCh a = some (gp, A') := if_pos rfl
  have hSb : splitSG S x a b gp A' aCh bCh b = some (some a, bCh) := (if_neg hab.symm).trans (if_pos rfl)
  have hby : ∀ k pp ch, S k = some (pp, ch) → k ≠ x →
      splitSG S x a b gp A' aCh bCh k =
        some (pp.map fun p => if p = x then (if k ∈ aCh then a else b) else p,
              ch.map fun c => if c = x then a else c) := by
    intro k pp ch hk h3
    obtain ⟨h1, h2⟩ := hfresh k _ hk h3
    simp only [splitSG, h1, h2, h3, hk, if_false, Option.map_some, splitRen_mk]
  have hcases : ∀ k pp' ch', splitSG S x a b gp A' aCh bCh k = some (pp', ch') →
      (a = k ∧ gp = pp' ∧ A' = ch') ∨ (b = k ∧ some a = pp' ∧ bCh = ch') ∨
      (k ≠ a ∧ k ≠ b ∧ k ≠ x ∧ ∃ pp ch, S k = some (pp, ch) ∧
        pp.map (fun p => if p = x then (if k ∈ aCh then a else b) else p) = pp' ∧
        ch.map (fun c => if c = x then a else c) = ch') := by
    intro k pp' ch' hk
    unfold splitSG at hk
    by_cases h1 : k = a
    · rw [if_pos h1] at hk
      cases hk
      exact Or.inl ⟨h1.symm, rfl, rfl⟩
    · by_cases h2 : k = b
      · rw [if_neg h1, if_pos h2] at hk
        cases hk
        exact Or.inr (Or.inl ⟨h2.symm, rfl, rfl⟩)
      · by_cases h3 : k = x
        · rw [if_neg h1, if_neg h2, if_pos h3] at hk
          cases hk
        · rw [if_neg h1, if_neg h2, if_neg h3] at hk
          obtain ⟨⟨pp, ch⟩, hs, e⟩ := Option.map_eq_some_iff.mp hk
          rw [splitRen_mk] at e
          cases e
          exact Or.inr (Or.inr ⟨h1, h2, h3, pp, ch, hs, rfl, rfl⟩)
  obtain ⟨dp, hd⟩ := h.depth
  -- ranks are doubled to make room for `b` just above `a`, which gets the rank of `x`
  obtain ⟨dp', hra, hrb, hro⟩ : ∃ dp' : Id → Nat, dp' a = 2 * dp x ∧ dp' b = 2 * dp x + 1 ∧
      ∀ k, k ≠ a → k ≠ b → dp' k = 2 * dp k :=
    ⟨fun k => if k = a then 2 * dp x else if k = b then 2 * dp x + 1 else 2 * dp k, if_pos rfl,
      (if_neg hab.symm).trans (if_pos rfl), fun k h1 h2 => (if_neg h1).trans (if_neg h2)⟩
  have hup : ∀ k p' ch', splitSG S x a b gp A' aCh bCh k = some (some p', ch') →
      (∃ pp pch, splitSG S x a b gp A' aCh bCh p' = some (pp, pch) ∧ k ∈ pch) ∧ dp' p' < dp' k := by
    intro k p' ch' hk
    rcases hcases k _ _ hk with ⟨rfl, e, -⟩ | ⟨rfl, e, -⟩ | ⟨h1, h2, h3, pp, ch, hs, e, -⟩
    · -- the parent of `a` is the former parent of `x`
      have hXg : S x = some (some p', Xch) := by rw [hX, e]
      obtain ⟨gpp, gch, hgS, hm⟩ := h.up x p' Xch hXg
      have g1 : p' ≠ x := h.parent_ne hXg
      obtain ⟨g2, g3⟩ := hfresh p' _ hgS g1
      refine ⟨⟨_, _, hby p' _ _ hgS g1, List.mem_map.mpr ⟨x, hm, if_pos rfl⟩⟩, ?_⟩
      rw [hra, hro p' g2 g3]
      exact (two_mul_lt (hd x p' Xch hXg)).1
    · cases e
      rw [hra, hrb]
      exact ⟨⟨gp, A', hSa, (hA b).mpr (Or.inl rfl)⟩, Nat.lt_succ_self _⟩
    · obtain ⟨p0, rfl, e'⟩ := Option.map_eq_some_iff.mp e
      obtain ⟨pp0, pch0, hp0, hkmem⟩ := h.up k p0 ch hs
      have hkd := hd k p0 ch hs
      rw [hro k h1 h2]
      by_cases hp : p0 = x
      · -- a former child of `x` hangs below the side that took it
        rw [if_pos hp] at e'
        rw [hp, hX] at hp0
        cases hp0
        rw [hp] at hkd
        by_cases hka : k ∈ aCh
        · rw [if_pos hka] at e'
          subst e'
          rw [hra]
          exact ⟨⟨gp, A', hSa, (hA k).mpr (Or.inr hka)⟩, (two_mul_lt hkd).1⟩
        · rw [if_neg hka] at e'
          subst e'
          rw [hrb]
          exact ⟨⟨some a, bCh, hSb, ((hpart k).mp hkmem).resolve_left hka⟩, (two_mul_lt hkd).2⟩
      · rw [if_neg hp] at e'
        subst e'
        obtain ⟨q1, q2⟩ := hfresh p0 _ hp0 hp
        rw [hro p0 q1 q2]
        exact ⟨⟨_, _, hby p0 _ _ hp0 hp, List.mem_map.mpr ⟨k, hkmem, if_neg h3⟩⟩, (two_mul_lt hkd).1⟩
  refine ⟨fun _ => rfl, ?_, ?_, fun k p' ch' hk => (hup k p' ch' hk).1, ?_, ?_,
    ⟨dp', fun k p' ch' hk => (hup k p' ch' hk).2⟩⟩
  · by_cases hg : gp = none
    · rw [if_pos hg]
      exact ⟨a, A', rfl, by rw [hSa, hg]⟩
    · rw [if_neg hg]
      obtain ⟨r, rch, hr, hSr⟩ := h.root_ok
      have hrx : r ≠ x := fun e => by rw [e, hX] at hSr; cases hSr; exact hg rfl
      exact ⟨r, _, hr, hby r _ _ hSr hrx⟩
  · intro k ch' hk
    rcases hcases k _ _ hk with ⟨rfl, e, -⟩ | ⟨rfl, e, -⟩ | ⟨h1, h2, h3, pp, ch, hs, e, -⟩
    · rw [if_pos e]
    · cases e
    · rw [Option.map_eq_none_iff] at e
      subst e
      by_cases hg : gp = none
      · -- then `x` is a root as well
        exact absurd (h.root_unique hs (hg ▸ hX)) h3
      · rw [if_neg hg]
        exact h.root_uniq k ch hs
  · intro k pp' ch' c hk hc
    rcases hcases k _ _ hk with ⟨rfl, -, e⟩ | ⟨rfl, -, e⟩ | ⟨h1, h2, h3, pp, ch, hs, -, e⟩
    · subst e
      rcases (hA c).mp hc with rfl | hca
      · exact ⟨bCh, hSb⟩
      · have hcX := (hpart c).mpr (Or.inl hca)
        obtain ⟨cch, hcS⟩ := h.down x gp Xch c hX hcX
        exact ⟨_, by rw [hby c _ _ hcS (h.child_ne hX hcX), Option.map_some, if_pos rfl, if_pos hca]⟩
    · subst e
      have hcX := (hpart c).mpr (Or.inr hc)
      obtain ⟨cch, hcS⟩ := h.down x gp Xch c hX hcX
      exact ⟨_, by rw [hby c _ _ hcS (h.child_ne hX hcX), Option.map_some, if_pos rfl,
        if_neg (fun h' => hdisj c h' hc)]⟩
    · subst e
      obtain ⟨c0, hc0, rfl⟩ := List.mem_map.mp hc
      obtain ⟨cch0, hc0S⟩ := h.down k pp ch c0 hs hc0
      by_cases hcx : c0 = x
      · rw [hcx, hX] at hc0S
        cases hc0S
        rw [if_pos hcx]
        exact ⟨A', hSa⟩
      · rw [if_neg hcx]
        exact ⟨_, by rw [hby c0 _ _ hc0S hcx, Option.map_some, if_neg h3]⟩
  · intro k pp' ch' hk
    rcases hcases k _ _ hk with ⟨rfl, -, e⟩ | ⟨rfl, -, e⟩ | ⟨h1, h2, h3, pp, ch, hs, -, e⟩
    · rw [← e]; exact hnda
    · rw [← e]; exact hndb
    · rw [← e]
      apply map_ite_nodup _ _ _ (h.nodup k pp ch hs)
      intro ham
      obtain ⟨ach, haS⟩ := h.down k pp ch a hs ham
      rcases ha with e' | e'
      · exact Or.inr e'.symm
      · rw [haS] at e'; cases e'

theorem splitS_swf {S : Id → Option Struct} {Tk : Id → Bool} {root : Option Id}
    (h : SWF S Tk root) (x a b : Id) (gp : Option Id) (Xch aCh bCh : List Id)
    (hX : S x = some (gp, Xch)) (hab : a ≠ b)
    (ha : a = x ∨ S a = none) (hb : b = x ∨ S b = none)
    (hpart : ∀ c, c ∈ Xch ↔ (c ∈ aCh ∨ c ∈ bCh)) (hdisj : ∀ c, c ∈ aCh → c ∉ bCh)
    (hnda : aCh.Nodup) (hndb : bCh.Nodup) :
    STree (splitS S x a b gp aCh bCh) (if gp = none then some a else root) := by
  -- `splitS` is `splitSG` with the child list `b :: aCh` of `a` (the two definitions unfold to the same term)
  refine splitSG_swf h x a b gp Xch (b :: aCh) aCh bCh hX hab ha hb hpart hdisj (fun _ => List.mem_cons)
    (List.nodup_cons.mpr ⟨fun hm => ?_, hnda⟩) hndb
  -- `b` among the children of `x` would be a node other than `x`
  have hbX := (hpart b).mpr (Or.inl hm)
  obtain ⟨cch, hbS⟩ := h.down x gp Xch b hX hbX
  rcases hb with e | e
  · exact h.child_ne hX hbX e
  · rw [hbS] at e; cases e

/-- Attaching a leaf `cid` below `pid` is splitting `pid` with the empty side going to `cid`. -/
theorem addLeafS_swf {S : Id → Option Struct} {Tk : Id → Bool} {root : Option Id}
    (h : SWF S Tk root) (cid pid : Id) (pp : Option Id) (pch : List Id)
    (hP : S pid = some (pp, pch)) (hc : S cid = none) :
    STree (fun k => if k = cid then some (some pid, []) else if k = pid then some (pp, pch ++ [cid]) else S k) root := by
  have hpc : pid ≠ cid := fun e => by rw [e, hc] at hP; cases hP
  have hS : (fun k => if k = cid then some (some pid, []) else if k = pid then some (pp, pch ++ [cid]) else S k) =
      splitSG S pid pid cid pp (pch ++ [cid]) pch [] := by
    funext k
    unfold splitSG
    by_cases h1 : k = pid
    · rw [if_neg (h1 ▸ hpc), if_pos h1, if_pos h1]
    · by_cases h2 : k = cid
      · rw [if_pos h2, if_neg h1, if_pos h2]
      · rw [if_neg h2, if_neg h1, if_neg h1, if_neg h2, if_neg h1]
        -- the children of `pid` stay with `pid`
        exact (map_eq_self fun ⟨q, ch⟩ hk => splitRen_eq_self
          (fun e => if_pos ((h.child_of_iff hP hk).mp e)) (.inr rfl)).symm
  have hr : root = (if pp = none then some pid else root) := by
    by_cases hg : pp = none
    · rw [if_pos hg]; exact h.root_uniq pid pch (hg ▸ hP)
    · rw [if_neg hg]
  rw [hS, hr]
  refine splitSG_swf h pid pid cid pp pch (pch ++ [cid]) pch [] hP hpc (Or.inl rfl) (Or.inr hc)
    (fun _ => ⟨Or.inl, (Or.resolve_right · List.not_mem_nil)⟩) (fun _ _ => List.not_mem_nil) (fun c => ?_)
    (List.nodup_append.mpr ⟨h.nodup pid pp pch hP, List.pairwise_singleton _ _, fun a ha b hb e => ?_⟩)
    List.nodup_nil
  · rw [List.mem_append, List.mem_singleton]; exact Or.comm
  · -- `cid` is not a node, hence nobody's child
    rw [e, List.mem_singleton.mp hb] at ha
    exact h.fresh_not_child hc hP ha

/-- The renaming of `change_node_identifier(new, old)`. -/
def renRho (old new : Id) (y : Id) : Id := if y = old then new else y

theorem renRho_old (old new : Id) : renRho old new old = new := if_pos rfl

theorem renRho_ne {old new y : Id} (h : y ≠ old) : renRho old new y = y := if_neg h

/-- What `change_node_identifier(new, old)` does to the entry of a node: every reference to `old` reads `new`. -/
def renameRen (old new : Id) (s : Struct) : Struct :=
  (s.1.map (renRho old new), s.2.map (renRho old new))

/-- the structure after `change_node_identifier(new, old)` -/
def renameS (S : Id → Option Struct) (old new : Id) : Id → Option Struct :=
  fun k => if k = new then (S old).map (renameRen old new)
           else if k = old then none else (S k).map (renameRen old new)

theorem renameS_swf {S : Id → Option Struct} {Tk : Id → Bool} {root : Option Id}
    (h : SWF S Tk root) (old new : Id) (op : Option Id) (och : List Id)
    (hO : S old = some (op, och)) (hnew : S new = none) :
    STree (renameS S old new) (if op = none then some new else root) := by
  have hnode_ne : ∀ k s, S k = some s → k ≠ new := fun k s hk e => by rw [e, hnew] at hk; cases hk
  have himg : ∀ k0 pp ch, S k0 = some (pp, ch) →
      renameS S old new (renRho old new k0) = some (pp.map (renRho old new), ch.map (renRho old new)) := by
    intro k0 pp ch hk
    unfold renameS renRho
    by_cases e : k0 = old
    · rw [if_pos e, if_pos rfl, ← e, hk]; rfl
    · rw [if_neg e, if_neg (hnode_ne k0 _ hk), if_neg e, hk]; rfl
  have hpre : ∀ k pp' ch', renameS S old new k = some (pp', ch') →
      ∃ k0 pp ch, S k0 = some (pp, ch) ∧ pp.map (renRho old new) = pp' ∧ ch.map (renRho old new) = ch' ∧
        renRho old new k0 = k := by
    intro k pp' ch' hk
    unfold renameS at hk
    by_cases h1 : k = new
    · rw [if_pos h1, hO] at hk
      cases hk
      exact ⟨old, op, och, hO, rfl, rfl, (if_pos rfl).trans h1.symm⟩
    · by_cases h2 : k = old
      · rw [if_neg h1, if_pos h2] at hk
        cases hk
      · rw [if_neg h1, if_neg h2] at hk
        obtain ⟨⟨pp, ch⟩, hs, e⟩ := Option.map_eq_some_iff.mp hk
        cases e
        exact ⟨k, pp, ch, hs, rfl, rfl, if_neg h2⟩
  obtain ⟨dp, hd⟩ := h.depth
  -- `new` gets the rank of `old`, so the image of an existing node has the rank of that node
  have hdp : ∀ k0 s, S k0 = some s →
      (if renRho old new k0 = new then dp old else dp (renRho old new k0)) = dp k0 := by
    intro k0 s hk
    unfold renRho
    by_cases e : k0 = old
    · rw [if_pos e, if_pos rfl, e]
    · rw [if_neg e, if_neg (hnode_ne k0 s hk)]
  have hup : ∀ k p' ch', renameS S old new k = some (some p', ch') →
      (∃ pp pch, renameS S old new p' = some (pp, pch) ∧ k ∈ pch) ∧
      (if p' = new then dp old else dp p') < (if k = new then dp old else dp k) := by
    intro k p' ch' hk
    obtain ⟨k0, pp, ch, hs, e1, -, rfl⟩ := hpre k _ _ hk
    obtain ⟨p0, rfl, rfl⟩ := Option.map_eq_some_iff.mp e1
    obtain ⟨pp0, pch0, hp0, hm⟩ := h.up k0 p0 ch hs
    rw [hdp k0 _ hs, hdp p0 _ hp0]
    exact ⟨⟨_, _, himg p0 _ _ hp0, List.mem_map.mpr ⟨k0, hm, rfl⟩⟩, hd k0 p0 ch hs⟩
  refine ⟨fun _ => rfl, ?_, ?_, fun k p' ch' hk => (hup k p' ch' hk).1, ?_, ?_,
    ⟨fun k => if k = new then dp old else dp k, fun k p' ch' hk => (hup k p' ch' hk).2⟩⟩
  · obtain ⟨r, rch, hr, hSr⟩ := h.root_ok
    have := himg r _ _ hSr
    by_cases hop : op = none
    · rw [if_pos hop]
      exact ⟨new, _, rfl, by rwa [renRho, if_pos (h.root_unique hSr (hop ▸ hO))] at this⟩
    · rw [if_neg hop]
      have hro : r ≠ old := fun e => by rw [e, hO] at hSr; cases hSr; exact hop rfl
      exact ⟨r, _, hr, by rwa [renRho, if_neg hro] at this⟩
  · intro k ch' hk
    obtain ⟨k0, pp, ch, hs, e1, -, rfl⟩ := hpre k _ _ hk
    rw [Option.map_eq_none_iff] at e1
    subst e1
    unfold renRho
    by_cases hop : op = none
    · rw [if_pos hop, if_pos (h.root_unique hs (hop ▸ hO))]
    · have : k0 ≠ old := fun e => by rw [e, hO] at hs; cases hs; exact hop rfl
      rw [if_neg hop, if_neg this, h.root_uniq k0 ch hs]
  · intro k pp' ch' c hk hc
    obtain ⟨k0, pp, ch, hs, -, rfl, rfl⟩ := hpre k _ _ hk
    obtain ⟨c0, hc0, rfl⟩ := List.mem_map.mp hc
    obtain ⟨cch, hcS⟩ := h.down k0 pp ch c0 hs hc0
    exact ⟨_, himg c0 _ _ hcS⟩
  · intro k pp' ch' hk
    obtain ⟨k0, pp, ch, hs, -, rfl, -⟩ := hpre k _ _ hk
    -- `new` is not a node, hence nobody's child
    refine map_ite_nodup _ _ _ (h.nodup k0 pp ch hs) (fun hm => ?_)
    obtain ⟨cch, hcS⟩ := h.down k0 pp ch new hs hm
    rw [hnew] at hcS
    cases hcS

/-- The structure after `new` is inserted on the edge between `c` and its parent `p`. -/
def subdivideS (S : Id → Option Struct) (c p new : Id) (cch : List Id) (pp : Option Id) (pch : List Id) :
    Id → Option Struct :=
  fun k => if k = new then some (some p, [c])
           else if k = c then some (some new, cch)
           else if k = p then some (pp, pch.map (fun x => if x = c then new else x))
           else S k

theorem subdivideS_eq_splitS {S : Id → Option Struct} {Tk : Id → Bool} {root : Option Id}
    (h : SWF S Tk root) {c p new : Id} {cch : List Id} {pp : Option Id} {pch : List Id}
    (hC : S c = some (some p, cch)) (hP : S p = some (pp, pch)) :
    subdivideS S c p new cch pp pch = splitS S c new c (some p) [] cch := by
  funext k
  unfold subdivideS splitS
  by_cases h1 : k = new
  · rw [if_pos h1, if_pos h1]
  · by_cases h2 : k = c
    · rw [if_neg h1, if_neg h1, if_pos h2, if_pos h2]
    · rw [if_neg h1, if_neg h1, if_neg h2, if_neg h2, if_neg h2]
      by_cases h3 : k = p
      · rw [if_pos h3, h3, hP, Option.map_some, splitRen_nil]
      · rw [if_neg h3]
        cases hk : S k with
        | none => rfl
        | some s =>
          -- `c` is a child of `p` only
          have hc : c ∉ s.2 := fun hm => by
            obtain ⟨_, e⟩ := h.down k s.1 s.2 c hk hm
            rw [hC] at e
            cases e
            exact h3 rfl
          rw [Option.map_some, splitRen_nil, map_ite_not_mem _ _ _ hc]

/-- A split of `c` with the empty side going to `new`. -/
theorem subdivideS_swf {S : Id → Option Struct} {Tk : Id → Bool} {root : Option Id}
    (h : SWF S Tk root) (c p new : Id) (cch : List Id) (pp : Option Id) (pch : List Id)
    (hC : S c = some (some p, cch)) (hP : S p = some (pp, pch)) (hnew : S new = none) :
    STree (subdivideS S c p new cch pp pch) root := by
  have hcn : new ≠ c := fun e => by rw [← e, hnew] at hC; cases hC
  have := splitS_swf h c new c (some p) cch [] cch hC hcn (Or.inr hnew) (Or.inl rfl)
    (fun _ => ⟨Or.inr, (Or.resolve_left · List.not_mem_nil)⟩) (fun _ hm => absurd hm List.not_mem_nil)
    List.nodup_nil (h.nodup c _ _ hC)
  rwa [← subdivideS_eq_splitS h hC hP, if_neg (Option.some_ne_none p)] at this

end Ptn.C02
