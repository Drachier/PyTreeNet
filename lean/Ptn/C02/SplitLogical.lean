import Ptn.C02.Labels
/-! `split_nodes` at the level of legs: the axis that leads to each neighbour (`legAx`), the open axes a specification
picks (`pick`), what the two new nodes show for them (`keeper_legs`, `other_legs`), and the blocks of the two arrays
the splitting function returns. -/
namespace Ptn.C02
open NodeS

/-- The axis of a node with logical axes `L` that leads to its neighbour `x`. -/
def legAx (n : NodeS) (L : Tensor) (x : Id) : Option Axis := (n.neighbourIndex x).bind (fun i => L[i]?)

/-- The axes at the given positions (positions out of range are skipped). -/
def pick (L : Tensor) (is : List Nat) : List Axis := is.filterMap (fun i => L[i]?)

theorem pick_of_mapM {L : Tensor} {is : List Nat} {R : Tensor} (h : is.mapM (fun i => L[i]?) = some R) :
    pick L is = R := by
  unfold pick
  induction is generalizing R with
  | nil => simp at h; subst h; rfl
  | cons a is ih =>
    obtain ⟨x, r, ha, hr, rfl⟩ := (mapM_cons_eq_some _ _ _ _).mp h
    simp [ha, ih hr]

theorem pick_range' (L : Tensor) (a n : Nat) (h : a + n ≤ L.length) :
    pick L (List.range' a n) = (L.drop a).take n := by
  unfold pick
  induction n generalizing a with
  | zero => simp
  | succ n ih =>
    have ha : a < L.length := by omega
    rw [List.range'_succ, List.filterMap_cons, List.getElem?_eq_getElem ha, ih (a + 1) (by omega)]
    simp only
    have : L.drop a = L[a] :: L.drop (a + 1) := by
      rw [List.drop_eq_getElem_cons ha]
    rw [this, List.take_succ_cons]

/-- Reading a leg by neighbour: the pair `(x, ax)` is among the virtual legs iff the axis at the
    neighbour index of `x` is `ax`. -/
theorem mem_zip_neighbours {n : NodeS} (hnd : n.neighbours.Nodup) (L : Tensor) (x : Id) (ax : Axis) :
    (x, ax) ∈ n.neighbours.zip L ↔ legAx n L x = some ax := by
  rw [mem_zip_idxOf _ _ hnd]
  unfold legAx neighbourIndex
  unfold NodeS.neighbours at hnd ⊢
  cases hp : n.parent with
  | none =>
    simp only [Option.toList_none, List.nil_append, reduceCtorEq, if_false, nparents, hp,
      Option.isSome_none, Bool.false_eq_true, Nat.add_zero]
    by_cases hm : x ∈ n.children
    · simp [hm]
    · simp [hm]
  | some p =>
    rw [hp] at hnd
    simp only [Option.toList_some, List.singleton_append, List.nodup_cons] at hnd
    simp only [Option.toList_some, List.singleton_append, List.mem_cons, Option.some.injEq, nparents, hp,
      Option.isSome_some, if_true]
    by_cases hx : p = x
    · subst hx
      simp
    · have hne : (p == x) = false := by simpa using hx
      have hx' : ¬ x = p := fun e => hx e.symm
      simp only [hx, if_false, hx', false_or, List.idxOf_cons, hne, cond_false]
      by_cases hm : x ∈ n.children
      · simp [hm]
      · simp [hm]

theorem TTN.WF.leg_iff {t : TTN} (h : t.WF) {k : Id} {n : NodeS} {L : Tensor} (hn : t.N k = some n)
    (hL : t.logical k = some L) (x : Id) (ax : Axis) : t.Leg k x ax ↔ legAx n L x = some ax := by
  unfold TTN.Leg
  rw [legPairs_eq hn hL]
  exact mem_zip_neighbours (neighbours_nodup h hn) L x ax

/-- Children taken over by one side of a split: paired with the axes read at their neighbour indices. -/
theorem zip_children_axes {n : NodeS} {L : Tensor} {ch : List Id} {cvals : List Nat} {Ac : Tensor}
    (h1 : ch.mapM (fun c => n.neighbourIndex c) = some cvals)
    (h2 : cvals.mapM (fun i => L[i]?) = some Ac) :
    Ac.length = ch.length ∧ ∀ x ax, (x, ax) ∈ ch.zip Ac ↔ (x ∈ ch ∧ legAx n L x = some ax) := by
  induction ch generalizing cvals Ac with
  | nil =>
    simp at h1; subst h1; simp at h2; subst h2
    simp
  | cons c ch ih =>
    obtain ⟨i, cv, hc, hr, rfl⟩ := (mapM_cons_eq_some _ _ _ _).mp h1
    obtain ⟨a, A, hi, hr2, rfl⟩ := (mapM_cons_eq_some _ _ _ _).mp h2
    obtain ⟨l, hmem⟩ := ih hr hr2
    refine ⟨by simp [l], ?_⟩
    intro x ax
    simp only [List.zip_cons_cons, List.mem_cons, Prod.mk.injEq, hmem]
    constructor
    · rintro (⟨e1, e2⟩ | ⟨h', h''⟩)
      · subst e1 e2
        exact ⟨Or.inl rfl, by simp [legAx, hc, hi]⟩
      · exact ⟨Or.inr h', h''⟩
    · rintro ⟨e | h', h''⟩
      · subst e
        left
        simp [legAx, hc, hi] at h''
        exact ⟨rfl, h''.symm⟩
      · exact Or.inr ⟨h', h''⟩

/-- The side of the split that keeps the parent (or the root role): logical legs
    `(parent?, bond, children…, open…)`. -/
theorem keeper_legs {X na : NodeS} {L Pa Ac Ao : Tensor} {b : Id} {aCh : List Id} {bond : Axis}
    (hpar : na.parent = X.parent) (hch : na.children = b :: aCh)
    (hPa : (X.parent = none ∧ Pa = []) ∨ (∃ p a0, X.parent = some p ∧ Pa = [a0] ∧ L[0]? = some a0))
    (hAcl : Ac.length = aCh.length)
    (hAc : ∀ x ax, (x, ax) ∈ aCh.zip Ac ↔ (x ∈ aCh ∧ legAx X L x = some ax))
    (hbp : X.parent ≠ some b) :
    (∀ x ax, (x, ax) ∈ na.neighbours.zip (Pa ++ bond :: (Ac ++ Ao)) ↔
      ((x = b ∧ ax = bond) ∨ ((X.parent = some x ∨ x ∈ aCh) ∧ legAx X L x = some ax))) ∧
    (Pa ++ bond :: (Ac ++ Ao)).drop na.nvirt = Ao := by
  have hPl : Pa.length = na.nparents := by
    rw [nparents_congr hpar]
    rcases hPa with ⟨hp, rfl⟩ | ⟨p, a0, hp, rfl, _⟩
    · exact (nparents_none hp).symm
    · exact (nparents_some hp).symm
  obtain ⟨hz, hd⟩ := zip_neighbours na Pa (bond :: Ac) Ao hPl
    (by rw [hch, List.length_cons, List.length_cons, hAcl])
  rw [show Pa ++ bond :: (Ac ++ Ao) = Pa ++ (bond :: Ac) ++ Ao by simp]
  refine ⟨fun x ax => ?_, hd⟩
  rw [hz, hpar, hch, List.zip_cons_cons]
  rcases hPa with ⟨hp, rfl⟩ | ⟨p, a0, hp, rfl, h0⟩
  · simp only [hp, Option.toList_none, List.zip_nil_left, List.nil_append, List.mem_cons, Prod.mk.injEq, hAc,
      reduceCtorEq, false_or]
  · have hpb : p ≠ b := fun e => hbp (by rw [hp, e])
    simp only [hp, Option.toList_some, List.zip_cons_cons, List.zip_nil_left, List.singleton_append, List.mem_cons,
      Prod.mk.injEq, hAc, Option.some.injEq]
    constructor
    · rintro (⟨e1, e2⟩ | ⟨e1, e2⟩ | h')
      · subst e1 e2
        right
        refine ⟨Or.inl rfl, ?_⟩
        simp [legAx, neighbourIndex, hp, h0]
      · exact Or.inl ⟨e1, e2⟩
      · exact Or.inr ⟨Or.inr h'.1, h'.2⟩
    · rintro (⟨e1, e2⟩ | ⟨e | e, h'⟩)
      · exact Or.inr (Or.inl ⟨e1, e2⟩)
      · subst e
        left
        simp [legAx, neighbourIndex, hp, h0] at h'
        exact ⟨rfl, h'.symm⟩
      · exact Or.inr (Or.inr ⟨e, h'⟩)

/-- The other side of the split (child of the keeper): logical legs `(bond, children…, open…)`. -/
theorem other_legs {X nb : NodeS} {L Bc Bo : Tensor} {a : Id} {bCh : List Id} {bond : Axis}
    (hpar : nb.parent = some a) (hch : nb.children = bCh)
    (hBcl : Bc.length = bCh.length)
    (hBc : ∀ x ax, (x, ax) ∈ bCh.zip Bc ↔ (x ∈ bCh ∧ legAx X L x = some ax)) :
    (∀ x ax, (x, ax) ∈ nb.neighbours.zip (bond :: (Bc ++ Bo)) ↔
      ((x = a ∧ ax = bond) ∨ (x ∈ bCh ∧ legAx X L x = some ax))) ∧
    (bond :: (Bc ++ Bo)).drop nb.nvirt = Bo := by
  obtain ⟨hz, hd⟩ := zip_neighbours nb [bond] Bc Bo (nparents_some hpar).symm (hch ▸ hBcl)
  refine ⟨fun x ax => ?_, hd⟩
  rw [show bond :: (Bc ++ Bo) = [bond] ++ Bc ++ Bo from rfl, hz, hpar, hch]
  simp only [Option.toList_some, List.zip_cons_cons, List.zip_nil_left, List.singleton_append, List.mem_cons,
    Prod.mk.injEq, hBc]

theorem splitAxes_eq_some {L outT inT : Tensor} {outInt inInt : List Nat} {bond : Axis} :
    TTN.splitAxes L outInt inInt bond = some (outT, inT) ↔
      ∃ moved, transposeT L (outInt ++ inInt) = some moved ∧
        moved.take outInt.length ++ [bond] = outT ∧ bond :: moved.drop outInt.length = inT := by
  simp only [TTN.splitAxes, bind, Option.bind_eq_some_iff, Option.some.injEq, Prod.mk.injEq]

theorem findLegValues_eq_some {ls : TTN.LegSpec} {node : NodeS} {vals : List Nat} :
    ls.findLegValues node = some vals ↔
      ∃ cvals, ls.childLegs.mapM (fun c => node.neighbourIndex c) = some cvals ∧
        (if ls.parentLeg.isSome then [0] else []) ++ cvals ++ ls.openLegs = vals := by
  simp only [TTN.LegSpec.findLegValues, bind, Option.bind_eq_some_iff, Option.some.injEq]

theorem splitAxes_blocks {L outT inT : Tensor} {outInt inInt : List Nat} {bond : Axis}
    (h : TTN.splitAxes L outInt inInt bond = some (outT, inT)) :
    ∃ Om Im, outInt.mapM (fun i => L[i]?) = some Om ∧ inInt.mapM (fun i => L[i]?) = some Im ∧
      outT = Om ++ [bond] ∧ inT = bond :: Im := by
  obtain ⟨moved, hm, rfl, rfl⟩ := splitAxes_eq_some.mp h
  obtain ⟨Om, Im, e1, e2, rfl⟩ := mapM_append_some _ _ _ _ (transposeT_eq_some.mp hm).2.2
  have hl : Om.length = outInt.length := mapM_option_length _ _ _ e1
  exact ⟨Om, Im, e1, e2, by rw [← hl, List.take_left], by rw [← hl, List.drop_left]⟩

theorem side_blocks {ls : TTN.LegSpec} {node : NodeS} {vals : List Nat} {L M : Tensor}
    (h : ls.findLegValues node = some vals) (hm : vals.mapM (fun i => L[i]?) = some M) :
    ∃ Pa Ac Ao cvals, M = Pa ++ Ac ++ Ao ∧
      ((ls.parentLeg = none ∧ Pa = []) ∨ (∃ p a0, ls.parentLeg = some p ∧ Pa = [a0] ∧ L[0]? = some a0)) ∧
      ls.childLegs.mapM (fun c => node.neighbourIndex c) = some cvals ∧
      cvals.mapM (fun i => L[i]?) = some Ac ∧ ls.openLegs.mapM (fun i => L[i]?) = some Ao := by
  obtain ⟨cvals, hc, rfl⟩ := findLegValues_eq_some.mp h
  obtain ⟨M1, Ao, e1, e2, e3⟩ := mapM_append_some _ _ _ _ hm
  obtain ⟨Pa, Ac, f1, f2, f3⟩ := mapM_append_some _ _ _ _ e1
  refine ⟨Pa, Ac, Ao, cvals, by rw [e3, f3], ?_, hc, f2, e2⟩
  cases hp : ls.parentLeg with
  | none =>
    simp [hp] at f1
    exact Or.inl ⟨rfl, f1⟩
  | some p =>
    simp only [hp, Option.isSome_some, if_true, List.mapM_cons, List.mapM_nil] at f1
    cases h0 : L[0]? with
    | none => simp [h0] at f1
    | some a0 =>
      simp [h0] at f1
      exact Or.inr ⟨p, a0, rfl, f1.symm, rfl⟩

theorem mapM_neighbourIndex_children {X : NodeS} (hpc : ∀ c ∈ X.children, X.parent ≠ some c)
    {ch : List Id} {cv : List Nat} (hsub : ∀ c ∈ ch, c ∈ X.children)
    (h : ch.mapM (fun c => X.neighbourIndex c) = some cv) :
    cv = ch.map (fun c => X.children.idxOf c + X.nparents) := by
  induction ch generalizing cv with
  | nil => simp at h; subst h; rfl
  | cons c ch ih =>
    obtain ⟨i, r, hi, hr, rfl⟩ := (mapM_cons_eq_some _ _ _ _).mp h
    have hc : c ∈ X.children := hsub c (by simp)
    have hidx : X.neighbourIndex c = some (X.children.idxOf c + X.nparents) := by
      unfold neighbourIndex
      simp [hpc c hc, hc]
    rw [hidx] at hi
    cases hi
    rw [ih (fun c' hc' => hsub c' (List.mem_cons_of_mem _ hc')) hr]
    rfl

/-- The index lists computed by `find_leg_values` for the two specifications: up to order they are the
    virtual-leg indices `0 … nvirt-1` followed by the open legs the specifications name. -/
theorem split_ints_perm {X : NodeS} {outL inL : TTN.LegSpec} {outInt inInt : List Nat}
    (hnd : X.children.Nodup) (hpc : ∀ c ∈ X.children, X.parent ≠ some c)
    (hch : (outL.childLegs ++ inL.childLegs).Perm X.children)
    (hpar : (outL.parentLeg = X.parent ∧ inL.parentLeg = none) ∨
            (inL.parentLeg = X.parent ∧ outL.parentLeg = none))
    (ho : outL.findLegValues X = some outInt) (hi : inL.findLegValues X = some inInt) :
    ∃ V, (outInt ++ inInt).Perm (V ++ (outL.openLegs ++ inL.openLegs)) ∧ V.Perm (List.range X.nvirt) := by
  obtain ⟨cvO, hcO, ho⟩ := findLegValues_eq_some.mp ho
  obtain ⟨cvI, hcI, hi⟩ := findLegValues_eq_some.mp hi
  have hsubO : ∀ c ∈ outL.childLegs, c ∈ X.children := fun c hc =>
    hch.mem_iff.mp (List.mem_append_left _ hc)
  have hsubI : ∀ c ∈ inL.childLegs, c ∈ X.children := fun c hc =>
    hch.mem_iff.mp (List.mem_append_right _ hc)
  have eO := mapM_neighbourIndex_children hpc hsubO hcO
  have eI := mapM_neighbourIndex_children hpc hsubI hcI
  -- the child-leg indices of the two sides together are `nparents … nvirt-1` (`hcv`), the parent-leg indices
  -- `0 … nparents-1` (`hpv`); what remains is to bring these four blocks to the front
  have hcv : (cvO ++ cvI).Perm (List.range' X.nparents X.children.length) := by
    rw [eO, eI, ← List.map_append, ← map_idxOf_add hnd X.nparents]
    exact hch.map _
  have hpv : ((if outL.parentLeg.isSome then [0] else []) ++ (if inL.parentLeg.isSome then [0] else [])).Perm
      (List.range' 0 X.nparents) := by
    rcases hpar with ⟨h1, h2⟩ | ⟨h1, h2⟩ <;> rw [h1, h2] <;> cases hp : X.parent <;> simp [nparents, hp]
  refine ⟨((if outL.parentLeg.isSome then [0] else []) ++ (if inL.parentLeg.isSome then [0] else [])) ++
    (cvO ++ cvI), ?_, ?_⟩
  · rw [← ho, ← hi]
    simp only [List.append_assoc]
    refine List.Perm.append_left _ ?_
    have s1 : (cvO ++ (outL.openLegs ++ ((if inL.parentLeg.isSome then [0] else []) ++ (cvI ++ inL.openLegs)))).Perm
        ((if inL.parentLeg.isSome then [0] else []) ++ (cvO ++ (outL.openLegs ++ (cvI ++ inL.openLegs)))) := by
      have := List.perm_append_comm_assoc (cvO ++ outL.openLegs) (if inL.parentLeg.isSome then [0] else [])
        (cvI ++ inL.openLegs)
      simpa [List.append_assoc] using this
    refine s1.trans (List.Perm.append_left _ (List.Perm.append_left _ ?_))
    exact List.perm_append_comm_assoc outL.openLegs cvI inL.openLegs
  · rw [nvirt_def, range_eq_append (Nat.le_add_right ..), List.range_eq_range', Nat.add_sub_cancel_left]
    exact hpv.append hcv

/-- The two leg specifications of a successful split name every open leg of the node exactly once. -/
theorem split_open_perm {X : NodeS} {L moved : Tensor} {outL inL : TTN.LegSpec} {outInt inInt : List Nat}
    (hnd : X.children.Nodup) (hpc : ∀ c ∈ X.children, X.parent ≠ some c)
    (hLl : L.length = X.nlegs) (hv : X.nvirt ≤ X.nlegs)
    (hch : (outL.childLegs ++ inL.childLegs).Perm X.children)
    (hpar : (outL.parentLeg = X.parent ∧ inL.parentLeg = none) ∨
            (inL.parentLeg = X.parent ∧ outL.parentLeg = none))
    (ho : outL.findLegValues X = some outInt) (hi : inL.findLegValues X = some inInt)
    (ht : transposeT L (outInt ++ inInt) = some moved) :
    (outL.openLegs ++ inL.openLegs).Perm (List.range' X.nvirt (X.nlegs - X.nvirt)) := by
  obtain ⟨V, hre, hV⟩ := split_ints_perm hnd hpc hch hpar ho hi
  obtain ⟨hlen', hnodup', ht⟩ := transposeT_eq_some.mp ht
  have hbound := pickL_lt (l := L) ht
  have hall : (V ++ (outL.openLegs ++ inL.openLegs)).Perm (List.range X.nlegs) := by
    apply perm_range_of_nodup
    · exact hre.nodup_iff.mp hnodup'
    · intro x hx
      have := hbound x (hre.mem_iff.mpr hx)
      omega
    · rw [← hre.length_eq, hlen', hLl]
  rw [range_eq_append hv] at hall
  have := (List.Perm.append_right (outL.openLegs ++ inL.openLegs) hV).symm.trans hall
  exact (List.perm_append_left_iff _).mp this

end Ptn.C02
