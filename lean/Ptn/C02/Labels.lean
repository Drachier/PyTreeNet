import Ptn.C02.Graph
import Ptn.C02.Shows
/-! The label invariant `LWF` of the TTN model: every stored axis carries a label and a dimension, and the two
ends of every bond are the same axis.  With it the legs and open axes of a node, read off its logical axes
(what `ttn.tensors[k]` shows: parent leg, child legs, open legs), their basic facts, and the lemmas of `transposeT`
they need. -/
namespace Ptn.C02
open NodeS

/-- Parent (if any), then the children: the neighbours in the order of the virtual legs. -/
def NodeS.neighbours (n : NodeS) : List Id := n.parent.toList ++ n.children

theorem neighbours_length (n : NodeS) : n.neighbours.length = n.nvirt := by
  unfold NodeS.neighbours nvirt nparents nchildren
  cases n.parent <;> simp <;> omega

theorem NodeS.toList_parent_length (n : NodeS) : n.parent.toList.length = n.nparents := by
  unfold nparents; cases n.parent <;> rfl

theorem zip_neighbours (n : NodeS) (Lp Lc Lo : Tensor) (hp : Lp.length = n.nparents)
    (hc : Lc.length = n.children.length) :
    n.neighbours.zip (Lp ++ Lc ++ Lo) = n.parent.toList.zip Lp ++ n.children.zip Lc ∧
    (Lp ++ Lc ++ Lo).drop n.nvirt = Lo := by
  constructor
  · unfold NodeS.neighbours
    rw [List.append_assoc, List.zip_append (by rw [hp]; exact n.toList_parent_length),
      zip_append_of_length_eq hc.symm]
  · exact List.drop_left' (by rw [List.length_append, hp, hc]; rfl)

theorem mem_neighbours (n : NodeS) (x : Id) : x ∈ n.neighbours ↔ (n.parent = some x ∨ x ∈ n.children) := by
  unfold NodeS.neighbours
  cases hp : n.parent with
  | none => simp
  | some p =>
    simp only [Option.toList_some, List.mem_append, List.mem_cons, List.not_mem_nil, or_false,
      Option.some.injEq]
    constructor
    · rintro (e | e)
      · exact Or.inl e.symm
      · exact Or.inr e
    · rintro (e | e)
      · exact Or.inl e.symm
      · exact Or.inr e

/-- The virtual legs of node `k`: (neighbour, axis). -/
def TTN.legPairs (t : TTN) (k : Id) : List (Id × Axis) :=
  match t.N k, t.logical k with
  | some n, some L => n.neighbours.zip L
  | _, _ => []

/-- The open axes of node `k`, in order (`[]` when there is no such node). -/
def TTN.openAxes (t : TTN) (k : Id) : List Axis :=
  match t.N k, t.logical k with
  | some n, some L => L.drop n.nvirt
  | _, _ => []

/-- The leg of `k` towards its neighbour `x` is the axis `ax`. -/
def TTN.Leg (t : TTN) (k x : Id) (ax : Axis) : Prop := (x, ax) ∈ t.legPairs k

/-- **Label well-formedness**: every virtual leg has its partner at the other end of the bond – the same
    axis (label and dimension). -/
structure TTN.LWF (t : TTN) : Prop where
  sym : ∀ k x ax, t.Leg k x ax → t.Leg x k ax

theorem legPairs_eq {t : TTN} {k : Id} {n : NodeS} {L : Tensor} (hn : t.N k = some n)
    (hL : t.logical k = some L) : t.legPairs k = n.neighbours.zip L := by
  simp [TTN.legPairs, hn, hL]

theorem openAxes_eq {t : TTN} {k : Id} {n : NodeS} {L : Tensor} (hn : t.N k = some n)
    (hL : t.logical k = some L) : t.openAxes k = L.drop n.nvirt := by
  simp [TTN.openAxes, hn, hL]

theorem legPairs_none {t : TTN} {k : Id} (hn : t.N k = none) : t.legPairs k = [] := by
  simp [TTN.legPairs, hn]

theorem openAxes_none {t : TTN} {k : Id} (hn : t.N k = none) : t.openAxes k = [] := by
  simp [TTN.openAxes, hn]

theorem logical_eq {t : TTN} {k : Id} {n : NodeS} {T : Tensor} (hn : t.N k = some n)
    (hT : dget t.tensors k = some T) : t.logical k = transposeT T n.perm := by
  unfold TTN.logical
  have : dget t.nodes k = some n := hn
  simp [this, hT, bind, Option.bind]

theorem logical_none_of_N {t : TTN} {k : Id} (hn : t.N k = none) : t.logical k = none := by
  unfold TTN.logical
  have : dget t.nodes k = none := hn
  simp [this, bind, Option.bind]

theorem transposeT_some_of_perm (T : Tensor) (perm : List Nat) (hp : perm.Perm (List.range perm.length))
    (hl : perm.length = T.length) : ∃ R, transposeT T perm = some R ∧ R.length = T.length := by
  have hnd : perm.Nodup := hp.symm.nodup List.nodup_range
  have hlt : ∀ i ∈ perm, i < T.length := by
    intro i hi
    have := hp.mem_iff.mp hi
    rw [List.mem_range] at this
    omega
  have : ∀ (p : List Nat), (∀ i ∈ p, i < T.length) → ∃ R, p.mapM (fun i => T[i]?) = some R := by
    intro p
    induction p with
    | nil => intro _; exact ⟨[], rfl⟩
    | cons a p ih =>
      intro h
      obtain ⟨R, hR⟩ := ih (fun i hi => h i (List.mem_cons_of_mem _ hi))
      have ha : a < T.length := h a (by simp)
      refine ⟨T[a] :: R, ?_⟩
      rw [List.mapM_cons, List.getElem?_eq_getElem ha, hR]
      rfl
  obtain ⟨R, hR⟩ := this perm hlt
  exact ⟨R, transposeT_eq_some.mpr ⟨hl, hnd, hR⟩, by rw [mapM_option_length _ _ _ hR, hl]⟩

theorem tensor_of_node {t : TTN} (h : t.WF) {k : Id} {n : NodeS} (hn : t.N k = some n) :
    ∃ T, dget t.tensors k = some T ∧ T.length = n.perm.length := by
  have hk := h.str.keys k
  rw [TTN.S_eq hn] at hk
  simp only [Option.isSome_some, TTN.hasT, dhas_eq_isSome] at hk
  cases hT : dget t.tensors k with
  | none => rw [hT] at hk; simp at hk
  | some T =>
    refine ⟨T, rfl, ?_⟩
    have hf := h.fit k n T hn hT
    have hw := (h.node k n hn).shp
    rw [← hw, ← hf]
    simp [shapeOf]

theorem logical_some {t : TTN} (h : t.WF) {k : Id} {n : NodeS} (hn : t.N k = some n) :
    ∃ L, t.logical k = some L ∧ L.length = n.perm.length := by
  obtain ⟨T, hT, hTl⟩ := tensor_of_node h hn
  obtain ⟨R, hR, hRl⟩ := transposeT_some_of_perm T n.perm (h.node k n hn).perm hTl.symm
  exact ⟨R, by rw [logical_eq hn hT]; exact hR, by rw [hRl, hTl]⟩

theorem TTN.WF.shows {t : TTN} (h : t.WF) {k : Id} {n : NodeS} (hn : t.N k = some n) :
    ∃ T L, dget t.tensors k = some T ∧ t.logical k = some L ∧ L.length = n.perm.length ∧ Shows n T L := by
  obtain ⟨T, hT, _⟩ := tensor_of_node h hn
  obtain ⟨L, hL, hl⟩ := logical_some h hn
  exact ⟨T, L, hT, hL, hl, by rw [logical_eq hn hT] at hL; exact hL, (h.fit k n T hn hT).symm⟩

theorem neighbours_nodup {t : TTN} (h : t.WF) {k : Id} {n : NodeS} (hn : t.N k = some n) :
    n.neighbours.Nodup := by
  have hS := TTN.S_eq hn
  have hnd := h.str.nodup k _ _ hS
  unfold NodeS.neighbours
  cases hp : n.parent with
  | none => simpa using hnd
  | some p =>
    simp only [Option.toList_some, List.singleton_append, List.nodup_cons]
    refine ⟨fun hm => ?_, hnd⟩
    rw [hp] at hS
    obtain ⟨cch, hc⟩ := h.str.down k _ _ p hS hm
    exact h.str.no_two_cycle hS hc

theorem neighbours_symm {t : TTN} (h : t.WF) {k x : Id} {n : NodeS} (hn : t.N k = some n)
    (hx : x ∈ n.neighbours) : ∃ m, t.N x = some m ∧ k ∈ m.neighbours := by
  have hS := TTN.S_eq hn
  rcases (mem_neighbours n x).mp hx with hp | hc
  · rw [hp] at hS
    obtain ⟨pp, pch, e1, e2⟩ := h.str.up k x _ hS
    obtain ⟨m, hm, e⟩ := TTN.N_of_S e1
    simp at e
    exact ⟨m, hm, (mem_neighbours m k).mpr (Or.inr (e.2 ▸ e2))⟩
  · obtain ⟨cch, e1⟩ := h.str.down k _ _ x hS hc
    obtain ⟨m, hm, e⟩ := TTN.N_of_S e1
    simp at e
    exact ⟨m, hm, (mem_neighbours m k).mpr (Or.inl e.1.symm)⟩

theorem child_node {t : TTN} (h : t.WF) {a b : Id} {A : NodeS} (hA : t.N a = some A) (hb : b ∈ A.children) :
    ∃ B, t.N b = some B ∧ B.parent = some a := by
  obtain ⟨cch, e⟩ := h.str.down a _ _ b (TTN.S_eq hA) hb
  obtain ⟨B, hB, e2⟩ := TTN.N_of_S e
  simp at e2
  exact ⟨B, hB, e2.1.symm⟩

theorem parent_node {t : TTN} (h : t.WF) {a b : Id} {A : NodeS} (hA : t.N a = some A) (hp : A.parent = some b) :
    ∃ B, t.N b = some B ∧ a ∈ B.children := by
  obtain ⟨pp, pch, e, hm⟩ := h.str.up a b A.children (by rw [TTN.S_eq hA, hp])
  obtain ⟨B, hB, e2⟩ := TTN.N_of_S e
  simp at e2
  exact ⟨B, hB, by rw [← e2.2]; exact hm⟩

theorem leg_node {t : TTN} {k x : Id} {ax : Axis} (hl : t.Leg k x ax) :
    ∃ n L, t.N k = some n ∧ t.logical k = some L ∧ (x, ax) ∈ n.neighbours.zip L := by
  unfold TTN.Leg TTN.legPairs at hl
  cases hn : t.N k with
  | none => simp [hn] at hl
  | some n =>
    cases hL : t.logical k with
    | none => simp [hn, hL] at hl
    | some L =>
      simp only [hn, hL] at hl
      exact ⟨n, L, rfl, rfl, hl⟩

theorem leg_exists {t : TTN} (h : t.WF) {k x : Id} {n : NodeS} (hn : t.N k = some n)
    (hx : x ∈ n.neighbours) : ∃ ax, t.Leg k x ax := by
  obtain ⟨L, hL, hLl⟩ := logical_some h hn
  have hv := (h.node k n hn).virt
  obtain ⟨i, hi, rfl⟩ := List.getElem_of_mem hx
  have hi' : i < L.length := by rw [neighbours_length] at hi; omega
  refine ⟨L[i], ?_⟩
  unfold TTN.Leg
  rw [legPairs_eq hn hL]
  have : (n.neighbours.zip L)[i]'(by simp; omega) = (n.neighbours[i], L[i]) := by simp
  rw [← this]
  exact List.getElem_mem _

theorem leg_unique {t : TTN} (h : t.WF) {k x : Id} {a1 a2 : Axis} (h1 : t.Leg k x a1) (h2 : t.Leg k x a2) :
    a1 = a2 := by
  obtain ⟨n, L, e1, e2, e3⟩ := leg_node h1
  have hnd := neighbours_nodup h e1
  unfold TTN.Leg at h2
  rw [legPairs_eq e1 e2] at h2
  obtain ⟨i, hi, ei⟩ := List.getElem_of_mem e3
  obtain ⟨j, hj, ej⟩ := List.getElem_of_mem h2
  simp only [List.getElem_zip, Prod.mk.injEq] at ei ej
  simp only [List.length_zip] at hi hj
  have hij : i = j := (List.getElem_inj hnd).mp (ei.1.trans ej.1.symm)
  subst hij
  exact ei.2.symm.trans ej.2

/-- A node whose array and permutation are untouched and whose neighbour references are renamed by `ρ`
    keeps its legs (renamed) and its open axes. -/
theorem labels_of_neighbours_map {t t' : TTN} {k : Id} {n n' : NodeS} (ρ : Id → Id)
    (hn : t.N k = some n) (hn' : t'.N k = some n') (hperm : n'.perm = n.perm)
    (hnb : n'.neighbours = n.neighbours.map ρ) (hT : dget t'.tensors k = dget t.tensors k) :
    t'.logical k = t.logical k ∧
    t'.legPairs k = (t.legPairs k).map (fun e => (ρ e.1, e.2)) ∧ t'.openAxes k = t.openAxes k := by
  have hlog : t'.logical k = t.logical k := by
    unfold TTN.logical
    have e1 : dget t.nodes k = some n := hn
    have e2 : dget t'.nodes k = some n' := hn'
    simp only [e1, e2, hT, hperm, bind, Option.bind]
  have hnv : n'.nvirt = n.nvirt := by
    rw [← neighbours_length, ← neighbours_length, hnb, List.length_map]
  refine ⟨hlog, ?_, ?_⟩
  · unfold TTN.legPairs
    rw [hlog, hn, hn']
    cases hL : t.logical k with
    | none => simp
    | some L =>
      simp only
      rw [hnb, List.zip_map_left]
      apply List.map_congr_left
      intro e _
      rfl
  · unfold TTN.openAxes
    rw [hlog, hn, hn']
    cases hL : t.logical k with
    | none => rfl
    | some L => simp only [hnv]

theorem map_rho_id (l : List (Id × Axis)) : l.map (fun e => ((id : Id → Id) e.1, e.2)) = l := by
  induction l with
  | nil => rfl
  | cons x l ih => simp

theorem labels_of_same {t t' : TTN} {k : Id} (hN : t'.N k = t.N k)
    (hT : dget t'.tensors k = dget t.tensors k) :
    t'.logical k = t.logical k ∧ t'.legPairs k = t.legPairs k ∧ t'.openAxes k = t.openAxes k := by
  cases hn : t.N k with
  | none =>
    have hn' : t'.N k = none := by rw [hN, hn]
    refine ⟨by rw [logical_none_of_N hn, logical_none_of_N hn'],
      by rw [legPairs_none hn, legPairs_none hn'], by rw [openAxes_none hn, openAxes_none hn']⟩
  | some n =>
    have hn' : t'.N k = some n := by rw [hN, hn]
    obtain ⟨a, b, c⟩ := labels_of_neighbours_map (id : Id → Id) hn hn' rfl (by simp) hT
    exact ⟨a, by rw [b, map_rho_id], c⟩

theorem transposeT_range (T : Tensor) : transposeT T (List.range T.length) = some T :=
  transposeT_of_map _ _ _ List.length_range List.nodup_range (map_getElem?_range _)

theorem transposeT_length {T R : Tensor} {perm : List Nat} (h : transposeT T perm = some R) :
    R.length = perm.length ∧ perm.length = T.length := by
  obtain ⟨hl, -, hm⟩ := transposeT_eq_some.mp h
  exact ⟨mapM_option_length _ _ _ hm, hl⟩

/-- `ttn.tensors[id]` (lazy transposition, permutation reset) leaves every logical tensor, every leg and
    every open axis where it is; the tensor returned is the logical tensor. -/
theorem access_labels {t t1 : TTN} {id : Id} {T : Tensor} (ha : t.access id = some (t1, T)) :
    t.logical id = some T ∧ (∀ k, t1.logical k = t.logical k) ∧
    (∀ k, t1.legPairs k = t.legPairs k) ∧ (∀ k, t1.openAxes k = t.openAxes k) := by
  obtain ⟨n, Ts, e1, e2, e3, ht1⟩ := access_eq ha
  have hn : t.N id = some n := e1
  have hlog : t.logical id = some T := by rw [logical_eq hn e2]; exact e3
  have hTl := (transposeT_length e3).1
  have hN1 : ∀ k, t1.N k = if k = id then some n.resetPermutation else t.N k := by
    intro k; subst ht1; simp [TTN.N, dget_dset]
  have hT1 : ∀ k, dget t1.tensors k = if k = id then some T else dget t.tensors k := by
    intro k; subst ht1; simp [dget_dset]
  -- at `id` the array is stored in logical order with the identity permutation; elsewhere nothing has changed
  have hall : ∀ k, t1.logical k = t.logical k ∧ t1.legPairs k = t.legPairs k ∧ t1.openAxes k = t.openAxes k := by
    intro k
    by_cases hk : k = id
    · subst hk
      have a1 : t1.N k = some n.resetPermutation := by rw [hN1]; simp
      have a2 : dget t1.tensors k = some T := by rw [hT1]; simp
      have a3 : t1.logical k = some T := by
        rw [logical_eq a1 a2]
        simp only [resetPermutation]
        rw [← hTl]
        exact transposeT_range T
      rw [a3, hlog, legPairs_eq a1 a3, legPairs_eq hn hlog, openAxes_eq a1 a3, openAxes_eq hn hlog,
        show n.resetPermutation.nvirt = n.nvirt from nvirt_congr rfl rfl]
      exact ⟨rfl, rfl, rfl⟩
    · exact labels_of_same (by rw [hN1, if_neg hk]) (by rw [hT1, if_neg hk])
  exact ⟨hlog, fun k => (hall k).1, fun k => (hall k).2.1, fun k => (hall k).2.2⟩

theorem transposeT_getElem? {T R : Tensor} {perm : List Nat} (h : transposeT T perm = some R) (i : Nat) :
    R[i]? = (perm[i]?).bind (fun j => T[j]?) :=
  mapM_some_getElem? (transposeT_eq_some.mp h).2.2 i

/-- Storing the logical array with its axes permuted by the inverse of `q`, together with the permutation
    `q`, shows the same logical array. -/
theorem transposeT_inverse {cur newT : Tensor} {q : List Nat} (hq : q.Perm (List.range q.length))
    (hl : q.length = cur.length)
    (hnew : (List.range cur.length).mapM (fun j => cur[q.idxOf j]?) = some newT) :
    transposeT newT q = some cur := by
  have hnd : q.Nodup := hq.symm.nodup List.nodup_range
  have hnl : newT.length = cur.length := by rw [mapM_option_length _ _ _ hnew]; simp
  apply transposeT_of_map _ _ _ (by rw [hl, hnl]) hnd
  apply List.ext_getElem
  · simp [hl]
  · intro i h1 h2
    simp only [List.length_map] at h1 h2
    simp only [List.getElem_map]
    have hqi : q[i] < cur.length := by
      have : q[i] ∈ List.range q.length := hq.mem_iff.mp (List.getElem_mem _)
      rw [List.mem_range] at this; omega
    have hb := mapM_some_getElem? (f := fun j => cur[j]?) (R := newT)
      (l := (List.range cur.length).map (fun j => q.idxOf j)) (by rw [List.mapM_map]; exact hnew) q[i]
    rw [hb]
    simp [hqi, hnd.idxOf_getElem i h1, h2]

theorem logical_shape {t : TTN} (h : t.WF) {k : Id} {n : NodeS} {L : Tensor} (hn : t.N k = some n)
    (hL : t.logical k = some L) : shapeOf L = n.shape := by
  obtain ⟨T, hT, hTl⟩ := tensor_of_node h hn
  rw [logical_eq hn hT] at hL
  have hfit := h.fit k n T hn hT
  have hperm := (h.node k n hn).perm
  apply List.ext_getElem?
  intro i
  have hLi := transposeT_getElem? hL i
  simp only [shapeOf, NodeS.shape, List.getElem?_map, hLi]
  cases hpi : n.perm[i]? with
  | none => simp
  | some j =>
    have hj : j < T.length := by
      have hm : j ∈ n.perm := List.mem_of_getElem? hpi
      have := hperm.mem_iff.mp hm
      rw [List.mem_range] at this
      omega
    simp only [Option.bind_some, Option.map_some, List.getElem?_eq_getElem hj]
    rw [← hfit]
    simp [shapeOf, List.getD_eq_getElem?_getD, List.getElem?_eq_getElem hj]

theorem nlegs_eq {t : TTN} (h : t.WF) {k : Id} {n : NodeS} (hn : t.N k = some n) :
    n.perm.length = n.nvirt + (t.openAxes k).length := by
  obtain ⟨L, hL, hlen⟩ := logical_some h hn
  rw [openAxes_eq hn hL, List.length_drop, hlen]
  exact (Nat.add_sub_of_le (h.node k n hn).virt).symm

/-- Same structure map, and the parent leg of every non-root node has the same dimension in both networks: then every
    virtual leg has.  (With `shape_eq_of_legs` the shape argument of `Ptn/C09/Props.lean`; they stand here because they
    speak of `Leg` and `logical` only.) -/
theorem legs_of_parent_legs {t0 t' : TTN} (h : t0.WF) (hl : t0.LWF) (h' : t'.WF) (hl' : t'.LWF) (hS : t'.S = t0.S)
    (hpar : ∀ c p ch ax0, t0.S c = some (some p, ch) → t0.Leg c p ax0 → ∃ ax, t'.Leg c p ax ∧ ax.dim = ax0.dim) :
    ∀ k x ax, t'.Leg k x ax → ∃ ax0, t0.Leg k x ax0 ∧ ax0.dim = ax.dim := by
  intro k x ax hleg
  obtain ⟨n', L', hn', _, hz⟩ := leg_node hleg
  have hx : x ∈ n'.neighbours := (List.of_mem_zip hz).1
  have hSk : t0.S k = some (n'.parent, n'.children) := by rw [← hS]; exact TTN.S_eq hn'
  obtain ⟨n, hn, en⟩ := TTN.N_of_S hSk
  simp only [Prod.mk.injEq] at en
  rcases (mem_neighbours n' x).mp hx with hp | hc
  · have hSk' : t0.S k = some (some x, n'.children) := by rw [hSk, hp]
    obtain ⟨ax0, h0⟩ := leg_exists h hn (x := x) (by rw [mem_neighbours, ← en.1]; exact Or.inl hp)
    obtain ⟨ax1, h1, hd⟩ := hpar k x _ ax0 hSk' h0
    exact ⟨ax0, h0, by rw [← hd, leg_unique h' h1 hleg]⟩
  · obtain ⟨cch, hSx⟩ := h.str.down k _ _ x hSk hc
    obtain ⟨nx, hnx, enx⟩ := TTN.N_of_S hSx
    simp only [Prod.mk.injEq] at enx
    obtain ⟨ax0, h0⟩ := leg_exists h hnx (x := k) (by rw [mem_neighbours]; exact Or.inl enx.1.symm)
    obtain ⟨ax1, h1, hd⟩ := hpar x k cch ax0 hSx h0
    have h2 := hl'.sym _ _ _ hleg
    exact ⟨ax0, hl.sym _ _ _ h0, by rw [← hd, leg_unique h' h1 h2]⟩

theorem shape_eq_of_legs {t t' : TTN} (h : t.WF) (h' : t'.WF) {k : Id} {n n' : NodeS}
    (hn : t.N k = some n) (hn' : t'.N k = some n') (hp : n'.parent = n.parent) (hc : n'.children = n.children)
    (hlegs : ∀ x ax, t'.Leg k x ax → ∃ ax0, t.Leg k x ax0 ∧ ax0.dim = ax.dim)
    (hopen : t'.openAxes k = t.openAxes k) : n'.shape = n.shape := by
  obtain ⟨L, hL, hLl⟩ := logical_some h hn
  obtain ⟨L', hL', hLl'⟩ := logical_some h' hn'
  rw [← logical_shape h hn hL, ← logical_shape h' hn' hL']
  have hnb : n'.neighbours = n.neighbours := by simp [NodeS.neighbours, hp, hc]
  have hv : n'.nvirt = n.nvirt := by rw [← neighbours_length, ← neighbours_length, hnb]
  have ho : L'.drop n.nvirt = L.drop n.nvirt := by
    rw [openAxes_eq hn hL, openAxes_eq hn' hL', hv] at hopen
    exact hopen
  have hvl : n.nvirt ≤ L.length := by rw [hLl]; exact (h.node k n hn).virt
  have hvl' : n.nvirt ≤ L'.length := by rw [hLl', ← hv]; exact (h'.node k n' hn').virt
  apply List.ext_getElem?
  intro i
  simp only [shapeOf, List.getElem?_map]
  by_cases hi : i < n.nvirt
  · -- a virtual leg: the `i`-th neighbour is the same, the leg towards it is unique
    have hiL : i < L.length := Nat.lt_of_lt_of_le hi hvl
    have hiL' : i < L'.length := Nat.lt_of_lt_of_le hi hvl'
    have hin : i < n.neighbours.length := by rw [neighbours_length]; exact hi
    have m' : t'.Leg k n.neighbours[i] L'[i] := by
      unfold TTN.Leg
      rw [legPairs_eq hn' hL', hnb]
      exact List.mem_iff_getElem.mpr ⟨i, by rw [List.length_zip]; exact Nat.lt_min.mpr ⟨hin, hiL'⟩, by simp⟩
    have m : t.Leg k n.neighbours[i] L[i] := by
      unfold TTN.Leg
      rw [legPairs_eq hn hL]
      exact List.mem_iff_getElem.mpr ⟨i, by rw [List.length_zip]; exact Nat.lt_min.mpr ⟨hin, hiL⟩, by simp⟩
    obtain ⟨ax0, hl0, hd⟩ := hlegs _ _ m'
    have := leg_unique h hl0 m
    rw [List.getElem?_eq_getElem hiL, List.getElem?_eq_getElem hiL', Option.map_some, Option.map_some, ← hd, this]
  · obtain ⟨j, rfl⟩ := Nat.exists_eq_add_of_le (Nat.le_of_not_lt hi)
    rw [← List.getElem?_drop, ← List.getElem?_drop, ho]

end Ptn.C02
