import Ptn.C02.Lemmas
/-! What the node methods do to a permutation written in segments `P ++ C ++ O`. -/
namespace Ptn.C02

theorem mapM_getElem?_eq {it p sh : List Nat} (h : p.mapM (fun i => it[i]?) = some sh) :
    sh = p.map (fun i => it.getD i 0) := by
  induction p generalizing sh with
  | nil => simp at h; subst h; rfl
  | cons a p ih =>
    obtain ⟨b, r, ha, hp, rfl⟩ := (mapM_cons_eq_some _ _ _ _).mp h
    simp [ih hp, ha]

theorem sliceInsert_append_len (X Y V : List Nat) : sliceInsert (X ++ Y) X.length V = X ++ V ++ Y := by
  simp [sliceInsert]

namespace NodeS

theorem openLegChecks_of {s : NodeS} {k : Nat} (h1 : s.nvirt < s.perm.length) (h2 : s.nvirt ≤ k) :
    s.openLegChecks k = true := by
  unfold openLegChecks nlegs
  have : ¬ s.perm.length = s.nvirt := by omega
  have h3 : ¬ k < s.nvirt := by omega
  simp [this, h3]

theorem foldl_erase_eq_filter (vs : List Nat) : ∀ B : List Nat, B.Nodup →
    vs.foldl List.erase B = B.filter (fun x => !vs.contains x) := by
  induction vs with
  | nil => intro B _; exact (List.filter_eq_self.mpr fun _ _ => rfl).symm
  | cons v vs ih =>
    intro B hB
    rw [List.foldl_cons, ih _ (hB.erase v), hB.erase_eq_filter v, List.filter_filter]
    refine List.filter_congr fun x _ => ?_
    rw [List.contains_cons, Bool.not_or, Bool.and_comm]
    rfl

/-- The loop of `open_legs_to_children`: the legs `vals` names, wherever they stand among the open legs `B`, move in
    the order of `vals` behind the virtual legs `A`; the other open legs keep their order. -/
theorem o2cs_fold_move (nn : Nat) (vals : List (Id × Nat × Nat)) :
    ∀ (st : NodeS) (A B : List Nat), st.perm = A ++ B → A.length = st.nvirt →
      (∀ e ∈ vals, nn ≤ e.2.1) → (∀ x ∈ vals.map (·.2.2), x ∉ A) → (∀ x ∈ vals.map (·.2.2), x ∈ B) →
      (vals.map (·.2.2)).Nodup →
      vals.foldlM (o2csStep nn) st =
        some { st with perm := A ++ (vals.map (·.2.2) ++ (vals.map (·.2.2)).foldl List.erase B),
                       children := st.children ++ vals.map (·.1) } := by
  induction vals with
  | nil =>
    intro st A B hst _ _ _ _ _
    cases st
    simp_all
  | cons e vals ih =>
    intro st A B hst hA hk hXA hXB hnd
    obtain ⟨c, k, v⟩ := e
    simp only [List.map_cons, List.nodup_cons, List.forall_mem_cons] at hk hXA hXB hnd
    have hstep : o2csStep nn st (c, k, v) =
        some { st with perm := (A ++ [v]) ++ B.erase v, children := st.children ++ [c] } := by
      have hmem : v ∈ st.perm := hst ▸ List.mem_append_right A hXB.1
      simp only [o2csStep, Nat.not_lt.2 hk.1, if_false, hmem, not_true_eq_false]
      rw [hst, List.erase_append_right _ hXA.1, ← hA, pyInsert_append_len, List.append_assoc]
      rfl
    -- a later value is not `v`: it is still among the open legs and not among the virtual ones
    have hne : ∀ x ∈ vals.map (·.2.2), x ≠ v := fun x hx e => hnd.1 (e ▸ hx)
    rw [List.foldlM_cons, hstep, Option.bind_eq_bind, Option.bind_some,
      ih _ (A ++ [v]) (B.erase v) rfl _ hk.2
        (fun x hx => by simpa using ⟨hXA.2 x hx, hne x hx⟩)
        (fun x hx => (List.mem_erase_of_ne (hne x hx)).2 (hXB.2 x hx)) hnd.2]
    · simp
    · simp only [nvirt_def, nparents, List.length_append, List.length_cons, List.length_nil] at hA ⊢
      omega

theorem o2cs_fold_spec (nn : Nat) (vals : List (Id × Nat × Nat)) (st : NodeS) (A B : List Nat)
    (hst : st.perm = A ++ B) (hA : A.length = st.nvirt) (hnd : (A ++ B).Nodup)
    (hk : ∀ e ∈ vals, nn ≤ e.2.1) (hv : ∀ e ∈ vals, e.2.2 ∈ B)
    (hvd : (vals.map (·.2.2)).Nodup) :
    vals.foldlM (o2csStep nn) st =
      some { st with perm := A ++ vals.map (·.2.2) ++ B.filter (fun x => !(vals.map (·.2.2)).contains x),
                     children := st.children ++ vals.map (·.1) } := by
  obtain ⟨-, hB, hdisj⟩ := List.nodup_append.mp hnd
  have hvB : ∀ x ∈ vals.map (·.2.2), x ∈ B := fun x hx => by
    obtain ⟨e, he, rfl⟩ := List.mem_map.mp hx
    exact hv e he
  rw [o2cs_fold_move nn vals st A B hst hA hk (fun x hx hxA => hdisj x hxA x (hvB x hx) rfl) hvB hvd,
    foldl_erase_eq_filter _ B hB, List.append_assoc]

theorem o2cs_read_spec (perm : List Nat) (d : List (Id × Nat)) (vs : List Nat)
    (h : d.map (fun e => perm[e.2]?) = vs.map some) :
    d.mapM (fun (e : Id × Nat) => (perm[e.2]?).map (fun v => (e.1, e.2, v))) =
      some ((d.zip vs).map (fun t => (t.1.1, t.1.2, t.2))) := by
  induction d generalizing vs with
  | nil => simp
  | cons e d ih =>
    cases vs with
    | nil => simp at h
    | cons v vs =>
      simp only [List.map_cons, List.cons.injEq] at h
      rw [List.mapM_cons, h.1, ih vs h.2]
      simp

end NodeS

end Ptn.C02
