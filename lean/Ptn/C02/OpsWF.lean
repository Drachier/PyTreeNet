import Ptn.C02.BuildWF
import Ptn.C02.ContractWF
import Ptn.C02.SplitWF
import Ptn.C02.RenameWF
import Ptn.C02.IdentWF
/-! Admissible operations (`TOp.Adm`) and runs (`TRun`) of the TTN model; every admissible step, hence every run, keeps
the network well-formed (`addRoot_wf`, `contractNodes_wf`, … : one theorem per operation). -/
namespace Ptn.C02

/-- Admissibility of one operation in the state `t` (what the documentation asks of the caller):
    * `root`: the network is empty;  `child`: nothing beyond what the code checks itself;
    * `access`: nothing;
    * `contract a b new`: the new identifier is `a`, `b`, or unused;
    * `split`: `SplitAdm` (children partitioned, exactly one side takes the parent / the root flag,
      identifiers = the old one or unused);
    * `ident c p new` (insert_identity): `new` unused;
    * `rename new old`: `new = old` or unused;
    * `rtp` (replace_tensor with a permutation): the permutation is a permutation. -/
def TOp.Adm (t : TTN) : TOp → Prop
  | .root _ _ => t.nodes = [] ∧ t.tensors = []
  | .child _ _ _ _ _ => True
  | .access _ => True
  | .contract a b n => n = a ∨ n = b ∨ t.N n = none
  | .split id o i oid iid _ => ∃ X, SplitAdm t id X o i oid iid
  | .ident _ _ n => t.N n = none
  | .rename n o => n = o ∨ t.N n = none
  | .rtp _ p => ∀ q, p = some q → q.Perm (List.range q.length)

/-- Runs: every operation is admissible in the state it is applied to, and succeeds. -/
inductive TRun : TTN → List TOp → TTN → Prop
  | nil (t : TTN) : TRun t [] t
  | cons {t t1 t' : TTN} {op : TOp} {ops : List TOp} :
      op.Adm t → t.step op = some t1 → TRun t1 ops t' → TRun t (op :: ops) t'

theorem step_access {t t1 : TTN} {id : Id} {T : Tensor} (ha : t.access id = some (t1, T)) :
    t.step (.access id) = some t1 := by
  show (t.access id).map (·.1) = some t1
  rw [ha]; rfl

theorem step_access_eq {t t1 : TTN} {id : Id} (hs : t.step (.access id) = some t1) :
    ∃ T, t.access id = some (t1, T) := by
  simp only [TTN.step] at hs
  cases ha : t.access id with
  | none => simp [ha] at hs
  | some r =>
    obtain ⟨t1', T⟩ := r
    simp [ha] at hs
    subst hs
    exact ⟨T, rfl⟩

theorem TRun.cons_inv {t t' : TTN} {op : TOp} {ops : List TOp} (h : TRun t (op :: ops) t') :
    ∃ t1, op.Adm t ∧ t.step op = some t1 ∧ TRun t1 ops t' := by
  cases h with
  | cons hadm hs hr => exact ⟨_, hadm, hs, hr⟩

theorem TRun.nil_inv {t t' : TTN} (h : TRun t [] t') : t' = t := by
  cases h; rfl

theorem TRun.append {t t1 t2 : TTN} {A B : List TOp} (h1 : TRun t A t1) (h2 : TRun t1 B t2) : TRun t (A ++ B) t2 := by
  induction h1 with
  | nil => exact h2
  | cons adm st _ ih => exact .cons adm st (ih h2)

theorem TRun.append_inv {t t' : TTN} : ∀ {A B : List TOp}, TRun t (A ++ B) t' → ∃ tm, TRun t A tm ∧ TRun tm B t' := by
  intro A
  induction A generalizing t with
  | nil => exact fun h => ⟨t, .nil _, h⟩
  | cons a A ih =>
    intro B h
    obtain ⟨t1, adm, st, h⟩ := h.cons_inv
    obtain ⟨tm, h1, h2⟩ := ih h
    exact ⟨tm, .cons adm st h1, h2⟩

theorem step_wf {t t' : TTN} (h : t.WF) (op : TOp) (hadm : op.Adm t) (hs : t.step op = some t') : t'.WF := by
  cases op with
  | root id T => exact addRoot_wf hadm.1 hadm.2 hs
  | child id T cl pid pl => exact addChildToParent_wf h hs
  | access id =>
    obtain ⟨T, ha⟩ := step_access_eq hs
    exact access_wf h ha
  | contract a b n => exact contractNodes_wf h hadm hs
  | split id o i oid iid bd =>
    obtain ⟨X, hX⟩ := hadm
    exact splitNodes_wf h hX hs
  | ident c p n => exact insertIdentity_wf h hadm hs
  | rename n o => exact changeNodeIdentifier_wf h hadm hs
  | rtp id p => exact replaceTensorPermuted_wf h hadm hs

theorem run_wf {t t' : TTN} {ops : List TOp} (h : t.WF) (hr : TRun t ops t') : t'.WF := by
  induction hr with
  | nil => exact h
  | cons hadm hs _ ih => exact ih (step_wf h _ hadm hs)

/-- Networks built from nothing: `add_root` first, then anything admissible. -/
theorem built_wf {t' : TTN} {id : Id} {T : Tensor} {ops : List TOp}
    (hr : TRun TTN.empty (.root id T :: ops) t') : t'.WF := by
  cases hr with
  | cons hadm hs hrest =>
    exact run_wf (addRoot_wf hadm.1 hadm.2 hs) hrest

end Ptn.C02
