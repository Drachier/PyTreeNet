import Ptn.C02.ContractLabels
import Ptn.C02.SplitLabels
import Ptn.C02.MoreLabels
/-! Where a virtual leg goes under the primitive edits of the C02 structural model, in "push forward" form
(`t.Leg k x ax → t'.Leg k (ρ x) ax`): the axis (label AND dimension) of a leg of a bystander is unchanged, only the
name of the neighbour is renamed.  Consequences of `access_labels`, `contract_legs` and the edge
correspondences `ident_edges` (`MoreLabels.lean`), `contract_edges` (`ContractLabels.lean`), `split_edges`
(`SplitLabels.lean`), instances of `EdgeCorr` (`EdgeCorr.lean`).  The names are in `Ptn.C10`, where the bond bound of the
truncation uses them. -/
namespace Ptn.C10
open Ptn.C02

theorem leg_target_isNode {t : TTN} (h : t.WF) {k x : Id} {ax : Axis} (hl : t.Leg k x ax) : t.N x ≠ none := by
  obtain ⟨n, L, hn, _, hm⟩ := leg_node hl
  obtain ⟨m, hm', _⟩ := neighbours_symm h hn (List.of_mem_zip hm).1
  rw [hm']; simp

theorem access_push {t t1 : TTN} {id : Id} {T : Tensor} (ha : t.access id = some (t1, T)) {k x : Id} {ax : Axis}
    (hl : t.Leg k x ax) : t1.Leg k x ax := by
  obtain ⟨_, _, lp, _⟩ := access_labels ha
  unfold TTN.Leg at hl ⊢
  rw [lp k]; exact hl

theorem ident_push {t t' : TTN} {cid pid new : Id} (h : t.WF) (hnew : t.N new = none)
    (hs : t.insertIdentity cid pid new = some t') {k x : Id} {ax : Axis} (hl : t.Leg k x ax)
    (hne : ¬ ((k = cid ∧ x = pid) ∨ (k = pid ∧ x = cid))) : t'.Leg k x ax :=
  (ident_edges h hnew hs).push k x ax hl (not_or.1 hne)

theorem contract_push_other {t t' : TTN} {id1 id2 new : Id} (h : t.WF)
    (hnew : new = id1 ∨ new = id2 ∨ t.N new = none) (hc : t.contractNodes id1 id2 new = some t')
    {k x : Id} {ax : Axis} (hl : t.Leg k x ax) (h1 : k ≠ id1) (h2 : k ≠ id2) :
    t'.Leg k (if x = id1 ∨ x = id2 then new else x) ax := by
  have := (contract_edges h hnew hc).push k x ax hl (offEdge_of_ne h1 h2)
  rwa [contrRho_ne h1 h2] at this

theorem contract_push_new {t t' : TTN} {id1 id2 new : Id} (h : t.WF)
    (hnew : new = id1 ∨ new = id2 ∨ t.N new = none) (hc : t.contractNodes id1 id2 new = some t')
    {x : Id} {ax : Axis} (hl : (t.Leg id1 x ax ∧ x ≠ id2) ∨ (t.Leg id2 x ax ∧ x ≠ id1)) :
    t'.Leg new x ax :=
  ((contract_legs h hnew hc).2.2.2.1 x ax).2 hl

theorem split_push_fresh {t t' : TTN} {id : Id} {X : NodeS} {outL inL : TTN.LegSpec} {outId inId : Id}
    {bd : Nat} (h : t.WF) (adm : SplitAdm t id X outL inL outId inId)
    (hs : t.splitNodes id outL inL outId inId bd = some t') :
    t'.Leg outId inId ⟨t.nextLabel, bd⟩ ∧ t'.Leg inId outId ⟨t.nextLabel, bd⟩ :=
  ⟨(split_edges h adm hs).made _ _ _ ⟨Or.inl ⟨rfl, rfl⟩, rfl⟩, (split_edges h adm hs).made _ _ _ ⟨Or.inr ⟨rfl, rfl⟩, rfl⟩⟩

theorem split_push_other {t t' : TTN} {id : Id} {X : NodeS} {outL inL : TTN.LegSpec} {outId inId : Id}
    {bd : Nat} (h : t.WF) (adm : SplitAdm t id X outL inL outId inId)
    (hs : t.splitNodes id outL inL outId inId bd = some t') {k x : Id} {ax : Axis}
    (hl : t.Leg k x ax) (hk : k ≠ id) (hx : x ≠ id) : t'.Leg k x ax := by
  have := (split_edges h adm hs).push k x ax hl trivial
  rwa [splitSide_ne hk, splitSide_ne hx] at this

end Ptn.C10
