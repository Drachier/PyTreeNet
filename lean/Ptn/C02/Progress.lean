import Ptn.C02.ContractWF
import Ptn.C02.SplitSpec
import Ptn.C02.SplitWF
/-! Progress: on a well-formed network an access, `contract_nodes` of two adjacent nodes (this one needs the label
invariant too: it makes the two contracted dimensions agree) and `split_nodes` with admissible arguments never take an
exception branch – the model call returns `some`; so does `replace_tensor` with the node's own axes under any
permutation of its legs (`rtp_progress`).  `_raw`: without well-formedness, from the facts about the one record. -/
namespace Ptn.C02
open NodeS

theorem access_some_raw {t : TTN} {id : Id} {n : NodeS} {Ts : Tensor} (hn : dget t.nodes id = some n)
    (hT : dget t.tensors id = some Ts) (hp : n.perm.Perm (List.range n.perm.length))
    (hl : n.perm.length = Ts.length) : ∃ t1 T, t.access id = some (t1, T) := by
  obtain ⟨R, hR, _⟩ := transposeT_some_of_perm Ts n.perm hp hl
  unfold TTN.access
  simp only [hn, hT, hR, bind, Option.bind]
  exact ⟨_, _, rfl⟩

theorem access_some {t : TTN} (h : t.WF) {id : Id} {n : NodeS} (hn : t.N id = some n) :
    ∃ t1 T, t.access id = some (t1, T) := by
  obtain ⟨Ts, hT, hTl⟩ := tensor_of_node h hn
  exact access_some_raw hn hT (h.node id n hn).perm hTl.symm

theorem tensorsPop_some_raw {t : TTN} {id : Id} {n : NodeS} {Ts : Tensor} (hn : dget t.nodes id = some n)
    (hT : dget t.tensors id = some Ts) (hp : n.perm.Perm (List.range n.perm.length))
    (hl : n.perm.length = Ts.length) : ∃ t', t.tensorsPop id = some t' := by
  obtain ⟨t1, T, ha⟩ := access_some_raw hn hT hp hl
  obtain ⟨n', Ts', e1, e2, e3, rfl⟩ := access_eq ha
  unfold TTN.tensorsPop
  simp only [ha, bind, Option.bind]
  have : dhas (dset t.tensors id T) id = true := by simp [dhas_dset]
  obtain ⟨d', hd', _⟩ := dpop_of_has _ _ this
  rw [hd']
  exact ⟨_, rfl⟩

theorem reparent_fold_some (new : Id) (cs : List Id) (ns : List (Id × NodeS))
    (hex : ∀ c ∈ cs, c ≠ new → (dget ns c).isSome = true) :
    ∃ ns', cs.foldlM (fun (ns : List (Id × NodeS)) c =>
      if c ≠ new then do
        let cn ← dget ns c
        some (dset ns c { cn with parent := some new })
      else some ns) ns = some ns' := by
  induction cs generalizing ns with
  | nil => exact ⟨ns, rfl⟩
  | cons c cs ih =>
    rw [List.foldlM_cons]
    by_cases hc : c = new
    · rw [if_neg (fun h => h hc)]
      exact ih ns (fun c' hc' hne => hex c' (List.mem_cons_of_mem _ hc') hne)
    · obtain ⟨cn, hcn⟩ := Option.isSome_iff_exists.mp (hex c List.mem_cons_self hc)
      rw [if_pos hc, hcn]
      apply ih
      intro c' hc' hne
      rw [dget_dset]
      split
      · rfl
      · exact hex c' (List.mem_cons_of_mem _ hc') hne

/-- Sufficient conditions for `replace_node_in_neighbours(new, old)` to succeed. -/
theorem rnin_some {t : TTN} {new old : Id} {delOld : Bool} {O : NodeS} (hO : t.N old = some O)
    (hch : ∀ c ∈ O.children, c ≠ new → (t.N c).isSome = true)
    (hpar : ∀ p, O.parent = some p → p ≠ new → p ∉ O.children ∧ ∃ pn, t.N p = some pn ∧ old ∈ pn.children) :
    ∃ t', t.replaceNodeInNeighbours new old delOld = some t' := by
  unfold TTN.replaceNodeInNeighbours
  by_cases hne : new = old
  · exact ⟨t, if_pos hne⟩
  · have hO' : dget t.nodes old = some O := hO
    obtain ⟨nodes1, hf⟩ := reparent_fold_some new O.children t.nodes hch
    have hfe := reparent_fold_eq new O.children t.nodes nodes1 hf
    have hold1 : dhas nodes1 old = true := by
      rw [dhas_eq_isSome, hfe old, hO']
      split
      · rfl
      · rfl
    -- the last step succeeds as long as `old` is still a key
    have htail : ∀ nodes2 root2, dhas nodes2 old = true →
        ∃ t', (if delOld = true then
            (dpop nodes2 old).bind fun nodes3 => some ({ t with nodes := nodes3, root := root2 } : TTN)
          else some { t with nodes := nodes2, root := root2 }) = some t' := by
      intro nodes2 root2 hh
      cases delOld with
      | false => exact ⟨_, rfl⟩
      | true =>
        obtain ⟨d', hd', _⟩ := dpop_of_has _ _ hh
        exact ⟨_, by rw [if_pos rfl, hd']; rfl⟩
    rw [if_neg hne, hO', Option.bind_eq_bind, Option.bind_some, Option.bind_eq_bind, hf, Option.bind_some]
    cases hp : O.parent with
    | none => exact htail nodes1 (some new) hold1
    | some p =>
      dsimp only
      by_cases hpn : p = new
      · rw [if_neg (fun h => h hpn)]
        exact htail nodes1 t.root hold1
      · obtain ⟨hpc, pn, hpn', hmem⟩ := hpar p hp hpn
        have hp1 : dget nodes1 p = some pn := by
          rw [hfe p, if_neg (fun h => hpc h.1)]; exact hpn'
        obtain ⟨pn', hrc⟩ := replaceChild_some pn old new hmem
        rw [if_pos hpn, hp1, Option.bind_some, hrc]
        exact htail (dset nodes1 p pn') t.root (by rw [dhas_dset, hold1, Bool.or_true])

/-- On a well-formed, label-consistent network `_data_contraction(parent, child, new)` succeeds: both arrays
    exist and can be transposed, the child is a neighbour of the parent, and the two ends of the bond have the
    same dimension (this is where the label invariant is needed). -/
theorem dataContraction_some {t : TTN} (h : t.WF) (hl : t.LWF) {pid cid new : Id} {P C : NodeS}
    (hP : t.N pid = some P) (hC : t.N cid = some C) (hCp : C.parent = some pid) :
    ∃ tD newT, t.dataContraction pid cid new = some (tD, newT) := by
  have hSC : t.S cid = some (some pid, C.children) := by rw [TTN.S_eq hC, hCp]
  have hpc : pid ≠ cid := h.str.parent_ne hSC
  have hcp : cid ≠ pid := fun e => hpc e.symm
  obtain ⟨hgc, _, K1, K2, hK, _, _, _⟩ := edge_children h hP hC hCp
  have hcidP : cid ∈ P.children := by rw [hK]; simp
  obtain ⟨t1, LP, ha1⟩ := access_some h hP
  have w1 := access_wf h ha1
  obtain ⟨nP, TsP, e1, _, _, ht1⟩ := access_eq ha1
  obtain rfl : P = nP := Option.some.inj (hP.symm.trans e1)
  have hC1 : t1.N cid = some C := by
    subst ht1; simp only [TTN.N, dget_dset, hcp, if_false]; exact hC
  obtain ⟨t2, LC, ha2⟩ := access_some w1 hC1
  have w2 := access_wf w1 ha2
  obtain ⟨nC, TsC, _, _, _, ht2⟩ := access_eq ha2
  -- both ends of the bond carry the same axis (the label invariant is symmetric), so `tensordot1` accepts them
  have hidx : P.neighbourIndex cid = some (P.children.idxOf cid + P.nparents) := by
    unfold neighbourIndex; simp [hgc, hcidP]
  have hlogP : t.logical pid = some LP := (access_labels ha1).1
  have hlogC : t.logical cid = some LC := by
    rw [← (access_labels ha1).2.1 cid]; exact (access_labels ha2).1
  obtain ⟨ax, hax⟩ := leg_exists h hC ((mem_neighbours C pid).mpr (Or.inl hCp))
  have hax' := hl.sym _ _ _ hax
  have hLPi : LP[P.children.idxOf cid + P.nparents]? = some ax := by
    simpa [legAx, hidx] using (h.leg_iff hP hlogP ..).mp hax'
  have hLC0 : LC[0]? = some ax := by
    have : C.neighbourIndex pid = some 0 := by unfold neighbourIndex; simp [hCp]
    simpa [legAx, this] using (h.leg_iff hC hlogC ..).mp hax
  obtain ⟨newT, htd⟩ : ∃ newT, tensordot1 LP LC (P.children.idxOf cid + P.nparents) 0 = some newT :=
    ⟨_, tensordot1_eq_some.mpr ⟨ax, ax, hLPi, hLC0, rfl, rfl⟩⟩
  have hP2 : t2.N pid = some P.resetPermutation := by
    subst ht2 ht1; simp [TTN.N, dget_dset, hpc]
  obtain ⟨TsP2, hT2, hT2l⟩ := tensor_of_node w2 hP2
  obtain ⟨t3, hpop1⟩ := tensorsPop_some_raw hP2 hT2 (w2.node pid _ hP2).perm hT2l.symm
  obtain ⟨n3, Ts3, T3, ts3, _, _, _, g4, ht3⟩ := tensorsPop_eq hpop1
  have hC2 : t2.N cid = some nC.resetPermutation := by subst ht2; simp [TTN.N, dget_dset]
  obtain ⟨TsC2, hTC2, hTC2l⟩ := tensor_of_node w2 hC2
  have hC3 : dget t3.nodes cid = some nC.resetPermutation := by
    subst ht3; simp only [dget_dset, hcp, if_false]; exact hC2
  have hTC3 : dget t3.tensors cid = some TsC2 := by
    subst ht3
    obtain ⟨_, q⟩ := dpop_eq_some _ _ _ g4
    simp only [q cid, hcp, if_false, dget_dset]
    exact hTC2
  obtain ⟨t4, hpop2⟩ := tensorsPop_some_raw hC3 hTC3 (w2.node cid _ hC2).perm hTC2l.symm
  unfold TTN.dataContraction
  have hP' : dget t.nodes pid = some P := hP
  simp only [hP', ha1, ha2, hidx, htd, hpop1, hpop2, bind, Option.bind]
  exact ⟨_, _, rfl⟩

/-- Admissibility of `contract_nodes(id1, id2, new)` as a computable test on the state: the two nodes exist
    and are adjacent, the new identifier is one of the two or unused. -/
def contractAdmB (t : TTN) (id1 id2 new : Id) : Bool :=
  match dget t.nodes id1, dget t.nodes id2 with
  | some n1, some n2 =>
    (n2.parent == some id1 || n1.parent == some id2) &&
      (new == id1 || new == id2 || (dget t.nodes new).isNone)
  | _, _ => false

theorem contractAdmB_iff (t : TTN) (id1 id2 new : Id) :
    contractAdmB t id1 id2 new = true ↔
      (∃ n1 n2, t.N id1 = some n1 ∧ t.N id2 = some n2 ∧ (n2.parent = some id1 ∨ n1.parent = some id2)) ∧
      (new = id1 ∨ new = id2 ∨ t.N new = none) := by
  unfold contractAdmB TTN.N
  cases h1 : dget t.nodes id1 with
  | none => simp
  | some n1 =>
    cases h2 : dget t.nodes id2 with
    | none => simp
    | some n2 =>
      simp only [Bool.and_eq_true, Bool.or_eq_true, beq_iff_eq, Option.isNone_iff_eq_none,
        Option.some.injEq, exists_and_left, exists_eq_left', or_assoc]

/-- **Progress for `contract_nodes`**: on a well-formed, label-consistent network, contracting two adjacent
    nodes into an admissible identifier returns a network (no exception branch is taken). -/
theorem contract_nodes_progress {t : TTN} (h : t.WF) (hl : t.LWF) {id1 id2 new : Id}
    (hadm : contractAdmB t id1 id2 new = true) : ∃ t', t.contractNodes id1 id2 new = some t' := by
  obtain ⟨⟨n1, n2, hn1, hn2, hadj⟩, _⟩ := (contractAdmB_iff t id1 id2 new).mp hadm
  obtain ⟨pid, cid, P, C, hP, hC, hCp, hdp⟩ : ∃ pid cid P C, t.N pid = some P ∧ t.N cid = some C ∧
      C.parent = some pid ∧ t.determineParentage id1 id2 = some (pid, cid) := by
    have h1' : dget t.nodes id1 = some n1 := hn1
    have h2' : dget t.nodes id2 = some n2 := hn2
    by_cases hq : n2.parent = some id1
    · exact ⟨id1, id2, n1, n2, hn1, hn2, hq, by
        simp [TTN.determineParentage, h1', h2', hq, bind, Option.bind]⟩
    · have hq' : n1.parent = some id2 := hadj.resolve_left hq
      exact ⟨id2, id1, n2, n1, hn2, hn1, hq', by
        simp [TTN.determineParentage, h1', h2', hq, hq', bind, Option.bind]⟩
  have hSP := TTN.S_eq hP
  have hSC : t.S cid = some (some pid, C.children) := by rw [TTN.S_eq hC, hCp]
  have hpc : pid ≠ cid := h.str.parent_ne hSC
  obtain ⟨hgc, hpC, _⟩ := edge_children h hP hC hCp
  obtain ⟨tD, newT, hdc⟩ := dataContraction_some (new := new) h hl hP hC hCp
  obtain ⟨P', C', TsP, TsC, LP, LC, idx, D⟩ := dataContraction_eq hpc hdc
  obtain rfl : P = P' := Option.some.inj (hP.symm.trans D.nodeP)
  obtain rfl : C = C' := Option.some.inj (hC.symm.trans D.nodeC)
  have hPD : tD.N pid = some P.resetPermutation := by rw [D.N, if_neg hpc, if_pos rfl]
  have hCD : tD.N cid = some C.resetPermutation := by rw [D.N, if_pos rfl]
  obtain ⟨nn, _, hcc, _⟩ := contracted_node_legs (id1 := id1) h hP hC hCp hPD hCD
    (transposeT_length D.showsP).1 (transposeT_length D.showsC).1 D.index D.dot
  have hDk : ∀ k, k ≠ pid → k ≠ cid → tD.N k = t.N k := by
    intro k h1 h2; rw [D.N]; simp [h1, h2]
  have hexD : ∀ k, (t.N k).isSome = true → (tD.N k).isSome = true := by
    intro k hk
    rw [D.N]
    by_cases h1 : k = cid
    · simp [h1]
    · by_cases h2 : k = pid
      · simp [h2, hpc]
      · simp [h1, h2, hk]
  have hchildC : ∀ c ∈ C.children, (t.N c).isSome = true ∧ c ≠ pid ∧ c ≠ cid := by
    intro c hc
    obtain ⟨m, hm, hmp⟩ := child_node h hC hc
    refine ⟨by rw [hm]; rfl, fun e' => ?_, fun e' => h.str.parent_ne (by rw [TTN.S_eq hm, hmp]) e'.symm⟩
    rw [e', hP] at hm
    cases hm
    exact hgc hmp
  have hr1 : ∃ t2, tD.replaceNodeInNeighbours new pid = some t2 := by
    apply rnin_some hPD
    · intro c hc _
      obtain ⟨m, hm, _⟩ := child_node h hP hc
      exact hexD c (by rw [hm]; rfl)
    · intro p hp _
      have hp' : P.parent = some p := hp
      obtain ⟨pn, hpn, _⟩ := neighbours_symm h hP ((mem_neighbours P p).mpr (Or.inl hp'))
      obtain ⟨_, hpP, K1', K2', hK', _⟩ := edge_children h hpn hP hp'
      have hpp : p ≠ pid := h.str.parent_ne (by rw [hSP, hp'])
      have hpcid : p ≠ cid := fun e => hgc (by rw [hp', e])
      exact ⟨hpP, pn, by rw [hDk p hpp hpcid]; exact hpn, by rw [hK']; simp⟩
  obtain ⟨t2, hr1⟩ := hr1
  have hr2 : ∃ t3, t2.replaceNodeInNeighbours new cid = some t3 := by
    by_cases e1 : new = pid
    · -- nothing happened in the first call
      subst e1
      rw [rnin_self] at hr1
      obtain rfl := Option.some.inj hr1
      apply rnin_some hCD
      · intro c hc _
        exact hexD c (hchildC c hc).1
      · intro p hp hne
        exact absurd (Option.some.inj (hp.symm.trans hCp)) hne
    · obtain ⟨hN2, _⟩ := contract_rewire_fst h hP hC hCp D.N D.root hr1
      by_cases e2 : new = cid
      · subst e2; exact ⟨t2, rnin_self t2 new _⟩
      · have hcn : cid ≠ new := fun e => e2 e.symm
        -- the record of `cid` after the first call: same children, its parent already reads `new`
        have ht2cid : t2.N cid = some (renNode (renRho pid new) C.resetPermutation) := by
          rw [hN2 cid hcn, if_neg hpc.symm, hCD]; rfl
        have hO2c : (renNode (renRho pid new) C.resetPermutation).children = C.children :=
          map_ite_not_mem C.children pid new hpC
        apply rnin_some ht2cid
        · intro c hc hcnew
          rw [hO2c] at hc
          obtain ⟨hex, hcp', _⟩ := hchildC c hc
          rw [hN2 c hcnew, if_neg hcp', Option.isSome_map]
          exact hexD c hex
        · intro p hp hne
          rw [renNode_parent, show C.resetPermutation.parent = some pid from hCp, Option.map_some, renRho,
            if_pos rfl] at hp
          exact absurd (Option.some.inj hp).symm hne
  obtain ⟨t3, hr2⟩ := hr2
  exact ⟨_, contractNodes_eq_some.mpr ⟨pid, cid, hdp, tD, newT, hdc, nn, hcc, t2, hr1, t3, hr2, rfl⟩⟩

theorem findLegValues_some {ls : TTN.LegSpec} {node : NodeS}
    (h : ∀ c ∈ ls.childLegs, (node.neighbourIndex c).isSome = true) :
    ∃ vals, ls.findLegValues node = some vals := by
  have : ∃ cv, ls.childLegs.mapM (fun c => node.neighbourIndex c) = some cv := by
    generalize ls.childLegs = l at h
    induction l with
    | nil => exact ⟨[], rfl⟩
    | cons c l ih =>
      obtain ⟨cv, hcv⟩ := ih (fun c' hc' => h c' (List.mem_cons_of_mem _ hc'))
      have hc := h c (by simp)
      cases hi : node.neighbourIndex c with
      | none => rw [hi] at hc; simp at hc
      | some i => exact ⟨i :: cv, by rw [List.mapM_cons, hi, hcv]; rfl⟩
  obtain ⟨cv, hcv⟩ := this
  unfold TTN.LegSpec.findLegValues
  simp only [hcv, bind, Option.bind]
  exact ⟨_, rfl⟩

theorem rnisn_fold_some (new old : Id) (nbs : List Id) (hnd : nbs.Nodup) (ns : List (Id × NodeS))
    (h : ∀ nb ∈ nbs, ∃ n, dget ns nb = some n ∧ (n.parent = some old ∨ old ∈ n.children)) :
    ∃ ns', nbs.foldlM (fun (ns : List (Id × NodeS)) nb => do
      let n ← dget ns nb
      let n' ← TTN.replaceNeighbour n old new
      some (dset ns nb n')) ns = some ns' := by
  induction nbs generalizing ns with
  | nil => exact ⟨ns, rfl⟩
  | cons nb nbs ih =>
    rw [List.nodup_cons] at hnd
    rw [List.foldlM_cons]
    obtain ⟨n, hn, href⟩ := h nb (by simp)
    have hr : ∃ n', TTN.replaceNeighbour n old new = some n' := by
      unfold TTN.replaceNeighbour
      by_cases hp : n.parent = some old
      · simp only [hp, if_true]; exact ⟨_, rfl⟩
      · have hm : old ∈ n.children := href.resolve_left hp
        obtain ⟨n', hn'⟩ := replaceChild_some n old new hm
        exact ⟨n', by simp [hp, hm, hn']⟩
    obtain ⟨n', hn'⟩ := hr
    simp only [hn, hn', bind, Option.bind]
    apply ih hnd.2
    intro nb' hnb'
    obtain ⟨m, hm, hmr⟩ := h nb' (List.mem_cons_of_mem _ hnb')
    refine ⟨m, ?_, hmr⟩
    have : nb' ≠ nb := fun e => hnd.1 (e ▸ hnb')
    rw [dget_dset, if_neg this]
    exact hm

theorem rnisn_some {t : TTN} {new old : Id} {nbs : List Id} (hnd : nbs.Nodup)
    (h : ∀ nb ∈ nbs, ∃ n, t.N nb = some n ∧ (n.parent = some old ∨ old ∈ n.children)) :
    ∃ t', t.replaceNodeInSomeNeighbours new old nbs = some t' := by
  obtain ⟨ns', hf⟩ := rnisn_fold_some new old nbs hnd t.nodes h
  unfold TTN.replaceNodeInSomeNeighbours
  simp only [bind, Option.bind] at hf ⊢
  simp only [hf]
  exact ⟨_, rfl⟩

/-- **Progress for `split_nodes`**: on a well-formed network, for admissible leg specifications and identifiers
    (`SplitAdm`), distinct new identifiers, and specifications whose open legs are exactly the open legs of the
    node (each once), the model call returns a network. -/
theorem split_nodes_progress {t : TTN} (h : t.WF) {id : Id} {X : NodeS} {outL inL : TTN.LegSpec}
    {outId inId : Id} (bd : Nat) (adm : SplitAdm t id X outL inL outId inId) (hoi : outId ≠ inId)
    (hopen : (outL.openLegs ++ inL.openLegs).Perm (List.range' X.nvirt (X.nlegs - X.nvirt))) :
    ∃ t', t.splitNodes id outL inL outId inId bd = some t' := by
  have hXN := adm.node
  have hXnd : X.children.Nodup := h.str.nodup id _ _ (TTN.S_eq hXN)
  obtain ⟨hond, hind, _, hmemX⟩ := adm.children_split h
  have hXw := h.node id X hXN
  have hchild := fun c (hc : c ∈ X.children) => adm.child_node h hc
  have hgp := fun p (hp : X.parent = some p) => adm.parent_node h hp
  have hpcX : ∀ c ∈ X.children, X.parent ≠ some c := by
    intro c hc e
    obtain ⟨_, _, _, _, _, _, q⟩ := hgp c e
    exact q hc
  obtain ⟨t1, L, hacc⟩ := access_some h hXN
  obtain ⟨X', Ts, e1, _, e3, ht1⟩ := access_eq hacc
  obtain rfl : X = X' := Option.some.inj (hXN.symm.trans e1)
  have hLl : L.length = X.nlegs := (transposeT_length e3).1
  have hidx : ∀ c ∈ X.children, (X.resetPermutation.neighbourIndex c).isSome = true := by
    intro c hc
    have hc' : c ∈ X.resetPermutation.children := hc
    unfold neighbourIndex
    by_cases hp : X.resetPermutation.parent = some c
    · simp [hp]
    · simp [hp, hc']
  obtain ⟨outInt, hoint⟩ := findLegValues_some (ls := outL) (node := X.resetPermutation)
    (fun c hc => hidx c ((hmemX c).mpr (Or.inl hc)))
  obtain ⟨inInt, hiint⟩ := findLegValues_some (ls := inL) (node := X.resetPermutation)
    (fun c hc => hidx c ((hmemX c).mpr (Or.inr hc)))
  -- together the two index lists are a permutation of all legs, so `splitAxes` can transpose
  obtain ⟨V, hre, hV⟩ := split_ints_perm (X := X) hXnd hpcX adm.children
    (adm.keeper.imp (fun c => ⟨c.1, c.2.2.1⟩) fun c => ⟨c.1, c.2.2.1⟩) hoint hiint
  have hall : (outInt ++ inInt).Perm (List.range X.nlegs) := by
    rw [range_eq_append (n := X.nlegs) hXw.virt]
    exact hre.trans (hV.append hopen)
  have hlenall : (outInt ++ inInt).length = L.length := by
    rw [hall.length_eq, List.length_range, hLl]
  obtain ⟨moved, hmoved, _⟩ := transposeT_some_of_perm L (outInt ++ inInt) (by
    rw [hlenall, hLl]; exact hall) hlenall
  obtain ⟨outT, inT, hsa⟩ : ∃ outT inT, TTN.splitAxes L outInt inInt ⟨t.nextLabel, bd⟩ = some (outT, inT) := by
    unfold TTN.splitAxes
    rw [hmoved]
    exact ⟨_, _, rfl⟩
  have hnd_in_out : (inId :: outL.childLegs).Nodup := List.nodup_cons.mpr ⟨fun hm => by
    obtain ⟨_, _, _, _, _, q⟩ := hchild inId ((hmemX inId).mpr (Or.inl hm)); exact q rfl, hond⟩
  have hnd_out_in : (outId :: inL.childLegs).Nodup := List.nodup_cons.mpr ⟨fun hm => by
    obtain ⟨_, _, _, _, q, _⟩ := hchild outId ((hmemX outId).mpr (Or.inr hm)); exact q rfl, hind⟩
  have hnodes : ∃ inNode outNode, TTN.buildInNode inT inL outL outId = some inNode ∧
      TTN.buildOutNode outT outL inL inId = some outNode := by
    -- the two arrays in blocks `(parent?, children…, open…)`, as the leg specifications order them
    obtain ⟨Om, Im, hOm, hIm, houtT, hinT⟩ := splitAxes_blocks hsa
    obtain ⟨PaO, Oc, Oo, cvO, hOmB, hPaO, hcvO, hOc, -⟩ := side_blocks hoint hOm
    obtain ⟨PaI, Ic, Io, cvI, hImB, hPaI, hcvI, hIc, -⟩ := side_blocks hiint hIm
    obtain ⟨hOcl, -⟩ := zip_children_axes (L := L) hcvO hOc
    obtain ⟨hIcl, -⟩ := zip_children_axes (L := L) hcvI hIc
    rcases adm.keeper with ⟨hop, hro, hip, hri⟩ | ⟨hip, hri, hop, hro⟩
    · rw [hop] at hPaO
      obtain rfl : PaI = [] := by
        rcases hPaI with ⟨_, q⟩ | ⟨_, _, q, _⟩
        · exact q
        · rw [hip] at q; cases q
      obtain ⟨on, o1, _⟩ := out_node_keeper_logical outL inL inId ⟨t.nextLabel, bd⟩ PaO Oc Oo
        hop hro (hPaO.imp (fun q => q) fun ⟨p, a0, q, r, _⟩ => ⟨p, a0, q, r⟩) hri hip hOcl hnd_in_out
      obtain ⟨inn, i1, _⟩ := in_node_child_logical inL outL outId ⟨t.nextLabel, bd⟩ Ic Io hip hri hIcl hind
      exact ⟨inn, on, by rw [hinT, hImB]; simpa using i1, by rw [houtT, hOmB]; simpa using o1⟩
    · rw [hip] at hPaI
      obtain rfl : PaO = [] := by
        rcases hPaO with ⟨_, q⟩ | ⟨_, _, q, _⟩
        · exact q
        · rw [hop] at q; cases q
      obtain ⟨inn, i1, _⟩ := in_node_keeper_logical inL outL outId ⟨t.nextLabel, bd⟩ PaI Ic Io
        hip hri (hPaI.imp (fun q => q) fun ⟨p, a0, q, r, _⟩ => ⟨p, a0, q, r⟩) (fun _ => hop) hIcl hnd_out_in
      obtain ⟨on, o1, _⟩ := out_node_child_logical outL inL inId ⟨t.nextLabel, bd⟩ Oc Oo hop hro
        (by rw [hri, hip]; cases X.parent <;> simp) hOcl hond
      exact ⟨inn, on, by rw [hinT, hImB]; simpa using i1, by rw [houtT, hOmB]; simpa using o1⟩
  obtain ⟨inNode, outNode, hbi, hbo⟩ := hnodes
  -- the network with the two new nodes
  generalize ht2 : (⟨dset (dset (dset (dset t1.nodes outId (nodeOfTensor outT)) inId (nodeOfTensor inT)) inId inNode)
      outId outNode, dset (dset t1.tensors outId outT) inId inT, t1.root, t.nextLabel + 1⟩ : TTN) = t2
  have hN2 : ∀ k, t2.N k = if k = outId then some outNode else if k = inId then some inNode
      else if k = id then some X.resetPermutation else t.N k := by
    intro k
    rw [← ht2, ht1]
    simp only [TTN.N, dget_dset]
    by_cases h1 : k = outId
    · simp [h1]
    · by_cases h2 : k = inId
      · simp [h2]
      · simp [h1, h2]
  have hT2 : ∀ k, dget t2.tensors k = if k = inId then some inT else if k = outId then some outT
      else if k = id then some L else dget t.tensors k := by
    intro k
    rw [← ht2, ht1]
    simp only [dget_dset]
  have hnb2 : ∀ k, (X.parent = some k ∨ k ∈ X.children) →
      ∃ n, t2.N k = some n ∧ (n.parent = some id ∨ id ∈ n.children) := by
    intro k hk
    rcases hk with hk | hk
    · obtain ⟨pn, q1, q2, q3, q4, q5, _⟩ := hgp k hk
      exact ⟨pn, by rw [hN2]; simp [q3, q4, q5, q1], Or.inr q2⟩
    · obtain ⟨cn, q1, q2, q3, q4, q5⟩ := hchild k hk
      exact ⟨cn, by rw [hN2]; simp [q3, q4, q5, q1], Or.inl q2⟩
  obtain ⟨hnd_out, hnd_inl, hdisj_nb⟩ :=
    List.nodup_append.mp (adm.nbrs_perm.symm.nodup (neighbours_nodup h hXN))
  have hmem_nb : ∀ k, k ∈ outL.allNeighbourIds ∨ k ∈ inL.allNeighbourIds → X.parent = some k ∨ k ∈ X.children :=
    fun k hk => (mem_neighbours X k).mp (adm.nbrs_perm.subset (List.mem_append.mpr hk))
  obtain ⟨t3, hr3⟩ := rnisn_some (new := outId) (old := id) hnd_out
    (fun nb hnb => hnb2 nb (hmem_nb nb (Or.inl hnb)))
  obtain ⟨hN3, hten3, _⟩ := rnisn_eq hnd_out hr3
  obtain ⟨t4, hr4⟩ := rnisn_some (t := t3) (new := inId) (old := id) hnd_inl (by
    intro nb hnb
    obtain ⟨n, q1, q2⟩ := hnb2 nb (hmem_nb nb (Or.inr hnb))
    have hno : nb ∉ outL.allNeighbourIds := fun hko => hdisj_nb nb hko nb hnb rfl
    exact ⟨n, by rw [hN3]; simp [hno, q1], q2⟩)
  obtain ⟨hN4, hten4, _⟩ := rnisn_eq hnd_inl hr4
  have hr5 : ∃ t5, t4.setRootFromLegSpecs inL outL inId outId = some t5 := by
    unfold TTN.setRootFromLegSpecs
    -- one of the two sides is not flagged as root
    rcases adm.keeper with ⟨_, _, _, hri⟩ | ⟨_, _, _, hro⟩
    · simp only [hri, Bool.false_eq_true, if_false]; split <;> exact ⟨_, rfl⟩
    · simp only [hro, Bool.false_eq_true, if_false]; split <;> exact ⟨_, rfl⟩
  obtain ⟨t5, hr5⟩ := hr5
  obtain ⟨hnodes5, hten5, _⟩ := setRoot_eq hr5
  have hfin : ∃ t', (if id ≠ outId ∧ id ≠ inId then do
        let t6 ← t5.tensorsPop id
        let ns ← dpop t6.nodes id
        some { t6 with nodes := ns }
      else some t5) = some t' := by
    by_cases hdrop : id ≠ outId ∧ id ≠ inId
    · rw [if_pos hdrop]
      have hid_nb : ¬ (id ∈ outL.allNeighbourIds ∨ id ∈ inL.allNeighbourIds) := fun hm => by
        rcases hmem_nb id hm with e | e
        · obtain ⟨_, _, _, q, _⟩ := hgp id e; exact q rfl
        · obtain ⟨_, _, _, q, _⟩ := hchild id e; exact q rfl
      have hN5 : dget t5.nodes id = some X.resetPermutation := by
        rw [hnodes5]
        show t4.N id = some X.resetPermutation
        rw [hN4, hN3, hN2]; simp [not_or.mp hid_nb, hdrop]
      have hT5 : dget t5.tensors id = some L := by
        rw [hten5, hten4, hten3, hT2]; simp [hdrop]
      have hwr := wfn_resetPermutation hXw
      obtain ⟨t6, hpop⟩ := tensorsPop_some_raw hN5 hT5 hwr.perm (by
        simp only [resetPermutation, List.length_range]; exact hLl.symm ▸ rfl)
      obtain ⟨n6, Ts6, T6, ts6, _, _, _, _, ht6⟩ := tensorsPop_eq hpop
      have hhas : dhas t6.nodes id = true := by subst ht6; simp [dhas_dset]
      obtain ⟨ns, hns, _⟩ := dpop_of_has _ _ hhas
      simp only [hpop, hns, bind, Option.bind]
      exact ⟨_, rfl⟩
    · rw [if_neg hdrop]; exact ⟨_, rfl⟩
  obtain ⟨t', hfin⟩ := hfin
  have hn1 : dget t1.nodes id = some X.resetPermutation := by subst ht1; simp [dget_dset]
  exact ⟨t', splitNodes_eq_some.mpr ⟨hoi, t1, L, hacc, _, hn1, outInt, hoint, inInt, hiint, outT, inT, hsa,
    inNode, hbi, outNode, hbo, t3, by rw [ht2]; exact hr3, t4, hr4, t5, hr5, hfin⟩⟩

/-- Admissibility of `split_nodes(id, out_legs, in_legs, out_identifier, in_identifier)` as a computable test
    on the state: the node exists, the two new identifiers differ and are the old one or unused, the child
    identifiers of the two specifications partition the children, their open legs partition the open legs,
    exactly one side takes the parent (for the root: exactly one side has `is_root`). -/
def splitAdmB (t : TTN) (id : Id) (outL inL : TTN.LegSpec) (outId inId : Id) : Bool :=
  match dget t.nodes id with
  | none => false
  | some X =>
    (outId != inId) && (outId == id || (dget t.nodes outId).isNone) &&
    (inId == id || (dget t.nodes inId).isNone) &&
    (outL.childLegs ++ inL.childLegs).isPerm X.children &&
    (outL.openLegs ++ inL.openLegs).isPerm (List.range' X.nvirt (X.nlegs - X.nvirt)) &&
    (match X.parent with
     | some p => !outL.isRoot && !inL.isRoot &&
         ((outL.parentLeg == some p && inL.parentLeg == none) ||
          (outL.parentLeg == none && inL.parentLeg == some p))
     | none => outL.parentLeg == none && inL.parentLeg == none &&
         ((outL.isRoot && !inL.isRoot) || (!outL.isRoot && inL.isRoot)))

theorem splitAdmB_spec {t : TTN} {id : Id} {outL inL : TTN.LegSpec} {outId inId : Id}
    (h : splitAdmB t id outL inL outId inId = true) :
    ∃ X, SplitAdm t id X outL inL outId inId ∧ outId ≠ inId ∧
      (outL.openLegs ++ inL.openLegs).Perm (List.range' X.nvirt (X.nlegs - X.nvirt)) := by
  unfold splitAdmB at h
  cases hX : dget t.nodes id with
  | none => simp [hX] at h
  | some X =>
    simp only [hX, Bool.and_eq_true, bne_iff_ne, ne_eq, Bool.or_eq_true, beq_iff_eq,
      Option.isNone_iff_eq_none, List.isPerm_iff] at h
    obtain ⟨⟨⟨⟨⟨h1, h2⟩, h3⟩, h4⟩, h5⟩, h6⟩ := h
    refine ⟨X, ⟨hX, h2, h3, h4, ?_⟩, h1, h5⟩
    cases hp : X.parent with
    | none =>
      simp only [hp, Bool.and_eq_true, beq_iff_eq, Bool.or_eq_true, Bool.not_eq_true'] at h6
      obtain ⟨⟨a, b⟩, c⟩ := h6
      refine Or.inr ⟨rfl, a, b, ?_⟩
      rcases c with ⟨c1, c2⟩ | ⟨c1, c2⟩
      · exact Or.inl ⟨c1, c2⟩
      · exact Or.inr ⟨c1, c2⟩
    | some p =>
      simp only [hp, Bool.and_eq_true, beq_iff_eq, Bool.or_eq_true, Bool.not_eq_true'] at h6
      obtain ⟨⟨a, b⟩, c⟩ := h6
      exact Or.inl ⟨p, rfl, a, b, c⟩

/-- The computable admissibility test of `admissible_never_errors`: accesses, contractions and splits (`false` for the
other operations). -/
def admissibleB (t : TTN) : TOp → Bool
  | .access id => (dget t.nodes id).isSome
  | .contract a b n => contractAdmB t a b n
  | .split id o i oid iid _ => splitAdmB t id o i oid iid
  | _ => false

/-- **`replace_tensor` with the node's own axes succeeds**: without a permutation, or with any permutation of the
    legs of the node (what `relative_leg_permutation` returns). -/
theorem rtp_progress {t : TTN} (h : t.WF) {id : Id} {n : NodeS} (hn : t.N id = some n) {q : Option (List Nat)}
    (hq : ∀ l, q = some l → l.Perm (List.range l.length) ∧ l.length = n.perm.length) :
    ∃ t', t.replaceTensorPermuted id q = some t' := by
  obtain ⟨cur, hcur, hlen⟩ := logical_some h hn
  have hshape := logical_shape h hn hcur
  have hn' : dget t.nodes id = some n := hn
  unfold TTN.replaceTensorPermuted
  simp only [hcur, bind, Option.bind]
  cases q with
  | none =>
    simp only [TTN.replaceTensor, hn', bind, Option.bind, NodeS.replaceTensor, hshape, if_true]
    exact ⟨_, rfl⟩
  | some p =>
    obtain ⟨hperm, hpl⟩ := hq p rfl
    have hpc : p.length = cur.length := by rw [hpl, hlen]
    have hnd : p.Nodup := hperm.symm.nodup List.nodup_range
    have hmem : ∀ j, j < cur.length → j ∈ p := fun j hj => hperm.mem_iff.mpr (List.mem_range.mpr (hpc ▸ hj))
    have hlt : ∀ i ∈ p, i < p.length := fun i hi => List.mem_range.mp (hperm.mem_iff.mp hi)
    have hidx : ∀ j, j < cur.length → p.idxOf j < cur.length := fun j hj => by
      rw [← hpc]; exact List.idxOf_lt_length_of_mem (hmem j hj)
    -- the array that is stored: axis `j` of it is axis `p.idxOf j` of the logical array `cur` (every index is in range)
    obtain ⟨newT, hnewT, hnl⟩ := mapM_some_of_forall (f := fun j => cur[p.idxOf j]?) (List.range cur.length)
      (fun j hj => ⟨_, List.getElem?_eq_getElem (hidx j (List.mem_range.mp hj))⟩)
    rw [List.length_range] at hnl
    have hnget : ∀ j, j < cur.length → newT[j]? = cur[p.idxOf j]? := fun j hj => by
      rw [mapM_some_getElem? hnewT j]
      simp [List.getElem?_range hj]
    have hne : ¬ p.length ≠ cur.length := by simp [hpc]
    simp only [hne, if_false, hnewT]
    -- the check of `Node.replace_tensor`: its shape permuted by `p` is the recorded shape, because `p` undoes `idxOf`
    have hsh : ∃ sh, permuteIterator (shapeOf newT) p = some sh ∧ sh = n.shape := by
      have hl2 : (shapeOf newT).length = p.length := by simp [shapeOf, hnl, hpc]
      obtain ⟨sh, hsh, _⟩ := mapM_some_of_forall (f := fun i => (shapeOf newT)[i]?) p
        (fun i hi => ⟨_, List.getElem?_eq_getElem (by rw [hl2]; exact hlt i hi)⟩)
      refine ⟨sh, by simp [permuteIterator, hl2, hsh], ?_⟩
      rw [← hshape]
      apply List.ext_getElem?
      intro i
      rw [mapM_some_getElem? hsh i]
      by_cases hi : i < p.length
      · have hpi : p[i]? = some p[i] := List.getElem?_eq_getElem hi
        have hpil : p[i] < cur.length := by rw [← hpc]; exact hlt _ (List.getElem_mem hi)
        simp only [hpi, Option.bind_some, shapeOf, List.getElem?_map, hnget _ hpil]
        rw [hnd.idxOf_getElem]
      · have hle : p.length ≤ i := Nat.le_of_not_lt hi
        have h1 : p[i]? = none := List.getElem?_eq_none hle
        have h2 : (shapeOf cur)[i]? = none :=
          List.getElem?_eq_none (by rw [shapeOf, List.length_map, ← hpc]; exact hle)
        simp [h1, h2]
    obtain ⟨sh, hsh1, hsh2⟩ := hsh
    simp only [TTN.replaceTensor, hn', bind, Option.bind, NodeS.replaceTensor, hsh1, hsh2, if_true]
    exact ⟨_, rfl⟩

end Ptn.C02
