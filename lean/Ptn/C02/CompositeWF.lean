import Ptn.C02.Composite
import Ptn.C02.SComposite
import Ptn.C02.Wfx
/-! The composite edits of `Composite.lean` restore the tree: identifiers, root, parent map and children
sets are unchanged; the lower node of the pair becomes the first (for the canonical-form move towards
the parent: the last) child of the upper node.  Each composite is verified step by step: the assertion `WFX` through
the rules of `Wfx.lean`, the structure through the equations of `SComposite.lean`; and each is an admissible run
(`TRun`) of basic operations (`*_run`).  The event language of a TDVP step (`TdvpEvent`, `TTN.event`, `TdvpRun`) and
`lbcOpen1/2` stand here although stated results speak of them: `Composite.lean` holds only what mirrors a routine of
the library. -/
namespace Ptn.C02
open NodeS

theorem root_of_promoteS {t t' : TTN} (h : t.WF) (h' : t'.WF) {top bot : Id} (e : t'.S = promoteS t.S top bot) :
    t'.root = t.root :=
  h.root_congr h' fun r ch hr => by
    rw [e]; unfold promoteS
    by_cases hk : r = top
    · rw [if_pos hk, ← hk, hr]; exact ⟨_, rfl⟩
    · rw [if_neg hk]; exact ⟨ch, hr⟩

theorem root_of_demoteS {t t' : TTN} (h : t.WF) (h' : t'.WF) {top bot : Id} (e : t'.S = demoteS t.S top bot) :
    t'.root = t.root :=
  h.root_congr h' fun r ch hr => by
    rw [e]; unfold demoteS
    by_cases hk : r = top
    · rw [if_pos hk, ← hk, hr]; exact ⟨_, rfl⟩
    · rw [if_neg hk]; exact ⟨ch, hr⟩

theorem SplitAdm.down {t : TTN} {a b link : Id} {A : NodeS} {opens : List Nat} (hA : t.N a = some A)
    (hb : b ∈ A.children) (hl : t.N link = none) :
    SplitAdm t a A ⟨A.parent, A.children.erase b, opens, A.isRoot⟩ ⟨none, [b], [], false⟩ a link := by
  refine .of_keeper hA (Or.inl rfl) (Or.inr hl) ?_ (Or.inl ⟨rfl, rfl, rfl, rfl⟩)
  have : (A.children.erase b ++ [b]).Perm (b :: A.children.erase b) := List.perm_append_comm
  exact this.trans (List.perm_cons_erase hb).symm

theorem SplitAdm.up {t : TTN} {a b link : Id} {A : NodeS} {opens : List Nat} (hA : t.N a = some A)
    (hp : A.parent = some b) (hl : t.N link = none) :
    SplitAdm t a A ⟨none, A.children, opens, false⟩ ⟨some b, [], [], false⟩ a link :=
  ⟨hA, Or.inl rfl, Or.inr hl, by simp, Or.inl ⟨b, hp, rfl, rfl, Or.inr ⟨rfl, rfl⟩⟩⟩

theorem tdvpSpecs_adm {t : TTN} {a b link : Id} {A : NodeS} {q r : TTN.LegSpec} (hA : t.N a = some A)
    (hl : t.N link = none) (hqr : TTN.tdvpSpecs A b = some (q, r)) : SplitAdm t a A q r a link := by
  unfold TTN.tdvpSpecs at hqr
  by_cases hb : b ∈ A.children
  · rw [if_pos hb] at hqr
    obtain ⟨rfl, rfl⟩ := Prod.mk.inj (Option.some.inj hqr)
    exact SplitAdm.down hA hb hl
  · by_cases hp : A.parent = some b
    · rw [if_neg hb, if_pos hp, hp] at hqr
      obtain ⟨rfl, rfl⟩ := Prod.mk.inj (Option.some.inj hqr)
      exact SplitAdm.up hA hp hl
    · rw [if_neg hb, if_neg hp] at hqr
      cases hqr

/-- Off the degenerate case (`nb` parent and child at once) `_build_qr_leg_specs` and the specifications of
    `_split_updated_site` agree. -/
theorem canonSpecs_eq_tdvpSpecs {A : NodeS} {b : Id} (hne : A.parent = some b → b ∉ A.children) :
    TTN.canonSpecs A b = TTN.tdvpSpecs A b := by
  unfold TTN.canonSpecs TTN.tdvpSpecs
  by_cases hp : A.parent = some b
  · have hr : A.isRoot = false := by simp [NodeS.isRoot, hp]
    simp only [hp, if_true, hne hp, if_false, hr]
  · by_cases hb : b ∈ A.children
    · simp only [hp, if_false, hb, not_true_eq_false, if_true]
    · simp only [hp, if_false, hb, not_false_eq_true, if_true]

theorem canonSpecs_eq_tdvpSpecs_of_wf {t : TTN} (h : t.WF) {a b : Id} {A : NodeS} (hA : t.N a = some A) :
    TTN.canonSpecs A b = TTN.tdvpSpecs A b :=
  canonSpecs_eq_tdvpSpecs fun hp hb => by
    obtain ⟨B, hB, hBp⟩ := child_node h hA hb
    exact h.str.no_two_cycle (a := a) (b := b) (by rw [TTN.S_eq hA, hp]) (by rw [TTN.S_eq hB, hBp])

/-- Splitting the upper node `a` towards its child `b` (specifications of `_split_updated_site` /
    `_build_qr_leg_specs`). -/
theorem split_down {P : Prop} {O : Id → List Axis} {t t1 : TTN} {a b link : Id} {A : NodeS} {bd : Nat}
    {opens : List Nat} (hx : t.WFX P O)
    (hA : t.N a = some A) (hb : b ∈ A.children) (hl : t.N link = none) (hop : P → opens = TTN.openIdx A)
    (hs : t.splitNodes a ⟨A.parent, A.children.erase b, opens, A.isRoot⟩ ⟨none, [b], [], false⟩ a link bd
      = some t1) :
    t1.WFX P O ∧ t1.S = splitS t.S a a link A.parent (A.children.erase b) [b] := by
  have adm := SplitAdm.down (opens := opens) hA hb hl
  refine ⟨split_wfx_same hx adm hl hop rfl hs, ?_⟩
  obtain ⟨a', b', aCh, bCh, hcfg, hS, _⟩ := split_S_eq hx.wf adm hs
  rcases hcfg with ⟨rfl, rfl, rfl, rfl, _⟩ | ⟨_, _, _, _, hc⟩
  · exact hS
  · simp at hc

/-- Splitting the lower node `a` towards its parent `b`. -/
theorem split_up {P : Prop} {O : Id → List Axis} {t t1 : TTN} {a b link : Id} {A : NodeS} {bd : Nat}
    {opens : List Nat} (hx : t.WFX P O)
    (hA : t.N a = some A) (hp : A.parent = some b) (hl : t.N link = none)
    (hop : P → opens = TTN.openIdx A)
    (hs : t.splitNodes a ⟨none, A.children, opens, false⟩ ⟨some b, [], [], false⟩ a link bd = some t1) :
    t1.WFX P O ∧ t1.S = splitS t.S a link a (some b) [] A.children := by
  have adm := SplitAdm.up (opens := opens) hA hp hl
  refine ⟨split_wfx_same hx adm hl hop rfl hs, ?_⟩
  obtain ⟨a', b', aCh, bCh, hcfg, hS, _⟩ := split_S_eq hx.wf adm hs
  rcases hcfg with ⟨_, _, _, _, hc⟩ | ⟨rfl, rfl, rfl, rfl, _⟩
  · simp at hc
  · rw [hS, hp]

/-- Contracting the link into the lower node `b` after `split_down` (either argument order). -/
theorem contract_link_down {P : Prop} {O : Id → List Axis} {t t1 t' : TTN} {a b link id1 id2 : Id}
    {A B : NodeS} (h : t.WF) (hx1 : t1.WFX P O) (hOl : P → O link = [])
    (hA : t.N a = some A) (hB : t.N b = some B) (hBp : B.parent = some a) (hl : t.N link = none)
    (hS1 : t1.S = splitS t.S a a link A.parent (A.children.erase b) [b])
    (hids : (id1 = link ∧ id2 = b) ∨ (id1 = b ∧ id2 = link))
    (hc : t1.contractNodes id1 id2 b = some t') :
    t'.WFX P O ∧ t'.root = t.root ∧ t'.S = promoteS t.S a b := by
  have hSA := TTN.S_eq hA
  have hSB : t.S b = some (some a, B.children) := by rw [TTN.S_eq hB, hBp]
  have hSl : t.S link = none := by simp [TTN.S, hl]
  have hba : ¬ b = a := fun e => h.str.parent_ne hSB e.symm
  have hbl : ¬ b = link := by intro e; rw [e, hl] at hB; simp at hB
  have hla : ¬ link = a := by intro e; rw [← e, hl] at hA; simp at hA
  have hb_notin : b ∉ A.children.erase b := fun hm =>
    ((List.Nodup.mem_erase_iff (h.str.nodup a _ _ hSA)).mp hm).1 rfl
  have e_link : t1.S link = some (some a, [b]) := by
    rw [hS1]; simp [splitS, hla]
  have e_b : t1.S b = some (some link, B.children) := by
    rw [hS1]; simp [splitS, hba, hbl, hSB, splitRen, hb_notin, map_ite_self]
  obtain ⟨hS', _⟩ := contract_edge_S_eq hx1.wf (Or.inr (Or.inl rfl)) e_link e_b hids hc
  have hK : (if id1 = link then [b].erase b ++ B.children else B.children ++ [b].erase b) = B.children := by
    split <;> simp
  rw [hK, hS1] at hS'
  have w' := contract_wfx_same hx1 hids hOl hc
  have hS : t'.S = promoteS t.S a b := by rw [hS']; exact link_down_S h.str hSA hSB hSl
  exact ⟨w', root_of_promoteS h w'.wf hS, hS⟩

/-- Contracting the link into the upper node `b` after `split_up`: the new child list of `b` depends on the
    argument order of `contract_nodes`. -/
theorem contract_link_up {P : Prop} {O : Id → List Axis} {t t1 t' : TTN} {a b link id1 id2 : Id}
    {A B : NodeS} (h : t.WF) (hx1 : t1.WFX P O) (hOl : P → O link = [])
    (hA : t.N a = some A) (hB : t.N b = some B) (hAp : A.parent = some b) (hl : t.N link = none)
    (hS1 : t1.S = splitS t.S a link a (some b) [] A.children)
    (hids : (id1 = link ∧ id2 = b) ∨ (id1 = b ∧ id2 = link))
    (hc : t1.contractNodes id1 id2 b = some t') :
    t'.WFX P O ∧ t'.root = t.root ∧
      t'.S = (if id1 = link then promoteS t.S b a else demoteS t.S b a) := by
  have hSA : t.S a = some (some b, A.children) := by rw [TTN.S_eq hA, hAp]
  have hSB := TTN.S_eq hB
  have hSl : t.S link = none := by simp [TTN.S, hl]
  have hba : b ≠ a := h.str.parent_ne hSA
  have hbl : ¬ b = link := by intro e; rw [e, hl] at hB; simp at hB
  have hlb : ¬ link = b := fun e => hbl e.symm
  have hBpar : ¬ B.parent = some a := fun e =>
    h.str.no_two_cycle (a := b) (b := a) (by rw [hSB, e]) hSA
  have e_link : t1.S link = some (some b, [a]) := by
    rw [hS1]; simp [splitS]
  have e_b : t1.S b = some (B.parent, B.children.map (fun c => if c = a then link else c)) := by
    rw [hS1]
    simp only [splitS, hbl, hba, if_false, hSB, Option.map_some, splitRen]
    congr 1
    refine Prod.ext ?_ rfl
    cases hp : B.parent with
    | none => rfl
    | some p =>
      have : ¬ p = a := fun e => hBpar (by rw [hp, e])
      simp [this]
  obtain ⟨hS', _⟩ := contract_edge_S_eq hx1.wf (Or.inl rfl) e_b e_link hids.symm hc
  have herase : (B.children.map (fun c => if c = a then link else c)).erase link = B.children.erase a :=
    erase_map_ite _ _ _ (h.str.nodup b _ _ hSB) (h.str.fresh_not_child hSl hSB)
  rw [herase, hS1, link_up_S h.str _ hSA hSB hSl] at hS'
  have w' := contract_wfx_same hx1 hids hOl hc
  by_cases hid : id1 = link
  · have hS : t'.S = promoteS t.S b a := by
      rw [hS', if_neg (hid ▸ hlb)]
      funext k
      unfold promoteS
      by_cases hk : k = b <;> simp [hk, hSB]
    exact ⟨w', root_of_promoteS h w'.wf hS, by rw [if_pos hid]; exact hS⟩
  · have hid' : id1 = b := (hids.resolve_left fun e => hid e.1).1
    have hS : t'.S = demoteS t.S b a := by
      rw [hS', if_pos hid']
      funext k
      unfold demoteS
      by_cases hk : k = b <;> simp [hk, hSB]
    exact ⟨w', root_of_demoteS h w'.wf hS, by rw [if_neg hid]; exact hS⟩

theorem split_link {P : Prop} {O : Id → List Axis} {t t1 : TTN} {a b link : Id} {A : NodeS}
    {q r : TTN.LegSpec} {bd : Nat} (hx : t.WFX P O) (hl : t.N link = none)
    (hA : t.N a = some A) (hqr : TTN.tdvpSpecs A b = some (q, r))
    (hs : t.splitNodes a q r a link bd = some t1) :
    t1.WFX P O ∧
      ((b ∈ A.children ∧ t1.S = splitS t.S a a link A.parent (A.children.erase b) [b]) ∨
       (A.parent = some b ∧ t1.S = splitS t.S a link a (some b) [] A.children)) := by
  unfold TTN.tdvpSpecs at hqr
  by_cases hb : b ∈ A.children
  · rw [if_pos hb] at hqr
    obtain ⟨rfl, rfl⟩ := Prod.mk.inj (Option.some.inj hqr)
    obtain ⟨w1, S1⟩ := split_down hx hA hb hl (fun _ => rfl) hs
    exact ⟨w1, Or.inl ⟨hb, S1⟩⟩
  · by_cases hp : A.parent = some b
    · rw [if_neg hb, if_pos hp, hp] at hqr
      obtain ⟨rfl, rfl⟩ := Prod.mk.inj (Option.some.inj hqr)
      obtain ⟨w1, S1⟩ := split_up hx hA hp hl (fun _ => rfl) hs
      exact ⟨w1, Or.inr ⟨hp, S1⟩⟩
    · rw [if_neg hb, if_neg hp] at hqr
      cases hqr

/-- Split `a` towards its neighbour `b` by the new node `link`, then – after steps that keep `WFX` and the
    structure – contract `link` into `b`, in either argument order. -/
theorem split_contract_link {P : Prop} {O : Id → List Axis} {t t1 t2 t' : TTN} {a b link id1 id2 : Id}
    {A : NodeS} {q r : TTN.LegSpec} {bd : Nat} (hx : t.WFX P O) (hl : t.N link = none)
    (hA : t.N a = some A) (hqr : TTN.tdvpSpecs A b = some (q, r))
    (hs : t.splitNodes a q r a link bd = some t1)
    (hw2 : t1.WFX P O → t2.WFX P O) (S2 : t2.S = t1.S)
    (hids : (id1 = link ∧ id2 = b) ∨ (id1 = b ∧ id2 = link))
    (hc : t2.contractNodes id1 id2 b = some t') :
    t'.WFX P O ∧ t'.root = t.root ∧
      ((b ∈ A.children ∧ t'.S = promoteS t.S a b) ∨
       (A.parent = some b ∧ (id1 = link → t'.S = promoteS t.S b a) ∧ (id1 = b → t'.S = demoteS t.S b a))) := by
  have h := hx.wf
  have hOl : P → O link = [] := hx.fresh hl
  obtain ⟨w1, ⟨hb, S1⟩ | ⟨hp, S1⟩⟩ := split_link hx hl hA hqr hs
  · obtain ⟨B, hB, hBp⟩ := child_node h hA hb
    obtain ⟨w', R', S'⟩ := contract_link_down h (hw2 w1) hOl hA hB hBp hl (by rw [S2, S1]) hids hc
    exact ⟨w', R', Or.inl ⟨hb, S'⟩⟩
  · obtain ⟨B, hB, _⟩ := parent_node h hA hp
    obtain ⟨w', R', S'⟩ := contract_link_up h (hw2 w1) hOl hA hB hp hl (by rw [S2, S1]) hids hc
    have hbl : ¬ b = link := by intro e; rw [e, hl] at hB; cases hB
    exact ⟨w', R', Or.inr ⟨hp, fun e => by rw [S', if_pos e], fun e => by rw [S', if_neg (e ▸ hbl)]⟩⟩

/-- **One-site TDVP link update** `_update_link(a, b)`: well-formedness, root, identifiers, parent map and
    children sets are restored; the lower node of the pair becomes the **first child** of the upper one. -/
theorem link_update_full {P : Prop} {O : Id → List Axis} {t t' : TTN} {a b link : Id} {bd : Nat}
    (hx : t.WFX P O) (hl : t.N link = none)
    (hs : t.linkUpdate a b link bd = some t') :
    t'.WFX P O ∧ t'.root = t.root ∧ ∃ A, t.N a = some A ∧
      ((b ∈ A.children ∧ t'.S = promoteS t.S a b) ∨ (A.parent = some b ∧ t'.S = promoteS t.S b a)) := by
  simp only [TTN.linkUpdate, bind, Option.bind_eq_some_iff, Prod.exists] at hs
  obtain ⟨A, hA, q, r, hqr, t1, hs1, t2, T, hacc, hc⟩ := hs
  obtain ⟨w', R', hS⟩ := split_contract_link hx hl hA hqr hs1 (fun w => access_wfx w hacc)
    (access_S_eq hacc).1 (Or.inl ⟨rfl, rfl⟩) hc
  exact ⟨w', R', A, hA, hS.imp_right fun ⟨hp, e, _⟩ => ⟨hp, e rfl⟩⟩

/-- **Centre move of `canonical_form` / `move_orthogonalization_center`**
    (`split_qr_contract_r_to_neighbour(a, b)`): as above, except that a move towards the parent makes `a`
    the **last** child of `b` (the argument order of `contract_nodes` is the other one). -/
theorem centre_move_full {P : Prop} {O : Id → List Axis} {t t' : TTN} {a b rid : Id} {bd : Nat}
    (hx : t.WFX P O) (hl : t.N rid = none)
    (hs : t.centreMove a b rid bd = some t') :
    t'.WFX P O ∧ t'.root = t.root ∧ ∃ A, t.N a = some A ∧
      ((b ∈ A.children ∧ t'.S = promoteS t.S a b) ∨ (A.parent = some b ∧ t'.S = demoteS t.S b a)) := by
  simp only [TTN.centreMove, bind, Option.bind_eq_some_iff, Prod.exists] at hs
  obtain ⟨A, hA, q, r, hqr, t1, hs1, hc⟩ := hs
  have hA' : t.N a = some A := hA
  rw [canonSpecs_eq_tdvpSpecs_of_wf hx.wf hA'] at hqr
  obtain ⟨w', R', hS⟩ := split_contract_link hx hl hA' hqr hs1 id rfl (Or.inr ⟨rfl, rfl⟩) hc
  exact ⟨w', R', A, hA', hS.imp_right fun ⟨hp, _, e⟩ => ⟨hp, e rfl⟩⟩

/-- The open legs that `legs_before_combination(node1, node2)` assigns to `node1`. -/
def TTN.lbcOpen1 (A B : NodeS) : List Nat := List.range' (A.nvirt + B.nvirt - 2) (A.nlegs - A.nvirt)
/-- The open legs that `legs_before_combination(node1, node2)` assigns to `node2`. -/
def TTN.lbcOpen2 (A B : NodeS) : List Nat :=
  List.range' (A.nvirt + B.nvirt - 2 + (A.nlegs - A.nvirt))
    (A.nlegs + B.nlegs - 2 - (A.nvirt + B.nvirt - 2 + (A.nlegs - A.nvirt)))

theorem lbc_down {t : TTN} {a b : Id} {A B : NodeS} {u v : TTN.LegSpec}
    (hA : t.N a = some A) (hB : t.N b = some B) (hb : b ∈ A.children) (ha : a ∉ B.children)
    (hBp : B.parent = some a) (h : t.legsBeforeCombination a b = some (u, v)) :
    u = ⟨A.parent, A.children.erase b, TTN.lbcOpen1 A B, A.isRoot⟩ ∧
      v = ⟨none, B.children, TTN.lbcOpen2 A B, false⟩ := by
  unfold TTN.legsBeforeCombination at h
  have hA' : dget t.nodes a = some A := hA
  have hB' : dget t.nodes b = some B := hB
  have hBr : B.isRoot = false := by simp [NodeS.isRoot, hBp]
  simp only [hA', hB', bind, Option.bind, ha, decide_false, Bool.false_eq_true, if_false, hb,
    not_true_eq_false, hBr] at h
  split at h
  · simp at h
  · by_cases hr : A.isRoot = true
    · simp only [hr, if_true, Option.some.injEq, Prod.mk.injEq] at h
      obtain ⟨rfl, rfl⟩ := h
      exact ⟨by rw [hr]; rfl, rfl⟩
    · have hr' : A.isRoot = false := by simpa using hr
      simp only [hr', Bool.false_eq_true, if_false, Option.some.injEq, Prod.mk.injEq] at h
      obtain ⟨rfl, rfl⟩ := h
      exact ⟨by rw [hr']; rfl, rfl⟩

theorem lbc_up {t : TTN} {a b : Id} {A B : NodeS} {u v : TTN.LegSpec}
    (hA : t.N a = some A) (hB : t.N b = some B) (ha : a ∈ B.children)
    (hAp : A.parent = some b) (h : t.legsBeforeCombination a b = some (u, v)) :
    u = ⟨none, A.children, TTN.lbcOpen1 A B, false⟩ ∧
      v = ⟨B.parent, B.children.erase a, TTN.lbcOpen2 A B, B.isRoot⟩ := by
  unfold TTN.legsBeforeCombination at h
  have hA' : dget t.nodes a = some A := hA
  have hB' : dget t.nodes b = some B := hB
  have hAr : A.isRoot = false := by simp [NodeS.isRoot, hAp]
  simp only [hA', hB', bind, Option.bind, ha, decide_true, if_true, not_true_eq_false, if_false, hAr,
    Bool.false_eq_true] at h
  split at h
  · simp at h
  · by_cases hr : B.isRoot = true
    · simp only [hr, if_true, Option.some.injEq, Prod.mk.injEq] at h
      obtain ⟨rfl, rfl⟩ := h
      exact ⟨rfl, by rw [hr]; rfl⟩
    · have hr' : B.isRoot = false := by simpa using hr
      simp only [hr', Bool.false_eq_true, if_false, Option.some.injEq, Prod.mk.injEq] at h
      obtain ⟨rfl, rfl⟩ := h
      exact ⟨rfl, by rw [hr']; rfl⟩

/-- Reading two consecutive index ranges behind the virtual legs. -/
theorem pick_two_ranges (L : Tensor) (tv : Nat) (A B : List Axis) (hd : L.drop tv = A ++ B)
    (htv : tv ≤ L.length) :
    pick L (List.range' tv A.length) = A ∧ pick L (List.range' (tv + A.length) B.length) = B := by
  have hlen : L.length = tv + A.length + B.length := by
    have := congrArg List.length hd
    simp only [List.length_drop, List.length_append] at this
    omega
  constructor
  · rw [pick_range' L tv A.length (by omega), hd, List.take_left]
  · rw [pick_range' L (tv + A.length) B.length (by omega)]
    have : L.drop (tv + A.length) = B := by
      have e : L.drop (tv + A.length) = (L.drop tv).drop A.length := by simp [List.drop_drop]
      rw [e, hd, List.drop_left]
    rw [this, List.take_length]

theorem open2_length {l1 l2 v1 v2 : Nat} (h1 : v1 ≤ l1) (h2 : v2 ≤ l2) (hv : 2 ≤ v1 + v2) :
    l1 + l2 - 2 - (v1 + v2 - 2 + (l1 - v1)) = l2 - v2 := by
  omega

/-- After the contraction of `top – bot` into the temporary `ts` (and steps that keep the structure: `S2`): the structure,
the record of `ts`, and that splitting `ts` back by the specifications of `legs_before_combination` is admissible in either
order of the two sides, whatever open legs `o1`, `o2` they name. -/
theorem two_site_adm {t t1 t2 : TTN} {top bot ts id1 id2 : Id} {Tn Bn : NodeS} (h : t.WF)
    (hT : t.N top = some Tn) (hB : t.N bot = some Bn) (hBp : Bn.parent = some top) (hts : t.N ts = none)
    (hids : (id1 = top ∧ id2 = bot) ∨ (id1 = bot ∧ id2 = top))
    (hc : t.contractNodes id1 id2 ts = some t1) (S2 : t2.S = t1.S) :
    t1.S = contractS t.S top bot ts Tn.parent
      (if id1 = top then Tn.children.erase bot ++ Bn.children else Bn.children ++ Tn.children.erase bot) ∧
    ∃ X, t2.N ts = some X ∧ X.parent = Tn.parent ∧
      X.children = (if id1 = top then Tn.children.erase bot ++ Bn.children
                    else Bn.children ++ Tn.children.erase bot) ∧
      ∀ o1 o2, SplitAdm t2 ts X ⟨Tn.parent, Tn.children.erase bot, o1, Tn.isRoot⟩ ⟨none, Bn.children, o2, false⟩
          top bot ∧
        SplitAdm t2 ts X ⟨none, Bn.children, o2, false⟩ ⟨Tn.parent, Tn.children.erase bot, o1, Tn.isRoot⟩
          bot top := by
  have hSB : t.S bot = some (some top, Bn.children) := by rw [TTN.S_eq hB, hBp]
  have htt : ¬ top = ts := by intro e; rw [e, hts] at hT; cases hT
  have hbs : ¬ bot = ts := by intro e; rw [e, hts] at hB; cases hB
  obtain ⟨hS1, _⟩ := contract_edge_S_eq h (Or.inr (Or.inr hts)) (TTN.S_eq hT) hSB hids hc
  have e_ts : t2.S ts = some (Tn.parent,
      if id1 = top then Tn.children.erase bot ++ Bn.children else Bn.children ++ Tn.children.erase bot) := by
    rw [S2, hS1]; exact if_pos rfl
  obtain ⟨X, hX, eX⟩ := TTN.N_of_S e_ts
  obtain ⟨eX1, eX2⟩ := Prod.mk.inj eX
  have e_top : t2.N top = none :=
    N_none_of_S (by rw [S2, hS1]; exact (if_neg htt).trans (if_pos (Or.inl rfl)))
  have e_bot : t2.N bot = none :=
    N_none_of_S (by rw [S2, hS1]; exact (if_neg hbs).trans (if_pos (Or.inr rfl)))
  have hperm : (Tn.children.erase bot ++ Bn.children).Perm X.children := by
    rw [← eX2]; split
    · exact .refl _
    · exact List.perm_append_comm
  refine ⟨hS1, X, hX, eX1.symm, eX2.symm, fun o1 o2 => ⟨?_, ?_⟩⟩
  · exact .of_keeper hX (Or.inr e_top) (Or.inr e_bot) hperm
      (Or.inl ⟨eX1, congrArg Option.isNone eX1, rfl, rfl⟩)
  · exact .of_keeper hX (Or.inr e_bot) (Or.inr e_top) (List.perm_append_comm.trans hperm)
      (Or.inr ⟨eX1, congrArg Option.isNone eX1, rfl, rfl⟩)

theorem two_site_stages {t t1 t2 : TTN} {a b ts : Id} {u v : TTN.LegSpec} (h : t.WF) (hts : t.N ts = none)
    (hlbc : t.legsBeforeCombination a b = some (u, v)) (hc : t.contractNodes a b ts = some t1)
    (S2 : t2.S = t1.S) :
    ∃ top bot Tn Bn X, ((a = top ∧ b = bot) ∨ (a = bot ∧ b = top)) ∧
      t.N top = some Tn ∧ t.N bot = some Bn ∧ Bn.parent = some top ∧ bot ∈ Tn.children ∧
      (a = top → u = ⟨Tn.parent, Tn.children.erase bot, TTN.lbcOpen1 Tn Bn, Tn.isRoot⟩ ∧
        v = ⟨none, Bn.children, TTN.lbcOpen2 Tn Bn, false⟩) ∧
      (a = bot → u = ⟨none, Bn.children, TTN.lbcOpen1 Bn Tn, false⟩ ∧
        v = ⟨Tn.parent, Tn.children.erase bot, TTN.lbcOpen2 Bn Tn, Tn.isRoot⟩) ∧
      SplitAdm t2 ts X u v a b := by
  obtain ⟨top, bot, gp, Pch, Cch, hP, hC, hpc, _, _⟩ := contract_S_eq h (Or.inr (Or.inr hts)) hc
  obtain ⟨Tn, hT, eP⟩ := TTN.N_of_S hP
  obtain ⟨Bn, hB, eC⟩ := TTN.N_of_S hC
  have hBp : Bn.parent = some top := (Prod.mk.inj eC).1.symm
  have hmem : bot ∈ Tn.children := (h.parent_iff_mem hB hT).1 hBp
  have htb : top ≠ bot := h.str.parent_ne hC
  have hids : (a = top ∧ b = bot) ∨ (a = bot ∧ b = top) :=
    hpc.imp (fun e => ⟨e.1.symm, e.2.symm⟩) fun e => ⟨e.2.symm, e.1.symm⟩
  obtain ⟨_, X, _, _, _, adm⟩ := two_site_adm h hT hB hBp hts hids hc S2
  rcases hids with ⟨rfl, rfl⟩ | ⟨rfl, rfl⟩
  · have hnot : a ∉ Bn.children := fun hm => by
      obtain ⟨X', hX', hXp⟩ := child_node h hB hm
      obtain rfl : Tn = X' := Option.some.inj (hT.symm.trans hX')
      exact h.str.no_two_cycle (a := a) (b := b) (by rw [TTN.S_eq hT, hXp]) hC
    obtain ⟨rfl, rfl⟩ := lbc_down hT hB hmem hnot hBp hlbc
    exact ⟨a, b, Tn, Bn, X, Or.inl ⟨rfl, rfl⟩, hT, hB, hBp, hmem, fun _ => ⟨rfl, rfl⟩,
      fun e => absurd e htb, (adm _ _).1⟩
  · obtain ⟨rfl, rfl⟩ := lbc_up hB hT hmem hBp hlbc
    exact ⟨b, a, Tn, Bn, X, Or.inr ⟨rfl, rfl⟩, hT, hB, hBp, hmem, fun e => absurd e.symm htb,
      fun _ => ⟨rfl, rfl⟩, (adm _ _).2⟩

/-- The open axes of the contracted node `ts` are those of `id1` followed by those of `id2` (`contract_wfx`), behind its
virtual legs; `lbcOpen1`, `lbcOpen2` are the two index ranges, so the specifications of `legs_before_combination` give each
side its own open axes back. -/
theorem two_site_picks {P : Prop} {O : Id → List Axis} {t t1 t2 : TTN} {top bot ts id1 id2 : Id}
    {Tn Bn A1 A2 : NodeS} {L : Tensor} (hx : t.WFX P O)
    (hT : t.N top = some Tn) (hB : t.N bot = some Bn) (hBp : Bn.parent = some top) (hts : t.N ts = none)
    (hids : (id1 = top ∧ id2 = bot) ∨ (id1 = bot ∧ id2 = top))
    (hc : t.contractNodes id1 id2 ts = some t1) (hw2 : ∀ O', t1.WFX P O' → t2.WFX P O') (S2 : t2.S = t1.S)
    (h1 : t.N id1 = some A1) (h2 : t.N id2 = some A2) (hp : P) (hL : t2.logical ts = some L) :
    pick L (TTN.lbcOpen1 A1 A2) = O id1 ∧ pick L (TTN.lbcOpen2 A1 A2) = O id2 := by
  have h := hx.wf
  have hx2 := hw2 _ (contract_wfx hx (Or.inr (Or.inr hts)) hc)
  obtain ⟨_, X, hX, eXp, eXc, _⟩ := two_site_adm h hT hB hBp hts hids hc S2
  obtain ⟨L', hL', hLl⟩ := logical_some hx2.wf hX
  obtain rfl : L = L' := Option.some.inj (hL.symm.trans hL')
  have hmem : bot ∈ Tn.children := (h.parent_iff_mem hB hT).1 hBp
  have hsum : A1.nvirt + A2.nvirt = Tn.nvirt + Bn.nvirt := by
    rcases hids with ⟨rfl, rfl⟩ | ⟨rfl, rfl⟩
    · rw [Option.some.inj (h1.symm.trans hT), Option.some.inj (h2.symm.trans hB)]
    · rw [Option.some.inj (h1.symm.trans hB), Option.some.inj (h2.symm.trans hT), Nat.add_comm]
  have e3 : Bn.nparents = 1 := nparents_some hBp
  have e4 : 0 < Tn.children.length := List.length_pos_of_mem hmem
  have hv2 : 2 ≤ A1.nvirt + A2.nvirt := by
    rw [hsum]; simp only [nvirt_def, e3]; omega
  have hXnv : X.nvirt = A1.nvirt + A2.nvirt - 2 := by
    have e1 : X.nparents = Tn.nparents := nparents_congr eXp
    have e2 : X.children.length = (Tn.children.length - 1) + Bn.children.length := by
      rw [eXc]
      split <;> simp [List.length_erase_of_mem hmem] <;> omega
    rw [hsum]
    simp only [nvirt_def, e1, e2, e3]
    omega
  have hOlen : ∀ k n, t.N k = some n → (O k).length = n.nlegs - n.nvirt := by
    intro k n hn
    obtain ⟨Lk, hLk, hl⟩ := logical_some h hn
    rw [← hx.op hp k, openAxes_eq hn hLk, List.length_drop, hl]; rfl
  have hd : L.drop (A1.nvirt + A2.nvirt - 2) = O id1 ++ O id2 := by
    rw [← hXnv, ← openAxes_eq hX hL, hx2.op hp ts, contractO, if_pos rfl]
  have := pick_two_ranges L _ (O id1) (O id2) hd (by rw [← hXnv, hLl]; exact (hx2.wf.node ts X hX).virt)
  unfold TTN.lbcOpen1 TTN.lbcOpen2
  rw [open2_length (l1 := A1.nlegs) (l2 := A2.nlegs) (h.node id1 A1 h1).virt (h.node id2 A2 h2).virt hv2,
    ← hOlen id1 A1 h1, ← hOlen id2 A2 h2]
  exact this

/-- Contracting an edge into an unused identifier and splitting it back: the split may be any admissible one that
    restores parent and children and whose open legs pick the old open axes; `legs_before_combination` is one way to
    get such specifications (`two_site_of_lbc`). -/
theorem two_site_core {P : Prop} {O : Id → List Axis} {t t1 t2 t' : TTN} {top bot ts id1 id2 outId inId : Id}
    {Tn Bn X : NodeS} {outL inL : TTN.LegSpec} {bd : Nat} (hx : t.WFX P O)
    (hT : t.N top = some Tn) (hB : t.N bot = some Bn) (hBp : Bn.parent = some top) (hts : t.N ts = none)
    (hids : (id1 = top ∧ id2 = bot) ∨ (id1 = bot ∧ id2 = top))
    (hc : t.contractNodes id1 id2 ts = some t1)
    (hw2 : ∀ O', t1.WFX P O' → t2.WFX P O') (S2 : t2.S = t1.S)
    (adm : SplitAdm t2 ts X outL inL outId inId)
    (hsp : t2.splitNodes ts outL inL outId inId bd = some t')
    (hcase :
      (outId = top ∧ inId = bot ∧ outL.childLegs = Tn.children.erase bot ∧ inL.childLegs = Bn.children ∧
          ¬ (inL.parentLeg.isSome = true ∨ inL.isRoot = true)) ∨
      (inId = top ∧ outId = bot ∧ inL.childLegs = Tn.children.erase bot ∧ outL.childLegs = Bn.children ∧
          ¬ (outL.parentLeg.isSome = true ∨ outL.isRoot = true)))
    (hpick : P → ∀ L, t2.logical ts = some L → pick L outL.openLegs = O outId ∧ pick L inL.openLegs = O inId) :
    t'.WFX P O ∧ t'.root = t.root ∧ t'.S = promoteS t.S top bot := by
  have h := hx.wf
  have hST := TTN.S_eq hT
  have hSB : t.S bot = some (some top, Bn.children) := by rw [TTN.S_eq hB, hBp]
  have hx2 := hw2 _ (contract_wfx hx (Or.inr (Or.inr hts)) hc)
  obtain ⟨hS1, X', hX', eXp, _, _⟩ := two_site_adm h hT hB hBp hts hids hc S2
  obtain rfl : X' = X := Option.some.inj (hX'.symm.trans adm.node)
  obtain ⟨L, hL, w'⟩ := split_wfx hx2 adm hsp
  have hoi : (outId = top ∧ inId = bot) ∨ (outId = bot ∧ inId = top) :=
    hcase.imp (fun c => ⟨c.1, c.2.1⟩) fun c => ⟨c.2.1, c.1⟩
  have hS : t'.S = promoteS t.S top bot := by
    obtain ⟨a', b', aCh, bCh, hcfg, hS', _⟩ := split_S_eq hx2.wf adm hsp
    have hkey : a' = top ∧ b' = bot ∧ aCh = Tn.children.erase bot ∧ bCh = Bn.children := by
      rcases hcase with ⟨c1, c2, c3, c4, c5⟩ | ⟨c1, c2, c3, c4, c5⟩
      · rcases hcfg with ⟨d1, d2, d3, d4, _⟩ | ⟨_, _, _, _, d5⟩
        · exact ⟨d1.trans c1, d2.trans c2, d3.trans c3, d4.trans c4⟩
        · exact absurd d5 c5
      · rcases hcfg with ⟨_, _, _, _, d5⟩ | ⟨d1, d2, d3, d4, _⟩
        · exact absurd d5 c5
        · exact ⟨d1.trans c1, d2.trans c2, d3.trans c3, d4.trans c4⟩
    obtain ⟨rfl, rfl, rfl, rfl⟩ := hkey
    rw [hS', eXp, S2, hS1]
    exact two_site_S h.str _ hST hSB (by simp [TTN.S, hts])
  refine ⟨w'.congr fun hq => funext fun k => ?_, root_of_promoteS h w'.wf hS, hS⟩
  -- the split hands the open axes of the contracted node back to `top` and `bot`
  obtain ⟨p1, p2⟩ := hpick hq L hL
  unfold splitO
  by_cases k1 : k = outId
  · rw [if_pos k1, k1, p1]
  · by_cases k2 : k = inId
    · rw [if_neg k1, if_pos k2, k2, p2]
    · rw [if_neg k1, if_neg k2]
      by_cases k3 : k = ts
      · rw [if_pos k3, k3, hx.fresh hts hq]
      · have hk12 : ¬ (k = id1 ∨ k = id2) := by
          rcases hoi with ⟨e1, e2⟩ | ⟨e1, e2⟩ <;> rcases hids with ⟨f1, f2⟩ | ⟨f1, f2⟩ <;>
            rw [f1, f2, ← e1, ← e2] <;> first | exact fun e => e.elim k1 k2 | exact fun e => e.elim k2 k1
        rw [if_neg k3, contractO, if_neg k3, if_neg hk12]

theorem two_site_of_lbc {P : Prop} {O : Id → List Axis} {t t1 t2 t' : TTN} {a b ts : Id} {u v : TTN.LegSpec}
    {bd : Nat} (hx : t.WFX P O) (hts : t.N ts = none)
    (hlbc : t.legsBeforeCombination a b = some (u, v)) (hc : t.contractNodes a b ts = some t1)
    (hw2 : ∀ O', t1.WFX P O' → t2.WFX P O') (S2 : t2.S = t1.S)
    (hs : t2.splitNodes ts u v a b bd = some t') :
    t'.WFX P O ∧ t'.root = t.root ∧ ∃ A, t.N a = some A ∧
      ((b ∈ A.children ∧ t'.S = promoteS t.S a b) ∨ (A.parent = some b ∧ t'.S = promoteS t.S b a)) := by
  obtain ⟨top, bot, Tn, Bn, X, hab, hT, hB, hBp, hm, hu, hv, adm⟩ := two_site_stages hx.wf hts hlbc hc S2
  rcases hab with ⟨rfl, rfl⟩ | ⟨rfl, rfl⟩
  · obtain ⟨rfl, rfl⟩ := hu rfl
    obtain ⟨w', R', S'⟩ := two_site_core hx hT hB hBp hts (Or.inl ⟨rfl, rfl⟩) hc hw2 S2 adm hs
      (Or.inl ⟨rfl, rfl, rfl, rfl, by simp⟩)
      (fun hp L hL => two_site_picks hx hT hB hBp hts (Or.inl ⟨rfl, rfl⟩) hc hw2 S2 hT hB hp hL)
    exact ⟨w', R', Tn, hT, Or.inl ⟨hm, S'⟩⟩
  · obtain ⟨rfl, rfl⟩ := hv rfl
    obtain ⟨w', R', S'⟩ := two_site_core hx hT hB hBp hts (Or.inr ⟨rfl, rfl⟩) hc hw2 S2 adm hs
      (Or.inr ⟨rfl, rfl, rfl, rfl, by simp⟩)
      (fun hp L hL => two_site_picks hx hT hB hBp hts (Or.inr ⟨rfl, rfl⟩) hc hw2 S2 hB hT hp hL)
    exact ⟨w', R', Bn, hB, Or.inr ⟨hBp, S'⟩⟩

/-- **Two-site TDVP update** `_update_two_site_nodes(a, b)`: well-formedness, root, identifiers, parent map
    and children sets are restored; the lower node of the pair becomes the **first child** of the upper. -/
theorem two_site_full {P : Prop} {O : Id → List Axis} {t t' : TTN} {a b ts : Id} {bd : Nat}
    (hx : t.WFX P O) (hts : t.N ts = none)
    (hs : t.twoSiteUpdate a b ts bd = some t') :
    t'.WFX P O ∧ t'.root = t.root ∧ ∃ A, t.N a = some A ∧
      ((b ∈ A.children ∧ t'.S = promoteS t.S a b) ∨ (A.parent = some b ∧ t'.S = promoteS t.S b a)) := by
  simp only [TTN.twoSiteUpdate, bind, Option.bind_eq_some_iff, Prod.exists] at hs
  obtain ⟨u, v, hlbc, t1, hc, t2, T, hacc, hs⟩ := hs
  exact two_site_of_lbc hx hts hlbc hc (fun _ w => access_wfx w hacc) (access_S_eq hacc).1 hs

/-- **`contract_and_split_with_parent(a, b)`** of `svd_truncation` (same as the two-site update without the
    intermediate access). -/
theorem contract_split_full {P : Prop} {O : Id → List Axis} {t t' : TTN} {a b ts : Id} {bd : Nat}
    (hx : t.WFX P O) (hts : t.N ts = none)
    (hs : t.contractSplit a b ts bd = some t') :
    t'.WFX P O ∧ t'.root = t.root ∧ ∃ A, t.N a = some A ∧
      ((b ∈ A.children ∧ t'.S = promoteS t.S a b) ∨ (A.parent = some b ∧ t'.S = promoteS t.S b a)) := by
  simp only [TTN.contractSplit, bind, Option.bind_eq_some_iff, Prod.exists] at hs
  obtain ⟨u, v, hlbc, t1, hc, hs⟩ := hs
  exact two_site_of_lbc hx hts hlbc hc (fun _ w => w) rfl hs

theorem linkUpdate_run {t t' : TTN} {a b link : Id} {bd : Nat} (hl : t.N link = none)
    (hs : t.linkUpdate a b link bd = some t') :
    ∃ A q r, t.N a = some A ∧ TTN.tdvpSpecs A b = some (q, r) ∧
      TRun t [.split a q r a link bd, .access link, .contract link b b] t' := by
  simp only [TTN.linkUpdate, bind, Option.bind_eq_some_iff, Prod.exists] at hs
  obtain ⟨A, hA, q, r, hqr, t1, hs1, t2, T, hacc, hc⟩ := hs
  exact ⟨A, q, r, hA, hqr, .cons ⟨A, tdvpSpecs_adm hA hl hqr⟩ hs1
    (.cons trivial (step_access hacc) (.cons (Or.inr (Or.inl rfl)) hc (.nil _)))⟩

theorem centreMove_run {t t' : TTN} {a b rid : Id} {bd : Nat} (h : t.WF) (hl : t.N rid = none)
    (hs : t.centreMove a b rid bd = some t') :
    ∃ A q r, t.N a = some A ∧ TTN.canonSpecs A b = some (q, r) ∧
      TRun t [.split a q r a rid bd, .contract b rid b] t' := by
  simp only [TTN.centreMove, bind, Option.bind_eq_some_iff, Prod.exists] at hs
  obtain ⟨A, hA, q, r, hqr, t1, hs1, hc⟩ := hs
  exact ⟨A, q, r, hA, hqr, .cons ⟨A, tdvpSpecs_adm hA hl (canonSpecs_eq_tdvpSpecs_of_wf h hA ▸ hqr)⟩ hs1
    (.cons (Or.inl rfl) hc (.nil _))⟩

theorem twoSiteUpdate_run {t t' : TTN} {a b ts : Id} {bd : Nat} (h : t.WF) (hts : t.N ts = none)
    (hs : t.twoSiteUpdate a b ts bd = some t') :
    ∃ u v, t.legsBeforeCombination a b = some (u, v) ∧
      TRun t [.contract a b ts, .access ts, .split ts u v a b bd] t' := by
  simp only [TTN.twoSiteUpdate, bind, Option.bind_eq_some_iff, Prod.exists] at hs
  obtain ⟨u, v, hlbc, t1, hc, t2, T, hacc, hs⟩ := hs
  obtain ⟨_, _, _, _, X, _, _, _, _, _, _, _, adm⟩ := two_site_stages h hts hlbc hc (access_S_eq hacc).1
  exact ⟨u, v, hlbc, .cons (Or.inr (Or.inr hts)) hc
    (.cons trivial (step_access hacc) (.cons ⟨X, adm⟩ hs (.nil _)))⟩

theorem contractSplit_run {t t' : TTN} {a b ts : Id} {bd : Nat} (h : t.WF) (hts : t.N ts = none)
    (hs : t.contractSplit a b ts bd = some t') :
    ∃ u v, t.legsBeforeCombination a b = some (u, v) ∧
      TRun t [.contract a b ts, .split ts u v a b bd] t' := by
  simp only [TTN.contractSplit, bind, Option.bind_eq_some_iff, Prod.exists] at hs
  obtain ⟨u, v, hlbc, t1, hc, hs⟩ := hs
  obtain ⟨_, _, _, _, X, _, _, _, _, _, _, _, adm⟩ := two_site_stages h hts hlbc hc (t2 := t1) rfl
  exact ⟨u, v, hlbc, .cons (Or.inr (Or.inr hts)) hc (.cons ⟨X, adm⟩ hs (.nil _))⟩

/-- Same identifiers, same parent map, same children up to order. -/
def TreeEq (S S' : Id → Option Struct) : Prop :=
  ∀ k, (S k = none ∧ S' k = none) ∨
    ∃ p ch ch', S k = some (p, ch) ∧ S' k = some (p, ch') ∧ ch'.Perm ch

theorem TreeEq.refl (S : Id → Option Struct) : TreeEq S S := by
  intro k
  cases hk : S k with
  | none => exact Or.inl ⟨rfl, rfl⟩
  | some s => exact Or.inr ⟨s.1, s.2, s.2, rfl, rfl, List.Perm.refl _⟩

theorem TreeEq.trans {S S' S'' : Id → Option Struct} (h1 : TreeEq S S') (h2 : TreeEq S' S'') :
    TreeEq S S'' := by
  intro k
  rcases h1 k with ⟨a1, a2⟩ | ⟨p, ch, ch', a1, a2, a3⟩
  · rcases h2 k with ⟨b1, b2⟩ | ⟨q, dh, dh', b1, b2, b3⟩
    · exact Or.inl ⟨a1, b2⟩
    · rw [a2] at b1; simp at b1
  · rcases h2 k with ⟨b1, b2⟩ | ⟨q, dh, dh', b1, b2, b3⟩
    · rw [a2] at b1; simp at b1
    · rw [a2] at b1; simp at b1
      obtain ⟨rfl, rfl⟩ := b1
      exact Or.inr ⟨p, ch, dh', a1, b2, b3.trans a3⟩

theorem treeEq_promote (S : Id → Option Struct) (top bot : Id)
    (hm : ∀ p ch, S top = some (p, ch) → bot ∈ ch) : TreeEq S (promoteS S top bot) := by
  intro k
  unfold promoteS
  by_cases hk : k = top
  · rw [hk]
    cases hs : S top with
    | none => exact Or.inl ⟨rfl, by simp⟩
    | some s =>
      refine Or.inr ⟨s.1, s.2, bot :: s.2.erase bot, rfl, by simp, ?_⟩
      exact (List.perm_cons_erase (hm s.1 s.2 hs)).symm
  · simp only [hk, if_false]
    exact TreeEq.refl S k

theorem treeEq_demote (S : Id → Option Struct) (top bot : Id)
    (hm : ∀ p ch, S top = some (p, ch) → bot ∈ ch) : TreeEq S (demoteS S top bot) := by
  intro k
  unfold demoteS
  by_cases hk : k = top
  · rw [hk]
    cases hs : S top with
    | none => exact Or.inl ⟨rfl, by simp⟩
    | some s =>
      refine Or.inr ⟨s.1, s.2, s.2.erase bot ++ [bot], rfl, by simp, ?_⟩
      exact List.perm_append_comm.trans (List.perm_cons_erase (hm s.1 s.2 hs)).symm
  · simp only [hk, if_false]
    exact TreeEq.refl S k

/-- The events of a TDVP time step (and of a canonicalisation), as operations on the model. -/
inductive TdvpEvent where
  | access (id : Id)                                   -- site update: read / write a tensor
  | link (a b linkId : Id) (bd : Nat)                  -- one-site link update
  | twoSite (a b tsId : Id) (bd : Nat)                 -- two-site update
  | move (a b rId : Id) (bd : Nat)                     -- centre move (canonical form)
  | contractSplit (a b cId : Id) (bd : Nat)            -- contract_and_split_with_parent (svd_truncation)

def TTN.event (t : TTN) : TdvpEvent → Option TTN
  | .access id => (t.access id).map (·.1)
  | .link a b l bd => t.linkUpdate a b l bd
  | .twoSite a b ts bd => t.twoSiteUpdate a b ts bd
  | .move a b r bd => t.centreMove a b r bd
  | .contractSplit a b c bd => t.contractSplit a b c bd

/-- The temporary identifier of an event is unused (as `create_link_id`, `create_two_site_id`, uuid1 give). -/
def TdvpEvent.Fresh (t : TTN) : TdvpEvent → Prop
  | .access _ => True
  | .link _ _ l _ => t.N l = none
  | .twoSite _ _ ts _ => t.N ts = none
  | .move _ _ r _ => t.N r = none
  | .contractSplit _ _ c _ => t.N c = none

inductive TdvpRun : TTN → List TdvpEvent → TTN → Prop
  | nil (t : TTN) : TdvpRun t [] t
  | cons {t t1 t' : TTN} {e : TdvpEvent} {es : List TdvpEvent} :
      e.Fresh t → t.event e = some t1 → TdvpRun t1 es t' → TdvpRun t (e :: es) t'

theorem event_structure {P : Prop} {O : Id → List Axis} {t t' : TTN} (hx : t.WFX P O) (e : TdvpEvent)
    (hf : e.Fresh t) (hs : t.event e = some t') :
    t'.WFX P O ∧ t'.root = t.root ∧ TreeEq t.S t'.S := by
  have h := hx.wf
  have mem_of {top bot : Id} {A B : NodeS} (hB : t.N bot = some B) (hBp : B.parent = some top) :
      ∀ p ch, t.S top = some (p, ch) → bot ∈ ch := by
    intro p ch hs
    obtain ⟨Tn, hT, hm⟩ := parent_node h hB hBp
    rw [TTN.S_eq hT] at hs; simp at hs; rw [← hs.2]; exact hm
  have fin : ∀ {a b : Id}, (∃ A, t.N a = some A ∧ ((b ∈ A.children ∧ t'.S = promoteS t.S a b) ∨
      (A.parent = some b ∧ (t'.S = promoteS t.S b a ∨ t'.S = demoteS t.S b a)))) → TreeEq t.S t'.S := by
    rintro a b ⟨A, hA, ⟨hb, S'⟩ | ⟨hp, S' | S'⟩⟩
    · obtain ⟨B, hB, hBp⟩ := child_node h hA hb
      rw [S']; exact treeEq_promote _ _ _ (mem_of (A := A) hB hBp)
    · rw [S']; exact treeEq_promote _ _ _ (mem_of (A := A) hA hp)
    · rw [S']; exact treeEq_demote _ _ _ (mem_of (A := A) hA hp)
  cases e with
  | access id =>
    obtain ⟨T, ha⟩ := step_access_eq (id := id) hs
    obtain ⟨S1, R1⟩ := access_S_eq ha
    exact ⟨access_wfx hx ha, R1, by rw [S1]; exact TreeEq.refl _⟩
  | link a b l bd =>
    obtain ⟨w, R, A, hA, hcase⟩ := link_update_full hx hf hs
    exact ⟨w, R, fin ⟨A, hA, hcase.imp_right (And.imp_right Or.inl)⟩⟩
  | twoSite a b ts bd =>
    obtain ⟨w, R, A, hA, hcase⟩ := two_site_full hx hf hs
    exact ⟨w, R, fin ⟨A, hA, hcase.imp_right (And.imp_right Or.inl)⟩⟩
  | contractSplit a b ts bd =>
    obtain ⟨w, R, A, hA, hcase⟩ := contract_split_full hx hf hs
    exact ⟨w, R, fin ⟨A, hA, hcase.imp_right (And.imp_right Or.inl)⟩⟩
  | move a b r bd =>
    obtain ⟨w, R, A, hA, hcase⟩ := centre_move_full hx hf hs
    exact ⟨w, R, fin ⟨A, hA, hcase.imp_right (And.imp_right Or.inr)⟩⟩

theorem tdvp_run_wfx {P : Prop} {O : Id → List Axis} {t t' : TTN} {es : List TdvpEvent} (hx : t.WFX P O)
    (hr : TdvpRun t es t') : t'.WFX P O ∧ t'.root = t.root ∧ TreeEq t.S t'.S := by
  induction hr with
  | nil => exact ⟨hx, rfl, TreeEq.refl _⟩
  | cons hf hs _ ih =>
    obtain ⟨w1, R1, E1⟩ := event_structure hx _ hf hs
    obtain ⟨w2, R2, E2⟩ := ih w1
    exact ⟨w2, R2.trans R1, E1.trans E2⟩

theorem tdvp_run_structure {t t' : TTN} {es : List TdvpEvent} (h : t.WF) (hr : TdvpRun t es t') :
    t'.WF ∧ t'.root = t.root ∧ TreeEq t.S t'.S := by
  obtain ⟨w, R, E⟩ := tdvp_run_wfx (TTN.WFX.ofWF h) hr
  exact ⟨w.wf, R, E⟩

/-- **Any sequence of TDVP events at the level of labels**: the result is well-formed and satisfies the label
    invariant, root and tree are preserved, and **every node has exactly the open axes it had** (labels, order,
    dimensions) – only bonds change. -/
theorem tdvp_run_labels {t t' : TTN} {es : List TdvpEvent} (h : t.WF) (hl : t.LWF) (hr : TdvpRun t es t') :
    t'.WF ∧ t'.LWF ∧ t'.root = t.root ∧ TreeEq t.S t'.S ∧ ∀ k, t'.openAxes k = t.openAxes k := by
  obtain ⟨w, R, E⟩ := tdvp_run_wfx (TTN.WFX.ofLWF h hl) hr
  exact ⟨w.wf, w.lwf trivial, R, E, w.op trivial⟩

theorem promote_explicit {t t' : TTN} {top bot : Id} {Tn : NodeS} (hT : t.N top = some Tn)
    (hS : t'.S = promoteS t.S top bot) :
    (∀ k, k ≠ top → t'.S k = t.S k) ∧ t'.S top = some (Tn.parent, bot :: Tn.children.erase bot) := by
  refine ⟨fun k hk => by rw [hS]; simp [promoteS, hk], ?_⟩
  rw [hS]; simp [promoteS, TTN.S_eq hT]

theorem demote_explicit {t t' : TTN} {top bot : Id} {Tn : NodeS} (hT : t.N top = some Tn)
    (hS : t'.S = demoteS t.S top bot) :
    (∀ k, k ≠ top → t'.S k = t.S k) ∧ t'.S top = some (Tn.parent, Tn.children.erase bot ++ [bot]) := by
  refine ⟨fun k hk => by rw [hS]; simp [demoteS, hk], ?_⟩
  rw [hS]; simp [demoteS, TTN.S_eq hT]

/-- `TreeEq` read on the node dictionaries: same identifiers, same parent of every node, children lists
    equal up to order. -/
theorem treeEq_explicit {t t' : TTN} (h : TreeEq t.S t'.S) :
    (∀ k, t'.N k = none ↔ t.N k = none) ∧
    (∀ k n, t.N k = some n → ∃ n', t'.N k = some n' ∧ n'.parent = n.parent ∧ n'.children.Perm n.children) := by
  constructor
  · intro k
    rcases h k with ⟨a, b⟩ | ⟨p, ch, ch', a, b, _⟩
    · exact ⟨fun _ => N_none_of_S a, fun _ => N_none_of_S b⟩
    · obtain ⟨n, hn, _⟩ := TTN.N_of_S a
      obtain ⟨n', hn', _⟩ := TTN.N_of_S b
      constructor
      · intro e; rw [e] at hn'; simp at hn'
      · intro e; rw [e] at hn; simp at hn
  · intro k n hn
    rcases h k with ⟨a, _⟩ | ⟨p, ch, ch', a, b, c⟩
    · rw [TTN.S_eq hn] at a; simp at a
    · obtain ⟨n', hn', e'⟩ := TTN.N_of_S b
      rw [TTN.S_eq hn] at a
      simp at a e'
      refine ⟨n', hn', ?_, ?_⟩
      · rw [← e'.1, a.1]
      · rw [← e'.2, a.2]; exact c

end Ptn.C02
