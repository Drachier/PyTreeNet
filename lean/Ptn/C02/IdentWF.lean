import Ptn.C02.RenNode
import Ptn.C02.Shows
/-! `insert_identity`: what it does to the records (every old record has its reference across the subdivided edge
renamed: `identRho`), to the structure (`subdivideS`) and which axes the identity node shows (`identity_node`); hence
well-formedness, by `subdivideS_swf` (SGraph.lean) and `wf_of_edit` (RenNode.lean). -/
namespace Ptn.C02
open NodeS

/-- The node `insert_identity` builds over `eye(dim)`: parent leg, child leg, and it shows the two axes as they are. -/
theorem identity_node (x : Axis) (pid cid : Id) :
    ∃ n1 n2, (nodeOfTensor [x, x]).openLegToParent pid (some 0) = some n1 ∧ n1.openLegToChild cid 1 = some n2 ∧
      n2.parent = some pid ∧ n2.children = [cid] ∧ Shows n2 [x, x] [x, x] := by
  obtain ⟨n1, e1, p1, c1, s1⟩ := shows_fresh_o2p [] [x] x pid
  have hnv : n1.nvirt = 1 := by rw [nvirt_def, nparents_some p1, c1]; rfl
  obtain ⟨n2, e2, p2, c2, s2⟩ := Shows.o2c (LP := [x]) (LC := []) (LO1 := []) (LO2 := []) (a := x) s1 cid
    (nparents_some p1).symm (by rw [nchildren, c1]; rfl)
  rw [hnv] at e2
  exact ⟨n1, n2, e1, e2, p2.trans p1, by rw [c2, c1]; rfl, s2⟩

theorem insertIdentity_eq_some {t t' : TTN} {cid pid new : Id} :
    t.insertIdentity cid pid new = some t' ↔
      ∃ C, dget t.nodes cid = some C ∧ ∃ P, dget t.nodes pid = some P ∧
      C.parent = some pid ∧ cid ∈ P.children ∧
      ∃ C', TTN.replaceNeighbour C pid new = some C' ∧
      ∃ P1, dget (dset t.nodes cid C') pid = some P1 ∧
      ∃ P', TTN.replaceNeighbour P1 cid new = some P' ∧
      ∃ a0, C'.perm[0]? = some a0 ∧ ∃ dim, C'.shp[a0]? = some dim ∧
      ∃ childTensor, dget t.tensors cid = some childTensor ∧ ∃ bondAxis, childTensor[a0]? = some bondAxis ∧
      ∃ idNode1, (nodeOfTensor [⟨bondAxis.lab, dim⟩, ⟨bondAxis.lab, dim⟩]).openLegToParent pid (some 0) =
        some idNode1 ∧
      ∃ idNode2, idNode1.openLegToChild cid 1 = some idNode2 ∧
      { t with nodes := dset (dset (dset t.nodes cid C') pid P') new idNode2,
               tensors := dset t.tensors new [⟨bondAxis.lab, dim⟩, ⟨bondAxis.lab, dim⟩] } = t' := by
  simp only [TTN.insertIdentity, Option.bind_eq_bind, Option.bind_none, Option.bind_eq_some_iff,
    Option.ite_none_left_eq_some, Option.some.injEq, ne_eq, Decidable.not_not]

/-- The renaming of references by `insert_identity(cid, pid, new)`, seen from node `k`. -/
def identRho (cid pid new : Id) (k : Id) (y : Id) : Id :=
  if (k = cid ∧ y = pid) ∨ (k = pid ∧ y = cid) then new else y

/-- **What `insert_identity(child, parent, new)` does** when `new` is unused: the result is well-formed; its structure
    is `subdivideS` (the edge `cid – pid` subdivided by `new`), the root stays; every old array stays; the identity
    shows the axis of the subdivided bond twice; every old record has its reference across the edge renamed
    (`identRho`).  `insertIdentity_wf`, `ident_S_eq`, `ident_labels` and `ident_edges` each take their part. -/
theorem insert_identity_full {t t' : TTN} {cid pid new : Id} (h : t.WF) (hnew : t.N new = none)
    (hs : t.insertIdentity cid pid new = some t') :
    t'.WF ∧ ∃ C P, t.N cid = some C ∧ t.N pid = some P ∧ C.parent = some pid ∧
      t'.S = subdivideS t.S cid pid new C.children P.parent P.children ∧ t'.root = t.root ∧
      (∀ k, k ≠ new → dget t'.tensors k = dget t.tensors k) ∧
      (∃ ax, t.Leg cid pid ax ∧ t'.logical new = some [ax, ax]) ∧
      (∀ k, k ≠ new → t'.N k = (t.N k).map (renNode (identRho cid pid new k))) := by
  obtain ⟨C, hC, P, hP, hcp, hmem, C', hC', P1, hP1, P', hP', a0, ha0, dim, hdim, childTensor, hct, bondAxis, hba,
    idNode1, hi1, idNode2, hi2, hs⟩ := insertIdentity_eq_some.mp hs
  subst hs
  have hCN : t.N cid = some C := hC
  have hPN : t.N pid = some P := hP
  have hstr := h.str
  have hSC : t.S cid = some (some pid, C.children) := by rw [TTN.S_eq hCN, hcp]
  have hSP := TTN.S_eq hPN
  have hpc : pid ≠ cid := hstr.parent_ne hSC
  have hPpar : ¬ P.parent = some cid := by
    intro e
    exact hstr.no_two_cycle (a := pid) (b := cid) (by rw [hSP, e]) hSC
  obtain rfl : { C with parent := some new } = C' := by
    simpa [TTN.replaceNeighbour, hcp] using hC'
  obtain rfl : P = P1 := by
    rw [dget_dset] at hP1; simpa [hpc, hP] using hP1
  have hrc : TTN.replaceChild P cid new = some P' := by
    simpa [TTN.replaceNeighbour, hPpar, hmem] using hP'
  have eP' : P' = renNode (renRho cid new) P := replaceChild_eq_ren (hstr.nodup pid _ _ hSP) hPpar hrc
  have ha0 : C.perm[0]? = some a0 := ha0
  have hdim : C.shp[a0]? = some dim := hdim
  obtain ⟨n1, n2, e1, e2', p2, c2, sh⟩ := identity_node ⟨bondAxis.lab, dim⟩ pid cid
  obtain rfl : idNode1 = n1 := Option.some.inj (hi1.symm.trans e1)
  obtain rfl : idNode2 = n2 := Option.some.inj (hi2.symm.trans e2')
  have hcn : cid ≠ new := by intro e; rw [e, hnew] at hCN; simp at hCN
  have hpn : pid ≠ new := by intro e; rw [e, hnew] at hPN; simp at hPN
  have hN : ∀ k, TTN.N (⟨dset (dset (dset t.nodes cid { C with parent := some new }) pid P') new idNode2,
      dset t.tensors new [⟨bondAxis.lab, dim⟩, ⟨bondAxis.lab, dim⟩], t.root, t.nextLabel⟩ : TTN) k =
      if k = new then some idNode2 else if k = pid then some P'
      else if k = cid then some { C with parent := some new } else t.N k := by
    intro k
    simp only [TTN.N, dget_dset]
  have hS : TTN.S (⟨dset (dset (dset t.nodes cid { C with parent := some new }) pid P') new idNode2,
      dset t.tensors new [⟨bondAxis.lab, dim⟩, ⟨bondAxis.lab, dim⟩], t.root, t.nextLabel⟩ : TTN) =
      subdivideS t.S cid pid new C.children P.parent P.children := by
    funext k
    unfold subdivideS
    simp only [TTN.S, hN k]
    by_cases h1 : k = new
    · simp [h1, structOf, p2, c2]
    · by_cases h2 : k = cid
      · have : ¬ cid = pid := fun e => hpc e.symm
        simp [h2, hcn, this, structOf]
      · by_cases h3 : k = pid
        · have : P.parent.map (renRho cid new) = P.parent := by
            cases hp : P.parent with
            | none => rfl
            | some g => rw [Option.map_some, renRho, if_neg fun e : g = cid => hPpar (by rw [hp, e])]
          simp [h3, hpn, hpc, structOf, eP', renNode, this, renRho]
        · simp [h1, h2, h3]
  have hpC : pid ∉ C.children := fun hm => by
    obtain ⟨_, e⟩ := hstr.down cid _ _ pid hSC hm
    exact hstr.no_two_cycle hSC e
  -- every old record has its reference across the subdivided edge renamed, and nothing else
  have hren : ∀ k, k ≠ new → TTN.N (⟨dset (dset (dset t.nodes cid { C with parent := some new }) pid P') new idNode2,
      dset t.tensors new [⟨bondAxis.lab, dim⟩, ⟨bondAxis.lab, dim⟩], t.root, t.nextLabel⟩ : TTN) k =
      (t.N k).map (renNode (identRho cid pid new k)) := by
    intro k h1
    rw [hN, if_neg h1]
    by_cases h3 : k = pid
    · have e : identRho cid pid new pid = renRho cid new := by
        funext y; simp [identRho, renRho, hpc]
      rw [if_pos h3, h3, hPN, e, eP']; rfl
    · rw [if_neg h3]
      by_cases h2 : k = cid
      · have e : identRho cid pid new cid = renRho pid new := by
          have hcp' : ¬ cid = pid := fun e => hpc e.symm
          funext y; simp [identRho, renRho, hcp']
        rw [if_pos h2, h2, hCN, e, Option.map_some, ← setParent_eq_ren hcp hpC]; rfl
      · have e : identRho cid pid new k = id := by
          funext y; simp [identRho, h2, h3]
        rw [if_neg h2, e, map_renNode_id]
  have hT : ∀ k, k ≠ new → dget (dset t.tensors new [(⟨bondAxis.lab, dim⟩ : Axis), ⟨bondAxis.lab, dim⟩]) k =
      dget t.tensors k := fun k hk => dget_dset_ne _ _ _ _ hk
  refine ⟨wf_of_edit h (· = new) (identRho cid pid new)
      (hS ▸ subdivideS_swf hstr cid pid new C.children P.parent P.children hSC hSP (by simp [TTN.S, hnew]))
      (fun k hto => Or.inr ⟨idNode2, [⟨bondAxis.lab, dim⟩, ⟨bondAxis.lab, dim⟩], by rw [hto, hN, if_pos rfl],
        by rw [hto]; exact dget_dset_self _ _ _,
        sh.wfn (by rw [nvirt_def, nparents_some p2, c2]; exact Nat.le_refl 2), sh.shp.symm⟩)
      fun k hto => ⟨hren k hto, hT k hto⟩, C, P, hCN, hPN, hcp, hS, rfl, hT, ?_, hren⟩
  · -- the identity carries the axis of the bond at both of its legs
    have hfit := h.fit cid C childTensor hCN hct
    have hdim' : dim = bondAxis.dim := by
      rw [← hfit] at hdim
      simp only [shapeOf, List.getElem?_map, hba, Option.map_some, Option.some.injEq] at hdim
      exact hdim.symm
    have hax : (⟨bondAxis.lab, dim⟩ : Axis) = bondAxis := by rw [hdim']
    obtain ⟨Lc, hLc, _⟩ := logical_some h hCN
    have hLc0 : Lc[0]? = some bondAxis := by
      rw [logical_eq hCN hct] at hLc
      rw [transposeT_getElem? hLc 0, ha0]
      exact hba
    refine ⟨bondAxis, ?_, ?_⟩
    · unfold TTN.Leg
      rw [legPairs_eq hCN hLc]
      unfold NodeS.neighbours
      rw [hcp]
      cases Lc with
      | nil => simp at hLc0
      | cons x Lc' =>
        simp only [List.getElem?_cons_zero, Option.some.injEq] at hLc0
        subst hLc0
        simp
    · have hNn := hN new
      simp only [if_true] at hNn
      rw [logical_eq hNn (dget_dset_self _ _ _), sh.legs, hax]

theorem insertIdentity_wf {t t' : TTN} {cid pid new : Id} (h : t.WF) (hnew : t.N new = none)
    (hs : t.insertIdentity cid pid new = some t') : t'.WF :=
  (insert_identity_full h hnew hs).1

theorem ident_S_eq {t t' : TTN} {cid pid new : Id} (h : t.WF) (hnew : t.N new = none)
    (hs : t.insertIdentity cid pid new = some t') :
    ∃ cch pp pch, t.S cid = some (some pid, cch) ∧ t.S pid = some (pp, pch) ∧
      t'.S = subdivideS t.S cid pid new cch pp pch ∧ t'.root = t.root := by
  obtain ⟨_, C, P, hC, hP, hcp, hS, hR, _⟩ := insert_identity_full h hnew hs
  exact ⟨C.children, P.parent, P.children, by rw [TTN.S_eq hC, hcp], TTN.S_eq hP, hS, hR⟩

end Ptn.C02
