import Ptn.C02.Sim
import Ptn.Common.List
/-! `contract_nodes` of the structural model is simulated by `contractStep` (+ a reordering of the legs of the new
node into the documented order). -/
namespace Ptn.C02
open NodeS Ptn.Ein Ptn.C03

set_option linter.unusedSectionVars false
variable {R : Type} [CommSemiring R]

theorem map_erase_nodup {α β : Type} [DecidableEq α] [DecidableEq β] (f : α → β) (l : List α) (x : α)
    (hx : x ∈ l) (hnd : (l.map f).Nodup) : (l.erase x).map f = (l.map f).erase (f x) := by
  induction l with
  | nil => simp at hx
  | cons y l ih =>
    by_cases hyx : y = x
    · subst y; simp
    · have hxl : x ∈ l := by
        rcases List.mem_cons.1 hx with e | e
        · exact absurd e.symm hyx
        · exact e
      rw [List.map_cons, List.nodup_cons] at hnd
      have hne : f y ≠ f x := fun e => hnd.1 (e ▸ List.mem_map_of_mem hxl)
      rw [List.erase_cons_tail (by simpa using hyx), List.map_cons, List.map_cons,
        List.erase_cons_tail (by simpa using hne), ih hxl hnd.2]

/-- What the simulation reads off `contract_full`, for the two contracted nodes `a`, `b` in either order: every clause
is symmetric in them (which of the two is the parent plays no part at the value level). -/
theorem contract_sim_facts {t t' : TTN} {id1 id2 new a b : Id} (h : t.WF)
    (hnew : new = id1 ∨ new = id2 ∨ t.N new = none)
    (hc : t.contractNodes id1 id2 new = some t')
    (hab : (a = id1 ∧ b = id2) ∨ (a = id2 ∧ b = id1)) :
    a ≠ b ∧ b ∈ t.nbs a ∧ a ∈ t.nbs b ∧
      (new = a ∨ new = b ∨ t.N new = none) ∧
      t'.N new ≠ none ∧ (∀ k, k ≠ new → (k = a ∨ k = b) → t'.N k = none) ∧
      (∀ k, k ≠ new → k ≠ a → k ≠ b → (t'.N k = none ↔ t.N k = none)) ∧
      (∀ x, x ∈ t.nbs a → x ∈ t.nbs b → False) ∧
      (∀ x ax, t'.Leg new x ax ↔ ((t.Leg a x ax ∧ x ≠ b) ∨ (t.Leg b x ax ∧ x ≠ a))) ∧
      t'.openAxes new = t.openAxes id1 ++ t.openAxes id2 ∧
      (∀ k, k ≠ new → k ≠ a → k ≠ b →
        t'.legPairs k = (t.legPairs k).map (fun q => (contrRho a b new q.1, q.2)) ∧
        t'.openAxes k = t.openAxes k) := by
  obtain ⟨pid, cid, P, C, nn, _, F⟩ := contract_full h hnew hc
  have hpc : pid ≠ cid := F.ne h
  have hpnb : pid ∈ t.nbs cid := by
    rw [nbs_eq h F.nodeC]; exact (mem_neighbours C pid).2 (Or.inl F.edge)
  have hcnb := nbs_symm h hpnb
  have hNnew : t'.N new ≠ none := by rw [F.N, if_pos rfl]; exact Option.some_ne_none nn
  have hgone : ∀ k, k ≠ new → (k = pid ∨ k = cid) → t'.N k = none := fun k hk hk2 => by
    rw [F.N, if_neg hk, if_pos hk2]
  have hstay : ∀ k, k ≠ new → k ≠ pid → k ≠ cid → (t'.N k = none ↔ t.N k = none) := fun k hk hkp hkc => by
    rw [F.N, if_neg hk, if_neg (not_or.2 ⟨hkp, hkc⟩), Option.map_eq_none_iff]
  have hdisj : ∀ x, x ∈ t.nbs pid → x ∈ t.nbs cid → False := by
    intro x hxp hxc
    have hxpid : x ≠ pid := fun e => nbs_ne h hxp e.symm
    have hxcid : x ≠ cid := fun e => nbs_ne h hxc e.symm
    cases hn : t.N x with
    | none => exact nbs_node (nbs_symm h hxp) hn
    | some n =>
      obtain ⟨_, f5, f6⟩ := other_node_facts h F.nodeP F.nodeC F.edge hn hxpid
      rw [nbs_eq h F.nodeP] at hxp
      rw [nbs_eq h F.nodeC] at hxc
      have hxCc : x ∈ C.children := by
        rcases (mem_neighbours C x).1 hxc with e | e
        · rw [F.edge] at e; exact absurd (Option.some.inj e).symm hxpid
        · exact e
      rcases (mem_neighbours P x).1 hxp with e | e
      · exact (f5 e).2 hxCc
      · exact f6 e hxCc
  have hor : (a = pid ∧ b = cid) ∨ (a = cid ∧ b = pid) := by
    rcases F.ids with ⟨rfl, rfl⟩ | ⟨rfl, rfl⟩
    · exact hab
    · exact hab.symm
  rcases hor with ⟨rfl, rfl⟩ | ⟨rfl, rfl⟩
  · exact ⟨hpc, hcnb, hpnb, F.new_adm, hNnew, hgone, hstay, hdisj, F.leg_new, F.open_new, F.others⟩
  · refine ⟨hpc.symm, hpnb, hcnb, F.new_adm.elim (fun e => Or.inr (Or.inl e)) fun e => e.elim Or.inl fun e => Or.inr (Or.inr e),
      hNnew, fun k hk hk2 => hgone k hk hk2.symm, fun k hk h1 h2 => hstay k hk h2 h1, fun x h1 h2 => hdisj x h2 h1,
      fun x ax => (F.leg_new x ax).trans Or.comm, F.open_new, fun k hk h1 h2 => ?_⟩
    rw [contrRho_comm]
    exact F.others k hk h2 h1

/-- the leg map after `contract_nodes`: the new node inherits the labels of the legs of the two contracted nodes, the
other nodes keep theirs (their references to the contracted nodes now read `new`) -/
def contrG (t : TTN) (pid cid new : Id) (g : LegMap) : LegMap := fun k x =>
  if k = new then (if x ∈ t.nbs pid ∧ x ≠ cid then g pid x else g cid x)
  else if x = new then (if pid ∈ t.nbs k then g k pid else g k cid)
  else g k x

section
variable {t : TTN} {pid cid new k x : Id} {g : LegMap}

theorem contrG_new_left (hx : x ∈ t.nbs pid) (hxc : x ≠ cid) : contrG t pid cid new g new x = g pid x := by
  unfold contrG
  rw [if_pos rfl, if_pos ⟨hx, hxc⟩]

theorem contrG_new_right (hx : x ∉ t.nbs pid) : contrG t pid cid new g new x = g cid x := by
  unfold contrG
  rw [if_pos rfl, if_neg (fun h => hx h.1)]

theorem contrG_to_new (hk : k ≠ new) :
    contrG t pid cid new g k new = if pid ∈ t.nbs k then g k pid else g k cid := by
  unfold contrG
  rw [if_neg hk, if_pos rfl]

theorem contrG_ne (hk : k ≠ new) (hx : x ≠ new) : contrG t pid cid new g k x = g k x := by
  unfold contrG
  rw [if_neg hk, if_neg hx]

end

/-- the valued network after `contract_nodes`: `contractStep` over the bond `p` between `pid` and `cid`, then the legs
of every node in the axis order of the structural model -/
def simContract (dim : Nat → Nat) (e : Label → Nat) (g : LegMap) (t t1 : TTN) (v : VNet R) (pid cid new : Id)
    (p : Nat × Nat) : VNet R :=
  reLeg (contractStep dim v pid cid new p (g pid cid) (g cid pid)) (simLegs e (contrG t pid cid new g) t1)

/-- What `simstep_sound` needs of a contraction: the value-level step is admissible, the leg lists in axis order are
permutations of the ones it makes (so that `reLeg` is a step), and the result is related to the new state. -/
theorem contract_sim_core (dim : Nat → Nat) (e : Label → Nat) {g : LegMap} {t t1 : TTN} {v : VNet R}
    {id1 id2 new pid cid : Id} {p : Nat × Nat}
    (h : t.WF) (hv : v.WF) (hs : RSim dim e g t v) (hnew : new = id1 ∨ new = id2 ∨ t.N new = none)
    (hc : t.contractNodes id1 id2 new = some t1)
    (hcfg : (pid = id1 ∧ cid = id2) ∨ (pid = id2 ∧ cid = id1))
    (hp : p ∈ v.bonds) (hpab : p = (g pid cid, g cid pid) ∨ p = (g cid pid, g pid cid)) :
    ContractAdm v pid cid new p (g pid cid) (g cid pid) ∧
    (∀ k ∈ (contractStep dim v pid cid new p (g pid cid) (g cid pid)).ids,
      (simLegs e (contrG t pid cid new g) t1 k).Perm
        ((contractStep dim v pid cid new p (g pid cid) (g cid pid)).legs k)) ∧
    RSim dim e (contrG t pid cid new g) t1 (simContract dim e g t t1 v pid cid new p) := by
  obtain ⟨hpc, hcnb, hpnb, hnew', hNnew, hgone, hby, hdisj, c1, c2, c4⟩ := contract_sim_facts h hnew hc hcfg
  have h1 : t1.WF := contractNodes_wf h hnew hc
  have hpid : pid ∈ v.ids := hs.id_of_nbs hcnb
  have hcid : cid ∈ v.ids := hs.id_of_nbs hpnb
  have hnewv : new = pid ∨ new = cid ∨ new ∉ v.ids := by
    rcases hnew' with e | e | e
    · exact Or.inl e
    · exact Or.inr (Or.inl e)
    · exact Or.inr (Or.inr (fun hm => (hs.ids new).1 hm e))
  have adm : ContractAdm v pid cid new p (g pid cid) (g cid pid) :=
    ⟨hpid, hcid, hpc, ⟨hp, hpab, hs.g_mem hcnb, hs.g_mem hpnb⟩, hnewv⟩
  have fresh : ∀ x, t.N x ≠ none → x ≠ pid → x ≠ cid → x ≠ new := by
    intro x hx h1 h2 e
    rcases hnew' with e' | e' | e'
    · exact h1 (e.trans e')
    · exact h2 (e.trans e')
    · rw [e] at hx; exact hx e'
  -- the new leg map gives every surviving edge the labels it had (the neighbour sets of the two nodes are disjoint)
  have GC : ∀ k x, x ∈ t.nbs k → offEdge pid cid k x →
      contrG t pid cid new g (contrRho pid cid new k) (contrRho pid cid new x) = g k x := by
    intro k x hx ⟨n1, n2⟩
    have hkx : k ≠ x := nbs_ne h hx
    have hxk : k ∈ t.nbs x := nbs_symm h hx
    by_cases hkp : k = pid
    · subst k
      have hxc : x ≠ cid := fun e => n1 ⟨rfl, e⟩
      rw [contrRho_pid, contrRho_ne (Ne.symm hkx) hxc, contrG_new_left hx hxc]
    · by_cases hkc : k = cid
      · subst k
        have hxp : x ≠ pid := fun e => n2 ⟨rfl, e⟩
        rw [contrRho_cid, contrRho_ne hxp (Ne.symm hkx), contrG_new_right (fun hm => hdisj x hm hx)]
      · have hkn : k ≠ new := fresh k (nbs_node hx) hkp hkc
        rw [contrRho_ne hkp hkc]
        by_cases hxp : x = pid
        · subst x
          rw [contrRho_pid, contrG_to_new hkn, if_pos hx]
        · by_cases hxc : x = cid
          · subst x
            rw [contrRho_cid, contrG_to_new hkn, if_neg (fun hm => hdisj k (nbs_symm h hm) hxk)]
          · rw [contrRho_ne hxp hxc, contrG_ne hkn (fresh x (nbs_node hxk) hxp hxc)]
  have hrestmem : ∀ k, k ∈ (v.ids.erase pid).erase cid ↔ (k ∈ v.ids ∧ k ≠ pid ∧ k ≠ cid) := by
    intro k
    rw [(hv.ids_nodup.erase pid).mem_erase_iff, hv.ids_nodup.mem_erase_iff]
    exact ⟨fun ⟨a, b, c⟩ => ⟨c, b, a⟩, fun ⟨a, b, c⟩ => ⟨c, b, a⟩⟩
  have hlegs_by : ∀ k, k ≠ new → k ≠ pid → k ≠ cid →
      simLegs e (contrG t pid cid new g) t1 k = simLegs e g t k := by
    intro k a b c
    refine simLegs_of_map (c4 k a b c).1 (c4 k a b c).2 (fun x hx => ?_)
    have := GC k x hx (offEdge_of_ne b c)
    rwa [contrRho_ne b c] at this
  refine ⟨adm, ?_, ?_⟩
  · -- the legs of the new node in axis order are a permutation of what `contractStep` leaves: both are the legs of the
    -- two nodes without the two ends of the bond
    intro k hk
    rcases mem_contractStep_ids.1 hk with rfl | hk'
    · rw [contractStep_legs_new, hs.legs pid hpid, hs.legs cid hcid]
      unfold simLegs
      rw [List.erase_append_left _ (List.mem_map_of_mem hcnb), List.erase_append_left _ (List.mem_map_of_mem hpnb)]
      have hnd : ∀ j ∈ v.ids, ((t.nbs j).map (g j)).Nodup := fun j hj =>
        (List.nodup_append.1 (hs.legs j hj ▸ hv.legs_nodup j hj)).1
      rw [← map_erase_nodup (g pid) _ cid hcnb (hnd pid hpid), ← map_erase_nodup (g cid) _ pid hpnb (hnd cid hcid)]
      have hperm : (t1.nbs k).Perm ((t.nbs pid).erase cid ++ (t.nbs cid).erase pid) := by
        rw [List.perm_ext_iff_of_nodup (nbs_nodup h1 k)]
        · intro x
          rw [List.mem_append, (nbs_nodup h pid).mem_erase_iff, (nbs_nodup h cid).mem_erase_iff, mem_nbs]
          constructor
          · rintro ⟨ax, hl⟩
            rcases (c1 x ax).1 hl with ⟨hl', hne⟩ | ⟨hl', hne⟩
            · exact Or.inl ⟨hne, mem_nbs.2 ⟨ax, hl'⟩⟩
            · exact Or.inr ⟨hne, mem_nbs.2 ⟨ax, hl'⟩⟩
          · rintro (⟨hne, hm⟩ | ⟨hne, hm⟩)
            · obtain ⟨ax, hl'⟩ := mem_nbs.1 hm
              exact ⟨ax, (c1 x ax).2 (Or.inl ⟨hl', hne⟩)⟩
            · obtain ⟨ax, hl'⟩ := mem_nbs.1 hm
              exact ⟨ax, (c1 x ax).2 (Or.inr ⟨hl', hne⟩)⟩
        · rw [List.nodup_append]
          refine ⟨(nbs_nodup h pid).erase _, (nbs_nodup h cid).erase _, ?_⟩
          intro x hx y hy hxy
          subst hxy
          exact hdisj x (List.mem_of_mem_erase hx) (List.mem_of_mem_erase hy)
      have hmapP : ((t.nbs pid).erase cid).map (contrG t pid cid k g k) =
          ((t.nbs pid).erase cid).map (g pid) := by
        apply List.map_congr_left
        intro x hx
        have hx' := ((nbs_nodup h pid).mem_erase_iff).1 hx
        exact contrG_new_left hx'.2 hx'.1
      have hmapC : ((t.nbs cid).erase pid).map (contrG t pid cid k g k) =
          ((t.nbs cid).erase pid).map (g cid) := by
        apply List.map_congr_left
        intro x hx
        have hx' := ((nbs_nodup h cid).mem_erase_iff).1 hx
        exact contrG_new_right (fun hm => hdisj x hm hx'.2)
      have hstep : ((t1.nbs k).map (contrG t pid cid k g k)).Perm
          (((t.nbs pid).erase cid).map (g pid) ++ ((t.nbs cid).erase pid).map (g cid)) := by
        have := hperm.map (contrG t pid cid k g k)
        rw [List.map_append, hmapP, hmapC] at this
        exact this
      rw [c2]
      rcases hcfg with ⟨f1, f2⟩ | ⟨f1, f2⟩
      · rw [← f1, ← f2, List.map_append]
        exact (List.Perm.append_right _ hstep).trans (perm_append_interleave _ _ _ _)
      · rw [← f1, ← f2, List.map_append]
        exact (List.Perm.append_right _ hstep).trans
          ((List.Perm.append_left _ List.perm_append_comm).trans (perm_append_interleave _ _ _ _))
    · obtain ⟨g1, g2, g3⟩ := (hrestmem k).1 hk'
      have g4 : k ≠ new := rest_ne_new hv hnewv hk'
      rw [contractStep_legs_ne g4, hlegs_by k g4 g2 g3, hs.legs k g1]
  · obtain ⟨bkeep, bout⟩ := hs.bonds_erase h hv hcnb hp hpab
    -- `RSim` of the result: along the edge correspondence; the consumed bond leaves the binding record
    have ec : EdgeCorr t t1 (fun k _ => contrRho pid cid new k) (offEdge pid cid) (fun _ _ _ => False) :=
      hcfg.elim (fun e => by obtain ⟨rfl, rfl⟩ := e; exact contract_edges h hnew hc)
        fun e => by obtain ⟨rfl, rfl⟩ := e; exact contract_edges_swap (contract_edges h hnew hc)
    refine hs.transport h ec
      (ids := ?_) (legs := fun k _ => rfl) (hp := contract_openList h hnew hc) (GC := GC)
      (hfresh := fun _ _ _ f => f.elim) (bkeep := bkeep) (bout := fun q hq => Or.inr (bout q hq))
    refine hs.ids_of (old := fun k => k = pid ∨ k = cid) (new := fun k => k = new) (fun k => ?_)
      (fun k hk => hk ▸ hNnew) (fun k ho hn => hgone k hn ho)
      fun k ho hn => hby k hn (fun e => ho (Or.inl e)) (fun e => ho (Or.inr e))
    rw [show k ∈ (simContract dim e g t t1 v pid cid new p).ids ↔ _ from List.mem_cons, hrestmem k, not_or]

/-- **`contract_nodes` of the structural model is simulated at the value level**: if `t` and `v` are related and
`contract_nodes(id1, id2, new)` takes `t` to `t1`, then the bond `p` between the two nodes is in the binding record of
`v`, and contracting it (`contractStep`) and putting the legs of the new node into the order of the structural model
(`(parent, node1-children, node2-children, node1-open, node2-open)`: a permutation) gives a valued network related to
`t1`; this is a run of value-level steps, so the network is still well-formed and has the same value. -/
theorem contract_nodes_simulates (dim : Nat → Nat) (e : Label → Nat) {g : LegMap} {t t1 : TTN} {v : VNet R}
    {id1 id2 new : Id} (h : t.WF) (hv : v.WF) (hs : RSim dim e g t v)
    (hnew : new = id1 ∨ new = id2 ∨ t.N new = none) (hc : t.contractNodes id1 id2 new = some t1) :
    ∃ pid cid p, ((pid = id1 ∧ cid = id2) ∨ (pid = id2 ∧ cid = id1)) ∧ (∃ C, t.N cid = some C ∧ C.parent = some pid) ∧
      p ∈ v.bonds ∧ (p = (g pid cid, g cid pid) ∨ p = (g cid pid, g pid cid)) ∧
      SRun dim v (simContract dim e g t t1 v pid cid new p) ∧
      RSim dim e (contrG t pid cid new g) t1 (simContract dim e g t t1 v pid cid new p) := by
  obtain ⟨pid, cid, _, C, _, _, F⟩ := contract_full h hnew hc
  obtain ⟨p, hp, hpab⟩ := hs.exists_bond (contract_sim_facts h hnew hc F.ids).2.1
  obtain ⟨adm, hperm, hsim⟩ := contract_sim_core dim e h hv hs hnew hc F.ids hp hpab
  exact ⟨pid, cid, p, F.ids, ⟨C, F.nodeC, F.edge⟩, hp, hpab,
    .cons (.base (.contract adm)) (.cons (.releg hperm) (.nil _)), hsim⟩

end Ptn.C02
