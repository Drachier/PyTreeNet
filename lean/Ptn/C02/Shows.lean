import Ptn.C02.TTNLemmas
import Ptn.C02.NodeProps
/-! The node together with the array it holds: `Shows s T L` says that the node `s`, holding `T`, shows the legs `L`
(what `ttn.tensors[id]` returns).  The methods the builders of `contract_nodes`, `split_nodes`, `add_child_to_parent` and
`insert_identity` use are stated on what is shown.  `pickL l X` (`Common/List.lean`) reads `l` at the indices `X`; each
method follows from its `_spec` about the permutation by `pickL_split`: the index list that reads `L1 ++ L2` falls into
a part reading `L1` and a part reading `L2`, so the blocks of the permutation are obtained from the blocks of the legs
and never written out. -/
namespace Ptn.C02
open NodeS

theorem nodup_range'_two (a n b m : Nat) (h : a + n ≤ b) :
    (List.range' a n ++ List.range' b m).Nodup := by
  rw [List.nodup_append]
  refine ⟨List.nodup_range', List.nodup_range', ?_⟩
  intro x hx y hy
  simp only [List.mem_range'_1] at hx hy
  omega

/-- Child legs from two runs of consecutive open legs of a node without children, the runs starting at `pa`
    and `pb` and named in this order in the dictionary, whichever comes first among the legs. -/
theorem o2cs_blocks (n0 : NodeS) (Ka Kb : List Id) (pa pb : Nat) (Xp R Va Vb O : List Nat)
    (hperm : n0.perm = Xp ++ R) (hch : n0.children = []) (hXp : Xp.length = n0.nparents) (hnd : n0.perm.Nodup)
    (ha : (List.range' pa Ka.length).map (fun i => n0.perm[i]?) = Va.map some)
    (hb : (List.range' pb Kb.length).map (fun i => n0.perm[i]?) = Vb.map some)
    (hpa : Xp.length ≤ pa) (hpb : Xp.length ≤ pb) (hdisj : pa + Ka.length ≤ pb ∨ pb + Kb.length ≤ pa)
    (hfil : R.filter (fun x => !(Va ++ Vb).contains x) = O) :
    n0.openLegsToChildren (TTN.enumFrom Ka pa ++ TTN.enumFrom Kb pb) =
      some { n0 with perm := Xp ++ (Va ++ Vb) ++ O, children := Ka ++ Kb } := by
  have hnv : n0.nvirt = Xp.length := by simp [nvirt_def, hch, hXp]
  have hsnd : (TTN.enumFrom Ka pa ++ TTN.enumFrom Kb pb).map Prod.snd =
      List.range' pa Ka.length ++ List.range' pb Kb.length := by
    rw [List.map_append, enumFrom_map_snd, enumFrom_map_snd]
  rw [open_legs_to_children_spec n0 _ Xp R (Va ++ Vb) hperm hnv.symm hnd ?_ ?_ ?_, hfil, hch, List.map_append,
    enumFrom_map_fst, enumFrom_map_fst, List.nil_append]
  · intro e he
    have : e.2 ∈ List.range' pa Ka.length ++ List.range' pb Kb.length :=
      hsnd ▸ List.mem_map_of_mem (f := Prod.snd) he
    rw [hnv]
    rcases List.mem_append.mp this with h | h <;> simp only [List.mem_range'_1] at h <;> omega
  · have : (fun (e : Id × Nat) => n0.perm[e.2]?) = (fun i => n0.perm[i]?) ∘ Prod.snd := rfl
    rw [this, ← List.map_map, hsnd, List.map_append, List.map_append, ha, hb]
  · rw [hsnd]
    rcases hdisj with h | h
    · exact nodup_range'_two _ _ _ _ h
    · exact List.perm_append_comm.nodup_iff.mp (nodup_range'_two _ _ _ _ h)

theorem two_blocks_read (Xp Xc Xo Xcc Xco : List Nat) (hnd : (Xp ++ Xc ++ Xo ++ Xcc ++ Xco).Nodup) :
    (List.range' Xp.length Xc.length).map (fun i => (Xp ++ Xc ++ Xo ++ Xcc ++ Xco)[i]?) = Xc.map some ∧
    (List.range' (Xp.length + Xc.length + Xo.length) Xcc.length).map
      (fun i => (Xp ++ Xc ++ Xo ++ Xcc ++ Xco)[i]?) = Xcc.map some ∧
    (Xc ++ Xo ++ Xcc ++ Xco).Nodup := by
  refine ⟨?_, ?_, ?_⟩
  · simpa using map_getElem?_range' Xp Xc (Xo ++ Xcc ++ Xco)
  · simpa [Nat.add_assoc] using map_getElem?_range' (Xp ++ Xc ++ Xo) Xcc Xco
  · simp only [List.append_assoc] at hnd ⊢
    exact (List.nodup_append.mp hnd).2.1

theorem o2cs_two_blocks (n0 : NodeS) (K KC : List Id) (Xp Xc Xo Xcc Xco : List Nat)
    (hperm : n0.perm = Xp ++ Xc ++ Xo ++ Xcc ++ Xco) (hch : n0.children = [])
    (hXp : Xp.length = n0.nparents) (hnd : n0.perm.Nodup)
    (hXc : Xc.length = K.length) (hXcc : Xcc.length = KC.length) :
    n0.openLegsToChildren (TTN.enumFrom K Xp.length ++ TTN.enumFrom KC (Xp.length + Xc.length + Xo.length)) =
      some { n0 with perm := Xp ++ (Xc ++ Xcc) ++ (Xo ++ Xco), children := K ++ KC } := by
  obtain ⟨e1, e2, hnd'⟩ := two_blocks_read Xp Xc Xo Xcc Xco (hperm ▸ hnd)
  exact o2cs_blocks n0 K KC _ _ Xp (Xc ++ Xo ++ Xcc ++ Xco) Xc Xcc (Xo ++ Xco) (by rw [hperm]; simp) hch hXp hnd
    (by rw [hperm, ← hXc]; exact e1) (by rw [hperm, ← hXcc]; exact e2) (Nat.le_refl _) (by omega)
    (Or.inl (by omega)) (filter_segments Xc Xo Xcc Xco hnd' _ (by simp))

/-- `o2cs_two_blocks` with the second block first in the dictionary (the `node_id1 == child` order). -/
theorem o2cs_two_blocks_swapped (n0 : NodeS) (K KC : List Id) (Xp Xc Xo Xcc Xco : List Nat)
    (hperm : n0.perm = Xp ++ Xc ++ Xo ++ Xcc ++ Xco) (hch : n0.children = [])
    (hXp : Xp.length = n0.nparents) (hnd : n0.perm.Nodup)
    (hXc : Xc.length = K.length) (hXcc : Xcc.length = KC.length) :
    n0.openLegsToChildren (TTN.enumFrom KC (Xp.length + Xc.length + Xo.length) ++ TTN.enumFrom K Xp.length) =
      some { n0 with perm := Xp ++ (Xcc ++ Xc) ++ (Xo ++ Xco), children := KC ++ K } := by
  obtain ⟨e1, e2, hnd'⟩ := two_blocks_read Xp Xc Xo Xcc Xco (hperm ▸ hnd)
  exact o2cs_blocks n0 KC K _ _ Xp (Xc ++ Xo ++ Xcc ++ Xco) Xcc Xc (Xo ++ Xco) (by rw [hperm]; simp) hch hXp hnd
    (by rw [hperm, ← hXcc]; exact e2) (by rw [hperm, ← hXc]; exact e1) (by omega) (Nat.le_refl _)
    (Or.inr (by omega)) (filter_segments Xc Xo Xcc Xco hnd' _ (by simp [or_comm]))

/-- The node `s`, holding the array `T`, shows the legs `L` (`ttn.tensors[id]` would return `L`). -/
structure Shows (s : NodeS) (T L : Tensor) : Prop where
  legs : transposeT T s.perm = some L
  shp : s.shp = shapeOf T

theorem shows_nodeOfTensor (T : Tensor) : Shows (nodeOfTensor T) T T :=
  ⟨transposeT_eq_some.mpr ⟨List.length_range, List.nodup_range, pickL_range T⟩, rfl⟩

theorem Shows.pick {s : NodeS} {T L : Tensor} (h : Shows s T L) : pickL T s.perm = some L :=
  (transposeT_eq_some.mp h.legs).2.2

theorem Shows.length {s : NodeS} {T L : Tensor} (h : Shows s T L) : s.perm.length = L.length :=
  (pickL_length h.pick).symm

theorem Shows.wfn {s : NodeS} {T L : Tensor} (h : Shows s T L) (hv : s.nvirt ≤ L.length) : WFN s := by
  obtain ⟨hl, hnd, hm⟩ := transposeT_eq_some.mp h.legs
  refine ⟨perm_range_of_nodup hnd (fun x hx => ?_) rfl, by rw [h.shp, hl]; simp [shapeOf], by rw [h.length]; exact hv⟩
  obtain ⟨a, ha⟩ := Option.isSome_iff_exists.mp
    (show (T[x]?).isSome from by
      have := List.mem_map_of_mem (f := (T[·]?)) hx
      rw [pickL_eq_some_iff.1 hm] at this
      obtain ⟨y, _, e⟩ := List.mem_map.1 this
      rw [← e]; rfl)
  rw [hl]
  exact (List.getElem?_eq_some_iff.mp ha).1

/-- Moving the entries of the permutation around: the node shows the legs the new index list reads. -/
theorem Shows.rearrange {s s' : NodeS} {T L L' : Tensor} (h : Shows s T L) (hp : s'.perm.Perm s.perm)
    (hs : s'.shp = s.shp) (hr : pickL T s'.perm = some L') : Shows s' T L' := by
  obtain ⟨hl, hnd, -⟩ := transposeT_eq_some.mp h.legs
  exact ⟨transposeT_eq_some.mpr ⟨hp.length_eq.trans hl, hp.symm.nodup hnd, hr⟩, hs.trans h.shp⟩

/-- `open_leg_to_parent`: the open leg `a` becomes the first leg shown. -/
theorem Shows.o2p {s : NodeS} {T LC LO1 LO2 : Tensor} {a : Axis} (h : Shows s T (LC ++ (LO1 ++ a :: LO2)))
    (pid : Id) (hroot : s.parent = none) (hC : LC.length = s.nchildren) :
    ∃ s', s.openLegToParent pid (some (s.nvirt + LO1.length)) = some s' ∧ s'.parent = some pid ∧
      s'.children = s.children ∧ Shows s' T ([a] ++ LC ++ (LO1 ++ LO2)) := by
  obtain ⟨C, X, e, hCr, hX⟩ := pickL_split h.pick
  obtain ⟨O1, X', rfl, hO1, hX'⟩ := pickL_split hX
  obtain ⟨v, O2, rfl, hV, hO2⟩ := pickL_split_cons hX'
  have hs := open_leg_to_parent_spec s pid C O1 O2 v hroot e ((pickL_length hCr).symm.trans hC)
  rw [← pickL_length hO1] at hs
  refine ⟨_, hs, rfl, rfl, h.rearrange ?_ rfl (pickL_append (pickL_append hV hCr) (pickL_append hO1 hO2))⟩
  rw [e]
  simpa using (List.perm_middle (l₁ := C ++ O1) (a := v) (l₂ := O2)).symm

/-- `open_leg_to_child`: the open leg `a` becomes the last child leg shown. -/
theorem Shows.o2c {s : NodeS} {T LP LC LO1 LO2 : Tensor} {a : Axis}
    (h : Shows s T (LP ++ LC ++ (LO1 ++ a :: LO2))) (cid : Id)
    (hP : LP.length = s.nparents) (hC : LC.length = s.nchildren) :
    ∃ s', s.openLegToChild cid (s.nvirt + LO1.length) = some s' ∧ s'.parent = s.parent ∧
      s'.children = s.children ++ [cid] ∧ Shows s' T (LP ++ (LC ++ [a]) ++ (LO1 ++ LO2)) := by
  obtain ⟨PC, X, e, hPC, hX⟩ := pickL_split h.pick
  obtain ⟨P, C, rfl, hPr, hCr⟩ := pickL_split hPC
  obtain ⟨O1, X', rfl, hO1, hX'⟩ := pickL_split hX
  obtain ⟨v, O2, rfl, hV, hO2⟩ := pickL_split_cons hX'
  have hs := open_leg_to_child_spec s cid P C O1 O2 v e ((pickL_length hPr).symm.trans hP)
    ((pickL_length hCr).symm.trans hC)
  rw [← pickL_length hO1] at hs
  refine ⟨_, hs, rfl, rfl,
    h.rearrange ?_ rfl (pickL_append (pickL_append hPr (pickL_append hCr hV)) (pickL_append hO1 hO2))⟩
  rw [e]
  simp only [List.append_assoc, List.singleton_append]
  exact ((List.perm_middle (l₁ := O1) (a := v) (l₂ := O2)).symm.append_left C).append_left P

/-- `open_legs_to_children` on a node without children, for two runs of open legs named one after the other
    in the dictionary: they become the child legs in the order of the dictionary. -/
theorem Shows.o2cs_two {n0 : NodeS} {T Lp Lc Lo Lcc Lco : Tensor}
    (h : Shows n0 T (Lp ++ Lc ++ Lo ++ Lcc ++ Lco)) (K KC : List Id) (hch : n0.children = [])
    (hLp : Lp.length = n0.nparents) (hLc : Lc.length = K.length) (hLcc : Lcc.length = KC.length) :
    (∃ n1, n0.openLegsToChildren
        (TTN.enumFrom K Lp.length ++ TTN.enumFrom KC (Lp.length + Lc.length + Lo.length)) = some n1 ∧
      n1.parent = n0.parent ∧ n1.children = K ++ KC ∧ Shows n1 T (Lp ++ (Lc ++ Lcc) ++ (Lo ++ Lco))) ∧
    (∃ n1, n0.openLegsToChildren
        (TTN.enumFrom KC (Lp.length + Lc.length + Lo.length) ++ TTN.enumFrom K Lp.length) = some n1 ∧
      n1.parent = n0.parent ∧ n1.children = KC ++ K ∧ Shows n1 T (Lp ++ (Lcc ++ Lc) ++ (Lo ++ Lco))) := by
  obtain ⟨Xp, Xc, Xo, Xcc, Xco, e, hp, hc, ho, hcc, hco⟩ := pickL_split5 h.pick
  have hnd : n0.perm.Nodup := (transposeT_eq_some.mp h.legs).2.1
  have lp := pickL_length hp
  have lc := pickL_length hc
  have lo := pickL_length ho
  have lcc := pickL_length hcc
  have h1 := o2cs_two_blocks n0 K KC Xp Xc Xo Xcc Xco e hch (lp.symm.trans hLp) hnd (lc.symm.trans hLc)
    (lcc.symm.trans hLcc)
  have h2 := o2cs_two_blocks_swapped n0 K KC Xp Xc Xo Xcc Xco e hch (lp.symm.trans hLp) hnd (lc.symm.trans hLc)
    (lcc.symm.trans hLcc)
  rw [← lp, ← lc, ← lo] at h1 h2
  exact ⟨⟨_, h1, rfl, rfl, h.rearrange (openLegsToChildren_some h1).1 rfl
      (pickL_append (pickL_append hp (pickL_append hc hcc)) (pickL_append ho hco))⟩,
    ⟨_, h2, rfl, rfl, h.rearrange (openLegsToChildren_some h2).1 rfl
      (pickL_append (pickL_append hp (pickL_append hcc hc)) (pickL_append ho hco))⟩⟩

/-- `exchange_open_leg_ranges`: the runs `R1` and `R2` of legs shown trade places. -/
theorem Shows.xch {s : NodeS} {T A R1 M R2 Z : Tensor} (h : Shows s T (A ++ R1 ++ M ++ R2 ++ Z)) :
    ∃ s', s.exchangeOpenLegRanges A.length (A.length + R1.length) (A.length + R1.length + M.length)
        (A.length + R1.length + M.length + R2.length) = some s' ∧ s'.parent = s.parent ∧
      s'.children = s.children ∧ Shows s' T (A ++ R2 ++ M ++ R1 ++ Z) := by
  obtain ⟨XA, X1, XM, X2, XZ, e, hA, h1, hM, h2, hZ⟩ := pickL_split5 h.pick
  have hs := exchange_open_leg_ranges_spec s XA X1 XM X2 XZ e
  rw [← pickL_length hA, ← pickL_length h1, ← pickL_length hM, ← pickL_length h2] at hs
  exact ⟨_, hs, rfl, rfl, h.rearrange (exchangeOpenLegRanges_some hs).1 rfl
    (pickL_append (pickL_append (pickL_append (pickL_append hA h2) hM) h1) hZ)⟩

/-- A fresh node: the axis at position `|A|` of its array becomes the parent leg. -/
theorem shows_fresh_o2p (A B : Tensor) (a : Axis) (g : Id) :
    ∃ n1, (nodeOfTensor (A ++ a :: B)).openLegToParent g (some A.length) = some n1 ∧ n1.parent = some g ∧
      n1.children = [] ∧ Shows n1 (A ++ a :: B) (a :: (A ++ B)) := by
  have h := (shows_nodeOfTensor (A ++ a :: B)).o2p (LC := []) (LO1 := A) (a := a) (LO2 := B) g rfl rfl
  rwa [nodeOfTensor_nvirt, Nat.zero_add] at h

/-- Legs that already stand right behind the parent leg, in the order of the dictionary: nothing moves. -/
theorem Shows.o2cs_prefix {n0 : NodeS} {T Lp Lc Lo : Tensor} (h : Shows n0 T (Lp ++ Lc ++ Lo)) (K : List Id)
    (hch : n0.children = []) (hLp : Lp.length = n0.nparents) (hLc : Lc.length = K.length) :
    ∃ n1, n0.openLegsToChildren (TTN.enumFrom K Lp.length) = some n1 ∧ n1.parent = n0.parent ∧
      n1.children = K ∧ Shows n1 T (Lp ++ Lc ++ Lo) := by
  have h' : Shows n0 T (Lp ++ Lc ++ [] ++ [] ++ Lo) := by simpa only [List.append_nil] using h
  obtain ⟨n1, e, hpar, hc, hs⟩ := (h'.o2cs_two K [] hch hLp hLc rfl).1
  exact ⟨n1, by simpa only [enumFrom_nil, List.append_nil] using e, hpar, by simpa using hc,
    by simpa only [List.append_nil, List.nil_append, List.append_assoc] using hs⟩

end Ptn.C02
