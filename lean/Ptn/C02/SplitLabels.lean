import Ptn.C02.SplitWF
import Ptn.C02.EdgeCorr
/-! `split_nodes` at the level of labels: where every leg and every open axis goes — node by node in the names of the
call (`split_legs`: out-node, in-node; a projection of `split_full`), the same with the two sides named by their role
(`split_labels`: `a` takes the place of the split node, `b` is its new child), and edge by edge (`split_edges`) — and
preservation of the label invariant `LWF`. -/
namespace Ptn.C02
open NodeS

namespace SplitAdm
variable {t : TTN} {id : Id} {X : NodeS} {outL inL : TTN.LegSpec} {outId inId : Id}

theorem nbr_of_leg (adm : SplitAdm t id X outL inL outId inId) (h : t.WF) {k : Id} {ax : Axis}
    (hl : t.Leg k id ax) : k ∈ X.neighbours := by
  obtain ⟨n, _, hn, _, _⟩ := leg_node hl
  obtain ⟨m, hm', hk⟩ := neighbours_symm h hn (leg_nbr hn hl)
  rw [adm.node] at hm'
  cases hm'
  exact hk

end SplitAdm

/-- **Where the legs go in `split_nodes`, in the names of the call.**  The out- and the in-node are joined by the
    fresh bond; every other virtual leg of the split node goes, with its axis, to the side whose specification lists
    that neighbour (`allNeighbourIds`: its parent leg and its child legs); every other node keeps its axes, its
    reference to the split node now reads the side that lists it (`splitSide`). -/
theorem split_legs {t t' : TTN} {id : Id} {X : NodeS} {outL inL : TTN.LegSpec} {outId inId : Id}
    {bd : Nat} (h : t.WF) (adm : SplitAdm t id X outL inL outId inId)
    (hs : t.splitNodes id outL inL outId inId bd = some t') :
    outId ≠ inId ∧ ∃ L, t.logical id = some L ∧
      (∀ x ax, t'.Leg outId x ax ↔
        ((x = inId ∧ ax = ⟨t.nextLabel, bd⟩) ∨ (x ∈ outL.allNeighbourIds ∧ t.Leg id x ax))) ∧
      (∀ x ax, t'.Leg inId x ax ↔
        ((x = outId ∧ ax = ⟨t.nextLabel, bd⟩) ∨ (x ∈ inL.allNeighbourIds ∧ t.Leg id x ax))) ∧
      t'.openAxes outId = pick L outL.openLegs ∧ t'.openAxes inId = pick L inL.openLegs ∧
      (t'.openAxes outId ++ t'.openAxes inId).Perm (t.openAxes id) ∧
      (id ≠ outId → id ≠ inId → t'.legPairs id = [] ∧ t'.openAxes id = []) ∧
      (∀ k, k ≠ outId → k ≠ inId → k ≠ id →
        t'.legPairs k = (t.legPairs k).map (fun e => (splitSide id inL outId inId k e.1, e.2)) ∧
        t'.openAxes k = t.openAxes k) := by
  obtain ⟨outNode, inNode, outT, inT, L, Lo, Li, F⟩ := split_full h adm hs
  have hXN := adm.node
  have hNo : t'.N outId = some outNode := by rw [F.N, if_pos rfl]
  have hNi : t'.N inId = some inNode := by rw [F.N, if_neg (Ne.symm F.ne), if_pos rfl]
  have hlo : t'.logical outId = some Lo := (logical_eq hNo (by rw [F.tensors, if_neg F.ne, if_pos rfl])).trans F.shows_out
  have hli : t'.logical inId = some Li := (logical_eq hNi (by rw [F.tensors, if_pos rfl])).trans F.shows_in
  have hlegX := h.leg_iff hXN F.logical
  have hopO : t'.openAxes outId = pick L outL.openLegs := by rw [openAxes_eq hNo hlo, F.open_out]
  have hopI : t'.openAxes inId = pick L inL.openLegs := by rw [openAxes_eq hNi hli, F.open_in]
  have hLl : L.length = X.nlegs := by
    obtain ⟨L', hL', hl⟩ := logical_some h hXN
    rw [F.logical] at hL'; cases hL'
    exact hl
  have hopen : (t'.openAxes outId ++ t'.openAxes inId).Perm (t.openAxes id) := by
    rw [hopO, hopI, openAxes_eq hXN F.logical]
    have e1 : pick L outL.openLegs ++ pick L inL.openLegs = pick L (outL.openLegs ++ inL.openLegs) := by
      simp [pick, List.filterMap_append]
    rw [e1]
    have e2 : L.drop X.nvirt = pick L (List.range' X.nvirt (X.nlegs - X.nvirt)) := by
      rw [pick_range' L X.nvirt (X.nlegs - X.nvirt) (by
        have := (h.node id X hXN).virt
        simp only [nlegs] at hLl ⊢
        omega)]
      rw [List.take_of_length_le (by simp [hLl])]
    rw [e2]
    exact F.open_perm.filterMap _
  refine ⟨F.ne, L, F.logical, fun x ax => ?_, fun x ax => ?_, hopO, hopI, hopen, fun h1 h2 => ?_, fun k k1 k2 k3 => ?_⟩
  · unfold TTN.Leg
    rw [legPairs_eq hNo hlo, F.legs_out x ax, ← hlegX]
    rfl
  · unfold TTN.Leg
    rw [legPairs_eq hNi hli, F.legs_in x ax, ← hlegX]
    rfl
  · have : t'.N id = none := by rw [F.N, if_neg h1, if_neg h2, if_pos rfl]
    exact ⟨legPairs_none this, openAxes_none this⟩
  · exact (labels_of_renNode _ (by rw [F.N, if_neg k1, if_neg k2, if_neg k3])
      (by rw [F.tensors, if_neg k2, if_neg k1, if_neg k3])).2

/-- The renaming of the references to the split node `x` held by the bystander `k`, with the two sides named by their
    role: the children taken by the `b` side point to `b`, everybody else (the other children, the former parent)
    to `a`. -/
def splitRho (x a b : Id) (bCh : List Id) (k : Id) (y : Id) : Id :=
  if y = x then (if k ∈ bCh then b else a) else y

theorem splitRho_self (x a b : Id) (bCh : List Id) (k : Id) :
    splitRho x a b bCh k x = if k ∈ bCh then b else a := if_pos rfl

theorem splitRho_ne {x a b k y : Id} {bCh : List Id} (h : y ≠ x) : splitRho x a b bCh k y = y := if_neg h

/-- **Where the legs go in `split_nodes`**, with the two sides named by their role: `a` (the side that keeps the parent
    or the root role) and `b` (its new first child). -/
theorem split_labels {t t' : TTN} {id : Id} {X : NodeS} {outL inL : TTN.LegSpec} {outId inId : Id}
    {bd : Nat} (h : t.WF) (adm : SplitAdm t id X outL inL outId inId)
    (hs : t.splitNodes id outL inL outId inId bd = some t') :
    ∃ a b aCh bCh L,
      ((a = outId ∧ b = inId ∧ aCh = outL.childLegs ∧ bCh = inL.childLegs) ∨
       (a = inId ∧ b = outId ∧ aCh = inL.childLegs ∧ bCh = outL.childLegs)) ∧
      a ≠ b ∧ t.logical id = some L ∧
      (∀ c, c ∈ X.children ↔ (c ∈ aCh ∨ c ∈ bCh)) ∧ (∀ c, c ∈ aCh → c ∉ bCh) ∧
      (∀ x ax, t'.Leg a x ax ↔
        ((x = b ∧ ax = ⟨t.nextLabel, bd⟩) ∨ ((X.parent = some x ∨ x ∈ aCh) ∧ t.Leg id x ax))) ∧
      (∀ x ax, t'.Leg b x ax ↔ ((x = a ∧ ax = ⟨t.nextLabel, bd⟩) ∨ (x ∈ bCh ∧ t.Leg id x ax))) ∧
      t'.openAxes outId = pick L outL.openLegs ∧ t'.openAxes inId = pick L inL.openLegs ∧
      (t'.openAxes outId ++ t'.openAxes inId).Perm (t.openAxes id) ∧
      (id ≠ a → id ≠ b → t'.legPairs id = [] ∧ t'.openAxes id = []) ∧
      (∀ k, k ≠ a → k ≠ b → k ≠ id →
        t'.legPairs k = (t.legPairs k).map (fun e => (splitRho id a b bCh k e.1, e.2)) ∧
        t'.openAxes k = t.openAxes k) := by
  obtain ⟨hoi, L, hlogL, cO, cI, so, si, hopen, cgone, cby⟩ := split_legs h adm hs
  obtain ⟨hond, hind, hdisj, hmemX⟩ := adm.children_split h
  have hnone : ∀ (ls : TTN.LegSpec), ls.parentLeg = none → ∀ x, x ∈ ls.allNeighbourIds ↔ x ∈ ls.childLegs :=
    fun ls e x => by rw [mem_allNeighbourIds, e]; exact or_iff_right nofun
  rcases adm.keeper with ⟨hop, -, hip, -⟩ | ⟨hip, -, hop, -⟩
  · refine ⟨outId, inId, outL.childLegs, inL.childLegs, L, Or.inl ⟨rfl, rfl, rfl, rfl⟩, hoi, hlogL, hmemX, hdisj,
      fun x ax => by rw [← hop, ← mem_allNeighbourIds]; exact cO x ax,
      fun x ax => by rw [← hnone inL hip]; exact cI x ax, so, si, hopen, cgone, fun k g1 g2 g3 => ?_⟩
    obtain ⟨c1, c2⟩ := cby k g1 g2 g3
    refine ⟨c1.trans (List.map_congr_left fun q _ => ?_), c2⟩
    unfold splitSide splitRho
    by_cases hk : k ∈ inL.childLegs
    · rw [if_pos hk, if_pos ((hnone inL hip k).2 hk)]
    · rw [if_neg hk, if_neg fun h' => hk ((hnone inL hip k).1 h')]
  · refine ⟨inId, outId, inL.childLegs, outL.childLegs, L, Or.inr ⟨rfl, rfl, rfl, rfl⟩, Ne.symm hoi, hlogL,
      fun c => (hmemX c).trans Or.comm, fun c h1 h2 => hdisj c h2 h1,
      fun x ax => by rw [← hip, ← mem_allNeighbourIds]; exact cI x ax,
      fun x ax => by rw [← hnone outL hop]; exact cO x ax, so, si, hopen, fun g1 g2 => cgone g2 g1,
      fun k g1 g2 g3 => ?_⟩
    obtain ⟨c1, c2⟩ := cby k g2 g1 g3
    refine ⟨c1.trans (List.map_congr_left fun q hq => ?_), c2⟩
    by_cases hy : q.1 = id
    · -- a node with a leg to the split node is listed by exactly one side
      have hk : k ∈ X.neighbours := adm.nbr_of_leg h (show t.Leg k id q.2 from hy ▸ hq)
      rw [hy, splitRho_self, splitSide_self]
      by_cases hko : k ∈ outL.childLegs
      · rw [if_pos hko, if_neg fun hi => adm.nbrs_disjoint h ((hnone outL hop k).2 hko) hi]
      · rw [if_neg hko, if_pos (((adm.mem_nbrs k).2 hk).resolve_left fun ho => hko ((hnone outL hop k).1 ho))]
    · rw [splitRho_ne hy, splitSide_ne hy]

/-- Which nodes there are after `split_nodes`, in the names of the call (the out- and the in-node exist: they have
the leg of the new bond). -/
theorem split_N {t t' : TTN} {id : Id} {X : NodeS} {outL inL : TTN.LegSpec} {outId inId : Id} {bd : Nat}
    (h : t.WF) (adm : SplitAdm t id X outL inL outId inId)
    (hs : t.splitNodes id outL inL outId inId bd = some t') :
    (id ≠ outId → id ≠ inId → t'.N id = none) ∧
    ∀ k, k ≠ outId → k ≠ inId → k ≠ id → (t'.N k = none ↔ t.N k = none) := by
  obtain ⟨_, _, _, _, _, _, _, F⟩ := split_full h adm hs
  exact ⟨fun g1 g2 => by rw [F.N, if_neg g1, if_neg g2, if_pos rfl],
    fun k g1 g2 g3 => by rw [F.N, if_neg g1, if_neg g2, if_neg g3, Option.map_eq_none_iff]⟩

/-- `split_nodes`: every edge survives; the end at the split node goes to the side that lists the neighbour; the two
ends of the new bond are the only fresh edges.  `EdgeCorr` wants the new name of the END `k` of the edge `k – x`;
`splitSide .. x k` is the name under which the HOLDER `x` refers to `k` afterwards - the same thing, arguments swapped. -/
theorem split_edges {t t' : TTN} {id : Id} {X : NodeS} {outL inL : TTN.LegSpec} {outId inId : Id} {bd : Nat}
    (h : t.WF) (adm : SplitAdm t id X outL inL outId inId)
    (hs : t.splitNodes id outL inL outId inId bd = some t') :
    EdgeCorr t t' (fun k x => splitSide id inL outId inId x k) (fun _ _ => True)
      (fun k' x' ax => ((k' = outId ∧ x' = inId) ∨ (k' = inId ∧ x' = outId)) ∧ ax = ⟨t.nextLabel, bd⟩) := by
  obtain ⟨_, L, _, cO, cI, _, _, _, cgone, cby⟩ := split_legs h adm hs
  have fresh : ∀ x, t.N x ≠ none → x ≠ id → x ≠ outId ∧ x ≠ inId := by
    intro x hx hxid
    cases hn : t.N x with
    | none => exact absurd hn hx
    | some n => exact adm.ne_of_node hn hxid
  refine ⟨fun _ _ _ => trivial, ?_, ?_, ?_⟩
  · rintro k x ax ⟨⟨rfl, rfl⟩ | ⟨rfl, rfl⟩, rfl⟩
    · exact (cO _ _).2 (Or.inl ⟨rfl, rfl⟩)
    · exact (cI _ _).2 (Or.inl ⟨rfl, rfl⟩)
  · intro k' x' ax hl
    by_cases hko : k' = outId
    · subst k'
      rcases (cO x' ax).1 hl with ⟨e1, e2⟩ | ⟨hx, hl'⟩
      · exact Or.inl ⟨Or.inl ⟨rfl, e1⟩, e2⟩
      · have hxid : x' ≠ id := fun e' => leg_ne h hl' e'.symm
        exact Or.inr ⟨id, x', hl', trivial, by rw [splitSide_self, if_neg fun hi => adm.nbrs_disjoint h hx hi],
          (splitSide_ne hxid).symm⟩
    · by_cases hki : k' = inId
      · subst k'
        rcases (cI x' ax).1 hl with ⟨e1, e2⟩ | ⟨hx, hl'⟩
        · exact Or.inl ⟨Or.inr ⟨rfl, e1⟩, e2⟩
        · have hxid : x' ≠ id := fun e' => leg_ne h hl' e'.symm
          exact Or.inr ⟨id, x', hl', trivial, by rw [splitSide_self, if_pos hx], (splitSide_ne hxid).symm⟩
      · by_cases hkid : k' = id
        · subst k'
          unfold TTN.Leg at hl
          rw [(cgone (fun e' => hko e') fun e' => hki e').1] at hl
          cases hl
        · obtain ⟨x, hm, he⟩ := (leg_of_map (cby k' hko hki hkid).1).1 hl
          exact Or.inr ⟨k', x, hm, trivial, (splitSide_ne hkid).symm, he⟩
  · intro k x ax hl _
    have hkx : k ≠ x := leg_ne h hl
    by_cases hk : k = id
    · subst k
      rw [splitSide_ne (Ne.symm hkx), splitSide_self]
      by_cases hxi : x ∈ inL.allNeighbourIds
      · rw [if_pos hxi]
        exact (cI x ax).2 (Or.inr ⟨hxi, hl⟩)
      · rw [if_neg hxi]
        exact (cO x ax).2 (Or.inr ⟨((adm.mem_nbrs x).2 (leg_nbr adm.node hl)).resolve_right hxi, hl⟩)
    · obtain ⟨f1, f2⟩ := fresh k (leg_isNode hl) hk
      rw [splitSide_ne hk]
      exact (leg_of_map (cby k f1 f2 hk).1).2 ⟨x, hl, rfl⟩

/-- **`split_nodes` preserves the label invariant.** -/
theorem split_lwf {t t' : TTN} {id : Id} {X : NodeS} {outL inL : TTN.LegSpec} {outId inId : Id}
    {bd : Nat} (h : t.WF) (hl : t.LWF) (adm : SplitAdm t id X outL inL outId inId)
    (hs : t.splitNodes id outL inL outId inId bd = some t') : t'.LWF :=
  (split_edges h adm hs).lwf hl fun _ _ _ f => ⟨f.1.symm.imp And.symm And.symm, f.2⟩

end Ptn.C02
