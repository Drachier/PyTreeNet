import Ptn.C02.Composite
import Ptn.C02.OpsLabels
/-! The assertion `WFX P O` under which the composite edits are verified step by step, the open axes of a network
after each basic edit as one equation of functions `Id → List Axis` (`contractO`, `splitO`), and the rule that carries
`WFX` through each basic edit with `O` transformed accordingly.  Rests on the per-node descriptions `contract_legs`,
`split_legs`, `ident_labels`, `access_labels` and on the `*_wf` and `*_lwf` theorems of the basic edits. -/
namespace Ptn.C02
open NodeS

/-- Well-formedness together with – when `P` holds – the label invariant and a fixed assignment `O` of open
    axes to the nodes.  (`P := False` gives plain well-formedness, `P := True` the label-level statements;
    one induction serves both.) -/
structure TTN.WFX (P : Prop) (O : Id → List Axis) (t : TTN) : Prop where
  wf : t.WF
  lwf : P → t.LWF
  op : P → ∀ k, t.openAxes k = O k

theorem TTN.WFX.ofWF {t : TTN} (h : t.WF) : t.WFX False (fun _ => []) := ⟨h, False.elim, False.elim⟩

theorem TTN.WFX.ofLWF {t : TTN} (h : t.WF) (hl : t.LWF) : t.WFX True t.openAxes :=
  ⟨h, fun _ => hl, fun _ _ => rfl⟩

theorem access_wfx {P : Prop} {O : Id → List Axis} {t t1 : TTN} {id : Id} {T : Tensor} (hx : t.WFX P O)
    (ha : t.access id = some (t1, T)) : t1.WFX P O :=
  ⟨access_wf hx.wf ha, fun hp => access_lwf (hx.lwf hp) ha,
    fun hp k => ((access_labels ha).2.2.2 k).trans (hx.op hp k)⟩

theorem rtp_wfx {P : Prop} {O : Id → List Axis} {t t' : TTN} {id : Id} {q : Option (List Nat)} (hx : t.WFX P O)
    (hq : ∀ l, q = some l → l.Perm (List.range l.length))
    (hs : t.replaceTensorPermuted id q = some t') : t'.WFX P O :=
  ⟨replaceTensorPermuted_wf hx.wf hq hs, fun hp => rtp_lwf hx.wf (hx.lwf hp) hq hs,
    fun hp k => ((rtp_labels hx.wf hq hs k).2.2).trans (hx.op hp k)⟩

/-- Open axes after `contract_nodes(id1, id2, new)`. -/
def contractO (O : Id → List Axis) (id1 id2 new : Id) : Id → List Axis :=
  fun k => if k = new then O id1 ++ O id2 else if k = id1 ∨ k = id2 then [] else O k

/-- Open axes after `split_nodes(id, …, outId, inId)`; `Ao`, `Ai` = the axes the two specifications pick. -/
def splitO (O : Id → List Axis) (id outId inId : Id) (Ao Ai : List Axis) : Id → List Axis :=
  fun k => if k = outId then Ao else if k = inId then Ai else if k = id then [] else O k

theorem contract_openAxes {t t' : TTN} {id1 id2 new : Id} (h : t.WF)
    (hnew : new = id1 ∨ new = id2 ∨ t.N new = none)
    (hc : t.contractNodes id1 id2 new = some t') :
    t'.openAxes = contractO t.openAxes id1 id2 new := by
  obtain ⟨_, _, _, _, cnew, cgone, cby⟩ := contract_legs h hnew hc
  funext k
  unfold contractO
  by_cases k1 : k = new
  · rw [if_pos k1, k1, cnew]
  · by_cases k2 : k = id1 ∨ k = id2
    · rw [if_neg k1, if_pos k2]; exact (cgone k k1 k2).2
    · rw [if_neg k1, if_neg k2]
      exact (cby k k1 (fun e => k2 (Or.inl e)) fun e => k2 (Or.inr e)).2

theorem split_openAxes {t t' : TTN} {id : Id} {X : NodeS} {outL inL : TTN.LegSpec} {outId inId : Id}
    {bd : Nat} (h : t.WF) (adm : SplitAdm t id X outL inL outId inId)
    (hs : t.splitNodes id outL inL outId inId bd = some t') :
    ∃ L, t.logical id = some L ∧
      t'.openAxes = splitO t.openAxes id outId inId (pick L outL.openLegs) (pick L inL.openLegs) := by
  obtain ⟨_, L, hL, _, _, so, si, _, sid, sby⟩ := split_legs h adm hs
  refine ⟨L, hL, funext fun k => ?_⟩
  unfold splitO
  by_cases k1 : k = outId
  · rw [if_pos k1, k1, so]
  · by_cases k2 : k = inId
    · rw [if_neg k1, if_pos k2, k2, si]
    · rw [if_neg k1, if_neg k2]
      by_cases k3 : k = id
      · rw [if_pos k3, k3]; exact (sid (k3 ▸ k1) (k3 ▸ k2)).2
      · rw [if_neg k3]; exact (sby k k1 k2 k3).2

theorem ident_openAxes {t t' : TTN} {cid pid new : Id} (h : t.WF) (hnew : t.N new = none)
    (hs : t.insertIdentity cid pid new = some t') : t'.openAxes = t.openAxes := by
  obtain ⟨ax, _, _, c1, c2⟩ := ident_labels h hnew hs
  funext k
  by_cases hk : k = new
  · rw [hk, c1, openAxes_none hnew]
  · exact (c2 k hk).2

theorem contract_wfx {P : Prop} {O : Id → List Axis} {t t' : TTN} {id1 id2 new : Id} (hx : t.WFX P O)
    (hnew : new = id1 ∨ new = id2 ∨ t.N new = none) (hc : t.contractNodes id1 id2 new = some t') :
    t'.WFX P (contractO O id1 id2 new) :=
  ⟨contractNodes_wf hx.wf hnew hc, fun hp => contract_lwf hx.wf (hx.lwf hp) hnew hc,
    fun hp k => by rw [contract_openAxes hx.wf hnew hc, ← funext (hx.op hp)]⟩

theorem split_wfx {P : Prop} {O : Id → List Axis} {t t' : TTN} {id : Id} {X : NodeS}
    {outL inL : TTN.LegSpec} {outId inId : Id} {bd : Nat} (hx : t.WFX P O)
    (adm : SplitAdm t id X outL inL outId inId) (hs : t.splitNodes id outL inL outId inId bd = some t') :
    ∃ L, t.logical id = some L ∧
      t'.WFX P (splitO O id outId inId (pick L outL.openLegs) (pick L inL.openLegs)) := by
  obtain ⟨L, hL, hO⟩ := split_openAxes hx.wf adm hs
  exact ⟨L, hL, splitNodes_wf hx.wf adm hs, fun hp => split_lwf hx.wf (hx.lwf hp) adm hs,
    fun hp k => by rw [hO, ← funext (hx.op hp)]⟩

theorem ident_wfx {P : Prop} {O : Id → List Axis} {t t' : TTN} {cid pid new : Id} (hx : t.WFX P O)
    (hnew : t.N new = none) (hs : t.insertIdentity cid pid new = some t') : t'.WFX P O :=
  ⟨insertIdentity_wf hx.wf hnew hs, fun hp => ident_lwf hx.wf (hx.lwf hp) hnew hs,
    fun hp k => by rw [ident_openAxes hx.wf hnew hs]; exact hx.op hp k⟩

theorem TTN.WFX.congr {P : Prop} {O O' : Id → List Axis} {t : TTN} (hx : t.WFX P O) (e : P → O = O') :
    t.WFX P O' :=
  ⟨hx.wf, hx.lwf, fun hp k => by rw [← e hp]; exact hx.op hp k⟩

theorem TTN.WFX.fresh {P : Prop} {O : Id → List Axis} {t : TTN} (hx : t.WFX P O) {k : Id} (hk : t.N k = none)
    (hp : P) : O k = [] := by
  rw [← hx.op hp k]; exact openAxes_none hk

/-- The composite edits work with a temporary node `l` that has no open axis: contracting it into `b` (result named
`b`) leaves the open axes of every node as they were. -/
theorem contractO_same {O : Id → List Axis} {id1 id2 l b : Id}
    (hids : (id1 = l ∧ id2 = b) ∨ (id1 = b ∧ id2 = l)) (hl : O l = []) :
    contractO O id1 id2 b = O := by
  funext k
  unfold contractO
  by_cases k1 : k = b
  · rw [if_pos k1, k1]
    rcases hids with ⟨e1, e2⟩ | ⟨e1, e2⟩
    · rw [e1, e2, hl, List.nil_append]
    · rw [e1, e2, hl, List.append_nil]
  · rw [if_neg k1]
    by_cases k2 : k = id1 ∨ k = id2
    · have : k = l := by
        rcases hids with ⟨e1, e2⟩ | ⟨e1, e2⟩
        · exact (k2.resolve_right (e2 ▸ k1)).trans e1
        · exact (k2.resolve_left (e1 ▸ k1)).trans e2
      rw [if_pos k2, this, hl]
    · rw [if_neg k2]

theorem contract_wfx_same {P : Prop} {O : Id → List Axis} {t t' : TTN} {id1 id2 l b : Id} (hx : t.WFX P O)
    (hids : (id1 = l ∧ id2 = b) ∨ (id1 = b ∧ id2 = l)) (hl : P → O l = [])
    (hc : t.contractNodes id1 id2 b = some t') : t'.WFX P O :=
  (contract_wfx hx (hids.elim (fun e => .inr (.inl e.2.symm)) fun e => .inl e.1.symm) hc).congr
    fun hp => contractO_same hids (hl hp)

theorem pick_openIdx {A : NodeS} {L : Tensor} (hL : L.length = A.nlegs) (hv : A.nvirt ≤ A.nlegs) :
    pick L (TTN.openIdx A) = L.drop A.nvirt := by
  unfold TTN.openIdx
  rw [pick_range' L A.nvirt (A.nlegs - A.nvirt) (by omega)]
  rw [List.take_of_length_le (by simp [hL])]

/-- Splitting a node into itself (all its open axes) and a fresh node without open axes leaves the open axes of every
node as they were. -/
theorem split_wfx_same {P : Prop} {O : Id → List Axis} {t t' : TTN} {id : Id} {X : NodeS}
    {outL inL : TTN.LegSpec} {inId : Id} {bd : Nat} (hx : t.WFX P O)
    (adm : SplitAdm t id X outL inL id inId) (hin : t.N inId = none)
    (ho : P → outL.openLegs = TTN.openIdx X) (hi : inL.openLegs = [])
    (hs : t.splitNodes id outL inL id inId bd = some t') : t'.WFX P O := by
  obtain ⟨L, hL, w⟩ := split_wfx hx adm hs
  refine w.congr fun hp => funext fun k => ?_
  obtain ⟨L', hL', hl⟩ := logical_some hx.wf adm.node
  obtain rfl : L' = L := Option.some.inj (hL'.symm.trans hL)
  unfold splitO
  by_cases k1 : k = id
  · rw [if_pos k1, k1, ho hp, pick_openIdx hl (hx.wf.node id X adm.node).virt, ← hx.op hp id,
      openAxes_eq adm.node hL]
  · rw [if_neg k1, if_neg k1]
    by_cases k2 : k = inId
    · rw [if_pos k2, k2, hi, hx.fresh hin hp]; rfl
    · rw [if_neg k2]

end Ptn.C02
