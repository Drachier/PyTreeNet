import Ptn.C03.Net
import Ptn.C03.Norm
import Ptn.C03.Model
/-! Value level for C02: the structural edits leave the dense tensor of the network unchanged.  Carrier: the valued
networks `Ptn.C03.VNet` (`Ptn/C03/Net.lean`).  The leg labels of a node are the labels of the logical axes of the
structural model (`TTN.lean`, `Labels.lean`); there both ends of a bond carry the same label, here the two ends are
distinguished (a pair in the binding record). -/
namespace Ptn.C02

open Ptn.Ein Ptn.C03

set_option linter.unusedSectionVars false
variable {R : Type} [CommSemiring R]

/-- `contract_nodes(n, m, new)` on a valued network: the nodes `n`, `m` joined by the bond `p` (whose ends are the legs
`a` of `n` and `b` of `m`: `ContractAdm`) become the node `new` with the remaining legs of both and the bound product
of the two tensors -/
def contractStep (dim : Nat → Nat) (N : VNet R) (n m new : Nat) (p : Nat × Nat) (a b : Nat) : VNet R where
  ids := new :: (N.ids.erase n).erase m
  legs := fun k => if k = new then (N.legs n).erase a ++ (N.legs m).erase b else N.legs k
  tens := fun k => if k = new then (fun τ => sumPairs dim [p] (fun ρ => N.tens n ρ * N.tens m ρ) τ) else N.tens k
  bonds := N.bonds.erase p
  next := N.next

section
variable {dim : Nat → Nat} {N : VNet R} {n m new : Nat} {p : Nat × Nat} {a b k : Nat}

theorem contractStep_legs_new :
    (contractStep dim N n m new p a b).legs new = (N.legs n).erase a ++ (N.legs m).erase b := if_pos rfl

theorem contractStep_legs_ne (hk : k ≠ new) : (contractStep dim N n m new p a b).legs k = N.legs k := if_neg hk

theorem contractStep_tens_new :
    (contractStep dim N n m new p a b).tens new = sumPairs dim [p] (fun ρ => N.tens n ρ * N.tens m ρ) := if_pos rfl

theorem contractStep_tens_ne (hk : k ≠ new) : (contractStep dim N n m new p a b).tens k = N.tens k := if_neg hk

theorem mem_contractStep_ids :
    k ∈ (contractStep dim N n m new p a b).ids ↔ k = new ∨ k ∈ (N.ids.erase n).erase m := List.mem_cons

end

/-- the premises of `contract_nodes(n, m, new)`: two different nodes joined by the bond `p`; the new identifier is
one of the two or unused -/
structure ContractAdm (N : VNet R) (n m new : Nat) (p : Nat × Nat) (a b : Nat) : Prop where
  hn : n ∈ N.ids
  hm : m ∈ N.ids
  hnm : n ≠ m
  joined : N.Joined n m p a b
  hnew : new = n ∨ new = m ∨ new ∉ N.ids

theorem rest_ne_new {N : VNet R} (h : N.WF) {n m new : Nat} (hnew : new = n ∨ new = m ∨ new ∉ N.ids)
    {k : Nat} (hk : k ∈ (N.ids.erase n).erase m) : k ≠ new := by
  obtain ⟨h1, h2, h3⟩ := mem_rest h.ids_nodup hk
  rcases hnew with rfl | rfl | hx
  · exact h2
  · exact h3
  · exact fun e => hx (e ▸ h1)

/-- **`contract_nodes` leaves the dense tensor of the network unchanged.** -/
theorem contract_nodes_value (dim : Nat → Nat) {N : VNet R} (h : N.WF) {n m new : Nat} {p : Nat × Nat} {a b : Nat}
    (adm : ContractAdm N n m new p a b) (σ : Asg Nat) :
    (contractStep dim N n m new p a b).value dim σ = N.value dim σ := by
  obtain ⟨hn, hm, hnm, hj, hnew⟩ := adm
  rw [VNet.value_expose2 dim h hn hm hnm hj.1 σ]
  have hrest : ((N.ids.erase n).erase m).map (contractStep dim N n m new p a b).tens =
      ((N.ids.erase n).erase m).map N.tens :=
    List.map_congr_left fun k hk => contractStep_tens_ne (rest_ne_new h hnew hk)
  have hval : (contractStep dim N n m new p a b).value dim σ = netValue dim (N.bonds.erase p)
      ((fun τ => sumPairs dim [(p.1, p.2)] (fun ρ => N.tens n ρ * N.tens m ρ) τ) ::
        ((N.ids.erase n).erase m).map N.tens) σ := by
    unfold VNet.value
    show netValue dim (N.bonds.erase p)
      ((contractStep dim N n m new p a b).tens new ::
        ((N.ids.erase n).erase m).map (contractStep dim N n m new p a b).tens) σ = _
    rw [hrest, contractStep_tens_new]
  rw [hval]
  exact (split_leaf_value dim (N.bonds.erase p) _ (N.tens n) (N.tens m) _ p.1 p.2
    (S := fun l => l ≠ p.1 ∧ l ≠ p.2) (fun τ => rfl) (h.rest_not_bond hn hm hj) (by simp) (by simp) σ).symm

theorem contract_nodes_wf_value (dim : Nat → Nat) {N : VNet R} (h : N.WF) {n m new : Nat} {p : Nat × Nat} {a b : Nat}
    (adm : ContractAdm N n m new p a b) : (contractStep dim N n m new p a b).WF := by
  obtain ⟨hn, hm, hnm, ⟨hp, hab, ha, hb⟩, hnew⟩ := adm
  have hrest : ∀ k ∈ (N.ids.erase n).erase m, k ≠ new := fun k hk => rest_ne_new h hnew hk
  have hflat : (N.ids.flatMap N.legs).Perm (N.legs n ++ (N.legs m ++ ((N.ids.erase n).erase m).flatMap N.legs)) :=
    (ids_perm_two hn hm hnm).flatMap_right _
  have hflat' : (contractStep dim N n m new p a b).ids.flatMap (contractStep dim N n m new p a b).legs =
      (N.legs n).erase a ++ ((N.legs m).erase b ++ ((N.ids.erase n).erase m).flatMap N.legs) := by
    show (contractStep dim N n m new p a b).legs new ++
      ((N.ids.erase n).erase m).flatMap (contractStep dim N n m new p a b).legs = _
    rw [contractStep_legs_new, List.flatMap_congr fun k hk => contractStep_legs_ne (hrest k hk), List.append_assoc]
  have hsub : ((contractStep dim N n m new p a b).ids.flatMap (contractStep dim N n m new p a b).legs).Sublist
      (N.legs n ++ (N.legs m ++ ((N.ids.erase n).erase m).flatMap N.legs)) :=
    hflat' ▸ List.erase_sublist.append (List.erase_sublist.append (List.Sublist.refl _))
  refine .of_flat ?_ ?_ ?_ ?_ ?_ ?_
  · show (new :: (N.ids.erase n).erase m).Nodup
    exact List.nodup_cons.2 ⟨fun hmem => hrest new hmem rfl, (h.ids_nodup.erase n).erase m⟩
  · exact (hflat.nodup_iff.1 h.flat_nodup).sublist hsub
  · intro k hk
    rcases mem_contractStep_ids.1 hk with rfl | hk
    · rw [contractStep_tens_new, contractStep_legs_new]
      have hprod : DependsOn (fun l => l ∈ N.legs n ∨ l ∈ N.legs m) (fun ρ => N.tens n ρ * N.tens m ρ) :=
        DependsOn.mul ((h.reads n hn).mono (fun l hl => Or.inl hl)) ((h.reads m hm).mono (fun l hl => Or.inr hl))
      refine (sumPairs_dependsOn dim [p] hprod).mono ?_
      intro l ⟨hl, hnot⟩
      have hla : l ≠ a ∧ l ≠ b := by
        refine (ends_ne hab l).1 ?_
        simpa only [Expr.pairLegs, List.map_cons, List.map_nil, List.mem_append, List.mem_cons,
          List.not_mem_nil, or_false, not_or] using hnot
      rw [List.mem_append, List.mem_erase_of_ne hla.1, List.mem_erase_of_ne hla.2]
      exact hl
    · rw [contractStep_tens_ne (hrest k hk), contractStep_legs_ne (hrest k hk)]
      exact h.reads k (mem_rest h.ids_nodup hk).1
  · exact List.Nodup.of_cons (List.Nodup.of_cons (h.erase_legs hp))
  · intro l hl
    have hla := (ends_ne hab l).1 (h.erase_ne hp l hl)
    rw [hflat', List.mem_append, List.mem_append, List.mem_erase_of_ne hla.1, List.mem_erase_of_ne hla.2,
      ← List.mem_append, ← List.mem_append]
    exact hflat.mem_iff.1 (h.bonds_flat l (((pairLegs_perm (List.perm_cons_erase hp)).trans
      (pairLegs_cons_perm p _)).mem_iff.2 (List.mem_cons_of_mem _ (List.mem_cons_of_mem _ hl))))
  · exact fun l hl => h.flat_lt l (hflat.mem_iff.2 (hsub.subset hl))

/-- the contract of the splitting function: an exact factorisation over the fresh bond `(q, r)`; the out factor
reads the out legs and `q`, the in factor `r` and the in legs -/
structure SplitFact (dim : Nat → Nat) (A : Asg Nat → R) (outLegs inLegs : List Nat) (q r : Nat) where
  O : Asg Nat → R
  I : Asg Nat → R
  exact : ∀ τ, A τ = sumPairs dim [(q, r)] (fun ρ => O ρ * I ρ) τ
  readsO : DependsOn (· ∈ outLegs ++ [q]) O
  readsI : DependsOn (· ∈ r :: inLegs) I

def splitStep (dim : Nat → Nat) (N : VNet R) (id out inn : Nat) (outLegs inLegs : List Nat)
    (F : SplitFact dim (N.tens id) outLegs inLegs N.next (N.next + 1)) : VNet R where
  ids := out :: inn :: N.ids.erase id
  legs := fun k => if k = out then outLegs ++ [N.next] else if k = inn then (N.next + 1) :: inLegs else N.legs k
  tens := fun k => if k = out then F.O else if k = inn then F.I else N.tens k
  bonds := N.bonds ++ [(N.next, N.next + 1)]
  next := N.next + 2

section
variable {dim : Nat → Nat} {N : VNet R} {id out inn k : Nat} {outLegs inLegs : List Nat}
  {F : SplitFact dim (N.tens id) outLegs inLegs N.next (N.next + 1)}

theorem splitStep_legs_out : (splitStep dim N id out inn outLegs inLegs F).legs out = outLegs ++ [N.next] :=
  if_pos rfl

theorem splitStep_legs_inn (hoi : out ≠ inn) :
    (splitStep dim N id out inn outLegs inLegs F).legs inn = (N.next + 1) :: inLegs :=
  (if_neg hoi.symm).trans (if_pos rfl)

theorem splitStep_legs_ne (h1 : k ≠ out) (h2 : k ≠ inn) :
    (splitStep dim N id out inn outLegs inLegs F).legs k = N.legs k := (if_neg h1).trans (if_neg h2)

theorem splitStep_tens_out : (splitStep dim N id out inn outLegs inLegs F).tens out = F.O := if_pos rfl

theorem splitStep_tens_inn (hoi : out ≠ inn) : (splitStep dim N id out inn outLegs inLegs F).tens inn = F.I :=
  (if_neg hoi.symm).trans (if_pos rfl)

theorem splitStep_tens_ne (h1 : k ≠ out) (h2 : k ≠ inn) :
    (splitStep dim N id out inn outLegs inLegs F).tens k = N.tens k := (if_neg h1).trans (if_neg h2)

theorem mem_splitStep_ids :
    k ∈ (splitStep dim N id out inn outLegs inLegs F).ids ↔ k = out ∨ k = inn ∨ k ∈ N.ids.erase id :=
  List.mem_cons.trans (or_congr_right List.mem_cons)

end

/-- the premises of `split_nodes`: the two leg specifications partition the legs of the node; the new identifiers
are different, each the old one or unused -/
structure SplitAdmV (N : VNet R) (id out inn : Nat) (outLegs inLegs : List Nat) : Prop where
  hid : id ∈ N.ids
  hoi : out ≠ inn
  hout : out = id ∨ out ∉ N.ids
  hinn : inn = id ∨ inn ∉ N.ids
  hperm : (outLegs ++ inLegs).Perm (N.legs id)

theorem rest1_ne {N : VNet R} (h : N.WF) {id x : Nat} (hx : x = id ∨ x ∉ N.ids) {k : Nat}
    (hk : k ∈ N.ids.erase id) : k ≠ x := by
  have h1 := (h.ids_nodup.mem_erase_iff).1 hk
  rcases hx with rfl | hx
  · exact h1.1
  · exact fun e => hx (e ▸ h1.2)

/-- **`split_nodes` with an exact factorisation leaves the dense tensor of the network unchanged.** -/
theorem split_nodes_value (dim : Nat → Nat) {N : VNet R} (h : N.WF) {id out inn : Nat} {outLegs inLegs : List Nat}
    (adm : SplitAdmV N id out inn outLegs inLegs)
    (F : SplitFact dim (N.tens id) outLegs inLegs N.next (N.next + 1)) (σ : Asg Nat) :
    (splitStep dim N id out inn outLegs inLegs F).value dim σ = N.value dim σ := by
  obtain ⟨hid, hoi, hout, hinn, hperm⟩ := adm
  rw [VNet.value_expose1 dim N hid σ]
  have hrest : (N.ids.erase id).map (splitStep dim N id out inn outLegs inLegs F).tens =
      (N.ids.erase id).map N.tens :=
    List.map_congr_left fun k hk => splitStep_tens_ne (rest1_ne h hout hk) (rest1_ne h hinn hk)
  have hval : (splitStep dim N id out inn outLegs inLegs F).value dim σ =
      netValue dim (N.bonds ++ [(N.next, N.next + 1)]) (F.O :: F.I :: (N.ids.erase id).map N.tens) σ := by
    unfold VNet.value
    show netValue dim (N.bonds ++ [(N.next, N.next + 1)])
      ((splitStep dim N id out inn outLegs inLegs F).tens out ::
        (splitStep dim N id out inn outLegs inLegs F).tens inn ::
        (N.ids.erase id).map (splitStep dim N id out inn outLegs inLegs F).tens) σ = _
    rw [hrest, splitStep_tens_out, splitStep_tens_inn hoi]
  rw [hval]
  apply split_leaf_value dim N.bonds (N.tens id) F.O F.I _ N.next (N.next + 1) (S := fun l => l < N.next) F.exact
  · intro f hf
    obtain ⟨k, hk, rfl⟩ := List.mem_map.1 hf
    have hk' := ((h.ids_nodup.mem_erase_iff).1 hk).2
    exact (h.reads k hk').mono (fun l hl => h.fresh k hk' l hl)
  · exact Nat.lt_irrefl _
  · show ¬ (N.next + 1 < N.next); omega

theorem split_nodes_wf_value (dim : Nat → Nat) {N : VNet R} (h : N.WF) {id out inn : Nat} {outLegs inLegs : List Nat}
    (adm : SplitAdmV N id out inn outLegs inLegs)
    (F : SplitFact dim (N.tens id) outLegs inLegs N.next (N.next + 1)) :
    (splitStep dim N id out inn outLegs inLegs F).WF := by
  obtain ⟨hid, hoi, hout, hinn, hperm⟩ := adm
  have hrest : ∀ k ∈ N.ids.erase id, k ≠ out ∧ k ≠ inn := fun k hk => ⟨rest1_ne h hout hk, rest1_ne h hinn hk⟩
  have hli : (splitStep dim N id out inn outLegs inLegs F).legs inn = (N.next + 1) :: inLegs :=
    splitStep_legs_inn hoi
  have hflat : ((splitStep dim N id out inn outLegs inLegs F).ids.flatMap
      (splitStep dim N id out inn outLegs inLegs F).legs).Perm (N.next :: (N.next + 1) :: N.ids.flatMap N.legs) := by
    show ((splitStep dim N id out inn outLegs inLegs F).legs out ++
      ((splitStep dim N id out inn outLegs inLegs F).legs inn ++
        (N.ids.erase id).flatMap (splitStep dim N id out inn outLegs inLegs F).legs)).Perm _
    rw [splitStep_legs_out, hli, List.flatMap_congr fun k hk => splitStep_legs_ne (hrest k hk).1 (hrest k hk).2,
      List.append_assoc, List.singleton_append, List.cons_append]
    refine List.perm_middle.trans (.cons _ (List.perm_middle.trans (.cons _ ?_)))
    rw [← List.append_assoc]
    exact (hperm.append_right _).trans ((List.perm_cons_erase hid).flatMap_right _).symm
  refine h.add_two ?_ hflat ?_ ((Expr.pairLegs_append _ _).trans List.perm_append_comm) rfl
  · show (out :: inn :: N.ids.erase id).Nodup
    rw [List.nodup_cons, List.nodup_cons]
    refine ⟨?_, fun hmem => (hrest inn hmem).2 rfl, h.ids_nodup.erase id⟩
    intro hmem
    rcases List.mem_cons.1 hmem with e | hmem
    · exact hoi e
    · exact (hrest out hmem).1 rfl
  · intro k hk
    rcases mem_splitStep_ids.1 hk with e | e | hr
    · rw [e, splitStep_tens_out, splitStep_legs_out]; exact F.readsO
    · rw [e, splitStep_tens_inn hoi, hli]; exact F.readsI
    · rw [splitStep_tens_ne (hrest k hr).1 (hrest k hr).2, splitStep_legs_ne (hrest k hr).1 (hrest k hr).2]
      exact h.reads k (List.mem_of_mem_erase hr)

/-- all leg lists replaced (used with permutations of the old ones: `replace_tensor` with a permutation on every
node; the tensors, as functions of the labelled indices, do not change) -/
def reLeg (N : VNet R) (L : Nat → List Nat) : VNet R := { N with legs := L }

theorem reLeg_value (dim : Nat → Nat) (N : VNet R) (L : Nat → List Nat) (σ : Asg Nat) :
    (reLeg N L).value dim σ = N.value dim σ := rfl

theorem reLeg_wf {N : VNet R} (h : N.WF) {L : Nat → List Nat} (hperm : ∀ k ∈ N.ids, (L k).Perm (N.legs k)) :
    (reLeg N L).WF := by
  have hflat : (N.ids.flatMap L).Perm (N.ids.flatMap N.legs) := List.Perm.flatMap_left _ hperm
  exact .of_flat h.ids_nodup (hflat.nodup_iff.2 h.flat_nodup)
    (fun k hk => (h.reads k hk).mono fun l hl => (hperm k hk).mem_iff.2 hl) h.bonds_nodup
    (fun l hl => hflat.mem_iff.2 (h.bonds_flat l hl)) (fun l hl => h.flat_lt l (hflat.mem_iff.1 hl))

/-- `replace_tensor(id, tensor.transpose(…), permutation)`: the labels move with the axes — the order of the legs of
the node changes, the tensor as a function of the labelled indices does not -/
def permStep (N : VNet R) (id : Nat) (legs' : List Nat) : VNet R :=
  { N with legs := fun k => if k = id then legs' else N.legs k }

theorem replace_tensor_value (dim : Nat → Nat) (N : VNet R) (id : Nat) (legs' : List Nat) (σ : Asg Nat) :
    (permStep N id legs').value dim σ = N.value dim σ := rfl

theorem replace_tensor_wf_value {N : VNet R} (h : N.WF) {id : Nat} {legs' : List Nat}
    (hperm : legs'.Perm (N.legs id)) : (permStep N id legs').WF :=
  reLeg_wf h fun k _ => by
    show (if k = id then legs' else N.legs k).Perm (N.legs k)
    split
    · next hk => exact hk ▸ hperm
    · exact .refl _

/-- subdividing a bond by the identity matrix does not change the value -/
theorem insert_identity_net (dim : Nat → Nat) (bs : List (Nat × Nat)) (rest : List (Asg Nat → R))
    (x y i1 i2 : Nat) {S : Nat → Prop} (hrest : ∀ f ∈ rest, DependsOn S f) (h1 : ¬ S i1) (h2 : ¬ S i2)
    (h12 : i1 ≠ i2) (h1y : i1 ≠ y) (hd : dim i2 = dim x) (σ : Asg Nat) :
    netValue dim ((bs ++ [(x, i1)]) ++ [(i2, y)])
      ((fun ρ => if ρ i1 = ρ i2 then (1 : R) else 0) :: rest) σ = netValue dim (bs ++ [(x, y)]) rest σ := by
  rw [List.append_assoc]
  exact netValue_delta dim bs _ rest x y i1 i2 hrest h1 h2 h12 h1y hd (fun _ _ _ => rfl) σ

theorem perm_two_snoc {α : Type} (E : List α) (a b c d : α) :
    ((E ++ [a, c]) ++ [d, b]).Perm ((a :: b :: E) ++ [c, d]) := by
  have h1 : ((E ++ [a, c]) ++ [d, b]).Perm ([a, c, d, b] ++ E) := by
    rw [List.append_assoc]; exact List.perm_append_comm
  have h2 : ((a :: b :: E) ++ [c, d]).Perm (a :: b :: c :: d :: E) :=
    ((List.perm_append_comm (l₁ := E) (l₂ := [c, d])).cons b).cons a
  exact h1.trans (((List.perm_middle (l₁ := [c, d])).cons a).trans h2.symm)

/-- `insert_identity` on the bond `p`: a new node with two fresh legs and the identity matrix; `p.1` is bound to the
first fresh leg, the second to `p.2` -/
def identStep (N : VNet R) (p : Nat × Nat) (new : Nat) : VNet R where
  ids := new :: N.ids
  legs := fun k => if k = new then [N.next, N.next + 1] else N.legs k
  tens := fun k => if k = new then (fun ρ => if ρ N.next = ρ (N.next + 1) then 1 else 0) else N.tens k
  bonds := (N.bonds.erase p ++ [(p.1, N.next)]) ++ [(N.next + 1, p.2)]
  next := N.next + 2

section
variable {N : VNet R} {p : Nat × Nat} {new k : Nat}

theorem identStep_legs_new : (identStep N p new).legs new = [N.next, N.next + 1] := if_pos rfl

theorem identStep_legs_ne (hk : k ≠ new) : (identStep N p new).legs k = N.legs k := if_neg hk

theorem identStep_tens_new :
    (identStep N p new).tens new = fun ρ => if ρ N.next = ρ (N.next + 1) then 1 else 0 := if_pos rfl

theorem identStep_tens_ne (hk : k ≠ new) : (identStep N p new).tens k = N.tens k := if_neg hk

theorem mem_identStep_ids : k ∈ (identStep N p new).ids ↔ k = new ∨ k ∈ N.ids := List.mem_cons

end

/-- **`insert_identity` leaves the dense tensor of the network unchanged** (the identity has the dimension of the
subdivided bond). -/
theorem insert_identity_value (dim : Nat → Nat) {N : VNet R} (h : N.WF) {p : Nat × Nat} {new : Nat}
    (hp : p ∈ N.bonds) (hnew : new ∉ N.ids) (hdim : dim (N.next + 1) = dim p.1) (σ : Asg Nat) :
    (identStep N p new).value dim σ = N.value dim σ := by
  have hpm := mem_pairLegs_of_mem hp
  have hlt := h.bond_lt
  have hold : N.value dim σ = netValue dim (N.bonds.erase p ++ [(p.1, p.2)]) (N.ids.map N.tens) σ := by
    unfold VNet.value
    exact netValue_perm_bonds dim ((List.perm_cons_erase hp).trans (List.perm_append_comm (l₁ := [p])))
      h.bonds_nodup _ σ
  have hmap : N.ids.map (identStep N p new).tens = N.ids.map N.tens :=
    List.map_congr_left fun k hk => identStep_tens_ne fun e => hnew (e ▸ hk)
  rw [hold]
  unfold VNet.value
  show netValue dim ((N.bonds.erase p ++ [(p.1, N.next)]) ++ [(N.next + 1, p.2)])
    ((identStep N p new).tens new :: N.ids.map (identStep N p new).tens) σ = _
  rw [hmap, identStep_tens_new]
  apply insert_identity_net dim (N.bonds.erase p) _ p.1 p.2 N.next (N.next + 1) (S := fun l => l < N.next)
  · intro f hf
    obtain ⟨k, hk, rfl⟩ := List.mem_map.1 hf
    exact (h.reads k hk).mono (fun l hl => h.fresh k hk l hl)
  · exact Nat.lt_irrefl _
  · show ¬ (N.next + 1 < N.next); omega
  · omega
  · have := hlt _ hpm.2; omega
  · exact hdim

theorem insert_identity_wf_value {N : VNet R} (h : N.WF) {p : Nat × Nat} {new : Nat}
    (hp : p ∈ N.bonds) (hnew : new ∉ N.ids) : (identStep N p new).WF := by
  have hlo : ∀ k ∈ N.ids, (identStep N p new).legs k = N.legs k :=
    fun k hk => identStep_legs_ne fun e => hnew (e ▸ hk)
  refine h.add_two (List.nodup_cons.2 ⟨hnew, h.ids_nodup⟩) ?_ ?_ ?_ rfl
  · show ((identStep N p new).legs new ++ N.ids.flatMap (identStep N p new).legs).Perm _
    rw [identStep_legs_new, List.flatMap_congr hlo]
    exact .refl _
  · intro k hk
    rcases mem_identStep_ids.1 hk with e | hk
    · rw [e, identStep_tens_new, identStep_legs_new]
      intro σ τ hst
      show (if σ N.next = σ (N.next + 1) then (1 : R) else 0) = if τ N.next = τ (N.next + 1) then 1 else 0
      rw [hst N.next (by simp), hst (N.next + 1) (by simp)]
    · have hne : k ≠ new := fun e => hnew (e ▸ hk)
      rw [identStep_tens_ne hne, hlo k hk]; exact h.reads k hk
  · show (Expr.pairLegs ((N.bonds.erase p ++ [(p.1, N.next)]) ++ [(N.next + 1, p.2)])).Perm _
    exact ((Expr.pairLegs_append _ _).trans (((Expr.pairLegs_append _ _).append_right _).trans
      (perm_two_snoc _ _ _ _ _))).trans (List.perm_append_comm.trans
        (((pairLegs_cons_perm p _).symm.trans (pairLegs_perm (List.perm_cons_erase hp)).symm).cons _ |>.cons _))

/-- One value-level edit with its admissibility premises: `contract_nodes`, `split_nodes` with an exact factorisation,
`replace_tensor` with a permutation of the legs, `insert_identity`. -/
inductive VStep (dim : Nat → Nat) : VNet R → VNet R → Prop
  | contract {N : VNet R} {n m new : Nat} {p : Nat × Nat} {a b : Nat} (adm : ContractAdm N n m new p a b) :
      VStep dim N (contractStep dim N n m new p a b)
  | split {N : VNet R} {id out inn : Nat} {outLegs inLegs : List Nat} (adm : SplitAdmV N id out inn outLegs inLegs)
      (F : SplitFact dim (N.tens id) outLegs inLegs N.next (N.next + 1)) :
      VStep dim N (splitStep dim N id out inn outLegs inLegs F)
  | perm {N : VNet R} {id : Nat} {legs' : List Nat} (hperm : legs'.Perm (N.legs id)) :
      VStep dim N (permStep N id legs')
  | ident {N : VNet R} {p : Nat × Nat} {new : Nat} (hp : p ∈ N.bonds) (hnew : new ∉ N.ids)
      (hdim : dim (N.next + 1) = dim p.1) : VStep dim N (identStep N p new)

/-- A history of value-level edits. -/
inductive VRun (dim : Nat → Nat) : VNet R → VNet R → Prop
  | nil (N : VNet R) : VRun dim N N
  | cons {N N₁ N₂ : VNet R} : VStep dim N N₁ → VRun dim N₁ N₂ → VRun dim N N₂

theorem vstep_value (dim : Nat → Nat) {N N' : VNet R} (h : N.WF) (hs : VStep dim N N') :
    N'.WF ∧ ∀ σ, N'.value dim σ = N.value dim σ := by
  cases hs with
  | contract adm => exact ⟨contract_nodes_wf_value dim h adm, contract_nodes_value dim h adm⟩
  | split adm F => exact ⟨split_nodes_wf_value dim h adm F, split_nodes_value dim h adm F⟩
  | perm hperm => exact ⟨replace_tensor_wf_value h hperm, replace_tensor_value dim _ _ _⟩
  | ident hp hnew hdim => exact ⟨insert_identity_wf_value h hp hnew, insert_identity_value dim h hp hnew hdim⟩

end Ptn.C02
