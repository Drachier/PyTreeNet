import Ptn.Common.List
import Ptn.C02.SComposite
import Ptn.C02.Wfx
/-! `truncate_node` on the structure map, one round at a time: the three loop bodies (`loop1_step`, `loop2_step`,
`loop3_step`) with the invariants `Inv1/2/3` they keep, the induction over a loop (`foldlM_split_induction`), and the
model's recursion unfolded once.  The loops, the node and the recursion are in `TruncLegs.lean`.  Core Lean only. -/
namespace Ptn.C02
open NodeS

/-- Induction over a `foldlM` in `Option` along the split `cs = D ++ R` of the list into the part done and the rest: what
one successful call of the body moves from `(D, c :: R)` to `(D ++ [c], R)` holds of `(cs, [])` at the end.  The three
loops of `truncate_node` are folds over the children of the node; `I` carries the structure invariant of the loop and
whatever rides along with it. -/
theorem foldlM_split_induction {α β : Type} {f : β → α → Option β} {cs : List α} (I : List α → List α → β → Prop)
    (step : ∀ D c R s s1, cs = D ++ c :: R → I D (c :: R) s → f s c = some s1 → I (D ++ [c]) R s1)
    (R D : List α) (s s' : β) (hcs : cs = D ++ R) (hI : I D R s) (hrun : R.foldlM f s = some s') : I cs [] s' := by
  -- `Ptn.foldlM_inv` with the rest of the list read off `cs = D ++ R`
  have := Ptn.foldlM_inv (f := f) (fun D s => ∀ R, cs = D ++ R → I D R s)
    (fun D c s s1 h hs R hR => by
      rw [List.append_assoc] at hR
      exact step D c R s s1 hR (h _ hR) hs)
    R D s s' (fun R' hR' => List.append_cancel_left (hcs.symm.trans hR') ▸ hI) hrun
  exact hcs ▸ this [] (by rw [List.append_nil, hcs])

/-- The temporary identifiers are unused in the network, pairwise different, and different edges get
    different identifiers (true of `identity_id` / `projector_identifier` unless identifiers collide). -/
structure TempOK (S0 : Id → Option Struct) (ids : TTN.TempIds) : Prop where
  fi : ∀ c, S0 (ids.ident c) = none
  fs : ∀ c, S0 (ids.star c) = none
  fp : ∀ c, S0 (ids.proj c) = none
  is_ : ∀ c c', ids.ident c ≠ ids.star c'
  ip : ∀ c c', ids.ident c ≠ ids.proj c'
  sp : ∀ c c', ids.star c ≠ ids.proj c'
  sinj : ∀ c c', ids.star c = ids.star c' → c = c'
  pinj : ∀ c c', ids.proj c = ids.proj c' → c = c'

/-- One call `access n; insertProjectors n c` of the first loop of `truncate_node` in stages: the read of the node
    tensor, `insert_identity`, and the split of the identity node, which is admissible. -/
theorem insertProjectors_stages {t t' : TTN} {n c : Id} {ids : TTN.TempIds} {k : Nat}
    {gp : Option Id} {L cch : List Id}
    (h : t.WF) (hN : t.S n = some (gp, L)) (hC : t.S c = some (some n, cch))
    (hi : t.S (ids.ident c) = none) (hs : t.S (ids.star c) = none) (hp : t.S (ids.proj c) = none)
    (his : ids.ident c ≠ ids.star c) (hip : ids.ident c ≠ ids.proj c)
    (hrun : (do let (t0, _) ← t.access n; TTN.insertProjectors t0 n c ids k) = some t') :
    ∃ t0 T t1 X, t.access n = some (t0, T) ∧ t0.WF ∧ t0.S = t.S ∧ t0.N (ids.ident c) = none ∧
      t0.insertIdentity c n (ids.ident c) = some t1 ∧ t1.WF ∧
      SplitAdm t1 (ids.ident c) X ⟨some n, [], [], false⟩ ⟨none, [c], [], false⟩ (ids.star c) (ids.proj c) ∧
      t1.splitNodes (ids.ident c) ⟨some n, [], [], false⟩ ⟨none, [c], [], false⟩ (ids.star c) (ids.proj c) k =
        some t' := by
  simp only [TTN.insertProjectors, bind, Option.bind_eq_some_iff, Prod.exists] at hrun
  obtain ⟨t0, T, hacc, t1, hins, hrun⟩ := hrun
  have w0 := access_wf h hacc
  have S0e := (access_S_eq hacc).1
  have hnew : t0.N (ids.ident c) = none := N_none_of_S (by rw [S0e]; exact hi)
  obtain ⟨cch', pp, pch, e1, e2, S1, _⟩ := ident_S_eq w0 hnew hins
  rw [S0e, hC] at e1; rw [S0e, hN] at e2
  obtain ⟨-, rfl⟩ := Prod.mk.inj (Option.some.inj e1)
  obtain ⟨rfl, rfl⟩ := Prod.mk.inj (Option.some.inj e2)
  rw [S0e] at S1
  have e_i : t1.S (ids.ident c) = some (some n, [c]) := by rw [S1]; exact if_pos rfl
  obtain ⟨X, hX, eX⟩ := TTN.N_of_S e_i
  obtain ⟨eX1, eX2⟩ := Prod.mk.inj eX
  have fresh : ∀ x, t.S x = none → x ≠ ids.ident c → t1.N x = none := by
    intro x hx a1
    have a2 : ¬ x = c := by intro e; rw [e, hC] at hx; cases hx
    have a3 : ¬ x = n := by intro e; rw [e, hN] at hx; cases hx
    exact N_none_of_S (by rw [S1]; exact (if_neg a1).trans ((if_neg a2).trans ((if_neg a3).trans hx)))
  exact ⟨t0, T, t1, X, hacc, w0, S0e, hnew, hins, insertIdentity_wf w0 hnew hins,
    ⟨hX, Or.inr (fresh _ hs his.symm), Or.inr (fresh _ hp hip.symm), by rw [← eX2]; exact .refl _,
      Or.inl ⟨n, eX1.symm, rfl, rfl, Or.inl ⟨rfl, rfl⟩⟩⟩, hrun⟩

/-- One iteration of the first loop of `truncate_node`. -/
theorem trunc_step1 {P : Prop} {O : Id → List Axis} {t t' : TTN} {n c : Id} {ids : TTN.TempIds} {k : Nat}
    {gp : Option Id} {L cch : List Id}
    (hx : t.WFX P O) (hN : t.S n = some (gp, L)) (hC : t.S c = some (some n, cch))
    (hi : t.S (ids.ident c) = none) (hs : t.S (ids.star c) = none) (hp : t.S (ids.proj c) = none)
    (his : ids.ident c ≠ ids.star c) (hip : ids.ident c ≠ ids.proj c)
    (hrun : (do let (t0, _) ← t.access n; TTN.insertProjectors t0 n c ids k) = some t') :
    t'.WFX P O ∧ t'.root = t.root ∧
      t'.S = fun x => if x = ids.star c then some (some n, [ids.proj c])
               else if x = ids.proj c then some (some (ids.star c), [c])
               else if x = c then some (some (ids.proj c), cch)
               else if x = n then some (gp, L.map (fun y => if y = c then ids.star c else y)) else t.S x := by
  have h := hx.wf
  obtain ⟨t0, T, t1, X, hacc, w0, S0e, hnew, hins, w1, adm, hrun⟩ :=
    insertProjectors_stages h hN hC hi hs hp his hip hrun
  have R0 := (access_S_eq hacc).2
  obtain ⟨cch', pp, pch, e1, e2, S1, R1⟩ := ident_S_eq w0 hnew hins
  rw [S0e, hC] at e1; rw [S0e, hN] at e2
  obtain ⟨-, rfl⟩ := Prod.mk.inj (Option.some.inj e1)
  obtain ⟨rfl, rfl⟩ := Prod.mk.inj (Option.some.inj e2)
  rw [S0e] at S1
  have eXp : X.parent = some n := by
    have := TTN.S_eq adm.node
    rw [S1, subdivideS, if_pos rfl] at this
    exact (Prod.mk.inj (Option.some.inj this)).1.symm
  obtain ⟨Lx, _, wx⟩ := split_wfx (ident_wfx (access_wfx hx hacc) hnew hins) adm hrun
  refine ⟨wx.congr fun hP => funext fun x => ?_, ?_⟩
  · -- the three temporary identifiers had no open axes and get none
    unfold splitO
    by_cases x1 : x = ids.star c
    · rw [if_pos x1, x1, hx.fresh (N_none_of_S hs) hP]; rfl
    · by_cases x2 : x = ids.proj c
      · rw [if_neg x1, if_pos x2, x2, hx.fresh (N_none_of_S hp) hP]; rfl
      · rw [if_neg x1, if_neg x2]
        by_cases x3 : x = ids.ident c
        · rw [if_pos x3, x3, hx.fresh (N_none_of_S hi) hP]
        · rw [if_neg x3]
  obtain ⟨a', b', aCh, bCh, hcfg, S2, R2⟩ := split_S_eq w1 adm hrun
  rcases hcfg with ⟨rfl, rfl, rfl, rfl, _⟩ | ⟨_, _, _, _, hc⟩
  · constructor
    · rw [R2, eXp]; simp [R1, R0]
    · rw [S2, eXp, S1]
      exact insert_proj_S h.str hN hC hi
  · simp at hc

/-- One iteration of `contract_all_children(n)` in `truncate_node`. -/
theorem trunc_step2 {P : Prop} {O : Id → List Axis} {t t' : TTN} {n s p : Id} {gp : Option Id}
    {L pch : List Id} (hx : t.WFX P O)
    (hN : t.S n = some (gp, L)) (hS : t.S s = some (some n, [p])) (hP : t.S p = some (some s, pch))
    (hOs : P → O s = [])
    (hc : t.contractNodes n s n = some t') :
    t'.WFX P O ∧ t'.root = t.root ∧
      t'.S = fun k => if k = n then some (gp, L.erase s ++ [p]) else if k = s then none
               else if k = p then some (some n, pch) else t.S k := by
  have h := hx.wf
  obtain ⟨S', R'⟩ := contract_edge_S_eq h (Or.inl rfl) hN hS (Or.inl ⟨rfl, rfl⟩) hc
  rw [if_pos rfl] at S'
  refine ⟨contract_wfx_same hx (Or.inr ⟨rfl, rfl⟩) hOs hc, ?_, ?_⟩
  · rw [R']
    by_cases hg : gp = none
    · rw [if_pos hg]; exact (h.str.root_uniq n L (by rw [hN, hg])).symm
    · rw [if_neg hg]
  · rw [S']; exact contract_star_S h.str _ hS hP

/-- One iteration of the last loop of `truncate_node`: the projector is merged into the original child. -/
theorem trunc_step3 {P : Prop} {O : Id → List Axis} {t t' : TTN} {n p c : Id} {gp : Option Id}
    {L cch : List Id} (hx : t.WFX P O)
    (hN : t.S n = some (gp, L)) (hP : t.S p = some (some n, [c])) (hC : t.S c = some (some p, cch))
    (hOp : P → O p = [])
    (hc : t.contractNodes p c c = some t') :
    t'.WFX P O ∧ t'.root = t.root ∧
      t'.S = fun k => if k = c then some (some n, cch) else if k = p then none
               else if k = n then some (gp, L.map (fun x => if x = p then c else x)) else t.S k := by
  have h := hx.wf
  obtain ⟨S', R'⟩ := contract_edge_S_eq h (Or.inr (Or.inl rfl)) hP hC (Or.inl ⟨rfl, rfl⟩) hc
  have hK : (if p = p then [c].erase c ++ cch else cch ++ [c].erase c) = cch := by simp
  rw [hK] at S'
  refine ⟨contract_wfx_same hx (Or.inl ⟨rfl, rfl⟩) hOp hc, ?_, ?_⟩
  · rw [R']; simp
  · rw [S']; exact contract_proj_S h.str _ hN hP

/-- What is fixed during one `truncate_node(n)`: the original structure, the node, its parent and its
    children. -/
structure TruncCtx (S0 : Id → Option Struct) (ids : TTN.TempIds) (n : Id) (gp : Option Id) (cs : List Id) :
    Prop where
  ok : TempOK S0 ids
  hn : S0 n = some (gp, cs)
  nd : cs.Nodup
  hc : ∀ c ∈ cs, ∃ cch, S0 c = some (some n, cch)
  ne : ∀ c ∈ cs, c ≠ n

namespace TruncCtx
variable {S0 : Id → Option Struct} {ids : TTN.TempIds} {n : Id} {gp : Option Id} {cs : List Id}

theorem node_ne_star (X : TruncCtx S0 ids n gp cs) {k : Id} {st : Struct} (hk : S0 k = some st) (c : Id) :
    k ≠ ids.star c := by intro e; rw [e, X.ok.fs c] at hk; simp at hk
theorem node_ne_proj (X : TruncCtx S0 ids n gp cs) {k : Id} {st : Struct} (hk : S0 k = some st) (c : Id) :
    k ≠ ids.proj c := by intro e; rw [e, X.ok.fp c] at hk; simp at hk
theorem node_ne_ident (X : TruncCtx S0 ids n gp cs) {k : Id} {st : Struct} (hk : S0 k = some st) (c : Id) :
    k ≠ ids.ident c := by intro e; rw [e, X.ok.fi c] at hk; simp at hk
theorem star_ne_n (X : TruncCtx S0 ids n gp cs) (c : Id) : ¬ ids.star c = n := fun e => X.node_ne_star X.hn c e.symm
theorem proj_ne_n (X : TruncCtx S0 ids n gp cs) (c : Id) : ¬ ids.proj c = n := fun e => X.node_ne_proj X.hn c e.symm
theorem child_ne_star (X : TruncCtx S0 ids n gp cs) {c : Id} (hc : c ∈ cs) (c' : Id) : c ≠ ids.star c' := by
  obtain ⟨cch, h⟩ := X.hc c hc; exact X.node_ne_star h c'
theorem child_ne_proj (X : TruncCtx S0 ids n gp cs) {c : Id} (hc : c ∈ cs) (c' : Id) : c ≠ ids.proj c' := by
  obtain ⟨cch, h⟩ := X.hc c hc; exact X.node_ne_proj h c'
theorem child_ne_ident (X : TruncCtx S0 ids n gp cs) {c : Id} (hc : c ∈ cs) (c' : Id) : c ≠ ids.ident c' := by
  obtain ⟨cch, h⟩ := X.hc c hc; exact X.node_ne_ident h c'

end TruncCtx

/-- After the first loop has treated the children `D` (`cs = D ++ R`). -/
structure Inv1 (S0 S : Id → Option Struct) (ids : TTN.TempIds) (n : Id) (gp : Option Id) (D R : List Id) :
    Prop where
  n_ : S n = some (gp, D.map ids.star ++ R)
  st : ∀ c ∈ D, S (ids.star c) = some (some n, [ids.proj c])
  pr : ∀ c ∈ D, S (ids.proj c) = some (some (ids.star c), [c])
  ch : ∀ c ∈ D, ∀ cch, S0 c = some (some n, cch) → S c = some (some (ids.proj c), cch)
  frame : ∀ k, k ≠ n → k ∉ D → (∀ c ∈ D, k ≠ ids.star c ∧ k ≠ ids.proj c) → S k = S0 k

theorem loop1_step {P : Prop} {O : Id → List Axis} {S0 : Id → Option Struct} {ids : TTN.TempIds} {n : Id}
    {gp : Option Id} {cs : List Id} (X : TruncCtx S0 ids n gp cs) {k : Nat} {c : Id} {R D : List Id} {t t1 : TTN}
    (hcs : cs = D ++ c :: R) (w : t.WFX P O) (inv : Inv1 S0 t.S ids n gp D (c :: R))
    (hstep : (do let (t0, _) ← t.access n; TTN.insertProjectors t0 n c ids k) = some t1) :
    t1.WFX P O ∧ t1.root = t.root ∧ Inv1 S0 t1.S ids n gp (D ++ [c]) R ∧
    (∃ cch, t.S c = some (some n, cch)) ∧ t.S (ids.ident c) = none ∧ t.S (ids.star c) = none ∧
      t.S (ids.proj c) = none := by
  -- `trunc_step1` gives the structure map after the round as an if-chain over the few keys it writes; every field of
  -- the invariant is read off at a key shown different from those
  have hc_mem : c ∈ cs := by rw [hcs]; simp
  obtain ⟨hcD, hcR, _⟩ := nodup_mid (hcs ▸ X.nd)
  obtain ⟨cch, hS0c⟩ := X.hc c hc_mem
  have hcn : c ≠ n := X.ne c hc_mem
  have hSc : t.S c = some (some n, cch) := by
    rw [inv.frame c hcn hcD (fun c' _ => ⟨X.child_ne_star hc_mem c', X.child_ne_proj hc_mem c'⟩), hS0c]
  have fr : ∀ k, S0 k = none → k ≠ n → k ∉ D → (∀ c' ∈ D, k ≠ ids.star c' ∧ k ≠ ids.proj c') → t.S k = none := by
    intro k hk h1 h2 h3; rw [inv.frame k h1 h2 h3, hk]
  have hDnode : ∀ d ∈ D, ∃ st, S0 d = some st := by
    intro d hd
    obtain ⟨x, hx⟩ := X.hc d (by rw [hcs]; simp [hd])
    exact ⟨_, hx⟩
  have hn_ne_i : ids.ident c ≠ n := (X.node_ne_ident X.hn c).symm
  have hn_ne_s : ids.star c ≠ n := X.star_ne_n c
  have hn_ne_p : ids.proj c ≠ n := X.proj_ne_n c
  have hiD : ids.ident c ∉ D := fun hm => by
    obtain ⟨st, hst⟩ := hDnode _ hm; exact X.node_ne_ident hst c rfl
  have hsD : ids.star c ∉ D := fun hm => by
    obtain ⟨st, hst⟩ := hDnode _ hm; exact X.node_ne_star hst c rfl
  have hpD : ids.proj c ∉ D := fun hm => by
    obtain ⟨st, hst⟩ := hDnode _ hm; exact X.node_ne_proj hst c rfl
  have hSi : t.S (ids.ident c) = none :=
    fr _ (X.ok.fi c) hn_ne_i hiD (fun c' _ => ⟨X.ok.is_ c c', X.ok.ip c c'⟩)
  have hSs : t.S (ids.star c) = none :=
    fr _ (X.ok.fs c) hn_ne_s hsD (fun c' hc' => ⟨fun e => hcD (X.ok.sinj _ _ e ▸ hc'), X.ok.sp c c'⟩)
  have hSp : t.S (ids.proj c) = none :=
    fr _ (X.ok.fp c) hn_ne_p hpD (fun c' hc' => ⟨fun e => X.ok.sp c' c e.symm, fun e => hcD (X.ok.pinj _ _ e ▸ hc')⟩)
  obtain ⟨w1, R1, S1⟩ := trunc_step1 w inv.n_ hSc hSi hSs hSp (X.ok.is_ c c) (X.ok.ip c c) hstep
  have hcDs : c ∉ D.map ids.star := by
    intro hm
    obtain ⟨d, _, e⟩ := List.mem_map.mp hm
    exact X.child_ne_star hc_mem d e.symm
  have hLmap : (D.map ids.star ++ c :: R).map (fun y => if y = c then ids.star c else y) =
      (D ++ [c]).map ids.star ++ R := by
    rw [List.map_append, map_ite_not_mem _ _ _ hcDs]
    simp [map_ite_not_mem _ _ _ hcR]
  have other : ∀ k, k ≠ ids.star c → k ≠ ids.proj c → k ≠ c → k ≠ n → t1.S k = t.S k := by
    intro k h1 h2 h3 h4
    rw [S1]
    simp only [h1, h2, h3, h4, if_false]
  have inv1 : Inv1 S0 t1.S ids n gp (D ++ [c]) R := by
    have hsn : ¬ n = ids.star c := fun e => hn_ne_s e.symm
    have hpn : ¬ n = ids.proj c := fun e => hn_ne_p e.symm
    refine ⟨?_, ?_, ?_, ?_, ?_⟩
    · rw [S1]
      have hnc : ¬ n = c := fun e => hcn e.symm
      simp only [hsn, hpn, hnc, if_false, if_true, hLmap]
    · intro d hd
      rcases List.mem_append.mp hd with hd | hd
      · have a1 : ¬ ids.star d = ids.star c := fun e => hcD (X.ok.sinj _ _ e ▸ hd)
        have a2 : ¬ ids.star d = ids.proj c := X.ok.sp d c
        have a3 : ¬ ids.star d = c := fun e => X.child_ne_star hc_mem d e.symm
        have a4 : ¬ ids.star d = n := X.star_ne_n d
        rw [other _ a1 a2 a3 a4]
        exact inv.st d hd
      · simp at hd; subst hd; rw [S1]; simp
    · intro d hd
      rcases List.mem_append.mp hd with hd | hd
      · have a1 : ¬ ids.proj d = ids.star c := fun e => X.ok.sp c d e.symm
        have a2 : ¬ ids.proj d = ids.proj c := fun e => hcD (X.ok.pinj _ _ e ▸ hd)
        have a3 : ¬ ids.proj d = c := fun e => X.child_ne_proj hc_mem d e.symm
        have a4 : ¬ ids.proj d = n := X.proj_ne_n d
        rw [other _ a1 a2 a3 a4]
        exact inv.pr d hd
      · simp at hd; subst hd
        rw [S1]
        have : ¬ ids.proj d = ids.star d := fun e => X.ok.sp d d e.symm
        simp [this]
    · intro d hd dch hd0
      rcases List.mem_append.mp hd with hd | hd
      · have hdcs : d ∈ cs := by rw [hcs]; simp [hd]
        have a1 : ¬ d = ids.star c := X.child_ne_star hdcs c
        have a2 : ¬ d = ids.proj c := X.child_ne_proj hdcs c
        have a3 : ¬ d = c := fun e => hcD (e ▸ hd)
        have a4 : ¬ d = n := X.ne d hdcs
        rw [other _ a1 a2 a3 a4]
        exact inv.ch d hd dch hd0
      · simp at hd; subst hd
        rw [S1]
        have a1 : ¬ d = ids.star d := X.child_ne_star hc_mem d
        have a2 : ¬ d = ids.proj d := X.child_ne_proj hc_mem d
        rw [hS0c] at hd0; simp at hd0; subst hd0
        simp [a1, a2]
    · intro k h1 h2 h3
      have b1 : ¬ k = ids.star c := (h3 c (by simp)).1
      have b2 : ¬ k = ids.proj c := (h3 c (by simp)).2
      have b3 : ¬ k = c := fun e => h2 (by simp [e])
      rw [other _ b1 b2 b3 h1]
      exact inv.frame k h1 (fun hm => h2 (by simp [hm])) (fun c' hc' => h3 c' (by simp [hc']))
  exact ⟨w1, R1, inv1, ⟨cch, hSc⟩, hSi, hSs, hSp⟩

/-- During `contract_all_children(n)`: the conjugated projectors of `E` are already merged into `n`. -/
structure Inv2 (S0 S : Id → Option Struct) (ids : TTN.TempIds) (n : Id) (gp : Option Id) (cs E F : List Id) :
    Prop where
  n_ : S n = some (gp, F.map ids.star ++ E.map ids.proj)
  stF : ∀ c ∈ F, S (ids.star c) = some (some n, [ids.proj c])
  prF : ∀ c ∈ F, S (ids.proj c) = some (some (ids.star c), [c])
  stE : ∀ c ∈ E, S (ids.star c) = none
  prE : ∀ c ∈ E, S (ids.proj c) = some (some n, [c])
  ch : ∀ c ∈ cs, ∀ cch, S0 c = some (some n, cch) → S c = some (some (ids.proj c), cch)
  frame : ∀ k, k ≠ n → k ∉ cs → (∀ c ∈ cs, k ≠ ids.star c ∧ k ≠ ids.proj c) → S k = S0 k

theorem inv2_of_inv1 {S0 S : Id → Option Struct} {ids : TTN.TempIds} {n : Id} {gp : Option Id} {cs : List Id}
    (h : Inv1 S0 S ids n gp cs []) : Inv2 S0 S ids n gp cs [] cs :=
  ⟨by simpa using h.n_, h.st, h.pr, by simp, by simp, h.ch, h.frame⟩

theorem loop2_step {P : Prop} {O : Id → List Axis} {S0 : Id → Option Struct} {ids : TTN.TempIds} {n : Id}
    {gp : Option Id} {cs : List Id} (X : TruncCtx S0 ids n gp cs) (hO : P → ∀ k, S0 k = none → O k = [])
    {c : Id} {F E : List Id} {t t1 : TTN}
    (hcs : cs = E ++ c :: F) (w : t.WFX P O) (inv : Inv2 S0 t.S ids n gp cs E (c :: F))
    (hstep : t.contractNodes n (ids.star c) n = some t1) :
    t1.WFX P O ∧ t1.root = t.root ∧ Inv2 S0 t1.S ids n gp cs (E ++ [c]) F := by
  -- `trunc_step2` gives the structure map after the round as an if-chain over the few keys it writes; every field of
  -- the invariant is read off at a key shown different from those
  have hc_mem : c ∈ cs := by rw [hcs]; simp
  obtain ⟨hcE, hcF, _⟩ := nodup_mid (hcs ▸ X.nd)
  obtain ⟨w1, R1, S1⟩ := trunc_step2 w inv.n_ (inv.stF c (by simp)) (inv.prF c (by simp))
    (fun hp => hO hp _ (X.ok.fs c)) hstep
  have hL : ((c :: F).map ids.star ++ E.map ids.proj).erase (ids.star c) ++ [ids.proj c] =
      F.map ids.star ++ (E ++ [c]).map ids.proj := by
    simp
  have hsn : ¬ ids.star c = n := X.star_ne_n c
  have hpn : ¬ ids.proj c = n := X.proj_ne_n c
  have inv1 : Inv2 S0 t1.S ids n gp cs (E ++ [c]) F := by
    refine ⟨?_, ?_, ?_, ?_, ?_, ?_, ?_⟩
    · rw [S1]; simp only [if_true, hL]
    · intro d hd
      rw [S1]
      have a1 : ¬ ids.star d = n := X.star_ne_n d
      have a2 : ¬ ids.star d = ids.star c := fun e => hcF (X.ok.sinj _ _ e ▸ hd)
      have a3 : ¬ ids.star d = ids.proj c := X.ok.sp d c
      simp only [a1, a2, a3, if_false]
      exact inv.stF d (by simp [hd])
    · intro d hd
      rw [S1]
      have a1 : ¬ ids.proj d = n := X.proj_ne_n d
      have a2 : ¬ ids.proj d = ids.star c := fun e => X.ok.sp c d e.symm
      have a3 : ¬ ids.proj d = ids.proj c := fun e => hcF (X.ok.pinj _ _ e ▸ hd)
      simp only [a1, a2, a3, if_false]
      exact inv.prF d (by simp [hd])
    · intro d hd
      rw [S1]
      have a1 : ¬ ids.star d = n := X.star_ne_n d
      rcases List.mem_append.mp hd with hd | hd
      · have a2 : ¬ ids.star d = ids.star c := fun e => hcE (X.ok.sinj _ _ e ▸ hd)
        have a3 : ¬ ids.star d = ids.proj c := X.ok.sp d c
        simp only [a1, a2, a3, if_false]
        exact inv.stE d hd
      · simp at hd; subst hd; simp [a1]
    · intro d hd
      rw [S1]
      have a1 : ¬ ids.proj d = n := X.proj_ne_n d
      have a2 : ¬ ids.proj d = ids.star c := fun e => X.ok.sp c d e.symm
      rcases List.mem_append.mp hd with hd | hd
      · have a3 : ¬ ids.proj d = ids.proj c := fun e => hcE (X.ok.pinj _ _ e ▸ hd)
        simp only [a1, a2, a3, if_false]
        exact inv.prE d hd
      · simp at hd; subst hd; simp [a1, a2]
    · intro d hd dch hd0
      rw [S1]
      have a1 : ¬ d = n := X.ne d hd
      have a2 : ¬ d = ids.star c := X.child_ne_star hd c
      have a3 : ¬ d = ids.proj c := X.child_ne_proj hd c
      simp only [a1, a2, a3, if_false]
      exact inv.ch d hd dch hd0
    · intro k h1 h2 h3
      rw [S1]
      have b1 : ¬ k = ids.star c := (h3 c hc_mem).1
      have b2 : ¬ k = ids.proj c := (h3 c hc_mem).2
      simp only [h1, b1, b2, if_false]
      exact inv.frame k h1 h2 h3
  exact ⟨w1, R1, inv1⟩

/-- During the last loop: the projectors of `G` are already merged into the original children. -/
structure Inv3 (S0 S : Id → Option Struct) (ids : TTN.TempIds) (n : Id) (gp : Option Id) (cs G H : List Id) :
    Prop where
  n_ : S n = some (gp, G ++ H.map ids.proj)
  prH : ∀ c ∈ H, S (ids.proj c) = some (some n, [c])
  chH : ∀ c ∈ H, ∀ cch, S0 c = some (some n, cch) → S c = some (some (ids.proj c), cch)
  prG : ∀ c ∈ G, S (ids.proj c) = none
  chG : ∀ c ∈ G, S c = S0 c
  stN : ∀ c ∈ cs, S (ids.star c) = none
  frame : ∀ k, k ≠ n → k ∉ cs → (∀ c ∈ cs, k ≠ ids.star c ∧ k ≠ ids.proj c) → S k = S0 k

theorem inv3_of_inv2 {S0 S : Id → Option Struct} {ids : TTN.TempIds} {n : Id} {gp : Option Id} {cs : List Id}
    (h : Inv2 S0 S ids n gp cs cs []) : Inv3 S0 S ids n gp cs [] cs :=
  ⟨by simpa using h.n_, h.prE, h.ch, by simp, by simp, h.stE, h.frame⟩

theorem final_of_inv3 {S0 S : Id → Option Struct} {ids : TTN.TempIds} {n : Id} {gp : Option Id} {cs : List Id}
    (X : TruncCtx S0 ids n gp cs) (h : Inv3 S0 S ids n gp cs cs []) : S = S0 := by
  funext k
  by_cases h1 : k = n
  · rw [h1, X.hn]; simpa using h.n_
  · by_cases h2 : k ∈ cs
    · exact h.chG k h2
    · by_cases h3 : ∃ c ∈ cs, k = ids.star c ∨ k = ids.proj c
      · obtain ⟨c, hc, e | e⟩ := h3
        · rw [e, h.stN c hc, X.ok.fs c]
        · rw [e, h.prG c hc, X.ok.fp c]
      · exact h.frame k h1 h2 fun c hc => ⟨fun e => h3 ⟨c, hc, Or.inl e⟩, fun e => h3 ⟨c, hc, Or.inr e⟩⟩

theorem truncLoop3_body {t : TTN} {p c : Id} {pp : Option Id} (hS : t.S p = some (pp, [c])) :
    (do
        let pn ← dget t.nodes p
        if pn.children.length ≠ 1 then none
        let oc ← pn.children[0]?
        t.contractAllChildren p oc) = t.contractNodes p c c := by
  obtain ⟨pn, hpn, epn⟩ := TTN.N_of_S hS
  simp only [Prod.mk.injEq] at epn
  have hpn' : dget t.nodes p = some pn := hpn
  have hch : pn.children = [c] := epn.2.symm
  simp only [hpn', bind, Option.bind, hch, List.length_cons, List.length_nil, ne_eq,
    not_true_eq_false, if_false]
  simp [TTN.contractAllChildren, hpn', hch, bind, Option.bind]
  cases t.contractNodes p c c <;> rfl

theorem loop3_step {P : Prop} {O : Id → List Axis} {S0 : Id → Option Struct} {ids : TTN.TempIds} {n : Id}
    {gp : Option Id} {cs : List Id} (X : TruncCtx S0 ids n gp cs) (hO : P → ∀ k, S0 k = none → O k = [])
    {c : Id} {H G : List Id} {t t1 : TTN}
    (hcs : cs = G ++ c :: H) (w : t.WFX P O) (inv : Inv3 S0 t.S ids n gp cs G (c :: H))
    (hstep : t.contractNodes (ids.proj c) c c = some t1) :
    t1.WFX P O ∧ t1.root = t.root ∧ Inv3 S0 t1.S ids n gp cs (G ++ [c]) H := by
  -- `trunc_step3` gives the structure map after the round as an if-chain over the few keys it writes; every field of
  -- the invariant is read off at a key shown different from those
  have hc_mem : c ∈ cs := by rw [hcs]; simp
  obtain ⟨hcG, hcH, _⟩ := nodup_mid (hcs ▸ X.nd)
  obtain ⟨cch, hS0c⟩ := X.hc c hc_mem
  have hSp := inv.prH c (by simp)
  have hSc := inv.chH c (by simp) cch hS0c
  obtain ⟨w1, R1, S1⟩ := trunc_step3 w inv.n_ hSp hSc (fun hp => hO hp _ (X.ok.fp c)) hstep
  have hGnode : ∀ g ∈ G, ∃ st, S0 g = some st := by
    intro g hg
    obtain ⟨x, hx⟩ := X.hc g (by rw [hcs]; simp [hg])
    exact ⟨_, hx⟩
  have hpG : ids.proj c ∉ G := fun hm => by
    obtain ⟨st, hst⟩ := hGnode _ hm; exact X.node_ne_proj hst c rfl
  have hpH : ids.proj c ∉ H.map ids.proj := by
    intro hm
    obtain ⟨d, hd, e⟩ := List.mem_map.mp hm
    exact hcH (X.ok.pinj _ _ e ▸ hd)
  have hL : (G ++ (c :: H).map ids.proj).map (fun x => if x = ids.proj c then c else x) =
      (G ++ [c]) ++ H.map ids.proj := by
    rw [List.map_append, map_ite_not_mem _ _ _ hpG, List.map_cons, List.map_cons]
    simp [map_ite_not_mem _ _ _ hpH]
  have hcn : ¬ c = n := X.ne c hc_mem
  have hpn_ne : ¬ ids.proj c = n := X.proj_ne_n c
  have inv1 : Inv3 S0 t1.S ids n gp cs (G ++ [c]) H := by
    refine ⟨?_, ?_, ?_, ?_, ?_, ?_, ?_⟩
    · rw [S1]
      have a1 : ¬ n = c := fun e => hcn e.symm
      have a2 : ¬ n = ids.proj c := fun e => hpn_ne e.symm
      simp only [a1, a2, if_false, if_true, hL]
    · intro d hd
      rw [S1]
      have a1 : ¬ ids.proj d = c := fun e => X.child_ne_proj hc_mem d e.symm
      have a2 : ¬ ids.proj d = ids.proj c := fun e => hcH (X.ok.pinj _ _ e ▸ hd)
      have a3 : ¬ ids.proj d = n := X.proj_ne_n d
      simp only [a1, a2, a3, if_false]
      exact inv.prH d (by simp [hd])
    · intro d hd dch hd0
      rw [S1]
      have hdcs : d ∈ cs := by rw [hcs]; simp [hd]
      have a1 : ¬ d = c := fun e => hcH (e ▸ hd)
      have a2 : ¬ d = ids.proj c := X.child_ne_proj hdcs c
      have a3 : ¬ d = n := X.ne d hdcs
      simp only [a1, a2, a3, if_false]
      exact inv.chH d (by simp [hd]) dch hd0
    · intro d hd
      rw [S1]
      have a1 : ¬ ids.proj d = c := fun e => X.child_ne_proj hc_mem d e.symm
      have a3 : ¬ ids.proj d = n := X.proj_ne_n d
      rcases List.mem_append.mp hd with hd | hd
      · have a2 : ¬ ids.proj d = ids.proj c := fun e => hcG (X.ok.pinj _ _ e ▸ hd)
        simp only [a1, a2, a3, if_false]
        exact inv.prG d hd
      · simp at hd; subst hd; simp [a1]
    · intro d hd
      rw [S1]
      rcases List.mem_append.mp hd with hd | hd
      · have hdcs : d ∈ cs := by rw [hcs]; simp [hd]
        have a1 : ¬ d = c := fun e => hcG (e ▸ hd)
        have a2 : ¬ d = ids.proj c := X.child_ne_proj hdcs c
        have a3 : ¬ d = n := X.ne d hdcs
        simp only [a1, a2, a3, if_false]
        exact inv.chG d hd
      · simp at hd; subst hd; simp [hS0c]
    · intro d hd
      rw [S1]
      have a1 : ¬ ids.star d = c := fun e => X.child_ne_star hc_mem d e.symm
      have a2 : ¬ ids.star d = ids.proj c := X.ok.sp d c
      have a3 : ¬ ids.star d = n := X.star_ne_n d
      simp only [a1, a2, a3, if_false]
      exact inv.stN d hd
    · intro k h1 h2 h3
      rw [S1]
      have b1 : ¬ k = c := fun e => h2 (e ▸ hc_mem)
      have b2 : ¬ k = ids.proj c := (h3 c hc_mem).2
      simp only [h1, b1, b2, if_false]
      exact inv.frame k h1 h2 h3
  exact ⟨w1, R1, inv1⟩

theorem truncateNode_succ {fuel : Nat} {t t' : TTN} {n : Id} {ids : TTN.TempIds} {kdim : Id → Nat}
    (h : TTN.truncateNode (fuel + 1) t n ids kdim = some t') :
    ∃ Nn t3, t.N n = some Nn ∧ t.truncateNodeStep n ids kdim = some t3 ∧
      Nn.children.foldlM (fun (u : TTN) c => TTN.truncateNode fuel u c ids kdim) t3 = some t' := by
  rw [TTN.truncateNode] at h
  obtain ⟨Nn, hN, h⟩ := Option.bind_eq_some_iff.1 h
  obtain ⟨t3, h3, h⟩ := Option.bind_eq_some_iff.1 h
  exact ⟨Nn, t3, hN, h3, h⟩

theorem recursiveTruncation_some {t t' : TTN} {kdim : Id → Nat} (h : t.recursiveTruncation kdim = some t') :
    ∃ r, t.root = some r ∧ TTN.truncateNode (t.nodes.length + 1) t r
      (TTN.arithIds ((t.nodes.map (·.1)).foldl max 0 + 1)) kdim = some t' :=
  Option.bind_eq_some_iff.1 h

theorem arithIds_ok (t : TTN) : TempOK t.S (TTN.arithIds ((t.nodes.map (·.1)).foldl max 0 + 1)) := by
  show TempOK t.S (TTN.arithIds t.bound)
  have hf : ∀ k : Nat, t.bound ≤ k → t.S k = none := fun k hk => S_none_of_N (N_none_above t k hk)
  generalize t.bound = m at hf ⊢
  refine ⟨?_, ?_, ?_, ?_, ?_, ?_, ?_, ?_⟩
  · intro (c : Nat); show t.S (m + 3 * c) = none; exact hf _ (by omega)
  · intro (c : Nat); show t.S (m + 3 * c + 1) = none; exact hf _ (by omega)
  · intro (c : Nat); show t.S (m + 3 * c + 2) = none; exact hf _ (by omega)
  · intro (c : Nat) (c' : Nat); show m + 3 * c ≠ m + 3 * c' + 1; omega
  · intro (c : Nat) (c' : Nat); show m + 3 * c ≠ m + 3 * c' + 2; omega
  · intro (c : Nat) (c' : Nat); show m + 3 * c + 1 ≠ m + 3 * c' + 2; omega
  · intro (c : Nat) (c' : Nat) h; have e : m + 3 * c + 1 = m + 3 * c' + 1 := h; show (c : Nat) = c'; omega
  · intro (c : Nat) (c' : Nat) h; have e : m + 3 * c + 2 = m + 3 * c' + 2 := h; show (c : Nat) = c'; omega

end Ptn.C02
