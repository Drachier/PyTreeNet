import Ptn.C02.Model
/-! Model for property C02: `TreeTensorNetwork` at the level of *structure, leg labels and
shapes* (`pytreenet/core/ttn.py`, `tree_structure.py`, `leg_specification.py`).

A stored array is a list of axes; an axis carries a *label* (which open leg / which bond it is) and
its dimension.  No tensor values: what NumPy computes with the values is outside this model (dense
oracle).  `transpose`, `tensordot`, the splitting functions and `eye` act on the axis lists exactly
as NumPy acts on the axes; a fresh bond gets a fresh label (`nextLabel`, ghost state).

Python dictionaries are association lists in insertion order (`dget`/`dset`/`dpop`).
Every routine is transcribed statement by statement; `none` = the Python code raises.
Identifier strings are numbers here (the harness computes default identifiers such as
`a + "contr" + b`, `"out_of_" + a`, uuids and passes them explicitly).
-/
namespace Ptn.C02

abbrev Label := Nat

structure Axis where
  lab : Label
  dim : Nat
deriving Repr, DecidableEq

abbrev Tensor := List Axis

/-! ### dictionaries -/

def dget {α : Type} (d : List (Id × α)) (k : Id) : Option α :=
  match d.find? (fun e => e.1 == k) with
  | some e => some e.2
  | none => none

def dhas {α : Type} (d : List (Id × α)) (k : Id) : Bool := d.any (fun e => e.1 == k)

/-- `d[k] = v`: replaces in place or appends. -/
def dset {α : Type} (d : List (Id × α)) (k : Id) (v : α) : List (Id × α) :=
  if dhas d k then d.map (fun e => if e.1 == k then (k, v) else e) else d ++ [(k, v)]

/-- `d.pop(k)` / `del d[k]` (KeyError ↦ `none`). -/
def dpop {α : Type} (d : List (Id × α)) (k : Id) : Option (List (Id × α)) :=
  if dhas d k then some (d.filter (fun e => e.1 != k)) else none

/-- `d1.update(d2)`. -/
def dupdate {α : Type} (d1 d2 : List (Id × α)) : List (Id × α) :=
  d2.foldl (fun acc e => dset acc e.1 e.2) d1

/-! ### NumPy on axis lists -/

/-- `tensor.transpose(perm)` (ValueError ↦ `none`). -/
def transposeT (t : Tensor) (perm : List Nat) : Option Tensor :=
  if perm.length ≠ t.length then none
  else if ¬ perm.Nodup then none
  else perm.mapM (fun i => t[i]?)

/-- `np.tensordot(a, b, axes=(i, j))`: remaining axes of `a`, then remaining axes of `b`;
    NumPy checks the two dimensions. -/
def tensordot1 (a b : Tensor) (i j : Nat) : Option Tensor :=
  match a[i]?, b[j]? with
  | some x, some y => if x.dim = y.dim then some (a.eraseIdx i ++ b.eraseIdx j) else none
  | _, _ => none

def shapeOf (t : Tensor) : List Nat := t.map (·.dim)

/-- `Node(tensor=t, identifier=…)`. -/
def nodeOfTensor (t : Tensor) : NodeS := ⟨List.range t.length, shapeOf t, none, []⟩

/-! ### the network -/

structure TTN where
  nodes : List (Id × NodeS)        -- `TreeStructure._nodes`
  tensors : List (Id × Tensor)     -- `TensorDict.data`
  root : Option Id                 -- `_root_id`
  nextLabel : Label                -- ghost: fresh bond labels
deriving Repr

namespace TTN

def empty : TTN := ⟨[], [], none, 1000000⟩

/-- `TensorDict.__getitem__`: transpose by the node's permutation, reset it, store back. -/
def access (t : TTN) (id : Id) : Option (TTN × Tensor) := do
  let node ← dget t.nodes id
  let tensor ← dget t.tensors id
  let transposed ← transposeT tensor node.perm
  some ({ t with nodes := dset t.nodes id node.resetPermutation,
                 tensors := dset t.tensors id transposed }, transposed)

/-- `TensorDict.pop(id)` (`MutableMapping.pop`: `self[key]`, then `del self[key]`). -/
def tensorsPop (t : TTN) (id : Id) : Option TTN := do
  let (t1, _) ← t.access id
  let ts ← dpop t1.tensors id
  some { t1 with tensors := ts }

/-- The logical axes of a node (what `ttn.tensors[id]` would return), without side effect. -/
def logical (t : TTN) (id : Id) : Option Tensor := do
  let node ← dget t.nodes id
  let tensor ← dget t.tensors id
  transposeT tensor node.perm

/-- `ensure_shape_matching(new_tensor, tensor_leg, old_node, old_leg)`. -/
def ensureShapeMatching (newT : Tensor) (tensorLeg : Nat) (old : NodeS) (oldLeg : Nat) : Option Unit :=
  match newT[tensorLeg]?, old.shape[oldLeg]? with
  | some a, some d => if a.dim = d then some () else none
  | _, _ => none

/-- `add_root(node, tensor)`. -/
def addRoot (t : TTN) (id : Id) (tensor : Tensor) : Option TTN :=
  if t.root.isSome then none                                     -- assert self.root_id is None
  else
    let node := (NodeS.empty).linkTensor (shapeOf tensor)
    some { t with root := some id, nodes := dset t.nodes id node, tensors := dset t.tensors id tensor }

/-- `add_child_to_parent(child, tensor, child_leg, parent_id, parent_leg)`. -/
def addChildToParent (t : TTN) (cid : Id) (tensor : Tensor) (childLeg : Nat) (pid : Id)
    (parentLeg : Nat) : Option TTN := do
  let parentNode ← dget t.nodes pid                               -- ensure_existence
  ensureShapeMatching tensor childLeg parentNode parentLeg
  let child := (NodeS.empty).linkTensor (shapeOf tensor)
  if dhas t.nodes cid then none                                   -- _add_node: ensure_uniqueness
  let nodes1 := dset t.nodes cid child
  let child' ← child.openLegToParent pid (some childLeg)
  let nodes2 := dset nodes1 cid child'
  let parentNode' ← parentNode.openLegToChild cid parentLeg
  let nodes3 := dset nodes2 pid parentNode'
  some { t with nodes := nodes3, tensors := dset t.tensors cid tensor }

/-- `determine_parentage(node_id1, node_id2)`. -/
def determineParentage (t : TTN) (id1 id2 : Id) : Option (Id × Id) := do
  let node1 ← dget t.nodes id1
  let node2 ← dget t.nodes id2
  if node2.parent = some id1 then some (id1, id2)
  else if node1.parent = some id2 then some (id2, id1)
  else none

/-- `GraphNode.replace_child(child_id, new_child_id)`. -/
def replaceChild (n : NodeS) (cid new : Id) : Option NodeS :=
  if cid ∉ n.children then none
  else if cid = new then some n
  else some { n with children := n.children.set (n.children.idxOf cid) new }

/-- `GraphNode.replace_neighbour(old, new)`. -/
def replaceNeighbour (n : NodeS) (old new : Id) : Option NodeS :=
  if n.parent = some old then some { n with parent := some new }
  else if old ∈ n.children then replaceChild n old new
  else none

/-- `replace_node_in_neighbours(new_node_id, old_node_id, del_old_node)`. -/
def replaceNodeInNeighbours (t : TTN) (new old : Id) (delOld : Bool := true) : Option TTN :=
  if new = old then some t
  else do
    let oldNode ← dget t.nodes old
    let nodes1 ← oldNode.children.foldlM (fun (ns : List (Id × NodeS)) c =>
      if c ≠ new then do
        let cn ← dget ns c
        some (dset ns c { cn with parent := some new })
      else some ns) t.nodes
    let (nodes2, root2) ←
      match oldNode.parent with
      | none => some (nodes1, some new)
      | some p =>
        if p ≠ new then do
          let pn ← dget nodes1 p
          let pn' ← replaceChild pn old new
          some (dset nodes1 p pn', t.root)
        else some (nodes1, t.root)
    let nodes3 ← if delOld then dpop nodes2 old else some nodes2
    some { t with nodes := nodes3, root := root2 }

/-- `replace_node_in_some_neighbours(new_node_id, old_node_id, neighbour_ids)`. -/
def replaceNodeInSomeNeighbours (t : TTN) (new old : Id) (nbs : List Id) : Option TTN := do
  let nodes' ← nbs.foldlM (fun (ns : List (Id × NodeS)) nb => do
    let n ← dget ns nb
    let n' ← replaceNeighbour n old new
    some (dset ns nb n')) t.nodes
  some { t with nodes := nodes' }

/-- `_data_contraction(parent_id, child_id, new_id)`. -/
def dataContraction (t : TTN) (pid cid new : Id) : Option (TTN × Tensor) := do
  let parentNode ← dget t.nodes pid
  let (t1, parentTensor) ← t.access pid
  let (t2, childTensor) ← t1.access cid
  let idx ← parentNode.neighbourIndex cid
  let newTensor ← tensordot1 parentTensor childTensor idx 0
  let t3 ← t2.tensorsPop pid
  let t4 ← t3.tensorsPop cid
  some ({ t4 with tensors := dset t4.tensors new newTensor }, newTensor)

-- `{identifier: leg_value + offset for leg_value, identifier in enumerate(l)}`
def enumFrom (l : List Id) (offset : Nat) : List (Id × Nat) :=
  (l.zipIdx).map (fun e => (e.1, e.2 + offset))

/-- `if not parent_node.is_root(): new_node.open_leg_to_parent(parent_node.parent, 0)`. -/
def ccnParentStep (n0 : NodeS) (gp : Option Id) : Option NodeS :=
  match gp with
  | some g => n0.openLegToParent g (some 0)
  | none => some n0

/-- `_create_contracted_node(new_tensor, new_identifier, parent_id, child_id, node_id1)`. -/
def createContractedNode (t : TTN) (newTensor : Tensor) (pid cid id1 : Id) : Option NodeS := do
  let parentNode ← dget t.nodes pid
  let childNode ← dget t.nodes cid
  let newNode0 := nodeOfTensor newTensor
  let newNode1 ← ccnParentStep newNode0 parentNode.parent
  if cid ∉ parentNode.children then none                          -- list.remove raises
  let parentChildren := parentNode.children.erase cid
  let parentChildDict := enumFrom parentChildren parentNode.nparents
  if parentNode.nlegs = 0 then none                               -- (nlegs - 1 would be negative)
  let childChildrenDict := enumFrom childNode.children (parentNode.nlegs - 1)
  let newNode2 ←
    if pid = id1 then newNode1.openLegsToChildren (dupdate parentChildDict childChildrenDict)
    else newNode1.openLegsToChildren (dupdate childChildrenDict parentChildDict)
  if id1 ≠ pid then
    let newNvirt := newNode2.nvirt
    let pOpen := parentNode.nlegs - parentNode.nvirt
    newNode2.exchangeOpenLegRanges newNvirt (newNvirt + pOpen) (newNvirt + pOpen) newNode2.nlegs
  else some newNode2

/-- `contract_nodes(node_id1, node_id2, new_identifier)` (the identifier is explicit). -/
def contractNodes (t : TTN) (id1 id2 new : Id) : Option TTN := do
  let (pid, cid) ← t.determineParentage id1 id2
  let (t1, newTensor) ← t.dataContraction pid cid new
  let newNode ← t1.createContractedNode newTensor pid cid id1
  let t2 ← t1.replaceNodeInNeighbours new pid
  let t3 ← t2.replaceNodeInNeighbours new cid
  some { t3 with nodes := dset t3.nodes new newNode }

/-! ### splitting -/

-- `LegSpecification` without its `node` field: `findLegValues` takes the node as an argument
structure LegSpec where
  parentLeg : Option Id
  childLegs : List Id
  openLegs : List Nat
  isRoot : Bool
deriving Repr, DecidableEq

/-- `LegSpecification.find_leg_values()` relative to `node`. -/
def LegSpec.findLegValues (ls : LegSpec) (node : NodeS) : Option (List Nat) := do
  let cvals ← ls.childLegs.mapM (fun c => node.neighbourIndex c)
  some ((if ls.parentLeg.isSome then [0] else []) ++ cvals ++ ls.openLegs)

/-- `LegSpecification.find_all_neighbour_ids()`. -/
def LegSpec.allNeighbourIds (ls : LegSpec) : List Id :=
  (match ls.parentLeg with
   | some p => [p]
   | none => []) ++ ls.childLegs

/-- The contract of every splitting function (`tensor_qr_decomposition`,
    `contr_truncated_svd_splitting`, `idiots_splitting`) on axes: the legs must partition the axes
    (`assert tensor.ndim == …`, transposition); out = (out legs…, bond), in = (bond, in legs…). -/
def splitAxes (tensor : Tensor) (outInt inInt : List Nat) (bond : Axis) : Option (Tensor × Tensor) := do
  let moved ← transposeT tensor (outInt ++ inInt)
  some (moved.take outInt.length ++ [bond], bond :: moved.drop outInt.length)

/-- `_find_in_children`. -/
def findInChildren (inL outL : LegSpec) (outId : Id) : Option (List (Id × Nat)) :=
  if inL.isRoot then
    if outL.parentLeg.isSome then none                              -- assert
    else some (dupdate [(outId, 0)] (enumFrom inL.childLegs 1))
  else if inL.parentLeg.isSome then
    some (dupdate [(outId, 1)] (enumFrom inL.childLegs 2))
  else some (dupdate [] (enumFrom inL.childLegs 1))

/-- `_find_out_children`. -/
def findOutChildren (outL inL : LegSpec) (outNode : NodeS) (inId : Id) : Option (List (Id × Nat)) :=
  if inL.isRoot ∨ inL.parentLeg.isSome then
    if outL.parentLeg.isSome then none                              -- assert
    else some (dupdate [] (enumFrom outL.childLegs 1))
  else if outL.isRoot then
    if outNode.nlegs = 0 then none else
    some (dupdate [(inId, outNode.nlegs - 1)] (enumFrom outL.childLegs 0))
  else
    if outL.parentLeg.isNone then none                              -- assert
    else if outNode.nlegs = 0 then none
    else some (dupdate [(inId, outNode.nlegs - 1)] (enumFrom outL.childLegs 1))

/-- `_set_in_parent_leg_after_split(in_node, in_legs, out_identifier)`. -/
def setInParentLeg (inNode : NodeS) (inL : LegSpec) (outId : Id) : Option NodeS :=
  match inL.parentLeg with
  | some p => inNode.openLegToParent p (some 1)
  | none => if !inL.isRoot then inNode.openLegToParent outId (some 0) else some inNode

/-- `_set_out_parent_leg_after_split(out_node, out_legs, in_identifier)`. -/
def setOutParentLeg (outNode : NodeS) (outL : LegSpec) (inId : Id) : Option NodeS :=
  match outL.parentLeg with
  | some p => outNode.openLegToParent p (some 0)
  | none =>
    if !outL.isRoot then
      if outNode.nlegs = 0 then none else outNode.openLegToParent inId (some (outNode.nlegs - 1))
    else some outNode

/-- What `split_nodes` does to the freshly created in-node:
    `_set_in_parent_leg_after_split`, then `_set_in_children_legs_after_split`. -/
def buildInNode (inTensor : Tensor) (inL outL : LegSpec) (outId : Id) : Option NodeS := do
  let inNode1 ← setInParentLeg (nodeOfTensor inTensor) inL outId
  let inChildren ← findInChildren inL outL outId
  inNode1.openLegsToChildren inChildren

/-- What `split_nodes` does to the freshly created out-node:
    `_set_out_parent_leg_after_split`, then `_set_out_children_legs_after_split`. -/
def buildOutNode (outTensor : Tensor) (outL inL : LegSpec) (inId : Id) : Option NodeS := do
  let outNode1 ← setOutParentLeg (nodeOfTensor outTensor) outL inId
  let outChildren ← findOutChildren outL inL outNode1 inId
  outNode1.openLegsToChildren outChildren

/-- `_set_root_from_leg_specs`. -/
def setRootFromLegSpecs (t : TTN) (inL outL : LegSpec) (inId outId : Id) : Option TTN :=
  if inL.isRoot then (if outL.isRoot then none else some { t with root := some inId })
  else if outL.isRoot then some { t with root := some outId }
  else some t

/-- `split_nodes(node_id, out_legs, in_legs, splitting_function, out_identifier, in_identifier)`;
    `bondDim` is the dimension of the new bond chosen by the splitting function.
    The two fresh `Node` objects are independent, so the four `_set_*_after_split` calls are grouped
    per node (`buildInNode`, `buildOutNode`); both objects are in `_nodes` before they are edited.
    (The model rejects `out_identifier = in_identifier`, for which the Python code has no meaning.) -/
def splitNodes (t : TTN) (id : Id) (outL inL : LegSpec) (outId inId : Id) (bondDim : Nat) :
    Option TTN := do
  if outId = inId then none
  let (t1, tensor) ← t.access id
  let node1 ← dget t1.nodes id
  let outInt ← outL.findLegValues node1
  let inInt ← inL.findLegValues node1
  let bond : Axis := ⟨t.nextLabel, bondDim⟩
  let (outTensor, inTensor) ← splitAxes tensor outInt inInt bond
  let tensors1 := dset (dset t1.tensors outId outTensor) inId inTensor
  let nodes1 := dset (dset t1.nodes outId (nodeOfTensor outTensor)) inId (nodeOfTensor inTensor)
  let inNode ← buildInNode inTensor inL outL outId
  let outNode ← buildOutNode outTensor outL inL inId
  let nodes3 := dset (dset nodes1 inId inNode) outId outNode
  let t2 : TTN := { t1 with nodes := nodes3, tensors := tensors1, nextLabel := t.nextLabel + 1 }
  let t3 ← t2.replaceNodeInSomeNeighbours outId id outL.allNeighbourIds
  let t4 ← t3.replaceNodeInSomeNeighbours inId id inL.allNeighbourIds
  let t5 ← t4.setRootFromLegSpecs inL outL inId outId
  if id ≠ outId ∧ id ≠ inId then do
    let t6 ← t5.tensorsPop id
    let ns ← dpop t6.nodes id
    some { t6 with nodes := ns }
  else some t5

/-- `legs_before_combination(node1_id, node2_id)`. -/
def legsBeforeCombination (t : TTN) (id1 id2 : Id) : Option (LegSpec × LegSpec) := do
  let node1 ← dget t.nodes id1
  let node2 ← dget t.nodes id2
  if node1.nvirt + node2.nvirt < 2 then none
  let totNvirt := node1.nvirt + node2.nvirt - 2
  let totNlegs := node1.nlegs + node2.nlegs - 2
  let n1open := node1.nlegs - node1.nvirt
  let open1 := List.range' totNvirt n1open
  let open2 := List.range' (totNvirt + n1open) (totNlegs - (totNvirt + n1open))
  let spec1 : LegSpec := ⟨none, node1.children, open1, false⟩
  let spec2 : LegSpec := ⟨none, node2.children, open2, false⟩
  -- temp = [(spec1, node1), (spec2, node2)]; reversed if node2 is the parent of node1
  let rev := decide (id1 ∈ node2.children)
  let (sA, nA, idB) := if rev then (spec2, node2, id1) else (spec1, node1, id2)
  if idB ∉ sA.childLegs then none                                   -- list.remove raises
  let sA' : LegSpec := { sA with parentLeg := nA.parent, childLegs := sA.childLegs.erase idB }
  let (s1, s2) := if rev then (spec1, sA') else (sA', spec2)
  if node1.isRoot then some ({ s1 with isRoot := true }, s2)
  else if node2.isRoot then some (s1, { s2 with isRoot := true })
  else some (s1, s2)

/-! ### the remaining edits -/

/-- `insert_identity(child_id, parent_id, new_identifier)`. -/
def insertIdentity (t : TTN) (cid pid new : Id) : Option TTN := do
  let childNode ← dget t.nodes cid
  let parentNode ← dget t.nodes pid
  if childNode.parent ≠ some pid then none                          -- assert is_child_of
  if cid ∉ parentNode.children then none                            -- assert is_parent_of
  let childNode' ← replaceNeighbour childNode pid new
  let nodes1 := dset t.nodes cid childNode'
  let parentNode1 ← dget nodes1 pid
  let parentNode' ← replaceNeighbour parentNode1 cid new
  let nodes2 := dset nodes1 pid parentNode'
  -- dim = child_node.parent_leg_dim() = _shape[_leg_permutation[0]]
  let a0 ← childNode'.perm[0]?
  let dim ← childNode'.shp[a0]?
  let childTensor ← dget t.tensors cid
  let bondAxis ← childTensor[a0]?
  let identity : Tensor := [⟨bondAxis.lab, dim⟩, ⟨bondAxis.lab, dim⟩]   -- eye(dim): both axes are that bond
  let idNode0 := nodeOfTensor identity
  let idNode1 ← idNode0.openLegToParent pid (some 0)
  let idNode2 ← idNode1.openLegToChild cid 1
  some { t with nodes := dset nodes2 new idNode2, tensors := dset t.tensors new identity }

/-- `TreeStructure.change_node_identifier` + the tensor move of `TreeTensorNetwork.change_node_identifier`. -/
def changeNodeIdentifier (t : TTN) (new old : Id) : Option TTN := do
  -- self.tensors[new] = self._tensors.pop(old)
  let (t1, tensor) ← t.access old
  let ts ← dpop t1.tensors old
  let t2 : TTN := { t1 with tensors := dset ts new tensor }
  if old ≠ new then do
    if !dhas t2.nodes old then none                                 -- ensure_existence
    if dhas t2.nodes new then none                                  -- ensure_uniqueness
    let t3 ← t2.replaceNodeInNeighbours new old false
    let node ← dget t3.nodes old
    let ns ← dpop t3.nodes old
    some { t3 with nodes := dset ns new node }                      -- (set_identifier: the key is the identifier)
  else some t2

/-- `replace_tensor(node_id, new_tensor, permutation)`. -/
def replaceTensor (t : TTN) (id : Id) (newTensor : Tensor) (p : Option (List Nat)) : Option TTN := do
  let node ← dget t.nodes id
  let node' ← node.replaceTensor (shapeOf newTensor) p
  some { t with nodes := dset t.nodes id node', tensors := dset t.tensors id newTensor }

/-- The harness' use of `replace_tensor`: the present logical tensor, stored with its axes permuted
    such that `new.transpose(p)` is the logical order again. -/
def replaceTensorPermuted (t : TTN) (id : Id) (p : Option (List Nat)) : Option TTN := do
  let cur ← t.logical id
  match p with
  | none => t.replaceTensor id cur none
  | some p =>
    if p.length ≠ cur.length then none
    let newT ← (List.range cur.length).mapM (fun j => do
      let i := p.idxOf j
      cur[i]?)
    t.replaceTensor id newT (some p)

end TTN

/-! ### operations as data (driver, `ops_preserve_wf`) -/

inductive TOp where
  | root (id : Id) (tensor : Tensor)
  | child (id : Id) (tensor : Tensor) (childLeg : Nat) (pid : Id) (parentLeg : Nat)
  | access (id : Id)
  | contract (id1 id2 new : Id)
  | split (id : Id) (outL inL : TTN.LegSpec) (outId inId : Id) (bondDim : Nat)
  | ident (cid pid new : Id)
  | rename (new old : Id)
  | rtp (id : Id) (p : Option (List Nat))
deriving Repr

def TTN.step (t : TTN) : TOp → Option TTN
  | .root id tensor => t.addRoot id tensor
  | .child id tensor cl pid pl => t.addChildToParent id tensor cl pid pl
  | .access id => (t.access id).map (·.1)
  | .contract a b n => t.contractNodes a b n
  | .split id o i oid iid bd => t.splitNodes id o i oid iid bd
  | .ident c p n => t.insertIdentity c p n
  | .rename n o => t.changeNodeIdentifier n o
  | .rtp id p => t.replaceTensorPermuted id p

end Ptn.C02
