import Ptn.C02.SGraph
/-! What the composites of two edits (split then contract, contract then split, the three per-child steps of
`truncate_node`) do to the structure map, as equations between structure maps. -/
namespace Ptn.C02

/-- `bot` becomes the first child of `top`; nothing else changes. -/
def promoteS (S : Id → Option Struct) (top bot : Id) : Id → Option Struct :=
  fun k => if k = top then (S top).map (fun s => (s.1, bot :: s.2.erase bot)) else S k

/-- `bot` becomes the last child of `top`; nothing else changes. -/
def demoteS (S : Id → Option Struct) (top bot : Id) : Id → Option Struct :=
  fun k => if k = top then (S top).map (fun s => (s.1, s.2.erase bot ++ [bot])) else S k

theorem erase_map_ite (l : List Id) (a f : Id) (hnd : l.Nodup) (hf : f ∉ l) :
    (l.map (fun c => if c = a then f else c)).erase f = l.erase a := by
  induction l with
  | nil => rfl
  | cons x l ih =>
    rw [List.nodup_cons] at hnd
    have hfx : ¬ x = f := fun e => hf (by simp [e])
    have hfl : f ∉ l := fun hm => hf (List.mem_cons_of_mem _ hm)
    by_cases hx : x = a
    · subst hx
      have : x ∉ l := hnd.1
      simp [map_ite_not_mem l x f this]
    · have hne : ¬ x = f := hfx
      simp only [List.map_cons, hx, if_false]
      rw [List.erase_cons_tail (by simpa using hne), List.erase_cons_tail (by simpa using hx), ih hnd.2 hfl]

theorem map_map_ite_chain (l : List Id) (c i s : Id) (hi : i ∉ l) :
    (l.map (fun x => if x = c then i else x)).map (fun x => if x = i then s else x) =
      l.map (fun x => if x = c then s else x) := by
  rw [List.map_map]
  refine List.map_congr_left fun x hx => ?_
  have hxi : ¬ x = i := fun e => hi (e ▸ hx)
  by_cases hxc : x = c
  · simp [hxc]
  · simp [hxc, hxi]

/-- Split the upper node `a`, contract the link into the lower node `b` (a child of `a`). -/
theorem link_down_S {S : Id → Option Struct} {Tk : Id → Bool} {root : Option Id} (h : SWF S Tk root)
    {a b link : Id} {gp : Option Id} {Ach Bch : List Id}
    (hA : S a = some (gp, Ach)) (hB : S b = some (some a, Bch)) (hl : S link = none) :
    contractS (splitS S a a link gp (Ach.erase b) [b]) link b b (some a) Bch = promoteS S a b := by
  have hba : ¬ b = a := (h.parent_ne hB).symm
  have hla : ¬ link = a := by intro e; rw [← e, hl] at hA; simp at hA
  have hlA : link ∉ Ach := h.fresh_not_child hl hA
  funext k
  unfold contractS promoteS
  by_cases hkb : k = b
  · rw [hkb]; simp [hba, hB]
  · simp only [hkb, if_false]
    by_cases hkl : k = link
    · rw [hkl]; simp [hla, hl]
    · simp only [hkl, false_or, if_false]
      unfold splitS
      by_cases hka : k = a
      · subst hka
        have hg : gp.map (fun p => if p = link ∨ p = b then b else p) = gp :=
          map_eq_self fun g e => ite_eq_right_iff.mpr fun e' =>
            e'.elim (fun e' => absurd (by rw [hA, e, e']) (h.fresh_not_parent (ch := Ach) hl)) Eq.symm
        rw [if_pos rfl, if_pos rfl, hA, Option.map_some, Option.map_some, contractRen_mk, hg, List.map_cons,
          if_pos rfl, map_ite_not_mem _ link b fun hm => hlA (List.mem_of_mem_erase hm)]
      · simp only [hka, hkl, if_false]
        -- the other children of `a` stay with `a`; nobody refers to `link`
        have e1 : (S k).map (splitRen a a link (Ach.erase b) k) = S k :=
          map_eq_self fun ⟨pp, ch⟩ hk => splitRen_eq_self
            (fun e => if_pos ((List.mem_erase_of_ne hkb).mpr ((h.child_of_iff hA hk).mp e))) (.inr rfl)
        rw [e1]
        exact map_eq_self fun ⟨pp, ch⟩ hk => contractRen_eq_self
          (fun e => e.elim (fun e => absurd (e ▸ hk) (h.fresh_not_parent hl)) id)
          (.inl (h.fresh_not_child hl hk))

/-- Contract the edge `top – bot` into `ts`, split `ts` again with the upper node taking the parent. -/
theorem two_site_S {S : Id → Option Struct} {Tk : Id → Bool} {root : Option Id} (h : SWF S Tk root)
    {top bot ts : Id} {gp : Option Id} {Tch Bch : List Id} (K' : List Id)
    (hT : S top = some (gp, Tch)) (hB : S bot = some (some top, Bch)) (hts : S ts = none) :
    splitS (contractS S top bot ts gp K') ts top bot gp (Tch.erase bot) Bch = promoteS S top bot := by
  funext k
  unfold splitS promoteS
  by_cases hkt : k = top
  · rw [hkt]; simp [hT]
  · simp only [hkt, if_false]
    by_cases hkb : k = bot
    · rw [hkb]; simp [hB]
    · simp only [hkb, if_false]
      by_cases hks : k = ts
      · rw [hks]; simp [hts]
      · simp only [hks, if_false]
        unfold contractS
        simp only [hks, hkt, hkb, if_false, false_or]
        rw [Option.map_map]
        refine map_eq_self fun ⟨pp, ch⟩ hk => ?_
        simp only [Function.comp_apply, splitRen, contractRen]
        refine Prod.ext ?_ ((map_map_ite_chain ch top ts top (h.fresh_not_child hts hk)).trans (map_ite_self ch top))
        cases pp with
        | none => rfl
        | some p =>
          have hps : ¬ p = ts := fun e => h.fresh_not_parent hts (e ▸ hk)
          by_cases hpt : p = top
          · have hkT : k ∈ Tch := (h.child_of_iff hT hk).mp (by rw [hpt])
            have : k ∈ Tch.erase bot := (List.mem_erase_of_ne hkb).mpr hkT
            simp [hpt, this]
          · by_cases hpb : p = bot
            · have hnot : k ∉ Tch.erase bot := fun hm =>
                hpt (Option.some.inj ((h.child_of_iff hT hk).mpr (List.mem_of_mem_erase hm)))
              simp [hpb, hnot]
            · simp [hpt, hpb, hps]

/-- First per-child step of `truncate_node`: `insert_identity(c, n, i)` then `split_node_replace(i, …, s, p, (n,[],[]), (None,[c],[]))`. -/
theorem insert_proj_S {S : Id → Option Struct} {Tk : Id → Bool} {root : Option Id} (h : SWF S Tk root)
    {n c i s p : Id} {gp : Option Id} {L cch : List Id}
    (hN : S n = some (gp, L)) (hC : S c = some (some n, cch))
    (hi : S i = none) :
    splitS (subdivideS S c n i cch gp L) i s p (some n) [] [c] =
      fun k => if k = s then some (some n, [p]) else if k = p then some (some s, [c])
               else if k = c then some (some p, cch)
               else if k = n then some (gp, L.map (fun x => if x = c then s else x)) else S k := by
  have hne : ∀ {k st}, S k = some st → ¬ i = k := by
    intro k st hk e; rw [← e, hi] at hk; simp at hk
  have hiL : i ∉ L := h.fresh_not_child hi hN
  have hic : i ∉ cch := h.fresh_not_child hi hC
  funext k
  unfold splitS
  by_cases hks : k = s
  · simp [hks]
  · simp only [hks, if_false]
    by_cases hkp : k = p
    · simp [hkp]
    · simp only [hkp, if_false]
      by_cases hki : k = i
      · rw [hki]
        simp [hne hC, hne hN, hi]
      · simp only [hki, if_false]
        unfold subdivideS
        simp only [hki, if_false]
        by_cases hkc : k = c
        · rw [hkc, if_pos rfl, if_pos rfl, Option.map_some, splitRen_mk, Option.map_some, if_pos rfl,
            if_neg List.not_mem_nil, map_ite_not_mem _ _ _ hic]
        · simp only [hkc, if_false]
          by_cases hkn : k = n
          · have hg : gp.map (fun q => if q = i then (if n ∈ [] then s else p) else q) = gp :=
              map_eq_self fun g e => if_neg fun e' => h.fresh_not_parent (ch := L) hi (by rw [hN, e, e'])
            rw [hkn, if_pos rfl, if_pos rfl, Option.map_some, splitRen_mk, hg, map_map_ite_chain L c i s hiL]
          · simp only [hkn, if_false]
            exact map_eq_self fun ⟨pp, ch⟩ hk => splitRen_eq_self
              (fun e => absurd (e ▸ hk) (h.fresh_not_parent hi)) (.inl (h.fresh_not_child hi hk))

/-- Second step: `contract_nodes(n, s, new_identifier=n)` where `s` (the conjugated projector) has the single child `p`. -/
theorem contract_star_S {S : Id → Option Struct} {Tk : Id → Bool} {root : Option Id} (h : SWF S Tk root)
    {n s p : Id} {gp : Option Id} {pch : List Id} (K' : List Id)
    (hS : S s = some (some n, [p])) (hP : S p = some (some s, pch)) :
    contractS S n s n gp K' =
      fun k => if k = n then some (gp, K') else if k = s then none
               else if k = p then some (some n, pch) else S k := by
  funext k
  unfold contractS
  by_cases hkn : k = n
  · simp [hkn]
  · simp only [hkn, if_false, false_or]
    by_cases hks : k = s
    · simp [hks]
    · simp only [hks, if_false]
      by_cases hkp : k = p
      · rw [hkp]
        simp [hP, contractRen, map_ite_self]
      · simp only [hkp, if_false]
        -- `p` is the only child of `s`
        exact map_eq_self fun ⟨pp, ch⟩ hk => contractRen_eq_self (fun e => e.elim id fun e =>
          absurd (List.mem_singleton.mp ((h.child_of_iff hS hk).mp e)) hkp) (.inr rfl)

/-- Third step: `contract_nodes(p, c, new_identifier=c)` where the projector `p` has the single child `c`. -/
theorem contract_proj_S {S : Id → Option Struct} {Tk : Id → Bool} {root : Option Id} (h : SWF S Tk root)
    {n p c : Id} {gp : Option Id} {L : List Id} (K' : List Id)
    (hN : S n = some (gp, L)) (hP : S p = some (some n, [c])) :
    contractS S p c c (some n) K' =
      fun k => if k = c then some (some n, K') else if k = p then none
               else if k = n then some (gp, L.map (fun x => if x = p then c else x)) else S k := by
  funext k
  unfold contractS
  by_cases hkc : k = c
  · simp [hkc]
  · simp only [hkc, if_false, or_false]
    by_cases hkp : k = p
    · simp [hkp]
    · simp only [hkp, if_false]
      by_cases hkn : k = n
      · have hg : gp.map (fun q => if q = p ∨ q = c then c else q) = gp :=
          map_eq_self fun g e => ite_eq_right_iff.mpr fun e' =>
            e'.elim (fun e' => (h.no_two_cycle (b := p) (ca := L) (by rw [hN, e, e']) hP).elim) Eq.symm
        rw [hkn, if_pos rfl, hN, Option.map_some, contractRen_mk, hg]
      · simp only [hkn, if_false]
        -- `c` is the only child of `p`, and `p` is a child of `n` only
        exact map_eq_self fun ⟨pp, ch⟩ hk => contractRen_eq_self
          (fun e => e.elim (fun e => absurd (List.mem_singleton.mp ((h.child_of_iff hP hk).mp e)) hkc) id)
          (.inl fun hm => hkn (Option.some.inj ((h.child_of_iff hk hP).mpr hm)).symm)

/-- Split the lower node `a`, contract the link into the upper node `b` (the parent of `a`): the edge is subdivided
    by `link`, and `link` – a node with the single child `a` – is merged into its parent as in `contract_star_S`. -/
theorem link_up_S {S : Id → Option Struct} {Tk : Id → Bool} {root : Option Id} (h : SWF S Tk root)
    {a b link : Id} {gpb : Option Id} {Ach Bch : List Id} (K' : List Id)
    (hA : S a = some (some b, Ach)) (hB : S b = some (gpb, Bch)) (hl : S link = none) :
    contractS (splitS S a link a (some b) [] Ach) b link b gpb K' =
      fun k => if k = b then some (gpb, K') else S k := by
  have hal : ¬ a = link := by intro e; rw [e, hl] at hA; cases hA
  rw [← subdivideS_eq_splitS h hA hB,
    contract_star_S (subdivideS_swf h a b link Ach gpb Bch hA hB hl) (n := b) (s := link) (p := a) (pch := Ach) K'
      (if_pos rfl) ((if_neg hal).trans (if_pos rfl))]
  funext k
  by_cases hkb : k = b
  · rw [if_pos hkb, if_pos hkb]
  · rw [if_neg hkb, if_neg hkb]
    by_cases hkl : k = link
    · rw [if_pos hkl, hkl, hl]
    · rw [if_neg hkl]
      by_cases hka : k = a
      · rw [if_pos hka, hka, hA]
      · rw [if_neg hka]; exact (if_neg hkl).trans ((if_neg hka).trans (if_neg hkb))

end Ptn.C02
