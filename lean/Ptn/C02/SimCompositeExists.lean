import Ptn.C02.CompositeWF
import Ptn.C02.SimSplit
import Ptn.C02.SimComposite
/-! Value level, composite edits: the simulated history assumed by `centre_move_preserves_value` EXISTS whenever the
composite edit succeeds on a fresh temporary identifier and the QR routine delivers an exact factorisation. -/
namespace Ptn.C02
open NodeS Ptn.Ein Ptn.C03

set_option linter.unusedSectionVars false
variable {R : Type} [CommSemiring R]

/-- the split of `_build_qr_leg_specs` is admissible -/
theorem canonSpecs_adm {t : TTN} {a b rid : Id} {A : NodeS} {q r : TTN.LegSpec} (hA : t.N a = some A)
    (hl : t.N rid = none) (hsp : TTN.canonSpecs A b = some (q, r)) : ∃ X, SplitAdm t a X q r a rid := by
  unfold TTN.canonSpecs at hsp
  by_cases hp : A.parent = some b
  · simp only [hp, if_true, Option.some.injEq, Prod.mk.injEq] at hsp
    obtain ⟨rfl, rfl⟩ := hsp
    have hroot : A.isRoot = false := by simp [NodeS.isRoot, hp]
    exact ⟨A, hA, Or.inl rfl, Or.inr hl, by simp, Or.inl ⟨b, hp, hroot, rfl, Or.inr ⟨rfl, rfl⟩⟩⟩
  · simp only [hp, if_false] at hsp
    by_cases hb : b ∈ A.children
    · simp only [hb, not_true_eq_false, if_false, Option.some.injEq, Prod.mk.injEq] at hsp
      obtain ⟨rfl, rfl⟩ := hsp
      exact ⟨A, SplitAdm.down hA hb hl⟩
    · simp [hb] at hsp

/-- **The hypothesis of `centre_move_preserves_value` is satisfiable in general**: if the centre move succeeds in the
structural model with an unused temporary identifier, and the splitting routine delivers an exact factorisation of the
tensor of `a` along the bipartition of `_build_qr_leg_specs` (fresh labels of the new bond's dimension), then the
simulated history exists, ends in the state the composite edit returns, and the value is unchanged. -/
theorem centre_move_simrun_exists (dim : Nat → Nat) (e : Label → Nat) {t t' : TTN} {g : LegMap} {v : VNet R}
    {a b rid : Id} {bd : Nat} (h : t.WF) (hl : t.LWF) (hv : v.WF) (hs : RSim dim e g t v)
    (hfresh : t.N rid = none) (hmove : t.centreMove a b rid bd = some t')
    (hF : ∀ node q r t1, t.N a = some node → TTN.canonSpecs node b = some (q, r) →
      t.splitNodes a q r a rid bd = some t1 → dim v.next = bd ∧ dim (v.next + 1) = bd ∧
      Nonempty (SplitFact dim (v.tens a) (splitOutLegs e g t1 a a rid) (splitInLegs e g t1 a a rid)
        v.next (v.next + 1))) :
    ∃ node q r g' v', t.N a = some node ∧ TTN.canonSpecs node b = some (q, r) ∧
      SimRun dim e t g v [.split a q r a rid bd, .contract b rid b] t' g' v' ∧
      v'.WF ∧ RSim dim e g' t' v' ∧ ∀ σ, v'.value dim σ = v.value dim σ := by
  obtain ⟨A, q, r, hAN, hsp, hr⟩ := centreMove_run h hfresh hmove
  obtain ⟨t1, adm1, step1, hr⟩ := hr.cons_inv
  obtain ⟨_, adm2, step2, hr⟩ := hr.cons_inv
  obtain rfl := hr.nil_inv
  obtain ⟨d1, d2, hFact⟩ := hF A q r t1 hAN hsp step1
  obtain ⟨g1, v1, run1, w1, l1, vw1, s1⟩ := simrun_one_exists dim e (op := .split a q r a rid bd) h hl hv hs trivial
    adm1 step1
    (by
      intro id outL inL outId inId bd' heq
      cases heq
      exact ⟨d1, d2, hFact⟩)
    (by intro _ _ _ heq; cases heq)
  obtain ⟨g2, v2, run2, _⟩ := simrun_one_exists dim e (op := .contract b rid b) w1 l1 vw1 s1 trivial adm2 step2
    (by intro _ _ _ _ _ _ heq; cases heq) (by intro _ _ _ heq; cases heq)
  have hr : SimRun dim e t g v [.split a q r a rid bd, .contract b rid b] t' g2 v2 := run1.append run2
  obtain ⟨_, _, _, a4, a5, a6⟩ := centre_move_preserves_value dim e h hl hv hs hAN hsp hr
  exact ⟨A, q, r, g2, v2, hAN, hsp, hr, a4, a5, a6⟩

end Ptn.C02
