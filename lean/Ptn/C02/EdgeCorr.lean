import Ptn.C02.Labels
/-! Where the edges go under an edit.  The label lemmas of the edits describe the result node by node (the legs of the
new nodes; no legs at the removed nodes; at every other node the same axes with the neighbours renamed).  What the
label invariant (`EdgeCorr.lwf`), the simulation relation (`RSim.transport`, `Sim.lean`) and the push-forward /
pull-back leg lemmas (`C02/LegPush.lean`, `C10/BondLocalThm.lean`) need is the same description edge by edge: `EdgeCorr`.
The instances stand next to the label lemmas of their edits; the one for attaching a leaf (`addLeaf_edgeCorr`) stands
here, stated over the clauses of `add_child_labels`, which comes later in the import order. -/
namespace Ptn.C02
open NodeS

theorem leg_ne {t : TTN} (h : t.WF) {k x : Id} {ax : Axis} (hl : t.Leg k x ax) : k ≠ x := by
  obtain ⟨n, L, hn, _, hm⟩ := leg_node hl
  have hx := (List.of_mem_zip hm).1
  have hS := TTN.S_eq hn
  intro e
  subst e
  rcases (mem_neighbours n k).mp hx with hp | hc
  · rw [hp] at hS
    exact h.str.parent_ne hS rfl
  · obtain ⟨cch, e1⟩ := h.str.down k _ _ k hS hc
    exact h.str.parent_ne e1 rfl

theorem leg_isNode {t : TTN} {k x : Id} {ax : Axis} (hl : t.Leg k x ax) : t.N k ≠ none := by
  obtain ⟨n, _, hn, _, _⟩ := leg_node hl
  rw [hn]; simp

theorem leg_nbr {t : TTN} {k x : Id} {ax : Axis} {n : NodeS} (hn : t.N k = some n) (hl : t.Leg k x ax) :
    x ∈ n.neighbours := by
  obtain ⟨n', _, hn', _, hm⟩ := leg_node hl
  rw [hn] at hn'
  cases hn'
  exact (List.of_mem_zip hm).1

theorem leg_of_map {t t1 : TTN} {k : Id} {ρ : Id → Id}
    (hL : t1.legPairs k = (t.legPairs k).map (fun q => (ρ q.1, q.2))) {x' : Id} {ax : Axis} :
    t1.Leg k x' ax ↔ ∃ x, t.Leg k x ax ∧ x' = ρ x := by
  unfold TTN.Leg
  rw [hL, List.mem_map]
  constructor
  · rintro ⟨⟨x, ax'⟩, hm, he⟩
    cases he
    exact ⟨x, hm, rfl⟩
  · rintro ⟨x, hm, rfl⟩
    exact ⟨(x, ax), hm, rfl⟩

/-- The edge `k – x` is not `a – b`, in either direction: the edges an edit on `a – b` leaves alone. -/
def offEdge (a b k x : Id) : Prop := ¬ (k = a ∧ x = b) ∧ ¬ (k = b ∧ x = a)

theorem offEdge.symm {a b k x : Id} (h : offEdge a b k x) : offEdge a b x k :=
  ⟨fun e => h.2 e.symm, fun e => h.1 e.symm⟩

theorem offEdge.swap {a b k x : Id} (h : offEdge a b k x) : offEdge b a k x := And.symm h

theorem offEdge_of_ne {a b k x : Id} (ha : k ≠ a) (hb : k ≠ b) : offEdge a b k x :=
  ⟨fun e => ha e.1, fun e => hb e.1⟩

/-- The edges of `t1` in terms of those of `t`.  `ρ k x` is the name in `t1` of the end `k` of the old edge `k – x`
(it depends on the edge: in a split the old node goes to one side or the other according to the neighbour).  The old
edges in `keep` survive with their axis; the edges of `t1` that are not such an image are the `fresh` ones. -/
structure EdgeCorr (t t1 : TTN) (ρ : Id → Id → Id) (keep : Id → Id → Prop) (fresh : Id → Id → Axis → Prop) :
    Prop where
  ksymm : ∀ k x, keep k x → keep x k
  made : ∀ k x ax, fresh k x ax → t1.Leg k x ax
  pull : ∀ k' x' ax, t1.Leg k' x' ax →
    fresh k' x' ax ∨ ∃ k x, t.Leg k x ax ∧ keep k x ∧ k' = ρ k x ∧ x' = ρ x k
  push : ∀ k x ax, t.Leg k x ax → keep k x → t1.Leg (ρ k x) (ρ x k) ax

/-- The label invariant goes along an edge correspondence whose fresh edges come in pairs: the partner of the image
of an edge is the image of its partner. -/
theorem EdgeCorr.lwf {t t1 : TTN} {ρ : Id → Id → Id} {keep : Id → Id → Prop} {fresh : Id → Id → Axis → Prop}
    (c : EdgeCorr t t1 ρ keep fresh) (hl : t.LWF) (fsymm : ∀ k x ax, fresh k x ax → fresh x k ax) : t1.LWF := by
  constructor
  intro k' x' ax hk
  rcases c.pull k' x' ax hk with f | ⟨k, x, hl', hkeep, rfl, rfl⟩
  · exact c.made _ _ _ (fsymm _ _ _ f)
  · exact c.push x k ax (hl.sym _ _ _ hl') (c.ksymm k x hkeep)

/-- A new leaf `cid` hung below `pid` (`add_child_to_parent`): every edge stays; the new bond is the only fresh edge,
with the axis `ac` at the child and `ap` at the parent. -/
theorem addLeaf_edgeCorr {t t' : TTN} {cid pid : Id} {ac ap : Axis} (hc : ∀ k x ax, t.Leg k x ax → k ≠ cid)
    (c1 : t'.legPairs cid = [(pid, ac)]) (c2 : t'.legPairs pid = t.legPairs pid ++ [(cid, ap)])
    (c3 : ∀ k, k ≠ cid → k ≠ pid → t'.legPairs k = t.legPairs k) :
    EdgeCorr t t' (fun k _ => k) (fun _ _ => True)
      (fun k x ax => (k = cid ∧ x = pid ∧ ax = ac) ∨ (k = pid ∧ x = cid ∧ ax = ap)) := by
  refine ⟨fun _ _ _ => trivial, ?_, ?_, ?_⟩
  · rintro k x ax (⟨rfl, rfl, rfl⟩ | ⟨rfl, rfl, rfl⟩)
    · unfold TTN.Leg; rw [c1]; exact List.mem_cons_self
    · unfold TTN.Leg; rw [c2]; exact List.mem_append_right _ List.mem_cons_self
  · intro k' x' ax hl
    unfold TTN.Leg at hl
    by_cases k1 : k' = cid
    · rw [k1, c1, List.mem_singleton, Prod.mk.injEq] at hl
      exact Or.inl (Or.inl ⟨k1, hl.1, hl.2⟩)
    · by_cases k2 : k' = pid
      · rw [k2, c2, List.mem_append, List.mem_singleton, Prod.mk.injEq] at hl
        rcases hl with hl | hl
        · exact Or.inr ⟨pid, x', hl, trivial, k2, rfl⟩
        · exact Or.inl (Or.inr ⟨k2, hl.1, hl.2⟩)
      · rw [c3 k' k1 k2] at hl
        exact Or.inr ⟨k', x', hl, trivial, rfl, rfl⟩
  · intro k x ax hl _
    have k1 := hc k x ax hl
    unfold TTN.Leg at hl ⊢
    by_cases k2 : k = pid
    · rw [k2, c2]; exact List.mem_append_left _ (k2 ▸ hl)
    · rw [c3 k k1 k2]; exact hl

end Ptn.C02
