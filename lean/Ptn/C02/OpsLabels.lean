import Ptn.C02.ContractLabels
import Ptn.C02.SplitLabels
import Ptn.C02.MoreLabels
import Ptn.C02.OpenList
import Ptn.C02.OpsWF
/-! Every admissible edit preserves the label invariant and leaves the open axes of the network the same
up to order; hence so does every history of edits. -/
namespace Ptn.C02
open NodeS

theorem access_openList {t t1 : TTN} {id : Id} {T : Tensor} (ha : t.access id = some (t1, T)) :
    t1.openList.Perm t.openList :=
  openList_perm_of_same (access_labels ha).2.2.2

theorem contract_openList {t t' : TTN} {id1 id2 new : Id} (h : t.WF)
    (hnew : new = id1 ∨ new = id2 ∨ t.N new = none)
    (hc : t.contractNodes id1 id2 new = some t') : t'.openList.Perm t.openList := by
  obtain ⟨hpc, hPn, hCn, _, cnew, cgone, cby⟩ := contract_legs h hnew hc
  rcases hnew with e | e | e
  · subst e
    refine openList_perm_of_two hpc (fun k k1 k2 => (cby k k1 k1 k2).2) ?_
    rw [cnew, (cgone id2 (fun e => hpc e.symm) (Or.inr rfl)).2, List.append_nil]
  · subst e
    refine openList_perm_of_two hpc (fun k k1 k2 => (cby k k2 k1 k2).2) ?_
    rw [cnew, (cgone id1 hpc (Or.inl rfl)).2, List.nil_append]
  · have hnp : new ≠ id1 := fun e' => by rw [e'] at e; exact hPn e
    have hnc : new ≠ id2 := fun e' => by rw [e'] at e; exact hCn e
    refine openList_perm_of_three hpc (Ne.symm hnp) (Ne.symm hnc) (fun k k1 k2 k3 => (cby k k3 k1 k2).2) ?_
    rw [cnew, (cgone id1 (fun e' => hnp e'.symm) (Or.inl rfl)).2,
      (cgone id2 (fun e' => hnc e'.symm) (Or.inr rfl)).2, openAxes_none e]
    simp

theorem split_openList {t t' : TTN} {id : Id} {X : NodeS} {outL inL : TTN.LegSpec} {outId inId : Id}
    {bd : Nat} (h : t.WF) (adm : SplitAdm t id X outL inL outId inId)
    (hs : t.splitNodes id outL inL outId inId bd = some t') : t'.openList.Perm t.openList := by
  obtain ⟨hoi, L, _, _, _, _, _, hopen, cid, cby⟩ := split_legs h adm hs
  have fresh_open : ∀ x, (x = id ∨ t.N x = none) → x ≠ id → t.openAxes x = [] := by
    intro x hx hne
    rcases hx with e | e
    · exact absurd e hne
    · exact openAxes_none e
  by_cases ho : outId = id
  · -- the out side reuses the identifier
    subst ho
    refine openList_perm_of_two hoi (fun k k1 k2 => (cby k k1 k2 k1).2) ?_
    rw [fresh_open inId adm.inFresh (Ne.symm hoi), List.append_nil]
    exact hopen
  · by_cases hi : inId = id
    · subst hi
      refine openList_perm_of_two hoi (fun k k1 k2 => (cby k k1 k2 k2).2) ?_
      rw [fresh_open outId adm.outFresh ho, List.nil_append]
      exact hopen
    · -- two fresh identifiers
      refine openList_perm_of_three hoi ho hi (fun k k1 k2 k3 => (cby k k1 k2 k3).2) ?_
      rw [(cid (fun e => ho e.symm) fun e => hi e.symm).2, fresh_open outId adm.outFresh ho,
        fresh_open inId adm.inFresh hi]
      simpa using hopen

theorem ident_openList {t t' : TTN} {cid pid new : Id} (h : t.WF) (hnew : t.N new = none)
    (hs : t.insertIdentity cid pid new = some t') : t'.openList.Perm t.openList := by
  obtain ⟨ax, _, _, c1, c2⟩ := ident_labels h hnew hs
  apply openList_perm_of_same
  intro k
  by_cases hk : k = new
  · subst hk; rw [c1, openAxes_none hnew]
  · exact (c2 k hk).2

theorem rename_openList {t t' : TTN} {new old : Id} (h : t.WF) (hnew : new = old ∨ t.N new = none)
    (hs : t.changeNodeIdentifier new old = some t') : t'.openList.Perm t.openList := by
  obtain ⟨_, _, c1, c3, c2⟩ := rename_labels h hnew hs
  by_cases hno : new = old
  · subst hno
    apply openList_perm_of_same
    intro k
    by_cases hk : k = new
    · subst hk; exact c1
    · exact (c2 k hk hk).2
  · have hnN : t.N new = none := by
      rcases hnew with e | e
      · exact absurd e hno
      · exact e
    refine openList_perm_of_two hno (fun k k1 k2 => (c2 k k1 k2).2) ?_
    rw [c1, (c3 hno).2, openAxes_none hnN]
    simp

theorem rtp_openList {t t' : TTN} {id : Id} {p : Option (List Nat)} (h : t.WF)
    (hp : ∀ q, p = some q → q.Perm (List.range q.length))
    (hs : t.replaceTensorPermuted id p = some t') : t'.openList.Perm t.openList :=
  openList_perm_of_same (fun k => (rtp_labels h hp hs k).2.2)

/-- The structural edits (everything except the two construction steps `add_root` / `add_child_to_parent`). -/
def TOp.isEdit : TOp → Prop
  | .root _ _ => False
  | .child _ _ _ _ _ => False
  | _ => True

theorem edit_step_labels {t t' : TTN} (h : t.WF) (hl : t.LWF) (op : TOp) (hadm : op.Adm t) (he : op.isEdit)
    (hs : t.step op = some t') : t'.LWF ∧ t'.openList.Perm t.openList := by
  cases op with
  | root id T => exact absurd he (by simp [TOp.isEdit])
  | child id T cl pid pl => exact absurd he (by simp [TOp.isEdit])
  | access id =>
    obtain ⟨T, ha⟩ := step_access_eq hs
    exact ⟨access_lwf hl ha, access_openList ha⟩
  | contract a b n => exact ⟨contract_lwf h hl hadm hs, contract_openList h hadm hs⟩
  | split id o i oid iid bd =>
    obtain ⟨X, hX⟩ := hadm
    exact ⟨split_lwf h hl hX hs, split_openList h hX hs⟩
  | ident c p n => exact ⟨ident_lwf h hl hadm hs, ident_openList h hadm hs⟩
  | rename n o => exact ⟨rename_lwf h hl hadm hs, rename_openList h hadm hs⟩
  | rtp id p => exact ⟨rtp_lwf h hl hadm hs, rtp_openList h hadm hs⟩

/-- Every history of admissible edits keeps the network well-formed, preserves the label invariant and
    keeps the open axes of the network, up to order. -/
theorem edits_run_labels {t t' : TTN} {ops : List TOp} (h : t.WF) (hl : t.LWF) (hr : TRun t ops t')
    (he : ∀ op ∈ ops, op.isEdit) : t'.WF ∧ t'.LWF ∧ t'.openList.Perm t.openList := by
  induction hr with
  | nil => exact ⟨h, hl, List.Perm.refl _⟩
  | cons hadm hs _ ih =>
    have hw := step_wf h _ hadm hs
    obtain ⟨l1, p1⟩ := edit_step_labels h hl _ hadm (he _ (by simp)) hs
    obtain ⟨w2, l2, p2⟩ := ih hw l1 (fun op hop => he op (List.mem_cons_of_mem _ hop))
    exact ⟨w2, l2, p2.trans p1⟩

end Ptn.C02
