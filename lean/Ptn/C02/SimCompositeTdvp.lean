import Ptn.C02.CompositeWF
import Ptn.C02.SimOps
import Ptn.C02.SimComposite
/-! Value level, composite edits: event sequences of a TDVP step (`TdvpEvent`, `TdvpRun` of `CompositeWF.lean` — the
hypothesis of `Ptn.C06.tdvp_step_structure`) simulated at the value level.

* `SimEvent` — one event with its value-level image: the simulated history of its basic steps (`SimRun`) and, for the
  events that update a tensor (site access with write-back, link update, two-site update), the replacement made; the last
  index records the replacement as `some (w, k, X')` = "in the network `w` the tensor of node `k` was replaced by `X'`".
* `SimTdvpRun` — a sequence of such events; `UpdTrace` — the shape of the change of the value along it: constant, one
  replacement, constant, one replacement, …, constant. -/
namespace Ptn.C02
open NodeS Ptn.Ein Ptn.C03

set_option linter.unusedSectionVars false
variable {R : Type} [CommSemiring R]

/-- a recorded local update: in the network `w` the tensor of node `k` is replaced by `X'` -/
abbrev Upd (R : Type) := VNet R × Nat × (Asg Nat → R)

inductive SimEvent (dim : Nat → Nat) (e : Label → Nat) :
    TTN → LegMap → VNet R → TdvpEvent → TTN → LegMap → VNet R → Option (Upd R) → Prop
  /-- site update: the tensor of `id` is read, evolved to any tensor `X'` on the same legs, stored back -/
  | access {t t1 : TTN} {g : LegMap} {v : VNet R} {id : Id} {X' : Asg Nat → R} :
      t.step (.access id) = some t1 → DependsOn (· ∈ v.legs id) X' →
      SimEvent dim e t g v (.access id) t1 g (setTens v id X') (some (v, id, X'))
  /-- centre move: exact QR split, contraction of R into the neighbour -/
  | move {t t' : TTN} {g g' : LegMap} {v v' : VNet R} {a b rid : Id} {bd : Nat} {node : NodeS} {q r : TTN.LegSpec} :
      t.N a = some node → TTN.canonSpecs node b = some (q, r) →
      SimRun dim e t g v [.split a q r a rid bd, .contract b rid b] t' g' v' →
      SimEvent dim e t g v (.move a b rid bd) t' g' v' none
  /-- `contract_and_split_with_parent` with an exact split -/
  | contractSplit {t t' : TTN} {g g' : LegMap} {v v' : VNet R} {a b ts : Id} {bd : Nat} {u w : TTN.LegSpec} :
      t.legsBeforeCombination a b = some (u, w) →
      SimRun dim e t g v [.contract a b ts, .split ts u w a b bd] t' g' v' →
      SimEvent dim e t g v (.contractSplit a b ts bd) t' g' v' none
  /-- one-site link update: exact QR split, the link tensor replaced, contraction into the next node -/
  | link {t t1 t' : TTN} {g g1 g' : LegMap} {v v1 v' : VNet R} {a b link : Id} {bd : Nat} {node : NodeS}
      {q r : TTN.LegSpec} {X' : Asg Nat → R} :
      t.N a = some node → TTN.tdvpSpecs node b = some (q, r) →
      SimRun dim e t g v [.split a q r a link bd] t1 g1 v1 → DependsOn (· ∈ v1.legs link) X' →
      SimRun dim e t1 g1 (setTens v1 link X') [.access link, .contract link b b] t' g' v' →
      SimEvent dim e t g v (.link a b link bd) t' g' v' (some (v1, link, X'))
  /-- two-site update: contraction, the two-site tensor replaced, exact split of the new tensor -/
  | twoSite {t t1 t' : TTN} {g g1 g' : LegMap} {v v1 v' : VNet R} {a b ts : Id} {bd : Nat} {u w : TTN.LegSpec}
      {X' : Asg Nat → R} :
      t.legsBeforeCombination a b = some (u, w) →
      SimRun dim e t g v [.contract a b ts] t1 g1 v1 → DependsOn (· ∈ v1.legs ts) X' →
      SimRun dim e t1 g1 (setTens v1 ts X') [.access ts, .split ts u w a b bd] t' g' v' →
      SimEvent dim e t g v (.twoSite a b ts bd) t' g' v' (some (v1, ts, X'))

/-- what one event does to the value: nothing (`none`), or exactly the recorded replacement -/
def UpdSpec (dim : Nat → Nat) (v v' : VNet R) : Option (Upd R) → Prop
  | none => ∀ σ, v'.value dim σ = v.value dim σ
  | some (w, k, X') => w.WF ∧ k ∈ w.ids ∧ DependsOn (· ∈ w.legs k) X' ∧ (∀ σ, w.value dim σ = v.value dim σ) ∧
      ∀ σ, v'.value dim σ = (setTens w k X').value dim σ

/-- one simulated event is the event of the structural model, keeps all invariants and the relation, and changes the
value as its record says (`UpdSpec`): the theorems of `SimComposite.lean`, collected -/
theorem simevent_sound (dim : Nat → Nat) (e : Label → Nat) {t t' : TTN} {g g' : LegMap} {v v' : VNet R}
    {ev : TdvpEvent} {u : Option (Upd R)} (h : t.WF) (hl : t.LWF) (hv : v.WF) (hs : RSim dim e g t v)
    (hev : SimEvent dim e t g v ev t' g' v' u) :
    t.event ev = some t' ∧ t'.WF ∧ t'.LWF ∧ v'.WF ∧ RSim dim e g' t' v' ∧ UpdSpec dim v v' u := by
  cases hev with
  | access hstep hX =>
    obtain ⟨T, ha⟩ := step_access_eq hstep
    refine ⟨hstep, access_wf h ha, access_lwf hl ha, setTens_wf hv hX, (access_simulates dim e hs ha).setTens _ _,
      hv, access_node_mem hs hstep, hX, fun _ => rfl, fun _ => rfl⟩
  | move hn hsp hr => exact centre_move_preserves_value dim e h hl hv hs hn hsp hr
  | contractSplit hsp hr => exact contract_split_preserves_value dim e h hl hv hs hsp hr
  | link hn hsp hr1 hX hr2 =>
    obtain ⟨a1, a2, a3, a4, a5, a6, a7, a8, a9, _⟩ := link_update_value dim e h hl hv hs hn hsp hr1 hX hr2
    exact ⟨a1, a2, a3, a4, a5, a7, a6, hX, a8, a9⟩
  | twoSite hsp hr1 hX hr2 =>
    obtain ⟨a1, a2, a3, a4, a5, a6, a7, a8, a9, _⟩ := two_site_update_value dim e h hl hv hs hsp hr1 hX hr2
    exact ⟨a1, a2, a3, a4, a5, a7, a6, hX, a8, a9⟩

/-- a sequence of simulated events; the temporary identifier of every event is unused (`TdvpEvent.Fresh`, the
hypothesis of `TdvpRun`); the last index collects the recorded replacements in order -/
inductive SimTdvpRun (dim : Nat → Nat) (e : Label → Nat) :
    TTN → LegMap → VNet R → List TdvpEvent → TTN → LegMap → VNet R → List (Upd R) → Prop
  | nil (t : TTN) (g : LegMap) (v : VNet R) : SimTdvpRun dim e t g v [] t g v []
  | cons {t t1 t' : TTN} {g g1 g' : LegMap} {v v1 v' : VNet R} {ev : TdvpEvent} {es : List TdvpEvent}
      {u : Option (Upd R)} {us : List (Upd R)} :
      ev.Fresh t → SimEvent dim e t g v ev t1 g1 v1 u → SimTdvpRun dim e t1 g1 v1 es t' g' v' us →
      SimTdvpRun dim e t g v (ev :: es) t' g' v' (u.toList ++ us)

/-- **The shape of the change of the value**: from `v` the value stays constant up to the first recorded network `w`,
there exactly the tensor of node `k` is replaced, and so on; after the last replacement it stays constant up to `v'`. -/
inductive UpdTrace (dim : Nat → Nat) : VNet R → List (Upd R) → VNet R → Prop
  | nil {v v' : VNet R} : (∀ σ, v'.value dim σ = v.value dim σ) → UpdTrace dim v [] v'
  | cons {v w v' : VNet R} {k : Nat} {X' : Asg Nat → R} {us : List (Upd R)} :
      w.WF → k ∈ w.ids → DependsOn (· ∈ w.legs k) X' → (∀ σ, w.value dim σ = v.value dim σ) →
      UpdTrace dim (setTens w k X') us v' → UpdTrace dim v ((w, k, X') :: us) v'

theorem UpdTrace.of_eq {dim : Nat → Nat} {v0 v v' : VNet R} {us : List (Upd R)}
    (h0 : ∀ σ, v.value dim σ = v0.value dim σ) (ht : UpdTrace dim v us v') : UpdTrace dim v0 us v' := by
  cases ht with
  | nil hc => exact .nil (fun σ => (hc σ).trans (h0 σ))
  | cons a b c d tr => exact .cons a b c (fun σ => (d σ).trans (h0 σ)) tr

theorem UpdTrace.const {dim : Nat → Nat} {v v' : VNet R} (ht : UpdTrace dim v [] v') :
    ∀ σ, v'.value dim σ = v.value dim σ := by
  cases ht with
  | nil hc => exact hc

/-- every recorded replacement puts back the tensor that was there: the value is the same at both ends -/
theorem UpdTrace.trivial_updates {dim : Nat → Nat} {v v' : VNet R} {us : List (Upd R)} (ht : UpdTrace dim v us v')
    (hid : ∀ u ∈ us, u.2.2 = u.1.tens u.2.1) : ∀ σ, v'.value dim σ = v.value dim σ := by
  induction ht with
  | nil hc => exact hc
  | @cons v w v' k X' us a b c d tr ih =>
    have hX : X' = w.tens k := hid (w, k, X') (by simp)
    intro σ
    rw [ih (fun u hu => hid u (List.mem_cons_of_mem _ hu)) σ, hX, setTens_self, d σ]

/-- **A TDVP step changes the value only by its local updates.**  Let `t` be a well-formed, label-consistent state of
the structural model, `v` a well-formed valued network related to it, and `es` ANY sequence of TDVP events (site updates,
link updates, two-site updates, centre moves, `contract_and_split_with_parent`s — the hypothesis of
`Ptn.C06.tdvp_step_structure`), each simulated with exact factorisations for its splits and an arbitrary new tensor for its
update.  Then `es` is a run of the structural model (`TdvpRun`, so `tdvp_step_structure` applies: tree, root, open legs
preserved), all invariants and the abstraction relation hold at the end, and the value changes only at the recorded
replacements — one per updating event, none for centre moves and contract-splits —: **between two updates it is
constant** (`UpdTrace`). -/
theorem tdvp_step_preserves_value_structure (dim : Nat → Nat) (e : Label → Nat) {t t' : TTN} {g g' : LegMap}
    {v v' : VNet R} {es : List TdvpEvent} {us : List (Upd R)} (h : t.WF) (hl : t.LWF) (hv : v.WF)
    (hs : RSim dim e g t v) (hr : SimTdvpRun dim e t g v es t' g' v' us) :
    TdvpRun t es t' ∧ t'.WF ∧ t'.LWF ∧ v'.WF ∧ RSim dim e g' t' v' ∧ UpdTrace dim v us v' ∧
    us.length ≤ es.length := by
  induction hr with
  | nil t g v => exact ⟨.nil _, h, hl, hv, hs, .nil (fun _ => rfl), Nat.le_refl _⟩
  | @cons t t1 t' g g1 g' v v1 v' ev es u us hf hev _ ih =>
    obtain ⟨hstep, w1, l1, vw1, s1, spec⟩ := simevent_sound dim e h hl hv hs hev
    obtain ⟨run, w2, l2, vw2, s2, tr, len⟩ := ih w1 l1 vw1 s1
    refine ⟨.cons hf hstep run, w2, l2, vw2, s2, ?_, ?_⟩
    · cases u with
      | none => exact tr.of_eq spec
      | some u =>
        obtain ⟨w, k, X'⟩ := u
        obtain ⟨a, b, c, d, f⟩ := spec
        exact .cons a b c d (tr.of_eq f)
    · cases u <;> simp <;> omega

/-- the events that store a new tensor (site, link and two-site update); centre moves and contract-and-splits do not -/
def TdvpEvent.updates : TdvpEvent → Bool
  | .access _ => true
  | .link _ _ _ _ => true
  | .twoSite _ _ _ _ => true
  | .move _ _ _ _ => false
  | .contractSplit _ _ _ _ => false

theorem simevent_upd_none {dim : Nat → Nat} {e : Label → Nat} {t t' : TTN} {g g' : LegMap} {v v' : VNet R}
    {ev : TdvpEvent} {u : Option (Upd R)} (hev : SimEvent dim e t g v ev t' g' v' u) (hn : ev.updates = false) :
    u = none := by
  cases hev <;> simp [TdvpEvent.updates] at hn ⊢

theorem simtdvprun_no_updates {dim : Nat → Nat} {e : Label → Nat} {t t' : TTN} {g g' : LegMap} {v v' : VNet R}
    {es : List TdvpEvent} {us : List (Upd R)} (hr : SimTdvpRun dim e t g v es t' g' v' us)
    (hn : ∀ ev ∈ es, ev.updates = false) : us = [] := by
  induction hr with
  | nil => rfl
  | cons hf hev _ ih =>
    rw [simevent_upd_none hev (hn _ (by simp)), ih (fun ev hm => hn ev (List.mem_cons_of_mem _ hm))]
    rfl

/-- **Canonicalisation / orthogonality-centre moves preserve the value**: a sequence of centre moves and
contract-and-splits (exact factorisations) leaves the value of the network unchanged. -/
theorem moves_preserve_value (dim : Nat → Nat) (e : Label → Nat) {t t' : TTN} {g g' : LegMap}
    {v v' : VNet R} {es : List TdvpEvent} {us : List (Upd R)} (h : t.WF) (hl : t.LWF) (hv : v.WF)
    (hs : RSim dim e g t v) (hr : SimTdvpRun dim e t g v es t' g' v' us)
    (hn : ∀ ev ∈ es, ev.updates = false) :
    TdvpRun t es t' ∧ v'.WF ∧ RSim dim e g' t' v' ∧ ∀ σ, v'.value dim σ = v.value dim σ := by
  obtain ⟨run, _, _, vw, s, tr, _⟩ := tdvp_step_preserves_value_structure dim e h hl hv hs hr
  rw [simtdvprun_no_updates hr hn] at tr
  exact ⟨run, vw, s, tr.const⟩

end Ptn.C02
