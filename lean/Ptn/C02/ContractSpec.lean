import Ptn.C02.Shows
/-! The node built by `_create_contracted_node`: optional parent step, `open_legs_to_children` for the children of
both operands in the order of the call, exchange of the two runs of open legs when the child comes first. -/
namespace Ptn.C02
open NodeS

/-- The statement of `create_contracted_node_spec` with the contracted array cut as (parent?, remaining children of
    the parent, open legs of the parent, children of the child, open legs of the child). -/
theorem create_contracted_node_aux (t : TTN) (pid cid id1 : Id) (P C : NodeS) (T : Tensor)
    (hP : dget t.nodes pid = some P) (hC : dget t.nodes cid = some C)
    (K1 K2 : List Id) (hPch : P.children = K1 ++ cid :: K2) (hcid : cid ∉ K1)
    (hKnd : (K1 ++ K2 ++ C.children).Nodup)
    (Tp Tc To Tcc Tco : Tensor) (hT : T = Tp ++ Tc ++ To ++ Tcc ++ Tco) (hTp : Tp.length = P.nparents)
    (hTc : Tc.length = K1.length + K2.length)
    (hTo : To.length + P.nvirt = P.nlegs) (hTcc : Tcc.length = C.children.length) :
    ∃ nn, t.createContractedNode T pid cid id1 = some nn ∧
      nn.parent = P.parent ∧ nn.shp = shapeOf T ∧ WFN nn ∧
      (id1 = pid → nn.children = K1 ++ K2 ++ C.children ∧
        transposeT T nn.perm = some (Tp ++ (Tc ++ Tcc) ++ (To ++ Tco))) ∧
      (id1 ≠ pid → nn.children = C.children ++ (K1 ++ K2) ∧
        transposeT T nn.perm = some (Tp ++ (Tcc ++ Tc) ++ (Tco ++ To))) := by
  have hmem : cid ∈ P.children := by rw [hPch]; simp
  have herase : P.children.erase cid = K1 ++ K2 := by
    rw [hPch, List.erase_append_right _ hcid, List.erase_cons_head]
  have hnv : P.nvirt = P.nparents + (K1.length + 1 + K2.length) := by
    simp [nvirt_def, hPch]; omega
  have hnl : P.nlegs - 1 = Tp.length + Tc.length + To.length := by omega
  have hnl0 : P.nlegs ≠ 0 := by omega
  have hpo : P.nlegs - P.nvirt = To.length := by omega
  -- the node after the optional parent step shows the array as it is
  obtain ⟨n1, hn1, hpar1, hch1, hs1⟩ : ∃ n1, TTN.ccnParentStep (nodeOfTensor T) P.parent = some n1 ∧
      n1.parent = P.parent ∧ n1.children = [] ∧ Shows n1 T T := by
    cases hpp : P.parent with
    | none => exact ⟨_, rfl, rfl, rfl, shows_nodeOfTensor T⟩
    | some g =>
      obtain ⟨a, rfl⟩ := List.length_eq_one_iff.mp (hTp.trans (nparents_some hpp))
      subst hT
      simpa [TTN.ccnParentStep] using shows_fresh_o2p [] (Tc ++ To ++ Tcc ++ Tco) a g
  have hnp1 : n1.nparents = P.nparents := nparents_congr hpar1
  have hs1' : Shows n1 T (Tp ++ Tc ++ To ++ Tcc ++ Tco) := by rw [← hT]; exact hs1
  obtain ⟨⟨n2, hn2, hpar2, hch2, hs2⟩, ⟨n3, hn3, hpar3, hch3, hs3⟩⟩ :=
    hs1'.o2cs_two (K1 ++ K2) C.children hch1 (hTp.trans hnp1.symm) (by simp [hTc]) hTcc
  have hlen : T.length = Tp.length + Tc.length + To.length + Tcc.length + Tco.length := by
    rw [hT]; simp only [List.length_append]
  unfold TTN.createContractedNode
  simp only [hP, hC, bind, Option.bind, hn1, hmem, not_true_eq_false, if_false, herase, hnl0, hnl, hpo]
  clear hnl hpo hnl0
  by_cases hid : id1 = pid
  · subst hid
    simp only [if_true, ne_eq, not_true_eq_false, if_false]
    rw [dupdate_eq_append _ _ (by rw [enumFrom_map_fst, enumFrom_map_fst]; exact hKnd), ← hTp, hn2]
    refine ⟨n2, rfl, hpar2.trans hpar1, hs2.shp, hs2.wfn ?_, fun _ => ⟨hch2, hs2.legs⟩, fun h => h.elim⟩
    rw [nvirt_def, nparents_congr (hpar2.trans hpar1), hch2]
    simp only [List.length_append]; omega
  · have hne : ¬ pid = id1 := fun h => hid h.symm
    simp only [hne, hid, if_false, ne_eq, not_false_eq_true, if_true]
    rw [dupdate_eq_append _ _ (by
      rw [enumFrom_map_fst, enumFrom_map_fst]
      exact (List.perm_append_comm.nodup_iff).mp hKnd), ← hTp, hn3]
    -- exchange the two batches of open legs
    have hs3' : Shows n3 T (Tp ++ (Tcc ++ Tc) ++ To ++ [] ++ Tco ++ []) := by
      simpa only [List.append_nil, List.append_assoc] using hs3
    obtain ⟨n4, hn4, hpar4, hch4, hs4⟩ := hs3'.xch
    have hnv3 : n3.nvirt = (Tp ++ (Tcc ++ Tc)).length := by
      rw [nvirt_def, nparents_congr (hpar3.trans hpar1), hch3]
      simp only [List.length_append]; omega
    have hnl3 : n3.nlegs = (Tp ++ (Tcc ++ Tc)).length + To.length + Tco.length := by
      rw [nlegs, hs3.length]; simp only [List.length_append]; omega
    simp only [List.length_nil, Nat.add_zero] at hn4
    simp only [hnv3, hnl3, hn4]
    refine ⟨n4, rfl, hpar4.trans (hpar3.trans hpar1), hs4.shp, hs4.wfn ?_, fun h => h.elim,
      fun _ => ⟨hch4.trans hch3, by simpa only [List.append_nil, List.append_assoc] using hs4.legs⟩⟩
    rw [nvirt_def, nparents_congr (hpar4.trans (hpar3.trans hpar1)), hch4, hch3]
    simp only [List.length_append]; omega

end Ptn.C02
