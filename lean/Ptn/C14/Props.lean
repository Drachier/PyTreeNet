import Ptn.C14.Termination
import Ptn.C14.Canonical
/-! Property theorems for C14 (bipartite vertex cover).

The vocabulary (`g.edge`, `g.WF`, `IsMatching`, `IsCover`) is that of `Spec.lean`.  No statement has a bound on
the number of vertices or edges. -/
namespace Ptn.C14

/-! Weak duality does not depend on the algorithm: `weak_duality` is in `Duality.lean`. -/

/-- If a matching and a cover have the same size, the matching is maximum and the cover minimum
    ("hence no smaller cover exists"). -/
theorem tight_pair_optimal (E : Nat → Nat → Prop) (M : List (Nat × Nat)) (cu cv : List Nat)
    (hM : IsMatching E M) (hC : IsCover E cu cv) (heq : cu.length + cv.length = M.length) :
    (∀ M', IsMatching E M' → M'.length ≤ M.length) ∧
    (∀ cu' cv', IsCover E cu' cv' → cu.length + cv.length ≤ cu'.length + cv'.length) := by
  constructor
  · intro M' hM'
    have := weak_duality E M' cu cv hM' hC
    omega
  · intro cu' cv' hC'
    have := weak_duality E M cu' cv' hM hC'
    omega

/-- `BipartiteGraph(num_u, num_v, edges)` succeeds exactly on non-empty sides and in-range entries … -/
theorem mkGraph_isSome_iff (nU nV : Nat) (es : List (Nat × Nat)) :
    (mkGraph nU nV es).isSome ↔ 0 < nU ∧ 0 < nV ∧ ∀ p ∈ es, p.1 < nU ∧ p.2 < nV := by
  unfold mkGraph
  by_cases h0 : nU = 0 ∨ nV = 0
  · rw [if_pos h0]
    simp only [Option.isSome_none, Bool.false_eq_true, false_iff]
    rintro ⟨h1, h2, _⟩
    omega
  · rw [if_neg h0]
    constructor
    · intro h
      cases hr : addEdges (Graph.empty nU nV) es with
      | none => rw [hr] at h; simp at h
      | some g' =>
        have := (addEdges_spec es _ g' (empty_wf0 nU nV) hr).2.2.2.1
        exact ⟨by omega, by omega, this⟩
    · rintro ⟨_, _, h⟩
      exact addEdges_isSome es _ h

/-- … and then yields a well-formed graph whose edges are exactly the given entries (a repeated
    entry counts once: adjacency lists are duplicate-free). -/
theorem mkGraph_spec (nU nV : Nat) (es : List (Nat × Nat)) (g : Graph)
    (h : mkGraph nU nV es = some g) :
    g.WF ∧ g.nU = nU ∧ g.nV = nV ∧ ∀ u v, g.edge u v ↔ (u, v) ∈ es := by
  unfold mkGraph at h
  split at h
  · exact nomatch h
  · rename_i h0
    obtain ⟨w, e1, e2, _, hmem⟩ := addEdges_spec es _ g (empty_wf0 nU nV) h
    have e1' : g.nU = nU := e1
    have e2' : g.nV = nV := e2
    refine ⟨w.toWF (by omega) (by omega), e1', e2', ?_⟩
    intro u v
    unfold Graph.edge
    rw [hmem, empty_nbrU]
    simp only [List.not_mem_nil, false_or]

/-- The decidable certificate evaluated by the driver on every `cover` / `coverord` answer is sound: it implies
    that `M` is a maximum matching and `(cu, cv)` a minimum vertex cover of existing vertices. -/
theorem certificate_sound (g : Graph) (hg : g.WF) (M : List (Nat × Nat)) (cu cv : List Nat)
    (h : certificateOk g M cu cv = true) :
    IsMatching g.edge M ∧ IsCover g.edge cu cv ∧
    (∀ u ∈ cu, u < g.nU) ∧ (∀ v ∈ cv, v < g.nV) ∧ cu.length + cv.length = M.length ∧
    (∀ M', IsMatching g.edge M' → M'.length ≤ M.length) ∧
    (∀ cu' cv', IsCover g.edge cu' cv' → cu.length + cv.length ≤ cu'.length + cv'.length) := by
  obtain ⟨h1, h2, h3, h4, h5, h6, h7⟩ := (certificateOk_iff g M cu cv).1 h
  have hM : IsMatching g.edge M := ⟨h1, h2, h3⟩
  have hC : IsCover g.edge cu cv := by
    intro u v huv
    exact h4 (u, v) ((mem_edges g u v).2 ⟨(hg.rng u v huv).1, huv⟩)
  obtain ⟨o1, o2⟩ := tight_pair_optimal g.edge M cu cv hM hC h7
  exact ⟨hM, hC, h5, h6, h7, o1, o2⟩

/-- For *every* valid matching `M` (maximum or not): if the cover part of `minimum_vertex_cover`
    returns normally, the two lists are strictly ascending, contain only existing vertices, touch
    every edge, and - because the code's own `assert` passed - have combined size `|M|`; hence `M`
    is maximum and the cover minimum. -/
theorem cover_ok_sound (g : Graph) (hg : g.WF) (M : List (Nat × Nat)) (hM : IsMatching g.edge M)
    (cu cv : List Nat) (h : coverOf g M = .ok (cu, cv)) :
    IsCover g.edge cu cv ∧ (∀ u ∈ cu, u < g.nU) ∧ (∀ v ∈ cv, v < g.nV) ∧
    cu.Pairwise (· < ·) ∧ cv.Pairwise (· < ·) ∧ cu.length + cv.length = M.length ∧
    (∀ M', IsMatching g.edge M' → M'.length ≤ M.length) ∧
    (∀ cu' cv', IsCover g.edge cu' cv' → cu.length + cv.length ≤ cu'.length + cv'.length) := by
  obtain ⟨hloop, hlen⟩ := coverOf_ok h
  obtain ⟨_, _, s1, s2, _, hC, r1, r2⟩ := coverLoop_cover g M hg hM hloop
  obtain ⟨o1, o2⟩ := tight_pair_optimal g.edge M _ _ hM hC hlen
  exact ⟨hC, r1, r2, s1, s2, hlen, o1, o2⟩

/-- The exploration fuel `num_u + 1` is never exhausted (for any list `M` whatsoever). -/
theorem explore_fuel_suffices (g : Graph) (hg : g.WF) (M : List (Nat × Nat)) :
    coverOf g M ≠ .error .fuelExplore := by
  unfold coverOf
  obtain ⟨c', hc⟩ := coverLoop_total g M hg (freeLeft g M) (List.range g.nU, [])
    (fun u hu => ((mem_freeLeft g M u).1 hu).1)
  rw [hc]
  obtain ⟨cu, cv⟩ := c'
  simp only
  split <;> simp

/-- Koenig: if `M` is a valid matching and some set `R` of left vertices contains every free left
    vertex and is closed in the sense that every edge leaving `R` ends in a *matched* right vertex
    whose partner is again in `R` (this is exactly what a BFS that reports "no augmenting path"
    leaves behind, `R` = the left vertices with finite distance: `final_closure` states it in these terms,
    `bfs_false_closed` in terms of `matched_pairs_u/v`), then the
    cover part of `minimum_vertex_cover` returns normally - fuel suffices and the `assert` passes -
    and the result touches every edge, contains only existing vertices and has combined size
    `|M|`. -/
theorem koenig_cover (g : Graph) (hg : g.WF) (M : List (Nat × Nat)) (hM : IsMatching g.edge M)
    (R : Nat → Prop)
    (hfree : ∀ u, u < g.nU → (∀ v, (u, v) ∉ M) → R u)
    (hclosed : ∀ u v, R u → g.edge u v → ∃ w, (w, v) ∈ M ∧ R w) :
    ∃ cu cv, coverOf g M = .ok (cu, cv) ∧
      IsCover g.edge cu cv ∧ (∀ u ∈ cu, u < g.nU) ∧ (∀ v ∈ cv, v < g.nV) ∧
      cu.length + cv.length = M.length := by
  obtain ⟨c', hc⟩ := coverLoop_total g M hg (freeLeft g M) (List.range g.nU, [])
    (fun u hu => ((mem_freeLeft g M u).1 hu).1)
  obtain ⟨cu, cv⟩ := c'
  have hsize : cu.length + cv.length = M.length := by
    apply coverLoop_size g M hg hM hc R
    · intro u hu
      obtain ⟨h1, h2⟩ := (mem_freeLeft g M u).1 hu
      exact hfree u h1 (fun v hv => h2 (u, v) hv rfl)
    · intro u v hR huv
      obtain ⟨w, hw, _⟩ := hclosed u v hR huv
      exact ⟨w, hw⟩
    · intro u v w hR huv hw
      obtain ⟨w', hw', hRw'⟩ := hclosed u v hR huv
      rw [hM.left_unique hw hw']; exact hRw'
  obtain ⟨_, _, _, _, _, hC, r1, r2⟩ := coverLoop_cover g M hg hM hc
  refine ⟨cu, cv, ?_, hC, r1, r2, hsize⟩
  unfold coverOf
  rw [hc]
  simp [hsize]

/-! That an augmentation keeps the matching valid is `hk_augment_preserves`, in `Matching.lean`. -/

/-- The matching returned by `HopcroftKarp(graph)()` consists of edges of the graph and uses no
    vertex twice (for every graph, well-formed or not). -/
theorem hk_matching_valid (g : Graph) (M : List (Nat × Nat)) (h : hopcroftKarp g = .ok M) :
    IsMatching g.edge M := by
  unfold hopcroftKarp at h
  split at h
  · exact nomatch h
  · rename_i s hrun
    simp only [Except.ok.injEq] at h
    subst h
    exact collect_isMatching g s (hkLoop_consistent g _ _ s (init_consistent g) hrun)

/-- For a consistent matching the BFS terminates within its fuel, and if it reports "no path"
    (`dist[NIL] = inf`) the set `R` of left vertices with finite distance contains every free left
    vertex and every edge leaving `R` ends in a matched right vertex whose partner is in `R`.  This is the
    closure that `koenig_cover` asks for, in terms of `matched_pairs_u/v`; `mvc_correct` takes it from
    `final_closure`, which states it for the collected matching. -/
theorem bfs_false_closed (g : Graph) (hg : g.WF) (s : HK) (hs : Consistent g s) :
    ∃ d, bfs g s = some d ∧
      (d none = g.inf →
        (∀ u, u < g.nU → s.mU u = none → d (some u) < g.inf) ∧
        (∀ u v, u < g.nU → d (some u) < g.inf → g.edge u v →
          ∃ w, s.mV v = some w ∧ s.mU w = some v ∧ w < g.nU ∧ d (some w) < g.inf)) := by
  obtain ⟨d, hd, hfin⟩ := bfs_spec g s (hs.mV_lt hg)
  refine ⟨d, hd, fun hnil => ⟨fun u hu hfree => hfin.free_fin g _ _ hu hfree, ?_⟩⟩
  intro u v hu hfu huv
  obtain ⟨w, hx, hfw⟩ := hfin.closure g _ _ hnil hu hfu huv
  exact ⟨w, hx, hs.bwd v w hx, hs.mV_lt hg v w hx, hfw⟩

/-- In a consistent state, if the BFS reaches NIL (`dist[NIL] != inf`, the
    `while` condition is true) then the phase that follows runs within the DFS fuel, keeps the
    matching consistent and makes it strictly larger. -/
theorem hk_phase_progress (g : Graph) (hg : g.WF) (s : HK) (hs : Consistent g s)
    (d : Option Nat → Nat) (hb : bfs g s = some d) (hnil : d none ≠ g.inf) :
    ∃ s', phase g (List.range g.nU) { s with dist := d } = some s' ∧ Consistent g s' ∧
      (collect s.mU g.nU).length < (collect s'.mU g.nU).length := by
  obtain ⟨d', hd', hfin⟩ := bfs_spec g s (hs.mV_lt hg)
  rw [hb] at hd'
  cases hd'
  exact phase_progress g hg s hs d hfin hnil

/-- `HopcroftKarp(graph)()` returns normally: none of the fuels (BFS queue, DFS depth, outer loop)
    is ever exhausted. -/
theorem hk_terminates (g : Graph) (hg : g.WF) : ∃ M, hopcroftKarp g = .ok M := by
  obtain ⟨s, hs, _⟩ := hkRun_spec g hg
  exact ⟨collect s.mU g.nU, by simp [hopcroftKarp, hs]⟩

/-- Every normal exit of `minimum_vertex_cover` is correct - the internal matching is valid and
    maximum, the two lists are ascending, contain only existing vertices, touch every edge, have
    combined size `|M|`, and no smaller cover exists.  (Uses only `weak_duality`, `hk_matching_valid` and
    `cover_ok_sound`: it does not depend on the termination argument.) -/
theorem mvc_ok_correct (g : Graph) (hg : g.WF) (M : List (Nat × Nat)) (cu cv : List Nat)
    (h : minimumVertexCover g = .ok (M, cu, cv)) :
    IsMatching g.edge M ∧ IsCover g.edge cu cv ∧ (∀ u ∈ cu, u < g.nU) ∧ (∀ v ∈ cv, v < g.nV) ∧
    cu.Pairwise (· < ·) ∧ cv.Pairwise (· < ·) ∧ cu.length + cv.length = M.length ∧
    (∀ M', IsMatching g.edge M' → M'.length ≤ M.length) ∧
    (∀ cu' cv', IsCover g.edge cu' cv' → cu.length + cv.length ≤ cu'.length + cv'.length) := by
  obtain ⟨hM0, hc⟩ := minimumVertexCover_ok h
  have hM := hk_matching_valid g M hM0
  exact ⟨hM, cover_ok_sound g hg M hM cu cv hc⟩

/-- C14 for the model, every well-formed graph: `minimum_vertex_cover` returns normally (no fuel is
    exhausted, its `assert` never fails - `mvc_assert_never_fails`), and the result is as stated
    in `mvc_ok_correct`. -/
theorem mvc_correct (g : Graph) (hg : g.WF) :
    ∃ M cu cv, minimumVertexCover g = .ok (M, cu, cv) ∧ hopcroftKarp g = .ok M ∧
      IsMatching g.edge M ∧ IsCover g.edge cu cv ∧ (∀ u ∈ cu, u < g.nU) ∧ (∀ v ∈ cv, v < g.nV) ∧
      cu.Pairwise (· < ·) ∧ cv.Pairwise (· < ·) ∧ cu.length + cv.length = M.length ∧
      (∀ M', IsMatching g.edge M' → M'.length ≤ M.length) ∧
      (∀ cu' cv', IsCover g.edge cu' cv' → cu.length + cv.length ≤ cu'.length + cv'.length) := by
  obtain ⟨s, hrun, hs, hfin, hnil⟩ := hkRun_spec g hg
  have hM0 : hopcroftKarp g = .ok (collect s.mU g.nU) := by simp [hopcroftKarp, hrun]
  have hM := hk_matching_valid g _ hM0
  obtain ⟨hfree, hclosed⟩ := final_closure g hg s hs hfin hnil
  obtain ⟨cu, cv, hc, _⟩ := koenig_cover g hg _ hM _ hfree hclosed
  have hmvc : minimumVertexCover g = .ok (collect s.mU g.nU, cu, cv) := by
    simp [minimumVertexCover, hM0, hc]
  exact ⟨_, cu, cv, hmvc, hM0, mvc_ok_correct g hg _ cu cv hmvc⟩

/-- No error exit is possible: no fuel of the model is ever exhausted (so the fuels are not a
    restriction of the model) and the `assert` of `minimum_vertex_cover` never fails. -/
theorem mvc_no_error (g : Graph) (hg : g.WF) (e : Err) : minimumVertexCover g ≠ .error e := by
  obtain ⟨M, cu, cv, h, _⟩ := mvc_correct g hg
  rw [h]; simp

/-- The clause "its `assert` never fails" on its own. -/
theorem mvc_assert_never_fails (g : Graph) (hg : g.WF) :
    minimumVertexCover g ≠ .error .assertion := mvc_no_error g hg _

/-- The same, end to end from the constructor arguments: for non-empty sides and in-range entries
    (repeated entries and isolated vertices allowed) the graph is built and the returned lists touch
    every *entry*, contain only vertices below `nU` / `nV`, and have the size of a maximum matching
    of the entries; any other cover of the entries is at least as large. -/
theorem mvc_correct_input (nU nV : Nat) (es : List (Nat × Nat)) (hU : 0 < nU) (hV : 0 < nV)
    (hes : ∀ p ∈ es, p.1 < nU ∧ p.2 < nV) :
    ∃ g M cu cv, mkGraph nU nV es = some g ∧ minimumVertexCover g = .ok (M, cu, cv) ∧
      (∀ p ∈ M, p ∈ es) ∧ (M.map Prod.fst).Nodup ∧ (M.map Prod.snd).Nodup ∧
      (∀ p ∈ es, p.1 ∈ cu ∨ p.2 ∈ cv) ∧ (∀ u ∈ cu, u < nU) ∧ (∀ v ∈ cv, v < nV) ∧
      cu.Nodup ∧ cv.Nodup ∧ cu.length + cv.length = M.length ∧
      (∀ M' : List (Nat × Nat), (∀ p ∈ M', p ∈ es) → (M'.map Prod.fst).Nodup →
        (M'.map Prod.snd).Nodup → M'.length ≤ M.length) ∧
      (∀ cu' cv' : List Nat, (∀ p ∈ es, p.1 ∈ cu' ∨ p.2 ∈ cv') →
        cu.length + cv.length ≤ cu'.length + cv'.length) := by
  obtain ⟨g, hg0⟩ := Option.isSome_iff_exists.1 ((mkGraph_isSome_iff nU nV es).2 ⟨hU, hV, hes⟩)
  obtain ⟨hg, e1, e2, hedge⟩ := mkGraph_spec nU nV es g hg0
  obtain ⟨M, cu, cv, hmvc, _, hM, hC, r1, r2, s1, s2, hsz, o1, o2⟩ := mvc_correct g hg
  refine ⟨g, M, cu, cv, hg0, hmvc, ?_, hM.left, hM.right, ?_, ?_, ?_, nodup_of_sorted s1,
    nodup_of_sorted s2, hsz, ?_, ?_⟩
  · rintro ⟨u, v⟩ hp; exact (hedge u v).1 (hM.edges _ hp)
  · rintro ⟨u, v⟩ hp; exact hC u v ((hedge u v).2 hp)
  · intro u hu; rw [← e1]; exact r1 u hu
  · intro v hv; rw [← e2]; exact r2 v hv
  · intro M' h1 h2 h3
    exact o1 M' ⟨fun p hp => (hedge p.1 p.2).2 (h1 p hp), h2, h3⟩
  · intro cu' cv' h
    exact o2 cu' cv' (fun u v huv => h (u, v) ((hedge u v).1 huv))

/-! ### iteration order of the Python sets

`minimumVertexCoverOrd o g` is `minimum_vertex_cover` with the enumeration order of its three sets
(`for u in alist`, `list(u_cover)`, `list(v_cover)`) given by `o`; the functions used everywhere
above are the instance "ascending" (`mvc_order_independent` at `SetOrder.asc`, with `SetOrder.asc_valid`).  The returned pair of lists - order inside the lists included,
because of the final `sorted` - and every error exit are the same for all enumerations. -/

/-- The `for u in alist` loop: any two enumerations of the same start set (repetitions allowed,
    any start set, any list `M`, any graph) produce the same `(u_cover, v_cover)`, and run out of
    fuel in the same cases. -/
theorem koenig_start_order_independent (g : Graph) (M : List (Nat × Nat)) (us us' : List Nat)
    (h : ∀ x, x ∈ us ↔ x ∈ us') :
    coverLoop g M us (List.range g.nU, []) = coverLoop g M us' (List.range g.nU, []) :=
  coverLoop_congr g M h List.pairwise_lt_range (by simp)

/-- For every graph (well-formed or not) and every enumeration order of the three sets,
    `minimum_vertex_cover` returns exactly what the ascending-order model returns: the same
    internal matching, the same two lists (same order inside the lists), the same error exit. -/
theorem mvc_order_independent (o : SetOrder) (ho : o.Valid) (g : Graph) :
    minimumVertexCoverOrd o g = minimumVertexCover g := by
  unfold minimumVertexCoverOrd minimumVertexCover
  cases hopcroftKarp g with
  | error e => rfl
  | ok M =>
    simp only
    rw [coverOfOrd_eq o g M (fun x => (ho.1 _).mem_iff) (fun cu _ _ => ho.2.1 cu)
      (fun _ cv _ => ho.2.2 cv)]

/-- The same with hypotheses only at the sets that occur in the run: the start set may be
    enumerated in any order (even with repetitions), the two result sets in any order. -/
theorem mvc_order_independent_at (o : SetOrder) (g : Graph) (M : List (Nat × Nat)) (cu cv : List Nat)
    (h : minimumVertexCover g = .ok (M, cu, cv))
    (ha : ∀ x, x ∈ o.alist (freeLeft g M) ↔ x ∈ freeLeft g M)
    (hu : (o.ucover cu).Perm cu) (hv : (o.vcover cv).Perm cv) :
    minimumVertexCoverOrd o g = .ok (M, cu, cv) := by
  obtain ⟨hM, hc⟩ := minimumVertexCover_ok h
  unfold minimumVertexCoverOrd
  rw [hM]
  simp only
  rw [coverOfOrd_eq o g M ha
    (fun a b hab => by rw [hc] at hab; cases hab; exact hu)
    (fun a b hab => by rw [hc] at hab; cases hab; exact hv), hc]

/-- Hence `mvc_correct` holds for every iteration order Python may choose. -/
theorem mvc_correct_any_order (o : SetOrder) (ho : o.Valid) (g : Graph) (hg : g.WF) :
    ∃ M cu cv, minimumVertexCoverOrd o g = .ok (M, cu, cv) ∧ hopcroftKarp g = .ok M ∧
      IsMatching g.edge M ∧ IsCover g.edge cu cv ∧ (∀ u ∈ cu, u < g.nU) ∧ (∀ v ∈ cv, v < g.nV) ∧
      cu.Pairwise (· < ·) ∧ cv.Pairwise (· < ·) ∧ cu.length + cv.length = M.length ∧
      (∀ M', IsMatching g.edge M' → M'.length ≤ M.length) ∧
      (∀ cu' cv', IsCover g.edge cu' cv' → cu.length + cv.length ≤ cu'.length + cv'.length) := by
  rw [mvc_order_independent o ho g]
  exact mvc_correct g hg

/-! ### order of the adjacency lists (order of the constructor's edge list)

The adjacency lists are Python lists; their order is the order of first appearance in the edge
list given to the constructor, and it does influence which maximum matching Hopcroft-Karp finds
(see the example below).  It influences neither the size of the matching nor - which is more than
the property asks - the returned cover. -/

/-- Two well-formed graphs with the same edge relation (adjacency lists in any order, even
    different `num_u` / `num_v` as long as the edges agree) get matchings of the same size. -/
theorem hk_matching_maximum_order_independent (g g' : Graph) (hg : g.WF) (hg' : g'.WF)
    (hE : ∀ u v, g.edge u v ↔ g'.edge u v) (M M' : List (Nat × Nat))
    (h : hopcroftKarp g = .ok M) (h' : hopcroftKarp g' = .ok M') : M.length = M'.length := by
  obtain ⟨M0, _, _, _, h0, hM0, _, _, _, _, _, _, o0, _⟩ := mvc_correct g hg
  obtain ⟨M1, _, _, _, h1, hM1, _, _, _, _, _, _, o1, _⟩ := mvc_correct g' hg'
  rw [h] at h0; cases h0
  rw [h'] at h1; cases h1
  have a := o0 M' (hM1.mono (fun u v => (hE u v).2))
  have b := o1 M (hM0.mono (fun u v => (hE u v).1))
  omega

/-- The returned cover is the extreme minimum cover: every cover of the same (minimum) size whose left part
    consists of existing vertices has its left part inside the returned left part and contains the returned
    right part. -/
theorem koenig_cover_extremal (g : Graph) (hg : g.WF) (M : List (Nat × Nat)) (cu cv : List Nat)
    (h : minimumVertexCover g = .ok (M, cu, cv)) (cu' cv' : List Nat)
    (hC : IsCover g.edge cu' cv') (hsz : cu'.length + cv'.length = M.length)
    (hr : ∀ x ∈ cu', x < g.nU) :
    (∀ x, x ∈ cu' → x ∈ cu) ∧ (∀ y, y ∈ cv → y ∈ cv') :=
  coverOf_extremal hg (hk_matching_valid g M (minimumVertexCover_ok h).1) (minimumVertexCover_ok h).2 hC hsz hr

/-- The cover part gives the same pair for *any* two valid matchings of two graphs with the same
    left side and the same edges for which it returns normally. -/
theorem koenig_cover_canonical (g g' : Graph) (hg : g.WF) (hg' : g'.WF) (hn : g.nU = g'.nU)
    (hE : ∀ u v, g.edge u v ↔ g'.edge u v) (M M' : List (Nat × Nat))
    (hM : IsMatching g.edge M) (hM' : IsMatching g'.edge M') (cu cv cu' cv' : List Nat)
    (h : coverOf g M = .ok (cu, cv)) (h' : coverOf g' M' = .ok (cu', cv')) :
    cu = cu' ∧ cv = cv' := by
  obtain ⟨a1, a2⟩ := coverOf_dominates g g' hg hg' hn hE M M' hM hM' h h'
  obtain ⟨b1, b2⟩ := coverOf_dominates g' g hg' hg hn.symm (fun u v => (hE u v).symm) M' M hM' hM h' h
  obtain ⟨_, _, _, s1, s2, _⟩ := cover_ok_sound g hg M hM cu cv h
  obtain ⟨_, _, _, t1, t2, _⟩ := cover_ok_sound g' hg' M' hM' cu' cv' h'
  exact ⟨sorted_ext s1 t1 (fun x => ⟨b1 x, a1 x⟩), sorted_ext s2 t2 (fun y => ⟨a2 y, b2 y⟩)⟩

/-- The pair of lists returned by `minimum_vertex_cover` is determined by the graph (left side
    size and edge set) alone: it depends neither on the order of the adjacency lists nor on which
    maximum matching was found.  Only the internal matching may differ (its size may not). -/
theorem mvc_cover_graph_determined (g g' : Graph) (hg : g.WF) (hg' : g'.WF) (hn : g.nU = g'.nU)
    (hE : ∀ u v, g.edge u v ↔ g'.edge u v) (M M' : List (Nat × Nat)) (cu cv cu' cv' : List Nat)
    (h : minimumVertexCover g = .ok (M, cu, cv)) (h' : minimumVertexCover g' = .ok (M', cu', cv')) :
    cu = cu' ∧ cv = cv' ∧ M.length = M'.length := by
  obtain ⟨hM0, hc⟩ := minimumVertexCover_ok h
  obtain ⟨hM0', hc'⟩ := minimumVertexCover_ok h'
  obtain ⟨e1, e2⟩ := koenig_cover_canonical g g' hg hg' hn hE M M' (hk_matching_valid g M hM0)
    (hk_matching_valid g' M' hM0') cu cv cu' cv' hc hc'
  exact ⟨e1, e2, hk_matching_maximum_order_independent g g' hg hg' hE M M' hM0 hM0'⟩

/-- End to end from the constructor arguments: two entry lists with the same members (any order,
    any repetitions) give the same returned cover and matchings of the same size, for every
    enumeration order of the sets. -/
theorem mvc_input_order_independent (nU nV : Nat) (es es' : List (Nat × Nat)) (hU : 0 < nU)
    (hV : 0 < nV) (hes : ∀ p ∈ es, p.1 < nU ∧ p.2 < nV) (hmem : ∀ p, p ∈ es ↔ p ∈ es')
    (o o' : SetOrder) (ho : o.Valid) (ho' : o'.Valid) :
    ∃ g g' M M' cu cv, mkGraph nU nV es = some g ∧ mkGraph nU nV es' = some g' ∧
      minimumVertexCoverOrd o g = .ok (M, cu, cv) ∧ minimumVertexCoverOrd o' g' = .ok (M', cu, cv) ∧
      M.length = M'.length := by
  have hes' : ∀ p ∈ es', p.1 < nU ∧ p.2 < nV := fun p hp => hes p ((hmem p).2 hp)
  obtain ⟨g, hg0⟩ := Option.isSome_iff_exists.1 ((mkGraph_isSome_iff nU nV es).2 ⟨hU, hV, hes⟩)
  obtain ⟨g', hg0'⟩ := Option.isSome_iff_exists.1 ((mkGraph_isSome_iff nU nV es').2 ⟨hU, hV, hes'⟩)
  obtain ⟨hg, e1, _, hedge⟩ := mkGraph_spec nU nV es g hg0
  obtain ⟨hg', e1', _, hedge'⟩ := mkGraph_spec nU nV es' g' hg0'
  obtain ⟨M, cu, cv, hmvc, _⟩ := mvc_correct g hg
  obtain ⟨M', cu', cv', hmvc', _⟩ := mvc_correct g' hg'
  have hE : ∀ u v, g.edge u v ↔ g'.edge u v := fun u v => by
    rw [hedge, hedge', hmem]
  obtain ⟨rfl, rfl, hlen⟩ := mvc_cover_graph_determined g g' hg hg' (by rw [e1, e1']) hE
    M M' cu cv cu' cv' hmvc hmvc'
  refine ⟨g, g', M, M', cu, cv, hg0, hg0', ?_, ?_, hlen⟩
  · rw [mvc_order_independent o ho g]; exact hmvc
  · rw [mvc_order_independent o' ho' g']; exact hmvc'

/-! ### Non-vacuity: concrete instances -/

/-- the 3x3 "path" graph 0-0, 1-0, 1-1, 2-1, 2-2 with a duplicated entry and an isolated vertex -/
def exGraph : Graph := (mkGraph 3 4 [(0, 0), (1, 0), (1, 1), (1, 0), (2, 1), (2, 2)]).getD (Graph.empty 1 1)

example : mkGraph 3 4 [(0, 0), (1, 0), (1, 1), (1, 0), (2, 1), (2, 2)] = some exGraph := by decide +kernel
example : exGraph.adjU = [[0], [0, 1], [1, 2]] ∧ exGraph.adjV = [[0, 1], [1, 2], [2], []] := by decide +kernel
example : mkGraph 2 2 [(0, 2)] = none ∧ mkGraph 0 2 [] = none := by decide +kernel
-- hypotheses of `mvc_correct_input`
example : ∀ p ∈ [(0, 0), (1, 0), (1, 1), (1, 0), (2, 1), (2, 2)], p.1 < 3 ∧ p.2 < 4 := by decide +kernel
example : minimumVertexCover exGraph = .ok ([(0, 0), (1, 1), (2, 2)], [0, 1, 2], []) := by rfl
example : certificateOk exGraph [(0, 0), (1, 1), (2, 2)] [0, 1, 2] [] = true := by decide +kernel
-- a matching/cover pair for which hypotheses of `weak_duality` / `tight_pair_optimal` hold
example : IsMatching exGraph.edge [(0, 0), (1, 1), (2, 2)] :=
  ⟨by decide +kernel, by decide +kernel, by decide +kernel⟩
example : IsCover exGraph.edge [1, 2] [0] := by
  intro u v h
  rw [(mkGraph_spec 3 4 [(0, 0), (1, 0), (1, 1), (1, 0), (2, 1), (2, 2)] exGraph (by decide +kernel)).2.2.2 u v] at h
  exact (by decide +kernel :
    ∀ p ∈ [(0, 0), (1, 0), (1, 1), (1, 0), (2, 1), (2, 2)], p.1 ∈ [1, 2] ∨ p.2 ∈ [0]) (u, v) h
-- the cover part on a maximum matching
example : coverOf exGraph [(0, 0), (1, 1), (2, 2)] = .ok ([0, 1, 2], []) := by rfl
-- a non-maximum matching makes the code's own assert fail (hence the closure hypothesis)
example : coverOf exGraph [(1, 0), (2, 1)] = .error .assertion := by rfl


/-- `K_{2,1}`: one left vertex stays free; the closure hypotheses of `koenig_cover` hold with
    `R` = both left vertices (both are reachable: 1 is free, 0 via the matched edge). -/
def exStar : Graph := (mkGraph 2 1 [(0, 0), (1, 0)]).getD (Graph.empty 1 1)

example : IsMatching exStar.edge [(0, 0)] := ⟨by decide +kernel, by decide +kernel, by decide +kernel⟩
example : (∀ u, u < exStar.nU → (∀ v, (u, v) ∉ [(0, 0)]) → (fun _ => True) u) ∧
    (∀ u v, (fun _ : Nat => True) u → exStar.edge u v → ∃ w, (w, v) ∈ [(0, 0)] ∧ (fun _ => True) w) := by
  refine ⟨fun _ _ _ => trivial, ?_⟩
  intro u v _ h
  rw [(mkGraph_spec 2 1 [(0, 0), (1, 0)] exStar (by decide +kernel)).2.2.2 u v] at h
  exact ⟨0, (by decide +kernel : ∀ p ∈ [(0, 0), (1, 0)], (0, p.2) ∈ [(0, 0)]) (u, v) h, trivial⟩
example : minimumVertexCover exStar = .ok ([(0, 0)], [], [0]) := by rfl
-- hypotheses of `hk_augment_preserves` / `bfs_false_closed` / `hk_phase_progress`: the initial
-- state is consistent and vertex 1 is free; the BFS on the initial state of `exStar` finds a path
-- (dist[NIL] = 1), the final BFS does not (dist[NIL] = inf = 3)
example : Consistent exStar HK.init ∧ HK.init.mU 1 = none := ⟨init_consistent _, rfl⟩
example : (bfs exStar HK.init).map (fun d => (d none, d (some 0), d (some 1))) = some (1, 0, 0) := by decide +kernel
example : (hkRun exStar).toOption.map (fun s => (s.mU 0, s.mU 1, s.mV 0, s.dist none, s.dist (some 0), s.dist (some 1)))
    = some (some 0, none, some 0, 3, 1, 0) := by decide +kernel

/-! ### Non-vacuity for the two sections on orders -/

/-- an enumeration policy different from "ascending" at all three sites -/
def exOrder : SetOrder := ⟨List.reverse, rotate1, oddsFirst⟩

example : exOrder.Valid := ⟨List.reverse_perm, rotate1_perm, oddsFirst_perm⟩
example : ∀ k, (⟨policy k, policy (k + 1), policy (k + 2)⟩ : SetOrder).Valid :=
  fun k => ⟨policy_perm k, policy_perm (k + 1), policy_perm (k + 2)⟩

/-- two free left vertices (1 and 4) whose explorations are disjoint; the cover uses both sides -/
def exTwoFree : Graph :=
  (mkGraph 5 3 [(0, 0), (1, 0), (2, 1), (3, 1), (3, 2), (4, 1)]).getD (Graph.empty 1 1)

example : mkGraph 5 3 [(0, 0), (1, 0), (2, 1), (3, 1), (3, 2), (4, 1)] = some exTwoFree := by decide +kernel
example : hopcroftKarp exTwoFree = .ok [(0, 0), (2, 1), (3, 2)] := by rfl
example : freeLeft exTwoFree [(0, 0), (2, 1), (3, 2)] = [1, 4] ∧
    exOrder.alist [1, 4] = [4, 1] := by decide +kernel
-- the two starts visit different vertices, so the intermediate values of `u_cover` / `v_cover`
-- do depend on the order; the final ones do not
example : explore exTwoFree [(0, 0), (2, 1), (3, 2)] exTwoFree.exploreFuel 1 ⟨[], []⟩ = some ⟨[1, 0], [0]⟩ ∧
    explore exTwoFree [(0, 0), (2, 1), (3, 2)] exTwoFree.exploreFuel 4 ⟨[], []⟩ = some ⟨[4, 2], [1]⟩ := by
  decide +kernel
example : coverLoop exTwoFree [(0, 0), (2, 1), (3, 2)] [1, 4] (List.range 5, []) = some ([3], [0, 1]) ∧
    coverLoop exTwoFree [(0, 0), (2, 1), (3, 2)] [4, 1, 4] (List.range 5, []) = some ([3], [0, 1]) := by
  decide +kernel
example : exOrder.ucover [0, 1, 2, 3] = [1, 2, 3, 0] ∧ pySorted [1, 2, 3, 0] = [0, 1, 2, 3] ∧
    exOrder.vcover [0, 1, 2, 3] = [1, 3, 0, 2] ∧ pySorted [1, 3, 0, 2, 3] = [0, 1, 2, 3, 3] := by decide +kernel
example : minimumVertexCover exTwoFree = .ok ([(0, 0), (2, 1), (3, 2)], [3], [0, 1]) ∧
    minimumVertexCoverOrd exOrder exTwoFree = .ok ([(0, 0), (2, 1), (3, 2)], [3], [0, 1]) := by
  constructor <;> rfl
-- hypotheses of `mvc_order_independent_at`
example : (∀ x, x ∈ exOrder.alist [1, 4] ↔ x ∈ [1, 4]) ∧ (exOrder.ucover [3]).Perm [3] ∧
    (exOrder.vcover [0, 1]).Perm [0, 1] :=
  ⟨fun _ => (List.reverse_perm [1, 4]).mem_iff, rotate1_perm [3], oddsFirst_perm [0, 1]⟩
-- an enumeration that is *not* valid changes the result (the hypothesis is needed)
example : minimumVertexCoverOrd ⟨fun _ => [1], id, id⟩ exTwoFree = .error .assertion := by rfl

/-- The order of the adjacency lists does change the internal matching … -/
def exFork : Graph := (mkGraph 1 2 [(0, 0), (0, 1)]).getD (Graph.empty 1 1)
def exFork' : Graph := (mkGraph 1 2 [(0, 1), (0, 0), (0, 1)]).getD (Graph.empty 1 1)

example : mkGraph 1 2 [(0, 0), (0, 1)] = some exFork ∧
    mkGraph 1 2 [(0, 1), (0, 0), (0, 1)] = some exFork' := by decide +kernel
example : exFork.adjU = [[0, 1]] ∧ exFork'.adjU = [[1, 0]] := by decide +kernel
-- … hypotheses of `hk_matching_maximum_order_independent` / `mvc_cover_graph_determined` /
-- `mvc_input_order_independent`:
example : ∀ p : Nat × Nat, p ∈ [(0, 0), (0, 1)] ↔ p ∈ [(0, 1), (0, 0), (0, 1)] := by
  intro p
  simp only [List.mem_cons, List.not_mem_nil, or_false]
  constructor
  · rintro (h | h) <;> simp [h]
  · rintro (h | h | h) <;> simp [h]
example : exFork.nU = exFork'.nU ∧ ∀ u v, exFork.edge u v ↔ exFork'.edge u v := by
  refine ⟨rfl, fun u v => ?_⟩
  rw [(mkGraph_spec 1 2 [(0, 0), (0, 1)] exFork (by decide +kernel)).2.2.2 u v,
    (mkGraph_spec 1 2 [(0, 1), (0, 0), (0, 1)] exFork' (by decide +kernel)).2.2.2 u v]
  simp only [List.mem_cons, List.not_mem_nil, or_false]
  constructor
  · rintro (h | h) <;> simp [h]
  · rintro (h | h | h) <;> simp [h]
-- … the matchings differ, their size and the returned cover do not
example : minimumVertexCover exFork = .ok ([(0, 0)], [0], []) ∧
    minimumVertexCover exFork' = .ok ([(0, 1)], [0], []) := by
  constructor <;> rfl
-- hypotheses of `koenig_cover_extremal` on `exGraph` (returned `([0,1,2], [])`): another minimum
-- cover is `([1,2], [0])`, its left part is inside `[0,1,2]` and it contains the right part `[]`
example : [1, 2].length + [0].length = [(0, 0), (1, 1), (2, 2)].length ∧ ∀ x ∈ [1, 2], x < exGraph.nU := by
  decide +kernel
-- hypotheses of `koenig_cover_canonical`: two different maximum matchings of `exFork`
example : IsMatching exFork.edge [(0, 0)] ∧ IsMatching exFork.edge [(0, 1)] :=
  ⟨⟨by decide +kernel, by decide +kernel, by decide +kernel⟩, ⟨by decide +kernel, by decide +kernel, by decide +kernel⟩⟩
example : coverOf exFork [(0, 0)] = .ok ([0], []) ∧ coverOf exFork [(0, 1)] = .ok ([0], []) := by
  constructor <;> rfl

end Ptn.C14
