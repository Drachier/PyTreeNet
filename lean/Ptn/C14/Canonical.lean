import Ptn.C14.Order
/-! The Koenig cover is canonical: among all minimum covers the pair returned by
the cover part of `minimum_vertex_cover` has the largest left part and the smallest right part;
hence it does not depend on *which* maximum matching Hopcroft-Karp found, nor on the order of the
adjacency lists. -/
namespace Ptn.C14

/-- A cover as small as a matching consists of one end of every matching edge: every left cover
    vertex is matched, and every right cover vertex is matched to a left vertex outside the cover. -/
theorem tight_cover_ends {E : Nat → Nat → Prop} {M : List (Nat × Nat)} {cu cv : List Nat}
    (hM : IsMatching E M) (hC : IsCover E cu cv) (hsz : cu.length + cv.length = M.length) :
    (∀ x ∈ cu, ∃ e ∈ M, e.1 = x) ∧ (∀ y ∈ cv, ∃ e ∈ M, e.2 = y ∧ e.1 ∉ cu) := by
  obtain ⟨hA, hAs, hB, hBs⟩ := hM.split_cover hC
  have h1 := hA.length_le_of_subset hAs
  have h2 := hB.length_le_of_subset hBs
  have hlen := length_leftIn_add cu M
  rw [List.length_map] at h1 h2
  -- both injections are onto, since the sizes agree
  have hcuA := subset_of_nodup_length_le hA hAs (by rw [List.length_map]; omega)
  have hcvB := subset_of_nodup_length_le hB hBs (by rw [List.length_map]; omega)
  constructor
  · intro x hx
    obtain ⟨e, he, rfl⟩ := List.mem_map.1 (hcuA hx)
    exact ⟨e, (mem_leftIn.1 he).1, rfl⟩
  · intro y hy
    obtain ⟨e, he, rfl⟩ := List.mem_map.1 (hcvB hy)
    exact ⟨e, (mem_leftOut.1 he).1, rfl, (mem_leftOut.1 he).2⟩

theorem IsMatching.mono {E E' : Nat → Nat → Prop} {M : List (Nat × Nat)} (h : IsMatching E M)
    (hE : ∀ u v, E u v → E' u v) : IsMatching E' M :=
  ⟨fun p hp => hE _ _ (h.edges p hp), h.left, h.right⟩

theorem IsCover.anti {E E' : Nat → Nat → Prop} {cu cv : List Nat} (h : IsCover E cu cv)
    (hE : ∀ u v, E' u v → E u v) : IsCover E' cu cv :=
  fun u v huv => h u v (hE u v huv)

section
variable (g : Graph) (M : List (Nat × Nat)) (hg : g.WF) (hM : IsMatching g.edge M)
include hg hM

/-- Every vertex reached by the exploration avoids / belongs to every minimum cover: left
    vertices reached from the free left vertices are in no minimum cover, right vertices reached
    are in every minimum cover. -/
theorem koenig_extremal (cu' cv' : List Nat) (hC : IsCover g.edge cu' cv')
    (hsz : cu'.length + cv'.length = M.length) :
    (∀ x, ZU g M (freeLeft g M) x → x ∉ cu') ∧ (∀ y, ZV g M (freeLeft g M) y → y ∈ cv') := by
  obtain ⟨hL, hR⟩ := tight_cover_ends hM hC hsz
  have hfree : ∀ u ∈ freeLeft g M, u ∉ cu' := by
    intro u hu hin
    obtain ⟨e, he, he1⟩ := hL u hin
    exact ((mem_freeLeft g M u).1 hu).2 e he he1
  have hclos : ∀ u v w, u ∉ cu' → v ∈ g.nbrU u → (w, v) ∈ M → w ∉ cu' := by
    intro u v w hu hv hw
    have hvc : v ∈ cv' := by
      rcases hC u v hv with h | h
      · exact absurd h hu
      · exact h
    obtain ⟨e, he, he2, he1⟩ := hR v hvc
    obtain ⟨a, b⟩ := e
    simp only at he2 he1
    subst he2
    rw [hM.left_unique hw he]
    exact he1
  have z1 : ∀ x, ZU g M (freeLeft g M) x → x ∉ cu' := fun _ => Z_prov g M hg _ hfree hclos
  refine ⟨z1, ?_⟩
  intro y hy
  obtain ⟨u, hu, huy⟩ := ZV_origin g M hg hy
  exact (hC u y huy).resolve_left (z1 u hu)

end

/-- `koenig_cover_extremal` at the level of the cover part, for any valid matching. -/
theorem coverOf_extremal {g : Graph} (hg : g.WF) {M : List (Nat × Nat)} (hM : IsMatching g.edge M)
    {cu cv : List Nat} (h : coverOf g M = .ok (cu, cv)) {cu' cv' : List Nat}
    (hC : IsCover g.edge cu' cv') (hsz : cu'.length + cv'.length = M.length)
    (hr : ∀ x ∈ cu', x < g.nU) : (∀ x, x ∈ cu' → x ∈ cu) ∧ (∀ y, y ∈ cv → y ∈ cv') := by
  obtain ⟨hcu, hcv, _⟩ := coverLoop_cover g M hg hM (coverOf_ok h).1
  obtain ⟨e1, e2⟩ := koenig_extremal g M hg hM cu' cv' hC hsz
  exact ⟨fun x hx => (hcu x).2 ⟨hr x hx, fun hz => e1 x hz hx⟩, fun y hy => e2 y ((hcv y).1 hy)⟩

/-- One half of canonicity: the result for `(g, M)` dominates the result for `(g', M')`, which is a cover
    of the same size. -/
theorem coverOf_dominates (g g' : Graph) (hg : g.WF) (hg' : g'.WF) (hn : g.nU = g'.nU)
    (hE : ∀ u v, g.edge u v ↔ g'.edge u v) (M M' : List (Nat × Nat))
    (hM : IsMatching g.edge M) (hM' : IsMatching g'.edge M') {cu cv cu' cv' : List Nat}
    (h : coverOf g M = .ok (cu, cv)) (h' : coverOf g' M' = .ok (cu', cv')) :
    (∀ x, x ∈ cu' → x ∈ cu) ∧ (∀ y, y ∈ cv → y ∈ cv') := by
  obtain ⟨hl, hlen⟩ := coverOf_ok h
  obtain ⟨hl', hlen'⟩ := coverOf_ok h'
  obtain ⟨_, _, _, _, _, hC, _, _⟩ := coverLoop_cover g M hg hM hl
  obtain ⟨_, _, _, _, _, hC', hr', _⟩ := coverLoop_cover g' M' hg' hM' hl'
  have hC'g : IsCover g.edge cu' cv' := hC'.anti (fun u v => (hE u v).1)
  -- both matchings are maximum for the common edge relation
  have o1 := weak_duality g.edge M' cu cv (hM'.mono (fun u v => (hE u v).2)) hC
  have o2 := weak_duality g.edge M cu' cv' hM hC'g
  exact coverOf_extremal hg hM h hC'g (by omega) (hn ▸ hr')

end Ptn.C14
