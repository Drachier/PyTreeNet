import Ptn.C14.Matching
/-! The DFS augmentation `__add_augmenting_path`:
 * `dfs_total`  — the recursion depth never exceeds the fuel (distances strictly increase along the
                  recursion and are bounded by `inf_dist`),
 * `dfs_fail`   — a failed call proves that no layered path to NIL starts at its argument, and it
                  destroys no such path elsewhere: the completeness half needed for
                  "a successful BFS phase augments at least once". -/
namespace Ptn.C14

section
variable (g : Graph)

/-- all distances the algorithm reads are at most `inf` -/
def AllLe (s : HK) : Prop := ∀ x, Valid g x → s.dist x ≤ g.inf

theorem Frame.allLe {n : Nat} {s s' : HK} {r : Bool} (hf : Frame g n s r s') (h : AllLe g s) :
    AllLe g s' := by
  intro x hx
  rcases hf.dist x with h1 | ⟨h2, _⟩
  · rw [h1]; exact h x hx
  · rw [h2]; exact Nat.le_refl _

theorem dfs_true_matched (f u : Nat) (s s' : HK) (hs : Consistent g s)
    (h : dfs g f (some u) s = some (true, s')) : s'.mU u ≠ none := by
  obtain ⟨b, hb, _⟩ := (dfs_aug g f (some u) s true s' h hs rfl).new u rfl
  rw [hb]; simp

theorem dfsLoop_total (f : Nat)
    (ih : ∀ (x : Option Nat) (s : HK), AllLe g s → (∀ v w, s.mV v = some w → w < g.nU) →
      Valid g x → g.inf + 1 ≤ f + s.dist x → ∃ r s', dfs g f x s = some (r, s'))
    (u : Nat) :
    ∀ (vs : List Nat) (sk : HK), AllLe g sk → (∀ v w, sk.mV v = some w → w < g.nU) →
      g.inf ≤ f + sk.dist (some u) → ∃ r s', dfsLoop g (dfs g f) u vs sk = some (r, s') := by
  intro vs
  induction vs with
  | nil => intro sk _ _ _; exact ⟨_, _, rfl⟩
  | cons v vs ihl =>
    intro sk hle hmV hfuel
    simp only [dfsLoop]
    split
    · rename_i hcond
      have hval : Valid g (sk.mV v) := Valid.of_lt g hmV v
      obtain ⟨r, s1, hr⟩ := ih (sk.mV v) sk hle hmV hval (by omega)
      rw [hr]
      cases r with
      | true => exact ⟨_, _, rfl⟩
      | false =>
        simp only
        have hfx := dfs_frame g f _ _ _ _ hr
        apply ihl s1 (hfx.allLe g hle)
        · rw [(hfx.fail rfl).2]; exact hmV
        · rcases hfx.dist (some u) with h1 | ⟨h2, _⟩
          · rw [h1]; exact hfuel
          · rw [h2]; omega
    · exact ihl sk hle hmV hfuel

theorem dfs_total : ∀ (f : Nat) (x : Option Nat) (s : HK), AllLe g s →
    (∀ v w, s.mV v = some w → w < g.nU) → Valid g x → g.inf + 1 ≤ f + s.dist x →
    ∃ r s', dfs g f x s = some (r, s') := by
  intro f
  induction f with
  | zero =>
    intro x s hle _ hx hfuel
    cases x with
    | none => exact ⟨_, _, rfl⟩
    | some u => have := hle (some u) hx; omega
  | succ f ih =>
    intro x s hle hmV hx hfuel
    cases x with
    | none => exact ⟨_, _, rfl⟩
    | some u =>
      simp only [dfs]
      exact dfsLoop_total g f ih u (g.nbrU u) s hle hmV (by omega)

/-- A path to NIL that the DFS accepts in state `s`: each step goes from a left vertex `u` over an
    edge `(u, v)` to the partner of `v` (or NIL), one layer further. -/
inductive Path (s : HK) : Option Nat → Prop
  | nil : Path s none
  | step (u v : Nat) : v ∈ g.nbrU u → s.dist (s.mV v) = s.dist (some u) + 1 → Path s (s.mV v) →
      Path s (some u)

/-- `sk` differs from `s` only in distances of vertices from which no path starts. -/
structure PathPres (s sk : HK) : Prop where
  mU : sk.mU = s.mU
  mV : sk.mV = s.mV
  dist : ∀ y, sk.dist y ≠ s.dist y → ¬ Path g s y

theorem PathPres.refl (s : HK) : PathPres g s s := ⟨rfl, rfl, fun _ h => absurd rfl h⟩

theorem PathPres.dist_eq {s sk : HK} (h : PathPres g s sk) {y : Option Nat} (hp : Path g s y) :
    sk.dist y = s.dist y :=
  Classical.byContradiction fun hne => h.dist y hne hp

theorem PathPres.path {s sk : HK} (h : PathPres g s sk) {y : Option Nat} (hp : Path g s y) :
    Path g sk y := by
  induction hp with
  | nil => exact Path.nil
  | step u v hv hc hp ih =>
    have e3 : sk.mV v = s.mV v := congrFun h.mV v
    apply Path.step u v hv
    · rw [e3, h.dist_eq g (Path.step u v hv hc hp), h.dist_eq g hp]; exact hc
    · rw [e3]; exact ih

theorem PathPres.trans {s sk s1 : HK} (h1 : PathPres g s sk) (h2 : PathPres g sk s1) :
    PathPres g s s1 := by
  refine ⟨h2.mU.trans h1.mU, h2.mV.trans h1.mV, ?_⟩
  intro y hne hp
  by_cases hk : sk.dist y = s.dist y
  · exact h2.dist y (by rw [hk]; exact hne) (h1.path g hp)
  · exact h1.dist y hk hp

/-- A failed call certifies that no layered path starts at its argument and destroys none.  Loop
    invariant: if a layered path starts at `u`, its first edge goes to a neighbour still to be tried. -/
theorem dfs_fail (f : Nat) (x : Option Nat) (s s1 : HK) (h : dfs g f x s = some (false, s1)) :
    ¬ Path g s x ∧ PathPres g s s1 := by
  refine dfs_induct g (P := fun x s r s1 => r = false → ¬ Path g s x ∧ PathPres g s s1)
    (fun _ => nofun) ?_ f x s false s1 h rfl
  intro f u s r s1 ih h
  refine dfsLoop_induct g (Q := fun r s1 => r = false → ¬ Path g s (some u) ∧ PathPres g s s1)
    (I := fun vs sk => PathPres g s sk ∧ (Path g s (some u) →
      ∃ v ∈ vs, s.dist (s.mV v) = s.dist (some u) + 1 ∧ Path g s (s.mV v)))
    ?_ ?_ ?_ (fun _ _ _ _ _ _ _ => nofun) (g.nbrU u) s r s1 ⟨PathPres.refl g s, ?_⟩ h
  · intro sk hI _
    have hnp : ¬ Path g s (some u) := fun hp => let ⟨_, hv, _⟩ := hI.2 hp; nomatch hv
    refine ⟨hnp, hI.1.mU, hI.1.mV, ?_⟩
    intro y hne
    by_cases hy : y = some u
    · subst hy; exact hnp
    · exact hI.1.dist y (by rw [← upd_ne sk.dist g.inf hy]; exact hne)
  · -- a neighbour that is skipped is not one layer further
    intro v vs sk hI hc
    refine ⟨hI.1, fun hp => ?_⟩
    obtain ⟨b, hb, hX⟩ := hI.2 hp
    rcases List.mem_cons.1 hb with rfl | hb
    · apply absurd _ hc
      rw [congrFun hI.1.mV b, hI.1.dist_eq g hp, hI.1.dist_eq g hX.2]; exact hX.1
    · exact ⟨b, hb, hX⟩
  · -- a failed call one layer down
    intro v vs sk s2 hI _ hr
    obtain ⟨hnp, hpp⟩ := ih _ _ _ _ hr rfl
    refine ⟨hI.1.trans g hpp, fun hp => ?_⟩
    obtain ⟨b, hb, hX⟩ := hI.2 hp
    rcases List.mem_cons.1 hb with rfl | hb
    · apply absurd _ hnp
      rw [congrFun hI.1.mV b]; exact hI.1.path g hX.2
    · exact ⟨b, hb, hX⟩
  · intro hp
    cases hp with
    | step _ v hv hc hp' => exact ⟨v, hv, hc, hp'⟩

end
end Ptn.C14
