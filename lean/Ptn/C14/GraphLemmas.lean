import Ptn.C14.Spec
/-! Facts about the model's data that the files on both algorithms use: the graph construction up to `addEdges_spec`
(the `mkGraph` theorems themselves are in `Props`), the functional update `upd`, the keys of `dist` (`Valid`), and the
edge list and the decidable certificate of the driver as propositions (`mem_edges`, `certificateOk_iff`). -/
namespace Ptn.C14

theorem addTo_length (l : List (List Nat)) (i x : Nat) : (addTo l i x).length = l.length := by
  unfold addTo; split <;> simp

theorem addTo_getD (l : List (List Nat)) (i x j : Nat) :
    (addTo l i x).getD j [] =
      if j = i ∧ i < l.length ∧ x ∉ l.getD i [] then l.getD i [] ++ [x] else l.getD j [] := by
  unfold addTo
  by_cases hx : x ∈ l.getD i []
  · rw [if_pos hx, if_neg (fun h => h.2.2 hx)]
  · rw [if_neg hx]
    by_cases hji : j = i
    · subst hji
      by_cases hlt : j < l.length
      · rw [if_pos ⟨rfl, hlt, hx⟩]
        simp [List.getD_eq_getElem?_getD, hlt]
      · rw [if_neg (fun h => hlt h.2.1)]
        simp [List.getD_eq_getElem?_getD, hlt]
    · rw [if_neg (fun h => hji h.1)]
      have : ¬ i = j := fun h => hji h.symm
      simp [List.getD_eq_getElem?_getD, this]

theorem mem_addTo_getD (l : List (List Nat)) (i x j y : Nat) :
    y ∈ (addTo l i x).getD j [] ↔ y ∈ l.getD j [] ∨ (j = i ∧ y = x ∧ i < l.length) := by
  rw [addTo_getD]
  by_cases hc : j = i ∧ i < l.length ∧ x ∉ l.getD i []
  · rw [if_pos hc]
    rcases hc with ⟨rfl, hlt, hx⟩
    simp [hlt]
  · rw [if_neg hc]
    constructor
    · exact Or.inl
    · rintro (h | ⟨rfl, rfl, hlt⟩)
      · exact h
      · exact Classical.byContradiction fun hn => hc ⟨rfl, hlt, hn⟩

theorem nodup_addTo_getD (l : List (List Nat)) (i x j : Nat) (h : (l.getD j []).Nodup) :
    ((addTo l i x).getD j []).Nodup := by
  rw [addTo_getD]
  split
  · rename_i hc
    rcases hc with ⟨rfl, _, hx⟩
    rw [List.nodup_append]
    refine ⟨h, by simp, ?_⟩
    intro a ha b hb
    simp at hb
    subst hb
    intro hab
    exact hx (hab ▸ ha)
  · exact h

theorem addEdge_nU (g : Graph) (u v : Nat) : (g.addEdge u v).nU = g.nU := rfl
theorem addEdge_nV (g : Graph) (u v : Nat) : (g.addEdge u v).nV = g.nV := rfl

theorem mem_nbrU_addEdge (g : Graph) (u v a b : Nat) :
    b ∈ (g.addEdge u v).nbrU a ↔ b ∈ g.nbrU a ∨ (a = u ∧ b = v ∧ u < g.adjU.length) := by
  simp only [Graph.nbrU, Graph.addEdge]; exact mem_addTo_getD ..

theorem mem_nbrV_addEdge (g : Graph) (u v a b : Nat) :
    a ∈ (g.addEdge u v).nbrV b ↔ a ∈ g.nbrV b ∨ (b = v ∧ a = u ∧ v < g.adjV.length) := by
  simp only [Graph.nbrV, Graph.addEdge]; exact mem_addTo_getD ..

/-- The invariant of the construction loop: everything in `WF` except positivity. -/
structure Graph.WF0 (g : Graph) : Prop where
  lenU : g.adjU.length = g.nU
  lenV : g.adjV.length = g.nV
  sym : ∀ u v, v ∈ g.nbrU u ↔ u ∈ g.nbrV v
  rng : ∀ u v, v ∈ g.nbrU u → u < g.nU ∧ v < g.nV
  nodupU : ∀ u, (g.nbrU u).Nodup
  nodupV : ∀ v, (g.nbrV v).Nodup

theorem getD_replicate_self {α : Type} (n i : Nat) (a : α) : (List.replicate n a).getD i a = a := by
  rw [List.getD_eq_getElem?_getD, List.getElem?_replicate]
  split <;> rfl

theorem empty_nbrU (nU nV u : Nat) : (Graph.empty nU nV).nbrU u = [] := getD_replicate_self nU u []
theorem empty_nbrV (nU nV v : Nat) : (Graph.empty nU nV).nbrV v = [] := getD_replicate_self nV v []

theorem empty_wf0 (nU nV : Nat) : (Graph.empty nU nV).WF0 := by
  refine ⟨List.length_replicate .., List.length_replicate .., ?_, ?_, ?_, ?_⟩
  · intro u v; rw [empty_nbrU, empty_nbrV]; exact ⟨fun h => absurd h List.not_mem_nil, fun h => absurd h List.not_mem_nil⟩
  · intro u v h; rw [empty_nbrU] at h; exact absurd h List.not_mem_nil
  · intro u; rw [empty_nbrU]; exact List.nodup_nil
  · intro v; rw [empty_nbrV]; exact List.nodup_nil

theorem addEdge_wf0 (g : Graph) (h : g.WF0) (u v : Nat) (hu : u < g.nU) (hv : v < g.nV) :
    (g.addEdge u v).WF0 := by
  refine ⟨?_, ?_, ?_, ?_, ?_, ?_⟩
  · simp [Graph.addEdge, addTo_length, h.lenU]
  · simp [Graph.addEdge, addTo_length, h.lenV]
  · intro a b
    rw [mem_nbrU_addEdge, mem_nbrV_addEdge, h.sym a b, h.lenU, h.lenV]
    constructor
    · rintro (h1 | ⟨rfl, rfl, _⟩)
      · exact Or.inl h1
      · exact Or.inr ⟨rfl, rfl, hv⟩
    · rintro (h1 | ⟨rfl, rfl, _⟩)
      · exact Or.inl h1
      · exact Or.inr ⟨rfl, rfl, hu⟩
  · intro a b hab
    rw [mem_nbrU_addEdge] at hab
    rcases hab with h1 | ⟨rfl, rfl, _⟩
    · exact h.rng a b h1
    · exact ⟨hu, hv⟩
  · intro a; simp only [Graph.nbrU, Graph.addEdge]; exact nodup_addTo_getD _ _ _ _ (h.nodupU a)
  · intro b; simp only [Graph.nbrV, Graph.addEdge]; exact nodup_addTo_getD _ _ _ _ (h.nodupV b)

theorem addEdges_spec (es : List (Nat × Nat)) : ∀ (g g' : Graph), g.WF0 → addEdges g es = some g' →
    g'.WF0 ∧ g'.nU = g.nU ∧ g'.nV = g.nV ∧ (∀ p ∈ es, p.1 < g.nU ∧ p.2 < g.nV) ∧
    (∀ u v, v ∈ g'.nbrU u ↔ v ∈ g.nbrU u ∨ (u, v) ∈ es) := by
  induction es with
  | nil =>
    intro g g' h heq
    simp only [addEdges, Option.some.injEq] at heq
    subst heq
    exact ⟨h, rfl, rfl, by simp, by simp⟩
  | cons e es ih =>
    intro g g' h heq
    obtain ⟨u, v⟩ := e
    simp only [addEdges] at heq
    split at heq
    · rename_i hr
      have := ih (g.addEdge u v) g' (addEdge_wf0 g h u v hr.1 hr.2) heq
      obtain ⟨w, e1, e2, hall, hmem⟩ := this
      rw [addEdge_nU] at e1
      rw [addEdge_nV] at e2
      refine ⟨w, e1, e2, List.forall_mem_cons.2 ⟨hr, hall⟩, ?_⟩
      intro a b
      rw [hmem, mem_nbrU_addEdge, h.lenU, List.mem_cons, Prod.mk.injEq, or_assoc]
      simp only [hr.1, and_true]
    · exact absurd heq (by simp)

theorem addEdges_isSome (es : List (Nat × Nat)) : ∀ (g : Graph),
    (∀ p ∈ es, p.1 < g.nU ∧ p.2 < g.nV) → (addEdges g es).isSome := by
  induction es with
  | nil => intro g _; simp [addEdges]
  | cons e es ih =>
    intro g h
    obtain ⟨u, v⟩ := e
    obtain ⟨hr, h'⟩ := List.forall_mem_cons.1 h
    simp only [addEdges, hr.1, hr.2, and_self, if_true]
    exact ih _ h'

theorem Graph.WF0.toWF {g : Graph} (h : g.WF0) (hU : 0 < g.nU) (hV : 0 < g.nV) : g.WF :=
  ⟨hU, hV, h.lenU, h.lenV, h.sym, h.rng, h.nodupU, h.nodupV⟩

theorem Graph.WF.nbrU_eq_nil {g : Graph} (h : g.WF) {u : Nat} (hu : g.nU ≤ u) : g.nbrU u = [] := by
  cases hl : g.nbrU u with
  | nil => rfl
  | cons v vs =>
    have := (h.rng u v (by rw [hl]; exact List.mem_cons_self ..)).1
    omega

theorem mem_edges (g : Graph) (u v : Nat) : (u, v) ∈ g.edges ↔ u < g.nU ∧ v ∈ g.nbrU u := by
  simp only [Graph.edges, List.mem_flatMap, List.mem_range, List.mem_map, Prod.mk.injEq]
  constructor
  · rintro ⟨a, ha, b, hb, rfl, rfl⟩; exact ⟨ha, hb⟩
  · rintro ⟨h1, h2⟩; exact ⟨u, h1, v, h2, rfl, rfl⟩

theorem certificateOk_iff (g : Graph) (M : List (Nat × Nat)) (cu cv : List Nat) :
    certificateOk g M cu cv = true ↔
      (∀ p ∈ M, p.2 ∈ g.nbrU p.1) ∧ (M.map Prod.fst).Nodup ∧ (M.map Prod.snd).Nodup ∧
      (∀ p ∈ g.edges, p.1 ∈ cu ∨ p.2 ∈ cv) ∧ (∀ u ∈ cu, u < g.nU) ∧ (∀ v ∈ cv, v < g.nV) ∧
      cu.length + cv.length = M.length := by
  simp only [certificateOk, Bool.and_eq_true, List.all_eq_true, List.contains_eq_mem,
    decide_eq_true_eq, Bool.or_eq_true, and_assoc]

@[simp] theorem upd_same {α β : Type} [DecidableEq α] (f : α → β) (i : α) (a : β) :
    upd f i a i = a := by simp [upd]
theorem upd_ne {α β : Type} [DecidableEq α] (f : α → β) {i j : α} (a : β) (h : j ≠ i) :
    upd f i a j = f j := by simp [upd, h]
theorem upd_cases {α β : Type} [DecidableEq α] {f : α → β} {i : α} {a : β} {P : β → Prop} (j : α)
    (new : j = i → P a) (old : j ≠ i → P (f j)) : P (upd f i a j) := by
  by_cases h : j = i
  · rw [h, upd_same]; exact new h
  · rw [upd_ne _ _ h]; exact old h

section
variable (g : Graph)

/-- keys of `dist` that the algorithm uses -/
def Valid : Option Nat → Prop
  | none => True
  | some u => u < g.nU

/-- every key `mV v` is one the algorithm uses, if the partners are left vertices (`Consistent.mV_lt`) -/
theorem Valid.of_lt {mV : Nat → Option Nat} (hmV : ∀ v w, mV v = some w → w < g.nU) (v : Nat) :
    Valid g (mV v) := by
  cases hx : mV v with
  | none => trivial
  | some w => exact hmV v w hx

end

end Ptn.C14
