import Ptn.Common.List
import Ptn.C14.GraphLemmas
/-! The BFS layering `__connect_unmatched_vertices`:
 * every finite positive entry has a predecessor one layer below, so finite distances are contiguous,
   hence at most `num_u - 1` at left vertices and never equal to `inf_dist` when assigned,
 * every vertex enters the queue at most once, hence the queue fuel suffices,
 * when the queue is empty every finite left vertex below the NIL layer has only neighbours whose
   partner (or NIL) is finite: the closure used by the Koenig construction. -/
namespace Ptn.C14

section
variable (g : Graph)

/-- The queue loop can pop at most `n` more times: `p` lists the keys still at `inf` (each is queued at most
    once more, when it leaves `inf`), and the queue and `p` together have at most `n` entries. -/
def Budget (st : BfsSt) (n : Nat) : Prop :=
  ∃ p : List (Option Nat), (∀ x, Valid g x → st.dist x = g.inf → x ∈ p) ∧ st.queue.length + p.length ≤ n

/-- `dist[w] = c; queue.put(w)` for a key at `inf` and a finite `c` -/
theorem Budget.put {st : BfsSt} {n : Nat} (h : Budget g st n) {w : Option Nat} (hw : Valid g w)
    (hinf : st.dist w = g.inf) {c : Nat} (hc : c ≠ g.inf) :
    Budget g ⟨upd st.dist w c, st.queue ++ [w]⟩ n := by
  obtain ⟨p, hp, hle⟩ := h
  have hwp := hp w hw hinf
  refine ⟨p.erase w, fun x hx (hxi : upd st.dist w c x = g.inf) => ?_, ?_⟩
  · have hxw : x ≠ w := fun e => hc (by rw [e, upd_same] at hxi; exact hxi)
    rw [upd_ne _ _ hxw] at hxi
    exact (List.mem_erase_of_ne hxw).2 (hp x hx hxi)
  · have := List.length_pos_of_mem hwp
    rw [List.length_append, List.length_singleton, List.length_erase_of_mem hwp]
    omega

theorem Budget.pos {d : Option Nat → Nat} {x : Option Nat} {q : List (Option Nat)} {n : Nat}
    (h : Budget g ⟨d, x :: q⟩ n) : 0 < n :=
  let ⟨_, _, hle⟩ := h
  Nat.lt_of_lt_of_le (Nat.succ_pos q.length) (Nat.le_trans (Nat.le_add_right _ _) hle)

/-- `queue.get()` -/
theorem Budget.pop {d : Option Nat → Nat} {x : Option Nat} {q : List (Option Nat)} {n : Nat}
    (h : Budget g ⟨d, x :: q⟩ (n + 1)) : Budget g ⟨d, q⟩ n :=
  let ⟨p, hp, hle⟩ := h
  have hle : q.length + 1 + p.length ≤ n + 1 := hle
  ⟨p, hp, show q.length + p.length ≤ n by rw [Nat.add_right_comm] at hle; exact Nat.le_of_succ_le_succ hle⟩

variable (mU mV : Nat → Option Nat)

/-- Invariant of the queue loop, for the matching `(mU, mV)` the BFS runs on: queued keys are keys in use, no
    distance exceeds `inf`, the finite layers below a finite entry are all inhabited, free left vertices are at
    layer 0, NIL is not. -/
structure BInv (st : BfsSt) : Prop where
  qvalid : ∀ x ∈ st.queue, Valid g x
  le : ∀ x, Valid g x → st.dist x ≤ g.inf
  contig : ∀ x, Valid g x → st.dist x < g.inf → ∀ k, k < st.dist x →
    ∃ a, a < g.nU ∧ st.dist (some a) = k
  free : ∀ a, a < g.nU → mU a = none → st.dist (some a) = 0
  nilpos : 0 < st.dist none
  /-- layer 0 consists of free vertices only -/
  zero : ∀ a, a < g.nU → st.dist (some a) = 0 → mU a = none
  /-- every finite positive layer entry has a predecessor one layer below -/
  pred : ∀ x, Valid g x → 0 < st.dist x → st.dist x < g.inf →
    ∃ a, a < g.nU ∧ ∃ v ∈ g.nbrU a, mV v = x ∧ st.dist (some a) + 1 = st.dist x

/-- Every layer below a finite entry is inhabited: walk down the predecessors. So `contig` follows from `pred`,
and a scan only has to maintain the latter. -/
theorem contig_of_pred {st : BfsSt}
    (pred : ∀ x, Valid g x → 0 < st.dist x → st.dist x < g.inf →
      ∃ a, a < g.nU ∧ ∃ v ∈ g.nbrU a, mV v = x ∧ st.dist (some a) + 1 = st.dist x) :
    ∀ (n : Nat) (x : Option Nat), Valid g x →
    st.dist x = n → n < g.inf → ∀ k, k < n → ∃ a, a < g.nU ∧ st.dist (some a) = k := by
  intro n
  induction n with
  | zero => intro _ _ _ _ k hk; exact absurd hk (Nat.not_lt_zero k)
  | succ n ih =>
    intro x hx hn hfin k hk
    obtain ⟨a, ha, _, _, _, hd⟩ :=
      pred x hx (by rw [hn]; exact Nat.succ_pos n) (by rw [hn]; exact hfin)
    have hda : st.dist (some a) = n := Nat.succ.inj (hd.trans hn)
    rcases Nat.lt_or_eq_of_le (Nat.le_of_lt_succ hk) with hlt | rfl
    · exact ih (some a) ha hda (Nat.lt_of_succ_lt hfin) k hlt
    · exact ⟨a, ha, hda⟩

theorem BInv.of_pred {st : BfsSt} (qvalid : ∀ x ∈ st.queue, Valid g x) (le : ∀ x, Valid g x → st.dist x ≤ g.inf)
    (free : ∀ a, a < g.nU → mU a = none → st.dist (some a) = 0) (nilpos : 0 < st.dist none)
    (zero : ∀ a, a < g.nU → st.dist (some a) = 0 → mU a = none)
    (pred : ∀ x, Valid g x → 0 < st.dist x → st.dist x < g.inf →
      ∃ a, a < g.nU ∧ ∃ v ∈ g.nbrU a, mV v = x ∧ st.dist (some a) + 1 = st.dist x) : BInv g mU mV st :=
  ⟨qvalid, le, fun x hx hfin => contig_of_pred g mV pred _ x hx rfl hfin, free, nilpos, zero, pred⟩

theorem BInv.bound {st : BfsSt} (h : BInv g mU mV st) {a : Nat} (ha : a < g.nU)
    (hfin : st.dist (some a) < g.inf) : st.dist (some a) < g.nU := by
  apply pigeon g.nU (st.dist (some a)) (fun u => st.dist (some u))
  intro j hj
  by_cases hja : j = st.dist (some a)
  · exact ⟨a, ha, hja.symm⟩
  · exact h.contig (some a) ha hfin j (by omega)

/-- The left vertex `a` has been scanned if it had to be: if it lies below the NIL layer, the partners of all its
    neighbours (or NIL) are at finite distance. -/
def Closed (st : BfsSt) (a : Nat) : Prop :=
  st.dist (some a) < st.dist none → ∀ v ∈ g.nbrU a, st.dist (mV v) < g.inf

/-- every finite left vertex (except `ex`, the one being scanned) is queued or closed -/
def Prog (ex : Option Nat) (st : BfsSt) : Prop :=
  ∀ a, a < g.nU → some a ≠ ex → st.dist (some a) < g.inf → some a ∈ st.queue ∨ Closed g mV st a

/-- what a scan may change -/
structure Step (st st' : BfsSt) : Prop where
  keep : ∀ y, st.dist y < g.inf → st'.dist y = st.dist y
  nilLe : st'.dist none ≤ st.dist none
  pre : st.queue <+: st'.queue
  fresh : ∀ y, st'.dist y < g.inf → st.dist y < g.inf ∨ y ∈ st'.queue
  budget : ∀ n, Budget g st n → Budget g st' n

theorem Step.refl (st : BfsSt) : Step g st st :=
  ⟨fun _ _ => rfl, Nat.le_refl _, List.prefix_rfl, fun _ h => Or.inl h, fun _ h => h⟩

theorem Step.trans {a b c : BfsSt} (h1 : Step g a b) (h2 : Step g b c) : Step g a c := by
  refine ⟨?_, Nat.le_trans h2.nilLe h1.nilLe, h1.pre.trans h2.pre, ?_, fun n h => h2.budget n (h1.budget n h)⟩
  · intro y hy
    have e1 := h1.keep y hy
    rw [h2.keep y (by rw [e1]; exact hy), e1]
  · intro y hy
    rcases h2.fresh y hy with h | h
    · rcases h1.fresh y h with h' | h'
      · exact Or.inl h'
      · exact Or.inr (h2.pre.subset h')
    · exact Or.inr h

theorem Prog.step {ex : Option Nat} {st st' : BfsSt} (hp : Prog g mV ex st) (hs : Step g st st') :
    Prog g mV ex st' := by
  intro a ha hne hfin
  rcases hs.fresh _ hfin with h | h
  · rcases hp a ha hne h with h1 | h1
    · exact Or.inl (hs.pre.subset h1)
    · right
      intro hlt v hv
      have e1 := hs.keep _ h
      have hlt' : st.dist (some a) < st.dist none := by
        rw [← e1]; exact Nat.lt_of_lt_of_le hlt hs.nilLe
      have := h1 hlt' v hv
      rw [hs.keep _ this]; exact this
  · exact Or.inl h

/-- one assignment `dist[w] = dist[u] + 1; queue.put(w)` -/
theorem set_step {st : BfsSt} (hI : BInv g mU mV st) {u : Nat} (hu : u < g.nU)
    (hfin : st.dist (some u) < g.inf) {w : Option Nat} (hw : Valid g w) (hinf : st.dist w = g.inf)
    {v : Nat} (hv : v ∈ g.nbrU u) (hvw : mV v = w) :
    let st' : BfsSt := ⟨upd st.dist w (st.dist (some u) + 1), st.queue ++ [w]⟩
    BInv g mU mV st' ∧ Step g st st' ∧ st'.dist w < g.inf := by
  intro st'
  have hnew : st.dist (some u) + 1 < g.inf := Nat.succ_lt_succ (hI.bound g mU mV hu hfin)
  -- the update touches `w` only, and `w` is not among the finite keys
  have K : ∀ y, st.dist y < g.inf → st'.dist y = st.dist y := fun y hy =>
    upd_ne _ _ fun he => Nat.ne_of_lt hy (he ▸ hinf)
  refine ⟨BInv.of_pred g mU mV ?_ ?_ ?_ ?_ ?_ ?_,
    ⟨K, ?_, List.prefix_append _ _, ?_, fun _ hb => hb.put g hw hinf (Nat.ne_of_lt hnew)⟩,
    Nat.lt_of_le_of_lt (Nat.le_of_eq (upd_same ..)) hnew⟩
  · exact fun x hx => (List.mem_append.1 hx).elim (hI.qvalid x) fun h => List.mem_singleton.1 h ▸ hw
  · exact fun x hx => upd_cases (P := (· ≤ g.inf)) x (fun _ => Nat.le_of_lt hnew) fun _ => hI.le x hx
  · intro a ha hfree
    have h0 := hI.free a ha hfree
    exact (K _ (by rw [h0]; exact Nat.succ_pos g.nU)).trans h0
  · exact upd_cases (P := (0 < ·)) none (fun _ => Nat.succ_pos _) fun _ => hI.nilpos
  · exact fun a ha => upd_cases (P := (· = 0 → mU a = none)) (some a)
      (fun _ h => absurd h (Nat.succ_ne_zero _)) fun _ => hI.zero a ha
  · intro x hx hpos hxfin
    by_cases hxw : x = w
    · exact ⟨u, hu, v, hv, hvw.trans hxw.symm, by rw [K _ hfin, hxw]; exact (upd_same ..).symm⟩
    · have hx' : st'.dist x = st.dist x := upd_ne _ _ hxw
      rw [hx'] at hpos hxfin
      obtain ⟨a, ha, v', hv', hm, hd⟩ := hI.pred x hx hpos hxfin
      exact ⟨a, ha, v', hv', hm,
        by rw [K _ (Nat.lt_trans (Nat.lt_of_succ_le (Nat.le_of_eq hd)) hxfin), hx', hd]⟩
  · exact upd_cases (P := (· ≤ st.dist none)) none
      (fun hn => by rw [hn, hinf]; exact Nat.le_of_lt hnew) fun _ => Nat.le_refl _
  · exact fun y => upd_cases (P := fun c => c < g.inf → st.dist y < g.inf ∨ y ∈ st.queue ++ [w]) y
      (fun hyw _ => Or.inr (List.mem_append_right _ (List.mem_singleton.2 hyw))) fun _ => Or.inl

theorem scan_spec (hmV : ∀ v w, mV v = some w → w < g.nU) {u : Nat} (hu : u < g.nU) :
    ∀ (vs : List Nat) (st : BfsSt), (∀ v ∈ vs, v ∈ g.nbrU u) → BInv g mU mV st →
      st.dist (some u) < g.inf →
      let st' := bfsScan g mV (some u) vs st
      BInv g mU mV st' ∧ Step g st st' ∧ ∀ v ∈ vs, st'.dist (mV v) < g.inf := by
  intro vs
  induction vs with
  | nil =>
    intro st _ hI _
    exact ⟨hI, Step.refl g st, by simp⟩
  | cons v vs ih =>
    intro st hvs hI hfin
    obtain ⟨hv, hvs'⟩ := List.forall_mem_cons.1 hvs
    have hw : Valid g (mV v) := Valid.of_lt g hmV v
    simp only [bfsScan]
    split
    · rename_i hinf
      obtain ⟨hI1, hs1, hf1⟩ := set_step g mU mV hI hu hfin hw hinf hv rfl
      have hfin1 : (⟨upd st.dist (mV v) (st.dist (some u) + 1), st.queue ++ [mV v]⟩ : BfsSt).dist (some u)
          < g.inf := by
        rw [hs1.keep _ hfin]; exact hfin
      obtain ⟨hI2, hs2, hall⟩ := ih _ hvs' hI1 hfin1
      exact ⟨hI2, hs1.trans g hs2,
        List.forall_mem_cons.2 ⟨by rw [hs2.keep _ hf1]; exact hf1, hall⟩⟩
    · rename_i hinf
      obtain ⟨hI2, hs2, hall⟩ := ih st hvs' hI hfin
      have : st.dist (mV v) < g.inf := Nat.lt_of_le_of_ne (hI.le _ hw) hinf
      exact ⟨hI2, hs2, List.forall_mem_cons.2 ⟨by rw [hs2.keep _ this]; exact this, hall⟩⟩

/-- what holds when the queue has run empty -/
structure BFinal (d : Option Nat → Nat) : Prop where
  inv : BInv g mU mV ⟨d, []⟩
  closed : ∀ a, a < g.nU → d (some a) < g.inf → Closed g mV ⟨d, []⟩ a

theorem BFinal.free_fin {d : Option Nat → Nat} (h : BFinal g mU mV d) {u : Nat} (hu : u < g.nU)
    (hfree : mU u = none) : d (some u) < g.inf := by
  have h0 : d (some u) = 0 := h.inv.free u hu hfree
  rw [h0]; exact Nat.succ_pos g.nU

/-- If NIL was not reached, every edge at a finite left vertex leads to a matched right vertex with a
    finite partner. -/
theorem BFinal.closure {d : Option Nat → Nat} (h : BFinal g mU mV d) (hnil : d none = g.inf) {u v : Nat}
    (hu : u < g.nU) (hfu : d (some u) < g.inf) (huv : v ∈ g.nbrU u) :
    ∃ w, mV v = some w ∧ d (some w) < g.inf := by
  have hlt : d (some u) < d none := by rw [hnil]; exact hfu
  have hcl : d (mV v) < g.inf := h.closed u hu hfu hlt v huv
  cases hx : mV v with
  | none => rw [hx, hnil] at hcl; exact absurd hcl (Nat.lt_irrefl _)
  | some w => rw [hx] at hcl; exact ⟨w, rfl, hcl⟩

theorem bfsLoop_spec (hmV : ∀ v w, mV v = some w → w < g.nU) :
    ∀ (f : Nat) (st : BfsSt), BInv g mU mV st → Prog g mV none st → Budget g st f →
      ∃ d, bfsLoop g mV f st = some d ∧ BFinal g mU mV d := by
  -- an empty queue ends the loop, whatever the fuel
  have hnil : ∀ f dist, BInv g mU mV ⟨dist, []⟩ → Prog g mV none ⟨dist, []⟩ →
      ∃ d, bfsLoop g mV f ⟨dist, []⟩ = some d ∧ BFinal g mU mV d := by
    intro f dist hI hP
    refine ⟨dist, by cases f <;> rfl, hI, ?_⟩
    intro a ha hfin
    rcases hP a ha (by simp) hfin with h | h
    · simp at h
    · exact h
  intro f
  induction f with
  | zero =>
    intro st hI hP hbud
    obtain ⟨dist, queue⟩ := st
    cases queue with
    | nil => exact hnil 0 dist hI hP
    | cons x q => exact absurd (hbud.pos g) (Nat.lt_irrefl 0)
  | succ f ih =>
    intro st hI hP hbud
    obtain ⟨dist, queue⟩ := st
    cases queue with
    | nil => exact hnil _ dist hI hP
    | cons x q =>
      -- the state after `queue.get()`
      have hIpop : BInv g mU mV ⟨dist, q⟩ :=
        ⟨fun y hy => hI.qvalid y (List.mem_cons_of_mem _ hy), hI.le, hI.contig, hI.free, hI.nilpos, hI.zero,
          hI.pred⟩
      have hbpop : Budget g ⟨dist, q⟩ f := hbud.pop g
      have hPpop : Prog g mV x ⟨dist, q⟩ := by
        intro a ha hne hfin
        rcases hP a ha (by simp) hfin with h | h
        · rcases List.mem_cons.1 h with h | h
          · exact absurd h hne
          · exact Or.inl h
        · exact Or.inr h
      simp only [bfsLoop]
      split
      · rename_i hguard
        cases x with
        | none => exact absurd hguard (Nat.lt_irrefl _)
        | some u =>
          have hu : u < g.nU := hI.qvalid (some u) (List.mem_cons_self ..)
          have hfin : dist (some u) < g.inf := by
            have := hI.le none trivial
            exact Nat.lt_of_lt_of_le hguard this
          obtain ⟨hI2, hs2, hall⟩ := scan_spec g mU mV hmV hu (g.nbrU u) ⟨dist, q⟩
            (fun _ h => h) hIpop hfin
          apply ih _ hI2
          · intro a ha _ hfa
            by_cases hau : a = u
            · subst hau
              right
              intro _ v hv
              exact hall v hv
            · exact (hPpop.step g mV hs2) a ha (by simp [hau]) hfa
          · exact hs2.budget f hbpop
      · rename_i hguard
        apply ih _ hIpop _ hbpop
        intro a ha _ hfa
        by_cases hax : some a = x
        · subst hax
          right
          intro hlt
          exact absurd hlt hguard
        · exact hPpop a ha hax hfa

theorem upd_some_below (d : Option Nat → Nat) (n c : Nat) (f : Nat → Nat)
    (h : ∀ u, u < n → d (some u) = f u) (hc : c = f n) :
    ∀ u, u < n + 1 → upd d (some n) c (some u) = f u := by
  intro u hu
  by_cases hun : u = n
  · rw [hun, upd_same, hc]
  · rw [upd_ne _ _ (fun he => hun (Option.some.inj he))]
    exact h u (Nat.lt_of_le_of_ne (Nat.le_of_lt_succ hu) hun)

/-- After the initialisation loop the queue holds the free left vertices in ascending order. -/
theorem bfsInit_fold (dist0 : Option Nat → Nat) : ∀ n,
    let st := (List.range n).foldl (fun (st : BfsSt) u =>
      if mU u = none then ⟨upd st.dist (some u) 0, st.queue ++ [some u]⟩
      else ⟨upd st.dist (some u) g.inf, st.queue⟩) ⟨dist0, []⟩
    st.queue = ((List.range n).filter fun u => mU u = none).map some ∧
    ∀ u, u < n → st.dist (some u) = if mU u = none then 0 else g.inf := by
  intro n
  induction n with
  | zero => exact ⟨rfl, fun u hu => absurd hu (Nat.not_lt_zero u)⟩
  | succ n ih =>
    simp only [List.range_succ, List.foldl_append, List.foldl_cons, List.foldl_nil, List.filter_append,
      List.map_append]
    obtain ⟨h1, h2⟩ := ih
    generalize (List.range n).foldl _ _ = st at h1 h2 ⊢
    rw [← h1]
    by_cases hf : mU n = none
    · rw [if_pos hf, show [n].filter (fun u => mU u = none) = [n] from
        List.filter_cons_of_pos (decide_eq_true hf)]
      exact ⟨rfl, upd_some_below _ n 0 _ h2 (if_pos hf).symm⟩
    · rw [if_neg hf, show [n].filter (fun u => mU u = none) = [] from
        List.filter_cons_of_neg fun h => hf (of_decide_eq_true h)]
      exact ⟨(List.append_nil _).symm, upd_some_below _ n g.inf _ h2 (if_neg hf).symm⟩

theorem bfsInit_spec (dist0 : Option Nat → Nat) :
    BInv g mU mV (bfsInit g mU dist0) ∧ Prog g mV none (bfsInit g mU dist0) ∧
    Budget g (bfsInit g mU dist0) g.bfsFuel := by
  -- after the initialisation the queue is the list of free left vertices, these are at 0, every other key is
  -- at `inf`, whatever `dist0` was; each field of `BInv` and `Prog` is read off that
  obtain ⟨h1, h2⟩ := bfsInit_fold g mU dist0 g.nU
  simp only [bfsInit]
  generalize (List.range g.nU).foldl _ _ = st at h1 h2 ⊢
  have hd : ∀ u, u < g.nU → upd st.dist none g.inf (some u) = if mU u = none then 0 else g.inf := by
    intro u hu; rw [upd_ne _ _ (by simp)]; exact h2 u hu
  -- a finite key is a free left vertex, at distance 0
  have hfin0 : ∀ x, Valid g x → upd st.dist none g.inf x < g.inf →
      ∃ u, x = some u ∧ mU u = none ∧ upd st.dist none g.inf x = 0 := by
    intro x hx hfin
    cases x with
    | none => rw [upd_same] at hfin; exact absurd hfin (Nat.lt_irrefl _)
    | some u =>
      by_cases hm : mU u = none
      · exact ⟨u, rfl, hm, by rw [hd u hx, if_pos hm]⟩
      · rw [hd u hx, if_neg hm] at hfin; exact absurd hfin (Nat.lt_irrefl _)
  refine ⟨BInv.of_pred g mU mV ?_ ?_ ?_ ?_ ?_ ?_, ?_, ?_⟩
  · intro x hx
    obtain ⟨u, hu, rfl⟩ := List.mem_map.1 (h1 ▸ hx)
    exact List.mem_range.1 (List.mem_filter.1 hu).1
  · intro x hx
    show upd st.dist none g.inf x ≤ g.inf
    cases x with
    | none => rw [upd_same]; exact Nat.le_refl _
    | some u =>
      rw [hd u hx]
      split
      · exact Nat.zero_le _
      · exact Nat.le_refl _
  · intro a ha hm
    show upd st.dist none g.inf (some a) = 0
    rw [hd a ha, if_pos hm]
  · show 0 < upd st.dist none g.inf none
    rw [upd_same]; exact Nat.succ_pos g.nU
  · intro a ha h0
    have h0 : upd st.dist none g.inf (some a) = 0 := h0
    obtain ⟨u, he, hm, _⟩ := hfin0 (some a) ha (by rw [h0]; exact Nat.succ_pos g.nU)
    cases he
    exact hm
  · intro x hx hpos hfin
    obtain ⟨_, _, _, h0⟩ := hfin0 x hx hfin
    have hpos : 0 < upd st.dist none g.inf x := hpos
    rw [h0] at hpos
    exact absurd hpos (Nat.lt_irrefl 0)
  · intro a ha _ hfin
    obtain ⟨u, he, hm, _⟩ := hfin0 (some a) ha hfin
    cases he
    exact Or.inl (h1 ▸ List.mem_map_of_mem (List.mem_filter.2 ⟨List.mem_range.2 ha, decide_eq_true hm⟩))
  · -- still at `inf`: NIL and the matched left vertices
    refine ⟨none :: ((List.range g.nU).filter fun u => !decide (mU u = none)).map some, ?_, ?_⟩
    · intro x hx hinf
      cases x with
      | none => exact List.mem_cons_self ..
      | some u =>
        have hinf : upd st.dist none g.inf (some u) = g.inf := hinf
        have hm : mU u ≠ none := fun hm => by
          rw [hd u hx, if_pos hm] at hinf; exact Nat.succ_ne_zero _ hinf.symm
        exact List.mem_cons_of_mem _ (List.mem_map_of_mem
          (List.mem_filter.2 ⟨List.mem_range.2 hx, by simpa using hm⟩))
    · have := (List.filter_append_perm (fun u => decide (mU u = none)) (List.range g.nU)).length_eq
      rw [List.length_append, List.length_range] at this
      show st.queue.length + _ ≤ g.nU + 2
      rw [h1, List.length_map, List.length_cons, List.length_map]
      omega

/-- The BFS terminates within its fuel and its result satisfies `BFinal`. -/
theorem bfs_spec (s : HK) (hmV : ∀ v w, s.mV v = some w → w < g.nU) :
    ∃ d, bfs g s = some d ∧ BFinal g s.mU s.mV d := by
  obtain ⟨hI, hP, hbud⟩ := bfsInit_spec g s.mU s.mV s.dist
  exact bfsLoop_spec g s.mU s.mV hmV g.bfsFuel _ hI hP hbud

end
end Ptn.C14
