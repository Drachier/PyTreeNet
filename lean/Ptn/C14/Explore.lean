import Ptn.Common.List
import Ptn.C14.GraphLemmas
/-! The alternating-path exploration `_explore_alternating_paths`: a call never exhausts the fuel `num_u + 1`,
every visited vertex has the vertex it was reached from among the visited ones (`Prov`), and every vertex added during a call has
all its relevant neighbours added when the call returns (`Post`) — one induction over the recursion and its two
loops (`explore_total`). -/
namespace Ptn.C14

/-- Both visited lists are only appended to. -/
def Vis.Le (a b : Vis) : Prop := a.uVis <+: b.uVis ∧ a.vVis <+: b.vVis

theorem Vis.Le.refl (a : Vis) : a.Le a := ⟨List.prefix_rfl, List.prefix_rfl⟩
theorem Vis.Le.trans {a b c : Vis} (h1 : a.Le b) (h2 : b.Le c) : a.Le c :=
  ⟨h1.1.trans h2.1, h1.2.trans h2.2⟩

section
variable (g : Graph) (M : List (Nat × Nat))

/-- All unmatched edges at the visited left vertex `u` lead to visited right vertices. -/
def UDone (st : Vis) (u : Nat) : Prop := ∀ v ∈ g.nbrU u, (u, v) ∉ M → v ∈ st.vVis
/-- The matched partner (if any, searched in `adj_v[v]`) of the visited right vertex is visited. -/
def VDone (st : Vis) (v : Nat) : Prop := ∀ u ∈ g.nbrV v, (u, v) ∈ M → u ∈ st.uVis

theorem UDone.mono {a b : Vis} (h : a.Le b) {u : Nat} (hd : UDone g M a u) : UDone g M b u :=
  fun v hv hm => h.2.subset (hd v hv hm)
theorem VDone.mono {a b : Vis} (h : a.Le b) {v : Nat} (hd : VDone g M a v) : VDone g M b v :=
  fun u hu hm => h.1.subset (hd u hu hm)

/-- Postcondition of a call: lists grew, and every *new* vertex is done. -/
def Post (a b : Vis) : Prop :=
  a.Le b ∧ (∀ u ∈ b.uVis, u ∉ a.uVis → UDone g M b u) ∧ (∀ v ∈ b.vVis, v ∉ a.vVis → VDone g M b v)

theorem Post.refl (a : Vis) : Post g M a a :=
  ⟨Vis.Le.refl a, fun _ h hn => absurd h hn, fun _ h hn => absurd h hn⟩

theorem Post.trans {a b c : Vis} (h1 : Post g M a b) (h2 : Post g M b c) : Post g M a c := by
  refine ⟨h1.1.trans h2.1, ?_, ?_⟩
  · intro u hu hn
    by_cases hb : u ∈ b.uVis
    · exact (h1.2.1 u hb hn).mono g M h2.1
    · exact h2.2.1 u hu hb
  · intro v hv hn
    by_cases hb : v ∈ b.vVis
    · exact (h1.2.2 v hb hn).mono g M h2.1
    · exact h2.2.2 v hv hb

/-- `v_visited.append(v)` followed by a run that completes `v`. -/
theorem Post.push_right {st st1 : Vis} {v : Nat}
    (p1 : Post g M { st with vVis := st.vVis ++ [v] } st1) (hin : VDone g M st1 v) : Post g M st st1 := by
  refine ⟨⟨p1.1.1, (List.prefix_append _ _).trans p1.1.2⟩, p1.2.1, ?_⟩
  intro b hb hnb
  by_cases hbv : b = v
  · exact hbv ▸ hin
  · exact p1.2.2 b hb fun h => (List.mem_append.1 h).elim hnb fun h => hbv (List.mem_singleton.1 h)

/-- `u_visited.append(u)` followed by a run that completes `u`. -/
theorem Post.push_left {st st1 : Vis} {u : Nat}
    (p1 : Post g M { st with uVis := st.uVis ++ [u] } st1) (hin : UDone g M st1 u) : Post g M st st1 := by
  refine ⟨⟨(List.prefix_append _ _).trans p1.1.1, p1.1.2⟩, ?_, p1.2.2⟩
  intro a ha hna
  by_cases hau : a = u
  · exact hau ▸ hin
  · exact p1.2.1 a ha fun h => (List.mem_append.1 h).elim hna fun h => hau (List.mem_singleton.1 h)

/-- What has to hold of a left vertex `u` for the exploration from `u0` to visit it: it exists, it lies in `R`
    (any set of left vertices closed along "edge, then matched edge" that holds `u0`), and it is the start or the
    partner of a visited right vertex. -/
def Pre (R : Nat → Prop) (u0 : Nat) (u : Nat) (st : Vis) : Prop :=
  u < g.nU ∧ R u ∧ (u = u0 ∨ ∃ v ∈ st.vVis, (u, v) ∈ M)

/-- Provenance, one step back: `u_visited` is duplicate-free, every visited left vertex satisfies `Pre`, every
    visited right vertex is a neighbour of a visited left vertex. -/
structure Prov (R : Nat → Prop) (u0 : Nat) (st : Vis) : Prop where
  nodup : st.uVis.Nodup
  left : ∀ u ∈ st.uVis, Pre g M R u0 u st
  right : ∀ v ∈ st.vVis, ∃ u ∈ st.uVis, v ∈ g.nbrU u

theorem Pre.mono {R : Nat → Prop} {u0 u : Nat} {a b : Vis} (h : a.Le b) (hp : Pre g M R u0 u a) :
    Pre g M R u0 u b := by
  refine ⟨hp.1, hp.2.1, ?_⟩
  rcases hp.2.2 with h1 | ⟨v, hv, hm⟩
  · exact Or.inl h1
  · exact Or.inr ⟨v, h.2.subset hv, hm⟩

/-- `Prov` survives `v_visited.append(v)` for a neighbour `v` of a visited left vertex. -/
theorem Prov.push_right {R : Nat → Prop} {u0 : Nat} {st : Vis} (hp : Prov g M R u0 st) {u v : Nat}
    (hu : u ∈ st.uVis) (hv : v ∈ g.nbrU u) : Prov g M R u0 { st with vVis := st.vVis ++ [v] } := by
  refine ⟨hp.nodup, ?_, ?_⟩
  · exact fun a ha => Pre.mono g M (a := st) ⟨List.prefix_rfl, List.prefix_append _ _⟩ (hp.left a ha)
  · intro b hb
    rcases List.mem_append.1 hb with hb | hb
    · exact hp.right b hb
    · rw [List.mem_singleton.1 hb]; exact ⟨u, hu, hv⟩

/-- `Prov` survives `u_visited.append(u)` for an unvisited `u` that satisfies `Pre`. -/
theorem Prov.push_left {R : Nat → Prop} {u0 : Nat} {st : Vis} (hp : Prov g M R u0 st) {u : Nat}
    (hu : u ∉ st.uVis) (hpre : Pre g M R u0 u st) : Prov g M R u0 { st with uVis := st.uVis ++ [u] } := by
  refine ⟨?_, ?_, ?_⟩
  · rw [List.nodup_append]
    refine ⟨hp.nodup, List.pairwise_singleton _ u, ?_⟩
    intro a ha b hb hab
    rw [List.mem_singleton.1 hb] at hab
    exact hu (hab ▸ ha)
  · intro a ha
    rcases List.mem_append.1 ha with ha | ha
    · exact hp.left a ha
    · rw [List.mem_singleton.1 ha]; exact hpre
  · intro b hb
    obtain ⟨a, ha, hab⟩ := hp.right b hb
    exact ⟨a, List.mem_append_left _ ha, hab⟩

variable (R : Nat → Prop) (u0 : Nat)

def AltClosed : Prop := ∀ u v w, R u → v ∈ g.nbrU u → (w, v) ∈ M → R w

/-- What the induction shows of the calls with fuel `f`: in a state with `Prov`, on an argument with `Pre`, with
    enough fuel for the left vertices not yet visited, the call returns, keeps `Prov`, completes what it adds
    (`Post`) and has visited its argument. -/
def ExploreTotal (f : Nat) : Prop :=
  ∀ (u : Nat) (st : Vis), Prov g M R u0 st → Pre g M R u0 u st → g.nU + 1 ≤ f + st.uVis.length →
    ∃ st', explore g M f u st = some st' ∧ Prov g M R u0 st' ∧ Post g M st st' ∧ u ∈ st'.uVis

/-! A call appends its argument to `u_visited` before it recurses, `u_visited` stays duplicate-free and
below `num_u`, so fuel `f` suffices as soon as `num_u + 1 ≤ f + len(u_visited)`.  The bound has to be
carried through the two loops together with `Prov`, which is why all three facts are proved in one induction. -/

theorem exploreInner_total (hg : g.WF)
    (hclos : AltClosed g M R) (f : Nat)
    (ih : ExploreTotal g M R u0 f)
    (v : Nat) :
    ∀ (us : List Nat) (st : Vis), (∀ u ∈ us, u ∈ g.nbrV v) → Prov g M R u0 st → v ∈ st.vVis →
      g.nU + 1 ≤ f + st.uVis.length →
      ∃ st', exploreInner (explore g M f) M v us st = some st' ∧ Prov g M R u0 st' ∧ Post g M st st' ∧
        ∀ u ∈ us, (u, v) ∈ M → u ∈ st'.uVis := by
  intro us
  induction us with
  | nil => intro st _ hp _ _; exact ⟨st, rfl, hp, Post.refl g M st, fun _ h => nomatch h⟩
  | cons u us ihl =>
    intro st hus hp hv hlen
    obtain ⟨hu, hus'⟩ := List.forall_mem_cons.1 hus
    simp only [exploreInner]
    split
    · rename_i hm
      have hedge : v ∈ g.nbrU u := (hg.sym u v).2 hu
      obtain ⟨w, hw, hwv⟩ := hp.right v hv
      have hpre : Pre g M R u0 u st :=
        ⟨(hg.rng u v hedge).1, hclos w v u (hp.left w hw).2.1 hwv hm, Or.inr ⟨v, hv, hm⟩⟩
      obtain ⟨st1, h1, hp1, q1, hu1⟩ := ih u st hp hpre hlen
      rw [h1]
      obtain ⟨st', h2, hp2, q2, hrest⟩ := ihl st1 hus' hp1 (q1.1.2.subset hv)
        (Nat.le_trans hlen (Nat.add_le_add_left q1.1.1.length_le f))
      exact ⟨st', h2, hp2, q1.trans g M q2,
        List.forall_mem_cons.2 ⟨fun _ => q2.1.1.subset hu1, hrest⟩⟩
    · rename_i hm
      obtain ⟨st', h2, hp2, q2, hrest⟩ := ihl st hus' hp hv hlen
      exact ⟨st', h2, hp2, q2, List.forall_mem_cons.2 ⟨fun ham => absurd ham hm, hrest⟩⟩

theorem exploreOuter_total (hg : g.WF)
    (hclos : AltClosed g M R) (f : Nat)
    (ih : ExploreTotal g M R u0 f)
    (u : Nat) :
    ∀ (vs : List Nat) (st : Vis), (∀ v ∈ vs, v ∈ g.nbrU u) → Prov g M R u0 st → u ∈ st.uVis →
      g.nU + 1 ≤ f + st.uVis.length →
      ∃ st', exploreOuter g (explore g M f) M u vs st = some st' ∧ Prov g M R u0 st' ∧ Post g M st st' ∧
        ∀ v ∈ vs, (u, v) ∉ M → v ∈ st'.vVis := by
  intro vs
  induction vs with
  | nil => intro st _ hp _ _; exact ⟨st, rfl, hp, Post.refl g M st, fun _ h => nomatch h⟩
  | cons v vs ihl =>
    intro st hvs hp hu hlen
    obtain ⟨hv, hvs'⟩ := List.forall_mem_cons.1 hvs
    simp only [exploreOuter]
    split
    · split
      · rename_i hvis
        obtain ⟨st', h2, hp2, q2, hrest⟩ := ihl st hvs' hp hu hlen
        exact ⟨st', h2, hp2, q2, List.forall_mem_cons.2 ⟨fun _ => q2.1.2.subset hvis, hrest⟩⟩
      · obtain ⟨st1, h1, hp1, q1, hin⟩ := exploreInner_total g M R u0 hg hclos f ih v (g.nbrV v)
          { st with vVis := st.vVis ++ [v] } (fun _ h => h)
          (hp.push_right g M hu hv) (List.mem_append_right _ (List.mem_singleton_self v)) hlen
        rw [h1]
        have q01 : Post g M st st1 := q1.push_right g M hin
        obtain ⟨st', h2, hp2, q2, hrest⟩ := ihl st1 hvs' hp1 (q01.1.1.subset hu)
          (Nat.le_trans hlen (Nat.add_le_add_left q01.1.1.length_le f))
        exact ⟨st', h2, hp2, q01.trans g M q2, List.forall_mem_cons.2
          ⟨fun _ => q2.1.2.subset (q1.1.2.subset (List.mem_append_right _ (List.mem_singleton_self v))),
            hrest⟩⟩
    · rename_i hm
      obtain ⟨st', h2, hp2, q2, hrest⟩ := ihl st hvs' hp hu hlen
      exact ⟨st', h2, hp2, q2, List.forall_mem_cons.2 ⟨fun hbm => absurd hbm hm, hrest⟩⟩

theorem explore_total (hg : g.WF) (hclos : AltClosed g M R) :
    ∀ f, ExploreTotal g M R u0 f := by
  intro f
  induction f with
  | zero =>
    intro u st hp hpre hlen
    rw [explore]
    split
    · rename_i hu; exact ⟨st, rfl, hp, Post.refl g M st, hu⟩
    · exfalso
      have := nodup_lt_length_le hp.nodup (fun x hx => (hp.left x hx).1)
      omega
  | succ f ih =>
    intro u st hp hpre hlen
    rw [explore]
    split
    · rename_i hu; exact ⟨st, rfl, hp, Post.refl g M st, hu⟩
    · rename_i hu
      obtain ⟨st', h1, hp1, q1, hall⟩ := exploreOuter_total g M R u0 hg hclos f ih u (g.nbrU u)
        { st with uVis := st.uVis ++ [u] } (fun _ h => h) (hp.push_left g M hu hpre) (by simp)
        (by simp; omega)
      exact ⟨st', h1, hp1, q1.push_left g M hall,
        q1.1.1.subset (List.mem_append_right _ (List.mem_singleton_self u))⟩

/-- The one statement the Koenig construction uses: a run from the empty state. -/
theorem explore_start (hg : g.WF) (hclos : AltClosed g M R)
    (hu : u0 < g.nU) (hR : R u0) :
    ∃ st, explore g M g.exploreFuel u0 ⟨[], []⟩ = some st ∧ Prov g M R u0 st ∧
      (∀ u ∈ st.uVis, UDone g M st u) ∧ (∀ v ∈ st.vVis, VDone g M st v) ∧ u0 ∈ st.uVis := by
  obtain ⟨st, h, hp, q, hin⟩ := explore_total g M R u0 hg hclos g.exploreFuel u0 ⟨[], []⟩
    ⟨List.nodup_nil, fun _ h => (nomatch h), fun _ h => (nomatch h)⟩ ⟨hu, hR, Or.inl rfl⟩
    (Nat.le_add_right _ 0)
  exact ⟨st, h, hp, fun u hu => q.2.1 u hu (fun h => nomatch h),
    fun v hv => q.2.2 v hv (fun h => nomatch h), hin⟩

end
end Ptn.C14
