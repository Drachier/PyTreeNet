import Ptn.C14.Koenig
/-! Iteration-order independence of the Koenig part of `minimum_vertex_cover`:
the loop over the start set gives the same pair for every enumeration of the start set, and
`sorted(list(s))` does not depend on the enumeration of `s`. -/
namespace Ptn.C14

theorem insertSorted_perm (x : Nat) (l : List Nat) : (insertSorted x l).Perm (x :: l) := by
  induction l with
  | nil => exact List.Perm.refl _
  | cons y ys ih =>
    simp only [insertSorted]
    split
    · exact List.Perm.refl _
    · exact ((List.Perm.cons y ih).trans (List.Perm.swap x y ys))

theorem pySorted_perm (l : List Nat) : (pySorted l).Perm l := by
  induction l with
  | nil => exact List.Perm.refl _
  | cons x xs ih =>
    show (insertSorted x (pySorted xs)).Perm (x :: xs)
    exact (insertSorted_perm x _).trans (List.Perm.cons x ih)

theorem insertSorted_sorted (x : Nat) (l : List Nat) (h : l.Pairwise (· ≤ ·)) :
    (insertSorted x l).Pairwise (· ≤ ·) := by
  induction l with
  | nil => simp [insertSorted]
  | cons y ys ih =>
    rw [List.pairwise_cons] at h
    simp only [insertSorted]
    split
    · rename_i hxy
      rw [List.pairwise_cons]
      refine ⟨?_, List.pairwise_cons.2 h⟩
      intro b hb
      rcases List.mem_cons.1 hb with rfl | hb
      · exact hxy
      · exact Nat.le_trans hxy (h.1 b hb)
    · rename_i hxy
      rw [List.pairwise_cons]
      refine ⟨?_, ih h.2⟩
      intro b hb
      rcases List.mem_cons.1 ((insertSorted_perm x ys).subset hb) with rfl | hb
      · omega
      · exact h.1 b hb

theorem pySorted_sorted (l : List Nat) : (pySorted l).Pairwise (· ≤ ·) := by
  induction l with
  | nil => simp [pySorted]
  | cons x xs ih => exact insertSorted_sorted x _ ih

/-- `sorted(list(s))` does not depend on the order in which the set `s` is enumerated. -/
theorem sorted_enumeration_independent (s l : List Nat) (hs : s.Pairwise (· < ·)) (hl : l.Perm s) :
    pySorted l = s :=
  List.Perm.eq_of_pairwise (le := fun a b => a ≤ b) (fun _ _ _ _ hab hba => Nat.le_antisymm hab hba)
    (pySorted_sorted l) (hs.imp (fun h => Nat.le_of_lt h)) ((pySorted_perm l).trans hl)

theorem rotate1_perm (l : List Nat) : (rotate1 l).Perm l := by
  cases l with
  | nil => exact List.Perm.refl _
  | cons x xs => exact List.perm_append_comm (l₁ := xs) (l₂ := [x])

theorem oddsFirst_perm (l : List Nat) : (oddsFirst l).Perm l :=
  List.filter_append_perm _ l

theorem policy_perm (k : Nat) (l : List Nat) : (policy k l).Perm l := by
  unfold policy
  split
  · exact List.Perm.refl _
  · exact List.reverse_perm l
  · exact rotate1_perm l
  · exact oddsFirst_perm l
  · exact (rotate1_perm _).trans ((List.reverse_perm _).trans (oddsFirst_perm l))

section
variable (g : Graph) (M : List (Nat × Nat))

/-- The `for u in alist` loop computes the same pair of sets for any two enumerations of the same
    start set (repetitions allowed), including the case that a fuel runs out. -/
theorem coverLoop_congr {us us' cu cv : List Nat} (h : ∀ x, x ∈ us ↔ x ∈ us')
    (hcu : cu.Pairwise (· < ·)) (hcv : cv.Pairwise (· < ·)) :
    coverLoop g M us (cu, cv) = coverLoop g M us' (cu, cv) := by
  cases h1 : coverLoop g M us (cu, cv) with
  | none =>
    obtain ⟨u, hu, hn⟩ := (coverLoop_none_iff g M us _).1 h1
    exact ((coverLoop_none_iff g M us' _).2 ⟨u, (h u).1 hu, hn⟩).symm
  | some r1 =>
    cases h2 : coverLoop g M us' (cu, cv) with
    | none =>
      obtain ⟨u, hu, hn⟩ := (coverLoop_none_iff g M us' _).1 h2
      rw [(coverLoop_none_iff g M us _).2 ⟨u, (h u).2 hu, hn⟩] at h1
      exact absurd h1 (by simp)
    | some r2 =>
      obtain ⟨a1, b1⟩ := r1
      obtain ⟨a2, b2⟩ := r2
      obtain ⟨m1, n1, s1, t1, _⟩ := coverLoop_spec g M _ _ _ _ _ h1
      obtain ⟨m2, n2, s2, t2, _⟩ := coverLoop_spec g M _ _ _ _ _ h2
      -- `ZU`, `ZV` mention the starts only through membership
      have e1 : a1 = a2 := sorted_ext (s1 hcu) (s2 hcu) fun x =>
        (m1 x).trans ((and_congr_right fun _ => not_congr (exists_mem_congr h _)).trans (m2 x).symm)
      have e2 : b1 = b2 := sorted_ext (t1 hcv) (t2 hcv) fun y =>
        (n1 y).trans ((or_congr_right (exists_mem_congr h _)).trans (n2 y).symm)
      rw [e1, e2]

end

/-- A valid enumeration policy: every set is enumerated completely and without repetition. -/
def SetOrder.Valid (o : SetOrder) : Prop :=
  (∀ s, (o.alist s).Perm s) ∧ (∀ s, (o.ucover s).Perm s) ∧ (∀ s, (o.vcover s).Perm s)

theorem SetOrder.asc_valid : SetOrder.asc.Valid :=
  ⟨fun _ => List.Perm.refl _, fun _ => List.Perm.refl _, fun _ => List.Perm.refl _⟩

/-- The cover part for an arbitrary enumeration of the three sets equals the ascending one.
    Hypotheses are only needed at the sets that actually occur: the start set may even be
    enumerated with repetitions, the two result sets are enumerated exactly once each. -/
theorem coverOfOrd_eq (o : SetOrder) (g : Graph) (M : List (Nat × Nat))
    (ha : ∀ x, x ∈ o.alist (freeLeft g M) ↔ x ∈ freeLeft g M)
    (hu : ∀ cu cv, coverOf g M = .ok (cu, cv) → (o.ucover cu).Perm cu)
    (hv : ∀ cu cv, coverOf g M = .ok (cu, cv) → (o.vcover cv).Perm cv) :
    coverOfOrd o g M = coverOf g M := by
  have hloop := coverLoop_congr g M (cu := List.range g.nU) (cv := []) ha
    List.pairwise_lt_range (by simp)
  unfold coverOfOrd
  rw [hloop]
  cases hc : coverLoop g M (freeLeft g M) (List.range g.nU, []) with
  | none => simp [coverOf, hc]
  | some r =>
    obtain ⟨cu, cv⟩ := r
    obtain ⟨_, _, s1, t1, _⟩ := coverLoop_spec g M _ _ _ _ _ hc
    have hsu := s1 List.pairwise_lt_range
    have hsv := t1 (by simp)
    by_cases hlen : cu.length + cv.length = M.length
    · have hok : coverOf g M = .ok (cu, cv) := by simp [coverOf, hc, hlen]
      simp only [hlen, if_true]
      rw [sorted_enumeration_independent _ _ hsu (hu cu cv hok),
        sorted_enumeration_independent _ _ hsv (hv cu cv hok), hok]
    · simp [coverOf, hc, hlen]

end Ptn.C14
