import Ptn.C14.Bfs
import Ptn.C14.Dfs
/-! Termination of Hopcroft-Karp within the fuels of the model:
a BFS that reaches NIL leaves a layered path from a free left vertex; the phase that follows
therefore augments at least once (`phase_spec`), the collected matching grows, and the outer loop
runs at most `num_u + 1` times (`hkLoop_spec`); its exit state carries the closure that the Koenig
construction needs (`final_closure`). -/
namespace Ptn.C14

theorem collect_length_le (mU : Nat → Option Nat) (n : Nat) : (collect mU n).length ≤ n :=
  Nat.le_trans (List.length_filterMap_le _ _) (Nat.le_of_eq List.length_range)

theorem collect_length_succ (mU : Nat → Option Nat) (n : Nat) :
    (collect mU (n + 1)).length = (collect mU n).length + (if mU n = none then 0 else 1) := by
  simp only [collect, List.range_succ, List.filterMap_append, List.length_append]
  cases h : mU n <;> simp [h]

theorem collect_length_lt {mU mU' : Nat → Option Nat} (h : ∀ a, mU a ≠ none → mU' a ≠ none)
    {a : Nat} (h1 : mU a = none) (h2 : mU' a ≠ none) : ∀ n,
    (collect mU n).length ≤ (collect mU' n).length ∧
      (a < n → (collect mU n).length < (collect mU' n).length) := by
  intro n
  induction n with
  | zero => exact ⟨Nat.le_refl _, fun h => absurd h (Nat.not_lt_zero a)⟩
  | succ n ih =>
    rw [collect_length_succ, collect_length_succ]
    have hn : (if mU n = none then 0 else 1) ≤ (if mU' n = none then 0 else 1) := by
      by_cases hm : mU n = none
      · rw [if_pos hm]; exact Nat.zero_le _
      · rw [if_neg hm, if_neg (h n hm)]; exact Nat.le_refl 1
    refine ⟨Nat.add_le_add ih.1 hn, fun han => ?_⟩
    rcases Nat.lt_or_eq_of_le (Nat.le_of_lt_succ han) with hlt | rfl
    · exact Nat.add_lt_add_of_lt_of_le (ih.2 hlt) hn
    · rw [if_pos h1, if_neg h2]; exact Nat.lt_succ_of_le ih.1

section
variable (g : Graph)

/-- One phase (`for u in range(num_u): if free: add_augmenting_path(u)`) never runs out of DFS
    fuel, keeps the matching consistent, keeps matched left vertices matched, and matches a new left
    vertex whenever a layered path starts at a free left vertex. -/
theorem phase_spec (hg : g.WF) : ∀ (us : List Nat) (s : HK), (∀ u ∈ us, u < g.nU) →
    Consistent g s → AllLe g s →
    ∃ s', phase g us s = some s' ∧ Consistent g s' ∧ AllLe g s' ∧
      (∀ a, s.mU a ≠ none → s'.mU a ≠ none) ∧
      ((∃ u, u ∈ us ∧ s.mU u = none ∧ Path g s (some u)) →
        ∃ a, a < g.nU ∧ s.mU a = none ∧ s'.mU a ≠ none) := by
  intro us
  induction us with
  | nil =>
    intro s _ hs hle
    exact ⟨s, rfl, hs, hle, fun _ h => h, by rintro ⟨u, hu, _⟩; simp at hu⟩
  | cons u us ih =>
    intro s hus hs hle
    obtain ⟨hu, hus'⟩ := List.forall_mem_cons.1 hus
    simp only [phase]
    split
    · rename_i hfree
      obtain ⟨r, s1, hd⟩ := dfs_total g g.dfsFuel (some u) s hle (hs.mV_lt hg) hu
        (Nat.le_trans (Nat.le_succ (g.inf + 1)) (Nat.le_add_right g.dfsFuel _))
      rw [hd]
      simp only
      have hfr := dfs_frame g _ _ _ _ _ hd
      have hs1 : Consistent g s1 := hk_augment_preserves g _ u s s1 r hs hfree hd
      obtain ⟨s', hp, hs', hle', hmono', hprog'⟩ := ih s1 hus' hs1 (hfr.allLe g hle)
      refine ⟨s', hp, hs', hle', fun a ha => hmono' a (hfr.mono a ha), ?_⟩
      rintro ⟨w, hw, hwfree, hwp⟩
      cases r with
      | true =>
        exact ⟨u, hu, hfree, hmono' u (dfs_true_matched g _ u s s1 hs hd)⟩
      | false =>
        obtain ⟨hnp, hpp⟩ := dfs_fail g _ _ _ _ hd
        have hw' : w ∈ us := (List.mem_cons.1 hw).resolve_left fun he => hnp (he ▸ hwp)
        obtain ⟨a, ha, ha1, ha2⟩ := hprog' ⟨w, hw', by rw [hpp.mU]; exact hwfree, hpp.path g hwp⟩
        exact ⟨a, ha, by rw [hpp.mU] at ha1; exact ha1, ha2⟩
    · rename_i hmatched
      obtain ⟨s', hp, hs', hle', hmono', hprog'⟩ := ih s hus' hs hle
      refine ⟨s', hp, hs', hle', hmono', ?_⟩
      rintro ⟨w, hw, hwfree, hwp⟩
      have hw' : w ∈ us := (List.mem_cons.1 hw).resolve_left fun he => hmatched (he ▸ hwfree)
      exact hprog' ⟨w, hw', hwfree, hwp⟩

/-- A BFS that reaches NIL leaves a layered path from some free left vertex to NIL. -/
theorem bfs_path (mU mV : Nat → Option Nat) (d : Option Nat → Nat) (hfin : BFinal g mU mV d)
    (hnil : d none < g.inf) :
    ∃ u, u < g.nU ∧ mU u = none ∧ Path g ⟨mU, mV, d⟩ (some u) := by
  -- walk back along the predecessors, one layer per step, down to layer 0
  have key : ∀ (n : Nat) (x : Option Nat), Valid g x → d x = n → d x < g.inf →
      Path g ⟨mU, mV, d⟩ x → ∃ u, u < g.nU ∧ mU u = none ∧ Path g ⟨mU, mV, d⟩ (some u) := by
    intro n
    induction n with
    | zero =>
      intro x hx h0 _ hp
      cases x with
      | none => exact absurd h0 (Nat.ne_of_gt hfin.inv.nilpos)
      | some a => exact ⟨a, hx, hfin.inv.zero a hx h0, hp⟩
    | succ n ih =>
      intro x hx hn hfx hp
      have hpos : 0 < d x := by rw [hn]; exact Nat.succ_pos n
      obtain ⟨a, ha, v, hv, hm, hda⟩ := hfin.inv.pred x hx hpos hfx
      have hda : d (some a) + 1 = d x := hda
      refine ih (some a) ha (Nat.succ.inj (hda.trans hn))
        (Nat.lt_trans (Nat.lt_of_succ_le (Nat.le_of_eq hda)) hfx) (Path.step a v hv ?_ ?_)
      · show d (mV v) = d (some a) + 1
        rw [hm, hda]
      · show Path g ⟨mU, mV, d⟩ (mV v)
        rw [hm]; exact hp
  exact key (d none) none trivial rfl hnil Path.nil

/-- A BFS that reaches NIL is followed by a phase that runs within the DFS fuel, keeps the matching
    consistent and makes it strictly larger. -/
theorem phase_progress (hg : g.WF) (s : HK) (hs : Consistent g s) (d : Option Nat → Nat)
    (hfin : BFinal g s.mU s.mV d) (hnil : d none ≠ g.inf) :
    ∃ s', phase g (List.range g.nU) { s with dist := d } = some s' ∧ Consistent g s' ∧
      (collect s.mU g.nU).length < (collect s'.mU g.nU).length := by
  have hnil' : d none < g.inf := Nat.lt_of_le_of_ne (hfin.inv.le none trivial) hnil
  obtain ⟨u, hu, hfree, hp⟩ := bfs_path g s.mU s.mV d hfin hnil'
  obtain ⟨s1, hph, hs1, _, hmono, hprog⟩ := phase_spec g hg (List.range g.nU)
    { s with dist := d } (fun a ha => List.mem_range.1 ha) (hs.of_eq rfl rfl)
    hfin.inv.le
  obtain ⟨a, ha, ha1, ha2⟩ := hprog ⟨u, List.mem_range.2 hu, hfree, hp⟩
  exact ⟨s1, hph, hs1, (collect_length_lt hmono ha1 ha2 g.nU).2 ha⟩

/-- What `mvc_correct` takes from Hopcroft-Karp: the run returns, with the closure of its last BFS. -/
theorem hkLoop_spec (hg : g.WF) : ∀ (f : Nat) (s : HK), Consistent g s →
    g.nU + 1 ≤ f + (collect s.mU g.nU).length →
    ∃ s', hkLoop g f s = .ok s' ∧ Consistent g s' ∧ BFinal g s'.mU s'.mV s'.dist ∧
      s'.dist none = g.inf := by
  intro f
  induction f with
  | zero => intro s _ h; have := collect_length_le s.mU g.nU; omega
  | succ f ih =>
    intro s hs hf
    simp only [hkLoop]
    obtain ⟨d, hd, hfin⟩ := bfs_spec g s (hs.mV_lt hg)
    rw [hd]
    simp only
    split
    · rename_i hnil
      obtain ⟨s1, hph, hs1, hlt⟩ := phase_progress g hg s hs d hfin hnil
      rw [hph]
      exact ih s1 hs1 (by omega)
    · rename_i hnil
      exact ⟨_, rfl, hs.of_eq rfl rfl, hfin, Classical.not_not.1 hnil⟩

theorem hkRun_spec (hg : g.WF) :
    ∃ s, hkRun g = .ok s ∧ Consistent g s ∧ BFinal g s.mU s.mV s.dist ∧ s.dist none = g.inf :=
  hkLoop_spec g hg _ _ (init_consistent g) (Nat.le_trans (Nat.le_succ _) (Nat.le_add_right _ _))

/-- The closure delivered by the final BFS, phrased for the collected matching. -/
theorem final_closure (hg : g.WF) (s : HK) (hs : Consistent g s)
    (hfin : BFinal g s.mU s.mV s.dist) (hnil : s.dist none = g.inf) :
    let M := collect s.mU g.nU
    let R : Nat → Prop := fun u => u < g.nU ∧ s.dist (some u) < g.inf
    (∀ u, u < g.nU → (∀ v, (u, v) ∉ M) → R u) ∧
    (∀ u v, R u → g.edge u v → ∃ w, (w, v) ∈ M ∧ R w) := by
  intro M R
  constructor
  · intro u hu hnm
    have : s.mU u = none := by
      cases hx : s.mU u with
      | none => rfl
      | some v => exact absurd ((mem_collect _ _ _ _).2 ⟨hu, hx⟩) (hnm v)
    exact ⟨hu, hfin.free_fin g _ _ hu this⟩
  · rintro u v ⟨hu, hfu⟩ huv
    obtain ⟨w, hx, hfw⟩ := hfin.closure g _ _ hnil hu hfu huv
    have hw : w < g.nU := hs.mV_lt hg v w hx
    exact ⟨w, (mem_collect _ _ _ _).2 ⟨hw, hs.bwd v w hx⟩, hw, hfw⟩

end
end Ptn.C14
