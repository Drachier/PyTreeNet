import Ptn.Common.List
import Ptn.C14.Spec
/-! Weak duality for bipartite graphs, independent of any algorithm.  The argument
splits a matching by "left end in `cu`": for a cover `(cu, cv)` the first part injects into `cu` by its
left ends, the rest into `cv` by its right ends. -/
namespace Ptn.C14

def leftIn (cu : List Nat) (M : List (Nat × Nat)) : List (Nat × Nat) :=
  M.filter fun e => decide (e.1 ∈ cu)
def leftOut (cu : List Nat) (M : List (Nat × Nat)) : List (Nat × Nat) :=
  M.filter fun e => !decide (e.1 ∈ cu)

theorem mem_leftIn {cu : List Nat} {M : List (Nat × Nat)} {e : Nat × Nat} :
    e ∈ leftIn cu M ↔ e ∈ M ∧ e.1 ∈ cu := by
  rw [leftIn, List.mem_filter, decide_eq_true_eq]

theorem mem_leftOut {cu : List Nat} {M : List (Nat × Nat)} {e : Nat × Nat} :
    e ∈ leftOut cu M ↔ e ∈ M ∧ e.1 ∉ cu := by
  rw [leftOut, List.mem_filter, Bool.not_eq_true', decide_eq_false_iff_not]

theorem length_leftIn_add (cu : List Nat) (M : List (Nat × Nat)) :
    (leftIn cu M).length + (leftOut cu M).length = M.length :=
  (length_filter_split _ M).symm

theorem IsMatching.split_cover {E : Nat → Nat → Prop} {M : List (Nat × Nat)} {cu cv : List Nat}
    (hM : IsMatching E M) (hC : IsCover E cu cv) :
    ((leftIn cu M).map Prod.fst).Nodup ∧ (leftIn cu M).map Prod.fst ⊆ cu ∧
    ((leftOut cu M).map Prod.snd).Nodup ∧ (leftOut cu M).map Prod.snd ⊆ cv := by
  refine ⟨(List.filter_sublist.map Prod.fst).nodup hM.left, ?_,
    (List.filter_sublist.map Prod.snd).nodup hM.right, ?_⟩
  · intro u hu
    obtain ⟨e, he, rfl⟩ := List.mem_map.1 hu
    exact (mem_leftIn.1 he).2
  · intro v hv
    obtain ⟨e, he, rfl⟩ := List.mem_map.1 hv
    obtain ⟨hmem, hnot⟩ := mem_leftOut.1 he
    exact (hC e.1 e.2 (hM.edges e hmem)).resolve_left hnot

/-- A matching is never larger than a vertex cover. -/
theorem weak_duality (E : Nat → Nat → Prop) (M : List (Nat × Nat)) (cu cv : List Nat)
    (hM : IsMatching E M) (hC : IsCover E cu cv) : M.length ≤ cu.length + cv.length := by
  obtain ⟨hA, hAs, hB, hBs⟩ := hM.split_cover hC
  have h1 := hA.length_le_of_subset hAs
  have h2 := hB.length_le_of_subset hBs
  rw [List.length_map] at h1 h2
  rw [← length_leftIn_add cu M]
  exact Nat.add_le_add h1 h2

end Ptn.C14
