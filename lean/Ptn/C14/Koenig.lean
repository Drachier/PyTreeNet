import Ptn.C14.Explore
import Ptn.C14.Duality
/-! The Koenig construction of `minimum_vertex_cover`: the returned pair touches every edge
(for *every* valid matching), and under the closure delivered by a failed BFS its size is `|M|`. -/
namespace Ptn.C14

theorem mem_setInsert (x y : Nat) (l : List Nat) : y ∈ setInsert x l ↔ y = x ∨ y ∈ l := by
  induction l with
  | nil => simp [setInsert]
  | cons a t ih =>
    simp only [setInsert]
    split
    · simp
    · split
      · rename_i h; subst h; simp
      · simp only [List.mem_cons, ih]
        exact or_left_comm

theorem sorted_setInsert (x : Nat) (l : List Nat) (h : l.Pairwise (· < ·)) :
    (setInsert x l).Pairwise (· < ·) := by
  induction l with
  | nil => simp [setInsert]
  | cons a t ih =>
    rw [List.pairwise_cons] at h
    simp only [setInsert]
    split
    · rename_i hxa
      rw [List.pairwise_cons]
      refine ⟨?_, List.pairwise_cons.2 h⟩
      intro b hb
      rcases List.mem_cons.1 hb with rfl | hb
      · exact hxa
      · exact Nat.lt_trans hxa (h.1 b hb)
    · split
      · exact List.pairwise_cons.2 h
      · rename_i h1 h2
        rw [List.pairwise_cons]
        refine ⟨?_, ih h.2⟩
        intro b hb
        rcases (mem_setInsert x b t).1 hb with rfl | hb
        · omega
        · exact h.1 b hb

theorem mem_foldl_setInsert (l c : List Nat) (y : Nat) :
    y ∈ l.foldl (fun c v => setInsert v c) c ↔ y ∈ c ∨ y ∈ l := by
  induction l generalizing c with
  | nil => simp
  | cons a t ih =>
    simp only [List.foldl_cons, ih, mem_setInsert, List.mem_cons]
    constructor
    · rintro ((h | h) | h) <;> simp [h]
    · rintro (h | h | h) <;> simp [h]

theorem sorted_foldl_setInsert (l c : List Nat) (h : c.Pairwise (· < ·)) :
    (l.foldl (fun c v => setInsert v c) c).Pairwise (· < ·) := by
  induction l generalizing c with
  | nil => exact h
  | cons a t ih => exact ih _ (sorted_setInsert a c h)

theorem IsMatching.right_unique {E : Nat → Nat → Prop} {M : List (Nat × Nat)} (h : IsMatching E M)
    {u v v' : Nat} (h1 : (u, v) ∈ M) (h2 : (u, v') ∈ M) : v = v' := by
  have := inj_on_of_nodup_map Prod.fst h.left _ h1 _ h2 rfl
  exact (Prod.mk.inj this).2

theorem IsMatching.left_unique {E : Nat → Nat → Prop} {M : List (Nat × Nat)} (h : IsMatching E M)
    {u u' v : Nat} (h1 : (u, v) ∈ M) (h2 : (u', v) ∈ M) : u = u' := by
  have := inj_on_of_nodup_map Prod.snd h.right _ h1 _ h2 rfl
  exact (Prod.mk.inj this).1

theorem mem_freeLeft (g : Graph) (M : List (Nat × Nat)) (u : Nat) :
    u ∈ freeLeft g M ↔ u < g.nU ∧ ∀ p ∈ M, p.1 ≠ u := by
  simp [freeLeft]

section
variable (g : Graph) (M : List (Nat × Nat))

/-- Koenig's set `Z`, left and right part: what the explorations from the starts `us` visit.  For the starts
    `freeLeft g M` these are the vertices reachable from a free left vertex along alternating paths
    (`ZU_unmatched_edge`, `ZV_partner`, `Z_prov`, `ZU_origin`, `ZV_origin`). -/
def ZU (us : List Nat) (x : Nat) : Prop :=
  ∃ u ∈ us, ∃ st, explore g M g.exploreFuel u ⟨[], []⟩ = some st ∧ x ∈ st.uVis
def ZV (us : List Nat) (y : Nat) : Prop :=
  ∃ u ∈ us, ∃ st, explore g M g.exploreFuel u ⟨[], []⟩ = some st ∧ y ∈ st.vVis

/-- The starts `u :: us`, once the exploration from `u` is known to return `st`. -/
theorem exists_start_cons {u : Nat} {us : List Nat} {st : Vis}
    (hst : explore g M g.exploreFuel u ⟨[], []⟩ = some st) (P : Vis → Prop) :
    (∃ a ∈ u :: us, ∃ s, explore g M g.exploreFuel a ⟨[], []⟩ = some s ∧ P s) ↔
      P st ∨ ∃ a ∈ us, ∃ s, explore g M g.exploreFuel a ⟨[], []⟩ = some s ∧ P s := by
  constructor
  · rintro ⟨a, ha, s, hs, hp⟩
    rcases List.mem_cons.1 ha with rfl | ha
    · rw [hst] at hs; cases hs; exact Or.inl hp
    · exact Or.inr ⟨a, ha, s, hs, hp⟩
  · rintro (hp | ⟨a, ha, r⟩)
    · exact ⟨u, List.mem_cons_self .., st, hst, hp⟩
    · exact ⟨a, List.mem_cons_of_mem _ ha, r⟩

theorem coverLoop_spec : ∀ (us cu cv cu' cv' : List Nat),
    coverLoop g M us (cu, cv) = some (cu', cv') →
    (∀ x, x ∈ cu' ↔ x ∈ cu ∧ ¬ ZU g M us x) ∧ (∀ y, y ∈ cv' ↔ y ∈ cv ∨ ZV g M us y) ∧
    (cu.Pairwise (· < ·) → cu'.Pairwise (· < ·)) ∧ (cv.Pairwise (· < ·) → cv'.Pairwise (· < ·)) ∧
    (∀ u ∈ us, ∃ st, explore g M g.exploreFuel u ⟨[], []⟩ = some st) := by
  intro us
  induction us with
  | nil =>
    intro cu cv cu' cv' h
    simp only [coverLoop, Option.some.injEq, Prod.mk.injEq] at h
    obtain ⟨rfl, rfl⟩ := h
    simp [ZU, ZV]
  | cons u us ih =>
    intro cu cv cu' cv' h
    simp only [coverLoop] at h
    split at h
    · exact nomatch h
    · rename_i st hst
      obtain ⟨h1, h2, h3, h4, h5⟩ := ih _ _ _ _ h
      have hZU : ∀ x, ZU g M (u :: us) x ↔ x ∈ st.uVis ∨ ZU g M us x :=
        fun x => exists_start_cons g M hst (fun s => x ∈ s.uVis)
      have hZV : ∀ y, ZV g M (u :: us) y ↔ y ∈ st.vVis ∨ ZV g M us y :=
        fun y => exists_start_cons g M hst (fun s => y ∈ s.vVis)
      refine ⟨?_, ?_, ?_, ?_, List.forall_mem_cons.2 ⟨⟨st, hst⟩, h5⟩⟩
      · intro x
        rw [h1, hZU]
        simp only [List.mem_filter, List.contains_eq_mem, Bool.not_eq_eq_eq_not, Bool.not_true,
          decide_eq_false_iff_not, not_or]
        exact and_assoc
      · intro y
        rw [h2, hZV, mem_foldl_setInsert]
        exact or_assoc
      · intro hnd
        exact h3 (hnd.sublist List.filter_sublist)
      · intro hs
        exact h4 (sorted_foldl_setInsert _ _ hs)

theorem coverLoop_none_iff : ∀ (us : List Nat) (c : List Nat × List Nat),
    coverLoop g M us c = none ↔ ∃ u ∈ us, explore g M g.exploreFuel u ⟨[], []⟩ = none := by
  intro us
  induction us with
  | nil => intro c; simp [coverLoop]
  | cons u us ih =>
    intro c
    obtain ⟨cu, cv⟩ := c
    simp only [coverLoop]
    cases hst : explore g M g.exploreFuel u ⟨[], []⟩ with
    | none => simp [hst]
    | some st =>
      simp only [ih, List.mem_cons, exists_eq_or_imp, hst]
      simp

theorem coverLoop_total (hg : g.WF) (us : List Nat) (c : List Nat × List Nat)
    (hus : ∀ u ∈ us, u < g.nU) : ∃ c', coverLoop g M us c = some c' := by
  cases h : coverLoop g M us c with
  | some c' => exact ⟨c', rfl⟩
  | none =>
    obtain ⟨u, hu, hn⟩ := (coverLoop_none_iff g M us c).1 h
    obtain ⟨st, hst, _⟩ := explore_start g M (fun _ => True) u hg (fun _ _ _ _ _ _ => trivial)
      (hus u hu) trivial
    rw [hst] at hn
    exact nomatch hn

end

section
variable (g : Graph) (M : List (Nat × Nat)) (hg : g.WF) (hM : IsMatching g.edge M)
include hg

theorem start_run (R : Nat → Prop) (hfree : ∀ u ∈ freeLeft g M, R u)
    (hclos : AltClosed g M R) {a : Nat} (ha : a ∈ freeLeft g M)
    {st : Vis} (hst : explore g M g.exploreFuel a ⟨[], []⟩ = some st) :
    Prov g M R a st ∧ (∀ u ∈ st.uVis, UDone g M st u) ∧ (∀ v ∈ st.vVis, VDone g M st v) ∧
      a ∈ st.uVis := by
  obtain ⟨st', hst', r⟩ := explore_start g M R a hg hclos ((mem_freeLeft g M a).1 ha).1 (hfree a ha)
  rw [hst] at hst'
  cases hst'
  exact r

theorem start_run_true {a : Nat} (ha : a ∈ freeLeft g M) {st : Vis}
    (hst : explore g M g.exploreFuel a ⟨[], []⟩ = some st) :
    Prov g M (fun _ => True) a st ∧ (∀ u ∈ st.uVis, UDone g M st u) ∧
      (∀ v ∈ st.vVis, VDone g M st v) ∧ a ∈ st.uVis :=
  start_run g M hg (fun _ => True) (fun _ _ => trivial) (fun _ _ _ _ _ _ => trivial) ha hst

theorem ZU_unmatched_edge {u v : Nat} (hu : ZU g M (freeLeft g M) u) (hv : v ∈ g.nbrU u)
    (hm : (u, v) ∉ M) : ZV g M (freeLeft g M) v := by
  obtain ⟨a, ha, st, hst, hx⟩ := hu
  exact ⟨a, ha, st, hst, (start_run_true g M hg ha hst).2.1 u hx v hv hm⟩

include hM in
theorem ZV_partner {u v : Nat} (hv : ZV g M (freeLeft g M) v) (hm : (u, v) ∈ M) :
    ZU g M (freeLeft g M) u := by
  obtain ⟨a, ha, st, hst, hy⟩ := hv
  exact ⟨a, ha, st, hst,
    (start_run_true g M hg ha hst).2.2.1 v hy u ((hg.sym u v).1 (hM.edges (u, v) hm)) hm⟩

theorem Z_prov (R : Nat → Prop) (hfree : ∀ u ∈ freeLeft g M, R u)
    (hclos : AltClosed g M R) {u : Nat}
    (hu : ZU g M (freeLeft g M) u) : R u := by
  obtain ⟨a, ha, st, hst, hx⟩ := hu
  exact ((start_run g M hg R hfree hclos ha hst).1.left u hx).2.1

theorem ZU_origin {u : Nat} (hu : ZU g M (freeLeft g M) u) :
    u ∈ freeLeft g M ∨ ∃ v, ZV g M (freeLeft g M) v ∧ (u, v) ∈ M := by
  obtain ⟨a, ha, st, hst, hx⟩ := hu
  rcases ((start_run_true g M hg ha hst).1.left u hx).2.2 with rfl | ⟨v, hv, hm⟩
  · exact Or.inl ha
  · exact Or.inr ⟨v, ⟨a, ha, st, hst, hv⟩, hm⟩

theorem ZV_origin {v : Nat} (hv : ZV g M (freeLeft g M) v) :
    ∃ u, ZU g M (freeLeft g M) u ∧ v ∈ g.nbrU u := by
  obtain ⟨a, ha, st, hst, hy⟩ := hv
  obtain ⟨u, hu, huv⟩ := (start_run_true g M hg ha hst).1.right v hy
  exact ⟨u, ⟨a, ha, st, hst, hu⟩, huv⟩

include hM in
theorem ZU_matched_edge {u v : Nat} (hu : ZU g M (freeLeft g M) u) (hm : (u, v) ∈ M) :
    ZV g M (freeLeft g M) v := by
  rcases ZU_origin g M hg hu with hf | ⟨v', hv', hm'⟩
  · exact absurd rfl (((mem_freeLeft g M u).1 hf).2 (u, v) hm)
  · rw [hM.right_unique hm hm']; exact hv'

include hM in
/-- A cover: an edge `(u, v)` with `u` reached has `v` reached (over the edge itself if it is unmatched, else
    because `u` was reached from `v`); one with `u` not reached has `u` in `cu`. -/
theorem coverLoop_cover {cu cv : List Nat}
    (h : coverLoop g M (freeLeft g M) (List.range g.nU, []) = some (cu, cv)) :
    (∀ x, x ∈ cu ↔ x < g.nU ∧ ¬ ZU g M (freeLeft g M) x) ∧
    (∀ y, y ∈ cv ↔ ZV g M (freeLeft g M) y) ∧
    cu.Pairwise (· < ·) ∧ cv.Pairwise (· < ·) ∧
    (∀ u ∈ freeLeft g M, ZU g M (freeLeft g M) u) ∧
    IsCover g.edge cu cv ∧ (∀ u ∈ cu, u < g.nU) ∧ (∀ v ∈ cv, v < g.nV) := by
  obtain ⟨h1, h2, h3, h4, h5⟩ := coverLoop_spec g M _ _ _ _ _ h
  have hcu : ∀ x, x ∈ cu ↔ x < g.nU ∧ ¬ ZU g M (freeLeft g M) x := by
    intro x; rw [h1]; simp
  have hcv : ∀ y, y ∈ cv ↔ ZV g M (freeLeft g M) y := by
    intro y; rw [h2]; simp
  have hfree : ∀ u ∈ freeLeft g M, ZU g M (freeLeft g M) u := by
    intro u hu
    obtain ⟨st, hst⟩ := h5 u hu
    exact ⟨u, hu, st, hst, (start_run_true g M hg hu hst).2.2.2⟩
  refine ⟨hcu, hcv, h3 List.pairwise_lt_range, h4 (by simp), hfree, ?_, ?_, ?_⟩
  · intro u v huv
    have huv' : v ∈ g.nbrU u := huv
    by_cases hz : ZU g M (freeLeft g M) u
    · right
      rw [hcv]
      by_cases hm : (u, v) ∈ M
      · exact ZU_matched_edge g M hg hM hz hm
      · exact ZU_unmatched_edge g M hg hz huv' hm
    · left
      rw [hcu]
      exact ⟨(hg.rng u v huv').1, hz⟩
  · intro u hu; exact ((hcu u).1 hu).1
  · intro v hv
    obtain ⟨u, _, huv⟩ := ZV_origin g M hg ((hcv v).1 hv)
    exact (hg.rng u v huv).2

include hM in
/-- Under the closure conditions the cover has exactly `|M|` elements. -/
theorem coverLoop_size {cu cv : List Nat}
    (h : coverLoop g M (freeLeft g M) (List.range g.nU, []) = some (cu, cv))
    (R : Nat → Prop) (hfreeR : ∀ u ∈ freeLeft g M, R u)
    (hclos1 : ∀ u v, R u → v ∈ g.nbrU u → ∃ w, (w, v) ∈ M)
    (hclos2 : AltClosed g M R) :
    cu.length + cv.length = M.length := by
  obtain ⟨hcu, hcv, hndu, hsv, hfree, hC, _, _⟩ := coverLoop_cover g M hg hM h
  obtain ⟨hA, hAs, hB, hBs⟩ := hM.split_cover hC
  -- every cover vertex is the end, on its side of the split, of a matching edge
  have hcuA : cu ⊆ (leftIn cu M).map Prod.fst := by
    intro x hx
    have hx' := (hcu x).1 hx
    have hnf : x ∉ freeLeft g M := fun hf => hx'.2 (hfree x hf)
    rw [mem_freeLeft] at hnf
    have : ∃ q ∈ M, q.1 = x := by
      apply Classical.byContradiction
      intro hne
      exact hnf ⟨hx'.1, fun q hq hq1 => hne ⟨q, hq, hq1⟩⟩
    obtain ⟨q, hq, hq1⟩ := this
    exact List.mem_map.2 ⟨q, mem_leftIn.2 ⟨hq, hq1 ▸ hx⟩, hq1⟩
  have hcvB : cv ⊆ (leftOut cu M).map Prod.snd := by
    intro y hy
    have hzy := (hcv y).1 hy
    obtain ⟨u, hzu, huy⟩ := ZV_origin g M hg hzy
    obtain ⟨w, hw⟩ := hclos1 u y (Z_prov g M hg R hfreeR hclos2 hzu) huy
    have hzw : ZU g M (freeLeft g M) w := ZV_partner g M hg hM hzy hw
    exact List.mem_map.2 ⟨(w, y), mem_leftOut.2 ⟨hw, fun hc => ((hcu w).1 hc).2 hzw⟩, rfl⟩
  have a1 := hA.length_le_of_subset hAs
  have a2 := (nodup_of_sorted hndu).length_le_of_subset hcuA
  have b1 := hB.length_le_of_subset hBs
  have b2 := (nodup_of_sorted hsv).length_le_of_subset hcvB
  have hlen := length_leftIn_add cu M
  rw [List.length_map] at a1 a2 b1 b2
  omega

end

theorem coverOf_ok {g : Graph} {M : List (Nat × Nat)} {cu cv : List Nat}
    (h : coverOf g M = .ok (cu, cv)) :
    coverLoop g M (freeLeft g M) (List.range g.nU, []) = some (cu, cv) ∧
      cu.length + cv.length = M.length := by
  unfold coverOf at h
  split at h
  · exact nomatch h
  · rename_i cu0 cv0 hloop
    split at h
    · rename_i hlen
      simp only [Except.ok.injEq, Prod.mk.injEq] at h
      obtain ⟨rfl, rfl⟩ := h
      exact ⟨hloop, hlen⟩
    · exact nomatch h

theorem minimumVertexCover_ok {g : Graph} {M : List (Nat × Nat)} {cu cv : List Nat}
    (h : minimumVertexCover g = .ok (M, cu, cv)) :
    hopcroftKarp g = .ok M ∧ coverOf g M = .ok (cu, cv) := by
  unfold minimumVertexCover at h
  split at h
  · exact nomatch h
  · rename_i M0 hM0
    split at h
    · exact nomatch h
    · rename_i c hc
      simp only [Except.ok.injEq, Prod.mk.injEq] at h
      obtain ⟨rfl, rfl, rfl⟩ := h
      exact ⟨hM0, hc⟩

end Ptn.C14
