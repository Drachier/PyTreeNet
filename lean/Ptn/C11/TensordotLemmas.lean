import Mathlib.Algebra.BigOperators.Group.Finset.Basic
import Mathlib.Algebra.BigOperators.Ring.Finset
import Ptn.C11.Tensordot
import Ptn.C11.ValueLemmas
import Ptn.Common.Einsum
/-! Helper lemmas for `arrTensordot` (`Tensordot.lean`): the nested sum over multi-indices is the flat sum over
C-order positions, the axis lists `numpy.tensordot` builds are bipartitions, closed form of `arrTensordot`, entries
of a transposed array at an arbitrary valid multi-index. -/
namespace Ptn.C11

open Finset
open Ptn.Ein (sumR sumR_eq)

set_option linter.unusedSectionVars false
variable {α : Type} [CommSemiring α]

theorem sum_range_mul_divmod (d P : ℕ) (g : ℕ → ℕ → α) :
    ∑ l ∈ range (d * P), g (l / P) (l % P) = ∑ i ∈ range d, ∑ r ∈ range P, g i r := by
  induction d with
  | zero => simp
  | succ d ih =>
    rw [Nat.succ_mul, sum_range_add, ih, sum_range_succ]
    congr 1
    apply sum_congr rfl
    intro r hr
    rw [mul_add_div_of_lt (mem_range.mp hr), mul_add_mod_of_lt (mem_range.mp hr)]

/-- the nested sum over all multi-indices of a shape is the sum over all flat C-order positions -/
theorem sumIdx_eq_sum_range : ∀ (ds : List Nat) (f : List Nat → α),
    sumIdx ds f = ∑ l ∈ range (prod ds), f (unravel ds l)
  | [], f => by simp [sumIdx, prod, unravel]
  | d :: ds, f => by
    simp only [sumIdx, sumR_eq, prod_cons, unravel]
    rw [sum_range_mul_divmod d (prod ds) (fun i r => f (i :: unravel ds r))]
    apply sum_congr rfl
    intro i _
    exact sumIdx_eq_sum_range ds (fun is => f (i :: is))

theorem sumIdx_congr : ∀ (ds : List Nat) (f g : List Nat → α),
    (∀ ks, ValidIdx ds ks → f ks = g ks) → sumIdx ds f = sumIdx ds g
  | [], f, g, h => h [] (by simp [ValidIdx])
  | d :: ds, f, g, h => by
    simp only [sumIdx, sumR_eq]
    apply sum_congr rfl
    intro i hi
    exact sumIdx_congr ds _ _ (fun ks hks => h (i :: ks) ⟨mem_range.mp hi, hks⟩)

theorem mem_notIn (n : Nat) (axes : List Nat) (x : Nat) : x ∈ notIn n axes ↔ x < n ∧ x ∉ axes := by
  simp [notIn]

theorem bipartition_notIn_left (sh axes : List Nat) (hnd : axes.Nodup) (hlt : ∀ x ∈ axes, x < sh.length) :
    Bipartition sh (notIn sh.length axes) axes := by
  unfold Bipartition
  apply (List.perm_ext_iff_of_nodup ?_ List.nodup_range).2
  · intro x
    simp only [List.mem_append, mem_notIn, List.mem_range]
    constructor
    · rintro (h | h)
      · exact h.1
      · exact hlt x h
    · intro h
      by_cases hx : x ∈ axes
      · exact Or.inr hx
      · exact Or.inl ⟨h, hx⟩
  · rw [List.nodup_append]
    refine ⟨List.Nodup.filter _ List.nodup_range, hnd, ?_⟩
    intro x hx y hy hxy
    subst hxy
    exact ((mem_notIn _ _ _).1 hx).2 hy

theorem bipartition_notIn_right (sh axes : List Nat) (hnd : axes.Nodup) (hlt : ∀ x ∈ axes, x < sh.length) :
    Bipartition sh axes (notIn sh.length axes) := by
  have h := bipartition_notIn_left sh axes hnd hlt
  unfold Bipartition at h ⊢
  exact List.perm_append_comm.trans h

theorem transposeBy_get_unpermute (A At : Arr α) (a b : List Nat) (h : Bipartition A.shape a b)
    (ht : A.transposeBy a b = some At) (idx' : List Nat)
    (hv : ValidIdx (a.map (dimAt A.shape) ++ b.map (dimAt A.shape)) idx') :
    At.get idx' = A.get (unpermute (a ++ b) idx') := by
  rw [transposeBy_some A a b h] at ht
  injection ht with ht
  subst ht
  simp only [Arr.get]
  rw [unravel_ravel _ _ hv]

theorem transposeBy_shape (A At : Arr α) (a b : List Nat) (h : Bipartition A.shape a b)
    (ht : A.transposeBy a b = some At) :
    At.shape = a.map (dimAt A.shape) ++ b.map (dimAt A.shape) := by
  rw [transposeBy_some A a b h] at ht
  injection ht with ht
  subst ht
  rfl

theorem arrTensordot_some (a b : Arr α) (ia ib : List Nat)
    (hia : ia.Nodup) (hib : ib.Nodup)
    (hla : ∀ x ∈ ia, x < a.shape.length) (hlb : ∀ x ∈ ib, x < b.shape.length)
    (hd : ia.map (dimAt a.shape) = ib.map (dimAt b.shape)) :
    let na := notIn a.shape.length ia
    let nb := notIn b.shape.length ib
    let da := na.map (dimAt a.shape)
    let dk := ia.map (dimAt a.shape)
    let db := nb.map (dimAt b.shape)
    ∃ At Bt, a.transposeBy na ia = some At ∧ b.transposeBy ib nb = some Bt ∧
      arrTensordot a b ia ib = some ((matmul (prod da) (prod dk) (prod db)
        (At.reshape [prod da, prod dk]) (Bt.reshape [prod dk, prod db])).reshape (da ++ db)) := by
  dsimp only
  have hA := bipartition_notIn_left a.shape ia hia hla
  have hB := bipartition_notIn_right b.shape ib hib hlb
  have hTa := transposeBy_some a _ _ hA
  have hTb := transposeBy_some b _ _ hB
  refine ⟨_, _, hTa, hTb, ?_⟩
  have hlen : ia.length = ib.length := by
    have := congrArg List.length hd
    simpa using this
  have hra : ∀ x ∈ notIn a.shape.length ia, x < a.shape.length := fun x hx => ((mem_notIn _ _ _).1 hx).1
  have hrb : ∀ x ∈ notIn b.shape.length ib, x < b.shape.length := fun x hx => ((mem_notIn _ _ _).1 hx).1
  unfold arrTensordot
  rw [dimsOf_of_lt a.shape ia hla, dimsOf_of_lt b.shape ib hlb]
  simp only [hlen, hd, ne_eq, not_true_eq_false, if_false]
  rw [hTa, hTb, dimsOf_of_lt a.shape _ hra, dimsOf_of_lt b.shape _ hrb]
  simp only [hd]

theorem matmul_reshape_get (m k n : ℕ) (A B : Arr α) (s1 s2 i1 i2 : List Nat)
    (h1 : ValidIdx s1 i1) (h2 : ValidIdx s2 i2) (hn : n = prod s2) :
    ((matmul m k n A B).reshape (s1 ++ s2)).get (i1 ++ i2) =
      sumR k (fun l => A.get [ravel s1 i1, l] * B.get [l, ravel s2 i2]) := by
  subst hn
  have hJ := ravel_lt s2 i2 h2
  show sumR k (fun l => A.get [ravel (s1 ++ s2) (i1 ++ i2) / prod s2, l] *
    B.get [l, ravel (s1 ++ s2) (i1 ++ i2) % prod s2]) = _
  rw [ravel_append s1 i1 s2 i2 h1, mul_add_div_of_lt hJ, mul_add_mod_of_lt hJ]

theorem arrTensordot_get (a b : Arr α) (ia ib : List Nat)
    (hia : ia.Nodup) (hib : ib.Nodup)
    (hla : ∀ x ∈ ia, x < a.shape.length) (hlb : ∀ x ∈ ib, x < b.shape.length)
    (hd : ia.map (dimAt a.shape) = ib.map (dimAt b.shape)) :
    ∃ C, arrTensordot a b ia ib = some C ∧
      C.shape = (notIn a.shape.length ia).map (dimAt a.shape) ++ (notIn b.shape.length ib).map (dimAt b.shape) ∧
      ∀ is js, ValidIdx ((notIn a.shape.length ia).map (dimAt a.shape)) is →
        ValidIdx ((notIn b.shape.length ib).map (dimAt b.shape)) js →
        C.get (is ++ js) = sumIdx (ia.map (dimAt a.shape)) (fun ks =>
          a.get (unpermute (notIn a.shape.length ia ++ ia) (is ++ ks)) *
          b.get (unpermute (ib ++ notIn b.shape.length ib) (ks ++ js))) := by
  obtain ⟨At, Bt, hTa, hTb, hC⟩ := arrTensordot_some a b ia ib hia hib hla hlb hd
  have hA := bipartition_notIn_left a.shape ia hia hla
  have hB := bipartition_notIn_right b.shape ib hib hlb
  have hsA := transposeBy_shape a At _ _ hA hTa
  have hsB := transposeBy_shape b Bt _ _ hB hTb
  refine ⟨_, hC, rfl, ?_⟩
  intro is js his hjs
  rw [matmul_reshape_get _ _ _ _ _ _ _ is js his hjs rfl, sumR_eq, sumIdx_eq_sum_range]
  have key : ∀ ks, ValidIdx (ia.map (dimAt a.shape)) ks →
      (At.reshape [prod ((notIn a.shape.length ia).map (dimAt a.shape)), prod (ia.map (dimAt a.shape))]).get
          [ravel ((notIn a.shape.length ia).map (dimAt a.shape)) is, ravel (ia.map (dimAt a.shape)) ks] *
        (Bt.reshape [prod (ia.map (dimAt a.shape)), prod ((notIn b.shape.length ib).map (dimAt b.shape))]).get
          [ravel (ia.map (dimAt a.shape)) ks, ravel ((notIn b.shape.length ib).map (dimAt b.shape)) js] =
      a.get (unpermute (notIn a.shape.length ia ++ ia) (is ++ ks)) *
        b.get (unpermute (ib ++ notIn b.shape.length ib) (ks ++ js)) := by
    intro ks hks
    rw [matricize_get At _ _ is ks hsA his,
      matricize_get Bt _ _ ks js (by rw [hsB, hd]) hks,
      transposeBy_get_unpermute a At _ _ hA hTa _ (validIdx_append _ _ _ _ his hks),
      transposeBy_get_unpermute b Bt _ _ hB hTb _ (by rw [← hd]; exact validIdx_append _ _ _ _ hks hjs)]
  apply sum_congr rfl
  intro l hl
  have hl' := mem_range.mp hl
  have := key _ (valid_unravel _ l hl')
  rw [ravel_unravel _ l hl'] at this
  exact this

theorem transposeBy_some_bipartition (A At : Arr α) (x y : List Nat) (h : A.transposeBy x y = some At) :
    Bipartition A.shape x y := by
  unfold Arr.transposeBy at h
  split at h
  · simp at h
  · rename_i sh' hs
    exact (transpose_some_iff A.shape x y).1 ⟨sh', hs⟩

end Ptn.C11
