import Mathlib.Algebra.BigOperators.Group.Finset.Basic
import Mathlib.Algebra.BigOperators.Ring.Finset
import Ptn.C11.Value
import Ptn.C11.Lemmas
/-! Helper lemmas for the value-level model of C11: row-major `ravel` / `unravel` are mutually
inverse, `ravel` of a concatenated multi-index, entries of a transposed / matricised / reshaped /
padded array, and the reconstruction sum. -/
namespace Ptn.C11

theorem prod_cons (d : Nat) (ds : List Nat) : prod (d :: ds) = d * prod ds := rfl

theorem ValidIdx.ind {P : ∀ shape idx, ValidIdx shape idx → Prop} (nil : P [] [] trivial)
    (cons : ∀ d ds i is (hi : i < d) (hv : ValidIdx ds is), P ds is hv → P (d :: ds) (i :: is) ⟨hi, hv⟩) :
    ∀ shape idx h, P shape idx h
  | [], [], _ => nil
  | [], _ :: _, h => False.elim h
  | _ :: _, [], h => False.elim h
  | d :: ds, i :: is, h => cons d ds i is h.1 h.2 (ValidIdx.ind nil cons ds is h.2)

theorem ravel_lt (shape idx : List Nat) (h : ValidIdx shape idx) : ravel shape idx < prod shape := by
  induction shape, idx, h using ValidIdx.ind with
  | nil => exact Nat.zero_lt_one
  | cons d ds i is hi _ ih =>
    calc i * prod ds + ravel ds is < i * prod ds + prod ds := Nat.add_lt_add_left ih _
      _ = (i + 1) * prod ds := (Nat.succ_mul _ _).symm
      _ ≤ d * prod ds := Nat.mul_le_mul_right _ hi

theorem unravel_ravel (shape idx : List Nat) (h : ValidIdx shape idx) :
    unravel shape (ravel shape idx) = idx := by
  induction shape, idx, h using ValidIdx.ind with
  | nil => rfl
  | cons d ds i is _ hv ih =>
    have hr := ravel_lt ds is hv
    show (i * prod ds + ravel ds is) / prod ds ::
        unravel ds ((i * prod ds + ravel ds is) % prod ds) = i :: is
    rw [mul_add_div_of_lt hr, mul_add_mod_of_lt hr, ih]

theorem valid_unravel : ∀ (shape : List Nat) (k : Nat), k < prod shape →
    ValidIdx shape (unravel shape k)
  | [], _, _ => by simp [unravel, ValidIdx]
  | d :: ds, k, h => by
    rw [prod_cons] at h
    have hs : 0 < prod ds := Nat.pos_of_lt_mul_left h
    show k / prod ds < d ∧ ValidIdx ds (unravel ds (k % prod ds))
    refine ⟨?_, valid_unravel ds _ (Nat.mod_lt _ hs)⟩
    exact Nat.div_lt_of_lt_mul (by rw [Nat.mul_comm]; exact h)

theorem ravel_unravel : ∀ (shape : List Nat) (k : Nat), k < prod shape →
    ravel shape (unravel shape k) = k
  | [], k, h => by
    simp [prod] at h
    simp [ravel, h]
  | d :: ds, k, h => by
    rw [prod_cons] at h
    have hs : 0 < prod ds := Nat.pos_of_lt_mul_left h
    show k / prod ds * prod ds + ravel ds (unravel ds (k % prod ds)) = k
    rw [ravel_unravel ds _ (Nat.mod_lt _ hs)]
    exact Nat.div_add_mod' k (prod ds)

theorem validIdx_length (shape idx : List Nat) (h : ValidIdx shape idx) : idx.length = shape.length := by
  induction shape, idx, h using ValidIdx.ind with
  | nil => rfl
  | cons _ _ _ _ _ _ ih => exact congrArg (· + 1) ih

theorem validIdx_append (s1 i1 s2 i2 : List Nat) (h1 : ValidIdx s1 i1) (h2 : ValidIdx s2 i2) :
    ValidIdx (s1 ++ s2) (i1 ++ i2) := by
  induction s1, i1, h1 using ValidIdx.ind with
  | nil => exact h2
  | cons _ _ _ _ hi _ ih => exact ⟨hi, ih⟩

theorem ravel_append (s1 i1 s2 i2 : List Nat) (h : ValidIdx s1 i1) :
    ravel (s1 ++ s2) (i1 ++ i2) = ravel s1 i1 * prod s2 + ravel s2 i2 := by
  induction s1, i1, h using ValidIdx.ind with
  | nil =>
    show ravel s2 i2 = 0 * prod s2 + ravel s2 i2
    rw [Nat.zero_mul, Nat.zero_add]
  | cons d ds i is _ _ ih =>
    show i * prod (ds ++ s2) + ravel (ds ++ s2) (is ++ i2) =
      (i * prod ds + ravel ds is) * prod s2 + ravel s2 i2
    rw [ih, prod_append, Nat.add_mul, Nat.mul_assoc, Nat.add_assoc]

theorem ravel_snoc (s i : List Nat) (k l : Nat) (h : ValidIdx s i) :
    ravel (s ++ [k]) (i ++ [l]) = ravel s i * k + l := by
  rw [ravel_append s i [k] [l] h]
  show ravel s i * (k * 1) + (l * 1 + 0) = _
  rw [Nat.mul_one, Nat.mul_one, Nat.add_zero]

theorem ravel_pair (m n i j : Nat) : ravel [m, n] [i, j] = i * n + j := by
  show i * (n * 1) + (j * 1 + 0) = i * n + j
  rw [Nat.mul_one, Nat.mul_one, Nat.add_zero]

theorem validIdx_single (k l : Nat) : ValidIdx [k] [l] ↔ l < k := by simp [ValidIdx]

theorem validIdx_dimAt (shape idx : List Nat) (h : ValidIdx shape idx) : ∀ a, a < shape.length →
    dimAt idx a < dimAt shape a := by
  induction shape, idx, h using ValidIdx.ind with
  | nil => exact fun a ha => absurd ha (Nat.not_lt_zero a)
  | cons d ds i is hi _ ih =>
    intro a ha
    cases a with
    | zero => exact hi
    | succ a => exact ih a (Nat.lt_of_succ_lt_succ ha)

theorem validIdx_map_iff {β : Type} (d g : β → Nat) :
    ∀ xs : List β, ValidIdx (xs.map d) (xs.map g) ↔ ∀ x ∈ xs, g x < d x
  | [] => by simp [ValidIdx]
  | x :: xs => by
    simp only [List.map_cons, ValidIdx, List.forall_mem_cons, validIdx_map_iff d g xs]

theorem unpermute_map_fn (axes : List Nat) (n : Nat) (hp : axes.Perm (List.range n)) (g : Nat → Nat) :
    unpermute axes (axes.map g) = (List.range n).map g := by
  have hlen := perm_range_length hp
  apply List.ext_getElem
  · simp only [unpermute, List.length_map, List.length_range, hlen]
  · intro i h1 h2
    have hi : i < n := by simpa using h2
    have hj : axes.idxOf i < axes.length :=
      List.idxOf_lt_length_of_mem (hp.mem_iff.mpr (List.mem_range.2 hi))
    simp only [unpermute, List.getElem_map, List.getElem_range]
    rw [List.getD_eq_getElem?_getD, List.getElem?_eq_getElem (by simpa using hj)]
    simp only [List.getElem_map, List.getElem_idxOf, Option.getD_some]

theorem unpermute_map (axes idx : List Nat) (n : Nat) (hp : axes.Perm (List.range n))
    (hl : idx.length = n) : unpermute axes (axes.map (dimAt idx)) = idx := by
  rw [unpermute_map_fn axes n hp, ← hl, map_dimAt_range]

open Finset

variable {α : Type}

theorem transposeBy_some (A : Arr α) (a b : List Nat) (h : Bipartition A.shape a b) :
    A.transposeBy a b = some ⟨a.map (dimAt A.shape) ++ b.map (dimAt A.shape),
      fun k => A.data (ravel A.shape (unpermute (a ++ b)
        (unravel (a.map (dimAt A.shape) ++ b.map (dimAt A.shape)) k)))⟩ := by
  unfold Arr.transposeBy
  rw [transpose_ok A.shape a b h]

theorem transposeBy_get (A At : Arr α) (a b : List Nat) (h : Bipartition A.shape a b)
    (ht : A.transposeBy a b = some At) (idx : List Nat) (hv : ValidIdx A.shape idx) :
    At.get ((a ++ b).map (dimAt idx)) = A.get idx := by
  rw [transposeBy_some A a b h] at ht
  injection ht with ht
  subst ht
  have hlt := perm_range_lt h
  have hvalid : ValidIdx ((a ++ b).map (dimAt A.shape)) ((a ++ b).map (dimAt idx)) :=
    (validIdx_map_iff _ _ _).2 fun x hx => validIdx_dimAt A.shape idx hv x (hlt x hx)
  simp only [Arr.get]
  rw [← List.map_append, unravel_ravel _ _ hvalid,
    unpermute_map (a ++ b) idx A.shape.length h (validIdx_length _ _ hv)]

theorem arr_matricize_some (A At : Arr α) (a b : List Nat) (h : Bipartition A.shape a b)
    (ht : A.transposeBy a b = some At) :
    A.matricize a b =
      some (At.reshape [prod (a.map (dimAt A.shape)), prod (b.map (dimAt A.shape))]) := by
  unfold Arr.matricize
  rw [ht, (matricize_ok A.shape a b h).2.2.1]

theorem matricize_get (At : Arr α) (qd rd ia ib : List Nat) (hs : At.shape = qd ++ rd)
    (hia : ValidIdx qd ia) :
    (At.reshape [prod qd, prod rd]).get [ravel qd ia, ravel rd ib] = At.get (ia ++ ib) := by
  simp only [Arr.get, Arr.reshape, ravel_pair, hs]
  rw [ravel_append qd ia rd ib hia]

theorem reshape_out_get (Q : Arr α) (qd ia : List Nat) (c l : Nat) (hs : Q.shape = [prod qd, c])
    (hia : ValidIdx qd ia) :
    (Q.reshape (qd ++ [c])).get (ia ++ [l]) = Q.get [ravel qd ia, l] := by
  simp only [Arr.get, Arr.reshape, hs, ravel_pair]
  rw [ravel_snoc qd ia c l hia]

theorem reshape_in_get (R : Arr α) (rd ib : List Nat) (c l : Nat) (hs : R.shape = [c, prod rd]) :
    (R.reshape (c :: rd)).get (l :: ib) = R.get [l, ravel rd ib] := by
  simp only [Arr.get, Arr.reshape, hs, ravel_pair]
  simp [ravel]

theorem padLast_shape (A : Arr α) (zero : α) (init : List Nat) (k d : Nat) (hs : A.shape = init ++ [k]) :
    (A.padLast zero d).shape = init ++ [k + d] := by
  simp only [Arr.padLast, hs, List.dropLast_concat, List.getLastD_concat]

theorem padLast_get (A : Arr α) (zero : α) (init ia : List Nat) (k d l : Nat)
    (hs : A.shape = init ++ [k]) (hia : ValidIdx init ia) (hl : l < k + d) :
    (A.padLast zero d).get (ia ++ [l]) = if l < k then A.get (ia ++ [l]) else zero := by
  simp only [Arr.get, Arr.padLast, hs, List.dropLast_concat, List.getLastD_concat, ravel_snoc _ _ _ _ hia,
    mul_add_mod_of_lt hl, mul_add_div_of_lt hl]

theorem padFirst_shape (A : Arr α) (zero : α) (rest : List Nat) (k d : Nat) (hs : A.shape = k :: rest) :
    (A.padFirst zero d).shape = (k + d) :: rest := by
  unfold Arr.padFirst
  rw [hs]

theorem padFirst_get (A : Arr α) (zero : α) (rest ib : List Nat) (k d l : Nat)
    (hs : A.shape = k :: rest) (hib : ValidIdx rest ib) :
    (A.padFirst zero d).get (l :: ib) = if l < k then A.get (l :: ib) else zero := by
  have hr := ravel_lt rest ib hib
  have hiff : l * prod rest + ravel rest ib < k * prod rest ↔ l < k := by
    rw [← Nat.div_lt_iff_lt_mul (Nat.lt_of_le_of_lt (Nat.zero_le _) hr), mul_add_div_of_lt hr]
  unfold Arr.padFirst
  rw [hs]
  simp only [Arr.get, ravel, hs, hiff]

theorem sum_padded [AddCommMonoid α] (f : ℕ → α) {k n : ℕ} (hkn : k ≤ n) (h : ∀ l, k ≤ l → l < n → f l = 0) :
    ∑ l ∈ range n, f l = ∑ l ∈ range k, f l :=
  (sum_subset (range_mono hkn)
    (fun l hl hnl => h l (Nat.le_of_not_lt (fun hlt => hnl (mem_range.2 hlt))) (mem_range.1 hl))).symm

/-- Core of the reconstruction: a factorisation of the matricised array over the leading `k`
    bond values, reshaped by `_determine_tensor_shape`, contracts to the transposed array. -/
theorem reconstruct_core {α : Type} [CommSemiring α] (Tt Q R : Arr α) (qd rd : List Nat)
    (cq cr k : ℕ) (w : ℕ → α) (hTt : Tt.shape = qd ++ rd)
    (hQ : Q.shape = [prod qd, cq]) (hR : R.shape = [cr, prod rd])
    (hc : ∀ i j, i < prod qd → j < prod rd →
      ∑ l ∈ range k, Q.get [i, l] * w l * R.get [l, j] = (Tt.reshape [prod qd, prod rd]).get [i, j])
    (ia ib : List Nat) (hia : ValidIdx qd ia) (hib : ValidIdx rd ib) :
    ∑ l ∈ range k, (Q.reshape (qd ++ [cq])).get (ia ++ [l]) * w l * (R.reshape (cr :: rd)).get (l :: ib)
      = Tt.get (ia ++ ib) := by
  rw [← matricize_get Tt qd rd ia ib hTt hia,
    ← hc (ravel qd ia) (ravel rd ib) (ravel_lt qd ia hia) (ravel_lt rd ib hib)]
  apply sum_congr rfl
  intro l _
  rw [reshape_out_get Q qd ia cq l hQ hia, reshape_in_get R rd ib cr l hR]

/-- The case without weights (QR). -/
theorem reconstruct_core_one {α : Type} [CommSemiring α] (Tt Q R : Arr α) (qd rd : List Nat)
    (cq cr k : ℕ) (hTt : Tt.shape = qd ++ rd)
    (hQ : Q.shape = [prod qd, cq]) (hR : R.shape = [cr, prod rd])
    (hc : ∀ i j, i < prod qd → j < prod rd →
      ∑ l ∈ range k, Q.get [i, l] * R.get [l, j] = (Tt.reshape [prod qd, prod rd]).get [i, j])
    (ia ib : List Nat) (hia : ValidIdx qd ia) (hib : ValidIdx rd ib) :
    ∑ l ∈ range k, (Q.reshape (qd ++ [cq])).get (ia ++ [l]) * (R.reshape (cr :: rd)).get (l :: ib)
      = Tt.get (ia ++ ib) := by
  have := reconstruct_core Tt Q R qd rd cq cr k (fun _ => 1) hTt hQ hR
    (fun i j hi hj => by simp only [mul_one]; exact hc i j hi hj) ia ib hia hib
  simpa only [mul_one] using this

end Ptn.C11
