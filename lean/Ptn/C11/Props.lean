import Ptn.C11.Model
import Ptn.C11.Spec
import Ptn.C11.Lemmas
import Ptn.C11.MatrixLemmas
import Ptn.C11.Value
import Ptn.C11.ValueLemmas
import Ptn.C11.Tensordot
import Ptn.C11.TensordotLemmas
import Ptn.Common.EinsumArray
/-! Property theorems for C11 (index logic of tensor QR / SVD, `numpy.tensordot`) with non-vacuity examples.

All shape theorems quantify over EVERY shape `sh : List Nat` (any order, dimension-1 and even
dimension-0 legs) and EVERY ordered bipartition `(q, r)` of its axes (`Bipartition sh q r`: `q ++ r`
is a permutation of `0 … order-1`; either side may be empty, any order inside a side).  The dims of
a side are introduced by `dimsOf sh q = some qd` (no totalised indexing; the array-level theorems further down use the
totalised `dimAt` for axes known to be in range). -/
namespace Ptn.C11

/-- **Matricisation is legal.**  The transposition is a permutation of the axes, the two groups are
    the dims of `q` and of `r` in the given order, and their products multiply to the size of the
    tensor, so `np.reshape` to `(rows, cols)` is legal. -/
theorem matricize_perm (sh q r : List Nat) (h : Bipartition sh q r) :
    ∃ qd rd, dimsOf sh q = some qd ∧ dimsOf sh r = some rd ∧
      matricize sh q r = some ⟨qd ++ rd, prod qd, prod rd⟩ ∧
      (qd ++ rd).Perm sh ∧ prod qd * prod rd = prod sh := by
  obtain ⟨h1, h2, h3, h4, h5⟩ := matricize_ok sh q r h
  exact ⟨_, _, h1, h2, h3, h4, h5⟩

/-- The library accepts exactly the ordered bipartitions: anything else (wrong number of legs, a
    repeated or out-of-range leg) is rejected by the assertion / `np.transpose`. -/
theorem matricize_accepts_iff (sh q r : List Nat) :
    (∃ m, matricize sh q r = some m) ↔ Bipartition sh q r := by
  constructor
  · rintro ⟨m, hm⟩
    apply Classical.byContradiction
    intro hn
    rw [matricize_none_of_not sh q r hn] at hm
    exact absurd hm (by simp)
  · intro h
    exact ⟨_, (matricize_ok sh q r h).2.2.1⟩

/-- **QR: shapes and leg orders.**  First factor: the `q` legs in the given order, then the new bond;
    second factor: the bond first, then the `r` legs in the given order.  (KEEP needs a non-empty
    second side.) -/
theorem qr_shapes (mode : Mode) (sh q r : List Nat) (h : Bipartition sh q r)
    (hk : mode = .keep → r ≠ []) :
    ∃ qd rd res, dimsOf sh q = some qd ∧ dimsOf sh r = some rd ∧ tensorQR mode sh q r = some res ∧
      res.q.shape = qd ++ [res.bond] ∧ res.q.legs = q.map Leg.orig ++ [Leg.bond] ∧
      res.r.shape = res.bond :: rd ∧ res.r.legs = Leg.bond :: r.map Leg.orig := by
  obtain ⟨h1, h2, _⟩ := matricize_ok sh q r h
  exact ⟨_, _, _, h1, h2, tensorQR_some mode sh q r h hk, rfl, rfl, rfl, rfl⟩

/-- **QR: the bond dimension each mode prescribes** for an `m × n` matricisation: REDUCED
    `min m n`, FULL `m`, KEEP `n` (the product of the dims of the `r` legs), with `pad` zero
    columns/rows in KEEP. -/
theorem qr_bond_dim (mode : Mode) (sh q r : List Nat) (h : Bipartition sh q r)
    (hk : mode = .keep → r ≠ []) :
    ∃ qd rd res, dimsOf sh q = some qd ∧ dimsOf sh r = some rd ∧ tensorQR mode sh q r = some res ∧
      res.bond = qrBond mode (prod qd) (prod rd) ∧ res.pad = qrPad mode (prod qd) (prod rd) := by
  obtain ⟨h1, h2, _⟩ := matricize_ok sh q r h
  exact ⟨_, _, _, h1, h2, tensorQR_some mode sh q r h hk, rfl, rfl⟩

/-- **KEEP never needs negative padding**: the returned bond is NumPy's `min m n` plus a
    non-negative number of zero columns, and it equals `n`.  (So the `np.pad` call can only fail
    for an empty second side, see `empty_side_r`.) -/
theorem keep_pad_nonneg (sh q r : List Nat) (h : Bipartition sh q r) (hr : r ≠ []) :
    ∃ qd rd res, dimsOf sh q = some qd ∧ dimsOf sh r = some rd ∧ tensorQR .keep sh q r = some res ∧
      res.bond = min (prod qd) (prod rd) + res.pad ∧ res.bond = prod rd := by
  obtain ⟨h1, h2, _⟩ := matricize_ok sh q r h
  refine ⟨_, _, _, h1, h2, tensorQR_some .keep sh q r h (fun _ => hr), ?_, rfl⟩
  simp only [qrBond, qrPad]; omega

/-- **KEEP with a single R-leg** returns a Q with the shape of the input transposed so that this
    leg is last; if the leg already is the last one and the others are in natural order, Q has
    exactly the input's shape. -/
theorem keep_shape_single_leg (sh q : List Nat) (j : Nat) (h : Bipartition sh q [j]) :
    ∃ res, tensorQR .keep sh q [j] = some res ∧
      transposeByLegList sh q [j] = some res.q.shape ∧
      (q ++ [j] = List.range sh.length → res.q.shape = sh) := by
  have hT := transpose_ok sh q [j] h
  refine ⟨_, tensorQR_some .keep sh q [j] h (fun _ => by simp), ?_, ?_⟩
  · simp only [qrBond, List.map_cons, List.map_nil, prod_singleton]
    exact hT
  · intro hrange
    have : (q ++ [j]).map (dimAt sh) = sh := by rw [hrange]; exact map_dimAt_range sh
    simpa [qrBond, prod_singleton] using this

/-- **Empty first side**: the matricisation is a `1 × size` row; Q is a one-leg tensor carrying only
    the bond — of dimension 1 for REDUCED and FULL (for REDUCED: `min 1 size`, which is 1 unless a
    leg has dimension 0), `size` for KEEP — and R carries all legs behind the bond. -/
theorem empty_side_q (mode : Mode) (sh r : List Nat) (h : Bipartition sh [] r)
    (hk : mode = .keep → r ≠ []) :
    ∃ rd res, dimsOf sh r = some rd ∧ rd.Perm sh ∧ tensorQR mode sh [] r = some res ∧
      res.q.shape = [res.bond] ∧ res.q.legs = [Leg.bond] ∧ res.r.shape = res.bond :: rd ∧
      res.bond = (match mode with | .reduced => min 1 (prod sh) | .full => 1 | .keep => prod sh) ∧
      ((∀ d ∈ sh, 0 < d) → mode = .reduced → res.bond = 1) := by
  obtain ⟨_, h2, _, h4, h5⟩ := matricize_ok sh [] r h
  have h6 : prod (r.map (dimAt sh)) = prod sh := (Nat.one_mul _).symm.trans h5
  refine ⟨_, _, h2, h4, tensorQR_some mode sh [] r h hk, rfl, rfl, rfl, ?_, ?_⟩
  · rw [← h6]
    cases mode <;> rfl
  · rintro hpos rfl
    exact Nat.min_eq_left (h6 ▸ prod_pos sh hpos)

/-- **Empty second side**: the matricisation is a `size × 1` column; REDUCED gives bond
    `min size 1` (1 unless a leg has dimension 0), FULL gives bond `size`, and KEEP is rejected
    (`np.prod(())` is the float 1.0, which `np.pad` refuses as a pad width). -/
theorem empty_side_r (mode : Mode) (sh q : List Nat) (h : Bipartition sh q []) :
    ∃ qd, dimsOf sh q = some qd ∧ qd.Perm sh ∧
      match mode with
      | .keep => tensorQR mode sh q [] = none
      | .reduced => tensorQR mode sh q [] =
          some ⟨⟨qd ++ [min (prod sh) 1], q.map Leg.orig ++ [Leg.bond]⟩,
                ⟨[min (prod sh) 1], [Leg.bond]⟩, min (prod sh) 1, 0⟩
      | .full => tensorQR mode sh q [] =
          some ⟨⟨qd ++ [prod sh], q.map Leg.orig ++ [Leg.bond]⟩, ⟨[prod sh], [Leg.bond]⟩, prod sh, 0⟩ := by
  obtain ⟨h1, _, _, h4, h5⟩ := matricize_ok sh q [] h
  refine ⟨_, h1, by simpa using h4, ?_⟩
  -- `prod sh` is the product of the `q` dims; then each mode is the closed form of `tensorQR`
  rw [← (Nat.mul_one _).symm.trans h5]
  cases mode with
  | reduced => exact tensorQR_some .reduced sh q [] h nofun
  | full => exact tensorQR_some .full sh q [] h nofun
  | keep => exact tensorQR_keep_empty sh q h

/-- **SVD: shapes, leg orders and bond dimensions.**  REDUCED: all three bonds `min m n`;
    FULL and KEEP (which NumPy treats alike): U gets `m` columns, Vh `n` rows, `S` has `min m n`
    entries — so the factors contract back through their leading `len(S)` columns / rows. -/
theorem svd_shapes (mode : Mode) (sh u v : List Nat) (h : Bipartition sh u v) :
    ∃ ud vd res, dimsOf sh u = some ud ∧ dimsOf sh v = some vd ∧ tensorSVD mode sh u v = some res ∧
      res.u.shape = ud ++ [(svdBonds mode (prod ud) (prod vd)).1] ∧
      res.u.legs = u.map Leg.orig ++ [Leg.bond] ∧
      res.sLen = min (prod ud) (prod vd) ∧
      res.vh.shape = (svdBonds mode (prod ud) (prod vd)).2.2 :: vd ∧
      res.vh.legs = Leg.bond :: v.map Leg.orig ∧
      res.sLen ≤ (svdBonds mode (prod ud) (prod vd)).1 ∧
      res.sLen ≤ (svdBonds mode (prod ud) (prod vd)).2.2 := by
  obtain ⟨h1, h2, _⟩ := matricize_ok sh u v h
  exact ⟨_, _, _, h1, h2, tensorSVD_eq mode sh u v h, rfl, rfl, svdBonds_sLen mode _ _, rfl, rfl,
    (svdBonds_sLen_le mode _ _).1, (svdBonds_sLen_le mode _ _).2⟩

/-- **Truncated SVD**: keeping `kept` singular values (`1 ≤ kept ≤ min m n`, property C10) cuts
    exactly the bond: `U : ud ++ [kept]`, `S : kept`, `Vh : kept :: vd`. -/
theorem truncated_svd_shapes (sh u v : List Nat) (kept : Nat) (h : Bipartition sh u v) :
    ∃ ud vd res, dimsOf sh u = some ud ∧ dimsOf sh v = some vd ∧
      truncatedSVD sh u v kept = some res ∧
      (kept ≤ min (prod ud) (prod vd) →
        res.u.shape = ud ++ [kept] ∧ res.sLen = kept ∧ res.vh.shape = kept :: vd ∧
        res.u.legs = u.map Leg.orig ++ [Leg.bond] ∧ res.vh.legs = Leg.bond :: v.map Leg.orig) := by
  obtain ⟨h1, h2, _⟩ := matricize_ok sh u v h
  refine ⟨_, _, _, h1, h2, truncatedSVD_some sh u v kept h, fun hk => ?_⟩
  simp only [Nat.min_eq_left hk, and_self]

/-- Invalid leg lists are rejected by both decompositions. -/
theorem rejects_invalid (mode : Mode) (sh q r : List Nat) (h : ¬ Bipartition sh q r) :
    tensorQR mode sh q r = none ∧ tensorSVD mode sh q r = none := by
  have := matricize_none_of_not sh q r h
  simp [tensorQR, tensorSVD, this]

/-- In every contraction mode the singular values are absorbed exactly once in total. -/
theorem contr_modes_absorb_once (c : ContrMode) : (absorb c).1 + (absorb c).2 = 2 := by
  cases c <;> rfl

/-! ### Abstract matrix facts (numerical clauses: by contract of `numpy.linalg.qr/svd`) -/

open Matrix in
/-- `[Q 0]·[R;0] = Q·R`: the zero padding of KEEP does not change the contraction. -/
theorem keep_pad_sound {R : Type*} {m n k d : Type*} [Fintype k] [Fintype d] [Semiring R]
    (Q : Matrix m k R) (Rm : Matrix k n R) :
    fromCols Q (0 : Matrix m d R) * fromRows Rm (0 : Matrix d n R) = Q * Rm := by
  rw [fromCols_mul_fromRows, Matrix.mul_zero, add_zero]

open Matrix in
/-- A zero-padded isometry is a partial isometry: its Gram matrix is the block projector
    `diag(1, 0)`, in particular idempotent. -/
theorem q_keep_partial_isometry {R : Type*} {m k d : Type*} [Fintype m] [Fintype k] [Fintype d]
    [DecidableEq k] [CommRing R] [StarRing R] (Q : Matrix m k R) (h : Qᴴ * Q = 1) :
    (fromCols Q (0 : Matrix m d R))ᴴ * fromCols Q (0 : Matrix m d R) =
        fromBlocks (1 : Matrix k k R) 0 0 (0 : Matrix d d R) ∧
    ((fromCols Q (0 : Matrix m d R))ᴴ * fromCols Q (0 : Matrix m d R)) *
      ((fromCols Q (0 : Matrix m d R))ᴴ * fromCols Q (0 : Matrix m d R)) =
      (fromCols Q (0 : Matrix m d R))ᴴ * fromCols Q (0 : Matrix m d R) := by
  have hg := pad_gram (d := d) Q h
  refine ⟨hg, ?_⟩
  rw [hg, fromBlocks_multiply]
  simp only [Matrix.mul_one, Matrix.mul_zero, add_zero]

open Matrix in
/-- The contraction modes give the same product: `U(ΣV) = (UΣ)V = (U√Σ)(√ΣV)`. -/
theorem contr_modes_same_product {R : Type*} {m n k : Type*} [Fintype k] [DecidableEq k]
    [CommSemiring R] (U : Matrix m k R) (V : Matrix k n R) (s r : k → R)
    (hr : ∀ i, r i * r i = s i) :
    U * (diagonal s * V) = (U * diagonal s) * V ∧
    (U * diagonal r) * (diagonal r * V) = U * (diagonal s * V) := by
  refine ⟨(Matrix.mul_assoc U (diagonal s) V).symm, ?_⟩
  rw [Matrix.mul_assoc, ← Matrix.mul_assoc (diagonal r), diagonal_mul_diagonal, funext hr]

/-! ### Value level: the index bookkeeping of matricise → factorise → reshape back -/

open Finset in
/-- **Matricise / un-matricise at the level of entries** (value-level model `Value.lean`: arrays
    are shape + flat C-order data, `transposeBy` / `reshape` act on multi-indices through `ravel` /
    `unravel`).  For every array and every ordered bipartition `(a, b)` of its axes:
    the transposed array `Tt` shows axis `(a ++ b)[j]` of the input at position `j`; entry
    `(ravel qd ia, ravel rd ib)` of the matricised array is entry `ia ++ ib` of `Tt`; and for ANY
    factorisation of the matrix over the leading `k` bond values, `M = Q · diag(w) · R` entrywise
    (hypothesis: the contract of `numpy.linalg.qr` / `svd`; `Q` may have `cq ≥ k` columns, `R` `cr ≥ k`
    rows), the factors reshaped to the shapes `_determine_tensor_shape` returns contract over the
    bond to `Tt`, read with legs `(a…, b…)`.  The hypothesis is the contract; what is proved is the
    index bookkeeping. -/
theorem matricize_unmatricize {α : Type} [CommSemiring α] (T : Arr α) (a b : List Nat)
    (h : Bipartition T.shape a b) :
    ∃ qd rd Tt M, dimsOf T.shape a = some qd ∧ dimsOf T.shape b = some rd ∧
      T.transposeBy a b = some Tt ∧ Tt.shape = qd ++ rd ∧
      T.matricize a b = some M ∧ M.shape = [prod qd, prod rd] ∧
      (∀ idx idx', ValidIdx T.shape idx → dimsOf idx (a ++ b) = some idx' →
        ValidIdx (qd ++ rd) idx' ∧ Tt.get idx' = T.get idx) ∧
      (∀ ia ib, ValidIdx qd ia → ValidIdx rd ib →
        M.get [ravel qd ia, ravel rd ib] = Tt.get (ia ++ ib)) ∧
      ∀ (Q R : Arr α) (cq cr k : ℕ) (w : ℕ → α),
        Q.shape = [prod qd, cq] → R.shape = [cr, prod rd] →
        (∀ i j, i < prod qd → j < prod rd →
          ∑ l ∈ range k, Q.get [i, l] * w l * R.get [l, j] = M.get [i, j]) →
        determineTensorShape T.shape (prod qd) cq a true = some (qd ++ [cq]) ∧
        determineTensorShape T.shape cr (prod rd) b false = some (cr :: rd) ∧
        ∀ ia ib, ValidIdx qd ia → ValidIdx rd ib →
          ∑ l ∈ range k, (Q.reshape (qd ++ [cq])).get (ia ++ [l]) * w l *
              (R.reshape (cr :: rd)).get (l :: ib) = Tt.get (ia ++ ib) := by
  obtain ⟨hq, hr, _, _, _⟩ := matricize_ok T.shape a b h
  have hT := transposeBy_some T a b h
  refine ⟨_, _, _, _, hq, hr, hT, rfl, arr_matricize_some T _ a b h hT, rfl, ?_, ?_, ?_⟩
  · intro idx idx' hv hsel
    have hlt := perm_range_lt h
    have hlen := validIdx_length _ _ hv
    rw [dimsOf_of_lt idx (a ++ b) (by intro x hx; rw [hlen]; exact hlt x hx)] at hsel
    injection hsel with hsel
    subst hsel
    refine ⟨?_, transposeBy_get T _ a b h hT idx hv⟩
    rw [← List.map_append]
    exact (validIdx_map_iff _ _ _).2 fun x hx => validIdx_dimAt T.shape idx hv x (hlt x hx)
  · intro ia ib hia hib
    exact matricize_get _ _ _ ia ib rfl hia
  · intro Q R cq cr k w hQ hR hc
    refine ⟨determine_out T.shape a _ _ _ hq, determine_in T.shape b _ _ _ hr, ?_⟩
    intro ia ib hia hib
    exact reconstruct_core _ Q R _ _ cq cr k w rfl hQ hR hc ia ib hia hib

open Finset in
/-- **QR reconstructs (REDUCED, FULL).**  With NumPy's `Q : (m, k)`, `R : (k, n)`, `Q·R = M`
    entrywise (contract), the tensors returned by `tensor_qr_decomposition` — `Q`, `R` reshaped to the
    model's `res.q.shape`, `res.r.shape` — contract over the new bond (`res.bond` values) to the input
    transposed by `a ++ b`. -/
theorem qr_reconstructs {α : Type} [CommSemiring α] (mode : Mode) (hm : mode ≠ .keep) (T : Arr α)
    (a b : List Nat) (h : Bipartition T.shape a b) :
    ∃ qd rd Tt res, dimsOf T.shape a = some qd ∧ dimsOf T.shape b = some rd ∧
      T.transposeBy a b = some Tt ∧ tensorQR mode T.shape a b = some res ∧
      ∀ (Q R : Arr α),
        Q.shape = [prod qd, numpyQRInner mode (prod qd) (prod rd)] →
        R.shape = [numpyQRInner mode (prod qd) (prod rd), prod rd] →
        (∀ i j, i < prod qd → j < prod rd →
          ∑ l ∈ range (numpyQRInner mode (prod qd) (prod rd)), Q.get [i, l] * R.get [l, j]
            = (Tt.reshape [prod qd, prod rd]).get [i, j]) →
        ∀ ia ib, ValidIdx qd ia → ValidIdx rd ib →
          ∑ l ∈ range res.bond, (Q.reshape res.q.shape).get (ia ++ [l]) *
              (R.reshape res.r.shape).get (l :: ib) = Tt.get (ia ++ ib) := by
  obtain ⟨hq, hr, _, _, _⟩ := matricize_ok T.shape a b h
  refine ⟨_, _, _, _, hq, hr, transposeBy_some T a b h,
    tensorQR_some mode T.shape a b h (fun hk => absurd hk hm), ?_⟩
  intro Q R hQ hR hc ia ib hia hib
  simp only [qrBond_eq_inner hm]
  exact reconstruct_core_one _ Q R _ _ _ _ _ rfl hQ hR hc ia ib hia hib

open Finset in
/-- **QR reconstructs (KEEP).**  The zero-padded factors (`np.pad` on the last axis of Q and the
    first axis of R by `res.pad`) have exactly the model's shapes and contract over the padded bond
    (`res.bond = n` values) to the input transposed by `a ++ b`: the index-level form of
    `keep_pad_sound`. -/
theorem keep_reconstructs {α : Type} [CommSemiring α] (T : Arr α) (a b : List Nat)
    (h : Bipartition T.shape a b) (hb : b ≠ []) :
    ∃ qd rd Tt res, dimsOf T.shape a = some qd ∧ dimsOf T.shape b = some rd ∧
      T.transposeBy a b = some Tt ∧ tensorQR .keep T.shape a b = some res ∧
      ∀ (Q R : Arr α),
        Q.shape = [prod qd, min (prod qd) (prod rd)] →
        R.shape = [min (prod qd) (prod rd), prod rd] →
        (∀ i j, i < prod qd → j < prod rd →
          ∑ l ∈ range (min (prod qd) (prod rd)), Q.get [i, l] * R.get [l, j]
            = (Tt.reshape [prod qd, prod rd]).get [i, j]) →
        ((Q.reshape (qd ++ [min (prod qd) (prod rd)])).padLast 0 res.pad).shape = res.q.shape ∧
        ((R.reshape (min (prod qd) (prod rd) :: rd)).padFirst 0 res.pad).shape = res.r.shape ∧
        ∀ ia ib, ValidIdx qd ia → ValidIdx rd ib →
          ∑ l ∈ range res.bond,
            ((Q.reshape (qd ++ [min (prod qd) (prod rd)])).padLast 0 res.pad).get (ia ++ [l]) *
            ((R.reshape (min (prod qd) (prod rd) :: rd)).padFirst 0 res.pad).get (l :: ib)
              = Tt.get (ia ++ ib) := by
  obtain ⟨hq, hr, _, _, _⟩ := matricize_ok T.shape a b h
  refine ⟨_, _, _, _, hq, hr, transposeBy_some T a b h,
    tensorQR_some .keep T.shape a b h (fun _ => hb), ?_⟩
  intro Q R hQ hR hc
  generalize a.map (dimAt T.shape) = qd at *
  generalize b.map (dimAt T.shape) = rd at *
  -- `res.bond = prod rd` and `res.pad = prod rd - min ..` by unfolding `qrBond`, `qrPad`
  have hkn : min (prod qd) (prod rd) + (prod rd - min (prod qd) (prod rd)) = prod rd :=
    Nat.add_sub_of_le (Nat.min_le_right _ _)
  refine ⟨?_, ?_, ?_⟩
  · rw [padLast_shape _ 0 qd _ _ rfl]
    exact congrArg (fun x => qd ++ [x]) hkn
  · rw [padFirst_shape _ 0 rd _ _ rfl]
    exact congrArg (fun x => x :: rd) hkn
  · intro ia ib hia hib
    rw [← reconstruct_core_one _ Q R qd rd _ _ _ rfl hQ hR hc ia ib hia hib]
    show ∑ l ∈ range (prod rd), _ = _
    rw [sum_padded _ (Nat.min_le_right (prod qd) (prod rd))]
    · apply sum_congr rfl
      intro l hl
      have hl' := mem_range.mp hl
      rw [padLast_get _ 0 qd ia _ _ l rfl hia (Nat.lt_add_right _ hl'), padFirst_get _ 0 rd ib _ _ l rfl hib,
        if_pos hl', if_pos hl']
    · intro l h1 h2
      rw [padLast_get _ 0 qd ia _ _ l rfl hia (hkn.symm ▸ h2), if_neg (Nat.not_lt.2 h1), zero_mul]

open Finset in
/-- **SVD reconstructs (all modes).**  With NumPy's `U : (m, cu)`, `S`, `Vh : (cv, n)` and
    `Σ_{l < min m n} U[i,l] S[l] Vh[l,j] = M[i,j]` (contract; in FULL / KEEP `cu = m`, `cv = n`, so only
    the leading `len S` columns / rows enter), the reshaped factors contract through their leading
    `res.sLen` bond values to the input transposed by `a ++ b`. -/
theorem svd_reconstructs {α : Type} [CommSemiring α] (mode : Mode) (T : Arr α)
    (a b : List Nat) (h : Bipartition T.shape a b) :
    ∃ ud vd Tt res, dimsOf T.shape a = some ud ∧ dimsOf T.shape b = some vd ∧
      T.transposeBy a b = some Tt ∧ tensorSVD mode T.shape a b = some res ∧
      ∀ (U Vh : Arr α) (s : ℕ → α),
        U.shape = [prod ud, (svdBonds mode (prod ud) (prod vd)).1] →
        Vh.shape = [(svdBonds mode (prod ud) (prod vd)).2.2, prod vd] →
        (∀ i j, i < prod ud → j < prod vd →
          ∑ l ∈ range (min (prod ud) (prod vd)), U.get [i, l] * s l * Vh.get [l, j]
            = (Tt.reshape [prod ud, prod vd]).get [i, j]) →
        ∀ ia ib, ValidIdx ud ia → ValidIdx vd ib →
          ∑ l ∈ range res.sLen, (U.reshape res.u.shape).get (ia ++ [l]) * s l *
              (Vh.reshape res.vh.shape).get (l :: ib) = Tt.get (ia ++ ib) := by
  obtain ⟨hq, hr, _, _, _⟩ := matricize_ok T.shape a b h
  have hT := transposeBy_some T a b h
  refine ⟨_, _, _, _, hq, hr, hT, tensorSVD_eq mode T.shape a b h, ?_⟩
  intro U Vh s hU hV hc ia ib hia hib
  simp only [svdBonds_sLen]
  exact reconstruct_core _ U Vh _ _ _ _ _ s rfl hU hV hc ia ib hia hib

/-! ### Value level: `numpy.tensordot` computes `Ptn.Ein.sumPairs`

`arrTensordot` (`Tensordot.lean`) is NumPy's implementation of `tensordot` line by line on the array model:
transpose the contracted axes of `a` to the end and of `b` to the front, reshape both to matrices (same flat
C-order data), matrix product, reshape to the remaining shapes.  `notIn n axes` are the remaining axes (ascending),
`unpermute axes idx'` is the multi-index `idx` with `idx[axes[j]] = idx'[j]`, `sumIdx ds f` is the nested sum of `f`
over all multi-indices of shape `ds` (`sumIdx_eq_sum_range`: the sum over all flat positions). -/

/-- **`numpy.tensordot` accepts exactly** duplicate-free axis lists within range that name equal dimensions in
    order (in particular lists of equal length); everything else raises. -/
theorem arr_tensordot_accepts_iff {α : Type} [CommSemiring α] (a b : Arr α) (ia ib : List Nat) :
    (∃ C, arrTensordot a b ia ib = some C) ↔
      (ia.Nodup ∧ ib.Nodup ∧ (∀ x ∈ ia, x < a.shape.length) ∧ (∀ x ∈ ib, x < b.shape.length) ∧
        ia.map (dimAt a.shape) = ib.map (dimAt b.shape)) := by
  constructor
  · rintro ⟨C, hC⟩
    -- follow the program: each test that did not raise gives one clause
    unfold arrTensordot at hC
    split at hC
    · simp at hC
    · split at hC
      · rename_i da db hda hdb
        have hla := dimsOf_some_lt _ _ _ hda
        have hlb := dimsOf_some_lt _ _ _ hdb
        rw [dimsOf_of_lt _ _ hla] at hda
        rw [dimsOf_of_lt _ _ hlb] at hdb
        split at hC
        · simp at hC
        · rename_i hne
          dsimp only at hC
          split at hC
          · rename_i At Bt olda oldb hTa hTb _ _
            have hA := perm_range_nodup (transposeBy_some_bipartition a At _ _ hTa)
            have hB := perm_range_nodup (transposeBy_some_bipartition b Bt _ _ hTb)
            refine ⟨(List.nodup_append.1 hA).2.1, (List.nodup_append.1 hB).1, hla, hlb, ?_⟩
            injection hda with hda
            injection hdb with hdb
            rw [hda, hdb]
            exact Classical.not_not.1 hne
          · simp at hC
      · simp at hC
  · rintro ⟨h1, h2, h3, h4, h5⟩
    obtain ⟨_, _, _, _, hC⟩ := arrTensordot_some a b ia ib h1 h2 h3 h4 h5
    exact ⟨_, hC⟩

/-- **Entries of `numpy.tensordot`.**  For every two arrays over a commutative semiring and all duplicate-free
    axis lists within range naming equal dimensions: the result has the remaining dimensions of `a` followed by
    those of `b`, and its entry at `(i⃗, j⃗)` is the sum over all multi-indices `k⃗` of the contracted dimensions of
    `a[i⃗ at the remaining axes, k⃗ at the contracted axes] · b[k⃗ at the contracted axes, j⃗ at the remaining axes]`. -/
theorem arr_tensordot_entry {α : Type} [CommSemiring α] (a b : Arr α) (ia ib : List Nat)
    (hia : ia.Nodup) (hib : ib.Nodup)
    (hla : ∀ x ∈ ia, x < a.shape.length) (hlb : ∀ x ∈ ib, x < b.shape.length)
    (hd : ia.map (dimAt a.shape) = ib.map (dimAt b.shape)) :
    ∃ C, arrTensordot a b ia ib = some C ∧
      C.shape = (notIn a.shape.length ia).map (dimAt a.shape) ++ (notIn b.shape.length ib).map (dimAt b.shape) ∧
      ∀ is js, ValidIdx ((notIn a.shape.length ia).map (dimAt a.shape)) is →
        ValidIdx ((notIn b.shape.length ib).map (dimAt b.shape)) js →
        C.get (is ++ js) = sumIdx (ia.map (dimAt a.shape)) (fun ks =>
          a.get (unpermute (notIn a.shape.length ia ++ ia) (is ++ ks)) *
          b.get (unpermute (ib ++ notIn b.shape.length ib) (ks ++ js))) :=
  arrTensordot_get a b ia ib hia hib hla hlb hd

open Ptn.Ein in
/-- **`numpy.tensordot` computes `sumPairs`.**  Label the axes of `a` by `la` and those of `b` by `lb` (distinct
    labels, dimension table `dim` agreeing with the shapes) and read arrays as leaf tensors through their labels
    (`Arr.toLeaf`: value at an assignment = entry at the multi-index the assignment gives the legs).  Then the
    result of `tensordot(a, b, (ia, ib))`, read through `remaining labels of a ++ remaining labels of b`, is
    `sumPairs dim (zip (labels of ia) (labels of ib)) (a · b)` at every assignment within the dimensions of the
    free legs; its shape is the dimensions of these free legs. -/
theorem arr_tensordot_is_sumPairs {L : Type} [DecidableEq L] {α : Type} [CommSemiring α]
    (dim : L → Nat) (a b : Arr α) (ia ib : List Nat) (la lb : Nat → L)
    (hia : ia.Nodup) (hib : ib.Nodup)
    (hlta : ∀ x ∈ ia, x < a.shape.length) (hltb : ∀ x ∈ ib, x < b.shape.length)
    (hd : ia.map (dimAt a.shape) = ib.map (dimAt b.shape))
    (hLa : Labelling dim a.shape la) (hLb : Labelling dim b.shape lb)
    (hdis : ∀ x y, x < a.shape.length → y < b.shape.length → la x ≠ lb y) :
    ∃ C, arrTensordot a b ia ib = some C ∧
      C.shape = ((notIn a.shape.length ia).map la ++ (notIn b.shape.length ib).map lb).map dim ∧
      ∀ σ : Asg L,
        (∀ l ∈ (notIn a.shape.length ia).map la ++ (notIn b.shape.length ib).map lb, σ l < dim l) →
        C.toLeaf ((notIn a.shape.length ia).map la ++ (notIn b.shape.length ib).map lb) σ =
          sumPairs dim (List.zip (ia.map la) (ib.map lb))
            (fun τ => a.toLeaf (axisLegs la a.shape.length) τ * b.toLeaf (axisLegs lb b.shape.length) τ) σ :=
  arrTensordot_sumPairs dim a b ia ib la lb hia hib hlta hltb hd hLa hLb hdis

open Ptn.Ein in
/-- **`numpy.tensordot` is `Expr.dot`.**  The same in the vocabulary of contraction programs: the expression
    `tensordotExpr` (the two labelled arrays as leaves, one `dot` over the zipped labels) is strongly well formed -
    so `Expr.eval_eq_full`, `Expr.inner_of_record`, … apply to programs built from such calls -, the result array
    has the dimensions of `Expr.free` (NumPy's leg order) and, read through `Expr.free`, is `Expr.eval`. -/
theorem arr_tensordot_is_dot {L : Type} [DecidableEq L] {α : Type} [CommSemiring α]
    (dim : L → Nat) (a b : Arr α) (ia ib : List Nat) (la lb : Nat → L)
    (hia : ia.Nodup) (hib : ib.Nodup)
    (hlta : ∀ x ∈ ia, x < a.shape.length) (hltb : ∀ x ∈ ib, x < b.shape.length)
    (hd : ia.map (dimAt a.shape) = ib.map (dimAt b.shape))
    (hLa : Labelling dim a.shape la) (hLb : Labelling dim b.shape lb)
    (hdis : ∀ x y, x < a.shape.length → y < b.shape.length → la x ≠ lb y) :
    ∃ C, arrTensordot a b ia ib = some C ∧ (tensordotExpr a b ia ib la lb).SWF ∧
      C.shape = (tensordotExpr a b ia ib la lb).free.map dim ∧
      ∀ σ : Asg L, (∀ l ∈ (tensordotExpr a b ia ib la lb).free, σ l < dim l) →
        C.toLeaf (tensordotExpr a b ia ib la lb).free σ = (tensordotExpr a b ia ib la lb).eval dim σ :=
  arrTensordot_dot dim a b ia ib la lb hia hib hlta hltb hd hLa hLb hdis

open Ptn.Ein in
/-- **Programs of `numpy.tensordot` calls compute `Expr.eval` and the one big sum.**  `Prog` is an arbitrary
    nesting of `tensordot` calls over labelled arrays, `Prog.run` runs it with `arrTensordot` (the axes of each call
    are the positions of the pair labels among the operands' legs, `fa.index(x)`), `Prog.expr` is the expression of
    the network semantics it denotes.  For every strongly well-formed program whose arrays have the dimensions of
    their labels and whose bound legs have equal dimensions (what NumPy checks): the run succeeds, the result has
    the dimensions of the free legs in NumPy's order, and read through the free legs it is `Expr.eval` - hence
    (`Expr.eval_eq_full`) the one sum over the whole binding record of the product of all leaf arrays, what
    `numpy.einsum` over the record computes.  All sizes, any commutative semiring, any label type with at least one
    element (an empty label type has only scalar programs). -/
theorem tensordot_program_is_eval {L : Type} [DecidableEq L] [Inhabited L] {α : Type} [CommSemiring α]
    (dim : L → Nat) (p : Prog L α) (hswf : p.expr.SWF) (hdim : p.Dims dim) :
    ∃ C, p.run = some C ∧ C.shape = p.expr.free.map dim ∧
      ∀ σ : Asg L, (∀ l ∈ p.expr.free, σ l < dim l) →
        C.toLeaf p.expr.free σ = p.expr.eval dim σ ∧ C.toLeaf p.expr.free σ = p.expr.full dim σ := by
  obtain ⟨C, h1, h2, h3⟩ := Prog.run_eq_eval dim p hswf hdim
  exact ⟨C, h1, h2, fun σ hσ => ⟨h3 σ hσ, (h3 σ hσ).trans (Expr.eval_eq_full dim p.expr hswf.wf σ)⟩⟩

open Ptn.Ein in
/-- **Transposition = relabelling.**  The array transposed by `first ++ last` (`transpose_tensor_by_leg_list`,
    `np.transpose`), read through the labels permuted the same way, is the same leaf tensor as the input read
    through its own labels: a lazily stored axis permutation does not change the tensor of the network. -/
theorem arr_transpose_relabel {L : Type} [DecidableEq L] {α : Type} [CommSemiring α]
    (dim : L → Nat) (A At : Arr α) (first last : List Nat) (lab : Nat → L)
    (h : Bipartition A.shape first last) (ht : A.transposeBy first last = some At)
    (hdim : ∀ x, x < A.shape.length → dim (lab x) = dimAt A.shape x)
    (σ : Asg L) (hσ : ∀ x, x < A.shape.length → σ (lab x) < dim (lab x)) :
    At.toLeaf ((first ++ last).map lab) σ = A.toLeaf (axisLegs lab A.shape.length) σ :=
  arrTranspose_relabel dim A At first last lab h ht hdim σ hσ

open Ptn.Ein in
/-- The leaf tensors of the shared line protocol (`ein`, `einrec`: legs + flat integer data) are labelled arrays
    of shape `legs.map dim` in this sense, at every assignment within the dimensions. -/
theorem leaf_of_data_is_labelled_array {L : Type} (dim : L → Nat) (legs : List L) (data : Array Int)
    (σ : Asg L) (h : ∀ l ∈ legs, σ l < dim l) :
    leafOfData dim legs data σ = (⟨legs.map dim, fun k => data.getD k 0⟩ : Arr Int).toLeaf legs σ :=
  leafOfData_eq_toLeaf dim legs data σ h

/-! ### Non-vacuity: concrete instances -/

-- a permuted bipartition of an order-4 tensor with a dimension-1 leg
example : Bipartition [2, 3, 1, 5] [3, 0] [2, 1] := by decide +kernel
example : tensorQR .reduced [2, 3, 1, 5] [3, 0] [2, 1] =
    some ⟨⟨[5, 2, 3], [.orig 3, .orig 0, .bond]⟩, ⟨[3, 1, 3], [.bond, .orig 2, .orig 1]⟩, 3, 0⟩ := by
  decide +kernel
-- wide matricisation (m = 2 < n = 12): FULL keeps m, KEEP pads up to n
example : tensorQR .full [2, 3, 4] [0] [2, 1] =
    some ⟨⟨[2, 2], [.orig 0, .bond]⟩, ⟨[2, 4, 3], [.bond, .orig 2, .orig 1]⟩, 2, 0⟩ := by decide +kernel
example : tensorQR .keep [2, 3, 4] [0] [2, 1] =
    some ⟨⟨[2, 12], [.orig 0, .bond]⟩, ⟨[12, 4, 3], [.bond, .orig 2, .orig 1]⟩, 12, 10⟩ := by decide +kernel
-- tall matricisation: FULL blows the bond up to m = 12
example : (tensorQR .full [2, 3, 4] [2, 1] [0]).map (·.bond) = some 12 := by decide +kernel
-- KEEP, single leg split off: Q has the input's shape
example : (tensorQR .keep [2, 3, 4] [0, 1] [2]).map (·.q.shape) = some [2, 3, 4] := by decide +kernel
example : (tensorQR .keep [4, 3, 2] [0, 1] [2]).map (fun r => (r.q.shape, r.pad)) = some ([4, 3, 2], 0) := by
  decide +kernel
-- empty sides
example : Bipartition [2, 3] [] [1, 0] ∧ Bipartition [2, 3] [1, 0] [] := by decide +kernel
example : (tensorQR .keep [2, 3] [] [1, 0]).map (·.q.shape) = some [6] := by decide +kernel
example : tensorQR .keep [2, 3] [1, 0] [] = none := by decide +kernel
example : (tensorQR .full [2, 3] [1, 0] []).map (·.r.shape) = some [6] := by decide +kernel
-- invalid leg lists
example : ¬ Bipartition [2, 3, 4] [0, 0] [1] ∧ ¬ Bipartition [2, 3, 4] [0] [1] ∧
    ¬ Bipartition [2, 3, 4] [0, 3] [1] := by decide +kernel
example : tensorQR .reduced [2, 3, 4] [0, 0] [1] = none := by decide +kernel
-- SVD: KEEP behaves as FULL
example : tensorSVD .keep [2, 3, 4] [0] [2, 1] = tensorSVD .full [2, 3, 4] [0] [2, 1] := by decide +kernel
example : (tensorSVD .full [2, 3, 4] [0] [2, 1]).map (fun r => (r.u.shape, r.sLen, r.vh.shape)) =
    some ([2, 2], 2, [12, 4, 3]) := by decide +kernel
example : (truncatedSVD [2, 3, 4] [2, 1] [0] 1).map (fun r => (r.u.shape, r.sLen, r.vh.shape)) =
    some ([4, 3, 1], 1, [1, 2]) := by decide +kernel
-- hypotheses of the matrix lemmas are satisfiable: a 2×1 isometry over ℤ, `r*r = s`
example : ((Matrix.of ![![1], ![0]] : Matrix (Fin 2) (Fin 1) ℤ).conjTranspose *
    (Matrix.of ![![1], ![0]] : Matrix (Fin 2) (Fin 1) ℤ)) = 1 := by decide +kernel
example : ∀ i : Fin 2, (![2, 3] : Fin 2 → ℤ) i * ![2, 3] i = ![4, 9] i := by decide +kernel

-- value level: a 2×3 array with entries 0..5; transposing by ([1],[0]) shows T[1,2] = 5 at [2,1]
example : ((⟨[2, 3], fun k => k⟩ : Arr ℕ).transposeBy [1] [0]).map (fun A => (A.shape, A.get [2, 1]))
    = some ([3, 2], 5) := by decide +kernel
-- an order-3 array, bipartition ([2,0],[1]): matricised entry (ravel [4,2] [3,1], 2) = T[1,2,3]
example : ((⟨[2, 3, 4], fun k => k⟩ : Arr ℕ).matricize [2, 0] [1]).map
    (fun M => (M.shape, M.get [ravel [4, 2] [3, 1], 2])) = some ([8, 3], ravel [2, 3, 4] [1, 2, 3]) := by
  decide +kernel
-- the contract hypothesis is satisfiable: M = 1 · M for the 2×2 array [[1,2],[3,4]]
example : ∀ i j, i < 2 → j < 2 →
    ∑ l ∈ Finset.range 2, (⟨[2, 2], fun k => if k = 0 ∨ k = 3 then 1 else 0⟩ : Arr ℕ).get [i, l] *
      (⟨[2, 2], fun k => k + 1⟩ : Arr ℕ).get [l, j] = (⟨[2, 2], fun k => k + 1⟩ : Arr ℕ).get [i, j] := by
  intro i j hi hj
  have hi' : i = 0 ∨ i = 1 := by omega
  have hj' : j = 0 ∨ j = 1 := by omega
  rcases hi' with rfl | rfl <;> rcases hj' with rfl | rfl <;> decide +kernel
-- padding: one zero column appended to a 2×1 array
example : ((⟨[2, 1], fun k => k + 7⟩ : Arr ℕ).padLast 0 1).shape = [2, 2] ∧
    ((⟨[2, 1], fun k => k + 7⟩ : Arr ℕ).padLast 0 1).get [1, 0] = 8 ∧
    ((⟨[2, 1], fun k => k + 7⟩ : Arr ℕ).padLast 0 1).get [1, 1] = 0 := by decide +kernel

/-! ### Non-vacuity: `tensordot` -/

-- a (2,3,2)-array and a (2,3)-array contracted over axes ([2,1],[0,1]) (a permuted pair list): shape and an entry
example : (arrTensordot (⟨[2, 3, 2], fun k => (k : ℤ) + 1⟩ : Arr ℤ) ⟨[2, 3], fun k => (k : ℤ) - 2⟩ [2, 1] [0, 1]).map
    (fun C => (C.shape, C.get [0], C.get [1])) = some ([2], 23, 41) := by decide +kernel
-- the hypotheses of `arr_tensordot_entry` / `arr_tensordot_accepts_iff` hold for it
example : [2, 1].Nodup ∧ [0, 1].Nodup ∧ (∀ x ∈ [2, 1], x < [2, 3, 2].length) ∧ (∀ x ∈ [0, 1], x < [2, 3].length) ∧
    [2, 1].map (dimAt [2, 3, 2]) = [0, 1].map (dimAt [2, 3]) := by decide +kernel
-- the remaining axes and the un-permuted index: a[i, k1, k0] with (k0, k1) the summation indices
example : notIn 3 [2, 1] = [0] ∧ unpermute ([0] ++ [2, 1]) ([1] ++ [0, 2]) = [1, 2, 0] := by decide +kernel
-- nothing contracted (outer product), everything contracted (scalar), dimension-1 axes
example : (arrTensordot (⟨[2], fun k => (k : ℤ) + 1⟩ : Arr ℤ) ⟨[1, 2], fun k => (k : ℤ) + 3⟩ [] []).map
    (fun C => (C.shape, (List.range 4).map C.data)) = some ([2, 1, 2], [3, 4, 6, 8]) := by decide +kernel
example : (arrTensordot (⟨[2, 1], fun k => (k : ℤ) + 1⟩ : Arr ℤ) ⟨[1, 2], fun k => (k : ℤ) + 3⟩ [1, 0] [0, 1]).map
    (fun C => (C.shape, C.data 0)) = some ([], 11) := by decide +kernel
-- rejected: unequal dimensions, a repeated axis, an axis out of range, lists of different length
example : arrTensordot (⟨[2, 3], fun k => (k : ℤ)⟩ : Arr ℤ) ⟨[2, 3], fun k => (k : ℤ)⟩ [1] [0] = none ∧
    arrTensordot (⟨[2, 2], fun k => (k : ℤ)⟩ : Arr ℤ) ⟨[2, 2], fun k => (k : ℤ)⟩ [0, 0] [0, 1] = none ∧
    arrTensordot (⟨[2, 2], fun k => (k : ℤ)⟩ : Arr ℤ) ⟨[2, 2], fun k => (k : ℤ)⟩ [2] [0] = none ∧
    arrTensordot (⟨[2, 2], fun k => (k : ℤ)⟩ : Arr ℤ) ⟨[2, 2], fun k => (k : ℤ)⟩ [0] [0, 1] = none := by
  refine ⟨?_, ?_, ?_, ?_⟩ <;> rfl
-- a labelling: axes of `a` carry labels 0,1,2, axes of `b` labels 3,4; the hypotheses of the bridge theorems hold
example : Ptn.Ein.Labelling (fun l => [2, 3, 2, 2, 3].getD l 0) [2, 3, 2] (fun x => x) ∧
    Ptn.Ein.Labelling (fun l => [2, 3, 2, 2, 3].getD l 0) [2, 3] (fun y => y + 3) ∧
    (∀ x y, x < 3 → y < 2 → (fun x => x) x ≠ (fun y => y + 3) y) :=
  ⟨⟨by decide +kernel, fun _ _ _ _ h => h⟩, ⟨by decide +kernel, fun _ _ _ _ h => by omega⟩, fun x y hx _ h => by simp only at h; omega⟩
-- … and the `sumPairs` side evaluates to the entries computed above (free leg 0 = remaining axis of `a`)
example : (fun i => Ptn.Ein.sumPairs (fun l => [2, 3, 2, 2, 3].getD l 0) (List.zip [2, 1] [3, 4])
      (fun τ => (⟨[2, 3, 2], fun k => (k : ℤ) + 1⟩ : Arr ℤ).toLeaf [0, 1, 2] τ *
        (⟨[2, 3], fun k => (k : ℤ) - 2⟩ : Arr ℤ).toLeaf [3, 4] τ)
      (fun l => if l = 0 then i else 0)) 1 = 41 := by decide +kernel
-- a program of two nested calls over three labelled integer arrays (labels 0..4, dims 2,3,3,2,2):
-- `tensordot(tensordot(A, B, ([1],[0])), v, ([1],[0]))`; it is strongly well formed, its dimensions fit, and it runs
example : let p : Ptn.Ein.Prog ℕ ℤ := .dot (.dot (.leaf [0, 1] ⟨[2, 3], fun k => (k : ℤ) + 1⟩)
      (.leaf [2, 3] ⟨[3, 2], fun k => (k : ℤ) - 2⟩) [(1, 2)]) (.leaf [4] ⟨[2], fun k => 2 * (k : ℤ) - 1⟩) [(3, 4)]
    p.expr.SWF ∧ p.Dims (fun l => [2, 3, 3, 2, 2].getD l 0) ∧ p.expr.free = [0] ∧
      p.run.map (fun C => (C.shape, C.get [0], C.get [1])) = some ([2], 6, 15) := by
  intro p
  refine ⟨⟨⟨⟨by decide +kernel, Ptn.Ein.toLeaf_dependsOn _ _⟩, ⟨by decide +kernel, Ptn.Ein.toLeaf_dependsOn _ _⟩, by decide +kernel, by decide +kernel,
      by decide +kernel, by decide +kernel⟩, ⟨by decide +kernel, Ptn.Ein.toLeaf_dependsOn _ _⟩, by decide +kernel, by decide +kernel, by decide +kernel, by decide +kernel⟩,
    ⟨⟨rfl, rfl, by decide +kernel⟩, rfl, by decide +kernel⟩, by decide +kernel, by decide +kernel⟩
-- transposition = relabelling on a concrete (2,3) array: A[1,2] read as At through the swapped labels
example : ((⟨[2, 3], fun k => k⟩ : Arr ℕ).transposeBy [1] [0]).map
      (fun At => At.toLeaf ([1, 0].map (fun x => x)) (fun l => if l = 0 then 1 else 2)) =
    some ((⟨[2, 3], fun k => k⟩ : Arr ℕ).toLeaf [0, 1] (fun l => if l = 0 then 1 else 2)) := by decide +kernel

end Ptn.C11
