import Ptn.C11.Spec
import Ptn.Common.List
/-! The shape-level model under a bipartition: closed forms of `matricize`, `tensorQR`, `tensorSVD`,
`truncatedSVD`, and rejection of everything else (core Lean only). -/
namespace Ptn.C11

theorem prod_append (a b : List Nat) : prod (a ++ b) = prod a * prod b := by
  induction a with
  | nil => simp [prod]
  | cons x t ih => simp [prod, ih, Nat.mul_assoc]

theorem prod_perm {a b : List Nat} (h : a.Perm b) : prod a = prod b := by
  induction h with
  | nil => rfl
  | cons x _ ih => simp [prod, ih]
  | swap x y l => simp [prod]; rw [← Nat.mul_assoc, ← Nat.mul_assoc, Nat.mul_comm y x]
  | trans _ _ ih1 ih2 => exact ih1.trans ih2

/-- the dimension of axis `a` (`0` for an axis out of range; where it is used the axis is in range) -/
def dimAt (sh : List Nat) (a : Nat) : Nat := sh.getD a 0

theorem dimsOf_of_lt (sh legs : List Nat) (h : ∀ a ∈ legs, a < sh.length) :
    dimsOf sh legs = some (legs.map (dimAt sh)) := by
  induction legs with
  | nil => rfl
  | cons a t ih =>
    have ha : a < sh.length := h a (by simp)
    have := ih (fun b hb => h b (by simp [hb]))
    simp [dimsOf, this, List.getElem?_eq_getElem ha, dimAt, List.getD_eq_getElem?_getD]

theorem dimsOf_some_lt (sh legs ds : List Nat) (h : dimsOf sh legs = some ds) :
    ∀ a ∈ legs, a < sh.length := by
  induction legs generalizing ds with
  | nil => simp
  | cons a t ih =>
    unfold dimsOf at h
    split at h
    · rename_i d ds' hd hds
      intro b hb
      rcases List.mem_cons.mp hb with rfl | hb
      · exact (List.getElem?_eq_some_iff.mp hd).1
      · exact ih ds' hds b hb
    · simp at h

theorem dimsOf_append (sh a b : List Nat) (h : ∀ x ∈ a ++ b, x < sh.length) :
    dimsOf sh (a ++ b) = some (a.map (dimAt sh) ++ b.map (dimAt sh)) := by
  rw [dimsOf_of_lt sh _ h]; simp

theorem map_dimAt_range (sh : List Nat) : (List.range sh.length).map (dimAt sh) = sh := by
  apply List.ext_getElem
  · simp
  · intro i h1 h2
    simp [dimAt, List.getD_eq_getElem?_getD]
    simp at h1
    simp [List.getElem?_eq_getElem h1]

theorem perm_range_lt {axes : List Nat} {n : Nat} (h : axes.Perm (List.range n)) :
    ∀ a ∈ axes, a < n := by
  intro a ha
  have := h.mem_iff.mp ha
  simpa using this

theorem perm_range_nodup {axes : List Nat} {n : Nat} (h : axes.Perm (List.range n)) :
    axes.Nodup := h.nodup_iff.mpr List.nodup_range

theorem perm_range_length {axes : List Nat} {n : Nat} (h : axes.Perm (List.range n)) :
    axes.length = n := by simpa using h.length_eq

theorem transpose_ok (sh q r : List Nat) (h : Bipartition sh q r) :
    transposeByLegList sh q r = some (q.map (dimAt sh) ++ r.map (dimAt sh)) := by
  have hl : sh.length = q.length + r.length := by
    rw [← perm_range_length h, List.length_append]
  unfold transposeByLegList
  rw [if_neg (not_not_intro hl), if_neg (not_not_intro (perm_range_nodup h))]
  exact dimsOf_append sh q r (perm_range_lt h)

theorem matricize_ok (sh q r : List Nat) (h : Bipartition sh q r) :
    dimsOf sh q = some (q.map (dimAt sh)) ∧ dimsOf sh r = some (r.map (dimAt sh)) ∧
    matricize sh q r = some ⟨q.map (dimAt sh) ++ r.map (dimAt sh), prod (q.map (dimAt sh)),
      prod (r.map (dimAt sh))⟩ ∧
    (q.map (dimAt sh) ++ r.map (dimAt sh)).Perm sh ∧
    prod (q.map (dimAt sh)) * prod (r.map (dimAt sh)) = prod sh := by
  have hlt := perm_range_lt h
  have hq : ∀ a ∈ q, a < sh.length := fun a ha => hlt a (by simp [ha])
  have hr : ∀ a ∈ r, a < sh.length := fun a ha => hlt a (by simp [ha])
  have hperm : (q.map (dimAt sh) ++ r.map (dimAt sh)).Perm sh := by
    have := List.Perm.map (dimAt sh) h
    rw [map_dimAt_range, List.map_append] at this
    exact this
  have hprod : prod (q.map (dimAt sh)) * prod (r.map (dimAt sh)) = prod sh := by
    rw [← prod_append]; exact prod_perm hperm
  refine ⟨dimsOf_of_lt sh q hq, dimsOf_of_lt sh r hr, ?_, hperm, hprod⟩
  unfold matricize
  rw [transpose_ok sh q r h]
  simp [hprod]

theorem determine_out (sh legs : List Nat) (a b : Nat) (ds : List Nat)
    (h : dimsOf sh legs = some ds) : determineTensorShape sh a b legs true = some (ds ++ [b]) := by
  simp [determineTensorShape, h]

theorem determine_in (sh legs : List Nat) (a b : Nat) (ds : List Nat)
    (h : dimsOf sh legs = some ds) : determineTensorShape sh a b legs false = some (a :: ds) := by
  simp [determineTensorShape, h]

theorem reshapeOk_out (ds : List Nat) (k : Nat) : reshapeOk (prod ds) k (ds ++ [k]) = true := by
  simp [reshapeOk, prod_append, prod]

theorem reshapeOk_in (ds : List Nat) (k : Nat) : reshapeOk k (prod ds) (k :: ds) = true := by
  simp [reshapeOk, prod]

/-- Outside KEEP the prescribed bond is the inner dimension NumPy returns. -/
theorem qrBond_eq_inner {mode : Mode} (hm : mode ≠ .keep) (m n : Nat) :
    qrBond mode m n = numpyQRInner mode m n := by
  cases mode with
  | reduced => rfl
  | full => rfl
  | keep => exact absurd rfl hm

theorem svdBonds_sLen (mode : Mode) (m n : Nat) : (svdBonds mode m n).2.1 = min m n := by
  cases mode <;> rfl

/-- `S` is never longer than the bonds of `U` and `Vh`. -/
theorem svdBonds_sLen_le (mode : Mode) (m n : Nat) :
    (svdBonds mode m n).2.1 ≤ (svdBonds mode m n).1 ∧ (svdBonds mode m n).2.1 ≤ (svdBonds mode m n).2.2 := by
  cases mode with
  | reduced => exact ⟨Nat.le_refl _, Nat.le_refl _⟩
  | full => exact ⟨Nat.min_le_left m n, Nat.min_le_right m n⟩
  | keep => exact ⟨Nat.min_le_left m n, Nat.min_le_right m n⟩

theorem tensorQR_eq (mode : Mode) (sh q r : List Nat) (h : Bipartition sh q r) :
    tensorQR mode sh q r =
      if mode = .keep ∧ r = [] then none
      else
        let qd := q.map (dimAt sh)
        let rd := r.map (dimAt sh)
        let b := qrBond mode (prod qd) (prod rd)
        some ⟨⟨qd ++ [b], q.map Leg.orig ++ [Leg.bond]⟩, ⟨b :: rd, Leg.bond :: r.map Leg.orig⟩, b,
              qrPad mode (prod qd) (prod rd)⟩ := by
  obtain ⟨hq, hr, hm, _, _⟩ := matricize_ok sh q r h
  unfold tensorQR
  rw [hm]
  simp only
  rw [determine_out sh q _ _ _ hq, determine_in sh r _ _ _ hr]
  simp only [reshapeOk_out, reshapeOk_in, Bool.and_self, not_true_eq_false, if_false]
  cases mode with
  | reduced => rfl
  | full => rfl
  | keep =>
    cases r with
    | nil => rfl
    | cons x t =>
      have hle : min (prod (q.map (dimAt sh))) (prod ((x :: t).map (dimAt sh))) ≤ prod ((x :: t).map (dimAt sh)) :=
        Nat.min_le_right _ _
      show (if prod ((x :: t).map (dimAt sh)) < min (prod (q.map (dimAt sh))) (prod ((x :: t).map (dimAt sh)))
        then none else _) = _
      rw [if_neg (Nat.not_lt.2 hle)]
      simp only [numpyQRInner, List.drop_succ_cons, List.drop_zero, List.dropLast_concat, Nat.add_sub_of_le hle]
      rfl

theorem transpose_some_iff (sh q r : List Nat) :
    (∃ t, transposeByLegList sh q r = some t) ↔ Bipartition sh q r := by
  constructor
  · rintro ⟨t, ht⟩
    unfold transposeByLegList at ht
    split at ht
    · simp at ht
    · rename_i hl
      simp only at ht
      split at ht
      · simp at ht
      · rename_i hnd
        have hnd' : (q ++ r).Nodup := by simpa using hnd
        have hlt := dimsOf_some_lt sh (q ++ r) t ht
        have hl' : (q ++ r).length = sh.length := by simp at hl ⊢; omega
        exact perm_range_of_nodup hnd' hlt hl'
  · intro h
    have := (matricize_ok sh q r h).2.2.1
    unfold matricize at this
    split at this
    · simp at this
    · rename_i t ht; exact ⟨t, ht⟩

theorem matricize_none_of_not (sh q r : List Nat) (h : ¬ Bipartition sh q r) :
    matricize sh q r = none := by
  have : transposeByLegList sh q r = none := by
    cases ht : transposeByLegList sh q r with
    | none => rfl
    | some t => exact absurd ((transpose_some_iff sh q r).mp ⟨t, ht⟩) h
  simp [matricize, this]

theorem tensorSVD_eq (mode : Mode) (sh u v : List Nat) (h : Bipartition sh u v) :
    tensorSVD mode sh u v =
      let ud := u.map (dimAt sh)
      let vd := v.map (dimAt sh)
      let b := svdBonds mode (prod ud) (prod vd)
      some ⟨⟨ud ++ [b.1], u.map Leg.orig ++ [Leg.bond]⟩, b.2.1,
            ⟨b.2.2 :: vd, Leg.bond :: v.map Leg.orig⟩⟩ := by
  obtain ⟨hq, hr, hm, _, _⟩ := matricize_ok sh u v h
  unfold tensorSVD
  rw [hm]
  simp only
  rw [determine_out sh u _ _ _ hq, determine_in sh v _ _ _ hr]
  simp only [reshapeOk_out, reshapeOk_in, Bool.and_self, not_true_eq_false, if_false]
  cases mode <;> rfl

theorem tensorQR_some (mode : Mode) (sh q r : List Nat) (h : Bipartition sh q r)
    (hk : mode = .keep → r ≠ []) :
    tensorQR mode sh q r =
      let qd := q.map (dimAt sh)
      let rd := r.map (dimAt sh)
      let b := qrBond mode (prod qd) (prod rd)
      some ⟨⟨qd ++ [b], q.map Leg.orig ++ [Leg.bond]⟩, ⟨b :: rd, Leg.bond :: r.map Leg.orig⟩, b,
            qrPad mode (prod qd) (prod rd)⟩ := by
  rw [tensorQR_eq mode sh q r h, if_neg (fun hh => hk hh.1 hh.2)]

theorem tensorQR_keep_empty (sh q : List Nat) (h : Bipartition sh q []) :
    tensorQR .keep sh q [] = none := by
  rw [tensorQR_eq .keep sh q [] h]; simp

theorem prod_singleton (a : Nat) : prod [a] = a := by simp [prod]

theorem prod_pos (l : List Nat) (h : ∀ d ∈ l, 0 < d) : 0 < prod l := by
  induction l with
  | nil => simp [prod]
  | cons a t ih =>
    simp only [prod]
    exact Nat.mul_pos (h a (by simp)) (ih (fun d hd => h d (by simp [hd])))

theorem truncatedSVD_some (sh u v : List Nat) (kept : Nat) (h : Bipartition sh u v) :
    truncatedSVD sh u v kept =
      let k := min kept (min (prod (u.map (dimAt sh))) (prod (v.map (dimAt sh))))
      some ⟨⟨u.map (dimAt sh) ++ [k], u.map Leg.orig ++ [Leg.bond]⟩, k,
            ⟨k :: v.map (dimAt sh), Leg.bond :: v.map Leg.orig⟩⟩ := by
  unfold truncatedSVD
  rw [tensorSVD_eq .reduced sh u v h]
  simp only [svdBonds, List.dropLast_concat, List.drop_succ_cons, List.drop_zero]

end Ptn.C11
