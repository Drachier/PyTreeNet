import Mathlib.Data.Matrix.ColumnRowPartitioned
import Mathlib.Data.Matrix.Diagonal
import Mathlib.LinearAlgebra.Matrix.ConjTranspose
/-! Abstract matrix facts behind the numerical clauses of C11, stated directly over Mathlib (the same facts as L1 of
notes/analysis.md, without importing `Ptn.Common.AnalysisIso`). -/
namespace Ptn.C11

open Matrix

variable {R : Type*} {m n k d : Type*}

theorem pad_gram [Fintype m] [DecidableEq k] [CommRing R] [StarRing R] (Q : Matrix m k R) (h : Qᴴ * Q = 1) :
    (fromCols Q (0 : Matrix m d R))ᴴ * fromCols Q (0 : Matrix m d R) =
      fromBlocks (1 : Matrix k k R) 0 0 (0 : Matrix d d R) := by
  rw [conjTranspose_fromCols_eq_fromRows_conjTranspose, fromRows_mul_fromCols]
  simp only [h, Matrix.mul_zero, conjTranspose_zero, Matrix.zero_mul]

theorem isometry_comp [Fintype m] [Fintype n] [DecidableEq n] [DecidableEq k] [CommRing R]
    [StarRing R] (A : Matrix m n R) (B : Matrix n k R)
    (hA : Aᴴ * A = 1) (hB : Bᴴ * B = 1) : (A * B)ᴴ * (A * B) = 1 := by
  rw [conjTranspose_mul, Matrix.mul_assoc, ← Matrix.mul_assoc Aᴴ, hA, Matrix.one_mul, hB]

end Ptn.C11
