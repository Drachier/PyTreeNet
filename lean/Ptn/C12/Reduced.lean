import Ptn.C13.EntryLemmas
import Ptn.C13.Symbols
import Ptn.C14.Props
/-! C12, numeric case (core Lean only): the non-zero pattern of a reduced coefficient matrix, "fully
reduced" (= partial permutation pattern), and the vertex covers of such a pattern.

`nz A i j` is the Python test `Gamma_u[i][j] != 0`, `suppEdges A` the edge list
`[(i, j) for i in range(m) for j in range(n) if Gamma_u[i][j] != 0]` that
`StateDiagram._apply_bipartite_to_gamma_u` hands to `BipartiteGraph(m, n, edges)`.  `NumM A`: no entry of `A`
is symbolic - the case all `Num*.lean` files are about; two example matrices for `Props.lean`. -/
namespace Ptn.C12
open Ptn.C13

/-- `A[i][j] != 0` (out-of-range positions read as `0`). -/
def nz (A : EMat) (i j : Nat) : Bool := !(gM (Entry.num 0) A i j).isZero

/-- The edge list of the bipartite graph of the reduced matrix. -/
def suppEdges (A : EMat) : List (Nat × Nat) :=
  (List.range A.length).flatMap fun i =>
    ((List.range (width A)).filter fun j => nz A i j).map fun j => (i, j)

/-- At most one non-zero entry in every row and in every column: the non-zero pattern is a partial
    permutation matrix. -/
def FullyReduced (A : EMat) : Prop :=
  (∀ i j j', nz A i j = true → nz A i j' = true → j = j') ∧
  (∀ i i' j, nz A i j = true → nz A i' j = true → i = i')

theorem mem_suppEdges (A : EMat) (p : Nat × Nat) :
    p ∈ suppEdges A ↔ p.1 < A.length ∧ p.2 < width A ∧ nz A p.1 p.2 = true := by
  obtain ⟨i, j⟩ := p
  simp only [suppEdges, List.mem_flatMap, List.mem_range, List.mem_map, List.mem_filter,
    Prod.mk.injEq]
  constructor
  · rintro ⟨a, ha, b, ⟨hb, hnz⟩, rfl, rfl⟩
    exact ⟨ha, hb, hnz⟩
  · rintro ⟨h1, h2, h3⟩
    exact ⟨i, h1, j, ⟨h2, h3⟩, rfl, rfl⟩

theorem suppEdges_in_range {A : EMat} {q : Nat} (hw : width A = q) (p : Nat × Nat)
    (hp : p ∈ suppEdges A) : p.1 < A.length ∧ p.2 < q :=
  have h := (mem_suppEdges A p).1 hp
  ⟨h.1, hw ▸ h.2.1⟩

theorem suppEdges_sorted (A : EMat) :
    (suppEdges A).Pairwise fun e e' => e.1 < e'.1 ∨ (e.1 = e'.1 ∧ e.2 < e'.2) := by
  unfold suppEdges
  rw [List.pairwise_flatMap]
  refine ⟨fun i _ => List.pairwise_map.2 ((List.Pairwise.filter _ List.pairwise_lt_range).imp
    fun h => Or.inr ⟨rfl, h⟩), List.pairwise_lt_range.imp fun hab x hx y hy => ?_⟩
  obtain ⟨_, _, rfl⟩ := List.mem_map.1 hx
  obtain ⟨_, _, rfl⟩ := List.mem_map.1 hy
  exact Or.inl hab

theorem suppEdges_fst_nodup (A : EMat) (h : FullyReduced A) : ((suppEdges A).map Prod.fst).Nodup :=
  List.pairwise_map.2 ((List.Pairwise.and_mem.1 (suppEdges_sorted A)).imp fun ⟨he, he', hs⟩ e1 =>
    hs.elim (fun hlt => Nat.ne_of_lt hlt e1) fun ⟨_, hlt⟩ => Nat.ne_of_lt hlt
      (h.1 _ _ _ ((mem_suppEdges A _).1 he).2.2 (e1 ▸ ((mem_suppEdges A _).1 he').2.2)))

theorem suppEdges_snd_nodup (A : EMat) (h : FullyReduced A) : ((suppEdges A).map Prod.snd).Nodup :=
  List.pairwise_map.2 ((List.Pairwise.and_mem.1 (suppEdges_sorted A)).imp fun ⟨he, he', hs⟩ e2 =>
    have e1 := h.2 _ _ _ ((mem_suppEdges A _).1 he).2.2 (e2 ▸ ((mem_suppEdges A _).1 he').2.2)
    hs.elim (fun hlt => Nat.ne_of_lt hlt e1) fun ⟨_, hlt⟩ => Nat.ne_of_lt hlt e2)

theorem suppEdges_isMatching (A : EMat) (h : FullyReduced A) :
    Ptn.C14.IsMatching (fun i j => nz A i j = true) (suppEdges A) :=
  ⟨fun p hp => ((mem_suppEdges A p).1 hp).2.2, suppEdges_fst_nodup A h, suppEdges_snd_nodup A h⟩

theorem nz_lt_length {A : EMat} {i j : Nat} (h : nz A i j = true) : i < A.length := by
  refine Nat.lt_of_not_le fun hi => ?_
  simp [nz, gM_eq_getElem?, List.getElem?_eq_none hi, Entry.isZero] at h

theorem nz_in_range {A : EMat} {n : Nat} (hrect : Rect A n) {i j : Nat} (h : nz A i j = true) :
    i < A.length ∧ j < n := by
  have hi := nz_lt_length h
  refine ⟨hi, Nat.lt_of_not_le fun hj => ?_⟩
  have hrow : A[i].length = n := hrect _ (List.getElem_mem hi)
  simp [nz, gM_eq_getElem?, List.getElem?_eq_getElem hi, List.getElem?_eq_none (by omega : A[i].length ≤ j),
    Entry.isZero] at h

/-- Test forms of the two halves of `FullyReduced` for concrete rectangular matrices: only the positions
    inside the matrix have to be looked at. -/
theorem rowSingle_of_box {A : EMat} {n : Nat} (hrect : Rect A n)
    (h : ∀ i < A.length, ∀ j < n, ∀ j' < n, nz A i j = true → nz A i j' = true → j = j')
    (i j j' : Nat) (h1 : nz A i j = true) (h2 : nz A i j' = true) : j = j' :=
  h i (nz_in_range hrect h1).1 j (nz_in_range hrect h1).2 j' (nz_in_range hrect h2).2 h1 h2

theorem colSingle_of_box {A : EMat} {n : Nat} (hrect : Rect A n)
    (h : ∀ i < A.length, ∀ i' < A.length, ∀ j < n, nz A i j = true → nz A i' j = true → i = i')
    (i i' j : Nat) (h1 : nz A i j = true) (h2 : nz A i' j = true) : i = i' :=
  h i (nz_in_range hrect h1).1 i' (nz_in_range hrect h2).1 j (nz_in_range hrect h1).2 h1 h2

theorem suppEdges_rows_cover (A : EMat) (n : Nat) (hpos : 0 < A.length) (hrect : Rect A n) :
    Ptn.C14.IsCover (fun i j => nz A i j = true) ((suppEdges A).map Prod.fst) [] := by
  intro i j hij
  left
  obtain ⟨hi, hj⟩ := nz_in_range hrect hij
  have hw : width A = n := width_of_rect hrect hpos
  exact List.mem_map.2 ⟨(i, j), (mem_suppEdges A (i, j)).2 ⟨hi, by rw [hw]; exact hj, hij⟩, rfl⟩

/-- `Γ` of `sge_numeric_not_fully_reduced`: rank 2, two zero columns. -/
def exNotReduced : EMat :=
  [[.num 0, .num 0, .num 0, .num (-1)], [.num 0, .num 0, .num 1, .num 0],
   [.num 0, .num 0, .num (-1), .num (-1)]]

/-- A 3 × 3 numeric matrix of rank 2 without zero rows / columns. -/
def exRank2 : EMat :=
  [[.num 1, .num 2, .num 0], [.num 2, .num 4, .num 1], [.num 3, .num 6, .num 1]]

/-- No symbolic entry. -/
def NumM (A : EMat) : Prop := AllE (Entry.SymIn (fun _ => False)) A

/-- Test forms of `NumM` and `Rect` for concrete matrices. -/
theorem numM_of_all {A : EMat} (h : (A.all fun r => r.all fun e => e matches .num _) = true) :
    NumM A := by
  intro r hr e he
  have := List.all_eq_true.1 (List.all_eq_true.1 h r hr) e he
  cases e with
  | num q => trivial
  | sym q s => simp at this

theorem rect_of_all {α : Type} {X : List (List α)} {w : Nat}
    (h : (X.all fun r => r.length == w) = true) : Rect X w :=
  fun r hr => by simpa using List.all_eq_true.1 h r hr

theorem numM_gM {A : EMat} (h : NumM A) (i j : Nat) : ∃ q, gM (Entry.num 0) A i j = Entry.num q := by
  have : Entry.SymIn (fun _ => False) (gM (Entry.num 0) A i j) := allE_gM trivial h i j
  cases hg : gM (Entry.num 0) A i j with
  | num q => exact ⟨q, rfl⟩
  | sym q s => rw [hg] at this; exact absurd this (by simp [Entry.SymIn])

theorem numM_nesm {A : EMat} (h : NumM A) : NESM A := by
  intro r hr e he
  have := h r hr e he
  cases e with
  | num q => trivial
  | sym q s => exact absurd this (by simp [Entry.SymIn])

end Ptn.C12
