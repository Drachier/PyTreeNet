import Ptn.C12.NumPass
/-! C12, numeric case (core Lean only): the last pass of the fixed-point loop of
`gaussian_elimination` deletes nothing; if the returned matrix has no zero row and no zero column it is
square and diagonal with non-zero diagonal. -/
namespace Ptn.C12
open Ptn.C13

def HasZeroRow (A : EMat) (m : Nat) : Prop := ∃ r, r < m ∧ ∀ c, val A r c = 0

/-- Square, and every row is a unit row with its non-zero entry on the diagonal. -/
def DiagNZ (s : St) : Prop := s.A.length = s.R.length ∧ ∀ r, r < s.A.length → Prow s.A r

/-- What the analysis of one pass yields: without zero lines the matrix is diagonal. -/
def PassGoal (s : St) : Prop :=
  ¬ HasZeroCol s.A s.R.length → ¬ HasZeroRow s.A s.A.length → DiagNZ s

/-- An `m × w` matrix whose first `min m w` rows are unit rows and whose first `min m w` columns are
    unit columns or vanish from the diagonal on is square if it has no zero row and no zero column:
    row `w` resp. column `m` would be zero. -/
theorem square_of_unit_lines {A : EMat} {m w : Nat} (hr : ∀ r c, m ≤ r → val A r c = 0)
    (hc : ∀ r c, w ≤ c → val A r c = 0) (hR : ∀ r, r < min m w → Prow A r)
    (hC : ∀ c, c < min m w → Pcol A c ∨ Zcol A c) (hzc : ¬ HasZeroCol A w)
    (hzr : ¬ HasZeroRow A m) : m = w := by
  apply Nat.le_antisymm
  · refine Nat.le_of_not_lt fun hlt => hzr ⟨w, hlt, fun c => ?_⟩
    by_cases hcw : c < w
    · rcases hC c (by omega) with h | h
      · exact h.2 _ (by omega)
      · exact h _ (by omega)
    · exact hc _ _ (by omega)
  · refine Nat.le_of_not_lt fun hlt => hzc ⟨m, hlt, fun r => ?_⟩
    by_cases hrm : r < m
    · exact (hR r (by omega)).2 _ (by omega)
    · exact hr _ _ (by omega)

/-- **A pass `row_elimination; column_elimination` that deletes nothing** (numeric matrix): if its
    result has no zero row and no zero column, the result is square and diagonal with non-zero
    diagonal entries. -/
theorem numeric_pass_diagonal (n : Nat) (s : St) (hws : WS n s) (hnum : NumM s.A)
    (hrows : (columnElimination (rowElimination s)).A.length = s.A.length)
    (hcols : (columnElimination (rowElimination s)).R.length = s.R.length) :
    PassGoal (columnElimination (rowElimination s)) := by
  intro hzc hzr
  obtain ⟨wsB, hRB, _, _, _⟩ := rowRel_rowElimination n s hws
  obtain ⟨ws2, _, hA2, _, _⟩ := colRel_columnElimination n (rowElimination s) wsB
  have hBlen : (rowElimination s).A.length = s.A.length := hA2.symm.trans hrows
  have hBR : (rowElimination s).R.length = s.R.length := by rw [hRB]
  have hmin : min s.A.length s.R.length ≤ min s.A.length (width s.A) + 0 := by
    rw [width_eq hws]; exact Nat.le_refl _
  have hminB : min (rowElimination s).A.length (rowElimination s).R.length ≤
      min (rowElimination s).A.length (width (rowElimination s).A) + 0 := by
    rw [width_eq wsB]; exact Nat.le_refl _
  -- `rowElimLoop_nodel`, then `colElimLoop_nodel` on its result (their fuel and bound are spelt with `width`,
  -- hence the `+ 0` and the `change`); unit rows and unit-or-vanishing columns without a zero line make a square
  have hJ := rowElimLoop_nodel n (min s.A.length (width s.A)) 0 s hws hnum hBlen hmin
    (fun c hc => absurd hc (Nat.not_lt_zero c))
  have hcol := colElimLoop_nodel n (min (rowElimination s).A.length (width (rowElimination s).A)) 0
    (rowElimination s) wsB (sym_rowElimination s hnum) (hcols.trans hBR.symm) hminB
    (fun r hr => absurd hr (Nat.not_lt_zero r)) (by rw [hBlen, hBR]; exact hJ)
    (by rw [hBR, ← hcols]; exact hzc)
  change (∀ r, r < min (rowElimination s).A.length (rowElimination s).R.length →
        Prow (columnElimination (rowElimination s)).A r) ∧
      (∀ c, c < min (rowElimination s).A.length (rowElimination s).R.length →
        Pcol (columnElimination (rowElimination s)).A c ∨
        Zcol (columnElimination (rowElimination s)).A c) at hcol
  rw [hBlen, hBR] at hcol
  have hsq : s.A.length = s.R.length :=
    square_of_unit_lines (fun r c h => val_oob_row (by rw [hrows]; exact h) c)
      (fun r c h => val_oob_col ws2.Arect (by rw [hcols]; exact h) r) hcol.1 hcol.2
      (by rw [← hcols]; exact hzc) (by rw [← hrows]; exact hzr)
  refine ⟨by rw [hrows, hcols]; exact hsq, fun r hr => hcol.1 r ?_⟩
  rw [hrows] at hr
  rw [← hsq, Nat.min_self]
  exact hr

theorem raise_flag_ne_ok (s : St) : (s.raise Flag.fuel).flag ≠ Flag.ok := by
  unfold St.raise
  split
  · simp
  · assumption

/-- **The fixed-point loop ends after a pass that deleted nothing**: the state it returns (without
    having run out of fuel) satisfies whatever such a pass guarantees. -/
theorem mainLoop_last_pass (n : Nat) : ∀ (fuel nr nro nc nco : Nat) (s : St), WS n s → NumM s.A →
    s.A.length ≤ nr → s.R.length ≤ nc →
    ((nr = nro ∧ nc = nco) → PassGoal s) →
    (mainLoop fuel nr nro nc nco s).flag = Flag.ok → PassGoal (mainLoop fuel nr nro nc nco s) := by
  intro fuel
  induction fuel with
  | zero =>
    intro nr nro nc nco s _ _ _ _ hstop hflag
    unfold mainLoop at hflag ⊢
    split
    · rename_i hc
      rw [if_pos hc] at hflag
      exact absurd hflag (raise_flag_ne_ok s)
    · rename_i hc
      exact hstop (by omega)
  | succ fuel ih =>
    intro nr nro nc nco s hws hnum hr hc hstop hflag
    unfold mainLoop at hflag ⊢
    split
    · rename_i hcond
      rw [if_pos hcond] at hflag
      simp only at hflag ⊢
      obtain ⟨ws2, hA2, hR2⟩ := ws_pass hws
      have num2 : NumM (columnElimination (rowElimination s)).A :=
        sym_columnElimination _ (sym_rowElimination s hnum)
      have hw2 : width (columnElimination (rowElimination s)).A =
          (columnElimination (rowElimination s)).R.length := width_eq ws2
      rw [hw2] at hflag ⊢
      refine ih _ _ _ _ _ ws2 num2 (Nat.le_refl _) (Nat.le_refl _) ?_ hflag
      intro ⟨e1, e2⟩
      exact numeric_pass_diagonal n s hws hnum (by omega) (by omega)
    · rename_i hcond
      exact hstop (by omega)

theorem gaussSt_passGoal (M : EMat) (n : Nat) (hpos : 0 < M.length) (hrect : Rect M n) (hnum : NumM M)
    (hflag : (gaussSt M).flag = Flag.ok) : PassGoal (gaussSt M) := by
  have g2 := (good_depar M n hpos hrect (numM_nesm hnum)).2.2
  have num2 : NumM (deparallelizeCols (deparallelizeRows
      { L := identity M.length, A := M, R := identity n, flag := .ok })).A :=
    Side.allE_deparallelize colEntryLaws _ (Side.allE_deparallelize rowEntryLaws _ hnum)
  unfold gaussSt at hflag ⊢
  simp only at hflag ⊢
  rw [width_of_rect hrect hpos] at hflag ⊢
  exact mainLoop_last_pass n _ _ _ _ _ _ g2.ws num2 g2.rows_le g2.cols_le
    (fun h => absurd h.1 (by omega)) hflag

theorem diagNZ_nz {s : St} (hnum : NumM s.A) (h : DiagNZ s) (i j : Nat) :
    nz s.A i j = true ↔ (i = j ∧ i < s.A.length) := by
  rw [nz_iff_val hnum]
  constructor
  · intro hne
    by_cases hi : i < s.A.length
    · refine ⟨?_, hi⟩
      by_cases hij : j = i
      · exact hij.symm
      · exact absurd ((h.2 i hi).2 j hij) hne
    · exact absurd (val_oob_row (by omega) j) hne
  · rintro ⟨rfl, hi⟩
    exact (h.2 i hi).1

end Ptn.C12
