import Ptn.C12.Reduced
import Ptn.C13.Total
/-! C12, numeric case (core Lean only): what the primitives of the C13 model do to the values of a matrix
without symbolic entries (`NumLaws`, over the record `Side` of C13, with the row and the column instance), and
from it the body of the inner loop of an elimination and the pivot search. -/
namespace Ptn.C12
open Ptn.C13

/-- The rational value of the entry `A[i][j]` of a numeric matrix (`0` outside the matrix). -/
def val (A : EMat) (i j : Nat) : Rat := gE (fun _ => 0) A i j

theorem gM_eq_num_val {A : EMat} (h : NumM A) (i j : Nat) :
    gM (Entry.num 0) A i j = Entry.num (val A i j) := by
  obtain ⟨q, hq⟩ := numM_gM h i j
  simp [val, gE, hq, Entry.eval]

theorem nz_iff_val {A : EMat} (h : NumM A) (i j : Nat) : nz A i j = true ↔ val A i j ≠ 0 := by
  unfold nz; rw [gM_eq_num_val h i j]; simp [Entry.isZero]

theorem numM_nzm {A : EMat} (h : NumM A) : NZM A := by
  intro r hr e he
  have := h r hr e he
  cases e with
  | num q => trivial
  | sym q s => exact absurd this (by simp [Entry.SymIn])

abbrev IsNum (e : Entry) : Prop := Entry.SymIn (fun _ => False) e

theorem isNum_cases {e : Entry} (h : IsNum e) : ∃ q, e = Entry.num q := by
  cases e with
  | num q => exact ⟨q, rfl⟩
  | sym q s => exact absurd h (by simp [IsNum, Entry.SymIn])

theorem addEntry_num {f : Rat} {t s : Entry} (ht : IsNum t) (hs : IsNum s) :
    ∃ e, addEntry f t s = some e := by
  obtain ⟨a, rfl⟩ := isNum_cases ht
  obtain ⟨b, rfl⟩ := isNum_cases hs
  exact ⟨_, rfl⟩

theorem addLine_num (f : Rat) : ∀ (ts ss : List Entry), (∀ e ∈ ts, IsNum e) → (∀ e ∈ ss, IsNum e) →
    ∃ r, addLine f ts ss = some r
  | [], _, _, _ => ⟨[], by simp [addLine]⟩
  | _ :: _, [], _, _ => ⟨[], by simp [addLine]⟩
  | t :: ts, s :: ss, h1, h2 => by
    obtain ⟨e, he⟩ := addEntry_num (f := f) (h1 t (by simp)) (h2 s (by simp))
    obtain ⟨r, hr⟩ := addLine_num f ts ss (fun e he => h1 e (by simp [he])) (fun e he => h2 e (by simp [he]))
    exact ⟨e :: r, by simp [addLine, he, hr]⟩

theorem numM_getD {A : EMat} (h : NumM A) (i : Nat) : ∀ e ∈ A.getD i [], IsNum e :=
  allE_row h i

theorem rowAddRaw_num {A : EMat} (h : NumM A) (t s : Nat) (f : Rat) :
    ∃ p, rowAddRaw A t s f = some p := by
  obtain ⟨r, hr⟩ := addLine_num f (A.getD t []) (A.getD s []) (numM_getD h t) (numM_getD h s)
  exact ⟨(A.set t r, r.all Entry.isZero), by simp only [rowAddRaw, hr]⟩

theorem addCol_num (f : Rat) (t s : Nat) : ∀ (A : EMat), NumM A → ∃ c, addCol f t s A = some c
  | [], _ => ⟨[], rfl⟩
  | row :: rest, h => by
    have hrow : ∀ e ∈ row, IsNum e := fun e he => h row (by simp) e he
    obtain ⟨e, he⟩ := addEntry_num (f := f) (allE_getD (P := IsNum) trivial hrow t)
      (allE_getD (P := IsNum) trivial hrow s)
    obtain ⟨c, hc⟩ := addCol_num f t s rest (fun r hr => h r (by simp [hr]))
    exact ⟨e :: c, by simp only [addCol, he, hc]⟩

theorem colAddRaw_num {A : EMat} (h : NumM A) (t s : Nat) (f : Rat) :
    ∃ p, colAddRaw A t s f = some p := by
  obtain ⟨c, hc⟩ := addCol_num f t s A h
  exact ⟨(List.zipWith (fun row e => row.set t e) A c, c.all Entry.isZero), by simp only [colAddRaw, hc]⟩

/-- `row_add` on a numeric matrix always acts: row `t` becomes `row t + f · row s`. -/
theorem rowAdd_val (n : Nat) (st : St) (t s : Nat) (f : Rat) (hws : WS n st) (hnum : NumM st.A)
    (ht : t < st.A.length) (hs : s < st.A.length) (k l : Nat) :
    val (st.rowAdd t s f).1.A k l =
      if k = t then val st.A t l + f * val st.A s l else val st.A k l := by
  obtain ⟨⟨A', z⟩, hp⟩ := rowAddRaw_num hnum t s f
  obtain ⟨_, _, h3, _⟩ := rowAddRaw_spec (fun _ => 0) hp hws.Arect ht hs
  simp only [St.rowAdd, hp, val]
  exact h3 k l

theorem colAdd_val (n : Nat) (st : St) (t s : Nat) (f : Rat) (hws : WS n st) (hnum : NumM st.A)
    (ht : t < st.R.length) (k l : Nat) :
    val (st.colAdd t s f).1.A k l =
      if l = t then val st.A k t + f * val st.A k s else val st.A k l := by
  obtain ⟨⟨A', z⟩, hp⟩ := colAddRaw_num hnum t s f
  obtain ⟨_, _, h3, _⟩ := colAddRaw_spec (fun _ => 0) hp hws.Arect ht
  simp only [St.colAdd, hp, val]
  exact h3 k l

theorem rat_elim (a e p x : Rat) : a + (-e) / p * x = a - e / p * x := by
  rw [Rat.div_def, Rat.div_def]; grind

theorem rat_sub_mul_zero (a b : Rat) : a - b * 0 = a := by grind

theorem rat_sub_zero_div_mul (a p x : Rat) : a - 0 / p * x = a := by
  rw [Rat.div_def]; grind

theorem val_oob_row {A : EMat} {r : Nat} (h : A.length ≤ r) (c : Nat) : val A r c = 0 := by
  have hn : A[r]? = none := List.getElem?_eq_none h
  simp [val, gE_eq_getElem?, hn, Entry.eval]

theorem val_oob_col {A : EMat} {w : Nat} (hA : Rect A w) {c : Nat} (h : w ≤ c) (r : Nat) :
    val A r c = 0 := by
  simp only [val, gE_eq_getElem?]
  cases hr : A[r]? with
  | none => simp [Entry.eval]
  | some row =>
    have : row.length = w := hA row (List.mem_of_getElem? hr)
    have hn : row[c]? = none := List.getElem?_eq_none (by omega)
    simp [hn, Entry.eval]

theorem val_rowSwap (A : EMat) (a b : Nat) (ha : a < A.length) (hb : b < A.length) (r c : Nat) :
    val (rowSwapM A a b) r c = val A (swapIdx a b r) c := by
  simp only [val, gE, gM_rowSwap _ _ _ _ _ _ ha hb]

theorem val_colSwap (A : EMat) (w a b : Nat) (hA : Rect A w) (ha : a < w) (hb : b < w) (r c : Nat) :
    val (colSwapM A a b) r c = val A r (swapIdx a b c) := by
  simp only [val, gE, gM_colSwap _ _ w _ _ _ _ hA ha hb]

/-- The search `next(k for k in range(i + 1, len) if v[k] != 0)` of the two pivot searches, for a test
    `p` that decides `v k ≠ 0` and values that vanish from `len` on. -/
theorem pivotSearch_cases (v : Nat → Rat) (p : Nat → Bool) (hp : ∀ k, p k = true ↔ v k ≠ 0) (i len : Nat)
    (hoob : ∀ k, len ≤ k → v k = 0) :
    (∃ j, i < j ∧ j < len ∧ v j ≠ 0 ∧ (List.range' (i + 1) (len - (i + 1))).find? p = some j) ∨
    ((List.range' (i + 1) (len - (i + 1))).find? p = none ∧ ∀ k, i < k → v k = 0) := by
  cases h : (List.range' (i + 1) (len - (i + 1))).find? p with
  | some j =>
    have hm := List.mem_of_find?_eq_some h
    simp only [List.mem_range'_1] at hm
    exact Or.inl ⟨j, by omega, by omega, (hp j).1 (List.find?_some h), rfl⟩
  | none =>
    refine Or.inr ⟨rfl, fun k hk => ?_⟩
    by_cases hkl : k < len
    · have := List.find?_eq_none.1 h k (by simp only [List.mem_range'_1]; omega)
      exact Decidable.of_not_not fun hne => this ((hp k).2 hne)
    · exact hoob k (by omega)

/-- Composite index map of deleting the positions `zs` one after the other. -/
def skips : List Nat → Nat → Nat
  | [], r => r
  | z :: zs, r => skipIdx z (skips zs r)

theorem val_delRow (A : EMat) (z r c : Nat) : val (delRow A z) r c = val A (skipIdx z r) c := by
  simp only [val, gE, gM_delRow]

theorem val_delCol (A : EMat) (z r c : Nat) : val (delCol A z) r c = val A r (skipIdx z c) := by
  simp only [val, gE, gM_delCol]

theorem val_delRows : ∀ (zs : List Nat) (s : St) (r c : Nat),
    val (s.delRows zs).A r c = val s.A (skips zs r) c
  | [], _, _, _ => rfl
  | z :: zs, s, r, c => by
    rw [delRows_cons, val_delRows zs _ r c]
    exact val_delRow s.A z _ c

theorem val_delCols : ∀ (zs : List Nat) (s : St) (r c : Nat),
    val (s.delCols zs).A r c = val s.A r (skips zs c)
  | [], _, _, _ => rfl
  | z :: zs, s, r, c => by
    rw [delCols_cons, val_delCols zs _ r c]
    exact val_delCol s.A z r _

theorem isZero_of_num_eval {e : Entry} (hn : IsNum e) (h : e.eval (fun _ => 0) = 0) :
    e.isZero = true := by
  obtain ⟨q, rfl⟩ := isNum_cases hn
  simp only [Entry.eval] at h
  simp [Entry.isZero, h]

theorem rowAdd_flag_complete (st : St) (t s : Nat) (f : Rat)
    (hnum : NumM st.A) (ht : t < st.A.length)
    (hz : ∀ l, val (st.rowAdd t s f).1.A t l = 0) : (st.rowAdd t s f).2 = true := by
  obtain ⟨⟨A', z⟩, hp⟩ := rowAddRaw_num hnum t s f
  have hnum' : NumM A' := rowAddRaw_sym hp hnum
  simp only [St.rowAdd, hp] at hz ⊢
  simp only [rowAddRaw] at hp
  split at hp
  · simp at hp
  · rename_i r hr
    simp only [Option.some.injEq, Prod.mk.injEq] at hp
    obtain ⟨hA', hzr⟩ := hp
    subst hzr
    rw [List.all_eq_true]
    intro e he
    obtain ⟨l, hl, rfl⟩ := List.getElem_of_mem he
    have hrow : A'.getD t [] = r := by
      subst hA'
      simp [List.getD_eq_getElem?_getD, ht]
    have hmem : r[l] ∈ A'.getD t [] := by rw [hrow]; exact List.getElem_mem hl
    have hn : IsNum r[l] := numM_getD hnum' t _ hmem
    apply isZero_of_num_eval hn
    have := hz l
    simp only [val, gE, gM, hrow] at this
    simpa [List.getD_eq_getElem?_getD, hl] using this

theorem colAdd_flag_complete (n : Nat) (st : St) (t s : Nat) (f : Rat) (hws : WS n st)
    (hnum : NumM st.A) (ht : t < st.R.length)
    (hz : ∀ k, val (st.colAdd t s f).1.A k t = 0) : (st.colAdd t s f).2 = true := by
  obtain ⟨⟨A', z⟩, hp⟩ := colAddRaw_num hnum t s f
  obtain ⟨_, _, h3, _⟩ := colAddRaw_spec (fun _ => 0) hp hws.Arect ht
  simp only [St.colAdd, hp] at hz ⊢
  simp only [colAddRaw] at hp
  split at hp
  · simp at hp
  · rename_i c hc
    simp only [Option.some.injEq, Prod.mk.injEq] at hp
    obtain ⟨_, hzc⟩ := hp
    subst hzc
    obtain ⟨h1, h2⟩ := addCol_spec f t s (fun _ => 0) st.A c hc
    have hcnum := addCol_sym (S := fun _ => False) f t s st.A c hc hnum
    rw [List.all_eq_true]
    intro e he
    obtain ⟨k, hk, rfl⟩ := List.getElem_of_mem he
    apply isZero_of_num_eval (hcnum _ (List.getElem_mem hk))
    have e1 := h2 k
    have e2 := h3 k t
    have e3 := hz k
    simp only [if_true] at e2
    simp only [val] at e3
    rw [List.getElem?_eq_getElem hk, Option.getD_some] at e1
    rw [e1, ← e2]
    exact e3

/-- What the numeric layer uses of the primitives of a side, on matrices without symbols: the entries read
    are the values, an addition always acts and flags every zero line, and what swap, deletion and the
    parallel test do to the values. -/
structure NumLaws (sd : Side) (n : Nat) : Prop where
  read_num : ∀ {A}, NumM A → ∀ k i, sd.read A k i = Entry.num (sd.v A k i)
  oob : ∀ {s k}, WS n s → sd.dim s ≤ k → ∀ y, sd.v s.A k y = 0
  add_val : ∀ st t s f, WS n st → NumM st.A → t < sd.dim st → s < sd.dim st → ∀ k y,
    sd.v (sd.add st t s f).1.A k y =
      if k = t then sd.v st.A t y + f * sd.v st.A s y else sd.v st.A k y
  add_flag : ∀ st t s f, WS n st → NumM st.A → t < sd.dim st → s < sd.dim st →
    (∀ y, sd.v (sd.add st t s f).1.A t y = 0) → (sd.add st t s f).2 = true
  swap_val : ∀ {s a b}, WS n s → a < sd.dim s → b < sd.dim s →
    ∀ k y, sd.v (sd.swap s a b).A k y = sd.v s.A (swapIdx a b k) y
  del_val : ∀ zs s k y, sd.v (sd.del s zs).A k y = sd.v s.A (skips zs k) y
  par_val : ∀ {s i j}, WS n s → NESM s.A → i < sd.dim s → j < sd.dim s → sd.par s.A i j ≠ 0 →
    ∃ μ : Rat, ∀ y, sd.v s.A j y = μ * sd.v s.A i y

theorem val_eq_rowv (A : EMat) (k l : Nat) : val A k l = rowSide.v A k l := rfl
theorem val_eq_colv (A : EMat) (k l : Nat) : val A k l = colSide.v A l k := rfl

/- `val` does not unfold readily: the laws are turned into statements about `val` before the lemmas of
   each side are used. -/
theorem rowNum (n : Nat) : NumLaws rowSide n := by
  constructor <;> simp only [← val_eq_rowv]
  · exact fun h k i => gM_eq_num_val h k i
  · exact fun _ hk y => val_oob_row hk y
  · exact fun st t s f hws hnum ht hs k y => rowAdd_val n st t s f hws hnum ht hs k y
  · exact fun st t s f _ hnum ht _ hz => rowAdd_flag_complete st t s f hnum ht hz
  · exact fun _ ha hb k y => val_rowSwap _ _ _ ha hb k y
  · exact fun zs s k y => val_delRows zs s k y
  · exact fun hws hnes hi hj hm =>
      ⟨_, fun y => areParallelRow_sound (fun _ => 0) hws.Arect hnes hi hj rfl hm y⟩

theorem colNum (n : Nat) : NumLaws colSide n := by
  constructor <;> simp only [← val_eq_colv]
  · exact fun h k i => gM_eq_num_val h i k
  · exact fun hws hk y => val_oob_col hws.Arect hk y
  · exact fun st t s f hws hnum ht _ k y => colAdd_val n st t s f hws hnum ht y k
  · exact fun st t s f hws hnum ht _ hz => colAdd_flag_complete n st t s f hws hnum ht hz
  · exact fun hws ha hb k y => val_colSwap _ _ _ _ hws.Arect ha hb y k
  · exact fun zs s k y => val_delCols zs s y k
  · exact fun hws hnes hi hj hm =>
      ⟨_, fun y => areParallelCol_sound (fun _ => 0) hnes rfl hm y⟩

namespace NumLaws
variable {sd : Side} {n : Nat} {keeps : St → List Nat → Prop}

theorem isZero_read (num : NumLaws sd n) {A : EMat} (h : NumM A) (k i : Nat) :
    (sd.read A k i).isZero = true ↔ sd.v A k i = 0 := by
  rw [num.read_num h k i]; simp [Entry.isZero]

/-- The addition runs on a state `st'` with the same three matrices: the flag may have been raised. -/
theorem elimInner_num (num : NumLaws sd n) (i j : Nat) (p : Rat) (acc : St × List Nat)
    (hnum : NumM acc.1.A) :
    (¬ (j ≠ i ∧ sd.v acc.1.A j i ≠ 0) ∧ sd.elimInner i (Entry.num p) acc j = acc) ∨
    ((j ≠ i ∧ sd.v acc.1.A j i ≠ 0) ∧ ∃ st' : St, st'.L = acc.1.L ∧ st'.A = acc.1.A ∧ st'.R = acc.1.R ∧
      sd.elimInner i (Entry.num p) acc j = ((sd.add st' j i (-sd.v acc.1.A j i / p)).1,
        if (sd.add st' j i (-sd.v acc.1.A j i / p)).2 then acc.2 ++ [j] else acc.2)) := by
  unfold Side.elimInner
  simp only [num.read_num hnum j i, Entry.isZero, Bool.not_eq_true', decide_eq_false_iff_not]
  by_cases hc : j ≠ i ∧ ¬ sd.v acc.1.A j i = 0
  · rw [if_pos hc]
    refine Or.inr ⟨hc, if decide (p = 0) = true then acc.1.raise Flag.zeroDiv else acc.1, ?_, ?_, ?_, rfl⟩ <;>
      split <;> simp
  · rw [if_neg hc]
    exact Or.inl ⟨hc, rfl⟩

theorem elimInner_snd_subset (num : NumLaws sd n) (i j : Nat) (p : Rat) (acc : St × List Nat)
    (h : NumM acc.1.A) : ∀ z, z ∈ acc.2 → z ∈ (sd.elimInner i (Entry.num p) acc j).2 := by
  intro z hz
  rcases num.elimInner_num i j p acc h with ⟨_, he⟩ | ⟨_, st', _, _, _, he⟩
  · rw [he]; exact hz
  · rw [he]
    split
    · exact List.mem_append_left _ hz
    · exact hz

theorem elimInner_val (law : sd.RelLaws n keeps) (num : NumLaws sd n) (i j : Nat) (p : Rat)
    (acc : St × List Nat) (hws : WS n acc.1) (hnum : NumM acc.1.A) (hi : i < sd.dim acc.1)
    (hj : j < sd.dim acc.1) (k y : Nat) :
    sd.v (sd.elimInner i (Entry.num p) acc j).1.A k y =
      if k = j ∧ j ≠ i then sd.v acc.1.A j y - sd.v acc.1.A j i / p * sd.v acc.1.A i y
      else sd.v acc.1.A k y := by
  rcases num.elimInner_num i j p acc hnum with ⟨hc, he⟩ | ⟨hc, st', hL, hA, hR, he⟩
  · rw [he]
    split
    · rename_i hk
      obtain ⟨rfl, hji⟩ := hk
      have hz : sd.v acc.1.A k i = 0 := Decidable.of_not_not fun hne => hc ⟨hji, hne⟩
      rw [hz]
      exact (rat_sub_zero_div_mul _ _ _).symm
    · rfl
  · have hd : sd.dim st' = sd.dim acc.1 := (law.congr hL hA hR).2.2.1
    rw [he, num.add_val st' j i _ (ws_of_eq hL hA hR hws) (hA ▸ hnum) (hd ▸ hj) (hd ▸ hi) k y, hA]
    by_cases hk : k = j
    · rw [if_pos hk, if_pos ⟨hk, hc.1⟩]
      exact rat_elim _ _ _ _
    · rw [if_neg hk, if_neg fun h => hk h.1]

theorem elimInner_flag (law : sd.RelLaws n keeps) (num : NumLaws sd n) (i j : Nat) (p : Rat)
    (acc : St × List Nat) (hws : WS n acc.1) (hnum : NumM acc.1.A) (hi : i < sd.dim acc.1)
    (hj : j < sd.dim acc.1) (hz : ∀ y, sd.v (sd.elimInner i (Entry.num p) acc j).1.A j y = 0) :
    j ∈ (sd.elimInner i (Entry.num p) acc j).2 ∨ ∀ y, sd.v acc.1.A j y = 0 := by
  rcases num.elimInner_num i j p acc hnum with ⟨_, he⟩ | ⟨_, st', hL, hA, hR, he⟩
  · rw [he] at hz
    exact Or.inr hz
  · have hd : sd.dim st' = sd.dim acc.1 := (law.congr hL hA hR).2.2.1
    rw [he] at hz ⊢
    rw [num.add_flag st' j i _ (ws_of_eq hL hA hR hws) (hA ▸ hnum) (hd ▸ hj) (hd ▸ hi) hz]
    exact Or.inl (List.mem_append_right _ (List.mem_singleton_self j))

theorem pivot_cases (law : sd.RelLaws n keeps) (num : NumLaws sd n) (i : Nat) (s : St) (hws : WS n s)
    (hnum : NumM s.A) :
    (sd.pivot i s = s ∧ (sd.v s.A i i ≠ 0 ∨ ∀ k, i ≤ k → sd.v s.A k i = 0)) ∨
    (∃ j, i < j ∧ j < sd.dim s ∧ sd.v s.A i i = 0 ∧ sd.v s.A j i ≠ 0 ∧ sd.pivot i s = sd.swap s i j) := by
  unfold Side.pivot
  by_cases hz : sd.v s.A i i = 0
  · rw [if_pos ((num.isZero_read hnum i i).2 hz), law.lines_eq hws]
    rcases pivotSearch_cases (fun k => sd.v s.A k i) _
        (fun k => by rw [Bool.not_eq_true', ← Bool.not_eq_true, num.isZero_read hnum]) i (sd.dim s)
        (fun k hk => num.oob hws hk i) with ⟨j, h1, h2, h3, he⟩ | ⟨he, h⟩
    · rw [he]
      exact Or.inr ⟨j, h1, h2, hz, h3, rfl⟩
    · rw [he]
      exact Or.inl ⟨rfl, Or.inr fun k hk => if e : k = i then e ▸ hz else h k (by omega)⟩
  · rw [if_neg fun h => hz ((num.isZero_read hnum i i).1 h)]
    exact Or.inl ⟨rfl, Or.inl hz⟩

end NumLaws

end Ptn.C12
