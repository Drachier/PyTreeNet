import Ptn.C12.Model
import Ptn.C01.Lemmas
/-! C12 (core Lean only): `Over` (the diagram lives on the tree) and `BondsAll n` (every edge carries `n`
vertices) for single-term diagrams and their sums; the bond dimensions of such a diagram. -/
namespace Ptn.C12
open Ptn.C01

theorem BondsAll_node (n i nv : Nat) (hes : List HE) (kids : List SD) :
    BondsAll n (.node i nv hes kids) ↔ BondsAllKids n kids := by rw [BondsAll]

theorem BondsAllKids_cons (n : Nat) (k : SD) (ks : List SD) :
    BondsAllKids n (k :: ks) ↔ k.nv = n ∧ BondsAll n k ∧ BondsAllKids n ks := by rw [BondsAllKids]

theorem Over_node (i dim : Nat) (ks : List RTree) (j nv : Nat) (hes : List HE) (ds : List SD) :
    Over (.node i dim ks) (.node j nv hes ds) ↔ i = j ∧ OverKids ks ds := by rw [Over]

theorem OverKids_cons (k : RTree) (ks : List RTree) (d : SD) (ds : List SD) :
    OverKids (k :: ks) (d :: ds) ↔ Over k d ∧ OverKids ks ds := by rw [OverKids]

/-! Each pair below is one induction over a tree and the list of its children (`RTree.both`); the statement
about the tree is the motive `P`. -/

theorem singleKids_over (ops : List (Nat × String)) (coef : Rat) (sym : String) :
    ∀ ks : List RTree, OverKids ks (singleKids ops coef sym ks) :=
  (RTree.both (P := fun t => ∀ r, Over t (singleAt ops coef sym r t))
    (fun i dim kids ih r => by rw [singleAt, Over_node]; exact ⟨rfl, ih⟩)
    (by rw [singleKids]; simp [OverKids])
    (fun k ks ihk ihks => by rw [singleKids, OverKids_cons]; exact ⟨ihk false, ihks⟩)).2

theorem singleAt_over (ops : List (Nat × String)) (coef : Rat) (sym : String) (r : Bool) :
    ∀ t : RTree, Over t (singleAt ops coef sym r t)
  | .node i dim kids => by
    rw [singleAt, Over_node]
    exact ⟨rfl, singleKids_over ops coef sym kids⟩

theorem singleKids_bonds (ops : List (Nat × String)) (coef : Rat) (sym : String) :
    ∀ ks : List RTree, BondsAllKids 1 (singleKids ops coef sym ks) :=
  (RTree.both (P := fun t => ∀ r, BondsAll 1 (singleAt ops coef sym r t))
    (fun i dim kids ih r => by rw [singleAt, BondsAll_node]; exact ih)
    (by rw [singleKids]; simp [BondsAllKids])
    (fun k ks ihk ihks => by
      rw [singleKids, BondsAllKids_cons, singleAt_nv]
      exact ⟨by simp, ihk false, ihks⟩)).2

theorem singleAt_bonds (ops : List (Nat × String)) (coef : Rat) (sym : String) (r : Bool) :
    ∀ t : RTree, BondsAll 1 (singleAt ops coef sym r t)
  | .node i dim kids => by
    rw [singleAt, BondsAll_node]
    exact singleKids_bonds ops coef sym kids

theorem sumKids_over : ∀ (ks : List RTree) (k1 k2 : List SD), OverKids ks k1 → OverKids ks k2 →
    OverKids ks (sumKids k1 k2) := by
  refine (RTree.both (P := fun t => ∀ d1 d2, Over t d1 → Over t d2 → Over t (sumSD d1 d2)) ?_ ?_ ?_).2
  · intro i dim ks ih d1 d2 o1 o2
    obtain ⟨j, n1, h1, k1⟩ := d1
    obtain ⟨l, n2, h2, k2⟩ := d2
    rw [Over_node] at o1 o2
    rw [sumSD_node, Over_node]
    exact ⟨o1.1, ih k1 k2 o1.2 o2.2⟩
  · intro k1 k2 o1 o2
    cases k1 with
    | cons _ _ => simp [OverKids] at o1
    | nil =>
      cases k2 with
      | cons _ _ => simp [OverKids] at o2
      | nil => rw [sumKids_nil]; simp [OverKids]
  · intro t ts iht ihts k1 k2 o1 o2
    cases k1 with
    | nil => simp [OverKids] at o1
    | cons a as =>
      cases k2 with
      | nil => simp [OverKids] at o2
      | cons b bs =>
        rw [OverKids_cons] at o1 o2
        rw [sumKids_cons, OverKids_cons]
        exact ⟨iht a b o1.1 o2.1, ihts as bs o1.2 o2.2⟩

theorem sumKids_bonds : ∀ (ks : List RTree) (k1 k2 : List SD) (a b : Nat), OverKids ks k1 →
    OverKids ks k2 → BondsAllKids a k1 → BondsAllKids b k2 → BondsAllKids (a + b) (sumKids k1 k2) := by
  refine (RTree.both (P := fun t => ∀ d1 d2 a b, Over t d1 → Over t d2 → BondsAll a d1 → BondsAll b d2 →
    BondsAll (a + b) (sumSD d1 d2)) ?_ ?_ ?_).2
  · intro i dim ks ih d1 d2 a b o1 o2 b1 b2
    obtain ⟨j, n1, h1, k1⟩ := d1
    obtain ⟨l, n2, h2, k2⟩ := d2
    rw [Over_node] at o1 o2
    rw [BondsAll_node] at b1 b2
    rw [sumSD_node, BondsAll_node]
    exact ih k1 k2 a b o1.2 o2.2 b1 b2
  · intro k1 k2 a b o1 o2 _ _
    cases k1 with
    | cons _ _ => simp [OverKids] at o1
    | nil =>
      cases k2 with
      | cons _ _ => simp [OverKids] at o2
      | nil => rw [sumKids_nil]; simp [BondsAllKids]
  · intro t ts iht ihts k1 k2 a b o1 o2 b1 b2
    cases k1 with
    | nil => simp [OverKids] at o1
    | cons x xs =>
      cases k2 with
      | nil => simp [OverKids] at o2
      | cons y ys =>
        rw [OverKids_cons] at o1 o2
        rw [BondsAllKids_cons] at b1 b2
        rw [sumKids_cons, BondsAllKids_cons, sumSD_nv, b1.1, b2.1]
        exact ⟨rfl, iht x y a b o1.1 o2.1 b1.2.1 b2.2.1, ihts xs ys a b o1.2 o2.2 b1.2.2 b2.2.2⟩

theorem bondsBelow_node (i nv : Nat) (hes : List HE) (kids : List SD) :
    bondsBelow (.node i nv hes kids) = bondsKids kids := by rw [bondsBelow]

theorem bondsKids_cons (k : SD) (ks : List SD) :
    bondsKids (k :: ks) = (k.id, k.nv) :: (bondsBelow k ++ bondsKids ks) := by rw [bondsKids]

theorem over_id (t : RTree) (d : SD) (h : Over t d) : d.id = t.id := by
  cases t; cases d
  rw [Over_node] at h
  exact h.1.symm

theorem bondsKids_eq (n : Nat) : ∀ (ks : List RTree) (ds : List SD), OverKids ks ds →
    BondsAllKids n ds → bondsKids ds = (RTree.edgesKids ks).map (·, n) := by
  refine (RTree.both (P := fun t => ∀ d, Over t d → BondsAll n d → bondsBelow d = t.edgesBelow.map (·, n))
    ?_ ?_ ?_).2
  · intro i dim ks ih d o b
    obtain ⟨j, nv, hes, ds⟩ := d
    rw [Over_node] at o
    rw [BondsAll_node] at b
    rw [bondsBelow_node, RTree.edgesBelow]
    exact ih ds o.2 b
  · intro ds o _
    cases ds with
    | cons _ _ => simp [OverKids] at o
    | nil => rw [bondsKids, RTree.edgesKids]; rfl
  · intro t ts iht ihts ds o b
    cases ds with
    | nil => simp [OverKids] at o
    | cons d ds =>
      rw [OverKids_cons] at o
      rw [BondsAllKids_cons] at b
      rw [bondsKids_cons, RTree.edgesKids, List.map_cons, List.map_append,
        iht d o.1 b.2.1, ihts ds o.2 b.2.2, over_id t d o.1, b.1]

theorem bonds_eq (n : Nat) : ∀ (t : RTree) (d : SD), Over t d → BondsAll n d →
    bondsBelow d = t.edgesBelow.map (·, n)
  | .node i dim ks, .node j nv hes ds, o, b => by
    rw [Over_node] at o
    rw [BondsAll_node] at b
    rw [bondsBelow_node, RTree.edgesBelow]
    exact bondsKids_eq n ks ds o.2 b

end Ptn.C12
