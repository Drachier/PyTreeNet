import Ptn.C12.NumRank
/-! C12, numeric case with zero rows / columns allowed: patterns with at most one
non-zero entry per row (columns may carry several) or per column (rows may carry several) - the shape
of the witness `sge_numeric_not_fully_reduced`, `SingleLines` - have a cover with `rank` vertices: the non-zero
columns (resp. rows).  The same for the wider shape `PivotLines` (every non-zero column holds an entry that
is alone in its row, or the same transposed; `exists_cover_le_rank_of_pivotLines`), with its witness
`exPivot` / `exPivotRed`. -/
namespace Ptn.C12
open Ptn.C13 Finset

/-- The list of non-zero columns of a list matrix (`q` columns). -/
def nzCols (A : EMat) (q : Nat) : List Nat :=
  (List.range q).filter fun j => (List.range A.length).any fun i => nz A i j

/-- The list of non-zero rows of a list matrix (`q` columns). -/
def nzRows (A : EMat) (q : Nat) : List Nat :=
  (List.range A.length).filter fun i => (List.range q).any fun j => nz A i j

theorem mem_nzCols {A : EMat} {q j : Nat} :
    j ∈ nzCols A q ↔ j < q ∧ ∃ i, i < A.length ∧ nz A i j = true := by
  simp only [nzCols, List.mem_filter, List.mem_range, List.any_eq_true]

theorem mem_nzRows {A : EMat} {q i : Nat} :
    i ∈ nzRows A q ↔ i < A.length ∧ ∃ j, j < q ∧ nz A i j = true := by
  simp only [nzRows, List.mem_filter, List.mem_range, List.any_eq_true]

/-- The common ground of `SingleLines` and `PivotLines` (positions restricted to the `q` columns the
    support graph has): if every non-zero column holds an entry that is alone in its row, the non-zero
    columns are a cover with at most `rank` vertices (`length_le_rank_of_row_pivots`); the same with
    rows and columns exchanged.  The two halves are not mirror images (column indices are restricted to `< q`, row indices
    are not), which is why the `PivotLines` form needs `Rect` and the `SingleLines` form does not. -/
theorem exists_cover_le_rank_of_pivots (A : EMat) (hnum : NumM A) (q : Nat) (hw : width A = q)
    (h : (∀ j, j < q → (∃ i, nz A i j = true) →
            ∃ i, nz A i j = true ∧ ∀ j', j' < q → nz A i j' = true → j' = j) ∨
         (∀ i, (∃ j, j < q ∧ nz A i j = true) →
            ∃ j, j < q ∧ nz A i j = true ∧ ∀ i', nz A i' j = true → i' = i)) :
    ∃ cu cv : List Nat, (∀ e ∈ suppEdges A, e.1 ∈ cu ∨ e.2 ∈ cv) ∧
      cu.length + cv.length ≤ (numMat A A.length q).rank := by
  rcases h with h | h
  · refine ⟨[], nzCols A q, fun e he => ?_, ?_⟩
    · obtain ⟨h1, h2, h3⟩ := (mem_suppEdges A e).1 he
      exact Or.inr (mem_nzCols.2 ⟨hw ▸ h2, e.1, h1, h3⟩)
    · rw [List.length_nil, Nat.zero_add]
      refine length_le_rank_of_row_pivots _ _ ((List.nodup_range).filter _) fun j hj => ?_
      obtain ⟨hjq, i0, _, hnz0⟩ := mem_nzCols.1 hj
      obtain ⟨i, hnz, alone⟩ := h j hjq ⟨i0, hnz0⟩
      have hi := nz_lt_length hnz
      exact ⟨⟨i, hi⟩, ⟨j, hjq⟩, rfl, (nz_iff_numMat hnum _ _ ⟨i, hi⟩ ⟨j, hjq⟩).1 hnz,
        fun k hne => Fin.ext (alone k k.2 ((nz_iff_numMat hnum _ _ ⟨i, hi⟩ k).2 hne))⟩
  · refine ⟨nzRows A q, [], fun e he => ?_, ?_⟩
    · obtain ⟨h1, h2, h3⟩ := (mem_suppEdges A e).1 he
      exact Or.inl (mem_nzRows.2 ⟨h1, e.2, hw ▸ h2, h3⟩)
    · rw [List.length_nil, Nat.add_zero]
      refine length_le_rank_of_col_pivots _ _ ((List.nodup_range).filter _) fun i hi => ?_
      obtain ⟨hil, j0, hj0, hnz0⟩ := mem_nzRows.1 hi
      obtain ⟨j, hjq, hnz, alone⟩ := h i ⟨j0, hj0, hnz0⟩
      exact ⟨⟨i, hil⟩, ⟨j, hjq⟩, rfl, (nz_iff_numMat hnum _ _ ⟨i, hil⟩ ⟨j, hjq⟩).1 hnz,
        fun k hne => Fin.ext (alone k ((nz_iff_numMat hnum _ _ k ⟨j, hjq⟩).2 hne))⟩

/-- Shape of the reduced matrix that still has a cover of `rank` vertices: at most one non-zero entry
    in every row, or at most one in every column (weaker than `FullyReduced`, which demands both). -/
def SingleLines (A : EMat) : Prop :=
  (∀ i j j', nz A i j = true → nz A i j' = true → j = j') ∨
  (∀ i i' j, nz A i j = true → nz A i' j = true → i = i')

theorem fullyReduced_singleLines {A : EMat} (h : FullyReduced A) : SingleLines A := Or.inl h.1

/-- A numeric matrix of shape `SingleLines` has a cover of its support with at most `rank` vertices:
    its non-zero columns, resp. its non-zero rows. -/
theorem exists_cover_le_rank_of_singleLines (A : EMat) (hnum : NumM A) (h : SingleLines A) :
    ∃ cu cv : List Nat, (∀ e ∈ suppEdges A, e.1 ∈ cu ∨ e.2 ∈ cv) ∧
      cu.length + cv.length ≤ (numMat A A.length (width A)).rank :=
  exists_cover_le_rank_of_pivots A hnum _ rfl <| h.imp
    (fun h j _ ⟨i, hi⟩ => ⟨i, hi, fun j' _ h' => h i j' j h' hi⟩)
    (fun h i ⟨j, hj, hnz⟩ => ⟨j, hj, hnz, fun i' h' => h i' i j h' hnz⟩)

/-- Shape of a reduced matrix whose minimum cover has `rank` vertices: every non-zero column holds an
    entry that is the only non-zero entry of its row (then the non-zero columns are a cover and a
    diagonal submatrix sits on them), or the same with rows and columns exchanged.  Weaker than
    `SingleLines`, hence than `FullyReduced`; zero rows and columns are allowed. -/
def PivotLines (A : EMat) : Prop :=
  (∀ j, (∃ i, nz A i j = true) → ∃ i, nz A i j = true ∧ ∀ j', nz A i j' = true → j' = j) ∨
  (∀ i, (∃ j, nz A i j = true) → ∃ j, nz A i j = true ∧ ∀ i', nz A i' j = true → i' = i)

theorem singleLines_pivotLines {A : EMat} (h : SingleLines A) : PivotLines A := by
  rcases h with h | h
  · exact Or.inl fun j ⟨i, hi⟩ => ⟨i, hi, fun j' h' => h i j' j h' hi⟩
  · exact Or.inr fun i ⟨j, hj⟩ => ⟨j, hj, fun i' h' => h i' i j h' hj⟩

/-- A numeric rectangular matrix of shape `PivotLines` has a cover of its support with at most `rank`
    vertices: its non-zero columns, resp. its non-zero rows. -/
theorem exists_cover_le_rank_of_pivotLines (A : EMat) (hnum : NumM A) (q : Nat) (hrect : Rect A q)
    (hw : width A = q) (h : PivotLines A) :
    ∃ cu cv : List Nat, (∀ e ∈ suppEdges A, e.1 ∈ cu ∨ e.2 ∈ cv) ∧
      cu.length + cv.length ≤ (numMat A A.length q).rank :=
  exists_cover_le_rank_of_pivots A hnum q hw <| h.imp
    (fun h j _ hex => let ⟨i, hi, alone⟩ := h j hex; ⟨i, hi, fun j' _ => alone j'⟩)
    (fun h i ⟨j, _, hnz⟩ =>
      let ⟨j', hnz', alone⟩ := h i ⟨j, hnz⟩; ⟨j', (nz_in_range hrect hnz').2, hnz', alone⟩)

/-- A numeric `Γ` (3 × 4, rank 2, two zero columns) whose reduced matrix is neither fully reduced nor
    of shape `SingleLines`, but of shape `PivotLines`. -/
def exPivot : EMat :=
  [[.num 0, .num 0, .num (-2), .num (-4)], [.num 0, .num 0, .num (-2), .num (-6)],
   [.num 0, .num 0, .num 0, .num (-1)]]

/-- … and its reduced matrix. -/
def exPivotRed : EMat :=
  [[.num (-2), .num 0, .num 0, .num 0], [.num 0, .num (-2), .num 0, .num 0],
   [.num 1, .num (-1), .num 0, .num 0]]

end Ptn.C12
