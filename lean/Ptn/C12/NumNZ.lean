import Ptn.C12.NumRank
/-! C12, numeric case: "no zero row and no zero column" is an invariant of the C13 model of
`gaussian_elimination` (a row / column that becomes zero is flagged - the zero flags of `_row_add` /
`_col_add` are complete on numeric matrices - and deleted at the end of the same pass). -/
namespace Ptn.C12
open Ptn.C13

/-- Loop invariant: every row `k < j`, `k ≠ i`, that is zero has been flagged (the last field of
    `NumLaws.NumInv rowSide` for a loop that started without a zero row). -/
structure RowFlagInv (n i : ℕ) (p : Rat) (s1 : St) (j : ℕ) (acc : St × List ℕ) : Prop where
  numInv : RowNumInv n i p s1 j acc
  flagged : ∀ k, k < j → k ≠ i → (∀ l, val acc.1.A k l = 0) → k ∈ acc.2

/-- Loop invariant: every column `l < i`, `l ≠ j`, that is zero has been flagged. -/
structure ColFlagInv (n j : ℕ) (p : Rat) (s1 : St) (i : ℕ) (acc : St × List ℕ) : Prop where
  numInv : ColNumInv n j p s1 i acc
  flagged : ∀ l, l < i → l ≠ j → (∀ k, val acc.1.A k l = 0) → l ∈ acc.2

/-- The lines `zs` are deleted, among them every zero line `k < len` other than the pivot line `i`:
    a line that is left is the pivot line or was not flagged, hence is not zero. -/
theorem nz_of_skips {v v' : ℕ → ℕ → ℚ} {zs : List ℕ} {len i : ℕ}
    (hd : List.Pairwise (fun a b => b < a) zs) (hv : ∀ r c, v' r c = v (skips zs r) c)
    (hp : v i i ≠ 0) (hflag : ∀ k, k < len → k ≠ i → (∀ l, v k l = 0) → k ∈ zs)
    {r : ℕ} (hr : r + zs.length < len) : ∃ c, v' r c ≠ 0 := by
  have hk : skips zs r < len := Nat.lt_of_le_of_lt (skips_le zs r) hr
  by_cases hki : skips zs r = i
  · exact ⟨i, by rw [hv, hki]; exact hp⟩
  · by_contra hall
    push Not at hall
    exact skips_not_mem zs hd r (hflag _ hk hki fun l => by rw [← hv]; exact hall l)

/-- No position of the lines is zero on all lines: no line of the other side is zero (`NZX rowSide s` and
    `NZL colSide s` unfold to the same formula, and the other way round). -/
def NZX (sd : Side) (s : St) : Prop := ∀ y, y < sd.cross s → ∃ k, sd.v s.A k y ≠ 0

namespace NumLaws
variable {sd : Side} {n : ℕ} {keeps : St → List ℕ → Prop}

theorem nzl_pivot (law : sd.RelLaws n keeps) (num : NumLaws sd n) (i : ℕ) (s : St) (hws : WS n s)
    (hnum : NumM s.A) (hi : i < sd.dim s) (h : NZL sd s) : NZL sd (sd.pivot i s) := by
  rcases num.pivot_cases law i s hws hnum with ⟨he, _⟩ | ⟨j, hij, hj, _, _, he⟩
  · rw [he]; exact h
  · rw [he]
    intro k hk
    rw [law.swap_dim] at hk
    obtain ⟨y, hy⟩ := h _ ((swapIdx_lt hi hj).2 hk)
    exact ⟨y, (num.swap_val hws hi hj k y).trans_ne hy⟩

/-- A line that a pass leaves is the pivot line or was not recorded, hence is not zero. -/
theorem nzl_elimStep (law : sd.RelLaws n keeps) (el : sd.EntryLaws) (num : NumLaws sd n) (i : ℕ) (s : St)
    (hws : WS n s) (hnum : NumM s.A) (hi : i < sd.dim s) (h : NZL sd s) : NZL sd (sd.elimStep i s) := by
  have nz1 := nzl_pivot law num i s hws hnum hi h
  by_cases hp : sd.v (sd.pivot i s).A i i = 0
  · rw [elimStep_zero law el num i s hws hnum hi hp]; exact nz1
  · obtain ⟨zs, hd, hl, hv, _, hfl⟩ := elimStep_spec law el num i s hws hnum hi hp
    intro k hk
    exact nz_of_skips hd hv (by rw [elimV_pivot]; exact hp) (hfl nz1) (by omega)

/-- The lines that a de-parallelisation leaves are lines of the input. -/
theorem nzl_deparallelize (law : sd.RelLaws n keeps) (num : NumLaws sd n) (s : St) (hws : WS n s)
    (hnum : NumM s.A) (h : NZL sd s) : NZL sd (sd.deparallelize s) := by
  obtain ⟨zs, _, hl, hv, _⟩ := deparallelize_val law num s hws hnum
  intro k hk
  have hk' : skips zs k < sd.dim s := by
    have := skips_le zs k
    omega
  obtain ⟨y, hy⟩ := h _ hk'
  exact ⟨y, by rw [hv]; exact hy⟩

/-- A paired operation of a side that keeps its own lines non-zero and is an equivalence of them keeps "no
    zero row, no zero column": the lines of the old matrix are combinations of lines of the new one, so a
    position that is non-zero on some line stays so (`nzCol_rowEq`). -/
theorem nz_step (law : sd.RelLaws n keeps) (num : NumLaws sd n) {s s' : St} (hrel : sd.Rel n s s')
    (heq : RowEq (sd.dim s) (sd.v s.A) (sd.v s'.A)) (hl : NZL sd s → NZL sd s') (hnum : NumM s'.A)
    (h : WS n s ∧ NumM s.A ∧ NZL sd s ∧ NZX sd s) : WS n s' ∧ NumM s'.A ∧ NZL sd s' ∧ NZX sd s' := by
  obtain ⟨ws', ho, hp, _, _⟩ := hrel h.1
  refine ⟨ws', hnum, hl h.2.2.1, fun y hy => ?_⟩
  obtain ⟨k0, hk0⟩ := h.2.2.2 y (law.cross_congr ho hp ▸ hy)
  obtain ⟨k1, _, hk1⟩ := nzCol_rowEq heq y
    ⟨k0, Nat.lt_of_not_le fun hle => hk0 (num.oob h.1 hle y), hk0⟩
  exact ⟨k1, hk1⟩

theorem nz_elimStep (law : sd.RelLaws n keeps) (el : sd.EntryLaws) (num : NumLaws sd n) (i : ℕ) (s : St)
    (hi : i < sd.dim s) (h : WS n s ∧ NumM s.A ∧ NZL sd s ∧ NZX sd s) :
    WS n (sd.elimStep i s) ∧ NumM (sd.elimStep i s).A ∧ NZL sd (sd.elimStep i s) ∧ NZX sd (sd.elimStep i s) :=
  nz_step law num (Side.rel_elimStep law i s hi) (rowEq_elimStep law el num _ i s h.1 h.2.1 hi (Nat.le_refl _))
    (nzl_elimStep law el num i s h.1 h.2.1 hi) (Side.sym_elimStep el i s h.2.1) h

theorem nz_deparallelize (law : sd.RelLaws n keeps) (el : sd.EntryLaws) (num : NumLaws sd n) (s : St)
    (h : WS n s ∧ NumM s.A ∧ NZL sd s ∧ NZX sd s) :
    WS n (sd.deparallelize s) ∧ NumM (sd.deparallelize s).A ∧ NZL sd (sd.deparallelize s) ∧
      NZX sd (sd.deparallelize s) :=
  nz_step law num (Side.rel_deparallelize law s (numM_nesm h.2.1))
    (rowEq_deparallelize law num _ s h.1 h.2.1 (Nat.le_refl _)) (nzl_deparallelize law num s h.1 h.2.1)
    (Side.allE_deparallelize el s h.2.1) h

end NumLaws
open NumLaws

/-- Invariant of the whole run: shape, numeric entries, no zero row and no zero column. -/
structure NZInv (n : ℕ) (s : St) : Prop where
  ws : WS n s
  num : NumM s.A
  nzr : NZL rowSide s
  nzc : NZL colSide s

theorem nzInv_raise {n : ℕ} {s : St} (h : NZInv n s) (f : Flag) : NZInv n (s.raise f) :=
  ⟨ws_raise f h.ws, by rw [raise_A]; exact h.num,
    by unfold NZL; dsimp only [rowSide]; rw [raise_A]; exact h.nzr,
    by unfold NZL; dsimp only [colSide]; rw [raise_A, raise_R]; exact h.nzc⟩

theorem nzInv_rowElimStep {n : ℕ} {s : St} (i : ℕ) (hi : i < s.A.length) (h : NZInv n s) :
    NZInv n (rowElimStep i s) := by
  rw [rowElimStep_eq]
  obtain ⟨a, b, c, d⟩ := nz_elimStep (rowRelLaws n) rowEntryLaws (rowNum n) i s hi ⟨h.ws, h.num, h.nzr, h.nzc⟩
  exact ⟨a, b, c, d⟩

theorem nzInv_colElimStep {n : ℕ} {s : St} (j : ℕ) (hj : j < s.R.length) (h : NZInv n s) :
    NZInv n (colElimStep j s) := by
  rw [colElimStep_eq]
  obtain ⟨a, b, c, d⟩ := nz_elimStep (colRelLaws n) colEntryLaws (colNum n) j s hj ⟨h.ws, h.num, h.nzc, h.nzr⟩
  exact ⟨a, b, d, c⟩

theorem nzInv_deparallelizeRows {n : ℕ} {s : St} (h : NZInv n s) : NZInv n (deparallelizeRows s) :=
  let ⟨a, b, c, d⟩ := nz_deparallelize (rowRelLaws n) rowEntryLaws (rowNum n) s ⟨h.ws, h.num, h.nzr, h.nzc⟩
  ⟨a, b, c, d⟩

theorem nzInv_deparallelizeCols {n : ℕ} {s : St} (h : NZInv n s) : NZInv n (deparallelizeCols s) :=
  let ⟨a, b, c, d⟩ := nz_deparallelize (colRelLaws n) colEntryLaws (colNum n) s ⟨h.ws, h.num, h.nzc, h.nzr⟩
  ⟨a, b, d, c⟩

theorem nzl_row_iff (s : St) : NZL rowSide s ↔ ∀ r, r < s.A.length → ∃ c, val s.A r c ≠ 0 := by
  unfold NZL
  simp only [← val_eq_rowv]

theorem nzl_col_iff (s : St) : NZL colSide s ↔ ∀ c, c < s.R.length → ∃ r, val s.A r c ≠ 0 := by
  unfold NZL
  simp only [← val_eq_colv]

/-- **No zero line is an invariant of the whole algorithm.** -/
theorem nzInv_gaussSt (M : EMat) (n : ℕ) (hpos : 0 < M.length) (hrect : Rect M n) (hnum : NumM M)
    (hr : ∀ r, r < M.length → ∃ c, val M r c ≠ 0) (hc : ∀ c, c < n → ∃ r, val M r c ≠ 0) :
    NZInv n (gaussSt M) :=
  gaussSt_invariant (I := NZInv n) (fun _ h => h.ws) (fun _ f h => nzInv_raise h f)
    (fun i _ h hi => nzInv_rowElimStep i hi h) (fun j _ h hj => nzInv_colElimStep j hj h)
    (fun _ h => nzInv_deparallelizeRows h) (fun _ h => nzInv_deparallelizeCols h) M hpos hrect
    ⟨(good_init M n hpos hrect).ws, hnum, (nzl_row_iff _).2 hr,
      (nzl_col_iff _).2 fun c hc' => hc c (length_identity n ▸ hc')⟩

theorem no_zero_lines_of_ok (M : EMat) (n : ℕ) (hpos : 0 < M.length) (hrect : Rect M n) (hnum : NumM M)
    (hr : ∀ r, r < M.length → ∃ c, val M r c ≠ 0) (hc : ∀ c, c < n → ∃ r, val M r c ≠ 0)
    (L : RMat) (A : EMat) (R : RMat) (h : gaussianElimination M = .ok L A R) :
    (∀ r, r < A.length → ∃ c, val A r c ≠ 0) ∧ ∀ c, c < R.length → ∃ r, val A r c ≠ 0 := by
  obtain ⟨_, _, h1, h2⟩ := nzInv_gaussSt M n hpos hrect hnum hr hc
  obtain ⟨_, _, rfl, rfl⟩ := gaussianElimination_ok h
  exact ⟨(nzl_row_iff _).1 h1, (nzl_col_iff _).1 h2⟩

end Ptn.C12
