import Mathlib.LinearAlgebra.Matrix.Rank
/-! C12, numeric case (Mathlib: `Matrix.rank`): the rank of the `m × n` box of an entry function
`ℕ → ℕ → ℚ`, and its invariance under "every row is zero or a combination of two rows of the other
matrix" (what row swaps, row additions, deleting zero rows and deleting parallel rows do), the mirror
image for columns, and independence of the box as long as it contains the support. -/
namespace Ptn.C12
open Module

/-- Rank over ℚ of the `m × n` box of an entry function. -/
noncomputable def rk (v : ℕ → ℕ → ℚ) (m n : ℕ) : ℕ :=
  (Matrix.of fun (i : Fin m) (j : Fin n) => v i j).rank

/-- The one rank fact: if every row of `v'` is zero or a combination of two rows of `v`, then `rk v' ≤ rk v`. -/
theorem rk_le_of_rows (v v' : ℕ → ℕ → ℚ) (m m' n : ℕ)
    (h : ∀ r, r < m' → (∀ c, c < n → v' r c = 0) ∨ ∃ (a b : ℚ) (k i : ℕ), k < m ∧ i < m ∧
      ∀ c, c < n → v' r c = a * v k c + b * v i c) :
    rk v' m' n ≤ rk v m n := by
  unfold rk
  rw [Matrix.rank_eq_finrank_span_row, Matrix.rank_eq_finrank_span_row]
  apply Submodule.finrank_mono
  apply Submodule.span_le.2
  rintro _ ⟨r, rfl⟩
  rcases h r r.2 with hz | ⟨a, b, k, i, hk, hi, hc⟩
  · have e : (Matrix.of fun (i : Fin m') (j : Fin n) => v' i j).row r = 0 := by
      funext c
      simp [Matrix.row, hz c c.2]
    rw [e]
    exact Submodule.zero_mem _
  · have e : (Matrix.of fun (i : Fin m') (j : Fin n) => v' i j).row r =
        a • (Matrix.of fun (i : Fin m) (j : Fin n) => v i j).row ⟨k, hk⟩ +
        b • (Matrix.of fun (i : Fin m) (j : Fin n) => v i j).row ⟨i, hi⟩ := by
      funext c
      simp [Matrix.row, hc c c.2]
    rw [e]
    exact add_mem (Submodule.smul_mem _ _ (Submodule.subset_span ⟨_, rfl⟩))
      (Submodule.smul_mem _ _ (Submodule.subset_span ⟨_, rfl⟩))

theorem rk_transpose (v : ℕ → ℕ → ℚ) (m n : ℕ) : rk (fun c r => v r c) n m = rk v m n := by
  unfold rk
  rw [← Matrix.rank_transpose]
  rfl

theorem rk_le_of_cols (v v' : ℕ → ℕ → ℚ) (m n n' : ℕ)
    (h : ∀ c, c < n' → (∀ r, r < m → v' r c = 0) ∨ ∃ (a b : ℚ) (k i : ℕ), k < n ∧ i < n ∧
      ∀ r, r < m → v' r c = a * v r k + b * v r i) :
    rk v' m n' ≤ rk v m n := by
  rw [← rk_transpose v', ← rk_transpose v]
  exact rk_le_of_rows _ _ n n' m h

/-- The box may be any that contains the matrix. -/
theorem rk_box (v : ℕ → ℕ → ℚ) (p q m n : ℕ) (hp : p ≤ m) (hq : q ≤ n)
    (hr : ∀ r c, p ≤ r → v r c = 0) (hc : ∀ r c, q ≤ c → v r c = 0) :
    rk v p q = rk v m n := by
  have h1 : rk v p q = rk v m q := by
    apply Nat.le_antisymm
    · exact rk_le_of_rows v v m p q fun r hr' =>
        Or.inr ⟨1, 0, r, r, by omega, by omega, fun c _ => by simp⟩
    · apply rk_le_of_rows v v p m q
      intro r _
      by_cases hrp : r < p
      · exact Or.inr ⟨1, 0, r, r, hrp, hrp, fun c _ => by simp⟩
      · exact Or.inl fun c _ => hr r c (by omega)
  have h2 : rk v m q = rk v m n := by
    apply Nat.le_antisymm
    · exact rk_le_of_cols v v m n q fun c hc' =>
        Or.inr ⟨1, 0, c, c, by omega, by omega, fun r _ => by simp⟩
    · apply rk_le_of_cols v v m q n
      intro c _
      by_cases hcq : c < q
      · exact Or.inr ⟨1, 0, c, c, hcq, hcq, fun r _ => by simp⟩
      · exact Or.inl fun r _ => hc r c (by omega)
  rw [h1, h2]

end Ptn.C12
