import Ptn.C12.NumElim
/-! C12, numeric case (core Lean only): the inner loop of a pass of either elimination (`NumInv`) and what a pass
does to the values (`elimStep_spec`), then the loop invariants of `row_elimination` / `column_elimination` for passes that delete
nothing - these differ: the column elimination runs on what the row elimination leaves. -/
namespace Ptn.C12
open Ptn.C13

/-- Invariant of the inner loop of `row_elimination` on a numeric matrix (pivot `p` at `(i, i)`): the first
    three fields of `NumLaws.NumInv rowSide` (below), with `val`. -/
structure RowNumInv (n i : Nat) (p : Rat) (s1 : St) (j : Nat) (acc : St × List Nat) : Prop where
  base : RowInnerInv n i s1 j acc
  num : NumM acc.1.A
  vals : ∀ k l, val acc.1.A k l =
    if k < j ∧ k ≠ i then val s1.A k l - val s1.A k i / p * val s1.A i l else val s1.A k l

/-- Invariant of the inner loop of `column_elimination` on a numeric matrix (pivot `p` at `(j, j)`): the first
    three fields of `NumLaws.NumInv colSide` (below), with `val`. -/
structure ColNumInv (n j : Nat) (p : Rat) (s1 : St) (i : Nat) (acc : St × List Nat) : Prop where
  base : ColInnerInv n j s1 i acc
  num : NumM acc.1.A
  vals : ∀ k l, val acc.1.A k l =
    if l < i ∧ l ≠ j then val s1.A k l - val s1.A j l / p * val s1.A k j else val s1.A k l

/-- Bookkeeping of the inner loops on entry functions: `v0` at the start of the loop, `v` after the
    iterations `< j`, `v'` after iteration `j`. -/
theorem elimVals_step {v0 v v' : Nat → Nat → Rat} {i j : Nat} {p : Rat}
    (hv : ∀ k l, v k l = if k < j ∧ k ≠ i then v0 k l - v0 k i / p * v0 i l else v0 k l)
    (hv' : ∀ k l, v' k l = if k = j ∧ j ≠ i then v j l - v j i / p * v i l else v k l) (k l : Nat) :
    v' k l = if k < j + 1 ∧ k ≠ i then v0 k l - v0 k i / p * v0 i l else v0 k l := by
  have e1 : ∀ l, v j l = v0 j l := fun l => by rw [hv j l, if_neg (by omega)]
  have e2 : ∀ l, v i l = v0 i l := fun l => by rw [hv i l, if_neg (by omega)]
  rw [hv', e1, e1, e2, hv k l]
  by_cases hk : k = j
  · subst hk
    by_cases hki : k = i
    · subst hki; simp
    · rw [if_pos ⟨rfl, hki⟩, if_pos ⟨by omega, hki⟩]
  · rw [if_neg (fun h => hk h.1)]
    by_cases hlt : k < j ∧ k ≠ i
    · rw [if_pos hlt, if_pos ⟨by omega, hlt.2⟩]
    · rw [if_neg hlt, if_neg (by omega)]

/-- No line of the side is zero. -/
def NZL (sd : Side) (s : St) : Prop := ∀ k, k < sd.dim s → ∃ y, sd.v s.A k y ≠ 0

/-- Every line other than `i` has lost its multiple of line `i`. -/
def elimV (i : Nat) (v : Nat → Nat → Rat) (k y : Nat) : Rat :=
  if k ≠ i then v k y - v k i / v i i * v i y else v k y

theorem elimV_zero {i k : Nat} {v : Nat → Nat → Rat} (h : ∀ y, v k y = 0) (y : Nat) : elimV i v k y = 0 := by
  unfold elimV
  split
  · rw [h y, h i]; exact rat_sub_zero_div_mul _ _ _
  · exact h y

theorem elimV_pivot (i : Nat) (v : Nat → Nat → Rat) (y : Nat) : elimV i v i y = v i y := if_neg fun h => h rfl

namespace NumLaws

/-- Invariant of the inner loop of an elimination on a numeric matrix (pivot `p` on line `i`): the lines
    before `j` have lost their multiple of the pivot line, and if the loop started without a zero line, every
    line before `j` that is zero now has been recorded (the zero flags of an addition are complete). -/
structure NumInv (sd : Side) (n i : Nat) (p : Rat) (s1 : St) (j : Nat) (acc : St × List Nat) : Prop where
  base : Side.InnerInv sd n i s1 j acc
  num : NumM acc.1.A
  vals : ∀ k y, sd.v acc.1.A k y =
    if k < j ∧ k ≠ i then sd.v s1.A k y - sd.v s1.A k i / p * sd.v s1.A i y else sd.v s1.A k y
  flagged : NZL sd s1 → ∀ k, k < j → k ≠ i → (∀ y, sd.v acc.1.A k y = 0) → k ∈ acc.2

variable {sd : Side} {n : Nat} {keeps : St → List Nat → Prop}

theorem numInv_step (law : sd.RelLaws n keeps) (el : sd.EntryLaws) (num : NumLaws sd n) (i : Nat) (p : Rat)
    (s1 : St) (hi : i < sd.dim s1) (j : Nat) (acc : St × List Nat) (hj : j < sd.dim s1)
    (h : NumInv sd n i p s1 j acc) : NumInv sd n i p s1 (j + 1) (sd.elimInner i (Entry.num p) acc j) := by
  have hi' : i < sd.dim acc.1 := by rw [h.base.len]; exact hi
  have hj' : j < sd.dim acc.1 := by rw [h.base.len]; exact hj
  have hv := num.elimInner_val law i j p acc h.base.ws h.num hi' hj'
  refine ⟨Side.elimInner_inv law i _ s1 hi j acc hj h.base,
    (el.presSym _).elimInner (fun _ => trivial) (fun s h => by simpa using h) i _ acc j h.num,
    elimVals_step h.vals hv, fun hnz k hk hki hzero => ?_⟩
  by_cases hkj : k = j
  · subst hkj
    -- recorded now, or zero before: but line `k` was not touched before and `s1` has no zero line
    refine (num.elimInner_flag law i k p acc h.base.ws h.num hi' hj' hzero).resolve_right fun hold => ?_
    obtain ⟨y, hy⟩ := hnz k hj
    exact hy (by rw [← hold y, h.vals k y, if_neg (by omega)])
  · -- the pass did not touch line `k`
    refine num.elimInner_snd_subset i j p acc h.num k (h.flagged hnz k (by omega) hki fun y => ?_)
    rw [← hzero y, hv k y, if_neg fun h => hkj h.1]

theorem elimFold_inv (law : sd.RelLaws n keeps) (el : sd.EntryLaws) (num : NumLaws sd n) (i : Nat) (s1 : St)
    (hws : WS n s1) (hnum : NumM s1.A) (hi : i < sd.dim s1) :
    NumInv sd n i (sd.v s1.A i i) s1 (sd.dim s1) (sd.elimFold i s1) :=
  foldl_range_inv (sd.elimInner i (Entry.num (sd.v s1.A i i))) (NumInv sd n i (sd.v s1.A i i) s1)
    (sd.dim s1) (s1, [])
    ⟨⟨hws, Side.Rel.refl sd n _, rfl, List.nodup_nil, fun _ hz => (nomatch hz)⟩, hnum,
      fun k y => by rw [if_neg (by omega)], fun _ k hk => by omega⟩
    (fun j acc hj hinv => numInv_step law el num i _ s1 hi j acc hj hinv)

theorem elimStep_num (law : sd.RelLaws n keeps) (num : NumLaws sd n) (i : Nat) (s : St)
    (hws : WS n (sd.pivot i s)) (hnum : NumM (sd.pivot i s).A) :
    sd.elimStep i s = if sd.v (sd.pivot i s).A i i = 0 then sd.pivot i s
      else sd.del (sd.elimFold i (sd.pivot i s)).1 (sortDesc (sd.elimFold i (sd.pivot i s)).2) := by
  unfold Side.elimStep Side.elimFold
  simp only [num.read_num hnum i i, law.lines_eq hws, Entry.isZero, decide_eq_true_eq]

theorem NumInv.length_del (law : sd.RelLaws n keeps) {i : Nat} {p : Rat} {s1 : St} {r : St × List Nat}
    (hi : i < sd.dim s1) (inv : NumInv sd n i p s1 (sd.dim s1) r) :
    sd.dim (sd.del r.1 (sortDesc r.2)) + r.2.length = sd.dim s1 := by
  obtain ⟨d1, d2, d3⟩ := inv.base.del law hi
  have := (law.del inv.base.ws d1 d2 d3).2.2.2.1
  rwa [length_sortDesc, inv.base.len] at this

theorem elimStep_zero (law : sd.RelLaws n keeps) (el : sd.EntryLaws) (num : NumLaws sd n) (i : Nat) (s : St)
    (hws : WS n s) (hnum : NumM s.A) (hi : i < sd.dim s) (hp : sd.v (sd.pivot i s).A i i = 0) :
    sd.elimStep i s = sd.pivot i s := by
  rw [num.elimStep_num law i s (Side.rel_pivot law i s hi hws).1 ((el.presAllE0 _).pivot i s hnum), if_pos hp]

/-- **A pass on a numeric matrix**, on the values `v` after the pivot search with a non-zero pivot: every line
    other than `i` loses its multiple of line `i`, then a decreasing list of zero lines other than `i` is
    deleted - all of them, if there was no zero line before. -/
theorem elimStep_spec (law : sd.RelLaws n keeps) (el : sd.EntryLaws) (num : NumLaws sd n) (i : Nat) (s : St)
    (hws : WS n s) (hnum : NumM s.A) (hi : i < sd.dim s) (hp : sd.v (sd.pivot i s).A i i ≠ 0) :
    ∃ zs : List Nat, zs.Pairwise (fun a b => b < a) ∧ sd.dim (sd.elimStep i s) + zs.length = sd.dim s ∧
      (∀ k y, sd.v (sd.elimStep i s).A k y = elimV i (sd.v (sd.pivot i s).A) (skips zs k) y) ∧
      (∀ z, z ∈ zs → z < sd.dim s ∧ z ≠ i ∧ ∀ y, elimV i (sd.v (sd.pivot i s).A) z y = 0) ∧
      (NZL sd (sd.pivot i s) → ∀ k, k < sd.dim s → k ≠ i →
        (∀ y, elimV i (sd.v (sd.pivot i s).A) k y = 0) → k ∈ zs) := by
  have p2 := Side.pivot_dim law i s
  have ws1 : WS n (sd.pivot i s) := (Side.rel_pivot law i s hi hws).1
  have num1 : NumM (sd.pivot i s).A := (el.presAllE0 _).pivot i s hnum
  have hi1 : i < sd.dim (sd.pivot i s) := p2 ▸ hi
  rw [num.elimStep_num law i s ws1 num1, if_neg hp]
  have inv := elimFold_inv law el num i (sd.pivot i s) ws1 num1 hi1
  generalize sd.elimFold i (sd.pivot i s) = r at inv
  -- the values after the inner loop, also beyond the last line
  have hv : ∀ k y, sd.v r.1.A k y = elimV i (sd.v (sd.pivot i s).A) k y := by
    intro k y
    rw [inv.vals k y]
    by_cases hk : k < sd.dim (sd.pivot i s)
    · simp only [hk, true_and, elimV]
    · rw [if_neg fun h => hk h.1]
      exact (elimV_zero (fun y => num.oob ws1 (Nat.le_of_not_lt hk) y) y).symm ▸
        num.oob ws1 (Nat.le_of_not_lt hk) y
  refine ⟨sortDesc r.2, pairwise_sortDesc inv.base.nd, ?_, fun k y => by rw [num.del_val, hv],
    fun z hz => ?_, fun hnz k hk hki h0 => mem_sortDesc.mpr (inv.flagged hnz k (p2 ▸ hk) hki ?_)⟩
  · rw [length_sortDesc, ← p2]; exact inv.length_del law hi1
  · obtain ⟨z1, z2, z3⟩ := inv.base.zs z (mem_sortDesc.mp hz)
    exact ⟨p2 ▸ z1, z2, fun y => (hv z y).symm.trans (z3 (fun _ => 0) y)⟩
  · exact fun y => (hv k y).trans (h0 y)

theorem elimStep_val (law : sd.RelLaws n keeps) (el : sd.EntryLaws) (num : NumLaws sd n) (i : Nat) (s : St)
    (hws : WS n s) (hnum : NumM s.A) (hi : i < sd.dim s) (hlen : sd.dim (sd.elimStep i s) = sd.dim s) :
    (sd.v (sd.pivot i s).A i i = 0 → sd.elimStep i s = sd.pivot i s) ∧
    (sd.v (sd.pivot i s).A i i ≠ 0 → ∀ k y, sd.v (sd.elimStep i s).A k y =
      if k ≠ i then sd.v (sd.pivot i s).A k y -
        sd.v (sd.pivot i s).A k i / sd.v (sd.pivot i s).A i i * sd.v (sd.pivot i s).A i y
      else sd.v (sd.pivot i s).A k y) := by
  refine ⟨elimStep_zero law el num i s hws hnum hi, fun hp k y => ?_⟩
  obtain ⟨zs, _, hl, hv, _⟩ := elimStep_spec law el num i s hws hnum hi hp
  obtain rfl : zs = [] := List.eq_nil_of_length_eq_zero (Nat.add_eq_left.1 (hlen ▸ hl))
  exact hv k y

end NumLaws

theorem numM_rowElimStep {i : Nat} {s : St} (h : NumM s.A) : NumM (rowElimStep i s).A := by
  rw [rowElimStep_eq]; exact Side.sym_elimStep rowEntryLaws i s h

theorem numM_colElimStep {j : Nat} {s : St} (h : NumM s.A) : NumM (colElimStep j s).A := by
  rw [colElimStep_eq]; exact Side.sym_elimStep colEntryLaws j s h

theorem colPivot_cases (n j : Nat) (s : St) (hws : WS n s) (hnum : NumM s.A) :
    (colPivot j s = s ∧ (val s.A j j ≠ 0 ∨ ∀ c, j ≤ c → val s.A j c = 0)) ∨
    (∃ i, j < i ∧ i < s.R.length ∧ val s.A j j = 0 ∧ val s.A j i ≠ 0 ∧ colPivot j s = s.colSwap j i) := by
  rw [colPivot_eq]
  simp only [val_eq_colv]
  exact (colNum n).pivot_cases (colRelLaws n) j s hws hnum

theorem rowPivot_val (n i : Nat) (s : St) (hws : WS n s) (hnum : NumM s.A) (hi : i < s.A.length) :
    (∀ c, (∀ r, i ≤ r → val s.A r c = 0) → ∀ r, val (rowPivot i s).A r c = val s.A r c) ∧
    (val (rowPivot i s).A i i = 0 → ∀ r, i ≤ r → val (rowPivot i s).A r i = 0) := by
  have hc := (rowNum n).pivot_cases (rowRelLaws n) i s hws hnum
  rw [← rowPivot_eq] at hc
  simp only [← val_eq_rowv, rowSide] at hc
  rcases hc with ⟨he, h⟩ | ⟨j, hij, hj, hz, hnz, he⟩
  · rw [he]
    refine ⟨fun _ _ _ => rfl, fun h0 => ?_⟩
    rcases h with h | h
    · exact absurd h0 h
    · exact h
  · rw [he]
    have hv : ∀ r c, val (s.rowSwap i j).A r c = val s.A (swapIdx i j r) c :=
      fun r c => val_rowSwap s.A i j hi hj r c
    refine ⟨fun c hc r => ?_, fun h0 => ?_⟩
    · rw [hv]
      by_cases h1 : r = i
      · subst h1; rw [swapIdx_self_left, hc j (by omega), hc r (by omega)]
      · by_cases h2 : r = j
        · subst h2; rw [swapIdx_self_right, hc i (by omega), hc r (by omega)]
        · rw [swapIdx_other h1 h2]
    · rw [hv, swapIdx_self_left] at h0
      exact absurd h0 hnz

theorem rat_div_mul_cancel_sub (a p : Rat) (hp : p ≠ 0) : a - a / p * p = 0 := by
  rw [Rat.div_def, Rat.mul_assoc, Rat.inv_mul_cancel _ hp]; grind

/-- **One pass of the outer loop of `row_elimination` that deletes nothing** (numeric matrix):
    (a) a column that vanishes on the rows `≥ i` is left unchanged;
    (b) afterwards column `i` vanishes on the rows `≥ i`, or it is a unit column with its non-zero
        entry on the diagonal. -/
theorem rowElimStep_nodel (n i : Nat) (s : St) (hws : WS n s) (hnum : NumM s.A) (hi : i < s.A.length)
    (hlen : (rowElimStep i s).A.length = s.A.length) :
    (∀ c, (∀ r, i ≤ r → val s.A r c = 0) → ∀ r, val (rowElimStep i s).A r c = val s.A r c) ∧
    ((∀ r, i ≤ r → val (rowElimStep i s).A r i = 0) ∨
     (val (rowElimStep i s).A i i ≠ 0 ∧ ∀ r, r ≠ i → val (rowElimStep i s).A r i = 0)) := by
  obtain ⟨P1, P2⟩ := rowPivot_val n i s hws hnum hi
  have hv := NumLaws.elimStep_val (rowRelLaws n) rowEntryLaws (rowNum n) i s hws hnum hi
    (by rw [← rowElimStep_eq]; exact hlen)
  rw [← rowElimStep_eq, ← rowPivot_eq] at hv
  simp only [← val_eq_rowv] at hv
  obtain ⟨f0, f1⟩ := hv
  by_cases hp : val (rowPivot i s).A i i = 0
  · rw [f0 hp]
    exact ⟨P1, Or.inl (P2 hp)⟩
  · have f := f1 hp
    refine ⟨fun c hc r' => ?_, Or.inr ⟨?_, fun r' hr' => ?_⟩⟩
    · rw [f r' c]
      split
      · rw [P1 c hc i, hc i (Nat.le_refl i), P1 c hc r']
        exact rat_sub_mul_zero _ _
      · exact P1 c hc r'
    · rw [f i i, if_neg (fun h => h rfl)]
      exact hp
    · rw [f r' i, if_pos hr']
      exact rat_div_mul_cancel_sub _ _ hp

/-- Column `c` is a unit column with its non-zero entry on the diagonal. -/
def Pcol (A : EMat) (c : Nat) : Prop := val A c c ≠ 0 ∧ ∀ r, r ≠ c → val A r c = 0
/-- Column `c` vanishes on and below the diagonal. -/
def Zcol (A : EMat) (c : Nat) : Prop := ∀ r, c ≤ r → val A r c = 0
/-- Row `r` is a unit row with its non-zero entry on the diagonal. -/
def Prow (A : EMat) (r : Nat) : Prop := val A r r ≠ 0 ∧ ∀ c, c ≠ r → val A r c = 0
/-- Row `r` vanishes on and to the right of the diagonal. -/
def Zrow (A : EMat) (r : Nat) : Prop := ∀ c, r ≤ c → val A r c = 0

theorem colStruct_congr {A A' : EMat} {c : Nat} (h : ∀ r, val A' r c = val A r c)
    (hs : Pcol A c ∨ Zcol A c) : Pcol A' c ∨ Zcol A' c := by
  rcases hs with hs | hs
  · exact Or.inl ⟨by rw [h]; exact hs.1, fun r hr => by rw [h]; exact hs.2 r hr⟩
  · exact Or.inr fun r hr => by rw [h]; exact hs r hr

theorem colStruct_below {A : EMat} {c i : Nat} (hci : c < i) (hs : Pcol A c ∨ Zcol A c) :
    ∀ r, i ≤ r → val A r c = 0 := by
  intro r hr
  rcases hs with hs | hs
  · exact hs.2 r (by omega)
  · exact hs r (by omega)

/-- **Loop invariant of `row_elimination`** for a run that deletes nothing (numeric matrix): when the
    loop has passed column `i`, every column `c < i` is a unit column with a diagonal pivot or
    vanishes on and below the diagonal. -/
theorem rowElimLoop_nodel (n : Nat) : ∀ (fuel i : Nat) (s : St), WS n s → NumM s.A →
    (rowElimLoop fuel i s).A.length = s.A.length → min s.A.length s.R.length ≤ fuel + i →
    (∀ c, c < i → Pcol s.A c ∨ Zcol s.A c) →
    ∀ c, c < min s.A.length s.R.length → Pcol (rowElimLoop fuel i s).A c ∨ Zcol (rowElimLoop fuel i s).A c := by
  intro fuel i s hws hnum hlen hfuel hJ c hc
  rw [rowElimLoop_eq] at hlen ⊢
  obtain ⟨k, ⟨ws', _, _, hR, hst⟩, hk⟩ := elimLoop_inv_idx (step := rowElimStep)
    (fun k s' => WS n s' ∧ NumM s'.A ∧ s'.A.length ≤ s.A.length ∧ s'.R.length = s.R.length ∧
      (s'.A.length = s.A.length → ∀ c, c < k → Pcol s'.A c ∨ Zcol s'.A c))
    (fun i s' hi h => by
      obtain ⟨ws', num', hle, hR, hst⟩ := h
      rw [width_eq ws'] at hi ⊢
      have hi' : i < s'.A.length := Nat.lt_of_lt_of_le hi (Nat.min_le_left _ _)
      obtain ⟨ws'', hR', _, hle', _⟩ := rowRel_rowElimStep n i s' hi' ws'
      rw [width_eq ws'', hR']
      refine ⟨⟨ws'', numM_rowElimStep num', Nat.le_trans hle' hle, hR,
        fun e c' hc' => ?_⟩, Nat.le_min.2 ⟨Nat.le_trans (Nat.min_le_left _ _) hle', Nat.min_le_right _ _⟩⟩
      -- this pass deleted nothing, and neither did the passes before
      have e' : s'.A.length = s.A.length := Nat.le_antisymm hle (e ▸ hle')
      obtain ⟨ha, hb⟩ := rowElimStep_nodel n i s' ws' num' hi' (e.trans e'.symm)
      by_cases h : c' = i
      · subst h
        exact hb.symm
      · have hlt : c' < i := by omega
        exact colStruct_congr (ha c' (colStruct_below hlt (hst e' c' hlt))) (hst e' c' hlt))
    fuel i s ⟨hws, hnum, Nat.le_refl _, rfl, fun _ => hJ⟩ (by rw [width_eq hws]; exact hfuel)
  rw [width_eq ws', hlen, hR] at hk
  exact hst hlen c (Nat.lt_of_lt_of_le hc hk)

/-- **One pass of the outer loop of `column_elimination` that deletes nothing** (numeric matrix), in
    terms of the state `s1` after the pivot search: nothing else happens if the pivot is `0`; otherwise
    every column `l ≠ j` becomes `col l − (A[j][l] / pivot) · col j`. -/
theorem colElimStep_val (n j : Nat) (s : St) (hws : WS n s) (hnum : NumM s.A) (hj : j < s.R.length)
    (hlen : (colElimStep j s).R.length = s.R.length) :
    (val (colPivot j s).A j j = 0 → colElimStep j s = colPivot j s) ∧
    (val (colPivot j s).A j j ≠ 0 → ∀ k l, val (colElimStep j s).A k l =
      if l ≠ j then val (colPivot j s).A k l -
        val (colPivot j s).A j l / val (colPivot j s).A j j * val (colPivot j s).A k j
      else val (colPivot j s).A k l) := by
  rw [colElimStep_eq, colPivot_eq] at *
  simp only [val_eq_colv]
  obtain ⟨f0, f1⟩ := NumLaws.elimStep_val (colRelLaws n) colEntryLaws (colNum n) j s hws hnum hj hlen
  exact ⟨f0, fun hp k l => f1 hp l k⟩

def HasZeroCol (A : EMat) (w : Nat) : Prop := ∃ c, c < w ∧ ∀ r, val A r c = 0

theorem colElimStep_zeroCol (n j : Nat) (s : St) (hws : WS n s) (hnum : NumM s.A) (hj : j < s.R.length)
    (hlen : (colElimStep j s).R.length = s.R.length) (hz : HasZeroCol s.A s.R.length) :
    HasZeroCol (colElimStep j s).A s.R.length := by
  -- after the pivot search
  have h1 : HasZeroCol (colPivot j s).A s.R.length := by
    rcases colPivot_cases n j s hws hnum with ⟨he, _⟩ | ⟨i, hji, hi, _, _, he⟩
    · rw [he]; exact hz
    · rw [he]
      obtain ⟨c, hc, hzc⟩ := hz
      refine ⟨swapIdx j i c, (swapIdx_lt hj hi).2 hc, fun r => ?_⟩
      show val (colSwapM s.A j i) r (swapIdx j i c) = 0
      rw [val_colSwap s.A s.R.length j i hws.Arect hj hi, swapIdx_invol]
      exact hzc r
  obtain ⟨f0, f1⟩ := colElimStep_val n j s hws hnum hj hlen
  by_cases hp : val (colPivot j s).A j j = 0
  · rw [f0 hp]; exact h1
  · obtain ⟨c, hc, hzc⟩ := h1
    refine ⟨c, hc, fun r => ?_⟩
    have hcj : c ≠ j := fun e => hp (by have := hzc j; rwa [e] at this)
    rw [f1 hp r c, if_pos hcj, hzc r, hzc j]
    exact rat_sub_zero_div_mul _ _ _

theorem colElimStep_unit (n j : Nat) (s : St) (hws : WS n s) (hnum : NumM s.A) (hj : j < s.R.length)
    (hlen : (colElimStep j s).R.length = s.R.length) (hP : Pcol s.A j) :
    (∀ k, k ≠ j → ∀ l, val (colElimStep j s).A k l = val s.A k l) ∧ Prow (colElimStep j s).A j ∧
    val (colElimStep j s).A j j = val s.A j j := by
  have he : colPivot j s = s := by
    rcases colPivot_cases n j s hws hnum with ⟨he, _⟩ | ⟨i, _, _, h0, _, _⟩
    · exact he
    · exact absurd h0 hP.1
  obtain ⟨_, f1⟩ := colElimStep_val n j s hws hnum hj hlen
  rw [he] at f1
  have f := f1 hP.1
  have hjj : val (colElimStep j s).A j j = val s.A j j := by rw [f j j, if_neg (by simp)]
  refine ⟨fun k hk l => ?_, ⟨by rw [hjj]; exact hP.1, fun c hc => ?_⟩, hjj⟩
  · rw [f k l]
    split
    · rw [hP.2 k hk]
      exact rat_sub_mul_zero _ _
    · rfl
  · rw [f j c, if_pos hc]
    exact rat_div_mul_cancel_sub _ _ hP.1

/-- A zero column survives a `column_elimination` that deletes nothing. -/
theorem colElimLoop_zeroCol (n fuel j : Nat) (s : St) (hws : WS n s) (hnum : NumM s.A)
    (hlen : (colElimLoop fuel j s).R.length = s.R.length) (hz : HasZeroCol s.A s.R.length) :
    HasZeroCol (colElimLoop fuel j s).A s.R.length := by
  rw [colElimLoop_eq] at hlen ⊢
  refine (elimLoop_inv (step := colElimStep) (fun s' => WS n s' ∧ NumM s'.A ∧ s'.R.length ≤ s.R.length ∧
      (s'.R.length = s.R.length → HasZeroCol s'.A s.R.length))
    (fun s' ⟨ws', num', hle, hz'⟩ => ⟨ws_raise _ ws', by rw [raise_A]; exact num',
      by rw [raise_R]; exact hle, by rw [raise_A, raise_R]; exact hz'⟩)
    (fun j s' hj ⟨ws', num', hle, hz'⟩ => ?_) fuel j s ⟨hws, hnum, Nat.le_refl _, fun _ => hz⟩).2.2.2 hlen
  rw [width_eq ws'] at hj
  have hj' : j < s'.R.length := Nat.lt_of_lt_of_le hj (Nat.min_le_right _ _)
  obtain ⟨ws'', _, _, hle', _⟩ := colRel_colElimStep n j s' hj' ws'
  refine ⟨ws'', numM_colElimStep num', Nat.le_trans hle' hle, fun e => ?_⟩
  have e' : s'.R.length = s.R.length := Nat.le_antisymm hle (e ▸ hle')
  rw [← e'] at hz' ⊢
  exact colElimStep_zeroCol n j s' ws' num' hj' (e.trans e'.symm) (hz' rfl)

/-- **Loop invariant of `column_elimination`** for a run that deletes nothing and whose result has no
    zero column (numeric matrix whose columns `c < min(m, w)` are unit columns with diagonal pivot or
    vanish on and below the diagonal - what `row_elimination` leaves behind): the rows `r < j` already
    passed are unit rows with diagonal pivot; at the end all rows `r < min(m, w)` are. -/
theorem colElimLoop_nodel (n : Nat) : ∀ (fuel j : Nat) (s : St), WS n s → NumM s.A →
    (colElimLoop fuel j s).R.length = s.R.length → min s.A.length s.R.length ≤ fuel + j →
    (∀ r, r < j → Prow s.A r) →
    (∀ c, c < min s.A.length s.R.length → Pcol s.A c ∨ Zcol s.A c) →
    ¬ HasZeroCol (colElimLoop fuel j s).A s.R.length →
    (∀ r, r < min s.A.length s.R.length → Prow (colElimLoop fuel j s).A r) ∧
    (∀ c, c < min s.A.length s.R.length →
      Pcol (colElimLoop fuel j s).A c ∨ Zcol (colElimLoop fuel j s).A c) := by
  intro fuel j s hws hnum hlen hfuel hR hC hnz
  rw [colElimLoop_eq] at hlen hnz ⊢
  -- as long as nothing is deleted: a zero column has appeared (and stays), or the rows passed are unit rows
  obtain ⟨k, ⟨ws', _, hA, _, hst⟩, hk⟩ := elimLoop_inv_idx (step := colElimStep)
    (fun k s' => WS n s' ∧ NumM s'.A ∧ s'.A.length = s.A.length ∧ s'.R.length ≤ s.R.length ∧
      (s'.R.length = s.R.length → HasZeroCol s'.A s.R.length ∨ ((∀ r, r < k → Prow s'.A r) ∧
        ∀ c, c < min s.A.length s.R.length → Pcol s'.A c ∨ Zcol s'.A c)))
    (fun j s' hj h => by
      obtain ⟨ws', num', hA, hle, hst⟩ := h
      rw [width_eq ws'] at hj ⊢
      have hj' : j < s'.R.length := Nat.lt_of_lt_of_le hj (Nat.min_le_right _ _)
      obtain ⟨ws'', _, hA', hle', _⟩ := colRel_colElimStep n j s' hj' ws'
      rw [width_eq ws'', hA']
      refine ⟨⟨ws'', numM_colElimStep num', hA, Nat.le_trans hle' hle, fun e => ?_⟩,
        Nat.le_min.2 ⟨Nat.min_le_left _ _, Nat.le_trans (Nat.min_le_right _ _) hle'⟩⟩
      have e' : s'.R.length = s.R.length := Nat.le_antisymm hle (e ▸ hle')
      have hlen1 : (colElimStep j s').R.length = s'.R.length := e.trans e'.symm
      rw [← e'] at hst ⊢
      by_cases hz : HasZeroCol s'.A s'.R.length
      · exact Or.inl (colElimStep_zeroCol n j s' ws' num' hj' hlen1 hz)
      · obtain ⟨hR, hC⟩ := (hst rfl).resolve_left hz
        rw [← hA] at hC
        -- column `j` cannot vanish on and below the diagonal: the rows above are unit rows
        have hP : Pcol s'.A j := (hC j hj).resolve_right fun h => hz ⟨j, hj', fun r =>
          if hrj : r < j then (hR r hrj).2 j (by omega) else h r (by omega)⟩
        obtain ⟨u1, u2, _⟩ := colElimStep_unit n j s' ws' num' hj' hlen1 hP
        refine Or.inr ⟨fun r hr => ?_, fun c hc => ?_⟩
        · by_cases hrj : r = j
          · subst hrj; exact u2
          · have := hR r (by omega)
            exact ⟨by rw [u1 r hrj]; exact this.1, fun c hc => by rw [u1 r hrj]; exact this.2 c hc⟩
        · rw [← hA] at hc
          by_cases hcj : c = j
          · subst hcj
            exact Or.inl ⟨u2.1, fun r hr => by rw [u1 r hr]; exact hP.2 r hr⟩
          · rcases hC c hc with h | h
            · refine Or.inl ⟨by rw [u1 c hcj]; exact h.1, fun r hr => ?_⟩
              by_cases hrj : r = j
              · subst hrj; exact u2.2 c hcj
              · rw [u1 r hrj]; exact h.2 r hr
            · refine Or.inr fun r hr => ?_
              by_cases hrj : r = j
              · subst hrj; exact u2.2 c hcj
              · rw [u1 r hrj]; exact h r hr)
    fuel j s ⟨hws, hnum, rfl, Nat.le_refl _, fun _ => Or.inr ⟨hR, hC⟩⟩ (by rw [width_eq hws]; exact hfuel)
  rw [width_eq ws', hlen, hA] at hk
  obtain ⟨h1, h2⟩ := (hst hlen).resolve_left hnz
  exact ⟨fun r hr => h1 r (Nat.lt_of_lt_of_le hr hk), h2⟩

end Ptn.C12
