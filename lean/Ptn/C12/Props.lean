import Ptn.C12.Lemmas
import Ptn.C12.NumNZ
import Ptn.C12.General
import Ptn.C12.NumRank
import Ptn.C01.Cut
import Ptn.C01.Base
import Ptn.C01.Fill
/-! Property theorems for C12 (bond dimensions of TTNOs built from Hamiltonians).

Covered for every tree and every input: a single-term Hamiltonian gives bond dimension one on every
edge; the uncompressed construction gives the number of terms; no exact factorisation across an edge
can have fewer bond indices than the operator Schmidt rank (so the Schmidt rank is the minimum).
For purely rational coefficient matrices (the numeric case, from `cover_of_fully_reduced` on): the bond of a cut
built by Gaussian elimination and a minimum vertex cover is the rank of the coefficient matrix
(`sge_numeric_bond_eq_rank` and the theorems around it).
Not covered (decided per input by the harness): that the construction reaches the minimum for symbolic
coefficients - it does not always (findings F-C12a and F-C12c, notes/C12.md). -/
namespace Ptn.C12
open Ptn.C01 Finset

/-- A single-term Hamiltonian: the diagram has exactly one vertex on every edge of the tree, hence
    the TTNO has bond dimension one on every edge - for every tree, every support, every coefficient. -/
theorem single_term_bond_one (t : RTree) (tm : Term) :
    singleBonds t tm = t.edgesBelow.map (·, 1) :=
  bonds_eq 1 t _ (singleAt_over _ _ _ true t) (singleAt_bonds _ _ _ true t)

/-- … and every bond listed is an edge of the tree, each exactly once (keys are the child ends). -/
theorem single_term_bond_keys (t : RTree) (tm : Term) :
    (singleBonds t tm).map Prod.fst = t.edgesBelow := by
  rw [single_term_bond_one]
  simp [Function.comp_def]

/-- The uncompressed construction has one vertex per term on every edge (the worst case the
    compressing methods start from). -/
theorem base_bond_eq_terms (t : RTree) (terms : List Term) (bs : List (Nat × Nat))
    (h : baseBonds t terms = some bs) : bs = t.edgesBelow.map (·, terms.length) := by
  cases terms with
  | nil => simp [baseBonds, baseDiagram] at h
  | cons tm rest =>
    rw [baseBonds, baseDiagram_eq, Option.map_some] at h
    obtain rfl := Option.some.inj h
    exact (baseAt_bonds_both _).1 t true

/-- The rank-of-a-product bound (label L6 of notes/analysis.md; proved here directly from Mathlib).
    Cutting an exact TTNO across an edge of bond dimension `r` writes the matricisation
    `H : (operator index on one side) × (operator index on the other side)` of the Hamiltonian as a
    product `L * R` through an `r`-dimensional index.  Hence `r ≥ rank H`, the operator Schmidt rank:
    no exact representation has a smaller bond. -/
theorem bond_ge_schmidt_rank {K : Type*} [Field K] {a b : Type*} [Fintype a] [Fintype b]
    (r : ℕ) (H : Matrix a b K) (L : Matrix a (Fin r) K) (R : Matrix (Fin r) b K) (h : H = L * R) :
    H.rank ≤ r := by
  subst h
  exact (Matrix.rank_mul_le_left L R).trans
    ((Matrix.rank_le_card_width L).trans (Fintype.card_fin r).le)

/-- The bond created at a cut equals the size of the chosen vertex cover: after factorising
    `Γ = L · Γ' · R` and covering the support of `Γ'` by `(Cu, Cv)`, the operator of the cut is a sum of
    exactly `|Cu| + |Cv|` pure tensors (one new vertex each) - the routing of
    `Ptn.C01.cut_preserves`, re-indexed by `Fin (|Cu| + |Cv|)`. -/
theorem bond_eq_cover {K : Type*} [CommSemiring K] {A B C : Type*} [AddCommMonoid A]
    [AddCommMonoid B] [AddCommMonoid C] [Module K A] [Module K B] [Module K C]
    {ι κ ι' κ' : Type*} [Fintype ι] [Fintype κ] [Fintype ι'] [Fintype κ']
    [DecidableEq ι'] [DecidableEq κ']
    (f : A →ₗ[K] B →ₗ[K] C) (U : ι → A) (V : κ → B)
    (Γ : Matrix ι κ K) (L : Matrix ι ι' K) (Γ' : Matrix ι' κ' K) (R : Matrix κ' κ K)
    (h : Γ = L * Γ' * R) (Cu : Finset ι') (Cv : Finset κ') (hc : IsCover Γ' Cu Cv) :
    ∃ (a : Fin (Cu.card + Cv.card) → A) (b : Fin (Cu.card + Cv.card) → B),
      ∑ k, f (a k) (b k) = ∑ u, ∑ v, Γ u v • f (U u) (V v) := by
  have hcard : Fintype.card (↥Cu ⊕ ↥Cv) = Cu.card + Cv.card := by
    rw [Fintype.card_sum, Fintype.card_coe, Fintype.card_coe]
  let e := Fintype.equivFinOfCardEq hcard
  refine ⟨fun k => routeA (fun u' => ∑ u, L u u' • U u) Γ' Cu Cv (e.symm k),
    fun k => routeB (fun v' => ∑ v, R v' v • V v) Γ' Cu Cv (e.symm k), ?_⟩
  rw [← cut_preserves_lem f U V Γ L Γ' R h Cu Cv hc]
  exact Equiv.sum_comp e.symm (fun k => f (routeA (fun u' => ∑ u, L u u' • U u) Γ' Cu Cv k)
    (routeB (fun v' => ∑ v, R v' v • V v) Γ' Cu Cv k))

/-- No cover can be smaller than the rank of the (reduced) coefficient matrix: a cover `(Cu, Cv)` of
    the support of `G` factors `G` through `|Cu| + |Cv|` indices.  (That a *minimum* cover of the reduced
    matrix reaches the rank is `sge_numeric_bond_eq_rank` for rational matrices; for symbolic ones it fails,
    see F-C12a and F-C12c in notes/C12.md.) -/
theorem cover_ge_rank {F : Type*} [Field F] {ι κ : Type*} [Fintype ι] [Fintype κ]
    [DecidableEq ι] [DecidableEq κ] (G : Matrix ι κ F) (Cu : Finset ι) (Cv : Finset κ)
    (hc : IsCover G Cu Cv) : G.rank ≤ Cu.card + Cv.card :=
  rank_le_cover G Cu Cv hc

/-- The TTNO actually built (`from_state_diagram`) from a single-term Hamiltonian exists and has bond
    dimension one on every edge: bond dimensions of the filled tensors are the vertex counts
    (`Ptn.C01.fill_bonds`). -/
theorem single_term_ttno_bond_one (dimOf : String → Nat) (t : RTree) (tm : Term) :
    ∃ T, fillTTNO dimOf (singleTerm t tm) = some T ∧ T.bondsBelow = t.edgesBelow.map (·, 1) := by
  obtain ⟨T, hT⟩ := fill_defined_aux dimOf (singleTerm t tm) true (singleAt_WF _ _ _ true t)
    (singleAt_populated _ _ _ true t)
  refine ⟨T, hT, ?_⟩
  rw [fill_bonds dimOf _ true T hT]
  exact single_term_bond_one t tm

/-- For any diagram the bond dimensions of the filled TTNO are the numbers of vertices per edge: every
    statement about vertex counts (`base_bond_eq_terms`, `bond_eq_cover`) is a statement about the
    tensors' shapes. -/
theorem ttno_bonds_eq_vertex_counts (dimOf : String → Nat) (d : SD) (T : TTNO)
    (h : fillTTNO dimOf d = some T) : T.bondsBelow = bondDims d :=
  fill_bonds dimOf d true T h

/-! ### Non-vacuity -/

-- a cover as required by `bond_eq_cover` / `cover_ge_rank`: the row of a 1 × 2 matrix
example : IsCover (Matrix.of fun (_ : Fin 1) (_ : Fin 2) => (1 : ℚ)) {0} ∅ := by
  intro i j _; left; simp; exact Subsingleton.elim i 0

example : singleBonds exTree exT1 = [(2, 1), (1, 1), (3, 1)] := by decide +kernel
example : baseBonds exTree [exT1, exT2, exT1] = some [(2, 3), (1, 3), (3, 3)] := by decide +kernel
example : exTree.edgesBelow = [2, 1, 3] := by decide +kernel

-- the bound of `bond_ge_schmidt_rank` is attained: the 2 × 2 identity has rank 2 and factors through 2
example : (1 : Matrix (Fin 2) (Fin 2) ℚ) = (1 : Matrix (Fin 2) (Fin 2) ℚ) * 1 := by simp
example : (1 : Matrix (Fin 2) (Fin 2) ℚ).rank = 2 := by simp

/-! ### numeric (symbol-free) coefficient matrices

For a rational `Γ` symbolic Gaussian elimination is ordinary Gaussian elimination.  Vocabulary
(`Reduced.lean`, `Rank.lean`, `RankBridge.lean`): `nz A i j` is the Python test `A[i][j] != 0`,
`suppEdges A` the edge list handed to `BipartiteGraph`, `FullyReduced A` "at most one non-zero entry
in every row and every column", `NumM A` "no symbolic entry", `numMat A p q` the `p × q` matrix over
ℚ of a numeric `A`.  The model of `gaussian_elimination` is the one of property C13, the model of
`minimum_vertex_cover` the one of property C14. -/

/-- **Cover of a fully reduced matrix.**  If the reduced matrix has at most one non-zero entry per row
    and per column, then its non-zero entries are a matching, the rows carrying them are a cover, every
    cover has at least as many vertices as there are non-zero entries, and the model of
    `minimum_vertex_cover` on `BipartiteGraph(m, n, edges)` returns a cover of exactly that size. -/
theorem cover_of_fully_reduced (A : Ptn.C13.EMat) (n : Nat) (hpos : 0 < A.length) (hn : 0 < n)
    (hrect : Ptn.C13.Rect A n) (h : FullyReduced A) :
    Ptn.C14.IsMatching (fun i j => nz A i j = true) (suppEdges A) ∧
    Ptn.C14.IsCover (fun i j => nz A i j = true) ((suppEdges A).map Prod.fst) [] ∧
    (∀ cu cv, Ptn.C14.IsCover (fun i j => nz A i j = true) cu cv →
      (suppEdges A).length ≤ cu.length + cv.length) ∧
    ∃ g M cu cv, Ptn.C14.mkGraph A.length n (suppEdges A) = some g ∧
      Ptn.C14.minimumVertexCover g = .ok (M, cu, cv) ∧
      (∀ p ∈ suppEdges A, p.1 ∈ cu ∨ p.2 ∈ cv) ∧
      cu.length + cv.length = (suppEdges A).length := by
  have hM := suppEdges_isMatching A h
  have hC := suppEdges_rows_cover A n hpos hrect
  have hw : Ptn.C13.width A = n := Ptn.C13.width_of_rect hrect hpos
  refine ⟨hM, hC, fun cu cv hc => Ptn.C14.weak_duality _ _ cu cv hM hc, ?_⟩
  obtain ⟨g, M, cu, cv, hg, hmvc, hMsub, hMl, hMr, hcov, _, _, _, _, hsz, hmax, hmin⟩ :=
    Ptn.C14.mvc_correct_input A.length n (suppEdges A) hpos hn (suppEdges_in_range hw)
  refine ⟨g, M, cu, cv, hg, hmvc, hcov, ?_⟩
  have h1 : (suppEdges A).length ≤ M.length := hmax (suppEdges A) (fun _ hp => hp) hM.left hM.right
  have h2 := hmin ((suppEdges A).map Prod.fst) [] (fun p hp => Or.inl (List.mem_map.2 ⟨p, hp, rfl⟩))
  simp only [List.length_map, List.length_nil] at h2
  omega

/-- **Rank of a fully reduced matrix** (any field): the rank is the number of non-zero entries, and
    the rows carrying them are a cover of the support with exactly `rank` vertices - a minimum cover
    by `cover_ge_rank`. -/
theorem rank_of_fully_reduced {F : Type*} [Field F] [DecidableEq F] {ι κ : Type*} [Fintype ι]
    [Fintype κ] [DecidableEq ι] [DecidableEq κ] (G : Matrix ι κ F) (h : MFullyReduced G) :
    G.rank = (msupport G).card ∧ IsCover G (msupportRows G) ∅ ∧ (msupportRows G).card = G.rank := by
  have h1 := card_msupport_le_rank G h
  have h2 := cover_ge_rank G (msupportRows G) ∅ (msupportRows_cover G)
  have h3 := msupportRows_card G h
  simp only [card_empty] at h2
  exact ⟨by omega, msupportRows_cover G, by omega⟩

/-- **rank Γ ≤ rank M'** for every numeric rectangular `Γ` (no hypothesis on the reduced matrix): the
    factorisation `Γ = L · M' · R` of `Ptn.C13.sge_exact`, read over ℚ. -/
theorem sge_numeric_rank_le_reduced (M : Ptn.C13.EMat) (n : Nat) (hpos : 0 < M.length)
    (hrect : Ptn.C13.Rect M n) (hnum : NumM M) (L : Ptn.C13.RMat) (A : Ptn.C13.EMat) (R : Ptn.C13.RMat)
    (h : Ptn.C13.gaussianElimination M = .ok L A R) :
    numMat M M.length n = ratMat L M.length A.length * numMat A A.length R.length * ratMat R R.length n ∧
    (numMat M M.length n).rank ≤ (numMat A A.length R.length).rank :=
  ⟨numMat_factor M n hpos hrect hnum L A R h, rank_numMat_le M n hpos hrect hnum L A R h⟩

/-- **Bond of a numeric cut, partial.**  Numeric rectangular `Γ`, reduced by the model of
    `gaussian_elimination` to `M'` (with at least one column).  IF `M'` is fully reduced, then the model
    of `minimum_vertex_cover` on the support graph of `M'` returns a cover whose size is the number of
    non-zero entries of `M'` = `rank M'` ≥ `rank Γ`; it equals `rank Γ` as soon as `rank M' ≤ rank Γ`.
    The two hypotheses are theorems further down: (1) `FullyReduced M'` - false in general
    (`sge_numeric_not_fully_reduced`) - holds for `Γ` without zero rows / columns
    (`sge_numeric_fully_reduced`); (2) `rank M' ≤ rank Γ` is `sge_numeric_rank_eq_reduced`. -/
theorem sge_numeric_bond_eq_rank_partial (M : Ptn.C13.EMat) (n : Nat) (hpos : 0 < M.length)
    (hrect : Ptn.C13.Rect M n) (hnum : NumM M) (L : Ptn.C13.RMat) (A : Ptn.C13.EMat) (R : Ptn.C13.RMat)
    (h : Ptn.C13.gaussianElimination M = .ok L A R) (hq : 0 < R.length) (hfr : FullyReduced A) :
    ∃ g Mt cu cv, Ptn.C14.mkGraph A.length R.length (suppEdges A) = some g ∧
      Ptn.C14.minimumVertexCover g = .ok (Mt, cu, cv) ∧
      cu.length + cv.length = (suppEdges A).length ∧
      cu.length + cv.length = (numMat A A.length R.length).rank ∧
      (numMat M M.length n).rank ≤ cu.length + cv.length ∧
      ((numMat A A.length R.length).rank ≤ (numMat M M.length n).rank →
        cu.length + cv.length = (numMat M M.length n).rank) := by
  obtain ⟨hApos, hA, hw, hnumA⟩ := sge_numeric_output M n hpos hrect hnum L A R h
  obtain ⟨_, _, _, g, Mt, cu, cv, hg, hmvc, _, hsz⟩ := cover_of_fully_reduced A R.length hApos hq hA hfr
  have hrk := length_suppEdges_eq_rank A hnumA hfr
  rw [hw] at hrk
  have hle := rank_numMat_le M n hpos hrect hnum L A R h
  exact ⟨g, Mt, cu, cv, hg, hmvc, hsz, by omega, by omega, fun hge => by omega⟩

/-- **The reduced matrix of a numeric `Γ` is fully reduced - partial.**  For every numeric rectangular
    `Γ` (any size): if the matrix `M'` returned by the model of `gaussian_elimination` has no zero row
    and no zero column, then it is square, its non-zero entries are exactly the diagonal ones, and in
    particular it has exactly one non-zero entry in every row and in every column.
    Proof: the fixed-point loop ends after a pass that deleted nothing (`mainLoop_last_pass`); in such a
    pass `row_elimination` leaves every column `c < min(m, n)` as a unit column with diagonal pivot or
    zero on and below the diagonal (`rowElimLoop_nodel`), `column_elimination` then meets a non-zero
    diagonal pivot in every row (a column that is zero on and below the diagonal next to unit rows
    above would be a zero column, and zero columns survive to the end: `colElimLoop_zeroCol`) and only
    clears the rest of the pivot's row (`colElimLoop_nodel`).
    That `M'` has no zero row / column whenever `Γ` has none is `sge_numeric_no_zero_lines`, and with it
    `sge_numeric_fully_reduced`; it is false that `M'` is fully reduced for every `Γ`:
    `sge_numeric_not_fully_reduced`. -/
theorem sge_numeric_fully_reduced_partial (M : Ptn.C13.EMat) (n : Nat) (hpos : 0 < M.length)
    (hrect : Ptn.C13.Rect M n) (hnum : NumM M) (L : Ptn.C13.RMat) (A : Ptn.C13.EMat) (R : Ptn.C13.RMat)
    (h : Ptn.C13.gaussianElimination M = .ok L A R)
    (hrows : ∀ r, r < A.length → ∃ c, nz A r c = true)
    (hcols : ∀ c, c < R.length → ∃ r, nz A r c = true) :
    A.length = R.length ∧ (∀ i j, nz A i j = true ↔ (i = j ∧ i < A.length)) ∧ FullyReduced A := by
  have hnumA := (sge_numeric_output M n hpos hrect hnum L A R h).2.2.2
  obtain ⟨hflag, _, rfl, rfl⟩ := Ptn.C13.gaussianElimination_ok h
  have hd : DiagNZ (Ptn.C13.gaussSt M) := by
    apply gaussSt_passGoal M n hpos hrect hnum hflag
    · rintro ⟨c, hc, hz⟩
      obtain ⟨r, hr⟩ := hcols c hc
      exact (nz_iff_val hnumA r c).1 hr (hz r)
    · rintro ⟨r, hr, hz⟩
      obtain ⟨c, hc⟩ := hrows r hr
      exact (nz_iff_val hnumA r c).1 hc (hz c)
  have hnzd := diagNZ_nz hnumA hd
  refine ⟨hd.1, hnzd, fun i j j' h1 h2 => ?_, fun i i' j h1 h2 => ?_⟩
  · exact ((hnzd i j).1 h1).1.symm.trans ((hnzd i j').1 h2).1
  · exact ((hnzd i j).1 h1).1.trans ((hnzd i' j).1 h2).1.symm

/-- **Bond of a numeric cut whose reduced matrix has no zero row / column - partial.**  Then the
    model of `minimum_vertex_cover` on the support graph of `M'` returns a cover with exactly
    `len(M') = len(M'[0]) = rank M'` vertices, and `rank Γ ≤` that number (equality needs
    `rank M' ≤ rank Γ`, which is `sge_numeric_rank_eq_reduced` - see `sge_numeric_bond_eq_rank_of_output_partial`). -/
theorem sge_numeric_bond_no_zero_lines_partial (M : Ptn.C13.EMat) (n : Nat) (hpos : 0 < M.length)
    (hrect : Ptn.C13.Rect M n) (hnum : NumM M) (L : Ptn.C13.RMat) (A : Ptn.C13.EMat) (R : Ptn.C13.RMat)
    (h : Ptn.C13.gaussianElimination M = .ok L A R)
    (hrows : ∀ r, r < A.length → ∃ c, nz A r c = true)
    (hcols : ∀ c, c < R.length → ∃ r, nz A r c = true) :
    ∃ g Mt cu cv, Ptn.C14.mkGraph A.length R.length (suppEdges A) = some g ∧
      Ptn.C14.minimumVertexCover g = .ok (Mt, cu, cv) ∧
      cu.length + cv.length = (numMat A A.length R.length).rank ∧
      (numMat M M.length n).rank ≤ cu.length + cv.length ∧
      ((numMat A A.length R.length).rank ≤ (numMat M M.length n).rank →
        cu.length + cv.length = (numMat M M.length n).rank) := by
  obtain ⟨hsq, _, hfr⟩ := sge_numeric_fully_reduced_partial M n hpos hrect hnum L A R h hrows hcols
  have hApos := (sge_numeric_output M n hpos hrect hnum L A R h).1
  obtain ⟨g, Mt, cu, cv, h1, h2, _, h4, h5, h6⟩ :=
    sge_numeric_bond_eq_rank_partial M n hpos hrect hnum L A R h (by omega) hfr
  exact ⟨g, Mt, cu, cv, h1, h2, h4, h5, h6⟩

/-- **rank M' = rank Γ** for every numeric rectangular `Γ` of every size (no hypothesis on the reduced
    matrix): over ℚ the matrix returned by the model of `gaussian_elimination` has the rank of the
    input.  Proof (`NumRank.lean`): the rank of the zero-padded `m × n` box of the current matrix is an
    invariant of the run - `row_swap` permutes rows, the inner loop of `row_elimination` replaces every
    row `k ≠ i` by `row k − (A[k][i]/pivot) · row i` (each matrix has its rows in the row space of the
    other), the rows deleted afterwards are zero, `deparallelize_rows` deletes rows that are multiples of
    a row that stays (the partner `i < j` is never flagged itself); columns alike, through
    `Matrix.rank_transpose`.  This is hypothesis (2) of `sge_numeric_bond_eq_rank_partial`. -/
theorem sge_numeric_rank_eq_reduced (M : Ptn.C13.EMat) (n : Nat) (hpos : 0 < M.length)
    (hrect : Ptn.C13.Rect M n) (hnum : NumM M) (L : Ptn.C13.RMat) (A : Ptn.C13.EMat) (R : Ptn.C13.RMat)
    (h : Ptn.C13.gaussianElimination M = .ok L A R) :
    (numMat A A.length R.length).rank = (numMat M M.length n).rank :=
  rank_numMat_eq M n hpos hrect hnum L A R h

/-- **Bond of a numeric cut = rank Γ, hypothesis on the output only.**  If the reduced matrix `M'` has
    no zero row and no zero column, the model of `minimum_vertex_cover` on the support graph of `M'`
    returns a cover with exactly `rank Γ` vertices.  (That `M'` has no zero line when `Γ` has none is
    `sge_numeric_no_zero_lines`; together: `sge_numeric_bond_eq_rank`.) -/
theorem sge_numeric_bond_eq_rank_of_output_partial (M : Ptn.C13.EMat) (n : Nat) (hpos : 0 < M.length)
    (hrect : Ptn.C13.Rect M n) (hnum : NumM M) (L : Ptn.C13.RMat) (A : Ptn.C13.EMat) (R : Ptn.C13.RMat)
    (h : Ptn.C13.gaussianElimination M = .ok L A R)
    (hrows : ∀ r, r < A.length → ∃ c, nz A r c = true)
    (hcols : ∀ c, c < R.length → ∃ r, nz A r c = true) :
    ∃ g Mt cu cv, Ptn.C14.mkGraph A.length R.length (suppEdges A) = some g ∧
      Ptn.C14.minimumVertexCover g = .ok (Mt, cu, cv) ∧
      cu.length + cv.length = (numMat M M.length n).rank := by
  obtain ⟨g, Mt, cu, cv, h1, h2, _, _, h5⟩ :=
    sge_numeric_bond_no_zero_lines_partial M n hpos hrect hnum L A R h hrows hcols
  exact ⟨g, Mt, cu, cv, h1, h2, h5 (sge_numeric_rank_eq_reduced M n hpos hrect hnum L A R h).le⟩

/-- **No zero line in, no zero line out.**  If the numeric rectangular `Γ` has no zero row and no zero
    column, the reduced matrix `M'` returned by the model of `gaussian_elimination` has none either.
    Proof (`NumNZ.lean`): invariant of the run.  Row operations are invertible, so a non-zero column stays
    non-zero; a row that becomes zero in the inner loop of `row_elimination` is flagged (the zero flag
    of `_row_add` is complete on numeric matrices: `rowAdd_flag_complete`) and deleted at the end of
    the same pass; `deparallelize_rows` keeps the partner of every deleted row, which carries a non-zero
    entry in the same columns.  Columns alike.  This is the hypothesis of `sge_numeric_fully_reduced_partial`. -/
theorem sge_numeric_no_zero_lines (M : Ptn.C13.EMat) (n : Nat) (hpos : 0 < M.length)
    (hrect : Ptn.C13.Rect M n) (hnum : NumM M)
    (hrows : ∀ r, r < M.length → ∃ c, nz M r c = true)
    (hcols : ∀ c, c < n → ∃ r, nz M r c = true)
    (L : Ptn.C13.RMat) (A : Ptn.C13.EMat) (R : Ptn.C13.RMat)
    (h : Ptn.C13.gaussianElimination M = .ok L A R) :
    (∀ r, r < A.length → ∃ c, nz A r c = true) ∧ (∀ c, c < R.length → ∃ r, nz A r c = true) := by
  have hnumA := (sge_numeric_output M n hpos hrect hnum L A R h).2.2.2
  obtain ⟨h1, h2⟩ := no_zero_lines_of_ok M n hpos hrect hnum
    (fun r hr => let ⟨c, hc⟩ := hrows r hr; ⟨c, (nz_iff_val hnum r c).1 hc⟩)
    (fun c hc => let ⟨r, hr⟩ := hcols c hc; ⟨r, (nz_iff_val hnum r c).1 hr⟩) L A R h
  exact ⟨fun r hr => let ⟨c, hc⟩ := h1 r hr; ⟨c, (nz_iff_val hnumA r c).2 hc⟩,
    fun c hc => let ⟨r, hr⟩ := h2 c hc; ⟨r, (nz_iff_val hnumA r c).2 hr⟩⟩

/-- **The reduced matrix of a numeric `Γ` without zero row / column is fully reduced**: square,
    non-zero exactly on the diagonal, of size `rank Γ`. -/
theorem sge_numeric_fully_reduced (M : Ptn.C13.EMat) (n : Nat) (hpos : 0 < M.length)
    (hrect : Ptn.C13.Rect M n) (hnum : NumM M)
    (hrows : ∀ r, r < M.length → ∃ c, nz M r c = true)
    (hcols : ∀ c, c < n → ∃ r, nz M r c = true)
    (L : Ptn.C13.RMat) (A : Ptn.C13.EMat) (R : Ptn.C13.RMat)
    (h : Ptn.C13.gaussianElimination M = .ok L A R) :
    A.length = R.length ∧ (∀ i j, nz A i j = true ↔ (i = j ∧ i < A.length)) ∧ FullyReduced A ∧
    A.length = (numMat M M.length n).rank := by
  obtain ⟨h1, h2⟩ := sge_numeric_no_zero_lines M n hpos hrect hnum hrows hcols L A R h
  obtain ⟨hsq, hd, hfr⟩ := sge_numeric_fully_reduced_partial M n hpos hrect hnum L A R h h1 h2
  refine ⟨hsq, hd, hfr, ?_⟩
  have hnumA := (sge_numeric_output M n hpos hrect hnum L A R h).2.2.2
  have hrk := sge_numeric_rank_eq_reduced M n hpos hrect hnum L A R h
  rw [← hrk, ← hsq]
  -- a square matrix that is non-zero exactly on the diagonal has full rank
  refine Nat.le_antisymm ?_ ((Matrix.rank_le_card_height _).trans (Fintype.card_fin _).le)
  have := card_le_rank_of_diag (numMat A A.length A.length) id id
    (fun i => (nz_iff_numMat hnumA _ _ i i).1 ((hd i i).2 ⟨rfl, i.2⟩))
    (fun s t hst => by_contra fun hne => hst (Fin.ext ((hd s t).1 ((nz_iff_numMat hnumA _ _ s t).2 hne)).1))
  rwa [Fintype.card_fin] at this

/-- **Bond of a numeric cut = rank Γ.**  For every numeric rectangular `Γ` (any size, at least one
    row) without zero row and without zero column: the model of `gaussian_elimination` (property C13)
    returns a triple `(L, M', R)`, and the model of `minimum_vertex_cover` (property C14) on
    `BipartiteGraph(len(M'), len(M'[0]), supp M')` returns a cover whose number of vertices - the bond
    dimension the cut creates, `bond_eq_cover` - is exactly `Matrix.rank Γ` over ℚ, the minimum possible
    (`bond_ge_schmidt_rank`, `cover_ge_rank`). -/
theorem sge_numeric_bond_eq_rank (M : Ptn.C13.EMat) (n : Nat) (hpos : 0 < M.length)
    (hrect : Ptn.C13.Rect M n) (hnum : NumM M)
    (hrows : ∀ r, r < M.length → ∃ c, nz M r c = true)
    (hcols : ∀ c, c < n → ∃ r, nz M r c = true) :
    ∃ L A R, Ptn.C13.gaussianElimination M = .ok L A R ∧
      ∃ g Mt cu cv, Ptn.C14.mkGraph A.length R.length (suppEdges A) = some g ∧
        Ptn.C14.minimumVertexCover g = .ok (Mt, cu, cv) ∧
        cu.length + cv.length = (numMat M M.length n).rank := by
  obtain ⟨L, A, R, h⟩ := Ptn.C13.sge_total M n hpos hrect (numM_nesm hnum) (numM_nzm hnum)
  obtain ⟨h1, h2⟩ := sge_numeric_no_zero_lines M n hpos hrect hnum hrows hcols L A R h
  exact ⟨L, A, R, h, sge_numeric_bond_eq_rank_of_output_partial M n hpos hrect hnum L A R h h1 h2⟩

/-- **… and the keep-the-better rule does not change it.**  `_apply_bipartite_to_gamma_u` also computes
    the minimum cover of the support of the *unreduced* `Γ` and keeps it if the cover of `supp M'` is not
    strictly smaller.  Under the hypotheses of `sge_numeric_bond_eq_rank` the number of vertices of the
    cover it keeps - the bond dimension of the cut - is `Matrix.rank Γ` in both branches (a cover of
    `supp Γ` has at least `rank Γ` vertices). -/
theorem sge_numeric_bond_keep_better (M : Ptn.C13.EMat) (n : Nat) (hpos : 0 < M.length)
    (hrect : Ptn.C13.Rect M n) (hnum : NumM M)
    (hrows : ∀ r, r < M.length → ∃ c, nz M r c = true)
    (hcols : ∀ c, c < n → ∃ r, nz M r c = true) :
    ∃ L A R, Ptn.C13.gaussianElimination M = .ok L A R ∧
      ∃ g Mt cu cv g0 Mt0 cu0 cv0,
        Ptn.C14.mkGraph A.length R.length (suppEdges A) = some g ∧
        Ptn.C14.minimumVertexCover g = .ok (Mt, cu, cv) ∧
        Ptn.C14.mkGraph M.length n (suppEdges M) = some g0 ∧
        Ptn.C14.minimumVertexCover g0 = .ok (Mt0, cu0, cv0) ∧
        (if cu.length + cv.length ≥ cu0.length + cv0.length then cu0.length + cv0.length
          else cu.length + cv.length) = (numMat M M.length n).rank := by
  obtain ⟨L, A, R, h, g, Mt, cu, cv, hg, hmvc, hsz⟩ :=
    sge_numeric_bond_eq_rank M n hpos hrect hnum hrows hcols
  have hn : 0 < n := by
    obtain ⟨c, hc⟩ := hrows 0 hpos
    have := (nz_in_range hrect hc).2
    omega
  have hw : Ptn.C13.width M = n := Ptn.C13.width_of_rect hrect hpos
  obtain ⟨g0, Mt0, cu0, cv0, hg0, hmvc0, _, _, _, hcov0, _⟩ :=
    Ptn.C14.mvc_correct_input M.length n (suppEdges M) hpos hn (suppEdges_in_range hw)
  have hge := rank_le_list_cover M hnum cu0 cv0 hcov0
  rw [hw] at hge
  refine ⟨L, A, R, h, g, Mt, cu, cv, g0, Mt0, cu0, cv0, hg, hmvc, hg0, hmvc0, ?_⟩
  split <;> omega

/-- **The reduced matrix of a numeric `Γ` is not always fully reduced**: `Γ` (3 × 4, rank 2, two zero
    columns) is returned with two non-zero entries in column 0 - the pivot search only looks at the
    diagonal position and below / to the right of it, and the fixed-point loop stops because no row or
    column was deleted.  (Replayed on the library: corpus `numeric-zero-columns-not-reduced.json`.)
    The minimum cover of the returned pattern still has 2 = rank vertices. -/
theorem sge_numeric_not_fully_reduced :
    NumM exNotReduced ∧ Ptn.C13.Rect exNotReduced 4 ∧
    Ptn.C13.gaussianElimination exNotReduced = .ok
      [[1, 0, 0], [0, 1, -1], [0, 0, 1]]
      [[.num (-1), .num 0, .num 0, .num 0], [.num (-1), .num 0, .num 0, .num 0],
       [.num 0, .num 0, .num (-1), .num 0]]
      [[0, 0, 0, 1], [0, 1, 0, 0], [0, 0, 1, 1], [1, 0, 0, 0]] ∧
    ¬ FullyReduced [[.num (-1), .num 0, .num 0, .num 0], [.num (-1), .num 0, .num 0, .num 0],
       [.num 0, .num 0, .num (-1), .num 0]] := by
  refine ⟨numM_of_all rfl, rect_of_all rfl, by decide +kernel, fun hfr => ?_⟩
  have := hfr.2 0 1 0 (by decide +kernel) (by decide +kernel)
  omega

/-! ### numeric `Γ` with zero rows / columns allowed -/

/-- **Bond of a numeric cut, every `Γ` (zero rows / columns allowed) - partial.**  For every numeric
    rectangular `Γ` and the triple `(L, M', R)` returned by the model of `gaussian_elimination` (with at
    least one column left): the model of `minimum_vertex_cover` on `supp M'` returns a cover that (a) has
    at least `rank Γ` vertices, (b) is a minimum cover (no cover of `supp M'` is smaller, Kőnig through
    `Ptn.C14.mvc_correct_input`), hence (c) has exactly `rank Γ` vertices as soon as `supp M'` has SOME cover
    with at most `rank Γ` vertices.  No hypothesis on zero lines of `Γ` or of `M'`.
    Missing for the statement without that proviso (bond = rank for every numeric `Γ`): that `supp M'` always has a cover
    with `rank Γ` vertices - it needs a description of the returned shape when pivots are shifted off
    the diagonal by zero columns (`sge_numeric_not_fully_reduced`), which is not proved; the shape
    `PivotLines` (next theorem) is sufficient, covers that witness and every sampled output. -/
theorem sge_numeric_bond_general_partial (M : Ptn.C13.EMat) (n : Nat) (hpos : 0 < M.length)
    (hrect : Ptn.C13.Rect M n) (hnum : NumM M) (L : Ptn.C13.RMat) (A : Ptn.C13.EMat) (R : Ptn.C13.RMat)
    (h : Ptn.C13.gaussianElimination M = .ok L A R) (hq : 0 < R.length) :
    ∃ g Mt cu cv, Ptn.C14.mkGraph A.length R.length (suppEdges A) = some g ∧
      Ptn.C14.minimumVertexCover g = .ok (Mt, cu, cv) ∧
      (∀ p ∈ suppEdges A, p.1 ∈ cu ∨ p.2 ∈ cv) ∧
      (numMat M M.length n).rank ≤ cu.length + cv.length ∧
      (∀ cu' cv' : List Nat, (∀ p ∈ suppEdges A, p.1 ∈ cu' ∨ p.2 ∈ cv') →
        cu.length + cv.length ≤ cu'.length + cv'.length) ∧
      (∀ cu' cv' : List Nat, (∀ p ∈ suppEdges A, p.1 ∈ cu' ∨ p.2 ∈ cv') →
        cu'.length + cv'.length ≤ (numMat M M.length n).rank →
        cu.length + cv.length = (numMat M M.length n).rank) := by
  obtain ⟨hApos, hA, hw, hnumA⟩ := sge_numeric_output M n hpos hrect hnum L A R h
  obtain ⟨g, Mt, cu, cv, hg, hmvc, _, _, _, hcov, _, _, _, _, _, _, hmin⟩ :=
    Ptn.C14.mvc_correct_input A.length R.length (suppEdges A) hApos hq (suppEdges_in_range hw)
  have hge := rank_le_list_cover A hnumA cu cv hcov
  rw [hw, sge_numeric_rank_eq_reduced M n hpos hrect hnum L A R h] at hge
  refine ⟨g, Mt, cu, cv, hg, hmvc, hcov, hge, hmin, fun cu' cv' hc hle => ?_⟩
  have := hmin cu' cv' hc
  omega

/-- **Bond of a numeric cut = rank Γ for every `Γ` whose reduced matrix has pivot lines - partial.**
    Zero rows / columns of `Γ` and of `M'` allowed.  If `M'` has the shape `PivotLines` - every non-zero
    column holds an entry that is the only non-zero entry of its row, or the same with rows and columns
    exchanged (implied by `FullyReduced`, by "at most one non-zero per row" = `SingleLines`, the shape of
    the witness of `sge_numeric_not_fully_reduced`; it held for every output sampled through the
    driver for `Γ` with zeroed lines, see notes/C12.md) - the
    model of `minimum_vertex_cover` on `supp M'` returns a cover with exactly `Matrix.rank Γ` vertices: the
    non-zero columns (resp. rows) are a cover, and they are as many as the rank
    (`length_le_rank_of_row_pivots`: the pivots form a diagonal submatrix).  No hypothesis "no zero line".
    Missing for bond = rank for every numeric `Γ`: `PivotLines M'` is a hypothesis on the OUTPUT; that
    the model returns this shape for every numeric `Γ` is not proved. -/
theorem sge_numeric_bond_eq_rank_general_partial (M : Ptn.C13.EMat) (n : Nat) (hpos : 0 < M.length)
    (hrect : Ptn.C13.Rect M n) (hnum : NumM M) (L : Ptn.C13.RMat) (A : Ptn.C13.EMat) (R : Ptn.C13.RMat)
    (h : Ptn.C13.gaussianElimination M = .ok L A R) (hq : 0 < R.length) (hs : PivotLines A) :
    ∃ g Mt cu cv, Ptn.C14.mkGraph A.length R.length (suppEdges A) = some g ∧
      Ptn.C14.minimumVertexCover g = .ok (Mt, cu, cv) ∧
      (∀ p ∈ suppEdges A, p.1 ∈ cu ∨ p.2 ∈ cv) ∧
      cu.length + cv.length = (numMat M M.length n).rank := by
  obtain ⟨hApos, hA, hw, hnumA⟩ := sge_numeric_output M n hpos hrect hnum L A R h
  obtain ⟨g, Mt, cu, cv, hg, hmvc, hcov, _, _, heq⟩ :=
    sge_numeric_bond_general_partial M n hpos hrect hnum L A R h hq
  obtain ⟨cu', cv', hc', hle'⟩ := exists_cover_le_rank_of_pivotLines A hnumA R.length hA hw hs
  rw [sge_numeric_rank_eq_reduced M n hpos hrect hnum L A R h] at hle'
  exact ⟨g, Mt, cu, cv, hg, hmvc, hcov, heq cu' cv' hc' hle'⟩

/-- The witness of `sge_numeric_not_fully_reduced` (a `Γ` with two zero columns whose reduced matrix is
    NOT fully reduced) is covered by `sge_numeric_bond_eq_rank_general_partial`: its reduced matrix has
    one non-zero entry per row, so the bond of that cut is `rank Γ`. -/
theorem sge_numeric_not_fully_reduced_bond_eq_rank :
    ∃ L A R, Ptn.C13.gaussianElimination exNotReduced = .ok L A R ∧ ¬ FullyReduced A ∧ SingleLines A ∧
      ∃ g Mt cu cv, Ptn.C14.mkGraph A.length R.length (suppEdges A) = some g ∧
        Ptn.C14.minimumVertexCover g = .ok (Mt, cu, cv) ∧
        cu.length + cv.length = (numMat exNotReduced exNotReduced.length 4).rank := by
  obtain ⟨hnum, hrect, hge, hnfr⟩ := sge_numeric_not_fully_reduced
  have hs : SingleLines ([[.num (-1), .num 0, .num 0, .num 0], [.num (-1), .num 0, .num 0, .num 0],
       [.num 0, .num 0, .num (-1), .num 0]] : Ptn.C13.EMat) :=
    Or.inl (rowSingle_of_box (n := 4) (rect_of_all rfl) (by decide +kernel))
  obtain ⟨g, Mt, cu, cv, h1, h2, _, h4⟩ :=
    sge_numeric_bond_eq_rank_general_partial exNotReduced 4 (by decide) hrect hnum _ _ _ hge
      (by decide) (singleLines_pivotLines hs)
  exact ⟨_, _, _, hge, hnfr, hs, g, Mt, cu, cv, h1, h2, h4⟩

/-- A second witness: `Γ = exPivot` (3 × 4, two zero columns) is returned with a reduced matrix that is
    neither fully reduced nor of shape `SingleLines` (row 2 and columns 0, 1 carry two entries), but of
    shape `PivotLines` - so by `sge_numeric_bond_eq_rank_general_partial` the bond of the cut is `rank Γ`. -/
theorem sge_numeric_pivot_lines_witness :
    NumM exPivot ∧ Ptn.C13.Rect exPivot 4 ∧
    Ptn.C13.gaussianElimination exPivot = .ok [[1, 0, 0], [0, 1, 0], [0, 0, 1]] exPivotRed
      [[0, 0, 1, 2], [0, 0, 1, 3], [1, 0, 0, 0], [0, 1, 0, 0]] ∧
    ¬ SingleLines exPivotRed ∧ PivotLines exPivotRed ∧
    ∃ g Mt cu cv, Ptn.C14.mkGraph 3 4 (suppEdges exPivotRed) = some g ∧
      Ptn.C14.minimumVertexCover g = .ok (Mt, cu, cv) ∧
      cu.length + cv.length = (numMat exPivot 3 4).rank := by
  have hnum : NumM exPivot := numM_of_all rfl
  have hrect : Ptn.C13.Rect exPivot 4 := rect_of_all rfl
  have hrectA : Ptn.C13.Rect exPivotRed 4 := rect_of_all rfl
  have hge : Ptn.C13.gaussianElimination exPivot = .ok [[1, 0, 0], [0, 1, 0], [0, 0, 1]] exPivotRed
      [[0, 0, 1, 2], [0, 0, 1, 3], [1, 0, 0, 0], [0, 1, 0, 0]] := by decide +kernel
  have hns : ¬ SingleLines exPivotRed := by
    rintro (h | h)
    · have := h 2 0 1 (by decide +kernel) (by decide +kernel)
      omega
    · have := h 0 2 0 (by decide +kernel) (by decide +kernel)
      omega
  have hp : PivotLines exPivotRed := by
    left
    rintro j ⟨i, hi⟩
    have b := nz_in_range hrectA hi
    have key : ∀ j < 4, ∀ i < 3, nz exPivotRed i j = true →
        ∃ i' < 3, nz exPivotRed i' j = true ∧ ∀ j' < 4, nz exPivotRed i' j' = true → j' = j := by
      decide +kernel
    obtain ⟨i', _, h1, h2⟩ := key j b.2 i b.1 hi
    exact ⟨i', h1, fun j' hj' => h2 j' (nz_in_range hrectA hj').2 hj'⟩
  obtain ⟨g, Mt, cu, cv, h1, h2, _, h4⟩ :=
    sge_numeric_bond_eq_rank_general_partial exPivot 4 (by decide) hrect hnum _ _ _ hge
      (by decide) hp
  exact ⟨hnum, hrect, hge, hns, hp, g, Mt, cu, cv, h1, h2, h4⟩

/-- **Cover to diagram, on the list model** (`bond_eq_cover` for the matrices the models handle).
    Numeric rectangular `Γ` (list matrix `M`), `(L, M', R)` returned by the model of
    `gaussian_elimination`, and a duplicate-free in-range list cover `(cu, cv)` of `supp M'` - what the
    model of `minimum_vertex_cover` returns (`Ptn.C14.mvc_correct_input`): the operator of the cut
    `∑ u v, Γ[u][v] • f (U u) (V v)` is a sum of exactly `len(cu) + len(cv)` pure tensors, one per new
    vertex.  So the bond created at the cut is the number of vertices of the cover the model returns. -/
theorem bond_eq_cover_list {X Y Z : Type*} [AddCommMonoid X] [AddCommMonoid Y] [AddCommMonoid Z]
    [Module ℚ X] [Module ℚ Y] [Module ℚ Z] (f : X →ₗ[ℚ] Y →ₗ[ℚ] Z)
    (M : Ptn.C13.EMat) (n : Nat) (hpos : 0 < M.length)
    (hrect : Ptn.C13.Rect M n) (hnum : NumM M) (L : Ptn.C13.RMat) (A : Ptn.C13.EMat) (R : Ptn.C13.RMat)
    (h : Ptn.C13.gaussianElimination M = .ok L A R)
    (U : Fin M.length → X) (V : Fin n → Y) (cu cv : List Nat)
    (hc : ∀ p ∈ suppEdges A, p.1 ∈ cu ∨ p.2 ∈ cv) (hcu : cu.Nodup) (hcv : cv.Nodup)
    (hcul : ∀ u ∈ cu, u < A.length) (hcvl : ∀ v ∈ cv, v < R.length) :
    ∃ (a : Fin (cu.length + cv.length) → X) (b : Fin (cu.length + cv.length) → Y),
      ∑ k, f (a k) (b k) = ∑ u, ∑ v, numMat M M.length n u v • f (U u) (V v) := by
  obtain ⟨hApos, hA, hw, hnumA⟩ := sge_numeric_output M n hpos hrect hnum L A R h
  have hcov := isCover_of_list_cover A hnumA R.length hw cu cv hc
  have key := bond_eq_cover f U V (numMat M M.length n) (ratMat L M.length A.length)
    (numMat A A.length R.length) (ratMat R R.length n) (numMat_factor M n hpos hrect hnum L A R h) _ _ hcov
  rw [card_filter_mem_list cu hcu hcul, card_filter_mem_list cv hcv hcvl] at key
  exact key

/-- **Numeric cut, end to end** (every `Γ` whose reduced matrix has pivot lines; zero lines allowed):
    the cover returned by the model of `minimum_vertex_cover` has `rank Γ` vertices AND routes the
    operator of the cut through exactly that many pure tensors - the cut creates a bond of dimension
    `Matrix.rank Γ`, the minimum possible (`bond_ge_schmidt_rank`). -/
theorem sge_numeric_cut_bond_eq_rank_partial {X Y Z : Type*} [AddCommMonoid X] [AddCommMonoid Y]
    [AddCommMonoid Z] [Module ℚ X] [Module ℚ Y] [Module ℚ Z] (f : X →ₗ[ℚ] Y →ₗ[ℚ] Z)
    (M : Ptn.C13.EMat) (n : Nat) (hpos : 0 < M.length)
    (hrect : Ptn.C13.Rect M n) (hnum : NumM M) (L : Ptn.C13.RMat) (A : Ptn.C13.EMat) (R : Ptn.C13.RMat)
    (h : Ptn.C13.gaussianElimination M = .ok L A R) (hq : 0 < R.length) (hs : PivotLines A)
    (U : Fin M.length → X) (V : Fin n → Y) :
    ∃ g Mt cu cv, Ptn.C14.mkGraph A.length R.length (suppEdges A) = some g ∧
      Ptn.C14.minimumVertexCover g = .ok (Mt, cu, cv) ∧
      cu.length + cv.length = (numMat M M.length n).rank ∧
      ∃ (a : Fin (cu.length + cv.length) → X) (b : Fin (cu.length + cv.length) → Y),
        ∑ k, f (a k) (b k) = ∑ u, ∑ v, numMat M M.length n u v • f (U u) (V v) := by
  obtain ⟨hApos, _, hw, _⟩ := sge_numeric_output M n hpos hrect hnum L A R h
  obtain ⟨g, Mt, cu, cv, hg, hmvc, _, _, _, hcov, hul, hvl, hun, hvn, _, _, hmin⟩ :=
    Ptn.C14.mvc_correct_input A.length R.length (suppEdges A) hApos hq (suppEdges_in_range hw)
  obtain ⟨g', Mt', cu', cv', hg', hmvc', _, hrk⟩ :=
    sge_numeric_bond_eq_rank_general_partial M n hpos hrect hnum L A R h hq hs
  rw [hg] at hg'
  cases hg'
  rw [hmvc] at hmvc'
  cases hmvc'
  exact ⟨g, Mt, cu, cv, hg, hmvc, hrk,
    bond_eq_cover_list f M n hpos hrect hnum L A R h U V cu cv hcov hun hvn hul hvl⟩

/-- **The reduced matrix keeps a column** (the OUTPUT hypothesis `0 < R.length` of the
    `*_general_partial` theorems follows from a hypothesis on the INPUT).  Every numeric rectangular `Γ` with a non-zero
    entry: the returned `Op_r` has at least one row, i.e. `M'` has at least one column, and
    `0 < rank Γ`.  (From the rank invariant: `rank M' = rank Γ > 0`, and a matrix without columns has
    rank 0.)  Not covered: `Γ = 0` (then `rank Γ = 0`; that the model keeps a column of the zero
    matrix is a statement about the deletion lists, not proved). -/
theorem sge_numeric_keeps_column (M : Ptn.C13.EMat) (n : Nat) (hpos : 0 < M.length)
    (hrect : Ptn.C13.Rect M n) (hnum : NumM M) (L : Ptn.C13.RMat) (A : Ptn.C13.EMat) (R : Ptn.C13.RMat)
    (h : Ptn.C13.gaussianElimination M = .ok L A R) (hne : ∃ i j, nz M i j = true) :
    0 < R.length ∧ 0 < (numMat M M.length n).rank :=
  cols_pos_of_entry M n hpos hrect hnum L A R h hne

/-- `sge_numeric_bond_eq_rank_general_partial` with `0 < R.length` replaced by "`Γ` is not the zero
    matrix" (a hypothesis on the input).  Still missing for bond = rank for every numeric `Γ`: that
    the model returns a `PivotLines` matrix for every numeric `Γ` (hypothesis `hs` on the output) - the
    invariant of the last row pass + column pass when zero columns shift the pivots off the diagonal. -/
theorem sge_numeric_bond_eq_rank_general_input_partial (M : Ptn.C13.EMat) (n : Nat) (hpos : 0 < M.length)
    (hrect : Ptn.C13.Rect M n) (hnum : NumM M) (L : Ptn.C13.RMat) (A : Ptn.C13.EMat) (R : Ptn.C13.RMat)
    (h : Ptn.C13.gaussianElimination M = .ok L A R) (hne : ∃ i j, nz M i j = true) (hs : PivotLines A) :
    ∃ g Mt cu cv, Ptn.C14.mkGraph A.length R.length (suppEdges A) = some g ∧
      Ptn.C14.minimumVertexCover g = .ok (Mt, cu, cv) ∧
      (∀ p ∈ suppEdges A, p.1 ∈ cu ∨ p.2 ∈ cv) ∧
      cu.length + cv.length = (numMat M M.length n).rank :=
  sge_numeric_bond_eq_rank_general_partial M n hpos hrect hnum L A R h
    (sge_numeric_keeps_column M n hpos hrect hnum L A R h hne).1 hs

/-- `sge_numeric_cut_bond_eq_rank_partial` with `0 < R.length` replaced by "`Γ` is not the zero
    matrix".  Missing: as above, `PivotLines M'` is a hypothesis on the output. -/
theorem sge_numeric_cut_bond_eq_rank_input_partial {X Y Z : Type*} [AddCommMonoid X] [AddCommMonoid Y]
    [AddCommMonoid Z] [Module ℚ X] [Module ℚ Y] [Module ℚ Z] (f : X →ₗ[ℚ] Y →ₗ[ℚ] Z)
    (M : Ptn.C13.EMat) (n : Nat) (hpos : 0 < M.length)
    (hrect : Ptn.C13.Rect M n) (hnum : NumM M) (L : Ptn.C13.RMat) (A : Ptn.C13.EMat) (R : Ptn.C13.RMat)
    (h : Ptn.C13.gaussianElimination M = .ok L A R) (hne : ∃ i j, nz M i j = true) (hs : PivotLines A)
    (U : Fin M.length → X) (V : Fin n → Y) :
    ∃ g Mt cu cv, Ptn.C14.mkGraph A.length R.length (suppEdges A) = some g ∧
      Ptn.C14.minimumVertexCover g = .ok (Mt, cu, cv) ∧
      cu.length + cv.length = (numMat M M.length n).rank ∧
      ∃ (a : Fin (cu.length + cv.length) → X) (b : Fin (cu.length + cv.length) → Y),
        ∑ k, f (a k) (b k) = ∑ u, ∑ v, numMat M M.length n u v • f (U u) (V v) :=
  sge_numeric_cut_bond_eq_rank_partial f M n hpos hrect hnum L A R h
    (sge_numeric_keeps_column M n hpos hrect hnum L A R h hne).1 hs U V

/-! Non-vacuity of the hypotheses above. -/

-- `cover_of_fully_reduced`, `sge_numeric_bond_eq_rank_partial`: a rank-2 numeric matrix whose reduced
-- matrix is the 2 × 2 diagonal; the model of `minimum_vertex_cover` answers 2 vertices
example : Ptn.C13.gaussianElimination exRank2 = .ok [[1, 0], [2, 1], [3, 1]]
    [[.num 1, .num 0], [.num 0, .num 1]] [[1, 2, 0], [0, 0, 1]] := by decide +kernel

example : NumM exRank2 ∧ Ptn.C13.Rect exRank2 3 := ⟨numM_of_all rfl, rect_of_all rfl⟩

example : FullyReduced [[.num 1, .num 0], [.num 0, .num 1]] ∧
    Ptn.C13.Rect ([[.num 1, .num 0], [.num 0, .num 1]] : Ptn.C13.EMat) 2 ∧
    suppEdges [[.num 1, .num 0], [.num 0, .num 1]] = [(0, 0), (1, 1)] := by
  have hrect : Ptn.C13.Rect ([[.num 1, .num 0], [.num 0, .num 1]] : Ptn.C13.EMat) 2 := rect_of_all rfl
  exact ⟨⟨rowSingle_of_box hrect (by decide +kernel), colSingle_of_box hrect (by decide +kernel)⟩, hrect,
    by decide +kernel⟩

-- `sge_numeric_fully_reduced_partial`, `sge_numeric_bond_no_zero_lines_partial`: the reduced matrix of
-- `exRank2` (above) has no zero row and no zero column
example : (∀ r, r < 2 → ∃ c, nz [[.num 1, .num 0], [.num 0, .num 1]] r c = true) ∧
    (∀ c, c < 2 → ∃ r, nz [[.num 1, .num 0], [.num 0, .num 1]] r c = true) := by
  refine ⟨fun r hr => ⟨r, ?_⟩, fun c hc => ⟨c, ?_⟩⟩
  · have : ∀ r < 2, nz [[.num 1, .num 0], [.num 0, .num 1]] r r = true := by decide +kernel
    exact this r hr
  · have : ∀ c < 2, nz [[.num 1, .num 0], [.num 0, .num 1]] c c = true := by decide +kernel
    exact this c hc

-- `sge_numeric_no_zero_lines`, `sge_numeric_fully_reduced`, `sge_numeric_bond_eq_rank`: `exRank2`
-- (3 × 3, rank 2) has no zero row and no zero column; its reduced matrix is the 2 × 2 identity (above)
example : (∀ r, r < exRank2.length → ∃ c, nz exRank2 r c = true) ∧
    (∀ c, c < 3 → ∃ r, nz exRank2 r c = true) := by
  refine ⟨fun r hr => ⟨0, ?_⟩, fun c hc => ⟨1, ?_⟩⟩
  · have : ∀ r < 3, nz exRank2 r 0 = true := by decide +kernel
    exact this r hr
  · have : ∀ c < 3, nz exRank2 1 c = true := by decide +kernel
    exact this c hc

-- `rank_of_fully_reduced`: a 2 × 3 partial permutation pattern
example : MFullyReduced (Matrix.of ![![(0 : ℚ), 2, 0], ![0, 0, 5]]) := by
  -- the non-zero entries sit at the positions `(i, i + 1)`
  have key : ∀ (i : Fin 2) (j : Fin 3), Matrix.of ![![(0 : ℚ), 2, 0], ![0, 0, 5]] i j ≠ 0 →
      j.val = i.val + 1 := by
    intro i j; fin_cases i <;> fin_cases j <;> simp
  refine ⟨fun i j j' h1 h2 => Fin.ext ((key i j h1).trans (key i j' h2).symm),
    fun i i' j h1 h2 => Fin.ext ?_⟩
  have := key i j h1
  have := key i' j h2
  omega

-- `bond_eq_cover_list`: for the reduced matrix of `exNotReduced` (not fully reduced, a zero column) the
-- columns `[0, 2]` are a duplicate-free in-range cover of the support; `SingleLines` and `0 < R.length`
-- for that matrix: `sge_numeric_not_fully_reduced_bond_eq_rank`
example : (∀ p ∈ suppEdges [[.num (-1), .num 0, .num 0, .num 0], [.num (-1), .num 0, .num 0, .num 0],
       [.num 0, .num 0, .num (-1), .num 0]], p.1 ∈ ([] : List Nat) ∨ p.2 ∈ [0, 2]) ∧
    ([0, 2] : List Nat).Nodup ∧ ∀ v ∈ ([0, 2] : List Nat), v < 4 := by decide +kernel

-- `sge_numeric_keeps_column`, `sge_numeric_bond_eq_rank_general_input_partial`,
-- `sge_numeric_cut_bond_eq_rank_input_partial`: `exPivot` (two zero columns) has a non-zero entry; the
-- other hypotheses for it: `sge_numeric_pivot_lines_witness`
example : ∃ i j, nz exPivot i j = true := ⟨0, 2, by decide +kernel⟩

end Ptn.C12
