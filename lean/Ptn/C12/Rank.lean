import Mathlib.LinearAlgebra.Matrix.Rank
import Ptn.C01.Cut
/-! C12, numeric case (Mathlib: `Matrix.rank`): a matrix whose non-zero pattern is a partial
permutation matrix has rank = number of non-zero entries, and the rows carrying them are a cover of
exactly that size.  Further rank bounds used by `General.lean` and `Props.lean`: a duplicate-free list of
columns (rows) each holding an entry alone in its row (column) is at most `rank` long
(`length_le_rank_of_row_pivots`, `_col_pivots`, `_row_single`, `_col_single`), the count lemma
`card_filter_mem_list`, and `rank_le_cover`. -/
namespace Ptn.C12
open Ptn.C01 Finset
set_option linter.unusedSectionVars false

variable {F : Type*} [Field F] {ι κ : Type*} [Fintype ι] [Fintype κ] [DecidableEq ι] [DecidableEq κ]

/-- At most one non-zero entry per row and per column. -/
def MFullyReduced (G : Matrix ι κ F) : Prop :=
  (∀ i j j', G i j ≠ 0 → G i j' ≠ 0 → j = j') ∧ (∀ i i' j, G i j ≠ 0 → G i' j ≠ 0 → i = i')

/-- The set of non-zero positions. -/
def msupport [DecidableEq F] (G : Matrix ι κ F) : Finset (ι × κ) := univ.filter fun p => G p.1 p.2 ≠ 0

/-- The rows carrying a non-zero entry. -/
def msupportRows [DecidableEq F] (G : Matrix ι κ F) : Finset ι := (msupport G).image Prod.fst

theorem msupportRows_cover [DecidableEq F] (G : Matrix ι κ F) : IsCover G (msupportRows G) ∅ := by
  intro i j h
  left
  exact mem_image.2 ⟨(i, j), mem_filter.2 ⟨mem_univ _, h⟩, rfl⟩

theorem msupportRows_card [DecidableEq F] (G : Matrix ι κ F) (h : MFullyReduced G) :
    (msupportRows G).card = (msupport G).card := by
  apply card_image_of_injOn
  intro p hp q hq e
  rw [mem_coe] at hp hq
  simp only [msupport, mem_filter, mem_univ, true_and] at hp hq
  obtain ⟨i, j⟩ := p
  obtain ⟨i', j'⟩ := q
  simp only at e hp hq
  subst e
  rw [h.1 i j j' hp hq]

/-- A family of positions whose square submatrix is diagonal with non-zero diagonal bounds the rank
    from below. -/
theorem card_le_rank_of_diag (G : Matrix ι κ F) {σ : Type*} [Fintype σ] [DecidableEq σ]
    (r : σ → ι) (c : σ → κ) (hd : ∀ s, G (r s) (c s) ≠ 0) (ho : ∀ s t, s ≠ t → G (r s) (c t) = 0) :
    Fintype.card σ ≤ G.rank := by
  classical
  have hsub : G.submatrix r c = Matrix.diagonal (fun s => G (r s) (c s)) := by
    ext s t
    by_cases hst : s = t
    · subst hst; simp
    · rw [Matrix.diagonal_apply_ne _ hst, Matrix.submatrix_apply]
      exact ho s t hst
  have hrk : (G.submatrix r c).rank = Fintype.card σ := by
    rw [hsub, Matrix.rank_diagonal]
    apply Fintype.card_congr
    exact Equiv.subtypeUnivEquiv hd
  calc Fintype.card σ = (G.submatrix r c).rank := hrk.symm
    _ ≤ G.rank := Matrix.rank_submatrix_le G r c

/-- The non-zero positions themselves are such a family. -/
theorem card_msupport_le_rank [DecidableEq F] (G : Matrix ι κ F) (h : MFullyReduced G) :
    (msupport G).card ≤ G.rank := by
  have hne : ∀ s : ↥(msupport G), G s.1.1 s.1.2 ≠ 0 := fun s => (mem_filter.1 s.2).2
  rw [← Fintype.card_coe]
  refine card_le_rank_of_diag G (fun s => s.1.1) (fun s => s.1.2) hne fun s t hst => ?_
  by_contra hnz
  exact hst (Subtype.ext (Prod.ext (h.2 _ _ _ hnz (hne t)) (h.1 _ _ _ (hne s) hnz)))

/-- A duplicate-free list of columns each of which holds an entry that is the only non-zero entry of
    its row is at most as long as the rank: these entries sit on a diagonal submatrix. -/
theorem length_le_rank_of_row_pivots {p q : ℕ} (G : Matrix (Fin p) (Fin q) F) (l : List ℕ)
    (hnd : l.Nodup)
    (hl : ∀ j ∈ l, ∃ (i : Fin p) (c : Fin q), c.val = j ∧ G i c ≠ 0 ∧ ∀ k, G i k ≠ 0 → k = c) :
    l.length ≤ G.rank := by
  choose r c hc hd alone using fun s : Fin l.length => hl (l.get s) (l.get_mem s)
  have := card_le_rank_of_diag G r c hd fun s t hst => by_contra fun hne =>
    hst (hnd.get_inj_iff.1 (by rw [← hc s, ← hc t, alone s (c t) hne]))
  rwa [Fintype.card_fin] at this

theorem length_le_rank_of_col_pivots {p q : ℕ} (G : Matrix (Fin p) (Fin q) F) (l : List ℕ)
    (hnd : l.Nodup)
    (hl : ∀ i ∈ l, ∃ (r : Fin p) (j : Fin q), r.val = i ∧ G r j ≠ 0 ∧ ∀ k, G k j ≠ 0 → k = r) :
    l.length ≤ G.rank := by
  rw [← Matrix.rank_transpose]
  exact length_le_rank_of_row_pivots G.transpose l hnd fun i hi =>
    let ⟨r, j, h1, h2, h3⟩ := hl i hi; ⟨j, r, h1, h2, h3⟩

/-- Special case: every row has at most one non-zero entry and `l` lists non-zero columns. -/
theorem length_le_rank_of_row_single {p q : ℕ} (G : Matrix (Fin p) (Fin q) F)
    (hrow : ∀ i j j', G i j ≠ 0 → G i j' ≠ 0 → j = j')
    (l : List ℕ) (hnd : l.Nodup) (hlt : ∀ j ∈ l, j < q)
    (hl : ∀ j (hj : j ∈ l), ∃ i, G i ⟨j, hlt j hj⟩ ≠ 0) : l.length ≤ G.rank :=
  length_le_rank_of_row_pivots G l hnd fun j hj =>
    let ⟨i, hi⟩ := hl j hj; ⟨i, ⟨j, hlt j hj⟩, rfl, hi, fun k hk => hrow i k _ hk hi⟩

theorem length_le_rank_of_col_single {p q : ℕ} (G : Matrix (Fin p) (Fin q) F)
    (hcol : ∀ i i' j, G i j ≠ 0 → G i' j ≠ 0 → i = i')
    (l : List ℕ) (hnd : l.Nodup) (hlt : ∀ i ∈ l, i < p)
    (hl : ∀ i (hi : i ∈ l), ∃ j, G ⟨i, hlt i hi⟩ j ≠ 0) : l.length ≤ G.rank :=
  length_le_rank_of_col_pivots G l hnd fun i hi =>
    let ⟨j, hj⟩ := hl i hi; ⟨⟨i, hlt i hi⟩, j, rfl, hj, fun k hk => hcol k _ j hk hj⟩

theorem card_filter_mem_list {p : ℕ} (l : List ℕ) (hnd : l.Nodup) (hlt : ∀ i ∈ l, i < p) :
    (univ.filter fun i : Fin p => i.val ∈ l).card = l.length := by
  rw [← List.toFinset_card_of_nodup hnd, ← card_image_of_injective _ Fin.val_injective]
  congr 1
  ext x
  simp only [mem_image, mem_filter, mem_univ, true_and, List.mem_toFinset]
  constructor
  · rintro ⟨i, hi, rfl⟩; exact hi
  · intro hx; exact ⟨⟨x, hlt x hx⟩, hx, rfl⟩

theorem card_filter_mem_list_le {p : ℕ} (l : List ℕ) :
    (univ.filter fun i : Fin p => i.val ∈ l).card ≤ l.length :=
  (card_le_card_of_injOn Fin.val (fun _ hi => List.mem_toFinset.2 (mem_filter.1 hi).2)
    fun _ _ _ _ e => Fin.ext e).trans (List.toFinset_card_le l)

/-- A cover `(Cu, Cv)` of the support of `G` factors `G` through `|Cu| + |Cv|` indices. -/
theorem rank_le_cover {F : Type*} [Field F] {ι κ : Type*} [Fintype ι] [Fintype κ]
    [DecidableEq ι] [DecidableEq κ] (G : Matrix ι κ F) (Cu : Finset ι) (Cv : Finset κ)
    (hc : IsCover G Cu Cv) : G.rank ≤ Cu.card + Cv.card := by
  let L : Matrix ι (↥Cu ⊕ ↥Cv) F := fun i k =>
    match k with
    | .inl c => if i = c.1 then 1 else 0
    | .inr c => if i ∈ Cu then 0 else G i c.1
  let R : Matrix (↥Cu ⊕ ↥Cv) κ F := fun k j =>
    match k with
    | .inl c => G c.1 j
    | .inr c => if j = c.1 then 1 else 0
  have hG : G = L * R := by
    ext i j
    have h1 : ∑ c : ↥Cu, (if i = c.1 then (1 : F) else 0) * G c.1 j = if i ∈ Cu then G i j else 0 := by
      rw [Finset.sum_coe_sort Cu (fun c => (if i = c then (1 : F) else 0) * G c j)]
      simp only [ite_mul, one_mul, zero_mul, Finset.sum_ite_eq]
    have h2 : ∑ c : ↥Cv, (if i ∈ Cu then (0 : F) else G i c.1) * (if j = c.1 then 1 else 0) =
        if j ∈ Cv then (if i ∈ Cu then 0 else G i j) else 0 := by
      rw [Finset.sum_coe_sort Cv (fun c => (if i ∈ Cu then (0 : F) else G i c) * (if j = c then 1 else 0))]
      simp only [mul_ite, mul_one, mul_zero, Finset.sum_ite_eq]
    rw [Matrix.mul_apply, Fintype.sum_sum_type]
    simp only [L, R]
    rw [h1, h2]
    by_cases hi : i ∈ Cu
    · rw [if_pos hi, if_pos hi, ite_self, add_zero]
    · rw [if_neg hi, if_neg hi, zero_add]
      split
      · rfl
      · rename_i hj
        exact by_contra fun hne => (hc i j hne).elim hi hj
  rw [hG]
  calc (L * R).rank ≤ L.rank := Matrix.rank_mul_le_left L R
    _ ≤ Fintype.card (↥Cu ⊕ ↥Cv) := Matrix.rank_le_card_width L
    _ = Cu.card + Cv.card := by rw [Fintype.card_sum, Fintype.card_coe, Fintype.card_coe]

end Ptn.C12
