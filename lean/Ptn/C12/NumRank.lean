import Ptn.C12.NumMain
import Ptn.C12.RankOps
import Ptn.C12.RankBridge
/-! C12, numeric case: the rank (over ℚ, of the zero-padded `m × n` box) of the coefficient matrix is
the same after every primitive of the C13 model of `gaussian_elimination`. -/
namespace Ptn.C12
open Ptn.C13

/-- Every row `r < m` of `v'` is zero or a combination of two rows `< m` of `v`. -/
def RowsFrom (m : ℕ) (v v' : ℕ → ℕ → ℚ) : Prop :=
  ∀ r, r < m → (∀ c, v' r c = 0) ∨ ∃ (a b : ℚ) (k i : ℕ), k < m ∧ i < m ∧
    ∀ c, v' r c = a * v k c + b * v i c

abbrev tr (v : ℕ → ℕ → ℚ) : ℕ → ℕ → ℚ := fun c r => v r c

theorem rk_le_rowsFrom {m : ℕ} (n : ℕ) {v v' : ℕ → ℕ → ℚ} (h : RowsFrom m v v') :
    rk v' m n ≤ rk v m n :=
  rk_le_of_rows v v' m m n fun r hr => (h r hr).imp (fun hz c _ => hz c)
    (fun ⟨a, b, k, i, hk, hi, hc⟩ => ⟨a, b, k, i, hk, hi, fun c _ => hc c⟩)

/-- Row equivalence of the first `m` rows, as a chain of steps in each of which every row of either
    function is zero or a combination of two rows of the other. -/
abbrev RowEq (m : ℕ) : (ℕ → ℕ → ℚ) → (ℕ → ℕ → ℚ) → Prop :=
  Relation.ReflTransGen fun v v' => RowsFrom m v v' ∧ RowsFrom m v' v

theorem rk_eq_rowEq {m : ℕ} (n : ℕ) {v v' : ℕ → ℕ → ℚ} (h : RowEq m v v') : rk v' m n = rk v m n := by
  induction h with
  | refl => rfl
  | tail _ h ih => exact (Nat.le_antisymm (rk_le_rowsFrom n h.1) (rk_le_rowsFrom n h.2)).trans ih

/-- Column equivalence is row equivalence of the transposed functions. -/
theorem rk_eq_colEq (m : ℕ) {n : ℕ} {v v' : ℕ → ℕ → ℚ} (h : RowEq n (tr v) (tr v')) :
    rk v' m n = rk v m n := by
  have := rk_eq_rowEq m h
  rw [show rk (tr v') n m = rk v' m n from rk_transpose v' m n,
    show rk (tr v) n m = rk v m n from rk_transpose v m n] at this
  exact this

theorem nzCol_rowEq {m : ℕ} {v v' : ℕ → ℕ → ℚ} (h : RowEq m v v') (c : ℕ) :
    (∃ r, r < m ∧ v r c ≠ 0) → ∃ r, r < m ∧ v' r c ≠ 0 := by
  induction h with
  | refl => exact id
  | tail _ h ih =>
    intro hv
    obtain ⟨r, hr, hne⟩ := ih hv
    rcases h.2 r hr with hz | ⟨a, b, k, i, hk, hi, hc⟩
    · exact absurd (hz c) hne
    · by_contra hall
      push Not at hall
      exact hne (by rw [hc c, hall k hk, hall i hi]; ring)

theorem rowFrom_mul {m k : ℕ} {v : ℕ → ℕ → ℚ} {w : ℕ → ℚ} (μ : ℚ) (hk : k < m)
    (h : ∀ c, w c = μ * v k c) :
    (∀ c, w c = 0) ∨ ∃ (a b : ℚ) (k i : ℕ), k < m ∧ i < m ∧ ∀ c, w c = a * v k c + b * v i c :=
  Or.inr ⟨μ, 0, k, k, hk, hk, fun c => by rw [h]; ring⟩

theorem rowsFrom_swap (m a b : ℕ) (ha : a < m) (hb : b < m) (v v' : ℕ → ℕ → ℚ)
    (h : ∀ r c, v' r c = v (swapIdx a b r) c) : RowsFrom m v v' ∧ RowsFrom m v' v :=
  ⟨fun r hr => rowFrom_mul 1 ((swapIdx_lt ha hb).2 hr) fun c => by rw [h, one_mul],
    fun r hr => rowFrom_mul 1 ((swapIdx_lt ha hb).2 hr) fun c => by rw [h, swapIdx_invol, one_mul]⟩

theorem rowsFrom_elimV (m i : ℕ) (hi : i < m) (v : ℕ → ℕ → ℚ) :
    RowsFrom m v (elimV i v) ∧ RowsFrom m (elimV i v) v := by
  constructor
  · intro r hr
    by_cases hc : r ≠ i
    · exact Or.inr ⟨1, -(v r i / v i i), r, i, hr, hi, fun c => by unfold elimV; rw [if_pos hc]; ring⟩
    · exact rowFrom_mul 1 hr fun c => by unfold elimV; rw [if_neg hc, one_mul]
  · intro r hr
    by_cases hc : r ≠ i
    · exact Or.inr ⟨1, v r i / v i i, r, i, hr, hi, fun c => by
        rw [elimV_pivot]; unfold elimV; rw [if_pos hc]; ring⟩
    · exact rowFrom_mul 1 hr fun c => by unfold elimV; rw [if_neg hc, one_mul]

theorem skips_ge : ∀ (zs : List ℕ) (r : ℕ), r ≤ skips zs r
  | [], r => Nat.le_refl r
  | z :: zs, r => Nat.le_trans (skips_ge zs r) (skipIdx_ge z _)

theorem skips_le : ∀ (zs : List ℕ) (r : ℕ), skips zs r ≤ r + zs.length
  | [], r => Nat.le_refl r
  | z :: zs, r => by
    have := skips_le zs r
    have := skipIdx_le z (skips zs r)
    simp only [skips, List.length_cons]; omega

theorem skips_not_mem : ∀ (zs : List ℕ), List.Pairwise (fun a b => b < a) zs → ∀ r, skips zs r ∉ zs
  | [], _, _ => by simp
  | z :: zs, hd, r => by
    have hp := List.pairwise_cons.mp hd
    intro hm
    rcases List.mem_cons.mp hm with hm | hm
    · exact skipIdx_ne z _ hm
    · -- an element of `zs` is below `z`, so the last deletion did not shift it
      have hs : skips zs r < z := Nat.lt_of_le_of_lt (skipIdx_ge z (skips zs r)) (hp.1 _ hm)
      rw [skips, skipIdx_of_lt hs] at hm
      exact skips_not_mem zs hp.2 r hm

theorem skips_surj (zs : List ℕ) (hd : List.Pairwise (fun a b => b < a) zs) (k : ℕ) (hk : k ∉ zs) :
    ∃ r, skips zs r = k ∧ r ≤ k := by
  induction zs generalizing k with
  | nil => exact ⟨k, rfl, Nat.le_refl k⟩
  | cons z zs ih =>
    have hp := List.pairwise_cons.mp hd
    have hkz := List.ne_of_not_mem_cons hk
    by_cases hlt : k < z
    · obtain ⟨r, hr, hle⟩ := ih hp.2 k (List.not_mem_of_not_mem_cons hk)
      exact ⟨r, by rw [skips, hr, skipIdx_of_lt hlt], hle⟩
    · have hzk : z < k := Nat.lt_of_le_of_ne (Nat.not_lt.1 hlt) (Ne.symm hkz)
      have hz1 : z ≤ k - 1 := Nat.le_sub_one_of_lt hzk
      obtain ⟨r, hr, hle⟩ := ih hp.2 (k - 1) fun e => Nat.not_lt.2 hz1 (hp.1 _ e)
      exact ⟨r, by rw [skips, hr, skipIdx_of_le hz1, Nat.sub_add_cancel (Nat.zero_lt_of_lt hzk)],
        Nat.le_trans hle (Nat.sub_le k 1)⟩

/-- The rows `zs` (each zero, or a multiple of a row that stays) are deleted. -/
theorem rowsFrom_skips (m : ℕ) (zs : List ℕ) (hd : List.Pairwise (fun a b => b < a) zs)
    (v v' : ℕ → ℕ → ℚ) (h : ∀ r c, v' r c = v (skips zs r) c)
    (hoob : ∀ r c, m ≤ r → v r c = 0)
    (hz : ∀ z, z ∈ zs → (∀ c, v z c = 0) ∨ ∃ (μ : ℚ) (i : ℕ), i ∉ zs ∧ i < m ∧ ∀ c, v z c = μ * v i c) :
    RowsFrom m v v' ∧ RowsFrom m v' v := by
  constructor
  · intro r hr
    by_cases hs : skips zs r < m
    · exact rowFrom_mul 1 hs fun c => by rw [h, one_mul]
    · exact Or.inl fun c => by rw [h]; exact hoob _ _ (by omega)
  · intro k hk
    by_cases hm : k ∈ zs
    · rcases hz k hm with h0 | ⟨μ, i, hi, him, hp⟩
      · exact Or.inl h0
      · obtain ⟨r, hr, hle⟩ := skips_surj zs hd i hi
        exact rowFrom_mul μ (Nat.lt_of_le_of_lt hle him) fun c => by rw [hp, h, hr]
    · obtain ⟨r, hr, hle⟩ := skips_surj zs hd k hm
      exact rowFrom_mul 1 (Nat.lt_of_le_of_lt hle hk) fun c => by rw [h, hr, one_mul]

/-- Every flagged position `z < len` has a partner `i < z`, `i < bound`, that is not flagged. -/
def ParList (len : ℕ) (par : ℕ → ℕ → Prop) (bound : ℕ) (zs : List ℕ) : Prop :=
  ∀ z, z ∈ zs → z < len ∧ ∃ i, i ∉ zs ∧ i < bound ∧ i < z ∧ par i z

theorem parList_mono {len : ℕ} {par : ℕ → ℕ → Prop} {b b' : ℕ} {zs : List ℕ} (hb : b ≤ b')
    (h : ParList len par b zs) : ParList len par b' zs :=
  fun z hz => ⟨(h z hz).1, let ⟨i, h1, h2, h3, h4⟩ := (h z hz).2; ⟨i, h1, by omega, h3, h4⟩⟩

theorem parList_snoc {len : ℕ} {par : ℕ → ℕ → Prop} {i j : ℕ} {zs : List ℕ}
    (h : ParList len par (i + 1) zs) (hi : i ∉ zs) (hij : i < j) (hj : j < len) (hp : par i j) :
    ParList len par (i + 1) (zs ++ [j]) ∧ i ∉ zs ++ [j] := by
  have hni : i ∉ zs ++ [j] := by
    intro hm
    rcases List.mem_append.mp hm with hm | hm
    · exact hi hm
    · simp only [List.mem_singleton] at hm; omega
  refine ⟨fun z hz => ?_, hni⟩
  rcases List.mem_append.mp hz with hz | hz
  · obtain ⟨h0, i', h1, h2, h3, h4⟩ := h z hz
    refine ⟨h0, i', ?_, h2, h3, h4⟩
    intro hm
    rcases List.mem_append.mp hm with hm | hm
    · exact h1 hm
    · simp only [List.mem_singleton] at hm; omega
  · simp only [List.mem_singleton] at hz
    subst hz
    exact ⟨hj, i, hni, by omega, hij, hp⟩

def Par (sd : Side) (A : EMat) (i z : ℕ) : Prop := ∃ μ : ℚ, ∀ y, sd.v A z y = μ * sd.v A i y

namespace NumLaws
variable {sd : Side} {n : ℕ} {keeps : St → List ℕ → Prop}

theorem pivot_rowEq (law : sd.RelLaws n keeps) (num : NumLaws sd n) (m i : ℕ) (s : St)
    (hws : WS n s) (hnum : NumM s.A) (hi : i < sd.dim s) (hm : sd.dim s ≤ m) :
    RowEq m (sd.v s.A) (sd.v (sd.pivot i s).A) := by
  rcases num.pivot_cases law i s hws hnum with ⟨he, _⟩ | ⟨j, hij, hj, _, _, he⟩
  · rw [he]
  · rw [he]
    exact .single (rowsFrom_swap m i j (by omega) (by omega) _ _ (num.swap_val hws hi hj))

/-- One pass of the body of the outer loop of an elimination is an equivalence of the lines: a swap, the
    subtraction of multiples of the pivot line, the deletion of zero lines. -/
theorem rowEq_elimStep (law : sd.RelLaws n keeps) (el : sd.EntryLaws) (num : NumLaws sd n) (m i : ℕ) (s : St)
    (hws : WS n s) (hnum : NumM s.A) (hi : i < sd.dim s) (hm : sd.dim s ≤ m) :
    RowEq m (sd.v s.A) (sd.v (sd.elimStep i s).A) := by
  have hpiv := pivot_rowEq law num m i s hws hnum hi hm
  by_cases hp : sd.v (sd.pivot i s).A i i = 0
  · rw [elimStep_zero law el num i s hws hnum hi hp]; exact hpiv
  · obtain ⟨zs, hd, _, hv, hz, _⟩ := elimStep_spec law el num i s hws hnum hi hp
    have ws1 : WS n (sd.pivot i s) := (Side.rel_pivot law i s hi hws).1
    exact (hpiv.tail (rowsFrom_elimV m i (by omega) _)).tail
      (rowsFrom_skips m zs hd _ _ hv
        (fun k y hk => elimV_zero (fun y => num.oob ws1 (by rw [Side.pivot_dim law]; omega) y) y)
        (fun z hz' => Or.inl (hz z hz').2.2))

/-- The double loop of a de-parallelisation: every recorded line ends up with a partner before it that is
    not recorded and of which it is a multiple. -/
theorem depar_loop_par (law : sd.RelLaws n keeps) (num : NumLaws sd n) (s : St) (hws : WS n s)
    (hnes : NESM s.A) :
    ParList (sd.dim s) (Par sd s.A) (sd.dim s)
      ((List.range (sd.lines s.A)).foldl (sd.deparOuter s.A) (s, [])).2 := by
  rw [law.lines_eq hws]
  refine foldl_range_inv _ (fun i (acc : St × List ℕ) => ParList (sd.dim s) (Par sd s.A) i acc.2) _ (s, [])
    (fun z hz => nomatch hz) (fun i acc hi h => ?_)
  unfold Side.deparOuter
  split
  · exact parList_mono (by omega) h
  · rename_i hiz
    refine (foldl_mem_inv (sd.deparInner s.A i)
      (fun acc => ParList (sd.dim s) (Par sd s.A) (i + 1) acc.2 ∧ i ∉ acc.2) _ acc
      ⟨parList_mono (by omega) h, hiz⟩ (fun j acc hj hp => ?_)).1
    simp only [List.mem_range'_1, law.lines_eq hws] at hj
    unfold Side.deparInner
    split
    · exact hp
    · dsimp only
      split
      · rename_i hmult
        exact parList_snoc hp.1 hp.2 (by omega) (by omega) (num.par_val hws hnes (by omega) (by omega) hmult)
      · exact hp

/-- A de-parallelisation of a numeric matrix deletes a decreasing list of lines, each of which is a multiple
    of a line that stays. -/
theorem deparallelize_val (law : sd.RelLaws n keeps) (num : NumLaws sd n) (s : St) (hws : WS n s)
    (hnum : NumM s.A) :
    ∃ zs : List ℕ, List.Pairwise (fun a b => b < a) zs ∧
      sd.dim (sd.deparallelize s) + zs.length = sd.dim s ∧
      (∀ k y, sd.v (sd.deparallelize s).A k y = sd.v s.A (skips zs k) y) ∧
      ∀ z, z ∈ zs → ∃ (μ : ℚ) (i : ℕ), i ∉ zs ∧ i < sd.dim s ∧ ∀ y, sd.v s.A z y = μ * sd.v s.A i y := by
  have hnes := numM_nesm hnum
  have inv := Side.depar_loop_inv law s hws hnes
  have par := depar_loop_par law num s hws hnes
  unfold Side.deparallelize
  simp only
  generalize (List.range (sd.lines s.A)).foldl (sd.deparOuter s.A) (s, []) = r at inv par
  obtain ⟨d1, d2, d3⟩ := inv.del law
  have c1 := (law.del inv.ws d1 d2 d3).2.2.2.1
  rw [inv.dim] at c1
  refine ⟨sortDesc r.2, d1, c1, fun k y => by rw [num.del_val, inv.hA], fun z hz => ?_⟩
  obtain ⟨hzl, i, hi, _, hiz, μ, hμ⟩ := par z (mem_sortDesc.mp hz)
  exact ⟨μ, i, fun h => hi (mem_sortDesc.mp h), Nat.lt_trans hiz hzl, hμ⟩

theorem rowEq_deparallelize (law : sd.RelLaws n keeps) (num : NumLaws sd n) (m : ℕ) (s : St) (hws : WS n s)
    (hnum : NumM s.A) (hm : sd.dim s ≤ m) : RowEq m (sd.v s.A) (sd.v (sd.deparallelize s).A) := by
  obtain ⟨zs, hd, _, hv, hp⟩ := deparallelize_val law num s hws hnum
  exact .single (rowsFrom_skips m zs hd _ _ hv (fun k y hk => num.oob hws (Nat.le_trans hm hk) y)
    (fun z hz => let ⟨μ, i, h1, h2, h3⟩ := hp z hz; Or.inr ⟨μ, i, h1, Nat.lt_of_lt_of_le h2 hm, h3⟩))

end NumLaws

/-- Invariant of the whole run: shape, numeric entries, and the rank of the input `g`. -/
structure RkInv (m n : ℕ) (g : ℕ → ℕ → ℚ) (s : St) : Prop where
  ws : WS n s
  num : NumM s.A
  rows_le : s.A.length ≤ m
  cols_le : s.R.length ≤ n
  rank : rk (val s.A) m n = rk g m n

theorem rkInv_raise {m n : ℕ} {g : ℕ → ℕ → ℚ} {s : St} (h : RkInv m n g s) (f : Flag) :
    RkInv m n g (s.raise f) :=
  ⟨ws_raise f h.ws, by rw [raise_A]; exact h.num, by rw [raise_A]; exact h.rows_le,
    by rw [raise_R]; exact h.cols_le, by rw [raise_A]; exact h.rank⟩

theorem val_eq_rowv' (A : EMat) : val A = rowSide.v A := rfl
theorem tr_val_eq_colv (A : EMat) : tr (val A) = colSide.v A := rfl

theorem rk_rowElimStep (m n i : ℕ) (s : St) (hws : WS n s) (hnum : NumM s.A) (hi : i < s.A.length)
    (hm : s.A.length ≤ m) : rk (val (rowElimStep i s).A) m n = rk (val s.A) m n := by
  rw [rowElimStep_eq]
  simp only [val_eq_rowv']
  exact rk_eq_rowEq n ((rowNum n).rowEq_elimStep (rowRelLaws n) rowEntryLaws m i s hws hnum hi hm)

theorem rk_colElimStep (m n j : ℕ) (s : St) (hws : WS n s) (hnum : NumM s.A) (hj : j < s.R.length)
    (hn : s.R.length ≤ n) : rk (val (colElimStep j s).A) m n = rk (val s.A) m n := by
  have h := (colNum n).rowEq_elimStep (colRelLaws n) colEntryLaws n j s hws hnum hj hn
  rw [← colElimStep_eq, ← tr_val_eq_colv, ← tr_val_eq_colv] at h
  exact rk_eq_colEq m h

theorem rk_deparallelizeRows (m n : ℕ) (s : St) (hws : WS n s) (hnum : NumM s.A)
    (hm : s.A.length ≤ m) : rk (val (deparallelizeRows s).A) m n = rk (val s.A) m n := by
  simp only [val_eq_rowv']
  exact rk_eq_rowEq n ((rowNum n).rowEq_deparallelize (rowRelLaws n) m s hws hnum hm)

theorem rk_deparallelizeCols (m n : ℕ) (s : St) (hws : WS n s) (hnum : NumM s.A)
    (hn : s.R.length ≤ n) : rk (val (deparallelizeCols s).A) m n = rk (val s.A) m n := by
  have h := (colNum n).rowEq_deparallelize (colRelLaws n) n s hws hnum hn
  rw [← tr_val_eq_colv, ← tr_val_eq_colv] at h
  exact rk_eq_colEq m h

theorem RkInv.step {m n : ℕ} {g : ℕ → ℕ → ℚ} {s s' : St} (h : RkInv m n g s)
    (hws : WS n s' ∧ s'.A.length ≤ s.A.length ∧ s'.R.length ≤ s.R.length) (hnum : NumM s'.A)
    (hrk : rk (val s'.A) m n = rk (val s.A) m n) : RkInv m n g s' :=
  ⟨hws.1, hnum, Nat.le_trans hws.2.1 h.rows_le, Nat.le_trans hws.2.2 h.cols_le, hrk.trans h.rank⟩

theorem rkInv_rowElimStep {m n : ℕ} {g : ℕ → ℕ → ℚ} {s : St} (i : ℕ) (hi : i < s.A.length)
    (h : RkInv m n g s) : RkInv m n g (rowElimStep i s) := by
  have w := Side.ws_elimStep (rowRelLaws n) h.ws hi
  rw [← rowElimStep_eq] at w
  exact h.step w (numM_rowElimStep h.num) (rk_rowElimStep m n i s h.ws h.num hi h.rows_le)

theorem rkInv_colElimStep {m n : ℕ} {g : ℕ → ℕ → ℚ} {s : St} (j : ℕ) (hj : j < s.R.length)
    (h : RkInv m n g s) : RkInv m n g (colElimStep j s) := by
  have w := Side.ws_elimStep (colRelLaws n) h.ws hj
  rw [← colElimStep_eq] at w
  exact h.step w (numM_colElimStep h.num) (rk_colElimStep m n j s h.ws h.num hj h.cols_le)

theorem rkInv_deparallelizeRows {m n : ℕ} {g : ℕ → ℕ → ℚ} {s : St} (h : RkInv m n g s) :
    RkInv m n g (deparallelizeRows s) :=
  h.step (Side.ws_of_rel (rowRelLaws n) (Side.rel_deparallelize (rowRelLaws n) s (numM_nesm h.num)) h.ws)
    (Side.allE_deparallelize rowEntryLaws s h.num) (rk_deparallelizeRows m n s h.ws h.num h.rows_le)

theorem rkInv_deparallelizeCols {m n : ℕ} {g : ℕ → ℕ → ℚ} {s : St} (h : RkInv m n g s) :
    RkInv m n g (deparallelizeCols s) :=
  h.step (Side.ws_of_rel (colRelLaws n) (Side.rel_deparallelize (colRelLaws n) s (numM_nesm h.num)) h.ws)
    (Side.allE_deparallelize colEntryLaws s h.num) (rk_deparallelizeCols m n s h.ws h.num h.cols_le)

/-- **The rank is an invariant of the whole algorithm**: the state at the `return` of
    `gaussian_elimination` on a numeric `m × n` matrix carries a matrix of the same rank. -/
theorem rkInv_gaussSt (M : EMat) (n : ℕ) (hpos : 0 < M.length) (hrect : Rect M n) (hnum : NumM M) :
    RkInv M.length n (val M) (gaussSt M) :=
  gaussSt_invariant (I := RkInv M.length n (val M)) (fun _ h => h.ws) (fun _ f h => rkInv_raise h f)
    (fun i _ h hi => rkInv_rowElimStep i hi h) (fun j _ h hj => rkInv_colElimStep j hj h)
    (fun _ h => rkInv_deparallelizeRows h) (fun _ h => rkInv_deparallelizeCols h) M hpos hrect
    ⟨(good_init M n hpos hrect).ws, hnum, Nat.le_refl _, (good_init M n hpos hrect).cols_le, rfl⟩

theorem rank_numMat_eq_rk (A : EMat) (p q : ℕ) : (numMat A p q).rank = rk (val A) p q := rfl

theorem rank_numMat_eq (M : EMat) (n : ℕ) (hpos : 0 < M.length) (hrect : Rect M n) (hnum : NumM M)
    (L : RMat) (A : EMat) (R : RMat) (h : gaussianElimination M = .ok L A R) :
    (numMat A A.length R.length).rank = (numMat M M.length n).rank := by
  have inv := rkInv_gaussSt M n hpos hrect hnum
  obtain ⟨_, _, rfl, rfl⟩ := gaussianElimination_ok h
  rw [rank_numMat_eq_rk, rank_numMat_eq_rk, ← inv.rank]
  exact rk_box _ _ _ _ _ inv.rows_le inv.cols_le (fun r c hr => val_oob_row hr c)
    (fun r c hc => val_oob_col inv.ws.Arect hc r)

/-! The reduced matrix of a numeric `Γ` that is not the zero matrix keeps a column (`0 < R.length`), from the rank
invariant `rank_numMat_eq`: the hypothesis `0 < R.length` on the OUTPUT of the `*_general_partial` theorems becomes the
hypothesis "`Γ` has a non-zero entry" on the INPUT. -/

theorem c12_rank_pos_of_entry_ne {F : Type*} [Field F] {p q : ℕ} (G : Matrix (Fin p) (Fin q) F)
    (i : Fin p) (j : Fin q) (h : G i j ≠ 0) : 0 < G.rank := by
  have := card_le_rank_of_diag G (fun _ : Unit => i) (fun _ => j) (fun _ => h)
    fun s t hst => absurd (Subsingleton.elim s t) hst
  rwa [Fintype.card_unit] at this

theorem c12_width_pos_of_rank_pos {F : Type*} [Field F] {p q : ℕ} (G : Matrix (Fin p) (Fin q) F)
    (h : 0 < G.rank) : 0 < q := by
  have := Matrix.rank_le_width G
  omega

/-- **The reduced matrix keeps a column.**  Numeric rectangular `Γ` with a non-zero entry: the triple
    returned by the model has `0 < len(Op_r)` (= number of columns of `M'`), and `0 < rank Γ`. -/
theorem cols_pos_of_entry (M : EMat) (n : ℕ) (hpos : 0 < M.length) (hrect : Rect M n) (hnum : NumM M)
    (L : RMat) (A : EMat) (R : RMat) (h : gaussianElimination M = .ok L A R)
    (hne : ∃ i j, nz M i j = true) : 0 < R.length ∧ 0 < (numMat M M.length n).rank := by
  obtain ⟨i, j, hij⟩ := hne
  obtain ⟨hi, hj⟩ := nz_in_range hrect hij
  have hr : 0 < (numMat M M.length n).rank :=
    c12_rank_pos_of_entry_ne _ ⟨i, hi⟩ ⟨j, hj⟩ ((nz_iff_numMat hnum M.length n ⟨i, hi⟩ ⟨j, hj⟩).1 hij)
  rw [← rank_numMat_eq M n hpos hrect hnum L A R h] at hr
  refine ⟨c12_width_pos_of_rank_pos _ hr, ?_⟩
  rw [← rank_numMat_eq M n hpos hrect hnum L A R h]
  exact hr

end Ptn.C12
