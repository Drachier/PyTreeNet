import Ptn.C12.Rank
import Ptn.C12.Reduced
import Ptn.C13.Props
/-! C12, numeric case: bridge between the list-level model of `gaussian_elimination` (property C13) and
Mathlib matrices over ℚ. -/
namespace Ptn.C12
open Ptn.C13 Finset

/-- The `p × q` rational matrix of an operator matrix. -/
def ratMat (X : RMat) (p q : Nat) : Matrix (Fin p) (Fin q) ℚ := fun i j => gR X i j

/-- The `p × q` rational matrix of a (numeric) coefficient matrix. -/
def numMat (A : EMat) (p q : Nat) : Matrix (Fin p) (Fin q) ℚ := fun i j => gE (fun _ => 0) A i j

theorem sumN_eq_sum (n : Nat) (f : Nat → Rat) : sumN n f = ∑ i : Fin n, f i := by
  induction n with
  | zero => simp [sumN]
  | succ n ih => rw [Fin.sum_univ_castSucc, sumN, ih]; simp

/-- For a numeric matrix the Python test `!= 0` is "the rational entry is not zero". -/
theorem nz_iff_numMat {A : EMat} (h : NumM A) (p q : Nat) (i : Fin p) (j : Fin q) :
    nz A i j = true ↔ numMat A p q i j ≠ 0 := by
  obtain ⟨x, hx⟩ := numM_gM h i j
  simp [nz, numMat, gE, hx, Entry.isZero, Entry.eval]

theorem mfullyReduced_numMat {A : EMat} (h : NumM A) (hr : FullyReduced A) (p q : Nat) :
    MFullyReduced (numMat A p q) := by
  refine ⟨?_, ?_⟩
  · intro i j j' h1 h2
    exact Fin.ext (hr.1 i j j' ((nz_iff_numMat h p q i j).2 h1) ((nz_iff_numMat h p q i j').2 h2))
  · intro i i' j h1 h2
    exact Fin.ext (hr.2 i i' j ((nz_iff_numMat h p q i j).2 h1) ((nz_iff_numMat h p q i' j).2 h2))

/-- What the statements about a numeric cut use of the returned triple `(L, M', R)`: `M'` has a row, is
    rectangular with `len(Op_r)` columns, and is numeric again. -/
theorem sge_numeric_output (M : EMat) (n : Nat) (hpos : 0 < M.length) (hrect : Rect M n) (hnum : NumM M)
    (L : RMat) (A : EMat) (R : RMat) (h : gaussianElimination M = .ok L A R) :
    0 < A.length ∧ Rect A R.length ∧ width A = R.length ∧ NumM A := by
  obtain ⟨⟨_, _, hA, _⟩, ⟨hApos, _, _⟩, _⟩ := sge_exact M n hpos hrect (numM_nesm hnum) L A R h
  exact ⟨hApos, hA, width_of_rect hA hApos, sge_no_new_symbols M (fun _ => False) hnum L A R h⟩

/-- The factorisation `Γ = L · M' · R` returned by the model, as an equation of Mathlib matrices. -/
theorem numMat_factor (M : EMat) (n : Nat) (hpos : 0 < M.length) (hrect : Rect M n) (hnum : NumM M)
    (L : RMat) (A : EMat) (R : RMat) (h : gaussianElimination M = .ok L A R) :
    numMat M M.length n = ratMat L M.length A.length * numMat A A.length R.length * ratMat R R.length n := by
  obtain ⟨_, _, hex⟩ := sge_exact M n hpos hrect (numM_nesm hnum) L A R h
  ext i j
  rw [Matrix.mul_apply]
  simp only [Matrix.mul_apply, numMat, ratMat]
  rw [← hex (fun _ => 0) i j i.2 j.2, sumN_eq_sum]
  simp only [sumN_eq_sum, Finset.sum_mul]
  exact Finset.sum_comm

theorem rank_numMat_le (M : EMat) (n : Nat) (hpos : 0 < M.length) (hrect : Rect M n) (hnum : NumM M)
    (L : RMat) (A : EMat) (R : RMat) (h : gaussianElimination M = .ok L A R) :
    (numMat M M.length n).rank ≤ (numMat A A.length R.length).rank := by
  rw [numMat_factor M n hpos hrect hnum L A R h]
  exact (Matrix.rank_mul_le_left _ _).trans (Matrix.rank_mul_le_right _ _)

theorem isCover_of_list_cover (A : EMat) (hnum : NumM A) (q : Nat) (hw : width A = q) (cu cv : List ℕ)
    (hc : ∀ e ∈ suppEdges A, e.1 ∈ cu ∨ e.2 ∈ cv) :
    Ptn.C01.IsCover (numMat A A.length q) (univ.filter fun i => i.val ∈ cu)
      (univ.filter fun j => j.val ∈ cv) := by
  intro i j hne
  have h1 := (nz_iff_numMat hnum _ _ i j).2 hne
  exact (hc (i.val, j.val) ((mem_suppEdges A _).2 ⟨i.2, hw ▸ j.2, h1⟩)).imp
    (fun h => mem_filter.2 ⟨mem_univ _, h⟩) (fun h => mem_filter.2 ⟨mem_univ _, h⟩)

theorem rank_le_list_cover (A : EMat) (hnum : NumM A) (cu cv : List ℕ)
    (hc : ∀ e ∈ suppEdges A, e.1 ∈ cu ∨ e.2 ∈ cv) :
    (numMat A A.length (width A)).rank ≤ cu.length + cv.length :=
  (rank_le_cover _ _ _ (isCover_of_list_cover A hnum _ rfl cu cv hc)).trans
    (Nat.add_le_add (card_filter_mem_list_le cu) (card_filter_mem_list_le cv))

/-- Number of non-zero entries of a fully reduced numeric matrix = its rank: the rows carrying them
    are a cover, and the entries sit on a diagonal submatrix. -/
theorem length_suppEdges_eq_rank (A : EMat) (hnum : NumM A) (hr : FullyReduced A) :
    (suppEdges A).length = (numMat A A.length (width A)).rank := by
  apply Nat.le_antisymm
  · rw [← List.length_map (f := Prod.snd)]
    refine length_le_rank_of_row_pivots _ _ (suppEdges_snd_nodup A hr) fun j hj => ?_
    obtain ⟨e, he, rfl⟩ := List.mem_map.1 hj
    obtain ⟨h1, h2, h3⟩ := (mem_suppEdges A e).1 he
    exact ⟨⟨e.1, h1⟩, ⟨e.2, h2⟩, rfl, (nz_iff_numMat hnum _ _ ⟨e.1, h1⟩ ⟨e.2, h2⟩).1 h3,
      fun k hne => Fin.ext (hr.1 e.1 k e.2 ((nz_iff_numMat hnum _ _ ⟨e.1, h1⟩ k).2 hne) h3)⟩
  · have := rank_le_list_cover A hnum ((suppEdges A).map Prod.fst) []
      fun e he => Or.inl (List.mem_map_of_mem he)
    rwa [List.length_map, List.length_nil, Nat.add_zero] at this

end Ptn.C12
