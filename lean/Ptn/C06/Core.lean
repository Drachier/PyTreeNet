import Ptn.C06.Model
import Ptn.C05.Lemmas
import Ptn.C05.Core
/-! Property theorems for C06 on the schedules of C05 (`first`, `second`): they are defined, where the centre ends,
and what holds of any composition of local flows along them (`runFlow`): reversibility of a palindrome of invertible
flows, conservation and monotonicity of a quantity every flow conserves / does not increase, merging of adjacent
updates of one position. -/
namespace Ptn.C06
open Ptn.C05

/-- The first-order schedule is defined for every sweep (also a single node): `2 m - 1` events for the
    `m = segs.length + 1` nodes. -/
theorem first_length (segs : List Seg) (last : Nat) :
    (first segs last).length = 2 * segs.length + 1 := by
  simp only [first, List.length_append, List.length_flatMap, List.length_cons, List.length_nil]
  have : (segs.map fun _ => 2).sum = 2 * segs.length := by
    induction segs with
    | nil => rfl
    | cons a l ih => simp [ih]; omega
  simp [this]

/-- The second-order schedule is defined exactly for sweeps over at least two nodes, whatever the
    shape of the tree (in particular when the root has a single child). -/
theorem second_defined_iff (segs : List Seg) (last : Nat) :
    (second segs last).isSome ↔ segs ≠ [] := by
  rw [← List.reverse_ne_nil_iff]
  unfold second
  cases segs.reverse <;> simp

theorem centreAfter_append (c : Nat) (a b : List Ev) :
    centreAfter c (a ++ b) = centreAfter (centreAfter c a) b := by
  induction a generalizing c with
  | nil => rfl
  | cons e rest ih => cases e <;> exact ih _

/-- a sweep made of blocks `f s`, each of which leaves the centre at `g s` wherever it starts, leaves the centre at
    `g` of the last block -/
theorem centreAfter_flatMap (f : Seg → List Ev) (g : Seg → Nat) (hf : ∀ c s, centreAfter c (f s) = g s)
    (c : Nat) (l : List Seg) :
    centreAfter c (l.flatMap f) = match l.getLast? with | some s => g s | none => c := by
  induction l generalizing c with
  | nil => rfl
  | cons s rest ih =>
    rw [List.flatMap_cons, centreAfter_append, ih, hf]
    cases rest with
    | nil => rfl
    | cons t r => rw [List.getLast?_cons_cons, List.getLast?_eq_some_getLast (List.cons_ne_nil t r)]

/-- Second-order one-site: after forward and backward sweep the centre sits on the first node of
    the update path. -/
theorem second_final_centre (init : List Seg) (s : Seg) (last c : Nat) :
    ∃ tr, second (init ++ [s]) last = some tr ∧
      centreAfter c tr = (match (init ++ [s]).head? with | some t => t.1 | none => c) := by
  refine ⟨_, second_defined init s last, ?_⟩
  rw [centreAfter_append, centreAfter_flatMap _ (fun t => t.1) (fun _ _ => rfl)]
  cases init with
  | nil => rfl
  | cons t r => rw [List.reverse_cons, List.getLast?_append]; rfl

/-- First-order one-site: the sweep ends on `last`; the centre is then moved back to the first
    node by `_reset_for_next_time_step` (not an event of the schedule). -/
theorem first_sweep_end (segs : List Seg) (last c : Nat) :
    centreAfter c (first segs last) = (match segs.getLast? with | some s => s.2 | none => c) := by
  unfold first
  rw [centreAfter_append, centreAfter_flatMap _ (fun s => s.2) (fun _ _ => rfl)]
  rfl

theorem runFlow_append {α : Type} (φ : Pos → Int → α → α) (s t : Sched) (x : α) :
    runFlow φ (s ++ t) x = runFlow φ t (runFlow φ s x) :=
  List.foldl_append

/-- Undoing a composition: run the negated schedule in reverse order. -/
theorem runFlow_neg_reverse {α : Type} (φ : Pos → Int → α → α)
    (hinv : ∀ p t x, φ p (-t) (φ p t x) = x) (s : Sched) (x : α) :
    runFlow φ (negSched s.reverse) (runFlow φ s x) = x := by
  induction s generalizing x with
  | nil => rfl
  | cons pt rest ih =>
    have h2 : negSched (pt :: rest).reverse = negSched rest.reverse ++ [(pt.1, -pt.2)] := by
      simp [negSched]
    show runFlow φ _ (runFlow φ rest (φ pt.1 pt.2 x)) = x
    rw [h2, runFlow_append, ih]
    exact hinv ..

/-- **Reversibility**: if every local flow is undone by the same flow with the negated duration and
    the schedule is a palindrome, a step with `-H` undoes a step with `H`. -/
theorem palindromic_reversible {α : Type} (φ : Pos → Int → α → α)
    (hinv : ∀ p t x, φ p (-t) (φ p t x) = x) (s : Sched) (hpal : s.reverse = s) (x : α) :
    runFlow φ (negSched s) (runFlow φ s x) = x := by
  have := runFlow_neg_reverse φ hinv s x
  rwa [hpal] at this

/-- **Conservation along a whole step**: a quantity (norm, energy) that every local flow leaves
    unchanged is unchanged by any schedule.  The per-update facts are
    `local_update_conserves_norm/energy` (Props.lean). -/
theorem runFlow_conserves {α β : Type} (φ : Pos → Int → α → α) (F : α → β)
    (hF : ∀ p t x, F (φ p t x) = F x) (s : Sched) (x : α) : F (runFlow φ s x) = F x := by
  induction s generalizing x with
  | nil => rfl
  | cons pt rest ih => exact (ih _).trans (hF ..)

/-- A quantity that no local flow increases (fixed-rank projections, truncations) is not increased
    by any schedule. -/
theorem runFlow_monotone {α : Type} (φ : Pos → Int → α → α) (F : α → Int)
    (hF : ∀ p t x, F (φ p t x) ≤ F x) (s : Sched) (x : α) : F (runFlow φ s x) ≤ F x := by
  induction s generalizing x with
  | nil => exact Int.le_refl _
  | cons pt rest ih => exact Int.le_trans (ih _) (hF ..)

/-- Two adjacent updates of the same position compose additively when the flow is a one-parameter
    group: the full step on the last node is two half steps, which is what makes the second-order
    schedule a palindrome. -/
theorem runFlow_merge {α : Type} (φ : Pos → Int → α → α)
    (hadd : ∀ p s t x, φ p t (φ p s x) = φ p (s + t) x) (p : Pos) (a b : Sched) (x : α) :
    runFlow φ (a ++ [(p, 1), (p, 1)] ++ b) x = runFlow φ (a ++ [(p, 2)] ++ b) x := by
  simp only [runFlow_append]
  congr 1
  simp [runFlow, hadd]

theorem pos_link_comm (a b : Nat) (d d' : Int) : Ev.pos (.link a b d) = Ev.pos (.link b a d') := by
  show (if a ≤ b then Pos.bond a b else .bond b a) = if b ≤ a then Pos.bond b a else .bond a b
  rcases Nat.lt_trichotomy a b with h | rfl | h
  · rw [if_pos (Nat.le_of_lt h), if_neg (Nat.not_le_of_gt h)]
  · rfl
  · rw [if_neg (Nat.not_le_of_gt h), if_pos (Nat.le_of_lt h)]

/-- The second-order schedule (with the full step on the last node split in two halves) is a
    palindrome as a sequence of (position, duration). -/
theorem second_sched_palindrome (init : List Seg) (s : Seg) (last : Nat) (hadj : s.2 = last) :
    let half := schedOf ((init ++ [s]).flatMap (fun s => [Ev.site s.1 1, Ev.link s.1 s.2 (-1)]))
    let back := schedOf ([Ev.link last s.1 (-1), Ev.site s.1 1]
        ++ init.reverse.flatMap (fun t => [Ev.link t.2 t.1 (-1), Ev.site t.1 1]))
    (half ++ [(Pos.site last, 1), (Pos.site last, 1)] ++ back).reverse
      = half ++ [(Pos.site last, 1), (Pos.site last, 1)] ++ back := by
  intro half back
  have hb : back = half.reverse := by
    have := second_palindromic init s last hadj
    simp only at this
    simp only [back, half, schedOf]
    rw [this, ← List.map_reverse, List.map_map]
    apply List.map_congr_left
    intro e _
    cases e with
    | site v d => rfl
    | link a b d => exact congrArg (·, d) (pos_link_comm b a d d)
    | two a b d => rfl
  rw [hb]
  simp [List.reverse_append]

example : centreAfter 1 ((second [(1, 0), (2, 0), (0, 3)] 3).getD []) = 1 := by decide
example : (second [(0, 1)] 1).isSome = true := by decide      -- root 0 with the single child 1
/-- a family of flows with the hypothesis `hinv` of `runFlow_neg_reverse` / `palindromic_reversible` exists -/
example :
    let φ : Pos → Int → Int → Int := fun p t x => x + t * (match p with | .site v => v + 1 | .bond a b => a + b + 7)
    (∀ p t x, φ p (-t) (φ p t x) = x) := by
  intro φ p t x; simp only [φ]; rw [Int.neg_mul]; omega

end Ptn.C06
