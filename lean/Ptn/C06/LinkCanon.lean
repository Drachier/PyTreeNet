import Ptn.C03.CanonTree
import Ptn.C06.Link
/-! The doubled tree around the link tensor.

Before `link a b` the network is canonical around `a`: the tree re-rooted at `a` is `node a (k1 ++ node b kb :: k2)`
with `EdgeOK` on every edge.  In the intermediate network `qrHalf …` (link tensor `ℓ` a node of its own) the tree
`node ℓ [node a (k1 ++ k2), node b kb]` satisfies `EdgeOK` on every edge, with the bond ends `up[a ↦ q]`, `dn[a ↦ r]`
(`link_edgeOK`); hence `Kids.Canon` of the two sub-trees hanging at the link tensor (`link_kids_canon`). -/
namespace Ptn.C06.Gauge

open Ptn.Ein Ptn.C17 Ptn.C17.RTree Ptn.C03

variable {R : Type} [CommSemiring R]

/-- the tree around the link tensor: `ℓ` with the two children `a` (without its child `b`) and `b` -/
def linkTree (ℓ a b : Nat) (k1 k2 kb : List RTree) : RTree :=
  .node ℓ [.node a (k1 ++ k2), .node b kb]

/-- bond ends after the first half of the move: `a` now hangs at the link tensor by the fresh bond -/
def linkUp (N : VNet R) (up : Nat → Nat) (a : Nat) : Nat → Nat := fun k => if k = a then N.next else up k
def linkDn (N : VNet R) (dn : Nat → Nat) (a : Nat) : Nat → Nat := fun k => if k = a then N.next + 1 else dn k

/-- the nodes of the two sub-trees at the link tensor are the nodes of the tree around `a` -/
theorem linkTree_ids_perm (a b : Nat) (k1 k2 kb : List RTree) :
    (ids (.node a (k1 ++ k2)) ++ ids (.node b kb)).Perm (ids (.node a (k1 ++ .node b kb :: k2))) := by
  simp only [ids_node, idsL_cons, idsL_append, List.cons_append]
  refine List.Perm.cons _ ?_
  rw [List.append_assoc]
  refine List.Perm.append_left _ ?_
  exact (List.perm_append_comm (l₁ := idsL k2) (l₂ := b :: idsL kb)).trans (by rw [List.cons_append])

/-- **`EdgeOK` around the link tensor.**  `N` well-formed, canonical around `a` along the tree
`node a (k1 ++ node b kb :: k2)` (`EdgeOK` on every edge), `ℓ` unused, `F` the factorisation of the move of `a`
toward `b` (the end of the bond at `a` is `dn b`) with `Q` an isometry toward the fresh bond of one dimension: in
the intermediate network every edge of `node ℓ [node a (k1 ++ k2), node b kb]` satisfies `EdgeOK`. -/
theorem link_edgeOK (dim : Nat → Nat) (cj : R → R) {N : VNet R} (h : N.WF) {a b ℓ : Nat}
    {k1 k2 kb : List RTree} (hnd : (ids (RTree.node a (k1 ++ RTree.node b kb :: k2))).Nodup)
    (hℓ : ℓ ∉ N.ids) {up dn : Nat → Nat}
    (hE : ∀ e ∈ edges (RTree.node a (k1 ++ RTree.node b kb :: k2)), EdgeOK dim cj N up dn e.1 e.2)
    (F : QRFact dim (N.tens a) (N.legs a) (dn b) N.next (N.next + 1))
    (hiso : IsoToward dim cj F.Q (N.next :: (N.legs a).erase (dn b)) N.next)
    (hdim : dim (N.next + 1) = dim N.next) :
    ∀ e ∈ edges (linkTree ℓ a b k1 k2 kb),
      EdgeOK dim cj (qrHalf dim N a ℓ (dn b) F) (linkUp N up a) (linkDn N dn a) e.1 e.2 := by
  -- the edge a - b
  have hab : (a, b) ∈ edges (RTree.node a (k1 ++ RTree.node b kb :: k2)) := by
    rw [edges_node, edgesL_append, edgesL_cons]
    exact List.mem_append_right _ List.mem_cons_self
  obtain ⟨ha, hb, ⟨p, hj⟩, hd, hib⟩ := hE _ hab
  simp only at ha hb hj hd hib
  have haℓ : a ≠ ℓ := fun e => hℓ (e ▸ ha)
  have hbℓ : b ≠ ℓ := fun e => hℓ (e ▸ hb)
  have hdis := (linkTree_ids_perm a b k1 k2 kb).nodup_iff.2 hnd
  rw [ids_node, ids_node] at hdis
  obtain ⟨hn1, _, hdj⟩ := List.nodup_append.1 hdis
  have hba : b ≠ a := (hdj a List.mem_cons_self b List.mem_cons_self).symm
  have hjne := (joined_share h hj hj (Or.inl rfl)).1
  -- an old edge keeps `EdgeOK`
  have hold : ∀ i k, EdgeOK dim cj N up dn i k → k ≠ a → (i = a → dn k ≠ dn b) →
      EdgeOK dim cj (qrHalf dim N a ℓ (dn b) F) (linkUp N up a) (linkDn N dn a) i k := by
    intro i k ⟨hi, hk, ⟨p', hj'⟩, hd', hik⟩ hka hidn
    have hkℓ : k ≠ ℓ := fun e => hℓ (e ▸ hk)
    have hiℓ : i ≠ ℓ := fun e => hℓ (e ▸ hi)
    have e1 : linkUp N up a k = up k := by simp [linkUp, hka]
    have e2 : linkDn N dn a k = dn k := by simp [linkDn, hka]
    rw [EdgeOK, e1, e2, qrHalf_tens_other hkℓ hka, qrHalf_legs_other hkℓ hka]
    refine ⟨List.mem_cons_of_mem _ hi, List.mem_cons_of_mem _ hk, ⟨p', ?_, hj'.2.1, ?_, ?_⟩, hd', hik⟩
    · show p' ∈ N.bonds ++ [(N.next, N.next + 1)]
      exact List.mem_append_left _ hj'.1
    · rw [qrHalf_legs_other hkℓ hka]; exact hj'.2.2.1
    · by_cases hia : i = a
      · subst hia
        rw [qrHalf_legs_n hiℓ]
        exact List.mem_cons_of_mem _ (((h.legs_nodup i hi).mem_erase_iff).2 ⟨hidn rfl, hj'.2.2.2⟩)
      · rw [qrHalf_legs_other hiℓ hia]; exact hj'.2.2.2
  intro e he
  simp only [linkTree, edges_node, edgesL_cons, edgesL_nil, List.append_nil, List.mem_cons, List.mem_append,
    rid] at he
  rcases he with rfl | he | rfl | he
  · -- the new edge ℓ - a
    have e1 : linkUp N up a a = N.next := by simp [linkUp]
    have e2 : linkDn N dn a a = N.next + 1 := by simp [linkDn]
    show EdgeOK dim cj _ _ _ ℓ a
    rw [EdgeOK, e1, e2, qrHalf_tens_n haℓ, qrHalf_legs_n haℓ]
    refine ⟨List.mem_cons_self, List.mem_cons_of_mem _ ha, ⟨(N.next, N.next + 1), ?_, Or.inl rfl, ?_, ?_⟩, hdim,
      hiso⟩
    · show _ ∈ N.bonds ++ [(N.next, N.next + 1)]; simp
    · rw [qrHalf_legs_n haℓ]; exact List.mem_cons_self
    · rw [qrHalf_legs_l]; simp
  · -- an edge below a (without b)
    obtain ⟨i, k⟩ := e
    have hmem : (i, k) ∈ edges (RTree.node a (k1 ++ RTree.node b kb :: k2)) := by
      rw [edges_node, edgesL_append, edgesL_cons]
      rw [edgesL_append] at he
      rcases List.mem_append.1 he with he | he
      · exact List.mem_append_left _ he
      · exact List.mem_append_right _ (List.mem_cons_of_mem _ (List.mem_append_right _ he))
    have hk : k ∈ idsL (k1 ++ k2) := by
      have := (edges_mem.1 (RTree.node a (k1 ++ k2)) i k (by rw [edges_node]; exact he)).2
      simpa [kids] using this
    have hkb : k ≠ b := hdj k (List.mem_cons_of_mem _ hk) b List.mem_cons_self
    have hka : k ≠ a := fun e => (List.nodup_cons.1 hn1).1 (e ▸ hk)
    have hEk := hE _ hmem
    refine hold i k hEk hka ?_
    -- if the edge `(a, k)` ended at `a` in the leg `dn b`, its bond would be the bond `p` of `(a, b)`, whose other end
    -- belongs to `b` alone (`owner`): `k = b`, but `b` is not below `a` any more
    intro hia hdk
    obtain ⟨_, hkN, ⟨p', hj'⟩, _, _⟩ := hEk
    simp only at hj' hkN
    obtain ⟨_, hs⟩ := joined_share h hj hj' (Or.inr (Or.inr (Or.inr hdk.symm)))
    rcases hs with ⟨hs1, _⟩ | ⟨hs1, _⟩
    · exact hkb (h.owner k hkN b hb (up b) (by rw [hs1]; exact hj'.2.2.1) hj.2.2.1)
    · exact hjne (hs1.trans hdk)
  · -- the edge ℓ - b
    have e1 : linkUp N up a b = up b := by simp [linkUp, hba]
    have e2 : linkDn N dn a b = dn b := by simp [linkDn, hba]
    show EdgeOK dim cj _ _ _ ℓ b
    rw [EdgeOK, e1, e2, qrHalf_tens_other hbℓ hba, qrHalf_legs_other hbℓ hba]
    refine ⟨List.mem_cons_self, List.mem_cons_of_mem _ hb, ⟨p, ?_, hj.2.1, ?_, ?_⟩, hd, hib⟩
    · show p ∈ N.bonds ++ [(N.next, N.next + 1)]
      exact List.mem_append_left _ hj.1
    · rw [qrHalf_legs_other hbℓ hba]; exact hj.2.2.1
    · rw [qrHalf_legs_l]; simp
  · -- an edge below b
    obtain ⟨i, k⟩ := e
    have hmem : (i, k) ∈ edges (RTree.node a (k1 ++ RTree.node b kb :: k2)) := by
      rw [edges_node, edgesL_append, edgesL_cons]
      exact List.mem_append_right _ (List.mem_cons_of_mem _ (List.mem_append_left _
        (by rw [edges_node]; exact he)))
    have hik := edges_mem.1 (RTree.node b kb) i k (by rw [edges_node]; exact he)
    have hin : ∀ x, x ∈ ids (RTree.node b kb) → x ≠ a := fun x hx =>
      (hdj a List.mem_cons_self x (by rw [← ids_node]; exact hx)).symm
    have hka : k ≠ a := hin k (by rw [ids_node]; exact List.mem_cons_of_mem _ (by simpa [kids] using hik.2))
    have hia : i ≠ a := hin i hik.1
    exact hold i k (hE _ hmem) hka (fun e => absurd e hia)

/-- **The network DURING a link update is canonical around the link tensor.**  Under the hypotheses of
`link_edgeOK` (and `ℓ` not a node of the tree): the intermediate network is well-formed, every edge of the tree
around `ℓ` satisfies `EdgeOK`, the doubled sub-trees of the two neighbours form a canonical `Kids`
(`Kids.Canon`), the norm network around `ℓ` is in canonical form with pairwise distinct labels, and the open and
bond legs of the centre are the two legs `[r, dn b]` of the link tensor. -/
theorem link_kids_canon (dim : Nat → Nat) (cj : R → R) {N : VNet R} (h : N.WF) {a b ℓ : Nat}
    {k1 k2 kb : List RTree} (hnd : (ids (RTree.node a (k1 ++ RTree.node b kb :: k2))).Nodup)
    (hsub : ∀ n ∈ ids (RTree.node a (k1 ++ RTree.node b kb :: k2)), n ∈ N.ids)
    (hℓ : ℓ ∉ N.ids) {up dn : Nat → Nat}
    (hE : ∀ e ∈ edges (RTree.node a (k1 ++ RTree.node b kb :: k2)), EdgeOK dim cj N up dn e.1 e.2)
    (F : QRFact dim (N.tens a) (N.legs a) (dn b) N.next (N.next + 1))
    (hiso : IsoToward dim cj F.Q (N.next :: (N.legs a).erase (dn b)) N.next)
    (hdim : dim (N.next + 1) = dim N.next) :
    let M := qrHalf dim N a ℓ (dn b) F
    let r' := linkTree ℓ a b k1 k2 kb
    M.WF ∧ (ids r').Nodup ∧ (ids r').Perm (ℓ :: ids (RTree.node a (k1 ++ RTree.node b kb :: k2))) ∧
    (∀ e ∈ edges r', EdgeOK dim cj M (linkUp N up a) (linkDn N dn a) e.1 e.2) ∧
    (kidsOf cj M (linkUp N up a) (linkDn N dn a) r'.kids).Canon (ddim dim) ∧
    (centreOf cj M (linkUp N up a) (linkDn N dn a) r').Canon (ddim dim) ∧
    (centreOf cj M (linkUp N up a) (linkDn N dn a) r').labels.Nodup ∧
    ((centreOf cj M (linkUp N up a) (linkDn N dn a) r').phys ++
      (kidsOf cj M (linkUp N up a) (linkDn N dn a) r'.kids).pairs).Perm ([N.next + 1, dn b].map dbl) := by
  intro M r'
  have ha : a ∈ N.ids := hsub a (by rw [ids_node]; exact List.mem_cons_self)
  have hab : (a, b) ∈ edges (RTree.node a (k1 ++ RTree.node b kb :: k2)) := by
    rw [edges_node, edgesL_append, edgesL_cons]
    exact List.mem_append_right _ List.mem_cons_self
  have hadn : dn b ∈ N.legs a := (hE _ hab).2.2.1.choose_spec.2.2.2
  have hMwf : M.WF := qrHalf_wf h ha hℓ hadn
  have hperm : (ids r').Perm (ℓ :: ids (RTree.node a (k1 ++ RTree.node b kb :: k2))) := by
    simp only [r', linkTree, ids_node (i := ℓ), idsL_cons, idsL_nil, List.append_nil]
    exact (linkTree_ids_perm a b k1 k2 kb).cons ℓ
  have hℓt : ℓ ∉ ids (RTree.node a (k1 ++ RTree.node b kb :: k2)) := fun hm => hℓ (hsub ℓ hm)
  have hnd' : (ids r').Nodup := hperm.nodup_iff.2 (List.nodup_cons.2 ⟨hℓt, hnd⟩)
  have hsub' : ∀ n ∈ ids r', n ∈ M.ids := by
    intro n hn
    rcases List.mem_cons.1 (hperm.subset hn) with e | e
    · rw [e]; exact List.mem_cons_self
    · exact List.mem_cons_of_mem _ (hsub n e)
  have hE' := link_edgeOK dim cj h hnd hℓ hE F hiso hdim
  obtain ⟨hC, hL, hP⟩ := centre_canon_of_tree (cj := cj) (dim := dim) (up := linkUp N up a)
    (dn := linkDn N dn a) hMwf r' hnd' hsub' hE'
  refine ⟨hMwf, hnd', hperm, hE', hC.2.2, hC, hL, ?_⟩
  have : M.legs r'.rid = [N.next + 1, dn b] := qrHalf_legs_l
  rw [← this]
  exact hP

end Ptn.C06.Gauge
