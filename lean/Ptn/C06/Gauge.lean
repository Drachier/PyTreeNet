import Ptn.C06.GaugeLemmas
import Ptn.C05.Discipline
import Ptn.C06.GaugeDecide
import Ptn.C03.Tree
/-! The gauge machine on the events of a WHOLE time step of the three TDVP schemes, the constructor, and the
meaning of the record for the tensors (QR / SVD contracts as explicit hypotheses). -/
namespace Ptn.C06.Gauge
open Ptn.C17 Ptn.C17.RTree Ptn.C05.Disc Ptn.C03

inductive Scheme where
  | first
  | second
  | twoSite
deriving DecidableEq, Repr

/-- the events of one `run_one_time_step` -/
def Scheme.events (t : RTree) : Scheme → Option (List DEv)
  | .first => eventsFirst t
  | .second => eventsSecond t
  | .twoSite => eventsTwoSite t

/-- the second-order schemes need two nodes (`backwards_update_path[1]`, `update_path[-2]`) -/
def Scheme.Defined (t : RTree) : Scheme → Prop
  | .first => True
  | .second => t.kids ≠ []
  | .twoSite => t.kids ≠ []

/-- the events of one time step form a walk from the first node of the sweep back to it -/
theorem scheme_walk (t : RTree) (hwf : t.WF) (sch : Scheme) (hdef : sch.Defined t) :
    ∃ u s evs, updatePath t = some u ∧ u.head? = some s ∧ s ∈ ids t ∧ sch.events t = some evs ∧
      walk t s evs = some s := by
  cases sch with
  | first =>
    obtain ⟨u, s, body, l, r, hu, hs, _, hsm, hev, hr, hch, hl⟩ := eventsFirst_route t hwf
    exact ⟨u, s, _, hu, hs, hsm, hev, walk_append (walk_of_route hr)
      (walk_append (walk_hops hch hl) (walk_step (e := .init s) (gpre_mem hsm) rfl))⟩
  | second =>
    obtain ⟨u, s, evs, hu, hs, hsm, hev, hr⟩ := eventsSecond_route t hwf hdef
    exact ⟨u, s, evs, hu, hs, hsm, hev, walk_of_route hr⟩
  | twoSite =>
    obtain ⟨u, s, evs, hu, hs, hsm, hev, hr⟩ := eventsTwoSite_route t hwf hdef
    exact ⟨u, s, evs, hu, hs, hsm, hev, walk_of_route hr⟩

/-- `canonical_form(c)` (C03 `canon_gauge_tree`): the record of the QR operations of `canonical_form` on a state
    without centre is canonical at `c` -/
theorem canonRec_canon (t : RTree) (hwf : t.WF) (c : Nat) (hc : c ∈ ids t) :
    ∃ ops dir, canonRec t c = some (ops, dir) ∧ CanonAt t dir c := by
  obtain ⟨dist, hd, _, _, _, hall, hcn⟩ := canon_gauge_tree t hwf c hc
  refine ⟨canonOps dist (nbrsOf t), applyOps (fun _ => none) (canonOps dist (nbrsOf t)),
    by simp [canonRec, hd], hcn, ?_⟩
  intro x hx hxc
  exact hall x hx hxc

/-! ### the meaning of the record for the tensors

`α`: tensors; `T n`: the tensor of node `n`; `iso A m`: "`A` is an isometry toward the neighbour `m`" (for a
shape-keeping factorisation: a partial isometry); `Sound`, `IsoCanonAt`, `IsoCanonLink`, `IsoCanonPair`:
`GaugeLemmas.lean`.  `Writes` is the contract of an event: which tensors it may
replace, and - the contract of `numpy.linalg.qr` / `svd` behind `split_node_qr` / `split_node_svd` - that the
factor left at `a` is an isometry toward `b`.  Nothing else is assumed about the new tensors. -/

section tensors
variable {α : Type} (iso : α → Nat → Prop)

/-- the contract of one event on the tensors -/
def Writes (T T' : Nat → α) : DEv → Prop
  | .site v => ∀ n, n ≠ v → T' n = T n
  | .move a b => (∀ n, n ≠ a → n ≠ b → T' n = T n) ∧ iso (T' a) b
  | .link a b => (∀ n, n ≠ a → n ≠ b → T' n = T n) ∧ iso (T' a) b
  | .two a b => (∀ n, n ≠ a → n ≠ b → T' n = T n) ∧ iso (T' a) b
  | .hop a b => (∀ n, n ≠ a → n ≠ b → T' n = T n) ∧ iso (T' a) b
  | .init _ => T' = T

/-- the tensors along a list of events -/
inductive TRun : (Nat → α) → List DEv → (Nat → α) → Prop
  | nil (T : Nat → α) : TRun T [] T
  | cons {T T1 T' : Nat → α} {e : DEv} {rest : List DEv} :
      Writes iso T T1 e → TRun T1 rest T' → TRun T (e :: rest) T'

variable {iso}

/-- a split of `a` toward `b` keeps the record true -/
theorem sound_split {dir : Rec} {a b : Nat} {T T' : Nat → α} (hs : Sound iso dir T)
    (hk : ∀ n, n ≠ a → n ≠ b → T' n = T n) (hi : iso (T' a) b) :
    Sound iso (applyOp dir ⟨a, b⟩) T' := by
  intro n m hd
  simp only [applyOp] at hd
  by_cases hna : n = a
  · rw [if_pos hna] at hd
    have : b = m := Option.some.inj hd
    rw [hna, ← this]; exact hi
  · rw [if_neg hna] at hd
    by_cases hnb : n = b
    · rw [if_pos hnb] at hd; simp at hd
    · rw [if_neg hnb] at hd
      rw [hk n hna hnb]; exact hs n m hd

/-- one event keeps the record true: it writes only the centre (which has no record) and, for a split, its
    neighbour `b` (which loses its record), and the new tensor of `a` is an isometry toward `b` -/
theorem sound_step {t : RTree} {st : GSt} {e : DEv} {T T' : Nat → α}
    (hpre : gpre t st.centre e = true) (hcn : st.dir st.centre = none) (hs : Sound iso st.dir T)
    (hw : Writes iso T T' e) : Sound iso (gstep st e).dir T' := by
  cases e with
  | site v =>
    have hc : st.centre = v := (gpre_spec hpre).1
    intro n m hd
    simp only [gstep] at hd
    have hnv : n ≠ v := by
      intro e; rw [e, ← hc, hcn] at hd; simp at hd
    rw [hw n hnv]; exact hs n m hd
  | init c =>
    simp only [Writes] at hw; subst hw; exact hs
  | move a b => exact sound_split hs hw.1 hw.2
  | link a b => exact sound_split hs hw.1 hw.2
  | two a b => exact sound_split hs hw.1 hw.2
  | hop a b => exact sound_split hs hw.1 hw.2

/-- the record stays true along events that are all `Good`: each starts at the centre, which carries no record -/
theorem sound_run {t : RTree} : ∀ (evs : List DEv) (st : GSt) (T T' : Nat → α),
    GoodRun t st evs → Sound iso st.dir T → TRun iso T evs T' → Sound iso (grun st evs).dir T'
  | [], _, _, _, _, hs, hr => by cases hr; exact hs
  | e :: rest, st, _, T', hg, hs, hr => by
    cases hr with
    | cons hwr hrest =>
      exact sound_run rest (gstep st e) _ T' hg.2 (sound_step hg.1.1 hg.1.2.1.1 hs hwr) hrest

theorem trun_split : ∀ {evs : List DEv} {T T' : Nat → α}, TRun iso T evs T' →
    ∀ p q, evs = p ++ q → ∃ Tm, TRun iso T p Tm ∧ TRun iso Tm q T'
  | _, T, T', hr, [], q, h => by
    simp only [List.nil_append] at h; subst h
    exact ⟨T, TRun.nil T, hr⟩
  | _, _, _, TRun.nil T, p0 :: p', q, h => by simp at h
  | _, _, _, TRun.cons hw hrest, p0 :: p', q, h => by
    simp only [List.cons_append, List.cons.injEq] at h
    obtain ⟨rfl, h'⟩ := h
    obtain ⟨Tm, h1, h2⟩ := trun_split hrest p' q h'
    exact ⟨Tm, TRun.cons hw h1, h2⟩

/-- **the state at every event**: started with a record that is true of the tensors, whatever the events do within
    their contracts, before every event of a `GoodRun` the STATE is canonical at the machine's centre, which is where
    the event starts -/
theorem state_canonical_at_event {t : RTree} {st : GSt} {T0 T : Nat → α} {p q : List DEv} {e : DEv}
    (hg : GoodRun t st (p ++ e :: q)) (hs : Sound iso st.dir T0) (hr : TRun iso T0 p T) :
    gpre t (grun st p).centre e = true ∧ IsoCanonAt iso t T (grun st p).centre :=
  have he := goodRun_split hg p e q rfl
  ⟨he.1, isoCanonAt_of_sound he.2.1 (sound_run p st T0 T (goodRun_prefix hg) hs hr)⟩

end tensors

end Ptn.C06.Gauge
