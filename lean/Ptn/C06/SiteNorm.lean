import Ptn.C06.Value
import Ptn.C03.CanonTree
/-! The doubled tree built from a valued network (`Ptn.C03.kidsOf`, conjugation `star`) is a ket tree with its
conjugated relabelled copy (`Ptn.Ein.Kids.IsConj`), the relabelling being `dswap` (ket copy of a leg ↔ bra copy): the
hypothesis under which `one_site_update_conserves_norm_of_canonical` speaks of the norm of the network. -/
namespace Ptn.C06.Gauge

open Ptn.Ein Ptn.C17 Ptn.C17.RTree Ptn.C03

set_option linter.unusedSectionVars false
variable {R : Type} [CommSemiring R] [StarRing R]

/-- ket copy of a leg ↔ bra copy -/
def dswap : DL → DL
  | .ket l => .bra l
  | .bra l => .ket l

theorem dswap_injective : Function.Injective dswap := by
  intro x y h
  cases x <;> cases y <;> simp [dswap] at h ⊢ <;> exact h

theorem ddim_dswap (dim : Nat → Nat) (l : DL) : ddim dim (dswap l) = ddim dim l := by
  cases l <;> rfl

theorem braT_eq_cjr (T : Asg Nat → R) : braT (star : R → R) T = cjr dswap (ketT T) := rfl

theorem physOf_conj (N : VNet R) (k : Nat) (X : List Nat) : ∀ p ∈ physOf N k X, p.2 = dswap p.1 := by
  intro p hp
  obtain ⟨l, _, rfl⟩ := List.mem_map.1 hp
  rfl

theorem subOf_isConj (N : VNet R) (up dn : Nat → Nat) :
    (∀ t : RTree, (subOf (star : R → R) N up dn t).IsConj dswap) ∧
    (∀ ks : List RTree, (kidsOf (star : R → R) N up dn ks).IsConj dswap) := by
  apply induct
  · intro k ks ih
    rw [subOf, Sub.IsConj]
    exact ⟨braT_eq_cjr _, rfl, physOf_conj N k _, ih⟩
  · rw [kidsOf, Kids.IsConj]; trivial
  · intro t ts iht ihts
    rw [kidsOf, Kids.IsConj]
    exact ⟨rfl, iht, ihts⟩

end Ptn.C06.Gauge
