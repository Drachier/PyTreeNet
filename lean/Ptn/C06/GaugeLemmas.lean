import Ptn.C06.GaugeModel
import Ptn.C05.DiscSeq
import Ptn.C03.Lemmas
/-! The gauge machine of the TDVP sweeps: canonical form at the centre is preserved by every event whose precondition
holds, and holds at the updated position while a link / two-site update runs (`good_step`); hence along every list of
events whose preconditions hold when the centre is tracked (`walk`, `goodRun_of_walk`).  The routes of the C05
discipline machine are such walks.  Core Lean only. -/
namespace Ptn.C06.Gauge
open Ptn.C17 Ptn.C17.RTree Ptn.C05.Disc Ptn.C03

/-- **canonical at `c`**: `c` carries no record and every other node is recorded as an isometry toward the first
    node on its way to `c` -/
def CanonAt (t : RTree) (dir : Rec) (c : Nat) : Prop :=
  dir c = none ∧ ∀ x ∈ ids t, x ≠ c → ∃ h, firstHop t x c = some h ∧ dir x = some h

/-- **canonical at the link between `a` and `b`** (the R factor of `a`, not yet contracted into `b`): every node
    points toward the link - the nodes on `a`'s side, `a` included, toward `b`, those on `b`'s side, `b` included,
    toward `a` -/
def CanonLink (t : RTree) (dir : Rec) (a b : Nat) : Prop :=
  ∀ x ∈ ids t, (x ≠ b → ∃ h, firstHop t x b = some h ∧ dir x = some h) ∧
    (x ≠ a → ∃ h, firstHop t x a = some h ∧ dir x = some h)

/-- **canonical at the merged pair `a`, `b`**: neither carries a record, every other node points to its first hop
    toward `a`, which is also its first hop toward `b` -/
def CanonPair (t : RTree) (dir : Rec) (a b : Nat) : Prop :=
  dir a = none ∧ dir b = none ∧
    ∀ x ∈ ids t, x ≠ a → x ≠ b → ∃ h, firstHop t x a = some h ∧ firstHop t x b = some h ∧ dir x = some h

/-- what is claimed of one event in the state it starts in: the machine's centre is where the code's event starts
    (and the two nodes are neighbours), the record is canonical at that centre, and while a link / two-site update
    runs it is canonical at the link / at the merged pair -/
def Good (t : RTree) (st : GSt) (e : DEv) : Prop :=
  gpre t st.centre e = true ∧ CanonAt t st.dir st.centre ∧
  match e with
  | .link a b => CanonLink t (during st.dir e) a b
  | .two a b => CanonPair t (during st.dir e) a b
  | _ => True

/-- `Good` for every event of a list, each in the state the earlier events lead to -/
def GoodRun (t : RTree) : GSt → List DEv → Prop
  | _, [] => True
  | st, e :: rest => Good t st e ∧ GoodRun t (gstep st e) rest

/-- the centre after an event -/
def target (c : Nat) : DEv → Nat
  | .site _ => c
  | .move _ b => b
  | .link _ b => b
  | .two _ b => b
  | .hop _ b => b
  | .init _ => c

/-- the centre tracked through a list of events; `none` if a precondition fails.  All six events: C05's `Route` has
    no `hop` and no `init`, because the cache discipline does not hold across plain hops. -/
def walk (t : RTree) : Nat → List DEv → Option Nat
  | c, [] => some c
  | c, e :: rest => if gpre t c e = true then walk t (target c e) rest else none

theorem gstep_centre (st : GSt) (e : DEv) : (gstep st e).centre = target st.centre e := by
  cases e <;> rfl

theorem grun_cons (st : GSt) (e : DEv) (rest : List DEv) :
    grun st (e :: rest) = grun (gstep st e) rest := rfl

theorem grun_append (st : GSt) (l1 l2 : List DEv) : grun st (l1 ++ l2) = grun (grun st l1) l2 := by
  simp [grun, List.foldl_append]

theorem applyOp_node (dir : Rec) (a b : Nat) : applyOp dir ⟨a, b⟩ a = some b := if_pos rfl

theorem applyOp_target (dir : Rec) {a b : Nat} (h : a ≠ b) : applyOp dir ⟨a, b⟩ b = none :=
  (if_neg h.symm).trans (if_pos rfl)

theorem applyOp_other (dir : Rec) {a b x : Nat} (ha : x ≠ a) (hb : x ≠ b) : applyOp dir ⟨a, b⟩ x = dir x :=
  (if_neg ha).trans (if_neg hb)

/-- QR / SVD split of the centre `a` toward its neighbour `b`: canonical at `b` afterwards -/
theorem canon_split {t : RTree} (hwf : t.WF) {dir : Rec} {a b : Nat} (hab : Adj t a b)
    (h : CanonAt t dir a) : CanonAt t (applyOp dir ⟨a, b⟩) b :=
  ⟨applyOp_target dir (adj_ne hwf hab), canonRec_hop hwf hab h.2⟩

/-! ### canonical form of a state of tensors

`α`: tensors; `T n`: the tensor of node `n`; `iso A m`: "`A` is an isometry toward the neighbour `m`".  The record
itself is such a state (`α := Option Nat`, `iso r m := r = some m`): `CanonAt`, `CanonLink`, `CanonPair` say of it, beside
"no record at the centre", what `IsoCanonAt`, `IsoCanonLink`, `IsoCanonPair` say. -/

section tensors
variable {α : Type} (iso : α → Nat → Prop)

/-- **the state is canonical at `c`**: the tensor of every other node is an isometry toward the first node on
    its way to `c` -/
def IsoCanonAt (t : RTree) (T : Nat → α) (c : Nat) : Prop :=
  ∀ x ∈ ids t, x ≠ c → ∃ h, firstHop t x c = some h ∧ iso (T x) h

def IsoCanonPair (t : RTree) (T : Nat → α) (a b : Nat) : Prop :=
  ∀ x ∈ ids t, x ≠ a → x ≠ b → ∃ h, firstHop t x a = some h ∧ firstHop t x b = some h ∧ iso (T x) h

def IsoCanonLink (t : RTree) (T : Nat → α) (a b : Nat) : Prop :=
  ∀ x ∈ ids t, (x ≠ b → ∃ h, firstHop t x b = some h ∧ iso (T x) h) ∧
    (x ≠ a → ∃ h, firstHop t x a = some h ∧ iso (T x) h)

/-- every record is true of the tensors -/
def Sound (dir : Rec) (T : Nat → α) : Prop := ∀ n m, dir n = some m → iso (T n) m

variable {iso}

theorem isoCanonAt_of_sound {t : RTree} {dir : Rec} {T : Nat → α} {c : Nat} (hc : CanonAt t dir c)
    (hs : Sound iso dir T) : IsoCanonAt iso t T c := by
  intro x hx hxc
  obtain ⟨h, hh, hd⟩ := hc.2 x hx hxc
  exact ⟨h, hh, hs x h hd⟩

theorem isoCanonPair_of_at {t : RTree} (hwf : t.WF) {T : Nat → α} {a b : Nat} (hab : Adj t a b)
    (h : IsoCanonAt iso t T a) : IsoCanonPair iso t T a b := by
  intro x hx hxa hxb
  obtain ⟨h', hh, hi⟩ := h x hx hxa
  exact ⟨h', hh, by rw [firstHop_adj_same hwf hab hx hxa hxb]; exact hh, hi⟩

theorem isoCanonLink_of_split {t : RTree} (hwf : t.WF) {T T1 : Nat → α} {a b : Nat} (hab : Adj t a b)
    (h : IsoCanonAt iso t T a) (hk : ∀ n, n ≠ a → T1 n = T n) (hi : iso (T1 a) b) :
    IsoCanonLink iso t T1 a b := by
  intro x hx
  constructor
  · intro hxb
    by_cases hxa : x = a
    · subst hxa; exact ⟨b, firstHop_adj hwf hab, hi⟩
    · obtain ⟨h', hh, hi'⟩ := h x hx hxa
      exact ⟨h', by rw [firstHop_adj_same hwf hab hx hxa hxb]; exact hh, by rw [hk x hxa]; exact hi'⟩
  · intro hxa
    obtain ⟨h', hh, hi'⟩ := h x hx hxa
    exact ⟨h', hh, by rw [hk x hxa]; exact hi'⟩

end tensors

/-- while the link tensor of `link a b` is evolved the record is canonical at the link -/
theorem canon_link_during {t : RTree} (hwf : t.WF) {dir : Rec} {a b : Nat} (hab : Adj t a b)
    (h : CanonAt t dir a) : CanonLink t (during dir (.link a b)) a b :=
  isoCanonLink_of_split (iso := fun r m => r = some m) hwf hab h.2 (fun _ hn => if_neg hn) (if_pos rfl)

/-- while the two-site tensor of `two a b` is evolved the record is canonical at the merged pair -/
theorem canon_pair_during {t : RTree} (hwf : t.WF) {dir : Rec} {a b : Nat} (hab : Adj t a b)
    (h : CanonAt t dir a) : CanonPair t (during dir (.two a b)) a b :=
  ⟨if_pos (Or.inl rfl), if_pos (Or.inr rfl), fun x hx hxa hxb =>
    let ⟨h', h1, h2, hd⟩ := isoCanonPair_of_at (iso := fun r m => r = some m) hwf hab h.2 x hx hxa hxb
    ⟨h', h1, h2, (if_neg (not_or.2 ⟨hxa, hxb⟩)).trans hd⟩⟩

theorem gpre_spec {t : RTree} {c : Nat} {e : DEv} (h : gpre t c e = true) :
    match e with
    | .site v | .init v => c = v ∧ v ∈ ids t
    | .move a b | .link a b | .two a b | .hop a b => c = a ∧ Adj t a b := by
  cases e <;> simpa [gpre, pre, adjB_iff] using h

/-- an event whose precondition holds, started in a record canonical at the centre: `Good`, and canonical at the
    new centre afterwards -/
theorem good_step {t : RTree} (hwf : t.WF) {st : GSt} {e : DEv} (hpre : gpre t st.centre e = true)
    (h : CanonAt t st.dir st.centre) :
    Good t st e ∧ CanonAt t (gstep st e).dir (gstep st e).centre := by
  cases e with
  | site v => exact ⟨⟨hpre, h, trivial⟩, h⟩
  | init c => exact ⟨⟨hpre, h, trivial⟩, h⟩
  | move a b =>
    obtain ⟨hc, hab⟩ := gpre_spec hpre
    exact ⟨⟨hpre, h, trivial⟩, canon_split hwf hab (hc ▸ h)⟩
  | hop a b =>
    obtain ⟨hc, hab⟩ := gpre_spec hpre
    exact ⟨⟨hpre, h, trivial⟩, canon_split hwf hab (hc ▸ h)⟩
  | link a b =>
    obtain ⟨hc, hab⟩ := gpre_spec hpre
    exact ⟨⟨hpre, h, canon_link_during hwf hab (hc ▸ h)⟩, canon_split hwf hab (hc ▸ h)⟩
  | two a b =>
    obtain ⟨hc, hab⟩ := gpre_spec hpre
    exact ⟨⟨hpre, h, canon_pair_during hwf hab (hc ▸ h)⟩, canon_split hwf hab (hc ▸ h)⟩

/-- **The generic invariant.**  Any list of events whose centre preconditions hold when the centre is tracked from
    `c` (`walk`), started in a record canonical at `c`: every event is `Good`, the final record is canonical at the
    final centre. -/
theorem goodRun_of_walk {t : RTree} (hwf : t.WF) : ∀ (evs : List DEv) (st : GSt) (c' : Nat),
    walk t st.centre evs = some c' → CanonAt t st.dir st.centre →
    GoodRun t st evs ∧ CanonAt t (grun st evs).dir c' ∧ (grun st evs).centre = c'
  | [], st, c', hw, h => by
    simp only [walk, Option.some.injEq] at hw
    subst hw
    exact ⟨trivial, h, rfl⟩
  | e :: rest, st, c', hw, h => by
    simp only [walk] at hw
    split at hw
    · rename_i hpre
      obtain ⟨hg, hn⟩ := good_step hwf hpre h
      rw [← gstep_centre] at hw
      obtain ⟨r1, r2, r3⟩ := goodRun_of_walk hwf rest (gstep st e) c' hw hn
      exact ⟨⟨hg, r1⟩, r2, r3⟩
    · simp at hw

theorem goodRun_append {t : RTree} : ∀ {l1 l2 : List DEv} {st : GSt},
    GoodRun t st l1 → GoodRun t (grun st l1) l2 → GoodRun t st (l1 ++ l2)
  | [], _, _, _, h2 => h2
  | e :: l1, l2, st, h1, h2 => ⟨h1.1, goodRun_append (l1 := l1) h1.2 (by rwa [grun_cons] at h2)⟩

/-- `GoodRun` read event by event -/
theorem goodRun_split {t : RTree} : ∀ {evs : List DEv} {st : GSt}, GoodRun t st evs →
    ∀ p e q, evs = p ++ e :: q → Good t (grun st p) e
  | [], _, _, p, e, q, h => by simp at h
  | e0 :: rest, st, hg, p, e, q, h => by
    cases p with
    | nil =>
      simp only [List.nil_append, List.cons.injEq] at h
      obtain ⟨rfl, _⟩ := h
      exact hg.1
    | cons p0 p' =>
      simp only [List.cons_append, List.cons.injEq] at h
      obtain ⟨rfl, h'⟩ := h
      rw [grun_cons]
      exact goodRun_split hg.2 p' e q h'

theorem goodRun_prefix {t : RTree} : ∀ {p q : List DEv} {st : GSt}, GoodRun t st (p ++ q) → GoodRun t st p
  | [], _, _, _ => trivial
  | _ :: _, _, _, h => ⟨h.1, goodRun_prefix h.2⟩

theorem walk_step {t : RTree} {c c' : Nat} {e : DEv} {evs : List DEv} (h : gpre t c e = true)
    (hw : walk t (target c e) evs = some c') : walk t c (e :: evs) = some c' :=
  (if_pos h).trans hw

theorem walk_append {t : RTree} : ∀ {l1 l2 : List DEv} {c c1 c2 : Nat}, walk t c l1 = some c1 →
    walk t c1 l2 = some c2 → walk t c (l1 ++ l2) = some c2
  | [], _, _, _, _, h1, h2 => by simp only [walk, Option.some.injEq] at h1; subst h1; exact h2
  | e :: l1, l2, c, c1, c2, h1, h2 => by
    simp only [walk, List.cons_append] at h1 ⊢
    split at h1
    · rename_i hp
      simp only [hp, if_true]
      exact walk_append h1 h2
    · simp at h1

theorem walk_replicate {t : RTree} {s : Nat} {evs : List DEv} (h : walk t s evs = some s) :
    ∀ k, walk t s (List.replicate k evs).flatten = some s
  | 0 => by simp [walk]
  | k + 1 => by
    rw [List.replicate_succ, List.flatten_cons]
    exact walk_append h (walk_replicate h k)

/-- the precondition of a split of `a` toward a neighbour (the same Boolean for `move`, `link`, `two`, `hop`) -/
theorem gpre_adj {t : RTree} {a b : Nat} (h : Adj t a b) : gpre t a (.move a b) = true := by
  simp [gpre, pre, (adjB_iff t a b).mpr h]

/-- the precondition of an event that stays at `v` (the same Boolean for `site`, `init`) -/
theorem gpre_mem {t : RTree} {v : Nat} (h : v ∈ ids t) : gpre t v (.site v) = true := by
  simp [gpre, pre, h]

theorem walk_of_route {t : RTree} {c c' : Nat} {evs : List DEv} (h : Route t c evs c') :
    walk t c evs = some c' := by
  induction h with
  | nil c => rfl
  | site hv _ ih => exact walk_step (gpre_mem hv) ih
  | move hab _ ih => exact walk_step (gpre_adj hab) ih
  | link hab _ ih => exact walk_step (gpre_adj hab) ih
  | two hab _ ih => exact walk_step (gpre_adj hab) ih

/-! ### plain centre moves (constructor with a state that already has a centre, first-order reset) -/

theorem walk_hops {t : RTree} : ∀ {p : List Nat} {a l : Nat}, Chain (Adj t) (a :: p) →
    (a :: p).getLast? = some l → walk t a (hopsAlong (a :: p)) = some l
  | [], _, _, _, hl => by cases hl; rfl
  | b :: p, a, l, hch, hl => by
    have hch' := chain_cons_cons.mp hch
    rw [List.getLast?_cons_cons] at hl
    exact walk_step (gpre_adj hch'.1) (walk_hops hch'.2 hl)

/-- `move_orthogonalization_center(s)` from the centre `c`: the QR hops along the way from `c` to `s` -/
theorem walk_path_hops {t : RTree} (hwf : t.WF) {c s : Nat} (hc : c ∈ ids t) (hs : s ∈ ids t) :
    ∃ p, pathFromTo t c s = some p ∧ walk t c (hopsAlong p) = some s :=
  let ⟨_, hp, hch, hl, _⟩ := path_chain hwf hc hs
  ⟨_, hp, walk_hops hch hl⟩

end Ptn.C06.Gauge
