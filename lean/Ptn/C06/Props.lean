import Ptn.C06.Core
import Ptn.Common.AnalysisLocal
import Ptn.C06.Structure
import Ptn.C06.Value
import Ptn.C06.Demo
import Ptn.C06.Gauge
import Ptn.C06.SiteCanon
import Ptn.C06.SiteNorm
import Ptn.C06.Link
import Ptn.C06.LinkCanon
import Ptn.C07.RootEdge
import Ptn.C03.Props
import Ptn.C17.Examples
/-! Property theorems for C06: those that need Mathlib (linear algebra, values of networks) and, in section `gauge`, the
three theorems about the gauge machine of `Gauge.lean` on the events of a whole time step.  The theorems on the
schedules are in `Core.lean`, those on the structural model of C02 in `Structure.lean` (core Lean only, same
namespace). -/
namespace Ptn.C06

/-! ### Every local update conserves norm and energy (instances of `Ptn.Analysis`, Mathlib)

By C05 every local update evolves the local tensor `φ` with `K = EᴴHE`, `E` the embedding of that
tensor given all other current tensors; by C03 `E` is an isometry (a partial isometry with projector
`P = EᴴE`, `Pφ = φ`, under zero-padded bonds in the shape-keeping mode).  Hence each local update —
forward or backward in time — leaves the norm and (for Hermitian `H`) the energy of the represented
state `Eφ` unchanged; a time step is a composition of such updates and gauge moves that do not
change the state. -/

open Matrix NormedSpace in
/-- C06, "conserve norm": one local update `φ ↦ exp(-i t EᴴHE) φ` with `E` an isometry and `H` Hermitian leaves the norm
of the represented state `Eφ` unchanged. -/
theorem local_update_conserves_norm {N d : Type} [Fintype N] [Fintype d] [DecidableEq N]
    [DecidableEq d] (E : Matrix N d ℂ) (H : Matrix N N ℂ) (hE : Eᴴ * E = 1) (hH : Hᴴ = H)
    (t : ℝ) (φ : d → ℂ) :
    star (E *ᵥ (exp ((-Complex.I * (t : ℂ)) • (Eᴴ * H * E)) *ᵥ φ)) ⬝ᵥ
        (E *ᵥ (exp ((-Complex.I * (t : ℂ)) • (Eᴴ * H * E)) *ᵥ φ))
      = star (E *ᵥ φ) ⬝ᵥ (E *ᵥ φ) :=
  Ptn.Analysis.local_flow_norm E H hE hH t φ

open Matrix NormedSpace in
/-- C06, "conserve energy": the same update leaves `⟨Eφ, H Eφ⟩` unchanged, for any `E`. -/
theorem local_update_conserves_energy {N d : Type} [Fintype N] [Fintype d] [DecidableEq N]
    [DecidableEq d] (E : Matrix N d ℂ) (H : Matrix N N ℂ) (hH : Hᴴ = H) (t : ℝ) (φ : d → ℂ) :
    star (E *ᵥ (exp ((-Complex.I * (t : ℂ)) • (Eᴴ * H * E)) *ᵥ φ)) ⬝ᵥ
        (H *ᵥ (E *ᵥ (exp ((-Complex.I * (t : ℂ)) • (Eᴴ * H * E)) *ᵥ φ)))
      = star (E *ᵥ φ) ⬝ᵥ (H *ᵥ (E *ᵥ φ)) :=
  Ptn.Analysis.local_flow_energy E H hH t φ

open Matrix NormedSpace in
/-- The same with zero-padded bonds: `E` only a partial isometry. -/
theorem local_update_conserves_norm_padded {N d : Type} [Fintype N] [Fintype d] [DecidableEq N]
    [DecidableEq d] (E : Matrix N d ℂ) (H : Matrix N N ℂ) (P : Matrix d d ℂ)
    (hE : Eᴴ * E = P) (hP : P * P = P) (hH : Hᴴ = H) (c : ℂ) (hc : star c = -c)
    (φ : d → ℂ) (hφ : P *ᵥ φ = φ) :
    star (E *ᵥ (exp (c • (Eᴴ * H * E)) *ᵥ φ)) ⬝ᵥ (E *ᵥ (exp (c • (Eᴴ * H * E)) *ᵥ φ))
      = star (E *ᵥ φ) ⬝ᵥ (E *ᵥ φ) :=
  Ptn.Analysis.local_flow_norm_partial E H P hE hP hH c hc φ hφ

open Matrix NormedSpace in
/-- Saturated bonds: with a *unitary* embedding the local generator is the full Hamiltonian in
    another basis, so the local flow is the full propagator: `E exp(cK) Eᴴ = exp(cH)`. -/
theorem saturated_local_flow_is_full {n : Type} [Fintype n] [DecidableEq n]
    (E H : Matrix n n ℂ) (hE : Eᴴ * E = 1) (hE' : E * Eᴴ = 1) (c : ℂ) :
    E * exp (c • (Eᴴ * H * E)) * Eᴴ = exp (c • H) := by
  have hK : E * (c • (Eᴴ * H * E)) * Eᴴ = c • H := by
    rw [Matrix.mul_smul, Matrix.smul_mul, Matrix.mul_assoc, Matrix.mul_assoc, hE', Matrix.mul_one,
      ← Matrix.mul_assoc, hE', Matrix.one_mul]
  rw [Ptn.Analysis.exp_unitary_conj E _ hE, hK]

/-! ### Value level: the embedding is an isometry BECAUSE the state is canonical at the updated site

`Ptn/Common/EinsumIso.lean`: the norm network seen from the centre is a tree of doubled sub-trees
(`Ptn.Ein.Sub` / `Kids`: any number of children, any depth, any number of open legs).  `Kids.Canon dim k`:
every non-centre node reads only its own legs and satisfies the isometry condition TOWARD THE CENTRE in
index form, `Σ_{all legs of n except the one toward the centre} T_n · Tc_n = δ` (which neighbour that is for
`canonical_form`: `Ptn.C03.canon_gauge_tree` — the first node on the path to the centre).  The theorems hold
for every tree, all dimensions, every commutative semiring. -/

section value
open Ptn.Ein
open scoped Kronecker

variable {L : Type} [DecidableEq L]

/-- **The contracted environment of the centre is the identity**: summing the product of all tensors and
conjugated tensors of all non-centre nodes over every pair of open legs and every bond not at the centre
gives `Π_k δ(x_k, y_k)` over the centre's bonds. -/
theorem environment_is_identity {R : Type} [CommSemiring R] (dim : L → Nat) (k : Kids L R)
    (hc : k.Canon dim) (hnd : k.labels.Nodup) (σ : Asg L)
    (hr : ∀ p ∈ k.ups, σ p.1 < dim p.1 ∧ σ p.2 < dim p.2) :
    netValue dim k.inBinds k.leaves σ = deltaProd k.ups σ :=
  Ptn.Ein.environment_is_identity dim k hc hnd σ hr

/-- **The embedding of the centre tensor is an isometry (index form)**: `Σ_phys Ec[phys; r] · E[phys; c] = δ_rc`,
`E` the ket half of the environment (all ket tensors of the non-centre nodes contracted over their own
bonds), `Ec` the bra half. -/
theorem embedding_isometry_of_canonical {R : Type} [CommSemiring R] (dim : L → Nat) (k : Kids L R)
    (hc : k.Canon dim) (hnd : k.labels.Nodup) (σ : Asg L)
    (hr : ∀ p ∈ k.ups, σ p.1 < dim p.1 ∧ σ p.2 < dim p.2) :
    sumPairs dim k.physAll (fun τ => k.E dim τ * k.Ec dim τ) σ = deltaProd k.ups σ :=
  Ptn.Ein.embedding_isometry_of_canonical dim k hc hnd σ hr

/-- the same as a matrix identity over the index tuples: `Ecᵀ · E = 1` -/
theorem embedding_matrix_isometry {R : Type} [CommSemiring R] (dim : L → Nat) (k : Kids L R)
    (hc : k.Canon dim) (hnd : k.labels.Nodup) :
    (envMatrixC dim k).transpose * envMatrix dim k = 1 :=
  Ptn.Ein.embedding_matrix_isometry dim k hc hnd

/-- **The norm computed from the centre tensor alone equals the full norm** (value of the norm network). -/
theorem centre_norm_eq_full_norm_value {R : Type} [CommSemiring R] (dim : L → Nat) (c : Centre L R)
    (hc : c.Canon dim) (hnd : c.labels.Nodup) (σ : Asg L) :
    netValue dim c.normBinds c.normLeaves σ = netValue dim (c.phys ++ c.kids.pairs) [c.C, c.Cc] σ :=
  Ptn.Ein.centre_norm_eq_full_norm_value dim c hc hnd σ

/-- the premises are satisfiable: the demo tree `centre — B — A`, `centre — A2` (bond dimension 4 between the
centre and `B`, permutation-like isometries, bra copy = conjugated ket with labels `l + 10`) -/
example : Demo.kids.Canon Demo.dim ∧ Demo.kids.labels.Nodup ∧ Demo.kids.IsConj Demo.pr ∧
    Function.Injective Demo.pr ∧ (∀ l, Demo.dim (Demo.pr l) = Demo.dim l) ∧
    Demo.centre.Canon Demo.dim ∧ Demo.centre.labels.Nodup ∧ Demo.kids.ups = [(4, 14), (2, 12)] :=
  ⟨Demo.kids_canon, Demo.kids_nodup, Demo.kids_isConj, Demo.pr_inj, Demo.dim_pr, Demo.centre_canon,
    Demo.centre_nodup, rfl⟩

/-- in-range assignments of the centre's bonds exist -/
example : ∀ p ∈ Demo.kids.ups, (fun l => if l = 4 ∨ l = 14 then 3 else 1 : Asg Nat) p.1 < Demo.dim p.1 ∧
    (fun l => if l = 4 ∨ l = 14 then 3 else 1 : Asg Nat) p.2 < Demo.dim p.2 := by
  intro p hp
  simp only [Demo.kids, Kids.ups, Demo.subB, Demo.subA2, Sub.u, Sub.u', List.mem_cons, List.not_mem_nil,
    or_false] at hp
  rcases hp with rfl | rfl <;> decide

/-- **One-site update, state canonical at the updated site: the norm is conserved.**  `k`: the sub-trees
around the updated node, every node canonical toward it, the bra tensors the conjugated relabelled ket
tensors (`IsConj`); `P`: the open legs of the updated node; the embedding
`E = envMatrix ⊗ 1_P` is BUILT from the network (no isometry hypothesis); `H` any Hermitian matrix on
the full space.  The local update `φ ↦ exp(-i t EᴴHE) φ` conserves the norm of the represented state `Eφ`. -/
theorem one_site_update_conserves_norm_of_canonical (dim : L → Nat) (pr : L → L)
    (hinj : Function.Injective pr) (hdim : ∀ l, dim (pr l) = dim l) (k : Kids L ℂ)
    (hc : k.Canon dim) (hnd : k.labels.Nodup) (hk : k.IsConj pr)
    (P : Type) [Fintype P] [DecidableEq P]
    (H : Matrix (Idx dim k.physAll × P) (Idx dim k.physAll × P) ℂ) (hH : H.conjTranspose = H)
    (t : ℝ) (φ : Idx dim k.ups × P → ℂ) :
    let E := siteEmbedding dim k P
    star (E.mulVec ((NormedSpace.exp ((-Complex.I * (t : ℂ)) • (E.conjTranspose * H * E))).mulVec φ)) ⬝ᵥ
        (E.mulVec ((NormedSpace.exp ((-Complex.I * (t : ℂ)) • (E.conjTranspose * H * E))).mulVec φ))
      = star (E.mulVec φ) ⬝ᵥ (E.mulVec φ) :=
  local_update_conserves_norm _ H
    (siteEmbedding_isometry dim k hc hnd (envMatrixC_eq_conj dim pr hinj hdim k hc hnd hk) P) hH t φ

/-- the energy, for the same embedding (no canonical form needed) -/
theorem one_site_update_conserves_energy_of_canonical (dim : L → Nat) (k : Kids L ℂ)
    (P : Type) [Fintype P] [DecidableEq P]
    (H : Matrix (Idx dim k.physAll × P) (Idx dim k.physAll × P) ℂ) (hH : H.conjTranspose = H)
    (t : ℝ) (φ : Idx dim k.ups × P → ℂ) :
    let E := siteEmbedding dim k P
    star (E.mulVec ((NormedSpace.exp ((-Complex.I * (t : ℂ)) • (E.conjTranspose * H * E))).mulVec φ)) ⬝ᵥ
        (H.mulVec (E.mulVec ((NormedSpace.exp ((-Complex.I * (t : ℂ)) • (E.conjTranspose * H * E))).mulVec φ)))
      = star (E.mulVec φ) ⬝ᵥ (H.mulVec (E.mulVec φ)) :=
  local_update_conserves_energy _ H hH t φ

/-- **Canonical form: the norm of the represented state is the norm of the centre tensor** (matrix form). -/
theorem centre_norm_eq_full_norm_of_canonical (dim : L → Nat) (pr : L → L)
    (hinj : Function.Injective pr) (hdim : ∀ l, dim (pr l) = dim l) (k : Kids L ℂ)
    (hc : k.Canon dim) (hnd : k.labels.Nodup) (hk : k.IsConj pr)
    (P : Type) [Fintype P] [DecidableEq P] (φ : Idx dim k.ups × P → ℂ) :
    star ((siteEmbedding dim k P).mulVec φ) ⬝ᵥ ((siteEmbedding dim k P).mulVec φ) = star φ ⬝ᵥ φ :=
  Ptn.Analysis.isometry_norm _
    (siteEmbedding_isometry dim k hc hnd (envMatrixC_eq_conj dim pr hinj hdim k hc hnd hk) P) φ

/-- a Hermitian matrix on the space of the open legs of A, B, A2 of the demo network times an arbitrary `P`, here of
dimension 3 -/
example : ((1 : Matrix (Idx Demo.dim Demo.kids.physAll × Fin 3) (Idx Demo.dim Demo.kids.physAll × Fin 3) ℂ)).conjTranspose
    = 1 := Matrix.conjTranspose_one

end value

/-! ### The state TDVP holds at every local update is canonical at the update site

The gauge machine `Ptn.C06.Gauge` (`GaugeModel.lean`) runs the events of a whole time step - the sequences
`eventsFirst` / `eventsSecond` / `eventsTwoSite` of the C05 discipline machine, which are tied to the code by
C05 - on the C03 gauge record: `move` / `hop` / `link` / `two a b` record the QR (SVD) split of `a` toward `b`
(`a` then points to `b`, `b` loses its record), `site` keeps the record.  `CanonAt t dir c`: `c` has no record and
every other node points to the first node on its way to `c`. -/

section gauge
open Ptn.C17 Ptn.C17.RTree Ptn.C05.Disc Ptn.C06.Gauge

/-- **At every event of a whole time step the record is canonical where the event happens** - all three
schemes, every well-formed tree.  Started canonical at the first node `s` of the sweep:
* before a site update `site v` the record is canonical at `v`;
* before a link update `link a b` it is canonical at `a`, `a` and `b` are neighbours, and WHILE the link tensor is
  evolved (after the QR split of `a`, before the contraction into `b`) it is canonical at the link: every node,
  `a` and `b` included, points toward the link;
* before a two-site update `two a b` it is canonical at `a`, and while the merged tensor is evolved it is
  canonical at the pair: every node other than `a`, `b` points to its first hop toward `a` = toward `b`;
* every QR of a centre move (`move`, `hop`) splits the current centre toward a neighbour;
* after the step the record is canonical at `s` again and the machine's centre is `s`. -/
theorem tdvp_site_update_canonical (t : RTree) (hwf : t.WF) (sch : Scheme) (hdef : sch.Defined t) :
    ∃ u s evs, updatePath t = some u ∧ u.head? = some s ∧ sch.events t = some evs ∧
      ∀ dir : Rec, CanonAt t dir s →
        (∀ p v q, evs = p ++ .site v :: q →
          (grun ⟨s, dir⟩ p).centre = v ∧ CanonAt t (grun ⟨s, dir⟩ p).dir v) ∧
        (∀ p a b q, evs = p ++ .link a b :: q →
          (grun ⟨s, dir⟩ p).centre = a ∧ Adj t a b ∧ CanonAt t (grun ⟨s, dir⟩ p).dir a ∧
          CanonLink t (during (grun ⟨s, dir⟩ p).dir (.link a b)) a b) ∧
        (∀ p a b q, evs = p ++ .two a b :: q →
          (grun ⟨s, dir⟩ p).centre = a ∧ Adj t a b ∧ CanonAt t (grun ⟨s, dir⟩ p).dir a ∧
          CanonPair t (during (grun ⟨s, dir⟩ p).dir (.two a b)) a b) ∧
        (∀ p a b q, evs = p ++ .move a b :: q ∨ evs = p ++ .hop a b :: q →
          (grun ⟨s, dir⟩ p).centre = a ∧ Adj t a b ∧ CanonAt t (grun ⟨s, dir⟩ p).dir a) ∧
        CanonAt t (grun ⟨s, dir⟩ evs).dir s ∧ (grun ⟨s, dir⟩ evs).centre = s := by
  obtain ⟨u, s, evs, hu, hs, _, hev, hw⟩ := scheme_walk t hwf sch hdef
  refine ⟨u, s, evs, hu, hs, hev, ?_⟩
  intro dir hc
  obtain ⟨hgood, hfin, hcen⟩ := goodRun_of_walk hwf evs ⟨s, dir⟩ s hw hc
  refine ⟨?_, ?_, ?_, ?_, hfin, hcen⟩
  · intro p v q h
    obtain ⟨hp, hcan, _⟩ := goodRun_split hgood p _ q h
    have hcv := (gpre_spec hp).1
    exact ⟨hcv, hcv ▸ hcan⟩
  · intro p a b q h
    obtain ⟨hp, hcan, hl⟩ := goodRun_split hgood p _ q h
    obtain ⟨hca, hab⟩ := gpre_spec hp
    exact ⟨hca, hab, hca ▸ hcan, hl⟩
  · intro p a b q h
    obtain ⟨hp, hcan, hl⟩ := goodRun_split hgood p _ q h
    obtain ⟨hca, hab⟩ := gpre_spec hp
    exact ⟨hca, hab, hca ▸ hcan, hl⟩
  · intro p a b q h
    rcases h with h | h
    · obtain ⟨hp, hcan, _⟩ := goodRun_split hgood p _ q h
      obtain ⟨hca, hab⟩ := gpre_spec hp
      exact ⟨hca, hab, hca ▸ hcan⟩
    · obtain ⟨hp, hcan, _⟩ := goodRun_split hgood p _ q h
      obtain ⟨hca, hab⟩ := gpre_spec hp
      exact ⟨hca, hab, hca ▸ hcan⟩

/-- **The invariant over the life of the algorithm object.**  The constructor leaves a record canonical at the
first node `s` of the sweep - by `canonical_form(s)` on a state without centre (C03 `canon_gauge_tree`:
`canonRec`), or by `move_orthogonalization_center(s)` from a state canonical at any node `c0` (QR hops along the
way from `c0` to `s`) - and from a record canonical at `s` ANY number `k` of time steps keeps every event `Good`
(centre where the event starts, canonical there, canonical at the link / pair during link and two-site
updates) and ends canonical at `s`. -/
theorem tdvp_gauge_invariant (t : RTree) (hwf : t.WF) (sch : Scheme) (hdef : sch.Defined t) :
    ∃ u s evs, updatePath t = some u ∧ u.head? = some s ∧ sch.events t = some evs ∧
      (∃ ops dir0, canonRec t s = some (ops, dir0) ∧ CanonAt t dir0 s) ∧
      (∀ c0 ∈ ids t, ∀ dir : Rec, CanonAt t dir c0 → ∃ p, pathFromTo t c0 s = some p ∧
        GoodRun t ⟨c0, dir⟩ (hopsAlong p) ∧
        CanonAt t (grun ⟨c0, dir⟩ (hopsAlong p)).dir s ∧ (grun ⟨c0, dir⟩ (hopsAlong p)).centre = s) ∧
      ∀ dir : Rec, CanonAt t dir s → ∀ k : Nat,
        GoodRun t ⟨s, dir⟩ (List.replicate k evs).flatten ∧
        CanonAt t (grun ⟨s, dir⟩ (List.replicate k evs).flatten).dir s ∧
        (grun ⟨s, dir⟩ (List.replicate k evs).flatten).centre = s := by
  obtain ⟨u, s, evs, hu, hs, hsm, hev, hw⟩ := scheme_walk t hwf sch hdef
  refine ⟨u, s, evs, hu, hs, hev, canonRec_canon t hwf s hsm, ?_, ?_⟩
  · intro c0 hc0 dir hc
    obtain ⟨p, hp, hwp⟩ := walk_path_hops hwf hc0 hsm
    exact ⟨p, hp, goodRun_of_walk hwf _ ⟨c0, dir⟩ s hwp hc⟩
  · intro dir hc k
    exact goodRun_of_walk hwf _ ⟨s, dir⟩ s (walk_replicate hw k) hc

/-- **The STATE is canonical at every update** - the record read as a statement about the tensors, with the
contracts of the external factorisations as explicit hypotheses.  `α`: tensors, `iso A m`: "`A` is an isometry
toward the neighbour `m`"; `TRun iso T0 p T`: the tensors `T` after the events `p`, where an event may replace
ANY tensors it writes (`site v`: the tensor of `v`; a split of `a` toward `b`: those of `a` and `b`) subject only
to the QR / SVD contract that the factor left at `a` is an isometry toward `b` (`Writes`).  Started with a record
canonical at `s` that is true of the tensors (`Sound`), over any number `k` of time steps: before every event the
tensor of every node other than the machine's centre - which is where the event starts - is an isometry toward
the first node on its way to the centre; during a link update (tensors `T1` after the split of `a`) every
tensor is an isometry toward the link; during a two-site update every tensor other than the two merged ones is
an isometry toward the pair. -/
theorem tdvp_site_update_isometric {α : Type} (iso : α → Nat → Prop) (t : RTree) (hwf : t.WF)
    (sch : Scheme) (hdef : sch.Defined t) :
    ∃ u s evs, updatePath t = some u ∧ u.head? = some s ∧ sch.events t = some evs ∧
      ∀ (dir : Rec) (T0 : Nat → α), CanonAt t dir s → Sound iso dir T0 →
      ∀ (k : Nat) (p q : List DEv) (e : DEv) (T : Nat → α),
        (List.replicate k evs).flatten = p ++ e :: q → TRun iso T0 p T →
        gpre t (grun ⟨s, dir⟩ p).centre e = true ∧
        IsoCanonAt iso t T (grun ⟨s, dir⟩ p).centre ∧
        (∀ a b, e = .link a b → ∀ T1 : Nat → α, (∀ n, n ≠ a → T1 n = T n) → iso (T1 a) b →
          IsoCanonLink iso t T1 a b) ∧
        (∀ a b, e = .two a b → IsoCanonPair iso t T a b) := by
  obtain ⟨u, s, evs, hu, hs, _, hev, hw⟩ := scheme_walk t hwf sch hdef
  refine ⟨u, s, evs, hu, hs, hev, ?_⟩
  intro dir T0 hc hsd k p q e T hsplit hr
  have hg := (goodRun_of_walk hwf _ ⟨s, dir⟩ s (walk_replicate hw k) hc).1
  rw [hsplit] at hg
  obtain ⟨hp, hiso⟩ := state_canonical_at_event hg hsd hr
  refine ⟨hp, hiso, ?_, ?_⟩
  · intro a b he T1 hk hi
    subst he
    obtain ⟨hca, hab⟩ := gpre_spec hp
    exact isoCanonLink_of_split hwf hab (hca ▸ hiso) hk hi
  · intro a b he
    subst he
    obtain ⟨hca, hab⟩ := gpre_spec hp
    exact isoCanonPair_of_at hwf hab (hca ▸ hiso)

/-! Non-vacuity: the 8-node tree of the C17 examples (root 0 with the branches 1-(3,4), 2, 5-6-7); the sweep
starts at node 7. -/

example : exTree.WF ∧ Scheme.Defined exTree .first ∧ Scheme.Defined exTree .second ∧
    Scheme.Defined exTree .twoSite := by
  refine ⟨by decide +kernel, trivial, ?_, ?_⟩ <;> (show exTree.kids ≠ []; decide)

/-- the record after `canonical_form(7)` is canonical at 7 (executable form), the machine checks every event of
one first-order, one second-order and one two-site step, and ends canonical at 7 -/
example : (canonRec exTree 7).map (fun r => showRec exTree r.2) = some "0>5 1>0 3>1 4>1 2>0 5>6 6>7 7>-" := by
  decide +kernel
example : ((canonRec exTree 7).bind fun r => (eventsSecond exTree).map fun evs =>
    canonAtB exTree r.2 7 && allGoodB exTree ⟨7, r.2⟩ evs &&
      canonAtB exTree (grun ⟨7, r.2⟩ evs).dir 7) = some true := by decide +kernel
example : ((canonRec exTree 7).bind fun r => (eventsTwoSite exTree).map fun evs =>
    allGoodB exTree ⟨7, r.2⟩ evs && canonAtB exTree (grun ⟨7, r.2⟩ evs).dir 7) = some true := by decide +kernel
example : ((canonRec exTree 7).bind fun r => (eventsFirst exTree).map fun evs =>
    allGoodB exTree ⟨7, r.2⟩ evs && canonAtB exTree (grun ⟨7, r.2⟩ evs).dir 7) = some true := by decide +kernel
/-- the splits of one second-order step begin with the link update 7 -> 6 -/
example : (eventsSecond exTree).map (fun evs => (opsOf evs).take 3) =
    some [⟨.qr, 7, 6⟩, ⟨.qr, 6, 5⟩, ⟨.qr, 5, 0⟩] := by decide +kernel

/-- the tensor-level hypotheses are satisfiable: tensors abstracted to "the neighbour I am an isometry toward"
(`α = Option Nat`, `iso A m := A = some m`), the record itself as the tensor state, the first two events of a
step -/
example : ∃ dir : Rec, CanonAt exTree dir 7 ∧ Sound (fun (A : Option Nat) m => A = some m) dir dir ∧
    TRun (fun (A : Option Nat) m => A = some m) dir [.site 7, .link 7 6]
      (Ptn.C03.applyOp dir ⟨7, 6⟩) := by
  obtain ⟨ops, dir, _, hc⟩ := canonRec_canon exTree (by decide) 7 (by decide)
  refine ⟨dir, hc, fun _ _ h => h, ?_⟩
  refine TRun.cons (T1 := dir) (fun _ _ => rfl) (TRun.cons ⟨?_, ?_⟩ (TRun.nil _))
  · exact fun n h1 h2 => applyOp_other dir h1 h2
  · exact applyOp_node dir 7 6

end gauge


/-! ### From the gauge record to `Kids.Canon` at every site update (value level)

The events of a time step are run on a VALUED network (`Ptn.C03.VNet`: per node its legs and its tensor as a function
of index assignments, bonds, any commutative semiring): `VStep` / `VRun` (`SiteCanon.lean`) - a centre move is one
`Ptn.C03.IsoStep` (QR contract: factorisation, `Q` an isometry in index form toward the fresh bond, one dimension
for the fresh bond - hypotheses per call), a site update replaces the tensor of the site by ANY tensor on the same
legs, a link update is the split of `a` toward `b` followed by the replacement of the tensor of `b` (which has
absorbed the evolved link tensor) by any tensor on its legs.  No canonical-form hypothesis on any intermediate
state: only the initial network is assumed to satisfy its record. -/
section siteCanon
open Ptn.Ein Ptn.C17 Ptn.C17.RTree Ptn.C05.Disc Ptn.C06.Gauge Ptn.C03

/-- **Before EVERY event of a time step (site, link and two-site updates, centre moves) the doubled tree around the
node the event starts from is canonical in index form**, all three schemes.  `c` is the machine's centre before the
event `e`: `e` starts there (`gpre`); the other conclusions are spelled out in words at its case `e = site v`,
`tdvp_update_site_kids_canon` below. -/
theorem tdvp_event_centre_kids_canon {R : Type} [CommSemiring R] (dim : Nat → Nat) (cj : R → R)
    (t : RTree) (hwf : t.WF) (sch : Scheme) (hdef : sch.Defined t) :
    ∃ u s evs, updatePath t = some u ∧ u.head? = some s ∧ sch.events t = some evs ∧
      ∀ (dir : Rec) (N0 : VNet R), CanonAt t dir s → N0.WF → BondDims dim N0 → (∀ n ∈ ids t, n ∈ N0.ids) →
        GaugeInv dim cj N0 dir →
      ∀ (k : Nat) (p q : List DEv) (e : DEv) (N : VNet R),
        (List.replicate k evs).flatten = p ++ e :: q → VRun dim cj N0 p N →
        gpre t (grun ⟨s, dir⟩ p).centre e = true ∧ N.WF ∧ N.ids = N0.ids ∧
        ∃ r : RTree, reroot (grun ⟨s, dir⟩ p).centre [] t = some r ∧ r.rid = (grun ⟨s, dir⟩ p).centre ∧
          (ids r).Perm (ids t) ∧
          ∃ up dn : Nat → Nat, (∀ e ∈ edges r, EdgeOK dim cj N up dn e.1 e.2) ∧
            (kidsOf cj N up dn r.kids).Canon (ddim dim) ∧ (centreOf cj N up dn r).Canon (ddim dim) ∧
            (centreOf cj N up dn r).labels.Nodup ∧
            ((centreOf cj N up dn r).phys ++ (kidsOf cj N up dn r.kids).pairs).Perm
              ((N.legs (grun ⟨s, dir⟩ p).centre).map dbl) ∧
            ∀ σ, netValue (ddim dim) (centreOf cj N up dn r).normBinds ((ids t).flatMap (nodeLeaves cj N)) σ =
              netValue (ddim dim) ((N.legs (grun ⟨s, dir⟩ p).centre).map dbl)
                [ketT (N.tens (grun ⟨s, dir⟩ p).centre), braT cj (N.tens (grun ⟨s, dir⟩ p).centre)] σ := by
  obtain ⟨u, s, evs, hu, hs, _, hev, hw⟩ := scheme_walk t hwf sch hdef
  refine ⟨u, s, evs, hu, hs, hev, ?_⟩
  intro dir N0 hc hwf0 hbd hids hinv k p q e N hsplit hr
  have hg := (goodRun_of_walk hwf _ ⟨s, dir⟩ s (walk_replicate hw k) hc).1
  rw [hsplit] at hg
  obtain ⟨hpre, hcan, hI⟩ := net_canonical_at_event (ids0 := N0.ids) hg ⟨hwf0, hbd, rfl, hinv⟩ hr
  have hv' := gpre_centre_mem hpre
  have hI' : VInv dim cj N.ids N (grun ⟨s, dir⟩ p).dir := ⟨hI.wf, hI.bd, rfl, hI.inv⟩
  obtain ⟨r, hr1, hr2, hr3, up, dn, h1, h2, h3, h4, h5, h6⟩ :=
    site_canon_of_record dim cj hwf hv' hcan hI' (fun n hn => hI.ids ▸ hids n hn)
  exact ⟨hpre, hI.wf, hI.ids, r, hr1, hr2, hr3, up, dn, h1, h2, h3, h4, h5, h6⟩

/-- **At every site update of a time step the doubled tree around the update site is canonical in index form.**
Every well-formed tree `t`, each scheme, `k` time steps, `dim` any dimensions, any commutative semiring and conjugation.  Start: a
well-formed valued network `N0` containing the nodes of `t` whose bonds have one dimension, with a record `dir`
canonical at the first node `s` of the sweep and true of `N0` (`GaugeInv`: every recorded node is an isometry in
index form toward the bond to the recorded neighbour - what `canonical_form_isometric_tree` of C03 proves after
the constructor).  Then for EVERY site-update event `site v` of the `k` steps and every value-level run `N` of the
events before it: `N` is well-formed with the nodes of `N0`; the tree `r` = `t` re-rooted at `v` exists; there are
bond ends `up`, `dn` such that every edge of `r` satisfies `EdgeOK` (the bond exists in `N`, has one dimension, the
child's tensor is an isometry toward it); the doubled tree around `v` satisfies `Kids.Canon` and `Centre.Canon`,
its labels are pairwise distinct, its centre legs are the legs of `v`; and the norm network of `N` along `r` has
the value of the tensor of `v` alone. -/
theorem tdvp_update_site_kids_canon {R : Type} [CommSemiring R] (dim : Nat → Nat) (cj : R → R)
    (t : RTree) (hwf : t.WF) (sch : Scheme) (hdef : sch.Defined t) :
    ∃ u s evs, updatePath t = some u ∧ u.head? = some s ∧ sch.events t = some evs ∧
      ∀ (dir : Rec) (N0 : VNet R), CanonAt t dir s → N0.WF → BondDims dim N0 → (∀ n ∈ ids t, n ∈ N0.ids) →
        GaugeInv dim cj N0 dir →
      ∀ (k : Nat) (p q : List DEv) (v : Nat) (N : VNet R),
        (List.replicate k evs).flatten = p ++ DEv.site v :: q → VRun dim cj N0 p N →
        N.WF ∧ N.ids = N0.ids ∧ v ∈ ids t ∧
        ∃ r : RTree, reroot v [] t = some r ∧ r.rid = v ∧ (ids r).Perm (ids t) ∧
          ∃ up dn : Nat → Nat, (∀ e ∈ edges r, EdgeOK dim cj N up dn e.1 e.2) ∧
            (kidsOf cj N up dn r.kids).Canon (ddim dim) ∧ (centreOf cj N up dn r).Canon (ddim dim) ∧
            (centreOf cj N up dn r).labels.Nodup ∧
            ((centreOf cj N up dn r).phys ++ (kidsOf cj N up dn r.kids).pairs).Perm ((N.legs v).map dbl) ∧
            ∀ σ, netValue (ddim dim) (centreOf cj N up dn r).normBinds ((ids t).flatMap (nodeLeaves cj N)) σ =
              netValue (ddim dim) ((N.legs v).map dbl) [ketT (N.tens v), braT cj (N.tens v)] σ := by
  obtain ⟨u, s, evs, hu, hs, hev, hall⟩ := tdvp_event_centre_kids_canon dim cj t hwf sch hdef
  refine ⟨u, s, evs, hu, hs, hev, ?_⟩
  intro dir N0 hc hwf0 hbd hids hinv k p q v N hsplit hr
  obtain ⟨hpre, hNwf, hNids, h⟩ := hall dir N0 hc hwf0 hbd hids hinv k p q (.site v) N hsplit hr
  obtain ⟨hcv, hv⟩ := gpre_spec hpre
  rw [hcv] at h
  exact ⟨hNwf, hNids, hv, h⟩

open Matrix NormedSpace in
/-- **Every one-site update of a TDVP time step conserves the norm** - no canonical-form hypothesis other than the
per-QR contracts of the run (`VRun`: each split's `Q` is an isometry toward the fresh bond) and the truth of the
record of the INITIAL network.  Over the complex numbers with conjugation `star`: before every event `site v` the
doubled tree `kidsOf star N up dn r.kids` around `v` (`r` = `t` re-rooted at `v`) is built from the current network
`N`, the embedding `E = siteEmbedding … = envMatrix ⊗ 1_P` is BUILT from it (`P`: the open legs of `v`), and for every
Hermitian `H` the update `φ ↦ exp(-i τ EᴴHE) φ` conserves `|Eφ|²`
(`tdvp_update_site_kids_canon` + `subOf_isConj` + `one_site_update_conserves_norm_of_canonical`). -/
theorem tdvp_one_site_update_conserves_norm (dim : Nat → Nat) (t : RTree) (hwf : t.WF) (sch : Scheme)
    (hdef : sch.Defined t) :
    ∃ u s evs, updatePath t = some u ∧ u.head? = some s ∧ sch.events t = some evs ∧
      ∀ (dir : Rec) (N0 : VNet ℂ), CanonAt t dir s → N0.WF → BondDims dim N0 → (∀ n ∈ ids t, n ∈ N0.ids) →
        GaugeInv dim (star : ℂ → ℂ) N0 dir →
      ∀ (k : Nat) (p q : List DEv) (v : Nat) (N : VNet ℂ),
        (List.replicate k evs).flatten = p ++ DEv.site v :: q → VRun dim (star : ℂ → ℂ) N0 p N →
        ∃ r : RTree, reroot v [] t = some r ∧ r.rid = v ∧
          ∃ up dn : Nat → Nat, (∀ e ∈ edges r, EdgeOK dim (star : ℂ → ℂ) N up dn e.1 e.2) ∧
            ∀ (P : Type) [Fintype P] [DecidableEq P]
              (H : Matrix (Idx (ddim dim) (kidsOf (star : ℂ → ℂ) N up dn r.kids).physAll × P)
                (Idx (ddim dim) (kidsOf (star : ℂ → ℂ) N up dn r.kids).physAll × P) ℂ),
              H.conjTranspose = H → ∀ (τ : ℝ)
              (φ : Idx (ddim dim) (kidsOf (star : ℂ → ℂ) N up dn r.kids).ups × P → ℂ),
              let E := siteEmbedding (ddim dim) (kidsOf (star : ℂ → ℂ) N up dn r.kids) P
              star (E.mulVec ((exp ((-Complex.I * (τ : ℂ)) • (E.conjTranspose * H * E))).mulVec φ)) ⬝ᵥ
                  (E.mulVec ((exp ((-Complex.I * (τ : ℂ)) • (E.conjTranspose * H * E))).mulVec φ))
                = star (E.mulVec φ) ⬝ᵥ (E.mulVec φ) := by
  obtain ⟨u, s, evs, hu, hs, hev, hall⟩ := tdvp_update_site_kids_canon dim (star : ℂ → ℂ) t hwf sch hdef
  refine ⟨u, s, evs, hu, hs, hev, ?_⟩
  intro dir N0 hc hwf0 hbd hids hinv k p q v N hsplit hr
  obtain ⟨_, _, _, r, hr1, hr2, _, up, dn, hE, hK, _, hL, _, _⟩ :=
    hall dir N0 hc hwf0 hbd hids hinv k p q v N hsplit hr
  refine ⟨r, hr1, hr2, up, dn, hE, ?_⟩
  intro P _ _ H hH τ φ
  exact one_site_update_conserves_norm_of_canonical (ddim dim) dswap dswap_injective (ddim_dswap dim)
    _ hK (Centre.kids_labels_nodup hL) ((subOf_isConj N up dn).2 r.kids) P H hH τ φ

/-- the integer network `Ptn.C03.isoNet'` (node 0 is the `Q` factor of a QR move toward node 1) with the record `0 > 1`,
`1 > -` satisfies the hypotheses on the initial network -/
theorem isoNet'_init : isoNet'.WF ∧ BondDims demoDim isoNet' ∧
    GaugeInv demoDim id isoNet' (applyOps (fun _ => none) [⟨0, 1⟩]) := by
  obtain ⟨h1, h2, _, h4, _⟩ := run_isometric demoDim id isoNet_wf isoNet_run (fun _ => none)
    (gaugeInv_none _ _ _)
  refine ⟨h2, h4 ?_, h1⟩
  intro p hp
  cases List.mem_singleton.1 hp
  rfl

/-- a value-level site update on `isoNet'`: node 1 receives a tensor that reads its leg 3 -/
theorem isoNet'_site_run :
    VRun demoDim id isoNet' [.site 1] (siteWrite isoNet' 1 (fun σ => (σ 3 : Int) + 7)) := by
  refine VRun.cons (VStep.site _ 1 _ ?_) (VRun.nil _)
  intro σ τ h
  have h3 : σ 3 = τ 3 := h 3 (by decide)
  show (σ 3 : Int) + 7 = (τ 3 : Int) + 7
  rw [h3]

/-! Non-vacuity of the hypotheses of `tdvp_update_site_kids_canon`: the tree `0 → 1` (the sweep starts at node 1),
the integer network `Ptn.C03.isoNet'`, the record `0 > 1`, `1 > -`; the first site update `site 1` of a first-order
step (the other events of the step: `link 1 0`, `site 0`, `hop 0 1`, `init 1`), and a value-level site update on this
network. -/
example :
    let t : RTree := .node 0 [.node 1 []]
    let dir : Rec := applyOps (fun _ => none) [⟨0, 1⟩]
    t.WF ∧ Scheme.Defined t .first ∧ updatePath t = some [1, 0] ∧
    Scheme.events t .first = some [.site 1, .link 1 0, .site 0, .hop 0 1, .init 1] ∧
    CanonAt t dir 1 ∧ isoNet'.WF ∧ BondDims demoDim isoNet' ∧ (∀ n ∈ ids t, n ∈ isoNet'.ids) ∧
    GaugeInv demoDim id isoNet' dir ∧
    (List.replicate 1 [DEv.site 1, .link 1 0, .site 0, .hop 0 1, .init 1]).flatten =
      [] ++ DEv.site 1 :: [.link 1 0, .site 0, .hop 0 1, .init 1] ∧
    VRun demoDim id isoNet' [] isoNet' ∧
    VRun demoDim id isoNet' [.site 1] (siteWrite isoNet' 1 (fun σ => (σ 3 : Int) + 7)) :=
  ⟨by decide, trivial, by decide, by decide, (canonAtB_iff _ _ _).1 (by decide), isoNet'_init.1, isoNet'_init.2.1,
    by decide, isoNet'_init.2.2, rfl, VRun.nil _, isoNet'_site_run⟩

end siteCanon

/-! ### The link update: the move split into its two halves

`qrHalf` (the tensor of `a` becomes `Q`, the `R` factor is the tensor of a NEW node `ℓ` sitting on the edge) and
`absorbHalf` (`ℓ` contracted into `b`), `Link.lean`. -/
section linkHalves
open Ptn.Ein Ptn.C06.Gauge Ptn.C03

/-- **`IsoStep = absorbHalf ∘ qrHalf`, record and value.**  For every move of `Ptn.C03.IsoStep` (hence every
`move` / `hop` / `link` event of `VStep`) on a well-formed network and every unused identifier `ℓ`: there are the
bond `p`, its ends `a`, `b` and the factorisation `F` of the move such that the result is `gaugeStep …`, the
intermediate network `qrHalf …` is well-formed, and contracting `ℓ` into the neighbour gives the same nodes, bonds,
counter, the same legs and tensor at every node, and the same value as the move. -/
theorem link_move_is_absorb_after_qr {R : Type} [CommSemiring R] (dim : Nat → Nat) (cj : R → R) {N N' : VNet R}
    {n m ℓ : Nat} (h : N.WF) (hs : IsoStep dim cj N ⟨n, m⟩ N') (hℓ : ℓ ∉ N.ids) :
    ∃ (p : Nat × Nat) (a b : Nat) (F : QRFact dim (N.tens n) (N.legs n) a N.next (N.next + 1)),
      N.Joined n m p a b ∧ N' = gaugeStep dim N n m p a b F ∧ (qrHalf dim N n ℓ a F).WF ∧
      (absorbHalf dim (qrHalf dim N n ℓ a F) ℓ m p b (N.next + 1)).ids = N'.ids ∧
      (absorbHalf dim (qrHalf dim N n ℓ a F) ℓ m p b (N.next + 1)).bonds = N'.bonds ∧
      (absorbHalf dim (qrHalf dim N n ℓ a F) ℓ m p b (N.next + 1)).next = N'.next ∧
      (∀ k ∈ N.ids, (absorbHalf dim (qrHalf dim N n ℓ a F) ℓ m p b (N.next + 1)).legs k = N'.legs k ∧
        (absorbHalf dim (qrHalf dim N n ℓ a F) ℓ m p b (N.next + 1)).tens k = N'.tens k) ∧
      ∀ σ, (absorbHalf dim (qrHalf dim N n ℓ a F) ℓ m p b (N.next + 1)).value dim σ = N'.value dim σ := by
  cases hs with
  | mk _ _ p a b hn hm hnm hj F hiso hdim =>
    obtain ⟨h1, h2, h3, h4⟩ := absorbHalf_qrHalf dim N (ℓ := ℓ) (b := b) F hn hm hnm hℓ hj.1
    exact ⟨p, a, b, F, hj, rfl, qrHalf_wf h hn hℓ hj.2.2.1, h1, h2, h3, h4,
      fun σ => absorbHalf_qrHalf_value dim N F hn hm hnm hℓ hj.1 σ⟩

/-- non-vacuity: the move `0 → 1` on the integer network `Ptn.C03.isoNet`, link identifier 2 -/
example : isoNet.WF ∧ IsoStep demoDim id isoNet ⟨0, 1⟩ isoNet' ∧ 2 ∉ isoNet.ids :=
  ⟨isoNet_wf, by cases isoNet_run with | cons hs hr => cases hr; exact hs, by simp [isoNet]⟩

end linkHalves

/-! ### The link update: canonical form around the link tensor

The network DURING `link a b` (`qrHalf …`: the `R` factor is the tensor of the new node `ℓ`) is canonical around
`ℓ`, for every time step, every tree, every value-level run of the events before (`LinkCanon.lean`). -/
section linkCanon
open Ptn.Ein Ptn.C17 Ptn.C17.RTree Ptn.C05.Disc Ptn.C06.Gauge Ptn.C03

/-- **During every link update the state is canonical around the link tensor.**  Every well-formed tree, every
scheme, `k` steps; hypotheses on the INITIAL network only (as in `tdvp_event_centre_kids_canon`).  Before every
event `link a b`, for every value-level run of the events before it: the tree re-rooted at `a` is
`node a (k1 ++ node b kb :: k2)`, with bond ends `up`, `dn` satisfying `EdgeOK` on every edge; and for EVERY unused
identifier `ℓ` and EVERY factorisation `F` of the tensor of `a` along its leg `dn b` toward `b` whose `Q` is an
isometry toward the fresh bond of one dimension (the QR contract): the intermediate network `M = qrHalf …` is
well-formed, the tree `r' = node ℓ [node a (k1 ++ k2), node b kb]` has the nodes of the old tree and `ℓ`, every edge
of `r'` satisfies `EdgeOK` in `M`, the doubled sub-trees of the two neighbours of the link tensor are canonical
(`Kids.Canon`), the norm network around `ℓ` is `Centre.Canon` with distinct labels, and the legs of the centre are
the two legs of `R`. -/
theorem tdvp_link_update_kids_canon {R : Type} [CommSemiring R] (dim : Nat → Nat) (cj : R → R)
    (t : RTree) (hwf : t.WF) (sch : Scheme) (hdef : sch.Defined t) :
    ∃ u s evs, updatePath t = some u ∧ u.head? = some s ∧ sch.events t = some evs ∧
      ∀ (dir : Rec) (N0 : VNet R), CanonAt t dir s → N0.WF → BondDims dim N0 → (∀ n ∈ ids t, n ∈ N0.ids) →
        GaugeInv dim cj N0 dir →
      ∀ (k : Nat) (p q : List DEv) (a b : Nat) (N : VNet R),
        (List.replicate k evs).flatten = p ++ DEv.link a b :: q → VRun dim cj N0 p N →
        N.WF ∧ N.ids = N0.ids ∧ Adj t a b ∧
        ∃ (k1 kb k2 : List RTree), reroot a [] t = some (RTree.node a (k1 ++ RTree.node b kb :: k2)) ∧
          ∃ up dn : Nat → Nat,
            (∀ e ∈ edges (RTree.node a (k1 ++ RTree.node b kb :: k2)), EdgeOK dim cj N up dn e.1 e.2) ∧
            ∀ (ℓ : Nat), ℓ ∉ N.ids → ∀ (F : QRFact dim (N.tens a) (N.legs a) (dn b) N.next (N.next + 1)),
              IsoToward dim cj F.Q (N.next :: (N.legs a).erase (dn b)) N.next → dim (N.next + 1) = dim N.next →
              let M := qrHalf dim N a ℓ (dn b) F
              let r' := linkTree ℓ a b k1 k2 kb
              M.WF ∧ (ids r').Nodup ∧ (ids r').Perm (ℓ :: ids (RTree.node a (k1 ++ RTree.node b kb :: k2))) ∧
              (∀ e ∈ edges r', EdgeOK dim cj M (linkUp N up a) (linkDn N dn a) e.1 e.2) ∧
              (kidsOf cj M (linkUp N up a) (linkDn N dn a) r'.kids).Canon (ddim dim) ∧
              (centreOf cj M (linkUp N up a) (linkDn N dn a) r').Canon (ddim dim) ∧
              (centreOf cj M (linkUp N up a) (linkDn N dn a) r').labels.Nodup ∧
              ((centreOf cj M (linkUp N up a) (linkDn N dn a) r').phys ++
                (kidsOf cj M (linkUp N up a) (linkDn N dn a) r'.kids).pairs).Perm
                  ([N.next + 1, dn b].map dbl) := by
  obtain ⟨u, s, evs, hu, hs, hev, hall⟩ := tdvp_event_centre_kids_canon dim cj t hwf sch hdef
  refine ⟨u, s, evs, hu, hs, hev, ?_⟩
  intro dir N0 hc hwf0 hbd hids hinv k p q a b N hsplit hr
  obtain ⟨hpre, hNwf, hNids, r, hr1, hr2, hr3, up, dn, hE, _⟩ :=
    hall dir N0 hc hwf0 hbd hids hinv k p q (DEv.link a b) N hsplit hr
  obtain ⟨hca, hab⟩ := gpre_spec hpre
  rw [hca] at hr1 hr2
  obtain ⟨hrwf, _, k1, kb, k2, hk⟩ := Ptn.C07.reroot_adj_child hwf hab hr1
  obtain ⟨c, ks⟩ := r
  simp only [rid] at hr2
  simp only [kids] at hk
  subst hr2
  subst hk
  refine ⟨hNwf, hNids, hab, k1, kb, k2, hr1, up, dn, hE, ?_⟩
  intro ℓ hℓ F hiso hdim
  have hsub : ∀ n ∈ ids (RTree.node c (k1 ++ RTree.node b kb :: k2)), n ∈ N.ids :=
    fun n hn => hNids ▸ hids n (hr3.subset hn)
  exact link_kids_canon dim cj hNwf hrwf hsub hℓ hE F hiso hdim

open Matrix NormedSpace in
/-- **Every link update of a TDVP time step conserves the norm.**  Over the complex numbers with conjugation
`star`, under the hypotheses of `tdvp_link_update_kids_canon`: during every event `link a b` the embedding
`E = siteEmbedding …` BUILT from the doubled sub-trees of the two neighbours of the link tensor in the intermediate
network satisfies, for every Hermitian `H` and every `τ` (the link update runs backward in time: `τ < 0`), that
`φ ↦ exp(-i τ EᴴHE) φ` conserves `|Eφ|²`.  `P` is the space of the open legs of the centre; the link tensor has none
(`P = PUnit`), the statement holds for every `P`. -/
theorem tdvp_link_update_conserves_norm (dim : Nat → Nat) (t : RTree) (hwf : t.WF) (sch : Scheme)
    (hdef : sch.Defined t) :
    ∃ u s evs, updatePath t = some u ∧ u.head? = some s ∧ sch.events t = some evs ∧
      ∀ (dir : Rec) (N0 : VNet ℂ), CanonAt t dir s → N0.WF → BondDims dim N0 → (∀ n ∈ ids t, n ∈ N0.ids) →
        GaugeInv dim (star : ℂ → ℂ) N0 dir →
      ∀ (k : Nat) (p q : List DEv) (a b : Nat) (N : VNet ℂ),
        (List.replicate k evs).flatten = p ++ DEv.link a b :: q → VRun dim (star : ℂ → ℂ) N0 p N →
        ∃ (k1 kb k2 : List RTree), reroot a [] t = some (RTree.node a (k1 ++ RTree.node b kb :: k2)) ∧
          ∃ up dn : Nat → Nat,
            (∀ e ∈ edges (RTree.node a (k1 ++ RTree.node b kb :: k2)),
              EdgeOK dim (star : ℂ → ℂ) N up dn e.1 e.2) ∧
            ∀ (ℓ : Nat), ℓ ∉ N.ids → ∀ (F : QRFact dim (N.tens a) (N.legs a) (dn b) N.next (N.next + 1)),
              IsoToward dim (star : ℂ → ℂ) F.Q (N.next :: (N.legs a).erase (dn b)) N.next →
              dim (N.next + 1) = dim N.next →
              let K := kidsOf (star : ℂ → ℂ) (qrHalf dim N a ℓ (dn b) F) (linkUp N up a) (linkDn N dn a)
                (linkTree ℓ a b k1 k2 kb).kids
              ∀ (P : Type) [Fintype P] [DecidableEq P]
                (H : Matrix (Idx (ddim dim) K.physAll × P) (Idx (ddim dim) K.physAll × P) ℂ),
                H.conjTranspose = H → ∀ (τ : ℝ) (φ : Idx (ddim dim) K.ups × P → ℂ),
                let E := siteEmbedding (ddim dim) K P
                star (E.mulVec ((exp ((-Complex.I * (τ : ℂ)) • (E.conjTranspose * H * E))).mulVec φ)) ⬝ᵥ
                    (E.mulVec ((exp ((-Complex.I * (τ : ℂ)) • (E.conjTranspose * H * E))).mulVec φ))
                  = star (E.mulVec φ) ⬝ᵥ (E.mulVec φ) := by
  obtain ⟨u, s, evs, hu, hs, hev, hall⟩ := tdvp_link_update_kids_canon dim (star : ℂ → ℂ) t hwf sch hdef
  refine ⟨u, s, evs, hu, hs, hev, ?_⟩
  intro dir N0 hc hwf0 hbd hids hinv k p q a b N hsplit hr
  obtain ⟨_, _, _, k1, kb, k2, hr1, up, dn, hE, hlink⟩ := hall dir N0 hc hwf0 hbd hids hinv k p q a b N hsplit hr
  refine ⟨k1, kb, k2, hr1, up, dn, hE, ?_⟩
  intro ℓ hℓ F hiso hdim K P _ _ H hH τ φ
  obtain ⟨_, _, _, _, hK, _, hL, _⟩ := hlink ℓ hℓ F hiso hdim
  exact one_site_update_conserves_norm_of_canonical (ddim dim) dswap dswap_injective (ddim_dswap dim)
    K hK (Centre.kids_labels_nodup hL) ((subOf_isConj _ _ _).2 _) P H hH τ φ

/-! Non-vacuity of the run hypotheses of `tdvp_link_update_kids_canon` / `tdvp_link_update_conserves_norm`: the tree
`0 → 1`, the integer network `Ptn.C03.isoNet'`, the record `0 > 1`; the event `link 1 0` of a first-order step comes
after `site 1`, and a value-level run of `site 1` exists; the identifier 2 is unused.  (The hypotheses on the initial
network are those of `tdvp_update_site_kids_canon`, see the example there.  An integer factorisation `F` of the
updated tensor of node 1 with an isometric `Q` is NOT exhibited.) -/
example :
    let t : RTree := .node 0 [.node 1 []]
    t.WF ∧ Scheme.events t .first = some [.site 1, .link 1 0, .site 0, .hop 0 1, .init 1] ∧
    (List.replicate 1 [DEv.site 1, .link 1 0, .site 0, .hop 0 1, .init 1]).flatten =
      [DEv.site 1] ++ DEv.link 1 0 :: [.site 0, .hop 0 1, .init 1] ∧
    VRun demoDim id isoNet' [.site 1] (siteWrite isoNet' 1 (fun σ => (σ 3 : Int) + 7)) ∧
    2 ∉ (siteWrite isoNet' 1 (fun σ => (σ 3 : Int) + 7)).ids :=
  ⟨by decide, by decide, rfl, isoNet'_site_run, by decide⟩

end linkCanon

end Ptn.C06
