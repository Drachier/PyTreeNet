import Mathlib.Data.Fintype.BigOperators
import Ptn.Common.EinsumIso
import Ptn.Common.EinsumMap
import Ptn.Common.EinsumRename
import Ptn.Common.AnalysisIso
/-! Value level for C06 / C07: the embedding of the updated tensor is an isometry BECAUSE the state is in
canonical form at the updated site — as a matrix identity, from the index-form theorem
`Ptn.Ein.embedding_isometry_of_canonical`. -/
namespace Ptn.Ein

open Finset

set_option linter.unusedSectionVars false
variable {L : Type} [DecidableEq L] {R : Type} [CommSemiring R]

/-- a tuple of indices, one per pair of the list, each below the dimension of the first leg of its pair -/
def Idx (dim : L → Nat) : List (L × L) → Type
  | [] => Unit
  | p :: ps => Fin (dim p.1) × Idx dim ps

instance Idx.fintype (dim : L → Nat) : ∀ ps : List (L × L), Fintype (Idx dim ps)
  | [] => inferInstanceAs (Fintype Unit)
  | p :: ps => @instFintypeProd (Fin (dim p.1)) (Idx dim ps) _ (Idx.fintype dim ps)

instance Idx.decEq (dim : L → Nat) : ∀ ps : List (L × L), DecidableEq (Idx dim ps)
  | [] => inferInstanceAs (DecidableEq Unit)
  | p :: ps => @instDecidableEqProd (Fin (dim p.1)) (Idx dim ps) _ (Idx.decEq dim ps)

/-- write the tuple `x` on the first legs and the tuple `y` on the second legs of the pairs -/
def decPair (dim : L → Nat) : (ps : List (L × L)) → Idx dim ps → Idx dim ps → Asg L → Asg L
  | [], _, _, σ => σ
  | p :: ps, (i, x), (j, y), σ => decPair dim ps x y (upd (upd σ p.1 i.1) p.2 j.1)

/-- the nested sums of `sumPairs` as one sum over the index tuples -/
theorem sumPairs_eq_sum (dim : L → Nat) (ps : List (L × L)) (f : Asg L → R) (σ : Asg L) :
    sumPairs dim ps f σ = ∑ x : Idx dim ps, f (decPair dim ps x x σ) := by
  induction ps generalizing σ with
  | nil =>
    show f σ = ∑ x : Unit, f σ
    simp
  | cons p ps ih =>
    obtain ⟨a, b⟩ := p
    show sumR (dim a) (fun i => sumPairs dim ps f (upd (upd σ a i) b i)) =
      ∑ x : Fin (dim a) × Idx dim ps, f (decPair dim ps x.2 x.2 (upd (upd σ a x.1.1) b x.1.1))
    rw [sumR_eq, ← Fin.sum_univ_eq_sum_range, Fintype.sum_prod_type]
    apply Finset.sum_congr rfl
    intro i _
    exact ih _

/-- the value at `l` depends on the assignment at `l`, on the first tuple if `l` is a first leg and on the
second tuple if `l` is a second leg -/
theorem decPair_congr (dim : L → Nat) (ps : List (L × L)) (x x' y y' : Idx dim ps) {σ σ' : Asg L} {l : L}
    (h : σ l = σ' l) (hx : l ∈ ps.map Prod.fst → x = x') (hy : l ∈ ps.map Prod.snd → y = y') :
    decPair dim ps x y σ l = decPair dim ps x' y' σ' l := by
  induction ps generalizing σ σ' with
  | nil => exact h
  | cons p ps ih =>
    obtain ⟨i, x⟩ := x; obtain ⟨i', x'⟩ := x'; obtain ⟨j, y⟩ := y; obtain ⟨j', y'⟩ := y'
    simp only [List.map_cons, List.mem_cons] at hx hy
    refine ih x x' y y' ?_ (fun h => (Prod.mk.inj (hx (.inr h))).2) (fun h => (Prod.mk.inj (hy (.inr h))).2)
    unfold upd
    by_cases h2 : l = p.2
    · rw [if_pos h2, if_pos h2, (Prod.mk.inj (hy (.inl h2))).1]
    · rw [if_neg h2, if_neg h2]
      by_cases h1 : l = p.1
      · rw [if_pos h1, if_pos h1, (Prod.mk.inj (hx (.inl h1))).1]
      · rw [if_neg h1, if_neg h1, h]

theorem decPair_not_mem (dim : L → Nat) (ps : List (L × L)) (x y : Idx dim ps) (σ : Asg L) {l : L}
    (h : l ∉ Expr.pairLegs ps) : decPair dim ps x y σ l = σ l := by
  induction ps generalizing σ with
  | nil => rfl
  | cons p ps ih =>
    obtain ⟨i, x⟩ := x; obtain ⟨j, y⟩ := y
    rw [mem_pairLegs_cons] at h
    simp only [not_or] at h
    show decPair dim ps x y _ l = σ l
    rw [ih x y _ h.2.2]
    simp [upd, h.1, h.2.1]

/-- the written indices are within the dimensions -/
theorem decPair_lt (dim : L → Nat) (ps : List (L × L)) (x y : Idx dim ps) (σ : Asg L)
    (hnd : (Expr.pairLegs ps).Nodup) (hd : ∀ p ∈ ps, dim p.2 = dim p.1) :
    ∀ p ∈ ps, decPair dim ps x y σ p.1 < dim p.1 ∧ decPair dim ps x y σ p.2 < dim p.2 := by
  induction ps generalizing σ with
  | nil => intro p hp; simp at hp
  | cons q ps ih =>
    obtain ⟨i, x⟩ := x; obtain ⟨j, y⟩ := y
    have hnd' := (pairLegs_cons_perm q ps).nodup_iff.1 hnd
    simp only [List.nodup_cons, List.mem_cons, not_or] at hnd'
    obtain ⟨⟨hab, ha⟩, hb, hnd''⟩ := hnd'
    intro p hp
    rcases List.mem_cons.1 hp with rfl | hp
    · show decPair dim ps x y _ p.1 < _ ∧ decPair dim ps x y _ p.2 < _
      rw [decPair_not_mem dim ps x y _ ha, decPair_not_mem dim ps x y _ hb]
      have := hd p (by simp)
      constructor
      · simp [upd, hab, i.2]
      · simp only [upd, if_true]; rw [this]; exact j.2
    · exact ih x y _ hnd'' (fun p hp => hd p (by simp [hp])) p hp

/-- `Π_k δ(x_k, y_k)` is the Kronecker delta of the tuples -/
theorem deltaProd_decPair (dim : L → Nat) (ps : List (L × L)) (x y : Idx dim ps) (σ : Asg L)
    (hnd : (Expr.pairLegs ps).Nodup) :
    deltaProd ps (decPair dim ps x y σ) = (if x = y then (1 : R) else 0) := by
  induction ps generalizing σ with
  | nil => exact (if_pos (Subsingleton.elim (α := Unit) x y)).symm
  | cons q ps ih =>
    obtain ⟨i, x⟩ := x; obtain ⟨j, y⟩ := y
    have hnd' := (pairLegs_cons_perm q ps).nodup_iff.1 hnd
    simp only [List.nodup_cons, List.mem_cons, not_or] at hnd'
    obtain ⟨⟨hab, ha⟩, hb, hnd''⟩ := hnd'
    show (if decPair dim ps x y _ q.1 = decPair dim ps x y _ q.2 then (1 : R) else 0) *
      deltaProd ps (decPair dim ps x y _) = _
    rw [decPair_not_mem dim ps x y _ ha, decPair_not_mem dim ps x y _ hb, ih x y _ hnd'',
      ite_zero_mul_ite_zero, mul_one]
    show _ = if ((i, x) : Fin (dim q.1) × Idx dim ps) = (j, y) then (1 : R) else 0
    simp only [upd, hab, ↓reduceIte, Prod.mk.injEq, Fin.ext_iff]

/-- **The embedding matrix** of the centre's bond indices into the open legs of all other nodes:
`E[n, c]` is the ket half of the environment at the open-leg indices `n` and the bond indices `c`
(`Kids.E`: all ket tensors of the non-centre nodes contracted over their own bonds). -/
def envMatrix (dim : L → Nat) (k : Kids L R) : Matrix (Idx dim k.physAll) (Idx dim k.ups) R :=
  fun n c => k.E dim (decPair dim k.physAll n n (decPair dim k.ups c c (fun _ => 0)))

/-- the same for the conjugated copies -/
def envMatrixC (dim : L → Nat) (k : Kids L R) : Matrix (Idx dim k.physAll) (Idx dim k.ups) R :=
  fun n r => k.Ec dim (decPair dim k.physAll n n (decPair dim k.ups r r (fun _ => 0)))

/-- **Canonical form makes the embedding an isometry (matrix form, any commutative semiring).**
`Σ_n Ec[n, r] · E[n, c] = δ_rc`. -/
theorem embedding_matrix_isometry (dim : L → Nat) (k : Kids L R) (hc : k.Canon dim) (hnd : k.labels.Nodup) :
    (envMatrixC dim k).transpose * envMatrix dim k = 1 := by
  ext r c
  rw [Matrix.mul_apply, Matrix.one_apply]
  -- the index-form theorem at the assignment with `c` on the ket up-legs and `r` on the bra up-legs; then each half of
  -- the environment is evaluated where the other's tuple does not matter
  have hu := Kids.ups_nodup hnd
  have h := embedding_isometry_of_canonical dim k hc hnd (decPair dim k.ups c r (fun _ => 0))
    (decPair_lt dim k.ups c r _ hu hc.ups_dim)
  rw [sumPairs_eq_sum, deltaProd_decPair dim k.ups c r _ hu] at h
  rw [if_congr (eq_comm (a := r)) rfl rfl, ← h]
  apply Finset.sum_congr rfl
  intro n _
  rw [Matrix.transpose_apply, mul_comm]
  congr 1
  · -- the ket half does not read the bra labels
    refine Kids.E_dependsOn dim k hc _ _ fun l hl => ?_
    exact decPair_congr dim _ n n n n (decPair_congr dim k.ups c c c r rfl (fun _ => rfl)
      (fun h => absurd (Kids.ups_snd_sub k l h) (Kids.ket_bra_disjoint hnd l hl))) (fun _ => rfl) (fun _ => rfl)
  · refine Kids.Ec_dependsOn dim k hc _ _ fun l hl => ?_
    exact decPair_congr dim _ n n n n (decPair_congr dim k.ups r c r r rfl
      (fun h => absurd hl (Kids.ket_bra_disjoint hnd l (Kids.ups_fst_sub k l h))) (fun _ => rfl))
      (fun _ => rfl) (fun _ => rfl)

theorem Centre.kids_labels_nodup {c : Centre L R} (h : c.labels.Nodup) : c.kids.labels.Nodup :=
  (List.nodup_append.1 h).2.1

/-! ### the bra copy is the conjugate of the ket: structural form, and what it gives -/

variable [StarRing R]

/-- the conjugated copy of a tensor, read through the relabelling `pr` (ket label ↦ bra label) -/
def cjr (pr : L → L) (f : Asg L → R) : Asg L → R := fun τ => star (f (fun l => τ (pr l)))

mutual
/-- the doubled tree is a ket tree together with its conjugated, relabelled copy -/
def Sub.IsConj (pr : L → L) : Sub L R → Prop
  | .node T Tc u u' phys kids => Tc = cjr pr T ∧ u' = pr u ∧ (∀ p ∈ phys, p.2 = pr p.1) ∧ kids.IsConj pr
def Kids.IsConj (pr : L → L) : Kids L R → Prop
  | .nil => True
  | .cons d d' s rest => d' = pr d ∧ s.IsConj pr ∧ rest.IsConj pr
end

theorem Sub.IsConj.u' {pr : L → L} {s : Sub L R} (h : s.IsConj pr) : s.u' = pr s.u := by
  cases s; exact h.2.1

/-- **What `IsConj` says of the bra half**, read off along the doubled tree: records, leaves and labels of the bra
copy are those of the ket copy under `pr` (`cjr pr` for the tensors), every pair of open legs and of up-legs is
`(a, pr a)`. -/
theorem isConj_both (pr : L → L) :
    (∀ s : Sub L R, s.IsConj pr → s.braBinds = s.ketBinds.map (Prod.map pr pr) ∧
      s.braLeaves = s.ketLeaves.map (cjr pr) ∧ s.braLabels = s.ketLabels.map pr ∧
      ∀ p ∈ s.physAll, p.2 = pr p.1) ∧
    ∀ k : Kids L R, k.IsConj pr → (k.braBinds = k.ketBinds.map (Prod.map pr pr) ∧
      k.braLeaves = k.ketLeaves.map (cjr pr) ∧ k.braLabels = k.ketLabels.map pr ∧
      ∀ p ∈ k.physAll, p.2 = pr p.1) ∧
      k.braIn = k.ketIn.map (Prod.map pr pr) ∧ k.braInner = k.ketInner.map pr ∧ ∀ p ∈ k.ups, p.2 = pr p.1 := by
  apply Sub.both
  · intro T Tc u u' phys kids ih ⟨hT, hu, hp, hk⟩
    obtain ⟨⟨h1, h2, h3, h4⟩, -⟩ := ih hk
    refine ⟨h1, ?_, ?_, fun p hp' => (List.mem_append.1 hp').elim (hp p) (h4 p)⟩
    · simp only [Sub.braLeaves, Sub.ketLeaves, List.map_cons, h2, hT]
    · simp only [Sub.braLabels, Sub.ketLabels, List.map_cons, List.map_append, List.map_map, h3, hu]
      congr 2
      exact List.map_congr_left fun p hp' => hp p hp'
  · exact fun _ => ⟨⟨rfl, rfl, rfl, fun _ h => absurd h List.not_mem_nil⟩, rfl, rfl,
      fun _ h => absurd h List.not_mem_nil⟩
  · intro d d' s rest ih1 ih2 ⟨hd, hs, hr⟩
    obtain ⟨s1, s2, s3, s4⟩ := ih1 hs
    obtain ⟨⟨r1, r2, r3, r4⟩, r5, r6, r7⟩ := ih2 hr
    refine ⟨⟨?_, ?_, ?_, fun p hp => (List.mem_append.1 hp).elim (s4 p) (r4 p)⟩, ?_, ?_, ?_⟩
    · simp only [Kids.braBinds, Kids.ketBinds, List.map_cons, List.map_append, Prod.map, s1, r1, hd, hs.u']
    · simp only [Kids.braLeaves, Kids.ketLeaves, List.map_append, s2, r2]
    · simp only [Kids.braLabels, Kids.ketLabels, List.map_cons, List.map_append, s3, r3, hd]
    · simp only [Kids.braIn, Kids.ketIn, List.map_append, s1, r5]
    · simp only [Kids.braInner, Kids.ketInner, List.map_append, s3, r6]
    · intro p hp
      rcases List.mem_cons.1 hp with rfl | hp
      · exact hs.u'
      · exact r7 p hp

theorem Kids.braBinds_eq (pr : L → L) : ∀ k : Kids L R, k.IsConj pr → k.braBinds = k.ketBinds.map (Prod.map pr pr) :=
  fun k h => ((isConj_both pr).2 k h).1.1

theorem Sub.braLeaves_eq (pr : L → L) : ∀ s : Sub L R, s.IsConj pr → s.braLeaves = s.ketLeaves.map (cjr pr) :=
  fun s h => ((isConj_both pr).1 s h).2.1

theorem Kids.braLabels_eq (pr : L → L) : ∀ k : Kids L R, k.IsConj pr → k.braLabels = k.ketLabels.map pr :=
  fun k h => ((isConj_both pr).2 k h).1.2.2.1

theorem physAll_fst_sub_both :
    (∀ (s : Sub L R) (l : L), l ∈ s.physAll.map Prod.fst → l ∈ s.ketLabels) ∧
    ∀ (k : Kids L R) (l : L), l ∈ k.physAll.map Prod.fst → l ∈ k.ketLabels ∧ l ∈ k.ketInner := by
  apply Sub.both
  · intro _ _ _ _ phys kids ih l h
    rw [Sub.physAll, List.map_append] at h
    exact List.mem_cons_of_mem _ (List.mem_append.2 ((List.mem_append.1 h).imp_right fun h => (ih l h).1))
  · exact fun _ h => absurd h List.not_mem_nil
  · intro d d' s rest ih1 ih2 l h
    rw [Kids.physAll, List.map_append] at h
    rcases List.mem_append.1 h with h | h
    · exact ⟨List.mem_cons_of_mem _ (List.mem_append_left _ (ih1 l h)), List.mem_append_left _ (ih1 l h)⟩
    · exact ⟨List.mem_cons_of_mem _ (List.mem_append_right _ (ih2 l h).1), List.mem_append_right _ (ih2 l h).2⟩

theorem Kids.physAll_fst_sub' : ∀ (k : Kids L R) (l : L), l ∈ k.physAll.map Prod.fst → l ∈ k.ketLabels :=
  fun k l h => (physAll_fst_sub_both.2 k l h).1

theorem Kids.physAll_fst_sub : ∀ (k : Kids L R) (l : L), l ∈ k.physAll.map Prod.fst → l ∈ k.ketInner :=
  fun k l h => (physAll_fst_sub_both.2 k l h).2

/-- **The conjugated, relabelled copy of a network evaluates to the conjugate of the network**: the relabelling goes
through the sum (`rn_netValue_map`), and so does `star`, a ring homomorphism (`sumPairs_ringHom`, `prodL_map`). -/
theorem netValue_cjr (dim : L → Nat) (pr : L → L) (hinj : Function.Injective pr) (hdim : ∀ l, dim (pr l) = dim l)
    (bs : List (L × L)) (ls : List (Asg L → R)) (τ : Asg L) :
    netValue dim (bs.map (Prod.map pr pr)) (ls.map (cjr pr)) τ = star (netValue dim bs ls (fun l => τ (pr l))) := by
  rw [← rn_netValue_map pr hinj dim dim hdim, ← starRingEnd_apply]
  unfold netValue
  rw [sumPairs_ringHom]
  apply sumPairs_congr
  intro σ
  rw [prodL_map, List.map_map, List.map_map, List.map_map]
  rfl

theorem Kids.Ec_eq_star_E (dim : L → Nat) (pr : L → L) (hinj : Function.Injective pr)
    (hdim : ∀ l, dim (pr l) = dim l) (k : Kids L R) (hk : k.IsConj pr) (τ : Asg L) :
    k.Ec dim τ = star (k.E dim (fun l => τ (pr l))) := by
  unfold Kids.Ec Kids.E
  obtain ⟨⟨-, hl, -⟩, hi, -⟩ := (isConj_both pr).2 k hk
  rw [hi, hl]
  exact netValue_cjr dim pr hinj hdim _ _ τ

/-- writing the same tuple on both legs of pairs `(a, pr a)` commutes with reading through `pr` -/
theorem decPair_pr (dim : L → Nat) (pr : L → L) (hinj : Function.Injective pr) (ps : List (L × L))
    (hps : ∀ p ∈ ps, p.2 = pr p.1) (x : Idx dim ps) {σ σ' : Asg L} {l : L}
    (h1 : l ∉ ps.map Prod.snd) (h2 : pr l ∉ ps.map Prod.fst) (h : σ (pr l) = σ' l) :
    decPair dim ps x x σ (pr l) = decPair dim ps x x σ' l := by
  induction ps generalizing σ σ' with
  | nil => exact h
  | cons p ps ih =>
    obtain ⟨i, x⟩ := x
    simp only [List.map_cons, List.mem_cons, not_or] at h1 h2
    have hp := hps p (by simp)
    show decPair dim ps x x _ (pr l) = decPair dim ps x x _ l
    apply ih (fun q hq => hps q (by simp [hq])) x h1.2 h2.2
    show upd (upd σ p.1 i.1) p.2 i.1 (pr l) = upd (upd σ' p.1 i.1) p.2 i.1 l
    unfold upd
    rw [if_neg h1.1, if_neg h2.1]
    by_cases hl : l = p.1
    · rw [if_pos hl, if_pos (by rw [hp, hl])]
    · rw [if_neg hl, if_neg (by rw [hp]; exact fun e => hl (hinj e)), h]

/-- **the bra half of the embedding matrix is the entrywise conjugate of the ket half** -/
theorem envMatrixC_eq_conj (dim : L → Nat) (pr : L → L) (hinj : Function.Injective pr)
    (hdim : ∀ l, dim (pr l) = dim l) (k : Kids L R) (hc : k.Canon dim) (hnd : k.labels.Nodup)
    (hk : k.IsConj pr) : envMatrixC dim k = (envMatrix dim k).map star := by
  ext n r
  simp only [envMatrixC, envMatrix, Matrix.map_apply]
  rw [Kids.Ec_eq_star_E dim pr hinj hdim k hk]
  congr 1
  apply Kids.E_dependsOn dim k hc
  intro l hl
  obtain ⟨⟨-, -, -, hphys⟩, -, hinner, hups⟩ := (isConj_both pr).2 k hk
  have hbra : pr l ∈ k.braInner := by
    rw [hinner]; exact List.mem_map_of_mem hl
  have hl' : l ∉ k.braInner := Kids.ket_bra_disjoint hnd l hl
  have hpl : pr l ∉ k.ketInner := fun h => Kids.ket_bra_disjoint hnd _ h hbra
  show decPair dim k.physAll n n _ (pr l) = decPair dim k.physAll n n _ l
  apply decPair_pr dim pr hinj k.physAll hphys n
  · intro h
    obtain ⟨p, hp, rfl⟩ := List.mem_map.1 h
    apply hl'
    rw [hphys p hp, hinner]
    exact List.mem_map_of_mem (Kids.physAll_fst_sub k _ (List.mem_map_of_mem hp))
  · exact fun h => hpl (Kids.physAll_fst_sub k _ h)
  · apply decPair_pr dim pr hinj k.ups hups r
    · exact fun h => hl' (Kids.ups_snd_sub k l h)
    · exact fun h => hpl (Kids.ups_fst_sub k _ h)
    · rfl

end Ptn.Ein

namespace Ptn.C06

open Ptn.Ein Matrix
open scoped Kronecker

variable {L : Type} [DecidableEq L]

/-- `Eᴴ E = 1` for the embedding matrix of a network in canonical form whose bra tensors are the conjugates
of the ket tensors (`hconj`: the bra half of the environment is, entry by entry, the complex conjugate of
the ket half). -/
theorem envMatrix_isometry (dim : L → Nat) (k : Kids L ℂ) (hc : k.Canon dim) (hnd : k.labels.Nodup)
    (hconj : envMatrixC dim k = (envMatrix dim k).map star) :
    (envMatrix dim k)ᴴ * envMatrix dim k = 1 := by
  have h := embedding_matrix_isometry dim k hc hnd
  rw [hconj] at h
  rw [← transpose_map] at h
  exact h

/-- **The embedding of the updated tensor**: the environment on the bonds, the identity on the open legs `P`
of the updated site itself (one site: its physical legs; two sites: the open legs of both). -/
def siteEmbedding (dim : L → Nat) (k : Kids L ℂ) (P : Type) [Fintype P] [DecidableEq P] :
    Matrix (Idx dim k.physAll × P) (Idx dim k.ups × P) ℂ :=
  envMatrix dim k ⊗ₖ (1 : Matrix P P ℂ)

theorem siteEmbedding_isometry (dim : L → Nat) (k : Kids L ℂ) (hc : k.Canon dim) (hnd : k.labels.Nodup)
    (hconj : envMatrixC dim k = (envMatrix dim k).map star) (P : Type) [Fintype P] [DecidableEq P] :
    (siteEmbedding dim k P)ᴴ * siteEmbedding dim k P = 1 :=
  Ptn.Analysis.isometry_kronecker _ _ (envMatrix_isometry dim k hc hnd hconj) (by simp)

end Ptn.C06
