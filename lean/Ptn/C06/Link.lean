import Ptn.C03.Iso
/-! The two halves of a QR gauge move: the network DURING a link update.

`Ptn.C03.gaugeStep` (the move of `Ptn.C03.IsoStep`) absorbs the `R` factor into the neighbour at once.  During
`OneSiteTDVP._update_link` the `R` factor is a node of its own (the link tensor, identifier `ℓ`):

* `qrHalf dim N n ℓ a F`: the tensor of `n` becomes `Q` (legs `q :: legs n \ a`), the NEW node `ℓ` carries `R` with
  the legs `[r, a]`; the fresh bond `(q, r)` joins `n` with `ℓ`, the old bond `p` (ends `a`, `b`) now joins `ℓ` with
  `m`; the tensor of `m` is untouched;
* `absorbHalf dim M ℓ m p b r`: the node `ℓ` is contracted into `m` over the bond `p`. -/
namespace Ptn.C06.Gauge

open Ptn.Ein Ptn.C17 Ptn.C17.RTree Ptn.C03

variable {R : Type} [CommSemiring R]

/-- first half of a move: `n` carries `Q`, the new node `ℓ` carries `R` on the legs `[r, a]` -/
def qrHalf (dim : Nat → Nat) (N : VNet R) (n ℓ a : Nat)
    (F : QRFact dim (N.tens n) (N.legs n) a N.next (N.next + 1)) : VNet R where
  ids := ℓ :: N.ids
  legs := fun k => if k = ℓ then [N.next + 1, a]
    else if k = n then N.next :: (N.legs n).erase a else N.legs k
  tens := fun k => if k = ℓ then F.Rm else if k = n then F.Q else N.tens k
  bonds := N.bonds ++ [(N.next, N.next + 1)]
  next := N.next + 2

/-- second half: the node `ℓ` is contracted into `m` over the bond `p` (end `b` at `m`); `r` is the leg of `ℓ`
that `m` inherits -/
def absorbHalf (dim : Nat → Nat) (M : VNet R) (ℓ m : Nat) (p : Nat × Nat) (b r : Nat) : VNet R where
  ids := M.ids.erase ℓ
  legs := fun k => if k = m then r :: (M.legs m).erase b else M.legs k
  tens := fun k => if k = m then (fun τ => sumPairs dim [p] (fun ρ => M.tens ℓ ρ * M.tens m ρ) τ) else M.tens k
  bonds := M.bonds.erase p
  next := M.next

/-- **`gaugeStep = absorbHalf ∘ qrHalf` (record).**  Same nodes, bonds and counter; every node has the same legs
and the same tensor. -/
theorem absorbHalf_qrHalf (dim : Nat → Nat) (N : VNet R) {n m ℓ : Nat} {p : Nat × Nat} {a b : Nat}
    (F : QRFact dim (N.tens n) (N.legs n) a N.next (N.next + 1)) (hn : n ∈ N.ids) (hm : m ∈ N.ids)
    (hnm : n ≠ m) (hℓ : ℓ ∉ N.ids) (hp : p ∈ N.bonds) :
    (absorbHalf dim (qrHalf dim N n ℓ a F) ℓ m p b (N.next + 1)).ids = (gaugeStep dim N n m p a b F).ids ∧
    (absorbHalf dim (qrHalf dim N n ℓ a F) ℓ m p b (N.next + 1)).bonds = (gaugeStep dim N n m p a b F).bonds ∧
    (absorbHalf dim (qrHalf dim N n ℓ a F) ℓ m p b (N.next + 1)).next = (gaugeStep dim N n m p a b F).next ∧
    ∀ k ∈ N.ids,
      (absorbHalf dim (qrHalf dim N n ℓ a F) ℓ m p b (N.next + 1)).legs k = (gaugeStep dim N n m p a b F).legs k ∧
      (absorbHalf dim (qrHalf dim N n ℓ a F) ℓ m p b (N.next + 1)).tens k = (gaugeStep dim N n m p a b F).tens k := by
  have hnℓ : n ≠ ℓ := fun e => hℓ (e ▸ hn)
  have hmℓ : m ≠ ℓ := fun e => hℓ (e ▸ hm)
  refine ⟨?_, ?_, rfl, ?_⟩
  · show (ℓ :: N.ids).erase ℓ = N.ids
    exact List.erase_cons_head ..
  · show (N.bonds ++ [(N.next, N.next + 1)]).erase p = N.bonds.erase p ++ [(N.next, N.next + 1)]
    exact List.erase_append_left _ hp
  · intro k hk
    have hkℓ : k ≠ ℓ := fun e => hℓ (e ▸ hk)
    by_cases h1 : k = n
    · subst h1
      simp only [absorbHalf, qrHalf, gaugeStep, hnm, hkℓ, ↓reduceIte, and_self]
    · by_cases h2 : k = m
      · subst h2
        simp only [absorbHalf, qrHalf, gaugeStep, h1, hkℓ, ↓reduceIte, and_self]
      · simp only [absorbHalf, qrHalf, gaugeStep, h1, h2, hkℓ, ↓reduceIte, and_self]

/-- **`gaugeStep = absorbHalf ∘ qrHalf` (value).** -/
theorem absorbHalf_qrHalf_value (dim : Nat → Nat) (N : VNet R) {n m ℓ : Nat} {p : Nat × Nat} {a b : Nat}
    (F : QRFact dim (N.tens n) (N.legs n) a N.next (N.next + 1)) (hn : n ∈ N.ids) (hm : m ∈ N.ids)
    (hnm : n ≠ m) (hℓ : ℓ ∉ N.ids) (hp : p ∈ N.bonds) (σ : Asg Nat) :
    (absorbHalf dim (qrHalf dim N n ℓ a F) ℓ m p b (N.next + 1)).value dim σ =
      (gaugeStep dim N n m p a b F).value dim σ := by
  obtain ⟨h1, h2, _, h4⟩ := absorbHalf_qrHalf dim N (b := b) F hn hm hnm hℓ hp
  unfold VNet.value
  rw [h1, h2]
  have : (gaugeStep dim N n m p a b F).ids.map
        (absorbHalf dim (qrHalf dim N n ℓ a F) ℓ m p b (N.next + 1)).tens =
      (gaugeStep dim N n m p a b F).ids.map (gaugeStep dim N n m p a b F).tens :=
    List.map_congr_left (fun k hk => (h4 k hk).2)
  rw [this]

section
variable {dim : Nat → Nat} {N : VNet R} {n ℓ a : Nat}
  {F : QRFact dim (N.tens n) (N.legs n) a N.next (N.next + 1)}

theorem qrHalf_legs_l : (qrHalf dim N n ℓ a F).legs ℓ = [N.next + 1, a] := by simp [qrHalf]

theorem qrHalf_legs_n (h : n ≠ ℓ) : (qrHalf dim N n ℓ a F).legs n = N.next :: (N.legs n).erase a := by
  simp [qrHalf, h]

theorem qrHalf_legs_other {k : Nat} (h1 : k ≠ ℓ) (h2 : k ≠ n) : (qrHalf dim N n ℓ a F).legs k = N.legs k := by
  simp [qrHalf, h1, h2]

theorem qrHalf_tens_other {k : Nat} (h1 : k ≠ ℓ) (h2 : k ≠ n) : (qrHalf dim N n ℓ a F).tens k = N.tens k := by
  simp [qrHalf, h1, h2]

theorem qrHalf_tens_n (h : n ≠ ℓ) : (qrHalf dim N n ℓ a F).tens n = F.Q := by simp [qrHalf, h]

/-- **the intermediate network (link tensor as its own node) is well-formed**: the label `a` moves from `n` to
`ℓ`, the two fresh labels are added -/
theorem qrHalf_wf (h : N.WF) (hn : n ∈ N.ids) (hℓ : ℓ ∉ N.ids) (ha : a ∈ N.legs n) :
    (qrHalf dim N n ℓ a F).WF := by
  have hnℓ : n ≠ ℓ := fun e => hℓ (e ▸ hn)
  have hrest : ∀ k ∈ N.ids.erase n, k ≠ ℓ ∧ k ≠ n := fun k hk =>
    have hk' := (h.ids_nodup.mem_erase_iff).1 hk
    ⟨fun e => hℓ (e ▸ hk'.2), hk'.1⟩
  have hold : (N.ids.flatMap N.legs).Perm (a :: ((N.legs n).erase a ++ (N.ids.erase n).flatMap N.legs)) :=
    ((List.perm_cons_erase hn).flatMap_right _).trans ((List.perm_cons_erase ha).append_right _)
  have hflat : ((qrHalf dim N n ℓ a F).ids.flatMap (qrHalf dim N n ℓ a F).legs).Perm
      (N.next :: (N.next + 1) :: N.ids.flatMap N.legs) := by
    refine (((List.perm_cons_erase hn).cons ℓ).flatMap_right _).trans ?_
    show ((qrHalf dim N n ℓ a F).legs ℓ ++ ((qrHalf dim N n ℓ a F).legs n ++
      (N.ids.erase n).flatMap (qrHalf dim N n ℓ a F).legs)).Perm _
    rw [qrHalf_legs_l, qrHalf_legs_n hnℓ,
      List.flatMap_congr fun k hk => qrHalf_legs_other (hrest k hk).1 (hrest k hk).2]
    exact ((List.Perm.swap N.next a _).cons _).trans
      ((List.Perm.swap N.next (N.next + 1) _).trans ((hold.symm.cons _).cons _))
  refine h.add_two (List.nodup_cons.2 ⟨hℓ, h.ids_nodup⟩) hflat (fun k hk => ?_)
    ((Expr.pairLegs_append _ _).trans List.perm_append_comm) rfl
  by_cases h1 : k = ℓ
  · subst h1
    have : (qrHalf dim N n k a F).tens k = F.Rm := if_pos rfl
    rw [this, qrHalf_legs_l]
    exact F.readsR.mono fun l hl => by simpa using hl
  · have hk' : k ∈ N.ids := (List.mem_cons.1 hk).resolve_left h1
    by_cases h2 : k = n
    · subst h2
      rw [qrHalf_tens_n h1, qrHalf_legs_n h1]
      exact F.readsQ
    · rw [qrHalf_tens_other h1 h2, qrHalf_legs_other h1 h2]
      exact h.reads k hk'

end

/-- **The network DURING a link update, locally**: the two neighbours of the link tensor (the whole doubled tree around
the link tensor: `LinkCanon.lean`).  A move of `n` toward `m` over the bond `p` (ends `a`, `b`)
with the full QR contract, `ℓ` an unused identifier; if the tensor of `m` is an isometry toward its end `b` of
`p` (the record before a link update: every node other than `n` points toward `n`), then in the intermediate
network `M = qrHalf …` - well-formed - the link node `ℓ` is joined to `n` by the fresh bond and to `m` by `p`, its
tensor is `R` on exactly these two legs, and BOTH neighbours are isometries (index form) toward the link node;
contracting `ℓ` into `m` gives the network of the `IsoStep`, with the same value. -/
theorem link_neighbours_iso_partial (dim : Nat → Nat) (cj : R → R) {N : VNet R} (h : N.WF) {n m ℓ : Nat}
    {p : Nat × Nat} {a b : Nat} (hn : n ∈ N.ids) (hm : m ∈ N.ids) (hnm : n ≠ m) (hℓ : ℓ ∉ N.ids)
    (hj : N.Joined n m p a b) (F : QRFact dim (N.tens n) (N.legs n) a N.next (N.next + 1))
    (hiso : IsoToward dim cj F.Q (N.next :: (N.legs n).erase a) N.next)
    (hb : IsoToward dim cj (N.tens m) (N.legs m) b) :
    (qrHalf dim N n ℓ a F).WF ∧
    (qrHalf dim N n ℓ a F).Joined n ℓ (N.next, N.next + 1) N.next (N.next + 1) ∧
    (qrHalf dim N n ℓ a F).Joined m ℓ p b a ∧
    (qrHalf dim N n ℓ a F).legs ℓ = [N.next + 1, a] ∧ (qrHalf dim N n ℓ a F).tens ℓ = F.Rm ∧
    IsoToward dim cj ((qrHalf dim N n ℓ a F).tens n) ((qrHalf dim N n ℓ a F).legs n) N.next ∧
    IsoToward dim cj ((qrHalf dim N n ℓ a F).tens m) ((qrHalf dim N n ℓ a F).legs m) b ∧
    ∀ σ, (absorbHalf dim (qrHalf dim N n ℓ a F) ℓ m p b (N.next + 1)).value dim σ =
        (gaugeStep dim N n m p a b F).value dim σ := by
  obtain ⟨hp, hab, ha, hbm⟩ := hj
  have hnℓ : n ≠ ℓ := fun e => hℓ (e ▸ hn)
  have hmℓ : m ≠ ℓ := fun e => hℓ (e ▸ hm)
  have hmn : m ≠ n := fun e => hnm e.symm
  refine ⟨qrHalf_wf h hn hℓ ha, ⟨?_, Or.inl rfl, ?_, ?_⟩, ⟨?_, ?_, ?_, ?_⟩, qrHalf_legs_l, by simp [qrHalf], ?_, ?_,
    fun σ => absorbHalf_qrHalf_value dim N F hn hm hnm hℓ hp σ⟩
  · show _ ∈ N.bonds ++ [(N.next, N.next + 1)]; simp
  · rw [qrHalf_legs_n hnℓ]; exact List.mem_cons_self
  · rw [qrHalf_legs_l]; simp
  · show p ∈ N.bonds ++ [(N.next, N.next + 1)]; exact List.mem_append_left _ hp
  · rcases hab with e | e
    · exact Or.inr e
    · exact Or.inl e
  · rw [qrHalf_legs_other hmℓ hmn]; exact hbm
  · rw [qrHalf_legs_l]; simp
  · rw [qrHalf_tens_n hnℓ, qrHalf_legs_n hnℓ]; exact hiso
  · rw [qrHalf_tens_other hmℓ hmn, qrHalf_legs_other hmℓ hmn]; exact hb

end Ptn.C06.Gauge
