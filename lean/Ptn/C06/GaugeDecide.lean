import Ptn.C06.GaugeLemmas
/-! The executable checks of the gauge machine (`canonAtB`, `canonLinkB`, `canonPairB`, `goodB`, `allGoodB` - used by the
driver answer `good` and by the non-vacuity examples) decide the propositions the theorems are about.  Core Lean only. -/
namespace Ptn.C06.Gauge
open Ptn.C17 Ptn.C17.RTree Ptn.C05.Disc Ptn.C03

theorem hopB_iff (o r : Option Nat) : (o.isSome && r == o) = true ↔ ∃ h, o = some h ∧ r = some h := by
  constructor
  · intro h
    simp only [Bool.and_eq_true, beq_iff_eq] at h
    obtain ⟨v, hv⟩ := Option.isSome_iff_exists.mp h.1
    exact ⟨v, hv, by rw [h.2, hv]⟩
  · rintro ⟨v, hv, hr⟩
    simp [hv, hr]

/-- the check of one node: away from `c` the record `r` is the hop `o` -/
theorem hopOrB_iff (x c : Nat) (o r : Option Nat) :
    (x == c || (o.isSome && r == o)) = true ↔ (x ≠ c → ∃ h, o = some h ∧ r = some h) := by
  rw [Bool.or_eq_true, beq_iff_eq, hopB_iff]
  exact Decidable.or_iff_not_imp_left

theorem canonAtB_iff (t : RTree) (dir : Rec) (c : Nat) : canonAtB t dir c = true ↔ CanonAt t dir c := by
  simp only [canonAtB, CanonAt, Bool.and_eq_true, List.all_eq_true, Option.isNone_iff_eq_none, hopOrB_iff]

theorem canonLinkB_iff (t : RTree) (dir : Rec) (a b : Nat) :
    canonLinkB t dir a b = true ↔ CanonLink t dir a b := by
  simp only [canonLinkB, CanonLink, Bool.and_eq_true, List.all_eq_true, hopOrB_iff]

theorem canonPairB_iff (t : RTree) (dir : Rec) (a b : Nat) :
    canonPairB t dir a b = true ↔ CanonPair t dir a b := by
  simp only [canonPairB, CanonPair, Bool.and_eq_true, List.all_eq_true, Bool.or_eq_true, beq_iff_eq,
    Option.isNone_iff_eq_none]
  constructor
  · rintro ⟨⟨ha, hb⟩, h⟩
    refine ⟨ha, hb, ?_⟩
    intro x hx hxa hxb
    rcases h x hx with (e | e) | ⟨⟨h1, h2⟩, h3⟩
    · exact absurd e hxa
    · exact absurd e hxb
    · obtain ⟨v, hv⟩ := Option.isSome_iff_exists.mp h1
      exact ⟨v, hv, by rw [← h3, h2, hv], by rw [h2, hv]⟩
  · rintro ⟨ha, hb, h⟩
    refine ⟨⟨ha, hb⟩, ?_⟩
    intro x hx
    by_cases hxa : x = a
    · exact Or.inl (Or.inl hxa)
    · by_cases hxb : x = b
      · exact Or.inl (Or.inr hxb)
      · obtain ⟨v, h1, h2, h3⟩ := h x hx hxa hxb
        exact Or.inr ⟨⟨by simp [h1], by rw [h3, h1]⟩, by rw [h3, h2]⟩

theorem goodB_iff (t : RTree) (st : GSt) (e : DEv) : goodB t st e = true ↔ Good t st e := by
  cases e <;>
    simp only [goodB, Good, Bool.and_eq_true, canonAtB_iff, canonLinkB_iff, canonPairB_iff, and_assoc,
      and_true]

theorem allGoodB_iff (t : RTree) : ∀ (evs : List DEv) (st : GSt), allGoodB t st evs = true ↔ GoodRun t st evs
  | [], _ => by simp [allGoodB, GoodRun]
  | e :: rest, st => by
    simp only [allGoodB, GoodRun, Bool.and_eq_true, goodB_iff, allGoodB_iff t rest]

end Ptn.C06.Gauge
