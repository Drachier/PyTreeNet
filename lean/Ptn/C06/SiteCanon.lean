import Ptn.C03.CentreNorm
import Ptn.C06.GaugeLemmas
/-! The events of a TDVP time step on a valued network (`VStep`, `VRun`), the record of the gauge machine staying true
of the network along a run (`vrun_inv`), and the translation of a true record canonical at `v` into the index-form
canonical form `Ptn.Ein.Kids.Canon` of the doubled tree re-rooted at `v` (`site_canon_of_record`; rests on
`Ptn.C03.CentreNorm`). -/
namespace Ptn.C06.Gauge

open Ptn.Ein Ptn.C17 Ptn.C17.RTree Ptn.C05.Disc Ptn.C03

set_option linter.unusedSectionVars false
variable {R : Type} [CommSemiring R]

/-- the network with the tensor of `v` replaced by `A` -/
def siteWrite (N : VNet R) (v : Nat) (A : Asg Nat → R) : VNet R where
  ids := N.ids
  legs := N.legs
  tens := fun k => if k = v then A else N.tens k
  bonds := N.bonds
  next := N.next

/-- one TDVP event on a valued network (`Ptn.C03.VNet`):
* `move a b`, `hop a b`: one `Ptn.C03.IsoStep` (QR of `a` toward `b` with the full contract: factorisation,
  `Q` an isometry toward the fresh bond, one dimension for the fresh bond; `R` absorbed into `b`);
* `site v`: the tensor of `v` is replaced by ANY tensor reading the legs of `v`; nothing else changes;
* `link a b`: an `IsoStep` of `a` toward `b`, then the tensor of `b` (which has absorbed `R`) is replaced by ANY
  tensor reading the legs of `b` (the evolved link tensor contracted into `b`);
* `init c`: nothing is touched;
* `two a b`: the bond between `a` and `b` is replaced by a fresh one as in a move (an `IsoStep`, which fixes the legs
  and the bond of the result), then BOTH tensors are replaced: `a` gets ANY tensor `U` on its legs that is an isometry
  toward the fresh bond (the contract of `split_node_svd`), `b` any tensor on its legs.  Restriction: the `IsoStep`
  demands an exact factorisation of the old tensor of `a` over the fresh bond, so a truncation below that rank is
  outside this step. -/
inductive VStep (dim : Nat → Nat) (cj : R → R) : VNet R → DEv → VNet R → Prop
  | site (N : VNet R) (v : Nat) (A : Asg Nat → R) (hA : DependsOn (· ∈ N.legs v) A) :
      VStep dim cj N (.site v) (siteWrite N v A)
  | init (N : VNet R) (c : Nat) : VStep dim cj N (.init c) N
  | move {N N' : VNet R} {a b : Nat} : IsoStep dim cj N ⟨a, b⟩ N' → VStep dim cj N (.move a b) N'
  | hop {N N' : VNet R} {a b : Nat} : IsoStep dim cj N ⟨a, b⟩ N' → VStep dim cj N (.hop a b) N'
  | link {N N1 : VNet R} {a b : Nat} (A : Asg Nat → R) : IsoStep dim cj N ⟨a, b⟩ N1 →
      DependsOn (· ∈ N1.legs b) A → VStep dim cj N (.link a b) (siteWrite N1 b A)
  | two {N N1 : VNet R} {a b : Nat} (U B : Asg Nat → R) : IsoStep dim cj N ⟨a, b⟩ N1 →
      DependsOn (· ∈ N1.legs a) U → DependsOn (· ∈ N1.legs b) B →
      IsoToward dim cj U (N1.legs a) N.next → VStep dim cj N (.two a b) (siteWrite (siteWrite N1 a U) b B)

inductive VRun (dim : Nat → Nat) (cj : R → R) : VNet R → List DEv → VNet R → Prop
  | nil (N : VNet R) : VRun dim cj N [] N
  | cons {N N1 N2 : VNet R} {e : DEv} {rest : List DEv} :
      VStep dim cj N e N1 → VRun dim cj N1 rest N2 → VRun dim cj N (e :: rest) N2

/-- what is kept along a run: well-formed, one dimension per bond, the same nodes, the record is true -/
structure VInv (dim : Nat → Nat) (cj : R → R) (ids0 : List Nat) (N : VNet R) (dir : Rec) : Prop where
  wf : N.WF
  bd : BondDims dim N
  ids : N.ids = ids0
  inv : GaugeInv dim cj N dir

theorem siteWrite_wf {N : VNet R} (h : N.WF) {v : Nat} {A : Asg Nat → R}
    (hA : DependsOn (· ∈ N.legs v) A) : (siteWrite N v A).WF :=
  h.of_tens _ fun n hn => by
    by_cases e : n = v
    · rw [if_pos e, e]; exact hA
    · rw [if_neg e]; exact h.reads n hn

/-- replacing the tensor of a node without record keeps the record true -/
theorem siteWrite_inv {dim : Nat → Nat} {cj : R → R} {N : VNet R} {dir : Rec} {v : Nat} {A : Asg Nat → R}
    (hinv : GaugeInv dim cj N dir) (hv : dir v = none) : GaugeInv dim cj (siteWrite N v A) dir := by
  intro n m hd
  have hnv : n ≠ v := by
    intro e; rw [e, hv] at hd; simp at hd
  obtain ⟨h1, h2, p, a, b, hj, hi⟩ := hinv n m hd
  refine ⟨h1, h2, p, a, b, hj, ?_⟩
  have : (siteWrite N v A).tens n = N.tens n := by simp [siteWrite, hnv]
  rw [this]
  exact hi

theorem siteWrite_vinv {dim : Nat → Nat} {cj : R → R} {ids0 : List Nat} {N : VNet R} {dir : Rec} {v : Nat}
    {A : Asg Nat → R} (h : VInv dim cj ids0 N dir) (hv : dir v = none)
    (hA : DependsOn (· ∈ N.legs v) A) : VInv dim cj ids0 (siteWrite N v A) dir :=
  ⟨siteWrite_wf h.wf hA, h.bd, h.ids, siteWrite_inv h.inv hv⟩

theorem isoStep_vinv {dim : Nat → Nat} {cj : R → R} {ids0 : List Nat} {N N' : VNet R} {dir : Rec} {o : Op}
    (h : VInv dim cj ids0 N dir) (hs : IsoStep dim cj N o N') : VInv dim cj ids0 N' (applyOp dir o) := by
  refine ⟨step_wf dim h.wf hs.step, isoStep_bondDims dim cj hs h.bd, ?_, isoStep_inv dim cj h.wf hs h.inv⟩
  have : N'.ids = N.ids := by cases hs; rfl
  rw [this]; exact h.ids

theorem isoStep_ne {dim : Nat → Nat} {cj : R → R} {N N' : VNet R} {a b : Nat}
    (hs : IsoStep dim cj N ⟨a, b⟩ N') : a ≠ b := by
  cases hs with
  | mk n m p a' b' hn hm hnm hj F hiso hdim => exact hnm

/-- after a move of `a` toward `b` the two nodes are joined by the fresh bond -/
theorem isoStep_joined {dim : Nat → Nat} {cj : R → R} {N N' : VNet R} {a b : Nat}
    (hs : IsoStep dim cj N ⟨a, b⟩ N') :
    a ∈ N'.ids ∧ b ∈ N'.ids ∧ N'.Joined a b (N.next, N.next + 1) N.next (N.next + 1) := by
  cases hs with
  | mk n m p a' b' hn hm hnm hj F hiso hdim =>
    refine ⟨hn, hm, ?_, Or.inl rfl, ?_, ?_⟩
    · show _ ∈ N.bonds.erase p ++ [(N.next, N.next + 1)]; simp
    · rw [gaugeStep_legs_n]; exact List.mem_cons_self
    · rw [gaugeStep_legs_m hnm]; exact List.mem_cons_self

/-- replacing the tensor of a recorded node by an isometry toward the same bond keeps the record true -/
theorem siteWrite_inv_iso {dim : Nat → Nat} {cj : R → R} {N : VNet R} {dir : Rec} {v m : Nat} {A : Asg Nat → R}
    {p : Nat × Nat} {x y : Nat} (hinv : GaugeInv dim cj N dir) (hv : dir v = some m)
    (hJ : v ∈ N.ids ∧ m ∈ N.ids ∧ N.Joined v m p x y) (hi : IsoToward dim cj A (N.legs v) x) :
    GaugeInv dim cj (siteWrite N v A) dir := by
  intro n m' hd
  by_cases hnv : n = v
  · subst hnv
    rw [hv] at hd
    cases hd
    refine ⟨hJ.1, hJ.2.1, p, x, y, hJ.2.2, ?_⟩
    have : (siteWrite N n A).tens n = A := by simp [siteWrite]
    rw [this]
    exact hi
  · obtain ⟨h1, h2, p', a, b, hj, hi'⟩ := hinv n m' hd
    refine ⟨h1, h2, p', a, b, hj, ?_⟩
    have : (siteWrite N v A).tens n = N.tens n := by simp [siteWrite, hnv]
    rw [this]
    exact hi'

theorem vstep_inv {dim : Nat → Nat} {cj : R → R} {ids0 : List Nat} {t : RTree} {st : GSt} {e : DEv}
    {N N' : VNet R} (hpre : gpre t st.centre e = true) (hcn : st.dir st.centre = none)
    (h : VInv dim cj ids0 N st.dir) (hs : VStep dim cj N e N') : VInv dim cj ids0 N' (gstep st e).dir := by
  cases hs with
  | site v A hA =>
    exact siteWrite_vinv h ((gpre_spec hpre).1 ▸ hcn) hA
  | init c => exact h
  | move hs => exact isoStep_vinv h hs
  | hop hs => exact isoStep_vinv h hs
  | @link N1 a b A hs hA =>
    have h1 := isoStep_vinv h hs
    have hne := isoStep_ne hs
    exact siteWrite_vinv h1 (applyOp_target _ hne) hA
  | @two N1 a b U B hs hU hB hiso =>
    have h1 := isoStep_vinv h hs
    have hne := isoStep_ne hs
    have h2 : VInv dim cj ids0 (siteWrite N1 a U) (applyOp st.dir ⟨a, b⟩) :=
      ⟨siteWrite_wf h1.wf hU, h1.bd, h1.ids, siteWrite_inv_iso h1.inv (applyOp_node _ a b) (isoStep_joined hs) hiso⟩
    exact siteWrite_vinv h2 (applyOp_target _ hne) hB

/-- the value-level twin of `sound_run`; not an instance of it: "isometry toward" is `IsoAt dim cj N`, which depends
on the network, and the network changes along the run -/
theorem vrun_inv {dim : Nat → Nat} {cj : R → R} {ids0 : List Nat} {t : RTree} :
    ∀ (evs : List DEv) (st : GSt) (N N' : VNet R),
    GoodRun t st evs → VInv dim cj ids0 N st.dir → VRun dim cj N evs N' → VInv dim cj ids0 N' (grun st evs).dir
  | [], _, _, _, _, hs, hr => by cases hr; exact hs
  | e :: rest, st, _, N', hg, hs, hr => by
    cases hr with
    | cons hwr hrest =>
      exact vrun_inv rest (gstep st e) _ N' hg.2 (vstep_inv hg.1.1 hg.1.2.1.1 hs hwr) hrest

/-- **the network before every event of a `GoodRun`**: record canonical at the machine's centre, which is where
the event starts, and true of the network -/
theorem net_canonical_at_event {dim : Nat → Nat} {cj : R → R} {ids0 : List Nat} {t : RTree} {st : GSt}
    {N0 N : VNet R} {p q : List DEv} {e : DEv} (hg : GoodRun t st (p ++ e :: q))
    (hs : VInv dim cj ids0 N0 st.dir) (hr : VRun dim cj N0 p N) :
    gpre t (grun st p).centre e = true ∧ CanonAt t (grun st p).dir (grun st p).centre ∧
      VInv dim cj ids0 N (grun st p).dir :=
  have he := goodRun_split hg p e q rfl
  ⟨he.1, he.2.1, vrun_inv p st N0 N (goodRun_prefix hg) hs hr⟩

/-- the centre an event starts from is a node of the tree -/
theorem gpre_centre_mem {t : RTree} {c : Nat} {e : DEv} (h : gpre t c e = true) : c ∈ ids t := by
  cases e <;> obtain ⟨e1, e2⟩ := gpre_spec h <;> rw [e1]
  case site | init => exact e2
  all_goals exact (adj_mem e2).1

/-- the leaves of the norm network around the root of `r` may be listed along any tree with the same nodes -/
theorem normLeaves_perm (cj : R → R) (N : VNet R) (up dn : Nat → Nat) {r t : RTree} (hperm : (ids r).Perm (ids t))
    (dim : DL → Nat) (bs : List (DL × DL)) (σ : Asg DL) :
    netValue dim bs ((ids t).flatMap (nodeLeaves cj N)) σ = netValue dim bs (centreOf cj N up dn r).normLeaves σ := by
  rw [centreOf_normLeaves]
  unfold netValue
  exact sumPairs_congr dim bs (fun τ => Ptn.Ein.prodL_perm ((hperm.symm.flatMap_right _).map _)) σ

/-- **From the record to the index form.**  `t` a well-formed tree, `v` one of its nodes, the record `dir`
canonical at `v` and true of the well-formed network `N` (bonds of one dimension, the nodes of `t` are nodes of
`N`): the tree `r` re-rooted at `v` exists, and there are bond ends `up`, `dn` with `EdgeOK` on every edge of
`r`; the doubled tree around `v` is canonical (`Kids.Canon`), its labels are pairwise distinct, the open and
bond legs of `v` are its legs, and the norm network has the value of the tensor of `v` alone. -/
theorem site_canon_of_record (dim : Nat → Nat) (cj : R → R) {t : RTree} (hwf : t.WF) {v : Nat} (hv : v ∈ ids t)
    {N : VNet R} {dir : Rec} (hc : CanonAt t dir v) (h : VInv dim cj N.ids N dir)
    (hids : ∀ n ∈ ids t, n ∈ N.ids) :
    ∃ r : RTree, reroot v [] t = some r ∧ r.rid = v ∧ (ids r).Perm (ids t) ∧
      ∃ up dn : Nat → Nat, (∀ e ∈ edges r, EdgeOK dim cj N up dn e.1 e.2) ∧
        (centreOf cj N up dn r).kids.Canon (ddim dim) ∧ (centreOf cj N up dn r).Canon (ddim dim) ∧
        (centreOf cj N up dn r).labels.Nodup ∧
        ((centreOf cj N up dn r).phys ++ (centreOf cj N up dn r).kids.pairs).Perm ((N.legs v).map dbl) ∧
        ∀ σ, netValue (ddim dim) (centreOf cj N up dn r).normBinds ((ids t).flatMap (nodeLeaves cj N)) σ =
          netValue (ddim dim) ((N.legs v).map dbl) [ketT (N.tens v), braT cj (N.tens v)] σ := by
  obtain ⟨r, hr⟩ := (reroot_isSome v).1 t [] hv
  obtain ⟨hwr, hrid, hperm, hhop⟩ := firstHop_reroot hwf hr
  refine ⟨r, hr, hrid, hperm, ?_⟩
  obtain ⟨up, dn, hE⟩ := edgeOK_of_isoAt dim cj h.bd r hwr
    (isoAt_reroot hhop (isoCanonAt_of_sound (iso := IsoAt dim cj N) (T := id) hc h.inv))
  have hsub : ∀ n ∈ ids r, n ∈ N.ids := fun n hn => hids n (hperm.subset hn)
  obtain ⟨hC, hL, hP⟩ := centre_canon_of_tree (cj := cj) (dim := dim) (up := up) (dn := dn) h.wf r hwr hsub hE
  refine ⟨up, dn, hE, hC.2.2, hC, hL, hrid ▸ hP, ?_⟩
  intro σ
  rw [normLeaves_perm cj N up dn hperm]
  exact hrid ▸ centre_norm_of_tree (cj := cj) (dim := dim) (up := up) (dn := dn) h.wf r hwr hsub hE σ

end Ptn.C06.Gauge
