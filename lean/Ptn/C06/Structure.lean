import Ptn.C02.CompositeWF
import Ptn.C02.BuildLabels
import Ptn.C02.DemoKit
/-! # Structural corollaries for C06 / C07 (TDVP), proved on the structural TTN model of C02

The tree surgery of a TDVP step, modelled in `Ptn/C02/Composite.lean` line by line from
`pytreenet/time_evolution/tdvp_algorithms/{onesitetdvp,twositetdvp}.py` and
`pytreenet/core/canonical_form.py`:

* `linkUpdate a b link bd`    = `OneSiteTDVP._update_link(a, b)`:
    `split_node_qr(a, q, r, q_identifier=a, r_identifier=link, mode=KEEP)`, access of the link tensor,
    `contract_nodes(link, b, new_identifier=b)`;
* `twoSiteUpdate a b ts bd`   = `TwoSiteTDVP._update_two_site_nodes(a, b)`:
    `legs_before_combination(a, b)`, `contract_nodes(a, b, new_identifier=ts)`, access,
    `split_node_svd(ts, u, v, u_identifier=a, v_identifier=b)`;
* `centreMove a b rid bd`     = `split_qr_contract_r_to_neighbour(ttn, a, b)` (every step of
    `move_orthogonalization_center` / `canonical_form`).

`t.S k = some (parent, children)` is the structure of node `k` (`none`: no such node); `t.openAxes k` are
the open axes (label, dimension) of node `k` in order; `t.LWF` is the label invariant of C02 (the two ends of
every bond carry the same label and dimension).  Each theorem holds for both orientations of the pair and
for any numbers of further children and open legs; the new bond dimension `bd` is arbitrary.

The theorems are corollaries of C02's `link_update_full`, `two_site_full`, `centre_move_full`, `tdvp_run_labels`
(`CompositeWF.lean`); the `…_partial` ones are the structure-only versions (no hypothesis on the labels, no conclusion
about them).  The examples run on the network `builtTTN` of `Ptn/C02/DemoKit.lean`.  Core Lean only. -/
namespace Ptn.C06
open Ptn.C02

/-- Reading of "the lower node of the pair `{a, b}` has become the first child of the upper one, nothing
    else has changed". -/
def PromotedIn (t t' : TTN) (a b : Id) : Prop :=
  ∃ top bot Tn, ((top = a ∧ bot = b) ∨ (top = b ∧ bot = a)) ∧ t.N top = some Tn ∧ bot ∈ Tn.children ∧
    (∀ k, k ≠ top → t'.S k = t.S k) ∧
    t'.S top = some (Tn.parent, bot :: Tn.children.erase bot)

theorem promotedIn_of {t t' : TTN} {a b : Id} (h : t.WF)
    (hc : ∃ A, t.N a = some A ∧
      ((b ∈ A.children ∧ t'.S = promoteS t.S a b) ∨ (A.parent = some b ∧ t'.S = promoteS t.S b a))) :
    PromotedIn t t' a b := by
  obtain ⟨A, hA, hcase⟩ := hc
  rcases hcase with ⟨hb, S'⟩ | ⟨hp, S'⟩
  · exact ⟨a, b, A, Or.inl ⟨rfl, rfl⟩, hA, hb, promote_explicit hA S'⟩
  · obtain ⟨B, hB, hm⟩ := parent_node h hA hp
    exact ⟨b, a, B, Or.inr ⟨rfl, rfl⟩, hB, hm, promote_explicit hB S'⟩

/-- Reading of the effect of a centre move `a → b` on the structure. -/
def CentreMovedIn (t t' : TTN) (a b : Id) : Prop :=
  (∃ A, t.N a = some A ∧ b ∈ A.children ∧ (∀ k, k ≠ a → t'.S k = t.S k) ∧
      t'.S a = some (A.parent, b :: A.children.erase b)) ∨
  (∃ A B, t.N a = some A ∧ A.parent = some b ∧ t.N b = some B ∧ a ∈ B.children ∧
      (∀ k, k ≠ b → t'.S k = t.S k) ∧
      t'.S b = some (B.parent, B.children.erase a ++ [a]))

theorem centreMovedIn_of {t t' : TTN} {a b : Id} (h : t.WF)
    (hc : ∃ A, t.N a = some A ∧
      ((b ∈ A.children ∧ t'.S = promoteS t.S a b) ∨ (A.parent = some b ∧ t'.S = demoteS t.S b a))) :
    CentreMovedIn t t' a b := by
  obtain ⟨A, hA, hcase⟩ := hc
  rcases hcase with ⟨hb, S'⟩ | ⟨hp, S'⟩
  · exact Or.inl ⟨A, hA, hb, promote_explicit hA S'⟩
  · obtain ⟨B, hB, hm⟩ := parent_node h hA hp
    exact Or.inr ⟨A, B, hA, hp, hB, hm, demote_explicit hB S'⟩

/-- **One-site link update** `_update_link(a, b)`.  The network stays well-formed and label-consistent; with
    `top` the upper and `bot` the lower node of the pair: every node other than `top` has its structure
    (parent, children list) unchanged, `top` keeps its parent and its children, and `bot` has become its FIRST
    child (the other children keep their relative order); **every node keeps exactly its open legs** (labels,
    order, dimensions). -/
theorem link_update_structure {t t' : TTN} {a b link : Id} {bd : Nat} (h : t.WF) (hl : t.LWF)
    (hfresh : t.N link = none) (hs : t.linkUpdate a b link bd = some t') :
    t'.WF ∧ t'.LWF ∧ t'.root = t.root ∧ PromotedIn t t' a b ∧ ∀ k, t'.openAxes k = t.openAxes k := by
  obtain ⟨w, R, hc⟩ := link_update_full (TTN.WFX.ofLWF h hl) hfresh hs
  -- `WFX P O` carries the label invariant and the open axes under the condition `P`, which is `True` here
  exact ⟨w.wf, w.lwf trivial, R, promotedIn_of h hc, w.op trivial⟩

/-- **Two-site update** `_update_two_site_nodes(a, b)` (any truncated bond dimension): as for the link update. -/
theorem two_site_update_structure {t t' : TTN} {a b ts : Id} {bd : Nat} (h : t.WF) (hl : t.LWF)
    (hfresh : t.N ts = none) (hs : t.twoSiteUpdate a b ts bd = some t') :
    t'.WF ∧ t'.LWF ∧ t'.root = t.root ∧ PromotedIn t t' a b ∧ ∀ k, t'.openAxes k = t.openAxes k := by
  obtain ⟨w, R, hc⟩ := two_site_full (TTN.WFX.ofLWF h hl) hfresh hs
  exact ⟨w.wf, w.lwf trivial, R, promotedIn_of h hc, w.op trivial⟩

/-- **Centre move** `split_qr_contract_r_to_neighbour(a, b)`.  Towards a child `b` of `a`: `b` becomes the
    FIRST child of `a`.  Towards the parent `b` of `a`: `a` becomes the LAST child of `b`.  Nothing else
    changes in the structure, and every node keeps exactly its open legs. -/
theorem centre_move_structure {t t' : TTN} {a b rid : Id} {bd : Nat} (h : t.WF) (hl : t.LWF)
    (hfresh : t.N rid = none) (hs : t.centreMove a b rid bd = some t') :
    t'.WF ∧ t'.LWF ∧ t'.root = t.root ∧ CentreMovedIn t t' a b ∧ ∀ k, t'.openAxes k = t.openAxes k := by
  obtain ⟨w, R, hc⟩ := centre_move_full (TTN.WFX.ofLWF h hl) hfresh hs
  exact ⟨w.wf, w.lwf trivial, R, centreMovedIn_of h hc, w.op trivial⟩

/-- **Any sequence** of site accesses, link updates, two-site updates, centre moves (and
    `contract_and_split_with_parent`s) – i.e. a TDVP time step of any order, including the initial
    canonicalisation: the network stays well-formed (so the statement composes with
    `Ptn.C02.ops_preserve_wf`) and label-consistent; root, identifiers and the parent of every node are
    preserved, the children of every node up to order; **every node keeps exactly its open legs, in order, with
    their dimensions – only bond dimensions change**. -/
theorem tdvp_step_structure {t t' : TTN} {es : List TdvpEvent} (h : t.WF) (hl : t.LWF)
    (hr : TdvpRun t es t') :
    t'.WF ∧ t'.LWF ∧ t'.root = t.root ∧
    (∀ k, t'.N k = none ↔ t.N k = none) ∧
    (∀ k n, t.N k = some n →
      ∃ n', t'.N k = some n' ∧ n'.parent = n.parent ∧ n'.children.Perm n.children) ∧
    (∀ k, t'.openAxes k = t.openAxes k) := by
  obtain ⟨w, l, R, E, o⟩ := tdvp_run_labels h hl hr
  exact ⟨w, l, R, (treeEq_explicit E).1, (treeEq_explicit E).2, o⟩

/-! ### structure only (no hypothesis on the labels) -/

theorem link_update_structure_partial {t t' : TTN} {a b link : Id} {bd : Nat} (h : t.WF)
    (hfresh : t.N link = none) (hs : t.linkUpdate a b link bd = some t') :
    t'.WF ∧ t'.root = t.root ∧
    ∃ top bot Tn, ((top = a ∧ bot = b) ∨ (top = b ∧ bot = a)) ∧ t.N top = some Tn ∧ bot ∈ Tn.children ∧
      (∀ k, k ≠ top → t'.S k = t.S k) ∧
      t'.S top = some (Tn.parent, bot :: Tn.children.erase bot) := by
  obtain ⟨w, R, hc⟩ := link_update_full (TTN.WFX.ofWF h) hfresh hs
  exact ⟨w.wf, R, promotedIn_of h hc⟩

theorem two_site_update_structure_partial {t t' : TTN} {a b ts : Id} {bd : Nat} (h : t.WF)
    (hfresh : t.N ts = none) (hs : t.twoSiteUpdate a b ts bd = some t') :
    t'.WF ∧ t'.root = t.root ∧
    ∃ top bot Tn, ((top = a ∧ bot = b) ∨ (top = b ∧ bot = a)) ∧ t.N top = some Tn ∧ bot ∈ Tn.children ∧
      (∀ k, k ≠ top → t'.S k = t.S k) ∧
      t'.S top = some (Tn.parent, bot :: Tn.children.erase bot) := by
  obtain ⟨w, R, hc⟩ := two_site_full (TTN.WFX.ofWF h) hfresh hs
  exact ⟨w.wf, R, promotedIn_of h hc⟩

theorem centre_move_structure_partial {t t' : TTN} {a b rid : Id} {bd : Nat} (h : t.WF)
    (hfresh : t.N rid = none) (hs : t.centreMove a b rid bd = some t') :
    t'.WF ∧ t'.root = t.root ∧
    ((∃ A, t.N a = some A ∧ b ∈ A.children ∧ (∀ k, k ≠ a → t'.S k = t.S k) ∧
        t'.S a = some (A.parent, b :: A.children.erase b)) ∨
     (∃ A B, t.N a = some A ∧ A.parent = some b ∧ t.N b = some B ∧ a ∈ B.children ∧
        (∀ k, k ≠ b → t'.S k = t.S k) ∧
        t'.S b = some (B.parent, B.children.erase a ++ [a]))) := by
  obtain ⟨w, R, hc⟩ := centre_move_full (TTN.WFX.ofWF h) hfresh hs
  exact ⟨w.wf, R, centreMovedIn_of h hc⟩

theorem tdvp_step_structure_partial {t t' : TTN} {es : List TdvpEvent} (h : t.WF) (hr : TdvpRun t es t') :
    t'.WF ∧ t'.root = t.root ∧
    (∀ k, t'.N k = none ↔ t.N k = none) ∧
    (∀ k n, t.N k = some n →
      ∃ n', t'.N k = some n' ∧ n'.parent = n.parent ∧ n'.children.Perm n.children) := by
  obtain ⟨w, R, E⟩ := tdvp_run_structure h hr
  exact ⟨w, R, treeEq_explicit E⟩

theorem buildOps_run : ∃ t, TRun TTN.empty buildOps t ∧ t.S 1 = some (none, [2, 3]) :=
  ⟨builtTTN, builtTTN_run, rfl⟩

/-- Link update from the leaf `3` to the root: succeeds, `50` is unused, and `3` has become the first
    child of `1`. -/
example : ∃ t t', TRun TTN.empty buildOps t ∧ t.WF ∧ t.N 50 = none ∧ t.linkUpdate 3 1 50 2 = some t' ∧
    t'.S 1 = some (none, [3, 2]) :=
  let ⟨t', h, hS⟩ := (by decide +kernel : ∃ t' ∈ builtTTN.linkUpdate 3 1 50 2, t'.S 1 = some (none, [3, 2]))
  ⟨builtTTN, t', builtTTN_run, built_wf builtTTN_run, rfl, h, hS⟩

/-- Link update from the root down to `3`: same effect. -/
example : ∃ t t', TRun TTN.empty buildOps t ∧ t.linkUpdate 1 3 50 2 = some t' ∧
    t'.S 1 = some (none, [3, 2]) :=
  let ⟨t', h, hS⟩ := (by decide +kernel : ∃ t' ∈ builtTTN.linkUpdate 1 3 50 2, t'.S 1 = some (none, [3, 2]))
  ⟨builtTTN, t', builtTTN_run, h, hS⟩

/-- the two-site update of `(1, 3)` with the bond cut to 1, on the written-out network: one evaluation for the two
    instances below that speak of it -/
theorem builtTTN_twoSite : ∃ t' ∈ builtTTN.twoSiteUpdate 1 3 51 1, t'.S 1 = some (none, [3, 2]) ∧
    t'.openAxes 1 = [⟨0, 2⟩] ∧ t'.openAxes 2 = [⟨1, 2⟩] ∧ t'.openAxes 3 = [⟨2, 2⟩] := by
  decide +kernel

/-- Two-site update of `(1, 3)` with a truncated bond. -/
example : ∃ t t', TRun TTN.empty buildOps t ∧ t.N 51 = none ∧ t.twoSiteUpdate 1 3 51 1 = some t' ∧
    t'.S 1 = some (none, [3, 2]) :=
  let ⟨t', h, hS, _⟩ := builtTTN_twoSite
  ⟨builtTTN, t', builtTTN_run, rfl, h, hS⟩

/-- Centre moves: `2 → 1` makes `2` the last child (here: `[3, 2]`), `1 → 3` makes `3` the first child. -/
example : ∃ t t', TRun TTN.empty buildOps t ∧ t.N 52 = none ∧ t.centreMove 2 1 52 2 = some t' ∧
    t'.S 1 = some (none, [3, 2]) :=
  let ⟨t', h, hS⟩ := (by decide +kernel : ∃ t' ∈ builtTTN.centreMove 2 1 52 2, t'.S 1 = some (none, [3, 2]))
  ⟨builtTTN, t', builtTTN_run, rfl, h, hS⟩

/-- A run of events (move, access, link update, two-site update). -/
example : ∃ t t', TRun TTN.empty buildOps t ∧
    TdvpRun t [.move 3 1 60 2, .access 1, .link 1 2 61 3, .access 2, .twoSite 2 1 62 2] t' :=
  let ⟨t', h⟩ := Option.isSome_iff_exists.mp (by decide +kernel : (Ptn.C10.tdvpRun? builtTTN
    [.move 3 1 60 2, .access 1, .link 1 2 61 3, .access 2, .twoSite 2 1 62 2]).isSome)
  ⟨builtTTN, t', builtTTN_run, Ptn.C10.tdvpRun?_sound h⟩

/-- A two-site update with a truncated bond keeps the open axes of every node (`⟨0, 2⟩` at the root, `⟨1, 2⟩` at
    `2`, `⟨2, 2⟩` at `3`). -/
example : ∃ t t', TRunL TTN.empty buildOps t ∧ t.WF ∧ t.LWF ∧ t.N 51 = none ∧
    t.twoSiteUpdate 1 3 51 1 = some t' ∧
    t.openAxes 1 = [⟨0, 2⟩] ∧ t'.openAxes 1 = [⟨0, 2⟩] ∧ t'.openAxes 2 = [⟨1, 2⟩] ∧ t'.openAxes 3 = [⟨2, 2⟩] :=
  let ⟨t', h, _, ho⟩ := builtTTN_twoSite
  ⟨builtTTN, t', builtTTN_runL, (builtL_labels builtTTN_runL).1, (builtL_labels builtTTN_runL).2, rfl, h, rfl, ho⟩

end Ptn.C06
