import Ptn.C06.Value
/-! A concrete doubled tree in canonical form (non-vacuity of the hypotheses of the value-level theorems):
centre — B — A and centre — A2, over ℂ, with permutation-like isometries; bond dimension 4 between the
centre and B (B reshapes its open leg and its bond to A into its bond toward the centre). Ket labels 0..9 (9: the open leg of the centre),
the bra copy has the labels `l + 10`. -/
namespace Ptn.C06.Demo

open Ptn.Ein

def dim (l : Nat) : Nat := if l % 10 = 4 ∨ l % 10 = 5 then 4 else 2
def pr (l : Nat) : Nat := l + 10

/-- `δ(u, p)`: a leaf node whose open leg is copied to its bond -/
def tA (u p : Nat) : Asg Nat → ℂ := fun σ => if σ u = σ p then 1 else 0
/-- the reshaping isometry `(open leg 6, bond 8 to A) → bond 4` -/
def tB : Asg Nat → ℂ := fun σ => if σ 4 = 2 * σ 6 + σ 8 then 1 else 0

def subA : Sub Nat ℂ := .node (tA 0 1) (cjr pr (tA 0 1)) 0 10 [(1, 11)] .nil
def subA2 : Sub Nat ℂ := .node (tA 2 3) (cjr pr (tA 2 3)) 2 12 [(3, 13)] .nil
def subB : Sub Nat ℂ := .node tB (cjr pr tB) 4 14 [(6, 16)] (.cons 8 18 subA .nil)
/-- the sub-trees around the centre: `B` (with `A` below it) on the centre's legs `(5, 15)`, `A2` on `(7, 17)` -/
def kids : Kids Nat ℂ := .cons 5 15 subB (.cons 7 17 subA2 .nil)

theorem pr_inj : Function.Injective pr := fun _ _ h => Nat.add_right_cancel h
theorem dim_pr (l : Nat) : dim (pr l) = dim l := by
  simp only [dim, pr, Nat.add_mod_right]

theorem kids_nodup : kids.labels.Nodup := by decide +kernel

theorem kids_isConj : kids.IsConj pr := by
  simp [kids, subB, subA, subA2, Kids.IsConj, Sub.IsConj, pr]

/-- `Σ_i δ(a, i) · conj δ(b, i) = δ(a, b)` for `a` within the range -/
theorem sum_delta (n a b : Nat) (ha : a < n) :
    sumR n (fun i => (if a = i then (1 : ℂ) else 0) * star (if b = i then (1 : ℂ) else 0)) =
      if a = b then 1 else 0 := by
  rw [sumR_eq]
  simp only [apply_ite star, star_one, star_zero, ite_mul, one_mul, zero_mul]
  rw [Finset.sum_ite_eq, if_pos (Finset.mem_range.2 ha)]
  simp only [eq_comm]

/-- a leaf `δ(u, p)` with its conjugated copy is canonical toward `u` as soon as the open leg is as large as the bond -/
theorem leaf_canon (u p : Nat) (h1 : u ≠ p) (h2 : u ≠ p + 10) (h3 : u + 10 ≠ p) (hd : dim p = dim u) :
    (Sub.node (tA u p) (cjr pr (tA u p)) u (pr u) [(p, pr p)] .nil).Canon dim := by
  refine ⟨?_, ?_, dim_pr u, ?_, trivial⟩
  · intro σ τ h
    have h0 := h u (.head _); have h1 := h p (.tail _ (.head _))
    simp only [tA, h0, h1]
  · intro σ τ h
    have h0 := h (pr u) (.head _); have h1 := h (pr p) (.tail _ (.head _))
    simp only [cjr, tA, h0, h1]
  · intro τ h0 _
    have h4 : u + 10 ≠ p + 10 := fun e => h1 (Nat.add_right_cancel e)
    have h5 : p ≠ p + 10 := by omega
    show sumR (dim p) (fun i => tA u p (upd (upd τ p i) (pr p) i) * cjr pr (tA u p) (upd (upd τ p i) (pr p) i)) = _
    simp only [cjr, tA, pr, upd, h1, h2, h3, h4, h5, ↓reduceIte]
    exact sum_delta _ _ _ (hd ▸ h0)

theorem subA_canon : subA.Canon dim := leaf_canon 0 1 (by decide) (by decide) (by decide) rfl

theorem subA2_canon : subA2.Canon dim := leaf_canon 2 3 (by decide) (by decide) (by decide) rfl

/-- the reshaping `(i, j) ↦ 2 i + j` of two legs of dimension 2 into one of dimension 4 reindexes the sum -/
theorem sum_reshape (f : Nat → ℂ) : sumR 2 (fun i => sumR 2 (fun j => f (2 * i + j))) = sumR 4 f := by
  simp [sumR, List.range_succ, add_assoc]

theorem subB_canon : subB.Canon dim := by
  refine ⟨?_, ?_, rfl, ?_, rfl, rfl, subA_canon, trivial⟩
  · intro σ τ h
    have h0 := h 4 (.head _); have h1 := h 6 (.tail _ (.head _)); have h2 := h 8 (.tail _ (.tail _ (.head _)))
    simp only [tB, h0, h1, h2]
  · intro σ τ h
    have h0 := h 14 (.head _); have h1 := h 16 (.tail _ (.head _)); have h2 := h 18 (.tail _ (.tail _ (.head _)))
    show star (if σ 14 = 2 * σ 16 + σ 18 then (1 : ℂ) else 0) = star (if τ 14 = 2 * τ 16 + τ 18 then (1 : ℂ) else 0)
    rw [h0, h1, h2]
  · intro τ h0 _
    exact (sum_reshape fun k => (if τ 4 = k then (1 : ℂ) else 0) * star (if τ 14 = k then (1 : ℂ) else 0)).trans
      (sum_delta 4 _ _ h0)

theorem kids_canon : kids.Canon dim :=
  ⟨rfl, rfl, subB_canon, rfl, rfl, subA2_canon, trivial⟩

/-- a centre tensor on the legs `5` (to B), `7` (to A2) and the open leg `9` -/
def tC : Asg Nat → ℂ := fun σ => (σ 5 : ℂ) + 2 * σ 7 + 3 * σ 9 + 1

def centre : Centre Nat ℂ := ⟨tC, cjr pr tC, [(9, 19)], kids⟩

theorem centre_nodup : centre.labels.Nodup := by decide +kernel

theorem centre_canon : centre.Canon dim := by
  refine ⟨?_, ?_, kids_canon⟩
  · intro σ τ h
    have h0 := h 5 (.tail _ (.head _)); have h1 := h 7 (.tail _ (.tail _ (.head _))); have h2 := h 9 (.head _)
    simp only [centre, tC, h0, h1, h2]
  · intro σ τ h
    have h0 := h 15 (.tail _ (.head _)); have h1 := h 17 (.tail _ (.tail _ (.head _))); have h2 := h 19 (.head _)
    show star ((σ 15 : ℂ) + 2 * σ 17 + 3 * σ 19 + 1) = star ((τ 15 : ℂ) + 2 * τ 17 + 3 * τ 19 + 1)
    rw [h0, h1, h2]

end Ptn.C06.Demo
