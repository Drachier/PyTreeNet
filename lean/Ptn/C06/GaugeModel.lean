import Ptn.C05.DiscModel
import Ptn.C03.Model
/-! The gauge machine of the TDVP sweeps (core Lean only; used by the C06 driver).

The events of a whole time step are those of the C05 discipline machine (`Ptn.C05.Disc.DEv`, the sequences
`eventsFirst` / `eventsSecond` / `eventsTwoSite`, proved to follow the sweeps of the code and compared with the
real event trace on every run of C05).  Here they are run on the C03 gauge record (`Ptn.C03.applyOp`): for every
node the neighbour its tensor is an isometry toward (`none`: no record - the orthogonality centre).

* `move a b`, `hop a b` - `move_orthogonalization_center` over one edge: `split_node_qr` at `a` with the R factor
  toward `b`, R contracted into `b`: `a` then points to `b`, `b` loses its record;
* `link a b` - `OneSiteTDVP._update_link`: `split_node_qr` at `a` (Q keeps the identifier `a`, R is the temporary
  link node), the link tensor is evolved, then contracted into `b`: the same effect on the record; WHILE the link
  tensor is evolved `a` already points to `b` and `b` still carries its old record (`during`);
* `two a b` - `TwoSiteTDVP._update_two_site_nodes`: `a` and `b` are contracted, the two-site tensor is evolved (their
  records are void meanwhile, `during`), `split_node_svd` gives `a` the factor U (an isometry toward `b`) and `b`
  the factor S V: `a` points to `b`, `b` has no record;
* `site v` - `_update_site`: replaces the tensor of the centre, which has no record; the record is kept;
* `init c` - a new cache: no tensor is touched. -/
namespace Ptn.C06.Gauge
open Ptn.C17 Ptn.C17.RTree Ptn.C05.Disc

/-- the C03 record: the neighbour a node's tensor is an isometry toward -/
abbrev Rec := Nat → Option Nat

inductive SplitKind where
  | qr
  | svd
deriving DecidableEq, Repr

/-- one factorisation observed from outside (`split_node_qr` / `split_node_svd`): the node that keeps the isometric
    factor and the neighbour the other factor goes to -/
structure GOp where
  kind : SplitKind
  node : Nat
  toward : Nat
deriving DecidableEq, Repr

/-- the factorisation an event performs -/
def opOf : DEv → Option GOp
  | .site _ => none
  | .move a b => some ⟨.qr, a, b⟩
  | .link a b => some ⟨.qr, a, b⟩
  | .two a b => some ⟨.svd, a, b⟩
  | .hop a b => some ⟨.qr, a, b⟩
  | .init _ => none

structure GSt where
  centre : Nat
  dir : Rec

/-- one event on the record -/
def gstep (st : GSt) : DEv → GSt
  | .site _ => st
  | .move a b => ⟨b, Ptn.C03.applyOp st.dir ⟨a, b⟩⟩
  | .link a b => ⟨b, Ptn.C03.applyOp st.dir ⟨a, b⟩⟩
  | .two a b => ⟨b, Ptn.C03.applyOp st.dir ⟨a, b⟩⟩
  | .hop a b => ⟨b, Ptn.C03.applyOp st.dir ⟨a, b⟩⟩
  | .init _ => st

def grun (st : GSt) (evs : List DEv) : GSt := evs.foldl gstep st

/-- the record WHILE the local update of an event runs (the `time_evolve` call): for a link update the node `a` was
    already split toward `b`; for a two-site update `a` and `b` are merged into one tensor -/
def during (dir : Rec) : DEv → Rec
  | .link a b => fun n => if n = a then some b else dir n
  | .two a b => fun n => if n = a ∨ n = b then none else dir n
  | _ => dir

/-- the events that evolve a tensor -/
def isUpdate : DEv → Bool
  | .site _ => true
  | .link _ _ => true
  | .two _ _ => true
  | _ => false

/-- the centre and adjacency precondition of an event: that of the discipline machine, which reads only the centre of
    its state (the list of stale blocks is left empty) -/
def gpre (t : RTree) (c : Nat) (e : DEv) : Bool := pre t ⟨c, []⟩ e

/-- the factorisations of a list of events, in order -/
def opsOf (evs : List DEv) : List GOp := evs.filterMap opOf

/-- executable form of "canonical at `c`": the centre has no record, every other node points to its first hop toward `c` -/
def canonAtB (t : RTree) (dir : Rec) (c : Nat) : Bool :=
  (dir c).isNone && (ids t).all fun x => x == c || ((firstHop t x c).isSome && dir x == firstHop t x c)

/-- executable form of "canonical at the link between `a` and `b`": every node points toward the link, `a` itself
    toward `b` and `b` itself toward `a` -/
def canonLinkB (t : RTree) (dir : Rec) (a b : Nat) : Bool :=
  (ids t).all fun x =>
    (x == b || ((firstHop t x b).isSome && dir x == firstHop t x b)) &&
    (x == a || ((firstHop t x a).isSome && dir x == firstHop t x a))

/-- executable form of "canonical at the merged pair `a`, `b`" -/
def canonPairB (t : RTree) (dir : Rec) (a b : Nat) : Bool :=
  (dir a).isNone && (dir b).isNone &&
  (ids t).all fun x => x == a || x == b ||
    ((firstHop t x a).isSome && dir x == firstHop t x a && dir x == firstHop t x b)

/-- the check of one event in a state: precondition, canonical at the centre, canonical at the updated position
    while the update runs -/
def goodB (t : RTree) (st : GSt) (e : DEv) : Bool :=
  gpre t st.centre e && canonAtB t st.dir st.centre &&
  match e with
  | .link a b => canonLinkB t (during st.dir e) a b
  | .two a b => canonPairB t (during st.dir e) a b
  | _ => true

/-- all events of a list checked in turn -/
def allGoodB (t : RTree) : GSt → List DEv → Bool
  | _, [] => true
  | st, e :: rest => goodB t st e && allGoodB t (gstep st e) rest

/-- the record after `canonical_form(c)` of a state without centre (C03: `canonOps` on the distance table) -/
def canonRec (t : RTree) (c : Nat) : Option (List Ptn.C03.Op × Rec) :=
  (distanceToNode t c).map fun dist =>
    let ops := Ptn.C03.canonOps dist (nbrsOf t)
    (ops, Ptn.C03.applyOps (fun _ => none) ops)

/-- the events of one time step of the scheme named `which`; outer `none`: no such scheme, inner `none`: the scheme is
    not defined on `t` (second order on a single node) -/
def eventsOf (t : RTree) (which : String) : Option (Option (List DEv)) :=
  if which == "first" then some (eventsFirst t)
  else if which == "second" then some (eventsSecond t)
  else if which == "twosite" then some (eventsTwoSite t)
  else none

def showOp (o : GOp) : String :=
  (match o.kind with | .qr => "qr " | .svd => "svd ") ++ s!"{o.node}>{o.toward}"

def showRec (t : RTree) (dir : Rec) : String :=
  " ".intercalate ((ids t).map fun x => match dir x with
    | some y => s!"{x}>{y}"
    | none => s!"{x}>-")

end Ptn.C06.Gauge
