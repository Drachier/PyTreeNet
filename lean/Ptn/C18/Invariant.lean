import Ptn.C18.MachineLemmas
/-! The invariant of the driver machine (core Lean only): `RecordShape`, `DerivedConsistent`, its arithmetic-free
part `Structural`, the admissible calls; that `Structural` holds after construction and is kept by every call
(`structural_effect`); the two counting instances of the examples.  The step-count clause is in `History.lean`. -/
namespace Ptn.C18

variable {σ β γ : Type}

/-- "Record arrays of the right length": without results the bond-dimension record is absent or
    empty; with results the table has one row per operator plus the time row, exactly `ncols`
    columns, every column written (none still at the zeros of `init_results`), and the
    bond-dimension record (if kept) has exactly one entry per column. -/
def RecordShape (s : Drv σ β γ) : Prop :=
  match s.results with
  | none => s.bond = none ∨ s.bond = some []
  | some r =>
    r.nrows = s.ops.count + 1 ∧ r.cols.length = r.ncols ∧ (∀ c ∈ r.cols, c ≠ none) ∧
      (∀ b, s.bond = some b → b.length = r.ncols)

/-- Every derived datum equals what a fresh construction with the CURRENT user parameters would
    compute. -/
structure DerivedConsistent (P : Params σ β γ) (s : Drv σ β γ) : Prop where
  /-- the stored propagator / Trotter exponents were computed for the current step size -/
  prop_current : s.prop = s.dt
  /-- the key table is the one `_init_operator_index_dict` builds from the operators -/
  index_table : ∀ key, s.opIdx.lookup key = operatorIndex s.ops key
  /-- whenever a fresh construction with the current `(final_time, time_step_size)` exists (both
      positive), it computes the stored number of steps -/
  num_steps : 0 < s.dt → 0 < s.T → (s.n : Int) = numSteps (P.rnd (s.T / s.dt))
  record : RecordShape s

/-- The part of the invariant that does not depend on arithmetic: `DerivedConsistent` without `num_steps`. -/
structure Structural (s : Drv σ β γ) : Prop where
  prop_current : s.prop = s.dt
  index_table : ∀ key, s.opIdx.lookup key = operatorIndex s.ops key
  record : RecordShape s

/-- A call that returns normally and whose float arithmetic honours the contract
    "the step count recomputed from the new `(final_time, time_step_size)` is the requested one".
    For exact arithmetic the contract is a theorem (`admissible_exact`); for IEEE doubles the harness
    validates it on every live setter call. -/
def Admissible (P : Params σ β γ) (s : Drv σ β γ) : Event → Prop
  | .run ev => ev ≠ some 0
  | .reset => True
  | .step => True
  | .setN m => 0 ≤ m ∧
      (0 < s.dt → 0 < P.rnd ((m : Rat) * s.dt) →
        numSteps (P.rnd (P.rnd ((m : Rat) * s.dt) / s.dt)) = m)
  | .setC m => 0 < m ∧
      (0 < s.T → 0 < P.rnd (s.T / (m : Rat)) →
        numSteps (P.rnd (s.T / P.rnd (s.T / (m : Rat)))) = m)

/-- Every call of the history is admissible in the state in which it is made. -/
def AdmHist (P : Params σ β γ) : Drv σ β γ → List Event → Prop
  | _, [] => True
  | s, e :: es => Admissible P s e ∧ AdmHist P (apply P e s).1 es

/-- The calls that return normally (no contract on the arithmetic). -/
def Returns : Event → Prop
  | .run ev => ev ≠ some 0
  | .reset => True
  | .step => True
  | .setN m => 0 ≤ m
  | .setC m => 0 < m

/-- what a record overwritten with `l` holds, if it is kept at all -/
theorem eq_of_map_const {α β : Type} {o : Option α} {l b : β}
    (h : o.map (fun _ => l) = some b) : b = l := by
  cases o with
  | none => cases h
  | some a => exact (Option.some.inj h).symm

theorem RecordShape.congr {s s' : Drv σ β γ} (h : RecordShape s) (h1 : s'.results = s.results)
    (h2 : s'.bond = s.bond) (h3 : s'.ops = s.ops) : RecordShape s' := by
  unfold RecordShape at *
  rw [h1, h2, h3]
  exact h

theorem recordShape_runEvent (P : Params σ β γ) (ev : EvalTime) (hev : ev ≠ some 0)
    (s : Drv σ β γ) : RecordShape (runEvent P ev s) := by
  cases ev with
  | none =>
    rw [runEvent_inf]
    simp only [RecordShape]
    refine ⟨trivial, by simp, by simp, ?_⟩
    intro b hb
    rw [eq_of_map_const hb]; rfl
  | some k =>
    have hk : 0 < k := some_ne_zero_iff.1 hev
    rw [runEvent_some P k hk]
    simp only [RecordShape]
    refine ⟨trivial, by simp, ?_, ?_⟩
    · intro c hc
      simp only [List.mem_map] at hc
      obtain ⟨j, _, rfl⟩ := hc
      simp
    · intro b hb
      rw [eq_of_map_const hb, List.length_map, List.length_range]

/-- The structural part is preserved by EVERY call, raising or not: only a `run` that returns writes
    new records, only `set_num_time_steps_constant_final_time` changes the step size, and it
    recomputes the propagator with it. -/
theorem structural_effect {P : Params σ β γ} {s s' : Drv σ β γ} {e : Event} (he : Effect P s e s')
    (h : Structural s) : Structural s' := by
  cases he with
  | run ev hev => exact ⟨h.prop_current, h.index_table, recordShape_runEvent P ev hev s⟩
  | setC m hm => exact ⟨rfl, h.index_table, h.record.congr rfl rfl rfl⟩
  | _ => exact ⟨h.prop_current, h.index_table, h.record.congr rfl rfl rfl⟩

theorem structural_exec (P : Params σ β γ) (es : List Event) (s : Drv σ β γ) (h : Structural s) :
    Structural (exec P es s) := by
  induction es generalizing s with
  | nil => exact h
  | cons e es ih =>
    simp only [exec, List.foldl_cons]
    exact ih _ (structural_effect (apply_effect P e s) h)

theorem construct_eq_some (P : Params σ β γ) (s0 : σ) (dt T : Rat) (ops : OpSpec) (rb : Bool)
    (s : Drv σ β γ) (h : construct P s0 dt T ops rb = some s) :
    0 < dt ∧ 0 < T ∧ s =
      { init := s0, cur := s0, dt := dt, T := T, n := (numSteps (P.rnd (T / dt))).toNat, ops := ops,
        opIdx := indexTable ops, results := none, bond := if rb then some [] else none, prop := dt } := by
  unfold construct at h
  split at h
  · cases h
  · split at h
    · cases h
    · exact ⟨Rat.not_le.mp ‹_›, Rat.not_le.mp ‹_›, (Option.some.inj h).symm⟩

theorem structural_construct (P : Params σ β γ) (s0 : σ) (dt T : Rat) (ops : OpSpec) (rb : Bool)
    (s : Drv σ β γ) (h : construct P s0 dt T ops rb = some s) : Structural s := by
  obtain ⟨_, _, rfl⟩ := construct_eq_some P s0 dt T ops rb s h
  refine ⟨rfl, fun key => lookup_indexTable ops key, ?_⟩
  simp only [RecordShape]
  cases rb <;> simp

/-- The counting instance used in the examples: exact arithmetic, the state counts the steps and
    remembers the tag of the last propagator used. -/
def exactCounting : Params (Nat × Rat) Nat Nat where
  rnd := id
  stepWith := fun tag s => (s.1 + 1, tag)
  obs := fun s => s.1
  bd := fun s => s.1

/-- The same counting instance with IEEE-754 double arithmetic (`fl`, the arithmetic of the driver's
    `histParams`). -/
def ieeeCounting : Params (Nat × Rat) Nat Nat where
  rnd := fl
  stepWith := fun tag s => (s.1 + 1, tag)
  obs := fun s => s.1
  bd := fun s => s.1

end Ptn.C18
