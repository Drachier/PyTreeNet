import Ptn.C18.Model
/-! Core Lean only: the loop of `run` as `iter` plus a `filterMap` over the loop indices
(`foldl_body_range`), and which indices are kept for an integer interval and for `"inf"`. -/
namespace Ptn.C18

def iter {σ : Type} (f : σ → σ) : Nat → σ → σ
  | 0, a => a
  | n + 1, a => f (iter f n a)

/-- The write of loop index `i`, if `evaluate_and_save_results` is called there: column, step number and
    the observation of the state after `i` steps. -/
def writeAt {σ β : Type} (step : σ → σ) (obs : σ → β) (n : Nat) (ev : EvalTime) (s0 : σ)
    (i : Nat) : Option (Write β) :=
  if shouldEval n ev i then some ⟨resultIndex ev i, i, obs (iter step i s0)⟩ else none

theorem foldl_body_range {σ β : Type} (step : σ → σ) (obs : σ → β) (n : Nat) (ev : EvalTime)
    (s0 : σ) (m : Nat) :
    (List.range (m + 1)).foldl (body step obs n ev) (s0, []) =
      (iter step m s0, (List.range (m + 1)).filterMap (writeAt step obs n ev s0)) := by
  induction m with
  | zero =>
    by_cases h : shouldEval n ev 0 <;> simp [List.range_succ, body, writeAt, iter, h]
  | succ m ih =>
    rw [List.range_succ, List.foldl_append, ih]
    simp only [List.foldl_cons, List.foldl_nil, body]
    rw [List.filterMap_append]
    simp only [Nat.add_eq_zero_iff, Nat.succ_ne_self, and_false, if_false, iter, writeAt,
      List.filterMap_cons, List.filterMap_nil]
    split <;> simp_all

theorem filterMap_multiples {β : Type} (g : Nat → β) (k n : Nat) :
    (List.range (n + 1)).filterMap (fun i => if i % k == 0 then some (g i) else none) =
      (List.range (n / k + 1)).map (fun j => g (j * k)) := by
  induction n with
  | zero => simp
  | succ n ih =>
    rw [List.range_succ, List.filterMap_append, ih]
    by_cases h : (n + 1) % k = 0
    · have hd : k ∣ n + 1 := Nat.dvd_of_mod_eq_zero h
      have h1 : (n + 1) / k = n / k + 1 := by
        rw [Nat.succ_div]; simp [hd]
      have h2 : (n / k + 1) * k = n + 1 := by
        rw [← h1]; exact Nat.div_mul_cancel hd
      rw [h1, List.range_succ (n := n / k + 1), List.map_append]
      simp [h, h2]
    · have hd : ¬ k ∣ n + 1 := fun hd => h (Nat.mod_eq_zero_of_dvd hd)
      have h1 : (n + 1) / k = n / k := by
        rw [Nat.succ_div]; simp [hd]
      rw [h1]
      simp [h]

theorem filterMap_last {β : Type} (g : Nat → β) (n m : Nat) (hm : m ≤ n) :
    (List.range (m + 1)).filterMap (fun i => if i == n then some (g i) else none) =
      if m = n then [g n] else [] := by
  induction m with
  | zero =>
    simp [List.range_succ]
    by_cases h : n = 0 <;> simp [h, eq_comm]
  | succ m ih =>
    rw [List.range_succ, List.filterMap_append, ih (by omega)]
    have : m ≠ n := by omega
    simp [this]
    by_cases h : m + 1 = n <;> simp [h]

end Ptn.C18
