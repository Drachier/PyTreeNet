import Ptn.C18.Core
import Ptn.C18.History
import Ptn.Common.AnalysisExp
/-! The one property theorem of C18 that needs Mathlib; the others (`Core.lean`, `History.lean`) are core Lean. -/
namespace Ptn.C18

open Matrix NormedSpace in
/-- The exact reference evolution multiplies by `U = exp(-i dt H)` once per step (`run_state`:
    exactly `n` steps), so after `j` steps the state is `exp(-i (j dt) H) psi`. -/
theorem exact_evolution {n : Type} [Fintype n] [DecidableEq n] (H : Matrix n n ℂ) (dt : ℂ) (j : ℕ) :
    exp ((-Complex.I * dt) • H) ^ j = exp ((((j : ℂ)) * (-Complex.I * dt)) • H) :=
  Ptn.Analysis.exp_smul_pow H (-Complex.I * dt) j

end Ptn.C18
