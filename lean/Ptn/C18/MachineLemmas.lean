import Ptn.C18.Machine
import Ptn.C18.Core
/-! Core Lean only, on the schedule theorems of `Core.lean`: the key table, `runEvent` in closed form for
the two kinds of interval, `Effect` (what one public call does to the attributes: the theorems about
a call reason through it), and the sign of `fl`, the one fact about the rounding that the invariant needs
(that `fl` is binary64 rounding is not proved: the correspondence check compares every stored number exactly). -/
namespace Ptn.C18

variable {σ β γ : Type}

theorem lookup_enumFrom (ks : List String) (i : Nat) (key : String) :
    (enumFrom i ks).lookup key =
      if ks.idxOf key < ks.length then some (i + ks.idxOf key) else none := by
  induction ks generalizing i with
  | nil => simp [enumFrom]
  | cons k ks ih =>
    by_cases h : k = key
    · subst h; simp [enumFrom]
    · have h1 : (key == k) = false := by
        simp only [beq_eq_false_iff_ne, ne_eq]; exact fun e => h e.symm
      have h2 : (k == key) = false := by
        simp only [beq_eq_false_iff_ne, ne_eq]; exact h
      simp only [enumFrom, List.lookup_cons, h1, List.idxOf_cons, h2, cond_false, List.length_cons,
        Nat.add_lt_add_iff_right, ih]
      split
      · simp; omega
      · rfl

theorem lookup_indexTable (ops : OpSpec) (key : String) :
    (indexTable ops).lookup key = operatorIndex ops key := by
  cases ops with
  | single => simp [indexTable, operatorIndex]
  | list len => simp [indexTable, operatorIndex]
  | dict ks => simp [indexTable, operatorIndex, lookup_enumFrom]

theorem table_run_some {σ β : Type} (step : σ → σ) (obs : σ → β) (n k : Nat) (hk : 0 < k)
    (s0 : σ) :
    table (numCols n (some k)) (run step obs n (some k) s0).2 =
      (List.range (n / k + 1)).map
        (fun j => some (⟨j, j * k, obs (iter step (j * k) s0)⟩ : Write β)) := by
  apply List.ext_getElem?
  intro j
  by_cases hj : j < numCols n (some k)
  · rw [table_lookup step obs n k hk s0 j hj]
    simp only [numCols] at hj
    simp [List.getElem?_map, List.getElem?_range hj]
  · simp only [numCols] at hj
    have h1 : (table (numCols n (some k)) (run step obs n (some k) s0).2)[j]? = none := by
      apply List.getElem?_eq_none
      simp [table, numCols]; omega
    have h2 : ((List.range (n / k + 1)).map
        (fun j => some (⟨j, j * k, obs (iter step (j * k) s0)⟩ : Write β)))[j]? = none := by
      apply List.getElem?_eq_none
      simp; omega
    rw [h1, h2]

theorem table_one {β : Type} (w : Write β) (h : w.col = 0) : table 1 [w] = [some w] := by
  simp [table, List.range_succ, h]

theorem runEvent_some (P : Params σ β γ) (k : Nat) (hk : 0 < k) (s : Drv σ β γ) :
    runEvent P (some k) s =
      { s with
        cur := iter (P.stepWith s.prop) s.n s.cur
        results := some
          { nrows := s.ops.count + 1, ncols := s.n / k + 1,
            cols := (List.range (s.n / k + 1)).map fun j =>
              some { vals := P.obs (iter (P.stepWith s.prop) (j * k) s.cur),
                     time := P.rnd (((j * k : Nat) : Rat) * s.dt) } }
        bond := s.bond.map fun _ =>
          (List.range (s.n / k + 1)).map fun j => P.bd (iter (P.stepWith s.prop) (j * k) s.cur) } := by
  unfold runEvent
  have ht := table_run_some (P.stepWith s.prop) (fun x => (P.obs x, P.bd x)) s.n k hk s.cur
  have hr := run_record (P.stepWith s.prop) (fun x => (P.obs x, P.bd x)) s.n k hk s.cur
  simp only [ht]
  simp only [run_state, hr]
  simp [numCols, Function.comp_def]

theorem runEvent_inf (P : Params σ β γ) (s : Drv σ β γ) :
    runEvent P none s =
      { s with
        cur := iter (P.stepWith s.prop) s.n s.cur
        results := some
          { nrows := s.ops.count + 1, ncols := 1,
            cols := [some { vals := P.obs (iter (P.stepWith s.prop) s.n s.cur),
                            time := P.rnd ((s.n : Rat) * s.dt) }] }
        bond := s.bond.map fun _ => [P.bd (iter (P.stepWith s.prop) s.n s.cur)] } := by
  unfold runEvent
  have h := (run_record_inf (P.stepWith s.prop) (fun x => (P.obs x, P.bd x)) s.n s.cur).1
  simp only [run_state, h, numCols]
  rw [table_one _ rfl]
  simp

/-- What one public call does to the attributes: the graph of the first component of `apply` (the object the
    call leaves behind, whether or not it raises), with the branch conditions written out.  `apply_effect` ties
    it to `apply`; the theorems about a call are case analyses on it. -/
inductive Effect (P : Params σ β γ) (s : Drv σ β γ) : Event → Drv σ β γ → Prop
  | runZero : Effect P s (.run (some 0)) s
  | run (ev : EvalTime) (h : ev ≠ some 0) : Effect P s (.run ev) (runEvent P ev s)
  | reset : Effect P s .reset { s with cur := s.init }
  | step : Effect P s .step { s with cur := P.stepWith s.prop s.cur }
  | setNNeg (m : Int) (h : m < 0) : Effect P s (.setN m) s
  | setN (m : Int) (h : 0 ≤ m) :
      Effect P s (.setN m) { s with n := m.toNat, T := P.rnd ((m : Rat) * s.dt) }
  | setCNeg (m : Int) (h : m < 0) : Effect P s (.setC m) s
  | setCZero : Effect P s (.setC 0) { s with n := 0 }
  | setC (m : Int) (h : 0 < m) :
      Effect P s (.setC m)
        { s with n := m.toNat, dt := P.rnd (s.T / (m : Rat)), prop := P.rnd (s.T / (m : Rat)) }

theorem apply_effect (P : Params σ β γ) (e : Event) (s : Drv σ β γ) :
    Effect P s e (apply P e s).1 := by
  cases e with
  | run ev =>
    cases ev with
    | none => exact .run none nofun
    | some k =>
      cases k with
      | zero => exact .runZero
      | succ k => exact .run _ nofun
  | reset => exact .reset
  | step => exact .step
  | setN m =>
    simp only [apply]
    split
    · exact .setNNeg m ‹_›
    · exact .setN m (by omega)
  | setC m =>
    simp only [apply]
    split
    · exact .setCNeg m ‹_›
    · split
      · subst m; exact .setCZero
      · exact .setC m (by omega)

namespace Effect
variable {P : Params σ β γ} {s s' : Drv σ β γ} {e : Event}

theorem frame (h : Effect P s e s') : s'.init = s.init ∧ s'.ops = s.ops := by
  cases h <;> exact ⟨rfl, rfl⟩

/-- Only a `run` that returns writes `_results` and the bond-dimension record (`he`: the call is not one). -/
theorem records (h : Effect P s e s') (he : ∀ ev, e = .run ev → ev = some 0) :
    s'.results = s.results ∧ s'.bond = s.bond := by
  cases h with
  | run ev hev => exact absurd (he ev rfl) hev
  | _ => exact ⟨rfl, rfl⟩

end Effect

/-- a `run` with an integer interval returns exactly when the interval is positive -/
theorem some_ne_zero_iff {k : Nat} : (some k : EvalTime) ≠ some 0 ↔ 0 < k := by
  simp only [ne_eq, Option.some.injEq]
  omega

theorem apply_run (P : Params σ β γ) (ev : EvalTime) (hev : ev ≠ some 0) (s : Drv σ β γ) :
    (apply P (.run ev) s).1 = runEvent P ev s := by
  have h := apply_effect P (.run ev) s
  generalize (apply P (.run ev) s).1 = s' at h
  cases h with
  | runZero => exact absurd rfl hev
  | run => rfl

theorem apply_reset (P : Params σ β γ) (s : Drv σ β γ) :
    (apply P .reset s).1 = { s with cur := s.init } := by
  have h := apply_effect P .reset s
  generalize (apply P .reset s).1 = s' at h
  cases h
  rfl

theorem exec_frame (P : Params σ β γ) (es : List Event) (s : Drv σ β γ) :
    (exec P es s).init = s.init ∧ (exec P es s).ops = s.ops := by
  induction es generalizing s with
  | nil => exact ⟨rfl, rfl⟩
  | cons e es ih =>
    have h := (apply_effect P e s).frame
    have h' := ih (apply P e s).1
    exact ⟨h'.1.trans h.1, h'.2.trans h.2⟩

theorem pow2_pos (e : Int) : 0 < pow2 e := by
  unfold pow2
  split
  · exact Rat.natCast_pos.mpr (Nat.pow_pos (by decide))
  · rw [Rat.div_def, Rat.one_mul]
    exact Rat.inv_pos.mpr (Rat.natCast_pos.mpr (Nat.pow_pos (by decide)))

theorem roundEven_nonneg (x : Rat) (hx : 0 ≤ x) : 0 ≤ roundEven x := by
  have h0 : (0 : Int) ≤ x.floor := Rat.le_floor_iff.mpr (by simpa using hx)
  unfold roundEven
  simp only []
  split
  · exact h0
  · split
    · omega
    · split <;> omega

theorem fl_nonneg (x : Rat) (hx : 0 ≤ x) : 0 ≤ fl x := by
  unfold fl
  split
  · exact Rat.le_refl
  · have hneg : ¬ x < 0 := Rat.not_lt.mpr hx
    simp only [hneg, if_false]
    apply Rat.mul_nonneg
    · apply Rat.intCast_nonneg.mpr
      apply roundEven_nonneg
      rw [Rat.div_def]
      exact Rat.mul_nonneg hx (Rat.le_of_lt (Rat.inv_pos.mpr (pow2_pos _)))
    · exact Rat.le_of_lt (pow2_pos _)

end Ptn.C18
