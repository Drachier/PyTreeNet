import Ptn.C18.Invariant
/-! C18, the stated results about histories of the driver object with the public setters
(`run`, `reset_to_initial_state`, `set_num_time_steps`, `set_num_time_steps_constant_final_time`,
`run_one_time_step`), and the addressing of `results` / `times()`.  Core Lean only, on `Invariant.lean`. -/
namespace Ptn.C18

variable {σ β γ : Type}

/-- After construction every derived datum is the freshly computed one.  (`hr`: rounding keeps the
    sign - a contract of the arithmetic, trivially true for exact arithmetic and for IEEE doubles.) -/
theorem derived_consistent_construct (P : Params σ β γ) (hr : ∀ x, 0 ≤ x → 0 ≤ P.rnd x)
    (s0 : σ) (dt T : Rat) (ops : OpSpec) (rb : Bool) (s : Drv σ β γ)
    (h : construct P s0 dt T ops rb = some s) : DerivedConsistent P s := by
  have hs := structural_construct P s0 dt T ops rb s h
  obtain ⟨hdt, hT, rfl⟩ := construct_eq_some P s0 dt T ops rb s h
  refine ⟨hs.prop_current, hs.index_table, ?_, hs.record⟩
  intro _ _
  show ((numSteps (P.rnd (T / dt))).toNat : Int) = numSteps (P.rnd (T / dt))
  have hq : (0 : Rat) ≤ T / dt := by
    rw [Rat.div_def]
    exact Rat.le_of_lt (Rat.mul_pos hT (Rat.inv_pos.mpr hdt))
  have h0 : (0 : Int) ≤ (P.rnd (T / dt)).floor := Rat.le_floor_iff.mpr (by simpa using hr _ hq)
  have := (num_steps_bounds (P.rnd (T / dt))).1
  omega

/-- The step-count clause of `DerivedConsistent` across one admissible call: the setters store the
    requested number, which by the contract is the recomputed one; no other call touches
    `(num_time_steps, final_time, time_step_size)`. -/
theorem num_steps_effect {P : Params σ β γ} {s s' : Drv σ β γ} {e : Event} (he : Effect P s e s')
    (ha : Admissible P s e)
    (h : 0 < s.dt → 0 < s.T → (s.n : Int) = numSteps (P.rnd (s.T / s.dt))) :
    0 < s'.dt → 0 < s'.T → (s'.n : Int) = numSteps (P.rnd (s'.T / s'.dt)) := by
  cases he with
  | setN m hm =>
    intro h1 h2
    rw [ha.2 h1 h2]
    exact Int.toNat_of_nonneg hm
  | setCZero => exact absurd ha.1 (Int.lt_irrefl 0)
  | setC m hm =>
    intro h1 h2
    -- the contract of `setC` is stated for `0 < T` first, then for the new step size
    rw [ha.2 h2 h1]
    exact Int.toNat_of_nonneg (Int.le_of_lt hm)
  | _ => exact h

theorem derived_consistent_apply (P : Params σ β γ) (e : Event) (s : Drv σ β γ)
    (ha : Admissible P s e) (h : DerivedConsistent P s) :
    DerivedConsistent P (apply P e s).1 := by
  have he := apply_effect P e s
  have hs := structural_effect he ⟨h.prop_current, h.index_table, h.record⟩
  exact ⟨hs.prop_current, hs.index_table, num_steps_effect he ha h.num_steps, hs.record⟩

/-- `DerivedConsistent` holds after construction and after every admissible history: the number of
    steps is the one a fresh construction computes, the key table is the constructor's, the
    propagator / Trotter exponents are the ones for the CURRENT step size, the record arrays have
    the right lengths. -/
theorem derived_consistent_invariant (P : Params σ β γ) (hr : ∀ x, 0 ≤ x → 0 ≤ P.rnd x)
    (s0 : σ) (dt T : Rat) (ops : OpSpec) (rb : Bool) (c : Drv σ β γ)
    (hc : construct P s0 dt T ops rb = some c) (es : List Event) (ha : AdmHist P c es) :
    DerivedConsistent P (exec P es c) := by
  have h0 := derived_consistent_construct P hr s0 dt T ops rb c hc
  clear hc
  induction es generalizing c with
  | nil => exact h0
  | cons e es ih =>
    simp only [exec, List.foldl_cons]
    exact ih _ ha.2 (derived_consistent_apply P e c ha.1 h0)

/-- The arithmetic-free part (propagator for the current step size, key table, record shapes) holds
    after EVERY history - including calls that raise (`set_num_time_steps(-1)`,
    `set_num_time_steps_constant_final_time(0)`, `run(evaluation_time=0)`) and are caught. -/
theorem structural_invariant_all_histories (P : Params σ β γ) (s0 : σ) (dt T : Rat) (ops : OpSpec)
    (rb : Bool) (c : Drv σ β γ) (hc : construct P s0 dt T ops rb = some c) (es : List Event) :
    Structural (exec P es c) :=
  structural_exec P es c (structural_construct P s0 dt T ops rb c hc)

/-- With exact arithmetic the contract in `Admissible` is a theorem: every call that returns
    normally is admissible. -/
theorem admissible_exact (P : Params σ β γ) (hP : ∀ x, P.rnd x = x) (s : Drv σ β γ) (e : Event)
    (he : Returns e) : Admissible P s e := by
  cases e with
  | run ev => exact he
  | reset => trivial
  | step => trivial
  | setN m =>
    refine ⟨he, ?_⟩
    intro hdt _
    rw [hP, hP, Rat.mul_div_cancel (Rat.ne_of_gt hdt)]
    exact num_steps_int m
  | setC m =>
    refine ⟨he, ?_⟩
    intro hT _
    have hm : (0 : Rat) < (m : Rat) := Rat.intCast_pos.mpr he
    have hq : s.T / (s.T / (m : Rat)) = (m : Rat) := by
      rw [Rat.div_def, Rat.div_def, Rat.inv_mul_rev, Rat.inv_inv, ← Rat.mul_assoc,
        Rat.mul_comm s.T, Rat.mul_assoc, Rat.mul_inv_cancel _ (Rat.ne_of_gt hT), Rat.mul_one]
    rw [hP, hP, hq]
    exact num_steps_int m

theorem admHist_exact (P : Params σ β γ) (hP : ∀ x, P.rnd x = x) (es : List Event)
    (he : ∀ e ∈ es, Returns e) (s : Drv σ β γ) : AdmHist P s es := by
  induction es generalizing s with
  | nil => trivial
  | cons e es ih =>
    exact ⟨admissible_exact P hP s e (he e (by simp)),
      ih (fun e' h' => he e' (by simp [h'])) _⟩

/-- Exact arithmetic: the invariant after every history of normally returning calls, no contract. -/
theorem derived_consistent_invariant_exact (P : Params σ β γ) (hP : ∀ x, P.rnd x = x)
    (s0 : σ) (dt T : Rat) (ops : OpSpec) (rb : Bool) (c : Drv σ β γ)
    (hc : construct P s0 dt T ops rb = some c) (es : List Event) (he : ∀ e ∈ es, Returns e) :
    DerivedConsistent P (exec P es c) :=
  derived_consistent_invariant P (fun x hx => by rw [hP]; exact hx) s0 dt T ops rb c hc es
    (admHist_exact P hP es he c)

/-- `_initial_state` is never reassigned. -/
theorem init_const (P : Params σ β γ) (es : List Event) (s : Drv σ β γ) :
    (exec P es s).init = s.init :=
  (exec_frame P es s).1

/-- F-C18c excluded: after ANY history (setters, earlier runs, resets, direct steps, caught
    exceptions) a run with interval `k ≥ 1` records in column `j` the observation of
    `step_{dt'}^(j·k)` applied to the state the history left, where `dt'` is the CURRENT step size,
    together with the time `j·k·dt'` (rounded once, as `save_time` computes it). -/
theorem run_after_setter_uses_new_dt (P : Params σ β γ) (s0 : σ) (dt T : Rat) (ops : OpSpec)
    (rb : Bool) (c : Drv σ β γ) (hc : construct P s0 dt T ops rb = some c) (es : List Event)
    (k : Nat) (hk : 0 < k) :
    let s := exec P es c
    let s' := (apply P (.run (some k)) s).1
    s'.cur = iter (P.stepWith s.dt) s.n s.cur ∧
    ∃ r, s'.results = some r ∧ r.ncols = numCols s.n (some k) ∧
      ∀ j, j < numCols s.n (some k) →
        r.cols[j]? = some (some
          { vals := P.obs (iter (P.stepWith s.dt) (j * k) s.cur),
            time := P.rnd (((j * k : Nat) : Rat) * s.dt) }) := by
  intro s s'
  have hs : Structural s := structural_invariant_all_histories P s0 dt T ops rb c hc es
  have e : s' = runEvent P (some k) s :=
    apply_run P (some k) (some_ne_zero_iff.2 hk) s
  rw [e, runEvent_some P k hk, hs.prop_current]
  refine ⟨rfl, _, rfl, rfl, ?_⟩
  intro j hj
  simp only [numCols] at hj
  simp [List.getElem?_map, List.getElem?_range hj]

/-- … and when the history ends with `reset_to_initial_state`, that state is the initial state
    handed to the constructor. -/
theorem run_after_reset_uses_new_dt (P : Params σ β γ) (s0 : σ) (dt T : Rat) (ops : OpSpec)
    (rb : Bool) (c : Drv σ β γ) (hc : construct P s0 dt T ops rb = some c) (es : List Event)
    (k : Nat) (hk : 0 < k) :
    let s := exec P (es ++ [.reset]) c
    let s' := (apply P (.run (some k)) s).1
    ∃ r, s'.results = some r ∧ r.ncols = numCols s.n (some k) ∧
      ∀ j, j < numCols s.n (some k) →
        r.cols[j]? = some (some
          { vals := P.obs (iter (P.stepWith s.dt) (j * k) s0),
            time := P.rnd (((j * k : Nat) : Rat) * s.dt) }) := by
  have hcur : (exec P (es ++ [.reset]) c).cur = s0 := by
    have h1 : exec P (es ++ [.reset]) c = (apply P .reset (exec P es c)).1 := by
      rw [exec, List.foldl_append]; rfl
    rw [h1, apply_reset]
    show (exec P es c).init = s0
    rw [init_const]
    exact congrArg Drv.init (construct_eq_some P s0 dt T ops rb c hc).2.2
  intro s s'
  have := (run_after_setter_uses_new_dt P s0 dt T ops rb c hc (es ++ [.reset]) k hk).2
  rw [hcur] at this
  exact this

/-- F-C18d excluded: a run started in ANY state (in particular after any history, with old results
    and an old bond-dimension record present) produces a table of exactly `numCols n ev` columns
    and `len(operators) + 1` rows, a `times()` vector and - if bond dimensions are recorded - a
    bond-dimension record of exactly that many entries: nothing is appended to old records. -/
theorem rerun_record_length (P : Params σ β γ) (s : Drv σ β γ) (ev : EvalTime)
    (hev : ev ≠ some 0) :
    let s' := (apply P (.run ev) s).1
    ∃ r, s'.results = some r ∧ r.nrows = s.ops.count + 1 ∧ r.ncols = numCols s.n ev ∧
      r.cols.length = numCols s.n ev ∧ (times r).length = numCols s.n ev ∧
      s'.bond.isSome = s.bond.isSome ∧ ∀ b, s'.bond = some b → b.length = numCols s.n ev := by
  intro s'
  have e : s' = runEvent P ev s := apply_run P ev hev s
  -- the table of `runEvent` has `numCols s.n ev` columns by definition; the lengths are `RecordShape`
  have hsh : RecordShape (runEvent P ev s) := recordShape_runEvent P ev hev s
  rw [e]
  exact ⟨_, rfl, rfl, rfl, hsh.2.1, (List.length_map _).trans hsh.2.1, Option.isSome_map .., hsh.2.2.2⟩

/-- The record is the record of the LAST run: `reset_to_initial_state`, both setters (raising or
    not), a direct `run_one_time_step` and a `run` that raises leave `_results` (hence `times()`)
    and the bond-dimension record exactly as they were - in particular a setter does not rescale the
    stored times to the new step size. -/
theorem record_untouched_between_runs (P : Params σ β γ) (s : Drv σ β γ) (e : Event)
    (he : ∀ ev, e = .run ev → ev = some 0) :
    (apply P e s).1.results = s.results ∧ (apply P e s).1.bond = s.bond :=
  (apply_effect P e s).records he

/-- `times()` after a run started in any state: for an integer interval `k ≥ 1` entry `j` is
    `j·k·dt` (`j = 0 … n / k`, the current `dt`, one rounding); for `"inf"` the single entry is
    `n·dt`. -/
theorem times_row_spec (P : Params σ β γ) (s : Drv σ β γ) :
    (∀ k, 0 < k → ∃ r, (apply P (.run (some k)) s).1.results = some r ∧
        times r = (List.range (s.n / k + 1)).map fun j => P.rnd (((j * k : Nat) : Rat) * s.dt)) ∧
    (∃ r, (apply P (.run none) s).1.results = some r ∧ times r = [P.rnd ((s.n : Rat) * s.dt)]) := by
  constructor
  · intro k hk
    rw [apply_run P (some k) (some_ne_zero_iff.2 hk), runEvent_some P k hk]
    exact ⟨_, rfl, by simp [times, Function.comp_def]⟩
  · rw [apply_run P none nofun, runEvent_inf]
    exact ⟨_, rfl, by simp [times]⟩

/-- After any history a dict of operators is addressed through the stored key table exactly as
    `result_keys` states.  (The row count `len(operators) + 1` is in `rerun_record_length`.) -/
theorem results_rows_spec (P : Params σ β γ) (s0 : σ) (dt T : Rat) (ks : List String)
    (hnd : ks.Nodup) (rb : Bool) (c : Drv σ β γ)
    (hc : construct P s0 dt T (.dict ks) rb = some c) (es : List Event) (i : Nat)
    (hi : i < ks.length) :
    (exec P es c).opIdx.lookup ks[i] = some i := by
  have hs := structural_invariant_all_histories P s0 dt T (.dict ks) rb c hc es
  have hops : (exec P es c).ops = .dict ks :=
    (exec_frame P es c).2.trans (congrArg Drv.ops (construct_eq_some P s0 dt T (.dict ks) rb c hc).2.2)
  rw [hs.index_table, hops]
  exact result_keys ks hnd i hi

/-- `set_num_time_steps_constant_final_time(0)` raises `ZeroDivisionError` AFTER it has stored
    `num_time_steps = 0`: the object then reports 0 steps although final time 1 and step size 1/10
    are unchanged (a fresh construction computes 10) - the step-count clause of the invariant does
    NOT survive this caught exception, which is why `derived_consistent_invariant` is stated for
    admissible calls and `structural_invariant_all_histories` for the rest. -/
theorem setc_zero_leaves_stale_step_count :
    let c := (construct exactCounting (0, 0) (1 / 10) 1 .single false).get (by decide +kernel)
    (apply exactCounting (.setC 0) c).2 = some "ZeroDivisionError" ∧
      ¬ DerivedConsistent exactCounting (apply exactCounting (.setC 0) c).1 := by
  intro c
  refine ⟨by decide +kernel, ?_⟩
  intro h
  have := h.num_steps (by decide +kernel) (by decide +kernel)
  revert this
  decide +kernel

/-- A history with both setters, a direct step, a caught exception and two runs; the last run uses
    the propagator of the new step size `(3/5)/4 = 3/20` (tag in the state) and stores the times
    `j·2·(3/20)`. -/
example :
    let c := (construct exactCounting (0, 0) (1 / 10) 1 (.dict ["a", "b"]) true).get
      (by decide +kernel)
    let s := exec exactCounting [.run (some 1), .setN 6, .step, .setC 0, .reset, .setC 4] c
    let s' := (apply exactCounting (.run (some 2)) s).1
    c.n = 10 ∧ s.n = 4 ∧ s.T = 3 / 5 ∧ s.dt = 3 / 20 ∧ s.prop = 3 / 20 ∧
      s'.cur = (4, 3 / 20) ∧ s'.bond = some [0, 2, 4] ∧
      s'.results.map times = some [0, 3 / 10, 3 / 5] ∧
      s'.results.map (fun r => (r.nrows, r.ncols)) = some (3, 3) := by
  decide +kernel

/-- The hypotheses of `derived_consistent_invariant` are satisfiable with a non-trivial history:
    exact arithmetic, both setters with positive arguments. -/
example : AdmHist exactCounting
    ((construct exactCounting (0, 0) (3 / 10) 1 .single true).get (by decide +kernel))
    [.run none, .setC 7, .reset, .setN 3, .run (some 2)] :=
  admHist_exact exactCounting (fun _ => rfl) _ (by
    intro e he
    simp only [List.mem_cons, List.mem_nil_iff, or_false] at he
    rcases he with rfl | rfl | rfl | rfl | rfl <;> simp [Returns]) _

/-- IEEE double arithmetic satisfies the sign contract `hr` of `derived_consistent_invariant` … -/
example : ∀ x, 0 ≤ x → 0 ≤ ieeeCounting.rnd x := fl_nonneg

/-- … and the admissibility contract on a concrete history with inexact quotients: step size the
    double 0.1, final time 1, then 3 steps at constant final time (`1/3` is rounded), a run, and 7
    steps of that size (`7 * fl(1/3)` is rounded). -/
example : AdmHist ieeeCounting
    ((construct ieeeCounting (0, 0) c01 1 .single true).get (by decide +kernel))
    [.setC 3, .run (some 1), .setN 7] := by
  refine ⟨⟨by decide, fun _ _ => by decide +kernel⟩, (by simp : some 1 ≠ some 0),
    ⟨by decide, fun _ _ => by decide +kernel⟩, trivial⟩

end Ptn.C18
