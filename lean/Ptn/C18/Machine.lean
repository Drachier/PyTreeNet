import Ptn.C18.Model
/-! The driver object as a state machine (property C18, histories with the public setters).
Core Lean only.  The code AS IT IS NOW (after the repairs F-C18c, commit b836d48, and F-C18d,
commit 2d27a20).  Anchors: `pytreenet/time_evolution/time_evolution.py` (`TimeEvolution`),
`ttn_time_evolution.py` (`TTNTimeEvolution`: the bond-dimension record), `exact_time_evolution.py`
and `tebd.py` (the precomputed propagator `_time_evolution_operator` / Trotter exponents
`_exponents` and their override of `set_num_time_steps_constant_final_time`).

| definition            | Python lines mirrored |
|---|---|
| `Drv`                 | the attributes set in `TimeEvolution.__init__`, `TTNTimeEvolution.__init__` (`bond_dims`), `ExactTimeEvolution.__init__` (`_time_evolution_operator`) / `TEBD.__init__` (`_exponents`) |
| `indexTable`          | `_init_operator_index_dict`: `{key: i for i, key in enumerate(operators.keys())}` or `{}` |
| `construct`           | `__init__`: the two `positivity_check`s, `_compute_num_time_steps`, `_results = None`, `bond_dims = {} if config.record_bond_dim else None`, propagator computed from `_time_step_size` |
| `runEvent`            | `run`: `init_results` (a NEW zero table of `numCols n ev` columns from the CURRENT `n`; `TTNTimeEvolution.init_results`: `bond_dims = {}` if recording), then the loop (= `run` of `Model.lean`) with `save_operator_results` / `save_time` (`time_step * time_step_size`) / `record_bond_dimensions` (one entry appended per evaluation) |
| `apply … .reset`      | `reset_to_initial_state`: `state = deepcopy(_initial_state)` |
| `apply … (.setN m)`   | `set_num_time_steps`: `non_negativity_check`, `_num_time_steps = m`, `_final_time = m * _time_step_size` |
| `apply … (.setC m)`   | `set_num_time_steps_constant_final_time` of `ExactTimeEvolution` / `TEBD`: `super()` (`non_negativity_check`, `_num_time_steps = m`, `_time_step_size = _final_time / m` - the assignment of `m` happens BEFORE the division can raise), then the propagator / exponents recomputed from the new `_time_step_size` |
| `apply … .step`       | `run_one_time_step` called by the user: uses the stored propagator |
| `times`               | `times()`: `real(results[-1])` |

Float arithmetic enters through one parameter `rnd : Rat → Rat` (the rounding applied after every
`*` and `/` on exact values): `id` gives exact arithmetic, `fl` (below) is IEEE-754 binary64
round-to-nearest-even, used by the driver so that the correspondence with Python is exact. -/
namespace Ptn.C18

/-! ### IEEE double rounding on exact rationals -/

/-- Round to the nearest integer, ties to even. -/
def roundEven (x : Rat) : Int :=
  let f := x.floor
  let r := x - (f : Rat)
  if r < 1 / 2 then f else if (1 : Rat) / 2 < r then f + 1 else if f % 2 = 0 then f else f + 1

/-- `2 ^ e` as a rational, `e` any integer. -/
def pow2 (e : Int) : Rat :=
  if 0 ≤ e then ((2 ^ e.toNat : Nat) : Rat) else 1 / ((2 ^ (-e).toNat : Nat) : Rat)

/-- The binary64 value nearest to `x` (ties to even; subnormals handled through the minimal exponent
    `-1074`; overflow to infinity is not modelled - the harness stays far below `1e308`). -/
def fl (x : Rat) : Rat :=
  if x = 0 then 0 else
    let a := if x < 0 then -x else x
    -- with lp = log2 of the numerator, lq = log2 of the denominator: 2^(lp-lq-1) < a < 2^(lp-lq+1)
    let e0 : Int := (a.num.natAbs.log2 : Int) - (a.den.log2 : Int) - 52
    let e1 : Int := if a / pow2 e0 < pow2 52 then e0 - 1 else e0
    let e : Int := if e1 < -1074 then -1074 else e1
    let m : Int := roundEven (a / pow2 e)
    let v : Rat := (m : Rat) * pow2 e
    if x < 0 then -v else v

/-! ### The object -/

/-- What the machine is parametrised by: the arithmetic and the three abstract routines of a concrete
    class.  `stepWith tag` is one time step performed with a propagator that was computed for the
    step size `tag`. -/
structure Params (σ β γ : Type) where
  rnd : Rat → Rat
  stepWith : Rat → σ → σ
  obs : σ → β
  bd : σ → γ

/-- One column of `results`: rows `0 … -2` (operator values, `save_operator_results`) and row `-1`
    (the time, `save_time`). -/
structure Column (β : Type) where
  vals : β
  time : Rat
deriving Repr, DecidableEq

/-- `_results`: `nrows × ncols`; a column is `none` while it still holds the zeros of `init_results`. -/
structure Results (β : Type) where
  nrows : Nat
  ncols : Nat
  cols : List (Option (Column β))
deriving Repr, DecidableEq

/-- `times()` (offset 0): the last row. -/
def times {β : Type} (r : Results β) : List Rat :=
  r.cols.map fun c => match c with
    | some c => c.time
    | none => 0

/-- The attributes of the object. -/
structure Drv (σ β γ : Type) where
  init : σ                          -- `_initial_state`
  cur : σ                           -- `state`
  dt : Rat                          -- `_time_step_size`
  T : Rat                           -- `_final_time`
  n : Nat                           -- `_num_time_steps`
  ops : OpSpec                      -- `operators` as handed over
  opIdx : List (String × Nat)       -- `_operator_index_dict`
  results : Option (Results β)      -- `_results`
  bond : Option (List γ)            -- `bond_dims`: `None`, or the recorded entries (one per evaluation)
  prop : Rat                        -- the step size the stored propagator / exponents were computed for

/-- `enumerate(keys)`, counting from `i`. -/
def enumFrom (i : Nat) : List String → List (String × Nat)
  | [] => []
  | k :: ks => (k, i) :: enumFrom (i + 1) ks

/-- `_init_operator_index_dict`. -/
def indexTable : OpSpec → List (String × Nat)
  | .dict ks => enumFrom 0 ks
  | _ => []

/-- `__init__`; `none` when a `positivity_check` raises. -/
def construct {σ β γ : Type} (P : Params σ β γ) (s0 : σ) (dt T : Rat) (ops : OpSpec)
    (recordBond : Bool) : Option (Drv σ β γ) :=
  if dt ≤ 0 then none
  else if T ≤ 0 then none
  else some
    { init := s0, cur := s0, dt := dt, T := T,
      n := (numSteps (P.rnd (T / dt))).toNat,
      ops := ops, opIdx := indexTable ops, results := none,
      bond := if recordBond then some [] else none,
      prop := dt }

/-- One call of a public method (`apply` says what it does). -/
inductive Event where
  | run (ev : EvalTime)
  | reset
  | setN (m : Int)
  | setC (m : Int)
  | step
deriving Repr, DecidableEq

/-- `run(evaluation_time)` for an interval that does not raise. -/
def runEvent {σ β γ : Type} (P : Params σ β γ) (ev : EvalTime) (s : Drv σ β γ) : Drv σ β γ :=
  let ncols := numCols s.n ev
  let r := run (P.stepWith s.prop) (fun x => (P.obs x, P.bd x)) s.n ev s.cur
  { s with
    cur := r.1
    results := some
      { nrows := s.ops.count + 1, ncols := ncols,
        cols := (table ncols r.2).map fun c =>
          c.map fun w => { vals := w.val.1, time := P.rnd ((w.stepNo : Rat) * s.dt) } }
    bond := s.bond.map fun _ => r.2.map fun w => w.val.2 }

/-- One call of a public method: the object afterwards and the exception raised, if any. -/
def apply {σ β γ : Type} (P : Params σ β γ) (e : Event) (s : Drv σ β γ) :
    Drv σ β γ × Option String :=
  match e with
  | .run (some 0) => (s, some "ZeroDivisionError")      -- `num_time_steps // 0` in `init_results`
  | .run ev => (runEvent P ev s, none)
  | .reset => ({ s with cur := s.init }, none)
  | .setN m =>
    if m < 0 then (s, some "ValueError")
    else ({ s with n := m.toNat, T := P.rnd ((m : Rat) * s.dt) }, none)
  | .setC m =>
    if m < 0 then (s, some "ValueError")
    else if m = 0 then ({ s with n := 0 }, some "ZeroDivisionError")
    else
      let dt' := P.rnd (s.T / (m : Rat))
      ({ s with n := m.toNat, dt := dt', prop := dt' }, none)
  | .step => ({ s with cur := P.stepWith s.prop s.cur }, none)

/-- A history: the calls are made one after the other (a caller that catches an exception goes on
    with the object as the raising call left it). -/
def exec {σ β γ : Type} (P : Params σ β γ) (es : List Event) (s : Drv σ β γ) : Drv σ β γ :=
  es.foldl (fun s e => (apply P e s).1) s

end Ptn.C18
