import Ptn.C18.Lemmas
import Ptn.Common.List
/-! C18, the stated results about one `run` of the evolution driver (core Lean, on `Lemmas.lean`): the step
count, the schedule of table writes, how results are addressed, `reset`. -/
namespace Ptn.C18

/-- The rule of the property: round down when the fractional part is below 0.1 (the double), up
    otherwise. -/
theorem num_steps_spec (q : Rat) :
    (q - (q.floor : Rat) < c01 → numSteps q = q.floor) ∧
    (¬ q - (q.floor : Rat) < c01 → numSteps q = q.floor + 1) := by
  unfold numSteps
  constructor <;> intro h <;> simp [h]

theorem num_steps_bounds (q : Rat) : q.floor ≤ numSteps q ∧ numSteps q ≤ q.floor + 1 := by
  unfold numSteps
  split <;> omega

/-- More final time (or a smaller step) never yields fewer steps. -/
theorem num_steps_mono (q r : Rat) (h : q ≤ r) : numSteps q ≤ numSteps r := by
  have hfl : q.floor ≤ r.floor := Rat.floor_monotone h
  unfold numSteps
  by_cases hq : q - (q.floor : Rat) < c01 <;> by_cases hr : r - (r.floor : Rat) < c01 <;>
    simp only [hq, hr, if_true, if_false]
  · exact hfl
  · omega
  · -- q rounds up, r rounds down: then floor q < floor r
    rcases Int.lt_or_le q.floor r.floor with hlt | hge
    · omega
    · have heq : q.floor = r.floor := by omega
      rw [heq] at hq
      exfalso
      apply hq
      -- same floor and `q ≤ r`: the fractional part of `q` is at most that of `r`, which is below `c01`
      grind
  · omega

theorem num_steps_int (z : Int) : numSteps (z : Rat) = z := by
  unfold numSteps
  have : ((z : Rat)).floor = z := Rat.floor_intCast z
  rw [this]
  have h0 : (z : Rat) - (z : Rat) = 0 := Rat.sub_self
  rw [h0]
  have : (0 : Rat) < c01 := by decide +kernel
  simp [this]

theorem run_state {σ β : Type} (step : σ → σ) (obs : σ → β) (n : Nat) (ev : EvalTime) (s0 : σ) :
    (run step obs n ev s0).1 = iter step n s0 := by
  unfold run
  rw [foldl_body_range]

/-- Integer evaluation interval `k ≥ 1`: the chronological writes are exactly one per column
    `j = 0 … n / k`, column `j` receiving the observation of the state after exactly `j * k`
    steps together with step number `j * k` (from which the stored time `j*k*dt` is computed). -/
theorem run_record {σ β : Type} (step : σ → σ) (obs : σ → β) (n k : Nat) (hk : 0 < k) (s0 : σ) :
    (run step obs n (some k) s0).2 =
      (List.range (n / k + 1)).map (fun j => ⟨j, j * k, obs (iter step (j * k) s0)⟩) := by
  unfold run
  rw [foldl_body_range]
  have hw : writeAt step obs n (some k) s0 = fun i =>
      if i % k == 0 then some (⟨i / k, i, obs (iter step i s0)⟩ : Write β) else none := by
    funext i; simp [writeAt, shouldEval, resultIndex]
  rw [hw, filterMap_multiples _ k n]
  apply List.map_congr_left
  intro j _
  simp [Nat.mul_div_cancel _ hk]

/-- The number of columns allocated equals the number of writes, and the columns written are
    `0, 1, …, n / k` in this order: every column is written exactly once. -/
theorem run_columns_once {σ β : Type} (step : σ → σ) (obs : σ → β) (n k : Nat) (hk : 0 < k)
    (s0 : σ) :
    ((run step obs n (some k) s0).2.map Write.col) = List.range (numCols n (some k)) := by
  rw [run_record step obs n k hk s0]
  simp [numCols, Function.comp_def]

/-- Evaluation interval `"inf"`: a single column, holding the observation after the last step. -/
theorem run_record_inf {σ β : Type} (step : σ → σ) (obs : σ → β) (n : Nat) (s0 : σ) :
    (run step obs n none s0).2 = [⟨0, n, obs (iter step n s0)⟩] ∧ numCols n none = 1 := by
  unfold run
  rw [foldl_body_range]
  have hw : writeAt step obs n none s0 = fun i =>
      if i == n then some (⟨0, i, obs (iter step i s0)⟩ : Write β) else none := by
    funext i; simp [writeAt, shouldEval, resultIndex]
  rw [hw, filterMap_last _ n n (Nat.le_refl n)]
  simp [numCols]

theorem table_lookup {σ β : Type} (step : σ → σ) (obs : σ → β) (n k : Nat) (hk : 0 < k) (s0 : σ)
    (j : Nat) (hj : j < numCols n (some k)) :
    (table (numCols n (some k)) (run step obs n (some k) s0).2)[j]? =
      some (some ⟨j, j * k, obs (iter step (j * k) s0)⟩) := by
  rw [run_record step obs n k hk s0]
  unfold table
  simp only [numCols] at hj ⊢
  rw [List.getElem?_map, List.getElem?_range hj]
  simp only [Option.map_some, Option.some.injEq]
  rw [← List.map_reverse, List.find?_map]
  have hmem : j ∈ (List.range (n / k + 1)).reverse := by simp; omega
  have := find?_beq_self hmem
  simp only [Function.comp_def]
  rw [this]
  rfl

/-- A dict of operators is addressed by key: key number `i` (in insertion order, keys distinct as
    in every Python dict) is stored in row `i`. -/
theorem result_keys (ks : List String) (hnd : ks.Nodup) (i : Nat) (hi : i < ks.length) :
    operatorIndex (.dict ks) ks[i] = some i := by
  unfold operatorIndex
  have : ks.idxOf ks[i] = i := hnd.idxOf_getElem i hi
  simp [this, hi]

/-- Single operators and lists have no key table: they are addressed by position only. -/
theorem result_positions (key : String) (len : Nat) :
    operatorIndex .single key = none ∧ operatorIndex (.list len) key = none := by
  simp [operatorIndex]

/-- In the refined machine of the concrete classes (user state + derived data), a run started
    after `reset` produces the same final state and the same record as the first run, whatever
    state the first run left behind.  The content is in the model: `Refined.reset` re-derives the derived
    data (gauge centre, environment cache) from the user state, as the concrete classes do; a class that restores
    the user component only is finding F-C18 (DESIGN.md). -/
theorem reset_reproduces {υ δ β : Type} (m : Refined υ δ) (obs : υ × δ → β) (n : Nat)
    (ev : EvalTime) (u0 : υ) :
    let first := run m.step obs n ev (m.init u0)
    run m.step obs n ev (m.reset u0 first.1) = first := by
  simp [Refined.reset]

example : numSteps (21 / 5) = 5 := by decide +kernel           -- 4.2: fractional part ≥ 0.1 → 5 steps
example : numSteps (41 / 10) = 4 := by decide +kernel          -- exactly 1/10 is below the double 0.1
example : numSteps (4 + 1 / 16) = 4 := by decide +kernel
example : (run (· + 1) (fun s => 10 * s) 7 (some 3) 0).2 =
    [⟨0, 0, 0⟩, ⟨1, 3, 30⟩, ⟨2, 6, 60⟩] := by decide
example : (run (· + 1) (fun s => 10 * s) 7 none 0).2 = [⟨0, 7, 70⟩] := by decide
example : operatorIndex (.dict ["a", "b"]) "b" = some 1 := by decide

end Ptn.C18
