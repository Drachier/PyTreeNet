import Ptn.C10.LevelExists
import Ptn.C10.TruncOrder
import Ptn.C10.LevelFlat
/-! Value level: the recursion of `truncate_node` over the tree.  `Lr66RecRun` is the
value-level history of `TTN.truncateNode`: a sequence of node steps (first loop = `Lr54LevelRun`, then the contractions of
the second and third loop), the list records the bonds `(node, child)` in the order they are cut.  `lr66_rec_exists`: if
the model's recursion succeeds and the external routines keep their contract in every state reached, the history exists,
its bond list IS `truncOrder`, and it ends in the state the model returns.  `Lr66ValChain` is the value statement of such a
run, per node step the plain and the flat record (used in `Props.lean`).  (`lr66`/`Lr66` in the names is a label without
meaning.) -/
namespace Ptn.C10
open Ptn.C02 Ptn.C03 Ptn.Ein NodeS

set_option linter.unusedSectionVars false
variable {R : Type} [CommSemiring R]

inductive Lr66RecRun (dim : Nat → Nat) (e : Label → Nat) (ids : TTN.TempIds) (kdim : Id → Nat) :
    TTN → LegMap → VNet R → List (Id × Id) → TTN → LegMap → VNet R → Prop
  | nil (t : TTN) (g : LegMap) (v : VNet R) : Lr66RecRun dim e ids kdim t g v [] t g v
  | step {t t1 t2 t' : TTN} {g g1 g2 g' : LegMap} {v v1 v2 v' : VNet R} {n : Id} {node : NodeS}
      {es : List (Lr54Entry R)} {rest : List (Id × Id)} :
      t.N n = some node → es.map (·.c) = node.children →
      Lr54LevelRun dim e n ids kdim [.access n] t g v es t1 g1 v1 →
      SimRun dim e t1 g1 v1 (lr66Tail n ids node.children) t2 g2 v2 →
      Lr66RecRun dim e ids kdim t2 g2 v2 rest t' g' v' →
      Lr66RecRun dim e ids kdim t g v (node.children.map (fun c => (n, c)) ++ rest) t' g' v'

theorem level_nodes_mem {dim : Nat → Nat} {e : Label → Nat} {t : TTN} {g : LegMap} {v : VNet R} {n : Id} {node : NodeS}
    {es : List (Lr54Entry R)} (h : t.WF) (hs : RSim dim e g t v) (hN : t.N n = some node)
    (hes : es.map (·.c) = node.children) : n ∈ v.ids ∧ ∀ x ∈ es, x.c ∈ v.ids := by
  refine ⟨(hs.ids n).2 (by rw [hN]; simp), fun x hx => ?_⟩
  obtain ⟨cch, e2⟩ := h.str.down n _ _ x.c (TTN.S_eq hN) (hes ▸ List.mem_map_of_mem hx)
  obtain ⟨nd, hnd, _⟩ := TTN.N_of_S e2
  exact (hs.ids x.c).2 (by rw [hnd]; simp)

theorem Lr66RecRun.append {dim : Nat → Nat} {e : Label → Nat} {ids : TTN.TempIds} {kdim : Id → Nat}
    {t t1 t2 : TTN} {g g1 g2 : LegMap} {v v1 v2 : VNet R} {l1 l2 : List (Id × Id)}
    (h1 : Lr66RecRun dim e ids kdim t g v l1 t1 g1 v1) (h2 : Lr66RecRun dim e ids kdim t1 g1 v1 l2 t2 g2 v2) :
    Lr66RecRun dim e ids kdim t g v (l1 ++ l2) t2 g2 v2 := by
  induction h1 with
  | nil t g v => exact h2
  | step a b c d _ ih => rw [List.append_assoc]; exact .step a b c d (ih h2)

theorem lr66RecRun_inv (dim : Nat → Nat) (e : Label → Nat) {ids : TTN.TempIds} {kdim : Id → Nat}
    {t t' : TTN} {g g' : LegMap} {v v' : VNet R} {l : List (Id × Id)}
    (h : t.WF) (hl : t.LWF) (hv : v.WF) (hs : RSim dim e g t v)
    (hr : Lr66RecRun dim e ids kdim t g v l t' g' v') : t'.WF ∧ t'.LWF ∧ v'.WF ∧ RSim dim e g' t' v' := by
  induction hr with
  | nil t g v => exact ⟨h, hl, hv, hs⟩
  | step a b c d _ ih =>
    obtain ⟨w1, l1, vw1, s1, _, _⟩ := levelRun_sound dim e h hl hv hs c
    obtain ⟨_, _, w2, l2, vw2, s2, _, _⟩ := structural_history_preserves_value dim e w1 l1 vw1 s1 d
    exact ih w2 l2 vw2 s2

/-- the contract of the external routines along a recursion: in every state reached by a recursion run followed by a
part of a level run of a node `n`, for every child `c` of `n` not yet treated -/
def Lr66RecContract (dim : Nat → Nat) (e : Label → Nat) (ids : TTN.TempIds) (kdim : Id → Nat)
    (t : TTN) (g : LegMap) (v : VNet R) : Prop :=
  ∀ l tm gm vm, Lr66RecRun dim e ids kdim t g v l tm gm vm →
    ∀ n es tm' gm' vm' c cch, Lr54LevelRun dim e n ids kdim [.access n] tm gm vm es tm' gm' vm' →
      tm.S c = some (some n, cch) → c ∉ es.map (·.c) → Lr66Contract dim e n ids (kdim c) tm' gm' vm' c

theorem Lr66RecContract.rebase {dim : Nat → Nat} {e : Label → Nat} {ids : TTN.TempIds} {kdim : Id → Nat}
    {t t1 : TTN} {g g1 : LegMap} {v v1 : VNet R} {l : List (Id × Id)}
    (hO : Lr66RecContract dim e ids kdim t g v) (hr : Lr66RecRun dim e ids kdim t g v l t1 g1 v1) :
    Lr66RecContract dim e ids kdim t1 g1 v1 :=
  fun l' tm gm vm hr' => hO (l ++ l') tm gm vm (Lr66RecRun.append hr hr')

theorem lr66_rec_exists (dim : Nat → Nat) (e : Label → Nat) (ids : TTN.TempIds) (kdim : Id → Nat) :
    ∀ (fuel : Nat) (t t' : TTN) (g : LegMap) (v : VNet R) (n : Id), t.WF → t.LWF → v.WF → RSim dim e g t v →
      TempOK t.S ids → TTN.truncateNode fuel t n ids kdim = some t' → Lr66RecContract dim e ids kdim t g v →
      ∃ g' v', Lr66RecRun dim e ids kdim t g v (truncOrder t.S fuel n) t' g' v' ∧
        t'.WF ∧ t'.LWF ∧ v'.WF ∧ RSim dim e g' t' v' ∧ t'.S = t.S ∧ t'.root = t.root := by
  intro fuel
  induction fuel with
  | zero => intro t t' g v n _ _ _ _ _ hrun; simp [TTN.truncateNode] at hrun
  | succ fuel ihf =>
    intro t t' g v n h hl hv hs hok hrun hO
    obtain ⟨Nn, t3, hNn, h3, hrun⟩ := truncateNode_succ hrun
    obtain ⟨node, es, t1, g1, v1, g3, v3, st⟩ :=
      truncateNodeStep_run_exists dim e h hl hv hs hok h3 (fun es tm gm vm c cch hrun hSc hnot =>
        hO [] t g v (.nil _ _ _) n es tm gm vm c cch hrun hSc hnot)
    obtain rfl : node = Nn := (Option.some.inj (hNn.symm.trans st.isNode)).symm
    have stepRun : Lr66RecRun dim e ids kdim t g v (node.children.map (fun c => (n, c)) ++ []) t3 g3 v3 :=
      .step hNn st.children st.level st.tail (.nil _ _ _)
    have hO3 := hO.rebase stepRun
    obtain ⟨g', v', rf, w', l', vw', s', hS', hR'⟩ := foldlM_split_induction (cs := node.children)
      (f := fun (t : TTN) c => TTN.truncateNode fuel t c ids kdim)
      (fun D _ u => ∃ gu vu, Lr66RecRun dim e ids kdim t3 g3 v3 (D.flatMap (truncOrder t.S fuel)) u gu vu ∧
        u.WF ∧ u.LWF ∧ vu.WF ∧ RSim dim e gu u vu ∧ u.S = t.S ∧ u.root = t.root) (by
        intro D c _ u uc _ ⟨gu, vu, ru, wu, lu, vwu, su, hSu, hRu⟩ hc
        obtain ⟨gc, vc, rc, wc, lc, vwc, sc, hSc, hRc⟩ :=
          ihf u uc gu vu c wu lu vwu su (by rw [hSu]; exact hok) hc (hO3.rebase ru)
        rw [hSu] at rc
        refine ⟨gc, vc, ?_, wc, lc, vwc, sc, hSc.trans hSu, hRc.trans hRu⟩
        rw [List.flatMap_append, List.flatMap_singleton]
        exact Lr66RecRun.append ru rc)
      node.children [] t3 t' rfl ⟨g3, v3, .nil _ _ _, st.wf, st.lwf, st.vwf, st.sim, st.S, st.root⟩ hrun
    refine ⟨g', v', ?_, w', l', vw', s', hS', hR'⟩
    have hord : truncOrder t.S (fuel + 1) n =
        node.children.map (fun c => (n, c)) ++ node.children.flatMap (truncOrder t.S fuel) := by
      simp only [truncOrder, TTN.S_eq hNn]
    rw [hord]
    exact .step hNn st.children st.level st.tail rf

/-- the value statement of a recursion run: per node step a list of insertion records `all`, one per child (`Ins` of
`ValueRun.lean`), every cut bond a bond of the network BEFORE the step; the value before the step is the plain record,
the value after it the flat record (the network before the step with `Π_c` on every child bond at once) -/
inductive Lr66ValChain (dim : Nat → Nat) : VNet R → List (Id × Id) → VNet R → Prop
  | nil {v v' : VNet R} : (∀ σ, v'.value dim σ = v.value dim σ) → Lr66ValChain dim v [] v'
  | step {v v2 v' : VNet R} {rest : List (Id × Id)} (all : List (Ins Nat R)) (cs : List Id) (n : Id) :
      all.length = cs.length → (∀ i ∈ all, i.b' = i.a' + 1) →
      (∀ i ∈ all, DependsOn (fun l => l = i.a' ∨ l = i.b') i.Pm) → (∀ i ∈ all, i.plain ∈ v.bonds) →
      (∀ σ, v.value dim σ =
        netValue dim (lf62Erase v.bonds all ++ all.map Ins.plain) (v.ids.map v.tens) σ) →
      (∀ σ, v2.value dim σ =
        netValue dim (lf62Erase v.bonds all ++ all.flatMap Ins.cut) (all.map Ins.Pm ++ v.ids.map v.tens) σ) →
      Lr66ValChain dim v2 rest v' → Lr66ValChain dim v (cs.map (fun c => (n, c)) ++ rest) v'

end Ptn.C10
