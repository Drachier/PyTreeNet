import Ptn.C10.Model
import Ptn.C10.Spec
import Ptn.C10.Lemmas
import Ptn.C10.Telescoping
import Ptn.Common.AnalysisTelescope
import Ptn.Common.AnalysisIso
import Ptn.C10.Projector
/-! The selection rule of `truncate_singular_values` and the abstract error bounds of C10, with their non-vacuity
examples.  Nothing here speaks of a tree: the imports are the selection model (`Model.lean`, `Spec.lean`, `Lemmas.lean`)
and the Mathlib lemmas on projector residuals (`Projector.lean`), isometries (`Ptn.Common.AnalysisIso`) and telescoping
(`Telescoping.lean`, `Ptn.Common.AnalysisTelescope`: L4 of `notes/analysis.md`).

The theorems about the selection rule quantify over EVERY non-empty, non-negative, descending spectrum `s : List Rat`
(ties and zeros allowed) and every parameter object that passes the constructor's validation
(`p.Valid`): `max_bond_dim` a positive integer or infinity, tolerances non-negative, `-inf` or
`+inf`, every combination of the three flags. -/
namespace Ptn.C10

/-- **Prefix clause.**  The result is `(c • s[:k], s[k:])` for one `k` with `1 ≤ k ≤ |s|` and
    `k ≤ max_bond_dim`; `c = 1` unless renormalising a non-zero spectrum, in which case
    `c = Σs / Σs[:k]` (an all-zero spectrum is returned unchanged: repair F-C10a). -/
theorem trunc_is_prefix (s : List Rat) (p : Params) (hs : s ≠ []) (hnn : NonNeg s) (hd : Desc s)
    (hp : p.Valid) :
    ∃ k, 1 ≤ k ∧ k ≤ s.length ∧ (∀ d, p.maxBond = some d → k ≤ d) ∧
      (((p.renorm = false ∨ s.head hs = 0) ∧ truncate s p = some (s.take k, s.drop k)) ∨
       (p.renorm = true ∧ 0 < s.head hs ∧
          truncate s p = some ((s.take k).map (renormFactor s k * ·), s.drop k))) := by
  obtain ⟨h1, h2, h3⟩ := keptLen_bounds s p hs hp
  refine ⟨keptLen s p hs, h1, h2, h3, ?_⟩
  rw [truncate_eq s p hs hnn hd hp]
  rcases head_zero_or_pos s hs hnn with hz | hpos
  · exact Or.inl ⟨Or.inr hz, by rw [keptOf_of_head_zero s hs hnn hd hz]⟩
  · cases hr : p.renorm with
    | false => exact Or.inl ⟨Or.inl rfl, rfl⟩
    | true => exact Or.inr ⟨rfl, hpos, by rw [(keptOf_of_head_pos s hs hnn hpos _ h1).2]⟩

/-- **Value rule.**  Without sum mode the values strictly above `max(rel·s₀, tot)` form a prefix
    of length `n`, the rule selects exactly that prefix, and the kept prefix has length
    `min(max(n,1), D)`. -/
theorem value_rule (s : List Rat) (p : Params) (hs : s ≠ []) (hnn : NonNeg s) (hd : Desc s)
    (hp : p.Valid) (hv : p.sumTrunc = false) :
    let n := s.countP (survives p.relTol p.totalTol (s.head hs))
    (∀ i (hi : i < s.length), survives p.relTol p.totalTol (s.head hs) s[i] = true ↔ i < n) ∧
    selected s p = s.take n ∧
    ∃ kept, truncate s p = some (kept, s.drop (capMin (max n 1) p.maxBond)) ∧
      kept.length = capMin (max n 1) p.maxBond := by
  intro n
  have hsel : selLen s p hs = n := by simp [selLen, hv, n]
  exact ⟨prefix_iff_lt_countP _ s hd (fun a b h hb => survives_mono _ _ _ a b h hb),
    selected_and_kept s p hs hnn hd hp hsel⟩

/-- **Sum rule.**  In sum mode the rule's index `K` is the start of the longest tail whose squared
    weight (relative to the total when normalising) does not exceed `total_tol²`: the tail `s[K:]`
    fits and no longer tail does.  (For the all-zero spectrum the code sets `K = 0`: everything is
    discarded.)  The rule selects `s[:K]` and the kept prefix has length `min(max(K,1), D)`. -/
theorem sum_rule (s : List Rat) (p : Params) (hs : s ≠ []) (hnn : NonNeg s) (hd : Desc s)
    (hp : p.Valid) (hv : p.sumTrunc = true) :
    let K := sumTruncIndex s p.totalTol p.sumRenorm
    (normSq s = 0 → K = 0) ∧
    (normSq s ≠ 0 → K ≤ s.length ∧ Fits s p.totalTol p.sumRenorm K ∧
        ∀ j, j < K → ¬ Fits s p.totalTol p.sumRenorm j) ∧
    selected s p = s.take K ∧
    ∃ kept, truncate s p = some (kept, s.drop (capMin (max K 1) p.maxBond)) ∧
      kept.length = capMin (max K 1) p.maxBond := by
  intro K
  have hsel : selLen s p hs = K := by simp [selLen, hv, K]
  exact ⟨fun h0 => by simp [K, sumTruncIndex, h0], sumTruncIndex_spec s _ _, selected_and_kept s p hs hnn hd hp hsel⟩

/-- **Keep one.**  If the rule selects nothing, exactly the largest value is kept (rescaled to the
    total sum when renormalising) and all others are discarded. -/
theorem keep_one (s : List Rat) (p : Params) (hs : s ≠ []) (hnn : NonNeg s) (hd : Desc s)
    (hp : p.Valid) (hnone : selected s p = []) :
    ∃ kept, truncate s p = some (kept, s.tail) ∧
      (p.renorm = false → kept = [s.head hs]) ∧
      (p.renorm = true → kept = [s.sum]) := by
  have hsel : selLen s p hs = 0 := by
    have h := congrArg List.length (selected_eq_take s p hs hnn hd)
    rw [hnone, List.length_take_of_le (selLen_le s p hs)] at h
    exact h.symm
  have hk : keptLen s p hs = 1 :=
    Nat.le_antisymm (by rw [keptLen, hsel]; exact capMin_le 1 _) (keptLen_bounds s p hs hp).1
  have htake : s.take 1 = [s.head hs] := by
    cases s with
    | nil => exact absurd rfl hs
    | cons a t => rfl
  refine ⟨keptOf s p.renorm 1, ?_, ?_, ?_⟩
  · rw [truncate_eq s p hs hnn hd hp, hk, List.drop_one]
  · intro hr; rw [hr]; exact htake
  · intro hr
    rw [hr]
    rcases head_zero_or_pos s hs hnn with hz | hpos
    · rw [keptOf_of_head_zero s hs hnn hd hz, htake, hz, sum_zero_of_head_zero s hs hnn hd hz]
    · rw [(keptOf_of_head_pos s hs hnn hpos 1 (Nat.le_refl 1)).2, htake]
      simp [renormFactor, htake, Rat.div_mul_cancel (Rat.ne_of_gt hpos)]

/-- **Renormalisation.**  With `renorm` the kept prefix is multiplied as a whole by one factor
    `c ≥ 1` and afterwards sums to `Σs` (the ℓ¹ norm is restored — the sum, not the Euclidean norm
    the docstring suggests).  For a non-zero spectrum `c = Σs / Σs[:k]`; an all-zero spectrum is
    returned unchanged (`c = 1`).  No exception: this holds for every spectrum. -/
theorem renorm_scale (s : List Rat) (p : Params) (hs : s ≠ []) (hnn : NonNeg s) (hd : Desc s)
    (hp : p.Valid) (hr : p.renorm = true) :
    ∃ k c kept, truncate s p = some (kept, s.drop k) ∧
      kept = (s.take k).map (c * ·) ∧ kept.sum = s.sum ∧ 1 ≤ c ∧
      (0 < s.head hs → c = renormFactor s k) ∧ (s.head hs = 0 → c = 1) := by
  obtain ⟨h1, _, _⟩ := keptLen_bounds s p hs hp
  rw [truncate_eq s p hs hnn hd hp, hr]
  rcases head_zero_or_pos s hs hnn with hz | hpos
  · refine ⟨keptLen s p hs, 1, _, rfl, ?_, ?_, Rat.le_refl, ?_, fun _ => rfl⟩
    · rw [keptOf_of_head_zero s hs hnn hd hz]; simp
    · rw [keptOf_of_head_zero s hs hnn hd hz, sum_take_zero s hs hnn hd hz,
        sum_zero_of_head_zero s hs hnn hd hz]
    · intro hpos; rw [hz] at hpos; exact absurd hpos Rat.lt_irrefl
  · obtain ⟨hsum, hkept⟩ := keptOf_of_head_pos s hs hnn hpos _ h1
    refine ⟨keptLen s p hs, renormFactor s (keptLen s p hs), _, rfl, hkept, ?_,
      renormFactor_ge_one s hnn _ hsum, fun _ => rfl, fun h => absurd (h ▸ hpos) Rat.lt_irrefl⟩
    rw [hkept]; exact renorm_sum s _ hsum

/-- **Zero spectrum (repair F-C10a).**  Renormalising a kept vector whose sum is zero returns it
    unchanged; hence for an all-zero spectrum the result consists of zeros only, whatever the flags. -/
theorem renorm_zero_unchanged (s : List Rat) (p : Params) (hs : s ≠ []) (hnn : NonNeg s)
    (hd : Desc s) (hp : p.Valid) (hz : s.head hs = 0) :
    (∀ newS : List Rat, newS.sum = 0 → renormalise s newS = newS) ∧
    ∃ k, 1 ≤ k ∧ truncate s p = some (s.take k, s.drop k) ∧ ∀ x ∈ s.take k, x = 0 := by
  obtain ⟨h1, _, _⟩ := keptLen_bounds s p hs hp
  refine ⟨fun newS h => renormalise_zero s newS h, keptLen s p hs, h1, ?_, ?_⟩
  · rw [truncate_eq s p hs hnn hd hp, keptOf_of_head_zero s hs hnn hd hz]
  · intro x hx
    exact all_zero_of_head_zero s hs hnn hd hz x (List.mem_of_mem_take hx)

/-- Validation accepts exactly: `max_bond_dim` a positive integer or `+inf`, and each tolerance
    non-negative, `-inf` or `+inf`. -/
theorem validation_spec (b : BondArg) (rel tot : Tol) :
    checkParams b rel tot = .ok ↔
      ((∃ z : Int, b = .int z ∧ 0 < z) ∨ b = .inf) ∧
      (∀ q, rel = .fin q → 0 ≤ q) ∧ (∀ q, tot = .fin q → 0 ≤ q) := by
  rw [← rejected_eq_false, ← rejected_eq_false]
  cases b <;> simp [checkParams, ite_valueError_eq_ok]

/-- **Telescoping.**  Additive maps `P₀,…,P_{k-1}` that are contractions, each moving the
    original vector by at most `δ j`: applying all of them moves it by at most `Σ δ j`.
    (Projectors inserted on *different* bonds of the same tensor, as `truncate_node` does for
    the children of one node, are of this kind.) -/
theorem trunc_error_telescoping {E : Type*} [SeminormedAddCommGroup E] (P : ℕ → E →+ E)
    (δ : ℕ → ℝ) (k : ℕ) (x : E) (hc : ∀ j, j < k → ∀ y, ‖P j y‖ ≤ ‖y‖)
    (hd : ∀ j, j < k → ‖x - P j x‖ ≤ δ j) :
    ‖x - applyUpTo (fun j => (P j : E → E)) k x‖ ≤ ∑ j ∈ Finset.range k, δ j :=
  telescoping P δ k x hc hd

/-- **Error bound, partial.**  If the `j`-th local replacement changes the current state by at most
    `N · δ j` (`δ j` the weight discarded there, `N` a bound on the norm of the rest of the
    network), the state after `k` replacements differs from the original by at most `N · Σ δ j`.
    *Missing* (validated numerically on every run, not proved): that every replacement performed by
    `recursive_truncation` / `svd_truncation` satisfies the hypothesis with `N = max(1, ‖ψ‖)` and
    `δ j` = the discarded singular values of that step. -/
theorem trunc_error_bound_partial {E : Type*} [SeminormedAddCommGroup E] (ψ : ℕ → E) (δ : ℕ → ℝ)
    (N : ℝ) (k : ℕ) (h : ∀ j, j < k → ‖ψ j - ψ (j + 1)‖ ≤ N * δ j) :
    ‖ψ 0 - ψ k‖ ≤ N * ∑ j ∈ Finset.range k, δ j := by
  rw [Finset.mul_sum]
  exact Ptn.Analysis.telescope_seq ψ (fun j => N * δ j) k h

open Matrix Finset in
/-- **One projector insertion.**  Centre tensor matricised with the child leg as rows,
    `M = U₁ diag(s₁) W₁ + U₂ diag(s₂) W₂` (the SVD, GIVEN: columns of `U₁`, `U₂` orthonormal and
    mutually orthogonal, rows of `W₂` orthonormal; contract of `numpy.linalg.svd`), kept part `1`,
    discarded part `2`; the projector of `get_truncation_projector` is `P = U₁`, and inserting
    `P.conj()`, `P.T` on the bond turns `M` into `P Pᴴ M`.  If the state is `ψ = E · vec M` with `E` an
    isometry (the embedding of the centre tensor: canonical form), then what is removed is exactly the
    discarded part, and the state changes by exactly the discarded weight:
    `‖ψ − ψ'‖² = Σ discarded sᵢ²`. -/
theorem single_projector_error {m n κ δ N : Type*} [Fintype m] [Fintype n] [Fintype κ] [Fintype δ]
    [Fintype N] [DecidableEq m] [DecidableEq n] [DecidableEq κ] [DecidableEq δ]
    (E : Matrix N (m × n) ℂ) (hE : Eᴴ * E = 1)
    (U₁ : Matrix m κ ℂ) (U₂ : Matrix m δ ℂ) (s₁ : κ → ℝ) (s₂ : δ → ℝ)
    (W₁ : Matrix κ n ℂ) (W₂ : Matrix δ n ℂ)
    (h11 : U₁ᴴ * U₁ = 1) (h12 : U₁ᴴ * U₂ = 0) (h22 : U₂ᴴ * U₂ = 1) (hW : W₂ * W₂ᴴ = 1) :
    let M := U₁ * cdiag s₁ * W₁ + U₂ * cdiag s₂ * W₂
    let ψ := E *ᵥ vec M
    let ψ' := E *ᵥ vec (U₁ * U₁ᴴ * M)
    M - U₁ * U₁ᴴ * M = U₂ * cdiag s₂ * W₂ ∧
    star (ψ - ψ') ⬝ᵥ (ψ - ψ') = ((∑ i, (s₂ i) ^ 2 : ℝ) : ℂ) ∧
    ‖(WithLp.toLp 2 ψ : EuclideanSpace ℂ N) - WithLp.toLp 2 ψ'‖ = Real.sqrt (∑ i, (s₂ i) ^ 2) := by
  intro M ψ ψ'
  have hres := proj_residual U₁ U₂ h11 h12 (cdiag s₁ * W₁) (cdiag s₂ * W₂)
  rw [← Matrix.mul_assoc, ← Matrix.mul_assoc] at hres
  -- the isometry `E` preserves the norm of the coefficient vector, which is the Frobenius norm of the residual
  have hsq : star (ψ - ψ') ⬝ᵥ (ψ - ψ') = ((∑ i, (s₂ i) ^ 2 : ℝ) : ℂ) := by
    rw [← mulVec_sub, ← vec_sub, Ptn.Analysis.isometry_norm E hE, vec_norm_sq, hres,
      residual_norm_sq U₂ s₂ W₂ h22 hW]
  refine ⟨hres, hsq, ?_⟩
  rw [← enorm_sub]
  exact enorm_eq_sqrt _ _ hsq

open Matrix Finset in
/-- A projector inserted at the orthogonality centre (every first-level insertion of
    `recursive_truncation`, after `canonical_form(root)`) satisfies the step hypothesis of
    `recursive_truncation_error_bound_partial` with factor 1 (and with equality). -/
theorem root_step_bound {m n κ N : Type*} {r : ℕ} [Fintype m] [Fintype n] [Fintype κ]
    [Fintype N] [DecidableEq m] [DecidableEq n] [DecidableEq κ]
    (E : Matrix N (m × n) ℂ) (hE : Eᴴ * E = 1)
    (U₁ : Matrix m κ ℂ) (U₂ : Matrix m (Fin r) ℂ) (s₁ : κ → ℝ) (σ : ℕ → ℝ)
    (W₁ : Matrix κ n ℂ) (W₂ : Matrix (Fin r) n ℂ)
    (h11 : U₁ᴴ * U₁ = 1) (h12 : U₁ᴴ * U₂ = 0) (h22 : U₂ᴴ * U₂ = 1) (hW : W₂ * W₂ᴴ = 1) :
    let M := U₁ * cdiag s₁ * W₁ + U₂ * cdiag (fun i : Fin r => σ i) * W₂
    ‖(WithLp.toLp 2 (E *ᵥ vec M) : EuclideanSpace ℂ N) - WithLp.toLp 2 (E *ᵥ vec (U₁ * U₁ᴴ * M))‖
      ≤ 1 * Real.sqrt (∑ i ∈ range r, σ i ^ 2) := by
  intro M
  have := (single_projector_error E hE U₁ U₂ s₁ (fun i : Fin r => σ i) W₁ W₂ h11 h12 h22 hW).2.2
  rw [one_mul, Finset.sum_range (fun i => σ i ^ 2)]
  exact le_of_eq this

open Matrix Finset in
/-- A projector inserted at a tensor that is NOT the orthogonality centre: if the rest of the
    network maps coefficient vectors to states with `‖A x‖ ≤ Nrm ‖x‖` (hypothesis `hA`; `A` need not
    be an isometry), the step changes the state by at most `Nrm` times the weight discarded in the
    SVD of the LOCAL tensor. -/
theorem general_step_bound {m n κ N : Type*} {r : ℕ} [Fintype m] [Fintype n] [Fintype κ]
    [Fintype N] [DecidableEq m] [DecidableEq n] [DecidableEq κ]
    (A : Matrix N (m × n) ℂ) (Nrm : ℝ)
    (hA : ∀ x : m × n → ℂ, enorm (A *ᵥ x) ≤ Nrm * enorm x)
    (U₁ : Matrix m κ ℂ) (U₂ : Matrix m (Fin r) ℂ) (s₁ : κ → ℝ) (σ : ℕ → ℝ)
    (W₁ : Matrix κ n ℂ) (W₂ : Matrix (Fin r) n ℂ)
    (h11 : U₁ᴴ * U₁ = 1) (h12 : U₁ᴴ * U₂ = 0) (h22 : U₂ᴴ * U₂ = 1) (hW : W₂ * W₂ᴴ = 1) :
    let M := U₁ * cdiag s₁ * W₁ + U₂ * cdiag (fun i : Fin r => σ i) * W₂
    ‖(WithLp.toLp 2 (A *ᵥ vec M) : EuclideanSpace ℂ N) - WithLp.toLp 2 (A *ᵥ vec (U₁ * U₁ᴴ * M))‖
      ≤ Nrm * Real.sqrt (∑ i ∈ range r, σ i ^ 2) := by
  intro M
  have hres := proj_residual U₁ U₂ h11 h12 (cdiag s₁ * W₁) (cdiag (fun i : Fin r => σ i) * W₂)
  rw [← Matrix.mul_assoc, ← Matrix.mul_assoc] at hres
  have hn := enorm_eq_sqrt _ _ ((vec_norm_sq _).trans (residual_norm_sq U₂ (fun i : Fin r => σ i) W₂ h22 hW))
  rw [← hres, vec_sub] at hn
  rw [← enorm_sub, ← mulVec_sub, Finset.sum_range (fun i => σ i ^ 2)]
  exact le_of_le_of_eq (hA _) (congrArg (Nrm * ·) hn)

open Finset in
/-- **Error bound over the recursion, partial.**  `Ψ 0, …, Ψ K` the states after each projector
    insertion, `σ t i` (`i < r t`) the singular values discarded at insertion `t`.  If every step
    satisfies `‖Ψ t − Ψ (t+1)‖ ≤ Nrm · sqrt(Σᵢ σ_{t,i}²)`, then
    `‖Ψ 0 − Ψ K‖ ≤ Nrm · Σ_t sqrt(Σᵢ σ_{t,i}²) ≤ Nrm · Σ_t Σᵢ σ_{t,i}` (the ℓ¹ bound the oracle uses).
    The step hypothesis is PROVED for insertions at the orthogonality centre (`root_step_bound`, factor
    1) and REDUCED by `general_step_bound` to one fact for the deeper insertions, which is what remains
    ASSUMED: after the first-level projectors have been contracted into the children, the tensors above a
    child are no longer isometries, and the map `A_t` from the child's coefficient vector to the state is
    only bounded, `‖A_t x‖ ≤ max(1, ‖ψ‖) ‖x‖` (validated numerically on every run through the dense
    error check, not proved).  Also assumed: that `Ψ (t+1)` of one step is `Ψ t` of the next (the
    contractions in between do not change the state; C02 contraction soundness). -/
theorem recursive_truncation_error_bound_partial {H : Type*} [SeminormedAddCommGroup H]
    (Ψ : ℕ → H) (K : ℕ) (r : ℕ → ℕ) (σ : ℕ → ℕ → ℝ) (Nrm : ℝ)
    (hσ : ∀ t i, 0 ≤ σ t i) (hN : 0 ≤ Nrm)
    (hstep : ∀ t, t < K →
      ‖Ψ t - Ψ (t + 1)‖ ≤ Nrm * Real.sqrt (∑ i ∈ range (r t), σ t i ^ 2)) :
    ‖Ψ 0 - Ψ K‖ ≤ Nrm * ∑ t ∈ range K, Real.sqrt (∑ i ∈ range (r t), σ t i ^ 2) ∧
    ‖Ψ 0 - Ψ K‖ ≤ Nrm * ∑ t ∈ range K, ∑ i ∈ range (r t), σ t i := by
  have h1 := trunc_error_bound_partial Ψ (fun t => Real.sqrt (∑ i ∈ range (r t), σ t i ^ 2)) Nrm K hstep
  refine ⟨h1, h1.trans ?_⟩
  apply mul_le_mul_of_nonneg_left _ hN
  apply sum_le_sum
  intro t _
  exact sqrt_sum_sq_le_sum (σ t) (hσ t) (r t)


def exP (D : Option Nat) (rel tot : Tol) (renorm sumT sumR : Bool) : Params :=
  { maxBond := D, relTol := rel, totalTol := tot, renorm := renorm, sumTrunc := sumT, sumRenorm := sumR }

-- hypotheses of the error bound are satisfiable with a non-trivial instance (E = ℝ)
example : ∀ j, j < 2 → ‖(fun n : ℕ => (1 : ℝ) - n) j - (fun n : ℕ => (1 : ℝ) - n) (j + 1)‖
    ≤ 2 * (fun _ => (1 / 2 : ℝ)) j := by
  intro j _
  have e : ((1 : ℝ) - (j : ℝ)) - ((1 : ℝ) - ((j + 1 : ℕ) : ℝ)) = 1 := by push_cast; ring
  simp only [e]
  norm_num
-- the rule selects nothing (hypothesis of `keep_one`)
example : selected [4, 2, 1] (exP (some 5) (.fin 1) (.fin 0) false false true) = [] := by
  decide +kernel
-- `Fits`: tail {3} of [4,3] fits tolerance 3, the whole vector does not
example : Fits [4, 3] (.fin 3) false 1 ∧ ¬ Fits [4, 3] (.fin 3) false 0 := by decide +kernel

-- hypotheses are satisfiable (ties, zeros)
example : Desc [4, 2, 2, 1, 0, 0] ∧ NonNeg [4, 2, 2, 1, 0, 0] ∧
    (exP (some 3) (.fin (1/2)) .ninf false false true).Valid := by
  refine ⟨by decide +kernel, by decide +kernel, by decide +kernel⟩
-- tie at the threshold: rel·s₀ = 2, values equal to 2 are NOT kept (strictly above)
example : truncate [4, 2, 2, 1] (exP none (.fin (1/2)) .ninf false false true)
    = some ([4], [2, 2, 1]) := by decide +kernel
-- just below the tie: kept
example : truncate [4, 2, 2, 1] (exP none (.fin (1/4)) .ninf false false true)
    = some ([4, 2, 2], [1]) := by decide +kernel
-- max(rel·s₀, tot): the larger threshold wins
example : truncate [4, 2, 2, 1] (exP none (.fin (1/4)) (.fin 3) false false true)
    = some ([4], [2, 2, 1]) := by decide +kernel
-- both tolerances -inf, D = ∞: nothing is discarded, zeros included
example : truncate [4, 2, 0, 0] (exP none .ninf .ninf false false true)
    = some ([4, 2, 0, 0], []) := by decide +kernel
-- D caps the prefix
example : truncate [4, 2, 2, 1] (exP (some 2) .ninf .ninf false false true)
    = some ([4, 2], [2, 1]) := by decide +kernel
-- tolerance 0: zeros are dropped (strict comparison), D = ∞
example : truncate [4, 2, 0, 0] (exP none (.fin 0) (.fin 0) false false true)
    = some ([4, 2], [0, 0]) := by decide +kernel
-- nothing survives: keep the largest
example : truncate [4, 2, 1] (exP (some 5) (.fin 1) (.fin 0) false false true)
    = some ([4], [2, 1]) := by decide +kernel
example : truncate [4, 2, 1] (exP (some 5) .pinf (.fin 0) false false true)
    = some ([4], [2, 1]) := by decide +kernel
-- single value; all-zero spectrum with rel_tol = -inf (IEEE nan cutoff): one zero is kept
example : truncate [3] (exP (some 1) (.fin 0) (.fin 0) false false true) = some ([3], []) := by
  decide +kernel
example : truncate [0, 0] (exP none .ninf .ninf false false true) = some ([0], [0]) := by
  decide +kernel
-- sum mode, absolute: tail {3} has weight 9 = 3², fits (not strictly above) -> discarded
example : truncate [4, 3] (exP none (.fin 0) (.fin 3) false true false) = some ([4], [3]) := by
  decide +kernel
example : truncate [4, 3] (exP none (.fin 0) (.fin (299/100)) false true false)
    = some ([4, 3], []) := by decide +kernel
-- sum mode, relative: tails of [1,1,1,1] weigh 1/4, 1/2, ...; tol² = 1/4 ties with the first
example : truncate [1, 1, 1, 1] (exP none (.fin 0) (.fin (1/2)) false true true)
    = some ([1, 1, 1], [1]) := by decide +kernel
-- sum mode with total_tol = -inf: (-inf)² = +inf, every tail fits, the largest value is kept
example : truncate [4, 3, 1] (exP none (.fin 0) .ninf false true true) = some ([4], [3, 1]) := by
  decide +kernel
-- sum mode, max_bond_dim hit: the cap applies to the ORIGINAL vector
example : truncate [4, 3, 2, 1] (exP (some 2) (.fin 0) (.fin 0) false true false)
    = some ([4, 3], [2, 1]) := by decide +kernel
-- renormalisation: [4,2] scaled by 7/6 sums to 7 again
example : truncate [4, 2, 1] (exP (some 2) .ninf .ninf true false true)
    = some ([14/3, 7/3], [1]) := by decide +kernel
-- renormalising an all-zero spectrum leaves it unchanged (was NaN before repair F-C10a)
example : truncate [0, 0] (exP none (.fin 0) (.fin 0) true false true) = some ([0], [0]) := by
  decide +kernel
example : truncate [0, 0, 0] (exP none .ninf .ninf true true true) = some ([0], [0, 0]) := by
  decide +kernel
-- the empty vector is rejected
example : truncate [] (exP none (.fin 0) (.fin 0) false false true) = none := by decide +kernel
example : checkParams (.int 0) (.fin 0) (.fin 0) = .valueError "max_bond_dim" := by decide +kernel
example : checkParams .otherFloat (.fin 0) (.fin 0) = .typeError := by decide +kernel
example : checkParams .inf (.fin (-1)) (.fin 0) = .valueError "rel_tol" := by decide +kernel
example : checkParams .inf .ninf .ninf = .ok := by decide +kernel

open Matrix in
-- the SVD hypotheses are satisfiable: M = diag(2, 1/2) on ℂ², kept = first, discarded = second vector
example :
    let U₁ : Matrix (Fin 2) (Fin 1) ℂ := Matrix.of ![![1], ![0]]
    let U₂ : Matrix (Fin 2) (Fin 1) ℂ := Matrix.of ![![0], ![1]]
    let W₂ : Matrix (Fin 1) (Fin 2) ℂ := Matrix.of ![![0, 1]]
    U₁ᴴ * U₁ = 1 ∧ U₁ᴴ * U₂ = 0 ∧ U₂ᴴ * U₂ = 1 ∧ W₂ * W₂ᴴ = 1 := by
  intro U₁ U₂ W₂
  refine ⟨?_, ?_, ?_, ?_⟩ <;>
    · ext i j
      fin_cases i; fin_cases j
      simp [U₁, U₂, W₂, Matrix.mul_apply, Fin.sum_univ_two]
-- the step hypothesis of the recursion bound is satisfiable (two steps in ℝ)
example : ∀ t, t < 2 → ‖(fun n : ℕ => (1 : ℝ) - n) t - (fun n : ℕ => (1 : ℝ) - n) (t + 1)‖
    ≤ 1 * Real.sqrt (∑ i ∈ Finset.range 1, (fun _ _ => (1 : ℝ)) t i ^ 2) := by
  intro t _
  simp

end Ptn.C10
