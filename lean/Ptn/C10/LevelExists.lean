import Ptn.C10.LevelRun
import Ptn.C02.TruncLegs
/-! Value level: the value-level history of `truncate_node(n)` without the recursive calls EXISTS whenever the model's
`truncateNodeStep` succeeds and the external routines keep their contracts (`Lr66Contract`: the fresh labels have the
dimensions of the bonds they name, and for every child a two-leg tensor `Π_c` together with an exact factorisation along
the legs of `insert_projection_operator_and_conjugate` is delivered).  Rests on `Ptn.C02.truncateNodeStep_run`: the step is
an admissible run of basic edits; the history is built from that run alone, round by round. -/
namespace Ptn.C10
open Ptn.C02 Ptn.C03 Ptn.Ein NodeS

variable {R : Type} [CommSemiring R]

/-- The contract of the external routines for child `c` in the state `(t, g, v)`: after the read of the node tensor the
two fresh labels of the identity insertion have the dimension of the bond `c - n`; after the insertion a two-leg tensor
`Π` on the legs of the identity node and an exact factorisation of it over a new bond of the kept dimension `k`, along the
leg specifications of `insert_projection_operator_and_conjugate`, are delivered. -/
def Lr66Contract (dim : Nat → Nat) (e : Label → Nat) (n : Id) (ids : TTN.TempIds) (k : Nat)
    (t : TTN) (g : LegMap) (v : VNet R) (c : Id) : Prop :=
  (∀ t0 g0 v0, SimRun dim e t g v [.access n] t0 g0 v0 →
    ∀ ax, t0.Leg c n ax → dim v0.next = ax.dim ∧ dim (v0.next + 1) = ax.dim) ∧
  (∀ t0 g0 v0 t1 g1 v1 t2, SimRun dim e t g v [.access n] t0 g0 v0 →
    SimRun dim e t0 g0 v0 [.ident c n (ids.ident c)] t1 g1 v1 →
    t1.step (lr54Split n c ids k) = some t2 →
    ∃ Pi : Asg Nat → R, DependsOn (· ∈ v1.legs (ids.ident c)) Pi ∧ dim v1.next = k ∧ dim (v1.next + 1) = k ∧
      Nonempty (SplitFact dim Pi (splitOutLegs e g1 t2 (ids.ident c) (ids.star c) (ids.proj c))
        (splitInLegs e g1 t2 (ids.ident c) (ids.star c) (ids.proj c)) v1.next (v1.next + 1)))

/-- a contraction asks nothing of the external routines -/
theorem simrun_of_contract_run (dim : Nat → Nat) (e : Label → Nat) {t t' : TTN} {ops : List TOp}
    (hr : TRun t ops t') : ∀ {g : LegMap} {v : VNet R}, t.WF → t.LWF → v.WF → RSim dim e g t v →
    (∀ op ∈ ops, ∃ a b m, op = TOp.contract a b m) →
    ∃ g' v', SimRun dim e t g v ops t' g' v' ∧ t'.WF ∧ t'.LWF ∧ v'.WF ∧ RSim dim e g' t' v' := by
  induction hr with
  | nil t => exact fun h hl hv hs _ => ⟨_, _, .nil _ _ _, h, hl, hv, hs⟩
  | cons adm st _ ih =>
    intro g v h hl hv hs hops
    obtain ⟨a, b, m, rfl⟩ := hops _ List.mem_cons_self
    obtain ⟨g1, v1, run1, w1, l1, vw1, s1⟩ := simrun_one_exists dim e (op := .contract a b m) h hl hv hs trivial adm st
      (by intro _ _ _ _ _ _ heq; cases heq) (by intro _ _ _ heq; cases heq)
    obtain ⟨g', v', run, inv⟩ := ih w1 l1 vw1 s1 (fun op hop => hops op (List.mem_cons_of_mem _ hop))
    exact ⟨g', v', run1.append run, inv⟩

theorem round_simrun_exists (dim : Nat → Nat) (e : Label → Nat) {t t2 : TTN} {g : LegMap} {v : VNet R} {n c : Id}
    {ids : TTN.TempIds} {kdim : Id → Nat}
    (h : t.WF) (hl : t.LWF) (hv : v.WF) (hs : RSim dim e g t v) (hr : TRun t (truncRound n ids kdim c) t2)
    (hK : Lr66Contract dim e n ids (kdim c) t g v c) :
    ∃ t0 g0 v0 t1 g1 v1 Pi g2 v2,
      SimRun dim e t g v [.access n] t0 g0 v0 ∧ SimRun dim e t0 g0 v0 [.ident c n (ids.ident c)] t1 g1 v1 ∧
      DependsOn (· ∈ v1.legs (ids.ident c)) Pi ∧
      SimRun dim e t1 g1 (setTens v1 (ids.ident c) Pi) [lr54Split n c ids (kdim c)] t2 g2 v2 := by
  obtain ⟨t0, _, hacc, hr⟩ := hr.cons_inv
  obtain ⟨t1, hnew, hins, hr⟩ := hr.cons_inv
  obtain ⟨_, hadm, hsplit, hr⟩ := hr.cons_inv
  obtain rfl := hr.nil_inv
  obtain ⟨g0, v0, run0, w0, l0, vw0, s0⟩ := simrun_one_exists dim e (op := .access n) (t1 := t0) h hl hv hs
    trivial trivial hacc (by intro _ _ _ _ _ _ heq; cases heq) (by intro _ _ _ heq; cases heq)
  obtain ⟨g1, v1, run1, w1, l1, vw1, s1⟩ := simrun_one_exists dim e (op := .ident c n (ids.ident c)) w0 l0 vw0 s0
    trivial hnew hins (by intro _ _ _ _ _ _ heq; cases heq) (by intro c' p' n' heq; cases heq; exact hK.1 t0 g0 v0 run0)
  obtain ⟨Pi, hdep, d1, d2, ⟨F⟩⟩ := hK.2 t0 g0 v0 t1 g1 v1 _ run0 run1 hsplit
  obtain ⟨g2, v2, run2, _⟩ := simrun_one_exists dim e (op := lr54Split n c ids (kdim c)) w1 l1 (setTens_wf vw1 hdep)
    (s1.setTens _ Pi) trivial hadm hsplit
    (by
      intro id outL inL outId inId bd' heq
      simp only [lr54Split] at heq
      cases heq
      refine ⟨d1, d2, ⟨?_⟩⟩
      simpa [setTens] using F)
    (by intro _ _ _ heq; simp only [lr54Split] at heq; cases heq)
  exact ⟨t0, g0, v0, t1, g1, v1, Pi, g2, v2, run0, run1, hdep, run2⟩

theorem Lr54LevelRun.snoc {dim : Nat → Nat} {e : Label → Nat} {n c : Id} {ids : TTN.TempIds} {kdim : Id → Nat}
    {pre : List TOp} {t t' t0 t1 t2 : TTN} {g g' g0 g1 g2 : LegMap} {v v' v0 v1 v2 : VNet R} {Pi : Asg Nat → R}
    {es : List (Lr54Entry R)} (hr : Lr54LevelRun dim e n ids kdim pre t g v es t' g' v')
    (r0 : SimRun dim e t' g' v' pre t0 g0 v0) (r1 : SimRun dim e t0 g0 v0 [.ident c n (ids.ident c)] t1 g1 v1)
    (hdep : DependsOn (· ∈ v1.legs (ids.ident c)) Pi)
    (r2 : SimRun dim e t1 g1 (setTens v1 (ids.ident c) Pi) [lr54Split n c ids (kdim c)] t2 g2 v2) :
    Lr54LevelRun dim e n ids kdim pre t g v (es ++ [⟨c, v0.next, Pi⟩]) t2 g2 v2 := by
  induction hr with
  | nil t g v => exact .cons r0 r1 hdep r2 (.nil _ _ _)
  | cons a b c d _ ih => exact .cons a b c d (ih r0)

theorem level_run_of_trun (dim : Nat → Nat) (e : Label → Nat) {ids : TTN.TempIds} {n : Id} (kdim : Id → Nat)
    {t t1 : TTN} {g : LegMap} {v : VNet R} (h : t.WF) (hl : t.LWF) (hv : v.WF) (hs : RSim dim e g t v) :
    ∀ (cs : List Id) (es : List (Lr54Entry R)) (tm : TTN) (gm : LegMap) (vm : VNet R),
      Lr54LevelRun dim e n ids kdim [.access n] t g v es tm gm vm →
      TRun tm (cs.flatMap (truncRound n ids kdim)) t1 → (es.map (·.c) ++ cs).Nodup →
      (∀ es' tm' gm' vm' c, Lr54LevelRun dim e n ids kdim [.access n] t g v es' tm' gm' vm' → c ∈ cs →
        c ∉ es'.map (·.c) → Lr66Contract dim e n ids (kdim c) tm' gm' vm' c) →
      ∃ es' g1 v1, Lr54LevelRun dim e n ids kdim [.access n] t g v es' t1 g1 v1 ∧
        es'.map (·.c) = es.map (·.c) ++ cs := by
  intro cs
  induction cs with
  | nil =>
    intro es tm gm vm hr run _ _
    obtain rfl := run.nil_inv
    exact ⟨es, gm, vm, hr, by simp⟩
  | cons c cs ih =>
    intro es tm gm vm hr run nd hO
    obtain ⟨tm2, r1, r2⟩ := TRun.append_inv (A := truncRound n ids kdim c) run
    obtain ⟨wu, lu, vwu, su, _, _⟩ := levelRun_sound dim e h hl hv hs hr
    obtain ⟨t0, g0, v0, tt1, g1, v1, Pi, g2, v2, run0, run1, hdep, run2⟩ := round_simrun_exists dim e wu lu vwu su r1
      (hO es tm gm vm c hr List.mem_cons_self (nodup_mid nd).1)
    obtain ⟨es', g', v', hr', hes'⟩ := ih _ tm2 g2 v2
      (Lr54LevelRun.snoc hr run0 run1 hdep run2) r2 (by simpa using nd)
      (fun es' tm' gm' vm' d hr' hd => hO es' tm' gm' vm' d hr' (List.mem_cons_of_mem _ hd))
    exact ⟨es', g', v', hr', by simpa using hes'⟩

/-- the operations of the second and third loop of `truncate_node(n)` over the children `cs` -/
def lr66Tail (n : Id) (ids : TTN.TempIds) (cs : List Id) : List TOp :=
  cs.map (fun c => TOp.contract n (ids.star c) n) ++ cs.map (fun c => TOp.contract (ids.proj c) c c)

/-- the simulated history of one `truncate_node(n)` without the recursive calls, from `(t, g, v)` to the state `t'` the
model returns: the level run over the children of `n`, then the contractions of the second and third loop -/
structure NodeStepRun (dim : Nat → Nat) (e : Label → Nat) (n : Id) (ids : TTN.TempIds) (kdim : Id → Nat)
    (t : TTN) (g : LegMap) (v : VNet R) (t' : TTN) (node : NodeS) (es : List (Lr54Entry R)) (t1 : TTN) (g1 : LegMap)
    (v1 : VNet R) (g' : LegMap) (v' : VNet R) : Prop where
  isNode : t.N n = some node
  children : es.map (·.c) = node.children
  level : Lr54LevelRun dim e n ids kdim [.access n] t g v es t1 g1 v1
  loop1 : TTN.truncLoop1 t n ids kdim node.children = some t1
  tail : SimRun dim e t1 g1 v1 (lr66Tail n ids node.children) t' g' v'
  wf : t'.WF
  lwf : t'.LWF
  vwf : v'.WF
  sim : RSim dim e g' t' v'
  S : t'.S = t.S
  root : t'.root = t.root

/-- **One `truncate_node(n)` without the recursive calls: the simulated history exists.**  If the model's
`truncateNodeStep` succeeds on temporary identifiers that are unused and distinct (`TempOK`) and the external routines keep
their contract in every state the first loop reaches, then there is a level run over exactly the children of `n` in order,
followed by the simulated contractions of `contract_all_children(n)` and of the third loop, ending in the state the model
returns; that state has the structure of the input. -/
theorem truncateNodeStep_run_exists (dim : Nat → Nat) (e : Label → Nat) {t t' : TTN} {g : LegMap} {v : VNet R} {n : Id}
    {ids : TTN.TempIds} {kdim : Id → Nat} (h : t.WF) (hl : t.LWF) (hv : v.WF) (hs : RSim dim e g t v)
    (hok : TempOK t.S ids) (hstep : t.truncateNodeStep n ids kdim = some t')
    (hO : ∀ es tm gm vm c cch, Lr54LevelRun dim e n ids kdim [.access n] t g v es tm gm vm →
      t.S c = some (some n, cch) → c ∉ es.map (·.c) → Lr66Contract dim e n ids (kdim c) tm gm vm c) :
    ∃ node es t1 g1 v1 g' v', NodeStepRun dim e n ids kdim t g v t' node es t1 g1 v1 g' v' := by
  have hfull := truncate_step_full (TTN.WFX.ofWF h) hok hstep
  obtain ⟨Nn, hNn, run⟩ := truncateNodeStep_run h hok hstep
  obtain ⟨t1, r1, rtail⟩ := TRun.append_inv run
  have hSn := TTN.S_eq hNn
  obtain ⟨es, g1, v1, hr, hes⟩ := level_run_of_trun dim e kdim h hl hv hs Nn.children [] t g v (.nil _ _ _) r1
    (by simpa using h.str.nodup n _ _ hSn) (fun es tm gm vm c hr hc hnot => by
      obtain ⟨cch, hSc⟩ := h.str.down n _ _ c hSn hc
      exact hO es tm gm vm c cch hr hSc hnot)
  have hes : es.map (·.c) = Nn.children := by simpa using hes
  obtain ⟨w1, l1, vw1, s1, loop1, _⟩ := levelRun_sound dim e h hl hv hs hr
  obtain ⟨g', v', rs, w', l', vw', s'⟩ := simrun_of_contract_run dim e rtail w1 l1 vw1 s1 (by
    intro op hop
    rcases List.mem_append.1 hop with hop | hop <;> obtain ⟨c, _, rfl⟩ := List.mem_map.1 hop <;> exact ⟨_, _, _, rfl⟩)
  exact ⟨Nn, es, t1, g1, v1, g', v', hNn, hes, hr, hes ▸ loop1 rfl, rs, w', l', vw', s', hfull.2.2, hfull.2.1⟩

end Ptn.C10
