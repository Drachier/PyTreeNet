import Ptn.Common.List
import Ptn.C02.TruncLegs
/-! `truncOrder` (the order in which `truncate_node` cuts the bonds) visits every non-root node of a well-formed
tree exactly once, with the fuel `recursive_truncation` of the model uses. -/
namespace Ptn.C10
open Ptn.C02

/-- the bonds `(parent, child)` in the order `truncate_node(n)` cuts them (`Ptn.C02.TTN.truncateNode`): first
all children of `n` (first loop of `truncate_node`), then the recursive calls, child by child.  `S` is the
structure map of the network (`t.S`: parent and children list of every node) — it is the same before and
after every call (`truncate_node_structure`). -/
def truncOrder (S : Nat → Option (Option Nat × List Nat)) : Nat → Nat → List (Nat × Nat)
  | 0, _ => []
  | fuel + 1, n =>
    match S n with
    | none => []
    | some (_, cs) => cs.map (fun c => (n, c)) ++ cs.flatMap (truncOrder S fuel)

theorem SDesc.dp_lt {S : Id → Option Struct} {Tk : Id → Bool} {root : Option Id} (h : SWF S Tk root)
    {dp : Id → Nat} (hd : ∀ k p ch, S k = some (some p, ch) → dp p < dp k) {n c : Id} (hs : SDesc S n c) :
    dp n < dp c := by
  induction hs with
  | child h1 h2 =>
    obtain ⟨cch, e⟩ := h.down _ _ _ _ h1 h2
    exact hd _ _ _ e
  | step h1 h2 _ ih =>
    obtain ⟨cch, e⟩ := h.down _ _ _ _ h1 h2
    exact Nat.lt_trans (hd _ _ _ e) ih

theorem SDesc.parent_cases {S : Id → Option Struct} {Tk : Id → Bool} {root : Option Id} (h : SWF S Tk root)
    {n c : Id} (hs : SDesc S n c) : ∃ p cch, S c = some (some p, cch) ∧ (p = n ∨ SDesc S n p) := by
  induction hs with
  | child h1 h2 =>
    obtain ⟨cch, e⟩ := h.down _ _ _ _ h1 h2
    exact ⟨_, cch, e, Or.inl rfl⟩
  | step h1 h2 _ ih =>
    obtain ⟨p, cch, e, hp⟩ := ih
    refine ⟨p, cch, e, Or.inr ?_⟩
    rcases hp with rfl | hp
    · exact SDesc.child h1 h2
    · exact SDesc.step h1 h2 hp

theorem sdesc_disjoint {S : Id → Option Struct} {Tk : Id → Bool} {root : Option Id} (h : SWF S Tk root)
    {n : Id} {pp : Option Id} {cs : List Id} (hn : S n = some (pp, cs)) :
    (∀ ci cj c, ci ∈ cs → cj ∈ cs → ci ≠ cj → SDesc S ci c → SDesc S cj c → False) ∧
    (∀ ci cj, ci ∈ cs → cj ∈ cs → SDesc S ci cj → False) := by
  obtain ⟨dp, hd⟩ := h.depth
  have second : ∀ ci cj, ci ∈ cs → cj ∈ cs → SDesc S ci cj → False := by
    intro ci cj hi hj hs
    obtain ⟨p, cch, e, hp⟩ := hs.parent_cases h
    obtain ⟨cch', e'⟩ := h.down _ _ _ _ hn hj
    rw [e'] at e; simp at e
    obtain ⟨cci, ei⟩ := h.down _ _ _ _ hn hi
    rcases hp with hp | hp
    · rw [← e.1] at hp; rw [← hp] at ei; exact h.parent_ne ei rfl
    · rw [← e.1] at hp
      have := hp.dp_lt h hd
      have := hd _ _ _ ei
      omega
  refine ⟨?_, second⟩
  have main : ∀ m ci cj c, dp c = m → ci ∈ cs → cj ∈ cs → ci ≠ cj → SDesc S ci c → SDesc S cj c → False := by
    intro m
    induction m using Nat.strongRecOn with
    | _ m ih =>
      intro ci cj c hm hi hj hne h1 h2
      obtain ⟨p1, cch1, e1, hp1⟩ := h1.parent_cases h
      obtain ⟨p2, cch2, e2, hp2⟩ := h2.parent_cases h
      rw [e1] at e2; simp at e2
      have hp2' : p1 = cj ∨ SDesc S cj p1 := by rw [e2.1]; exact hp2
      have hlt := hd _ _ _ e1
      rcases hp1 with a | a <;> rcases hp2' with b | b
      · exact hne (a.symm.trans b)
      · rw [a] at b; exact second cj ci hj hi b
      · rw [b] at a; exact second ci cj hi hj a
      · exact ih (dp p1) (by omega) ci cj p1 rfl hi hj hne a b
  intro ci cj c
  exact main (dp c) ci cj c rfl

theorem truncOrder_succ (S : Id → Option Struct) (fuel : Nat) (n : Id) (pp : Option Id) (cs : List Id)
    (hn : S n = some (pp, cs)) :
    (truncOrder S (fuel + 1) n).map Prod.snd = cs ++ cs.flatMap (fun c => (truncOrder S fuel c).map Prod.snd) := by
  simp only [truncOrder, hn, List.map_append, List.map_map, List.map_flatMap]
  congr 1
  exact (List.map_congr_left fun _ _ => rfl).trans (List.map_id cs)

theorem truncOrder_sound {S : Id → Option Struct} :
    ∀ (fuel : Nat) (n p c : Id), (p, c) ∈ truncOrder S fuel n →
      SDesc S n c ∧ ∃ pp pch, S p = some (pp, pch) ∧ c ∈ pch := by
  intro fuel
  induction fuel with
  | zero => intro n p c hm; simp [truncOrder] at hm
  | succ fuel ih =>
    intro n p c hm
    cases hn : S n with
    | none => simp [truncOrder, hn] at hm
    | some st =>
      obtain ⟨pp, cs⟩ := st
      simp only [truncOrder, hn, List.mem_append, List.mem_map, List.mem_flatMap] at hm
      rcases hm with ⟨c', hc', e⟩ | ⟨ci, hci, hm⟩
      · simp only [Prod.mk.injEq] at e
        obtain ⟨rfl, rfl⟩ := e
        exact ⟨SDesc.child hn hc', pp, cs, hn, hc'⟩
      · obtain ⟨hd, hp⟩ := ih ci p c hm
        exact ⟨SDesc.step hn hci hd, hp⟩

theorem truncOrder_nodup {S : Id → Option Struct} {Tk : Id → Bool} {root : Option Id} (h : SWF S Tk root) :
    ∀ (fuel : Nat) (n : Id), ((truncOrder S fuel n).map Prod.snd).Nodup := by
  intro fuel
  induction fuel with
  | zero => intro n; simp [truncOrder]
  | succ fuel ih =>
    intro n
    cases hn : S n with
    | none => simp [truncOrder, hn]
    | some st =>
      obtain ⟨pp, cs⟩ := st
      rw [truncOrder_succ S fuel n pp cs hn, List.nodup_append]
      obtain ⟨d1, d2⟩ := sdesc_disjoint h hn
      have snd_desc : ∀ ci x, x ∈ (truncOrder S fuel ci).map Prod.snd → SDesc S ci x := by
        intro ci x hx
        obtain ⟨⟨p, c⟩, hm, e⟩ := List.mem_map.mp hx
        simp at e; subst e
        exact (truncOrder_sound fuel ci p c hm).1
      refine ⟨h.nodup n pp cs hn, ?_, ?_⟩
      · apply Ptn.nodup_flatMap (h.nodup n pp cs hn) (fun c _ => ih c)
        intro a ha b hb hne x hxa hxb
        exact d1 a b x ha hb hne (snd_desc a x hxa) (snd_desc b x hxb)
      · intro x hx y hy e
        subst e
        obtain ⟨ci, hci, hxi⟩ := List.mem_flatMap.mp hy
        exact d2 ci x hci hx (snd_desc ci x hxi)

/-- with enough fuel every strict descendant is visited: `anc` are the proper ancestors of `n` already on the
    call stack (distinct nodes), and the stack can never be longer than the node dictionary -/
theorem truncOrder_complete {t : TTN} (h : t.WF) {dp : Id → Nat}
    (hd : ∀ k p ch, t.S k = some (some p, ch) → dp p < dp k) :
    ∀ (fuel : Nat) (n : Id) (anc : List Id), t.N n ≠ none → (∀ x ∈ anc, t.N x ≠ none) → anc.Nodup →
      (∀ x ∈ anc, dp x < dp n) → t.nodes.length + 1 ≤ anc.length + fuel →
      ∀ c, SDesc t.S n c → c ∈ (truncOrder t.S fuel n).map Prod.snd := by
  have keys : ∀ x, t.N x ≠ none → x ∈ t.nodes.map Prod.fst := by
    intro x hx
    cases hg : dget t.nodes x with
    | none => exact absurd hg hx
    | some v => exact (dhas_eq_mem_keys t.nodes x).mp (dhas_of_dget hg)
  intro fuel
  induction fuel with
  | zero =>
    intro n anc hn hanc hnd hdp hlen c _
    exfalso
    have hnd' : (n :: anc).Nodup := List.nodup_cons.mpr ⟨fun hm => Nat.lt_irrefl _ (hdp n hm), hnd⟩
    have hsub : (n :: anc) ⊆ t.nodes.map Prod.fst := by
      intro x hx
      rcases List.mem_cons.mp hx with rfl | hx
      · exact keys _ hn
      · exact keys _ (hanc x hx)
    have := List.Nodup.length_le_of_subset hnd' hsub
    simp at this
    omega
  | succ fuel ih =>
    intro n anc hn hanc hnd hdp hlen c hc
    cases hSn : t.S n with
    | none => exact absurd (N_none_of_S hSn) hn
    | some st =>
      obtain ⟨pp, cs⟩ := st
      rw [truncOrder_succ t.S fuel n pp cs hSn, List.mem_append]
      rcases hc.inv hSn with hc | ⟨ci, hci, hdi⟩
      · exact Or.inl hc
      · right
        rw [List.mem_flatMap]
        refine ⟨ci, hci, ?_⟩
        obtain ⟨cch, eci⟩ := h.str.down n _ _ ci hSn hci
        have hlt := hd _ _ _ eci
        refine ih ci (n :: anc) ?_ ?_ ?_ ?_ ?_ c hdi
        · intro e; rw [S_none_of_N e] at eci; simp at eci
        · intro x hx
          rcases List.mem_cons.mp hx with rfl | hx
          · exact hn
          · exact hanc x hx
        · exact List.nodup_cons.mpr ⟨fun hm => Nat.lt_irrefl _ (hdp n hm), hnd⟩
        · intro x hx
          rcases List.mem_cons.mp hx with rfl | hx
          · exact hlt
          · exact Nat.lt_trans (hdp x hx) hlt
        · simp only [List.length_cons]; omega

end Ptn.C10
