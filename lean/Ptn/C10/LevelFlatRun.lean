import Ptn.C10.LevelRun
import Ptn.C10.LevelFlat
/-! Value level: the first loop of `truncate_node(n)` on the C02 simulation as a chain of insertion steps.

One round of the loop (`insert_identity(c, n)`, the identity replaced by `Π`, the split into the projector pair) is an
`InsStep` on the valued networks (`insStep_of_child`), a whole `Lr54LevelRun` with read-only prefixes an `InsChain`
(`level_insChain`); the flat forms are then `InsChain.flat`. -/
namespace Ptn.C10
open Ptn.C02 Ptn.C03 Ptn.Ein NodeS

variable {R : Type} [CommSemiring R]

theorem simRun_access_eq {dim : Nat → Nat} {e : Label → Nat} {t t0 : TTN} {g g0 : LegMap} {v v0 : VNet R}
    {pre : List TOp} (hr : SimRun dim e t g v pre t0 g0 v0) (hp : ∀ op ∈ pre, ∃ id, op = TOp.access id) :
    g0 = g ∧ v0 = v := by
  induction hr with
  | nil => exact ⟨rfl, rfl⟩
  | cons hadm hst _ ih =>
    obtain ⟨id, rfl⟩ := hp _ List.mem_cons_self
    cases hst
    exact ih (fun op hop => hp op (List.mem_cons_of_mem _ hop))

theorem insStep_of_child (dim : Nat → Nat) (e : Label → Nat) {t t1 t' : TTN} {g g1 g' : LegMap}
    {v v1 v' : VNet R} {n c : Id} {ids : TTN.TempIds} {k : Nat} {Pi : Asg Nat → R}
    (h : t.WF) (hl : t.LWF) (hv : v.WF) (hs : RSim dim e g t v)
    (hr1 : SimRun dim e t g v [.ident c n (ids.ident c)] t1 g1 v1)
    (hPi : DependsOn (· ∈ v1.legs (ids.ident c)) Pi)
    (hr2 : SimRun dim e t1 g1 (setTens v1 (ids.ident c) Pi) [lr54Split n c ids k] t' g' v') :
    ∃ p, p ∈ v.bonds ∧ (p = (g c n, g n c) ∨ p = (g n c, g c n)) ∧
      ((p.1 ∈ v.legs c ∧ p.2 ∈ v.legs n) ∨ (p.1 ∈ v.legs n ∧ p.2 ∈ v.legs c)) ∧
      (∀ k ∈ v.ids, k ∈ v'.ids ∧ ∀ l ∈ v'.legs k, l ∈ v.legs k) ∧
      ∀ N0, p.1 < N0 → p.2 < N0 → InsStep dim N0 v (lf62Ins v p Pi) v' := by
  obtain ⟨_, w2, l2, vw2, s2, vw1, _, _, _, _⟩ := truncate_node_value dim e h hl hv hs hr1 hPi hr2
  obtain ⟨_, _, w1, l1, _, s1, _, _⟩ := structural_history_preserves_value dim e h hl hv hs hr1
  have vwP := setTens_wf vw1 hPi
  have sP := s1.setTens (ids.ident c) Pi
  cases hr1 with
  | cons hnone hst hr =>
  cases hr
  cases hst with
  | @ident _ _ _ _ _ _ p hstep hp hpab hdim =>
  obtain ⟨⟨hi, hdimp⟩, hperm, _⟩ := ident_sim_core dim e h hl hv hs hnone hstep hp hpab hdim
  cases hr2 with
  | cons hadm hst hr =>
  cases hr
  cases hst with
  | split F hstep2 hdim2 =>
  obtain ⟨X, hX⟩ := hadm
  obtain ⟨⟨hid, hoi, hout, hinn, _⟩, hperm2, _⟩ := split_sim_core dim e w1 vwP sP hX hstep2 hdim2 F
  have hne : ∀ {j}, j ∈ v.ids → j ≠ ids.ident c := fun hj e => hi (e ▸ hj)
  have hrest : ∀ {j}, j ∈ v.ids → j ∈ (setTens (identStep v p (ids.ident c)) (ids.ident c) Pi).ids.erase (ids.ident c) :=
    fun hj => by show _ ∈ (ids.ident c :: v.ids).erase _; rwa [List.erase_cons_head]
  have hends : (p.1 ∈ v.legs c ∧ p.2 ∈ v.legs n) ∨ (p.1 ∈ v.legs n ∧ p.2 ∈ v.legs c) := by
    obtain ⟨ax, hax, _⟩ := ident_labels h hnone hstep
    have hn : n ∈ t.nbs c := mem_nbs.2 ⟨ax, hax⟩
    rcases hpab with rfl | rfl
    · exact Or.inl ⟨hs.g_mem hn, hs.g_mem (nbs_symm h hn)⟩
    · exact Or.inr ⟨hs.g_mem (nbs_symm h hn), hs.g_mem hn⟩
  refine ⟨p, hp, hpab, hends, ?_, fun N0 o1 o2 => ⟨vw2, hp, ⟨o1, o2⟩, rfl, rfl, hdimp, hPi.mono ?_, rfl, ?_,
    F.O, F.I, ?_, ?_⟩⟩
  · intro j hj
    have hmem : j ∈ (splitStep dim _ (ids.ident c) (ids.star c) (ids.proj c) _ _ F).ids :=
      List.mem_cons_of_mem _ (List.mem_cons_of_mem _ (hrest hj))
    refine ⟨hmem, fun l hl' => ?_⟩
    have h2 := (hperm2 j hmem).mem_iff.1 hl'
    rw [splitStep_legs_ne (rest1_ne vwP hout (hrest hj)) (rest1_ne vwP hinn (hrest hj))] at h2
    have h1 := (hperm j (List.mem_cons_of_mem _ hj)).mem_iff.1 h2
    rwa [identStep_legs_ne (hne hj)] at h1
  · intro l hl'
    have := (hperm (ids.ident c) List.mem_cons_self).mem_iff.1 hl'
    rw [identStep_legs_new] at this
    simpa [lf62Ins] using this
  · show (v.bonds.erase p ++ [(p.1, v.next)] ++ [(v.next + 1, p.2)]) ++ [(v.next + 2, v.next + 2 + 1)] = _
    simp only [lf62Ins, Ins.plain, Ins.cut, List.append_assoc, List.cons_append, List.nil_append]
  · intro τ
    exact (congrFun (if_pos rfl : (setTens _ (ids.ident c) Pi).tens (ids.ident c) = Pi) τ).symm.trans (F.exact τ)
  · show List.map (splitStep dim _ (ids.ident c) (ids.star c) (ids.proj c) _ _ F).tens
      (ids.star c :: ids.proj c :: (ids.ident c :: v.ids).erase (ids.ident c)) = _
    rw [List.erase_cons_head, List.map_cons, List.map_cons, splitStep_tens_out, splitStep_tens_inn hoi]
    congr 2
    apply List.map_congr_left
    intro j hj
    rw [splitStep_tens_ne (rest1_ne vwP hout (hrest hj)) (rest1_ne vwP hinn (hrest hj))]
    exact (if_neg (hne hj)).trans (identStep_tens_ne (p := p) (hne hj))

/-- A level run is a chain of insertion steps.  `K`, `N0`: nodes of the network the level started from, with all their labels
below `N0`.  Every round cuts a bond of THAT network: the leg lists of its nodes are invariant as sets (`insStep_of_child`), so
the ends of the bond of a round, legs of `c` and `n`, are below `N0`. -/
theorem level_insChain (dim : Nat → Nat) (e : Label → Nat) {n : Id} {ids : TTN.TempIds} {kdim : Id → Nat}
    {pre : List TOp} {t t' : TTN} {g g' : LegMap} {v v' : VNet R} {es : List (Lr54Entry R)}
    (hacc : ∀ op ∈ pre, ∃ id, op = TOp.access id)
    (h : t.WF) (hl : t.LWF) (hv : v.WF) (hs : RSim dim e g t v)
    (hr : Lr54LevelRun dim e n ids kdim pre t g v es t' g' v') {K : List Nat} {N0 : Nat}
    (hK : ∀ k ∈ K, k ∈ v.ids ∧ ∀ l ∈ v.legs k, l < N0) (hn : n ∈ K) (hcK : ∀ x ∈ es, x.c ∈ K) :
    ∃ ins : List (Ins Nat R), ins.map Ins.Pm = es.map (·.Pi) ∧ ins.map Ins.a' = es.map (·.a) ∧
      InsChain dim N0 v ins v' := by
  induction hr with
  | nil t g v => exact ⟨[], rfl, rfl, .nil _⟩
  | @cons t t0 t1 t2 t' g g0 g1 g2 g' v v0 v1 v2 v' c Pi rest hpre hid hdep hsp _ ih =>
    obtain ⟨hg0, hv0⟩ := simRun_access_eq hpre hacc
    subst hg0
    subst hv0
    obtain ⟨_, _, w0, l0, vw0, s0, _, _⟩ := structural_history_preserves_value dim e h hl hv hs hpre
    obtain ⟨_, w2, l2, vw2, s2, _⟩ := truncate_node_value dim e w0 l0 vw0 s0 hid hdep hsp
    obtain ⟨p, _, _, hends, hsub, hstep⟩ := insStep_of_child dim e w0 l0 vw0 s0 hid hdep hsp
    have hc : c ∈ K := hcK _ List.mem_cons_self
    obtain ⟨ins, e1, e2, hch⟩ := ih w2 l2 vw2 s2
      (fun k hk => ⟨(hsub k (hK k hk).1).1, fun l hl' => (hK k hk).2 l ((hsub k (hK k hk).1).2 l hl')⟩)
      (fun x hx => hcK x (List.mem_cons_of_mem _ hx))
    have hold : p.1 < N0 ∧ p.2 < N0 := by
      rcases hends with ⟨m1, m2⟩ | ⟨m1, m2⟩
      · exact ⟨(hK c hc).2 _ m1, (hK n hn).2 _ m2⟩
      · exact ⟨(hK n hn).2 _ m1, (hK c hc).2 _ m2⟩
    exact ⟨lf62Ins v0 p Pi :: ins, by simp [lf62Ins, e1], by simp [lf62Ins, e2], .cons (hstep N0 hold.1 hold.2) hch⟩

/-- **One child, flat form.**  The value after the simulated projector insertion on the bond between `c` and `n` is the
value of the original network with that bond cut and the leaf `Π` inserted (`Ins.cut`, `Ins.Pm`). -/
theorem truncate_node_child_flat_value (dim : Nat → Nat) (e : Label → Nat) {t t1 t' : TTN} {g g1 g' : LegMap}
    {v v1 v' : VNet R} {n c : Id} {ids : TTN.TempIds} {k : Nat} {Pi : Asg Nat → R}
    (h : t.WF) (hl : t.LWF) (hv : v.WF) (hs : RSim dim e g t v)
    (hr1 : SimRun dim e t g v [.ident c n (ids.ident c)] t1 g1 v1)
    (hPi : DependsOn (· ∈ v1.legs (ids.ident c)) Pi)
    (hr2 : SimRun dim e t1 g1 (setTens v1 (ids.ident c) Pi) [lr54Split n c ids k] t' g' v') :
    ∃ p, p ∈ v.bonds ∧ (p = (g c n, g n c) ∨ p = (g n c, g c n)) ∧
      ∀ σ, v'.value dim σ =
        netValue dim (v.bonds.erase p ++ (lf62Ins v p Pi).cut) ((lf62Ins v p Pi).Pm :: v.ids.map v.tens) σ := by
  obtain ⟨p, hp, hpab, _, _, hstep⟩ := insStep_of_child dim e h hl hv hs hr1 hPi hr2
  have hlt := hv.bond_lt
  have h1 : p.1 < v.next := hlt _ (by simp only [Expr.pairLegs, List.mem_append, List.mem_map]; exact Or.inl ⟨p, hp, rfl⟩)
  have h2 : p.2 < v.next := hlt _ (by simp only [Expr.pairLegs, List.mem_append, List.mem_map]; exact Or.inr ⟨p, hp, rfl⟩)
  exact ⟨p, hp, hpab, ((InsChain.cons (hstep _ h1 h2) (.nil _)).flat hv (Nat.le_refl _)).value⟩

end Ptn.C10
