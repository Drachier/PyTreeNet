import Ptn.C10.LevelFlatRun
import Ptn.C10.RecExists
/-! Value level: the premise `(allLegs bs all).Nodup` of `recursive_truncation_value_telescope` for the
insertion records of one level of `truncate_node` (`lr73_allLegs_nodup`), the telescope instantiated on the record of one
level (`flat_record_error`, `InsChain.error`, `level_run_error`), and the error chain of a recursion run (`Lr73ErrChain`,
`recRun_error_chain`).  (`lr73`/`Lr73` in the names is a label without meaning.) -/
namespace Ptn.C10
open Ptn.C02 Ptn.C03 Ptn.Ein NodeS

section nodup
variable {R : Type}

def Ins.fresh (i : Ins Nat R) : List Nat := [i.a', i.b']

theorem insLegs_perm : ∀ all : List (Ins Nat R),
    (all.flatMap Ins.legs).Perm (Expr.pairLegs (all.map Ins.plain) ++ all.flatMap Ins.fresh)
  | [] => by simp [Expr.pairLegs]
  | i :: r => by
    have ih := insLegs_perm r
    simp only [List.flatMap_cons, List.map_cons, Ins.legs, Ins.plain, Ins.fresh, List.cons_append,
      List.nil_append]
    have h1 : (Expr.pairLegs (r.map Ins.plain) ++ i.a' :: i.b' :: r.flatMap Ins.fresh).Perm
        (i.a' :: i.b' :: (Expr.pairLegs (r.map Ins.plain) ++ r.flatMap Ins.fresh)) :=
      List.perm_middle.trans (List.Perm.cons _ List.perm_middle)
    have h2 : (Expr.pairLegs ((i.a, i.b) :: r.map Ins.plain) ++ i.a' :: i.b' :: r.flatMap Ins.fresh).Perm
        (i.a :: i.b :: (Expr.pairLegs (r.map Ins.plain) ++ i.a' :: i.b' :: r.flatMap Ins.fresh)) :=
      List.Perm.append_right _ (pairLegs_cons_perm (i.a, i.b) _)
    refine List.Perm.trans ?_ h2.symm
    refine List.Perm.cons _ ?_
    refine List.Perm.trans ?_ (List.Perm.cons _ (h1.trans ((ih.symm.cons _).cons _)).symm)
    exact (List.Perm.swap _ _ _).trans ((List.Perm.cons _ (List.Perm.swap _ _ _)).trans (List.Perm.swap _ _ _))

/-- **the `Nodup` premise of the telescope** from: no leg bound twice in the network before the run, every bound leg below the
counter `N`, the fresh legs `a'`, `b' = a' + 1` at or above `N` and `a'` growing by at least 4 -/
theorem lr73_allLegs_nodup (N : Nat) (bs : List (Nat × Nat)) (all : List (Ins Nat R))
    (hnd : (Expr.pairLegs (bs ++ all.map Ins.plain)).Nodup)
    (hlt : ∀ l ∈ Expr.pairLegs (bs ++ all.map Ins.plain), l < N)
    (hb : ∀ i ∈ all, i.b' = i.a' + 1) (hge : ∀ i ∈ all, N ≤ i.a')
    (hmono : all.Pairwise (fun x y => x.a' + 4 ≤ y.a')) : (allLegs bs all).Nodup := by
  have hp : (allLegs bs all).Perm (Expr.pairLegs (bs ++ all.map Ins.plain) ++ all.flatMap Ins.fresh) := by
    unfold allLegs
    refine (List.Perm.append_left _ (insLegs_perm all)).trans ?_
    rw [← List.append_assoc]
    exact List.Perm.append_right _ (Expr.pairLegs_append _ _).symm
  rw [hp.nodup_iff, List.nodup_append]
  refine ⟨hnd, ?_, ?_⟩
  · clear hp hnd hlt
    induction all with
    | nil => simp
    | cons i r ih =>
      have hm := List.pairwise_cons.1 hmono
      simp only [List.flatMap_cons, Ins.fresh, List.cons_append, List.nil_append, List.nodup_cons,
        List.mem_cons, not_or]
      have hbi := hb i (by simp)
      have hnot : ∀ l, l ∈ r.flatMap Ins.fresh → i.a' + 4 ≤ l := by
        intro l hl
        obtain ⟨j, hj, hlj⟩ := List.mem_flatMap.1 hl
        have h1 := hm.1 j hj
        have h2 := hb j (by simp [hj])
        simp [Ins.fresh] at hlj
        rcases hlj with rfl | rfl <;> omega
      refine ⟨⟨by omega, fun h => ?_⟩, fun h => ?_,
        ih (fun j hj => hb j (by simp [hj])) (fun j hj => hge j (by simp [hj])) hm.2⟩
      · have := hnot _ h; omega
      · have := hnot _ h; omega
  · intro l hl m hm
    have h0 := hlt l hl
    obtain ⟨j, hj, hmj⟩ := List.mem_flatMap.1 hm
    have h1 := hge j hj
    have h2 := hb j hj
    simp [Ins.fresh] at hmj
    rcases hmj with rfl | rfl <;> omega

end nodup

section ring
variable {R : Type} [CommRing R]

/-- **the telescope on the record of one level**: for a well-formed network `v` and insertion records `all` with the
properties `truncate_node_level_flat_value` proves (fresh legs `a' ≥ v.next`, `b' = a' + 1`, `a'` growing by `≥ 4`, `Π_c`
reading only its two legs, the cut bonds being bonds of `v`), and the dimension contract `dim b' = dim a` of the identity
insertion, plain record − flat record = `teleSum`. -/
theorem flat_record_error (dim : Nat → Nat) (v : VNet R) (hv : v.WF) (all : List (Ins Nat R))
    (hb : ∀ i ∈ all, i.b' = i.a' + 1)
    (hPm : ∀ i ∈ all, DependsOn (fun l => l = i.a' ∨ l = i.b') i.Pm)
    (hge : ∀ i ∈ all, v.next ≤ i.a') (hmono : all.Pairwise (fun x y => x.a' + 4 ≤ y.a'))
    (hperm : v.bonds.Perm (lf62Erase v.bonds all ++ all.map Ins.plain))
    (hdim : ∀ i ∈ all, dim i.b' = dim i.a) (σ : Asg Nat) :
    netValue dim (lf62Erase v.bonds all ++ all.map Ins.plain) (v.ids.map v.tens) σ
        - netValue dim (lf62Erase v.bonds all ++ all.flatMap Ins.cut) (all.map Ins.Pm ++ v.ids.map v.tens) σ =
      teleSum dim (lf62Erase v.bonds all) (v.ids.map v.tens) [] all σ := by
  have hlt : ∀ l ∈ Expr.pairLegs (lf62Erase v.bonds all ++ all.map Ins.plain), l < v.next :=
    fun l hl => hv.bond_lt l ((pairLegs_perm hperm).mem_iff.2 hl)
  refine recursive_truncation_value_telescope dim _ _ all (S := fun l => l < v.next) ?_ ?_ hPm
    (lr73_allLegs_nodup v.next _ all ((pairLegs_perm hperm).nodup_iff.1 hv.bonds_nodup) hlt hb hge hmono) hdim σ
  · intro f hf
    obtain ⟨k, hk, rfl⟩ := List.mem_map.1 hf
    apply (hv.reads k hk).mono
    intro l hl
    exact hv.fresh k hk l hl
  · intro i hi
    have h1 := hge i hi
    have h2 := hb i hi
    show ¬ (i.a' < v.next) ∧ ¬ (i.b' < v.next)
    constructor <;> omega

theorem InsChain.error {dim : Nat → Nat} {v v' : VNet R} {all : List (Ins Nat R)}
    (hc : InsChain dim v.next v all v') (hv : v.WF) (σ : Asg Nat) :
    v.value dim σ - v'.value dim σ = teleSum dim (lf62Erase v.bonds all) (v.ids.map v.tens) [] all σ := by
  have r := hc.flat hv (Nat.le_refl _)
  have hperm := r.cuts.perm
  rw [r.value σ, show v.value dim σ = _ from netValue_perm_bonds dim hperm hv.bonds_nodup _ σ]
  exact flat_record_error dim v hv all r.succ r.reads r.fresh r.apart hperm r.dimb σ

theorem level_run_error (dim : Nat → Nat) (e : Label → Nat) {n : Id} {ids : TTN.TempIds}
    {kdim : Id → Nat} {pre : List TOp} {t t' : TTN} {g g' : LegMap} {v v' : VNet R} {es : List (Lr54Entry R)}
    (hacc : ∀ op ∈ pre, ∃ id, op = TOp.access id)
    (h : t.WF) (hl : t.LWF) (hv : v.WF) (hs : RSim dim e g t v)
    (hr : Lr54LevelRun dim e n ids kdim pre t g v es t' g' v')
    (hn : n ∈ v.ids) (hc : ∀ x ∈ es, x.c ∈ v.ids) :
    ∃ all : List (Ins Nat R), all.map Ins.Pm = es.map (·.Pi) ∧ all.map Ins.a' = es.map (·.a) ∧
      (∀ i ∈ all, i.b' = i.a' + 1) ∧ (∀ i ∈ all, i.plain ∈ v.bonds) ∧ (∀ i ∈ all, dim i.b' = dim i.a) ∧
      ∀ σ, v.value dim σ - v'.value dim σ =
        teleSum dim (lf62Erase v.bonds all) (v.ids.map v.tens) [] all σ := by
  obtain ⟨all, e1, e2, hch⟩ := level_insChain dim e hacc h hl hv hs hr (K := v.ids) (N0 := v.next)
    (fun k hk => ⟨hk, hv.fresh k hk⟩) hn hc
  have r := hch.flat hv (Nat.le_refl _)
  exact ⟨all, e1, e2, r.succ, r.cuts.mem, r.dimb, hch.error hv⟩

/-- the error chain of a recursion run: per node step the `teleSum` of its insertion records (on the network BEFORE that
step); the last index is the accumulated total -/
inductive Lr73ErrChain (dim : Nat → Nat) : VNet R → List (Id × Id) → VNet R → (Asg Nat → R) → Prop
  | nil {v v' : VNet R} : (∀ σ, v'.value dim σ = v.value dim σ) → Lr73ErrChain dim v [] v' (fun _ => 0)
  | step {v v2 v' : VNet R} {rest : List (Id × Id)} {E : Asg Nat → R} (all : List (Ins Nat R)) (cs : List Id) (n : Id) :
      all.length = cs.length → (∀ i ∈ all, i.b' = i.a' + 1) → (∀ i ∈ all, i.plain ∈ v.bonds) →
      (∀ i ∈ all, dim i.b' = dim i.a) →
      (∀ σ, v.value dim σ - v2.value dim σ =
        teleSum dim (lf62Erase v.bonds all) (v.ids.map v.tens) [] all σ) →
      Lr73ErrChain dim v2 rest v' E →
      Lr73ErrChain dim v (cs.map (fun c => (n, c)) ++ rest) v'
        (fun σ => teleSum dim (lf62Erase v.bonds all) (v.ids.map v.tens) [] all σ + E σ)

theorem Lr73ErrChain.total {dim : Nat → Nat} {v v' : VNet R} {l : List (Id × Id)} {E : Asg Nat → R}
    (hc : Lr73ErrChain dim v l v' E) : ∀ σ, v.value dim σ - v'.value dim σ = E σ := by
  induction hc with
  | nil h => intro σ; rw [h σ]; simp
  | step all cs n _ _ _ _ hstep _ ih =>
    intro σ
    show _ = _ + _
    rw [← hstep σ, ← ih σ]
    ring

theorem recRun_error_chain (dim : Nat → Nat) (e : Label → Nat) {ids : TTN.TempIds}
    {kdim : Id → Nat} {t t' : TTN} {g g' : LegMap} {v v' : VNet R} {l : List (Id × Id)}
    (h : t.WF) (hl : t.LWF) (hv : v.WF) (hs : RSim dim e g t v)
    (hr : Lr66RecRun dim e ids kdim t g v l t' g' v') : ∃ E, Lr73ErrChain dim v l v' E := by
  induction hr with
  | nil t g v => exact ⟨_, .nil (fun _ => rfl)⟩
  | @step t t1 t2 t' g g1 g2 g' v v1 v2 v' n node es rest hN hes hlev htail _ ih =>
    obtain ⟨w1, l1, vw1, s1, _, _⟩ := levelRun_sound dim e h hl hv hs hlev
    obtain ⟨_, _, w2, l2, vw2, s2, _, valT⟩ := structural_history_preserves_value dim e w1 l1 vw1 s1 htail
    obtain ⟨hn, hc⟩ := level_nodes_mem h hs hN hes
    obtain ⟨all, a1, _, a3, a7, a8, herr⟩ := level_run_error dim e
      (by intro op hop; simp at hop; exact ⟨n, hop⟩) h hl hv hs hlev hn hc
    obtain ⟨E, hE⟩ := ih w2 l2 vw2 s2
    refine ⟨_, .step all node.children n ?_ a3 a7 a8 (fun σ => by rw [valT σ]; exact herr σ) hE⟩
    have e1 := congrArg List.length a1
    have e2 := congrArg List.length hes
    simp only [List.length_map] at e1 e2
    omega

end ring

end Ptn.C10
