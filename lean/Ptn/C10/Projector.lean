import Mathlib.LinearAlgebra.Matrix.Trace
import Mathlib.LinearAlgebra.Matrix.ConjTranspose
import Mathlib.Data.Matrix.Diagonal
import Mathlib.Analysis.Complex.Basic
import Mathlib.Analysis.InnerProductSpace.PiL2
/-! One projector insertion of `recursive_truncation`, abstractly: the SVD of the matricised centre tensor is GIVEN
(hypotheses, contract of `numpy.linalg.svd`); the projector returned by `get_truncation_projector` is `P = U₁`, and
inserting `P.conj()` / `P.T` on the bond replaces `M` by `P Pᴴ M`. -/
namespace Ptn.C10

open Matrix

set_option linter.unusedSectionVars false

variable {m n κ δ N : Type*} [Fintype m] [Fintype n] [Fintype κ] [Fintype δ] [Fintype N]
  [DecidableEq m] [DecidableEq n] [DecidableEq κ] [DecidableEq δ]

def vec (X : Matrix m n ℂ) : m × n → ℂ := fun p => X p.1 p.2

theorem vec_sub (X Y : Matrix m n ℂ) : vec (X - Y) = vec X - vec Y := by
  funext p; simp [vec]

theorem vec_norm_sq (X : Matrix m n ℂ) : star (vec X) ⬝ᵥ vec X = (Xᴴ * X).trace := by
  simp only [dotProduct, vec, Pi.star_apply, Fintype.sum_prod_type, Matrix.trace, Matrix.diag,
    Matrix.mul_apply, Matrix.conjTranspose_apply]
  rw [Finset.sum_comm]

def cdiag {ι : Type*} [DecidableEq ι] (s : ι → ℝ) : Matrix ι ι ℂ := diagonal fun i => (s i : ℂ)

theorem cdiag_conjTranspose (s : δ → ℝ) : (cdiag s)ᴴ = cdiag s := by
  unfold cdiag
  rw [diagonal_conjTranspose]
  congr 1
  funext i
  simp

/-- For the SVD: `X = diag(s₁) W₁`, `Y = diag(s₂) W₂`, the discarded part. -/
theorem proj_residual (U₁ : Matrix m κ ℂ) (U₂ : Matrix m δ ℂ) (h11 : U₁ᴴ * U₁ = 1) (h12 : U₁ᴴ * U₂ = 0)
    (X : Matrix κ n ℂ) (Y : Matrix δ n ℂ) :
    U₁ * X + U₂ * Y - U₁ * U₁ᴴ * (U₁ * X + U₂ * Y) = U₂ * Y := by
  rw [Matrix.mul_add, Matrix.mul_assoc U₁ U₁ᴴ, ← Matrix.mul_assoc U₁ᴴ, h11, Matrix.one_mul,
    Matrix.mul_assoc U₁ U₁ᴴ, ← Matrix.mul_assoc U₁ᴴ, h12, Matrix.zero_mul, Matrix.mul_zero, add_zero,
    add_sub_cancel_left]

theorem residual_norm_sq (U₂ : Matrix m δ ℂ) (s₂ : δ → ℝ) (W₂ : Matrix δ n ℂ)
    (h22 : U₂ᴴ * U₂ = 1) (hW : W₂ * W₂ᴴ = 1) :
    ((U₂ * cdiag s₂ * W₂)ᴴ * (U₂ * cdiag s₂ * W₂)).trace = ((∑ i, (s₂ i) ^ 2 : ℝ) : ℂ) := by
  -- cyclicity of the trace brings `W₂ W₂ᴴ`, then `U₂ᴴ U₂`, together
  rw [conjTranspose_mul, conjTranspose_mul, cdiag_conjTranspose, Matrix.trace_mul_comm,
    Matrix.mul_assoc _ W₂, ← Matrix.mul_assoc W₂, hW, Matrix.one_mul, Matrix.trace_mul_comm,
    Matrix.mul_assoc _ U₂ᴴ, ← Matrix.mul_assoc U₂ᴴ, h22, Matrix.one_mul]
  unfold cdiag
  rw [diagonal_mul_diagonal, trace_diagonal]
  push_cast
  exact Finset.sum_congr rfl fun i _ => (sq _).symm

open Finset

/-- the Euclidean norm of a complex vector (not Mathlib's extended norm of the same name) -/
noncomputable def enorm {ι : Type*} [Fintype ι] (v : ι → ℂ) : ℝ :=
  ‖(WithLp.toLp 2 v : EuclideanSpace ℂ ι)‖

theorem enorm_sq {ι : Type*} [Fintype ι] (v : ι → ℂ) : (enorm v) ^ 2 = (star v ⬝ᵥ v).re := by
  unfold enorm
  rw [EuclideanSpace.norm_eq, Real.sq_sqrt (Finset.sum_nonneg (fun i _ => sq_nonneg _))]
  simp only [dotProduct, Pi.star_apply, Complex.re_sum]
  apply Finset.sum_congr rfl
  intro i _
  rw [Complex.star_def, Complex.conj_mul']
  norm_cast

theorem enorm_sub {ι : Type*} [Fintype ι] (v w : ι → ℂ) :
    enorm (v - w) = ‖(WithLp.toLp 2 v : EuclideanSpace ℂ ι) - WithLp.toLp 2 w‖ := by
  unfold enorm; rfl

theorem enorm_eq_sqrt {ι : Type*} [Fintype ι] (v : ι → ℂ) (c : ℝ) (h : star v ⬝ᵥ v = (c : ℂ)) :
    enorm v = Real.sqrt c := by
  rw [← Complex.ofReal_re c, ← h, ← enorm_sq, Real.sqrt_sq (show 0 ≤ enorm v from norm_nonneg _)]

theorem sqrt_sum_sq_le_sum (x : ℕ → ℝ) (hx : ∀ i, 0 ≤ x i) (n : ℕ) :
    Real.sqrt (∑ i ∈ range n, x i ^ 2) ≤ ∑ i ∈ range n, x i :=
  (Real.sqrt_le_sqrt (sum_sq_le_sq_sum_of_nonneg fun i _ => hx i)).trans_eq
    (Real.sqrt_sq (sum_nonneg fun i _ => hx i))

end Ptn.C10
