import Ptn.C10.Lemmas
import Ptn.C10.Tree
import Ptn.C02.TruncLegs
/-! The kept bond dimension as the selection model produces it (`truncate`, `Model.lean`), and the tree-level clause
"`recursive_truncation` leaves every bond within the maximum" on the structural model of C02.  Which axis every bond carries
afterwards: the recursion of `Ptn.C10.truncate_node_legs` (`../C02/TruncLegs.lean`) started at the root reaches every node
that has a parent (`sdesc_root`), so the bond above every non-root node `c` has the kept dimension `kdim c`
(`recursive_truncation_parent_legs`, `recursive_truncation_bond_axes`); hence that its dimension is within the maximum.
The instances on the chain-with-a-branch are in `Props.lean`. -/
namespace Ptn.C10

/-- the new bond dimension: the number of singular values `truncate_singular_values` keeps -/
def keptDim (s : List Rat) (p : Params) : Nat :=
  match truncate s p with
  | some (kept, _) => kept.length
  | none => 0

theorem keptDim_eq (s : List Rat) (p : Params) (hs : s ≠ []) (hnn : NonNeg s) (hd : Desc s) (hp : p.Valid) :
    keptDim s p = keptLen s p hs := by
  unfold keptDim
  rw [truncate_eq s p hs hnn hd hp]
  exact keptOf_length s _ _ (keptLen_bounds s p hs hp).2.1

theorem keptDim_bounds (s : List Rat) (p : Params) (hs : s ≠ []) (hnn : NonNeg s) (hd : Desc s)
    (hp : p.Valid) :
    1 ≤ keptDim s p ∧ keptDim s p ≤ s.length ∧ ∀ D, p.maxBond = some D → keptDim s p ≤ D := by
  rw [keptDim_eq s p hs hnn hd hp]
  exact keptLen_bounds s p hs hp

section bond_dims
open Ptn.C02

theorem SDesc.snoc {S : Id → Option Struct} {n p k : Id} {pp : Option Id} {pch : List Id}
    (h : SDesc S n p) (hS : S p = some (pp, pch)) (hk : k ∈ pch) : SDesc S n k := by
  induction h with
  | child h1 h2 => exact SDesc.step h1 h2 (SDesc.child hS hk)
  | step h1 h2 _ ih => exact SDesc.step h1 h2 (ih hS)

theorem sdesc_root {S : Id → Option Struct} {Tk : Id → Bool} {root : Option Id} (h : SWF S Tk root) {r : Id}
    (hr : root = some r) : ∀ k p ch, S k = some (some p, ch) → SDesc S r k := by
  obtain ⟨dp, hd⟩ := h.depth
  have main : ∀ m k p ch, dp k = m → S k = some (some p, ch) → SDesc S r k := by
    intro m
    induction m using Nat.strongRecOn with
    | _ m ih =>
      intro k p ch hm hS
      obtain ⟨pp, pch, hp, hk⟩ := h.up k p ch hS
      cases pp with
      | none =>
        have := h.root_uniq p pch hp
        rw [hr] at this; simp at this; subst this
        exact SDesc.child hp hk
      | some g =>
        have hlt := hd k p ch hS
        exact (ih (dp p) (by omega) p g pch rfl hp).snoc hp hk
  intro k p ch hS
  exact main (dp k) k p ch rfl hS

/-- **`recursive_truncation`: the parent leg of every non-root node has its kept dimension.** -/
theorem recursive_truncation_parent_legs {t t' : TTN} {kdim : Id → Nat} (h : t.WF) (hl : t.LWF)
    (hs : t.recursiveTruncation kdim = some t') :
    t'.WF ∧ t'.LWF ∧ t'.root = t.root ∧ t'.S = t.S ∧ (∀ k, t'.openAxes k = t.openAxes k) ∧
    ∀ c p cch, t.S c = some (some p, cch) → ∃ ax, t'.Leg c p ax ∧ ax.dim = kdim c := by
  obtain ⟨r, hr, hs⟩ := recursiveTruncation_some hs
  obtain ⟨w, R, S, G, _⟩ := truncate_node_legs (P := True) (O := t.openAxes) _ t t' r
    ⟨h, fun _ => hl, fun _ _ => rfl⟩ (fun _ k hk => openAxes_none (N_none_of_S hk)) (arithIds_ok t) hs
  refine ⟨w.wf, w.lwf trivial, by rw [R, hr], S, w.op trivial, ?_⟩
  intro c p cch hS
  exact G c p cch hS (sdesc_root h.str hr c p cch hS)

/-- **Every bond within `max_bond_dim`, partial.**  `spec c` is the spectrum `truncate_singular_values` is given
    for the bond above the child `c` (any non-empty, non-negative, descending list), `p` any valid parameter
    object with `max_bond_dim = D`; the kept dimensions fed into the structural model of `recursive_truncation`
    (`Ptn.C02.TTN.recursiveTruncation`) are the ones the selection model `truncate` produces, `keptDim (spec c) p`.
    PROVED: every kept dimension is between 1 and `D` (and at most the length of its spectrum); the structural
    conclusions of `recursive_truncation_core_structure`; and, GIVEN `hbond`, every virtual leg of every node of the
    result has dimension `≤ D`.
    `_partial`: `hbond` - every bond axis of the result carries one of the kept dimensions - is a hypothesis here;
    `recursive_truncation_bond_axes` proves it and `recursive_truncation_bonds_le` is the statement without it.
    (`t'.legPairs k = []` for every `k` that is not a node, so the quantification over the node list loses nothing.) -/
theorem recursive_truncation_bonds_le_partial {t t' : TTN} (spec : Id → List Rat) (p : Params) (D : Nat)
    (hp : p.Valid) (hD : p.maxBond = some D)
    (hspec : ∀ c, spec c ≠ [] ∧ NonNeg (spec c) ∧ Desc (spec c))
    (h : t.WF) (hl : t.LWF)
    (hs : t.recursiveTruncation (fun c => keptDim (spec c) p) = some t')
    (hbond : ∀ e ∈ t'.nodes, ∀ q ∈ t'.legPairs e.1, ∃ c', q.2.dim = keptDim (spec c') p) :
    (∀ c, 1 ≤ keptDim (spec c) p ∧ keptDim (spec c) p ≤ D ∧ keptDim (spec c) p ≤ (spec c).length) ∧
    (t'.WF ∧ t'.LWF ∧ t'.root = t.root ∧ (∀ k, t'.N k = none ↔ t.N k = none) ∧
      (∀ k, t'.openAxes k = t.openAxes k)) ∧
    (∀ e ∈ t'.nodes, ∀ q ∈ t'.legPairs e.1, q.2.dim ≤ D) := by
  have hk : ∀ c, 1 ≤ keptDim (spec c) p ∧ keptDim (spec c) p ≤ D ∧ keptDim (spec c) p ≤ (spec c).length := by
    intro c
    obtain ⟨hs, hnn, hd⟩ := hspec c
    obtain ⟨h1, h2, h3⟩ := keptDim_bounds (spec c) p hs hnn hd hp
    exact ⟨h1, h3 D hD, h2⟩
  obtain ⟨w, l, R, N, _, o⟩ := recursive_truncation_core_structure h hl hs
  refine ⟨hk, ⟨w, l, R, N, o⟩, ?_⟩
  intro e he q hq
  obtain ⟨c', hc'⟩ := hbond e he q hq
  rw [hc']
  exact (hk c').2.1

/-- **Which axis every bond carries after `recursive_truncation`** (structural model, between the two
    canonicalisations; every well-formed, label-consistent tree, every choice `kdim` of kept dimensions).  Every
    virtual leg `(k → x, ax)` of the result belongs to a node `k` of the original tree and is either the leg towards
    the parent of `k`, with dimension `kdim k`, or the leg towards a child `x` of `k`, with dimension `kdim x`: the
    bond above every non-root node `c` has - at both ends - exactly the dimension chosen for `c`, the kept dimension
    of the projector pair inserted on it (the hypothesis `hbond` of `recursive_truncation_bonds_le_partial`).  Proof: the
    fresh `splitNodes` axis is followed through `insertProjectors`, `contractAllChildren` and the last loop of
    `truncate_node` (`../C02/TruncLegs.lean`, `recursive_truncation_parent_legs` above). -/
theorem recursive_truncation_bond_axes {t t' : TTN} {kdim : Id → Nat} (h : t.WF) (hl : t.LWF)
    (hs : t.recursiveTruncation kdim = some t') :
    ∀ k x ax, t'.Leg k x ax → ∃ m, t.N k = some m ∧
      ((m.parent = some x ∧ ax.dim = kdim k) ∨ (x ∈ m.children ∧ ax.dim = kdim x)) := by
  obtain ⟨w', l', _, S', _, G⟩ := recursive_truncation_parent_legs h hl hs
  intro k x ax hleg
  obtain ⟨m', L, hm', _, hz⟩ := leg_node hleg
  have hx : x ∈ m'.neighbours := (List.of_mem_zip hz).1
  have hSk : t.S k = some (m'.parent, m'.children) := by rw [← S']; exact TTN.S_eq hm'
  obtain ⟨m, hm, em⟩ := TTN.N_of_S hSk
  simp only [Prod.mk.injEq] at em
  refine ⟨m, hm, ?_⟩
  rcases (mem_neighbours m' x).mp hx with hp | hc
  · left
    refine ⟨by rw [← em.1]; exact hp, ?_⟩
    obtain ⟨ax', l, e⟩ := G k x m'.children (by rw [hSk, hp])
    rw [leg_unique w' hleg l]; exact e
  · right
    refine ⟨by rw [← em.2]; exact hc, ?_⟩
    obtain ⟨cch, hSx⟩ := h.str.down k _ _ x hSk hc
    obtain ⟨ax', l, e⟩ := G x k cch hSx
    rw [leg_unique w' (l'.sym _ _ _ hleg) l]; exact e

/-- **Every bond within `max_bond_dim`** (full: no hypothesis on the result).  `spec c` is the spectrum
    `truncate_singular_values` is given for the bond above the child `c` (any non-empty, non-negative, descending
    list), `p` any valid parameter object with `max_bond_dim = D`.  The structural model of `recursive_truncation`
    run with the kept dimensions of the selection model, on every well-formed, label-consistent tree: well-formed,
    label-consistent result with the same root, identifiers and open axes, in which EVERY virtual leg of EVERY node
    has dimension `≤ D`; more precisely the bond above the non-root node `c` has dimension `keptDim (spec c) p`,
    which is `≥ 1`, `≤ D` and `≤` the number of singular values. -/
theorem recursive_truncation_bonds_le {t t' : TTN} (spec : Id → List Rat) (p : Params) (D : Nat)
    (hp : p.Valid) (hD : p.maxBond = some D)
    (hspec : ∀ c, spec c ≠ [] ∧ NonNeg (spec c) ∧ Desc (spec c))
    (h : t.WF) (hl : t.LWF)
    (hs : t.recursiveTruncation (fun c => keptDim (spec c) p) = some t') :
    (∀ c, 1 ≤ keptDim (spec c) p ∧ keptDim (spec c) p ≤ D ∧ keptDim (spec c) p ≤ (spec c).length) ∧
    (t'.WF ∧ t'.LWF ∧ t'.root = t.root ∧ (∀ k, t'.N k = none ↔ t.N k = none) ∧
      (∀ k, t'.openAxes k = t.openAxes k)) ∧
    (∀ k x ax, t'.Leg k x ax → ∃ c, (c = k ∨ c = x) ∧ ax.dim = keptDim (spec c) p) ∧
    (∀ e ∈ t'.nodes, ∀ q ∈ t'.legPairs e.1, q.2.dim ≤ D) := by
  have hb : ∀ k x ax, t'.Leg k x ax → ∃ c, (c = k ∨ c = x) ∧ ax.dim = keptDim (spec c) p := by
    intro k x ax hleg
    obtain ⟨m, _, hm⟩ := recursive_truncation_bond_axes h hl hs k x ax hleg
    rcases hm with ⟨_, e⟩ | ⟨_, e⟩
    · exact ⟨k, Or.inl rfl, e⟩
    · exact ⟨x, Or.inr rfl, e⟩
  obtain ⟨hk, hstr, hle⟩ := recursive_truncation_bonds_le_partial spec p D hp hD hspec h hl hs
    (fun e _ q hq => by
      obtain ⟨c, _, e'⟩ := hb e.1 q.1 q.2 hq
      exact ⟨c, e'⟩)
  exact ⟨hk, hstr, hb, hle⟩

end bond_dims

end Ptn.C10
