import Ptn.Common.AnalysisTelescope
/-! Abstract error accumulation for successive truncations (L4 of `notes/analysis.md`): the maps applied in the order of
their indices (`applyUpTo`) are a fold, so the bound is `Ptn.Analysis.telescope_nonexpansive`. -/
namespace Ptn.C10

open Finset

def applyUpTo {E : Type*} (P : ℕ → E → E) : ℕ → E → E
  | 0, x => x
  | k + 1, x => P k (applyUpTo P k x)

theorem applyUpTo_eq_foldl {E : Type*} (P : ℕ → E → E) (k : ℕ) (x : E) :
    applyUpTo P k x = (List.range k).foldl (fun y i => P i y) x := by
  induction k with
  | zero => rfl
  | succ k ih => rw [List.range_succ, List.foldl_append, applyUpTo, ih]; rfl

theorem sum_map_range (δ : ℕ → ℝ) (k : ℕ) : ((List.range k).map δ).sum = ∑ j ∈ range k, δ j := by
  induction k with
  | zero => rfl
  | succ k ih => rw [List.range_succ, List.map_append, List.sum_append, ih, sum_range_succ]; simp

theorem telescoping {E : Type*} [SeminormedAddCommGroup E] (P : ℕ → E →+ E) (δ : ℕ → ℝ) (k : ℕ)
    (x : E) (hc : ∀ j, j < k → ∀ y, ‖P j y‖ ≤ ‖y‖) (hd : ∀ j, j < k → ‖x - P j x‖ ≤ δ j) :
    ‖x - applyUpTo (fun j => (P j : E → E)) k x‖ ≤ ∑ j ∈ range k, δ j := by
  rw [applyUpTo_eq_foldl, ← sum_map_range]
  exact Ptn.Analysis.telescope_nonexpansive (fun j => (P j : E → E)) δ (List.range k) x
    (fun j hj y z => by rw [← map_sub]; exact hc j (List.mem_range.1 hj) _)
    (fun j hj => hd j (List.mem_range.1 hj))

end Ptn.C10
