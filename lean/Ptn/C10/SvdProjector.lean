import Mathlib.Algebra.BigOperators.Group.Finset.Basic
import Mathlib.Algebra.BigOperators.Ring.Finset
import Mathlib.LinearAlgebra.Matrix.SemiringInverse
import Mathlib.Tactic.Ring
/-! # The projectors `recursive_truncation` inserts, identified (index form)

`get_truncation_projector` matricises the node tensor with the leg towards the child as ROWS (`M[x, c]`, `x < m` the
bond index, `c` everything else), takes the truncated SVD and returns `U₁` (the kept columns of `U`, legs
`(child_leg, new_leg)`); `insert_projection_operator_and_conjugate` puts `projector.conj()` next to the node (legs
`(a', k)`) and `projector.T` next to the child (legs `(k', b')`).  So the matrix on the bond is
`Π[x, y] = Σ_{k kept} conj(U[x, k]) · U[y, k]` (`svdPi`), acting on the node tensor through the contraction
`Σ_x M[x, c] · Π[x, y]`.

The SVD is an external routine: its CONTRACT is a hypothesis, in index form, over any commutative (semi)ring `R`,
with the conjugate given as a second family `Uc` (for `ℂ`: `Uc = conj ∘ U`; `svdPi_hermitian` uses a ring
endomorphism):
* `hM : M x c = Σ_{j<r} U x j * s j * V j c` (`x < m`),
* `hU : Σ_{x<m} Uc x i * U x j = δ_ij` (`i, j < r`; orthonormal columns, `Uᴴ U = 1`).
No property of `V` and `s` is needed. -/
namespace Ptn.C10

open Finset

section semiring
variable {R : Type} [CommSemiring R]

/-- `Π[x, y] = Σ_{k < kk} Uc[x, k] · U[y, k]`: the matrix `projector.conj() · projector.T` on the bond -/
def svdPi (kk : ℕ) (U Uc : ℕ → ℕ → R) (x y : ℕ) : R := ∑ k ∈ range kk, Uc x k * U y k

theorem sum_range_indicator (r kk : ℕ) (h : kk ≤ r) (f : ℕ → R) :
    ∑ j ∈ range r, (if j < kk then f j else 0) = ∑ j ∈ range kk, f j := by
  rw [← sum_filter]
  apply sum_congr _ (fun _ _ => rfl)
  ext j
  simp only [mem_filter, mem_range]
  omega

theorem svdPi_singular_vector (m r kk : ℕ) (U Uc : ℕ → ℕ → R) (hk : kk ≤ r)
    (hU : ∀ i j, i < r → j < r → ∑ x ∈ range m, Uc x i * U x j = if i = j then 1 else 0)
    (j : ℕ) (hj : j < r) (y : ℕ) :
    ∑ x ∈ range m, U x j * svdPi kk U Uc x y = if j < kk then U y j else 0 := by
  unfold svdPi
  have e1 : ∀ x ∈ range m, U x j * ∑ k ∈ range kk, Uc x k * U y k =
      ∑ k ∈ range kk, (Uc x k * U x j) * U y k := by
    intro x _
    rw [mul_sum]
    exact sum_congr rfl (fun k _ => by ring)
  rw [sum_congr rfl e1, sum_comm]
  have e2 : ∀ k ∈ range kk, ∑ x ∈ range m, (Uc x k * U x j) * U y k = if k = j then U y k else 0 := by
    intro k hk'
    rw [← sum_mul, hU k j (by have := mem_range.1 hk'; omega) hj]
    split <;> simp
  rw [sum_congr rfl e2, sum_ite_eq' (range kk) j (fun k => U y k)]
  simp [mem_range]

theorem svdPi_mul (m r kk : ℕ) {ι : Type} (M : ℕ → ι → R) (U Uc : ℕ → ℕ → R) (s : ℕ → R) (V : ℕ → ι → R)
    (hk : kk ≤ r)
    (hM : ∀ x c, x < m → M x c = ∑ j ∈ range r, U x j * s j * V j c)
    (hU : ∀ i j, i < r → j < r → ∑ x ∈ range m, Uc x i * U x j = if i = j then 1 else 0)
    (c : ι) (y : ℕ) :
    ∑ x ∈ range m, M x c * svdPi kk U Uc x y = ∑ j ∈ range kk, U y j * s j * V j c := by
  have e1 : ∀ x ∈ range m, M x c * svdPi kk U Uc x y =
      ∑ j ∈ range r, (s j * V j c) * (U x j * svdPi kk U Uc x y) := by
    intro x hx
    rw [hM x c (mem_range.1 hx), sum_mul]
    exact sum_congr rfl (fun j _ => by ring)
  rw [sum_congr rfl e1, sum_comm]
  have e2 : ∀ j ∈ range r, ∑ x ∈ range m, (s j * V j c) * (U x j * svdPi kk U Uc x y) =
      if j < kk then U y j * s j * V j c else 0 := by
    intro j hj
    rw [← mul_sum, svdPi_singular_vector m r kk U Uc hk hU j (mem_range.1 hj) y]
    split
    · ring
    · simp
  rw [sum_congr rfl e2, sum_range_indicator r kk hk]

/-- **All columns kept: `Π` is the identity on the range of `M`** (`Π · M = M`), also when `U` is not square
(`r < m`: then `Π ≠ 1`, but nothing of `M` is lost). -/
theorem svdPi_mul_full (m r : ℕ) {ι : Type} (M : ℕ → ι → R) (U Uc : ℕ → ℕ → R) (s : ℕ → R) (V : ℕ → ι → R)
    (hM : ∀ x c, x < m → M x c = ∑ j ∈ range r, U x j * s j * V j c)
    (hU : ∀ i j, i < r → j < r → ∑ x ∈ range m, Uc x i * U x j = if i = j then 1 else 0)
    (c : ι) (y : ℕ) (hy : y < m) :
    ∑ x ∈ range m, M x c * svdPi r U Uc x y = M y c := by
  rw [svdPi_mul m r r M U Uc s V (le_refl r) hM hU c y, hM y c hy]

theorem svdPi_idempotent (m r kk : ℕ) (U Uc : ℕ → ℕ → R) (hk : kk ≤ r)
    (hU : ∀ i j, i < r → j < r → ∑ x ∈ range m, Uc x i * U x j = if i = j then 1 else 0) (x z : ℕ) :
    ∑ y ∈ range m, svdPi kk U Uc x y * svdPi kk U Uc y z = svdPi kk U Uc x z := by
  have e1 : ∀ y ∈ range m, svdPi kk U Uc x y * svdPi kk U Uc y z =
      ∑ k ∈ range kk, Uc x k * (U y k * svdPi kk U Uc y z) := by
    intro y _
    conv_lhs => unfold svdPi
    rw [sum_mul]
    exact sum_congr rfl (fun k _ => by unfold svdPi; ring)
  rw [sum_congr rfl e1, sum_comm]
  unfold svdPi
  apply sum_congr rfl
  intro k hk'
  have hkr : k < r := by have := mem_range.1 hk'; omega
  have := svdPi_singular_vector m r kk U Uc hk hU k hkr z
  unfold svdPi at this
  rw [← mul_sum, this, if_pos (mem_range.1 hk')]

theorem svdPi_hermitian (kk : ℕ) (U : ℕ → ℕ → R) (conj : R →+* R) (hinv : ∀ z, conj (conj z) = z) (x y : ℕ) :
    conj (svdPi kk U (fun a b => conj (U a b)) x y) = svdPi kk U (fun a b => conj (U a b)) y x := by
  unfold svdPi
  rw [map_sum]
  apply sum_congr rfl
  intro k _
  rw [map_mul, hinv, mul_comm]

/-- **Square `U`, all columns kept: `Π` IS the identity matrix** (`U` has orthonormal columns and is square, so
`U Uᴴ = 1` too - `Matrix.mul_eq_one_comm` over a commutative semiring).  This is the hypothesis `hcomplete` of
`projector_identity_value`. -/
theorem svdPi_square (m : ℕ) (U Uc : ℕ → ℕ → R)
    (hU : ∀ i j, i < m → j < m → ∑ x ∈ range m, Uc x i * U x j = if i = j then 1 else 0)
    (x y : ℕ) (hx : x < m) (hy : y < m) :
    svdPi m U Uc x y = if x = y then 1 else 0 := by
  let A : Matrix (Fin m) (Fin m) R := fun i x => Uc x i
  let B : Matrix (Fin m) (Fin m) R := fun x j => U x j
  have hAB : A * B = 1 := by
    ext i j
    rw [Matrix.mul_apply, Matrix.one_apply]
    have := hU i j i.2 j.2
    rw [← Fin.sum_univ_eq_sum_range (fun x => Uc x i * U x j) m] at this
    rw [this]
    simp [Fin.ext_iff]
  have hBA : B * A = 1 := mul_eq_one_comm.mp hAB
  have := congrFun (congrFun hBA ⟨y, hy⟩) ⟨x, hx⟩
  rw [Matrix.mul_apply, Matrix.one_apply] at this
  unfold svdPi
  rw [← Fin.sum_univ_eq_sum_range (fun k => Uc x k * U y k) m]
  have e : ∀ k : Fin m, B ⟨y, hy⟩ k * A k ⟨x, hx⟩ = Uc x k * U y k := fun k => mul_comm _ _
  rw [← sum_congr rfl (fun k _ => e k), this]
  simp only [Fin.mk.injEq, eq_comm]

/-- **The projectors of `recursive_truncation`, identified.**  GIVEN the contract of the SVD of the matricised node
tensor in index form (`hM`: `M = Σ_{j<r} U[·,j] s_j V[j,·]`; `hU`: `Σ_x Uc[x,i] U[x,j] = δ_ij`), the pair the library
inserts - `P = projector.conj() = Uc[·, :kk]` next to the node, `Pc = projector.T = U[·, :kk]ᵀ` next to the child,
`kk ≤ r` kept columns - puts the matrix `Π = P·Pc` (`svdPi`) on the bond, and
1. `Π·Π = Π` (a projector),
2. `Π` fixes the kept left singular vectors and annihilates the discarded ones (it is THE projector onto the span of
   the kept left singular vectors; Hermitian: `svdPi_hermitian`),
3. `Π·M = Σ_{j<kk} U[·,j] s_j V[j,·]` (exactly the kept singular triples survive),
4. with all columns kept (`kk = r`) `Π·M = M`: the identity on the range of `M`, hence the network is unchanged
   (`svd_projector_full_value`), even if `Π ≠ 1`,
5. with all columns kept and `U` square (`kk = r = m`) `Π` is the identity matrix (hypothesis `hcomplete` of
   `projector_identity_value`).
Every commutative semiring, all sizes. -/
theorem svd_projector_value (m r kk : ℕ) {ι : Type} (M : ℕ → ι → R) (U Uc : ℕ → ℕ → R) (s : ℕ → R)
    (V : ℕ → ι → R) (hk : kk ≤ r)
    (hM : ∀ x c, x < m → M x c = ∑ j ∈ range r, U x j * s j * V j c)
    (hU : ∀ i j, i < r → j < r → ∑ x ∈ range m, Uc x i * U x j = if i = j then 1 else 0) :
    (∀ x z, ∑ y ∈ range m, svdPi kk U Uc x y * svdPi kk U Uc y z = svdPi kk U Uc x z) ∧
    (∀ j, j < r → ∀ y, ∑ x ∈ range m, U x j * svdPi kk U Uc x y = if j < kk then U y j else 0) ∧
    (∀ c y, ∑ x ∈ range m, M x c * svdPi kk U Uc x y = ∑ j ∈ range kk, U y j * s j * V j c) ∧
    (kk = r → ∀ c y, y < m → ∑ x ∈ range m, M x c * svdPi kk U Uc x y = M y c) ∧
    (kk = r → r = m → ∀ x y, x < m → y < m → svdPi kk U Uc x y = if x = y then 1 else 0) := by
  refine ⟨svdPi_idempotent m r kk U Uc hk hU, fun j hj y => svdPi_singular_vector m r kk U Uc hk hU j hj y,
    svdPi_mul m r kk M U Uc s V hk hM hU, ?_, ?_⟩
  · intro e c y hy
    subst e
    exact svdPi_mul_full m kk M U Uc s V hM hU c y hy
  · intro e1 e2 x y hx hy
    subst e1; subst e2
    exact svdPi_square kk U Uc hU x y hx hy

end semiring

end Ptn.C10
