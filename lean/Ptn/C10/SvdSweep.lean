import Ptn.C02.CompositeWF
/-! `svd_truncation` at the level of bond dimensions: a sweep of centre moves (`move_orthogonalization_center`, QR)
and `contract_and_split_with_parent` events (truncated SVD) on the structural model of C02.

What the model ASSUMES about one event on the pair `(a, b)` is made explicit (`BondLocal`): the bond `a – b` gets the
event's new dimension `bd` at both ends and every other virtual leg of the result is the leg it was (same axis).  It
is a theorem for `centreMove` and `contractSplit` (`centreMove_bondLocal`, `contractSplit_bondLocal`,
`BondLocalThm.lean`; used in `SvdRun.lean`).  About the dimensions: a cut has `bd ≤ D` (`keptDim_bounds`), a
QR move has `bd ≤` the dimension of the bond it crosses (reduced or `keep` mode of `tensor_qr_decomposition`:
`min(rows, columns) ≤ columns`). -/
namespace Ptn.C10
open Ptn.C02

def BondLocal (t t' : TTN) (a b : Id) (bd : Nat) : Prop :=
  ∀ e ∈ t'.nodes, ∀ q ∈ t'.legPairs e.1,
    if (e.1 = a ∧ q.1 = b) ∨ (e.1 = b ∧ q.1 = a) then q.2.dim = bd else q ∈ t.legPairs e.1

instance instDecidableLeg (t : TTN) (k x : Id) (ax : Axis) : Decidable (t.Leg k x ax) := by
  unfold TTN.Leg; infer_instance

instance instDecidableBondLocal (t t' : TTN) (a b : Id) (bd : Nat) : Decidable (BondLocal t t' a b bd) := by
  unfold BondLocal; infer_instance

theorem leg_mem_nodes {t : TTN} {k x : Id} {ax : Axis} (hl : t.Leg k x ax) : ∃ e ∈ t.nodes, e.1 = k := by
  have hk := leg_isNode hl
  cases hg : dget t.nodes k with
  | none => exact absurd hg hk
  | some v =>
    have := (dhas_eq_mem_keys t.nodes k).mp (dhas_of_dget hg)
    obtain ⟨e, he, e1⟩ := List.mem_map.mp this
    exact ⟨e, he, e1⟩

theorem BondLocal.leg {t t' : TTN} {a b : Id} {bd : Nat} (h : BondLocal t t' a b bd) {k x : Id} {ax : Axis}
    (hl : t'.Leg k x ax) :
    (((k = a ∧ x = b) ∨ (k = b ∧ x = a)) ∧ ax.dim = bd) ∨ (¬ ((k = a ∧ x = b) ∨ (k = b ∧ x = a)) ∧ t.Leg k x ax) := by
  obtain ⟨e, he, rfl⟩ := leg_mem_nodes hl
  have := h e he (x, ax) hl
  by_cases hc : (e.1 = a ∧ x = b) ∨ (e.1 = b ∧ x = a)
  · rw [if_pos hc] at this; exact Or.inl ⟨hc, this⟩
  · rw [if_neg hc] at this; exact Or.inr ⟨hc, this⟩

inductive SvdSweep (D : Nat) : TTN → List TdvpEvent → TTN → Prop
  | nil (t : TTN) : SvdSweep D t [] t
  | move {t t1 t' : TTN} {a b rid : Id} {bd : Nat} {es : List TdvpEvent} :
      t.centreMove a b rid bd = some t1 → BondLocal t t1 a b bd →
      (∃ ax, t.Leg a b ax ∧ t.Leg b a ax ∧ bd ≤ ax.dim) →
      SvdSweep D t1 es t' → SvdSweep D t (.move a b rid bd :: es) t'
  | cut {t t1 t' : TTN} {a b cid : Id} {bd : Nat} {es : List TdvpEvent} :
      t.contractSplit a b cid bd = some t1 → BondLocal t t1 a b bd → bd ≤ D →
      SvdSweep D t1 es t' → SvdSweep D t (.contractSplit a b cid bd :: es) t'

def cutPairs : List TdvpEvent → List (Id × Id)
  | [] => []
  | .contractSplit a b _ _ :: es => (a, b) :: cutPairs es
  | _ :: es => cutPairs es

theorem svd_sweep_legs {D : Nat} {t t' : TTN} {es : List TdvpEvent} (h : SvdSweep D t es t') :
    ∀ k x ax', t'.Leg k x ax' →
      (((k, x) ∈ cutPairs es ∨ (x, k) ∈ cutPairs es) → ax'.dim ≤ D) ∧
      (ax'.dim ≤ D ∨ ∃ ax, t.Leg k x ax ∧ ax'.dim ≤ ax.dim) := by
  induction h with
  | nil t =>
    intro k x ax' hl
    exact ⟨by simp [cutPairs], Or.inr ⟨ax', hl, Nat.le_refl _⟩⟩
  | @move t t1 t' a b rid bd es _ hloc hqr _ ih =>
    intro k x ax' hl
    obtain ⟨i1, i2⟩ := ih k x ax' hl
    refine ⟨by simpa [cutPairs] using i1, ?_⟩
    rcases i2 with i2 | ⟨ax1, l1, le1⟩
    · exact Or.inl i2
    · right
      obtain ⟨ax, la, lb, hbd⟩ := hqr
      rcases hloc.leg l1 with ⟨hc, e⟩ | ⟨_, l0⟩
      · rcases hc with ⟨rfl, rfl⟩ | ⟨rfl, rfl⟩
        · exact ⟨ax, la, by omega⟩
        · exact ⟨ax, lb, by omega⟩
      · exact ⟨ax1, l0, le1⟩
  | @cut t t1 t' a b cid bd es _ hloc hbd _ ih =>
    intro k x ax' hl
    obtain ⟨i1, i2⟩ := ih k x ax' hl
    have key : ((k = a ∧ x = b) ∨ (k = b ∧ x = a)) → ax'.dim ≤ D := by
      intro hc
      rcases i2 with i2 | ⟨ax1, l1, le1⟩
      · exact i2
      · rcases hloc.leg l1 with ⟨_, e⟩ | ⟨hn, _⟩
        · omega
        · exact absurd hc hn
    constructor
    · intro hm
      simp only [cutPairs, List.mem_cons, Prod.mk.injEq] at hm
      rcases hm with (hm | hm) | (hm | hm)
      · exact key (Or.inl hm)
      · exact i1 (Or.inl hm)
      · exact key (Or.inr ⟨hm.2, hm.1⟩)
      · exact i1 (Or.inr hm)
    · rcases i2 with i2 | ⟨ax1, l1, le1⟩
      · exact Or.inl i2
      · rcases hloc.leg l1 with ⟨_, e⟩ | ⟨_, l0⟩
        · left; omega
        · exact Or.inr ⟨ax1, l0, le1⟩

/-! Where the virtual legs of the result of an `SvdSweep` come from: a leg of the input or the pair of an event. -/

def svdEventPairs : List TdvpEvent → List (Id × Id)
  | [] => []
  | .contractSplit a b _ _ :: es => (a, b) :: svdEventPairs es
  | .move a b _ _ :: es => (a, b) :: svdEventPairs es
  | _ :: es => svdEventPairs es

theorem svd_sweep_leg_origin {D : Nat} {t t' : TTN} {es : List TdvpEvent} (h : SvdSweep D t es t') :
    ∀ k x ax', t'.Leg k x ax' →
      (∃ ax, t.Leg k x ax) ∨ (k, x) ∈ svdEventPairs es ∨ (x, k) ∈ svdEventPairs es := by
  induction h with
  | nil t => intro k x ax' hl; exact Or.inl ⟨ax', hl⟩
  | @move t t1 t' a b rid bd es _ hloc _ _ ih =>
    intro k x ax' hl
    rcases ih k x ax' hl with ⟨ax1, l1⟩ | hm | hm
    · rcases hloc.leg l1 with ⟨hc, _⟩ | ⟨_, l0⟩
      · rcases hc with ⟨rfl, rfl⟩ | ⟨rfl, rfl⟩
        · exact Or.inr (Or.inl (by simp [svdEventPairs]))
        · exact Or.inr (Or.inr (by simp [svdEventPairs]))
      · exact Or.inl ⟨ax1, l0⟩
    · exact Or.inr (Or.inl (by simp [svdEventPairs, hm]))
    · exact Or.inr (Or.inr (by simp [svdEventPairs, hm]))
  | @cut t t1 t' a b cid bd es _ hloc _ _ ih =>
    intro k x ax' hl
    rcases ih k x ax' hl with ⟨ax1, l1⟩ | hm | hm
    · rcases hloc.leg l1 with ⟨hc, _⟩ | ⟨_, l0⟩
      · rcases hc with ⟨rfl, rfl⟩ | ⟨rfl, rfl⟩
        · exact Or.inr (Or.inl (by simp [svdEventPairs]))
        · exact Or.inr (Or.inr (by simp [svdEventPairs]))
      · exact Or.inl ⟨ax1, l0⟩
    · exact Or.inr (Or.inl (by simp [svdEventPairs, hm]))
    · exact Or.inr (Or.inr (by simp [svdEventPairs, hm]))

/-- the events of a sweep as tagged pairs: `false` = QR move `(from, to)`, `true` = cut `(node, parent)` -/
def svdEventTags : List TdvpEvent → List (Bool × Id × Id)
  | [] => []
  | .contractSplit a b _ _ :: es => (true, a, b) :: svdEventTags es
  | .move a b _ _ :: es => (false, a, b) :: svdEventTags es
  | _ :: es => svdEventTags es

theorem svdEventTags_cuts : ∀ es : List TdvpEvent, ((svdEventTags es).filter (·.1)).map (·.2) = cutPairs es
  | [] => rfl
  | e :: es => by
    have ih := svdEventTags_cuts es
    cases e <;> simp [svdEventTags, cutPairs, ih]

theorem svdEventTags_pairs : ∀ es : List TdvpEvent, (svdEventTags es).map (·.2) = svdEventPairs es
  | [] => rfl
  | e :: es => by
    have ih := svdEventTags_pairs es
    cases e <;> simp [svdEventTags, svdEventPairs, ih]

end Ptn.C10
