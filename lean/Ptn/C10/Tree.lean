import Ptn.C02.TruncLegs
import Ptn.C02.BuildLabels
import Ptn.C02.DemoKit
/-! Structural corollaries for C10 on the structural TTN model of C02 (`Ptn/C02/Composite.lean`, which follows
`pytreenet/core/truncation/recursive_truncation.py` line by line): `truncateNode` = `truncate_node`,
`recursiveTruncation` = `recursive_truncation` between its two `canonical_form(root)` calls, which are runs of
`TdvpEvent.move`; `svd_truncation` is a run of `move` (`move_orthogonalization_center`) and `contractSplit`
(`contract_and_split_with_parent`) events.  Every node keeps exactly its open legs: only bond dimensions change.  The
`…_partial` theorems are the structure-only versions (no hypothesis on the labels). -/
namespace Ptn.C10
open Ptn.C02

/-- **`truncate_node(n)`** (whole recursion below `n`, any admissible temporary identifiers, any kept
    dimensions): the result is well-formed and label-consistent, has the same root, the same identifiers, every
    node has the same parent and the same children list (order included) and exactly the open legs it had. -/
theorem truncate_node_structure {t t' : TTN} {ids : TTN.TempIds} {kdim : Id → Nat} {fuel : Nat}
    {n : Id} (h : t.WF) (hl : t.LWF) (hids : TempOK t.S ids)
    (hs : TTN.truncateNode fuel t n ids kdim = some t') :
    t'.WF ∧ t'.LWF ∧ t'.root = t.root ∧
    (∀ k, t'.N k = none ↔ t.N k = none) ∧
    (∀ k m, t.N k = some m → ∃ m', t'.N k = some m' ∧ m'.parent = m.parent ∧ m'.children = m.children) ∧
    (∀ k, t'.openAxes k = t.openAxes k) := by
  obtain ⟨w, R, S⟩ := truncate_node_full fuel t t' n (TTN.WFX.ofLWF h hl) hids hs
  exact ⟨w.wf, w.lwf trivial, R, (S_eq_explicit S).1, (S_eq_explicit S).2, w.op trivial⟩

/-- **`recursive_truncation`** between its two canonicalisations. -/
theorem recursive_truncation_core_structure {t t' : TTN} {kdim : Id → Nat} (h : t.WF) (hl : t.LWF)
    (hs : t.recursiveTruncation kdim = some t') :
    t'.WF ∧ t'.LWF ∧ t'.root = t.root ∧
    (∀ k, t'.N k = none ↔ t.N k = none) ∧
    (∀ k m, t.N k = some m → ∃ m', t'.N k = some m' ∧ m'.parent = m.parent ∧ m'.children = m.children) ∧
    (∀ k, t'.openAxes k = t.openAxes k) := by
  obtain ⟨w, l, R, S, o⟩ := recursive_truncation_labels h hl hs
  exact ⟨w, l, R, (S_eq_explicit S).1, (S_eq_explicit S).2, o⟩

/-- **`recursive_truncation`** as a whole: `canonical_form(root)` (a run `es₁` of centre moves), the
    truncation, `canonical_form(root)` again (`es₂`).  Well-formed, label-consistent result; same root, same
    identifiers, same parent of every node, same children of every node up to order (the order is changed by the
    centre moves only); **every node keeps exactly its open legs, in order, with their dimensions – only bond
    dimensions change**. -/
theorem recursive_truncation_structure {t t1 t2 t' : TTN} {es1 es2 : List TdvpEvent}
    {kdim : Id → Nat} (h : t.WF) (hl : t.LWF) (h1 : TdvpRun t es1 t1)
    (h2 : t1.recursiveTruncation kdim = some t2) (h3 : TdvpRun t2 es2 t') :
    t'.WF ∧ t'.LWF ∧ t'.root = t.root ∧
    (∀ k, t'.N k = none ↔ t.N k = none) ∧
    (∀ k m, t.N k = some m →
      ∃ m', t'.N k = some m' ∧ m'.parent = m.parent ∧ m'.children.Perm m.children) ∧
    (∀ k, t'.openAxes k = t.openAxes k) := by
  obtain ⟨w1, l1, R1, E1, o1⟩ := tdvp_run_labels h hl h1
  obtain ⟨w2, l2, R2, S2, o2⟩ := recursive_truncation_labels w1 l1 h2
  obtain ⟨w3, l3, R3, E3, o3⟩ := tdvp_run_labels w2 l2 h3
  rw [S2] at E3
  exact ⟨w3, l3, R3.trans (R2.trans R1), (treeEq_explicit (E1.trans E3)).1, (treeEq_explicit (E1.trans E3)).2,
    fun k => (o3 k).trans ((o2 k).trans (o1 k))⟩

def PromotedIn (t t' : TTN) (a b : Id) : Prop :=
  ∃ top bot Tn, ((top = a ∧ bot = b) ∨ (top = b ∧ bot = a)) ∧ t.N top = some Tn ∧ bot ∈ Tn.children ∧
    (∀ k, k ≠ top → t'.S k = t.S k) ∧
    t'.S top = some (Tn.parent, bot :: Tn.children.erase bot)

theorem promotedIn_of {t t' : TTN} {a b : Id} (h : t.WF)
    (hc : ∃ A, t.N a = some A ∧
      ((b ∈ A.children ∧ t'.S = promoteS t.S a b) ∨ (A.parent = some b ∧ t'.S = promoteS t.S b a))) :
    PromotedIn t t' a b := by
  obtain ⟨A, hA, hcase⟩ := hc
  rcases hcase with ⟨hb, S'⟩ | ⟨hp, S'⟩
  · exact ⟨a, b, A, Or.inl ⟨rfl, rfl⟩, hA, hb, promote_explicit hA S'⟩
  · obtain ⟨B, hB, hm⟩ := parent_node h hA hp
    exact ⟨b, a, B, Or.inr ⟨rfl, rfl⟩, hB, hm, promote_explicit hB S'⟩

/-- **`contract_and_split_with_parent(a, b)`** (also with the pair given the other way round; any truncated
    bond dimension): the lower node of the pair becomes the FIRST child of the upper one, nothing else changes in
    the structure, and every node keeps exactly its open legs. -/
theorem contract_split_structure {t t' : TTN} {a b cid : Id} {bd : Nat} (h : t.WF) (hl : t.LWF)
    (hfresh : t.N cid = none) (hs : t.contractSplit a b cid bd = some t') :
    t'.WF ∧ t'.LWF ∧ t'.root = t.root ∧ PromotedIn t t' a b ∧ ∀ k, t'.openAxes k = t.openAxes k := by
  obtain ⟨w, R, hc⟩ := contract_split_full (TTN.WFX.ofLWF h hl) hfresh hs
  exact ⟨w.wf, w.lwf trivial, R, promotedIn_of h hc, w.op trivial⟩

/-- The events of `svd_truncation`: centre moves and `contract_and_split_with_parent`. -/
def IsSvdEvent : TdvpEvent → Prop
  | .move _ _ _ _ => True
  | .contractSplit _ _ _ _ => True
  | _ => False

/-- **`svd_truncation`** – any run of centre moves and `contract_and_split_with_parent`s (the temporary
    identifiers being unused when they are taken): well-formed, label-consistent result, same root, same
    identifiers, same parent of every node, same children of every node up to order; **every node keeps exactly
    its open legs – only bond dimensions change**. -/
theorem svd_truncation_structure {t t' : TTN} {es : List TdvpEvent} (h : t.WF) (hl : t.LWF)
    (_hev : ∀ e ∈ es, IsSvdEvent e) (hr : TdvpRun t es t') :
    t'.WF ∧ t'.LWF ∧ t'.root = t.root ∧
    (∀ k, t'.N k = none ↔ t.N k = none) ∧
    (∀ k m, t.N k = some m →
      ∃ m', t'.N k = some m' ∧ m'.parent = m.parent ∧ m'.children.Perm m.children) ∧
    (∀ k, t'.openAxes k = t.openAxes k) := by
  obtain ⟨w, l, R, E, o⟩ := tdvp_run_labels h hl hr
  exact ⟨w, l, R, (treeEq_explicit E).1, (treeEq_explicit E).2, o⟩

theorem truncate_node_structure_partial {t t' : TTN} {ids : TTN.TempIds} {kdim : Id → Nat} {fuel : Nat}
    {n : Id} (h : t.WF) (hids : TempOK t.S ids) (hs : TTN.truncateNode fuel t n ids kdim = some t') :
    t'.WF ∧ t'.root = t.root ∧
    (∀ k, t'.N k = none ↔ t.N k = none) ∧
    (∀ k m, t.N k = some m → ∃ m', t'.N k = some m' ∧ m'.parent = m.parent ∧ m'.children = m.children) := by
  obtain ⟨w, R, S⟩ := truncate_node_full fuel t t' n (TTN.WFX.ofWF h) hids hs
  exact ⟨w.wf, R, S_eq_explicit S⟩

theorem recursive_truncation_core_structure_partial {t t' : TTN} {kdim : Id → Nat} (h : t.WF)
    (hs : t.recursiveTruncation kdim = some t') :
    t'.WF ∧ t'.root = t.root ∧
    (∀ k, t'.N k = none ↔ t.N k = none) ∧
    (∀ k m, t.N k = some m → ∃ m', t'.N k = some m' ∧ m'.parent = m.parent ∧ m'.children = m.children) := by
  obtain ⟨w, R, S⟩ := recursive_truncation_full h hs
  exact ⟨w, R, S_eq_explicit S⟩

theorem recursive_truncation_structure_partial {t t1 t2 t' : TTN} {es1 es2 : List TdvpEvent}
    {kdim : Id → Nat} (h : t.WF) (h1 : TdvpRun t es1 t1) (h2 : t1.recursiveTruncation kdim = some t2)
    (h3 : TdvpRun t2 es2 t') :
    t'.WF ∧ t'.root = t.root ∧
    (∀ k, t'.N k = none ↔ t.N k = none) ∧
    (∀ k m, t.N k = some m →
      ∃ m', t'.N k = some m' ∧ m'.parent = m.parent ∧ m'.children.Perm m.children) := by
  obtain ⟨w1, R1, E1⟩ := tdvp_run_structure h h1
  obtain ⟨w2, R2, S2⟩ := recursive_truncation_full w1 h2
  obtain ⟨w3, R3, E3⟩ := tdvp_run_structure w2 h3
  rw [S2] at E3
  exact ⟨w3, R3.trans (R2.trans R1), treeEq_explicit (E1.trans E3)⟩

theorem contract_split_structure_partial {t t' : TTN} {a b cid : Id} {bd : Nat} (h : t.WF)
    (hfresh : t.N cid = none) (hs : t.contractSplit a b cid bd = some t') :
    t'.WF ∧ t'.root = t.root ∧
    ∃ top bot Tn, ((top = a ∧ bot = b) ∨ (top = b ∧ bot = a)) ∧ t.N top = some Tn ∧ bot ∈ Tn.children ∧
      (∀ k, k ≠ top → t'.S k = t.S k) ∧
      t'.S top = some (Tn.parent, bot :: Tn.children.erase bot) := by
  obtain ⟨w, R, hc⟩ := contract_split_full (TTN.WFX.ofWF h) hfresh hs
  exact ⟨w.wf, R, promotedIn_of h hc⟩

theorem svd_truncation_structure_partial {t t' : TTN} {es : List TdvpEvent} (h : t.WF)
    (_hev : ∀ e ∈ es, IsSvdEvent e) (hr : TdvpRun t es t') :
    t'.WF ∧ t'.root = t.root ∧
    (∀ k, t'.N k = none ↔ t.N k = none) ∧
    (∀ k m, t.N k = some m →
      ∃ m', t'.N k = some m' ∧ m'.parent = m.parent ∧ m'.children.Perm m.children) := by
  obtain ⟨w, R, E⟩ := tdvp_run_structure h hr
  exact ⟨w, R, treeEq_explicit E⟩

instance : DecidablePred IsSvdEvent
  | .move .. | .contractSplit .. => isTrue trivial
  | .access _ | .link .. | .twoSite .. => isFalse id

/-- `recursive_truncation` proper succeeds on the demo tree `exTree` of `Ptn/C02/DemoKit.lean` (bond above `2` cut to 2,
    the others to 1), the network it is applied to is well-formed, and the structure afterwards is the one before. -/
example : ∃ t t', TRun TTN.empty buildOps t ∧ t.WF ∧
    t.recursiveTruncation (fun c => if c = 2 then 2 else 1) = some t' ∧
    t.S 1 = some (none, [2, 3]) ∧ t'.S 1 = some (none, [2, 3]) ∧ t'.S 2 = some (some 1, [4]) :=
  let ⟨t', h, hS, _⟩ := exTree_trunc
  ⟨exTree, t', exTree_built.toTRun, exTree_wf.1, h, rfl, hS⟩

/-- The whole `recursive_truncation`: canonicalisation towards the root (`4 → 2`, `2 → 1`, `3 → 1`), the
    truncation, canonicalisation again. -/
example : ∃ t t1 t2 t', TRun TTN.empty buildOps t ∧
    TdvpRun t [.move 4 2 60 2, .move 2 1 61 3, .move 3 1 62 2] t1 ∧
    t1.recursiveTruncation (fun c => if c = 2 then 2 else 1) = some t2 ∧
    TdvpRun t2 [.move 4 2 70 1, .move 2 1 71 2, .move 3 1 72 1] t' ∧
    t'.S 1 = some (none, [2, 3]) := by
  obtain ⟨t1, h1, t2, h2, t', h3, h4⟩ :
      ∃ t1 ∈ tdvpRun? exTree [.move 4 2 60 2, .move 2 1 61 3, .move 3 1 62 2],
      ∃ t2 ∈ t1.recursiveTruncation (fun c => if c = 2 then 2 else 1),
      ∃ t' ∈ tdvpRun? t2 [.move 4 2 70 1, .move 2 1 71 2, .move 3 1 72 1], t'.S 1 = some (none, [2, 3]) := by
    decide +kernel
  exact ⟨exTree, t1, t2, t', exTree_built.toTRun, tdvpRun?_sound h1, h2, tdvpRun?_sound h3, h4⟩

/-- The same network is label-consistent (built with matching bond labels `100`, `101`, `102`), so the
    hypotheses of the label-level theorems are satisfiable; after the truncation every node has the open axes
    it had. -/
example : ∃ t t', TRunL TTN.empty buildOps t ∧ t.WF ∧ t.LWF ∧
    t.recursiveTruncation (fun c => if c = 2 then 2 else 1) = some t' ∧
    t'.openAxes 1 = [⟨0, 2⟩] ∧ t'.openAxes 2 = [⟨1, 2⟩] ∧ t'.openAxes 3 = [⟨2, 2⟩] ∧ t'.openAxes 4 = [⟨3, 3⟩] :=
  let ⟨t', h, _, ho⟩ := exTree_trunc
  ⟨exTree, t', exTree_built, exTree_wf.1, exTree_wf.2, h, ho⟩

end Ptn.C10
