import Mathlib.Algebra.BigOperators.Group.Finset.Basic
import Mathlib.Algebra.BigOperators.Ring.Finset
import Mathlib.Tactic.Ring
import Ptn.Common.EinsumPart
/-! Value level of C10: linearity of `netValue` in one leaf. -/
namespace Ptn.C10

open Finset Ptn.Ein

set_option linter.unusedSectionVars false

section semiring
variable {L : Type} [DecidableEq L] {R : Type} [CommSemiring R]

def deltaT (x y : L) : Asg L → R := fun τ => if τ x = τ y then 1 else 0

theorem deltaT_dependsOn (x y : L) : DependsOn (fun l => l = x ∨ l = y) (deltaT (R := R) x y) := by
  intro σ τ h
  simp only [deltaT, h x (Or.inl rfl), h y (Or.inr rfl)]

theorem sumPairs_add (dim : L → Nat) (ps : List (L × L)) (f g : Asg L → R) (σ : Asg L) :
    sumPairs dim ps (fun τ => f τ + g τ) σ = sumPairs dim ps f σ + sumPairs dim ps g σ := by
  induction ps generalizing σ with
  | nil => rfl
  | cons p ps ih =>
    obtain ⟨a, b⟩ := p
    simp only [sumPairs, sumR_eq]
    rw [← sum_add_distrib]
    exact sum_congr rfl (fun i _ => ih _)

theorem sumPairs_zero (dim : L → Nat) (ps : List (L × L)) (σ : Asg L) :
    sumPairs dim ps (fun _ => (0 : R)) σ = 0 := by
  induction ps generalizing σ with
  | nil => rfl
  | cons p ps ih =>
    obtain ⟨a, b⟩ := p
    simp only [sumPairs, sumR_eq]
    exact sum_eq_zero (fun i _ => ih _)

theorem sumPairs_const_mul (dim : L → Nat) (ps : List (L × L)) (c : R) (f : Asg L → R) (σ : Asg L) :
    sumPairs dim ps (fun τ => c * f τ) σ = c * sumPairs dim ps f σ :=
  sumPairs_mul_left dim ps f (fun _ => c) (S := fun _ => False) (fun _ _ _ => rfl) (fun _ _ h => h) σ

theorem netValue_add_head (dim : L → Nat) (binds : List (L × L)) (f g : Asg L → R)
    (rest : List (Asg L → R)) (σ : Asg L) :
    netValue dim binds ((fun τ => f τ + g τ) :: rest) σ =
      netValue dim binds (f :: rest) σ + netValue dim binds (g :: rest) σ := by
  unfold netValue
  rw [← sumPairs_add]
  apply sumPairs_congr
  intro τ
  simp only [List.map_cons, prodL]
  ring

theorem netValue_smul_head (dim : L → Nat) (binds : List (L × L)) (c : R) (f : Asg L → R)
    (rest : List (Asg L → R)) (σ : Asg L) :
    netValue dim binds ((fun τ => c * f τ) :: rest) σ = c * netValue dim binds (f :: rest) σ := by
  unfold netValue
  rw [← sumPairs_const_mul]
  apply sumPairs_congr
  intro τ
  simp only [List.map_cons, prodL]
  ring

/-- `Ptn.Ein.netValue_perm` with the hypotheses in the order this directory uses -/
theorem netValue_perm (dim : L → Nat) {bs bs' : List (L × L)} {ls ls' : List (Asg L → R)}
    (hb : bs.Perm bs') (hnd : (Expr.pairLegs bs).Nodup) (hl : ls.Perm ls') (σ : Asg L) :
    netValue dim bs ls σ = netValue dim bs' ls' σ :=
  Ptn.Ein.netValue_perm dim hb hl hnd σ

end semiring

section ring
variable {L : Type} [DecidableEq L] {R : Type} [CommRing R]

theorem sumPairs_neg (dim : L → Nat) (ps : List (L × L)) (f : Asg L → R) (σ : Asg L) :
    sumPairs dim ps (fun τ => - f τ) σ = - sumPairs dim ps f σ := by
  have := sumPairs_const_mul dim ps (-1 : R) f σ
  simpa using this

theorem sumPairs_sub (dim : L → Nat) (ps : List (L × L)) (f g : Asg L → R) (σ : Asg L) :
    sumPairs dim ps (fun τ => f τ - g τ) σ = sumPairs dim ps f σ - sumPairs dim ps g σ := by
  have h := sumPairs_add dim ps f (fun τ => - g τ) σ
  rw [sumPairs_neg] at h
  simpa [sub_eq_add_neg] using h

theorem netValue_sub_head (dim : L → Nat) (binds : List (L × L)) (f g : Asg L → R)
    (rest : List (Asg L → R)) (σ : Asg L) :
    netValue dim binds ((fun τ => f τ - g τ) :: rest) σ =
      netValue dim binds (f :: rest) σ - netValue dim binds (g :: rest) σ := by
  unfold netValue
  rw [← sumPairs_sub]
  apply sumPairs_congr
  intro τ
  simp only [List.map_cons, prodL]
  ring

end ring

end Ptn.C10
