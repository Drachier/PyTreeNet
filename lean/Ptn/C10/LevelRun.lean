import Ptn.C02.SimCompositeTrunc
/-! Value level: ONE node of `truncate_node` with ALL its children.

`Lr54LevelRun` is the value-level history of the first loop of `truncate_node(n)`: for every child `c` in turn a
read-only prefix `pre` (for the library: `[.access n]`, the node tensor is read for the projector), then
`insert_identity(c, n)`, then the identity is REPLACED by a two-leg tensor `Π_c` (the local update), then the identity node
is split into the projector pair with an exact factorisation of `Π_c` (`Ptn.C02.truncate_node_value`, composed over the
children).  `Lr54Chain` is the value statement: a chain of single-leaf replacements.  (`lr54`/`Lr54` in the names is a label
without meaning.) -/
namespace Ptn.C10
open Ptn.C02 Ptn.C03 Ptn.Ein NodeS

variable {R : Type} [CommSemiring R]

/-- the Kronecker delta `insert_identity` writes on the fresh legs `a`, `a + 1` -/
def lr54Delta (a : Nat) : Asg Nat → R := fun ρ => if ρ a = ρ (a + 1) then 1 else 0

/-- one child of the level: the child, the first fresh label of its identity insertion, the matrix put on its bond -/
structure Lr54Entry (R : Type) where
  c : Id
  a : Nat
  Pi : Asg Nat → R

/-- the leg specifications of `insert_projection_operator_and_conjugate(c, n, …)` -/
def lr54Split (n c : Id) (ids : TTN.TempIds) (k : Nat) : TOp :=
  .split (ids.ident c) ⟨some n, [], [], false⟩ ⟨none, [c], [], false⟩ (ids.star c) (ids.proj c) k

inductive Lr54LevelRun (dim : Nat → Nat) (e : Label → Nat) (n : Id) (ids : TTN.TempIds) (kdim : Id → Nat)
    (pre : List TOp) : TTN → LegMap → VNet R → List (Lr54Entry R) → TTN → LegMap → VNet R → Prop
  | nil (t : TTN) (g : LegMap) (v : VNet R) : Lr54LevelRun dim e n ids kdim pre t g v [] t g v
  | cons {t t0 t1 t2 t' : TTN} {g g0 g1 g2 g' : LegMap} {v v0 v1 v2 v' : VNet R} {c : Id} {Pi : Asg Nat → R}
      {rest : List (Lr54Entry R)} :
      SimRun dim e t g v pre t0 g0 v0 →
      SimRun dim e t0 g0 v0 [.ident c n (ids.ident c)] t1 g1 v1 →
      DependsOn (· ∈ v1.legs (ids.ident c)) Pi →
      SimRun dim e t1 g1 (setTens v1 (ids.ident c) Pi) [lr54Split n c ids (kdim c)] t2 g2 v2 →
      Lr54LevelRun dim e n ids kdim pre t2 g2 v2 rest t' g' v' →
      Lr54LevelRun dim e n ids kdim pre t g v (⟨c, v0.next, Pi⟩ :: rest) t' g' v'

/-- the value statement of a level: from the function `f` (the value of the network before) to `f'` by single-leaf
replacements, one per child: some well-formed network `w` has the value `f`, carries the Kronecker delta at the identity
node of the child on the legs `a`, `a + 1`, and the next function is the value of `w` with that delta replaced by `Π` -/
inductive Lr54Chain (dim : Nat → Nat) (ids : TTN.TempIds) :
    (Asg Nat → R) → List (Lr54Entry R) → (Asg Nat → R) → Prop
  | nil {f f' : Asg Nat → R} : (∀ σ, f' σ = f σ) → Lr54Chain dim ids f [] f'
  | cons {f f' : Asg Nat → R} {x : Lr54Entry R} {rest : List (Lr54Entry R)} (w : VNet R) :
      w.WF → (∀ σ, w.value dim σ = f σ) → w.tens (ids.ident x.c) = lr54Delta x.a →
      DependsOn (· ∈ w.legs (ids.ident x.c)) x.Pi →
      Lr54Chain dim ids (fun σ => (setTens w (ids.ident x.c) x.Pi).value dim σ) rest f' →
      Lr54Chain dim ids f (x :: rest) f'

theorem Lr54Chain.congr_left {dim : Nat → Nat} {ids : TTN.TempIds} {f f0 f' : Asg Nat → R} {es : List (Lr54Entry R)}
    (hf : ∀ σ, f σ = f0 σ) (hc : Lr54Chain dim ids f es f') : Lr54Chain dim ids f0 es f' := by
  cases hc with
  | nil h => exact .nil (fun σ => (h σ).trans (hf σ))
  | cons w hw hval hd hdep hrest => exact .cons w hw (fun σ => (hval σ).trans (hf σ)) hd hdep hrest

theorem Lr54Chain.congr_right {dim : Nat → Nat} {ids : TTN.TempIds} {f f' f'' : Asg Nat → R}
    {es : List (Lr54Entry R)} (hc : Lr54Chain dim ids f es f') (hf : ∀ σ, f'' σ = f' σ) :
    Lr54Chain dim ids f es f'' := by
  induction hc with
  | nil h => exact .nil (fun σ => (hf σ).trans (h σ))
  | cons w hw hval hd hdep _ ih => exact .cons w hw hval hd hdep (ih hf)

theorem Lr54Chain.identity {dim : Nat → Nat} {ids : TTN.TempIds} {f f' : Asg Nat → R} {es : List (Lr54Entry R)}
    (hc : Lr54Chain dim ids f es f') (hid : ∀ x ∈ es, x.Pi = lr54Delta x.a) : ∀ σ, f' σ = f σ := by
  induction hc with
  | nil h => exact h
  | cons w hw hval hd hdep hrest ih =>
    intro σ
    rw [ih (fun x hx => hid x (List.mem_cons_of_mem _ hx)) σ]
    have := hid _ List.mem_cons_self
    show (setTens w _ _).value dim σ = _
    rw [this, ← hd, setTens_self, hval σ]

/-- the read-only prefix `[.access n]` of the library's loop body is the model's `t.access n` -/
theorem truncLoop1_cons_of_steps {t t0 t1 t2 : TTN} {n c : Id} {ids : TTN.TempIds} {kdim : Id → Nat} {cs : List Id}
    (h0 : t.step (.access n) = some t0) (h1 : t0.step (.ident c n (ids.ident c)) = some t1)
    (h2 : t1.step (lr54Split n c ids (kdim c)) = some t2) :
    TTN.truncLoop1 t n ids kdim (c :: cs) = TTN.truncLoop1 t2 n ids kdim cs := by
  obtain ⟨T, ha⟩ := step_access_eq h0
  have hins := insertProjectors_of_steps h1 h2
  unfold TTN.truncLoop1
  simp [List.foldlM_cons, ha, hins, bind, Option.bind]

theorem contractNodes_fold_of_run {n new : Id} : ∀ {cs : List Id} {t t' : TTN},
    TRun t (cs.map (fun c => TOp.contract n c new)) t' →
    cs.foldlM (fun (t : TTN) c => t.contractNodes n c new) t = some t'
  | [], t, t', hr => by cases hr; rfl
  | c :: cs, t, t', hr => by
    cases hr with
    | cons _ hstep hr1 =>
      have hc : t.contractNodes n c new = some _ := hstep
      simp only [List.foldlM_cons, hc, bind, Option.bind]
      exact contractNodes_fold_of_run hr1

theorem contractAllChildren_of_run {t t' : TTN} {n new : Id} {node : NodeS} (hn : t.N n = some node)
    (hr : TRun t (node.children.map (fun c => TOp.contract n c new)) t') :
    t.contractAllChildren n new = some t' := by
  have hn' : dget t.nodes n = some node := hn
  unfold TTN.contractAllChildren
  simp only [hn', bind, Option.bind]
  exact contractNodes_fold_of_run hr

theorem levelRun_sound (dim : Nat → Nat) (e : Label → Nat) {n : Id} {ids : TTN.TempIds} {kdim : Id → Nat}
    {pre : List TOp} {t t' : TTN} {g g' : LegMap} {v v' : VNet R} {es : List (Lr54Entry R)}
    (h : t.WF) (hl : t.LWF) (hv : v.WF) (hs : RSim dim e g t v)
    (hr : Lr54LevelRun dim e n ids kdim pre t g v es t' g' v') :
    t'.WF ∧ t'.LWF ∧ v'.WF ∧ RSim dim e g' t' v' ∧
    (pre = [.access n] → TTN.truncLoop1 t n ids kdim (es.map (·.c)) = some t') ∧
    Lr54Chain dim ids (fun σ => v.value dim σ) es (fun σ => v'.value dim σ) := by
  induction hr with
  | nil t g v => exact ⟨h, hl, hv, hs, fun _ => by simp [TTN.truncLoop1], .nil (fun _ => rfl)⟩
  | @cons t t0 t1 t2 t' g g0 g1 g2 g' v v0 v1 v2 v' c Pi rest hpre hid hdep hsp _ ih =>
    obtain ⟨run0, _, w0, l0, vw0, s0, _, val0⟩ := structural_history_preserves_value dim e h hl hv hs hpre
    obtain ⟨hins, w2, l2, vw2, s2, vw1, val1, hdelta, val2, _⟩ :=
      truncate_node_value dim e w0 l0 vw0 s0 hid hdep hsp
    obtain ⟨a1, a2, a3, a4, a5, a6⟩ := ih w2 l2 vw2 s2
    refine ⟨a1, a2, a3, a4, ?_, ?_⟩
    · intro hp
      subst hp
      obtain ⟨run1, _⟩ := structural_history_preserves_value dim e w0 l0 vw0 s0 hid
      obtain ⟨run2, _⟩ := structural_history_preserves_value dim e (step_wf w0 _ (by cases hid; assumption) (trun_one run1))
        ((structural_history_preserves_value dim e w0 l0 vw0 s0 hid).2.2.2.1) (setTens_wf vw1 hdep)
        (((structural_history_preserves_value dim e w0 l0 vw0 s0 hid).2.2.2.2.2.1).setTens _ Pi) hsp
      simp only [List.map_cons]
      rw [truncLoop1_cons_of_steps (trun_one run0) (trun_one run1) (trun_one run2)]
      exact a5 rfl
    · refine .cons (x := ⟨c, v0.next, Pi⟩) v1 vw1 (fun σ => (val1 σ).trans (val0 σ)) hdelta hdep ?_
      exact Lr54Chain.congr_left (fun σ => val2 σ) a6

end Ptn.C10
