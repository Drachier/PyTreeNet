import Ptn.C10.Value
/-! Value level: a RUN of projector insertions on different bonds of one flat network
(`recursive_truncation` visits every non-root node once and cuts the bond to its parent). -/
namespace Ptn.C10

open Ptn.Ein

set_option linter.unusedSectionVars false

/-- one projector insertion, seen from the flat network: old bond `(a, b)`, new legs `a'` (joined to `a`) and
`b'` (joined to `b`), and the matrix `Pm` on `(a', b')` -/
structure Ins (L R : Type) where
  a : L
  b : L
  a' : L
  b' : L
  Pm : Asg L → R

namespace Ins
variable {L R : Type}
def plain (i : Ins L R) : L × L := (i.a, i.b)
def cut (i : Ins L R) : List (L × L) := [(i.a, i.a'), (i.b', i.b)]
def legs (i : Ins L R) : List L := [i.a, i.b', i.a', i.b]
end Ins

section defs
variable {L : Type} [DecidableEq L] {R : Type}

/-- the binding record after the insertions `done`, before `todo`: `done` cut, `todo` still whole -/
def runBinds (bs : List (L × L)) (done todo : List (Ins L R)) : List (L × L) :=
  bs ++ (done.flatMap Ins.cut ++ todo.map Ins.plain)

def runLeaves (leaves : List (Asg L → R)) (done : List (Ins L R)) : List (Asg L → R) :=
  done.map Ins.Pm ++ leaves

def allLegs (bs : List (L × L)) (all : List (Ins L R)) : List L :=
  Expr.pairLegs bs ++ all.flatMap Ins.legs

variable [CommRing R]

def runValue (dim : L → Nat) (bs : List (L × L)) (leaves : List (Asg L → R))
    (done todo : List (Ins L R)) : Asg L → R :=
  netValue dim (runBinds bs done todo) (runLeaves leaves done)

/-- the network with the matrices of `done` on their bonds and `1 − Pm` on the bond of `i` -/
def stepDefect (dim : L → Nat) (bs : List (L × L)) (leaves : List (Asg L → R))
    (done : List (Ins L R)) (i : Ins L R) (todo : List (Ins L R)) : Asg L → R :=
  netValue dim (runBinds bs (done ++ [i]) todo)
    ((fun τ => deltaT i.a' i.b' τ - i.Pm τ) :: runLeaves leaves done)

def teleSum (dim : L → Nat) (bs : List (L × L)) (leaves : List (Asg L → R)) :
    List (Ins L R) → List (Ins L R) → Asg L → R
  | _, [], _ => 0
  | done, i :: todo, σ => stepDefect dim bs leaves done i todo σ + teleSum dim bs leaves (done ++ [i]) todo σ

end defs

section lemmas
variable {L : Type} [DecidableEq L] {R : Type}

theorem pairLegs_cuts (done : List (Ins L R)) :
    (Expr.pairLegs (done.flatMap Ins.cut)).Perm (done.flatMap Ins.legs) := by
  induction done with
  | nil => simp [Expr.pairLegs]
  | cons i ds ih =>
    simp only [List.flatMap_cons]
    exact (Expr.pairLegs_append _ _).trans (List.Perm.append_left _ ih)

theorem pairLegs_plains (todo : List (Ins L R)) :
    ∃ l : List L, l.Perm (Expr.pairLegs (todo.map Ins.plain)) ∧ l.Sublist (todo.flatMap Ins.legs) := by
  induction todo with
  | nil => exact ⟨[], by simp [Expr.pairLegs], by simp⟩
  | cons i ts ih =>
    obtain ⟨l, hp, hs⟩ := ih
    refine ⟨i.a :: i.b :: l, ?_, ?_⟩
    · simp only [List.map_cons]
      exact (((hp.cons i.b).cons i.a)).trans (pairLegs_cons_perm (i.a, i.b) _).symm
    · simp only [List.flatMap_cons, Ins.legs, List.cons_append, List.nil_append]
      exact (((hs.cons_cons i.b).cons i.a').cons i.b').cons_cons i.a

theorem runBinds_nodup (bs : List (L × L)) (done todo : List (Ins L R))
    (h : (allLegs bs (done ++ todo)).Nodup) : (Expr.pairLegs (runBinds bs done todo)).Nodup := by
  obtain ⟨l, hp, hs⟩ := pairLegs_plains todo
  have h1 : (Expr.pairLegs (runBinds bs done todo)).Perm
      (Expr.pairLegs bs ++ (done.flatMap Ins.legs ++ l)) := by
    unfold runBinds
    refine (Expr.pairLegs_append _ _).trans (List.Perm.append_left _ ?_)
    exact (Expr.pairLegs_append _ _).trans (List.Perm.append (pairLegs_cuts done) hp.symm)
  rw [h1.nodup_iff]
  refine List.Sublist.nodup ?_ h
  unfold allLegs
  rw [List.flatMap_append]
  exact List.Sublist.append (List.Sublist.refl _) (List.Sublist.append (List.Sublist.refl _) hs)

theorem allLegs_facts (bs : List (L × L)) (done : List (Ins L R)) (i : Ins L R) (todo : List (Ins L R))
    (h : (allLegs bs (done ++ i :: todo)).Nodup) :
    i.legs.Nodup ∧ ∀ j ∈ done, ∀ l ∈ j.legs, l ∉ i.legs := by
  unfold allLegs at h
  rw [List.flatMap_append, List.flatMap_cons] at h
  have h2 := (List.nodup_append.1 h).2.1
  have h3 := List.nodup_append.1 h2
  have h4 := List.nodup_append.1 h3.2.1
  refine ⟨h4.1, ?_⟩
  intro j hj l hl hli
  exact h3.2.2 l (List.mem_flatMap.2 ⟨j, hj, hl⟩) l (List.mem_append.2 (Or.inl hli)) rfl

end lemmas

section ring
variable {L : Type} [DecidableEq L] {R : Type} [CommRing R]

theorem run_step_delta (dim : L → Nat) (bs : List (L × L)) (leaves : List (Asg L → R))
    (done : List (Ins L R)) (i : Ins L R) (todo : List (Ins L R)) {S : L → Prop}
    (hleaves : ∀ f ∈ leaves, DependsOn S f) (ha' : ¬ S i.a') (hb' : ¬ S i.b')
    (hPm : ∀ j ∈ done, DependsOn (fun l => l = j.a' ∨ l = j.b') j.Pm)
    (hnd : (allLegs bs (done ++ i :: todo)).Nodup) (hdim : dim i.b' = dim i.a)
    (M : Asg L → R)
    (hM : ∀ τ : Asg L, τ i.a' < dim i.a → τ i.b' < dim i.b' → M τ = if τ i.a' = τ i.b' then 1 else 0)
    (σ : Asg L) :
    netValue dim (runBinds bs (done ++ [i]) todo) (M :: runLeaves leaves done) σ =
      runValue dim bs leaves done (i :: todo) σ := by
  -- permute both binding records so that the bond of `i` comes last, then `identity_matrix_value`
  obtain ⟨hin, hdis⟩ := allLegs_facts bs done i todo hnd
  simp only [Ins.legs, List.nodup_cons, List.mem_cons, List.not_mem_nil, not_or, or_false] at hin
  obtain ⟨⟨_, _, _⟩, ⟨hb'a', hb'b⟩, ha'b, _⟩ := hin
  have nd1 := runBinds_nodup bs done (i :: todo) hnd
  have nd2 := runBinds_nodup bs (done ++ [i]) todo (by simpa using hnd)
  have hb1 : (runBinds bs done (i :: todo)).Perm
      ((bs ++ (done.flatMap Ins.cut ++ todo.map Ins.plain)) ++ [(i.a, i.b)]) := by
    unfold runBinds
    simp only [List.map_cons, Ins.plain]
    exact (List.Perm.append_left bs List.perm_middle).trans
      (List.perm_middle.trans (List.perm_append_singleton _ _).symm)
  have hb2 : (runBinds bs (done ++ [i]) todo).Perm
      ((bs ++ (done.flatMap Ins.cut ++ todo.map Ins.plain)) ++ [(i.a, i.a'), (i.b', i.b)]) := by
    unfold runBinds
    simp only [List.flatMap_append, List.flatMap_cons, List.flatMap_nil, List.append_nil, Ins.cut]
    rw [List.append_assoc bs]
    apply List.Perm.append_left
    rw [List.append_assoc, List.append_assoc]
    exact List.Perm.append_left _ List.perm_append_comm
  have hRL : ∀ f ∈ runLeaves leaves done, DependsOn (fun l => l ≠ i.a' ∧ l ≠ i.b') f := by
    intro f hf
    rcases List.mem_append.1 hf with h | h
    · obtain ⟨j, hj, rfl⟩ := List.mem_map.1 h
      apply (hPm j hj).mono
      intro l hl
      have d1 := hdis j hj j.a' (by simp [Ins.legs])
      have d2 := hdis j hj j.b' (by simp [Ins.legs])
      simp only [Ins.legs, List.mem_cons, List.not_mem_nil, not_or, or_false] at d1 d2
      rcases hl with rfl | rfl
      · exact ⟨d1.2.2.1, d1.2.1⟩
      · exact ⟨d2.2.2.1, d2.2.1⟩
    · apply (hleaves f h).mono
      intro l hl
      exact ⟨fun e => ha' (e ▸ hl), fun e => hb' (e ▸ hl)⟩
  unfold runValue
  rw [netValue_perm dim hb1 nd1 (List.Perm.refl _),
    netValue_perm dim hb2 nd2 (List.Perm.refl _)]
  exact identity_matrix_value dim _ M (runLeaves leaves done) i.a i.b i.a' i.b' hRL
    (fun h => h.1 rfl) (fun h => h.2 rfl) (Ne.symm hb'a') ha'b hb'b hdim hM σ

theorem runValue_snoc (dim : L → Nat) (bs : List (L × L)) (leaves : List (Asg L → R))
    (done : List (Ins L R)) (i : Ins L R) (todo : List (Ins L R)) (σ : Asg L) :
    runValue dim bs leaves (done ++ [i]) todo σ =
      netValue dim (runBinds bs (done ++ [i]) todo) (i.Pm :: runLeaves leaves done) σ := by
  unfold runValue
  apply netValue_perm_leaves
  unfold runLeaves
  simp only [List.map_append, List.map_cons, List.map_nil, List.append_assoc, List.cons_append,
    List.nil_append]
  exact List.perm_middle

theorem run_step (dim : L → Nat) (bs : List (L × L)) (leaves : List (Asg L → R))
    (done : List (Ins L R)) (i : Ins L R) (todo : List (Ins L R)) {S : L → Prop}
    (hleaves : ∀ f ∈ leaves, DependsOn S f) (ha' : ¬ S i.a') (hb' : ¬ S i.b')
    (hPm : ∀ j ∈ done, DependsOn (fun l => l = j.a' ∨ l = j.b') j.Pm)
    (hnd : (allLegs bs (done ++ i :: todo)).Nodup) (hdim : dim i.b' = dim i.a) (σ : Asg L) :
    runValue dim bs leaves done (i :: todo) σ - runValue dim bs leaves (done ++ [i]) todo σ =
      stepDefect dim bs leaves done i todo σ := by
  unfold stepDefect
  rw [netValue_sub_head, runValue_snoc,
    run_step_delta dim bs leaves done i todo hleaves ha' hb' hPm hnd hdim (deltaT i.a' i.b')
      (fun τ _ _ => rfl) σ]

theorem runValue_telescope (dim : L → Nat) (bs : List (L × L)) (leaves : List (Asg L → R))
    (all : List (Ins L R)) {S : L → Prop}
    (hleaves : ∀ f ∈ leaves, DependsOn S f) (hS : ∀ i ∈ all, ¬ S i.a' ∧ ¬ S i.b')
    (hPm : ∀ i ∈ all, DependsOn (fun l => l = i.a' ∨ l = i.b') i.Pm)
    (hnd : (allLegs bs all).Nodup) (hdim : ∀ i ∈ all, dim i.b' = dim i.a) (σ : Asg L) :
    ∀ (todo done : List (Ins L R)), done ++ todo = all →
      runValue dim bs leaves done todo σ - runValue dim bs leaves all [] σ = teleSum dim bs leaves done todo σ
  | [], done, h => by
    rw [List.append_nil] at h
    subst h
    simp [teleSum]
  | i :: todo, done, h => by
    have hi : i ∈ all := by rw [← h]; simp
    have ih := runValue_telescope dim bs leaves all hleaves hS hPm hnd hdim σ todo (done ++ [i]) (by simpa using h)
    have st := run_step dim bs leaves done i todo hleaves (hS i hi).1 (hS i hi).2
      (fun j hj => hPm j (by rw [← h]; simp [hj])) (by rw [h]; exact hnd) (hdim i hi) σ
    rw [teleSum, ← st, ← ih]
    ring

/-- **Telescoping of a run of projector insertions (value level).**  `all` is the list of insertions in the
order they are made (for `recursive_truncation`: `truncOrder`), each on its own bond `(a, b)` of the flat
network with leaves `leaves` and other bonds `bs`, each putting a matrix `Pm` (on two fresh legs) on its bond.
Over every commutative ring, for all dimensions and every assignment of the open legs: the value of the
original network minus the value of the network after ALL insertions is the sum over the steps `t` of the
network in which the bonds of the steps before `t` carry their matrices, the bond of step `t` carries
`1 − Pm_t`, and the bonds of the later steps are untouched.  (Each summand is what `projector_linear_value`
describes; bounding it in norm is `general_step_bound`, adding the bounds is `trunc_error_telescoping`.) -/
theorem recursive_truncation_value_telescope (dim : L → Nat) (bs : List (L × L))
    (leaves : List (Asg L → R)) (all : List (Ins L R)) {S : L → Prop}
    (hleaves : ∀ f ∈ leaves, DependsOn S f) (hS : ∀ i ∈ all, ¬ S i.a' ∧ ¬ S i.b')
    (hPm : ∀ i ∈ all, DependsOn (fun l => l = i.a' ∨ l = i.b') i.Pm)
    (hnd : (allLegs bs all).Nodup) (hdim : ∀ i ∈ all, dim i.b' = dim i.a) (σ : Asg L) :
    netValue dim (bs ++ all.map Ins.plain) leaves σ
        - netValue dim (bs ++ all.flatMap Ins.cut) (all.map Ins.Pm ++ leaves) σ =
      teleSum dim bs leaves [] all σ := by
  have := runValue_telescope dim bs leaves all hleaves hS hPm hnd hdim σ all [] rfl
  simpa [runValue, runBinds, runLeaves] using this

theorem runValue_identity (dim : L → Nat) (bs : List (L × L)) (leaves : List (Asg L → R))
    (all : List (Ins L R)) {S : L → Prop}
    (hleaves : ∀ f ∈ leaves, DependsOn S f) (hS : ∀ i ∈ all, ¬ S i.a' ∧ ¬ S i.b')
    (hPm : ∀ i ∈ all, DependsOn (fun l => l = i.a' ∨ l = i.b') i.Pm)
    (hnd : (allLegs bs all).Nodup) (hdim : ∀ i ∈ all, dim i.b' = dim i.a)
    (hid : ∀ i ∈ all, ∀ τ : Asg L, τ i.a' < dim i.a → τ i.b' < dim i.b' →
      i.Pm τ = if τ i.a' = τ i.b' then 1 else 0) (σ : Asg L) :
    ∀ (todo done : List (Ins L R)), done ++ todo = all →
      runValue dim bs leaves done todo σ = runValue dim bs leaves all [] σ
  | [], done, h => by
    rw [List.append_nil] at h
    subst h
    rfl
  | i :: todo, done, h => by
    have hi : i ∈ all := by rw [← h]; simp
    have ih := runValue_identity dim bs leaves all hleaves hS hPm hnd hdim hid σ todo (done ++ [i])
      (by simpa using h)
    rw [← ih, runValue_snoc]
    exact (run_step_delta dim bs leaves done i todo hleaves (hS i hi).1 (hS i hi).2
      (fun j hj => hPm j (by rw [← h]; simp [hj])) (by rw [h]; exact hnd) (hdim i hi) i.Pm (hid i hi) σ).symm

/-- the identity clause for the whole run: if every inserted matrix is the identity on the index range of
its bond, the value of the network is unchanged by the whole run -/
theorem recursive_truncation_identity_value (dim : L → Nat) (bs : List (L × L))
    (leaves : List (Asg L → R)) (all : List (Ins L R)) {S : L → Prop}
    (hleaves : ∀ f ∈ leaves, DependsOn S f) (hS : ∀ i ∈ all, ¬ S i.a' ∧ ¬ S i.b')
    (hPm : ∀ i ∈ all, DependsOn (fun l => l = i.a' ∨ l = i.b') i.Pm)
    (hnd : (allLegs bs all).Nodup) (hdim : ∀ i ∈ all, dim i.b' = dim i.a)
    (hid : ∀ i ∈ all, ∀ τ : Asg L, τ i.a' < dim i.a → τ i.b' < dim i.b' →
      i.Pm τ = if τ i.a' = τ i.b' then 1 else 0) (σ : Asg L) :
    netValue dim (bs ++ all.flatMap Ins.cut) (all.map Ins.Pm ++ leaves) σ =
      netValue dim (bs ++ all.map Ins.plain) leaves σ := by
  have := runValue_identity dim bs leaves all hleaves hS hPm hnd hdim hid σ all [] rfl
  simpa [runValue, runBinds, runLeaves] using this.symm

end ring

end Ptn.C10
