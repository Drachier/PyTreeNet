import Ptn.C02.SimComposite
/-! Value level: the local update "replace the tensor of one node".  `truncate_node_value_partial` (`Props.lean`) states it
with `tv37WithTens`, which is `Ptn.C02.setTens`; its facts are those of `setTens` (section `withTens`; `tv37` in the names
is a label without meaning).  Then: `setTens` COMMUTES with every simulated step that does not touch the updated node:
the same structural states and leg maps, for a split the same factors.  No other file uses the commutation: the split of
the identity node consumes the updated node, so the flat form of a level (`LevelFlat.lean`) merges the projector pair back
instead.  (`St62`/`st62` in the names are labels without meaning.) -/
namespace Ptn.C10

section withTens
open Ptn.C02 Ptn.C03 Ptn.Ein

variable {R : Type} [CommSemiring R]

def tv37WithTens (N : VNet R) (i : Nat) (A : Asg Nat → R) : VNet R :=
  { N with tens := fun k => if k = i then A else N.tens k }

theorem tv37_withTens_wf {N : VNet R} (h : N.WF) {i : Nat} {A : Asg Nat → R}
    (hA : DependsOn (· ∈ N.legs i) A) : (tv37WithTens N i A).WF :=
  setTens_wf h hA

/-- the abstraction relation does not look at the tensors -/
theorem withTens_rsim {dim : Nat → Nat} {e : Label → Nat} {g : LegMap} {t : TTN} {N : VNet R}
    (hs : RSim dim e g t N) (i : Nat) (A : Asg Nat → R) : RSim dim e g t (tv37WithTens N i A) :=
  hs.setTens i A

end withTens

open Ptn.C02 Ptn.C03 Ptn.Ein NodeS

set_option linter.unusedSectionVars false
variable {R : Type} [CommSemiring R]

/-- the operation neither consumes nor creates the node `k` (reading it is allowed) -/
def St62Untouched : TOp → Id → Prop
  | .root id _, k => k ≠ id
  | .child id _ _ _ _, k => k ≠ id
  | .access _, _ => True
  | .rtp _ _, _ => True
  | .contract a b n, k => k ≠ a ∧ k ≠ b ∧ k ≠ n
  | .split id _ _ o i _, k => k ≠ id ∧ k ≠ o ∧ k ≠ i
  | .ident _ _ n, k => k ≠ n
  | .rename n o, k => k ≠ n ∧ k ≠ o

/- Each step writes the tensors at one or two fresh keys and leaves `ids`, `legs`, `bonds`, `next` alone, so it commutes
with a write at another key `k`: `ite_ite_comm` on the two pointwise updates. -/
theorem contractStep_setTens (dim : Nat → Nat) (v : VNet R) (k : Nat) (X : Asg Nat → R) (n m new : Nat) (p : Nat × Nat)
    (a b : Nat) (hn : k ≠ n) (hm : k ≠ m) (hnew : k ≠ new) :
    contractStep dim (setTens v k X) n m new p a b = setTens (contractStep dim v n m new p a b) k X := by
  unfold contractStep setTens
  congr 1
  funext j
  simp only [if_neg hn.symm, if_neg hm.symm]
  exact ite_ite_comm _ _ _ _ fun h1 h2 => hnew (h2 ▸ h1)

theorem identStep_setTens (v : VNet R) (k : Nat) (X : Asg Nat → R) (p : Nat × Nat) (new : Nat) (hnew : k ≠ new) :
    identStep (setTens v k X) p new = setTens (identStep v p new) k X := by
  unfold identStep setTens
  congr 1
  funext j
  exact ite_ite_comm _ _ _ _ fun h1 h2 => hnew (h2 ▸ h1)

theorem renameStep_setTens (v : VNet R) (k : Nat) (X : Asg Nat → R) (old new : Nat) (hnew : k ≠ new) (hold : k ≠ old) :
    renameStep (setTens v k X) old new = setTens (renameStep v old new) k X := by
  unfold renameStep setTens
  congr 1
  funext j
  simp only [if_neg hold.symm]
  exact ite_ite_comm _ _ _ _ fun h1 h2 => hnew (h2 ▸ h1)

theorem st62_reLeg (v : VNet R) (k : Nat) (X : Asg Nat → R) (L : Nat → List Nat) :
    reLeg (setTens v k X) L = setTens (reLeg v L) k X := rfl

def splitFact_setTens {dim : Nat → Nat} {v : VNet R} {id : Nat} {oL iL : List Nat} {q r : Nat} (k : Nat) (X : Asg Nat → R)
    (hk : k ≠ id) (F : SplitFact dim (v.tens id) oL iL q r) : SplitFact dim ((setTens v k X).tens id) oL iL q r where
  O := F.O
  I := F.I
  exact := by
    intro τ
    have : (setTens v k X).tens id = v.tens id := by simp [setTens, Ne.symm hk]
    rw [this]
    exact F.exact τ
  readsO := F.readsO
  readsI := F.readsI

theorem splitStep_setTens (dim : Nat → Nat) (v : VNet R) (k : Nat) (X : Asg Nat → R) (id out inn : Nat)
    (oL iL : List Nat) (F : SplitFact dim (v.tens id) oL iL v.next (v.next + 1))
    (hid : k ≠ id) (ho : k ≠ out) (hi : k ≠ inn) :
    splitStep dim (setTens v k X) id out inn oL iL (splitFact_setTens k X hid F) =
      setTens (splitStep dim v id out inn oL iL F) k X := by
  unfold splitStep setTens splitFact_setTens
  congr 1
  funext j
  dsimp only
  rw [ite_ite_comm (j = inn) (j = k) _ _ fun h1 h2 => hi (h2 ▸ h1)]
  exact ite_ite_comm _ _ _ _ fun h1 h2 => ho (h2 ▸ h1)

theorem ne_of_cfg {k pid cid id1 id2 : Nat} (hcfg : (pid = id1 ∧ cid = id2) ∨ (pid = id2 ∧ cid = id1))
    (k1 : k ≠ id1) (k2 : k ≠ id2) : k ≠ pid ∧ k ≠ cid := by
  rcases hcfg with ⟨rfl, rfl⟩ | ⟨rfl, rfl⟩
  · exact ⟨k1, k2⟩
  · exact ⟨k2, k1⟩

theorem setTens_commutes_simstep (dim : Nat → Nat) (e : Label → Nat) {t t1 : TTN} {g g1 : LegMap} {v v1 : VNet R}
    {op : TOp} (k : Nat) (X : Asg Nat → R) (hk : St62Untouched op k)
    (hst : SimStep dim e t g v op t1 g1 v1) :
    SimStep dim e t g (setTens v k X) op t1 g1 (setTens v1 k X) := by
  cases hst with
  | access hstep => exact .access hstep
  | rtp hstep => exact .rtp hstep
  | contract hstep hcfg hC hCp hp hpab =>
    obtain ⟨k1, k2, k3⟩ := hk
    have hpc := ne_of_cfg hcfg k1 k2
    have := SimStep.contract (dim := dim) (e := e) (v := setTens v k X) hstep hcfg hC hCp hp hpab
    unfold simContract at this ⊢
    rw [contractStep_setTens dim v k X _ _ _ _ _ _ hpc.1 hpc.2 k3] at this
    exact this
  | split F hstep hdim =>
    obtain ⟨k1, k2, k3⟩ := hk
    have := SimStep.split (dim := dim) (e := e) (v := setTens v k X) (splitFact_setTens k X k1 F) hstep hdim
    unfold simSplit at this ⊢
    rw [splitStep_setTens dim v k X _ _ _ _ _ F k1 k2 k3] at this
    exact this
  | ident hstep hp hpab hdim =>
    have := SimStep.ident (dim := dim) (e := e) (v := setTens v k X) hstep hp hpab hdim
    unfold simIdent at this ⊢
    rw [identStep_setTens v k X _ _ hk] at this
    exact this
  | rename hstep =>
    have := SimStep.rename (dim := dim) (e := e) (g := g) (v := setTens v k X) hstep
    unfold simRename at this ⊢
    rw [renameStep_setTens v k X _ _ hk.1 hk.2] at this
    exact this

theorem setTens_commutes_simrun (dim : Nat → Nat) (e : Label → Nat) {t t' : TTN} {g g' : LegMap} {v v' : VNet R}
    {ops : List TOp} (k : Nat) (X : Asg Nat → R) (hk : ∀ op ∈ ops, St62Untouched op k)
    (hr : SimRun dim e t g v ops t' g' v') :
    SimRun dim e t g (setTens v k X) ops t' g' (setTens v' k X) := by
  induction hr with
  | nil t g v => exact .nil _ _ _
  | cons hadm hst _ ih =>
    exact .cons hadm (setTens_commutes_simstep dim e k X (hk _ List.mem_cons_self) hst)
      (ih (fun op hop => hk op (List.mem_cons_of_mem _ hop)))

end Ptn.C10
