import Ptn.C10.Value
import Ptn.C10.SvdProjector
/-! The projector pair of `recursive_truncation` on the NETWORK: if the node tensor `A` absorbs the bond matrix
(`Σ_i Π[i, j] · A[a = i] = A[a = j]`: `Π` is the identity on the range of the matricised `A`), inserting the pair on the
bond leaves the value of the whole network unchanged - also when `Π` is not the identity matrix. -/
namespace Ptn.C10

open Finset Ptn.Ein

section semiring
variable {L : Type} [DecidableEq L] {R : Type} [CommSemiring R]

/-- **A matrix on a bond can be multiplied into one of the two neighbouring tensors** (`A' = Pm · A` along the leg `a`;
when `A` absorbs the matrix, `A' = A`, it can be removed).  `Pm` sits on the bond (legs `a'`, `b'`, joined to `a` and
`b`); `A` is the tensor that owns the leg `a`; `G` is everything else (it reads none of `a`, `a'`, `b'`). -/
theorem sumPairs_absorb (dim : L → Nat) (a b a' b' : L) (Pm A G : Asg L → R) {A' : Asg L → R} {S SA : L → Prop}
    (hG : DependsOn S G) (hGa : ¬ S a) (hGa' : ¬ S a') (hGb' : ¬ S b')
    (hA : DependsOn SA A) (hAa' : ¬ SA a') (hAb' : ¬ SA b')
    (hPm : DependsOn (fun l => l = a' ∨ l = b') Pm)
    (hnd : [a, b, a', b'].Nodup) (hdim : dim b' = dim a)
    (habs : ∀ (τ : Asg L) (j : Nat), j < dim a →
      sumR (dim a) (fun i => Pm (upd (upd τ a' i) b' j) * A (upd τ a i)) = A' (upd τ a j)) (τ : Asg L) :
    sumPairs dim [(a, a'), (b', b)] (fun ρ => Pm ρ * (A ρ * G ρ)) τ =
      sumPairs dim [(a, b)] (fun ρ => A' ρ * G ρ) τ := by
  simp only [List.nodup_cons, List.mem_cons, List.not_mem_nil, not_or, or_false] at hnd
  obtain ⟨⟨hab, haa', hab'⟩, ⟨hba', hbb'⟩, ha'b', _⟩ := hnd
  simp only [sumPairs, sumR_eq]
  have key : ∀ i ∈ range (dim a), ∀ j ∈ range (dim b'),
      Pm (upd (upd (upd (upd τ a i) a' i) b' j) b j) *
        (A (upd (upd (upd (upd τ a i) a' i) b' j) b j) * G (upd (upd (upd (upd τ a i) a' i) b' j) b j)) =
      (Pm (upd (upd (upd τ b j) a' i) b' j) * A (upd (upd τ b j) a i)) * G (upd τ b j) := by
    intro i _ j _
    have e1 : Pm (upd (upd (upd (upd τ a i) a' i) b' j) b j) = Pm (upd (upd (upd τ b j) a' i) b' j) := by
      apply hPm
      rintro l (rfl | rfl)
      · simp [upd, ha'b', Ne.symm hba']
      · simp [upd, Ne.symm hbb']
    have e2 : A (upd (upd (upd (upd τ a i) a' i) b' j) b j) = A (upd (upd τ b j) a i) := by
      apply hA
      intro l hl
      have l1 : l ≠ a' := fun e => hAa' (e ▸ hl)
      have l2 : l ≠ b' := fun e => hAb' (e ▸ hl)
      by_cases la : l = a
      · subst la; simp [upd, hab, haa', hab']
      · by_cases lb : l = b
        · subst lb; simp [upd, la]
        · simp [upd, la, lb, l1, l2]
    have e3 : G (upd (upd (upd (upd τ a i) a' i) b' j) b j) = G (upd τ b j) := by
      apply hG
      intro l hl
      have l1 : l ≠ a' := fun e => hGa' (e ▸ hl)
      have l2 : l ≠ b' := fun e => hGb' (e ▸ hl)
      have l3 : l ≠ a := fun e => hGa (e ▸ hl)
      by_cases lb : l = b
      · simp [upd, lb]
      · simp [upd, lb, l1, l2, l3]
    rw [e1, e2, e3, mul_assoc]
  rw [sum_congr rfl (fun i hi => sum_congr rfl (key i hi)), sum_comm, hdim]
  apply sum_congr rfl
  intro j hj
  rw [← sum_mul]
  have := habs (upd τ b j) j (mem_range.1 hj)
  rw [sumR_eq] at this
  rw [this, upd_comm _ (Ne.symm hab)]
  congr 1
  apply hG
  intro l hl
  have l3 : l ≠ a := fun e => hGa (e ▸ hl)
  by_cases lb : l = b
  · simp [upd, lb]
  · simp [upd, lb, l3]

theorem projMat_dependsOn (dim : L → Nat) (P Pc : Asg L → R) (a' b' k k' : L)
    (hP : DependsOn (fun l => l = a' ∨ l = k) P) (hPc : DependsOn (fun l => l = k' ∨ l = b') Pc) :
    DependsOn (fun l => l = a' ∨ l = b') (projMat dim P Pc k k') := by
  have h1 : DependsOn (fun l => (l = a' ∨ l = b') ∨ l = k ∨ l = k') (fun ρ => P ρ * Pc ρ) :=
    (hP.mono (fun l hl => hl.elim (fun h => .inl (.inl h)) (fun h => .inr (.inl h)))).mul
      (hPc.mono (fun l hl => hl.elim (fun h => .inr (.inr h)) (fun h => .inl (.inr h))))
  refine (sumPairs_dependsOn dim [(k, k')] h1).mono ?_
  rintro l ⟨h | h, hn⟩
  · exact h
  · exact absurd (show l ∈ [k, k'] from List.mem_cons.2 (h.imp_right List.mem_singleton.2)) hn

/-- **The projector pair on the network when the node tensor absorbs `Π`.**  `A` is the tensor of the node (it owns
the leg `a` of the bond `(a, b)`); `leaves` are all other tensors; `bs` all other bonds.  If
`Σ_i Π[i, j] · A[a = i] = A[a = j]` for every index `j` of the bond and every assignment of the other legs (`Π` is
the identity on the range of the matricised `A` - e.g. `P`, `Pc` from the SVD of `A` with ALL singular vectors
kept, `svd_projector_value`), then replacing the bond by `A — P — Pc — B` leaves the value of the whole network
unchanged.  `Π` need not be the identity matrix (`U` with fewer columns than rows). -/
theorem svd_projector_absorbed_value (dim : L → Nat) (bs : List (L × L)) (P Pc A : Asg L → R)
    (leaves : List (Asg L → R)) (a b a' b' k k' : L) {S SA : L → Prop}
    (hleaves : ∀ f ∈ leaves, DependsOn S f)
    (hSa : ¬ S a) (hSa' : ¬ S a') (hSb' : ¬ S b') (hSk : ¬ S k) (hSk' : ¬ S k')
    (hA : DependsOn SA A) (hAa' : ¬ SA a') (hAb' : ¬ SA b') (hAk : ¬ SA k) (hAk' : ¬ SA k')
    (hP : DependsOn (fun l => l = a' ∨ l = k) P) (hPc : DependsOn (fun l => l = k' ∨ l = b') Pc)
    (hnd : [a, b, a', b', k, k'].Nodup) (hdim : dim b' = dim a)
    (habs : ∀ (τ : Asg L) (j : Nat), j < dim a →
      sumR (dim a) (fun i => projMat dim P Pc k k' (upd (upd τ a' i) b' j) * A (upd τ a i)) = A (upd τ a j))
    (σ : Asg L) :
    netValue dim (bs ++ [(a, a'), (k, k'), (b', b)]) (P :: Pc :: A :: leaves) σ =
      netValue dim (bs ++ [(a, b)]) (A :: leaves) σ := by
  have hnd' := hnd
  simp only [List.nodup_cons, List.mem_cons, List.not_mem_nil, not_or, or_false] at hnd'
  obtain ⟨_, ⟨_, _, hbk, hbk'⟩, _, ⟨hb'k, hb'k'⟩, _⟩ := hnd'
  have hall : ∀ f ∈ A :: leaves, DependsOn (fun l => S l ∨ SA l) f := by
    intro f hf
    rcases List.mem_cons.1 hf with rfl | hf
    · exact hA.mono (fun l hl => Or.inr hl)
    · exact (hleaves f hf).mono (fun l hl => Or.inl hl)
  rw [projector_matrix_value dim bs P Pc (A :: leaves) a b a' b' k k' hall
    (by rintro (h | h); exact hSk h; exact hAk h) (by rintro (h | h); exact hSk' h; exact hAk' h)
    (Ne.symm hb'k) (Ne.symm hbk) (Ne.symm hb'k') (Ne.symm hbk') σ]
  unfold netValue
  rw [sumPairs_append, sumPairs_append]
  apply sumPairs_congr
  intro τ
  simp only [List.map_cons, prodL]
  exact sumPairs_absorb dim a b a' b' (projMat dim P Pc k k') A _ (prodL_dependsOn leaves hleaves) hSa hSa' hSb'
    hA hAa' hAb' (projMat_dependsOn dim P Pc a' b' k k' hP hPc)
    (hnd.sublist (List.sublist_append_left [a, b, a', b'] [k, k']))
    hdim habs τ

theorem projMat_svd (dim : L → Nat) (U Uc : ℕ → ℕ → R) (a' b' k k' : L)
    (hnd : [a', b', k, k'].Nodup) (τ : Asg L) :
    projMat dim (fun ρ => Uc (ρ a') (ρ k)) (fun ρ => U (ρ b') (ρ k')) k k' τ =
      svdPi (dim k) U Uc (τ a') (τ b') := by
  simp only [List.nodup_cons, List.mem_cons, List.not_mem_nil, not_or, or_false] at hnd
  obtain ⟨⟨ha'b', ha'k, ha'k'⟩, ⟨hb'k, hb'k'⟩, hkk', _⟩ := hnd
  unfold projMat svdPi
  simp only [sumPairs, sumR_eq]
  apply sum_congr rfl
  intro q _
  simp [upd, ha'k, ha'k', hb'k, hb'k', hkk']

/-- **The library's projector pair with nothing discarded leaves the network unchanged** (value level, all sizes,
any commutative semiring, `U` square or not).  GIVEN the SVD contract of the node tensor `A`, matricised with the
leg `a` of the bond as rows, in index form - `A[a = x, rest] = Σ_{j<r} U[x, j] · s[j] · V[j, rest]` and
`Σ_x Uc[x, i] · U[x, j] = δ_ij` (orthonormal columns; `Uc` the conjugate) - the pair
`P = projector.conj() = Uc[a', k]`, `Pc = projector.T = U[b', k']` with ALL `r = dim k` columns kept, inserted on the
bond `(a, b)` as `A — P — Pc — B`, does not change the value of the network, for every assignment of the open legs,
whatever the rest of the network is. -/
theorem svd_projector_full_value (dim : L → Nat) (bs : List (L × L)) (U Uc : ℕ → ℕ → R) (s : ℕ → R)
    (V : ℕ → Asg L → R) (A : Asg L → R) (leaves : List (Asg L → R)) (a b a' b' k k' : L) {S SA : L → Prop}
    (hleaves : ∀ f ∈ leaves, DependsOn S f)
    (hSa : ¬ S a) (hSa' : ¬ S a') (hSb' : ¬ S b') (hSk : ¬ S k) (hSk' : ¬ S k')
    (hA : DependsOn SA A) (hAa' : ¬ SA a') (hAb' : ¬ SA b') (hAk : ¬ SA k) (hAk' : ¬ SA k')
    (hnd : [a, b, a', b', k, k'].Nodup) (hdim : dim b' = dim a)
    (hsvd : ∀ (τ : Asg L) (x : ℕ), x < dim a → A (upd τ a x) = ∑ j ∈ range (dim k), U x j * s j * V j τ)
    (hU : ∀ i j, i < dim k → j < dim k → ∑ x ∈ range (dim a), Uc x i * U x j = if i = j then 1 else 0)
    (σ : Asg L) :
    netValue dim (bs ++ [(a, a'), (k, k'), (b', b)])
        ((fun ρ => Uc (ρ a') (ρ k)) :: (fun ρ => U (ρ b') (ρ k')) :: A :: leaves) σ =
      netValue dim (bs ++ [(a, b)]) (A :: leaves) σ := by
  have hnd' := hnd
  simp only [List.nodup_cons, List.mem_cons, List.not_mem_nil, not_or, or_false] at hnd'
  obtain ⟨_, _, ⟨ha'b', _⟩, _⟩ := hnd'
  refine svd_projector_absorbed_value dim bs _ _ A leaves a b a' b' k k' hleaves hSa hSa' hSb' hSk hSk'
    hA hAa' hAb' hAk hAk' ?_ ?_ hnd hdim ?_ σ
  · intro ρ₁ ρ₂ h
    show Uc (ρ₁ a') (ρ₁ k) = Uc (ρ₂ a') (ρ₂ k)
    rw [h a' (Or.inl rfl), h k (Or.inr rfl)]
  · intro ρ₁ ρ₂ h
    show U (ρ₁ b') (ρ₁ k') = U (ρ₂ b') (ρ₂ k')
    rw [h b' (Or.inr rfl), h k' (Or.inl rfl)]
  · intro τ j hj
    have e : ∀ i, projMat dim (fun ρ => Uc (ρ a') (ρ k)) (fun ρ => U (ρ b') (ρ k')) k k'
        (upd (upd τ a' i) b' j) = svdPi (dim k) U Uc i j := by
      intro i
      rw [projMat_svd dim U Uc a' b' k k' (hnd.sublist (List.sublist_append_right [a, b] [a', b', k, k']))]
      simp [upd, ha'b']
    simp only [e, sumR_eq]
    have := svdPi_mul_full (dim a) (dim k) (fun x c => A (upd c a x)) U Uc s V (fun x c hx => hsvd c x hx) hU τ j hj
    rw [← this]
    exact sum_congr rfl (fun i _ => mul_comm _ _)

end semiring

end Ptn.C10
