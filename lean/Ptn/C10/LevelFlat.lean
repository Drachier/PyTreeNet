import Ptn.C10.LevelRun
import Ptn.C10.ValueRun
/-! Value level: the FLAT form of projector insertions on a valued network, without the tree.

One insertion on the bond `p` of `v` (`InsStep`): the bond is cut into `(p.1, a')`, `(b', p.2)` with the fresh labels
`a' = v.next`, `b' = v.next + 1`, and the matrix `Π` stands on `(a', b')` as the projector pair `O`, `I` over the bond
`(v.next + 2, v.next + 3)`.  For a chain of such steps (`InsChain`: one level of `truncate_node`) the value at the end is
the value of the network at the START with every bond of the chain cut and carrying its matrix - the record
`bs ++ all.flatMap Ins.cut`, `all.map Ins.Pm ++ leaves` of `recursive_truncation_value_telescope` (`InsChain.flat`).
(`lf62` in `lf62Ins`, `lf62Erase` is a label without meaning.) -/
namespace Ptn.C10
open Ptn.C02 Ptn.C03 Ptn.Ein NodeS

set_option linter.unusedSectionVars false
variable {R : Type} [CommSemiring R]

def lf62Ins (v : VNet R) (p : Nat × Nat) (Pi : Asg Nat → R) : Ins Nat R := ⟨p.1, p.2, v.next, v.next + 1, Pi⟩

def lf62Erase (B : List (Nat × Nat)) (ins : List (Ins Nat R)) : List (Nat × Nat) :=
  ins.foldl (fun B i => B.erase i.plain) B

theorem lf62Erase_append (Z : List (Nat × Nat)) : ∀ (ins : List (Ins Nat R)) (B : List (Nat × Nat)),
    (∀ i ∈ ins, i.plain ∉ Z) → lf62Erase (B ++ Z) ins = lf62Erase B ins ++ Z
  | [], B, _ => rfl
  | i :: r, B, hZ => by
    have hi : i.plain ∉ Z := hZ i List.mem_cons_self
    have : (B ++ Z).erase i.plain = B.erase i.plain ++ Z := by
      rw [List.erase_append]
      split
      · rfl
      · rename_i hB
        rw [List.erase_of_not_mem hi, List.erase_of_not_mem hB]
    show lf62Erase ((B ++ Z).erase i.plain) r = lf62Erase (B.erase i.plain) r ++ Z
    rw [this]
    exact lf62Erase_append Z r _ (fun j hj => hZ j (List.mem_cons_of_mem _ hj))

/-- every insertion cuts a bond that is still there after the earlier ones -/
def CutsIn : List (Nat × Nat) → List (Ins Nat R) → Prop
  | _, [] => True
  | B, i :: r => i.plain ∈ B ∧ CutsIn (B.erase i.plain) r

theorem CutsIn.of_append (Z : List (Nat × Nat)) : ∀ (ins : List (Ins Nat R)) (B : List (Nat × Nat)),
    CutsIn (B ++ Z) ins → (∀ i ∈ ins, i.plain ∉ Z) → CutsIn B ins
  | [], _, _, _ => trivial
  | i :: r, B, hm, hZ => by
    obtain ⟨h1, h2⟩ := hm
    have hB : i.plain ∈ B := by
      rcases List.mem_append.1 h1 with h | h
      · exact h
      · exact absurd h (hZ i List.mem_cons_self)
    refine ⟨hB, ?_⟩
    rw [List.erase_append_left _ hB] at h2
    exact CutsIn.of_append Z r _ h2 (fun j hj => hZ j (List.mem_cons_of_mem _ hj))

theorem CutsIn.perm : ∀ {ins : List (Ins Nat R)} {B : List (Nat × Nat)},
    CutsIn B ins → B.Perm (lf62Erase B ins ++ ins.map Ins.plain)
  | [], B, _ => by simp [lf62Erase]
  | i :: r, B, hm => by
    obtain ⟨h1, h2⟩ := hm
    exact (List.perm_cons_erase h1).trans (((CutsIn.perm h2).cons i.plain).trans List.perm_middle.symm)

theorem CutsIn.mem {ins : List (Ins Nat R)} {B : List (Nat × Nat)} (h : CutsIn B ins) : ∀ i ∈ ins, i.plain ∈ B :=
  fun _ hi => h.perm.symm.subset (List.mem_append_right _ (List.mem_map_of_mem hi))

theorem sumPairs_bond_last (dim : Nat → Nat) (q r : Nat) (f : Asg Nat → R) :
    ∀ (cs : List (Nat × Nat)), (∀ c ∈ cs, q ≠ c.1 ∧ q ≠ c.2 ∧ r ≠ c.1 ∧ r ≠ c.2) →
      ∀ σ, sumPairs dim ((q, r) :: cs) f σ = sumPairs dim (cs ++ [(q, r)]) f σ
  | [], _, σ => rfl
  | c :: cs, hc, σ => by
    obtain ⟨c1, c2, c3, c4⟩ := hc c List.mem_cons_self
    rw [sumPairs_swap dim (q, r) c cs f σ c1 c2 c3 c4]
    have e1 := sumPairs_append dim [c] ((q, r) :: cs) f σ
    have e2 := sumPairs_append dim [c] (cs ++ [(q, r)]) f σ
    simp only [List.cons_append, List.nil_append] at e1 e2
    rw [e1]
    exact (sumPairs_congr dim [c]
      (fun τ => sumPairs_bond_last dim q r f cs (fun d hd => hc d (List.mem_cons_of_mem _ hd)) τ) σ).trans e2.symm

theorem netValue_bond_last (dim : Nat → Nat) (q r : Nat) (E cs : List (Nat × Nat)) (ls : List (Asg Nat → R))
    (hc : ∀ c ∈ cs, q ≠ c.1 ∧ q ≠ c.2 ∧ r ≠ c.1 ∧ r ≠ c.2) (σ : Asg Nat) :
    netValue dim (E ++ (q, r) :: cs) ls σ = netValue dim ((E ++ cs) ++ [(q, r)]) ls σ := by
  unfold netValue
  rw [sumPairs_append, List.append_assoc, sumPairs_append]
  exact sumPairs_congr dim E (fun τ => sumPairs_bond_last dim q r _ cs hc τ) σ

theorem CutsIn.before_insertion {B : List (Nat × Nat)} {p : Nat × Nat} {N : Nat} (ins : List (Ins Nat R))
    (hm : CutsIn (B ++ [(p.1, N), (N + 1, p.2), (N + 2, N + 3)]) ins) (hor : ∀ i ∈ ins, i.a < N ∧ i.b < N) :
    CutsIn B ins := by
  refine CutsIn.of_append _ ins _ hm ?_
  intro i hi hmem
  obtain ⟨ia, ib⟩ := hor i hi
  simp only [Ins.plain, List.mem_cons, List.not_mem_nil, or_false, Prod.mk.injEq] at hmem
  rcases hmem with ⟨_, hh⟩ | ⟨hh, _⟩ | ⟨hh, _⟩ <;> omega

theorem Ins.not_mem_legs_iff {y : Ins Nat R} {q : Nat} :
    q ∉ y.legs ↔ q ≠ y.a ∧ q ≠ y.b' ∧ q ≠ y.a' ∧ q ≠ y.b := by
  simp only [Ins.legs, List.mem_cons, List.not_mem_nil, or_false, not_or]

theorem Ins.not_mem_legs {y : Ins Nat R} {q : Nat} (h1 : y.a < q) (h2 : y.b < q) (h3 : q < y.a') (h4 : q < y.b') :
    q ∉ y.legs :=
  Ins.not_mem_legs_iff.2 ⟨Nat.ne_of_gt h1, Nat.ne_of_lt h4, Nat.ne_of_lt h3, Nat.ne_of_gt h2⟩

/-- separation of an insertion `x` from a LATER insertion `y`: the labels `(x.a' + 2, x.a' + 3)` of the bond inside the
projector pair of `x` are not used by `y`, and `y` does not cut a cut bond of `x` -/
def Ins.Separated (x y : Ins Nat R) : Prop := x.a' + 2 ∉ y.legs ∧ x.a' + 3 ∉ y.legs ∧ y.plain ∉ x.cut

/-- One insertion `x` merged back: in the record after `x` and the later insertions `ins`, where the matrix of `x` is
still the projector pair `O`, `I` over the bond `(x.a' + 2, x.a' + 3)`, that bond is summed last (the later insertions
are separated from it) and the pair becomes the leaf `x.Pm` (`split_leaf_value`): the record of `x :: ins`. -/
theorem netValue_merge_pair (dim : Nat → Nat) {B : List (Nat × Nat)} {Ls : List (Asg Nat → R)} (x : Ins Nat R)
    {O I : Asg Nat → R} (ins : List (Ins Nat R))
    (hfac : ∀ τ, x.Pm τ = sumPairs dim [(x.a' + 2, x.a' + 3)] (fun ρ => O ρ * I ρ) τ)
    (hsep : ∀ i ∈ ins, Ins.Separated x i) (hPm : ∀ i ∈ ins, DependsOn (fun l => l = i.a' ∨ l = i.b') i.Pm)
    (hLs : ∀ f ∈ Ls, DependsOn (fun l => l ≠ x.a' + 2 ∧ l ≠ x.a' + 3) f) (σ : Asg Nat) :
    netValue dim (lf62Erase ((B.erase x.plain ++ x.cut) ++ [(x.a' + 2, x.a' + 3)]) ins ++ ins.flatMap Ins.cut)
      (ins.map Ins.Pm ++ O :: I :: Ls) σ =
    netValue dim (lf62Erase B (x :: ins) ++ (x :: ins).flatMap Ins.cut) ((x :: ins).map Ins.Pm ++ Ls) σ := by
  have hq := fun i hi' =>
    And.intro (Ins.not_mem_legs_iff.1 (hsep i hi').1) (Ins.not_mem_legs_iff.1 (hsep i hi').2.1)
  rw [lf62Erase_append [(x.a' + 2, x.a' + 3)] ins _ (fun i hi' hm =>
    (hq i hi').1.1 (congrArg Prod.fst (List.mem_singleton.1 hm)).symm)]
  rw [List.append_assoc, List.singleton_append]
  rw [netValue_bond_last dim _ _ _ _ _ (by
    intro c hc
    obtain ⟨i, hi', hci⟩ := List.mem_flatMap.1 hc
    obtain ⟨q1, q2⟩ := hq i hi'
    simp only [Ins.cut, List.mem_cons, List.not_mem_nil, or_false] at hci
    rcases hci with rfl | rfl
    · exact ⟨q1.1, q1.2.2.1, q2.1, q2.2.2.1⟩
    · exact ⟨q1.2.1, q1.2.2.2, q2.2.1, q2.2.2.2⟩) σ]
  have hperm : (ins.map Ins.Pm ++ O :: I :: Ls).Perm (O :: I :: (ins.map Ins.Pm ++ Ls)) :=
    List.perm_middle.trans (List.Perm.cons _ List.perm_middle)
  rw [Ptn.Ein.netValue_perm_leaves dim _ hperm σ]
  rw [split_leaf_value dim _ x.Pm O I _ (x.a' + 2) (x.a' + 3)
    (S := fun l => l ≠ x.a' + 2 ∧ l ≠ x.a' + 3) hfac ?_ (fun hh => hh.1 rfl) (fun hh => hh.2 rfl) σ]
  · rw [lf62Erase_append _ ins _ (fun i hi' => (hsep i hi').2.2)]
    simp only [lf62Erase, List.foldl_cons, List.flatMap_cons, List.map_cons, List.append_assoc, List.cons_append]
  · intro f hf
    rcases List.mem_append.1 hf with hf | hf
    · obtain ⟨i, hi', rfl⟩ := List.mem_map.1 hf
      apply (hPm i hi').mono
      intro l hl
      obtain ⟨q1, q2⟩ := hq i hi'
      rcases hl with rfl | rfl
      · exact ⟨Ne.symm q1.2.2.1, Ne.symm q2.2.2.1⟩
      · exact ⟨Ne.symm q1.2.1, Ne.symm q2.2.1⟩
    · exact hLs f hf

theorem Ins.separated_of_old {N : Nat} (ins : List (Ins Nat R)) (h1 : ∀ i ∈ ins, i.a < N ∧ i.b < N)
    (h2 : ∀ i ∈ ins, N ≤ i.a') (h3 : ∀ i ∈ ins, i.b' = i.a' + 1)
    (hp : ins.Pairwise (fun x y => x.a' + 4 ≤ y.a')) : ins.Pairwise Ins.Separated := by
  refine hp.imp_of_mem ?_
  intro x y hx hy hxy
  have x2 := h2 x hx
  have x3 := h3 x hx
  have y3 := h3 y hy
  -- the labels of a later insertion `y`: the old ones are below `x.a'`, the fresh ones above `x.a' + 3`
  have lo : y.a < x.a' ∧ y.b < x.a' := ⟨Nat.lt_of_lt_of_le (h1 y hy).1 x2, Nat.lt_of_lt_of_le (h1 y hy).2 x2⟩
  have hi : x.a' + 3 < y.a' ∧ x.a' + 3 < y.b' := ⟨hxy, by omega⟩
  refine ⟨Ins.not_mem_legs (Nat.lt_add_right 2 lo.1) (Nat.lt_add_right 2 lo.2) (Nat.lt_of_succ_lt hi.1)
      (Nat.lt_of_succ_lt hi.2),
    Ins.not_mem_legs (Nat.lt_add_right 3 lo.1) (Nat.lt_add_right 3 lo.2) hi.1 hi.2, ?_⟩
  simp only [Ins.cut, Ins.plain, List.mem_cons, List.not_mem_nil, or_false, Prod.mk.injEq, not_or]
  exact ⟨fun hh => Nat.ne_of_lt lo.2 hh.2, fun hh => by omega⟩

/-- One projector insertion seen from the valued network alone.  `N0` bounds the labels of the cut bond: the counter of
the network the chain started from. -/
structure InsStep (dim : Nat → Nat) (N0 : Nat) (v : VNet R) (x : Ins Nat R) (v2 : VNet R) : Prop where
  wf : v2.WF
  mem : x.plain ∈ v.bonds
  old : x.a < N0 ∧ x.b < N0
  ha' : x.a' = v.next
  hb' : x.b' = v.next + 1
  dimb : dim x.b' = dim x.a
  dep : DependsOn (fun l => l = x.a' ∨ l = x.b') x.Pm
  next : v2.next = v.next + 4
  bonds : v2.bonds = (v.bonds.erase x.plain ++ x.cut) ++ [(v.next + 2, v.next + 3)]
  pair : ∃ O I : Asg Nat → R, (∀ τ, x.Pm τ = sumPairs dim [(v.next + 2, v.next + 3)] (fun ρ => O ρ * I ρ) τ) ∧
    v2.ids.map v2.tens = O :: I :: v.ids.map v.tens

inductive InsChain (dim : Nat → Nat) (N0 : Nat) : VNet R → List (Ins Nat R) → VNet R → Prop
  | nil (v : VNet R) : InsChain dim N0 v [] v
  | cons {v v2 v' : VNet R} {x : Ins Nat R} {rest : List (Ins Nat R)} :
      InsStep dim N0 v x v2 → InsChain dim N0 v2 rest v' → InsChain dim N0 v (x :: rest) v'

theorem InsChain.old {dim : Nat → Nat} {N0 : Nat} {v v' : VNet R} {ins : List (Ins Nat R)}
    (hc : InsChain dim N0 v ins v') : ∀ i ∈ ins, i.a < N0 ∧ i.b < N0 := by
  induction hc with
  | nil => nofun
  | cons st _ ih => exact List.forall_mem_cons.2 ⟨st.old, ih⟩

/-- the flat record of the insertions `ins` on `v`: the value of `v'` is that of `v` with every bond they cut carrying its
matrix -/
structure FlatRecord (dim : Nat → Nat) (v : VNet R) (ins : List (Ins Nat R)) (v' : VNet R) : Prop where
  succ : ∀ i ∈ ins, i.b' = i.a' + 1
  fresh : ∀ i ∈ ins, v.next ≤ i.a'
  apart : ins.Pairwise (fun x y => x.a' + 4 ≤ y.a')
  reads : ∀ i ∈ ins, DependsOn (fun l => l = i.a' ∨ l = i.b') i.Pm
  dimb : ∀ i ∈ ins, dim i.b' = dim i.a
  cuts : CutsIn v.bonds ins
  value : ∀ σ, v'.value dim σ =
    netValue dim (lf62Erase v.bonds ins ++ ins.flatMap Ins.cut) (ins.map Ins.Pm ++ v.ids.map v.tens) σ

theorem InsChain.flat {dim : Nat → Nat} {N0 : Nat} {v v' : VNet R} {ins : List (Ins Nat R)}
    (hc : InsChain dim N0 v ins v') (hv : v.WF) (hN : N0 ≤ v.next) : FlatRecord dim v ins v' := by
  -- from the LAST step to the first: per step the pair is merged back into the leaf `Π` (`split_leaf_value`), which needs
  -- that no LATER insertion uses the labels of the pair's bond or a cut bond of this step (`Ins.Separated`); that holds
  -- because every step cuts a bond whose labels are below the counter `N0` the chain started from
  induction hc with
  | nil v => exact ⟨nofun, nofun, .nil, nofun, nofun, trivial, fun σ => by simp [lf62Erase, VNet.value]⟩
  | @cons v v2 v' x rest st hrest ih =>
    have hN2 : N0 ≤ v2.next := st.next ▸ Nat.le_trans hN (Nat.le_add_right _ _)
    obtain ⟨e3, hge, hmono, hPm, hdim, hmem, hval⟩ := ih st.wf hN2
    have hold := hrest.old
    have hpw : (x :: rest).Pairwise (fun x y => x.a' + 4 ≤ y.a') :=
      List.pairwise_cons.2 ⟨fun i hi => st.ha' ▸ st.next ▸ hge i hi, hmono⟩
    have h3 : ∀ i ∈ x :: rest, i.b' = i.a' + 1 := List.forall_mem_cons.2 ⟨st.hb'.trans (st.ha' ▸ rfl), e3⟩
    have hsep : ∀ i ∈ rest, Ins.Separated x i :=
      (List.pairwise_cons.1 (Ins.separated_of_old (N := N0) (x :: rest) (List.forall_mem_cons.2 ⟨st.old, hold⟩)
        (List.forall_mem_cons.2 ⟨st.ha' ▸ hN, fun i hi => Nat.le_trans hN2 (hge i hi)⟩) h3 hpw)).1
    refine ⟨h3, List.forall_mem_cons.2 ⟨st.ha' ▸ Nat.le_refl _,
        fun i hi => Nat.le_trans (st.next ▸ Nat.le_add_right _ _) (hge i hi)⟩,
      hpw, List.forall_mem_cons.2 ⟨st.dep, hPm⟩, List.forall_mem_cons.2 ⟨st.dimb, hdim⟩, ⟨st.mem, ?_⟩, ?_⟩
    · rw [st.bonds, List.append_assoc] at hmem
      simp only [Ins.cut, st.ha', st.hb', List.cons_append, List.nil_append] at hmem
      exact CutsIn.before_insertion (p := x.plain) (N := v.next) rest hmem
        (fun i hi => ⟨Nat.lt_of_lt_of_le (hold i hi).1 hN, Nat.lt_of_lt_of_le (hold i hi).2 hN⟩)
    · obtain ⟨O, I, hfac, htens⟩ := st.pair
      intro σ
      rw [hval σ, st.bonds, htens]
      have := netValue_merge_pair dim (B := v.bonds) (Ls := v.ids.map v.tens) x (O := O) (I := I) rest
        (st.ha' ▸ hfac) hsep hPm (by
          intro f hf
          obtain ⟨k, hk, rfl⟩ := List.mem_map.1 hf
          apply (hv.reads k hk).mono
          intro l hl
          have := hv.fresh k hk l hl
          rw [st.ha']
          exact ⟨Nat.ne_of_lt (Nat.lt_add_right 2 this), Nat.ne_of_lt (Nat.lt_add_right 3 this)⟩) σ
      rw [st.ha'] at this
      exact this

end Ptn.C10
