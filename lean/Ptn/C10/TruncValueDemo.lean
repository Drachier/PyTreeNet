import Ptn.C02.SimDemo
import Ptn.C10.SetTensCommute
/-! A concrete instance for `truncate_node_value_partial` (`Props.lean`): the two-node network of `Ptn/C02/SimDemo.lean`,
`insert_identity(2, 1, 7)`, the rank-one matrix `|0⟩⟨0|` in place of the delta, and its exact split into the pair `P`, `Pc`
with the leg specifications of `insert_projection_operator_and_conjugate`. -/
namespace Ptn.C10
namespace TvDemo
open Ptn.C02 Ptn.C03 Ptn.Ein Ptn.C02.SimDemo

def ta : TTN := (t0.step (.ident 2 1 7)).getD t0
theorem stepa : t0.step (.ident 2 1 7) = some ta := rfl
def ga : LegMap := identG 2 1 7 v0.next (50, 51) g
def va : VNet Int := simIdent e g ta v0 2 1 7 (50, 51)
/-- the rank-one matrix `|0⟩⟨0|` on the subdivided bond (legs 100 towards node 1, 101 towards node 2) -/
def Pi0 : Asg Nat → Int := fun ρ => if ρ 100 = 0 ∧ ρ 101 = 0 then 1 else 0
/-- after `split_node_replace(7, …)` with the leg specifications of `insert_projection_operator_and_conjugate` -/
def tb : TTN := (ta.step (.split 7 ⟨some 1, [], [], false⟩ ⟨none, [2], [], false⟩ 8 9 3)).getD t0
theorem stepb : ta.step (.split 7 ⟨some 1, [], [], false⟩ ⟨none, [2], [], false⟩ 8 9 3) = some tb :=
  -- the step succeeds (one evaluation), and `tb` is by definition what it returns
  (Option.some_get (by decide +kernel)).symm.trans (congrArg some (Option.get_eq_getD _))
theorem admb : (TOp.split 7 ⟨some 1, [], [], false⟩ ⟨none, [2], [], false⟩ 8 9 3).Adm ta :=
  ⟨_, ⟨rfl, Or.inr rfl, Or.inr rfl, List.Perm.refl _, Or.inl ⟨1, rfl, rfl, rfl, Or.inl ⟨rfl, rfl⟩⟩⟩⟩
theorem outLegsb : splitOutLegs e ga tb 7 8 9 = [100] := by decide +kernel
theorem inLegsb : splitInLegs e ga tb 7 8 9 = [101] := by decide +kernel

def factb : SplitFact dim ((tv37WithTens va 7 Pi0).tens 7) (splitOutLegs e ga tb 7 8 9) (splitInLegs e ga tb 7 8 9)
    (tv37WithTens va 7 Pi0).next ((tv37WithTens va 7 Pi0).next + 1) where
  O := fun ρ => if ρ 100 = 0 ∧ ρ 102 = 0 then 1 else 0
  I := fun ρ => if ρ 103 = 0 ∧ ρ 101 = 0 then 1 else 0
  exact := by
    intro τ
    simp [tv37WithTens, va, simIdent, reLeg, identStep, v0, Pi0, dim, sumPairs, sumR, upd, List.range_succ]
    by_cases h1 : τ 100 = 0 <;> by_cases h2 : τ 101 = 0 <;> simp [h1, h2]
  readsO := by
    rw [outLegsb]
    intro σ τ h
    have h0 := h 100 (by decide); have h1 := h 102 (by decide)
    simp [h0, h1]
  readsI := by
    rw [inLegsb]
    intro σ τ h
    have h0 := h 103 (by decide); have h1 := h 101 (by decide)
    simp [h0, h1]

/-- the history `insert_identity(2, 1, 7)`, then (with `Π = |0⟩⟨0|` in place of the delta) `split_node_replace` into the
    pair `P`, `Pc`: all premises of `truncate_node_value_partial` hold -/
theorem simrunb : SimStep dim e t0 g v0 (.ident 2 1 7) ta ga va ∧ (TOp.ident 2 1 7).Adm t0 ∧
    DependsOn (· ∈ va.legs 7) Pi0 ∧
    ∃ t' g' v', SimRun dim e ta ga (tv37WithTens va 7 Pi0)
      [.split 7 ⟨some 1, [], [], false⟩ ⟨none, [2], [], false⟩ 8 9 3] t' g' v' := by
  refine ⟨.ident stepa (by simp [v0]) (Or.inr rfl) ?_, rfl, ?_, _, _, _,
    .cons admb (.split factb stepb ⟨rfl, rfl⟩) (.nil _ _ _)⟩
  · intro ax hax
    have : t0.legPairs 2 = [(1, ⟨100, 3⟩)] := by rw [t0_legPairs]; simp
    unfold TTN.Leg at hax
    rw [this] at hax
    simp at hax
    subst hax
    exact ⟨rfl, rfl⟩
  · intro σ τ hh
    have h0 := hh 100 (by decide); have h1 := hh 101 (by decide)
    simp [Pi0, h0, h1]
end TvDemo
end Ptn.C10
