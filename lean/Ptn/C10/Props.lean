import Ptn.C02.SimDemo
import Ptn.C10.Model
import Ptn.C10.Spec
import Ptn.C10.Lemmas
import Ptn.C10.Telescoping
import Ptn.Common.AnalysisTelescope
import Ptn.C10.RuleProps
import Ptn.C10.Tree
import Ptn.C10.Projector
import Ptn.C10.Value
import Ptn.C10.ValueRun
import Ptn.C10.BondProps
import Ptn.C10.SvdNetwork
import Ptn.C10.TruncOrder
import Ptn.C10.SvdSweep
import Ptn.C10.SvdOrder
import Ptn.C10.BondLocalThm
import Ptn.C10.SvdRun
import Ptn.C10.TruncValueDemo
import Ptn.C10.LevelRun
import Ptn.C10.SetTensCommute
import Ptn.C10.LevelFlatRun
import Ptn.C10.LevelExists
import Ptn.C10.RecExists
import Ptn.C10.RecTelescope
/-! Property theorems for C10 (singular-value truncation) with their non-vacuity examples.  The selection rule and the
abstract error bounds are in `RuleProps.lean`, the kept dimension and "every bond within `max_bond_dim`" for
`recursive_truncation` in `BondProps.lean`, the structure theorems in `Tree.lean`, the value of projector insertions on flat
networks in `Value.lean`, `ValueRun.lean`, `SvdProjector.lean`, `SvdNetwork.lean`; this file imports them - so that
`import Ptn.C10.Props` reaches every property theorem of C10 - and holds the rest: the instances of the bond theorems, the visiting order of
`truncate_node`, `svd_truncation`, and the value-level statements on the C02 simulation. -/
namespace Ptn.C10

section bond_dims
open Ptn.C02

def exSpec : Id → List Rat := fun c => if c = 2 then [4, 2, 1] else if c = 3 then [3, 1] else [5, 0]
def exPrm : Params := exP (some 2) (.fin 0) (.fin 0) false false true

-- the kept dimensions: the cap applies at the bond above `2`, the zero is dropped at the bond above `4`
example : (fun c => keptDim (exSpec c) exPrm) 2 = 2 ∧ keptDim (exSpec 3) exPrm = 2 ∧ keptDim (exSpec 4) exPrm = 1 := by
  decide +kernel

/-- `recursive_truncation` proper on `exTree` with these kept dimensions: one evaluation for the two instances below -/
theorem exTree_kept : ∃ t' ∈ exTree.recursiveTruncation (fun c => keptDim (exSpec c) exPrm),
    (∀ e ∈ t'.nodes, ∀ q ∈ t'.legPairs e.1, ∃ c' ∈ [2, 3, 4], q.2.dim = keptDim (exSpec c') exPrm) ∧
    t'.legPairs 2 = [(1, ⟨1000000, 2⟩), (4, ⟨1000002, 1⟩)] ∧
    t'.legPairs 1 = [(2, ⟨1000000, 2⟩), (3, ⟨1000001, 2⟩)] ∧ t'.legPairs 4 = [(2, ⟨1000002, 1⟩)] := by
  decide +kernel

-- all hypotheses of `recursive_truncation_bonds_le_partial` hold on the chain-with-a-branch (whose bond `1 - 2` has
-- dimension 3 before): in particular `hbond` - the model's result carries exactly the kept dimensions on its bonds
set_option maxRecDepth 16384 in
example : ∃ t t', TRunL TTN.empty buildOps t ∧ t.WF ∧ t.LWF ∧
    t.recursiveTruncation (fun c => keptDim (exSpec c) exPrm) = some t' ∧
    exPrm.Valid ∧ (∀ c, exSpec c ≠ [] ∧ NonNeg (exSpec c) ∧ Desc (exSpec c)) ∧
    (∀ e ∈ t'.nodes, ∀ q ∈ t'.legPairs e.1, ∃ c' ∈ [2, 3, 4], q.2.dim = keptDim (exSpec c') exPrm) ∧
    t.legPairs 2 = [(1, ⟨100, 3⟩), (4, ⟨102, 2⟩)] ∧
    t'.legPairs 2 = [(1, ⟨1000000, 2⟩), (4, ⟨1000002, 1⟩)] := by
  obtain ⟨t', h, hb, h2, _⟩ := exTree_kept
  refine ⟨exTree, t', exTree_built, exTree_wf.1, exTree_wf.2, h, by decide +kernel, ?_, hb, rfl, h2⟩
  intro c
  unfold exSpec
  split
  · decide +kernel
  · split <;> decide +kernel

-- `recursive_truncation_bond_axes` on the chain-with-a-branch: all hypotheses hold, and the bonds of the result
-- carry exactly the chosen dimensions (bond `1 - 2`: 3 before, `kdim 2 = 2` after; `2 - 4`: 2 before, 1 after)
set_option maxRecDepth 16384 in
example : ∃ t t', TRunL TTN.empty buildOps t ∧ t.WF ∧ t.LWF ∧
    t.recursiveTruncation (fun c => keptDim (exSpec c) exPrm) = some t' ∧
    t.legPairs 1 = [(2, ⟨100, 3⟩), (3, ⟨101, 2⟩)] ∧
    t'.legPairs 1 = [(2, ⟨1000000, 2⟩), (3, ⟨1000001, 2⟩)] ∧
    t'.legPairs 4 = [(2, ⟨1000002, 1⟩)] :=
  let ⟨t', h, _, _, h14⟩ := exTree_kept
  ⟨exTree, t', exTree_built, exTree_wf.1, exTree_wf.2, h, rfl, h14⟩

/-- **`truncate_node` visits every non-root node exactly once.**  For every well-formed tree with root `r`, the list
    `truncOrder t.S (t.nodes.length + 1) r` of (parent, child) pairs - the order in which `truncate_node` inserts the
    projector pairs, with the recursion depth the model's `recursiveTruncation` allows - has no child twice, contains
    exactly the nodes that have a parent, pairs every one of them with ITS parent, and is therefore a permutation of
    every duplicate-free enumeration of the non-root nodes.  (The fuel `number of nodes + 1` always suffices: the call
    stack consists of distinct nodes.) -/
theorem truncOrder_perm {t : TTN} (h : t.WF) {r : Id} (hr : t.root = some r) :
    ((truncOrder t.S (t.nodes.length + 1) r).map Prod.snd).Nodup ∧
    (∀ c, c ∈ (truncOrder t.S (t.nodes.length + 1) r).map Prod.snd ↔ ∃ p cch, t.S c = some (some p, cch)) ∧
    (∀ p c, (p, c) ∈ truncOrder t.S (t.nodes.length + 1) r → ∃ cch, t.S c = some (some p, cch)) ∧
    (∀ l : List Id, l.Nodup → (∀ c, c ∈ l ↔ ∃ p cch, t.S c = some (some p, cch)) →
      ((truncOrder t.S (t.nodes.length + 1) r).map Prod.snd).Perm l) := by
  have hnd := truncOrder_nodup h.str (t.nodes.length + 1) r
  have hmem : ∀ c, c ∈ (truncOrder t.S (t.nodes.length + 1) r).map Prod.snd ↔
      ∃ p cch, t.S c = some (some p, cch) := by
    intro c
    constructor
    · intro hc
      obtain ⟨⟨p, c'⟩, hm, e⟩ := List.mem_map.mp hc
      simp at e; subst e
      obtain ⟨p', cch, e, _⟩ := (truncOrder_sound _ r p c' hm).1.parent_cases h.str
      exact ⟨p', cch, e⟩
    · rintro ⟨p, cch, e⟩
      obtain ⟨dp, hd⟩ := h.str.depth
      obtain ⟨r', ch, e1, e2⟩ := h.str.root_ok
      rw [hr] at e1; simp at e1; subst e1
      refine truncOrder_complete h hd _ r [] ?_ (by simp) (by simp) (by simp) (by simp) c
        (sdesc_root h.str hr c p cch e)
      intro e'; rw [S_none_of_N e'] at e2; simp at e2
  refine ⟨hnd, hmem, ?_, ?_⟩
  · intro p c hm
    obtain ⟨_, pp, pch, e, hc⟩ := truncOrder_sound _ r p c hm
    exact h.str.down p _ _ c e hc
  · intro l hl hml
    exact (List.perm_ext_iff_of_nodup hnd hl).mpr (fun c => (hmem c).trans (hml c).symm)

-- on the chain-with-a-branch: root `1`, the order is `2, 3` (children of the root), then `4`
example : ∃ t, TRun TTN.empty buildOps t ∧ t.WF ∧ t.root = some 1 ∧
    truncOrder t.S (t.nodes.length + 1) 1 = [(1, 2), (1, 3), (2, 4)] :=
  ⟨exTree, exTree_built.toTRun, exTree_wf.1, rfl, by decide +kernel⟩

/-- **`svd_truncation`: every cut bond within `max_bond_dim`, no bond ever grows - partial.**  `SvdSweep D t es t'`: a
    run of the structural model's `centreMove` (`move_orthogonalization_center`) and `contractSplit`
    (`contract_and_split_with_parent`) events in which (assumptions of the model, all explicit in `SvdSweep`)
    every cut has new dimension `bd ≤ D` (true of `keptDim`, `keptDim_bounds`), every QR move has `bd ≤` the dimension
    of the bond it crosses (contract of `tensor_qr_decomposition`: `min(rows, columns) ≤ columns`), and
    every event is LOCAL to its bond (`BondLocal`: the bond gets `bd` at both ends, every other leg keeps its axis).
    Then in the result (1) every leg of a pair that was cut has dimension `≤ D`, whatever moves crossed it afterwards;
    (2) every leg has dimension `≤ D` or at most the dimension it had at the start; (3) if every bond of the result
    was cut (the sweep of `svd_truncation` cuts the bond above every non-root node), every virtual leg of every node
    is `≤ D`.
    `_partial`: `BondLocal` is a hypothesis per event here, and that the event list cuts every bond is an input;
    `centre_move_bond_local`, `contract_split_bond_local` prove the first for all well-formed networks,
    `svd_sweep_cuts_every_edge` the second for the modelled sweep; `svd_truncation_bonds_le` and
    `svd_truncation_all_bonds_le` are the statements without these assumptions. -/
theorem svd_truncation_bonds_le_partial {D : Nat} {t t' : TTN} {es : List TdvpEvent} (h : SvdSweep D t es t') :
    (∀ k x ax, t'.Leg k x ax → ((k, x) ∈ cutPairs es ∨ (x, k) ∈ cutPairs es) → ax.dim ≤ D) ∧
    (∀ k x ax, t'.Leg k x ax → ax.dim ≤ D ∨ ∃ ax0, t.Leg k x ax0 ∧ ax.dim ≤ ax0.dim) ∧
    ((∀ k x ax, t'.Leg k x ax → (k, x) ∈ cutPairs es ∨ (x, k) ∈ cutPairs es) →
      ∀ e ∈ t'.nodes, ∀ q ∈ t'.legPairs e.1, q.2.dim ≤ D) := by
  refine ⟨fun k x ax hl => (svd_sweep_legs h k x ax hl).1, fun k x ax hl => (svd_sweep_legs h k x ax hl).2, ?_⟩
  intro hall e _ q hq
  exact (svd_sweep_legs h e.1 q.1 q.2 hq).1 (hall e.1 q.1 q.2 hq)

/-- the sweep of the two instances below on `exTree` as an `SvdRun` with `D = 2`, evaluated once: what they read off
    its result -/
theorem exTree_sweep : ∃ t' ∈ svdRun? 2 exTree [.move 3 1 60 2, .move 1 2 61 3, .move 2 4 62 2,
      .contractSplit 4 2 63 1, .move 2 1 64 2, .move 1 3 65 2, .contractSplit 3 1 66 1, .contractSplit 2 1 67 2],
    t'.S 1 = some (none, [2, 3]) ∧
    t'.legPairs 1 = [(2, ⟨1000007, 2⟩), (3, ⟨1000006, 1⟩)] ∧ t'.legPairs 4 = [(2, ⟨1000003, 1⟩)] := by
  decide +kernel

/-- An `svd_truncation`-like run: move the centre to the leaf `4`, truncate `(4, 2)`, then `(3, 1)` after
    moving the centre there, then `(2, 1)`.  Here the child order of `1` ends as `[2, 3]` after passing
    through `[3, 2]`. -/
example : ∃ t t', TRun TTN.empty buildOps t ∧
    TdvpRun t [.move 3 1 60 2, .move 1 2 61 3, .move 2 4 62 2, .contractSplit 4 2 63 1,
               .move 2 1 64 2, .move 1 3 65 2, .contractSplit 3 1 66 1, .contractSplit 2 1 67 2] t' ∧
    (∀ e ∈ [TdvpEvent.move 3 1 60 2, .move 1 2 61 3, .move 2 4 62 2, .contractSplit 4 2 63 1,
            .move 2 1 64 2, .move 1 3 65 2, .contractSplit 3 1 66 1, .contractSplit 2 1 67 2],
       IsSvdEvent e) ∧
    t'.S 1 = some (none, [2, 3]) :=
  let ⟨t', h, h1, _⟩ := exTree_sweep
  ⟨exTree, t', exTree_built.toTRun, (svdRun?_sound h).toTdvpRun, by decide, h1⟩

-- the same sweep (centre to the leaf `4`, cut `(4,2)`, centre to `3`, cut `(3,1)`, cut
-- `(2,1)`) satisfies every assumption of `SvdSweep` with `D = 2`: it is an `SvdRun` (unused temporary identifiers, each
-- move respects the dimension of the bond it crosses - bond `1 - 2` has dimension 3 until it is cut), hence each event
-- is local to its bond; all three bonds are cut
set_option maxRecDepth 16384 in
example : ∃ t t', TRun TTN.empty buildOps t ∧
    SvdSweep 2 t [.move 3 1 60 2, .move 1 2 61 3, .move 2 4 62 2, .contractSplit 4 2 63 1,
               .move 2 1 64 2, .move 1 3 65 2, .contractSplit 3 1 66 1, .contractSplit 2 1 67 2] t' ∧
    t.legPairs 1 = [(2, ⟨100, 3⟩), (3, ⟨101, 2⟩)] ∧
    t'.legPairs 1 = [(2, ⟨1000007, 2⟩), (3, ⟨1000006, 1⟩)] ∧ t'.legPairs 4 = [(2, ⟨1000003, 1⟩)] :=
  let ⟨t', h, _, h1, h4⟩ := exTree_sweep
  ⟨exTree, t', exTree_built.toTRun, svdRun_sweep (svdRun?_sound h) exTree_wf.1, by decide +kernel, h1, h4⟩

end bond_dims

section value_examples
open Ptn.Ein Ptn.C02

/-- two tensors `A[0,1]`, `B[2,3]` joined by the bond `(1, 2)`; all dimensions 2 -/
def exA : Asg Nat → Int := fun τ => (τ 0 : Int) + 2 * (τ 1 : Int) + 1
def exB : Asg Nat → Int := fun τ => 3 * (τ 2 : Int) - (τ 3 : Int) + 1
/-- the swap matrix on the legs `(4, 5)` / `(6, 7)`: a complete basis that is NOT the identity matrix -/
def vxP : Asg Nat → Int := fun τ => if τ 4 + τ 5 = 1 then 1 else 0
def vxPc : Asg Nat → Int := fun τ => if τ 6 + τ 7 = 1 then 1 else 0
/-- a truncating pair: only the basis vector `0` is kept (legs `5`, `6` have dimension 1) -/
def exQ : Asg Nat → Int := fun τ => if τ 4 = 0 ∧ τ 5 = 0 then 1 else 0
def exQc : Asg Nat → Int := fun τ => if τ 6 = 0 ∧ τ 7 = 0 then 1 else 0

theorem exLeaves_dep : ∀ f ∈ [exA, exB], DependsOn (· ∈ [0, 1, 2, 3]) f := by
  intro f hf σ τ h
  simp only [List.mem_cons, List.not_mem_nil, or_false] at hf
  rcases hf with rfl | rfl
  · simp only [exA, h 0 (by decide), h 1 (by decide)]
  · simp only [exB, h 2 (by decide), h 3 (by decide)]

-- `projector_identity_value`: every hypothesis holds for the swap pair (complete, not the identity matrix)
example (σ : Asg Nat) :
    netValue (fun _ => 2) ([] ++ [(1, 4), (5, 6), (7, 2)]) (vxP :: vxPc :: [exA, exB]) σ =
      netValue (fun _ => 2) ([] ++ [(1, 2)]) [exA, exB] σ :=
  projector_identity_value (fun _ => 2) [] vxP vxPc [exA, exB] 1 2 4 7 5 6 exLeaves_dep
    (by decide) (by decide) (by decide) (by decide) (by decide) rfl
    (by
      intro τ h4 h7
      have e4 : τ 4 = 0 ∨ τ 4 = 1 := by omega
      have e7 : τ 7 = 0 ∨ τ 7 = 1 := by omega
      rcases e4 with e4 | e4 <;> rcases e7 with e7 | e7 <;>
        simp [sumPairs, sumR, vxP, vxPc, upd, e4, e7, List.range_succ])
    σ

-- `projector_linear_value`: hypotheses hold for the truncating pair; and there the value DOES change
example (σ : Asg Nat) :
    netValue (fun l => if l = 5 ∨ l = 6 then 1 else 2) ([] ++ [(1, 2)]) [exA, exB] σ
        - netValue (fun l => if l = 5 ∨ l = 6 then 1 else 2) ([] ++ [(1, 4), (5, 6), (7, 2)])
            (exQ :: exQc :: [exA, exB]) σ =
      netValue (fun l => if l = 5 ∨ l = 6 then 1 else 2) ([] ++ [(1, 4), (7, 2)])
        ((fun τ => deltaT 4 7 τ - projMat (fun l => if l = 5 ∨ l = 6 then 1 else 2) exQ exQc 5 6 τ) ::
          [exA, exB]) σ :=
  projector_linear_value _ [] exQ exQc [exA, exB] 1 2 4 7 5 6 exLeaves_dep
    (by decide) (by decide) (by decide) (by decide) (by decide) rfl σ

example :
    netValue (fun l => if l = 5 ∨ l = 6 then 1 else 2) ([] ++ [(1, 2)]) [exA, exB] (fun _ => 0) = 13 ∧
    netValue (fun l => if l = 5 ∨ l = 6 then 1 else 2) ([] ++ [(1, 4), (5, 6), (7, 2)])
      (exQ :: exQc :: [exA, exB]) (fun _ => 0) = 1 := by
  constructor <;> decide +kernel

/-- a chain `A[0,1] — M[2,3,8] — B'[9,10]` with the bonds `(1, 2)` and `(8, 9)`, and one rank-one insertion on
each bond -/
def exM : Asg Nat → Int := fun τ => (τ 2 : Int) + (τ 3 : Int) * (τ 8 : Int) + 1
def exB' : Asg Nat → Int := fun τ => 2 * (τ 9 : Int) - (τ 10 : Int)
def exIns1 : Ins Nat Int := ⟨1, 2, 4, 7, fun τ => if τ 4 = 0 ∧ τ 7 = 0 then 1 else 0⟩
def exIns2 : Ins Nat Int := ⟨8, 9, 11, 12, fun τ => if τ 11 = 1 ∧ τ 12 = 1 then 1 else 0⟩

-- `recursive_truncation_value_telescope`: every hypothesis holds for the two insertions on the chain
example (σ : Asg Nat) :
    netValue (fun _ => 2) ([] ++ [exIns1, exIns2].map Ins.plain) [exA, exM, exB'] σ
        - netValue (fun _ => 2) ([] ++ [exIns1, exIns2].flatMap Ins.cut)
            ([exIns1, exIns2].map Ins.Pm ++ [exA, exM, exB']) σ =
      teleSum (fun _ => 2) [] [exA, exM, exB'] [] [exIns1, exIns2] σ :=
  recursive_truncation_value_telescope (fun _ => 2) [] [exA, exM, exB'] [exIns1, exIns2]
    (S := (· ∈ [0, 1, 2, 3, 8, 9, 10]))
    (by
      intro f hf σ τ h
      simp only [List.mem_cons, List.not_mem_nil, or_false] at hf
      rcases hf with rfl | rfl | rfl
      · simp only [exA, h 0 (by decide), h 1 (by decide)]
      · simp only [exM, h 2 (by decide), h 3 (by decide), h 8 (by decide)]
      · simp only [exB', h 9 (by decide), h 10 (by decide)])
    (by decide)
    (by
      intro i hi σ τ h
      simp only [List.mem_cons, List.not_mem_nil, or_false] at hi
      rcases hi with rfl | rfl
      · simp only [exIns1] at h ⊢; rw [h 4 (Or.inl rfl), h 7 (Or.inr rfl)]
      · simp only [exIns2] at h ⊢; rw [h 11 (Or.inl rfl), h 12 (Or.inr rfl)])
    (by decide) (by intro i _; rfl) σ

-- the order of the insertions on the structural model: children of the root first, then the recursion
example : ∃ t, TRun TTN.empty buildOps t ∧
    truncOrder t.S (t.nodes.length + 1) 1 = [(1, 2), (1, 3), (2, 4)] :=
  ⟨exTree, exTree_built.toTRun, by decide +kernel⟩

end value_examples

section svd_examples
open Ptn.Ein Finset

/-- a rank-one "SVD" with a NON-square `U` (2 rows, 1 column): `M = [[3, 6], [0, 0]] = U · 3 · V`,
`U = (1, 0)ᵀ`, `V = (1, 2)` -/
def sxU : ℕ → ℕ → Int := fun x j => if x = 0 ∧ j = 0 then 1 else 0
def sxM : ℕ → ℕ → Int := fun x c => if x = 0 then 3 * ((c : Int) + 1) else 0

theorem sxU_orth : ∀ i j, i < 1 → j < 1 → ∑ x ∈ range 2, sxU x i * sxU x j = if i = j then 1 else 0 := by
  intro i j hi hj
  have : i = 0 := by omega
  have : j = 0 := by omega
  subst i; subst j
  decide

-- every hypothesis of `svd_projector_value` holds for it (all columns kept, `Π = diag(1, 0)` is NOT the identity
-- matrix, yet `Π·M = M`)
example : (∀ c y, y < 2 → ∑ x ∈ range 2, sxM x c * svdPi 1 sxU sxU x y = sxM y c) ∧
    svdPi 1 sxU sxU 1 1 = (0 : Int) :=
  ⟨(svd_projector_value 2 1 1 sxM sxU sxU (fun _ => 3) (fun _ c => (c : Int) + 1) (le_refl 1)
      (by intro x c hx
          have : x = 0 ∨ x = 1 := by omega
          rcases this with rfl | rfl <;> simp [sxM, sxU])
      sxU_orth).2.2.2.1 rfl, by decide⟩

/-- the node tensor `A[0, 1]` (open leg `0`, bond leg `1`) with that matricisation, and a neighbour `B[2, 3]` -/
def sxA : Asg Nat → Int := fun τ => if τ 1 = 0 then 3 * ((τ 0 : Int) + 1) else 0
def sxDim : Nat → Nat := fun l => if l = 5 ∨ l = 6 then 1 else 2

-- `svd_projector_full_value`: every hypothesis holds on the network `A —(1,2)— B` (projector legs `4, 5 | 6, 7`, one
-- kept column = all columns)
example (σ : Asg Nat) :
    netValue sxDim ([] ++ [(1, 4), (5, 6), (7, 2)])
        ((fun ρ => sxU (ρ 4) (ρ 5)) :: (fun ρ => sxU (ρ 7) (ρ 6)) :: sxA :: [exB]) σ =
      netValue sxDim ([] ++ [(1, 2)]) (sxA :: [exB]) σ :=
  svd_projector_full_value sxDim [] sxU sxU (fun _ => 3) (fun _ τ => (τ 0 : Int) + 1) sxA [exB] 1 2 4 7 5 6
    (S := (· ∈ [2, 3])) (SA := (· ∈ [0, 1]))
    (by intro f hf σ τ h
        simp only [List.mem_cons, List.not_mem_nil, or_false] at hf
        subst hf
        simp only [exB, h 2 (by decide), h 3 (by decide)])
    (by decide) (by decide) (by decide) (by decide) (by decide)
    (by intro σ τ h; simp only [sxA, h 0 (by decide), h 1 (by decide)])
    (by decide) (by decide) (by decide) (by decide)
    (by decide) rfl
    (by intro τ x hx
        have hx' : x < 2 := hx
        have : x = 0 ∨ x = 1 := by omega
        rcases this with rfl | rfl <;> simp [sxA, sxU, sxDim, upd])
    (by intro i j hi hj; exact sxU_orth i j hi hj)
    σ

end svd_examples

/-! `svd_truncation`, the sweep order:
`update_path = tree.linearise()` (post-order, `Ptn.C17.RTree.postorder`), the loop runs over `update_path[:-1]`, moves
the centre to the node along `path_from_to` and cuts the bond to the node's parent; the parent is the new centre. -/

section svd_order
open Ptn.C02 Ptn.C17 Ptn.C17.RTree

theorem svd_sweep_cuts_every_edge (t : RTree) (hwf : t.WF) :
    ∃ L, svdCutEdges t = some L ∧
      L.map (·.1) = (postorder t).dropLast ∧
      L.Nodup ∧ (L.map (·.1)).Nodup ∧
      (∀ x p, (x, p) ∈ L ↔ (p, x) ∈ edges t) ∧
      L.Perm ((edges t).map Prod.swap) ∧
      (∀ a b, t.Adj a b → (a, b) ∈ L ∨ (b, a) ∈ L) := by
  obtain ⟨hnd, hmem⟩ := svdCutNodes_spec hwf
  have hsnd := edges_map_snd.1 t
  have hpar : ∀ x ∈ svdCutNodes t, ∃ p, svdParent? t x = some p := by
    intro x hx
    have hx' := (hmem x).mp hx
    rw [← hsnd] at hx'
    obtain ⟨e, he, rfl⟩ := List.mem_map.mp hx'
    exact ⟨e.1, (svdParent?_eq_some hwf).mpr he⟩
  obtain ⟨L, hL, hm, he⟩ := svdPairUp_spec t _ hpar
  have hiff : ∀ x p, (x, p) ∈ L ↔ (p, x) ∈ edges t := by
    intro x p
    constructor
    · intro h; exact (svdParent?_eq_some hwf).mp (he _ h)
    · intro h
      have hx : x ∈ svdCutNodes t := (hmem x).mpr (edges_mem.1 t p x h).2
      rw [← hm] at hx
      obtain ⟨e, heL, rfl⟩ := List.mem_map.mp hx
      have h1 := he e heL
      rw [(svdParent?_eq_some hwf).mpr h] at h1
      obtain ⟨a, b⟩ := e
      simp only [Option.some.injEq] at h1
      subst h1; exact heL
  have hLnd : L.Nodup := List.Nodup.of_map (·.1) (hm ▸ hnd)
  have hEnd : ((edges t).map Prod.swap).Nodup := by
    apply List.Nodup.of_map (·.1)
    rw [List.map_map]
    have : ((fun x : Nat × Nat => x.1) ∘ Prod.swap) = (·.2) := by funext x; rfl
    rw [this]; exact edges_snd_nodup hwf
  refine ⟨L, hL, hm, hLnd, hm ▸ hnd, hiff, ?_, ?_⟩
  · rw [List.perm_ext_iff_of_nodup hLnd hEnd]
    intro ⟨x, p⟩
    rw [hiff, List.mem_map_swap]
  · exact fun a b h => h.symm.imp (hiff a b).mpr (hiff b a).mpr

theorem svd_truncation_all_bonds_le_partial {D : Nat} {t t' : TTN} {es : List TdvpEvent} (rt : RTree) (hwf : rt.WF)
    (h : SvdSweep D t es t') (hcut : svdCutEdges rt = some (cutPairs es))
    (hin : ∀ e ∈ t.nodes, ∀ q ∈ t.legPairs e.1, rt.Adj e.1 q.1)
    (hev : ∀ pr ∈ svdEventPairs es, rt.Adj pr.1 pr.2) :
    ∀ e ∈ t'.nodes, ∀ q ∈ t'.legPairs e.1, q.2.dim ≤ D := by
  obtain ⟨L, hL, _, _, _, _, _, hadj⟩ := svd_sweep_cuts_every_edge rt hwf
  rw [hcut] at hL
  simp only [Option.some.injEq] at hL
  intro e _ q hl
  obtain ⟨k, _⟩ := e; obtain ⟨x, ax⟩ := q
  apply (svd_sweep_legs h k x ax hl).1
  rw [hL]
  apply hadj
  rcases svd_sweep_leg_origin h k x ax hl with ⟨ax0, l0⟩ | hm | hm
  · obtain ⟨e, he, rfl⟩ := leg_mem_nodes l0
    exact hin e he (x, ax0) l0
  · exact hev _ hm
  · have := hev _ hm
    exact this.symm
theorem svd_sweep_events_along_edges (t : RTree) (hwf : t.WF) (c : Nat) (hc : c ∈ ids t) :
    ∃ L E, svdCutEdges t = some L ∧ svdSweep t c = some E ∧
      (∀ e ∈ E, t.Adj e.2.1 e.2.2) ∧ (E.filter (·.1)).map (·.2) = L := by
  obtain ⟨L, hL, _, _, _, hiff, _, _⟩ := svd_sweep_cuts_every_edge t hwf
  obtain ⟨E, hE, hadj, hf⟩ := svdSweepEvents_spec hwf L c hc (fun e he => (hiff e.1 e.2).mp he)
  exact ⟨L, E, hL, by simp [svdSweep, hL, hE], hadj, hf⟩

theorem svd_truncation_sweep_bonds_le_partial {D : Nat} {t t' : TTN} {es : List TdvpEvent} (rt : RTree) (hwf : rt.WF)
    (c : Nat) (hc : c ∈ ids rt) (h : SvdSweep D t es t') (hsweep : svdSweep rt c = some (svdEventTags es))
    (hin : ∀ e ∈ t.nodes, ∀ q ∈ t.legPairs e.1, rt.Adj e.1 q.1) :
    ∀ e ∈ t'.nodes, ∀ q ∈ t'.legPairs e.1, q.2.dim ≤ D := by
  obtain ⟨L, E, hL, hE, hadj, hf⟩ := svd_sweep_events_along_edges rt hwf c hc
  rw [hsweep] at hE
  simp only [Option.some.injEq] at hE
  subst hE
  rw [svdEventTags_cuts] at hf
  apply svd_truncation_all_bonds_le_partial rt hwf h (hf ▸ hL) hin
  intro pr hpr
  rw [← svdEventTags_pairs] at hpr
  obtain ⟨e, he, rfl⟩ := List.mem_map.mp hpr
  exact hadj e he

def exSvdTree : RTree := .node 1 [.node 2 [.node 4 []], .node 3 []]
example : exSvdTree.WF := by decide +kernel
example : svdCutEdges exSvdTree = some [(4, 2), (2, 1), (3, 1)] := by decide +kernel
example : svdSweep exSvdTree 3 =
    some [(false, 3, 1), (false, 1, 2), (false, 2, 4), (true, 4, 2), (true, 2, 1), (false, 1, 3), (true, 3, 1)] := by
  decide +kernel

def exSvdEvents : List TdvpEvent :=
  [.move 3 1 60 2, .move 1 2 61 3, .move 2 4 62 2, .contractSplit 4 2 63 1, .contractSplit 2 1 64 2,
   .move 1 3 65 2, .contractSplit 3 1 66 1]

theorem exSvdEvents_run : ∃ t', SvdRun 2 exTree exSvdEvents t' :=
  let ⟨t', h⟩ := Option.isSome_iff_exists.mp (by decide +kernel : (svdRun? 2 exTree exSvdEvents).isSome)
  ⟨t', svdRun?_sound h⟩

set_option maxRecDepth 16384 in
example : ∃ t t', TRun TTN.empty buildOps t ∧ SvdSweep 2 t exSvdEvents t' ∧
    svdSweep exSvdTree 3 = some (svdEventTags exSvdEvents) ∧
    (∀ e ∈ t.nodes, ∀ q ∈ t.legPairs e.1, exSvdTree.Adj e.1 q.1) ∧
    t.legPairs 1 = [(2, ⟨100, 3⟩), (3, ⟨101, 2⟩)] :=
  let ⟨t', h⟩ := exSvdEvents_run
  ⟨exTree, t', exTree_built.toTRun, svdRun_sweep h exTree_wf.1, by decide +kernel, by decide +kernel, by decide +kernel⟩

/-- **`split_qr_contract_r_to_neighbour(a, b)`** on every well-formed, label-consistent network (unused identifier
    for the R tensor): well-formed, label-consistent result; the bond `a – b` gets dimension `bd` at both ends,
    every other virtual leg of the result is the leg the same node had before (same neighbour, same axis: label
    and dimension); every node keeps exactly its open axes. -/
theorem centre_move_bond_local {t t' : TTN} {a b rid : Id} {bd : Nat} (h : t.WF) (hl : t.LWF)
    (hfresh : t.N rid = none) (hs : t.centreMove a b rid bd = some t') :
    t'.WF ∧ t'.LWF ∧ BondLocal t t' a b bd ∧ ∀ k, t'.openAxes k = t.openAxes k := by
  obtain ⟨w, _, _⟩ := centre_move_full (TTN.WFX.ofLWF h hl) hfresh hs
  exact ⟨w.wf, w.lwf trivial, centreMove_bondLocal h hfresh hs, w.op trivial⟩

/-- **`contract_and_split_with_parent(a, b)`**: the same statement for the contraction followed by the truncated SVD. -/
theorem contract_split_bond_local {t t' : TTN} {a b cid : Id} {bd : Nat} (h : t.WF) (hl : t.LWF)
    (hfresh : t.N cid = none) (hs : t.contractSplit a b cid bd = some t') :
    t'.WF ∧ t'.LWF ∧ BondLocal t t' a b bd ∧ ∀ k, t'.openAxes k = t.openAxes k := by
  obtain ⟨w, _, _⟩ := contract_split_full (TTN.WFX.ofLWF h hl) hfresh hs
  exact ⟨w.wf, w.lwf trivial, contractSplit_bondLocal h hfresh hs, w.op trivial⟩

/-- **Bond dimensions after `svd_truncation`, no locality assumption**: for every well-formed network and every run
    of centre moves / cuts (`SvdRun`: unused temporary identifiers, a QR move does not exceed the bond it crosses, a
    cut keeps at most `D`): cut bonds are `≤ D` at the end, every leg is `≤ D` or `≤` its original dimension, and if
    every bond was cut every virtual leg is `≤ D`. -/
theorem svd_truncation_bonds_le {D : Nat} {t t' : TTN} {es : List TdvpEvent} (hw : t.WF) (r : SvdRun D t es t') :
    (∀ k x ax, t'.Leg k x ax → ((k, x) ∈ cutPairs es ∨ (x, k) ∈ cutPairs es) → ax.dim ≤ D) ∧
    (∀ k x ax, t'.Leg k x ax → ax.dim ≤ D ∨ ∃ ax0, t.Leg k x ax0 ∧ ax.dim ≤ ax0.dim) ∧
    ((∀ k x ax, t'.Leg k x ax → (k, x) ∈ cutPairs es ∨ (x, k) ∈ cutPairs es) →
      ∀ e ∈ t'.nodes, ∀ q ∈ t'.legPairs e.1, q.2.dim ≤ D) :=
  svd_truncation_bonds_le_partial (svdRun_sweep r hw)

/-- **After the sweep of `svd_truncation` EVERY bond is `≤ D`**: the events are those of the modelled sweep
    `svdSweep rt c` (post-order without the root, moves along `path_from_to`, cut towards the parent) on a tree `rt`
    along whose edges the virtual legs of the input run. -/
theorem svd_truncation_all_bonds_le {D : Nat} {t t' : TTN} {es : List TdvpEvent} (rt : RTree) (hwf : rt.WF)
    (c : Nat) (hc : c ∈ ids rt) (hw : t.WF) (r : SvdRun D t es t')
    (hsweep : svdSweep rt c = some (svdEventTags es))
    (hin : ∀ e ∈ t.nodes, ∀ q ∈ t.legPairs e.1, rt.Adj e.1 q.1) :
    ∀ e ∈ t'.nodes, ∀ q ∈ t'.legPairs e.1, q.2.dim ≤ D :=
  svd_truncation_sweep_bonds_le_partial rt hwf c hc (svdRun_sweep r hw) hsweep hin

set_option maxRecDepth 16384 in
example : ∃ t t', TRunL TTN.empty buildOps t ∧ t.WF ∧ t.LWF ∧ SvdRun 2 t exSvdEvents t' ∧
    svdSweep exSvdTree 3 = some (svdEventTags exSvdEvents) ∧
    (∀ e ∈ t.nodes, ∀ q ∈ t.legPairs e.1, exSvdTree.Adj e.1 q.1) :=
  let ⟨t', h⟩ := exSvdEvents_run
  ⟨exTree, t', exTree_built, exTree_wf.1, exTree_wf.2, h, by decide +kernel, by decide +kernel⟩

end svd_order

section trunc_value
open Ptn.C02 Ptn.C03 Ptn.Ein
variable {R : Type} [CommSemiring R]

/-- **`truncate_node`, one child bond, value level - partial.**  `t`, `v`: a well-formed, label-consistent state of the
    structural model and a related well-formed valued network.  `insert_identity(c, n, i)` (simulated step `hid`) leaves
    the value unchanged and puts the Kronecker delta on node `i`.  Replace that tensor by ANY matrix `Pi` on the two legs
    of `i` (`tv37WithTens`; for the library `Pi = projector.conj() · projector.T`, `projMat_svd`): this is "the network
    with `Π` inserted on the child bond".  Then every simulated history `ops` from there (the split of node `i` into the
    pair `P`, `Pc` - an exact factorisation of `Pi` -, `contract_all_children`, the contraction of the projector into the
    child, …) ends in a well-formed related network with exactly that value; if `Pi` is the delta (complete projector)
    the value is the value of the original network.
    `_partial`: one child bond, and the history `ops` is a hypothesis; all children of a node and the existence of the
    run are `truncate_node_run_value`, the recursion is `recursive_truncation_run_value_partial`. -/
theorem truncate_node_value_partial (dim : Nat → Nat) (e : Label → Nat) {t t1 t' : TTN} {g g1 g' : LegMap}
    {v v1 v' : VNet R} {ops : List TOp} {c n i : Id}
    (h : t.WF) (hl : t.LWF) (hv : v.WF) (hs : RSim dim e g t v)
    (hadm : (TOp.ident c n i).Adm t) (hid : SimStep dim e t g v (.ident c n i) t1 g1 v1)
    (Pi : Asg Nat → R) (hdep : DependsOn (· ∈ v1.legs i) Pi)
    (hr : SimRun dim e t1 g1 (tv37WithTens v1 i Pi) ops t' g' v') :
    TRun t (.ident c n i :: ops) t' ∧ t'.WF ∧ t'.LWF ∧ v'.WF ∧ RSim dim e g' t' v' ∧
    (v1.tens i = fun ρ => if ρ v.next = ρ (v.next + 1) then 1 else 0) ∧
    (∀ σ, v1.value dim σ = v.value dim σ) ∧
    (∀ σ, v'.value dim σ = (tv37WithTens v1 i Pi).value dim σ) ∧
    ((∀ τ, Pi τ = v1.tens i τ) → ∀ σ, v'.value dim σ = v.value dim σ) := by
  obtain ⟨hstep, hedit, hrun, hsim⟩ := simstep_sound dim e h hl hv hs hadm hid
  have hw1 := step_wf h _ hadm hstep
  have hl1 := (edit_step_labels h hl _ hadm hedit hstep).1
  obtain ⟨hv1, hval1⟩ := srun_value dim hv hrun
  obtain ⟨r2, _, w2, l2, v2, s2, _, val2⟩ := structural_history_preserves_value dim e hw1 hl1
    (tv37_withTens_wf hv1 hdep) (withTens_rsim hsim i Pi) hr
  refine ⟨.cons hadm hstep r2, w2, l2, v2, s2, ?_, hval1, val2, ?_⟩
  · cases hid
    simp [simIdent, reLeg, identStep]
  · intro hPi σ
    have : Pi = v1.tens i := funext hPi
    rw [val2 σ, this, show tv37WithTens v1 i (v1.tens i) = v1 from setTens_self v1 i]
    exact hval1 σ

open Ptn.C02.SimDemo Ptn.C10.TvDemo in
example : ∃ t' v', TRun t0 [.ident 2 1 7, .split 7 ⟨some 1, [], [], false⟩ ⟨none, [2], [], false⟩ 8 9 3] t' ∧
    (∀ σ, VNet.value SimDemo.dim v' σ = (tv37WithTens va 7 Pi0).value SimDemo.dim σ) := by
  obtain ⟨hid, hadm, hdep, t', g', v', hr⟩ := simrunb
  have := truncate_node_value_partial SimDemo.dim SimDemo.e t0_wf.1 t0_wf.2 v0_wf rsim0 hadm hid Pi0 hdep hr
  exact ⟨t', v', this.1, this.2.2.2.2.2.2.2.1⟩

end trunc_value

section level_run
open Ptn.C02 Ptn.C03 Ptn.Ein
variable {R : Type} [CommSemiring R]

/-- **`truncate_node(n)` without the recursive calls, ALL children, at the value level**.  Hypotheses: a
    well-formed, label-consistent state `t` of the structural model with a related well-formed valued network `v`; the
    value-level history `Lr54LevelRun` of the first loop over the children `es` (per child: the read-only prefix `pre`,
    `insert_identity(c, n)`, the identity replaced by `Π_c` reading only the two legs of the identity node, the split into
    the projector pair with an exact factorisation of `Π_c` - the contract of the projector construction), followed by ANY
    simulated history `ops2` (`contract_all_children(n)`, the contractions of the projectors into the children).  Then:
    all invariants hold at the end; with `pre = [.access n]` the first part IS the model's `truncLoop1` over these
    children; if `ops2` is the list of contractions `contract_nodes(n, c, n)` over the children of `n` after the first
    loop, it IS `contractAllChildren n n`; the value after the level is reached from the value before by a CHAIN of
    single-leaf replacements (`Lr54Chain`: for each child, a well-formed network with the current value carries the
    Kronecker delta at the identity node, and the next value is that network with the delta replaced by `Π_c`); if every
    `Π_c` is the delta, the value is unchanged.
    `_partial`: the value is a chain, not the flat form (the ORIGINAL network with `Π_c` on every child bond at once:
    `truncate_node_level_flat_value`), and the run is a hypothesis (`truncate_node_run_value` derives it, third loop
    included, from `truncateNodeStep` succeeding). -/
theorem truncate_node_one_level_partial (dim : Nat → Nat) (e : Label → Nat) {n : Id} {ids : TTN.TempIds}
    {kdim : Id → Nat} {pre ops2 : List TOp} {t t1 t' : TTN} {g g1 g' : LegMap} {v v1 v' : VNet R}
    {es : List (Lr54Entry R)}
    (h : t.WF) (hl : t.LWF) (hv : v.WF) (hs : RSim dim e g t v)
    (hr : Lr54LevelRun dim e n ids kdim pre t g v es t1 g1 v1)
    (hr2 : SimRun dim e t1 g1 v1 ops2 t' g' v') :
    t'.WF ∧ t'.LWF ∧ v'.WF ∧ RSim dim e g' t' v' ∧
    (pre = [.access n] → TTN.truncLoop1 t n ids kdim (es.map (·.c)) = some t1) ∧
    (∀ node1, t1.N n = some node1 → ops2 = node1.children.map (fun c => TOp.contract n c n) →
      t1.contractAllChildren n n = some t') ∧
    Lr54Chain dim ids (fun σ => v.value dim σ) es (fun σ => v'.value dim σ) ∧
    ((∀ x ∈ es, x.Pi = lr54Delta x.a) → ∀ σ, v'.value dim σ = v.value dim σ) := by
  obtain ⟨w1, l1, vw1, s1, loop1, chain⟩ := levelRun_sound dim e h hl hv hs hr
  obtain ⟨run2, _, w2, l2, vw2, s2, _, val2⟩ := structural_history_preserves_value dim e w1 l1 vw1 s1 hr2
  have chain' : Lr54Chain dim ids (fun σ => v.value dim σ) es (fun σ => v'.value dim σ) :=
    Lr54Chain.congr_right chain (fun σ => val2 σ)
  refine ⟨w2, l2, vw2, s2, loop1, ?_, chain', fun hid σ => Lr54Chain.identity chain' hid σ⟩
  intro node1 hn hops
  subst hops
  exact contractAllChildren_of_run hn run2

open Ptn.C02.SimDemo Ptn.C10.TvDemo in
/-- the run of `TvDemo.simrunb` read as the first loop of `truncate_node(1)` over the single child `2`, empty prefix -/
theorem TvDemo.levelrunb {t' : TTN} {g' : LegMap} {v' : VNet Int}
    (hr : SimRun SimDemo.dim SimDemo.e ta ga (tv37WithTens va 7 Pi0)
      [.split 7 ⟨some 1, [], [], false⟩ ⟨none, [2], [], false⟩ 8 9 3] t' g' v') :
    Lr54LevelRun (R := Int) SimDemo.dim SimDemo.e 1 ⟨fun _ => 7, fun _ => 8, fun _ => 9⟩ (fun _ => 3) []
      t0 SimDemo.g v0 [⟨2, v0.next, Pi0⟩] t' g' v' :=
  .cons (.nil _ _ _) (.cons simrunb.2.1 simrunb.1 (.nil _ _ _)) simrunb.2.2.1 hr (.nil _ _ _)

open Ptn.C02.SimDemo Ptn.C10.TvDemo in
/-- non-vacuity: the two-node network of `SimDemo`, the single child `2` of node `1`, `Π = |0⟩⟨0|` (not the delta), the
    exact split of `TvDemo.factb`; empty prefix and empty tail -/
example : ∃ t' g' v', Lr54LevelRun (R := Int) SimDemo.dim SimDemo.e 1 ⟨fun _ => 7, fun _ => 8, fun _ => 9⟩ (fun _ => 3) []
    t0 SimDemo.g v0 [⟨2, v0.next, Pi0⟩] t' g' v' ∧
    Lr54Chain SimDemo.dim ⟨fun _ => 7, fun _ => 8, fun _ => 9⟩ (fun σ => v0.value SimDemo.dim σ) [⟨2, v0.next, Pi0⟩]
      (fun σ => v'.value SimDemo.dim σ) := by
  obtain ⟨_, _, _, t', g', v', hr⟩ := simrunb
  have hlr := levelrunb hr
  have := truncate_node_one_level_partial SimDemo.dim SimDemo.e t0_wf.1 t0_wf.2 v0_wf rsim0 hlr (.nil _ _ _)
  exact ⟨t', g', v', hlr, this.2.2.2.2.2.2.1⟩

end level_run

section level_flat
open Ptn.C02 Ptn.C03 Ptn.Ein NodeS
variable {R : Type} [CommSemiring R]

/-- **`truncate_node`, one node with all its children, FLAT form.**  `Lr54LevelRun` is the value-level
history of the first loop of `truncate_node(n)`; the read-only prefix `pre` of each round consists of accesses (library:
`[.access n]`).  Contract of the caller: `n` and every child `c` of the list are nodes of the network the loop starts from
(the library reads the list of children before the loop).  Then there is a list `all` of insertion records (`Ins` of
`ValueRun.lean`: old bond `(a, b)`, fresh legs `a'` = the counter at the insertion, `b' = a' + 1`, matrix `Pm = Π_c`), one per
child in order, such that every `Π_c` reads only its two fresh legs, the fresh labels start at the counter of the original
network and grow by at least four per child, EVERY cut bond `(a, b)` is a bond of the ORIGINAL network, and the value after
the level is `netValue (bs ++ all.flatMap Ins.cut) (all.map Ins.Pm ++ leaves)` with `leaves` the tensors of the original
network and `bs = lf62Erase v.bonds all` its bonds without the cut ones: the original network with `Π_c` on every child bond
at once - the right-hand record of `recursive_truncation_value_telescope` / `recursive_truncation_identity_value`; and the
bonds of the original network are `bs ++ all.map Ins.plain` up to order, so its value is the left-hand record
`netValue (bs ++ all.map Ins.plain) leaves`. -/
theorem truncate_node_level_flat_value (dim : Nat → Nat) (e : Label → Nat) {n : Id} {ids : TTN.TempIds}
    {kdim : Id → Nat} {pre : List TOp} {t t' : TTN} {g g' : LegMap} {v v' : VNet R} {es : List (Lr54Entry R)}
    (hacc : ∀ op ∈ pre, ∃ id, op = TOp.access id)
    (h : t.WF) (hl : t.LWF) (hv : v.WF) (hs : RSim dim e g t v)
    (hr : Lr54LevelRun dim e n ids kdim pre t g v es t' g' v')
    (hn : n ∈ v.ids) (hc : ∀ x ∈ es, x.c ∈ v.ids) :
    ∃ all : List (Ins Nat R), all.map Ins.Pm = es.map (·.Pi) ∧ all.map Ins.a' = es.map (·.a) ∧
      (∀ i ∈ all, i.b' = i.a' + 1) ∧
      (∀ i ∈ all, DependsOn (fun l => l = i.a' ∨ l = i.b') i.Pm) ∧
      (∀ i ∈ all, v.next ≤ i.a') ∧ all.Pairwise (fun x y => x.a' + 4 ≤ y.a') ∧
      (∀ i ∈ all, i.plain ∈ v.bonds) ∧
      v.bonds.Perm (lf62Erase v.bonds all ++ all.map Ins.plain) ∧
      (∀ σ, v.value dim σ =
        netValue dim (lf62Erase v.bonds all ++ all.map Ins.plain) (v.ids.map v.tens) σ) ∧
      ∀ σ, v'.value dim σ =
        netValue dim (lf62Erase v.bonds all ++ all.flatMap Ins.cut) (all.map Ins.Pm ++ v.ids.map v.tens) σ := by
  obtain ⟨all, e1, e2, hch⟩ := level_insChain dim e hacc h hl hv hs hr (K := v.ids) (N0 := v.next)
    (fun k hk => ⟨hk, hv.fresh k hk⟩) hn hc
  have r := hch.flat hv (Nat.le_refl _)
  exact ⟨all, e1, e2, r.succ, r.reads, r.fresh, r.apart, r.cuts.mem, r.cuts.perm,
    fun σ => netValue_perm_bonds dim r.cuts.perm hv.bonds_nodup _ σ, r.value⟩

open Ptn.C02.SimDemo Ptn.C10.TvDemo in
/-- non-vacuity of `truncate_node_level_flat_value` and `truncate_node_child_flat_value`: the two-node network of `SimDemo`,
    the single child `2` of node `1`, `Π = |0⟩⟨0|` (not the delta), the exact split of `TvDemo.factb`, empty prefix (the
    access of node `1` changes the demo state - it applies the pending permutation - and `TvDemo.simrunb` starts before it) -/
example : ∃ (v' : VNet Int) (p : Nat × Nat), p ∈ v0.bonds ∧ (∀ σ, VNet.value SimDemo.dim v' σ =
    netValue SimDemo.dim (v0.bonds.erase p ++ (lf62Ins v0 p Pi0).cut) (Pi0 :: v0.ids.map v0.tens) σ) ∧
    ∃ all : List (Ins Nat Int), all.map Ins.Pm = [Pi0] ∧ (∀ i ∈ all, i.plain ∈ v0.bonds) ∧
      ∀ σ, VNet.value SimDemo.dim v' σ = netValue SimDemo.dim (lf62Erase v0.bonds all ++ all.flatMap Ins.cut)
        (all.map Ins.Pm ++ v0.ids.map v0.tens) σ := by
  obtain ⟨hid, hadm, hdep, t', g', v', hr⟩ := simrunb
  obtain ⟨p, hp, _, hval⟩ := truncate_node_child_flat_value (ids := ⟨fun _ => 7, fun _ => 8, fun _ => 9⟩) (k := 3)
    SimDemo.dim SimDemo.e t0_wf.1 t0_wf.2 v0_wf rsim0 (.cons hadm hid (.nil _ _ _)) hdep hr
  have hlr := levelrunb hr
  obtain ⟨all, a1, _, _, _, _, _, a7, _, _, a8⟩ := truncate_node_level_flat_value SimDemo.dim SimDemo.e (by exact fun _ h => nomatch h)
    t0_wf.1 t0_wf.2 v0_wf rsim0 hlr (by decide) (by decide)
  exact ⟨v', p, hp, hval, all, a1, a7, a8⟩

end level_flat

section level_exists
open Ptn.C02 Ptn.C03 Ptn.Ein NodeS
variable {R : Type} [CommSemiring R]

/-- The first loop of `truncate_node(n)` over exactly the children of `n`, followed by any simulated history (the
contractions of the second and third loop): the invariants hold at the end, and the value is the flat record of
`truncate_node_level_flat_value` on the network the loop started from. -/
theorem level_tail_flat_value (dim : Nat → Nat) (e : Label → Nat) {t t1 t' : TTN} {g g1 g' : LegMap} {v v1 v' : VNet R}
    {n : Id} {node : NodeS} {ids : TTN.TempIds} {kdim : Id → Nat} {es : List (Lr54Entry R)} {ops : List TOp}
    (h : t.WF) (hl : t.LWF) (hv : v.WF) (hs : RSim dim e g t v) (hN : t.N n = some node)
    (hes : es.map (·.c) = node.children) (hlev : Lr54LevelRun dim e n ids kdim [.access n] t g v es t1 g1 v1)
    (htail : SimRun dim e t1 g1 v1 ops t' g' v') :
    (t'.WF ∧ t'.LWF ∧ v'.WF ∧ RSim dim e g' t' v') ∧
    ∃ all : List (Ins Nat R), all.map Ins.Pm = es.map (·.Pi) ∧ all.map Ins.a' = es.map (·.a) ∧
      (∀ i ∈ all, i.b' = i.a' + 1) ∧
      (∀ i ∈ all, DependsOn (fun l => l = i.a' ∨ l = i.b') i.Pm) ∧
      (∀ i ∈ all, i.plain ∈ v.bonds) ∧
      (∀ σ, v.value dim σ =
        netValue dim (lf62Erase v.bonds all ++ all.map Ins.plain) (v.ids.map v.tens) σ) ∧
      ∀ σ, v'.value dim σ =
        netValue dim (lf62Erase v.bonds all ++ all.flatMap Ins.cut) (all.map Ins.Pm ++ v.ids.map v.tens) σ := by
  obtain ⟨w1, l1, vw1, s1, _, _⟩ := levelRun_sound dim e h hl hv hs hlev
  obtain ⟨_, _, w2, l2, vw2, s2, _, valT⟩ := structural_history_preserves_value dim e w1 l1 vw1 s1 htail
  obtain ⟨hn, hc⟩ := level_nodes_mem h hs hN hes
  obtain ⟨all, a1, a2, a3, a4, _, _, a7, _, a9, a10⟩ := truncate_node_level_flat_value dim e
    (fun _ hop => ⟨n, List.mem_singleton.mp hop⟩) h hl hv hs hlev hn hc
  exact ⟨⟨w2, l2, vw2, s2⟩, all, a1, a2, a3, a4, a7, a9, fun σ => (valT σ).trans (a10 σ)⟩

/-- **`truncate_node(n)` without the recursive calls: the run EXISTS and computes the flat form.**  `t` a
well-formed, label-consistent state of the structural model, `v` a well-formed valued network related to it, the temporary
identifiers unused and distinct (`TempOK`), and the model's `truncateNodeStep` (first loop, `contract_all_children(n)`,
third loop `truncLoop3`) succeeds with result `t'`.  Contract of the external routines (`Lr66Contract`, a hypothesis, for
every state the first loop reaches and every child `c` of `n` not yet treated): the two fresh labels of the identity
insertion have the dimension of the bond `c - n`, and a two-leg tensor `Π_c` with an exact factorisation over a new bond
of dimension `kdim c` along the legs of `insert_projection_operator_and_conjugate` is delivered.  Then there are: the
value-level history of the first loop over EXACTLY the children of `n` in order (`Lr54LevelRun`, prefix `[.access n]`,
agreeing with the model's `truncLoop1`), followed by the simulated contractions of the second and the THIRD loop
(`lr66Tail`), ending in the very state `t'` the model returns with a related well-formed network `v'`; `t'` has the
structure and root of `t`; and `v'.value` is the ORIGINAL network with `Π_c` on every child bond at once (flat record
of `truncate_node_level_flat_value`), the value of `v` being the plain record. -/
theorem truncate_node_run_value (dim : Nat → Nat) (e : Label → Nat) {t t' : TTN} {g : LegMap} {v : VNet R} {n : Id}
    {ids : TTN.TempIds} {kdim : Id → Nat} (h : t.WF) (hl : t.LWF) (hv : v.WF) (hs : RSim dim e g t v)
    (hok : TempOK t.S ids) (hstep : t.truncateNodeStep n ids kdim = some t')
    (hO : ∀ es tm gm vm c cch, Lr54LevelRun dim e n ids kdim [.access n] t g v es tm gm vm →
      t.S c = some (some n, cch) → c ∉ es.map (·.c) → Lr66Contract dim e n ids (kdim c) tm gm vm c) :
    ∃ node, ∃ es : List (Lr54Entry R), ∃ t1 g1 v1 g' v', ∃ all : List (Ins Nat R),
      t.N n = some node ∧ es.map (·.c) = node.children ∧
      Lr54LevelRun dim e n ids kdim [.access n] t g v es t1 g1 v1 ∧
      TTN.truncLoop1 t n ids kdim node.children = some t1 ∧
      SimRun dim e t1 g1 v1 (lr66Tail n ids node.children) t' g' v' ∧
      t'.WF ∧ t'.LWF ∧ v'.WF ∧ RSim dim e g' t' v' ∧ t'.S = t.S ∧ t'.root = t.root ∧
      all.map Ins.Pm = es.map (·.Pi) ∧ all.map Ins.a' = es.map (·.a) ∧
      (∀ i ∈ all, i.b' = i.a' + 1) ∧
      (∀ i ∈ all, DependsOn (fun l => l = i.a' ∨ l = i.b') i.Pm) ∧
      (∀ i ∈ all, i.plain ∈ v.bonds) ∧
      (∀ σ, v.value dim σ =
        netValue dim (lf62Erase v.bonds all ++ all.map Ins.plain) (v.ids.map v.tens) σ) ∧
      ∀ σ, v'.value dim σ =
        netValue dim (lf62Erase v.bonds all ++ all.flatMap Ins.cut) (all.map Ins.Pm ++ v.ids.map v.tens) σ := by
  obtain ⟨node, es, t1, g1, v1, g', v', st⟩ := truncateNodeStep_run_exists dim e h hl hv hs hok hstep hO
  obtain ⟨_, all, hall⟩ := level_tail_flat_value dim e h hl hv hs st.isNode st.children st.level st.tail
  exact ⟨node, es, t1, g1, v1, g', v', all, st.isNode, st.children, st.level, st.loop1, st.tail, st.wf, st.lwf, st.vwf, st.sim,
    st.S, st.root, hall⟩

/-- the value chain of a recursion run (`Lr66RecRun`): every node step computes the flat record on the network before it
(`truncate_node_level_flat_value`; the contractions of the second and third loop keep the value).  `_partial`: the
records are relative to the network before EACH step, not one record on the original network (the tensors of the later
networks are contraction results of the earlier ones; their identification is not proved). -/
theorem truncate_recursion_value_chain_partial (dim : Nat → Nat) (e : Label → Nat) {ids : TTN.TempIds}
    {kdim : Id → Nat} {t t' : TTN} {g g' : LegMap} {v v' : VNet R} {l : List (Id × Id)}
    (h : t.WF) (hl : t.LWF) (hv : v.WF) (hs : RSim dim e g t v)
    (hr : Lr66RecRun dim e ids kdim t g v l t' g' v') : Lr66ValChain dim v l v' := by
  induction hr with
  | nil t g v => exact .nil (fun _ => rfl)
  | @step t t1 t2 t' g g1 g2 g' v v1 v2 v' n node es rest hN hes hlev htail _ ih =>
    obtain ⟨⟨w2, l2, vw2, s2⟩, all, a1, _, a3, a4, a7, a9, a10⟩ :=
      level_tail_flat_value dim e h hl hv hs hN hes hlev htail
    refine .step all node.children n ?_ a3 a4 a7 a9 a10 (ih w2 l2 vw2 s2)
    have e1 := congrArg List.length a1
    have e2 := congrArg List.length hes
    simp only [List.length_map] at e1 e2
    omega

/-- **`recursive_truncation` between its canonicalisations: the simulated run exists, cuts the bonds in the order
`truncOrder`, and its value is a chain of flat records.**  If the model's `recursiveTruncation` succeeds on
a well-formed, label-consistent tree with a related well-formed valued network, and the external routines keep their
contract in every state reached (`Lr66RecContract`, with the temporary identifiers `arithIds` of the model), then: the
value-level history `Lr66RecRun` exists, its bond list IS `truncOrder t.S (|nodes| + 1) root` (by `truncOrder_perm` every
non-root node exactly once with its parent), it ends in the state `t'` the model returns with a related well-formed
network `v'`, `t'` has the structure and the root of `t`, and the values are linked by `Lr66ValChain`.  `_partial`: see
`truncate_recursion_value_chain_partial`; the link to `recursive_truncation_value_telescope` needs ONE record on the
original network. -/
theorem recursive_truncation_run_value_partial (dim : Nat → Nat) (e : Label → Nat) {kdim : Id → Nat}
    {t t' : TTN} {g : LegMap} {v : VNet R} (h : t.WF) (hl : t.LWF) (hv : v.WF) (hs : RSim dim e g t v)
    (hrun : t.recursiveTruncation kdim = some t')
    (hO : Lr66RecContract dim e (TTN.arithIds ((t.nodes.map (·.1)).foldl max 0 + 1)) kdim t g v) :
    ∃ r g' v', t.root = some r ∧
      Lr66RecRun dim e (TTN.arithIds ((t.nodes.map (·.1)).foldl max 0 + 1)) kdim t g v
        (truncOrder t.S (t.nodes.length + 1) r) t' g' v' ∧
      t'.WF ∧ t'.LWF ∧ v'.WF ∧ RSim dim e g' t' v' ∧ t'.S = t.S ∧ t'.root = t.root ∧
      Lr66ValChain dim v (truncOrder t.S (t.nodes.length + 1) r) v' := by
  obtain ⟨r, hroot, hrun⟩ := recursiveTruncation_some hrun
  obtain ⟨g', v', rr, w', l', vw', s', hS, hR⟩ :=
    lr66_rec_exists dim e _ kdim (t.nodes.length + 1) t t' g v r h hl hv hs (arithIds_ok t) hrun hO
  exact ⟨r, g', v', hroot, rr, w', l', vw', s', hS, hR,
    truncate_recursion_value_chain_partial dim e h hl hv hs rr⟩

open Ptn.C02.SimDemo in
/-- (degenerate) joint satisfiability of the hypotheses of `truncate_node_run_value`: the leaf `2` of the two-node network
of `SimDemo` with the identifiers `arithIds` of the model; a leaf has no child, so the contract is never called and the
run consists of no step (`es = []`); the value is unchanged.  A non-degenerate instance of `Lr66Contract` is NOT given. -/
example : ∃ (v' : VNet Int), ∀ σ, VNet.value SimDemo.dim v' σ = VNet.value SimDemo.dim v0 σ := by
  have hS2 : t0.S 2 = some (some 1, []) := by decide
  have hsome : (t0.truncateNodeStep 2 (TTN.arithIds ((t0.nodes.map (·.1)).foldl max 0 + 1)) (fun _ => 3)).isSome
      = true := by decide
  obtain ⟨tE, hstep⟩ := Option.isSome_iff_exists.mp hsome
  obtain ⟨node, es, t1, g1, v1, g', v', all, hN, hes, hr, _, htail, _, _, _, _, _, _, a1, _, _, _, _, hplain, hval⟩ :=
    truncate_node_run_value (R := Int) SimDemo.dim SimDemo.e t0_wf.1 t0_wf.2 v0_wf rsim0 (arithIds_ok t0) hstep
      (by
        intro es tm gm vm c cch _ hSc
        obtain ⟨pp, pch, h2, hmem⟩ := t0_wf.1.str.up c 2 cch hSc
        rw [hS2] at h2
        cases h2
        cases hmem)
  refine ⟨v', fun σ => ?_⟩
  have hch : node.children = [] := by
    have h1 := TTN.S_eq hN
    rw [hS2] at h1
    simp only [Option.some.injEq, Prod.mk.injEq] at h1
    exact h1.2.symm
  have hes' : es = [] := List.map_eq_nil_iff.mp (hes.trans hch)
  have hall : all = [] := by rw [hes'] at a1; exact List.map_eq_nil_iff.mp a1
  rw [hval σ, hplain σ, hall]
  simp

end level_exists

section rec_error
open Ptn.C02 Ptn.C03 Ptn.Ein NodeS
variable {R : Type} [CommRing R]

/-- **Error identity of one level of `truncate_node`.**  For the first loop of `truncate_node(n)` over its
children (`Lr54LevelRun`, any read-only prefix), on a well-formed label-consistent tree with a related well-formed valued
network, over every commutative ring: there are the insertion records `all` (one per child, `Pm = Π_c`, fresh legs
`a'`, `b' = a' + 1`, every cut bond a bond of `v`, `dim b' = dim a` - the dimension clause of `insert_identity`, proved
from `ident_sim_core`, not assumed) with
`value before − value after = teleSum` = Σ over the children of the network with the matrices of the earlier children on
their bonds, `1 − Π_c` on the bond of `c`, the later bonds untouched (`recursive_truncation_value_telescope` instantiated;
its premise `(allLegs bs all).Nodup` is `lr73_allLegs_nodup`). -/
theorem truncate_node_level_error_identity (dim : Nat → Nat) (e : Label → Nat) {n : Id} {ids : TTN.TempIds}
    {kdim : Id → Nat} {pre : List TOp} {t t' : TTN} {g g' : LegMap} {v v' : VNet R} {es : List (Lr54Entry R)}
    (hacc : ∀ op ∈ pre, ∃ id, op = TOp.access id)
    (h : t.WF) (hl : t.LWF) (hv : v.WF) (hs : RSim dim e g t v)
    (hr : Lr54LevelRun dim e n ids kdim pre t g v es t' g' v')
    (hn : n ∈ v.ids) (hc : ∀ x ∈ es, x.c ∈ v.ids) :
    ∃ all : List (Ins Nat R), all.map Ins.Pm = es.map (·.Pi) ∧ all.map Ins.a' = es.map (·.a) ∧
      (∀ i ∈ all, i.b' = i.a' + 1) ∧ (∀ i ∈ all, i.plain ∈ v.bonds) ∧ (∀ i ∈ all, dim i.b' = dim i.a) ∧
      ∀ σ, v.value dim σ - v'.value dim σ =
        teleSum dim (lf62Erase v.bonds all) (v.ids.map v.tens) [] all σ :=
  level_run_error dim e hacc h hl hv hs hr hn hc

/-- **Error identity of the whole recursion, as a chain.**  Under the hypotheses of
`recursive_truncation_run_value_partial`: the run exists and there is `E` with `Lr73ErrChain dim v (truncOrder …) v' E` -
`E` is the sum over the node steps of the `teleSum` of that step - and `original value − final value = E`.
`_partial`: each summand is a `teleSum` on the network BEFORE its node step (whose tensors are contraction results of the
earlier steps), not on the ORIGINAL network: the collapse into one record is
not proved. -/
theorem recursive_truncation_run_error_identity_partial (dim : Nat → Nat) (e : Label → Nat) {kdim : Id → Nat}
    {t t' : TTN} {g : LegMap} {v : VNet R} (h : t.WF) (hl : t.LWF) (hv : v.WF) (hs : RSim dim e g t v)
    (hrun : t.recursiveTruncation kdim = some t')
    (hO : Lr66RecContract dim e (TTN.arithIds ((t.nodes.map (·.1)).foldl max 0 + 1)) kdim t g v) :
    ∃ r g' v' E, t.root = some r ∧
      Lr66RecRun dim e (TTN.arithIds ((t.nodes.map (·.1)).foldl max 0 + 1)) kdim t g v
        (truncOrder t.S (t.nodes.length + 1) r) t' g' v' ∧
      Lr73ErrChain dim v (truncOrder t.S (t.nodes.length + 1) r) v' E ∧
      ∀ σ, v.value dim σ - v'.value dim σ = E σ := by
  obtain ⟨r, g', v', hr, rr, _⟩ := recursive_truncation_run_value_partial dim e h hl hv hs hrun hO
  obtain ⟨E, hE⟩ := recRun_error_chain dim e h hl hv hs rr
  exact ⟨r, g', v', E, hr, rr, hE, Lr73ErrChain.total hE⟩

open Ptn.C02.SimDemo Ptn.C10.TvDemo in
/-- non-vacuity of `truncate_node_level_error_identity` and of a non-trivial `Lr73ErrChain` (one node step with one child):
the two-node network of `SimDemo`, child `2` of node `1`, `Π = |0⟩⟨0|` (not the delta), `TvDemo.simrunb`, empty prefix -/
example : ∃ (v' : VNet Int) (all : List (Ins Nat Int)) (E : Asg Nat → Int), all.map Ins.Pm = [Pi0] ∧
    (∀ σ, VNet.value SimDemo.dim v0 σ - VNet.value SimDemo.dim v' σ =
      teleSum SimDemo.dim (lf62Erase v0.bonds all) (v0.ids.map v0.tens) [] all σ) ∧
    Lr73ErrChain SimDemo.dim v0 ([2].map (fun c => (1, c)) ++ []) v' E ∧
    ∀ σ, VNet.value SimDemo.dim v0 σ - VNet.value SimDemo.dim v' σ = E σ := by
  obtain ⟨_, _, _, t', g', v', hr⟩ := simrunb
  have hlr := levelrunb hr
  obtain ⟨all, a1, _, a3, a4, a5, a6⟩ := truncate_node_level_error_identity SimDemo.dim SimDemo.e (by exact fun _ h => nomatch h)
    t0_wf.1 t0_wf.2 v0_wf rsim0 hlr (by decide) (by decide)
  have hlen : all.length = [2].length := (List.length_map Ins.Pm).symm.trans (congrArg List.length a1)
  have hch : Lr73ErrChain SimDemo.dim v0 ([2].map (fun c => (1, c)) ++ []) v' _ :=
    .step all [2] 1 hlen a3 a4 a5 a6 (.nil (fun _ => rfl))
  exact ⟨v', all, _, a1, a6, hch, Lr73ErrChain.total hch⟩

end rec_error

end Ptn.C10
