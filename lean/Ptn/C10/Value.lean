import Ptn.Common.EinsumNet
import Ptn.C10.ValueLemmas
/-! Value level for C10: what inserting a projector pair on a bond does to the VALUE of the network.

`truncate_node` (`pytreenet/core/truncation/recursive_truncation.py`) replaces the bond `(a, b)` between two
tensors `A` (leg `a`) and `B` (leg `b`) by `A — P — Pc — B`: two new two-leg tensors `P[a', k]`, `Pc[k', b']`
and the three bonds `(a, a')`, `(k, k')`, `(b', b)`.  Everything on the flat network semantics `Ptn.Ein.netValue`,
over an arbitrary commutative semiring / ring, for all dimensions and every assignment of the open legs. -/
namespace Ptn.C10

open Finset Ptn.Ein

-- `identity_matrix_value` states `b' ≠ b`, which its proof does not need
set_option linter.unusedVariables false

theorem sumPairs_cons {L R : Type} [DecidableEq L] [CommSemiring R] (dim : L → Nat) (a b : L)
    (ps : List (L × L)) (f : Asg L → R) (σ : Asg L) :
    sumPairs dim ((a, b) :: ps) f σ = sumR (dim a) (fun i => sumPairs dim ps f (upd (upd σ a i) b i)) := rfl

section semiring
variable {L : Type} [DecidableEq L] {R : Type} [CommSemiring R]

def projMat (dim : L → Nat) (P Pc : Asg L → R) (k k' : L) : Asg L → R :=
  fun τ => sumPairs dim [(k, k')] (fun ρ => P ρ * Pc ρ) τ

theorem projector_matrix_value (dim : L → Nat) (bs : List (L × L)) (P Pc : Asg L → R)
    (leaves : List (Asg L → R)) (a b a' b' k k' : L) {S : L → Prop}
    (hleaves : ∀ f ∈ leaves, DependsOn S f) (hk : ¬ S k) (hk' : ¬ S k')
    (h1 : k ≠ b') (h2 : k ≠ b) (h3 : k' ≠ b') (h4 : k' ≠ b) (σ : Asg L) :
    netValue dim (bs ++ [(a, a'), (k, k'), (b', b)]) (P :: Pc :: leaves) σ =
      netValue dim (bs ++ [(a, a'), (b', b)]) (projMat dim P Pc k k' :: leaves) σ := by
  -- sum over `(k, k')` last; then `P`, `Pc` over that bond are one leaf
  have hmove : netValue dim (bs ++ [(a, a'), (k, k'), (b', b)]) (P :: Pc :: leaves) σ =
      netValue dim ((bs ++ [(a, a'), (b', b)]) ++ [(k, k')]) (P :: Pc :: leaves) σ := by
    unfold netValue
    rw [List.append_assoc, sumPairs_append, sumPairs_append]
    exact sumPairs_congr dim bs (fun τ => sumR_congr _ fun i _ =>
      sumPairs_swap dim (k, k') (b', b) [] _ _ h1 h2 h3 h4) σ
  rw [hmove]
  exact split_leaf_value dim _ _ P Pc leaves k k' (fun _ => rfl) hleaves hk hk' σ

theorem identity_matrix_value (dim : L → Nat) (bs : List (L × L)) (Pm : Asg L → R)
    (leaves : List (Asg L → R)) (a b a' b' : L) {S : L → Prop}
    (hleaves : ∀ f ∈ leaves, DependsOn S f) (ha' : ¬ S a') (hb' : ¬ S b')
    (h1 : a' ≠ b') (h2 : a' ≠ b) (h3 : b' ≠ b) (hdim : dim b' = dim a)
    (hid : ∀ τ : Asg L, τ a' < dim a → τ b' < dim b' → Pm τ = if τ a' = τ b' then 1 else 0)
    (σ : Asg L) :
    netValue dim (bs ++ [(a, a'), (b', b)]) (Pm :: leaves) σ = netValue dim (bs ++ [(a, b)]) leaves σ :=
  netValue_delta dim bs Pm leaves a b a' b' hleaves ha' hb' h1 h2 hdim (fun τ ha hb => hid τ ha (hdim.symm ▸ hb)) σ

/-- **"Is the identity when nothing is discarded" (value level).**  If the kept basis is complete,
`Σ_k P[x,k]·Pc[k,y] = δ_xy` for all indices `x`, `y` in the range of the bond, then replacing the bond
`(a, b)` by `A — P — Pc — B` leaves the value of the whole network unchanged, for every assignment of the open
legs, whatever the rest of the network is. -/
theorem projector_identity_value (dim : L → Nat) (bs : List (L × L)) (P Pc : Asg L → R)
    (leaves : List (Asg L → R)) (a b a' b' k k' : L) {S : L → Prop}
    (hleaves : ∀ f ∈ leaves, DependsOn S f)
    (ha' : ¬ S a') (hb' : ¬ S b') (hk : ¬ S k) (hk' : ¬ S k')
    (hnd : [b, a', b', k, k'].Nodup) (hdim : dim b' = dim a)
    (hcomplete : ∀ τ : Asg L, τ a' < dim a → τ b' < dim b' →
      sumPairs dim [(k, k')] (fun ρ => P ρ * Pc ρ) τ = if τ a' = τ b' then 1 else 0)
    (σ : Asg L) :
    netValue dim (bs ++ [(a, a'), (k, k'), (b', b)]) (P :: Pc :: leaves) σ =
      netValue dim (bs ++ [(a, b)]) leaves σ := by
  simp only [List.nodup_cons, List.mem_cons, List.not_mem_nil, not_or, or_false] at hnd
  obtain ⟨⟨hba', hbb', hbk, hbk'⟩, ⟨ha'b', _, _⟩, ⟨hb'k, hb'k'⟩, _, _⟩ := hnd
  rw [projector_matrix_value dim bs P Pc leaves a b a' b' k k' hleaves hk hk'
    (Ne.symm hb'k) (Ne.symm hbk) (Ne.symm hb'k') (Ne.symm hbk') σ]
  exact identity_matrix_value dim bs _ leaves a b a' b' hleaves ha' hb' ha'b' (Ne.symm hba') (Ne.symm hbb')
    hdim hcomplete σ

end semiring

section ring
variable {L : Type} [DecidableEq L] {R : Type} [CommRing R]

/-- **What a truncating projector removes (value level).**  Over a commutative ring, for ANY `P`, `Pc`:
the value of the old network minus the value of the network with `A — P — Pc — B` on the bond `(a, b)` is
the value of the old network with the matrix `1 − Π`, `Π = P·Pc`, inserted on that bond — linearity of the
big sum in one leaf.  (With `P = U₁`, `Pc = U₁ᴴ` from the SVD of the centre tensor, `1 − Π` is the projector on
the discarded singular vectors; its effect is bounded in norm by `single_projector_error` /
`general_step_bound`.) -/
theorem projector_linear_value (dim : L → Nat) (bs : List (L × L)) (P Pc : Asg L → R)
    (leaves : List (Asg L → R)) (a b a' b' k k' : L) {S : L → Prop}
    (hleaves : ∀ f ∈ leaves, DependsOn S f)
    (ha' : ¬ S a') (hb' : ¬ S b') (hk : ¬ S k) (hk' : ¬ S k')
    (hnd : [b, a', b', k, k'].Nodup) (hdim : dim b' = dim a) (σ : Asg L) :
    netValue dim (bs ++ [(a, b)]) leaves σ
        - netValue dim (bs ++ [(a, a'), (k, k'), (b', b)]) (P :: Pc :: leaves) σ =
      netValue dim (bs ++ [(a, a'), (b', b)])
        ((fun τ => deltaT a' b' τ - projMat dim P Pc k k' τ) :: leaves) σ := by
  simp only [List.nodup_cons, List.mem_cons, List.not_mem_nil, not_or, or_false] at hnd
  obtain ⟨⟨hba', hbb', hbk, hbk'⟩, ⟨ha'b', _, _⟩, ⟨hb'k, hb'k'⟩, _, _⟩ := hnd
  rw [netValue_sub_head,
    projector_matrix_value dim bs P Pc leaves a b a' b' k k' hleaves hk hk'
      (Ne.symm hb'k) (Ne.symm hbk) (Ne.symm hb'k') (Ne.symm hbk') σ,
    identity_matrix_value dim bs (deltaT a' b') leaves a b a' b' hleaves ha' hb' ha'b' (Ne.symm hba')
      (Ne.symm hbb') hdim (fun τ _ _ => rfl) σ]

end ring

end Ptn.C10
