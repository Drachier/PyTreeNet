import Ptn.C10.Spec
/-! Helper lemmas for C10 (core Lean only).  The spine: both rules select a prefix (`selected_eq_take`: the value rule
filters a descending list by a monotone predicate, the sum rule takes `sumTruncIndex` values), `capSplit` of a prefix is a
prefix again (`capSplit_take`), hence `truncate_eq`: the result of `truncate` in closed form for every valid parameter
object. -/
namespace Ptn.C10

theorem desc_tail {a : Rat} {t : List Rat} (h : Desc (a :: t)) : Desc t := by
  unfold Desc at *; exact (List.pairwise_cons.mp h).2

theorem desc_head_ge {a : Rat} {t : List Rat} (h : Desc (a :: t)) : ∀ b ∈ t, b ≤ a := by
  unfold Desc at *; exact (List.pairwise_cons.mp h).1

theorem filter_eq_take_countP (P : Rat → Bool) (s : List Rat) (hd : Desc s)
    (hmono : ∀ a b, b ≤ a → P b = true → P a = true) :
    s.filter P = s.take (s.countP P) := by
  induction s with
  | nil => simp
  | cons a t ih =>
    have ih' := ih (desc_tail hd)
    by_cases ha : P a = true
    · simp [ha, ih']
    · have hall : ∀ b ∈ t, ¬ P b = true := by
        intro b hb hPb
        exact ha (hmono a b (desc_head_ge hd b hb) hPb)
      have h1 : t.filter P = [] := by
        rw [List.filter_eq_nil_iff]; exact hall
      have h2 : t.countP P = 0 := by
        rw [List.countP_eq_zero]; exact hall
      simp [ha, h1, h2]

theorem prefix_iff_lt_countP (P : Rat → Bool) (s : List Rat) (hd : Desc s)
    (hmono : ∀ a b, b ≤ a → P b = true → P a = true) (i : Nat) (hi : i < s.length) :
    P s[i] = true ↔ i < s.countP P := by
  induction s generalizing i with
  | nil => simp at hi
  | cons a t ih =>
    by_cases ha : P a = true
    · cases i with
      | zero => simp [ha]
      | succ j =>
        have := ih (desc_tail hd) j (by simpa using hi)
        simp [ha, this]
    · have hall : ∀ b ∈ t, ¬ P b = true := by
        intro b hb hPb
        exact ha (hmono a b (desc_head_ge hd b hb) hPb)
      have h2 : t.countP P = 0 := by
        rw [List.countP_eq_zero]; exact hall
      cases i with
      | zero => simp [ha, h2]
      | succ j =>
        have hmem : t[j]'(by simpa using hi) ∈ t := List.getElem_mem _
        have := hall _ hmem
        simp [ha, h2, this]

theorem above_fin (q x : Rat) : above (.fin q) x = decide (q < x) := by
  simp [above, Cut.gt]

theorem above_mono (c : Cut) (a b : Rat) (h : b ≤ a) (hb : above c b = true) :
    above c a = true := by
  cases c with
  | nan => simp [above, Cut.gt] at hb
  | ninf => simp [above, Cut.gt]
  | pinf => simp [above, Cut.gt] at hb
  | fin q =>
    simp only [above, Cut.gt, decide_eq_true_eq] at hb ⊢
    exact Std.lt_of_lt_of_le hb h

theorem survives_mono (rel tot : Tol) (s0 a b : Rat) (h : b ≤ a)
    (hb : survives rel tot s0 b = true) : survives rel tot s0 a = true := by
  have key : ∀ t : Tol, t.lt b = true → t.lt a = true := by
    intro t ht
    cases t with
    | ninf => rfl
    | pinf => simp [Tol.lt] at ht
    | fin q =>
      simp only [Tol.lt, decide_eq_true_eq] at ht ⊢
      exact Std.lt_of_lt_of_le ht h
  simp [survives] at hb ⊢
  exact ⟨key _ hb.1, key _ hb.2⟩

theorem above_iff_survives (rel tot : Tol) (s0 x : Rat) (h0 : 0 ≤ s0) (hx : x ≤ s0) :
    above (pyMax (rel.mul s0) tot.toCut) x = survives rel tot s0 x := by
  by_cases hz : s0 = 0
  · subst hz
    have hx' : ¬ (0 < x) := Rat.not_lt.mpr hx
    cases rel <;> cases tot <;>
      simp [Tol.mul, pyMax, Cut.gt, above, survives, relTimes, Tol.lt, Tol.toCut, hx'] <;> grind
  · have hpos : 0 < s0 := Rat.lt_of_le_of_ne h0 (Ne.symm hz)
    cases rel <;> cases tot <;>
      simp [Tol.mul, pyMax, Cut.gt, above, survives, relTimes, Tol.lt, Tol.toCut, hz, hpos] <;> grind

theorem mul_self_nonneg (x : Rat) : 0 ≤ x * x := by
  rcases Rat.le_total (a := 0) (b := x) with h | h
  · exact Rat.mul_nonneg h h
  · have : 0 ≤ -x := by grind
    have := Rat.mul_nonneg this this
    grind

theorem normSq_nil : normSq [] = 0 := rfl
theorem normSq_cons (x : Rat) (t : List Rat) : normSq (x :: t) = x * x + normSq t := by
  simp [normSq]
theorem normSq_append (a b : List Rat) : normSq (a ++ b) = normSq a + normSq b := by
  simp [normSq]
theorem normSq_reverse (a : List Rat) : normSq a.reverse = normSq a := by
  unfold normSq; rw [List.map_reverse, List.sum_reverse]
theorem normSq_nonneg (a : List Rat) : 0 ≤ normSq a := by
  induction a with
  | nil => simp [normSq]
  | cons x t ih => rw [normSq_cons]; exact Rat.add_nonneg (mul_self_nonneg x) ih

theorem normSq_drop_anti (s : List Rat) (j j' : Nat) (h : j ≤ j') :
    normSq (s.drop j') ≤ normSq (s.drop j) := by
  have h1 : s.drop j = (s.drop j).take (j' - j) ++ s.drop j' := by
    have := (List.take_append_drop (j' - j) (s.drop j)).symm
    rw [List.drop_drop] at this
    have e : j + (j' - j) = j' := by omega
    rw [e] at this
    exact this
  rw [h1, normSq_append]
  have := normSq_nonneg ((s.drop j).take (j' - j))
  grind

/-- The loop of `_sum_truncation_index` with the first `k` values still to come (it has summed the tail `s[k:]`): it
    returns some `r ≤ k` such that every tail `s[j:]`, `r ≤ j < k`, stays within the threshold and, unless `r = 0`, the tail
    `s[r-1:]` exceeds it. -/
theorem sumScan_take (s : List Rat) (thresh : Cut) (norming : Bool) (k : Nat) (hk : k ≤ s.length) :
    ∃ r, sumScan s.length (normSq s) thresh norming (s.take k).reverse (normSq (s.drop k)) (s.length - k) = r ∧
      r ≤ k ∧ (∀ j, r ≤ j → j < k → above thresh (relWeight s norming j) = false) ∧
      ∀ j, j + 1 = r → above thresh (relWeight s norming j) = true := by
  induction k with
  | zero => exact ⟨0, rfl, Nat.le_refl 0, fun j _ h => absurd h (Nat.not_lt_zero j), fun j h => nomatch h⟩
  | succ k ih =>
    obtain ⟨r, hr, hrk, h1, h2⟩ := ih (Nat.le_of_succ_le hk)
    have hlt : k < s.length := hk
    -- one round of the loop: it reads `s[k]`, the sum becomes the weight of `s[k:]`
    have e1 : (s.take (k + 1)).reverse = s[k] :: (s.take k).reverse := by
      rw [List.take_succ_eq_append_getElem hlt, List.reverse_append]; rfl
    have e2 : normSq (s.drop (k + 1)) + s[k] * s[k] = normSq (s.drop k) := by
      rw [List.drop_eq_getElem_cons hlt (l := s), normSq_cons, Rat.add_comm]
    have e3 : s.length - (k + 1) + 1 = s.length - k := Nat.succ_pred_eq_of_pos (Nat.sub_pos_of_lt hlt)
    have e4 : s.length - (s.length - (k + 1)) = k + 1 := Nat.sub_sub_self hk
    have hstep : sumScan s.length (normSq s) thresh norming (s.take (k + 1)).reverse (normSq (s.drop (k + 1)))
        (s.length - (k + 1)) = if above thresh (relWeight s norming k) then k + 1 else r := by
      rw [e1]; simp only [sumScan, e2, e3, e4, hr]; rfl
    rw [hstep]
    by_cases hab : above thresh (relWeight s norming k) = true
    · rw [if_pos hab]
      exact ⟨_, rfl, Nat.le_refl _, fun j h h' => absurd h (Nat.not_le_of_lt h'), fun j h => Nat.succ.inj h ▸ hab⟩
    · rw [if_neg hab]
      refine ⟨_, rfl, Nat.le_succ_of_le hrk, fun j h h' => ?_, h2⟩
      rcases Nat.lt_succ_iff_lt_or_eq.mp h' with h' | rfl
      · exact h1 j h h'
      · exact Bool.eq_false_iff.mpr hab

theorem above_sq_false_iff (tot : Tol) (w : Rat) :
    above tot.sq w = false ↔ (match tot with | .fin t => w ≤ t * t | _ => True) := by
  cases tot <;> simp [Tol.sq, above, Cut.gt, Rat.not_lt]

theorem relWeight_anti (s : List Rat) (norming : Bool) (hn : normSq s ≠ 0) (j j' : Nat)
    (h : j ≤ j') : relWeight s norming j' ≤ relWeight s norming j := by
  have hpos : 0 < normSq s := Rat.lt_of_le_of_ne (normSq_nonneg s) (Ne.symm hn)
  have hle := normSq_drop_anti s j j' h
  unfold relWeight tailWeight
  cases norming
  · simpa using hle
  · simp only [if_true]
    rw [Rat.div_def, Rat.div_def]
    exact Rat.mul_le_mul_of_nonneg_right hle (Rat.le_of_lt (Rat.inv_pos.mpr hpos))

theorem relWeight_length (s : List Rat) (norming : Bool) : relWeight s norming s.length = 0 := by
  unfold relWeight tailWeight
  rw [List.drop_length, normSq_nil, Rat.div_def, Rat.zero_mul]
  exact ite_self 0

theorem sumTruncIndex_spec (s : List Rat) (tot : Tol) (norming : Bool) (hn : normSq s ≠ 0) :
    sumTruncIndex s tot norming ≤ s.length ∧
    Fits s tot norming (sumTruncIndex s tot norming) ∧
    ∀ j, j < sumTruncIndex s tot norming → ¬ Fits s tot norming j := by
  have hfits : ∀ j, Fits s tot norming j ↔ above tot.sq (relWeight s norming j) = false := by
    intro j; rw [above_sq_false_iff]; unfold Fits; cases tot <;> simp
  have hlast : Fits s tot norming s.length := by
    cases tot with
    | fin t => show relWeight s norming s.length ≤ t * t; rw [relWeight_length]; exact mul_self_nonneg t
    | _ => trivial
  obtain ⟨r, hr, hle, h1, h2⟩ := sumScan_take s tot.sq norming s.length (Nat.le_refl _)
  rw [List.take_length, List.drop_length, Nat.sub_self] at hr
  have hK : sumTruncIndex s tot norming = r := by unfold sumTruncIndex; rw [if_neg hn]; exact hr
  rw [hK]
  refine ⟨hle, ?_, fun j hj hf => ?_⟩
  · rcases Nat.lt_or_ge r s.length with h | h
    · exact (hfits r).mpr (h1 r (Nat.le_refl r) h)
    · rw [Nat.le_antisymm hle h]; exact hlast
  · -- the tail `s[r-1:]` exceeds the tolerance, and `s[j:]` weighs at least as much
    obtain ⟨r', rfl⟩ : ∃ r', r = r' + 1 := ⟨r - 1, by omega⟩
    have := above_mono tot.sq _ _ (relWeight_anti s norming hn j r' (Nat.le_of_lt_succ hj)) (h2 r' rfl)
    rw [(hfits j).mp hf] at this
    cases this

theorem rejected_eq_false (t : Tol) : t.rejected = false ↔ ∀ q, t = .fin q → 0 ≤ q := by
  cases t <;> simp [Tol.rejected, Rat.not_lt]

theorem ite_valueError_eq_ok {c : Prop} [Decidable c] (f : String) (v : Validation) :
    (if c then .valueError f else v) = .ok ↔ ¬ c ∧ v = .ok := by
  by_cases h : c <;> simp [h]

theorem valid_bond (p : Params) (hp : p.Valid) : ∀ d, p.maxBond = some d → 0 < d := by
  intro d hd
  unfold Params.Valid Params.bondArg checkParams at hp
  rw [hd] at hp
  simp only at hp
  by_cases h : d = 0
  · simp [h] at hp
  · omega

theorem desc_le_head (s : List Rat) (hs : s ≠ []) (hd : Desc s) : ∀ x ∈ s, x ≤ s.head hs := by
  cases s with
  | nil => exact absurd rfl hs
  | cons a t =>
    intro x hx
    rcases List.mem_cons.mp hx with h | h
    · subst h; exact Rat.le_refl
    · exact desc_head_ge hd x h

theorem valueTruncation_eq_take (s : List Rat) (tot rel : Tol) (hs : s ≠ []) (hnn : NonNeg s)
    (hd : Desc s) :
    valueTruncation s tot rel = s.take (s.countP (survives rel tot (s.head hs))) := by
  cases s with
  | nil => exact absurd rfl hs
  | cons a t =>
    have h0 : 0 ≤ a := hnn a (by simp)
    have hle := desc_le_head (a :: t) hs hd
    simp only [List.head_cons] at hle ⊢
    have hcongr : (a :: t).filter (above (pyMax (rel.mul a) tot.toCut)) =
        (a :: t).filter (survives rel tot a) := by
      apply List.filter_congr
      intro x hx
      exact above_iff_survives rel tot a x h0 (hle x hx)
    unfold valueTruncation
    simp only
    rw [hcongr]
    exact filter_eq_take_countP _ _ hd (fun a b h hb => survives_mono rel tot _ a b h hb)

theorem sumTruncIndex_le (s : List Rat) (tot : Tol) (norming : Bool) :
    sumTruncIndex s tot norming ≤ s.length := by
  by_cases hn : normSq s = 0
  · simp [sumTruncIndex, hn]
  · exact (sumTruncIndex_spec s tot norming hn).1

/-- how many values the rule in force (value rule or sum rule) selects -/
def selLen (s : List Rat) (p : Params) (hs : s ≠ []) : Nat :=
  if p.sumTrunc then sumTruncIndex s p.totalTol p.sumRenorm
  else s.countP (survives p.relTol p.totalTol (s.head hs))

theorem selLen_le (s : List Rat) (p : Params) (hs : s ≠ []) : selLen s p hs ≤ s.length := by
  unfold selLen; split
  · exact sumTruncIndex_le _ _ _
  · exact List.countP_le_length

theorem selected_eq_take (s : List Rat) (p : Params) (hs : s ≠ []) (hnn : NonNeg s)
    (hd : Desc s) : selected s p = s.take (selLen s p hs) := by
  unfold selected selLen
  split
  · rfl
  · exact valueTruncation_eq_take s _ _ hs hnn hd

theorem capSplit_take (s : List Rat) (n : Nat) (mb : Option Nat)
    (hn : n ≤ s.length) (hmb : ∀ d, mb = some d → 0 < d) :
    capSplit s (s.take n) mb = (s.take (capMin (max n 1) mb), s.drop (capMin (max n 1) mb)) := by
  have hlen : (s.take n).length = n := List.length_take_of_le hn
  unfold capSplit capMin
  rw [hlen]
  by_cases h0 : n = 0
  · subst h0
    cases mb with
    | none => rfl
    | some d =>
      have e : min (max 0 1) d = 1 := Nat.min_eq_left (hmb d rfl)
      simp only [e, if_neg (Nat.not_lt_zero d), if_true]
  · rw [Nat.max_eq_left (Nat.pos_of_ne_zero h0)]
    cases mb with
    | none => simp only [if_neg h0]
    | some d =>
      by_cases h1 : n > d
      · simp only [if_pos h1, List.take_take, Nat.min_eq_left (Nat.le_of_lt h1), Nat.min_eq_right (Nat.le_of_lt h1)]
      · simp only [if_neg h1, if_neg h0, Nat.min_eq_left (Nat.le_of_not_gt h1)]

/-- what `truncate` returns as kept when it keeps `k` values -/
def keptOf (s : List Rat) (renorm : Bool) (k : Nat) : List Rat :=
  if renorm then renormalise s (s.take k) else s.take k

def keptLen (s : List Rat) (p : Params) (hs : s ≠ []) : Nat :=
  capMin (max (selLen s p hs) 1) p.maxBond

theorem truncate_eq (s : List Rat) (p : Params) (hs : s ≠ []) (hnn : NonNeg s) (hd : Desc s)
    (hp : p.Valid) :
    truncate s p = some (keptOf s p.renorm (keptLen s p hs), s.drop (keptLen s p hs)) := by
  have hl : s.length ≠ 0 := by
    intro h; exact hs (List.length_eq_zero_iff.mp h)
  unfold truncate
  simp only [hl, if_false]
  rw [selected_eq_take s p hs hnn hd,
    capSplit_take s _ p.maxBond (selLen_le s p hs) (valid_bond p hp)]
  rfl

theorem keptLen_bounds (s : List Rat) (p : Params) (hs : s ≠ []) (hp : p.Valid) :
    1 ≤ keptLen s p hs ∧ keptLen s p hs ≤ s.length ∧ ∀ d, p.maxBond = some d → keptLen s p hs ≤ d := by
  have hle : max (selLen s p hs) 1 ≤ s.length :=
    Nat.max_le.mpr ⟨selLen_le s p hs, List.length_pos_iff.mpr hs⟩
  unfold keptLen
  cases hmb : p.maxBond with
  | none => exact ⟨Nat.le_max_right _ _, hle, fun _ h => nomatch h⟩
  | some d =>
    refine ⟨Nat.le_min.mpr ⟨Nat.le_max_right _ _, valid_bond p hp d hmb⟩,
      Nat.le_trans (Nat.min_le_left _ _) hle, fun d' h => ?_⟩
    cases h
    exact Nat.min_le_right _ _

theorem sum_nonneg (l : List Rat) (h : NonNeg l) : 0 ≤ l.sum := by
  induction l with
  | nil => simp
  | cons a t ih =>
    simp only [List.sum_cons]
    exact Rat.add_nonneg (h a (by simp)) (ih (fun x hx => h x (by simp [hx])))

theorem nonneg_take (s : List Rat) (h : NonNeg s) (k : Nat) : NonNeg (s.take k) :=
  fun x hx => h x (List.mem_of_mem_take hx)

theorem nonneg_drop (s : List Rat) (h : NonNeg s) (k : Nat) : NonNeg (s.drop k) :=
  fun x hx => h x (List.mem_of_mem_drop hx)

theorem sum_take_le_sum (s : List Rat) (h : NonNeg s) (k : Nat) : (s.take k).sum ≤ s.sum := by
  have e : s.sum = (s.take k).sum + (s.drop k).sum := by
    rw [← List.sum_append, List.take_append_drop]
  have := sum_nonneg _ (nonneg_drop s h k)
  grind

theorem head_le_sum_take (s : List Rat) (hs : s ≠ []) (h : NonNeg s) (k : Nat) (hk : 1 ≤ k) :
    s.head hs ≤ (s.take k).sum := by
  cases s with
  | nil => exact absurd rfl hs
  | cons a t =>
    obtain ⟨j, rfl⟩ : ∃ j, k = j + 1 := ⟨k - 1, by omega⟩
    simp only [List.take_succ_cons, List.sum_cons, List.head_cons]
    have := sum_nonneg _ (nonneg_take t (fun x hx => h x (by simp [hx])) j)
    grind

theorem all_zero_of_head_zero (s : List Rat) (hs : s ≠ []) (hnn : NonNeg s) (hd : Desc s)
    (h0 : s.head hs = 0) : ∀ x ∈ s, x = 0 := by
  intro x hx
  have h1 := desc_le_head s hs hd x hx
  have h2 := hnn x hx
  grind

theorem sum_take_zero (s : List Rat) (hs : s ≠ []) (hnn : NonNeg s) (hd : Desc s)
    (h0 : s.head hs = 0) (k : Nat) : (s.take k).sum = 0 := by
  have hall : ∀ x ∈ s.take k, x = 0 := fun x hx =>
    all_zero_of_head_zero s hs hnn hd h0 x (List.mem_of_mem_take hx)
  generalize s.take k = l at hall
  induction l with
  | nil => simp
  | cons a t ih =>
    simp only [List.sum_cons]
    rw [hall a (by simp), ih (fun x hx => hall x (by simp [hx]))]
    simp [Rat.add_zero]

theorem sum_map_mul (c : Rat) (l : List Rat) : (l.map (c * ·)).sum = c * l.sum := by
  induction l with
  | nil => simp [Rat.mul_zero]
  | cons a t ih => simp [ih, Rat.mul_add]

theorem renormalise_pos (s : List Rat) (k : Nat) (hpos : 0 < (s.take k).sum) :
    renormalise s (s.take k) = (s.take k).map (renormFactor s k * ·) := by
  have hne : (s.take k).sum ≠ 0 := by grind
  unfold renormalise renormFactor
  simp only [hne, if_false]
  apply List.map_congr_left
  intro x _
  simp only [Rat.div_def]
  grind

theorem renormalise_zero (s newS : List Rat) (hz : newS.sum = 0) : renormalise s newS = newS := by
  unfold renormalise
  simp [hz]

theorem renormFactor_ge_one (s : List Rat) (hnn : NonNeg s) (k : Nat) (hpos : 0 < (s.take k).sum) :
    1 ≤ renormFactor s k := by
  unfold renormFactor
  have hle := sum_take_le_sum s hnn k
  have hinv : 0 < ((s.take k).sum)⁻¹ := Rat.inv_pos.mpr hpos
  have h1 : (s.take k).sum * ((s.take k).sum)⁻¹ = 1 := Rat.mul_inv_cancel _ (by grind)
  have h2 := Rat.mul_le_mul_of_nonneg_right hle (Rat.le_of_lt hinv)
  rw [Rat.div_def]
  rw [h1] at h2; exact h2

theorem renorm_sum (s : List Rat) (k : Nat) (hpos : 0 < (s.take k).sum) :
    ((s.take k).map (renormFactor s k * ·)).sum = s.sum := by
  rw [sum_map_mul]
  unfold renormFactor
  exact Rat.div_mul_cancel (by grind)

theorem renormalise_length (s newS : List Rat) : (renormalise s newS).length = newS.length := by
  unfold renormalise
  by_cases h : newS.sum = 0
  · exact congrArg List.length (if_pos h)
  · exact (congrArg List.length (if_neg h)).trans (List.length_map _)

theorem keptOf_length (s : List Rat) (renorm : Bool) (k : Nat) (hk : k ≤ s.length) :
    (keptOf s renorm k).length = k := by
  have hl : (s.take k).length = k := List.length_take_of_le hk
  unfold keptOf
  split
  · rw [renormalise_length, hl]
  · exact hl

theorem sum_zero_of_head_zero (s : List Rat) (hs : s ≠ []) (hnn : NonNeg s) (hd : Desc s)
    (h0 : s.head hs = 0) : s.sum = 0 := by
  have := sum_take_zero s hs hnn hd h0 s.length
  simpa using this

theorem head_zero_or_pos (s : List Rat) (hs : s ≠ []) (hnn : NonNeg s) : s.head hs = 0 ∨ 0 < s.head hs :=
  (Decidable.em (s.head hs = 0)).imp_right fun hz => Rat.lt_of_le_of_ne (hnn _ (List.head_mem hs)) (Ne.symm hz)

theorem keptOf_of_head_zero (s : List Rat) (hs : s ≠ []) (hnn : NonNeg s) (hd : Desc s) (hz : s.head hs = 0)
    (renorm : Bool) (k : Nat) : keptOf s renorm k = s.take k := by
  cases renorm
  · rfl
  · exact renormalise_zero s _ (sum_take_zero s hs hnn hd hz k)

theorem keptOf_of_head_pos (s : List Rat) (hs : s ≠ []) (hnn : NonNeg s) (hpos : 0 < s.head hs) (k : Nat)
    (hk : 1 ≤ k) : 0 < (s.take k).sum ∧ keptOf s true k = (s.take k).map (renormFactor s k * ·) :=
  have hsum := Std.lt_of_lt_of_le hpos (head_le_sum_take s hs hnn k hk)
  ⟨hsum, renormalise_pos s k hsum⟩

theorem selected_and_kept (s : List Rat) (p : Params) (hs : s ≠ []) (hnn : NonNeg s) (hd : Desc s)
    (hp : p.Valid) {n : Nat} (hsel : selLen s p hs = n) :
    selected s p = s.take n ∧
    ∃ kept, truncate s p = some (kept, s.drop (capMin (max n 1) p.maxBond)) ∧
      kept.length = capMin (max n 1) p.maxBond := by
  subst hsel
  exact ⟨selected_eq_take s p hs hnn hd, _, truncate_eq s p hs hnn hd hp,
    keptOf_length s _ _ (keptLen_bounds s p hs hp).2.1⟩

theorem capMin_le (n : Nat) (mb : Option Nat) : capMin n mb ≤ n := by
  cases mb
  · exact Nat.le_refl n
  · exact Nat.min_le_left _ _

end Ptn.C10
