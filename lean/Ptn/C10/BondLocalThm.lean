import Ptn.C10.SvdSweep
import Ptn.C02.LegPush
import Ptn.C02.CompositeWF
/-! `contractSplit` and `centreMove` change only their own bond (`BondLocal`), for every well-formed network, as the
composition of their steps.  The edge correspondence of a step on the nodes `M` (`contract_edges`, `split_edges`: an
`EdgeCorr`, `../C02/EdgeCorr.lean`) says, once one forgets which node of `M` took which leg, that the legs of the result are those of
the input up to `M` (`LegsUpTo`); that composes along the run of the event (`contractSplit_run`, `centreMove_run`); and
which of `a`, `b` a leg belongs to is settled by the tree itself (`LegsUpTo.bondLocal`): every leg joins a node to its
parent or to a child (`Adjacent`, `leg_adjacent`), the event keeps the tree edges, and a tree has no triangle. -/
namespace Ptn.C10
open Ptn.C02

def ParentOf (t : TTN) (c p : Id) : Prop := ∃ ch, t.S c = some (some p, ch)
def Adjacent (t : TTN) (k x : Id) : Prop := ParentOf t k x ∨ ParentOf t x k

theorem Adjacent.symm {t : TTN} {k x : Id} (h : Adjacent t k x) : Adjacent t x k := Or.symm h

theorem leg_adjacent {t : TTN} (h : t.WF) {k x : Id} {ax : Axis} (hl : t.Leg k x ax) : Adjacent t k x := by
  obtain ⟨n, Ln, hn, _, hm⟩ := leg_node hl
  have hmem := (List.of_mem_zip hm).1
  have hS : t.S k = some (n.parent, n.children) := TTN.S_eq hn
  unfold NodeS.neighbours at hmem
  rcases List.mem_append.mp hmem with hm1 | hm1
  · cases hp : n.parent with
    | none => rw [hp] at hm1; simp at hm1
    | some p =>
      rw [hp] at hm1; simp at hm1
      rw [hp] at hS
      exact Or.inl ⟨_, hm1 ▸ hS⟩
  · obtain ⟨cch, hc'⟩ := h.str.down k _ _ x hS hm1
    exact Or.inr ⟨_, hc'⟩

theorem Adjacent.ne {t : TTN} (h : t.WF) {a b : Id} (n : Adjacent t a b) : a ≠ b := by
  rcases n with ⟨_, e⟩ | ⟨_, e⟩
  · exact (h.str.parent_ne e).symm
  · exact h.str.parent_ne e

theorem no_triangle {t : TTN} (h : t.WF) {a b x : Id} (h1 : Adjacent t a b) (h2 : Adjacent t b x)
    (h3 : Adjacent t a x) : False := by
  obtain ⟨dp, hd⟩ := h.str.depth
  have uniq : ∀ {c p q : Id}, ParentOf t c p → ParentOf t c q → p = q := by
    intro c p q ⟨c1, e1⟩ ⟨c2, e2⟩
    rw [e1] at e2; simp at e2; exact e2.1
  have lt : ∀ {c p : Id}, ParentOf t c p → dp p < dp c := fun ⟨c1, e1⟩ => hd _ _ _ e1
  rcases h1 with h1 | h1 <;> rcases h2 with h2 | h2 <;> rcases h3 with h3 | h3
  · have := uniq h1 h3; subst this; have := lt h2; omega
  · have := lt h1; have := lt h2; have := lt h3; omega
  · have := uniq h1 h3; subst this; have := lt h2; omega
  · have := uniq h2 h3; subst this; have := lt h1; omega
  · have := uniq h1 h2; subst this; have := lt h3; omega
  · have := uniq h1 h2; subst this; have := lt h3; omega
  · have := lt h1; have := lt h2; have := lt h3; omega
  · have := uniq h2 h3; subst this; have := lt h1; omega

/-- rewriting the children list of one node (`promoteS`, `demoteS`) keeps every parent pointer, hence adjacency -/
theorem Adjacent.of_rechild {t t1 : TTN} {top : Id} {f : Struct → List Id}
    (hS : ∀ k, t1.S k = if k = top then (t.S top).map (fun s => (s.1, f s)) else t.S k) {k x : Id}
    (hn : Adjacent t1 k x) : Adjacent t k x := by
  have par : ∀ {c p : Id}, ParentOf t1 c p → ParentOf t c p := by
    intro c p ⟨ch, e⟩
    rw [hS c] at e
    by_cases hc : c = top
    · rw [if_pos hc] at e
      cases hs : t.S top with
      | none => rw [hs] at e; simp at e
      | some s =>
        rw [hs] at e; simp at e
        exact ⟨s.2, by rw [hc, hs, ← e.1]⟩
    · rw [if_neg hc] at e; exact ⟨ch, e⟩
  exact hn.elim (fun q => Or.inl (par q)) (fun q => Or.inr (par q))

def MovedIn (M : Id → Prop) (p' p : Id) : Prop := p' = p ∨ (M p ∧ M p')

theorem MovedIn.trans {M : Id → Prop} {p2 p1 p : Id} (h2 : MovedIn M p2 p1) (h1 : MovedIn M p1 p) : MovedIn M p2 p := by
  rcases h2 with rfl | ⟨_, m2⟩
  · exact h1
  · rcases h1 with rfl | ⟨m, _⟩
    · exact Or.inr ⟨‹_›, m2⟩
    · exact Or.inr ⟨m, m2⟩

theorem MovedIn.mem {M : Id → Prop} {p' p : Id} (h : MovedIn M p' p) (m : M p) : M p' := by
  rcases h with rfl | ⟨_, m'⟩
  · exact m
  · exact m'

/-- What the edge correspondence of an edit on the nodes `M` says when one forgets which node of `M` took which leg. -/
def LegsUpTo (M : Id → Prop) (t t' : TTN) : Prop :=
  ∀ k' x' ax, t'.Leg k' x' ax → (M k' ∧ M x') ∨ ∃ k x, t.Leg k x ax ∧ MovedIn M k' k ∧ MovedIn M x' x

theorem LegsUpTo.trans {M : Id → Prop} {t t1 t2 : TTN} (h1 : LegsUpTo M t t1) (h2 : LegsUpTo M t1 t2) :
    LegsUpTo M t t2 := by
  intro k' x' ax hl
  rcases h2 k' x' ax hl with h | ⟨k1, x1, l1, hk, hx⟩
  · exact Or.inl h
  · rcases h1 k1 x1 ax l1 with ⟨m1, m2⟩ | ⟨k, x, l, hk1, hx1⟩
    · exact Or.inl ⟨hk.mem m1, hx.mem m2⟩
    · exact Or.inr ⟨k, x, l, hk.trans hk1, hx.trans hx1⟩

theorem _root_.Ptn.C02.EdgeCorr.legsUpTo {t t1 : TTN} {ρ : Id → Id → Id} {keep : Id → Id → Prop}
    {fresh : Id → Id → Axis → Prop} {M : Id → Prop} (c : EdgeCorr t t1 ρ keep fresh)
    (hρ : ∀ k x, MovedIn M (ρ k x) k) (hf : ∀ k x ax, fresh k x ax → M k ∧ M x) : LegsUpTo M t t1 := by
  intro k' x' ax hl
  rcases c.pull k' x' ax hl with f | ⟨k, x, l, _, rfl, rfl⟩
  · exact Or.inl (hf _ _ _ f)
  · exact Or.inr ⟨k, x, l, hρ k x, hρ x k⟩

theorem contract_legsUpTo {t t' : TTN} {id1 id2 new : Id} {M : Id → Prop} (h : t.WF)
    (hnew : new = id1 ∨ new = id2 ∨ t.N new = none) (hc : t.contractNodes id1 id2 new = some t')
    (m1 : M id1) (m2 : M id2) (m3 : M new) : LegsUpTo M t t' :=
  (contract_edges h hnew hc).legsUpTo (fun k _ => by
    show MovedIn M (if k = id1 ∨ k = id2 then new else k) k
    split
    · next hk => exact Or.inr ⟨hk.elim (· ▸ m1) (· ▸ m2), m3⟩
    · exact Or.inl rfl) nofun

theorem split_legsUpTo {t t' : TTN} {id : Id} {X : NodeS} {outL inL : TTN.LegSpec} {outId inId : Id} {bd : Nat}
    {M : Id → Prop} (h : t.WF) (adm : SplitAdm t id X outL inL outId inId)
    (hs : t.splitNodes id outL inL outId inId bd = some t') (m1 : M id) (m2 : M outId) (m3 : M inId) :
    LegsUpTo M t t' :=
  (split_edges h adm hs).legsUpTo (fun k x => by
    show MovedIn M (if k = id then (if x ∈ inL.allNeighbourIds then inId else outId) else k) k
    split
    · next hk => exact Or.inr ⟨hk ▸ m1, by split <;> assumption⟩
    · exact Or.inl rfl) (fun _ _ _ hf => by
    rcases hf.1 with ⟨rfl, rfl⟩ | ⟨rfl, rfl⟩
    · exact ⟨m2, m3⟩
    · exact ⟨m3, m2⟩)

theorem Adjacent.isNode {t : TTN} {k x : Id} (n : Adjacent t k x) (h : t.WF) : t.N k ≠ none := by
  have key : ∀ {c p : Id}, ParentOf t c p → t.N c ≠ none ∧ t.N p ≠ none := by
    intro c p ⟨ch, e⟩
    obtain ⟨pp, pch, hp, _⟩ := h.str.up c p ch e
    obtain ⟨n1, e1, _⟩ := TTN.N_of_S e
    obtain ⟨n2, e2, _⟩ := TTN.N_of_S hp
    rw [e1, e2]; simp
  exact n.elim (fun q => (key q).1) (fun q => (key q).2)

theorem adjacent_of_node {t : TTN} (h : t.WF) {a b : Id} {A : NodeS} (hA : t.N a = some A)
    (hb : b ∈ A.children ∨ A.parent = some b) : Adjacent t a b := by
  rcases hb with hb | hb
  · obtain ⟨cch, e⟩ := h.str.down a _ _ b (TTN.S_eq hA) hb
    exact Or.inr ⟨cch, e⟩
  · exact Or.inl ⟨A.children, by rw [TTN.S_eq hA, hb]⟩

/-- **An edit on the bond `a – b` changes only that bond.**  `M`: `a`, `b` and identifiers unused in `t`.  Which of
`a`, `b` a leg belongs to is settled by the tree itself: it has no triangle. -/
theorem LegsUpTo.bondLocal {M : Id → Prop} {t t' : TTN} {a b : Id} {f : Axis} (c : LegsUpTo M t t')
    (h : t.WF) (h' : t'.WF) (hM : ∀ k, M k → t.N k ≠ none → k = a ∨ k = b) (nab : Adjacent t a b)
    (back : ∀ k x, Adjacent t' k x → Adjacent t k x) (fab : t'.Leg a b f) (fba : t'.Leg b a f) :
    BondLocal t t' a b f.dim := by
  -- a node adjacent to two nodes of `M` sees the same one twice
  have key : ∀ {p p0 q : Id}, MovedIn M p p0 → Adjacent t q p0 → Adjacent t q p → p = p0 := by
    intro p p0 q hm n0 n1
    rcases hm with e | ⟨m0, m1⟩
    · exact e
    · rcases hM p0 m0 (n0.symm.isNode h) with rfl | rfl <;> rcases hM p m1 (n1.symm.isNode h) with rfl | rfl
      · rfl
      · exact (no_triangle h nab n1.symm n0.symm).elim
      · exact (no_triangle h nab n0.symm n1.symm).elim
      · rfl
  intro e _ q hq
  obtain ⟨k, _⟩ := e
  obtain ⟨x, ax⟩ := q
  have hl : t'.Leg k x ax := hq
  have nk : Adjacent t k x := back k x (leg_adjacent h' hl)
  show if (k = a ∧ x = b) ∨ (k = b ∧ x = a) then ax.dim = f.dim else t.Leg k x ax
  split
  · next hc =>
    rcases hc with ⟨rfl, rfl⟩ | ⟨rfl, rfl⟩
    · rw [leg_unique h' hl fab]
    · rw [leg_unique h' hl fba]
  · next hc =>
    have hkx : k ≠ x := leg_ne h' hl
    have inM : M k → M x → False := fun mk mx => by
      rcases hM k mk (nk.isNode h) with rfl | rfl <;> rcases hM x mx (nk.symm.isNode h) with rfl | rfl
      · exact hkx rfl
      · exact hc (Or.inl ⟨rfl, rfl⟩)
      · exact hc (Or.inr ⟨rfl, rfl⟩)
      · exact hkx rfl
    rcases c k x ax hl with ⟨mk, mx⟩ | ⟨k0, x0, l0, hk, hx⟩
    · exact (inM mk mx).elim
    · have n0 := leg_adjacent h l0
      rcases hk with rfl | ⟨_, mk⟩
      · rw [key hx n0 nk]; exact l0
      · rcases hx with rfl | ⟨_, mx⟩
        · rw [key (Or.inr ⟨‹_›, mk⟩) n0.symm nk.symm]; exact l0
        · exact (inM mk mx).elim

/-- **`contract_and_split_with_parent` changes only its own bond**: every virtual leg of the result is an end of
    the bond `a – b` with the new dimension `bd`, or is the leg (same neighbour, same axis: label and dimension) the
    same node had before.  Hypotheses: well-formedness and an unused temporary identifier (`uuid1`). -/
theorem contractSplit_bondLocal {t t1 : TTN} {a b ts : Id} {bd : Nat} (h : t.WF) (hts : t.N ts = none)
    (hs : t.contractSplit a b ts bd = some t1) : BondLocal t t1 a b bd := by
  obtain ⟨w1, _, A, hA, hS⟩ := contract_split_full (TTN.WFX.ofWF h) hts hs
  obtain ⟨u, v, _, hr⟩ := contractSplit_run h hts hs
  obtain ⟨tc, hnew, hc, hr⟩ := hr.cons_inv
  obtain ⟨_, ⟨X, adm⟩, hsp, hr⟩ := hr.cons_inv
  obtain rfl := hr.nil_inv
  have wc := contractNodes_wf h hnew hc
  have fr := split_push_fresh wc adm hsp
  refine ((contract_legsUpTo (M := fun k => k = a ∨ k = b ∨ k = ts) h hnew hc (Or.inl rfl) (Or.inr (Or.inl rfl))
      (Or.inr (Or.inr rfl))).trans
    (split_legsUpTo wc adm hsp (Or.inr (Or.inr rfl)) (Or.inl rfl) (Or.inr (Or.inl rfl)))).bondLocal
    (f := ⟨tc.nextLabel, bd⟩) h w1.wf ?_ (adjacent_of_node h hA (hS.imp And.left And.left)) ?_ fr.1 fr.2
  · rintro k (rfl | rfl | rfl) hk
    · exact Or.inl rfl
    · exact Or.inr rfl
    · exact absurd hts hk
  · intro k x n
    rcases hS with ⟨_, e⟩ | ⟨_, e⟩
    · exact Adjacent.of_rechild (congrFun e) n
    · exact Adjacent.of_rechild (congrFun e) n

/-- **`split_qr_contract_r_to_neighbour(a, b)` changes only its own bond**: every virtual leg of the result is an end
    of the bond `a – b` with the new dimension `bd`, or is the leg (same neighbour, same axis) the same node had
    before.  Hypotheses: well-formedness and an unused identifier for the R tensor (`uuid1`). -/
theorem centreMove_bondLocal {t t' : TTN} {a b rid : Id} {bd : Nat} (h : t.WF) (hl : t.N rid = none)
    (hs : t.centreMove a b rid bd = some t') : BondLocal t t' a b bd := by
  obtain ⟨w', _, A, hA, hS⟩ := centre_move_full (TTN.WFX.ofWF h) hl hs
  obtain ⟨_, q, r, _, _, hr⟩ := centreMove_run h hl hs
  obtain ⟨t1, ⟨X, adm⟩, hs1, hr⟩ := hr.cons_inv
  obtain ⟨_, hnew, hc, hr⟩ := hr.cons_inv
  obtain rfl := hr.nil_inv
  have w1 : t1.WF := splitNodes_wf h adm hs1
  have nab := adjacent_of_node h hA (hS.imp And.left And.left)
  have hab : a ≠ b := nab.ne h
  have har : a ≠ rid := fun e => by rw [e, hl] at hA; cases hA
  -- the fresh bond `a – rid` of the split becomes the bond `a – b`
  have fr := split_push_fresh h adm hs1
  have push := (contract_edges w1 hnew hc).push
  have fab := push a rid _ fr.1 ⟨fun e => hab e.1, fun e => har e.1⟩
  have fba := push rid a _ fr.2 ⟨fun e => har e.2, fun e => hab e.2⟩
  simp only [contrRho_ne hab har, contrRho_cid] at fab fba
  refine ((split_legsUpTo (M := fun k => k = a ∨ k = b ∨ k = rid) h adm hs1 (Or.inl rfl) (Or.inl rfl)
      (Or.inr (Or.inr rfl))).trans
    (contract_legsUpTo w1 hnew hc (Or.inr (Or.inl rfl)) (Or.inr (Or.inr rfl)) (Or.inr (Or.inl rfl)))).bondLocal
    (f := ⟨t.nextLabel, bd⟩) h w'.wf ?_ nab ?_ fab fba
  · rintro k (rfl | rfl | rfl) hk
    · exact Or.inl rfl
    · exact Or.inr rfl
    · exact absurd hl hk
  · intro k x n
    rcases hS with ⟨_, e⟩ | ⟨_, e⟩
    · exact Adjacent.of_rechild (congrFun e) n
    · exact Adjacent.of_rechild (congrFun e) n

end Ptn.C10
