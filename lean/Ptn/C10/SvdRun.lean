import Ptn.C10.BondLocalThm
/-! A run of `svd_truncation` on the C02 structural model WITHOUT the locality assumption of `SvdSweep`: the only
premises per event are that the temporary identifier is unused (`uuid1`), that a QR move does not exceed the dimension
of the bond it crosses, and that a cut keeps at most `D` (`keptDim_bounds`).  Locality (`BondLocal`) is a theorem
(`centreMove_bondLocal`, `contractSplit_bondLocal`), so every such run is an `SvdSweep`.  `svdRun?` is the
run as a function: on a concrete network a run is one evaluation. -/
namespace Ptn.C10
open Ptn.C02

inductive SvdRun (D : Nat) : TTN → List TdvpEvent → TTN → Prop
  | nil (t : TTN) : SvdRun D t [] t
  | move {t t1 t' : TTN} {a b rid : Id} {bd : Nat} {es : List TdvpEvent} :
      t.N rid = none → t.centreMove a b rid bd = some t1 →
      (∃ ax, t.Leg a b ax ∧ t.Leg b a ax ∧ bd ≤ ax.dim) →
      SvdRun D t1 es t' → SvdRun D t (.move a b rid bd :: es) t'
  | cut {t t1 t' : TTN} {a b cid : Id} {bd : Nat} {es : List TdvpEvent} :
      t.N cid = none → t.contractSplit a b cid bd = some t1 → bd ≤ D →
      SvdRun D t1 es t' → SvdRun D t (.contractSplit a b cid bd :: es) t'

theorem SvdRun.toTdvpRun {D : Nat} {t t' : TTN} {es : List TdvpEvent} (r : SvdRun D t es t') : TdvpRun t es t' := by
  induction r with
  | nil t => exact .nil t
  | move hf hm _ _ ih => exact .cons hf hm ih
  | cut hf hm _ _ ih => exact .cons hf hm ih

theorem svdRun_sweep {D : Nat} {t t' : TTN} {es : List TdvpEvent} (r : SvdRun D t es t') :
    t.WF → SvdSweep D t es t' := by
  induction r with
  | nil t => intro _; exact .nil t
  | move hf hm hq _ ih =>
    intro h
    exact .move hm (centreMove_bondLocal h hf hm) hq (ih (centre_move_full (TTN.WFX.ofWF h) hf hm).1.wf)
  | cut hf hm hd _ ih =>
    intro h
    exact .cut hm (contractSplit_bondLocal h hf hm) hd
      (ih (contract_split_full (TTN.WFX.ofWF h) hf hm).1.wf)

def svdRun? (D : Nat) (t : TTN) : List TdvpEvent → Option TTN
  | [] => some t
  | .move a b rid bd :: es =>
    if t.N rid = none ∧ ∃ q ∈ t.legPairs a, q.1 = b ∧ t.Leg b a q.2 ∧ bd ≤ q.2.dim then
      (t.centreMove a b rid bd).bind (svdRun? D · es)
    else none
  | .contractSplit a b cid bd :: es =>
    if t.N cid = none ∧ bd ≤ D then (t.contractSplit a b cid bd).bind (svdRun? D · es) else none
  | _ => none

theorem svdRun?_sound {D : Nat} {t t' : TTN} {es : List TdvpEvent} (h : svdRun? D t es = some t') :
    SvdRun D t es t' := by
  induction es generalizing t with
  | nil => cases h; exact .nil _
  | cons e es ih =>
    cases e with
    | move a b rid bd =>
      unfold svdRun? at h
      split at h
      · next hc =>
        obtain ⟨hf, q, hq, rfl, hl, hb⟩ := hc
        obtain ⟨t1, h1, h2⟩ := Option.bind_eq_some_iff.mp h
        exact .move hf h1 ⟨q.2, hq, hl, hb⟩ (ih h2)
      · cases h
    | contractSplit a b cid bd =>
      unfold svdRun? at h
      split at h
      · next hc =>
        obtain ⟨t1, h1, h2⟩ := Option.bind_eq_some_iff.mp h
        exact .cut hc.1 h1 hc.2 (ih h2)
      · cases h
    | _ => cases h

end Ptn.C10
