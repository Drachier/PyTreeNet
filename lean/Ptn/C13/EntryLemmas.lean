import Ptn.C13.Pres
/-! Semantics of `_row_add`, `_col_add`, `are_parallel_*` of the C13 model (core Lean only). -/
namespace Ptn.C13

theorem isZero_eval {e : Entry} (ρ : Nat → Rat) (h : e.isZero = true) : e.eval ρ = 0 := by
  cases e with
  | num q => simpa [Entry.isZero, Entry.eval] using h
  | sym q s => simp [Entry.isZero] at h

theorem addEntry_eval {f : Rat} {t s e : Entry} (ρ : Nat → Rat) (h : addEntry f t s = some e) :
    e.eval ρ = t.eval ρ + f * s.eval ρ := by
  refine addEntry_cases (Q := fun t s e => e.eval ρ = t.eval ρ + f * s.eval ρ) (fun _ _ => rfl) ?_ ?_ ?_ ?_ h
  · intro tc tv
    show tc * ρ tv = tc * ρ tv + f * 0
    rw [Rat.mul_zero, Rat.add_zero]
  · intro sc sv
    show f * sc * ρ sv = 0 + f * (sc * ρ sv)
    rw [Rat.zero_add, Rat.mul_assoc]
  · intro tc sc v hn
    show (0 : Rat) = tc * ρ v + f * (sc * ρ v)
    rw [← Rat.mul_assoc, ← Rat.add_mul, hn, Rat.zero_mul]
  · intro tc sc v _
    show (tc + f * sc) * ρ v = tc * ρ v + f * (sc * ρ v)
    rw [Rat.add_mul, Rat.mul_assoc]

theorem all_isZero_eval {r : List Entry} (ρ : Nat → Rat) (h : r.all Entry.isZero = true) (l : Nat) :
    (r[l]?.getD (Entry.num 0)).eval ρ = 0 := by
  cases hl : r[l]? with
  | none => simp [Entry.eval]
  | some e =>
    have hm : e ∈ r := List.mem_of_getElem? hl
    have := (List.all_eq_true.mp h) e hm
    simpa using isZero_eval ρ this

theorem addLine_spec (f : Rat) (ρ : Nat → Rat) :
    ∀ (ts ss r : List Entry), addLine f ts ss = some r → ts.length = ss.length →
      r.length = ts.length ∧
      ∀ l : Nat, (r[l]?.getD (Entry.num 0)).eval ρ
            = (ts[l]?.getD (Entry.num 0)).eval ρ + f * (ss[l]?.getD (Entry.num 0)).eval ρ := by
  intro ts
  induction ts with
  | nil =>
    intro ss r h hl
    cases ss with
    | nil =>
      simp only [addLine, Option.some.injEq] at h
      subst h
      refine ⟨rfl, fun l => ?_⟩
      show (0 : Rat) = 0 + f * 0
      rw [Rat.mul_zero, Rat.add_zero]
    | cons s ss => simp at hl
  | cons t ts ih =>
    intro ss r h hl
    cases ss with
    | nil => simp at hl
    | cons s ss =>
      simp only [addLine] at h
      cases he : addEntry f t s with
      | none => simp [he] at h
      | some e =>
        cases hes : addLine f ts ss with
        | none => simp [he, hes] at h
        | some es =>
          simp only [he, hes, Option.some.injEq] at h
          subst h
          have hl' : ts.length = ss.length := by simpa using hl
          obtain ⟨h1, h2⟩ := ih ss es hes hl'
          refine ⟨by simp [h1], fun l => ?_⟩
          cases l with
          | zero => exact addEntry_eval ρ he
          | succ l => exact h2 l

theorem rowAddRaw_spec {A A' : EMat} {w t s : Nat} {f : Rat} {z : Bool} (ρ : Nat → Rat)
    (h : rowAddRaw A t s f = some (A', z)) (hA : Rect A w) (ht : t < A.length) (hs : s < A.length) :
    A'.length = A.length ∧ Rect A' w ∧
    (∀ k l, gE ρ A' k l = if k = t then gE ρ A t l + f * gE ρ A s l else gE ρ A k l) ∧
    (z = true → ∀ l, gE ρ A' t l = 0) := by
  have lt := getD_row_length hA ht
  have ls := getD_row_length hA hs
  unfold rowAddRaw at h
  cases hr : addLine f (A.getD t []) (A.getD s []) with
  | none => rw [hr] at h; exact nomatch h
  | some r =>
    rw [hr] at h
    obtain ⟨rfl, rfl⟩ := Prod.mk.inj (Option.some.inj h)
    obtain ⟨h1, h2⟩ := addLine_spec f ρ _ _ _ hr (lt.trans ls.symm)
    have hview : ∀ k l, gE ρ (A.set t r) k l
        = if k = t then (r.getD l (Entry.num 0)).eval ρ else gE ρ A k l := by
      intro k l
      unfold gE gM
      rw [getD_set_fix A t (fun h => absurd ht (Nat.not_lt.mpr h)) k]
      split <;> rfl
    refine ⟨List.length_set, rect_set hA t (h1.trans lt), fun k l => ?_, fun hz l => ?_⟩
    · rw [hview]
      split
      · exact h2 l
      · rfl
    · rw [hview, if_pos rfl]
      exact all_isZero_eval ρ hz l

theorem addCol_spec (f : Rat) (t s : Nat) (ρ : Nat → Rat) :
    ∀ (A : EMat) (c : List Entry), addCol f t s A = some c →
      c.length = A.length ∧
      ∀ k, (c[k]?.getD (Entry.num 0)).eval ρ = gE ρ A k t + f * gE ρ A k s := by
  intro A
  induction A with
  | nil =>
    intro c h
    simp only [addCol, Option.some.injEq] at h
    subst h
    refine ⟨rfl, fun k => ?_⟩
    show (0 : Rat) = 0 + f * 0
    rw [Rat.mul_zero, Rat.add_zero]
  | cons row rest ih =>
    intro c h
    simp only [addCol] at h
    split at h
    · rename_i e es he hes
      simp only [Option.some.injEq] at h
      subst h
      obtain ⟨h1, h2⟩ := ih es hes
      refine ⟨by simp [h1], fun k => ?_⟩
      cases k with
      | zero => exact addEntry_eval ρ he
      | succ k => exact h2 k
    · simp at h

theorem getD_zipWith_set {α : Type} (d : α) (X : List (List α)) (c : List α) (t k : Nat)
    (hc : c.length = X.length) :
    (List.zipWith (fun row e => row.set t e) X c).getD k [] = (X.getD k []).set t (c.getD k d) := by
  simp only [List.getD_eq_getElem?_getD, List.getElem?_zipWith]
  by_cases hk : k < X.length
  · rw [List.getElem?_eq_getElem hk, List.getElem?_eq_getElem (hc ▸ hk)]; rfl
  · rw [List.getElem?_eq_none (Nat.not_lt.mp hk), List.getElem?_eq_none (hc ▸ Nat.not_lt.mp hk)]; rfl

theorem colAddRaw_spec {A A' : EMat} {w t s : Nat} {f : Rat} {z : Bool} (ρ : Nat → Rat)
    (h : colAddRaw A t s f = some (A', z)) (hA : Rect A w) (ht : t < w) :
    A'.length = A.length ∧ Rect A' w ∧
    (∀ k l, gE ρ A' k l = if l = t then gE ρ A k t + f * gE ρ A k s else gE ρ A k l) ∧
    (z = true → ∀ k, gE ρ A' k t = 0) := by
  unfold colAddRaw at h
  cases hc : addCol f t s A with
  | none => rw [hc] at h; exact nomatch h
  | some c =>
    rw [hc] at h
    obtain ⟨rfl, rfl⟩ := Prod.mk.inj (Option.some.inj h)
    obtain ⟨h1, h2⟩ := addCol_spec f t s ρ A c hc
    have hview : ∀ k l, gE ρ (List.zipWith (fun row e => row.set t e) A c) k l
        = if l = t then gE ρ A k t + f * gE ρ A k s else gE ρ A k l := by
      intro k l
      unfold gE gM
      rw [getD_zipWith_set (Entry.num 0) A c t k h1, getD_set_fix _ t (fun hl => ?_) l,
        apply_ite (Entry.eval ρ)]
      · split
        · exact h2 k
        · rfl
      · -- a row too short for `t` is no row at all, and then `c` has no entry for it
        by_cases hk : k < A.length
        · rw [getD_row_length hA hk] at hl; omega
        · rw [List.getD_eq_getElem?_getD, List.getElem?_eq_none (by omega)]; rfl
    refine ⟨by rw [List.length_zipWith, h1, Nat.min_self], ?_, hview, fun hz k => ?_⟩
    · intro r' hr'
      obtain ⟨i, hi, rfl⟩ := List.getElem_of_mem hr'
      rw [List.getElem_zipWith, List.length_set]
      exact hA _ (List.getElem_mem _)
    · rw [hview k t, if_pos rfl, ← h2 k]
      exact all_isZero_eval ρ hz k

/-- The entry does not use the empty string as a symbol. -/
def Entry.NES : Entry → Prop
  | .num _ => True
  | .sym _ s => s ≠ 0

theorem rat_mul_ne_zero {a b : Rat} (ha : a ≠ 0) (hb : b ≠ 0) : a * b ≠ 0 := by
  intro h
  rcases Rat.mul_eq_zero.mp h with h | h
  · exact ha h
  · exact hb h

theorem rat_div_ne_zero {a b : Rat} (ha : a ≠ 0) (hb : b ≠ 0) : a / b ≠ 0 :=
  fun h => ha (by rw [← Rat.div_mul_cancel (a := a) hb, h, Rat.zero_mul])

theorem rat_neg_ne_zero {a : Rat} (ha : a ≠ 0) : -a ≠ 0 := by
  intro h
  apply ha
  grind

theorem eval_of_coeff_zero {e : Entry} (ρ : Nat → Rat) (h : e.coeff = 0) : e.eval ρ = 0 := by
  cases e with
  | num q => simpa [Entry.coeff, Entry.eval] using h
  | sym q s =>
    simp only [Entry.coeff] at h
    simp only [Entry.eval, h]
    grind

theorem eval_ratio {a b : Entry} (ρ : Nat → Rat) (hv : a.var = b.var) (ha : a.NES) (hb : b.NES)
    (ha0 : a.coeff ≠ 0) : b.eval ρ = (b.coeff / a.coeff) * a.eval ρ := by
  cases a with
  | num aq =>
    cases b with
    | num bq => exact (Rat.div_mul_cancel ha0).symm
    | sym bq bs => exact absurd hv.symm hb
  | sym aq as =>
    cases b with
    | num bq => exact absurd hv ha
    | sym bq bs =>
      cases (hv : as = bs)
      show bq * ρ as = bq / aq * (aq * ρ as)
      rw [← Rat.mul_assoc, Rat.div_mul_cancel (b := aq) ha0]

/-- A non-zero answer `μ` of the loop of `are_parallel_*` is a true proportionality factor.  The statement
    carries the invariant of the accumulator: the ratio so far is still unset (`0`) or already `μ`. -/
theorem parLoop_sound (ρ : Nat → Rat) (μ : Rat) (hμ : μ ≠ 0) :
    ∀ (ps : List (Entry × Entry)) (r : Rat), parLoop r ps = μ →
      (∀ p, p ∈ ps → p.1.NES ∧ p.2.NES) →
      (r = 0 ∨ r = μ) ∧ ∀ p, p ∈ ps → p.2.eval ρ = μ * p.1.eval ρ := by
  intro ps
  induction ps with
  | nil =>
    intro r h _
    simp only [parLoop] at h
    exact ⟨Or.inr h, fun p hp => by simp at hp⟩
  | cons p ps ih =>
    intro r h hnes
    obtain ⟨a, b⟩ := p
    have hab := hnes (a, b) (by simp)
    have hnes' : ∀ p, p ∈ ps → p.1.NES ∧ p.2.NES := fun p hp => hnes p (by simp [hp])
    simp only [parLoop] at h
    by_cases hv : a.var = b.var
    · simp only [hv, ne_eq, not_true_eq_false, if_false] at h
      by_cases h00 : a.coeff = 0 ∧ b.coeff = 0
      · simp only [h00, and_self, if_true] at h
        obtain ⟨h1, h2⟩ := ih r h hnes'
        refine ⟨h1, fun p hp => ?_⟩
        rcases List.mem_cons.mp hp with hp | hp
        · subst hp
          rw [eval_of_coeff_zero ρ h00.1, eval_of_coeff_zero ρ h00.2, Rat.mul_zero]
        · exact h2 p hp
      · simp only [h00, if_false] at h
        by_cases h0 : a.coeff = 0 ∨ b.coeff = 0
        · simp only [h0, if_true] at h
          exact absurd h.symm hμ
        · simp only [h0, if_false] at h
          have ha0 : a.coeff ≠ 0 := fun e => h0 (Or.inl e)
          have hb0 : b.coeff ≠ 0 := fun e => h0 (Or.inr e)
          have hcur : b.coeff / a.coeff ≠ 0 := rat_div_ne_zero hb0 ha0
          by_cases hr : r = 0
          · simp only [hr, if_true] at h
            obtain ⟨h1, h2⟩ := ih _ h hnes'
            have hc : b.coeff / a.coeff = μ := by
              rcases h1 with h1 | h1
              · exact absurd h1 hcur
              · exact h1
            refine ⟨Or.inl hr, fun p hp => ?_⟩
            rcases List.mem_cons.mp hp with hp | hp
            · subst hp
              rw [← hc]
              exact eval_ratio ρ hv hab.1 hab.2 ha0
            · exact h2 p hp
          · simp only [hr, if_false] at h
            by_cases hne : b.coeff / a.coeff = r
            · simp only [hne, not_true_eq_false, if_false] at h
              obtain ⟨h1, h2⟩ := ih r h hnes'
              have hrμ : r = μ := by
                rcases h1 with h1 | h1
                · exact absurd h1 hr
                · exact h1
              refine ⟨Or.inr hrμ, fun p hp => ?_⟩
              rcases List.mem_cons.mp hp with hp | hp
              · subst hp
                rw [← hrμ, ← hne]
                exact eval_ratio ρ hv hab.1 hab.2 ha0
              · exact h2 p hp
            · simp only [hne, not_false_eq_true, if_true] at h
              exact absurd h.symm hμ
    · simp only [ne_eq, hv, not_false_eq_true, if_true] at h
      exact absurd h.symm hμ

/-- No symbol of `A` is `''`: `AllE Entry.NES A` (same body, so the `allE_*` lemmas apply to it as it is). -/
def NESM (A : EMat) : Prop := ∀ r, r ∈ A → ∀ e, e ∈ r → e.NES

theorem gE_row (ρ : Nat → Rat) {A : EMat} {k : Nat} (hk : k < A.length) (l : Nat) :
    gE ρ A k l = ((A[k]).getD l (Entry.num 0)).eval ρ := by
  rw [gE_eq_getElem?, List.getElem?_eq_getElem hk, Option.getD_some, List.getD_eq_getElem?_getD]

theorem areParallelRow_sound (ρ : Nat → Rat) {A : EMat} {w i j : Nat} {μ : Rat} (hA : Rect A w)
    (hn : NESM A) (hi : i < A.length) (hj : j < A.length)
    (h : areParallelRow (A.getD i []) (A.getD j []) = μ) (hμ : μ ≠ 0) (l : Nat) :
    gE ρ A j l = μ * gE ρ A i l := by
  have li := getD_row_length hA hi
  have lj := getD_row_length hA hj
  obtain ⟨_, h2⟩ := parLoop_sound ρ μ hμ _ _ h (fun p hp =>
    ⟨allE_row hn i _ (List.of_mem_zip hp).1, allE_row hn j _ (List.of_mem_zip hp).2⟩)
  show ((A.getD j [])[l]?.getD (Entry.num 0)).eval ρ = μ * ((A.getD i [])[l]?.getD (Entry.num 0)).eval ρ
  by_cases hl : l < w
  · have hm := List.getElem_mem (l := (A.getD i []).zip (A.getD j [])) (n := l) (by rw [List.length_zip]; omega)
    rw [List.getElem_zip] at hm
    rw [List.getElem?_eq_getElem (by omega), List.getElem?_eq_getElem (by omega)]
    exact h2 _ hm
  · rw [List.getElem?_eq_none (by omega), List.getElem?_eq_none (by omega)]
    exact (Rat.mul_zero μ).symm

theorem areParallelCol_sound (ρ : Nat → Rat) {A : EMat} {i j : Nat} {μ : Rat} (hn : NESM A)
    (h : areParallelCol A i j = μ) (hμ : μ ≠ 0) (k : Nat) :
    gE ρ A k j = μ * gE ρ A k i := by
  have hnes : ∀ p, p ∈ A.map (fun row => (row.getD i (Entry.num 0), row.getD j (Entry.num 0))) →
      p.1.NES ∧ p.2.NES := by
    intro p hp
    obtain ⟨row, hrow, rfl⟩ := List.mem_map.mp hp
    exact ⟨allE_getD trivial (hn row hrow) i, allE_getD trivial (hn row hrow) j⟩
  obtain ⟨_, h2⟩ := parLoop_sound ρ μ hμ _ _ h hnes
  by_cases hk : k < A.length
  · rw [gE_row ρ hk, gE_row ρ hk]
    exact h2 _ (List.mem_map.mpr ⟨A[k], List.getElem_mem hk, rfl⟩)
  · rw [gE_eq_getElem?, gE_eq_getElem?, List.getElem?_eq_none (l := A) (i := k) (by omega)]
    exact (Rat.mul_zero μ).symm

end Ptn.C13
