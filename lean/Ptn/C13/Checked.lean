import Ptn.C13.Model
/-! Checked model for property C13 (core Lean only; no Mathlib).

A second, independent port of `pytreenet/ttno/symbolic_gaussian_elimination_fraction.py` in which **every
access the Python code performs by index** (`l[i]`, `l[i] = v`, `del l[i]`, `matrix[0]`) is an explicit
operation of the monad `Chk = Except Err` that answers `Err.index` (Python: `IndexError`) when the index is
out of range.  Nothing is totalised with a default: there is no `getD`, `[i]!`, `headD` and no default
branch standing for an out-of-range access in this file.  Exceptions abort the computation exactly as in
Python (first exception wins, later statements are not executed):

* `Err.index`    `IndexError` of a subscript, a subscript assignment or a `del`,
* `Err.zeroDiv`  `ZeroDivisionError` of `-x / pivot[0]` (and of `1/factor` in `row_scale/col_scale`),
* `Err.fuel`     the fuel replacing a `while` loop ran out (never happens on rectangular input, see
                 `sge_no_index_error` in `Props.lean`).

The order of the accesses follows the Python text where it can matter (early `return (False, False)` of
`_row_add/_col_add` before a later position is touched, early `return 0` of `are_parallel_col`, `break` of
the pivot search, short-circuit `j != i and matrix[j][i] != 0`).  Pure entry arithmetic (`addEntry`,
`elimFactor`, `Entry.isZero`, `areParallelRow` on two rows - `zip` never raises) is shared with `Model`.
The state is `St` of `Model` with `flag = .ok` throughout (the flag is not used by the checked model). -/
namespace Ptn.C13

inductive Err where
  | index | zeroDiv | fuel
  deriving DecidableEq, Repr

abbrev Chk := Except Err

deriving instance DecidableEq for Except

/-! ### checked list primitives -/

/-- `l[i]` -/
def getC {α : Type} (l : List α) (i : Nat) : Chk α :=
  match l[i]? with
  | some a => .ok a
  | none => .error .index

/-- `l[i] = v` -/
def setC {α : Type} (l : List α) (i : Nat) (v : α) : Chk (List α) :=
  if i < l.length then .ok (l.set i v) else .error .index

/-- `del l[i]` -/
def delC {α : Type} (l : List α) (i : Nat) : Chk (List α) :=
  if i < l.length then .ok (l.eraseIdx i) else .error .index

/-- `X[i][j]` -/
def gMC {α : Type} (X : List (List α)) (i j : Nat) : Chk α :=
  match getC X i with
  | .ok r => getC r j
  | .error e => .error e

/-- `len(matrix[0])` -/
def widthC {α : Type} (X : List (List α)) : Chk Nat :=
  match X with
  | [] => .error .index
  | r :: _ => .ok r.length

/-- `for x in l: …` building a list; stops at the first exception. -/
def mapC {α β : Type} (f : α → Chk β) : List α → Chk (List β)
  | [] => .ok []
  | a :: as =>
    match f a with
    | .error e => .error e
    | .ok b =>
      match mapC f as with
      | .error e => .error e
      | .ok bs => .ok (b :: bs)

/-- `for x in l: …` threading a state; stops at the first exception. -/
def foldC {σ β : Type} (f : σ → β → Chk σ) : σ → List β → Chk σ
  | s, [] => .ok s
  | s, b :: bs =>
    match f s b with
    | .error e => .error e
    | .ok s' => foldC f s' bs

/-- `l[i], l[j] = l[j], l[i]` (right-hand side first: `l[j]`, then `l[i]`; then the two assignments). -/
def listSwapC {α : Type} (l : List α) (i j : Nat) : Chk (List α) := do
  let b ← getC l j
  let a ← getC l i
  let l1 ← setC l i b
  setC l1 j a

/-- `_row_swap`. -/
def rowSwapMC {α : Type} (X : List (List α)) (i j : Nat) : Chk (List (List α)) := listSwapC X i j

/-- `_col_swap`. -/
def colSwapMC {α : Type} (X : List (List α)) (i j : Nat) : Chk (List (List α)) :=
  mapC (listSwapC · i j) X

/-- `for row in matrix: del row[z]`. -/
def delColC {α : Type} (X : List (List α)) (z : Nat) : Chk (List (List α)) := mapC (delC · z) X

/-! ### operations on the operator matrices -/

/-- `_col_add_float`: per row `source_entry = row[s]`, then `row[t] += factor * source_entry`. -/
def colAddFloatC (X : RMat) (t s : Nat) (f : Rat) : Chk RMat :=
  mapC (fun row => do
    let src ← getC row s
    let tgt ← getC row t
    setC row t (tgt + f * src)) X

/-- The loop `for i in range(len(matrix[t])): matrix[t][i] += factor * matrix[s][i]` on the two rows. -/
def zipAddC (f : Rat) : List Rat → List Rat → Chk (List Rat)
  | [], _ => .ok []
  | _ :: _, [] => .error .index
  | a :: as, b :: bs =>
    match zipAddC f as bs with
    | .error e => .error e
    | .ok r => .ok ((a + f * b) :: r)

/-- `_row_add_float`: `matrix[t]` is read for its length; `matrix[s]` only inside the loop. -/
def rowAddFloatC (X : RMat) (t s : Nat) (f : Rat) : Chk RMat := do
  let rt ← getC X t
  let new ← match rt with
    | [] => pure []
    | _ :: _ => do
      let rs ← getC X s
      zipAddC f rt rs
  setC X t new

/-- `_row_scale` on an operator matrix. -/
def rowScaleFloatC (X : RMat) (r : Nat) (f : Rat) : Chk RMat := do
  let rr ← getC X r
  setC X r (rr.map (· * f))

/-- `_col_scale` on an operator matrix. -/
def colScaleFloatC (X : RMat) (c : Nat) (f : Rat) : Chk RMat :=
  mapC (fun row => do
    let e ← getC row c
    setC row c (e * f)) X

/-! ### `_row_add` / `_col_add` -/

/-- The loop of `_row_add`: position by position `matrix[s][i]` (may raise), the case analysis (may
    `return (False, False)` at once), then the next position. -/
def addLineC (f : Rat) : List Entry → List Entry → Chk (Option (List Entry))
  | [], _ => .ok (some [])
  | _ :: _, [] => .error .index
  | t :: ts, s :: ss =>
    match addEntry f t s with
    | none => .ok none
    | some e =>
      match addLineC f ts ss with
      | .error err => .error err
      | .ok none => .ok none
      | .ok (some es) => .ok (some (e :: es))

/-- The loop of `_row_add` on the target row `rt`: `matrix[source_row]` is evaluated inside the loop
    only, i.e. not at all when the target row is empty. -/
def addLineOfC (A : EMat) (rt : List Entry) (s : Nat) (f : Rat) : Chk (Option (List Entry)) :=
  match rt with
  | [] => .ok (some [])
  | _ :: _ =>
    match getC A s with
    | .error err => .error err
    | .ok rs => addLineC f rt rs

/-- `_row_add(matrix, target_row, source_row, factor)`. -/
def rowAddRawC (A : EMat) (t s : Nat) (f : Rat) : Chk (Option (EMat × Bool)) := do
  let rt ← getC A t
  let res ← addLineOfC A rt s f
  match res with
  | none => pure none
  | some r => do
    let A' ← setC A t r
    pure (some (A', r.all Entry.isZero))

/-- The loop of `_col_add` over the rows: `row[s]`, `row[t]`, the case analysis (early return). -/
def addColC (f : Rat) (t s : Nat) : EMat → Chk (Option (List Entry))
  | [] => .ok (some [])
  | row :: rest =>
    match getC row s with
    | .error err => .error err
    | .ok se =>
      match getC row t with
      | .error err => .error err
      | .ok te =>
        match addEntry f te se with
        | none => .ok none
        | some e =>
          match addColC f t s rest with
          | .error err => .error err
          | .ok none => .ok none
          | .ok (some es) => .ok (some (e :: es))

/-- `for i, row in enumerate(matrix): row[t] = new_col[i]`. -/
def setColC (t : Nat) : EMat → List Entry → Chk EMat
  | row :: rest, e :: es =>
    match setC row t e with
    | .error err => .error err
    | .ok row' =>
      match setColC t rest es with
      | .error err => .error err
      | .ok rest' => .ok (row' :: rest')
  | _, _ => .ok []

/-- `_col_add(matrix, target_col, source_col, factor)`: first `new_col = [row[t] for row in matrix]`. -/
def colAddRawC (A : EMat) (t s : Nat) (f : Rat) : Chk (Option (EMat × Bool)) := do
  let _ ← mapC (fun row => getC row t) A
  let res ← addColC f t s A
  match res with
  | none => pure none
  | some c => do
    let A' ← setColC t A c
    pure (some (A', c.all Entry.isZero))

/-! ### scaling (present in the file, not used by `gaussian_elimination`) -/

def rowScaleEC (A : EMat) (r : Nat) (f : Rat) : Chk EMat := do
  let rr ← getC A r
  setC A r (rr.map (scaleEntry f))

def colScaleEC (A : EMat) (c : Nat) (f : Rat) : Chk EMat :=
  mapC (fun row => do
    let e ← getC row c
    setC row c (scaleEntry f e)) A

/-! ### `are_parallel_col` -/

/-- Loop of `are_parallel_col` over the rows: `row[col1]`, `row[col2]`, then the tests. -/
def parColLoopC (c1 c2 : Nat) : Rat → EMat → Chk Rat
  | ratio, [] => .ok ratio
  | ratio, row :: rest =>
    match getC row c1 with
    | .error err => .error err
    | .ok a =>
      match getC row c2 with
      | .error err => .error err
      | .ok b =>
        if a.var ≠ b.var then .ok 0
        else if a.coeff = 0 ∧ b.coeff = 0 then parColLoopC c1 c2 ratio rest
        else if a.coeff = 0 ∨ b.coeff = 0 then .ok 0
        else
          let cur := b.coeff / a.coeff
          if ratio = 0 then parColLoopC c1 c2 cur rest
          else if cur ≠ ratio then .ok 0
          else parColLoopC c1 c2 ratio rest

def areParallelColC (A : EMat) (c1 c2 : Nat) : Chk Rat := parColLoopC c1 c2 0 A

/-! ### paired operations on the state -/

/-- `row_swap`. -/
def St.rowSwapC (s : St) (i j : Nat) : Chk St := do
  let A' ← rowSwapMC s.A i j
  let L' ← colSwapMC s.L i j
  pure { s with A := A', L := L' }

/-- `col_swap`. -/
def St.colSwapC (s : St) (i j : Nat) : Chk St := do
  let A' ← colSwapMC s.A i j
  let R' ← rowSwapMC s.R i j
  pure { s with A := A', R := R' }

/-- `row_add`. -/
def St.rowAddC (st : St) (t s : Nat) (f : Rat) : Chk (St × Bool) := do
  let r ← rowAddRawC st.A t s f
  match r with
  | none => pure (st, false)
  | some (A', z) => do
    let L' ← colAddFloatC st.L s t (-f)
    pure ({ st with A := A', L := L' }, z)

/-- `col_add`. -/
def St.colAddC (st : St) (t s : Nat) (f : Rat) : Chk (St × Bool) := do
  let r ← colAddRawC st.A t s f
  match r with
  | none => pure (st, false)
  | some (A', z) => do
    let R' ← rowAddFloatC st.R s t (-f)
    pure ({ st with A := A', R := R' }, z)

/-- `row_scale`: `_row_scale` (may raise `IndexError`), then `1/factor` (may raise `ZeroDivisionError`),
    then `_col_scale`. -/
def St.rowScaleC (st : St) (r : Nat) (f : Rat) : Chk St := do
  let A' ← rowScaleEC st.A r f
  if f = 0 then throw .zeroDiv
  else do
    let L' ← colScaleFloatC st.L r (1 / f)
    pure { st with A := A', L := L' }

/-- `col_scale`. -/
def St.colScaleC (st : St) (c : Nat) (f : Rat) : Chk St := do
  let A' ← colScaleEC st.A c f
  if f = 0 then throw .zeroDiv
  else do
    let R' ← rowScaleFloatC st.R c (1 / f)
    pure { st with A := A', R := R' }

/-- `for row_0 in zs: del matrix[row_0]; for row in Op_l: del row[row_0]`. -/
def St.delRowsC (s : St) (zs : List Nat) : Chk St :=
  foldC (fun s z => do
    let A' ← delC s.A z
    let L' ← delColC s.L z
    pure { s with A := A', L := L' }) s zs

/-- `for col_0 in zs: (for row in matrix: del row[col_0]); del Op_r[col_0]`. -/
def St.delColsC (s : St) (zs : List Nat) : Chk St :=
  foldC (fun s z => do
    let A' ← delColC s.A z
    let R' ← delC s.R z
    pure { s with A := A', R := R' }) s zs

/-! ### deparallelisation -/

def deparRowsInnerC (A : EMat) (i : Nat) (acc : St × List Nat) (j : Nat) : Chk (St × List Nat) :=
  if j ∈ acc.2 then pure acc
  else do
    let ri ← getC A i
    let rj ← getC A j
    let mult := areParallelRow ri rj
    if mult ≠ 0 then do
      let L' ← colAddFloatC acc.1.L i j mult
      pure ({ acc.1 with L := L' }, acc.2 ++ [j])
    else pure acc

def deparRowsOuterC (A : EMat) (acc : St × List Nat) (i : Nat) : Chk (St × List Nat) :=
  if i ∈ acc.2 then pure acc
  else foldC (deparRowsInnerC A i) acc (List.range' (i + 1) (A.length - (i + 1)))

/-- `deparallelize_rows(Op_l, matrix)`. -/
def deparallelizeRowsC (s : St) : Chk St := do
  let r ← foldC (deparRowsOuterC s.A) (s, []) (List.range s.A.length)
  r.1.delRowsC (sortDesc r.2)

def deparColsInnerC (A : EMat) (i : Nat) (acc : St × List Nat) (j : Nat) : Chk (St × List Nat) :=
  if j ∈ acc.2 then pure acc
  else do
    let mult ← areParallelColC A i j
    if mult ≠ 0 then do
      let R' ← rowAddFloatC acc.1.R i j mult
      pure ({ acc.1 with R := R' }, acc.2 ++ [j])
    else pure acc

/-- One pass of `for i in range(len(matrix[0]))`; `len(matrix[0])` is evaluated again for the inner range. -/
def deparColsOuterC (A : EMat) (acc : St × List Nat) (i : Nat) : Chk (St × List Nat) :=
  if i ∈ acc.2 then pure acc
  else do
    let w ← widthC A
    foldC (deparColsInnerC A i) acc (List.range' (i + 1) (w - (i + 1)))

/-- `deparallelize_cols(Op_r, matrix)`. -/
def deparallelizeColsC (s : St) : Chk St := do
  let w ← widthC s.A
  let r ← foldC (deparColsOuterC s.A) (s, []) (List.range w)
  r.1.delColsC (sortDesc r.2)

/-! ### elimination -/

/-- `for j in …: if get(j) != 0: …; break` - the first index whose entry is non-zero. -/
def findNzC (get : Nat → Chk Entry) : List Nat → Chk (Option Nat)
  | [] => .ok none
  | j :: js =>
    match get j with
    | .error err => .error err
    | .ok e => if !e.isZero then .ok (some j) else findNzC get js

/-- Body of `while j < len(matrix)` in `row_elimination`: `j != i and matrix[j][i] != 0` short-circuits. -/
def rowElimInnerC (i : Nat) (pivot : Entry) (acc : St × List Nat) (j : Nat) : Chk (St × List Nat) :=
  if j ≠ i then do
    let e ← gMC acc.1.A j i
    if !e.isZero then
      match elimFactor pivot e with
      | none => pure acc
      | some (f, zd) =>
        if zd then throw .zeroDiv
        else do
          let r ← acc.1.rowAddC j i f
          pure (r.1, if r.2 then acc.2 ++ [j] else acc.2)
    else pure acc
  else pure acc

/-- The pivot search at the head of the body of `while i < min(...)`. -/
def rowPivotC (i : Nat) (s : St) : Chk St := do
  let d ← gMC s.A i i
  if d.isZero then do
    let r ← findNzC (fun j => gMC s.A j i) (List.range' (i + 1) (s.A.length - (i + 1)))
    match r with
    | some j => s.rowSwapC i j
    | none => pure s
  else pure s

/-- One pass of the body of `while i < min(len(matrix), len(matrix[0]))` in `row_elimination`. -/
def rowElimStepC (i : Nat) (s : St) : Chk St := do
  let s1 ← rowPivotC i s
  let pivot ← gMC s1.A i i
  if pivot.isZero then pure s1
  else do
    let r ← foldC (rowElimInnerC i pivot) (s1, []) (List.range s1.A.length)
    r.1.delRowsC (sortDesc r.2)

/-- `while i < min(len(matrix), len(matrix[0]))` with fuel. -/
def rowElimLoopC : Nat → Nat → St → Chk St
  | 0, i, s => do
    let w ← widthC s.A
    if i < min s.A.length w then throw .fuel else pure s
  | fuel + 1, i, s => do
    let w ← widthC s.A
    if i < min s.A.length w then do
      let s' ← rowElimStepC i s
      rowElimLoopC fuel (i + 1) s'
    else pure s

/-- `row_elimination(Op_l, matrix)`; `i` grows by one per pass and `len(matrix)` never grows, so
    `len(matrix)` passes always suffice (also on ragged input). -/
def rowEliminationC (s : St) : Chk St := rowElimLoopC s.A.length 0 s

def colElimInnerC (j : Nat) (pivot : Entry) (acc : St × List Nat) (i : Nat) : Chk (St × List Nat) :=
  if i ≠ j then do
    let e ← gMC acc.1.A j i
    if !e.isZero then
      match elimFactor pivot e with
      | none => pure acc
      | some (f, zd) =>
        if zd then throw .zeroDiv
        else do
          let r ← acc.1.colAddC i j f
          pure (r.1, if r.2 then acc.2 ++ [i] else acc.2)
    else pure acc
  else pure acc

def colPivotC (j : Nat) (s : St) : Chk St := do
  let d ← gMC s.A j j
  if d.isZero then do
    let w ← widthC s.A
    let r ← findNzC (fun i => gMC s.A j i) (List.range' (j + 1) (w - (j + 1)))
    match r with
    | some i => s.colSwapC j i
    | none => pure s
  else pure s

def colElimStepC (j : Nat) (s : St) : Chk St := do
  let s1 ← colPivotC j s
  let pivot ← gMC s1.A j j
  if pivot.isZero then pure s1
  else do
    let w ← widthC s1.A
    let r ← foldC (colElimInnerC j pivot) (s1, []) (List.range w)
    r.1.delColsC (sortDesc r.2)

def colElimLoopC : Nat → Nat → St → Chk St
  | 0, j, s => do
    let w ← widthC s.A
    if j < min s.A.length w then throw .fuel else pure s
  | fuel + 1, j, s => do
    let w ← widthC s.A
    if j < min s.A.length w then do
      let s' ← colElimStepC j s
      colElimLoopC fuel (j + 1) s'
    else pure s

/-- `column_elimination(Op_r, matrix)`. -/
def columnEliminationC (s : St) : Chk St := colElimLoopC s.A.length 0 s

/-- `while (n_rows != n_rows_old or n_cols != n_cols_old)` with fuel. -/
def mainLoopC : Nat → Nat → Nat → Nat → Nat → St → Chk St
  | 0, nr, nro, nc, nco, s => if nr ≠ nro ∨ nc ≠ nco then throw .fuel else pure s
  | fuel + 1, nr, nro, nc, nco, s =>
    if nr ≠ nro ∨ nc ≠ nco then do
      let s1 ← rowEliminationC s
      let s2 ← columnEliminationC s1
      let w ← widthC s2.A
      mainLoopC fuel s2.A.length nr w nc s2
    else pure s

/-- Fuel of the outer loop: rows + number of entries + 1 (at least `rows + cols + 1` when there is a row). -/
def mainFuel (M : EMat) : Nat := M.length + (M.map List.length).sum + 1

/-- State at the `return` of `gaussian_elimination(matrix)`. -/
def gaussStC (M : EMat) : Chk St := do
  let nr := M.length
  let nc ← widthC M
  let s0 : St := { L := identity nr, A := M, R := identity nc, flag := .ok }
  let s1 ← deparallelizeRowsC s0
  let s2 ← deparallelizeColsC s1
  mainLoopC (mainFuel M) nr 0 nc 0 s2

inductive OutcomeC where
  | ok (L : RMat) (A : EMat) (R : RMat)
  | zeroDiv
  | fuelOut
  | indexError
  deriving DecidableEq, Repr

/-- `gaussian_elimination(matrix)` with every exception the code can raise as an explicit outcome. -/
def gaussianEliminationC (M : EMat) : OutcomeC :=
  match gaussStC M with
  | .ok s => .ok s.L s.A s.R
  | .error .index => .indexError
  | .error .zeroDiv => .zeroDiv
  | .error .fuel => .fuelOut

/-- The outcomes of the totalised model as outcomes of the checked model. -/
def Outcome.toC : Outcome → OutcomeC
  | .ok L A R => .ok L A R
  | .zeroDiv => .zeroDiv
  | .fuelOut => .fuelOut

end Ptn.C13
