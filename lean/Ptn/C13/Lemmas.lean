import Ptn.C13.ColSteps
/-! The whole run of `gaussian_elimination` (core Lean only): the triple product `L · eval ρ A · R` is kept
(`Good`, `good_gaussSt`), the rule for any invariant of the run (`gaussSt_invariant`), list-level matrices
(`evalM`, `matMul`) for the statement as an equation of lists, and the example states of `Props.lean`. -/
namespace Ptn.C13

/-- `(L · eval ρ A · R)[i][j]`. -/
def tprod (ρ : Nat → Rat) (s : St) (i j : Nat) : Rat :=
  sumN s.A.length (fun k => sumN s.R.length (fun l => gR s.L i k * gE ρ s.A k l * gR s.R l j))

theorem tprod_eq_lprod (ρ : Nat → Rat) (s : St) (i j : Nat) :
    tprod ρ s i j = sumN s.R.length (fun l => lprod ρ s i l * gR s.R l j) := by
  unfold tprod
  rw [sumN_comm]
  apply sumN_congr
  intro l _
  simp only [lprod]
  rw [← sumN_mul_right]

theorem tprod_eq_rprod (ρ : Nat → Rat) (s : St) (i j : Nat) :
    tprod ρ s i j = sumN s.A.length (fun k => gR s.L i k * rprod ρ s k j) := by
  unfold tprod
  apply sumN_congr
  intro k _
  simp only [rprod]
  rw [← sumN_mul_left]
  apply sumN_congr
  intro l _
  grind

theorem tprod_of_rowRel {n : Nat} {s s' : St} (h : RowRel n s s') (hws : WS n s) (ρ : Nat → Rat)
    (i j : Nat) : tprod ρ s' i j = tprod ρ s i j := by
  obtain ⟨_, hR, _, _, hp⟩ := h hws
  rw [tprod_eq_lprod, tprod_eq_lprod, hR]
  apply sumN_congr
  intro l _
  rw [hp ρ i l]

theorem tprod_of_colRel {n : Nat} {s s' : St} (h : ColRel n s s') (hws : WS n s) (ρ : Nat → Rat)
    (i j : Nat) : tprod ρ s' i j = tprod ρ s i j := by
  obtain ⟨_, hL, hA, _, hp⟩ := h hws
  rw [tprod_eq_rprod, tprod_eq_rprod, hL, hA]
  apply sumN_congr
  intro k _
  rw [hp ρ k j]

/-- The invariant of the whole algorithm, for an `m × n` input with entry function `F`. -/
structure Good (m n : Nat) (F : (Nat → Rat) → Nat → Nat → Rat) (s : St) : Prop where
  ws : WS n s
  Llen : s.L.length = m
  rows_le : s.A.length ≤ m
  cols_le : s.R.length ≤ n
  exact : ∀ ρ i j, tprod ρ s i j = F ρ i j

theorem good_of_rowRel {m n : Nat} {F : (Nat → Rat) → Nat → Nat → Rat} {s s' : St}
    (hg : Good m n F s) (h : RowRel n s s') : Good m n F s' := by
  obtain ⟨ws', hR, hL, hA, _⟩ := h hg.ws
  exact ⟨ws', by rw [hL]; exact hg.Llen, Nat.le_trans hA hg.rows_le, by rw [hR]; exact hg.cols_le,
    fun ρ i j => (tprod_of_rowRel h hg.ws ρ i j).trans (hg.exact ρ i j)⟩

theorem good_of_colRel {m n : Nat} {F : (Nat → Rat) → Nat → Nat → Rat} {s s' : St}
    (hg : Good m n F s) (h : ColRel n s s') : Good m n F s' := by
  obtain ⟨ws', hL, hA, hR, _⟩ := h hg.ws
  exact ⟨ws', by rw [hL]; exact hg.Llen, by rw [hA]; exact hg.rows_le, Nat.le_trans hR hg.cols_le,
    fun ρ i j => (tprod_of_colRel h hg.ws ρ i j).trans (hg.exact ρ i j)⟩

theorem gR_identity (n i k : Nat) (hi : i < n) (hk : k < n) :
    gR (identity n) i k = if k = i then 1 else 0 := by
  simp only [gR, gM_eq_getElem?, identity, List.getElem?_map, List.getElem?_range hi, Option.map_some,
    Option.getD_some, List.getElem?_range hk]
  by_cases h : k = i
  · subst h; simp
  · have : ¬ i = k := fun e => h e.symm
    simp [h, this]

theorem rect_identity (n : Nat) : Rect (identity n) n := by
  intro r hr
  simp only [identity, List.mem_map] at hr
  obtain ⟨i, _, rfl⟩ := hr
  simp

theorem length_identity (n : Nat) : (identity n).length = n := by simp [identity]

theorem tprod_init (ρ : Nat → Rat) (M : EMat) (n : Nat) (fl : Flag) (i j : Nat)
    (hi : i < M.length) (hj : j < n) :
    tprod ρ { L := identity M.length, A := M, R := identity n, flag := fl } i j = gE ρ M i j := by
  unfold tprod
  simp only [length_identity]
  have inner : ∀ k, k < M.length →
      sumN n (fun l => gR (identity M.length) i k * gE ρ M k l * gR (identity n) l j)
        = if k = i then gE ρ M k j else 0 := by
    intro k hk
    have e : ∀ l, l < n → gR (identity M.length) i k * gE ρ M k l * gR (identity n) l j
        = if l = j then gR (identity M.length) i k * gE ρ M k l else 0 := by
      intro l hl
      rw [gR_identity n l j hl hj]
      by_cases h : l = j
      · subst h; simp <;> grind
      · have : ¬ j = l := fun e => h e.symm
        simp [h, this] <;> grind
    rw [sumN_congr e, sumN_single' n j _ hj, gR_identity M.length i k hi hk]
    by_cases h : k = i
    · simp [h] <;> grind
    · simp [h] <;> grind
  rw [sumN_congr inner, sumN_single' M.length i (fun k => gE ρ M k j) hi]

/-- Entry function of the input, continued outside the index range by whatever the initial product is. -/
def initF (M : EMat) (n : Nat) : (Nat → Rat) → Nat → Nat → Rat :=
  fun ρ i j => if i < M.length ∧ j < n then gE ρ M i j else
    tprod ρ { L := identity M.length, A := M, R := identity n, flag := .ok } i j

theorem good_init (M : EMat) (n : Nat) (hpos : 0 < M.length) (hrect : Rect M n) :
    Good M.length n (initF M n)
      { L := identity M.length, A := M, R := identity n, flag := .ok } := by
  refine ⟨⟨?_, ?_, rect_identity n, hpos⟩, length_identity _, Nat.le_refl _, ?_, ?_⟩
  · exact rect_identity _
  · show Rect M (identity n).length
    rw [length_identity]; exact hrect
  · show (identity n).length ≤ n
    rw [length_identity]; exact Nat.le_refl _
  · intro ρ i j
    by_cases h : i < M.length ∧ j < n
    · simp only [initF, h, and_self, if_true]
      exact tprod_init ρ M n .ok i j h.1 h.2
    · simp only [initF, h, if_false]

theorem good_depar (M : EMat) (n : Nat) (hpos : 0 < M.length) (hrect : Rect M n) (hnes : NESM M) :
    NESM (deparallelizeRows { L := identity M.length, A := M, R := identity n, flag := .ok }).A ∧
    Good M.length n (initF M n)
      (deparallelizeRows { L := identity M.length, A := M, R := identity n, flag := .ok }) ∧
    Good M.length n (initF M n) (deparallelizeCols
      (deparallelizeRows { L := identity M.length, A := M, R := identity n, flag := .ok })) :=
  have g1 := good_of_rowRel (good_init M n hpos hrect) (rowRel_deparallelizeRows n _ hnes)
  have hnes1 : NESM (deparallelizeRows { L := identity M.length, A := M, R := identity n, flag := .ok }).A :=
    Side.allE_deparallelize (P := Entry.NES) rowEntryLaws _ hnes
  ⟨hnes1, g1, good_of_colRel g1 (colRel_deparallelizeCols n _ hnes1)⟩

theorem good_gaussSt (M : EMat) (n : Nat) (hpos : 0 < M.length) (hrect : Rect M n) (hnes : NESM M) :
    Good M.length n (initF M n) (gaussSt M) := by
  unfold gaussSt
  simp only
  rw [width_of_rect hrect hpos]
  refine mainLoop_inv (Good M.length n (initF M n)) (fun s hg => good_of_rowRel hg (rowRel_raise n s _))
    (fun s hg => good_of_colRel (good_of_rowRel hg (rowRel_rowElimination n s)) (colRel_columnElimination n _))
    _ _ _ _ _ _ ?_
  exact (good_depar M n hpos hrect hnes).2.2

section RunInvariant
variable {n : Nat} {I : St → Prop} (hws : ∀ s, I s → WS n s) (hraise : ∀ s f, I s → I (s.raise f))
  (hrow : ∀ i s, I s → i < s.A.length → I (rowElimStep i s))
  (hcol : ∀ j s, I s → j < s.R.length → I (colElimStep j s))
include hws hraise hrow hcol in
theorem mainLoop_invariant : ∀ (fuel nr nro nc nco : Nat) (s : St), I s →
    I (mainLoop fuel nr nro nc nco s) := by
  refine mainLoop_inv I (fun s => hraise s _) fun s h => ?_
  unfold columnElimination rowElimination
  rw [colElimLoop_eq, rowElimLoop_eq]
  refine elimLoop_inv I (fun s => hraise s _) (fun j s hc h => hcol j s h ?_) _ _ _
    (elimLoop_inv I (fun s => hraise s _)
      (fun i s hc h => hrow i s h (Nat.lt_of_lt_of_le hc (Nat.min_le_left _ _))) _ _ _ h)
  rw [width_eq (hws s h)] at hc
  exact Nat.lt_of_lt_of_le hc (Nat.min_le_right _ _)

include hws hraise hrow hcol in
theorem gaussSt_invariant (hdr : ∀ s, I s → I (deparallelizeRows s))
    (hdc : ∀ s, I s → I (deparallelizeCols s)) (M : EMat) (hpos : 0 < M.length) (hrect : Rect M n)
    (h0 : I { L := identity M.length, A := M, R := identity n, flag := .ok }) : I (gaussSt M) := by
  unfold gaussSt
  simp only
  rw [width_of_rect hrect hpos]
  exact mainLoop_invariant hws hraise hrow hcol _ _ _ _ _ _ (hdc _ (hdr _ h0))

end RunInvariant

theorem initF_in_range (M : EMat) (n : Nat) (ρ : Nat → Rat) (i j : Nat) (hi : i < M.length) (hj : j < n) :
    initF M n ρ i j = gE ρ M i j := by
  simp [initF, hi, hj]

theorem gaussianElimination_ok {M : EMat} {L : RMat} {A : EMat} {R : RMat}
    (h : gaussianElimination M = .ok L A R) :
    (gaussSt M).flag = Flag.ok ∧ (gaussSt M).L = L ∧ (gaussSt M).A = A ∧ (gaussSt M).R = R := by
  unfold gaussianElimination at h
  simp only at h
  split at h
  · rename_i hflag
    exact ⟨hflag, Outcome.ok.inj h⟩
  · exact nomatch h
  · exact nomatch h

/-- `A` under the valuation `ρ`, as a matrix of numbers. -/
def evalM (ρ : Nat → Rat) (A : EMat) : RMat := A.map (fun row => row.map (Entry.eval ρ))

/-- Product of `X` with a matrix `Y` that has `n` columns. -/
def matMul (X Y : RMat) (n : Nat) : RMat :=
  X.map fun row => (List.range n).map fun j => sumN Y.length (fun k => row.getD k 0 * gR Y k j)

theorem length_evalM (ρ : Nat → Rat) (A : EMat) : (evalM ρ A).length = A.length := List.length_map _

theorem length_matMul (X Y : RMat) (n : Nat) : (matMul X Y n).length = X.length := List.length_map _

theorem gR_evalM (ρ : Nat → Rat) (A : EMat) (k l : Nat) : gR (evalM ρ A) k l = gE ρ A k l := by
  simp only [gR, gE_eq_getElem?, gM_eq_getElem?, evalM, List.getElem?_map]
  cases A[k]? with
  | none => simp [Entry.eval]
  | some r =>
    simp only [Option.map_some, Option.getD_some, List.getElem?_map]
    cases r[l]? with
    | none => simp [Entry.eval]
    | some e => simp

theorem gR_matMul (X Y : RMat) (n i j : Nat) (hi : i < X.length) (hj : j < n) :
    gR (matMul X Y n) i j = sumN Y.length (fun k => gR X i k * gR Y k j) := by
  simp only [gR, gM_eq_getElem?, matMul, List.getElem?_map, List.getElem?_eq_getElem hi, Option.map_some,
    Option.getD_some, List.getElem?_range hj, List.getD_eq_getElem?_getD]

theorem rmat_ext {X Y : RMat} {m n : Nat} (hX : X.length = m) (hY : Y.length = m) (rX : Rect X n)
    (rY : Rect Y n) (h : ∀ i j, i < m → j < n → gR X i j = gR Y i j) : X = Y := by
  apply List.ext_getElem (by omega)
  intro i h1 h2
  have l1 : (X[i]).length = n := rX _ (List.getElem_mem h1)
  have l2 : (Y[i]).length = n := rY _ (List.getElem_mem h2)
  apply List.ext_getElem (by omega)
  intro j h3 h4
  have := h i j (by omega) (by omega)
  simpa [gR, gM_eq_getElem?, List.getElem?_eq_getElem h1, List.getElem?_eq_getElem h2,
    List.getElem?_eq_getElem h3, List.getElem?_eq_getElem h4] using this

theorem rect_matMul (X Y : RMat) (n : Nat) : Rect (matMul X Y n) n := by
  intro r hr
  simp only [matMul, List.mem_map] at hr
  obtain ⟨r0, _, rfl⟩ := hr
  simp

theorem rect_evalM {A : EMat} {w : Nat} (ρ : Nat → Rat) (h : Rect A w) : Rect (evalM ρ A) w := by
  intro r hr
  simp only [evalM, List.mem_map] at hr
  obtain ⟨r0, hr0, rfl⟩ := hr
  simpa using h r0 hr0

/-- `L = R = 1`, `A = [[1, a], [2, 3a]]`. -/
def exState : St :=
  ⟨[[1, 0], [0, 1]], [[.num 1, .sym 1 1], [.num 2, .sym 3 1]], [[1, 0], [0, 1]], .ok⟩

/-- `L = 1₃`, `A = [[1, a], [0, 0], [2, b]]`, `R = 1₂`: row 1 is zero. -/
def exStateZeroRow : St :=
  ⟨[[1, 0, 0], [0, 1, 0], [0, 0, 1]], [[.num 1, .sym 1 1], [.num 0, .num 0], [.num 2, .sym 1 2]],
    [[1, 0], [0, 1]], .ok⟩

/-- `A = [[1, a], [3, 3a]]`: parallel rows and (with `a`) non-parallel columns. -/
def exStateParallel : St :=
  ⟨[[1, 0], [0, 1]], [[.num 1, .sym 1 1], [.num 3, .sym 3 1]], [[1, 0], [0, 1]], .ok⟩

end Ptn.C13
