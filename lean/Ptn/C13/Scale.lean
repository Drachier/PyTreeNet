import Ptn.C13.ColSteps
/-! `row_scale` / `col_scale` (present in the Python file, not used by `gaussian_elimination`):
scaling a line by `f ≠ 0` and the matching line of the operator matrix by `1/f` preserves the product
(core Lean only). -/
namespace Ptn.C13

theorem scaleEntry_eval (f : Rat) (e : Entry) (ρ : Nat → Rat) :
    (scaleEntry f e).eval ρ = e.eval ρ * f := by
  cases e with
  | num q => simp [scaleEntry, Entry.eval]
  | sym q s => simp only [scaleEntry, Entry.eval]; grind

theorem scale_cancel {x y f : Rat} (hf : f ≠ 0) : x * (1 / f) * (y * f) = x * y := by
  rw [Rat.mul_assoc, ← Rat.mul_assoc (1 / f), Rat.mul_comm (1 / f) y, Rat.mul_assoc y,
    Rat.div_mul_cancel hf, Rat.mul_one]

theorem scaleEntry_zero (f : Rat) : scaleEntry f (Entry.num 0) = Entry.num 0 :=
  congrArg Entry.num (Rat.zero_mul f)

theorem gE_rowScaleE (ρ : Nat → Rat) (A : EMat) (r : Nat) (f : Rat) (k l : Nat) :
    gE ρ (rowScaleE A r f) k l = if k = r then gE ρ A r l * f else gE ρ A k l := by
  unfold gE rowScaleE
  rw [gM_set_map _ (scaleEntry_zero f), apply_ite (Entry.eval ρ), scaleEntry_eval]

theorem gE_colScaleE (ρ : Nat → Rat) (A : EMat) (c : Nat) (f : Rat) (k l : Nat) :
    gE ρ (colScaleE A c f) k l = if l = c then gE ρ A k c * f else gE ρ A k l := by
  unfold gE colScaleE
  rw [gM_map_set_get _ (scaleEntry_zero f), apply_ite (Entry.eval ρ), scaleEntry_eval]

theorem gR_rowScaleFloat (X : RMat) (r : Nat) (f : Rat) (k l : Nat) :
    gR (rowScaleFloat X r f) k l = if k = r then gR X r l * f else gR X k l :=
  gM_set_map 0 (g := (· * f)) (Rat.zero_mul f) X r k l

theorem gR_colScaleFloat (X : RMat) (c : Nat) (f : Rat) (k l : Nat) :
    gR (colScaleFloat X c f) k l = if l = c then gR X k c * f else gR X k l :=
  gM_map_set_get 0 (g := (· * f)) (Rat.zero_mul f) X c k l

theorem rect_rowScale {α : Type} {X : List (List α)} {w : Nat} (g : α → α) (hX : Rect X w) (r : Nat) :
    Rect (X.set r ((X.getD r []).map g)) w := by
  by_cases hlt : r < X.length
  · exact rect_set hX r ((List.length_map g).trans (getD_row_length hX hlt))
  · rw [List.set_eq_of_length_le (by omega)]
    exact hX

/-- The model answers only for `f ≠ 0` (the code raises on `1/f` otherwise), and then the product is kept. -/
theorem row_scale_preserves (n : Nat) (st st' : St) (r : Nat) (f : Rat) (h : st.rowScale r f = some st') :
    f ≠ 0 ∧ RowRel n st st' := by
  unfold St.rowScale at h
  by_cases hf : f = 0
  · simp [hf] at h
  · simp only [hf, if_false, Option.some.injEq] at h
    subst h
    refine ⟨hf, rowRel_same (by simp [rowScaleE]) rfl (by simp [colScaleFloat])
      (fun h => rect_map h.Lrect _ fun _ => List.length_set) (fun h => rect_rowScale (scaleEntry f) h.Arect r)
      fun _ ρ i l => sumN_congr fun k _ => ?_⟩
    show gR (colScaleFloat st.L r (1 / f)) i k * gE ρ (rowScaleE st.A r f) k l = _
    rw [gR_colScaleFloat, gE_rowScaleE]
    by_cases hk : k = r
    · subst hk
      simp only [if_true]
      exact scale_cancel hf
    · simp [hk]

theorem col_scale_preserves (n : Nat) (st st' : St) (c : Nat) (f : Rat) (h : st.colScale c f = some st') :
    f ≠ 0 ∧ ColRel n st st' := by
  unfold St.colScale at h
  by_cases hf : f = 0
  · simp [hf] at h
  · simp only [hf, if_false, Option.some.injEq] at h
    subst h
    refine ⟨hf, colRel_same (by simp [colScaleE]) rfl (by simp [rowScaleFloat])
      (fun h => rect_map h.Arect _ fun _ => List.length_set) (fun h => rect_rowScale (· * (1 / f)) h.Rrect c)
      fun _ ρ k j => sumN_congr fun l _ => ?_⟩
    show gR (rowScaleFloat st.R c (1 / f)) l j * gE ρ (colScaleE st.A c f) k l = _
    rw [gR_rowScaleFloat, gE_colScaleE]
    by_cases hl : l = c
    · subst hl
      simp only [if_true]
      exact scale_cancel hf
    · simp [hl]

end Ptn.C13
