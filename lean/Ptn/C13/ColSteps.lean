import Ptn.C13.RowSteps
/-! Column side of C13 (core Lean only): the paired column primitives preserve the shape and the product
`eval ρ A · R`; the column instance of `Side.RelLaws`.  Mirror image of `RowSteps.lean`. -/
namespace Ptn.C13

/-- `Side.Rel colSide` written out (`colRel_eq`). -/
def ColRel (n : Nat) (s s' : St) : Prop :=
  WS n s → WS n s' ∧ s'.L = s.L ∧ s'.A.length = s.A.length ∧ s'.R.length ≤ s.R.length ∧
    ∀ ρ k j, rprod ρ s' k j = rprod ρ s k j

theorem ColRel.refl (n : Nat) (s : St) : ColRel n s s :=
  fun h => ⟨h, rfl, rfl, Nat.le_refl _, fun _ _ _ => rfl⟩

theorem colRel_same {n : Nat} {s s' : St} (hA : s'.A.length = s.A.length) (hL : s'.L = s.L)
    (hR : s'.R.length = s.R.length) (rA : WS n s → Rect s'.A s.R.length) (rR : WS n s → Rect s'.R n)
    (hv : WS n s → ∀ ρ k j, sumN s.R.length (fun l => gR s'.R l j * gE ρ s'.A k l) = rprod ρ s k j) :
    ColRel n s s' := fun h =>
  ⟨WS.same h hA hR (hL ▸ h.Lrect) (rA h) (rR h), hL, hA, Nat.le_of_eq hR,
    fun ρ k j => (show rprod ρ s' k j = sumN s'.R.length _ from rfl).trans (hR ▸ hv h ρ k j)⟩

theorem colRel_colSwap (n : Nat) (s : St) (a b : Nat) (ha : a < s.R.length) (hb : b < s.R.length) :
    ColRel n s (s.colSwap a b) :=
  colRel_same (length_colSwap _ _ _) rfl (length_rowSwap _ _ _) (fun h => rect_colSwap h.Arect a b)
    (fun h => rect_rowSwap h.Rrect a b) fun h ρ k j =>
    (sumN_congr fun l _ => by
      simp only [gR, gE, St.colSwap, gM_rowSwap 0 s.R a b l j ha hb,
        gM_colSwap (Entry.num 0) s.A s.R.length a b k l h.Arect ha hb]).trans
      (pair_swap s.R.length a b (fun l => gR s.R l j) (fun l => gE ρ s.A k l) ha hb)

theorem colAdd_spec (n : Nat) (st : St) (t s : Nat) (f : Rat) (ht : t < st.R.length)
    (hs : s < st.R.length) (hts : t ≠ s) (h : WS n st) :
    ColRel n st (st.colAdd t s f).1 ∧
    (st.colAdd t s f).1.R.length = st.R.length ∧
    (∀ ρ k l, l ≠ t → gE ρ (st.colAdd t s f).1.A k l = gE ρ st.A k l) ∧
    ((st.colAdd t s f).2 = true → ∀ ρ k, gE ρ (st.colAdd t s f).1.A k t = 0) := by
  unfold St.colAdd
  cases hr : colAddRaw st.A t s f with
  | none =>
    exact ⟨ColRel.refl n st, rfl, fun _ _ _ _ => rfl, fun hz => by simp at hz⟩
  | some p =>
    obtain ⟨A', z⟩ := p
    have spec := fun ρ => colAddRaw_spec ρ hr h.Arect ht
    obtain ⟨hlen, hrect, _, _⟩ := spec (fun _ => 0)
    refine ⟨colRel_same hlen rfl (length_rowAddFloat _ _ _ _) (fun _ => hrect)
      (fun h => rect_rowAddFloat h.Rrect s t (-f) hs ht) fun h ρ k j => ?_, length_rowAddFloat _ _ _ _,
      fun ρ k l hl => ?_, fun hz ρ k => (spec ρ).2.2.2 hz k⟩
    · exact (sumN_congr fun l _ => by
        rw [gR_rowAddFloat st.R n s t (-f) h.Rrect hs ht l j, (spec ρ).2.2.1 k l]).trans
        (pair_add st.R.length t s f (fun l => gR st.R l j) (fun l => gE ρ st.A k l) ht hs hts)
    · rw [(spec ρ).2.2.1 k l, if_neg hl]

theorem delCols_cons (s : St) (z : Nat) (zs : List Nat) :
    s.delCols (z :: zs) = St.delCols { s with A := delCol s.A z, R := delRow s.R z } zs := rfl

theorem delCols_spec (n : Nat) : ∀ (zs : List Nat) (s : St),
    List.Pairwise (fun a b => b < a) zs → (∀ z, z ∈ zs → z < s.R.length) →
    Rect s.A s.R.length → Rect s.R n →
    (s.delCols zs).R.length + zs.length = s.R.length ∧
    Rect (s.delCols zs).A (s.delCols zs).R.length ∧
    Rect (s.delCols zs).R n ∧
    (s.delCols zs).L = s.L ∧ (s.delCols zs).A.length = s.A.length ∧
    ∀ ρ k j, rprod ρ (s.delCols zs) k j = rprodMask ρ zs s k j := by
  intro zs
  induction zs with
  | nil =>
    intro s _ _ hA hR
    refine ⟨rfl, hA, hR, rfl, rfl, fun ρ i l => ?_⟩
    simp [St.delCols, rprod, rprodMask]
  | cons z zs ih =>
    intro s hp hlt hA hR
    have hz : z < s.R.length := hlt z (by simp)
    have hp' := List.pairwise_cons.mp hp
    let s1 : St := { s with A := delCol s.A z, R := delRow s.R z }
    have hlen1 : s1.R.length + 1 = s.R.length := length_delRow s.R z hz
    have hA1 : Rect s1.A s1.R.length := by
      have : Rect s.A (s1.R.length + 1) := by rw [hlen1]; exact hA
      exact rect_delCol this z (by omega)
    have hR1 : Rect s1.R n := rect_delRow hR z
    have hlt1 : ∀ y, y ∈ zs → y < s1.R.length := by
      intro y hy
      have := hp'.1 y hy
      omega
    obtain ⟨c1, c2, c3, c4, c5, c6⟩ := ih s1 hp'.2 hlt1 hA1 hR1
    have hcons : s.delCols (z :: zs) = s1.delCols zs := rfl
    rw [hcons]
    refine ⟨?_, c2, c3, c4, ?_, ?_⟩
    · simp only [List.length_cons]; omega
    · rw [c5]; exact length_delCol _ _
    · intro ρ k j
      rw [c6 ρ k j]
      refine Eq.trans ?_ ((pair_skip_mask s1.R.length z zs (fun l => gR s.R l j * gE ρ s.A k l) (by omega)
        hp'.1).trans (by rw [hlen1]; rfl))
      exact sumN_congr (fun l _ => by simp only [gR, gE, s1, gM_delCol, gM_delRow])

theorem colRel_eq : ColRel = colSide.Rel := rfl

/-- The column side: `R` absorbs the inverse operations; it may lose all its rows. -/
theorem colRelLaws (n : Nat) : colSide.RelLaws n (fun _ _ => True) where
  lines_eq h := width_eq h
  bounds hA hR := ⟨hR, hA⟩
  len_le hd hc := ⟨Nat.le_of_eq hc, hd⟩
  keeps_of _ _ := trivial
  congr hL hA hR := ⟨hL, congrArg List.length hA, congrArg List.length hR, congrArg List.length hA,
    fun ρ => by funext k j; simp only [rprod, hR, hA]⟩
  cross_congr _ hp := hp
  swap s a b ha hb := by
    dsimp only [colSide] at ha hb ⊢
    exact colRel_colSwap n s a b ha hb
  swap_dim _ _ _ := length_rowSwap _ _ _
  add st t s f ht hs hts h := by
    simp only [colSide_e]
    dsimp only [colSide] at ht hs ⊢
    obtain ⟨r1, r2, r3, r4⟩ := colAdd_spec n st t s f ht hs hts h
    exact ⟨r1, r2, fun ρ k y hk => r3 ρ y k hk, r4⟩
  mask_nil ρ s x y := by simp [rprodMask, rprod]
  mask_congr h ρ s x y := sumN_mask_congr h _
  mask_zero hz x y := by
    simp only [colSide_e] at hz
    exact sumN_mask_of_zero fun z hz' => hz z hz' x
  del := by
    intro s zs h hp hlt _
    dsimp only [colSide] at hlt ⊢
    obtain ⟨c1, c2, c3, c4, c5, c6⟩ := delCols_spec n zs s hp hlt h.Arect h.Rrect
    exact ⟨⟨by rw [c4, c5]; exact h.Lrect, c2, c3, by rw [c5]; exact h.Apos⟩, c4, c5, c1, c6⟩
  par := by
    intro s zs i j h hnes hij hj hiz hjz hm
    dsimp only [colSide] at hj hm ⊢
    have hi : i < s.R.length := by omega
    refine ⟨h.same rfl (length_rowAddFloat _ _ _ _) h.Lrect h.Arect (rect_rowAddFloat h.Rrect _ _ _ hi hj),
      rfl, rfl, rfl, length_rowAddFloat _ _ _ _, fun ρ k x => ?_⟩
    show sumN (rowAddFloat s.R i j (areParallelCol s.A i j)).length _ = _
    rw [length_rowAddFloat]
    refine Eq.trans ?_ (pair_merge s.R.length i j _ zs (fun l => gR s.R l x)
      (fun l => gE ρ s.A k l) hi hj (by omega) hiz hjz
      (areParallelCol_sound ρ hnes rfl hm k))
    exact sumN_congr (fun l _ => by rw [gR_rowAddFloat s.R n i j _ h.Rrect hi hj l x])

theorem colPivot_spec (n : Nat) (j : Nat) (s : St) (hj : j < s.R.length) (_hws : WS n s) :
    ColRel n s (colPivot j s) ∧ (colPivot j s).R.length = s.R.length := by
  rw [colPivot_eq, colRel_eq]
  exact ⟨Side.rel_pivot (colRelLaws n) j s hj, Side.pivot_dim (colRelLaws n) j s⟩

/-- Invariant of the `while i < len(matrix[0])` loop of `column_elimination`: `Side.InnerInv colSide` written
    out. -/
structure ColInnerInv (n j : Nat) (s1 : St) (i : Nat) (acc : St × List Nat) : Prop where
  ws : WS n acc.1
  rel : ColRel n s1 acc.1
  len : acc.1.R.length = s1.R.length
  nd : acc.2.Nodup
  zs : ∀ z, z ∈ acc.2 → z < i ∧ z ≠ j ∧ ∀ ρ k, gE ρ acc.1.A k z = 0

theorem colRel_colElimStep (n j : Nat) (s : St) (hj : j < s.R.length) :
    ColRel n s (colElimStep j s) := by
  rw [colElimStep_eq, colRel_eq]
  exact Side.rel_elimStep (colRelLaws n) j s hj

theorem colRel_columnElimination (n : Nat) (s : St) : ColRel n s (columnElimination s) := by
  rw [columnElimination_eq, colRel_eq]
  exact Side.rel_elimination (colRelLaws n) s

theorem colRel_deparallelizeCols (n : Nat) (s : St) (hnes : NESM s.A) :
    ColRel n s (deparallelizeCols s) := by
  rw [deparallelizeCols_eq, colRel_eq]
  exact Side.rel_deparallelize (colRelLaws n) s hnes

end Ptn.C13
