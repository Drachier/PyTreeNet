import Ptn.C13.Lemmas
/-! Totality for C13: on in-domain input (symbolic entries with non-zero coefficient) the model never
reports `zeroDiv`, and the fuel of the three `while` loops always suffices (core Lean only). -/
namespace Ptn.C13

def Entry.NZ : Entry → Prop
  | .num _ => True
  | .sym q _ => q ≠ 0

/-- Every symbolic coefficient of `A` is non-zero: `AllE Entry.NZ A` (same body). -/
def NZM (A : EMat) : Prop := ∀ r, r ∈ A → ∀ e, e ∈ r → e.NZ

theorem elimFactor_nz {pivot e : Entry} {f : Rat} {zd : Bool} (h : elimFactor pivot e = some (f, zd))
    (hp : pivot.NZ) (hpz : pivot.isZero = false) (he : e.NZ) (hez : e.isZero = false) :
    zd = false ∧ f ≠ 0 := by
  cases pivot with
  | num pq =>
    cases e with
    | num eq =>
      simp only [elimFactor, Option.some.injEq, Prod.mk.injEq] at h
      obtain ⟨rfl, rfl⟩ := h
      have hp0 : pq ≠ 0 := by simpa [Entry.isZero] using hpz
      have he0 : eq ≠ 0 := by simpa [Entry.isZero] using hez
      exact ⟨by simp [hp0], rat_div_ne_zero (rat_neg_ne_zero he0) hp0⟩
    | sym ec es => simp [elimFactor] at h
  | sym pc ps =>
    cases e with
    | num eq => simp [elimFactor] at h
    | sym ec es =>
      simp only [elimFactor] at h
      by_cases hs : ps = es
      · simp only [hs, if_true, Option.some.injEq, Prod.mk.injEq] at h
        obtain ⟨rfl, rfl⟩ := h
        have hp0 : pc ≠ 0 := hp
        have he0 : ec ≠ 0 := he
        exact ⟨by simp [hp0], rat_div_ne_zero (rat_neg_ne_zero he0) hp0⟩
      · simp [hs] at h

theorem addEntry_nz {f : Rat} {t s e : Entry} (h : addEntry f t s = some e) (hf : f ≠ 0)
    (ht : t.NZ) (hs : s.NZ) : e.NZ :=
  addEntry_cases (Q := fun t s e => t.NZ → s.NZ → e.NZ) (fun _ _ _ _ => trivial) (fun _ _ ht _ => ht)
    (fun _ _ _ hs => rat_mul_ne_zero hf hs) (fun _ _ _ _ _ _ => trivial) (fun _ _ _ hn _ _ => hn) h ht hs

/-- The part of the state that totality is about. -/
structure OKS (s : St) : Prop where
  nz : NZM s.A
  ok : s.flag = .ok

theorem min_le_min_of_le {a b c d : Nat} (h : a ≤ c ∧ b ≤ d) : min a b ≤ min c d :=
  Nat.le_min.mpr ⟨Nat.le_trans (Nat.min_le_left _ _) h.1, Nat.le_trans (Nat.min_le_right _ _) h.2⟩

namespace Side
variable {sd : Side} {n : Nat} {keeps : St → List Nat → Prop}

theorem EntryLaws.presOKS (law : sd.EntryLaws) : sd.Pres OKS (· ≠ 0) where
  swap s a b h := ⟨law.allE_swap s a b h.nz, (law.swap_flag s a b).trans h.ok⟩
  add st t s f hf h := ⟨law.allE_add trivial (fun _ _ _ he => addEntry_nz he hf) st t s h.nz,
    (law.add_flag st t s f).trans h.ok⟩
  del s zs h := ⟨law.allE_del s zs h.nz, (law.del_flag s zs).trans h.ok⟩
  opAdd s i j m h := ⟨(law.opAdd_A s i j m).symm ▸ h.nz, (law.opAdd_flag s i j m).trans h.ok⟩

/-- In the domain the factor of an addition is a non-zero number and its division does not fail. -/
theorem oks_elimInner (law : sd.EntryLaws) (i : Nat) (pivot : Entry) (hp : pivot.NZ)
    (hpz : pivot.isZero = false) (acc : St × List Nat) (j : Nat) (h : OKS acc.1) :
    OKS (sd.elimInner i pivot acc j).1 := by
  refine elimInner_cases sd (Q := fun r => OKS r.1) i pivot acc j h (fun f zd _ hez hf => ?_)
  obtain ⟨hzd, hf0⟩ := elimFactor_nz hf hp hpz (law.allE_read trivial h.nz j i) hez
  subst hzd
  exact law.presOKS.add _ _ _ _ hf0 h

theorem oks_elimStep (law : sd.EntryLaws) (i : Nat) (s : St) (h : OKS s) : OKS (sd.elimStep i s) :=
  law.presOKS.elimStep i s h fun hpz =>
    oks_elimInner law i _ (law.allE_read trivial (law.presOKS.pivot i s h).nz i i) hpz

theorem oks_elimination (law : sd.RelLaws n keeps) (el : sd.EntryLaws) (s : St) (hws : WS n s) (h : OKS s) :
    OKS (sd.elimination s) := by
  refine (elimLoop_inv_fuel (fun s => WS n s ∧ OKS s) ?_ _ 0 s ⟨hws, h⟩ (Nat.le_refl _)).2
  intro i s hc ⟨hws, h⟩
  obtain ⟨ws1, hA, hR⟩ := ws_elimStep law hws (lt_dim law hws hc)
  rw [width_eq hws, width_eq ws1]
  exact ⟨⟨ws1, oks_elimStep el i s h⟩, min_le_min_of_le ⟨hA, hR⟩⟩

end Side

theorem oks_pass {n : Nat} {s : St} (hws : WS n s) (h : OKS s) :
    OKS (columnElimination (rowElimination s)) := by
  have ws1 := (rowRel_rowElimination n s hws).1
  rw [rowElimination_eq, columnElimination_eq] at *
  exact Side.oks_elimination (colRelLaws n) colEntryLaws _ ws1 (Side.oks_elimination (rowRelLaws n) rowEntryLaws s hws h)

theorem mainLoop_stop (fuel nr nro nc nco : Nat) (s : St) (h : ¬ (nr ≠ nro ∨ nc ≠ nco)) :
    mainLoop fuel nr nro nc nco s = s := by
  cases fuel with
  | zero => unfold mainLoop; simp [h]
  | succ fuel => unfold mainLoop; simp [h]

theorem ws_pass {n : Nat} {s : St} (hws : WS n s) :
    WS n (columnElimination (rowElimination s)) ∧
    (columnElimination (rowElimination s)).A.length ≤ s.A.length ∧
    (columnElimination (rowElimination s)).R.length ≤ s.R.length := by
  obtain ⟨ws1, hR1, _, hA1, _⟩ := rowRel_rowElimination n s hws
  obtain ⟨ws2, _, hA2, hR2, _⟩ := colRel_columnElimination n _ ws1
  exact ⟨ws2, Nat.le_trans (Nat.le_of_eq hA2) hA1, Nat.le_trans hR2 (Nat.le_of_eq (congrArg List.length hR1))⟩

/-- The fixed-point loop goes on only after a pass that made `rows + cols` smaller. -/
theorem fuel_pass {a r nr nc fuel : Nat} (ha : a ≤ nr) (hr : r ≤ nc) (hgo : a ≠ nr ∨ r ≠ nc)
    (hf : nr + nc < fuel + 1) : a + r < fuel := by omega

theorem oks_mainLoop {n : Nat} :
    ∀ (fuel nr nro nc nco : Nat) (s : St), WS n s → OKS s →
      s.A.length ≤ nr → s.R.length ≤ nc → nr + nc < fuel → OKS (mainLoop fuel nr nro nc nco s) := by
  intro fuel
  induction fuel with
  | zero => intro nr nro nc nco s _ _ _ _ hf; omega
  | succ fuel ih =>
    intro nr nro nc nco s hws h hnr hnc hf
    unfold mainLoop
    split
    · simp only
      have o2 := oks_pass hws h
      obtain ⟨ws2, hA, hR⟩ := ws_pass hws
      rw [width_eq ws2]
      by_cases hgo : (columnElimination (rowElimination s)).A.length ≠ nr
          ∨ (columnElimination (rowElimination s)).R.length ≠ nc
      · exact ih _ _ _ _ _ ws2 o2 (Nat.le_refl _) (Nat.le_refl _)
          (fuel_pass (Nat.le_trans hA hnr) (Nat.le_trans hR hnc) hgo hf)
      · rw [mainLoop_stop _ _ _ _ _ _ hgo]
        exact o2
    · exact h

/-- On in-domain input the state at the `return` has its flag unset. -/
theorem oks_gaussSt (M : EMat) (n : Nat) (hpos : 0 < M.length) (hrect : Rect M n) (hnes : NESM M)
    (hnz : NZM M) : OKS (gaussSt M) := by
  unfold gaussSt
  simp only
  rw [width_of_rect hrect hpos]
  have g2 := (good_depar M n hpos hrect hnes).2.2
  have o0 : OKS { L := identity M.length, A := M, R := identity n, flag := .ok } := ⟨hnz, rfl⟩
  have o2 := colEntryLaws.presOKS.deparallelize _ (rowEntryLaws.presOKS.deparallelize _ o0)
  exact oks_mainLoop _ _ _ _ _ _ g2.ws o2 g2.rows_le g2.cols_le (by omega)

end Ptn.C13
