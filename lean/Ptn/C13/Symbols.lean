import Ptn.C13.Pres
/-! No new symbols for C13: every symbol of the reduced matrix occurs in the input (core Lean only; no
hypothesis on the shape of the input). -/
namespace Ptn.C13

def Entry.SymIn (S : Nat → Prop) : Entry → Prop
  | .num _ => True
  | .sym _ s => S s

theorem addEntry_sym {S : Nat → Prop} {f : Rat} {t s e : Entry} (h : addEntry f t s = some e)
    (ht : t.SymIn S) (hs : s.SymIn S) : e.SymIn S :=
  addEntry_cases (Q := fun t s e => t.SymIn S → s.SymIn S → e.SymIn S) (fun _ _ _ _ => trivial)
    (fun _ _ ht _ => ht) (fun _ _ _ hs => hs) (fun _ _ _ _ _ _ => trivial) (fun _ _ _ _ _ hs => hs) h ht hs

theorem rowAddRaw_sym {S : Nat → Prop} {A A' : EMat} {t s : Nat} {f : Rat} {z : Bool}
    (h : rowAddRaw A t s f = some (A', z)) (hA : AllE (Entry.SymIn S) A) : AllE (Entry.SymIn S) A' :=
  allE_rowAddRaw (fun _ _ _ => addEntry_sym) h hA

theorem addCol_sym {S : Nat → Prop} (f : Rat) (t s : Nat) (A : EMat) (c : List Entry)
    (h : addCol f t s A = some c) (hA : AllE (Entry.SymIn S) A) : ∀ e, e ∈ c → e.SymIn S :=
  allE_addCol trivial (fun _ _ _ => addEntry_sym) t s A c h hA

namespace Side
variable {sd : Side}

theorem EntryLaws.presSym (law : sd.EntryLaws) (S : Nat → Prop) :
    sd.Pres (fun s => AllE (Entry.SymIn S) s.A) (fun _ => True) :=
  law.presAllE trivial fun _ _ _ _ _ => addEntry_sym

theorem sym_elimStep (law : sd.EntryLaws) {S : Nat → Prop} (i : Nat) (s : St)
    (h : AllE (Entry.SymIn S) s.A) : AllE (Entry.SymIn S) (sd.elimStep i s).A :=
  (law.presSym S).elimStep i s h fun _ =>
    (law.presSym S).elimInner (fun _ => trivial) (fun s h => by simpa using h) i _

theorem sym_elimLoop (law : sd.EntryLaws) {S : Nat → Prop} (fuel i : Nat) (s : St)
    (h : AllE (Entry.SymIn S) s.A) : AllE (Entry.SymIn S) (elimLoop sd.elimStep fuel i s).A :=
  elimLoop_inv (fun s => AllE (Entry.SymIn S) s.A) (fun s h => by simpa using h)
    (fun i s _ h => sym_elimStep law i s h) fuel i s h

end Side

theorem sym_rowElimination {S : Nat → Prop} (s : St) (h : AllE (Entry.SymIn S) s.A) :
    AllE (Entry.SymIn S) (rowElimination s).A := by
  rw [rowElimination_eq]
  exact Side.sym_elimLoop rowEntryLaws _ _ _ h

theorem sym_columnElimination {S : Nat → Prop} (s : St) (h : AllE (Entry.SymIn S) s.A) :
    AllE (Entry.SymIn S) (columnElimination s).A := by
  rw [columnElimination_eq]
  exact Side.sym_elimLoop colEntryLaws _ _ _ h

theorem sym_gaussSt {S : Nat → Prop} (M : EMat) (h : AllE (Entry.SymIn S) M) :
    AllE (Entry.SymIn S) (gaussSt M).A :=
  mainLoop_inv (fun s => AllE (Entry.SymIn S) s.A) (fun s h => by simpa using h)
    (fun s h => sym_columnElimination _ (sym_rowElimination s h)) _ _ _ _ _ _
    (Side.allE_deparallelize colEntryLaws _ (Side.allE_deparallelize rowEntryLaws _ h))

end Ptn.C13
