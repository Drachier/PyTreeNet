import Ptn.C13.Views
/-! The two sides of C13 (core Lean only).  The Python file has every operation twice, `row_*` and `col_*`;
`Model.lean` ports both.  `Side` lists what the two differ in, the programs of the elimination and of the
de-parallelisation are written once over it, and the programs of the model are the two instances (by
unfolding: no state is transposed).  A *line* is a row of `A` on the row side, a column on the column side. -/
namespace Ptn.C13

/-- `(L · eval ρ A)[i][l]`. -/
def lprod (ρ : Nat → Rat) (s : St) (i l : Nat) : Rat :=
  sumN s.A.length (fun k => gR s.L i k * gE ρ s.A k l)

def lprodMask (ρ : Nat → Rat) (zs : List Nat) (s : St) (i l : Nat) : Rat :=
  sumN s.A.length (fun k => if k ∈ zs then 0 else gR s.L i k * gE ρ s.A k l)

/-- `(eval ρ A · R)[k][j]` (operator factor written first). -/
def rprod (ρ : Nat → Rat) (s : St) (k j : Nat) : Rat :=
  sumN s.R.length (fun l => gR s.R l j * gE ρ s.A k l)

def rprodMask (ρ : Nat → Rat) (zs : List Nat) (s : St) (k j : Nat) : Rat :=
  sumN s.R.length (fun l => if l ∈ zs then 0 else gR s.R l j * gE ρ s.A k l)

structure Side where
  /-- what the loops of the Python code count: `len(matrix)` / `len(matrix[0])`; the programs below are
      written over it, so that they are the ports of `Model.lean` word for word -/
  lines : EMat → Nat
  /-- the same number read off the state, `A.length` / `R.length`: what the proofs count with (equal to
      `lines s.A` on a well-shaped state only: `width A` is `0` for an empty `A`) -/
  dim : St → Nat
  /-- bound of a position inside a line: `R.length` / `A.length` -/
  cross : St → Nat
  /-- the operator the side leaves alone: `R` / `L` -/
  other : St → RMat
  /-- number of rows of the side's product, which it leaves alone too: `L.length` / `A.length` -/
  prows : St → Nat
  /-- entry of line `k` at the position of line `i`: `A[k][i]` / `A[i][k]` -/
  read : EMat → Nat → Nat → Entry
  /-- product of `A` with the side's own operator: `L · A` / `A · R` -/
  prod : (Nat → Rat) → St → Nat → Nat → Rat
  /-- the same sum leaving out the lines `zs` -/
  mask : (Nat → Rat) → List Nat → St → Nat → Nat → Rat
  /-- the paired primitives `row_swap`, `row_add`, deletion of lines (with what they do to the side's
      operator) / their column twins -/
  swap : St → Nat → Nat → St
  add : St → Nat → Nat → Rat → St × Bool
  del : St → List Nat → St
  /-- `are_parallel_row/col` on lines `i`, `j` -/
  par : EMat → Nat → Nat → Rat
  /-- the update of the side's operator that makes up for dropping line `j`, a multiple of line `i` -/
  opAdd : St → Nat → Nat → Rat → St

@[reducible] def rowSide : Side where
  lines A := A.length
  dim s := s.A.length
  cross s := s.R.length
  other s := s.R
  prows s := s.L.length
  read A k i := gM (Entry.num 0) A k i
  prod := lprod
  mask := lprodMask
  swap := St.rowSwap
  add := St.rowAdd
  del := St.delRows
  par A i j := areParallelRow (A.getD i []) (A.getD j [])
  opAdd s i j m := { s with L := colAddFloat s.L i j m }

@[reducible] def colSide : Side where
  lines A := width A
  dim s := s.R.length
  cross s := s.A.length
  other s := s.L
  prows s := s.A.length
  read A k j := gM (Entry.num 0) A j k
  prod := rprod
  mask := rprodMask
  swap := St.colSwap
  add := St.colAdd
  del := St.delCols
  par := areParallelCol
  opAdd s i j m := { s with R := rowAddFloat s.R i j m }

/-- Value of line `k` at position `y`: `gE ρ A k y` / `gE ρ A y k`. -/
def Side.e (sd : Side) (ρ : Nat → Rat) (A : EMat) (k y : Nat) : Rat := (sd.read A k y).eval ρ

/-- Value of line `k` at position `y` of a matrix without symbols (`ρ` does not matter there). -/
abbrev Side.v (sd : Side) (A : EMat) (k y : Nat) : Rat := sd.e (fun _ => 0) A k y

theorem rowSide_e (ρ : Nat → Rat) (A : EMat) (k y : Nat) : rowSide.e ρ A k y = gE ρ A k y := rfl
theorem colSide_e (ρ : Nat → Rat) (A : EMat) (k y : Nat) : colSide.e ρ A k y = gE ρ A y k := rfl

/-- `rowElimLoop` and `colElimLoop` are this loop, over `rowElimStep` and `colElimStep`. -/
def elimLoop (step : Nat → St → St) : Nat → Nat → St → St
  | 0, i, s => if i < min s.A.length (width s.A) then s.raise .fuel else s
  | fuel + 1, i, s =>
      if i < min s.A.length (width s.A) then elimLoop step fuel (i + 1) (step i s) else s

namespace Side
variable (sd : Side)

def pivot (i : Nat) (s : St) : St :=
  if (sd.read s.A i i).isZero then
    match (List.range' (i + 1) (sd.lines s.A - (i + 1))).find? (fun j => !(sd.read s.A j i).isZero) with
    | some j => sd.swap s i j
    | none => s
  else s

def elimInner (i : Nat) (pivot : Entry) (acc : St × List Nat) (j : Nat) : St × List Nat :=
  let e := sd.read acc.1.A j i
  if j ≠ i ∧ !e.isZero then
    match elimFactor pivot e with
    | none => acc
    | some (f, zd) =>
        let r := sd.add (if zd then acc.1.raise .zeroDiv else acc.1) j i f
        (r.1, if r.2 then acc.2 ++ [j] else acc.2)
  else acc

def elimStep (i : Nat) (s : St) : St :=
  let s1 := sd.pivot i s
  let pivot := sd.read s1.A i i
  if pivot.isZero then s1
  else
    let r := (List.range (sd.lines s1.A)).foldl (sd.elimInner i pivot) (s1, [])
    sd.del r.1 (sortDesc r.2)

def elimination (s : St) : St := elimLoop sd.elimStep (min s.A.length (width s.A)) 0 s

/-- The inner loop of a pass on `s1` when the pivot, the diagonal entry of `s1`, is a number. -/
def elimFold (i : Nat) (s1 : St) : St × List Nat :=
  (List.range (sd.dim s1)).foldl (sd.elimInner i (Entry.num (sd.v s1.A i i))) (s1, [])

def deparInner (A : EMat) (i : Nat) (acc : St × List Nat) (j : Nat) : St × List Nat :=
  if j ∈ acc.2 then acc
  else
    let mult := sd.par A i j
    if mult ≠ 0 then (sd.opAdd acc.1 i j mult, acc.2 ++ [j]) else acc

def deparOuter (A : EMat) (acc : St × List Nat) (i : Nat) : St × List Nat :=
  if i ∈ acc.2 then acc
  else (List.range' (i + 1) (sd.lines A - (i + 1))).foldl (sd.deparInner A i) acc

def deparallelize (s : St) : St :=
  let r := (List.range (sd.lines s.A)).foldl (sd.deparOuter s.A) (s, [])
  sd.del r.1 (sortDesc r.2)

end Side

/-! The programs of the model are the instances.  Use these equations to pass from a statement about a fixed
program to the generic one (`rw`): leaving it to unification makes it unfold both programs at every use.
(The two heads are unfolded before `rfl`: the comparison is slow without.) -/

theorem rowPivot_eq : rowPivot = rowSide.pivot := by
  funext i s; unfold rowPivot Side.pivot; rfl
theorem colPivot_eq : colPivot = colSide.pivot := by
  funext j s; unfold colPivot Side.pivot; rfl
theorem rowElimInner_eq : rowElimInner = rowSide.elimInner := by
  funext i p acc j; unfold rowElimInner Side.elimInner; rfl
theorem colElimInner_eq : colElimInner = colSide.elimInner := by
  funext j p acc i; unfold colElimInner Side.elimInner; rfl

theorem rowElimStep_eq : rowElimStep = rowSide.elimStep := by
  funext i s
  unfold rowElimStep Side.elimStep
  rw [rowPivot_eq, rowElimInner_eq]

theorem colElimStep_eq : colElimStep = colSide.elimStep := by
  funext j s
  unfold colElimStep Side.elimStep
  rw [colPivot_eq, colElimInner_eq]

theorem rowElimLoop_eq : ∀ (fuel i : Nat) (s : St), rowElimLoop fuel i s = elimLoop rowElimStep fuel i s := by
  intro fuel
  induction fuel with
  | zero => intro i s; rfl
  | succ fuel ih => intro i s; simp only [rowElimLoop, elimLoop, ih]

theorem colElimLoop_eq : ∀ (fuel j : Nat) (s : St), colElimLoop fuel j s = elimLoop colElimStep fuel j s := by
  intro fuel
  induction fuel with
  | zero => intro j s; rfl
  | succ fuel ih => intro j s; simp only [colElimLoop, elimLoop, ih]

theorem rowElimination_eq : rowElimination = rowSide.elimination := by
  funext s
  rw [rowElimination, rowElimLoop_eq, rowElimStep_eq]
  rfl

theorem columnElimination_eq : columnElimination = colSide.elimination := by
  funext s
  rw [columnElimination, colElimLoop_eq, colElimStep_eq]
  rfl

theorem deparRowsInner_eq : deparRowsInner = rowSide.deparInner := rfl
theorem deparColsInner_eq : deparColsInner = colSide.deparInner := rfl
theorem deparRowsOuter_eq : deparRowsOuter = rowSide.deparOuter := rfl
theorem deparColsOuter_eq : deparColsOuter = colSide.deparOuter := rfl
theorem deparallelizeRows_eq : deparallelizeRows = rowSide.deparallelize := rfl
theorem deparallelizeCols_eq : deparallelizeCols = colSide.deparallelize := rfl

end Ptn.C13
