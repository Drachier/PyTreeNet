import Ptn.C13.Checked
import Ptn.C13.Scale
/-! Per-primitive lemmas for the checked model of C13 (core Lean only): under exactly the index bounds its
caller guarantees, every checked primitive raises nothing and returns what the totalised primitive of
`Model` returns. -/
namespace Ptn.C13

@[simp] theorem chk_bind_ok {α β : Type} (x : α) (f : α → Chk β) : ((Except.ok x : Chk α) >>= f) = f x := rfl
@[simp] theorem chk_bind_error {α β : Type} (e : Err) (f : α → Chk β) :
    ((Except.error e : Chk α) >>= f) = .error e := rfl
@[simp] theorem chk_pure {α : Type} (x : α) : (pure x : Chk α) = .ok x := rfl
@[simp] theorem chk_throw {α : Type} (e : Err) : (throw e : Chk α) = .error e := rfl

theorem getC_ok {α : Type} {l : List α} {i : Nat} (h : i < l.length) : getC l i = .ok l[i] := by
  simp [getC, List.getElem?_eq_getElem h]

theorem getC_getD {α : Type} {l : List α} {i : Nat} (d : α) (h : i < l.length) :
    getC l i = .ok (l.getD i d) := by
  simp [getC, List.getElem?_eq_getElem h, List.getD_eq_getElem?_getD]

theorem getC_error {α : Type} {l : List α} {i : Nat} (h : l.length ≤ i) : getC l i = .error .index := by
  simp [getC, List.getElem?_eq_none h]

theorem setC_ok {α : Type} {l : List α} {i : Nat} (v : α) (h : i < l.length) :
    setC l i v = .ok (l.set i v) := by simp [setC, h]

theorem delC_ok {α : Type} {l : List α} {i : Nat} (h : i < l.length) :
    delC l i = .ok (l.eraseIdx i) := by simp [delC, h]

theorem gMC_ok {α : Type} (d : α) {X : List (List α)} {w i j : Nat} (hX : Rect X w) (hi : i < X.length)
    (hj : j < w) : gMC X i j = .ok (gM d X i j) := by
  have hl := getD_row_length hX hi
  simp only [gMC, getC_getD [] hi, gM]
  exact getC_getD d (by omega)

theorem widthC_ok {α : Type} {X : List (List α)} (h : 0 < X.length) : widthC X = .ok (width X) := by
  cases X with
  | nil => simp at h
  | cons r rest => rfl

theorem mapC_ok {α β : Type} (f : α → Chk β) (g : α → β) :
    ∀ l : List α, (∀ a, a ∈ l → f a = .ok (g a)) → mapC f l = .ok (l.map g) := by
  intro l
  induction l with
  | nil => intro _; rfl
  | cons a as ih =>
    intro h
    simp only [mapC, h a (by simp), ih (fun x hx => h x (by simp [hx])), List.map_cons]

theorem foldC_cons {σ β : Type} (f : σ → β → Chk σ) (s : σ) (b : β) (bs : List β) :
    foldC f s (b :: bs) = f s b >>= (foldC f · bs) := by
  cases h : f s b <;> simp only [foldC, h] <;> rfl

/-! "`x` raises nothing and returns `a`" is `x = .ok a`.  It is closed under sequencing (`bind_ok`) and under
a loop over the rows of a rectangular matrix (`mapC_rect`), so for a primitive that is a straight line of
accesses the proof below is the list of the bounds that justify them, in program order. -/

theorem bind_ok {α β : Type} {x : Chk α} {a : α} {g : α → Chk β} {r : Chk β} (hx : x = .ok a)
    (hg : g a = r) : (x >>= g) = r := hx ▸ hg

theorem mapC_rect {α β : Type} {X : List (List α)} {w : Nat} (hX : Rect X w) (f : List α → Chk β)
    (g : List α → β) (h : ∀ r, r.length = w → f r = .ok (g r)) : mapC f X = .ok (X.map g) :=
  mapC_ok f g X fun r hr => h r (hX r hr)

theorem listSwapC_ok {α : Type} {l : List α} {i j : Nat} (hi : i < l.length) (hj : j < l.length) :
    listSwapC l i j = .ok (listSwap l i j) := by
  rw [listSwap, List.getElem?_eq_getElem hi, List.getElem?_eq_getElem hj]
  exact bind_ok (getC_ok hj) (bind_ok (getC_ok hi) (bind_ok (setC_ok _ hi) (setC_ok _ (by simpa using hj))))

theorem rowSwapMC_ok {α : Type} {X : List (List α)} {i j : Nat} (hi : i < X.length) (hj : j < X.length) :
    rowSwapMC X i j = .ok (rowSwapM X i j) := listSwapC_ok hi hj

theorem colSwapMC_ok {α : Type} {X : List (List α)} {w i j : Nat} (hX : Rect X w) (hi : i < w) (hj : j < w) :
    colSwapMC X i j = .ok (colSwapM X i j) :=
  mapC_rect hX _ _ fun _ hr => listSwapC_ok (hr ▸ hi) (hr ▸ hj)

theorem delColC_ok {α : Type} {X : List (List α)} {w z : Nat} (hX : Rect X w) (hz : z < w) :
    delColC X z = .ok (delCol X z) :=
  mapC_rect hX _ _ fun _ hr => delC_ok (hr ▸ hz)

theorem colAddFloatC_ok {X : RMat} {w t s : Nat} (f : Rat) (hX : Rect X w) (ht : t < w) (hs : s < w) :
    colAddFloatC X t s f = .ok (colAddFloat X t s f) :=
  mapC_rect hX _ _ fun _ hr =>
    bind_ok (getC_getD 0 (hr ▸ hs)) (bind_ok (getC_getD 0 (hr ▸ ht)) (setC_ok _ (hr ▸ ht)))

theorem zipAddC_ok (f : Rat) : ∀ (as bs : List Rat), as.length ≤ bs.length →
    zipAddC f as bs = .ok (List.zipWith (fun a b => a + f * b) as bs) := by
  intro as
  induction as with
  | nil => intro bs _; rfl
  | cons a as ih =>
    intro bs h
    cases bs with
    | nil => simp at h
    | cons b bs =>
      simp only [zipAddC, ih bs (by simpa using h), List.zipWith_cons_cons]

theorem rowAddFloatC_ok {X : RMat} {w t s : Nat} (f : Rat) (hX : Rect X w) (ht : t < X.length)
    (hs : s < X.length) : rowAddFloatC X t s f = .ok (rowAddFloat X t s f) := by
  have lt := getD_row_length hX ht
  have ls := getD_row_length hX hs
  unfold rowAddFloat
  refine bind_ok (getC_getD [] ht) ?_
  -- the source row is read only if the target row is not empty
  cases hrt : X.getD t [] with
  | nil => exact setC_ok _ ht
  | cons a as =>
    exact bind_ok (getC_getD [] hs) (bind_ok (zipAddC_ok f _ _ (by rw [← hrt]; omega)) (setC_ok _ ht))

theorem rowScaleFloatC_ok {X : RMat} {r : Nat} (f : Rat) (hr : r < X.length) :
    rowScaleFloatC X r f = .ok (rowScaleFloat X r f) :=
  bind_ok (getC_getD [] hr) (setC_ok _ hr)

theorem colScaleFloatC_ok {X : RMat} {w c : Nat} (f : Rat) (hX : Rect X w) (hc : c < w) :
    colScaleFloatC X c f = .ok (colScaleFloat X c f) :=
  mapC_rect hX _ _ fun _ hr => bind_ok (getC_getD 0 (hr ▸ hc)) (setC_ok _ (hr ▸ hc))

theorem addLineC_ok (f : Rat) : ∀ (ts ss : List Entry), ts.length ≤ ss.length →
    addLineC f ts ss = .ok (addLine f ts ss) := by
  intro ts
  induction ts with
  | nil => intro ss _; cases ss <;> rfl
  | cons t ts ih =>
    intro ss h
    cases ss with
    | nil => simp at h
    | cons s ss =>
      have := ih ss (by simpa using h)
      simp only [addLineC, addLine, this]
      cases addEntry f t s with
      | none => rfl
      | some e =>
        cases addLine f ts ss with
        | none => rfl
        | some es => rfl

theorem rowAddRawC_ok {A : EMat} {w t s : Nat} (f : Rat) (hA : Rect A w) (ht : t < A.length)
    (hs : s < A.length) : rowAddRawC A t s f = .ok (rowAddRaw A t s f) := by
  have lt := getD_row_length hA ht
  have ls := getD_row_length hA hs
  have key : addLineOfC A (A.getD t []) s f = .ok (addLine f (A.getD t []) (A.getD s [])) := by
    unfold addLineOfC
    cases hrt : A.getD t [] with
    | nil => cases A.getD s [] <;> rfl
    | cons a as =>
      simp only [getC_getD [] hs]
      exact addLineC_ok f _ _ (by rw [← hrt]; omega)
  refine bind_ok (getC_getD [] ht) (bind_ok key ?_)
  unfold rowAddRaw
  cases addLine f (A.getD t []) (A.getD s []) with
  | none => rfl
  | some r => exact bind_ok (setC_ok _ ht) rfl

theorem addColC_ok (f : Rat) (t s : Nat) : ∀ (A : EMat), (∀ r, r ∈ A → t < r.length ∧ s < r.length) →
    addColC f t s A = .ok (addCol f t s A) := by
  intro A
  induction A with
  | nil => intro _; rfl
  | cons row rest ih =>
    intro h
    have h1 := h row (by simp)
    have := ih (fun r hr => h r (by simp [hr]))
    simp only [addColC, addCol, getC_getD (Entry.num 0) h1.1, getC_getD (Entry.num 0) h1.2, this]
    cases addEntry f (row.getD t (Entry.num 0)) (row.getD s (Entry.num 0)) with
    | none => rfl
    | some e =>
      cases addCol f t s rest with
      | none => rfl
      | some es => rfl

theorem setColC_ok (t : Nat) : ∀ (A : EMat) (c : List Entry), (∀ r, r ∈ A → t < r.length) →
    setColC t A c = .ok (List.zipWith (fun row e => row.set t e) A c) := by
  intro A
  induction A with
  | nil => intro c _; cases c <;> rfl
  | cons row rest ih =>
    intro c h
    cases c with
    | nil => rfl
    | cons e es =>
      simp only [setColC, setC_ok _ (h row (by simp)), ih es (fun r hr => h r (by simp [hr])),
        List.zipWith_cons_cons]

theorem colAddRawC_ok {A : EMat} {w t s : Nat} (f : Rat) (hA : Rect A w) (ht : t < w) (hs : s < w) :
    colAddRawC A t s f = .ok (colAddRaw A t s f) := by
  have hrows : ∀ r, r ∈ A → t < r.length ∧ s < r.length := fun r hr => ⟨hA r hr ▸ ht, hA r hr ▸ hs⟩
  refine bind_ok (mapC_rect hA _ (·.getD t (Entry.num 0)) fun _ hr => getC_getD _ (hr ▸ ht))
    (bind_ok (addColC_ok f t s A hrows) ?_)
  unfold colAddRaw
  cases addCol f t s A with
  | none => rfl
  | some c => exact bind_ok (setColC_ok t A c fun r hr => (hrows r hr).1) rfl

theorem rowScaleEC_ok {A : EMat} {r : Nat} (f : Rat) (hr : r < A.length) :
    rowScaleEC A r f = .ok (rowScaleE A r f) :=
  bind_ok (getC_getD [] hr) (setC_ok _ hr)

theorem colScaleEC_ok {A : EMat} {w c : Nat} (f : Rat) (hA : Rect A w) (hc : c < w) :
    colScaleEC A c f = .ok (colScaleE A c f) :=
  mapC_rect hA _ _ fun _ hr => bind_ok (getC_getD (Entry.num 0) (hr ▸ hc)) (setC_ok _ (hr ▸ hc))

theorem parColLoopC_ok (c1 c2 : Nat) : ∀ (A : EMat) (ratio : Rat),
    (∀ r, r ∈ A → c1 < r.length ∧ c2 < r.length) →
    parColLoopC c1 c2 ratio A
      = .ok (parLoop ratio (A.map fun row => (row.getD c1 (Entry.num 0), row.getD c2 (Entry.num 0)))) := by
  intro A
  induction A with
  | nil => intro ratio _; rfl
  | cons row rest ih =>
    intro ratio h
    have h1 := h row (by simp)
    have ih' := fun q => ih q (fun r hr => h r (List.mem_cons_of_mem _ hr))
    -- both sides are the same chain of tests; the right one has `.ok` outside
    simp only [parColLoopC, List.map_cons, parLoop, getC_getD (Entry.num 0) h1.1,
      getC_getD (Entry.num 0) h1.2, ih', apply_ite (Except.ok (ε := Err))]

theorem areParallelColC_ok {A : EMat} {w c1 c2 : Nat} (hA : Rect A w) (h1 : c1 < w) (h2 : c2 < w) :
    areParallelColC A c1 c2 = .ok (areParallelCol A c1 c2) :=
  parColLoopC_ok c1 c2 A 0 fun r hr => ⟨hA r hr ▸ h1, hA r hr ▸ h2⟩

theorem rowSwapC_ok {s : St} {i j : Nat} (hL : Rect s.L s.A.length) (hi : i < s.A.length)
    (hj : j < s.A.length) : s.rowSwapC i j = .ok (s.rowSwap i j) :=
  bind_ok (rowSwapMC_ok hi hj) (bind_ok (colSwapMC_ok hL hi hj) rfl)

theorem colSwapC_ok {s : St} {i j : Nat} (hA : Rect s.A s.R.length) (hi : i < s.R.length)
    (hj : j < s.R.length) : s.colSwapC i j = .ok (s.colSwap i j) :=
  bind_ok (colSwapMC_ok hA hi hj) (bind_ok (rowSwapMC_ok hi hj) rfl)

theorem rowAddC_ok {st : St} {w t s : Nat} (f : Rat) (hL : Rect st.L st.A.length) (hA : Rect st.A w)
    (ht : t < st.A.length) (hs : s < st.A.length) : st.rowAddC t s f = .ok (st.rowAdd t s f) := by
  refine bind_ok (rowAddRawC_ok f hA ht hs) ?_
  unfold St.rowAdd
  cases rowAddRaw st.A t s f with
  | none => rfl
  | some p => exact bind_ok (colAddFloatC_ok (-f) hL hs ht) rfl

theorem colAddC_ok {st : St} {n t s : Nat} (f : Rat) (hA : Rect st.A st.R.length) (hR : Rect st.R n)
    (ht : t < st.R.length) (hs : s < st.R.length) : st.colAddC t s f = .ok (st.colAdd t s f) := by
  refine bind_ok (colAddRawC_ok f hA ht hs) ?_
  unfold St.colAdd
  cases colAddRaw st.A t s f with
  | none => rfl
  | some p => exact bind_ok (rowAddFloatC_ok (-f) hR hs ht) rfl

/-- `row_scale` / `col_scale` in range: the only exception is the `ZeroDivisionError` of `1/0`. -/
theorem row_scale_checked (n : Nat) (st : St) (r : Nat) (f : Rat) (h : WS n st) (hr : r < st.A.length) :
    st.rowScaleC r f = (match st.rowScale r f with | some s' => .ok s' | none => .error .zeroDiv) := by
  refine bind_ok (rowScaleEC_ok f hr) ?_
  unfold St.rowScale
  by_cases hf : f = 0
  · rw [if_pos hf, if_pos hf]; rfl
  · rw [if_neg hf, if_neg hf]
    exact bind_ok (colScaleFloatC_ok (1 / f) h.Lrect hr) rfl

theorem col_scale_checked (n : Nat) (st : St) (c : Nat) (f : Rat) (h : WS n st) (hc : c < st.R.length) :
    st.colScaleC c f = (match st.colScale c f with | some s' => .ok s' | none => .error .zeroDiv) := by
  refine bind_ok (colScaleEC_ok f h.Arect hc) ?_
  unfold St.colScale
  by_cases hf : f = 0
  · rw [if_pos hf, if_pos hf]; rfl
  · rw [if_neg hf, if_neg hf]
    exact bind_ok (rowScaleFloatC_ok (1 / f) hc) rfl

theorem delRowsC_ok : ∀ (zs : List Nat) (s : St),
    List.Pairwise (fun a b => b < a) zs → (∀ z, z ∈ zs → z < s.A.length) → Rect s.L s.A.length →
    s.delRowsC zs = .ok (s.delRows zs) := by
  intro zs
  induction zs with
  | nil => intro s _ _ _; rfl
  | cons z zs ih =>
    intro s hp hlt hL
    have hz : z < s.A.length := hlt z (by simp)
    have hp' := List.pairwise_cons.mp hp
    let s1 : St := { s with A := delRow s.A z, L := delCol s.L z }
    have hlen1 : s1.A.length + 1 = s.A.length := length_delRow s.A z hz
    have hL1 : Rect s1.L s1.A.length := rect_delCol (hlen1 ▸ hL) z (by omega)
    have hlt1 : ∀ y, y ∈ zs → y < s1.A.length := fun y hy => by have := hp'.1 y hy; omega
    rw [delRows_cons, St.delRowsC, foldC_cons]
    exact bind_ok (bind_ok (delC_ok hz) (bind_ok (delColC_ok hL hz) rfl)) (ih s1 hp'.2 hlt1 hL1)

theorem delColsC_ok : ∀ (zs : List Nat) (s : St),
    List.Pairwise (fun a b => b < a) zs → (∀ z, z ∈ zs → z < s.R.length) → Rect s.A s.R.length →
    s.delColsC zs = .ok (s.delCols zs) := by
  intro zs
  induction zs with
  | nil => intro s _ _ _; rfl
  | cons z zs ih =>
    intro s hp hlt hA
    have hz : z < s.R.length := hlt z (by simp)
    have hp' := List.pairwise_cons.mp hp
    let s1 : St := { s with A := delCol s.A z, R := delRow s.R z }
    have hlen1 : s1.R.length + 1 = s.R.length := length_delRow s.R z hz
    have hA1 : Rect s1.A s1.R.length := rect_delCol (hlen1 ▸ hA) z (by omega)
    have hlt1 : ∀ y, y ∈ zs → y < s1.R.length := fun y hy => by have := hp'.1 y hy; omega
    rw [delCols_cons, St.delColsC, foldC_cons]
    exact bind_ok (bind_ok (delColC_ok hA hz) (bind_ok (delC_ok hz) rfl)) (ih s1 hp'.2 hlt1 hA1)

end Ptn.C13
