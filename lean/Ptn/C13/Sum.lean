import Ptn.C13.Model
/-! Finite sums over `Rat` indexed by `0 … n-1` (core Lean only) and the algebraic identities behind
the paired row/column operations of C13. -/
namespace Ptn.C13

def sumN : Nat → (Nat → Rat) → Rat
  | 0, _ => 0
  | n + 1, f => sumN n f + f n

/-- Position before `del l[z]` of what stands at position `k` afterwards. -/
def skipIdx (z k : Nat) : Nat := if k < z then k else k + 1

def swapIdx (a b k : Nat) : Nat := if k = a then b else if k = b then a else k

theorem swapIdx_self_left (a b : Nat) : swapIdx a b a = b := by simp [swapIdx]
theorem swapIdx_self_right (a b : Nat) : swapIdx a b b = a := by
  unfold swapIdx; by_cases h : b = a <;> simp [h]
theorem swapIdx_other {a b k : Nat} (h1 : k ≠ a) (h2 : k ≠ b) : swapIdx a b k = k := by
  simp [swapIdx, h1, h2]

theorem swapIdx_invol (a b k : Nat) : swapIdx a b (swapIdx a b k) = k := by
  unfold swapIdx
  by_cases h1 : k = a
  · subst h1; by_cases h2 : b = k <;> simp [h2]
  · by_cases h2 : k = b
    · subst h2; simp [h1]
    · simp [h1, h2]

theorem skipIdx_ge (z r : Nat) : r ≤ skipIdx z r := by unfold skipIdx; split <;> omega
theorem skipIdx_le (z r : Nat) : skipIdx z r ≤ r + 1 := by unfold skipIdx; split <;> omega
theorem skipIdx_ne (z r : Nat) : skipIdx z r ≠ z := by unfold skipIdx; split <;> omega

theorem skipIdx_of_lt {z r : Nat} (h : r < z) : skipIdx z r = r := if_pos h
theorem skipIdx_of_le {z r : Nat} (h : z ≤ r) : skipIdx z r = r + 1 := if_neg (Nat.not_lt.2 h)

theorem sumN_congr {n : Nat} {f g : Nat → Rat} (h : ∀ k, k < n → f k = g k) :
    sumN n f = sumN n g := by
  induction n with
  | zero => rfl
  | succ n ih =>
    simp only [sumN]
    rw [ih (fun k hk => h k (Nat.lt_succ_of_lt hk)), h n (Nat.lt_succ_self n)]

theorem sumN_zero (n : Nat) : sumN n (fun _ => 0) = 0 := by
  induction n with
  | zero => rfl
  | succ n ih => simp only [sumN, ih]; grind

theorem sumN_add (n : Nat) (f g : Nat → Rat) :
    sumN n (fun k => f k + g k) = sumN n f + sumN n g := by
  induction n with
  | zero => simp only [sumN]; grind
  | succ n ih => simp only [sumN, ih]; grind

theorem sumN_mul_left (n : Nat) (c : Rat) (f : Nat → Rat) :
    sumN n (fun k => c * f k) = c * sumN n f := by
  induction n with
  | zero => simp only [sumN]; grind
  | succ n ih => simp only [sumN, ih]; grind

theorem sumN_mul_right (n : Nat) (c : Rat) (f : Nat → Rat) :
    sumN n (fun k => f k * c) = sumN n f * c := by
  induction n with
  | zero => simp only [sumN]; grind
  | succ n ih => simp only [sumN, ih]; grind

theorem sumN_single_none (n t : Nat) (c : Rat) (ht : n ≤ t) :
    sumN n (fun k => if k = t then c else 0) = 0 := by
  refine (sumN_congr ?_).trans (sumN_zero n)
  intro k hk
  exact if_neg (by omega)

theorem sumN_single (n t : Nat) (c : Rat) (ht : t < n) :
    sumN n (fun k => if k = t then c else 0) = c := by
  induction n with
  | zero => omega
  | succ n ih =>
    show sumN n _ + (if n = t then c else 0) = c
    by_cases h : n = t
    · subst h
      rw [sumN_single_none n n c (Nat.le_refl n), if_pos rfl, Rat.zero_add]
    · rw [ih (by omega), if_neg h, Rat.add_zero]

theorem sumN_single' (n t : Nat) (f : Nat → Rat) (ht : t < n) :
    sumN n (fun k => if k = t then f k else 0) = f t := by
  have : ∀ k, (if k = t then f k else 0) = (if k = t then f t else 0) := by
    intro k
    by_cases h : k = t
    · subst h; simp
    · simp [h]
  rw [sumN_congr (fun k _ => this k)]
  exact sumN_single n t (f t) ht

theorem sumN_comm (n m : Nat) (f : Nat → Nat → Rat) :
    sumN n (fun k => sumN m (fun l => f k l)) = sumN m (fun l => sumN n (fun k => f k l)) := by
  induction n with
  | zero => simp [sumN, sumN_zero]
  | succ n ih =>
    simp only [sumN]
    rw [ih, ← sumN_add]

theorem sumN_skip (n z : Nat) (f : Nat → Rat) (hz : z ≤ n) :
    sumN (n + 1) f = f z + sumN n (fun k => f (skipIdx z k)) := by
  induction n with
  | zero =>
    obtain rfl : z = 0 := by omega
    show (0 : Rat) + f 0 = f 0 + 0
    rw [Rat.zero_add, Rat.add_zero]
  | succ n ih =>
    show sumN (n + 1) f + f (n + 1) = f z + (sumN n (fun k => f (skipIdx z k)) + f (skipIdx z n))
    by_cases h : z = n + 1
    · subst h
      have e : sumN (n + 1) (fun k => f (skipIdx (n + 1) k)) = sumN (n + 1) f :=
        sumN_congr (fun k hk => by rw [skipIdx, if_pos hk])
      exact (Rat.add_comm _ _).trans (congrArg (f (n + 1) + ·) e.symm)
    · rw [ih (by omega), skipIdx, if_neg (by omega), Rat.add_assoc]

theorem sumN_two_points (n a b : Nat) (f g : Nat → Rat) (ha : a < n) (hb : b < n) (hab : a ≠ b)
    (h : ∀ k, k ≠ a → k ≠ b → g k = f k) :
    sumN n g = sumN n f + ((g a - f a) + (g b - f b)) := by
  have hpt : ∀ k, g k = f k + ((if k = a then g a - f a else 0) + (if k = b then g b - f b else 0)) := by
    intro k
    by_cases h1 : k = a
    · subst h1
      rw [if_pos rfl, if_neg hab, Rat.add_zero, Rat.add_comm, Rat.sub_add_cancel]
    · by_cases h2 : k = b
      · subst h2
        rw [if_neg h1, if_pos rfl, Rat.zero_add, Rat.add_comm, Rat.sub_add_cancel]
      · rw [if_neg h1, if_neg h2, h k h1 h2, Rat.add_zero, Rat.add_zero]
  rw [sumN_congr (fun k _ => hpt k), sumN_add, sumN_add, sumN_single n a _ ha, sumN_single n b _ hb]

theorem sumN_swap (n a b : Nat) (f : Nat → Rat) (ha : a < n) (hb : b < n) :
    sumN n (fun k => f (swapIdx a b k)) = sumN n f := by
  by_cases hab : a = b
  · subst hab
    apply sumN_congr
    intro k _
    by_cases hk : k = a <;> simp [swapIdx, hk]
  · refine (sumN_two_points n a b f _ ha hb hab ?_).trans ?_
    · intro k h1 h2
      simp only [swapIdx, if_neg h1, if_neg h2]
    · simp only [swapIdx, if_neg (Ne.symm hab)]
      grind

/-- For one row `lf` of `L` and one column `af` of `A`: `A[t] += f·A[s]` together with `L[:,s] += (-f)·L[:,t]`
    leaves `Σ_k L[k]·A[k]` unchanged. -/
theorem pair_add (n t s : Nat) (f : Rat) (lf af : Nat → Rat) (ht : t < n) (hs : s < n) (hts : t ≠ s) :
    sumN n (fun k => (if k = s then lf s + (-f) * lf t else lf k)
                      * (if k = t then af t + f * af s else af k))
      = sumN n (fun k => lf k * af k) := by
  refine (sumN_two_points n s t (fun k => lf k * af k) _ hs ht (Ne.symm hts) ?_).trans ?_
  · intro k h1 h2
    rw [if_neg h1, if_neg h2]
  · simp only [if_neg hts, if_neg (Ne.symm hts)]
    grind

/-- Swapping `A[a], A[b]` together with `L[:,a], L[:,b]`. -/
theorem pair_swap (n a b : Nat) (lf af : Nat → Rat) (ha : a < n) (hb : b < n) :
    sumN n (fun k => lf (swapIdx a b k) * af (swapIdx a b k)) = sumN n (fun k => lf k * af k) :=
  sumN_swap n a b (fun k => lf k * af k) ha hb

theorem skipIdx_mem_cons {z : Nat} {zs : List Nat} (hlt : ∀ y, y ∈ zs → y < z) (k : Nat) :
    skipIdx z k ∈ z :: zs ↔ k ∈ zs := by
  rw [skipIdx, List.mem_cons]
  by_cases hk : k < z
  · rw [if_pos hk]
    exact ⟨fun h => h.resolve_left (by omega), Or.inr⟩
  · rw [if_neg hk]
    exact ⟨fun h => h.elim (by omega) (fun hm => absurd (hlt _ hm) (by omega)),
      fun hm => absurd (hlt _ hm) hk⟩

/-- Deleting position `z` of both, all positions in `zs` being masked out. -/
theorem pair_skip_mask (n z : Nat) (zs : List Nat) (g : Nat → Rat) (hz : z ≤ n)
    (hlt : ∀ y, y ∈ zs → y < z) :
    sumN n (fun k => if k ∈ zs then 0 else g (skipIdx z k))
      = sumN (n + 1) (fun k => if k ∈ z :: zs then 0 else g k) := by
  rw [sumN_skip n z _ hz, if_pos List.mem_cons_self, Rat.zero_add]
  exact sumN_congr (fun k _ => by simp only [skipIdx_mem_cons hlt k])

theorem sumN_mask_congr {n : Nat} {zs zs' : List Nat} (h : ∀ k, k ∈ zs ↔ k ∈ zs') (g : Nat → Rat) :
    sumN n (fun k => if k ∈ zs then 0 else g k) = sumN n (fun k => if k ∈ zs' then 0 else g k) :=
  sumN_congr (fun k _ => by simp only [h k])

theorem sumN_mask_of_zero {n : Nat} {zs : List Nat} {a b : Nat → Rat} (hz : ∀ z, z ∈ zs → b z = 0) :
    sumN n (fun k => if k ∈ zs then 0 else a k * b k) = sumN n (fun k => a k * b k) := by
  apply sumN_congr
  intro k _
  by_cases hk : k ∈ zs
  · rw [if_pos hk, hz k hk, Rat.mul_zero]
  · rw [if_neg hk]

/-- Folding the masked-out position `j` (whose `A`-line is `μ` times line `i`) into position `i` of `L`. -/
theorem pair_merge (n i j : Nat) (μ : Rat) (zs : List Nat) (lf af : Nat → Rat)
    (hi : i < n) (hj : j < n) (hij : i ≠ j) (hiz : i ∉ zs) (hjz : j ∉ zs)
    (hpar : af j = μ * af i) :
    sumN n (fun k => if k ∈ zs ++ [j] then 0
                     else (if k = i then lf i + μ * lf j else lf k) * af k)
      = sumN n (fun k => if k ∈ zs then 0 else lf k * af k) := by
  have hmem : ∀ k, k ≠ j → (k ∈ zs ++ [j] ↔ k ∈ zs) := by
    intro k hk
    rw [List.mem_append, List.mem_singleton]
    exact ⟨fun h => h.resolve_right hk, Or.inl⟩
  refine (sumN_two_points n i j (fun k => if k ∈ zs then 0 else lf k * af k) _ hi hj hij ?_).trans ?_
  · intro k h1 h2
    simp only [hmem k h2, if_neg h1]
  · have hjm : j ∈ zs ++ [j] := List.mem_append_right _ (List.mem_singleton.mpr rfl)
    simp only [hmem i hij, if_neg hiz, if_neg hjz, if_pos hjm, hpar]
    grind

end Ptn.C13
