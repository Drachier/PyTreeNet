import Ptn.C13.Side
/-! What the primitives of a side keep, and with them the loops (core Lean only): a predicate `P` on all
entries of `A` (`AllE P`), the flag, or any property `Q` of the state (`Side.EntryLaws`, `Side.Pres`) is kept by
the pivot search, a pass and the de-parallelisation; the rules for the fuel loops (`elimLoop_inv*`,
`mainLoop_inv`). Holds on ragged matrices too: nothing here asks for a shape. -/
namespace Ptn.C13

def AllE (P : Entry → Prop) (A : EMat) : Prop := ∀ r, r ∈ A → ∀ e, e ∈ r → P e

theorem allE_getD {P : Entry → Prop} (h0 : P (Entry.num 0)) {r : List Entry} (h : ∀ e, e ∈ r → P e)
    (j : Nat) : P (r.getD j (Entry.num 0)) := by
  simp only [List.getD_eq_getElem?_getD]
  cases hj : r[j]? with
  | none => simpa using h0
  | some e => exact h e (List.mem_of_getElem? hj)

theorem allE_row {P : Entry → Prop} {A : EMat} (h : AllE P A) (k : Nat) : ∀ e, e ∈ A.getD k [] → P e := by
  intro e he
  rw [List.getD_eq_getElem?_getD] at he
  cases hk : A[k]? with
  | none => rw [hk] at he; exact absurd he List.not_mem_nil
  | some r => rw [hk] at he; exact h r (List.mem_of_getElem? hk) e he

theorem allE_gM {P : Entry → Prop} (h0 : P (Entry.num 0)) {A : EMat} (h : AllE P A) (i j : Nat) :
    P (gM (Entry.num 0) A i j) := allE_getD h0 (allE_row h i) j

theorem allE_rowSwap {P : Entry → Prop} {A : EMat} (h : AllE P A) (a b : Nat) : AllE P (rowSwapM A a b) :=
  fun r hr e he => h r (mem_listSwap hr) e he

theorem allE_colSwap {P : Entry → Prop} {A : EMat} (h : AllE P A) (a b : Nat) :
    AllE P (colSwapM A a b) := by
  intro r hr e he
  simp only [colSwapM, List.mem_map] at hr
  obtain ⟨r0, hr0, rfl⟩ := hr
  exact h r0 hr0 e (mem_listSwap he)

theorem allE_delRow {P : Entry → Prop} {A : EMat} (h : AllE P A) (z : Nat) : AllE P (delRow A z) :=
  fun r hr e he => h r (List.mem_of_mem_eraseIdx hr) e he

theorem allE_delCol {P : Entry → Prop} {A : EMat} (h : AllE P A) (z : Nat) : AllE P (delCol A z) := by
  intro r hr e he
  simp only [delCol, List.mem_map] at hr
  obtain ⟨r0, hr0, rfl⟩ := hr
  exact h r0 hr0 e (List.mem_of_mem_eraseIdx he)

/-- The five ways in which `addEntry` answers (in all other cases it answers `none`). -/
theorem addEntry_cases {f : Rat} {Q : Entry → Entry → Entry → Prop}
    (nn : ∀ t s, Q (.num t) (.num s) (.num (t + f * s)))
    (sn : ∀ tc tv, Q (.sym tc tv) (.num 0) (.sym tc tv))
    (ns : ∀ sc sv, Q (.num 0) (.sym sc sv) (.sym (f * sc) sv))
    (ss0 : ∀ tc sc v, tc + f * sc = 0 → Q (.sym tc v) (.sym sc v) (.num 0))
    (ss : ∀ tc sc v, tc + f * sc ≠ 0 → Q (.sym tc v) (.sym sc v) (.sym (tc + f * sc) v))
    {t s e : Entry} (h : addEntry f t s = some e) : Q t s e := by
  cases s with
  | num sq =>
    cases t with
    | num tq =>
      simp only [addEntry, Option.some.injEq] at h
      exact h ▸ nn tq sq
    | sym tc tv =>
      simp only [addEntry] at h
      by_cases h0 : sq = 0
      · simp only [h0, ne_eq, not_true_eq_false, if_false, Option.some.injEq] at h
        exact h ▸ h0 ▸ sn tc tv
      · simp [h0] at h
  | sym sc sv =>
    cases t with
    | num tq =>
      simp only [addEntry] at h
      by_cases h0 : tq = 0
      · simp only [h0, if_true, Option.some.injEq] at h
        exact h ▸ h0 ▸ ns sc sv
      · simp [h0] at h
    | sym tc tv =>
      simp only [addEntry] at h
      by_cases hv : tv = sv
      · subst hv
        simp only [if_true] at h
        by_cases hn : tc + f * sc = 0
        · simp only [hn, if_true, Option.some.injEq] at h
          exact h ▸ ss0 tc sc tv hn
        · simp only [hn, if_false, Option.some.injEq] at h
          exact h ▸ ss tc sc tv hn
      · simp [hv] at h

theorem allE_addLine {P : Entry → Prop} {f : Rat}
    (hadd : ∀ t s e, addEntry f t s = some e → P t → P s → P e) :
    ∀ (ts ss r : List Entry), addLine f ts ss = some r →
      (∀ e, e ∈ ts → P e) → (∀ e, e ∈ ss → P e) → ∀ e, e ∈ r → P e := by
  intro ts
  induction ts with
  | nil =>
    intro ss r h _ _ e he
    simp only [addLine, Option.some.injEq] at h
    subst h
    simp at he
  | cons t ts ih =>
    intro ss r h ht hs e he
    cases ss with
    | nil =>
      simp only [addLine, Option.some.injEq] at h
      subst h
      simp at he
    | cons s ss =>
      simp only [addLine] at h
      split at h
      · rename_i e0 es he0 hes
        simp only [Option.some.injEq] at h
        subst h
        rcases List.mem_cons.mp he with he | he
        · subst he
          exact hadd _ _ _ he0 (ht t (by simp)) (hs s (by simp))
        · exact ih ss es hes (fun x hx => ht x (by simp [hx])) (fun x hx => hs x (by simp [hx])) e he
      · simp at h

theorem allE_rowAddRaw {P : Entry → Prop} {A A' : EMat} {t s : Nat} {f : Rat} {z : Bool}
    (hadd : ∀ t s e, addEntry f t s = some e → P t → P s → P e)
    (h : rowAddRaw A t s f = some (A', z)) (hA : AllE P A) : AllE P A' := by
  simp only [rowAddRaw] at h
  split at h
  · simp at h
  · rename_i r hr
    simp only [Option.some.injEq, Prod.mk.injEq] at h
    obtain ⟨rfl, _⟩ := h
    intro r' hr' e he
    rcases List.mem_or_eq_of_mem_set hr' with h1 | h1
    · exact hA r' h1 e he
    · subst h1
      exact allE_addLine hadd _ _ _ hr (allE_row hA t) (allE_row hA s) e he

theorem allE_addCol {P : Entry → Prop} {f : Rat} (h0 : P (Entry.num 0))
    (hadd : ∀ t s e, addEntry f t s = some e → P t → P s → P e) (t s : Nat) :
    ∀ (A : EMat) (c : List Entry), addCol f t s A = some c → AllE P A → ∀ e, e ∈ c → P e := by
  intro A
  induction A with
  | nil =>
    intro c h _ e he
    simp only [addCol, Option.some.injEq] at h
    subst h
    simp at he
  | cons row rest ih =>
    intro c h hA e he
    simp only [addCol] at h
    split at h
    · rename_i e0 es he0 hes
      simp only [Option.some.injEq] at h
      subst h
      have hrow : ∀ x, x ∈ row → P x := hA row (by simp)
      rcases List.mem_cons.mp he with he | he
      · subst he
        exact hadd _ _ _ he0 (allE_getD h0 hrow t) (allE_getD h0 hrow s)
      · exact ih es hes (fun r hr => hA r (by simp [hr])) e he
    · simp at h

theorem allE_colAddRaw {P : Entry → Prop} {A A' : EMat} {t s : Nat} {f : Rat} {z : Bool}
    (h0 : P (Entry.num 0)) (hadd : ∀ t s e, addEntry f t s = some e → P t → P s → P e)
    (h : colAddRaw A t s f = some (A', z)) (hA : AllE P A) : AllE P A' := by
  simp only [colAddRaw] at h
  split at h
  · simp at h
  · rename_i c hc
    simp only [Option.some.injEq, Prod.mk.injEq] at h
    obtain ⟨rfl, _⟩ := h
    have hcz := allE_addCol h0 hadd t s A c hc hA
    intro r' hr' e he
    obtain ⟨i, hi, rfl⟩ := List.getElem_of_mem hr'
    simp only [List.getElem_zipWith] at he
    rcases List.mem_or_eq_of_mem_set he with h1 | h1
    · exact hA _ (List.getElem_mem _) e h1
    · subst h1
      exact hcz _ (List.getElem_mem _)

theorem allE_delRows {P : Entry → Prop} : ∀ (zs : List Nat) (s : St), AllE P s.A → AllE P (s.delRows zs).A
  | [], _, h => h
  | z :: zs, _, h => allE_delRows zs _ (allE_delRow h z)

theorem allE_delCols {P : Entry → Prop} : ∀ (zs : List Nat) (s : St), AllE P s.A → AllE P (s.delCols zs).A
  | [], _, h => h
  | z :: zs, _, h => allE_delCols zs _ (allE_delCol h z)

theorem allE_rowAdd {P : Entry → Prop} {f : Rat} (hadd : ∀ t s e, addEntry f t s = some e → P t → P s → P e)
    (st : St) (t s : Nat) (h : AllE P st.A) : AllE P (st.rowAdd t s f).1.A := by
  unfold St.rowAdd
  split
  · exact h
  · rename_i A' z hr
    exact allE_rowAddRaw hadd hr h

theorem allE_colAdd {P : Entry → Prop} {f : Rat} (h0 : P (Entry.num 0))
    (hadd : ∀ t s e, addEntry f t s = some e → P t → P s → P e)
    (st : St) (t s : Nat) (h : AllE P st.A) : AllE P (st.colAdd t s f).1.A := by
  unfold St.colAdd
  split
  · exact h
  · rename_i A' z hr
    exact allE_colAddRaw h0 hadd hr h

theorem foldl_mem_inv {σ β : Type} (f : σ → β → σ) (P : σ → Prop) (l : List β) (s0 : σ)
    (h0 : P s0) (hstep : ∀ x s, x ∈ l → P s → P (f s x)) : P (l.foldl f s0) :=
  List.foldlRecOn l f h0 fun s hs x hx => hstep x s hx hs

@[simp] theorem raise_L (s : St) (f : Flag) : (s.raise f).L = s.L := by
  unfold St.raise; split <;> rfl
@[simp] theorem raise_A (s : St) (f : Flag) : (s.raise f).A = s.A := by
  unfold St.raise; split <;> rfl
@[simp] theorem raise_R (s : St) (f : Flag) : (s.raise f).R = s.R := by
  unfold St.raise; split <;> rfl

@[simp] theorem rowAdd_flag (st : St) (t s : Nat) (f : Rat) : (st.rowAdd t s f).1.flag = st.flag := by
  unfold St.rowAdd; split <;> rfl

@[simp] theorem colAdd_flag (st : St) (t s : Nat) (f : Rat) : (st.colAdd t s f).1.flag = st.flag := by
  unfold St.colAdd; split <;> rfl

@[simp] theorem delRows_flag : ∀ (zs : List Nat) (s : St), (s.delRows zs).flag = s.flag
  | [], _ => rfl
  | _ :: zs, _ => delRows_flag zs _

@[simp] theorem delCols_flag : ∀ (zs : List Nat) (s : St), (s.delCols zs).flag = s.flag
  | [], _ => rfl
  | _ :: zs, _ => delCols_flag zs _

namespace Side

/-- What the primitives of a side do to an entry predicate and to the flag. -/
structure EntryLaws (sd : Side) : Prop where
  allE_swap : ∀ {P : Entry → Prop} (s a b), AllE P s.A → AllE P (sd.swap s a b).A
  allE_add : ∀ {P : Entry → Prop} {f : Rat}, P (Entry.num 0) →
    (∀ t s e, addEntry f t s = some e → P t → P s → P e) →
    ∀ st t s, AllE P st.A → AllE P (sd.add st t s f).1.A
  allE_del : ∀ {P : Entry → Prop} (s zs), AllE P s.A → AllE P (sd.del s zs).A
  opAdd_A : ∀ s i j m, (sd.opAdd s i j m).A = s.A
  allE_read : ∀ {P : Entry → Prop} {A : EMat}, P (Entry.num 0) → AllE P A → ∀ k i, P (sd.read A k i)
  swap_flag : ∀ s a b, (sd.swap s a b).flag = s.flag
  add_flag : ∀ st t s f, (sd.add st t s f).1.flag = st.flag
  del_flag : ∀ s zs, (sd.del s zs).flag = s.flag
  opAdd_flag : ∀ s i j m, (sd.opAdd s i j m).flag = s.flag

/-- `Q` is kept by the primitives of the side; by an addition if its factor satisfies `C`. -/
structure Pres (sd : Side) (Q : St → Prop) (C : Rat → Prop) : Prop where
  swap : ∀ s a b, Q s → Q (sd.swap s a b)
  add : ∀ st t s f, C f → Q st → Q (sd.add st t s f).1
  del : ∀ s zs, Q s → Q (sd.del s zs)
  opAdd : ∀ s i j m, Q s → Q (sd.opAdd s i j m)

variable {sd : Side}

theorem EntryLaws.presAllE (law : sd.EntryLaws) {P : Entry → Prop} {C : Rat → Prop} (h0 : P (Entry.num 0))
    (hadd : ∀ f, C f → ∀ t s e, addEntry f t s = some e → P t → P s → P e) :
    sd.Pres (fun s => AllE P s.A) C :=
  ⟨fun s a b => law.allE_swap s a b, fun st t s _ hf => law.allE_add h0 (hadd _ hf) st t s,
    fun s zs => law.allE_del s zs, fun s i j m h => (law.opAdd_A s i j m).symm ▸ h⟩

/-- Without additions every entry predicate is kept. -/
theorem EntryLaws.presAllE0 (law : sd.EntryLaws) (P : Entry → Prop) :
    sd.Pres (fun s => AllE P s.A) (fun _ => False) :=
  ⟨fun s a b => law.allE_swap s a b, fun _ _ _ _ hf => hf.elim, fun s zs => law.allE_del s zs,
    fun s i j m h => (law.opAdd_A s i j m).symm ▸ h⟩

theorem EntryLaws.presFlag (law : sd.EntryLaws) (c : Flag) : sd.Pres (fun s => s.flag = c) (fun _ => True) :=
  ⟨fun s a b h => (law.swap_flag s a b).trans h, fun st t s f _ h => (law.add_flag st t s f).trans h,
    fun s zs h => (law.del_flag s zs).trans h, fun s i j m h => (law.opAdd_flag s i j m).trans h⟩

theorem elimInner_cases (sd : Side) {Q : St × List Nat → Prop} (i : Nat) (pivot : Entry)
    (acc : St × List Nat) (j : Nat) (keep : Q acc)
    (hadd : ∀ f zd, j ≠ i → (sd.read acc.1.A j i).isZero = false →
      elimFactor pivot (sd.read acc.1.A j i) = some (f, zd) →
      Q ((sd.add (if zd then acc.1.raise .zeroDiv else acc.1) j i f).1,
         if (sd.add (if zd then acc.1.raise .zeroDiv else acc.1) j i f).2 then acc.2 ++ [j] else acc.2)) :
    Q (sd.elimInner i pivot acc j) := by
  unfold elimInner
  simp only
  split
  · rename_i hc
    split
    · exact keep
    · rename_i f zd hf
      exact hadd f zd hc.1 (by simpa using hc.2) hf
  · exact keep

variable {Q : St → Prop} {C : Rat → Prop}

theorem Pres.pivot (p : sd.Pres Q C) (i : Nat) (s : St) (h : Q s) : Q (sd.pivot i s) := by
  unfold Side.pivot
  split
  · split
    · exact p.swap _ _ _ h
    · exact h
  · exact h

theorem Pres.elimStep (p : sd.Pres Q C) (i : Nat) (s : St) (h : Q s)
    (hin : (sd.read (sd.pivot i s).A i i).isZero = false →
      ∀ acc j, Q acc.1 → Q (sd.elimInner i (sd.read (sd.pivot i s).A i i) acc j).1) :
    Q (sd.elimStep i s) := by
  unfold Side.elimStep
  simp only
  split
  · exact p.pivot i s h
  · rename_i hpz
    exact p.del _ _ (foldl_mem_inv _ (fun acc => Q acc.1) _ _ (p.pivot i s h)
      (fun j acc _ => hin (by simpa using hpz) acc j))

theorem Pres.elimInner (p : sd.Pres Q C) (hC : ∀ f, C f) (hraise : ∀ s, Q s → Q (s.raise .zeroDiv))
    (i : Nat) (pivot : Entry) (acc : St × List Nat) (j : Nat) (h : Q acc.1) :
    Q (sd.elimInner i pivot acc j).1 := by
  refine elimInner_cases sd (Q := fun r => Q r.1) i pivot acc j h (fun f zd _ _ _ => p.add _ _ _ _ (hC f) ?_)
  split
  · exact hraise _ h
  · exact h

/-- The loops of a de-parallelisation change the side's operator and the list of lines to delete only. -/
theorem Pres.deparallelize (p : sd.Pres Q C) (s : St) (h : Q s) : Q (sd.deparallelize s) := by
  refine p.del _ _ (foldl_mem_inv (sd.deparOuter s.A) (fun acc => Q acc.1) _ _ h ?_)
  intro i acc _ hacc
  unfold Side.deparOuter
  split
  · exact hacc
  · refine foldl_mem_inv (sd.deparInner s.A i) (fun acc => Q acc.1) _ _ hacc ?_
    intro j acc _ hacc
    unfold Side.deparInner
    split
    · exact hacc
    · simp only
      split
      · exact p.opAdd _ _ _ _ hacc
      · exact hacc

end Side

theorem elimLoop_inv {step : Nat → St → St} (Q : St → Prop) (hraise : ∀ s, Q s → Q (s.raise .fuel))
    (hstep : ∀ i s, i < min s.A.length (width s.A) → Q s → Q (step i s)) :
    ∀ (fuel i : Nat) (s : St), Q s → Q (elimLoop step fuel i s) := by
  intro fuel
  induction fuel with
  | zero =>
    intro i s h
    unfold elimLoop
    split
    · exact hraise s h
    · exact h
  | succ fuel ih =>
    intro i s h
    unfold elimLoop
    split
    · rename_i hc
      exact ih _ _ (hstep i s hc h)
    · exact h

/-- If no pass lets `min(rows, cols)` grow, a fuel of that size is never used up: the fuel flag is not
    raised, so only the passes matter.  A property that depends on the loop counter holds at the end for some
    counter at which the loop condition fails. -/
theorem elimLoop_inv_idx {step : Nat → St → St} (Q : Nat → St → Prop)
    (hstep : ∀ i s, i < min s.A.length (width s.A) → Q i s →
      Q (i + 1) (step i s) ∧ min (step i s).A.length (width (step i s).A) ≤ min s.A.length (width s.A)) :
    ∀ (fuel i : Nat) (s : St), Q i s → min s.A.length (width s.A) ≤ fuel + i →
      ∃ k, Q k (elimLoop step fuel i s) ∧
        min (elimLoop step fuel i s).A.length (width (elimLoop step fuel i s).A) ≤ k := by
  intro fuel
  induction fuel with
  | zero =>
    intro i s h hf
    rw [Nat.zero_add] at hf
    unfold elimLoop
    rw [if_neg (Nat.not_lt.2 hf)]
    exact ⟨i, h, hf⟩
  | succ fuel ih =>
    intro i s h hf
    unfold elimLoop
    split
    · rename_i hc
      obtain ⟨q, hm⟩ := hstep i s hc h
      exact ih _ _ q (Nat.le_trans hm (Nat.add_right_comm fuel 1 i ▸ hf))
    · rename_i hc
      exact ⟨i, h, Nat.not_lt.1 hc⟩

theorem elimLoop_inv_fuel {step : Nat → St → St} (Q : St → Prop)
    (hstep : ∀ i s, i < min s.A.length (width s.A) → Q s →
      Q (step i s) ∧ min (step i s).A.length (width (step i s).A) ≤ min s.A.length (width s.A)) :
    ∀ (fuel i : Nat) (s : St), Q s → min s.A.length (width s.A) ≤ fuel + i → Q (elimLoop step fuel i s) :=
  fun fuel i s h hf => (elimLoop_inv_idx (fun _ => Q) hstep fuel i s h hf).elim fun _ hk => hk.1

theorem mainLoop_inv (Q : St → Prop) (hraise : ∀ s, Q s → Q (s.raise .fuel))
    (hpass : ∀ s, Q s → Q (columnElimination (rowElimination s))) :
    ∀ (fuel nr nro nc nco : Nat) (s : St), Q s → Q (mainLoop fuel nr nro nc nco s) := by
  intro fuel
  induction fuel with
  | zero =>
    intro nr nro nc nco s h
    unfold mainLoop
    split
    · exact hraise s h
    · exact h
  | succ fuel ih =>
    intro nr nro nc nco s h
    unfold mainLoop
    split
    · exact ih _ _ _ _ _ (hpass s h)
    · exact h

theorem rowEntryLaws : rowSide.EntryLaws where
  allE_swap _ a b h := allE_rowSwap h a b
  allE_add _ hadd st t s h := allE_rowAdd hadd st t s h
  allE_del s zs h := allE_delRows zs s h
  opAdd_A _ _ _ _ := rfl
  allE_read h0 h k i := allE_gM h0 h k i
  swap_flag _ _ _ := rfl
  add_flag := rowAdd_flag
  del_flag s zs := delRows_flag zs s
  opAdd_flag _ _ _ _ := rfl

theorem colEntryLaws : colSide.EntryLaws where
  allE_swap _ a b h := allE_colSwap h a b
  allE_add h0 hadd st t s h := allE_colAdd h0 hadd st t s h
  allE_del s zs h := allE_delCols zs s h
  opAdd_A _ _ _ _ := rfl
  allE_read h0 h k i := allE_gM h0 h i k
  swap_flag _ _ _ := rfl
  add_flag := colAdd_flag
  del_flag s zs := delCols_flag zs s
  opAdd_flag _ _ _ _ := rfl

namespace Side
variable {sd : Side}

theorem allE_deparallelize (law : sd.EntryLaws) {P : Entry → Prop} (s : St) (h : AllE P s.A) :
    AllE P (sd.deparallelize s).A :=
  (law.presAllE0 P).deparallelize s h

theorem deparallelize_flag (law : sd.EntryLaws) (s : St) : (sd.deparallelize s).flag = s.flag :=
  (law.presFlag s.flag).deparallelize s rfl

theorem pivot_flag (law : sd.EntryLaws) (i : Nat) (s : St) : (sd.pivot i s).flag = s.flag :=
  (law.presFlag s.flag).pivot i s rfl

end Side

end Ptn.C13
