import Ptn.C13.Model
import Ptn.C13.Lemmas
import Ptn.C13.Total
import Ptn.C13.Scale
import Ptn.C13.Symbols
import Ptn.C13.CheckedSim
/-! Property theorems for C13 (symbolic Gaussian elimination is an exact factorisation), with non-vacuity examples.

Conventions.  `gR X i k` is the entry `X[i][k]` of an operator matrix, `gE ρ A k l` the value of the
entry `A[k][l]` of a symbolic matrix under the valuation `ρ : Nat → Rat` of the symbols,
`sumN n f = f 0 + … + f (n-1)`.  Equality of two linear forms over ℚ under *every* rational valuation is
equality of their coefficients, i.e. equality as polynomials (the field is infinite); the theorems are
stated with `K = Rat` to stay in core Lean.  `Rect X w`: all rows of `X` have length `w`.
`NESM M`: no entry of `M` uses the empty string (symbol `0`) as its symbol - `are_parallel_*` confuses
that symbol with a number, see `sge_empty_symbol_counterexample`. -/
namespace Ptn.C13

/-! Each lemma is stated under exactly the conditions the Python code has tested immediately before the
call; `RowRel n s s'` says: if `s` is well-shaped then so is `s'`, `R` and the number of rows of `L`
are unchanged, `A` has not grown, and `(L · eval ρ A)[i][l]` is the same for all `ρ, i, l`
(`ColRel` is the mirror image for `(eval ρ A · R)[k][j]`). -/

/-- `row_add(matrix, Op_l, t, s, f)` (whether or not the compatibility guard lets it act): product kept,
    only row `t` changes, and a reported zero row is zero under every valuation. -/
theorem row_add_preserves (n : Nat) (st : St) (t s : Nat) (f : Rat) (ht : t < st.A.length)
    (hs : s < st.A.length) (hts : t ≠ s) (h : WS n st) :
    RowRel n st (st.rowAdd t s f).1 ∧
    (∀ ρ k l, k ≠ t → gE ρ (st.rowAdd t s f).1.A k l = gE ρ st.A k l) ∧
    ((st.rowAdd t s f).2 = true → ∀ ρ l, gE ρ (st.rowAdd t s f).1.A t l = 0) :=
  let ⟨a, _, c, d⟩ := rowAdd_spec n st t s f ht hs hts h
  ⟨a, c, d⟩

theorem col_add_preserves (n : Nat) (st : St) (t s : Nat) (f : Rat) (ht : t < st.R.length)
    (hs : s < st.R.length) (hts : t ≠ s) (h : WS n st) :
    ColRel n st (st.colAdd t s f).1 ∧
    (∀ ρ k l, l ≠ t → gE ρ (st.colAdd t s f).1.A k l = gE ρ st.A k l) ∧
    ((st.colAdd t s f).2 = true → ∀ ρ k, gE ρ (st.colAdd t s f).1.A k t = 0) :=
  let ⟨a, _, c, d⟩ := colAdd_spec n st t s f ht hs hts h
  ⟨a, c, d⟩

/-- The entry-wise rule of `_row_add` / `_col_add` never mixes: when it answers, the answer is the
    single entry `target + f · source`. -/
theorem add_entry_exact (f : Rat) (t s e : Entry) (ρ : Nat → Rat) (h : addEntry f t s = some e) :
    e.eval ρ = t.eval ρ + f * s.eval ρ := addEntry_eval ρ h

theorem row_swap_preserves (n : Nat) (s : St) (a b : Nat) (ha : a < s.A.length) (hb : b < s.A.length) :
    RowRel n s (s.rowSwap a b) := rowRel_rowSwap n s a b ha hb

theorem col_swap_preserves (n : Nat) (s : St) (a b : Nat) (ha : a < s.R.length) (hb : b < s.R.length) :
    ColRel n s (s.colSwap a b) := colRel_colSwap n s a b ha hb

/-- Deleting (in descending order) distinct rows that are zero, together with the matching columns of
    `Op_l`, at least one row staying. -/
theorem delete_zero_rows_preserves (n : Nat) (s : St) (zs : List Nat) (hnd : zs.Nodup)
    (hlt : ∀ z, z ∈ zs → z < s.A.length) (hkeep : zs.length < s.A.length)
    (hz : ∀ ρ z, z ∈ zs → ∀ l, gE ρ s.A z l = 0) : RowRel n s (s.delRows (sortDesc zs)) :=
  Side.rel_del_zero (rowRelLaws n) s zs hnd hlt ((length_sortDesc zs).symm ▸ hkeep) hz

theorem delete_zero_cols_preserves (n : Nat) (s : St) (zs : List Nat) (hnd : zs.Nodup)
    (hlt : ∀ z, z ∈ zs → z < s.R.length)
    (hz : ∀ ρ z, z ∈ zs → ∀ k, gE ρ s.A k z = 0) : ColRel n s (s.delCols (sortDesc zs)) :=
  Side.rel_del_zero (colRelLaws n) s zs hnd hlt trivial fun ρ z hz' y => hz ρ z hz' y

/-- A non-zero answer of `are_parallel_row` is a true proportionality factor (no empty symbol). -/
theorem are_parallel_row_sound (ρ : Nat → Rat) (A : EMat) (w i j : Nat) (μ : Rat) (hA : Rect A w)
    (hn : NESM A) (hi : i < A.length) (hj : j < A.length)
    (h : areParallelRow (A.getD i []) (A.getD j []) = μ) (hμ : μ ≠ 0) (l : Nat) :
    gE ρ A j l = μ * gE ρ A i l := areParallelRow_sound ρ hA hn hi hj h hμ l

theorem are_parallel_col_sound (ρ : Nat → Rat) (A : EMat) (w i j : Nat) (μ : Rat) (hA : Rect A w)
    (hn : NESM A) (hi : i < w) (hj : j < w) (h : areParallelCol A i j = μ) (hμ : μ ≠ 0) (k : Nat) :
    gE ρ A k j = μ * gE ρ A k i := areParallelCol_sound ρ hn h hμ k

/-- `deparallelize_rows` / `deparallelize_cols`: merging parallel lines into the operator matrices. -/
theorem deparallelize_rows_preserves (n : Nat) (s : St) (hnes : NESM s.A) :
    RowRel n s (deparallelizeRows s) := rowRel_deparallelizeRows n s hnes

theorem deparallelize_cols_preserves (n : Nat) (s : St) (hnes : NESM s.A) :
    ColRel n s (deparallelizeCols s) := colRel_deparallelizeCols n s hnes

/-- `row_elimination` / `column_elimination` (pivot search, additions, deletions, index shifts). -/
theorem row_elimination_preserves (n : Nat) (s : St) : RowRel n s (rowElimination s) :=
  rowRel_rowElimination n s

theorem column_elimination_preserves (n : Nat) (s : St) : ColRel n s (columnElimination s) :=
  colRel_columnElimination n s

/-! Non-vacuity of the hypotheses of the lemmas above on concrete states. -/

example : WS 2 exState := ⟨by unfold Rect; decide, by unfold Rect; decide, by unfold Rect; decide, by decide⟩

/-- `row_add` really acts: row 1 becomes `[0, a]`, column 0 of `L` becomes `[1, 2]`. -/
example : (exState.rowAdd 1 0 (-2)).1.A = [[.num 1, .sym 1 1], [.num 0, .sym 1 1]]
    ∧ (exState.rowAdd 1 0 (-2)).1.L = [[1, 0], [2, 1]] := by decide +kernel

/-- `col_add` is refused by the guard here (number onto a symbol): nothing changes. -/
example : (exState.colAdd 1 0 (-1)).1.A = exState.A ∧ (exState.colAdd 1 0 (-1)).1.R = exState.R := by
  decide +kernel

example : (exState.rowSwap 0 1).A = [[.num 2, .sym 3 1], [.num 1, .sym 1 1]]
    ∧ (exState.rowSwap 0 1).L = [[0, 1], [1, 0]] := by decide +kernel

example : (exState.rowScale 0 2).isSome = true ∧ (exState.rowScale 0 0).isSome = false := by
  decide +kernel

example : WS 2 exStateZeroRow :=
  ⟨by unfold Rect; decide, by unfold Rect; decide, by unfold Rect; decide, by decide⟩

/-- The hypotheses of `delete_zero_rows_preserves` hold for `zs = [1]`, and the deletion acts. -/
example : [1].Nodup ∧ (∀ z, z ∈ [1] → z < exStateZeroRow.A.length) ∧ [1].length < exStateZeroRow.A.length
    ∧ (∀ (ρ : Nat → Rat) z, z ∈ [1] → ∀ l, gE ρ exStateZeroRow.A z l = 0)
    ∧ (exStateZeroRow.delRows (sortDesc [1])).A = [[.num 1, .sym 1 1], [.num 2, .sym 1 2]]
    ∧ (exStateZeroRow.delRows (sortDesc [1])).L = [[1, 0], [0, 0], [0, 1]] := by
  refine ⟨by decide, by decide, by decide, ?_, by decide +kernel, by decide +kernel⟩
  intro ρ z hz l
  simp only [List.mem_singleton] at hz
  subst hz
  match l with
  | 0 => rfl
  | 1 => rfl
  | _ + 2 => rfl

/-- `are_parallel_row` answers `3` on the rows of `exStateParallel`, `deparallelize_rows` merges them. -/
example : areParallelRow (exStateParallel.A.getD 0 []) (exStateParallel.A.getD 1 []) = 3
    ∧ areParallelCol exStateParallel.A 0 1 = 0
    ∧ (deparallelizeRows exStateParallel).A = [[.num 1, .sym 1 1]]
    ∧ (deparallelizeRows exStateParallel).L = [[1], [3]] := by decide +kernel

example : NESM exStateParallel.A := by
  intro r hr e he
  simp [exStateParallel] at hr
  rcases hr with rfl | rfl <;> simp at he <;> rcases he with rfl | rfl <;> simp [Entry.NES]

/-- **Exactness.**  For every rectangular `M` (`m ≥ 1` rows of length `n`, symbols non-empty): if
    `gaussian_elimination` returns `(L, M', R)` then `L` is `m × p`, `M'` is `p × q`, `R` is `q × n`
    with `1 ≤ p ≤ m`, `q ≤ n`, and `(L · eval ρ M' · R)[i][j] = eval ρ M[i][j]` for every valuation
    and all `i < m`, `j < n`. -/
theorem sge_exact (M : EMat) (n : Nat) (hpos : 0 < M.length) (hrect : Rect M n) (hnes : NESM M)
    (L : RMat) (A : EMat) (R : RMat) (h : gaussianElimination M = .ok L A R) :
    (L.length = M.length ∧ Rect L A.length ∧ Rect A R.length ∧ Rect R n) ∧
    (0 < A.length ∧ A.length ≤ M.length ∧ R.length ≤ n) ∧
    ∀ (ρ : Nat → Rat) (i j : Nat), i < M.length → j < n →
      sumN A.length (fun k => sumN R.length (fun l => gR L i k * gE ρ A k l * gR R l j))
        = gE ρ M i j := by
  have hg := good_gaussSt M n hpos hrect hnes
  obtain ⟨_, rfl, rfl, rfl⟩ := gaussianElimination_ok h
  exact ⟨⟨hg.Llen, hg.ws.Lrect, hg.ws.Arect, hg.ws.Rrect⟩, ⟨hg.ws.Apos, hg.rows_le, hg.cols_le⟩,
    fun ρ i j hi hj => initF_in_range M n ρ i j hi hj ▸ hg.exact ρ i j⟩

/-- Exactness as an equation between matrices: `L · eval ρ M' · R = eval ρ M`. -/
theorem sge_exact_matrix (M : EMat) (n : Nat) (hpos : 0 < M.length) (hrect : Rect M n) (hnes : NESM M)
    (L : RMat) (A : EMat) (R : RMat) (h : gaussianElimination M = .ok L A R) (ρ : Nat → Rat) :
    matMul (matMul L (evalM ρ A) R.length) R n = evalM ρ M := by
  obtain ⟨⟨h1, h2, h3, h4⟩, _, hex⟩ := sge_exact M n hpos hrect hnes L A R h
  have hlen : (matMul (matMul L (evalM ρ A) R.length) R n).length = M.length :=
    (length_matMul _ _ _).trans ((length_matMul _ _ _).trans h1)
  refine rmat_ext hlen (length_evalM ρ M) (rect_matMul _ _ _) (rect_evalM ρ hrect) fun i j hi hj => ?_
  have hiL : i < (matMul L (evalM ρ A) R.length).length := by rw [length_matMul, h1]; exact hi
  rw [gR_matMul _ _ _ _ _ hiL hj, gR_evalM, ← hex ρ i j hi hj]
  have hlenA := length_evalM ρ A
  have e : ∀ l, l < R.length →
      gR (matMul L (evalM ρ A) R.length) i l * gR R l j
        = sumN A.length (fun k => gR L i k * gE ρ A k l * gR R l j) := by
    intro l hl
    rw [gR_matMul _ _ _ _ _ (by rw [h1]; exact hi) hl, hlenA, ← sumN_mul_right]
    apply sumN_congr
    intro k _
    rw [gR_evalM]
  rw [sumN_congr e, sumN_comm]

/-- Non-vacuity of `sge_exact`: a rank-1 numeric matrix is reduced to `1 × 1`. -/
example : gaussianElimination [[.num 1, .num 2], [.num 2, .num 4]]
    = .ok [[1], [2]] [[.num 1]] [[1, 2]] := by decide +kernel

example : Rect [[Entry.num 1, Entry.num 2], [Entry.num 2, Entry.num 4]] 2
    ∧ NESM [[Entry.num 1, Entry.num 2], [Entry.num 2, Entry.num 4]] := by
  refine ⟨?_, ?_⟩
  · intro r hr; simp at hr; rcases hr with rfl | rfl <;> rfl
  · intro r hr e he
    simp at hr
    rcases hr with rfl | rfl <;> simp at he <;> rcases he with rfl | rfl <;> trivial

/-- Non-vacuity with symbols: a symbolic pivot eliminates a same-symbol entry below it. -/
example : gaussianElimination
    [[.num 1, .sym 1 1, .num 0], [.num 2, .num 4, .sym 1 2], [.num 3, .sym 1 1, .sym 1 2]]
    = .ok [[1, 0, 0], [0, 1, 0], [3, 0, 1]]
        [[.num 1, .sym 1 1, .num 0], [.num 2, .num 4, .sym 1 2], [.num 0, .sym (-2) 1, .sym 1 2]]
        [[1, 0, 0], [0, 1, 0], [0, 0, 1]] := by decide +kernel

/-- **Totality.**  On in-domain input (`NZM`: every symbolic entry has a non-zero coefficient) the code
    returns a triple: no `ZeroDivisionError`, and the fuel that replaces the three `while` loops of the
    model (`min(rows, cols)` for the two elimination loops, `m + n + 1` for the fixed-point loop) is
    never exhausted. -/
theorem sge_total (M : EMat) (n : Nat) (hpos : 0 < M.length) (hrect : Rect M n) (hnes : NESM M)
    (hnz : NZM M) : ∃ L A R, gaussianElimination M = .ok L A R := by
  have h := (oks_gaussSt M n hpos hrect hnes hnz).ok
  unfold gaussianElimination
  simp only [h]
  exact ⟨_, _, _, rfl⟩

theorem sge_fuel_suffices (M : EMat) (n : Nat) (hpos : 0 < M.length) (hrect : Rect M n) (hnes : NESM M)
    (hnz : NZM M) : gaussianElimination M ≠ .fuelOut := by
  obtain ⟨L, A, R, h⟩ := sge_total M n hpos hrect hnes hnz
  rw [h]; simp

theorem sge_no_zero_division (M : EMat) (n : Nat) (hpos : 0 < M.length) (hrect : Rect M n)
    (hnes : NESM M) (hnz : NZM M) : gaussianElimination M ≠ .zeroDiv := by
  obtain ⟨L, A, R, h⟩ := sge_total M n hpos hrect hnes hnz
  rw [h]; simp

/-- Totality and exactness together: every in-domain matrix has an exact factorisation returned. -/
theorem sge_exact_total (M : EMat) (n : Nat) (hpos : 0 < M.length) (hrect : Rect M n) (hnes : NESM M)
    (hnz : NZM M) :
    ∃ L A R, gaussianElimination M = .ok L A R ∧
      L.length = M.length ∧ Rect L A.length ∧ Rect A R.length ∧ Rect R n ∧
      0 < A.length ∧ A.length ≤ M.length ∧ R.length ≤ n ∧
      ∀ ρ : Nat → Rat, matMul (matMul L (evalM ρ A) R.length) R n = evalM ρ M := by
  obtain ⟨L, A, R, h⟩ := sge_total M n hpos hrect hnes hnz
  obtain ⟨⟨h1, h2, h3, h4⟩, ⟨h5, h6, h7⟩, _⟩ := sge_exact M n hpos hrect hnes L A R h
  exact ⟨L, A, R, h, h1, h2, h3, h4, h5, h6, h7,
    fun ρ => sge_exact_matrix M n hpos hrect hnes L A R h ρ⟩

/-- Non-vacuity of the domain hypotheses (`NESM`, `NZM`) on a matrix with symbols. -/
example : NESM [[Entry.num 1, Entry.sym 1 1], [Entry.sym 2 1, Entry.num 0]]
    ∧ NZM [[Entry.num 1, Entry.sym 1 1], [Entry.sym 2 1, Entry.num 0]] := by
  refine ⟨?_, ?_⟩ <;>
  · intro r hr e he
    simp at hr
    rcases hr with rfl | rfl <;> simp at he <;> rcases he with rfl | rfl <;> simp [Entry.NES, Entry.NZ]

/-- **No mixing** (by the type of the model): every entry of the reduced matrix is a rational or a
    rational multiple of one symbol; its value is that monomial. -/
theorem sge_no_mixing (M : EMat) (L : RMat) (A : EMat) (R : RMat)
    (_h : gaussianElimination M = .ok L A R) :
    ∀ r, r ∈ A → ∀ e, e ∈ r →
      (∃ q, e = Entry.num q ∧ ∀ ρ, e.eval ρ = q) ∨ (∃ q s, e = Entry.sym q s ∧ ∀ ρ, e.eval ρ = q * ρ s) := by
  intro r _ e _
  cases e with
  | num q => exact Or.inl ⟨q, rfl, fun _ => rfl⟩
  | sym q s => exact Or.inr ⟨q, s, rfl, fun _ => rfl⟩

/-- **No new symbols**: every symbol of the reduced matrix is a symbol of the input (`S` any set of
    symbols containing those of `M`). -/
theorem sge_no_new_symbols (M : EMat) (S : Nat → Prop) (hS : AllE (Entry.SymIn S) M)
    (L : RMat) (A : EMat) (R : RMat) (h : gaussianElimination M = .ok L A R) :
    AllE (Entry.SymIn S) A :=
  (gaussianElimination_ok h).2.2.1 ▸ sym_gaussSt M hS

/-- Non-vacuity: the symbols of `[[1, a],[2a, 0]]` lie in `{a}` (`a` = symbol 1). -/
example : AllE (Entry.SymIn (· = 1)) [[Entry.num 1, Entry.sym 1 1], [Entry.sym 2 1, Entry.num 0]] := by
  intro r hr e he
  simp at hr
  rcases hr with rfl | rfl <;> simp at he <;> rcases he with rfl | rfl <;> simp [Entry.SymIn]

/-! What the code does outside the stated input domain (witnesses, replayed on the real code). -/

/-- The hypothesis `NESM` of `sge_exact` cannot be dropped: with the empty string as a symbol the rows
    `[1]` and `[2·'']` are declared parallel and the product is `[[1],[2]] ≠ [[1],[2·'']]`. -/
theorem sge_empty_symbol_counterexample :
    gaussianElimination [[.num 1], [.sym 2 0]] = .ok [[1], [2]] [[.num 1]] [[1]] ∧
    ∃ ρ : Nat → Rat,
      sumN 1 (fun k => sumN 1 (fun l => gR [[1], [2]] 1 k * gE ρ [[.num 1]] k l * gR [[1]] l 0))
        ≠ gE ρ [[.num 1], [.sym 2 0]] 1 0 := by
  refine ⟨by decide +kernel, fun _ => 0, ?_⟩
  decide +kernel

/-- A symbolic entry with coefficient `0` as pivot makes the code raise `ZeroDivisionError`. -/
theorem sge_zero_coefficient_raises :
    gaussianElimination [[.sym 0 1], [.sym 1 1]] = .zeroDiv := by decide +kernel

/-! `Checked.lean` is a second port of the Python file in which every subscript, subscript assignment and `del`
is an operation that answers `Err.index` (`IndexError`) when out of range, and exceptions abort the run as
in Python.  The accesses of `Model.lean` are totalised with defaults; the theorems below show that this is
harmless: under exactly the index bounds its caller guarantees every checked primitive raises nothing and returns
what the totalised primitive returns, and the whole checked run on a rectangular matrix with `≥ 1` row
equals the totalised run, so every theorem above holds for the checked model. -/

theorem row_swap_checked (s : St) (i j : Nat) (hL : Rect s.L s.A.length) (hi : i < s.A.length)
    (hj : j < s.A.length) : s.rowSwapC i j = .ok (s.rowSwap i j) := rowSwapC_ok hL hi hj

theorem col_swap_checked (s : St) (i j : Nat) (hA : Rect s.A s.R.length) (hi : i < s.R.length)
    (hj : j < s.R.length) : s.colSwapC i j = .ok (s.colSwap i j) := colSwapC_ok hA hi hj

/-- `row_add` with both rows in range on a well-shaped state (whatever the compatibility guard decides). -/
theorem row_add_checked (n : Nat) (st : St) (t s : Nat) (f : Rat) (h : WS n st) (ht : t < st.A.length)
    (hs : s < st.A.length) : st.rowAddC t s f = .ok (st.rowAdd t s f) :=
  rowAddC_ok f h.Lrect h.Arect ht hs

theorem col_add_checked (n : Nat) (st : St) (t s : Nat) (f : Rat) (h : WS n st) (ht : t < st.R.length)
    (hs : s < st.R.length) : st.colAddC t s f = .ok (st.colAdd t s f) :=
  colAddC_ok f h.Arect h.Rrect ht hs

/-- Deleting distinct in-range rows in descending order (as the code does after sorting). -/
theorem delete_rows_checked (n : Nat) (s : St) (zs : List Nat) (h : WS n s) (hnd : zs.Nodup)
    (hlt : ∀ z, z ∈ zs → z < s.A.length) : s.delRowsC (sortDesc zs) = .ok (s.delRows (sortDesc zs)) :=
  delRowsC_ok _ _ (pairwise_sortDesc hnd) (fun z hz => hlt z (mem_sortDesc.mp hz)) h.Lrect

theorem delete_cols_checked (n : Nat) (s : St) (zs : List Nat) (h : WS n s) (hnd : zs.Nodup)
    (hlt : ∀ z, z ∈ zs → z < s.R.length) : s.delColsC (sortDesc zs) = .ok (s.delCols (sortDesc zs)) :=
  delColsC_ok _ _ (pairwise_sortDesc hnd) (fun z hz => hlt z (mem_sortDesc.mp hz)) h.Arect

/-- `are_parallel_col` with both columns in range of a rectangular matrix (`are_parallel_row` zips two
    rows and cannot raise; it is shared by both models). -/
theorem are_parallel_col_checked (A : EMat) (w c1 c2 : Nat) (hA : Rect A w) (h1 : c1 < w) (h2 : c2 < w) :
    areParallelColC A c1 c2 = .ok (areParallelCol A c1 c2) := areParallelColC_ok hA h1 h2

theorem deparallelize_rows_checked (n : Nat) (s : St) (h : WS n s) (hnes : NESM s.A) :
    deparallelizeRowsC s = .ok (deparallelizeRows s) := deparallelizeRowsC_ok n s h hnes

theorem deparallelize_cols_checked (n : Nat) (s : St) (h : WS n s) (hnes : NESM s.A) :
    deparallelizeColsC s = .ok (deparallelizeCols s) := deparallelizeColsC_ok n s h hnes

/-- `row_elimination` / `column_elimination` on a well-shaped state: the checked run stops with
    `ZeroDivisionError` exactly when the totalised run ends with that flag (`res`), never with `IndexError`,
    and its own fuel (`len(matrix)` passes) is never exhausted where the totalised one is not. -/
theorem row_elimination_checked (n : Nat) (s : St) (h : WS n s) (hok : s.flag = .ok) :
    rowEliminationC s = res (rowElimination s) := rowEliminationC_sim n s h hok

theorem column_elimination_checked (n : Nat) (s : St) (h : WS n s) (hok : s.flag = .ok) :
    columnEliminationC s = res (columnElimination s) := columnEliminationC_sim n s h hok

/-- Non-vacuity: the checked primitives act on the example state (in range) … -/
example : (exState.rowAddC 1 0 (-2)) = .ok (exState.rowAdd 1 0 (-2))
    ∧ (exState.rowSwapC 0 1) = .ok (exState.rowSwap 0 1)
    ∧ rowEliminationC exState = .ok (rowElimination exState) := by decide +kernel

/-- … and report `IndexError` out of range, where the totalised primitives silently return the state. -/
example : exState.rowAddC 2 0 1 = .error .index ∧ (exState.rowAdd 2 0 1).1.A = exState.A
    ∧ exState.rowSwapC 0 2 = .error .index ∧ (exState.rowSwap 0 2).A = exState.A
    ∧ exState.colAddC 0 2 1 = .error .index ∧ exState.delRowsC [1, 1] = .error .index := by
  decide +kernel

/-- **The checked run equals the totalised run** on every rectangular matrix with at least one row and no
    empty symbol name (symbolic coefficients may be zero: then both report the `ZeroDivisionError`). -/
theorem checked_eq_total (M : EMat) (n : Nat) (hpos : 0 < M.length) (hrect : Rect M n) (hnes : NESM M) :
    gaussianEliminationC M = (gaussianElimination M).toC := by
  unfold gaussianEliminationC gaussianElimination
  rw [gaussStC_eq M n hpos hrect hnes]
  generalize gaussSt M = s
  obtain ⟨L, A, R, fl⟩ := s
  cases fl <;> rfl

/-- **No `IndexError`.**  On every matrix of the property's domain the checked model never reports
    `IndexError` (nor a zero division, nor exhausted fuel): it returns a triple, the one the totalised
    model returns. -/
theorem sge_no_index_error (M : EMat) (n : Nat) (hpos : 0 < M.length) (hrect : Rect M n) (hnes : NESM M)
    (hnz : NZM M) :
    gaussianEliminationC M ≠ .indexError ∧
    ∃ L A R, gaussianEliminationC M = .ok L A R ∧ gaussianElimination M = .ok L A R := by
  obtain ⟨L, A, R, h⟩ := sge_total M n hpos hrect hnes hnz
  have hc := checked_eq_total M n hpos hrect hnes
  rw [h] at hc
  exact ⟨by rw [hc]; simp [Outcome.toC], L, A, R, hc, h⟩

/-- Without the hypothesis on the coefficients: still no `IndexError` (the only exception left is the
    `ZeroDivisionError` of a pivot `(0, s)`). -/
theorem sge_no_index_error_any_coefficients (M : EMat) (n : Nat) (hpos : 0 < M.length) (hrect : Rect M n)
    (hnes : NESM M) : gaussianEliminationC M ≠ .indexError := by
  rw [checked_eq_total M n hpos hrect hnes]
  cases gaussianElimination M <;> simp [Outcome.toC]

/-- **Exactness for the checked model** (headline restatement of `sge_exact` + `sge_total`): on in-domain
    input the checked model returns a triple `(L, M', R)`, no access of the run was out of range, and
    `L · eval ρ M' · R = eval ρ M` with compatible shapes, `M'` not larger than `M`. -/
theorem sge_exact_checked (M : EMat) (n : Nat) (hpos : 0 < M.length) (hrect : Rect M n) (hnes : NESM M)
    (hnz : NZM M) :
    ∃ L A R, gaussianEliminationC M = .ok L A R ∧
      L.length = M.length ∧ Rect L A.length ∧ Rect A R.length ∧ Rect R n ∧
      0 < A.length ∧ A.length ≤ M.length ∧ R.length ≤ n ∧
      (∀ (ρ : Nat → Rat) (i j : Nat), i < M.length → j < n →
        sumN A.length (fun k => sumN R.length (fun l => gR L i k * gE ρ A k l * gR R l j)) = gE ρ M i j) ∧
      ∀ ρ : Nat → Rat, matMul (matMul L (evalM ρ A) R.length) R n = evalM ρ M := by
  obtain ⟨_, L, A, R, hc, h⟩ := sge_no_index_error M n hpos hrect hnes hnz
  obtain ⟨⟨h1, h2, h3, h4⟩, ⟨h5, h6, h7⟩, hex⟩ := sge_exact M n hpos hrect hnes L A R h
  exact ⟨L, A, R, hc, h1, h2, h3, h4, h5, h6, h7, hex,
    fun ρ => sge_exact_matrix M n hpos hrect hnes L A R h ρ⟩

/-- Exactness of whatever triple the checked model returns (no hypothesis on the coefficients). -/
theorem sge_exact_checked_of_ok (M : EMat) (n : Nat) (hpos : 0 < M.length) (hrect : Rect M n)
    (hnes : NESM M) (L : RMat) (A : EMat) (R : RMat) (h : gaussianEliminationC M = .ok L A R) :
    gaussianElimination M = .ok L A R ∧
    ∀ ρ : Nat → Rat, matMul (matMul L (evalM ρ A) R.length) R n = evalM ρ M := by
  have hc := checked_eq_total M n hpos hrect hnes
  rw [h] at hc
  have ht : gaussianElimination M = .ok L A R := by
    cases hg : gaussianElimination M with
    | ok L' A' R' =>
      rw [hg] at hc
      simp only [Outcome.toC, OutcomeC.ok.injEq] at hc
      obtain ⟨rfl, rfl, rfl⟩ := hc
      rfl
    | zeroDiv => rw [hg] at hc; simp [Outcome.toC] at hc
    | fuelOut => rw [hg] at hc; simp [Outcome.toC] at hc
  exact ⟨ht, fun ρ => sge_exact_matrix M n hpos hrect hnes L A R ht ρ⟩

/-- Non-vacuity: the checked model on the examples of `sge_exact`, and the zero-coefficient pivot. -/
example : gaussianEliminationC [[.num 1, .num 2], [.num 2, .num 4]]
    = .ok [[1], [2]] [[.num 1]] [[1, 2]] := by decide +kernel

example : gaussianEliminationC
    [[.num 1, .sym 1 1, .num 0], [.num 2, .num 4, .sym 1 2], [.num 3, .sym 1 1, .sym 1 2]]
    = .ok [[1, 0, 0], [0, 1, 0], [3, 0, 1]]
        [[.num 1, .sym 1 1, .num 0], [.num 2, .num 4, .sym 1 2], [.num 0, .sym (-2) 1, .sym 1 2]]
        [[1, 0, 0], [0, 1, 0], [0, 0, 1]] := by decide +kernel

example : gaussianEliminationC [[.sym 0 1], [.sym 1 1]] = .zeroDiv := by decide +kernel

/-- A ragged matrix on which the Python code raises `IndexError` (in `are_parallel_col`: `row[col2]` of the
    short second row; replayed on the real code by the harness): the checked model reports it, while the
    totalised model reads a default there and returns a triple. -/
theorem ragged_index_error_witness :
    gaussianEliminationC [[.num 1, .num 2], [.sym 1 1]] = .indexError ∧
    gaussianElimination [[.num 1, .num 2], [.sym 1 1]]
      = .ok [[1, 0], [0, 1]] [[.num 1, .num 0], [.sym 1 1]] [[1, 2], [0, 1]] ∧
    ¬ ∃ n, Rect [[Entry.num 1, Entry.num 2], [Entry.sym 1 1]] n := by
  refine ⟨by decide +kernel, by decide +kernel, fun ⟨n, h⟩ => ?_⟩
  -- the two rows have lengths 2 and 1
  exact absurd ((h _ (.head _)).trans (h _ (.tail _ (.head _))).symm) (by decide)

/-- The empty matrix: `len(matrix[0])` raises `IndexError`. -/
theorem empty_matrix_index_error : gaussianEliminationC [] = .indexError := by decide +kernel

/-- A later source of `IndexError` on ragged input: the pivot `matrix[i][i]` of `row_elimination`
    (short second row, `[[a, 1], [b]]` reaches `i = 1`). -/
theorem ragged_index_error_in_elimination :
    gaussianEliminationC [[.sym 1 1, .num 1], [.sym 1 2]] = .indexError := by decide +kernel

/-- Raggedness alone does not make the code raise: with a short FIRST row every access stays in range and a
    ragged triple is returned (checked model and code agree, see the correspondence). -/
theorem ragged_without_error_witness :
    gaussianEliminationC [[.num 1], [.sym 1 1, .num 2]]
      = .ok [[1, 0], [0, 1]] [[.num 1], [.sym 1 1, .num 2]] [[1]] := by decide +kernel

end Ptn.C13
