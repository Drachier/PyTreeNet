import Ptn.C13.Steps
/-! Row side of C13 (core Lean only): the paired row primitives (swap, addition, deletion) preserve the shape
and the product `L · eval ρ A`; with that the row side satisfies `Side.RelLaws`, and what `Steps.lean` proves of
the control structure holds of `row_elimination` and `deparallelize_rows`. -/
namespace Ptn.C13

/-- `Side.Rel rowSide` written out (`rowRel_eq`). -/
def RowRel (n : Nat) (s s' : St) : Prop :=
  WS n s → WS n s' ∧ s'.R = s.R ∧ s'.L.length = s.L.length ∧ s'.A.length ≤ s.A.length ∧
    ∀ ρ i l, lprod ρ s' i l = lprod ρ s i l

theorem RowRel.refl (n : Nat) (s : St) : RowRel n s s :=
  fun h => ⟨h, rfl, rfl, Nat.le_refl _, fun _ _ _ => rfl⟩

theorem rowRel_same {n : Nat} {s s' : St} (hA : s'.A.length = s.A.length) (hR : s'.R = s.R)
    (hL : s'.L.length = s.L.length) (rL : WS n s → Rect s'.L s.A.length) (rA : WS n s → Rect s'.A s.R.length)
    (hv : WS n s → ∀ ρ i l, sumN s.A.length (fun k => gR s'.L i k * gE ρ s'.A k l) = lprod ρ s i l) :
    RowRel n s s' := fun h =>
  ⟨WS.same h hA (congrArg _ hR) (rL h) (rA h) (hR ▸ h.Rrect), hR, hL, Nat.le_of_eq hA,
    fun ρ i l => (show lprod ρ s' i l = sumN s'.A.length _ from rfl).trans (hA ▸ hv h ρ i l)⟩

theorem rowRel_rowSwap (n : Nat) (s : St) (a b : Nat) (ha : a < s.A.length) (hb : b < s.A.length) :
    RowRel n s (s.rowSwap a b) :=
  rowRel_same (length_rowSwap _ _ _) rfl (length_colSwap _ _ _) (fun h => rect_colSwap h.Lrect a b)
    (fun h => rect_rowSwap h.Arect a b) fun h ρ i l =>
    (sumN_congr fun k _ => by
      simp only [gR, gE, St.rowSwap, gM_colSwap 0 s.L s.A.length a b i k h.Lrect ha hb,
        gM_rowSwap (Entry.num 0) s.A a b k l ha hb]).trans
      (pair_swap s.A.length a b (fun k => gR s.L i k) (fun k => gE ρ s.A k l) ha hb)

theorem rowAdd_spec (n : Nat) (st : St) (t s : Nat) (f : Rat) (ht : t < st.A.length)
    (hs : s < st.A.length) (hts : t ≠ s) (h : WS n st) :
    RowRel n st (st.rowAdd t s f).1 ∧
    (st.rowAdd t s f).1.A.length = st.A.length ∧
    (∀ ρ k l, k ≠ t → gE ρ (st.rowAdd t s f).1.A k l = gE ρ st.A k l) ∧
    ((st.rowAdd t s f).2 = true → ∀ ρ l, gE ρ (st.rowAdd t s f).1.A t l = 0) := by
  unfold St.rowAdd
  cases hr : rowAddRaw st.A t s f with
  | none =>
    exact ⟨RowRel.refl n st, rfl, fun _ _ _ _ => rfl, fun hz => by simp at hz⟩
  | some p =>
    obtain ⟨A', z⟩ := p
    have spec := fun ρ => rowAddRaw_spec ρ hr h.Arect ht hs
    obtain ⟨hlen, hrect, _, _⟩ := spec (fun _ => 0)
    refine ⟨rowRel_same hlen rfl (length_colAddFloat _ _ _ _) (fun h => rect_colAddFloat h.Lrect _ _ _)
      (fun _ => hrect) fun h ρ i l => ?_, hlen, fun ρ k l hk => ?_, fun hz ρ l => (spec ρ).2.2.2 hz l⟩
    · exact (sumN_congr fun k _ => by
        rw [gR_colAddFloat st.L st.A.length s t (-f) h.Lrect hs i k, (spec ρ).2.2.1 k l]).trans
        (pair_add st.A.length t s f (fun k => gR st.L i k) (fun k => gE ρ st.A k l) ht hs hts)
    · rw [(spec ρ).2.2.1 k l, if_neg hk]

theorem delRows_cons (s : St) (z : Nat) (zs : List Nat) :
    s.delRows (z :: zs) = St.delRows { s with A := delRow s.A z, L := delCol s.L z } zs := rfl

theorem delRows_spec : ∀ (zs : List Nat) (s : St),
    List.Pairwise (fun a b => b < a) zs → (∀ z, z ∈ zs → z < s.A.length) →
    Rect s.L s.A.length → Rect s.A s.R.length →
    (s.delRows zs).A.length + zs.length = s.A.length ∧
    Rect (s.delRows zs).L (s.delRows zs).A.length ∧
    Rect (s.delRows zs).A s.R.length ∧
    (s.delRows zs).R = s.R ∧ (s.delRows zs).L.length = s.L.length ∧
    ∀ ρ i l, lprod ρ (s.delRows zs) i l = lprodMask ρ zs s i l := by
  intro zs
  induction zs with
  | nil =>
    intro s _ _ hL hA
    refine ⟨rfl, hL, hA, rfl, rfl, fun ρ i l => ?_⟩
    simp [St.delRows, lprod, lprodMask]
  | cons z zs ih =>
    intro s hp hlt hL hA
    have hz : z < s.A.length := hlt z (by simp)
    have hp' := List.pairwise_cons.mp hp
    let s1 : St := { s with A := delRow s.A z, L := delCol s.L z }
    have hlen1 : s1.A.length + 1 = s.A.length := length_delRow s.A z hz
    have hL1 : Rect s1.L s1.A.length := by
      have : Rect s.L (s1.A.length + 1) := by rw [hlen1]; exact hL
      exact rect_delCol this z (by omega)
    have hA1 : Rect s1.A s1.R.length := rect_delRow hA z
    have hlt1 : ∀ y, y ∈ zs → y < s1.A.length := by
      intro y hy
      have := hp'.1 y hy
      omega
    obtain ⟨c1, c2, c3, c4, c5, c6⟩ := ih s1 hp'.2 hlt1 hL1 hA1
    have hcons : s.delRows (z :: zs) = s1.delRows zs := rfl
    rw [hcons]
    refine ⟨?_, c2, c3, c4, ?_, ?_⟩
    · simp only [List.length_cons]; omega
    · rw [c5]; exact length_delCol _ _
    · intro ρ i l
      rw [c6 ρ i l]
      refine Eq.trans ?_ ((pair_skip_mask s1.A.length z zs (fun k => gR s.L i k * gE ρ s.A k l) (by omega)
        hp'.1).trans (by rw [hlen1]; rfl))
      exact sumN_congr (fun k _ => by simp only [gR, gE, s1, gM_delCol, gM_delRow])

theorem rowRel_eq : RowRel = rowSide.Rel := rfl

/-- The row side: `L` absorbs the inverse operations. -/
theorem rowRelLaws (n : Nat) : rowSide.RelLaws n (fun s zs => zs.length < s.A.length) where
  lines_eq _ := rfl
  bounds hA hR := ⟨hA, hR⟩
  len_le hd hc := ⟨hd, Nat.le_of_eq hc⟩
  keeps_of h hk := hk h.Apos
  congr hL hA hR := ⟨hR, congrArg List.length hL, congrArg List.length hA, congrArg List.length hR,
    fun ρ => by funext i l; simp only [lprod, hL, hA]⟩
  cross_congr ho _ := congrArg List.length ho
  swap s a b ha hb := by
    dsimp only [rowSide] at ha hb ⊢
    exact rowRel_rowSwap n s a b ha hb
  swap_dim _ _ _ := length_rowSwap _ _ _
  add st t s f ht hs hts h := by
    simp only [rowSide_e]
    dsimp only [rowSide] at ht hs ⊢
    exact rowAdd_spec n st t s f ht hs hts h
  mask_nil ρ s x y := by simp [lprodMask, lprod]
  mask_congr h ρ s x y := sumN_mask_congr h _
  mask_zero hz x y := by
    simp only [rowSide_e] at hz
    exact sumN_mask_of_zero fun z hz' => hz z hz' y
  del := by
    intro s zs h hp hlt hk
    dsimp only [rowSide] at hlt hk ⊢
    obtain ⟨c1, c2, c3, c4, c5, c6⟩ := delRows_spec zs s hp hlt h.Lrect h.Arect
    exact ⟨⟨c2, by rw [c4]; exact c3, by rw [c4]; exact h.Rrect, by omega⟩, c4, c5, c1, c6⟩
  par := by
    intro s zs i j h hnes hij hj hiz hjz hm
    dsimp only [rowSide] at hj hm ⊢
    have hi : i < s.A.length := by omega
    refine ⟨⟨rect_colAddFloat h.Lrect _ _ _, h.Arect, h.Rrect, h.Apos⟩, rfl, rfl, length_colAddFloat _ _ _ _,
      rfl, fun ρ x l => ?_⟩
    refine Eq.trans ?_ (pair_merge s.A.length i j _ zs (fun k => gR s.L x k)
      (fun k => gE ρ s.A k l) hi hj (by omega) hiz hjz
      (areParallelRow_sound ρ h.Arect hnes hi hj rfl hm l))
    exact sumN_congr (fun k _ => by rw [gR_colAddFloat s.L s.A.length i j _ h.Lrect hi x k])

theorem rowRel_raise (n : Nat) (s : St) (f : Flag) : RowRel n s (s.raise f) := Side.rel_raise (rowRelLaws n) s f

theorem rowPivot_spec (n : Nat) (i : Nat) (s : St) (hi : i < s.A.length) :
    RowRel n s (rowPivot i s) ∧ (rowPivot i s).A.length = s.A.length := by
  rw [rowPivot_eq, rowRel_eq]
  exact ⟨Side.rel_pivot (rowRelLaws n) i s hi, Side.pivot_dim (rowRelLaws n) i s⟩

/-- Invariant of the `while j < len(matrix)` loop of `row_elimination`: `Side.InnerInv rowSide` written out. -/
structure RowInnerInv (n i : Nat) (s1 : St) (j : Nat) (acc : St × List Nat) : Prop where
  ws : WS n acc.1
  rel : RowRel n s1 acc.1
  len : acc.1.A.length = s1.A.length
  nd : acc.2.Nodup
  zs : ∀ z, z ∈ acc.2 → z < j ∧ z ≠ i ∧ ∀ ρ l, gE ρ acc.1.A z l = 0

theorem rowRel_rowElimStep (n i : Nat) (s : St) (hi : i < s.A.length) :
    RowRel n s (rowElimStep i s) := by
  rw [rowElimStep_eq, rowRel_eq]
  exact Side.rel_elimStep (rowRelLaws n) i s hi

theorem rowRel_rowElimination (n : Nat) (s : St) : RowRel n s (rowElimination s) := by
  rw [rowElimination_eq, rowRel_eq]
  exact Side.rel_elimination (rowRelLaws n) s

theorem rowRel_deparallelizeRows (n : Nat) (s : St) (hnes : NESM s.A) :
    RowRel n s (deparallelizeRows s) := by
  rw [deparallelizeRows_eq, rowRel_eq]
  exact Side.rel_deparallelize (rowRelLaws n) s hnes

end Ptn.C13
