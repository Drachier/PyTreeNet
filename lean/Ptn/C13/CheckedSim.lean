import Ptn.C13.CheckedPrim
import Ptn.C13.Total
/-! Simulation for C13 (core Lean only): along the control flow of `gaussian_elimination` the checked model
(`Checked.lean`, exceptions abort) and the totalised model (`Model.lean`, exceptions are recorded in the
flag and the run goes on) agree on every well-shaped state: the checked run never raises `IndexError`, it
stops with `ZeroDivisionError` / exhausted fuel exactly when the totalised run ends with that flag, and
otherwise returns the same state. -/
namespace Ptn.C13

/-- What a run of the checked model answers when the totalised run ends in `a` with flag `fl`. -/
def flagRes {σ : Type} (fl : Flag) (a : σ) : Chk σ :=
  match fl with
  | .ok => .ok a
  | .zeroDiv => .error .zeroDiv
  | .fuel => .error .fuel

def resG {σ : Type} (fl : σ → Flag) (a : σ) : Chk σ := flagRes (fl a) a

def res (s : St) : Chk St := resG (·.flag) s

/-- For the accumulators `(state, zero lines)` of the inner loops. -/
def resP (p : St × List Nat) : Chk (St × List Nat) := resG (·.1.flag) p

theorem resG_ok {σ : Type} {fl : σ → Flag} {a : σ} (h : fl a = .ok) : resG fl a = .ok a := by
  simp [resG, flagRes, h]

theorem res_ok {s : St} (h : s.flag = .ok) : res s = .ok s := resG_ok h
theorem resP_ok {p : St × List Nat} (h : p.1.flag = .ok) : resP p = .ok p := resG_ok h

/-- `x >>= g` where `x` is the answer for `a`: continue if the flag is unset, else the run has stopped
    and `b` (the totalised continuation) must carry the same flag. -/
theorem resG_bind {σ τ : Type} (fl : σ → Flag) (fl' : τ → Flag) (a : σ) (b : τ) (g : σ → Chk τ)
    (hok : fl a = .ok → g a = resG fl' b) (hst : fl a ≠ .ok → fl' b = fl a) :
    (resG fl a >>= g) = resG fl' b := by
  unfold resG at *
  cases hf : fl a with
  | ok => simp only [flagRes, chk_bind_ok]; exact hok hf
  | zeroDiv =>
    have := hst (by rw [hf]; simp)
    rw [this, hf]; rfl
  | fuel =>
    have := hst (by rw [hf]; simp)
    rw [this, hf]; rfl

theorem foldl_sticky {σ β : Type} (fl : σ → Flag) (f : σ → β → σ)
    (hsticky : ∀ acc x, fl acc ≠ .ok → fl (f acc x) = fl acc) :
    ∀ (l : List β) (s : σ), fl s ≠ .ok → fl (l.foldl f s) = fl s := by
  intro l
  induction l with
  | nil => intro s _; rfl
  | cons x l ih =>
    intro s h
    simp only [List.foldl_cons]
    have h1 := hsticky s x h
    rw [ih _ (by rw [h1]; exact h), h1]

/-- A `for` loop over a range whose body is simulated under an invariant `P`: the loops agree as long as
    the flag is unset, and `P` holds at the end in any case. -/
theorem foldC_range'_sim {σ : Type} (fl : σ → Flag) (fC : σ → Nat → Chk σ) (f : σ → Nat → σ)
    (P : Nat → σ → Prop) (hsticky : ∀ acc x, fl acc ≠ .ok → fl (f acc x) = fl acc) :
    ∀ (m a : Nat) (s0 : σ), P a s0 →
    (∀ j s, a ≤ j → j < a + m → P j s → P (j + 1) (f s j)) →
    (∀ j s, a ≤ j → j < a + m → P j s → fl s = .ok → fC s j = resG fl (f s j)) →
    (fl s0 = .ok → foldC fC s0 (List.range' a m) = resG fl ((List.range' a m).foldl f s0)) ∧
      P (a + m) ((List.range' a m).foldl f s0) := by
  intro m
  induction m with
  | zero => exact fun a s0 hP _ _ => ⟨fun hok => (resG_ok hok).symm, hP⟩
  | succ m ih =>
    intro a s0 hP hstep hsim
    obtain ⟨ih1, ih2⟩ := ih (a + 1) (f s0 a) (hstep a s0 (Nat.le_refl a) (by omega) hP)
      (fun j s h2 h3 => hstep j s (by omega) (by omega)) (fun j s h2 h3 => hsim j s (by omega) (by omega))
    rw [List.range'_succ, List.foldl_cons]
    refine ⟨fun hok => ?_, (by omega : a + 1 + m = a + (m + 1)) ▸ ih2⟩
    rw [foldC_cons, hsim a s0 (Nat.le_refl a) (by omega) hP hok]
    exact resG_bind fl fl (f s0 a) _ _ ih1 (foldl_sticky fl f hsticky _ _)

@[simp] theorem raise_flag_of_ok {s : St} (f : Flag) (h : s.flag = .ok) : (s.raise f).flag = f := by
  simp [St.raise, h]

theorem raise_flag_sticky {s : St} (f : Flag) (h : s.flag ≠ .ok) : (s.raise f).flag = s.flag := by
  simp [St.raise, h]

theorem raise_eq_of_ne {s : St} (f : Flag) (h : s.flag ≠ .ok) : s.raise f = s := by
  simp [St.raise, h]

theorem foldC_range'_ok {σ : Type} (fC : σ → Nat → Chk σ) (f : σ → Nat → σ) (P : Nat → σ → Prop)
    (m a : Nat) (s0 : σ) (h0 : P a s0)
    (hstep : ∀ j s, a ≤ j → j < a + m → P j s → P (j + 1) (f s j))
    (hsim : ∀ j s, a ≤ j → j < a + m → P j s → fC s j = .ok (f s j)) :
    foldC fC s0 (List.range' a m) = .ok ((List.range' a m).foldl f s0) :=
  (foldC_range'_sim (fun _ => Flag.ok) fC f P (fun _ _ h => absurd rfl h) m a s0 h0 hstep
    (fun j s h1 h2 h3 _ => hsim j s h1 h2 h3)).1 rfl

theorem findNzC_ok (get : Nat → Chk Entry) (g : Nat → Entry) : ∀ (l : List Nat),
    (∀ j, j ∈ l → get j = .ok (g j)) → findNzC get l = .ok (l.find? (fun j => !(g j).isZero)) := by
  intro l
  induction l with
  | nil => intro _; rfl
  | cons j js ih =>
    intro h
    simp only [findNzC, h j (by simp), List.find?_cons]
    cases hz : !(g j).isZero with
    | true => simp
    | false => simpa using ih (fun x hx => h x (by simp [hx]))

/-- `rowElimLoopC` and `colElimLoopC` are this loop, over `rowElimStepC` and `colElimStepC`. -/
def elimLoopC (stepC : Nat → St → Chk St) : Nat → Nat → St → Chk St
  | 0, i, s => do
    let w ← widthC s.A
    if i < min s.A.length w then throw .fuel else pure s
  | fuel + 1, i, s => do
    let w ← widthC s.A
    if i < min s.A.length w then do
      let s' ← stepC i s
      elimLoopC stepC fuel (i + 1) s'
    else pure s

theorem rowElimLoopC_eq : ∀ (fuel i : Nat) (s : St), rowElimLoopC fuel i s = elimLoopC rowElimStepC fuel i s := by
  intro fuel
  induction fuel with
  | zero => intro i s; rfl
  | succ fuel ih => intro i s; simp only [rowElimLoopC, elimLoopC, ih]

theorem colElimLoopC_eq : ∀ (fuel j : Nat) (s : St), colElimLoopC fuel j s = elimLoopC colElimStepC fuel j s := by
  intro fuel
  induction fuel with
  | zero => intro j s; rfl
  | succ fuel ih => intro j s; simp only [colElimLoopC, elimLoopC, ih]

/-- The checked counterparts of the operations of a side. -/
structure SideC extends Side where
  linesC : EMat → Chk Nat
  readC : EMat → Nat → Nat → Chk Entry
  swapC : St → Nat → Nat → Chk St
  addC : St → Nat → Nat → Rat → Chk (St × Bool)
  delC : St → List Nat → Chk St
  parC : EMat → Nat → Nat → Chk Rat
  opAddC : St → Nat → Nat → Rat → Chk St

@[reducible] def rowSideC : SideC where
  toSide := rowSide
  linesC A := pure A.length
  readC A k i := gMC A k i
  swapC := St.rowSwapC
  addC := St.rowAddC
  delC := St.delRowsC
  parC A i j := do
    let ri ← getC A i
    let rj ← getC A j
    pure (areParallelRow ri rj)
  opAddC s i j m := do
    let L' ← colAddFloatC s.L i j m
    pure { s with L := L' }

@[reducible] def colSideC : SideC where
  toSide := colSide
  linesC := widthC
  readC A k j := gMC A j k
  swapC := St.colSwapC
  addC := St.colAddC
  delC := St.delColsC
  parC := areParallelColC
  opAddC s i j m := do
    let R' ← rowAddFloatC s.R i j m
    pure { s with R := R' }

namespace SideC
variable (sd : SideC)

def pivotC (i : Nat) (s : St) : Chk St := do
  let d ← sd.readC s.A i i
  if d.isZero then do
    let w ← sd.linesC s.A
    let r ← findNzC (fun j => sd.readC s.A j i) (List.range' (i + 1) (w - (i + 1)))
    match r with
    | some j => sd.swapC s i j
    | none => pure s
  else pure s

def elimInnerC (i : Nat) (pivot : Entry) (acc : St × List Nat) (j : Nat) : Chk (St × List Nat) :=
  if j ≠ i then do
    let e ← sd.readC acc.1.A j i
    if !e.isZero then
      match elimFactor pivot e with
      | none => pure acc
      | some (f, zd) =>
        if zd then throw .zeroDiv
        else do
          let r ← sd.addC acc.1 j i f
          pure (r.1, if r.2 then acc.2 ++ [j] else acc.2)
    else pure acc
  else pure acc

def elimStepC (i : Nat) (s : St) : Chk St := do
  let s1 ← sd.pivotC i s
  let pivot ← sd.readC s1.A i i
  if pivot.isZero then pure s1
  else do
    let w ← sd.linesC s1.A
    let r ← foldC (sd.elimInnerC i pivot) (s1, []) (List.range w)
    sd.delC r.1 (sortDesc r.2)

def eliminationC (s : St) : Chk St := elimLoopC sd.elimStepC s.A.length 0 s

def deparInnerC (A : EMat) (i : Nat) (acc : St × List Nat) (j : Nat) : Chk (St × List Nat) :=
  if j ∈ acc.2 then pure acc
  else do
    let mult ← sd.parC A i j
    if mult ≠ 0 then do
      let s' ← sd.opAddC acc.1 i j mult
      pure (s', acc.2 ++ [j])
    else pure acc

def deparOuterC (A : EMat) (acc : St × List Nat) (i : Nat) : Chk (St × List Nat) :=
  if i ∈ acc.2 then pure acc
  else do
    let w ← sd.linesC A
    foldC (sd.deparInnerC A i) acc (List.range' (i + 1) (w - (i + 1)))

def deparallelizeC (s : St) : Chk St := do
  let w ← sd.linesC s.A
  let r ← foldC (sd.deparOuterC s.A) (s, []) (List.range w)
  sd.delC r.1 (sortDesc r.2)

end SideC

/-! The checked programs of `Checked.lean` are the instances: by `rfl` (`pure x >>= f` reduces to `f x`), except
the two `depar*InnerC_eq`, where the generic program binds an intermediate value that the fixed one does not
name and the monad laws are needed. -/

theorem rowPivotC_eq : rowPivotC = rowSideC.pivotC := by
  funext i s; unfold rowPivotC SideC.pivotC; rfl
theorem colPivotC_eq : colPivotC = colSideC.pivotC := by
  funext j s; unfold colPivotC SideC.pivotC; rfl
theorem rowElimInnerC_eq : rowElimInnerC = rowSideC.elimInnerC := by
  funext i p acc j; unfold rowElimInnerC SideC.elimInnerC; rfl
theorem colElimInnerC_eq : colElimInnerC = colSideC.elimInnerC := by
  funext j p acc i; unfold colElimInnerC SideC.elimInnerC; rfl

theorem rowElimStepC_eq : rowElimStepC = rowSideC.elimStepC := by
  funext i s
  unfold rowElimStepC SideC.elimStepC
  rw [rowPivotC_eq, rowElimInnerC_eq]
  rfl

theorem colElimStepC_eq : colElimStepC = colSideC.elimStepC := by
  funext j s
  unfold colElimStepC SideC.elimStepC
  rw [colPivotC_eq, colElimInnerC_eq]

theorem rowEliminationC_eq : rowEliminationC = rowSideC.eliminationC := by
  funext s
  rw [rowEliminationC, rowElimLoopC_eq, rowElimStepC_eq]
  rfl

theorem columnEliminationC_eq : columnEliminationC = colSideC.eliminationC := by
  funext s
  rw [columnEliminationC, colElimLoopC_eq, colElimStepC_eq]
  rfl

theorem deparRowsInnerC_eq : deparRowsInnerC = rowSideC.deparInnerC := by
  funext A i acc j
  simp only [deparRowsInnerC, SideC.deparInnerC, bind_assoc, pure_bind]

theorem deparColsInnerC_eq : deparColsInnerC = colSideC.deparInnerC := by
  funext A i acc j
  simp only [deparColsInnerC, SideC.deparInnerC, bind_assoc, pure_bind]

theorem deparallelizeRowsC_eq : deparallelizeRowsC = rowSideC.deparallelizeC := by
  funext s
  unfold deparallelizeRowsC SideC.deparallelizeC SideC.deparOuterC
  rw [← deparRowsInnerC_eq]
  rfl

theorem deparallelizeColsC_eq : deparallelizeColsC = colSideC.deparallelizeC := by
  funext s
  unfold deparallelizeColsC SideC.deparallelizeC SideC.deparOuterC
  rw [← deparColsInnerC_eq]
  rfl

/-- On a well-shaped state and inside the bounds each checked primitive raises nothing and returns what its
    totalised twin computes. -/
structure SideC.CheckedLaws (sd : SideC) (n : Nat) : Prop where
  lines_ok : ∀ {s}, WS n s → sd.linesC s.A = .ok (sd.lines s.A)
  read_ok : ∀ {s k i}, WS n s → k < sd.dim s → i < sd.cross s → sd.readC s.A k i = .ok (sd.read s.A k i)
  swap_ok : ∀ {s a b}, WS n s → a < sd.dim s → b < sd.dim s → sd.swapC s a b = .ok (sd.swap s a b)
  add_ok : ∀ {s t u} f, WS n s → t < sd.dim s → u < sd.dim s → sd.addC s t u f = .ok (sd.add s t u f)
  del_ok : ∀ {s zs}, WS n s → List.Pairwise (fun a b => b < a) zs → (∀ z, z ∈ zs → z < sd.dim s) →
    sd.delC s zs = .ok (sd.del s zs)
  par_ok : ∀ {s i j}, WS n s → i < sd.dim s → j < sd.dim s → sd.parC s.A i j = .ok (sd.par s.A i j)
  opAdd_ok : ∀ {s i j} m, WS n s → i < sd.dim s → j < sd.dim s → sd.opAddC s i j m = .ok (sd.opAdd s i j m)

theorem rowCheckedLaws (n : Nat) : rowSideC.CheckedLaws n where
  lines_ok _ := rfl
  read_ok h hk hi := gMC_ok (Entry.num 0) h.Arect hk hi
  swap_ok h ha hb := rowSwapC_ok h.Lrect ha hb
  add_ok f h ht hu := rowAddC_ok f h.Lrect h.Arect ht hu
  del_ok h hp hlt := delRowsC_ok _ _ hp hlt h.Lrect
  par_ok _ hi hj := bind_ok (getC_getD [] hi) (bind_ok (getC_getD [] hj) rfl)
  opAdd_ok m h hi hj := bind_ok (colAddFloatC_ok m h.Lrect hi hj) rfl

theorem colCheckedLaws (n : Nat) : colSideC.CheckedLaws n where
  lines_ok h := widthC_ok h.Apos
  read_ok h hk hi := gMC_ok (Entry.num 0) h.Arect hi hk
  swap_ok h ha hb := colSwapC_ok h.Arect ha hb
  add_ok f h ht hu := colAddC_ok f h.Arect h.Rrect ht hu
  del_ok h hp hlt := delColsC_ok _ _ hp hlt h.Arect
  par_ok h hi hj := areParallelColC_ok h.Arect hi hj
  opAdd_ok m h hi hj := bind_ok (rowAddFloatC_ok m h.Rrect hi hj) rfl

namespace Side
variable {sd : Side}

theorem elimInner_sticky (el : sd.EntryLaws) (i : Nat) (pivot : Entry) (acc : St × List Nat) (j : Nat)
    (h : acc.1.flag ≠ .ok) : (sd.elimInner i pivot acc j).1.flag = acc.1.flag :=
  (el.presFlag acc.1.flag).elimInner (fun _ => trivial) (fun _ h' => (raise_flag_sticky _ (h' ▸ h)).trans h')
    i pivot acc j rfl

theorem elimStep_sticky (el : sd.EntryLaws) (i : Nat) (s : St) (h : s.flag ≠ .ok) :
    (sd.elimStep i s).flag = s.flag :=
  (el.presFlag s.flag).elimStep i s rfl fun _ acc j hacc => (elimInner_sticky el i _ acc j (hacc ▸ h)).trans hacc

theorem elimLoop_sticky {step : Nat → St → St} (hstep : ∀ i s, s.flag ≠ .ok → (step i s).flag = s.flag)
    (fuel i : Nat) (s : St) (h : s.flag ≠ .ok) : (elimLoop step fuel i s).flag = s.flag :=
  elimLoop_inv (fun s' => s'.flag = s.flag) (fun _ h' => (raise_flag_sticky _ (h' ▸ h)).trans h')
    (fun i s' _ h' => (hstep i s' (h' ▸ h)).trans h') fuel i s rfl

theorem elimination_sticky (el : sd.EntryLaws) (s : St) (h : s.flag ≠ .ok) :
    (sd.elimination s).flag = s.flag :=
  elimLoop_sticky (elimStep_sticky el) _ _ s h

end Side

theorem pass_sticky (s : St) (h : s.flag ≠ .ok) : (columnElimination (rowElimination s)).flag = s.flag := by
  rw [rowElimination_eq, columnElimination_eq]
  have h1 := Side.elimination_sticky rowEntryLaws s h
  exact (Side.elimination_sticky colEntryLaws _ (h1 ▸ h)).trans h1

theorem mainLoop_sticky (fuel nr nro nc nco : Nat) (s : St) (h : s.flag ≠ .ok) :
    (mainLoop fuel nr nro nc nco s).flag = s.flag :=
  mainLoop_inv (fun s' => s'.flag = s.flag) (fun _ h' => (raise_flag_sticky _ (h' ▸ h)).trans h')
    (fun s' h' => (pass_sticky s' (h' ▸ h)).trans h') fuel nr nro nc nco s rfl

/-- The two loops agree for any fuels that suffice, when the passes agree, keep the shape, do not let
    `min(rows, cols)` grow and leave a set flag alone. -/
theorem elimLoopC_sim (n : Nat) {stepC : Nat → St → Chk St} {step : Nat → St → St}
    (hsim : ∀ i s, WS n s → s.flag = .ok → i < s.A.length → i < s.R.length → stepC i s = res (step i s))
    (hws : ∀ i s, WS n s → i < s.A.length → i < s.R.length →
      WS n (step i s) ∧ min (step i s).A.length (step i s).R.length ≤ min s.A.length s.R.length)
    (hsticky : ∀ i s, s.flag ≠ .ok → (step i s).flag = s.flag) :
    ∀ (fuelC fuelT i : Nat) (s : St), WS n s → s.flag = .ok →
    min s.A.length s.R.length ≤ fuelT + i → min s.A.length s.R.length ≤ fuelC + i →
    elimLoopC stepC fuelC i s = res (elimLoop step fuelT i s) := by
  have stop : ∀ (fuelT i : Nat) (s : St), WS n s → s.flag = .ok → ¬ i < min s.A.length s.R.length →
      Except.ok s = res (elimLoop step fuelT i s) := by
    intro fuelT i s hws hok hc
    rw [← width_eq hws] at hc
    cases fuelT <;> (unfold elimLoop; rw [if_neg hc]; exact (res_ok hok).symm)
  intro fuelC
  induction fuelC with
  | zero =>
    intro fuelT i s hws0 hok _ hC
    have hc : ¬ i < min s.A.length s.R.length := by omega
    unfold elimLoopC
    simp only [widthC_ok hws0.Apos, chk_bind_ok, width_eq hws0, hc, if_false, chk_pure]
    exact stop fuelT i s hws0 hok hc
  | succ fuelC ih =>
    intro fuelT i s hws0 hok hT hC
    unfold elimLoopC
    simp only [widthC_ok hws0.Apos, chk_bind_ok, width_eq hws0]
    by_cases hc : i < min s.A.length s.R.length
    · cases fuelT with
      | zero => omega
      | succ fuelT =>
        have hi := Nat.lt_of_lt_of_le hc (Nat.min_le_left _ _)
        have hiw := Nat.lt_of_lt_of_le hc (Nat.min_le_right _ _)
        unfold elimLoop
        rw [width_eq hws0, if_pos hc, if_pos hc, hsim i s hws0 hok hi hiw]
        obtain ⟨ws1, hm⟩ := hws i s hws0 hi hiw
        refine resG_bind St.flag St.flag _ _ _ (fun h1 => ?_) (Side.elimLoop_sticky hsticky _ _ _)
        exact ih fuelT (i + 1) _ ws1 h1 (by omega) (by omega)
    · rw [if_neg hc]
      exact stop fuelT i s hws0 hok hc

namespace SideC
variable {sd : SideC} {n : Nat} {keeps : St → List Nat → Prop}

theorem pivotC_ok (law : sd.toSide.RelLaws n keeps) (lawC : sd.CheckedLaws n) (i : Nat) (s : St) (hws : WS n s)
    (hi : i < sd.dim s) (hic : i < sd.cross s) : sd.pivotC i s = .ok (sd.pivot i s) := by
  refine bind_ok (lawC.read_ok hws hi hic) ?_
  unfold Side.pivot
  cases (sd.read s.A i i).isZero with
  | false => rfl
  | true =>
    refine bind_ok (lawC.lines_ok hws) (bind_ok (findNzC_ok _ (fun j => sd.read s.A j i) _ fun j hj =>
      lawC.read_ok hws (by have := List.mem_range'_1.mp hj; rw [law.lines_eq hws] at this; omega) hic) ?_)
    cases hf : (List.range' (i + 1) (sd.lines s.A - (i + 1))).find?
        (fun j => !(sd.read s.A j i).isZero) with
    | none => rfl
    | some j =>
      have := List.mem_range'_1.mp (List.mem_of_find?_eq_some hf)
      rw [law.lines_eq hws] at this
      exact lawC.swap_ok hws hi (by omega)

theorem elimInnerC_sim (el : sd.EntryLaws) {acc : St × List Nat} (hok : acc.1.flag = .ok) (i : Nat)
    (pivot : Entry) (j : Nat) (hread : j ≠ i → sd.readC acc.1.A j i = .ok (sd.read acc.1.A j i))
    (hadd : ∀ f, sd.addC acc.1 j i f = .ok (sd.add acc.1 j i f)) :
    sd.elimInnerC i pivot acc j = resP (sd.elimInner i pivot acc j) := by
  unfold elimInnerC Side.elimInner
  by_cases hc : j ≠ i
  · simp only [ne_eq, hc, not_false_eq_true, true_and, if_true, hread hc, chk_bind_ok]
    generalize sd.read acc.1.A j i = e
    cases e.isZero with
    | true => exact (resP_ok hok).symm
    | false =>
      cases elimFactor pivot e with
      | none => exact (resP_ok hok).symm
      | some p =>
        obtain ⟨f, zd⟩ := p
        cases zd with
        | true =>
          -- the checked run stops; the totalised one raises the flag and goes on
          show Except.error Err.zeroDiv = flagRes (sd.add (acc.1.raise .zeroDiv) j i f).1.flag _
          rw [el.add_flag, raise_flag_of_ok _ hok]
          rfl
        | false =>
          show (sd.addC acc.1 j i f >>= fun r => pure (r.1, if r.2 then acc.2 ++ [j] else acc.2)) = _
          rw [hadd f]
          exact (resP_ok ((el.add_flag _ _ _ _).trans hok)).symm
  · simp only [hc, false_and, if_false]
    exact (resP_ok hok).symm

theorem elimInnerC_ok (law : sd.toSide.RelLaws n keeps) (el : sd.EntryLaws) (lawC : sd.CheckedLaws n) (i : Nat)
    (pivot : Entry) (s1 : St) (hws1 : WS n s1) (hi : i < sd.dim s1) (hic : i < sd.cross s1) (j : Nat)
    (acc : St × List Nat) (hj : j < sd.dim s1) (h : Side.InnerInv sd.toSide n i s1 j acc)
    (hok : acc.1.flag = .ok) : sd.elimInnerC i pivot acc j = resP (sd.elimInner i pivot acc j) := by
  have hj' : j < sd.dim acc.1 := h.len ▸ hj
  have hi' : i < sd.dim acc.1 := h.len ▸ hi
  obtain ⟨_, ho, hp, _⟩ := h.rel hws1
  exact elimInnerC_sim el hok i pivot j
    (fun _ => lawC.read_ok h.ws hj' (law.cross_congr ho hp ▸ hic)) (fun f => lawC.add_ok f h.ws hj' hi')

theorem elimStepC_sim (law : sd.toSide.RelLaws n keeps) (el : sd.EntryLaws) (lawC : sd.CheckedLaws n) (i : Nat)
    (s : St) (hws : WS n s) (hi : i < sd.dim s) (hic : i < sd.cross s) (hok : s.flag = .ok) :
    sd.elimStepC i s = res (sd.elimStep i s) := by
  obtain ⟨ws1, po, pp, _, _⟩ := Side.rel_pivot law i s hi hws
  have p2 := Side.pivot_dim law i s
  have hok1 : (sd.pivot i s).flag = .ok := (Side.pivot_flag el i s).trans hok
  unfold elimStepC Side.elimStep
  simp only [pivotC_ok law lawC i s hws hi hic, chk_bind_ok]
  generalize sd.pivot i s = s1 at ws1 po pp p2 hok1 ⊢
  have hi1 : i < sd.dim s1 := p2 ▸ hi
  have hic1 : i < sd.cross s1 := law.cross_congr po pp ▸ hic
  simp only [lawC.read_ok ws1 hi1 hic1, chk_bind_ok]
  generalize sd.read s1.A i i = pivot
  split
  · exact (res_ok hok1).symm
  · simp only [lawC.lines_ok ws1, chk_bind_ok, law.lines_eq ws1]
    obtain ⟨sim, inv⟩ := foldC_range'_sim (σ := St × List Nat) (·.1.flag) (sd.elimInnerC i pivot)
      (sd.elimInner i pivot) (Side.InnerInv sd.toSide n i s1)
      (fun acc x hx => Side.elimInner_sticky el i _ acc x hx)
      (sd.dim s1) 0 (s1, []) ⟨ws1, Side.Rel.refl _ n _, rfl, List.nodup_nil, fun _ hz => (nomatch hz)⟩
      (fun j acc _ hj hinv => Side.elimInner_inv law i _ s1 hi1 j acc (by omega) hinv)
      (fun j acc _ hj hinv hf => elimInnerC_ok law el lawC i _ s1 ws1 hi1 hic1 j acc (by omega) hinv hf)
    rw [Nat.zero_add] at inv
    rw [List.range_eq_range', sim hok1]
    generalize (List.range' 0 (sd.dim s1)).foldl (sd.elimInner i pivot) (s1, []) = r at inv
    refine resG_bind (fun x : St × List Nat => x.1.flag) St.flag r _ _ (fun hr => ?_) (fun _ => el.del_flag _ _)
    rw [lawC.del_ok inv.ws (pairwise_sortDesc inv.nd)
      (fun z hz => by rw [inv.len]; exact (inv.zs z (mem_sortDesc.mp hz)).1)]
    exact (resG_ok ((el.del_flag _ _).trans hr)).symm

theorem eliminationC_sim (law : sd.toSide.RelLaws n keeps) (el : sd.EntryLaws) (lawC : sd.CheckedLaws n) (s : St)
    (hws : WS n s) (hok : s.flag = .ok) : sd.eliminationC s = res (sd.elimination s) :=
  elimLoopC_sim n
    (fun i s hws hok hA hR =>
      elimStepC_sim law el lawC i s hws (law.bounds hA hR).1 (law.bounds hA hR).2 hok)
    (fun i s hws hA hR => (Side.ws_elimStep law hws (law.bounds hA hR).1).imp_right min_le_min_of_le)
    (Side.elimStep_sticky el) _ _ 0 s hws hok
    (Nat.le_of_eq (by rw [width_eq hws]; rfl)) (Nat.min_le_left _ _)

theorem deparInnerC_ok (lawC : sd.CheckedLaws n) (s : St) (i j : Nat) (hij : i < j) (hj : j < sd.dim s)
    (acc : St × List Nat) (h : Side.DeparInv sd.toSide n s acc) :
    sd.deparInnerC s.A i acc j = .ok (sd.deparInner s.A i acc j) := by
  have hj' : j < sd.dim acc.1 := h.dim ▸ hj
  have hi' : i < sd.dim acc.1 := Nat.lt_trans hij hj'
  -- both sides are the same tests; the right one has `.ok` outside
  simp only [deparInnerC, Side.deparInner, ← h.hA, lawC.par_ok h.ws hi' hj', chk_bind_ok,
    lawC.opAdd_ok _ h.ws hi' hj', chk_pure, apply_ite (Except.ok (ε := Err))]

theorem deparOuterC_ok (law : sd.toSide.RelLaws n keeps) (lawC : sd.CheckedLaws n) (s : St) (hws : WS n s)
    (hnes : NESM s.A) (i : Nat) (acc : St × List Nat) (h : Side.DeparInv sd.toSide n s acc) :
    sd.deparOuterC s.A acc i = .ok (sd.deparOuter s.A acc i) := by
  unfold deparOuterC Side.deparOuter
  split
  · rfl
  · rename_i hiz
    simp only [lawC.lines_ok hws, chk_bind_ok, law.lines_eq hws]
    exact foldC_range'_ok (sd.deparInnerC s.A i) (sd.deparInner s.A i)
      (fun _ acc => Side.DeparInv sd.toSide n s acc ∧ i ∉ acc.2) _ _ acc ⟨h, hiz⟩
      (fun j acc h1 h2 hp => Side.deparInner_inv law s hnes i j (by omega) (by omega) acc hp)
      (fun j acc h1 h2 hp => deparInnerC_ok lawC s i j (by omega) (by omega) acc hp.1)

theorem deparallelizeC_ok (law : sd.toSide.RelLaws n keeps) (lawC : sd.CheckedLaws n) (s : St) (hws : WS n s)
    (hnes : NESM s.A) : sd.deparallelizeC s = .ok (sd.deparallelize s) := by
  have hfold := foldC_range'_ok (sd.deparOuterC s.A) (sd.deparOuter s.A)
    (fun _ acc => Side.DeparInv sd.toSide n s acc) (sd.lines s.A) 0 (s, []) (Side.deparInv_init law s hws)
    (fun i acc _ _ hp => Side.deparOuter_inv law s hws hnes i acc hp)
    (fun i acc _ _ hp => deparOuterC_ok law lawC s hws hnes i acc hp)
  have inv := Side.depar_loop_inv law s hws hnes
  rw [← List.range_eq_range'] at hfold
  unfold deparallelizeC Side.deparallelize
  simp only [lawC.lines_ok hws, hfold, chk_bind_ok]
  generalize (List.range (sd.lines s.A)).foldl (sd.deparOuter s.A) (s, []) = r at inv
  obtain ⟨d1, d2, _⟩ := inv.del law
  exact lawC.del_ok inv.ws d1 d2

end SideC

theorem rowEliminationC_sim (n : Nat) (s : St) (hws : WS n s) (hok : s.flag = .ok) :
    rowEliminationC s = res (rowElimination s) := by
  rw [rowEliminationC_eq, rowElimination_eq]
  exact SideC.eliminationC_sim (rowRelLaws n) rowEntryLaws (rowCheckedLaws n) s hws hok

theorem columnEliminationC_sim (n : Nat) (s : St) (hws : WS n s) (hok : s.flag = .ok) :
    columnEliminationC s = res (columnElimination s) := by
  rw [columnEliminationC_eq, columnElimination_eq]
  exact SideC.eliminationC_sim (colRelLaws n) colEntryLaws (colCheckedLaws n) s hws hok

theorem deparallelizeRowsC_ok (n : Nat) (s : St) (hws : WS n s) (hnes : NESM s.A) :
    deparallelizeRowsC s = .ok (deparallelizeRows s) := by
  rw [deparallelizeRowsC_eq, deparallelizeRows_eq]
  exact SideC.deparallelizeC_ok (rowRelLaws n) (rowCheckedLaws n) s hws hnes

theorem deparallelizeColsC_ok (n : Nat) (s : St) (hws : WS n s) (hnes : NESM s.A) :
    deparallelizeColsC s = .ok (deparallelizeCols s) := by
  rw [deparallelizeColsC_eq, deparallelizeCols_eq]
  exact SideC.deparallelizeC_ok (colRelLaws n) (colCheckedLaws n) s hws hnes

theorem mainLoopC_stop (fuel nr nro nc nco : Nat) (s : St) (h : ¬ (nr ≠ nro ∨ nc ≠ nco)) :
    mainLoopC fuel nr nro nc nco s = .ok s := by
  cases fuel with
  | zero => unfold mainLoopC; simp only [h, if_false, chk_pure]
  | succ fuel => unfold mainLoopC; simp only [h, if_false, chk_pure]

/-- The fixed-point loops agree for any two sufficient fuels: one round is the row elimination, the column
    elimination and the rest of the loop, each continued through `resG_bind` (a flag set on the way is what both
    runs answer). -/
theorem mainLoopC_sim (n : Nat) : ∀ (fuelC fuelT nr nro nc nco : Nat) (s : St), WS n s → s.flag = .ok →
    s.A.length ≤ nr → s.R.length ≤ nc → nr + nc < fuelT → nr + nc < fuelC →
    mainLoopC fuelC nr nro nc nco s = res (mainLoop fuelT nr nro nc nco s) := by
  intro fuelC
  induction fuelC with
  | zero => intro fuelT nr nro nc nco s _ _ _ _ _ hC; omega
  | succ fuelC ih =>
    intro fuelT nr nro nc nco s hws hok hnr hnc hT hC
    cases fuelT with
    | zero => omega
    | succ fuelT =>
      by_cases hc : nr ≠ nro ∨ nc ≠ nco
      · unfold mainLoopC mainLoop
        simp only [hc, if_true]
        obtain ⟨ws1, _⟩ := rowRel_rowElimination n s hws
        obtain ⟨ws2, hA, hR⟩ := ws_pass hws
        rw [rowEliminationC_sim n s hws hok]
        refine resG_bind St.flag St.flag _ _ _ ?_ ?_
        · intro h1
          rw [columnEliminationC_sim n _ ws1 h1]
          refine resG_bind St.flag St.flag _ _ _ ?_ ?_
          · intro h2
            simp only [widthC_ok ws2.Apos, chk_bind_ok, width_eq ws2]
            by_cases hgo : (columnElimination (rowElimination s)).A.length ≠ nr
                ∨ (columnElimination (rowElimination s)).R.length ≠ nc
            · exact ih fuelT _ _ _ _ _ ws2 h2 (Nat.le_refl _) (Nat.le_refl _)
                (fuel_pass (Nat.le_trans hA hnr) (Nat.le_trans hR hnc) hgo hT)
                (fuel_pass (Nat.le_trans hA hnr) (Nat.le_trans hR hnc) hgo hC)
            · rw [mainLoopC_stop _ _ _ _ _ _ hgo, mainLoop_stop _ _ _ _ _ _ hgo]
              exact (res_ok h2).symm
          · intro h2
            exact mainLoop_sticky _ _ _ _ _ _ h2
        · intro h1
          have h2 : (columnElimination (rowElimination s)).flag = (rowElimination s).flag := by
            rw [columnElimination_eq]
            exact Side.elimination_sticky colEntryLaws _ h1
          rw [mainLoop_sticky _ _ _ _ _ _ (by rw [h2]; exact h1), h2]
      · rw [mainLoopC_stop _ _ _ _ _ _ hc, mainLoop_stop _ _ _ _ _ _ hc]
        exact (res_ok hok).symm

theorem width_le_sum : ∀ (M : EMat) (n : Nat), Rect M n → 0 < M.length → n ≤ (M.map List.length).sum := by
  intro M n h hp
  cases M with
  | nil => simp at hp
  | cons r rest =>
    have := h r (by simp)
    simp only [List.map_cons, List.sum_cons]
    omega

/-- On every rectangular matrix with at least one row (no empty symbol) the checked run and the totalised
    run agree: same state, or both stop for the same reason; never `IndexError`. -/
theorem gaussStC_eq (M : EMat) (n : Nat) (hpos : 0 < M.length) (hrect : Rect M n) (hnes : NESM M) :
    gaussStC M = res (gaussSt M) := by
  unfold gaussStC gaussSt
  simp only [widthC_ok hpos, chk_bind_ok, width_of_rect hrect hpos]
  obtain ⟨hnes1, g1, g2⟩ := good_depar M n hpos hrect hnes
  rw [deparallelizeRowsC_ok n _ (good_init M n hpos hrect).ws hnes]
  simp only [chk_bind_ok]
  rw [deparallelizeColsC_ok n _ g1.ws hnes1]
  simp only [chk_bind_ok]
  apply mainLoopC_sim n _ _ _ _ _ _ _ g2.ws
  · exact (Side.deparallelize_flag colEntryLaws _).trans (Side.deparallelize_flag rowEntryLaws _)
  · exact g2.rows_le
  · exact g2.cols_le
  · omega
  · have := width_le_sum M n hrect hpos
    unfold mainFuel
    omega

end Ptn.C13
