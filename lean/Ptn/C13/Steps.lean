import Ptn.C13.EntryLemmas
import Ptn.Common.List
/-! What every paired operation of a side keeps (core Lean only): the shape, the operator of the other side and
the product of `A` with the side's own operator.  `Side.RelLaws` says this of the primitives (swap, addition,
deletion, operator update); from it the pivot search, a pass of the elimination, the elimination and the
de-parallelisation are shown to keep the same, once for both sides. -/
namespace Ptn.C13

/-- Well-shapedness of a state: `L` is `? × p`, `A` is `p × q`, `R` is `q × n`, `p ≥ 1`. -/
structure WS (n : Nat) (s : St) : Prop where
  Lrect : Rect s.L s.A.length
  Arect : Rect s.A s.R.length
  Rrect : Rect s.R n
  Apos : 0 < s.A.length

theorem WS.same {n : Nat} {s s' : St} (h : WS n s) (hA : s'.A.length = s.A.length) (hR : s'.R.length = s.R.length)
    (rL : Rect s'.L s.A.length) (rA : Rect s'.A s.R.length) (rR : Rect s'.R n) : WS n s' :=
  ⟨hA ▸ rL, hR ▸ rA, rR, hA ▸ h.Apos⟩

theorem ws_of_eq {n : Nat} {s s' : St} (hL : s'.L = s.L) (hA : s'.A = s.A) (hR : s'.R = s.R) (h : WS n s) : WS n s' :=
  ⟨by rw [hL, hA]; exact h.Lrect, by rw [hA, hR]; exact h.Arect, by rw [hR]; exact h.Rrect,
    by rw [hA]; exact h.Apos⟩

theorem ws_raise {n : Nat} {s : St} (f : Flag) (h : WS n s) : WS n (s.raise f) :=
  ws_of_eq (raise_L s f) (raise_A s f) (raise_R s f) h

theorem width_eq {n : Nat} {s : St} (h : WS n s) : width s.A = s.R.length :=
  width_of_rect h.Arect h.Apos

theorem mem_sortDesc {zs : List Nat} {k : Nat} : k ∈ sortDesc zs ↔ k ∈ zs :=
  (List.mergeSort_perm zs _).mem_iff

theorem length_sortDesc (zs : List Nat) : (sortDesc zs).length = zs.length :=
  (List.mergeSort_perm zs _).length_eq

theorem pairwise_sortDesc {zs : List Nat} (hnd : zs.Nodup) :
    List.Pairwise (fun a b => b < a) (sortDesc zs) := by
  have h1 : List.Pairwise (fun a b => (decide (b ≤ a)) = true) (sortDesc zs) := by
    apply List.pairwise_mergeSort
    · intro a b c hab hbc
      simp only [decide_eq_true_eq] at *
      omega
    · intro a b
      simp only [Bool.or_eq_true, decide_eq_true_eq]
      omega
  have h2 : (sortDesc zs).Nodup := (List.mergeSort_perm zs _).nodup_iff.mpr hnd
  have h3 := List.Pairwise.and h1 h2
  refine h3.imp ?_
  intro a b hab
  simp only [decide_eq_true_eq] at hab
  omega

theorem foldl_range_inv {σ : Type} (f : σ → Nat → σ) (P : Nat → σ → Prop) (n : Nat) (s0 : σ)
    (h0 : P 0 s0) (hstep : ∀ j s, j < n → P j s → P (j + 1) (f s j)) :
    P n ((List.range n).foldl f s0) := by
  induction n with
  | zero => simpa using h0
  | succ n ih =>
    rw [List.range_succ, List.foldl_append]
    simp only [List.foldl_cons, List.foldl_nil]
    exact hstep n _ (Nat.lt_succ_self n) (ih (fun j s hj hp => hstep j s (Nat.lt_succ_of_lt hj) hp))

theorem length_lt_of_not_mem {n a : Nat} {zs : List Nat} (hnd : zs.Nodup) (hlt : ∀ z, z ∈ zs → z < n)
    (ha : a < n) (hm : a ∉ zs) : zs.length < n :=
  nodup_lt_length_le (List.nodup_cons.mpr ⟨hm, hnd⟩) fun z hz => by
    rcases List.mem_cons.mp hz with hz | hz
    · exact hz ▸ ha
    · exact hlt z hz

namespace Side

/-- If `s` is well-shaped (nothing is said otherwise): `s'` is too, has the same operator on the other side,
    no more lines, and the same product of `A` with the side's own operator. -/
def Rel (sd : Side) (n : Nat) (s s' : St) : Prop :=
  WS n s → WS n s' ∧ sd.other s' = sd.other s ∧ sd.prows s' = sd.prows s ∧ sd.dim s' ≤ sd.dim s ∧
    ∀ ρ x y, sd.prod ρ s' x y = sd.prod ρ s x y

/-- What is used of the primitives of a side.  `WS` asks `A` for a row but `R` for none, so a deletion of rows
    has a condition that a deletion of columns has not; `keeps s zs` is that condition (`zs.length < A.length`
    on the row side, `True` on the column side).  `bounds`, `len_le`, `congr`, `cross_congr` only carry facts
    about `A.length`, `R.length` and the state in and out of the record. -/
structure RelLaws (sd : Side) (n : Nat) (keeps : St → List Nat → Prop) : Prop where
  lines_eq : ∀ {s}, WS n s → sd.lines s.A = sd.dim s
  bounds : ∀ {s i}, i < s.A.length → i < s.R.length → i < sd.dim s ∧ i < sd.cross s
  len_le : ∀ {s s' : St}, sd.dim s' ≤ sd.dim s → sd.cross s' = sd.cross s →
    s'.A.length ≤ s.A.length ∧ s'.R.length ≤ s.R.length
  keeps_of : ∀ {s zs}, WS n s → (0 < sd.dim s → zs.length < sd.dim s) → keeps s zs
  congr : ∀ {s s' : St}, s'.L = s.L → s'.A = s.A → s'.R = s.R →
    sd.other s' = sd.other s ∧ sd.prows s' = sd.prows s ∧ sd.dim s' = sd.dim s ∧ sd.cross s' = sd.cross s ∧
      ∀ ρ, sd.prod ρ s' = sd.prod ρ s
  cross_congr : ∀ {s s' : St}, sd.other s' = sd.other s → sd.prows s' = sd.prows s → sd.cross s' = sd.cross s
  swap : ∀ s a b, a < sd.dim s → b < sd.dim s → sd.Rel n s (sd.swap s a b)
  swap_dim : ∀ s a b, sd.dim (sd.swap s a b) = sd.dim s
  add : ∀ st t s f, t < sd.dim st → s < sd.dim st → t ≠ s → WS n st →
    sd.Rel n st (sd.add st t s f).1 ∧ sd.dim (sd.add st t s f).1 = sd.dim st ∧
    (∀ ρ k y, k ≠ t → sd.e ρ (sd.add st t s f).1.A k y = sd.e ρ st.A k y) ∧
    ((sd.add st t s f).2 = true → ∀ ρ y, sd.e ρ (sd.add st t s f).1.A t y = 0)
  mask_nil : ∀ ρ s x y, sd.mask ρ [] s x y = sd.prod ρ s x y
  mask_congr : ∀ {zs zs' : List Nat}, (∀ k, k ∈ zs ↔ k ∈ zs') →
    ∀ ρ s x y, sd.mask ρ zs s x y = sd.mask ρ zs' s x y
  mask_zero : ∀ {ρ s zs}, (∀ z, z ∈ zs → ∀ y, sd.e ρ s.A z y = 0) → ∀ x y, sd.mask ρ zs s x y = sd.prod ρ s x y
  del : ∀ {s : St} {zs : List Nat}, WS n s → List.Pairwise (fun a b => b < a) zs →
    (∀ z, z ∈ zs → z < sd.dim s) → keeps s zs →
    WS n (sd.del s zs) ∧ sd.other (sd.del s zs) = sd.other s ∧ sd.prows (sd.del s zs) = sd.prows s ∧
    sd.dim (sd.del s zs) + zs.length = sd.dim s ∧
    ∀ ρ x y, sd.prod ρ (sd.del s zs) x y = sd.mask ρ zs s x y
  par : ∀ {s : St} {zs : List Nat} {i j : Nat}, WS n s → NESM s.A → i < j → j < sd.dim s →
    i ∉ zs → j ∉ zs → sd.par s.A i j ≠ 0 →
    WS n (sd.opAdd s i j (sd.par s.A i j)) ∧ (sd.opAdd s i j (sd.par s.A i j)).A = s.A ∧
    sd.other (sd.opAdd s i j (sd.par s.A i j)) = sd.other s ∧
    sd.prows (sd.opAdd s i j (sd.par s.A i j)) = sd.prows s ∧
    sd.dim (sd.opAdd s i j (sd.par s.A i j)) = sd.dim s ∧
    ∀ ρ x y, sd.mask ρ (zs ++ [j]) (sd.opAdd s i j (sd.par s.A i j)) x y = sd.mask ρ zs s x y

variable {sd : Side} {n : Nat} {keeps : St → List Nat → Prop}

theorem Rel.refl (sd : Side) (n : Nat) (s : St) : sd.Rel n s s :=
  fun h => ⟨h, rfl, rfl, Nat.le_refl _, fun _ _ _ => rfl⟩

theorem Rel.trans {s1 s2 s3 : St} (h12 : sd.Rel n s1 s2) (h23 : sd.Rel n s2 s3) : sd.Rel n s1 s3 := by
  intro h1
  obtain ⟨w2, r2, l2, a2, p2⟩ := h12 h1
  obtain ⟨w3, r3, l3, a3, p3⟩ := h23 w2
  exact ⟨w3, r3.trans r2, l3.trans l2, Nat.le_trans a3 a2, fun ρ i l => (p3 ρ i l).trans (p2 ρ i l)⟩

theorem rel_of_eq (law : sd.RelLaws n keeps) {s s' : St} (hL : s'.L = s.L) (hA : s'.A = s.A)
    (hR : s'.R = s.R) : sd.Rel n s s' := fun h =>
  let ⟨c1, c2, c3, _, c5⟩ := law.congr hL hA hR
  ⟨ws_of_eq hL hA hR h, c1, c2, Nat.le_of_eq c3, fun ρ x y => by rw [c5 ρ]⟩

theorem rel_raise (law : sd.RelLaws n keeps) (s : St) (f : Flag) : sd.Rel n s (s.raise f) :=
  rel_of_eq law (raise_L s f) (raise_A s f) (raise_R s f)

theorem rel_del_zero (law : sd.RelLaws n keeps) (s : St) (zs : List Nat) (hnd : zs.Nodup)
    (hlt : ∀ z, z ∈ zs → z < sd.dim s) (hkeep : keeps s (sortDesc zs))
    (hz : ∀ ρ z, z ∈ zs → ∀ y, sd.e ρ s.A z y = 0) : sd.Rel n s (sd.del s (sortDesc zs)) := by
  intro h
  obtain ⟨c1, c2, c3, c4, c5⟩ := law.del h (pairwise_sortDesc hnd)
    (fun z hz' => hlt z (mem_sortDesc.mp hz')) hkeep
  refine ⟨c1, c2, c3, Nat.le.intro c4, fun ρ x y => ?_⟩
  rw [c5 ρ x y]
  exact law.mask_zero (fun z hz' => hz ρ z (mem_sortDesc.mp hz')) x y

theorem pivot_dim (law : sd.RelLaws n keeps) (i : Nat) (s : St) : sd.dim (sd.pivot i s) = sd.dim s := by
  unfold pivot
  split
  · split
    · exact law.swap_dim _ _ _
    · rfl
  · rfl

theorem rel_pivot (law : sd.RelLaws n keeps) (i : Nat) (s : St) (hi : i < sd.dim s) :
    sd.Rel n s (sd.pivot i s) := by
  intro hws
  unfold pivot
  split
  · split
    · rename_i j hj
      have hm := List.mem_of_find?_eq_some hj
      simp only [List.mem_range'_1, law.lines_eq hws] at hm
      exact law.swap s i j hi (by omega) hws
    · exact Rel.refl sd n s hws
  · exact Rel.refl sd n s hws

/-- Invariant of the inner loop of an elimination with pivot line `i`, started in `s1`, before line `j`: the
    lines recorded so far are zero lines other than the pivot line. -/
structure InnerInv (sd : Side) (n i : Nat) (s1 : St) (j : Nat) (acc : St × List Nat) : Prop where
  ws : WS n acc.1
  rel : sd.Rel n s1 acc.1
  len : sd.dim acc.1 = sd.dim s1
  nd : acc.2.Nodup
  zs : ∀ z, z ∈ acc.2 → z < j ∧ z ≠ i ∧ ∀ ρ y, sd.e ρ acc.1.A z y = 0

theorem elimInner_inv (law : sd.RelLaws n keeps) (i : Nat) (pivot : Entry) (s1 : St) (hi : i < sd.dim s1)
    (j : Nat) (acc : St × List Nat) (hj : j < sd.dim s1) (h : InnerInv sd n i s1 j acc) :
    InnerInv sd n i s1 (j + 1) (sd.elimInner i pivot acc j) := by
  have keep : InnerInv sd n i s1 (j + 1) acc :=
    ⟨h.ws, h.rel, h.len, h.nd, fun z hz => ⟨by have := (h.zs z hz).1; omega, (h.zs z hz).2⟩⟩
  refine elimInner_cases sd (Q := InnerInv sd n i s1 (j + 1)) i pivot acc j keep (fun f zd hji _ _ => ?_)
  -- the state the addition starts from (possibly with the flag raised)
  generalize hst : (if zd = true then acc.1.raise Flag.zeroDiv else acc.1) = st'
  have hL : st'.L = acc.1.L := by subst hst; split <;> simp
  have hA : st'.A = acc.1.A := by subst hst; split <;> simp
  have hR : st'.R = acc.1.R := by subst hst; split <;> simp
  have hrel' : sd.Rel n acc.1 st' := rel_of_eq law hL hA hR
  have ws' : WS n st' := (hrel' h.ws).1
  have hdim : sd.dim st' = sd.dim acc.1 := (law.congr hL hA hR).2.2.1
  have hj' : j < sd.dim st' := by rw [hdim, h.len]; exact hj
  have hi' : i < sd.dim st' := by rw [hdim, h.len]; exact hi
  obtain ⟨r1, r2, r3, r4⟩ := law.add st' j i f hj' hi' hji ws'
  have old : ∀ z, z ∈ acc.2 → z < j + 1 ∧ z ≠ i ∧ ∀ ρ y, sd.e ρ (sd.add st' j i f).1.A z y = 0 := by
    intro z hz
    obtain ⟨z1, z2, z3⟩ := h.zs z hz
    refine ⟨by omega, z2, fun ρ y => ?_⟩
    rw [r3 ρ z y (by omega), hA]
    exact z3 ρ y
  refine ⟨(r1 ws').1, (h.rel.trans hrel').trans r1, by rw [r2, hdim, h.len], ?_, ?_⟩
  · show (if (sd.add st' j i f).2 = true then acc.2 ++ [j] else acc.2).Nodup
    split
    · exact nodup_snoc h.nd (fun hm => Nat.lt_irrefl j (h.zs j hm).1)
    · exact h.nd
  · show ∀ z, z ∈ (if (sd.add st' j i f).2 = true then acc.2 ++ [j] else acc.2) → _
    intro z hz
    split at hz
    · rename_i hzero
      rcases List.mem_append.mp hz with hz | hz
      · exact old z hz
      · rw [List.mem_singleton.mp hz]
        exact ⟨by omega, hji, fun ρ y => r4 hzero ρ y⟩
    · exact old z hz

theorem elimFold_inv (law : sd.RelLaws n keeps) (i : Nat) (pivot : Entry) (s1 : St) (hws : WS n s1)
    (hi : i < sd.dim s1) :
    InnerInv sd n i s1 (sd.dim s1) ((List.range (sd.dim s1)).foldl (sd.elimInner i pivot) (s1, [])) :=
  foldl_range_inv (sd.elimInner i pivot) (InnerInv sd n i s1) (sd.dim s1) (s1, [])
    ⟨hws, Rel.refl sd n _, rfl, List.nodup_nil, fun _ hz => (nomatch hz)⟩
    (fun j acc hj hinv => elimInner_inv law i pivot s1 hi j acc hj hinv)

/-- The lines recorded by the inner loop can be deleted: the pivot line is not among them. -/
theorem InnerInv.del (law : sd.RelLaws n keeps) {i : Nat} {s1 : St} {r : St × List Nat} (hi : i < sd.dim s1)
    (inv : InnerInv sd n i s1 (sd.dim s1) r) :
    List.Pairwise (fun a b => b < a) (sortDesc r.2) ∧ (∀ z, z ∈ sortDesc r.2 → z < sd.dim r.1) ∧
      keeps r.1 (sortDesc r.2) :=
  have hlt : ∀ z, z ∈ r.2 → z < sd.dim r.1 := fun z hz => by rw [inv.len]; exact (inv.zs z hz).1
  ⟨pairwise_sortDesc inv.nd, fun z hz => hlt z (mem_sortDesc.mp hz), law.keeps_of inv.ws fun _ => by
    rw [length_sortDesc]
    exact length_lt_of_not_mem inv.nd hlt (inv.len ▸ hi) (fun hm => (inv.zs i hm).2.1 rfl)⟩

theorem InnerInv.rel_del (law : sd.RelLaws n keeps) {i : Nat} {s1 : St} {r : St × List Nat} (hi : i < sd.dim s1)
    (inv : InnerInv sd n i s1 (sd.dim s1) r) : sd.Rel n r.1 (sd.del r.1 (sortDesc r.2)) :=
  rel_del_zero law r.1 r.2 inv.nd (fun z hz => by rw [inv.len]; exact (inv.zs z hz).1)
    (inv.del law hi).2.2 (fun ρ z hz y => (inv.zs z hz).2.2 ρ y)

theorem rel_elimStep (law : sd.RelLaws n keeps) (i : Nat) (s : St) (hi : i < sd.dim s) :
    sd.Rel n s (sd.elimStep i s) := by
  intro hws
  have p1 := rel_pivot law i s hi
  have p2 := pivot_dim law i s
  have ws1 : WS n (sd.pivot i s) := (p1 hws).1
  unfold elimStep
  simp only
  split
  · exact p1 hws
  · rw [law.lines_eq ws1]
    have inv := elimFold_inv law i (sd.read (sd.pivot i s).A i i) _ ws1 (p2 ▸ hi)
    exact ((p1.trans inv.rel).trans (inv.rel_del law (p2 ▸ hi))) hws

theorem lt_dim (law : sd.RelLaws n keeps) {s : St} {i : Nat} (h : WS n s)
    (hc : i < min s.A.length (width s.A)) : i < sd.dim s :=
  (law.bounds (Nat.lt_of_lt_of_le hc (Nat.min_le_left _ _))
    (width_eq h ▸ Nat.lt_of_lt_of_le hc (Nat.min_le_right _ _))).1

theorem ws_of_rel (law : sd.RelLaws n keeps) {s s' : St} (hrel : sd.Rel n s s') (hws : WS n s) :
    WS n s' ∧ s'.A.length ≤ s.A.length ∧ s'.R.length ≤ s.R.length :=
  let ⟨ws1, ho, hp, hd, _⟩ := hrel hws
  ⟨ws1, law.len_le hd (law.cross_congr ho hp)⟩

theorem ws_elimStep (law : sd.RelLaws n keeps) {i : Nat} {s : St} (hws : WS n s) (hi : i < sd.dim s) :
    WS n (sd.elimStep i s) ∧ (sd.elimStep i s).A.length ≤ s.A.length ∧
      (sd.elimStep i s).R.length ≤ s.R.length :=
  ws_of_rel law (rel_elimStep law i s hi) hws

theorem rel_elimLoop (law : sd.RelLaws n keeps) (fuel i : Nat) (s : St) :
    sd.Rel n s (elimLoop sd.elimStep fuel i s) := by
  refine elimLoop_inv (sd.Rel n s) (fun s' h => h.trans (rel_raise law s' _)) ?_ fuel i s (Rel.refl sd n s)
  intro i s' hc h hws
  exact (h.trans (rel_elimStep law i s' (lt_dim law (h hws).1 hc))) hws

theorem rel_elimination (law : sd.RelLaws n keeps) (s : St) : sd.Rel n s (sd.elimination s) :=
  rel_elimLoop law _ 0 s

/-- Invariant of the two nested loops of a de-parallelisation started in `s`: only the side's operator has
    changed, and the product that leaves out the recorded lines is the product of `s`. -/
structure DeparInv (sd : Side) (n : Nat) (s : St) (acc : St × List Nat) : Prop where
  ws : WS n acc.1
  hA : acc.1.A = s.A
  other : sd.other acc.1 = sd.other s
  prows : sd.prows acc.1 = sd.prows s
  dim : sd.dim acc.1 = sd.dim s
  nd : acc.2.Nodup
  rng : ∀ z, z ∈ acc.2 → 0 < z ∧ z < sd.dim s
  prod : ∀ ρ x y, sd.mask ρ acc.2 acc.1 x y = sd.prod ρ s x y

theorem deparInner_inv (law : sd.RelLaws n keeps) (s : St) (hnes : NESM s.A) (i j : Nat)
    (hij : i < j) (hj : j < sd.dim s) (acc : St × List Nat) (h : DeparInv sd n s acc ∧ i ∉ acc.2) :
    DeparInv sd n s (sd.deparInner s.A i acc j) ∧ i ∉ (sd.deparInner s.A i acc j).2 := by
  obtain ⟨hinv, hiz⟩ := h
  unfold deparInner
  split
  · exact ⟨hinv, hiz⟩
  · rename_i hjz
    simp only
    split
    · rename_i hmult
      rw [← hinv.hA] at hmult hnes ⊢
      obtain ⟨m1, m2, m3, m4, m5, m6⟩ := law.par hinv.ws hnes hij (hinv.dim ▸ hj) hiz hjz hmult
      refine ⟨⟨m1, m2.trans hinv.hA, m3.trans hinv.other, m4.trans hinv.prows, m5.trans hinv.dim,
        nodup_snoc hinv.nd hjz, ?_, fun ρ x y => (m6 ρ x y).trans (hinv.prod ρ x y)⟩, ?_⟩
      · intro z hz
        rcases List.mem_append.mp hz with hz | hz
        · exact hinv.rng z hz
        · rw [List.mem_singleton.mp hz]
          exact ⟨by omega, hj⟩
      · intro hm
        rcases List.mem_append.mp hm with hm | hm
        · exact hiz hm
        · have := List.mem_singleton.mp hm
          omega
    · exact ⟨hinv, hiz⟩

theorem deparInv_init (law : sd.RelLaws n keeps) (s : St) (hws : WS n s) : DeparInv sd n s (s, []) :=
  ⟨hws, rfl, rfl, rfl, rfl, List.nodup_nil, fun _ hz => (nomatch hz), fun ρ x y => law.mask_nil ρ s x y⟩

theorem deparOuter_inv (law : sd.RelLaws n keeps) (s : St) (hws : WS n s) (hnes : NESM s.A) (i : Nat)
    (acc : St × List Nat) (h : DeparInv sd n s acc) : DeparInv sd n s (sd.deparOuter s.A acc i) := by
  unfold deparOuter
  split
  · exact h
  · rename_i hiz
    refine (foldl_mem_inv (sd.deparInner s.A i) (fun acc => DeparInv sd n s acc ∧ i ∉ acc.2)
      _ acc ⟨h, hiz⟩ (fun j acc hj hp => ?_)).1
    simp only [List.mem_range'_1, law.lines_eq hws] at hj
    exact deparInner_inv law s hnes i j (by omega) (by omega) acc hp

theorem depar_loop_inv (law : sd.RelLaws n keeps) (s : St) (hws : WS n s) (hnes : NESM s.A) :
    DeparInv sd n s ((List.range (sd.lines s.A)).foldl (sd.deparOuter s.A) (s, [])) :=
  foldl_mem_inv (sd.deparOuter s.A) (DeparInv sd n s) _ _ (deparInv_init law s hws)
    (fun i acc _ hp => deparOuter_inv law s hws hnes i acc hp)

/-- The recorded lines can be deleted: line `0` is not among them. -/
theorem DeparInv.del (law : sd.RelLaws n keeps) {s : St} {r : St × List Nat} (inv : DeparInv sd n s r) :
    List.Pairwise (fun a b => b < a) (sortDesc r.2) ∧ (∀ z, z ∈ sortDesc r.2 → z < sd.dim r.1) ∧
      keeps r.1 (sortDesc r.2) :=
  have hlt : ∀ z, z ∈ r.2 → z < sd.dim r.1 := fun z hz => by rw [inv.dim]; exact (inv.rng z hz).2
  ⟨pairwise_sortDesc inv.nd, fun z hz => hlt z (mem_sortDesc.mp hz), law.keeps_of inv.ws fun h0 => by
    rw [length_sortDesc]
    exact length_lt_of_not_mem inv.nd hlt h0 (fun hm => Nat.lt_irrefl 0 (inv.rng 0 hm).1)⟩

theorem rel_deparallelize (law : sd.RelLaws n keeps) (s : St) (hnes : NESM s.A) :
    sd.Rel n s (sd.deparallelize s) := by
  intro hws
  have inv := depar_loop_inv law s hws hnes
  unfold deparallelize
  simp only
  generalize (List.range (sd.lines s.A)).foldl (sd.deparOuter s.A) (s, []) = r at inv
  obtain ⟨d1, d2, d3⟩ := inv.del law
  obtain ⟨c1, c2, c3, c4, c5⟩ := law.del inv.ws d1 d2 d3
  refine ⟨c1, c2.trans inv.other, c3.trans inv.prows, inv.dim ▸ Nat.le.intro c4, fun ρ x y => ?_⟩
  rw [c5 ρ x y]
  exact (law.mask_congr (fun _ => mem_sortDesc) ρ r.1 x y).trans (inv.prod ρ x y)

end Side
end Ptn.C13
