import Ptn.C13.Sum
/-! Entry-function views of the list-level matrix operations of the C13 model (core Lean only). -/
namespace Ptn.C13

def Rect {α : Type} (X : List (List α)) (w : Nat) : Prop := ∀ r, r ∈ X → r.length = w

/-- Entry function of an operator matrix. -/
def gR (X : RMat) (i k : Nat) : Rat := gM 0 X i k

/-- Entry function of the symbolic matrix under the valuation `ρ` of the symbols (`0` outside the matrix):
    the semantics every exactness statement is about. -/
def gE (ρ : Nat → Rat) (A : EMat) (k l : Nat) : Rat := (gM (Entry.num 0) A k l).eval ρ

theorem gM_eq_getElem? {α : Type} (d : α) (X : List (List α)) (i j : Nat) :
    gM d X i j = ((X[i]?).getD [])[j]?.getD d := by
  simp [gM, List.getD_eq_getElem?_getD]

theorem gE_eq_getElem? (ρ : Nat → Rat) (A : EMat) (k l : Nat) :
    gE ρ A k l = (((A[k]?).getD [])[l]?.getD (Entry.num 0)).eval ρ := by
  simp [gE, gM_eq_getElem?]

theorem width_of_rect {α : Type} {X : List (List α)} {w : Nat} (h : Rect X w) (hp : 0 < X.length) :
    width X = w := by
  cases X with
  | nil => simp at hp
  | cons r rest => exact h r (by simp)

theorem getD_row_length {α : Type} {X : List (List α)} {w i : Nat} (hX : Rect X w) (hi : i < X.length) :
    (X.getD i []).length = w := by
  rw [List.getD_eq_getElem?_getD, List.getElem?_eq_getElem hi, Option.getD_some]
  exact hX _ (List.getElem_mem hi)

theorem rect_set {α : Type} {X : List (List α)} {w : Nat} (h : Rect X w) (t : Nat) {v : List α}
    (hv : v.length = w) : Rect (X.set t v) w :=
  fun r hr => (List.mem_or_eq_of_mem_set hr).elim (h r) (fun e => e ▸ hv)

theorem rect_map {α : Type} {X : List (List α)} {w : Nat} (h : Rect X w) (g : List α → List α)
    (hg : ∀ r, (g r).length = r.length) : Rect (X.map g) w := by
  intro r hr
  obtain ⟨r0, hr0, rfl⟩ := List.mem_map.mp hr
  exact (hg r0).trans (h r0 hr0)

theorem getD_map_fix {α : Type} {d : α} {g : α → α} (hd : g d = d) (l : List α) (i : Nat) :
    (l.map g).getD i d = g (l.getD i d) := by
  rw [List.getD_eq_getElem?_getD, List.getD_eq_getElem?_getD, List.getElem?_map]
  cases l[i]? with
  | none => exact hd.symm
  | some a => rfl

/-- Setting position `c`.  `hv` (the value is the default if there is no such position) makes the equation hold
    for every `c`, so that `gM_map_set` and the views built on it need no range hypothesis. -/
theorem getD_set_fix {α : Type} {d v : α} (l : List α) (c : Nat) (hv : l.length ≤ c → v = d) (i : Nat) :
    (l.set c v).getD i d = if i = c then v else l.getD i d := by
  rw [List.getD_eq_getElem?_getD, List.getD_eq_getElem?_getD, List.getElem?_set]
  by_cases hi : i = c
  · subst hi
    rw [if_pos rfl, if_pos rfl]
    by_cases hlt : i < l.length
    · rw [if_pos hlt, Option.getD_some]
    · rw [if_neg hlt, Option.getD_none, hv (by omega)]
  · rw [if_neg (Ne.symm hi), if_neg hi]

theorem gM_set_map {α : Type} (d : α) {g : α → α} (hd : g d = d) (X : List (List α)) (r k l : Nat) :
    gM d (X.set r ((X.getD r []).map g)) k l = if k = r then g (gM d X r l) else gM d X k l := by
  unfold gM
  rw [getD_set_fix X r (fun h => by rw [List.getD_eq_getElem?_getD, List.getElem?_eq_none h]; rfl) k]
  by_cases hk : k = r
  · rw [if_pos hk, if_pos hk, getD_map_fix hd]
  · rw [if_neg hk, if_neg hk]

theorem gM_map_set {α : Type} (d : α) (X : List (List α)) (c : Nat) (v : List α → α) (k l : Nat)
    (hv : (X.getD k []).length ≤ c → v (X.getD k []) = d) :
    gM d (X.map fun row => row.set c (v row)) k l = if l = c then v (X.getD k []) else gM d X k l := by
  unfold gM
  rw [getD_map_fix (g := fun row => row.set c (v row)) (d := []) rfl, getD_set_fix _ c hv l]

theorem gM_map_set_get {α : Type} (d : α) {g : α → α} (hd : g d = d) (X : List (List α)) (c k l : Nat) :
    gM d (X.map fun row => row.set c (g (row.getD c d))) k l = if l = c then g (gM d X k c) else gM d X k l :=
  gM_map_set d X c _ k l
    (fun h => by rw [List.getD_eq_getElem?_getD, List.getElem?_eq_none h, Option.getD_none, hd])

theorem gM_delRow {α : Type} (d : α) (X : List (List α)) (z i j : Nat) :
    gM d (delRow X z) i j = gM d X (skipIdx z i) j := by
  simp only [gM_eq_getElem?, delRow, List.getElem?_eraseIdx, skipIdx]
  by_cases h : i < z <;> simp [h]

theorem gM_delCol {α : Type} (d : α) (X : List (List α)) (z i j : Nat) :
    gM d (delCol X z) i j = gM d X i (skipIdx z j) := by
  simp only [gM_eq_getElem?, delCol, List.getElem?_map, skipIdx]
  cases X[i]? with
  | none => simp
  | some r =>
    simp only [Option.map_some, Option.getD_some, List.getElem?_eraseIdx]
    by_cases h : j < z <;> simp [h]

theorem rect_delRow {α : Type} {X : List (List α)} {w : Nat} (h : Rect X w) (z : Nat) :
    Rect (delRow X z) w := by
  intro r hr
  exact h r (List.mem_of_mem_eraseIdx hr)

theorem rect_delCol {α : Type} {X : List (List α)} {w : Nat} (h : Rect X (w + 1)) (z : Nat)
    (hz : z ≤ w) : Rect (delCol X z) w := by
  intro r hr
  simp only [delCol, List.mem_map] at hr
  obtain ⟨r0, hr0, rfl⟩ := hr
  have := h r0 hr0
  rw [List.length_eraseIdx_of_lt (by omega)]
  omega

theorem length_delCol {α : Type} (X : List (List α)) (z : Nat) : (delCol X z).length = X.length := by
  simp [delCol]

theorem length_delRow {α : Type} (X : List (List α)) (z : Nat) (hz : z < X.length) :
    (delRow X z).length + 1 = X.length := by
  simp only [delRow]
  rw [List.length_eraseIdx_of_lt hz]
  omega

theorem getElem?_listSwap {α : Type} (l : List α) (a b k : Nat) (ha : a < l.length) (hb : b < l.length) :
    (listSwap l a b)[k]? = l[swapIdx a b k]? := by
  have ea : l[a]? = some l[a] := List.getElem?_eq_getElem ha
  have eb : l[b]? = some l[b] := List.getElem?_eq_getElem hb
  simp only [listSwap, ea, eb, swapIdx, List.getElem?_set, List.length_set]
  by_cases h1 : k = a
  · subst h1
    by_cases h2 : b = k
    · subst h2; simp [ha]
    · have : ¬ k = b := fun e => h2 e.symm
      simp [h2, ha, eb]
  · have h1' : ¬ a = k := fun e => h1 e.symm
    by_cases h2 : k = b
    · subst h2; simp [hb, h1, ea]
    · have h2' : ¬ b = k := fun e => h2 e.symm
      simp [h1, h2, h1', h2']

theorem length_listSwap {α : Type} (l : List α) (a b : Nat) : (listSwap l a b).length = l.length := by
  unfold listSwap
  split <;> simp

theorem swapIdx_lt {a b k n : Nat} (ha : a < n) (hb : b < n) : swapIdx a b k < n ↔ k < n := by
  unfold swapIdx
  by_cases h1 : k = a
  · subst h1; simp [hb, ha]
  · by_cases h2 : k = b
    · subst h2; simp [h1, ha, hb]
    · simp [h1, h2]

theorem mem_listSwap {α : Type} {l : List α} {a b : Nat} {x : α} (h : x ∈ listSwap l a b) : x ∈ l := by
  unfold listSwap at h
  split at h
  · rename_i va vb ea eb
    have h1 := List.mem_or_eq_of_mem_set h
    rcases h1 with h1 | h1
    · have h2 := List.mem_or_eq_of_mem_set h1
      rcases h2 with h2 | h2
      · exact h2
      · subst h2; exact List.mem_of_getElem? eb
    · subst h1; exact List.mem_of_getElem? ea
  · exact h

theorem gM_rowSwap {α : Type} (d : α) (X : List (List α)) (a b i j : Nat)
    (ha : a < X.length) (hb : b < X.length) :
    gM d (rowSwapM X a b) i j = gM d X (swapIdx a b i) j := by
  simp only [gM_eq_getElem?, rowSwapM, getElem?_listSwap X a b i ha hb]

theorem gM_colSwap {α : Type} (d : α) (X : List (List α)) (w a b i j : Nat) (hX : Rect X w)
    (ha : a < w) (hb : b < w) :
    gM d (colSwapM X a b) i j = gM d X i (swapIdx a b j) := by
  simp only [gM_eq_getElem?, colSwapM, List.getElem?_map]
  cases h : X[i]? with
  | none => simp
  | some r =>
    have hr : r.length = w := hX r (List.mem_of_getElem? h)
    simp only [Option.map_some, Option.getD_some]
    rw [getElem?_listSwap r a b j (by omega) (by omega)]

theorem rect_rowSwap {α : Type} {X : List (List α)} {w : Nat} (h : Rect X w) (a b : Nat) :
    Rect (rowSwapM X a b) w := fun r hr => h r (mem_listSwap hr)

theorem rect_colSwap {α : Type} {X : List (List α)} {w : Nat} (h : Rect X w) (a b : Nat) :
    Rect (colSwapM X a b) w := rect_map h _ (fun r => length_listSwap r a b)

theorem length_rowSwap {α : Type} (X : List (List α)) (a b : Nat) :
    (rowSwapM X a b).length = X.length := length_listSwap X a b

theorem length_colSwap {α : Type} (X : List (List α)) (a b : Nat) :
    (colSwapM X a b).length = X.length := by simp [colSwapM]

theorem gR_colAddFloat (X : RMat) (w t s : Nat) (f : Rat) (hX : Rect X w) (ht : t < w) (i k : Nat) :
    gR (colAddFloat X t s f) i k = if k = t then gR X i t + f * gR X i s else gR X i k := by
  refine gM_map_set 0 X t (fun row => row.getD t 0 + f * row.getD s 0) i k (fun h => ?_)
  by_cases hi : i < X.length
  · rw [getD_row_length hX hi] at h
    omega
  · have e : X.getD i [] = [] := by
      rw [List.getD_eq_getElem?_getD, List.getElem?_eq_none (by omega), Option.getD_none]
    rw [e]
    show (0 : Rat) + f * 0 = 0
    rw [Rat.mul_zero, Rat.add_zero]

theorem rect_colAddFloat {X : RMat} {w : Nat} (hX : Rect X w) (t s : Nat) (f : Rat) :
    Rect (colAddFloat X t s f) w := rect_map hX _ (fun _ => List.length_set)

theorem length_colAddFloat (X : RMat) (t s : Nat) (f : Rat) : (colAddFloat X t s f).length = X.length := by
  simp [colAddFloat]

theorem getD_zipWith_add (f : Rat) (as bs : List Rat) (h : as.length = bs.length) (j : Nat) :
    (List.zipWith (fun a b => a + f * b) as bs).getD j 0 = as.getD j 0 + f * bs.getD j 0 := by
  rw [List.getD_eq_getElem?_getD, List.getD_eq_getElem?_getD, List.getD_eq_getElem?_getD,
    List.getElem?_zipWith]
  by_cases hj : j < as.length
  · rw [List.getElem?_eq_getElem hj, List.getElem?_eq_getElem (h ▸ hj)]
    rfl
  · rw [List.getElem?_eq_none (by omega), List.getElem?_eq_none (by omega)]
    show (0 : Rat) = 0 + f * 0
    rw [Rat.mul_zero, Rat.add_zero]

theorem gR_rowAddFloat (X : RMat) (w t s : Nat) (f : Rat) (hX : Rect X w) (ht : t < X.length)
    (hs : s < X.length) (l j : Nat) :
    gR (rowAddFloat X t s f) l j = if l = t then gR X t j + f * gR X s j else gR X l j := by
  have hlen : (X.getD t []).length = (X.getD s []).length :=
    (getD_row_length hX ht).trans (getD_row_length hX hs).symm
  unfold gR gM rowAddFloat
  rw [getD_set_fix X t (fun h => absurd ht (Nat.not_lt.mpr h)) l]
  by_cases hl : l = t
  · rw [if_pos hl, if_pos hl]
    exact getD_zipWith_add f _ _ hlen j
  · rw [if_neg hl, if_neg hl]

theorem rect_rowAddFloat {X : RMat} {w : Nat} (hX : Rect X w) (t s : Nat) (f : Rat)
    (ht : t < X.length) (hs : s < X.length) : Rect (rowAddFloat X t s f) w := by
  refine rect_set hX t ?_
  rw [List.length_zipWith, getD_row_length hX ht, getD_row_length hX hs, Nat.min_self]

theorem length_rowAddFloat (X : RMat) (t s : Nat) (f : Rat) : (rowAddFloat X t s f).length = X.length := by
  simp [rowAddFloat]

end Ptn.C13
